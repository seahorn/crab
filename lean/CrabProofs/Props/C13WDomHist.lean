import CrabProofs.Props.C13WDomEnv
import CrabProofs.Lemmas.FunctorHistory

/-!
# C13 (part 7) — histories of the wrapped interval domain

`C13.wdom_history_sound`: after ANY finite history of assignments, arithmetic `apply` (variable or
constant operand, all seven operations), `operator-=`, `set_to_top`, joins, widenings, copies and
`set_to_bottom` over a pool of abstract values, every slot contains the collecting semantics of
the history over bit-vector states — by the generic `history_sound_on`
(`CrabProofs/Lemmas/FunctorHistory.lean`) with the pool invariant `Inv ∧ Typed wd`.

An operation that raises CRAB_ERROR ends a real history; here its result is taken to be top.

Not in the histories of this theorem: `operator+=` (unsound, `C13WDomAssume.lean`), meet and
narrowing, shifts and casts (sound — `C13.wdom_apply_bitwise_*_sound`, `C13.wdom_cast_env_sound` —
but the preservation of the typing invariant by their results is not proved), `rename`,
`project`.
-/
open Crab Crab.WInt Crab.WDom Crab.XDom Crab.Lin Crab.Dom Crab.Dom.Fct

/-- states of the histories: well-typed bit-vector states described by the value -/
def C13.γS (wd : Ty) (e : WDom.Env) (σ : Var → Nat) : Prop := C13.StOk wd σ ∧ γ wd e σ
/-- the pool invariant -/
def C13.IS (wd : Ty) (e : WDom.Env) : Prop := Inv e ∧ Typed wd e

/-- the transformers of a history, with their side conditions (variables `< 2^64`; operands of the
    width of the target) -/
inductive C13.WOp (wd : Ty) where
  | assign (x : Var) (ex : Expr) (hx : x < 2 ^ 64) (hex : ∀ p ∈ ex.terms, wd p.1 = wd x)
  | arithVar (op : ArithOp) (x y z : Var) (hx : x < 2 ^ 64) (hy : wd y = wd x) (hz : wd z = wd x)
  | arithCst (op : ArithOp) (x y : Var) (k : Int) (hx : x < 2 ^ 64) (hy : wd y = wd x)
  | forget (x : Var) (hx : x < 2 ^ 64)
  | setTop

/-- abstract function and concrete relation of a transformer -/
def C13.WOp.trans {wd : Ty} : C13.WOp wd → Trans WDom.Env (Var → Nat)
  | .assign x ex _ _ =>
    ⟨fun e => (e.assign wd x ex).getD WDom.Env.top, fun s s' => s' = upd s x (C13.bvLin (wd x) s ex).toNat⟩
  | .arithVar op x y z _ hy hz =>
    ⟨fun e => (e.applyVar op x y z).getD WDom.Env.top,
     fun s s' => ∃ c, C13.bvArith op ((C13.bv wd s y).cast hy) ((C13.bv wd s z).cast hz) = some c ∧
        s' = upd s x c.toNat⟩
  | .arithCst op x y k _ hy =>
    ⟨fun e => (e.applyCst wd op x y k).getD WDom.Env.top,
     fun s s' => ∃ c, C13.bvArith op ((C13.bv wd s y).cast hy) (BitVec.ofInt (wd x) k) = some c ∧
        s' = upd s x c.toNat⟩
  | .forget x _ =>
    ⟨fun e => XDom.Env.forget wintLattice e x, fun s s' => ∃ b : BitVec (wd x), s' = upd s x b.toNat⟩
  | .setTop => ⟨fun _ => WDom.Env.top, fun _ s' => C13.StOk wd s'⟩

/-- the steps of a history -/
inductive C13.WStep (wd : Ty) : Step WDom.Env (Var → Nat) → Prop where
  | trans (d : Nat) (op : C13.WOp wd) : C13.WStep wd (.trans d op.trans)
  | join (d a b : Nat) : C13.WStep wd (.upper d a b (XDom.Env.join wintLattice))
  | widen (d a b : Nat) : C13.WStep wd (.upper d a b (XDom.Env.widen wintLattice))
  | copy (d s : Nat) : C13.WStep wd (.copy d s)
  | bot (d : Nat) : C13.WStep wd (.setBot d WDom.Env.bot)

theorem C13.IS_top (wd : Ty) : C13.IS wd WDom.Env.top := ⟨inv_top, typed_top wd⟩
theorem C13.γS_top {wd : Ty} {σ : Var → Nat} (h : C13.StOk wd σ) : C13.γS wd WDom.Env.top σ := ⟨h, γ_top wd σ⟩

/-- a transformer that raises CRAB_ERROR is read as `top` -/
theorem C13.γS_getD {wd : Ty} {o : Option WDom.Env} {σ : Var → Nat} (hs : C13.StOk wd σ)
    (h : ∀ r, o = some r → γ wd r σ) : C13.γS wd (o.getD WDom.Env.top) σ := by
  cases o with
  | none => exact C13.γS_top hs
  | some r => exact ⟨hs, h r rfl⟩

theorem C13.IS_getD {wd : Ty} {o : Option WDom.Env} (h : ∀ r, o = some r → C13.IS wd r) :
    C13.IS wd (o.getD WDom.Env.top) := by
  cases o with
  | none => exact C13.IS_top wd
  | some r => exact h r rfl

theorem C13.WStep.soundOn {wd : Ty} (hty : C13.TyOk wd) {st : Step WDom.Env (Var → Nat)} (h : C13.WStep wd st) :
    Step.SoundOn (C13.IS wd) (C13.γS wd) st := by
  cases h with
  | trans d op =>
    cases op with
    | assign x ex hx hex =>
      intro a s s' hI hg hr
      simp only [C13.WOp.trans] at hr ⊢
      subst hr
      exact C13.γS_getD (C13.stOk_upd hg.1 x (C13.bvLin (wd x) s ex)) fun r hv =>
        (C13.wdom_assign_sound wd hty a r x ex hx hex hI.1 hI.2 hv).2 s hg.1 hg.2
    | arithVar op x y z hx hy hz =>
      intro a s s' hI hg hr
      simp only [C13.WOp.trans] at hr ⊢
      obtain ⟨c, hc, rfl⟩ := hr
      exact C13.γS_getD (C13.stOk_upd hg.1 x c) fun r hv =>
        (C13.wdom_apply_arith_var_sound wd hty a r op x y z hx hy hz hI.1 hI.2 hv).2 s hg.1 hg.2 c hc
    | arithCst op x y k hx hy =>
      intro a s s' hI hg hr
      simp only [C13.WOp.trans] at hr ⊢
      obtain ⟨c, hc, rfl⟩ := hr
      exact C13.γS_getD (C13.stOk_upd hg.1 x c) fun r hv =>
        (C13.wdom_apply_arith_cst_sound wd hty a r op x y k hx hy hI.1 hI.2 hv).2 s hg.1 hg.2 c hc
    | forget x hx =>
      intro a s s' hI hg hr
      simp only [C13.WOp.trans] at hr ⊢
      obtain ⟨b, rfl⟩ := hr
      exact ⟨C13.stOk_upd hg.1 x b, (C13.wdom_forget_sound wd a x hx hI.1 hI.2 s hg.2 b.toNat).1⟩
    | setTop =>
      intro a s s' _ _ hr
      exact C13.γS_top hr
  | join d a b =>
    intro x y s hx hy hg
    have hs : C13.StOk wd s := hg.elim (fun h => h.1) (fun h => h.1)
    exact ⟨hs, C13.wdom_join_upper wd hty x y hx.1 hy.1 hx.2 hy.2 s hs (hg.imp (fun h => h.2) (fun h => h.2))⟩
  | widen d a b =>
    intro x y s hx hy hg
    have hs : C13.StOk wd s := hg.elim (fun h => h.1) (fun h => h.1)
    exact ⟨hs, C13.wdom_widen_upper wd hty x y hx.1 hy.1 hx.2 hy.2 s hs (hg.imp (fun h => h.2) (fun h => h.2))⟩
  | copy d s => trivial
  | bot d => trivial

theorem C13.WStep.preserves {wd : Ty} (hty : C13.TyOk wd) {st : Step WDom.Env (Var → Nat)} (h : C13.WStep wd st) :
    Step.Preserves (C13.IS wd) st := by
  cases h with
  | trans d op =>
    cases op with
    | assign x ex hx hex =>
      intro a hI
      exact C13.IS_getD fun r hv => (C13.wdom_assign_sound wd hty a r x ex hx hex hI.1 hI.2 hv).1
    | arithVar op x y z hx hy hz =>
      intro a hI
      exact C13.IS_getD fun r hv => (C13.wdom_apply_arith_var_sound wd hty a r op x y z hx hy hz hI.1 hI.2 hv).1
    | arithCst op x y k hx hy =>
      intro a hI
      exact C13.IS_getD fun r hv => (C13.wdom_apply_arith_cst_sound wd hty a r op x y k hx hy hI.1 hI.2 hv).1
    | forget x hx =>
      intro a hI
      exact ⟨(forget_spec' hI.1 hI.2 hx).1, (forget_spec' hI.1 hI.2 hx).2.1⟩
    | setTop => intro _ _; exact C13.IS_top wd
  | join d a b => intro x y hx hy; exact C13.wdom_join_inv wd hty x y hx.1 hy.1 hx.2 hy.2
  | widen d a b => intro x y hx hy; exact C13.wdom_widen_inv wd hty x y hx.1 hy.1 hx.2 hy.2
  | copy d s => trivial
  | bot d => exact ⟨inv_bot, typed_bot wd⟩

/-- **History soundness of the wrapped interval domain**: for every typing, every pool whose
    slots satisfy the invariants and describe the initial concrete pool, and every finite history of
    the steps `C13.WStep` (assignments, arithmetic operations with variable / constant operand,
    `operator-=`, `set_to_top`, join, widening, copy, `set_to_bottom`), the value of every slot
    describes every bit-vector state the history can produce there. -/
theorem C13.wdom_history_sound (wd : Ty) (hty : C13.TyOk wd) (hist : List (Step WDom.Env (Var → Nat)))
    (hh : ∀ st ∈ hist, C13.WStep wd st) (p : Pool WDom.Env) (c : CPool (Var → Nat))
    (hI : ∀ i, C13.IS wd (p i)) (h : ∀ i s, c i s → C13.γS wd (p i) s) :
    ∀ i s, (collHist c hist) i s → C13.γS wd ((runHist p hist) i) s :=
  history_sound_on (C13.IS wd) (C13.γS wd) hist (fun st hst => (hh st hst).soundOn hty)
    (fun st hst => (hh st hst).preserves hty) p c hI h

/-- the invariants hold of every slot after every history -/
theorem C13.wdom_history_inv (wd : Ty) (hty : C13.TyOk wd) (hist : List (Step WDom.Env (Var → Nat)))
    (hh : ∀ st ∈ hist, C13.WStep wd st) (p : Pool WDom.Env) (hI : ∀ i, C13.IS wd (p i)) :
    ∀ i, C13.IS wd ((runHist p hist) i) :=
  runHist_preserves (C13.IS wd) hist (fun st hst => (hh st hst).preserves hty) p hI
