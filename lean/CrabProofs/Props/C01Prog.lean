import CrabProofs.Props.C01Engine
import CrabProofs.Lemmas.IRTrace

/-!
# C01 (program part) — from executions of CrabIR programs to the collecting semantics of the engine

`CrabModel/IR/Semantics.lean` is the executable semantics the program-level harness (`prog`)
runs.  This file ties it to the relational collecting semantics `ReachPre` / `ReachPost` that
the proved engine theorem `C01.run_sound` speaks about:

* `C01.trace_reach` : every `enter b σ` (`leave b σ`) event of an execution started in a state
  described by the initial value is a member of `ReachPre b` (`ReachPost b`), when the iterator
  context reads the program (same entry, predecessor lists cover the edges, no assumption map)
  and the block relation of the contract covers the executable block transformer `BlockStep`;
* `C01.program_sound` : hence the tables returned by the iterator contain every state with which
  an execution arrives at / leaves a block; `C01.bottom_block_never_entered`.

What remains a hypothesis is the contract `Sem` (soundness of the domain operations and of
`analyze` = the statement → operation mapping of `intra_abs_transformer` on the shipped domain),
which the harness samples against the real code.
-/
open Crab Crab.Fix Crab.IR

/-- the iterator context `c` analyses program `p` -/
structure C01.Reads {A : Type} (c : Ctx A) (p : Program) : Prop where
  entry : c.entry = p.entry
  preds : ∀ b n, n ∈ (p.block b).succs → b ∈ c.preds n
  noAsm : hasAssumptions c = false

/-- every state an execution arrives with at (leaves) a block is in the collecting semantics -/
theorem C01.trace_reach {A : Type} (c : Ctx A) (p : Program) (sem : Sem c State)
    (hr : C01.Reads c p)
    (hstep : ∀ b σ σ', BlockStep p b σ σ' → sem.step b σ σ') :
    ∀ (fuel b0 : Nat) (σ0 : State) (ch : List Int), ReachPre c sem b0 σ0 →
      (∀ b σ, Event.enter b σ ∈ exec p fuel b0 σ0 ch → ReachPre c sem b σ) ∧
      (∀ b σ, Event.leave b σ ∈ exec p fuel b0 σ0 ch → ReachPost c sem b σ) := by
  intro fuel b0 σ0 ch h0
  -- a visited block is reached
  have key : ∀ {b0 σ0 ch0 b σ ch}, Visits p b0 σ0 ch0 b σ ch → ReachPre c sem b0 σ0 →
      ReachPre c sem b σ := by
    intro b0 σ0 ch0 b σ ch hv
    induction hv with
    | here => exact id
    | step hres hp _ ih =>
      exact fun h0 => ih (.flow _ _ _ (hr.preds _ _ (pickSucc_mem _ _ _ _ hp))
        (.step _ _ _ h0 (hstep _ _ _ ⟨_, hres⟩)) (Sound.asmOk_of_noAsm sem hr.noAsm _ _))
  refine ⟨fun b σ h => ?_, fun b σ h => ?_⟩
  · obtain ⟨_, hv⟩ := enter_mem_exec h
    exact key hv h0
  · obtain ⟨σ1, ch1, hv, hres⟩ := leave_mem_exec h
    exact .step _ _ _ (key hv h0) (hstep _ _ _ ⟨ch1, hres⟩)

/-- C01 for programs: the tables the iterator returns contain every concrete state with which
    an execution of `p`, started in a state described by the initial value, arrives at (leaves)
    a block — for every fuel, choice stream, fixpoint parameter setting and value type satisfying
    the contract. -/
theorem C01.program_sound {A : Type} (c : Ctx A) (w : List Comp) (p : Program) (sem : Sem c State)
    (hr : C01.Reads c p) (hstep : ∀ b σ σ', BlockStep p b σ σ' → sem.step b σ σ')
    (hwf : WtoWF c w) (fuel : Nat) (st : St A) (hrun : Crab.Fix.run c fuel w = some st)
    (σ0 : State) (hinit : sem.γ c.init σ0) (n : Nat) (ch : List Int) :
    (∀ b σ, Event.enter b σ ∈ IR.run p n σ0 ch → sem.γ (st.pre b) σ) ∧
    (∀ b σ, Event.leave b σ ∈ IR.run p n σ0 ch → sem.γ (st.post b) σ) := by
  have hs := C01.run_sound c w State sem fuel st hwf hrun
  have h0 : ReachPre c sem p.entry σ0 := by
    have := ReachPre.init (c := c) (sem := sem) σ0 hinit (Sound.asmOk_of_noAsm sem hr.noAsm _ _)
    rwa [hr.entry] at this
  have ht := C01.trace_reach c p sem hr hstep n p.entry σ0 ch h0
  exact ⟨fun b σ h => hs.1 b σ (ht.1 b σ h), fun b σ h => hs.2 b σ (ht.2 b σ h)⟩

/-- a block whose invariant is bottom (describes no state) is never entered -/
theorem C01.bottom_block_never_entered {A : Type} (c : Ctx A) (w : List Comp) (p : Program)
    (sem : Sem c State) (hr : C01.Reads c p)
    (hstep : ∀ b σ σ', BlockStep p b σ σ' → sem.step b σ σ')
    (hwf : WtoWF c w) (fuel : Nat) (st : St A) (hrun : Crab.Fix.run c fuel w = some st)
    (b : Nat) (hbot : ∀ σ, ¬ sem.γ (st.pre b) σ)
    (σ0 : State) (hinit : sem.γ c.init σ0) (n : Nat) (ch : List Int) (σ : State) :
    Event.enter b σ ∉ IR.run p n σ0 ch :=
  fun h => hbot σ ((C01.program_sound c w p sem hr hstep hwf fuel st hrun σ0 hinit n ch).1 b σ h)

/-! ### non-vacuity: a program with a loop read by the example context of `C01Engine` -/

/-- `B0: v0 := 0; goto B1`  `B1: goto B2, B3`  `B2: v0 := v0 + 1; goto B1`  `B3:` (exit) -/
def C01.ProgExample.prog : Program :=
  ⟨1, 0, 0, 3, #[⟨[.assign 0 ⟨0, []⟩], [1]⟩, ⟨[], [2, 3]⟩, ⟨[.binop .add 0 0 (.const 1)], [1]⟩, ⟨[], []⟩]⟩

theorem C01.ProgExample.reads : C01.Reads C01.Example.ctx C01.ProgExample.prog where
  entry := rfl
  noAsm := rfl
  preds := fun b n h =>
    match b, h with
    | 0, h => by obtain rfl := List.mem_singleton.1 (h : n ∈ [1]); decide
    | 1, h => by
      rcases List.mem_cons.1 (h : n ∈ [2, 3]) with rfl | h
      · decide
      · obtain rfl := List.mem_singleton.1 h; decide
    | 2, h => by obtain rfl := List.mem_singleton.1 (h : n ∈ [1]); decide
    | 3, h => nomatch (h : n ∈ [])
    | _ + 4, h => nomatch (h : n ∈ [])

/-- a contract over program states for the example value type (`γ true` = every state) -/
def C01.ProgExample.sem : Sem C01.Example.ctx State where
  γ := fun a _ => a = true
  step := fun _ _ _ => True
  analyze_sound := by intro n a s s' h _; simpa [C01.Example.ctx] using h
  join_left := by intro a b s h; simp [C01.Example.ctx, h]
  join_right := by intro a b s h; simp [C01.Example.ctx, h]
  widen_left := by intro a b s h; simp [C01.Example.ctx, h]
  widen_right := by intro a b s h; simp [C01.Example.ctx, h]
  meet_sound := by intro a b s h1 h2; simp [C01.Example.ctx, h1, h2]
  narrow_sound := by intro a b s h1 h2; simp [C01.Example.ctx, h1, h2]
  leq_sound := by intro a b s h1 h2; simpa [C01.Example.ctx, h2] using h1

/-- an execution of the example goes round the loop and reaches the exit: the trace is not empty -/
example : (IR.run C01.ProgExample.prog 6 ⟨#[7], #[]⟩ [0, 1]).filterMap
    (fun e => match e with | .enter b σ => some (b, σ.geti 0) | _ => none) =
    [(0, 7), (1, 0), (2, 0), (1, 1), (3, 1)] := by decide

/-- and `C01.program_sound` applies to it -/
example (fuel : Nat) (st : St Bool) (h : Crab.Fix.run C01.Example.ctx fuel C01.Example.wto = some st)
    (b : Nat) (σ : State) (he : Event.enter b σ ∈ IR.run C01.ProgExample.prog 6 ⟨#[7], #[]⟩ [0, 1]) :
    st.pre b = true :=
  (C01.program_sound C01.Example.ctx C01.Example.wto C01.ProgExample.prog C01.ProgExample.sem
    C01.ProgExample.reads (fun _ _ _ _ => trivial) C01.Example.wf fuel st h ⟨#[7], #[]⟩ rfl 6 [0, 1]).1 b σ he
