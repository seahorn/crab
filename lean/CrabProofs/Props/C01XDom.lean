import CrabProofs.Lemmas.XDomEngineInst
import CrabProofs.Props.C01Engine

/-!
# C01 ∘ C03 for `constant_domain`, `sign_domain`, `congruence_domain`

The interleaved fixpoint iterator (`Crab.Fix.run`, Props/C01Engine.lean) run on the exact models
of the three domains (`Crab.CDom`, `Crab.SDom`, `Crab.GDom`, see Props/C03Cst.lean, C03Sgn.lean,
C03CongDom.lean) with block transformers made of their operations (blocks of admissible
statements of `XDom.Stmt`: `Stmt.Ok`, resp. `GDom.Ok'`) returns tables that contain the
collecting semantics of the program — for every weak topological ordering, widening delay,
number of descending iterations and assumption map.  The `Sem` contract of the engine is
discharged from the per-operation theorems (`XDom.EngDom`, CrabProofs/Lemmas/XDomStmt.lean,
XDomEngineInst.lean).
-/
open Crab Crab.XDom Crab.Fix

/-- blocks of admissible statements are sound block transformers, for every domain given by its
    per-operation laws -/
theorem C01.xdom_block_sound (D : EngDom) (b : List D.AStmt) (a : D.A) (s s' : State)
    (hg : D.γ a s) (hr : D.BlockRel b s s') : D.γ (D.execBlock b a) s' := D.execBlock_sound b a s s' hg hr

/-- the generic instance: the engine on any `EngDom` -/
theorem C01.xdom_run_sound (D : EngDom) (prog : Nat → List D.AStmt) (preds : Nat → List Nat)
    (nesting : Nat → Option (List Nat)) (entry : Nat) (init : D.A)
    (assumptions : Option (List (Nat × D.A))) (delay descending : Nat) (w : List Comp)
    (fuel : Nat) (st : St D.A)
    (hwf : WtoWF (D.mkCtx prog preds nesting entry init assumptions delay descending) w)
    (hrun : run (D.mkCtx prog preds nesting entry init assumptions delay descending) fuel w = some st) :
    let sm := D.sem prog preds nesting entry init assumptions delay descending
    (∀ n s, ReachPre _ sm n s → D.γ (st.pre n) s) ∧ (∀ n s, ReachPost _ sm n s → D.γ (st.post n) s) :=
  C01.run_sound _ w State (D.sem prog preds nesting entry init assumptions delay descending) fuel st hwf hrun

/-- **the engine on the constant domain** -/
theorem C01.cstdom_run_sound (prog : Nat → List CDom.eng.AStmt) (preds : Nat → List Nat)
    (nesting : Nat → Option (List Nat)) (entry : Nat) (init : CDom.SEnv)
    (assumptions : Option (List (Nat × CDom.SEnv))) (delay descending : Nat) (w : List Comp)
    (fuel : Nat) (st : St CDom.SEnv)
    (hwf : WtoWF (CDom.eng.mkCtx prog preds nesting entry init assumptions delay descending) w)
    (hrun : run (CDom.eng.mkCtx prog preds nesting entry init assumptions delay descending) fuel w = some st) :
    let sm := CDom.eng.sem prog preds nesting entry init assumptions delay descending
    (∀ n s, ReachPre _ sm n s → (st.pre n).γ s) ∧ (∀ n s, ReachPost _ sm n s → (st.post n).γ s) :=
  C01.xdom_run_sound CDom.eng prog preds nesting entry init assumptions delay descending w fuel st hwf hrun

/-- **the engine on the sign domain** -/
theorem C01.sgndom_run_sound (prog : Nat → List SDom.eng.AStmt) (preds : Nat → List Nat)
    (nesting : Nat → Option (List Nat)) (entry : Nat) (init : SDom.SEnv)
    (assumptions : Option (List (Nat × SDom.SEnv))) (delay descending : Nat) (w : List Comp)
    (fuel : Nat) (st : St SDom.SEnv)
    (hwf : WtoWF (SDom.eng.mkCtx prog preds nesting entry init assumptions delay descending) w)
    (hrun : run (SDom.eng.mkCtx prog preds nesting entry init assumptions delay descending) fuel w = some st) :
    let sm := SDom.eng.sem prog preds nesting entry init assumptions delay descending
    (∀ n s, ReachPre _ sm n s → (st.pre n).γ s) ∧ (∀ n s, ReachPost _ sm n s → (st.post n).γ s) :=
  C01.xdom_run_sound SDom.eng prog preds nesting entry init assumptions delay descending w fuel st hwf hrun

/-- **the engine on the congruence domain** (statements: `GDom.Ok'`, i.e. no left shift by a
    variable amount, see Props/C03CongDom.lean) -/
theorem C01.congdom_run_sound (prog : Nat → List GDom.eng.AStmt) (preds : Nat → List Nat)
    (nesting : Nat → Option (List Nat)) (entry : Nat) (init : GDom.SEnv)
    (assumptions : Option (List (Nat × GDom.SEnv))) (delay descending : Nat) (w : List Comp)
    (fuel : Nat) (st : St GDom.SEnv)
    (hwf : WtoWF (GDom.eng.mkCtx prog preds nesting entry init assumptions delay descending) w)
    (hrun : run (GDom.eng.mkCtx prog preds nesting entry init assumptions delay descending) fuel w = some st) :
    let sm := GDom.eng.sem prog preds nesting entry init assumptions delay descending
    (∀ n s, ReachPre _ sm n s → (st.pre n).γ s) ∧ (∀ n s, ReachPost _ sm n s → (st.post n).γ s) :=
  C01.xdom_run_sound GDom.eng prog preds nesting entry init assumptions delay descending w fuel st hwf hrun

/-- non-vacuity: the constraint `x + y - 5 == 0` is admissible … -/
theorem C01.xdom_example_ok : Stmt.Ok (.assume [⟨⟨[(0, 1), (1, 1)], -5⟩, .eq⟩]) := by
  intro c hc
  simp only [List.mem_cons, List.not_mem_nil, or_false] at hc
  subst hc
  exact ⟨by decide, by intro p hp; simp at hp; rcases hp with h | h <;> subst h <;> decide⟩

/-- … and the block `x := 3; assume x + y = 5; z := x * y` computes the expected bindings from top -/
example :
    let s1 : CDom.eng.AStmt := ⟨.assign 0 (Lin.Expr.const 3), (by show (0 : Nat) < 2 ^ 64; decide)⟩
    let s2 : CDom.eng.AStmt := ⟨.assume [⟨⟨[(0, 1), (1, 1)], -5⟩, .eq⟩], C01.xdom_example_ok⟩
    let s3 : CDom.eng.AStmt := ⟨.arithVar .mul 2 0 1, (by show (2 : Nat) < 2 ^ 64; decide)⟩
    XDom.Env.bindings (CDom.eng.execBlock [s1, s2, s3] CDom.SEnv.top).1
      = [(0, .val 3), (1, .val 2), (2, .val 6)] := by
  decide
