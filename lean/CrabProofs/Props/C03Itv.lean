import CrabProofs.Lemmas.IDomInst
import CrabProofs.Lemmas.IDomCsts
import CrabProofs.Lemmas.IDomThresholds
import CrabProofs.Lemmas.IDomWF
import CrabProofs.Lemmas.IDomFuel
import CrabProofs.Lemmas.FunctorHistory
import CrabProofs.Props.C03
import CrabProofs.Props.C01Engine

/-!
# C03 for `interval_domain<z_number>` — every operation is sound, proved on the exact model

`Crab.IDom` (CrabModel/Dom/IntervalDomain.lean) is the branch-by-branch model of
`ikos::interval_domain<z_number, VariableName>` with `separate_domain`, the constraint solver
`linear_interval_solver`, `lower_disequality` and the thresholds; it is tied to the real code by
the exact correspondence `idom` (harness/h_idom.cpp, Driver/IDomH.lean: every binding after every
operation).  Concretisation: `Env.γ e σ := e.bottom = false ∧ ∀ x, σ x ∈ e.get x`
(`CrabProofs/Lemmas/IDomEnv.lean`, with the states `IDom.State` and the invariants `Env.Sorted`,
`Env.ValWF`).  The concrete side of the statements — `ArithOp.conc`, `BitOp.conc`, `conc64`, the
statements `Stmt` with `Stmt.rel` and `Stmt.Ok`, `BlockRel`, `Env.RenameRel` — is
`CrabProofs/Lemmas/IDomSem.lean`.

Hypotheses that appear below:
 * `e.m.Sorted` / `SEnv`: at most one binding per variable (the map invariant of the Patricia tree,
   preserved by every operation: `Stmt.exec_sorted`, `Env.upperWith_sorted`, …); needed by the
   operations that walk the bindings (lattice operations, exported constraints);
 * `Expr.Canonical` of the expressions of constraints: sorted variables, no zero coefficient — the
   invariant of the class `linear_expression` (every constructor/operator establishes it,
   `CrabProofs/Lemmas/LinExpr.lean`).
-/
open Crab Crab.IDom Crab.Lin

/-! ### transformers -/

/-- `set(x, i)`: `x` receives any member of `i` -/
theorem C03.idom_set_sound (e : Env) (σ : State) (x : Var) (i : Itv) (n : Int) (hg : e.γ σ) (hn : Itv.mem n i) :
    (e.set x i).γ (upd σ x n) := Env.set_sound hg hn x

/-- `assign(x, e)`, including the single-variable shortcut -/
theorem C03.idom_assign_sound (e : Env) (σ : State) (x : Var) (ex : Expr) (hg : e.γ σ) :
    (e.assign x ex).γ (upd σ x (ex.eval σ)) := Env.assign_sound hg x ex

/-- `weak_assign(x, e)`: both the old state and the updated state are described -/
theorem C03.idom_weak_assign_sound (e : Env) (σ : State) (x : Var) (ex : Expr) (hg : e.γ σ) :
    (e.weakAssign x ex).γ σ ∧ (e.weakAssign x ex).γ (upd σ x (ex.eval σ)) := Env.weakAssign_sound hg x ex

/-- `apply(arith op, x, y, z)` for every arithmetic operation (`ArithOp.conc` is the operation on
    mathematical integers; no successor for a division by zero) -/
theorem C03.idom_apply_arith_var_sound (e : Env) (σ : State) (op : ArithOp) (x y z : Var) (c : Int)
    (hg : e.γ σ) (hc : op.conc (σ y) (σ z) = some c) : (e.applyVar op x y z).γ (upd σ x c) :=
  Env.set_sound hg (op.eval_sound (hg.2 y) (hg.2 z) hc) x

/-- `apply(arith op, x, y, k)` -/
theorem C03.idom_apply_arith_cst_sound (e : Env) (σ : State) (op : ArithOp) (x y : Var) (k c : Int)
    (hg : e.γ σ) (hc : op.conc (σ y) k = some c) : (e.applyCst op x y k).γ (upd σ x c) :=
  Env.set_sound hg (op.eval_sound (hg.2 y) ((Itv.mem_single k k).2 rfl) hc) x

/-- full statement for the bitwise operations -/
def C03.idom_apply_bitwise_sound_Statement : Prop :=
  ∀ (e : Env) (σ : State) (op : BitOp) (x y : Var) (k c : Int),
    e.γ σ → op.conc (σ y) k = some c → (e.applyBitCst op x y k).γ (upd σ x c)

/-- `apply(bitwise op, x, y, k)`: sound except `LShr` by `2^64` or more (the scalar operation
    reduces the shift amount modulo `2^64`: known finding of `interval<z_number>::LShr`) -/
theorem C03.idom_apply_bitwise_sound_partial (e : Env) (σ : State) (op : BitOp) (x y : Var) (k c : Int)
    (hg : e.γ σ) (hc : op.conc (σ y) k = some c) (h64 : op = .lshr → k < 2 ^ 64) :
    (e.applyBitCst op x y k).γ (upd σ x c) :=
  Env.set_sound hg (op.eval_sound (hg.2 y) ((Itv.mem_single k k).2 rfl) hc h64) x

theorem C03.idom_apply_bitwise_var_sound_partial (e : Env) (σ : State) (op : BitOp) (x y z : Var) (c : Int)
    (hg : e.γ σ) (hc : op.conc (σ y) (σ z) = some c) (h64 : op = .lshr → σ z < 2 ^ 64) :
    (e.applyBitVar op x y z).γ (upd σ x c) :=
  Env.set_sound hg (op.eval_sound (hg.2 y) (hg.2 z) hc h64) x

/-- `y = 1`, `x := y LShr 2^64` gives `x = 1` instead of `0` -/
theorem C03.idom_apply_bitwise_sound_counterexample : ¬ C03.idom_apply_bitwise_sound_Statement := by
  intro h
  have hb := Itv.lshr_big_shift
  let e : Env := Env.top.set 0 (Itv.single 1)
  let σ : State := fun _ => 1
  have hg : e.γ σ := Env.set_sound_same (Env.γ_top σ) ((Itv.mem_single 1 1).2 rfl)
  have hc : BitOp.conc .lshr (σ 0) (2 ^ 64) = some ((1 : Int) / 2 ^ ((2 : Int) ^ 64).toNat) := by
    show (if (0 : Int) ≤ 2 ^ 64 then some ((1 : Int) / 2 ^ ((2 : Int) ^ 64).toNat) else none) = _
    rw [if_pos (by decide)]
  have := (h e σ .lshr 1 0 (2 ^ 64) _ hg hc).2 1
  rw [upd_same] at this
  have he : (e.applyBitCst .lshr 1 0 (2 ^ 64)).get 1 = Itv.lshr (Itv.single 1) (Itv.single (2 ^ 64)) := by decide
  rw [he] at this
  exact hb.2.2 this

/-- the hypotheses of the partial theorem are satisfiable by a non-trivial case -/
example : (Env.top.set 0 (Itv.single 12)).γ (fun _ => 12) ∧ BitOp.conc .lshr 12 2 = some 3 ∧
    ((Env.top.set 0 (Itv.single 12)).applyBitCst .lshr 1 0 2).get 1 = Itv.single 3 := by
  refine ⟨Env.set_sound_same (Env.γ_top _) ((Itv.mem_single 12 12).2 rfl), by decide, by decide⟩

/-- the constraint solver (`linear_interval_solver::run`): a state of `γ env` that satisfies the
    system is in `γ` of the result, for every cycle bound -/
theorem C03.idom_solver_sound (csts : Sys) (maxCycles : Nat) (env : Env) (σ : State)
    (hc : ∀ c ∈ csts, c.expr.Canonical) (hg : env.γ σ) (hsat : Sys.sat csts σ) :
    (solverRun csts maxCycles env).γ σ := solverRun_sound hc hsat maxCycles hg

/-- `operator+=(csts)`: lowering of disequations, then the solver -/
theorem C03.idom_assume_sound (e : Env) (σ : State) (csts : Sys) (hc : ∀ c ∈ csts, c.expr.Canonical)
    (hg : e.γ σ) (hsat : Sys.sat csts σ) : (e.add csts).γ σ := Env.add_sound hg hc hsat

/-- `select(lhs, cond, e1, e2)` -/
theorem C03.idom_select_sound (e : Env) (σ : State) (lhs : Var) (cond : Cst) (e1 e2 : Expr)
    (hc : cond.expr.Canonical) (hg : e.γ σ) :
    (e.select lhs cond e1 e2).γ (upd σ lhs (if cond.sat σ then e1.eval σ else e2.eval σ)) :=
  Env.select_sound hg lhs hc e1 e2

/-- `operator-=(x)` -/
theorem C03.idom_forget_sound (e : Env) (σ : State) (x : Var) (n : Int) (hg : e.γ σ) :
    (e.forget x).γ (upd σ x n) := Env.forget_sound hg x n

/-- `forget(variables)`: the state may change on the forgotten variables only -/
theorem C03.idom_forget_vector_sound (e : Env) (σ σ' : State) (vs : List Var) (hg : e.γ σ)
    (h : ∀ y, y ∉ vs → σ' y = σ y) : (e.forgetAll vs).γ σ' := Env.forgetAll_sound hg vs h

/-- `project(variables)`, both branches: the state is kept on the projected variables only -/
theorem C03.idom_project_sound (e : Env) (σ σ' : State) (vs : List Var) (hg : e.γ σ)
    (h : ∀ y ∈ vs, σ' y = σ y) : (e.project vs).γ σ' := Env.project_sound hg vs h

/-- `expand(x, new_x)`: `new_x` receives any value the domain allows for `x` (in particular the
    value of `x`) -/
theorem C03.idom_expand_sound (e : Env) (σ : State) (x nx : Var) (n : Int) (hg : e.γ σ)
    (hn : Itv.mem n (e.get x)) : (e.expand x nx).γ (upd σ nx n) := Env.expand_sound hg x nx hn

/-- `rename(from, to)` with distinct sources and distinct, fresh targets: `to[i]` receives the value
    of `from[i]` (`RenameRel`), the other variables outside `from` keep theirs -/
theorem C03.idom_rename_sound (e e' : Env) (σ σ' : State) (from' to' : List Var) (hg : e.γ σ)
    (hr : e.rename from' to' = some e') (hnf : from'.Nodup) (hnt : to'.Nodup)
    (hdis : ∀ y ∈ to', y ∉ from') (hfresh : ∀ y ∈ to', Map.find e.m y = none)
    (hrel : Env.RenameRel from' to' σ σ') (hout : ∀ y, y ∉ from' → y ∉ to' → σ' y = σ y) : e'.γ σ' :=
  Env.rename_sound hg hr hnf hnt hdis hfresh hrel hout

/-- `rename` raises CRAB_ERROR exactly on vectors of different lengths (unless nothing is to do) -/
theorem C03.idom_rename_defined (e : Env) (from' to' : List Var) :
    (e.rename from' to').isSome = (e.isTop || e.bottom || decide (from'.length = to'.length)) := by
  unfold Env.rename
  split
  · rename_i h; simp [h]
  · rename_i h
    split
    · rename_i h2; simp [h, h2]
    · rename_i h2; simp at h2; simp [h2]

/-- integer casts between integer variables (`assign`, plus `dst <= 2^bw - 1` for `zext`) -/
theorem C03.idom_cast_sound (e : Env) (σ : State) (zext : Bool) (bw : Nat) (dst src : Var) (hg : e.γ σ)
    (hz : zext = true → σ src ≤ 2 ^ bw - 1) : (e.intCast zext bw dst src).γ (upd σ dst (σ src)) :=
  Env.intCast_sound hg zext bw dst src hz

/-! ### exported constraints -/

/-- `to_linear_constraint_system()` holds in every state of `γ` … -/
theorem C03.idom_to_csts_sound (e : Env) (σ : State) (hs : e.m.Sorted) (hg : e.γ σ) : Sys.sat e.toCsts σ :=
  Env.toCsts_sound hs hg

/-- … and has no other solution (stored intervals are well formed: `lb ≠ +oo`, `ub ≠ -oo`) -/
theorem C03.idom_to_csts_complete (e : Env) (σ : State) (hw : ∀ p ∈ e.m, p.2.WF) (h : Sys.sat e.toCsts σ) :
    e.γ σ := Env.toCsts_complete hw h

/-! ### the operations as steps of the generic history contract -/

/-- every statement (one call of `assign` / `apply` / `+=` / `select` / `forget` / `project` /
    `expand` / cast) is a sound transformer step -/
theorem C03.idom_step_trans_sound (d : Nat) (st : Stmt) (hok : st.Ok) :
    (Dom.Step.trans d ⟨st.execS, st.rel⟩ : Dom.Step SEnv State).Sound SEnv.γ :=
  fun _ _ _ hg hr => st.exec_sound hok hg hr

theorem C03.idom_step_join_sound (d a b : Nat) : (Dom.Step.upper d a b SEnv.join : Dom.Step SEnv State).Sound SEnv.γ :=
  fun x y _ h => h.elim (fun h => Env.join_upper_left x.2 y.1 h) (fun h => Env.join_upper_right x.2 h)

theorem C03.idom_step_widen_sound (d a b : Nat) : (Dom.Step.upper d a b SEnv.widen : Dom.Step SEnv State).Sound SEnv.γ :=
  fun x y _ h => h.elim (fun h => Env.widen_upper_left x.2 y.1 h) (fun h => Env.widen_upper_right x.2 h)

/-- widening with thresholds, for every threshold vector built by the class (`-oo` first, `+oo` last:
    `Thresholds.init_wf`, `Thresholds.add_wf`) -/
theorem C03.idom_step_widen_thresholds_sound (d a b : Nat) (ts : Thresholds) (hw : ts.WF) :
    (Dom.Step.upper d a b (SEnv.widenTh ts) : Dom.Step SEnv State).Sound SEnv.γ :=
  fun x y _ h => h.elim (fun h => Env.widenTh_upper_left hw x.2 y.1 h) (fun h => Env.widenTh_upper_right hw x.2 h)

theorem C03.idom_thresholds_wf (ks : List Int) (cap : Nat) :
    (ks.foldl (fun ts k => Thresholds.add ts cap k) Thresholds.init).WF :=
  List.foldlRecOn ks _ Thresholds.init_wf fun _ h k _ => Thresholds.add_wf h cap k

theorem C03.idom_step_meet_sound (d a b : Nat) : (Dom.Step.lower d a b SEnv.meet : Dom.Step SEnv State).Sound SEnv.γ :=
  fun x _ _ h1 h2 => Env.meet_sound x.2 h1 h2

theorem C03.idom_step_narrow_sound (d a b : Nat) : (Dom.Step.lower d a b SEnv.narrow : Dom.Step SEnv State).Sound SEnv.γ :=
  fun x _ _ h1 h2 => Env.narrow_sound x.2 h1 h2

/-- the steps an operation history of the interval domain is made of -/
inductive C03.IdomStep : Dom.Step SEnv State → Prop
  | trans (d : Nat) (st : Stmt) (hok : st.Ok) : C03.IdomStep (.trans d ⟨st.execS, st.rel⟩)
  | join (d a b : Nat) : C03.IdomStep (.upper d a b SEnv.join)
  | widen (d a b : Nat) : C03.IdomStep (.upper d a b SEnv.widen)
  | widenTh (d a b : Nat) (ts : Thresholds) (hw : ts.WF) : C03.IdomStep (.upper d a b (SEnv.widenTh ts))
  | meet (d a b : Nat) : C03.IdomStep (.lower d a b SEnv.meet)
  | narrow (d a b : Nat) : C03.IdomStep (.lower d a b SEnv.narrow)
  | copy (d s : Nat) : C03.IdomStep (.copy d s)
  | setBot (d : Nat) : C03.IdomStep (.setBot d SEnv.bot)

theorem C03.idom_step_sound (st : Dom.Step SEnv State) (h : C03.IdomStep st) : st.Sound SEnv.γ := by
  cases h with
  | trans d s hok => exact C03.idom_step_trans_sound d s hok
  | join d a b => exact C03.idom_step_join_sound d a b
  | widen d a b => exact C03.idom_step_widen_sound d a b
  | widenTh d a b ts hw => exact C03.idom_step_widen_thresholds_sound d a b ts hw
  | meet d a b => exact C03.idom_step_meet_sound d a b
  | narrow d a b => exact C03.idom_step_narrow_sound d a b
  | copy d s => trivial
  | setBot d => trivial

/-- **C03 for the interval domain**: after ANY history of its operations over a pool of values,
    every slot contains the collecting semantics of the history -/
theorem C03.idom_history_sound (hist : List (Dom.Step SEnv State)) (hs : ∀ st ∈ hist, C03.IdomStep st)
    (p : Dom.Pool SEnv) (c : Dom.CPool State) (h : ∀ i s, c i s → (p i).γ s) :
    ∀ i s, (Dom.collHist c hist) i s → ((Dom.runHist p hist) i).γ s :=
  C03.history_sound SEnv.γ hist (fun st hst => C03.idom_step_sound st (hs st hst)) p c h

/-- a slot whose collecting semantics is inhabited is never reported bottom -/
theorem C03.idom_not_bottom_if_inhabited (hist : List (Dom.Step SEnv State)) (hs : ∀ st ∈ hist, C03.IdomStep st)
    (p : Dom.Pool SEnv) (c : Dom.CPool State) (h : ∀ i s, c i s → (p i).γ s) (i : Nat) (s : State)
    (hc : (Dom.collHist c hist) i s) : ((Dom.runHist p hist) i).1.bottom = false :=
  (C03.idom_history_sound hist hs p c h i s hc).1

/-! ### the contract of the fixpoint engine -/

/-- blocks of statements are sound block transformers -/
theorem C03.idom_block_sound (b : List Stmt) (hok : ∀ st ∈ b, st.Ok) (a : SEnv) (s s' : State)
    (hg : a.γ s) (hr : BlockRel b s s') : (execBlock b a).γ s' := execBlock_sound b hok a s s' hg hr

/-- **C01 ∘ C03**: the interleaved fixpoint iterator run on the interval domain with block
    transformers made of the operations above returns tables that contain the collecting
    semantics of the program (every ordering, widening delay, number of descending iterations,
    assumption map) -/
theorem C03.idom_run_sound (prog : Nat → List Stmt) (hok : ∀ n, ∀ st ∈ prog n, st.Ok) (preds : Nat → List Nat)
    (nesting : Nat → Option (List Nat)) (entry : Nat) (init : SEnv)
    (assumptions : Option (List (Nat × SEnv))) (delay descending : Nat) (w : List Fix.Comp)
    (fuel : Nat) (st : Fix.St SEnv)
    (hwf : Fix.WtoWF (mkCtx prog preds nesting entry init assumptions delay descending) w)
    (hrun : Fix.run (mkCtx prog preds nesting entry init assumptions delay descending) fuel w = some st) :
    let sm := sem prog hok preds nesting entry init assumptions delay descending
    (∀ n s, Fix.ReachPre _ sm n s → (st.pre n).γ s) ∧ (∀ n s, Fix.ReachPost _ sm n s → (st.post n).γ s) :=
  C01.run_sound _ w State (sem prog hok preds nesting entry init assumptions delay descending) fuel st hwf hrun

/-- non-vacuity: `x := 0; assume x <= 5; y := x + 1` from top gives exactly the expected bindings -/
example : (execBlock [.assign 0 (Expr.const 0), .assume [⟨(Expr.var 0).subNum 5, .leq⟩],
    .arithCst .add 1 0 1] SEnv.top).1 = ⟨false, [(0, Itv.single 0), (1, Itv.single 1)]⟩ := by decide

/-! ### exactness of the model: unreachable CRAB_ERROR, sufficient fuel -/

/-- every statement keeps every stored interval well formed (`lb ≠ +oo`, `ub ≠ -oo`) … -/
theorem C03.idom_stmt_valwf (st : Stmt) (a : Env) (h : a.ValWF) : (st.exec a).ValWF := st.exec_valwf h

/-- … and so do the lattice operations, `weak_assign` and `rename` -/
theorem C03.idom_lattice_valwf (a b : Env) (ha : a.ValWF) (hb : b.ValWF) :
    (Env.join a b).ValWF ∧ (Env.meet a b).ValWF ∧ (Env.widen a b).ValWF ∧ (Env.narrow a b).ValWF :=
  ⟨Env.upperWith_valwf (fun _ _ => Itv.wf_join) ha hb, Env.lowerWith_valwf (fun _ _ => Itv.wf_meet) ha hb,
   Env.upperWith_valwf (fun _ _ => Itv.wf_widen) ha hb, Env.lowerWith_valwf (fun _ _ => Itv.wf_narrow) ha hb⟩

theorem C03.idom_widen_thresholds_valwf (ts : Thresholds) (hw : ts.WF) (a b : Env) (ha : a.ValWF) (hb : b.ValWF) :
    (Env.widenTh ts a b).ValWF := Env.upperWith_valwf (fun _ _ => wf_widenTh hw) ha hb

theorem C03.idom_weak_assign_valwf (e : Env) (x : Var) (ex : Expr) (h : e.ValWF) : (e.weakAssign x ex).ValWF :=
  Env.weakAssign_valwf h x ex

theorem C03.idom_rename_valwf (e e' : Env) (f t : List Var) (hr : e.rename f t = some e') (h : e.ValWF) : e'.ValWF :=
  Env.rename_valwf hr h

theorem C03.idom_top_bot_valwf : Env.top.ValWF ∧ Env.bot.ValWF := ⟨Env.valwf_top, Env.valwf_bot⟩

/-- the invariant holds of every slot after any history that starts from well-formed values -/
theorem C03.idom_history_valwf (hist : List (Dom.Step SEnv State)) (hs : ∀ st ∈ hist, C03.IdomStep st)
    (p : Dom.Pool SEnv) (h : ∀ i, (p i).1.ValWF) : ∀ i, ((Dom.runHist p hist) i).1.ValWF :=
  Dom.Fct.runHist_preserves (fun a : SEnv => a.1.ValWF) hist (fun st hst => by
    cases hs st hst with
    | trans d s hok => exact fun _ => s.exec_valwf
    | join d a b => exact fun _ _ ha hb => (C03.idom_lattice_valwf _ _ ha hb).1
    | widen d a b => exact fun _ _ ha hb => (C03.idom_lattice_valwf _ _ ha hb).2.2.1
    | widenTh d a b ts hw => exact fun _ _ => C03.idom_widen_thresholds_valwf ts hw _ _
    | meet d a b => exact fun _ _ ha hb => (C03.idom_lattice_valwf _ _ ha hb).2.1
    | narrow d a b => exact fun _ _ ha hb => (C03.idom_lattice_valwf _ _ ha hb).2.2.2
    | copy d s0 => trivial
    | setBot d => exact Env.valwf_bot) p h

/-- on such environments the code paths that can raise CRAB_ERROR (`-oo + +oo` in
    `interval::operator+` / `operator-`) never do: the transcriptions with `Option` of
    `operator[](expr)` / `assign`, of `compute_residual` and of the `switch` of `apply` return
    `some` of the total functions the model uses -/
theorem C03.idom_no_crab_error_eval (e : Env) (h : e.ValWF) (ex : Expr) :
    Env.evalExprO e ex = some (e.evalExpr ex) := Env.evalExprO_eq h ex

theorem C03.idom_no_crab_error_residual (env : Env) (h : env.ValWF) (c : Cst) (pivot : Var) (n : Nat) :
    residualLoopO env pivot c.expr.terms (Itv.single c.constant) n = some (computeResidual c pivot env n) :=
  (residualLoopO_eq h pivot c.expr.terms _ n (Itv.wf_single _)).1

theorem C03.idom_no_crab_error_apply (e : Env) (h : e.ValWF) (op : ArithOp) (y z : Var) (k : Int) :
    op.evalO (e.get y) (e.get z) = some (op.eval (e.get y) (e.get z)) ∧
    op.evalO (e.get y) (Itv.single k) = some (op.eval (e.get y) (Itv.single k)) :=
  ⟨op.evalO_eq (Env.get_wf h y) (Env.get_wf h z), op.evalO_eq (Env.get_wf h y) (Itv.wf_single k)⟩

/-- the exported system has exactly `γ` as solutions on every reachable value -/
theorem C03.idom_to_csts_iff (e : Env) (σ : State) (hs : e.m.Sorted) (hw : e.ValWF) :
    Sys.sat e.toCsts σ ↔ e.γ σ := ⟨Env.toCsts_complete hw, Env.toCsts_sound hs⟩

/-- the fuel `m_max_op + 1` given to the loop of `solve_large_system` is never exhausted: any larger
    fuel gives the same result (each iteration that goes on has increased `m_op_count`) -/
theorem C03.idom_solver_fuel_exact (tbl : List Cst) (maxOp : Nat) (st : SolverSt) (k : Nat) :
    solveLargeLoop tbl maxOp (maxOp + 1 + k) st = solveLargeLoop tbl maxOp (maxOp + 1) st :=
  solveLargeLoop_fuel tbl maxOp st k
