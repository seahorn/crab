import CrabModel.Dom.History
import CrabProofs.Props.C08
import CrabProofs.Lemmas.FunctorHistory

/-!
# C03 — every abstract-domain operation is sound under arbitrary operation histories

Generic part: for ANY domain whose individual operations satisfy their soundness law
(`Step.Sound`), the value held in every pool slot after ANY finite history contains the
collecting semantics of that history.  Nothing is assumed about monotonicity, normal forms or
sharing: only the per-operation laws, so lazily normalised representations are covered as long
as each operation is sound on whatever representation it receives.
-/
open Crab Crab.Dom

theorem C03.step_sound {A S : Type} (γ : A → S → Prop) (st : Step A S) (hs : st.Sound γ)
    (p : Pool A) (c : CPool S) (h : ∀ i s, c i s → γ (p i) s) :
    ∀ i s, (st.coll c) i s → γ ((st.run p) i) s :=
  (Fct.Step.okAt_sound (Fct.Step.okAt_of_sound hs p) (fun _ => trivial) h).2

/-- **History soundness** — by induction on the history, for every pool size, every history
    length and every interleaving of copies, transformers and lattice operations. -/
theorem C03.history_sound {A S : Type} (γ : A → S → Prop) (hist : List (Step A S))
    (hs : ∀ st ∈ hist, st.Sound γ) (p : Pool A) (c : CPool S)
    (h : ∀ i s, c i s → γ (p i) s) :
    ∀ i s, (collHist c hist) i s → γ ((runHist p hist) i) s :=
  (Fct.history_sound_along hist (Fct.runOk_of_forall hist (fun st hst p _ => Fct.Step.okAt_of_sound (hs st hst) p) p)
    (fun _ => trivial) h).2

/-- a slot whose collecting semantics is inhabited is never reported bottom (for any sound
    bottom test) -/
theorem C03.not_bottom_if_inhabited {A S : Type} (γ : A → S → Prop) (isBot : A → Bool)
    (hb : ∀ a s, isBot a = true → ¬ γ a s)
    (hist : List (Step A S)) (hs : ∀ st ∈ hist, st.Sound γ) (p : Pool A) (c : CPool S)
    (h : ∀ i s, c i s → γ (p i) s) (i : Nat) (s : S) (hc : (collHist c hist) i s) :
    isBot ((runHist p hist) i) = false := by
  cases hbb : isBot ((runHist p hist) i)
  · rfl
  · exact absurd (C03.history_sound γ hist hs p c h i s hc) (hb _ _ hbb)

/-- instance of the per-step laws for the interval scalar (a one-variable domain): join and
    widening are `upper` steps, meet and narrowing `lower` steps, `x := x * k` a transformer -/
example : (Step.upper 0 0 1 Itv.join : Step Itv Int).Sound (fun i k => Itv.mem k i) :=
  fun a b s h => h.elim Itv.join_upper_left Itv.join_upper_right
example : (Step.upper 0 0 1 Itv.widen : Step Itv Int).Sound (fun i k => Itv.mem k i) :=
  fun a b s h => h.elim Itv.widen_upper_left Itv.widen_upper_right
example : (Step.lower 0 0 1 Itv.narrow : Step Itv Int).Sound (fun i k => Itv.mem k i) :=
  fun a b s ha hb => Itv.narrow_sound ha hb
example (k : Int) : (Step.trans 0 ⟨fun i => Itv.mul i (Itv.single k), fun s s' => s' = s * k⟩ : Step Itv Int).Sound
    (fun i k => Itv.mem k i) :=
  fun a s s' h hr => by subst hr; exact Itv.mul_sound h ((Itv.mem_single k k).2 rfl)
