import CrabProofs.Props.C05
import CrabProofs.Props.C05Itv
import CrabProofs.Props.C08Itv2
import CrabProofs.Lemmas.CongruenceWiden
import CrabProofs.Props.C08Fin
import CrabModel.Scalar.Constant
import CrabProofs.Lemmas.Chain

/-!
# C05 (chain part) — from a decreasing measure to the chain condition of the engine

`C05.run_terminates` needs `WellFounded (WidenStep c)`: no infinite sequence of *strict*
extrapolation steps `x ↦ x ∇ y` with `y ⋢ x`.  This file gives the generic route to that
hypothesis

* a measure into a well-founded order that strictly decreases on every strict step
  (`C05.widenStep_wf_of_measure`, natural numbers: `C05.widenStep_wf_of_nat_measure`);
* the same when the decrease is only known for *non-stationary* steps (`x ∇ y ⋢ x`) of a widening
  that is an upper bound of its right argument for a transitive inclusion test
  (`C05.widenStep_wf_of_upper_bound`);
* a bound on the position of the first stationary step of an arbitrary sequence
  (`C05.chain_first_stationary`)

and instantiates it for the scalar models that exist: intervals (`Crab.Itv`, at most 3 strict
steps), congruences (widening = join: bottom, a constant, then a chain of proper divisors),
constants and signs (finite height), and the interval domain (`Crab.IDom`).
-/
open Crab Crab.Fix

/-! ## generic lemmas -/

/-- the relation of strict widening steps of a bare (order test, widening) pair -/
def C05.StrictStep {A : Type} (leq : A → A → Bool) (widen : A → A → A) (x' x : A) : Prop :=
  ∃ y, leq y x = false ∧ x' = widen x y

/-- the engine's `WidenStep` is the strict-step relation of the context's operations -/
theorem C05.widenStep_eq {A : Type} (c : Ctx A) :
    WidenStep c = C05.StrictStep c.ops.leq c.ops.widen := rfl

/-- **generic chain lemma**: a measure into a well-founded order that strictly decreases on
    every strict widening step makes the strict steps well founded -/
theorem C05.strictStep_wf_of_measure {A B : Type} (leq : A → A → Bool) (widen : A → A → A)
    (r : B → B → Prop) (hr : WellFounded r) (μ : A → B)
    (hdec : ∀ x y, leq y x = false → r (μ (widen x y)) (μ x)) :
    WellFounded (C05.StrictStep leq widen) := by
  apply Subrelation.wf (r := InvImage r μ)
  · rintro x' x ⟨y, hy, rfl⟩
    exact hdec x y hy
  · exact InvImage.wf μ hr

/-- the hypothesis of `C05.run_terminates` from a decreasing measure -/
theorem C05.widenStep_wf_of_measure {A B : Type} (c : Ctx A) (r : B → B → Prop)
    (hr : WellFounded r) (μ : A → B)
    (hdec : ∀ x y, c.ops.leq y x = false → r (μ (c.ops.widen x y)) (μ x)) :
    WellFounded (WidenStep c) :=
  C05.strictStep_wf_of_measure c.ops.leq c.ops.widen r hr μ hdec

/-- natural-number measures -/
theorem C05.widenStep_wf_of_nat_measure {A : Type} (c : Ctx A) (μ : A → Nat)
    (hdec : ∀ x y, c.ops.leq y x = false → μ (c.ops.widen x y) < μ x) :
    WellFounded (WidenStep c) :=
  C05.widenStep_wf_of_measure c (· < ·) Nat.lt_wfRel.wf μ hdec

/-- a widening that (i) is an upper bound of its right argument for a transitive inclusion test
    and (ii) strictly decreases a natural-number measure on every **non-stationary** step
    (`x ∇ y ⋢ x`) satisfies the chain condition of the engine: a step with `y ⋢ x` cannot be
    stationary -/
theorem C05.widenStep_wf_of_upper_bound {A : Type} (c : Ctx A) (μ : A → Nat)
    (htrans : ∀ a b d, c.ops.leq a b = true → c.ops.leq b d = true → c.ops.leq a d = true)
    (hub : ∀ x y, c.ops.leq y (c.ops.widen x y) = true)
    (hdec : ∀ x y, c.ops.leq (c.ops.widen x y) x = false → μ (c.ops.widen x y) < μ x) :
    WellFounded (WidenStep c) := by
  apply C05.widenStep_wf_of_nat_measure c μ
  intro x y hy
  apply hdec
  cases hst : c.ops.leq (c.ops.widen x y) x
  · rfl
  · rw [htrans y _ x (hub x y) hst] at hy
    exact absurd hy (by decide)

/-- hence every analysis run over such a value type terminates -/
theorem C05.run_terminates_of_upper_bound {A : Type} (c : Ctx A) (μ : A → Nat)
    (htrans : ∀ a b d, c.ops.leq a b = true → c.ops.leq b d = true → c.ops.leq a d = true)
    (hub : ∀ x y, c.ops.leq y (c.ops.widen x y) = true)
    (hdec : ∀ x y, c.ops.leq (c.ops.widen x y) x = false → μ (c.ops.widen x y) < μ x)
    (w : List Comp) : ∃ fuel st, run c fuel w = some st :=
  C05.run_terminates c w (C05.widenStep_wf_of_upper_bound c μ htrans hub hdec)

/-- **arbitrary sequences**: along `x₀, xₙ₊₁ = xₙ ∇ yₙ` with arbitrary further values `yₙ`, a
    covered value (`yₙ ⊑ xₙ`, the test on which the iterator stops) occurs within the first
    `μ x₀ + 1` steps -/
theorem C05.chain_first_stationary {A : Type} (leq : A → A → Bool) (widen : A → A → A) (μ : A → Nat)
    (hdec : ∀ x y, leq y x = false → μ (widen x y) < μ x)
    (xs ys : Nat → A) (hstep : ∀ n, xs (n + 1) = widen (xs n) (ys n)) :
    ∃ n, n ≤ μ (xs 0) ∧ leq (ys n) (xs n) = true :=
  chain_first_stationary_on (fun _ => True) leq widen μ (fun _ _ _ => trivial) (fun x y _ => hdec x y)
    xs ys trivial hstep

/-! ## intervals (`interval<z_number>::operator||`) -/

/-- the interval widening in the engine's form: every context whose order test and widening are
    the interval ones satisfies the chain condition -/
theorem C05.itv_widenStep_wf (c : Ctx Itv) (hleq : c.ops.leq = Itv.leq) (hw : c.ops.widen = Itv.widen) :
    WellFounded (WidenStep c) := by
  apply C05.widenStep_wf_of_nat_measure c Itv.wmeasure
  intro x y h
  rw [hleq] at h
  rw [hw]
  exact (C08.itv_widen_measure x y h).1

/-- any interval sequence `xₙ₊₁ = xₙ ∇ yₙ` meets a covered `yₙ` within the first four steps -/
theorem C05.itv_chain_first_stationary (xs ys : Nat → Itv)
    (hstep : ∀ n, xs (n + 1) = Itv.widen (xs n) (ys n)) :
    ∃ n, n ≤ 3 ∧ Itv.leq (ys n) (xs n) = true := by
  obtain ⟨n, h1, h2⟩ := C05.chain_first_stationary Itv.leq Itv.widen Itv.wmeasure
    (fun x y h => (C08.itv_widen_measure x y h).1) xs ys hstep
  have hle := Itv.wmeasure_le_three (xs 0)
  exact ⟨n, by omega, h2⟩

/-! ## congruences (`congruence::operator||` = join) -/


/-- a strict congruence widening step lowers (rank, |modulus|) lexicographically -/
theorem C05.cong_widen_measure (x y : Cong) (h : Cong.leq y x = false) :
    Prod.Lex (· < ·) (· < ·) (Cong.wmeas (Cong.widen x y)) (Cong.wmeas x) := Cong.widen_wmeas_lt h

/-- chain condition of the congruence widening (on all values, normalised or not) -/
theorem C05.cong_widen_wf : WellFounded (C05.StrictStep Cong.leq Cong.widen) :=
  C05.strictStep_wf_of_measure Cong.leq Cong.widen _ (Prod.lex Nat.lt_wfRel Nat.lt_wfRel).wf Cong.wmeas
    (fun x y h => C05.cong_widen_measure x y h)

theorem C05.cong_widenStep_wf (c : Ctx Cong) (hleq : c.ops.leq = Cong.leq) (hw : c.ops.widen = Cong.widen) :
    WellFounded (WidenStep c) := by
  rw [C05.widenStep_eq, hleq, hw]
  exact C05.cong_widen_wf

/-! ## constants (`constant::operator||` = join) -/

/-- height of a constant value: bottom 2, a number 1, top 0 -/
def C05.cstMeasure : Cst → Nat
  | .bot => 2
  | .val _ => 1
  | .top => 0

theorem C05.cst_widen_measure (x y : Cst) (h : Cst.leq y x = false) :
    C05.cstMeasure (Cst.widen x y) < C05.cstMeasure x := by
  cases x <;> cases y <;>
    simp_all [Cst.leq, Cst.widen, Cst.join, Cst.isBottom, Cst.isTop, C05.cstMeasure]
  rename_i a b
  have hne : ¬ a = b := fun e => h e.symm
  simp [hne]

theorem C05.cst_widen_wf : WellFounded (C05.StrictStep Cst.leq Cst.widen) :=
  C05.strictStep_wf_of_measure Cst.leq Cst.widen (· < ·) Nat.lt_wfRel.wf C05.cstMeasure
    C05.cst_widen_measure

theorem C05.cst_widenStep_wf (c : Ctx Cst) (hleq : c.ops.leq = Cst.leq) (hw : c.ops.widen = Cst.widen) :
    WellFounded (WidenStep c) := by
  rw [C05.widenStep_eq, hleq, hw]
  exact C05.cst_widen_wf

/-- at most two strict steps from any constant value -/
theorem C05.cst_chain_first_stationary (xs ys : Nat → Cst)
    (hstep : ∀ n, xs (n + 1) = Cst.widen (xs n) (ys n)) :
    ∃ n, n ≤ 2 ∧ Cst.leq (ys n) (xs n) = true := by
  obtain ⟨n, h1, h2⟩ := C05.chain_first_stationary Cst.leq Cst.widen C05.cstMeasure
    C05.cst_widen_measure xs ys hstep
  have : C05.cstMeasure (xs 0) ≤ 2 := by cases xs 0 <;> simp [C05.cstMeasure]
  exact ⟨n, by omega, h2⟩

/-! ## signs (`sign_domain::operator||` = join of the extracted table) -/

/-- number of classes (negative, zero, positive) a sign value excludes -/
def C05.sgnMeasure (s : Sign) : Nat := (Cls.all.filter (fun c => !s.has c)).length

/-- the sign widening (the extracted join table) as a total function; `top` where the table has
    no entry (there is none: `C08.sgn_table_complete`) -/
def C05.sgnWiden (x y : Sign) : Sign := (Sign.binop .join x y).getD .top
def C05.sgnLeq (x y : Sign) : Bool := (Sign.leq x y).getD true

theorem C05.sgnWiden_eq (x y : Sign) : C05.sgnWiden x y =
    Sign.ofHas (x.has .neg || y.has .neg) (x.has .zero || y.has .zero) (x.has .pos || y.has .pos) := by
  obtain ⟨r, h⟩ := Sign.binop_total .join x y
  rw [C05.sgnWiden, h]
  exact Sign.join_eq h

theorem C05.sgnLeq_eq (x y : Sign) : C05.sgnLeq x y = Sign.incl x y := by
  rw [C05.sgnLeq, C08.sgn_leq_eq_incl]; rfl

/-- the join never excludes a class its left argument contains (the closed form on the 64 pairs) -/
theorem C05.sgn_widen_measure_le (x y : Sign) : C05.sgnMeasure (C05.sgnWiden x y) ≤ C05.sgnMeasure x := by
  rw [C05.sgnWiden_eq]
  cases x <;> cases y <;> decide

/-- it adds a class when the right argument is not below the left one (64 pairs again) -/
theorem C05.sgn_widen_measure (x y : Sign) (h : C05.sgnLeq y x = false) :
    C05.sgnMeasure (C05.sgnWiden x y) < C05.sgnMeasure x := by
  rw [C05.sgnLeq_eq] at h
  rw [C05.sgnWiden_eq]
  revert h
  cases x <;> cases y <;> decide

theorem C05.sgn_widen_wf : WellFounded (C05.StrictStep C05.sgnLeq C05.sgnWiden) :=
  C05.strictStep_wf_of_measure C05.sgnLeq C05.sgnWiden (· < ·) Nat.lt_wfRel.wf C05.sgnMeasure
    C05.sgn_widen_measure

/-- at most three strict steps from any sign value -/
theorem C05.sgn_chain_first_stationary (xs ys : Nat → Sign)
    (hstep : ∀ n, xs (n + 1) = C05.sgnWiden (xs n) (ys n)) :
    ∃ n, n ≤ 3 ∧ C05.sgnLeq (ys n) (xs n) = true := by
  obtain ⟨n, h1, h2⟩ := C05.chain_first_stationary C05.sgnLeq C05.sgnWiden C05.sgnMeasure
    C05.sgn_widen_measure xs ys hstep
  have : C05.sgnMeasure (xs 0) ≤ 3 := by cases xs 0 <;> decide
  exact ⟨n, by omega, h2⟩

/-! ## the interval domain (`interval_domain<z_number>`) through the generic lemma -/

/-- the measure of `C05.idom_widen_measure` fits the generic lemma (lexicographic order) -/
theorem C05.idom_strictStep_wf : WellFounded (C05.StrictStep IDom.Env.leq IDom.Env.widen) :=
  C05.strictStep_wf_of_measure IDom.Env.leq IDom.Env.widen _ (Prod.lex Nat.lt_wfRel Nat.lt_wfRel).wf
    IDom.Env.wmeas (fun x y h => C05.idom_widen_measure x y h)

/-! ## non-vacuity -/

example : Cong.leq (Cong.ofInt 7) (Cong.ofInt 3) = false ∧
    Cong.widen (Cong.ofInt 3) (Cong.ofInt 7) = ⟨false, 4, 3⟩ ∧
    Cong.leq (Cong.ofInt 5) ⟨false, 4, 3⟩ = false ∧
    Cong.widen ⟨false, 4, 3⟩ (Cong.ofInt 5) = ⟨false, 2, 1⟩ := by decide

example : C05.sgnLeq .gtz .eqz = false ∧ C05.sgnWiden .eqz .gtz = .gez ∧
    C05.sgnMeasure .gez < C05.sgnMeasure .eqz := by decide +kernel

example : Cst.leq (.val 2) (.val 1) = false ∧ Cst.widen (.val 1) (.val 2) = .top := by decide
