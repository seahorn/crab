import CrabProofs.Lemmas.RelDomItvEnv
import CrabProofs.Props.C03

/-!
# C03 for the canonical models — zones, octagons and interval environments are sound under
arbitrary histories

Models: the canonical (proved-exact, property C12) models `Crab.Zones` (difference-bound matrices,
Floyd–Warshall closure) and `Crab.Octagon` (coherent `2n × 2n` matrices, tight closure over the
integers), extended by `CrabModel/Dom/ZonesOps.lean` / `OctagonOps.lean` with `forget(vars)`,
`project`, the assignments expressible in the constraint language (defined through forget + assume,
a translation of the matrix for `x := x + k`, an exchange of literals for `x := -x`) and values
with an explicit bottom flag (`ZVal n`, `OVal n` = `Option` of a matrix).
Concretisation: `γv v σ` over integer states `σ : Fin n → Int` (`none` describes no state).

* every transformer is sound — and is even the EXACT post-image of its concrete relation
  (`C03.zones_stmt_exact`, `C03.oct_stmt_exact`: best transformers; octagons need the coherence
  invariant `OVal.Coh` for exactness only, which `C03.oct_history_coherent` maintains);
* join, meet (= narrowing of the code), widening are sound: for zones the widening IS the model of
  `split_dbm_domain::operator||` / `sparse_dbm_domain::operator||` (`Dom/DbmWiden.lean`, left
  operand unclosed); for octagons it is the textbook widening, NOT `split_oct_domain`'s
  (see `OctagonOps.lean`);
* `C03.zones_history_sound`, `C03.oct_history_sound`: instances of `C03.history_sound`.

Tie to the code: `h_exact` / `Driver/ExactH.lean` compares is_bottom / operator[] / entails of the
shipped domains with these models after every step of histories of assume / join / meet / forget,
the assignments of this file, `project` and `forget(vars)`.  The widenings of this file are NOT
exercised by that correspondence (the zones widening is, separately, by the `zw` chains of C05).
-/
open Crab Crab.Dbm

/-! ## Zones -/
section Zones
open Crab.Zones
variable {n : Nat}

/-- `+=` of one in-language constraint keeps every state that satisfies it -/
theorem C03.zones_assume_sound (z : Zone n) (c : Zones.Cst n) (σ : State n) (h : γ z σ) (hc : c.sat σ) :
    γ (assumeCst z c) σ := (Zones.assumeCst_exact z c σ).2 ⟨h, hc⟩

/-- `+=` of a system -/
theorem C03.zones_assume_system_sound (z : Zone n) (cs : List (Zones.Cst n)) (σ : State n) (h : γ z σ)
    (hc : ∀ c ∈ cs, c.sat σ) : γ (assumeAll z cs) σ := (Zones.assumeAll_exact z cs σ).2 ⟨h, hc⟩

theorem C03.zones_join_sound (a b : ZVal n) (σ : State n) (h : γv a σ ∨ γv b σ) : γv (ZVal.join a b) σ :=
  ZVal.join_upper a b σ h

theorem C03.zones_meet_sound (a b : ZVal n) (σ : State n) (ha : γv a σ) (hb : γv b σ) :
    γv (ZVal.meet a b) σ := (ZVal.meet_exact a b σ).2 ⟨ha, hb⟩

/-- `operator-=`: the state may change on `x` -/
theorem C03.zones_forget_sound (z : Zone n) (x : Fin n) (σ σ' : State n) (h : γ z σ)
    (hσ : ∀ y, y ≠ x → σ' y = σ y) : γ (forget z x) σ' := (Zones.laws n).forget_sound z x σ σ' h hσ

/-- `forget(vars)`: the state may change on the forgotten variables only -/
theorem C03.zones_forget_vector_sound (z : Zone n) (xs : List (Fin n)) (σ σ' : State n) (h : γ z σ)
    (hσ : ∀ y, y ∉ xs → σ' y = σ y) : γ (forgetAll z xs) σ' := (Zones.laws n).forgetAll_sound xs z σ σ' h hσ

/-- `project(vars)`: the state is kept on the projected variables only -/
theorem C03.zones_project_sound (z : Zone n) (keep : List (Fin n)) (σ σ' : State n) (h : γ z σ)
    (hσ : ∀ y, y ∈ keep → σ' y = σ y) : γ (project z keep) σ' :=
  (Zones.laws n).project_sound keep z σ σ' h hσ

/-- a copy describes the same states -/
theorem C03.zones_copy_sound (v : ZVal n) (σ : State n) : γv (ZVal.copy v) σ ↔ γv v σ := Iff.rfl

/-- `x := k` -/
theorem C03.zones_assign_cst_sound (z : Zone n) (x : Fin n) (k : Int) (σ : State n) (h : γ z σ) :
    γ (assignCst z x k) (updS σ x k) := (Zones.assignCst_exact z x k _).2 ⟨σ, h, rfl⟩

/-- `x := y + k` (also for `y = x`) -/
theorem C03.zones_assign_var_sound (z : Zone n) (x y : Fin n) (k : Int) (σ : State n) (h : γ z σ) :
    γ (assignVar z x y k) (updS σ x (σ y + k)) := (Zones.assignVar_exact z x y k _).2 ⟨σ, h, rfl⟩

/-- `x := x + k` translates the matrix -/
theorem C03.zones_shift_sound (z : Zone n) (x : Fin n) (k : Int) (σ : State n) (h : γ z σ) :
    γ (z.shiftBy (shiftVec x k)) (updS σ x (σ x + k)) := by
  have := C03.zones_assign_var_sound z x x k σ h
  simpa [assignVar] using this

/-- the widening of `split_dbm_domain` (left operand unclosed, right operand normalised) -/
theorem C03.zones_widen_sound (a b : ZVal n) (σ : State n) (h : γv a σ ∨ γv b σ) :
    γv (SplitDbm.widen a b) σ :=
  h.elim (widenE_upper splitEw_soundEw a b σ).1 (widenE_upper splitEw_soundEw a b σ).2

/-- the widening of `sparse_dbm_domain` -/
theorem C03.zones_sparse_widen_sound (a b : ZVal n) (σ : State n) (h : γv a σ ∨ γv b σ) :
    γv (SparseDbm.widen a b) σ :=
  h.elim (widenE_upper sparseEw_soundEw a b σ).1 (widenE_upper sparseEw_soundEw a b σ).2

/-- **every statement** (assume of a system, `x := k`, `x := y + k`, havoc, `forget(vars)`,
    `project(vars)`) on a value with bottom flag is sound … -/
theorem C03.zones_stmt_sound (st : Zones.Stmt n) (v : ZVal n) (σ σ' : State n) (h : γv v σ)
    (hr : st.rel σ σ') : γv (ZVal.exec st v) σ' := (ZVal.exec_exact st v σ').2 ⟨σ, h, hr⟩

/-- … and describes nothing but the post-image: the transformers are the best ones -/
theorem C03.zones_stmt_exact (st : Zones.Stmt n) (v : ZVal n) (σ' : State n) :
    γv (ZVal.exec st v) σ' ↔ ∃ σ, γv v σ ∧ st.rel σ σ' := ZVal.exec_exact st v σ'

/-- the steps an operation history of a zone domain is made of -/
inductive C03.ZonesStep {n : Nat} : Dom.Step (ZVal n) (State n) → Prop
  | trans (d : Nat) (st : Zones.Stmt n) : C03.ZonesStep (.trans d ⟨ZVal.exec st, st.rel⟩)
  | join (d a b : Nat) : C03.ZonesStep (.upper d a b ZVal.join)
  | widen (d a b : Nat) : C03.ZonesStep (.upper d a b SplitDbm.widen)
  | widenSparse (d a b : Nat) : C03.ZonesStep (.upper d a b SparseDbm.widen)
  | widenThresholds (d a b : Nat) (ts : List Int) :
      C03.ZonesStep (.upper d a b (fun x y => SplitDbm.widenThresholds x y ts))
  | meet (d a b : Nat) : C03.ZonesStep (.lower d a b ZVal.meet)      -- also `operator&&`
  | copy (d s : Nat) : C03.ZonesStep (.copy d s)
  | setBot (d : Nat) : C03.ZonesStep (.setBot d ZVal.bot)

theorem C03.zones_step_sound (st : Dom.Step (ZVal n) (State n)) (h : C03.ZonesStep st) : st.Sound γv := by
  cases h with
  | trans d s => exact fun a σ σ' hg hr => C03.zones_stmt_sound s a σ σ' hg hr
  | join d a b => exact fun x y σ h => C03.zones_join_sound x y σ h
  | widen d a b => exact fun x y σ h => C03.zones_widen_sound x y σ h
  | widenSparse d a b => exact fun x y σ h => C03.zones_sparse_widen_sound x y σ h
  -- `widening_thresholds` of split_dbm ignores its thresholds: it is `widen` (Dom/DbmWiden.lean)
  | widenThresholds d a b ts => exact fun x y σ h => C03.zones_widen_sound x y σ h
  | meet d a b => exact fun x y σ h1 h2 => C03.zones_meet_sound x y σ h1 h2
  | copy d s => trivial
  | setBot d => trivial

/-- **C03 for zones**: after ANY history of these operations over a pool of values, every slot
    contains the collecting semantics of the history (instance of `C03.history_sound`) -/
theorem C03.zones_history_sound (hist : List (Dom.Step (ZVal n) (State n)))
    (hs : ∀ st ∈ hist, C03.ZonesStep st) (p : Dom.Pool (ZVal n)) (c : Dom.CPool (State n))
    (h : ∀ i s, c i s → γv (p i) s) :
    ∀ i s, (Dom.collHist c hist) i s → γv ((Dom.runHist p hist) i) s :=
  C03.history_sound γv hist (fun st hst => C03.zones_step_sound st (hs st hst)) p c h

/-- a slot whose collecting semantics is inhabited is never reported bottom (neither by the flag
    nor by a negative cycle after closure) -/
theorem C03.zones_not_bottom_if_inhabited (hist : List (Dom.Step (ZVal n) (State n)))
    (hs : ∀ st ∈ hist, C03.ZonesStep st) (p : Dom.Pool (ZVal n)) (c : Dom.CPool (State n))
    (h : ∀ i s, c i s → γv (p i) s) (i : Nat) (s : State n) (hc : (Dom.collHist c hist) i s) :
    ZVal.isBottom ((Dom.runHist p hist) i) = false :=
  C03.not_bottom_if_inhabited γv ZVal.isBottom (fun a s hb => (ZVal.isBottom_iff a).1 hb s) hist
    (fun st hst => C03.zones_step_sound st (hs st hst)) p c h i s hc

/-- the interval reported for a variable contains its value in every state of the history -/
theorem C03.zones_bounds_sound (z : Zone n) (σ : State n) (h : γ z σ) (x : Fin n) :
    Itv.mem (σ x) (bounds z x) := Zones.bounds_sound z σ h x

/-! ### non-vacuity (2 variables: `x` = 0, `y` = 1) -/

/-- `x := 5; y := x + 3` from top gives `y = 8`, `y - x = 3`; then `x := x + 1` gives `x = 6`,
    `y - x ≤ 2` -/
example :
    let z : Zone 2 := assignVar (assignCst Zones.top 0 5) 1 0 3
    bounds z 1 = ⟨.fin 8, .fin 8⟩ ∧ entails z (.diff 1 0 3) = true ∧ entails z (.diff 1 0 2) = false ∧
    bounds (assignVar z 0 0 1) 0 = ⟨.fin 6, .fin 6⟩ ∧ entails (assignVar z 0 0 1) (.diff 1 0 2) = true := by
  decide +kernel

/-- a history: slot 0 := `x ≤ 3 ∧ y - x ≤ 0`; slot 1 := copy; slot 1: `x := x + 1`;
    slot 2 := slot 0 ⊔ slot 1; slot 3 := slot 0 ∇ slot 2 — the relation `y ≤ x` survives both -/
example :
    let hist : List (Dom.Step (ZVal 2) (State 2)) :=
      [.trans 0 ⟨ZVal.exec (.assume [.ub 0 3, .diff 1 0 0]), (Zones.Stmt.assume [.ub 0 3, .diff 1 0 0]).rel⟩,
       .copy 1 0, .trans 1 ⟨ZVal.exec (.assignVar 0 0 1), (Zones.Stmt.assignVar 0 0 1).rel⟩,
       .upper 2 0 1 ZVal.join, .upper 3 0 2 SplitDbm.widen]
    let p := Dom.runHist (fun _ => ZVal.top) hist
    (p 2).map (fun z => (bounds z 0, entails z (.diff 1 0 0))) = some (⟨.ninf, .fin 4⟩, true) ∧
    (p 3).map (fun z => (bounds z 0, entails z (.diff 1 0 0))) = some (⟨.ninf, .pinf⟩, true) := by
  decide +kernel

example : C03.ZonesStep (n := 2) (.trans 1 ⟨ZVal.exec (.assignVar 0 0 1), (Zones.Stmt.assignVar 0 0 1).rel⟩) :=
  .trans 1 _

end Zones


/-! ## Octagons -/
section Octagons
open Crab.Octagon
variable {n : Nat}

theorem C03.oct_assume_sound (o : Oct n) (c : Octagon.Cst n) (σ : Octagon.State n) (h : γ o σ)
    (hc : c.sat σ) : γ (assumeCst o c) σ := (Octagon.assumeCst_exact o c σ).2 ⟨h, hc⟩

theorem C03.oct_assume_system_sound (o : Oct n) (cs : List (Octagon.Cst n)) (σ : Octagon.State n)
    (h : γ o σ) (hc : ∀ c ∈ cs, c.sat σ) : γ (assumeAll o cs) σ :=
  (Octagon.assumeAll_exact o cs σ).2 ⟨h, hc⟩

theorem C03.oct_join_sound (a b : OVal n) (σ : Octagon.State n) (h : γv a σ ∨ γv b σ) :
    γv (OVal.join a b) σ := OVal.join_upper a b σ h

theorem C03.oct_meet_sound (a b : OVal n) (σ : Octagon.State n) (ha : γv a σ) (hb : γv b σ) :
    γv (OVal.meet a b) σ := (OVal.meet_exact a b σ).2 ⟨ha, hb⟩

theorem C03.oct_forget_sound (o : Oct n) (x : Fin n) (σ σ' : Octagon.State n) (h : γ o σ)
    (hσ : ∀ y, y ≠ x → σ' y = σ y) : γ (forget o x) σ' := (Octagon.sound n).forget_sound o x σ σ' h hσ

theorem C03.oct_forget_vector_sound (o : Oct n) (xs : List (Fin n)) (σ σ' : Octagon.State n) (h : γ o σ)
    (hσ : ∀ y, y ∉ xs → σ' y = σ y) : γ (forgetAll o xs) σ' := (Octagon.sound n).forgetAll_sound xs o σ σ' h hσ

theorem C03.oct_project_sound (o : Oct n) (keep : List (Fin n)) (σ σ' : Octagon.State n) (h : γ o σ)
    (hσ : ∀ y, y ∈ keep → σ' y = σ y) : γ (project o keep) σ' :=
  (Octagon.sound n).project_sound keep o σ σ' h hσ

/-- `x := k` -/
theorem C03.oct_assign_cst_sound (o : Oct n) (x : Fin n) (k : Int) (σ : Octagon.State n) (h : γ o σ) :
    γ (assignCst o x k) (Octagon.updS σ x k) := (Octagon.assignCst_assigns o x k).sound h

/-- `x := y + k` (also for `y = x`: translation of the matrix) -/
theorem C03.oct_assign_var_sound (o : Oct n) (x y : Fin n) (k : Int) (σ : Octagon.State n) (h : γ o σ) :
    γ (assignVar o x y k) (Octagon.updS σ x (σ y + k)) := (Octagon.assignVar_assigns o x y k).sound h

/-- `x := -y + k` (also for `y = x`: exchange of the literals of `x`, then translation) -/
theorem C03.oct_assign_neg_sound (o : Oct n) (x y : Fin n) (k : Int) (σ : Octagon.State n) (h : γ o σ) :
    γ (assignNeg o x y k) (Octagon.updS σ x (-σ y + k)) := (Octagon.assignNeg_assigns o x y k).sound h

/-- the two matrix-level transformers are exact on every matrix -/
theorem C03.oct_shift_exact (o : Oct n) (x : Fin n) (k : Int) (σ' : Octagon.State n) :
    γ (o.shiftBy (Octagon.shiftVec x k)) σ' ↔ γ o (Octagon.updS σ' x (σ' x - k)) := shift_γ o x k σ'

theorem C03.oct_negate_exact (o : Oct n) (x : Fin n) (σ' : Octagon.State n) :
    γ (negate o x) σ' ↔ γ o (Octagon.updS σ' x (-σ' x)) := negate_γ o x σ'

/-- the textbook widening (kept entries of the unclosed left operand; NOT `split_oct`'s) -/
theorem C03.oct_widen_sound (a b : OVal n) (σ : Octagon.State n) (h : γv a σ ∨ γv b σ) :
    γv (OVal.widen a b) σ := OVal.widen_upper a b σ h

/-- **every statement** is sound on every value (coherent or not) … -/
theorem C03.oct_stmt_sound (st : Octagon.Stmt n) (v : OVal n) (σ σ' : Octagon.State n) (h : γv v σ)
    (hr : st.rel σ σ') : γv (OVal.exec st v) σ' := OVal.exec_sound st v σ σ' h hr

/-- … and on coherent values it describes nothing but the post-image (best transformer over the
    integers, by the completeness of the tight closure) -/
theorem C03.oct_stmt_exact (st : Octagon.Stmt n) (v : OVal n) (hco : OVal.Coh v) (σ' : Octagon.State n) :
    γv (OVal.exec st v) σ' ↔ ∃ σ, γv v σ ∧ st.rel σ σ' := OVal.exec_exact st v hco σ'

inductive C03.OctStep {n : Nat} : Dom.Step (OVal n) (Octagon.State n) → Prop
  | trans (d : Nat) (st : Octagon.Stmt n) : C03.OctStep (.trans d ⟨OVal.exec st, st.rel⟩)
  | join (d a b : Nat) : C03.OctStep (.upper d a b OVal.join)
  | widen (d a b : Nat) : C03.OctStep (.upper d a b OVal.widen)
  | meet (d a b : Nat) : C03.OctStep (.lower d a b OVal.meet)        -- also `operator&&`
  | copy (d s : Nat) : C03.OctStep (.copy d s)
  | setBot (d : Nat) : C03.OctStep (.setBot d OVal.bot)

theorem C03.oct_step_sound (st : Dom.Step (OVal n) (Octagon.State n)) (h : C03.OctStep st) :
    st.Sound γv := by
  cases h with
  | trans d s => exact fun a σ σ' hg hr => C03.oct_stmt_sound s a σ σ' hg hr
  | join d a b => exact fun x y σ h => C03.oct_join_sound x y σ h
  | widen d a b => exact fun x y σ h => C03.oct_widen_sound x y σ h
  | meet d a b => exact fun x y σ h1 h2 => C03.oct_meet_sound x y σ h1 h2
  | copy d s => trivial
  | setBot d => trivial

/-- **C03 for octagons** (instance of `C03.history_sound`) -/
theorem C03.oct_history_sound (hist : List (Dom.Step (OVal n) (Octagon.State n)))
    (hs : ∀ st ∈ hist, C03.OctStep st) (p : Dom.Pool (OVal n)) (c : Dom.CPool (Octagon.State n))
    (h : ∀ i s, c i s → γv (p i) s) :
    ∀ i s, (Dom.collHist c hist) i s → γv ((Dom.runHist p hist) i) s :=
  C03.history_sound γv hist (fun st hst => C03.oct_step_sound st (hs st hst)) p c h

theorem C03.oct_not_bottom_if_inhabited (hist : List (Dom.Step (OVal n) (Octagon.State n)))
    (hs : ∀ st ∈ hist, C03.OctStep st) (p : Dom.Pool (OVal n)) (c : Dom.CPool (Octagon.State n))
    (h : ∀ i s, c i s → γv (p i) s) (i : Nat) (s : Octagon.State n) (hc : (Dom.collHist c hist) i s) :
    OVal.isBottom ((Dom.runHist p hist) i) = false :=
  C03.not_bottom_if_inhabited γv OVal.isBottom (fun a s hb => OVal.isBottom_sound a hb s) hist
    (fun st hst => C03.oct_step_sound st (hs st hst)) p c h i s hc

/-- storing a value with the property keeps a pool of values with the property -/
theorem C03.pool_set_inv {A : Type} {P : A → Prop} {p : Dom.Pool A} (hp : ∀ i, P (p i)) (d : Nat)
    {v : A} (hv : P v) (i : Nat) : P (p.set d v i) := Dom.Fct.pool_set_inv hp d hv i

/-- coherence (`m i j = m j̄ ī`, the hypothesis of the exactness theorems of C04 / C12) holds of
    every slot after any history started from coherent values -/
theorem C03.oct_history_coherent (hist : List (Dom.Step (OVal n) (Octagon.State n)))
    (hs : ∀ st ∈ hist, C03.OctStep st) (p : Dom.Pool (OVal n)) (hp : ∀ i, OVal.Coh (p i)) :
    ∀ i, OVal.Coh ((Dom.runHist p hist) i) :=
  Dom.Fct.runHist_preserves OVal.Coh hist (fun st hst => by
    cases hs st hst with
    | trans d s => exact OVal.coh_exec s
    | join d a b => exact OVal.coh_join
    | widen d a b => exact OVal.coh_widen
    | meet d a b => exact OVal.coh_meet
    | copy d s => trivial
    | setBot d => exact OVal.coh_bot (n := n)) p hp

/-- one step keeps every slot coherent -/
theorem C03.oct_step_coherent (st : Dom.Step (OVal n) (Octagon.State n)) (h : C03.OctStep st)
    (p : Dom.Pool (OVal n)) (hp : ∀ i, OVal.Coh (p i)) : ∀ i, OVal.Coh ((st.run p) i) :=
  C03.oct_history_coherent [st] (fun _ hx => List.mem_singleton.1 hx ▸ h) p hp

theorem C03.oct_bounds_sound (o : Oct n) (σ : Octagon.State n) (h : γ o σ) (x : Fin n) :
    Itv.mem (σ x) (bounds o x) := Octagon.bounds_sound o σ h x

/-! ### non-vacuity (2 variables: `x` = 0, `y` = 1) -/

/-- `x := 5; y := -x + 3` gives `y = -2`, `x + y = 3`; then `x := -x + 1` gives `x = -4` and
    `y - x ≤ 2` (from `x + y ≤ 3` and `x ↦ 1 - x`) -/
example :
    let o : Oct 2 := assignNeg (assignCst Octagon.top 0 5) 1 0 3
    bounds o 1 = ⟨.fin (-2), .fin (-2)⟩ ∧ entails o (.sum 0 1 3) = true ∧ entails o (.sum 0 1 2) = false ∧
    bounds (assignNeg o 0 0 1) 0 = ⟨.fin (-4), .fin (-4)⟩ ∧ entails (assignNeg o 0 0 1) (.diff 1 0 2) = true ∧
    bounds (assignVar o 0 0 2) 0 = ⟨.fin 7, .fin 7⟩ := by
  decide +kernel

/-- a history with a join and a widening: `x + y ≤ 4` survives, the bound of `x` is widened away -/
example :
    let hist : List (Dom.Step (OVal 2) (Octagon.State 2)) :=
      [.trans 0 ⟨OVal.exec (.assume [.ub 0 3, .sum 0 1 4]), (Octagon.Stmt.assume [.ub 0 3, .sum 0 1 4]).rel⟩,
       .copy 1 0, .trans 1 ⟨OVal.exec (.assignVar 0 0 1), (Octagon.Stmt.assignVar 0 0 1).rel⟩,
       .trans 1 ⟨OVal.exec (.assignVar 1 1 (-1)), (Octagon.Stmt.assignVar 1 1 (-1)).rel⟩,
       .upper 2 0 1 OVal.join, .upper 3 0 2 OVal.widen]
    let p := Dom.runHist (fun _ => OVal.top) hist
    (p 2).map (fun o => (bounds o 0, entails o (.sum 0 1 4))) = some (⟨.ninf, .fin 4⟩, true) ∧
    (p 3).map (fun o => (bounds o 0, entails o (.sum 0 1 4))) = some (⟨.ninf, .pinf⟩, true) := by
  decide +kernel

end Octagons

/-! ## Interval environments (the canonical non-relational reference model of C12)

The same instance for `Crab.ItvEnv` (language `±x ≤ k`; `x := k` by forget + assume, every other
assignment is a havoc; pointwise interval widening).  The branch-by-branch model of the shipped
`interval_domain` is `Crab.IDom` (Props/C03Itv.lean); this section only completes the picture for
the three canonical models of C12. -/
section ItvEnvs
open Crab.ItvEnv
variable {n : Nat}

theorem C03.itvenv_assume_sound (e : Env n) (cs : List (ItvEnv.Cst n)) (σ : ItvEnv.State n) (h : γ e σ)
    (hc : ∀ c ∈ cs, c.sat σ) : γ (assumeAll e cs) σ := (ItvEnv.assumeAll_exact e cs σ).2 ⟨h, hc⟩

theorem C03.itvenv_forget_sound (e : Env n) (x : Fin n) (σ σ' : ItvEnv.State n) (h : γ e σ)
    (hσ : ∀ y, y ≠ x → σ' y = σ y) : γ (forget e x) σ' := ItvEnv.forget_sound e x σ σ' h hσ

theorem C03.itvenv_assign_cst_sound (e : Env n) (x : Fin n) (k : Int) (σ : ItvEnv.State n) (h : γ e σ) :
    γ (assignCst e x k) (ItvEnv.updS σ x k) := ItvEnv.assignCst_sound e x k σ h

theorem C03.itvenv_stmt_sound (st : ItvEnv.Stmt n) (e : Env n) (σ σ' : ItvEnv.State n) (h : γ e σ)
    (hr : st.rel σ σ') : γ (st.exec e) σ' := ItvEnv.Stmt.exec_sound st e σ σ' h hr

/-- on well-formed environments the transformers are the best ones -/
theorem C03.itvenv_stmt_exact (st : ItvEnv.Stmt n) (e : Env n) (hw : EnvWF e) (σ' : ItvEnv.State n) :
    γ (st.exec e) σ' ↔ ∃ σ, γ e σ ∧ st.rel σ σ' := ItvEnv.Stmt.exec_exact st e hw σ'

theorem C03.itvenv_widen_sound (a b : Env n) (σ : ItvEnv.State n) (h : γ a σ ∨ γ b σ) : γ (widen a b) σ :=
  ItvEnv.widen_upper a b σ h

/-- `setBot` may store any value: the collecting semantics of the slot is empty -/
inductive C03.ItvEnvStep {n : Nat} : Dom.Step (Env n) (ItvEnv.State n) → Prop
  | trans (d : Nat) (st : ItvEnv.Stmt n) : C03.ItvEnvStep (.trans d ⟨st.exec, st.rel⟩)
  | join (d a b : Nat) : C03.ItvEnvStep (.upper d a b ItvEnv.join)
  | widen (d a b : Nat) : C03.ItvEnvStep (.upper d a b ItvEnv.widen)
  | meet (d a b : Nat) : C03.ItvEnvStep (.lower d a b ItvEnv.meet)
  | copy (d s : Nat) : C03.ItvEnvStep (.copy d s)
  | setBot (d : Nat) (b : Env n) : C03.ItvEnvStep (.setBot d b)

theorem C03.itvenv_step_sound (st : Dom.Step (Env n) (ItvEnv.State n)) (h : C03.ItvEnvStep st) :
    st.Sound γ := by
  cases h with
  | trans d s => exact fun a σ σ' hg hr => C03.itvenv_stmt_sound s a σ σ' hg hr
  | join d a b => exact fun x y σ h => ItvEnv.join_upper x y σ h
  | widen d a b => exact fun x y σ h => ItvEnv.widen_upper x y σ h
  | meet d a b => exact fun x y σ h1 h2 => (ItvEnv.meet_exact x y σ).2 ⟨h1, h2⟩
  | copy d s => trivial
  | setBot d b => trivial

theorem C03.itvenv_history_sound (hist : List (Dom.Step (Env n) (ItvEnv.State n)))
    (hs : ∀ st ∈ hist, C03.ItvEnvStep st) (p : Dom.Pool (Env n)) (c : Dom.CPool (ItvEnv.State n))
    (h : ∀ i s, c i s → γ (p i) s) :
    ∀ i s, (Dom.collHist c hist) i s → γ ((Dom.runHist p hist) i) s :=
  C03.history_sound γ hist (fun st hst => C03.itvenv_step_sound st (hs st hst)) p c h

theorem C03.itvenv_not_bottom_if_inhabited (hist : List (Dom.Step (Env n) (ItvEnv.State n)))
    (hs : ∀ st ∈ hist, C03.ItvEnvStep st) (p : Dom.Pool (Env n)) (c : Dom.CPool (ItvEnv.State n))
    (h : ∀ i s, c i s → γ (p i) s) (i : Nat) (s : ItvEnv.State n) (hc : (Dom.collHist c hist) i s) :
    isBottom ((Dom.runHist p hist) i) = false :=
  C03.not_bottom_if_inhabited γ isBottom (fun _ s hb => ItvEnv.not_γ_of_isBottom hb s) hist
    (fun st hst => C03.itvenv_step_sound st (hs st hst)) p c h i s hc

/-- well-formedness (hypothesis of the exactness theorems) is kept by every statement and widening
    (join / meet / forget / assume: `C12.itv_wf_invariant`) -/
theorem C03.itvenv_wf_invariant :
    (∀ (st : ItvEnv.Stmt n) (e : Env n), EnvWF e → EnvWF (st.exec e)) ∧
    (∀ a b : Env n, EnvWF a → EnvWF b → EnvWF (widen a b)) :=
  ⟨ItvEnv.Stmt.exec_WF, fun _ _ ha hb => ItvEnv.EnvWF_widen ha hb⟩

example :
    let e : Env 2 := assignCst (assumeAll ItvEnv.top [.ub 1 7, .lb 1 2]) 0 5
    bounds e 0 = ⟨.fin 5, .fin 5⟩ ∧ bounds e 1 = ⟨.fin (-2), .fin 7⟩ ∧
    bounds (widen e (assignCst e 0 6)) 0 = ⟨.fin 5, .pinf⟩ := by decide +kernel

end ItvEnvs
