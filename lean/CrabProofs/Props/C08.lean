import CrabProofs.Lemmas.IntervalMul

/-!
# C08 — scalar value abstractions are sound, interval arithmetic is tight

Property theorems only (helper lemmas live in `CrabProofs/Lemmas`).  `Crab.Itv` is the
branch-by-branch model of `ikos::interval<z_number>`; `Itv.mem k i` is `k ∈ γ(i)`.
The statements quantify over all intervals (all bounds, finite or infinite, bottom included) and
all integers; those about definedness and `narrow_below` assume `Itv.WF`, which every interval
built through the public interface satisfies.
-/
open Crab Crab.Itv

/-! the inclusion test: a yes answer is an inclusion of concretisations; it is reflexive, with least element bottom and greatest element top -/

theorem C08.itv_leq_sound (a b : Itv) (h : leq a b = true) (k : Int) (hk : mem k a) : mem k b :=
  leq_sound h hk
theorem C08.itv_leq_refl (a : Itv) : leq a a = true := leq_refl a
theorem C08.itv_bot_leq (b : Itv) : leq bot b = true := bot_leq b
theorem C08.itv_leq_top (a : Itv) : leq a top = true := leq_top a

/-! join is an upper bound and the least one for the order -/

theorem C08.itv_join_upper (a b : Itv) (k : Int) (hk : mem k a ∨ mem k b) : mem k (join a b) :=
  hk.elim join_upper_left join_upper_right
theorem C08.itv_join_least (a b c : Itv) (ha : leq a c = true) (hb : leq b c = true) :
    leq (join a b) c = true := join_least ha hb

/-- meet is exact: it describes precisely the common members -/
theorem C08.itv_meet_exact (a b : Itv) (k : Int) : mem k (meet a b) ↔ (mem k a ∧ mem k b) :=
  ⟨meet_exact, fun ⟨h1, h2⟩ => meet_sound h1 h2⟩

/-- widening is an upper bound of both operands -/
theorem C08.itv_widen_upper (a b : Itv) (k : Int) (hk : mem k a ∨ mem k b) : mem k (widen a b) :=
  hk.elim widen_upper_left widen_upper_right

/-! narrowing keeps the common members and stays inside its left operand -/

theorem C08.itv_narrow_sound (a b : Itv) (k : Int) (ha : mem k a) (hb : mem k b) : mem k (narrow a b) :=
  narrow_sound ha hb
theorem C08.itv_narrow_below (a b : Itv) (hw : a.WF) (k : Int) (h : mem k (narrow a b)) : mem k a :=
  narrow_le_left hw h

/-! `+`, `-`, unary `-`, `*` are sound; on well-formed operands `+`/`-` never raise CRAB_ERROR -/

theorem C08.itv_add_sound (x y r : Itv) (a b : Int) (ha : mem a x) (hb : mem b y)
    (h : add x y = some r) : mem (a + b) r := add_sound ha hb h
theorem C08.itv_add_defined (x y : Itv) (hx : x.WF) (hy : y.WF) : (add x y).isSome = true :=
  add_defined hx hy
theorem C08.itv_sub_sound (x y r : Itv) (a b : Int) (ha : mem a x) (hb : mem b y)
    (h : sub x y = some r) : mem (a - b) r := sub_sound ha hb h
theorem C08.itv_sub_defined (x y : Itv) (hx : x.WF) (hy : y.WF) : (sub x y).isSome = true :=
  sub_defined hx hy
theorem C08.itv_neg_exact (x : Itv) (k : Int) : mem k (neg x) ↔ mem (-k) x :=
  ⟨neg_exact, fun h => by have := neg_sound h; simpa using this⟩
theorem C08.itv_mul_sound (x y : Itv) (a b : Int) (ha : mem a x) (hb : mem b y) :
    mem (a * b) (mul x y) := mul_sound ha hb

/-- non-vacuity: the hypotheses are met by concrete non-trivial values -/
example : mem 3 (⟨.fin (-2), .pinf⟩ : Itv) ∧ mem (-7) (⟨.ninf, .fin 0⟩ : Itv) ∧
    (⟨.fin (-2), .pinf⟩ : Itv).WF ∧ mul ⟨.fin (-2), .pinf⟩ ⟨.ninf, .fin 0⟩ = top := by
  refine ⟨by decide, by decide, ⟨by simp, by simp⟩, by decide⟩
