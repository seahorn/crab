import CrabProofs.Lemmas.FunctorProductOps
import CrabProofs.Lemmas.FunctorPowerset
import CrabProofs.Lemmas.FunctorHistory
import CrabProofs.Lemmas.FunctorInst
import CrabProofs.Lemmas.FunctorPackingBin
import CrabProofs.Props.C03Functors

/-!
# C04 for the domain COMBINATORS — inclusion test and lattice operations vs. concretisation

Functor models: `Crab.Dom.Fct.Prod2` (combined_domains.hpp), `Crab.Dom.Fct.PSet`
(powerset_domain.hpp), `Crab.Dom.Fct.PK` (numerical_packing.hpp, second half of the file), over an
arbitrary base `LDom S`.  Each theorem names the base laws it uses as hypotheses
(`LDom.LeqRefl`, `LeqTop`, `TopSound`, `MeetLower`, ...): soundness laws are fields of `LDom`,
precision laws are not.

Anchor mechanism "component-wise order and canonical bottom in products":
* a yes of `operator<=` is an inclusion (`product_leq_sound`), it is reflexive, bottom is below
  and top above everything;
* `canonicalize()` keeps the meaning, sets the flag exactly when the flag or a component test says
  bottom, and then stores THE bottom triple (`product_canonical_bottom`);
* completeness fails by design: the order is component-wise and nothing re-reduces the pair, so
  an empty meet of two non-bottom components is not bottom (`product_is_bottom_incomplete`) and
  equal concretisations can be incomparable (`product_leq_incomplete`);
* `is_top()` and the early returns of `&` / `&&` do not read `m_is_bottom`; they are right on
  values where a set flag implies empty components (`Prod2.WF`, an invariant of every operation as
  long as the component transformers map empty values to empty values: `product_wf_history`).
-/
open Crab Crab.Dom Crab.Dom.Fct

/-! ## products -/

/-- a yes answer of `operator<=` is an inclusion of concretisations -/
theorem C04.product_leq_sound {S : Type} {D1 D2 : LDom S} (p q : Prod2 D1 D2) (s : S)
    (h : Prod2.leq p q = true) (hg : p.γ s) : q.γ s := Prod2.leq_sound h hg

theorem C04.product_leq_refl {S : Type} {D1 D2 : LDom S} (h1 : D1.LeqRefl) (h2 : D2.LeqRefl)
    (p : Prod2 D1 D2) : Prod2.leq p p = true := Prod2.leq_refl h1 h2 p

/-- every value that `is_bottom()` recognises is below everything; `make_bottom()` is such a value
    as soon as one component recognises its own bottom, and it is empty in any case -/
theorem C04.product_bot_le {S : Type} {D1 D2 : LDom S} (p q : Prod2 D1 D2) (h : p.isBottom = true) :
    Prod2.leq p q = true := Prod2.leq_of_isBottom h q

theorem C04.product_make_bottom {S : Type} {D1 D2 : LDom S} (h : D1.BotIsBot ∨ D2.BotIsBot) :
    (Prod2.bottom : Prod2 D1 D2).isBottom = true ∧ ∀ s, ¬ (Prod2.bottom : Prod2 D1 D2).γ s :=
  ⟨Prod2.isBottom_bottom h, Prod2.not_γ_bottom⟩

theorem C04.product_le_top {S : Type} {D1 D2 : LDom S} (h1 : D1.TopNotBot) (h2 : D2.TopNotBot)
    (l1 : D1.LeqTop) (l2 : D2.LeqTop) (p : Prod2 D1 D2) : Prod2.leq p Prod2.top = true :=
  Prod2.leq_top h1 h2 l1 l2 p

theorem C04.product_make_top {S : Type} {D1 D2 : LDom S} (h1 : D1.TopNotBot) (h2 : D2.TopNotBot)
    (t1 : D1.TopIsTop) (t2 : D2.TopIsTop) :
    (Prod2.top : Prod2 D1 D2).isTop = true ∧ (Prod2.top : Prod2 D1 D2).isBottom = false ∧
      ∀ s, (Prod2.top : Prod2 D1 D2).γ s :=
  ⟨(Prod2.top_isTop_not_isBottom h1 h2 t1 t2).1, (Prod2.top_isTop_not_isBottom h1 h2 t1 t2).2, Prod2.γ_top⟩

/-- `|`, `|=` and every widening built from upper bounds of the components are upper bounds -/
theorem C04.product_join_upper {S : Type} {D1 D2 : LDom S} (p q : Prod2 D1 D2) (s : S) (h : p.γ s ∨ q.γ s) :
    (Prod2.join p q).γ s ∧ (Prod2.joinEq p q).γ s ∧ (Prod2.widen p q).γ s :=
  ⟨Prod2.join_sound h, Prod2.joinEq_sound h, Prod2.widenWith_sound D1.uSound_widen D2.uSound_widen h⟩

/-- `&` is a lower bound (on well-formed values, for components whose meet is one) -/
theorem C04.product_meet_lower {S : Type} {D1 D2 : LDom S} (m1 : D1.MeetLower) (m2 : D2.MeetLower)
    (t1 : D1.TopSound) (t2 : D2.TopSound) (p q : Prod2 D1 D2) (hp : p.WF) (hq : q.WF) (s : S)
    (h : (Prod2.meet p q).γ s) : p.γ s ∧ q.γ s := Prod2.meet_lower m1 m2 t1 t2 hp hq h

/-- ... hence exact -/
theorem C04.product_meet_iff {S : Type} {D1 D2 : LDom S} (m1 : D1.MeetLower) (m2 : D2.MeetLower)
    (t1 : D1.TopSound) (t2 : D2.TopSound) (p q : Prod2 D1 D2) (hp : p.WF) (hq : q.WF) (s : S) :
    (Prod2.meet p q).γ s ↔ (p.γ s ∧ q.γ s) :=
  ⟨Prod2.meet_lower m1 m2 t1 t2 hp hq, fun h => Prod2.meet_sound h.1 h.2⟩

theorem C04.product_narrow_lower {S : Type} {D1 D2 : LDom S} (n1 : D1.NarrowLower) (n2 : D2.NarrowLower)
    (t1 : D1.TopSound) (t2 : D2.TopSound) (p q : Prod2 D1 D2) (hp : p.WF) (s : S)
    (h : (Prod2.narrow p q).γ s) : p.γ s := Prod2.narrow_lower n1 n2 t1 t2 hp h

theorem C04.product_is_bottom_sound {S : Type} {D1 D2 : LDom S} (p : Prod2 D1 D2) (s : S)
    (h : p.isBottom = true) : ¬ p.γ s := Prod2.not_γ_of_isBottom h s

theorem C04.product_is_top_sound {S : Type} {D1 D2 : LDom S} (t1 : D1.TopSound) (t2 : D2.TopSound)
    (p : Prod2 D1 D2) (hw : p.WF) (s : S) (h : p.isTop = true) : p.γ s := Prod2.γ_of_isTop t1 t2 hw h s

/-- **canonical bottom**: `canonicalize()` keeps the meaning; afterwards the flag is set iff it was
    set or a component is recognised as bottom; a bottom component of an unflagged value makes the
    whole value the bottom triple; a second call changes nothing. -/
theorem C04.product_canonical_bottom {S : Type} {D1 D2 : LDom S} (p : Prod2 D1 D2) :
    (∀ s, p.canonicalize.γ s ↔ p.γ s) ∧
    p.canonicalize.isBot = p.isBottom ∧
    (p.isBot = false → (D1.isBot p.fst = true ∨ D2.isBot p.snd = true) →
      p.canonicalize = ⟨true, D1.bot, D2.bot⟩) ∧
    p.canonicalize.canonicalize = p.canonicalize :=
  ⟨Prod2.γ_canonicalize p, Prod2.canonicalize_isBottom p, Prod2.canonicalize_of_component_bottom,
   Prod2.canonicalize_idem p⟩

/-- every constructor and lattice operation yields a well-formed value; a transformer keeps
    well-formedness when the component transformers are strict -/
theorem C04.product_wf_step {S V : Type} {D1 D2 : LDom S} (P : Prod2.NParams)
    (red : V → D1.B → D2.B → D1.B × D2.B) (op : Prod2.Op D1 D2 V)
    (hop : match op with
      | .meth _ _ f1 f2 _ => D1.Strict f1 ∧ D2.Strict f2
      | .nmeth _ _ f1 f2 _ _ => D1.Strict f1 ∧ D2.Strict f2
      | _ => True) : Step.Preserves Prod2.WF (op.toStep P red) := by
  cases op with
  | meth d m f1 f2 r => exact fun _ => Prod2.wf_op m hop.1 hop.2
  | nmeth d m f1 f2 vs r => exact fun _ => Prod2.wf_nop P red m hop.1 hop.2 vs
  | join d a b => exact fun _ _ => Prod2.wf_join
  | joinEq d a b => exact fun _ _ => Prod2.wf_joinEq
  | meet d a b => exact fun _ _ => Prod2.wf_meet
  | meetEq d a b => exact fun _ _ => Prod2.wf_meetEq
  | widen d a b w1 w2 => exact fun a b _ _ => Prod2.wf_widenWith w1 w2 a b
  | narrow d a b => exact fun _ _ => Prod2.wf_narrow
  | copy d s => trivial
  | setTop d => exact fun _ _ => Prod2.wf_top
  | setBottom d => exact Prod2.wf_bottom

theorem C04.product_wf_history {S V : Type} {D1 D2 : LDom S} (P : Prod2.NParams)
    (red : V → D1.B → D2.B → D1.B × D2.B) (ops : List (Prod2.Op D1 D2 V))
    (hops : ∀ op ∈ ops, match op with
      | .meth _ _ f1 f2 _ => D1.Strict f1 ∧ D2.Strict f2
      | .nmeth _ _ f1 f2 _ _ => D1.Strict f1 ∧ D2.Strict f2
      | _ => True)
    (p : Pool (Prod2 D1 D2)) (h0 : ∀ i, (p i).WF) : ∀ i, (runHist p (Prod2.toHist P red ops) i).WF :=
  runHist_preserves Prod2.WF _ (List.forall_mem_map.2 fun op hop => C04.product_wf_step P red op (hops op hop))
    p h0

/-! ### completeness fails by design -/

/-- "every value without states is recognised by `is_bottom()`" -/
def C04.product_is_bottom_complete_Statement : Prop :=
  ∀ (S : Type) (D1 D2 : LDom S) (p : Prod2 D1 D2), (∀ s, ¬ p.γ s) → p.isBottom = true

/-- it holds when the emptiness is visible in the flag or in ONE component whose own test is exact -/
theorem C04.product_is_bottom_complete_partial {S : Type} {D1 D2 : LDom S} (c1 : D1.BotComplete)
    (c2 : D2.BotComplete) (p : Prod2 D1 D2)
    (h : p.isBot = true ∨ (∀ s, ¬ D1.γ p.fst s) ∨ (∀ s, ¬ D2.γ p.snd s)) : p.isBottom = true := by
  unfold Prod2.isBottom
  rcases h with h | h | h
  · simp [h]
  · simp [c1 _ h]
  · simp [c2 _ h]

/-- x = 1 ∧ x ≡ 0 (mod 2) has no state, neither component is bottom -/
theorem C04.product_is_bottom_incomplete :
    ∃ p : Prod2 itvDom congDom, (∀ s, ¬ p.γ s) ∧ p.isBottom = false := by
  refine ⟨Prod2.mk' (WItv.mk 1 1) (Cong.mk' 2 0), ?_, by decide⟩
  intro s hs
  rw [Prod2.γ_mk'] at hs
  have h1 : s = 1 := (Itv.mem_single s 1).1 hs.1
  have h2 : (2 : Int) ∣ s - 0 := (Cong.mem_mk' s 2 0).1 hs.2
  subst h1
  omega

theorem C04.product_is_bottom_complete_counterexample : ¬ C04.product_is_bottom_complete_Statement := by
  intro h
  obtain ⟨p, hp, hb⟩ := C04.product_is_bottom_incomplete
  rw [h Int itvDom congDom p hp] at hb
  exact absurd hb (by decide)

/-- "an inclusion of concretisations is answered yes" -/
def C04.product_leq_complete_Statement : Prop :=
  ∀ (S : Type) (D1 D2 : LDom S) (p q : Prod2 D1 D2), (∀ s, p.γ s → q.γ s) → Prod2.leq p q = true

/-- `([0,1], 0 mod 2)` and `([0,0], top)` both describe exactly {0}; neither is `<=` the other:
    `[0,1] <= [0,0]` and `top <= 0 mod 2` fail component-wise -/
theorem C04.product_leq_incomplete :
    ∃ p q : Prod2 itvDom congDom, (∀ s, p.γ s ↔ s = 0) ∧ (∀ s, q.γ s ↔ s = 0) ∧
      Prod2.leq p q = false ∧ Prod2.leq q p = false := by
  refine ⟨Prod2.mk' (WItv.mk 0 1) (Cong.mk' 2 0), Prod2.mk' (WItv.mk 0 0) Cong.top, ?_, ?_, by decide, by decide⟩
  · intro s
    rw [Prod2.γ_mk']
    constructor
    · rintro ⟨h1, h2⟩
      have h1 : Itv.mem s ⟨.fin 0, .fin 1⟩ := h1
      have h2 : (2 : Int) ∣ s - 0 := (Cong.mem_mk' s 2 0).1 h2
      simp only [Itv.mem, Bound.le, decide_eq_true_eq] at h1
      omega
    · rintro rfl
      exact ⟨show Itv.mem 0 _ by decide, (Cong.mem_mk' 0 2 0).2 (by decide)⟩
  · intro s
    rw [Prod2.γ_mk']
    constructor
    · rintro ⟨h1, _⟩
      exact (Itv.mem_single s 0).1 h1
    · rintro rfl
      exact ⟨show Itv.mem 0 _ by decide, Cong.mem_top 0⟩

theorem C04.product_leq_complete_counterexample : ¬ C04.product_leq_complete_Statement := by
  intro h
  obtain ⟨p, q, hp, hq, hl, _⟩ := C04.product_leq_incomplete
  rw [h Int itvDom congDom p q (fun s hs => (hq s).2 ((hp s).1 hs))] at hl
  exact absurd hl (by decide)

/-- the order is complete when both component orders are and the left value is not empty in a
    way the components do not see: a partial converse of `product_leq_sound` -/
theorem C04.product_leq_complete_partial {S : Type} {D1 D2 : LDom S} (p q : Prod2 D1 D2)
    (h1 : D1.leq p.fst q.fst = true) (h2 : D2.leq p.snd q.snd = true) (hq : q.isBottom = false) :
    Prod2.leq p q = true := by
  unfold Prod2.leq
  cases hp : p.isBottom <;> simp [hq, h1, h2]

/-! ## powerset -/

theorem C04.powerset_leq_sound {S : Type} {D : LDom S} (t : D.TopSound) (a b : PSet D) (s : S)
    (h : PSet.leq a b = true) (hg : PSet.γ a s) : PSet.γ b s := PSet.leq_sound t h hg

theorem C04.powerset_leq_refl {S : Type} {D : LDom S} (hr : D.LeqRefl) (a : PSet D) : PSet.leq a a = true :=
  PSet.leq_refl hr a

theorem C04.powerset_bot_le {S : Type} {D : LDom S} (a b : PSet D) (h : PSet.isBottom a = true) :
    PSet.leq a b = true := PSet.leq_of_isBottom h b

theorem C04.powerset_le_top {S : Type} {D : LDom S} (ht : D.TopIsTop) (a : PSet D) : PSet.leq a PSet.top = true :=
  PSet.leq_top ht a

theorem C04.powerset_is_bottom_sound {S : Type} {D : LDom S} (a : PSet D) (s : S) (h : PSet.isBottom a = true) :
    ¬ PSet.γ a s := PSet.not_γ_of_isBottom h s

theorem C04.powerset_is_top_sound {S : Type} {D : LDom S} (t : D.TopSound) (a : PSet D) (s : S)
    (h : PSet.isTop a = true) : PSet.γ a s := PSet.γ_of_isTop t h s

/-- `make_top()` / `make_bottom()` (and the empty vector that `+=` can leave) -/
theorem C04.powerset_make_top_bottom {S : Type} {D : LDom S} :
    (∀ s, PSet.γ (PSet.top : PSet D) s) ∧ (∀ s, ¬ PSet.γ (PSet.bottom : PSet D) s) ∧
    (∀ s, ¬ PSet.γ ([] : PSet D) s) ∧ PSet.isBottom ([] : PSet D) = true ∧
    (D.BotIsBot → PSet.isBottom (PSet.bottom : PSet D) = true) ∧
    (D.TopIsTop → PSet.isTop (PSet.top : PSet D) = true) := by
  refine ⟨PSet.γ_top, PSet.not_γ_bottom, PSet.not_γ_nil, rfl, ?_, ?_⟩
  · intro h; have h' : D.isBot D.bot = true := h; simp [PSet.isBottom, PSet.bottom, h']
  · intro h; have h' : D.isTop D.top = true := h; simp [PSet.isTop, PSet.top, h']

theorem C04.powerset_join_upper {S : Type} {D : LDom S} (t : D.TopSound) (P : PParams) (a b : PSet D) (s : S)
    (h : PSet.γ a s ∨ PSet.γ b s) :
    PSet.γ (PSet.join P a b) s ∧ PSet.γ (PSet.joinEq P a b) s ∧ PSet.γ (PSet.widen a b) s :=
  ⟨(C03.powerset_join_sound t P a b s h).1, (C03.powerset_join_sound t P a b s h).2,
    C03.powerset_widen_sound _ D.uSound_widen a b s h⟩

/-- "the meet is a lower bound" -/
def C04.powerset_meet_lower_Statement : Prop :=
  ∀ (S : Type) (D : LDom S), D.TopSound → D.MeetLower → ∀ (P : PParams) (a b : PSet D) (s : S),
    PSet.γ (PSet.meet P a b) s → PSet.γ a s ∧ PSet.γ b s

/-- it holds for the exact meet as long as the result is not smashed -/
theorem C04.powerset_meet_lower_partial {S : Type} {D : LDom S} (t : D.TopSound) (m : D.MeetLower) (P : PParams)
    (a b : PSet D) (hex : P.exactMeet = true)
    (hlen : (PSet.normalizeIfTop (PSet.meetPairs a b)).length ≤ P.maxDisjuncts) (s : S)
    (h : PSet.γ (PSet.meet P a b) s) : PSet.γ a s ∧ PSet.γ b s := by
  unfold PSet.meet at h
  rw [if_pos hex] at h
  unfold PSet.meetWith at h
  split at h
  · exact absurd h (PSet.not_γ_bottom s)
  · split at h
    · rename_i ht; exact ⟨PSet.γ_of_isTop t ht s, h⟩
    · split at h
      · rename_i ht; exact ⟨h, PSet.γ_of_isTop t ht s⟩
      · unfold PSet.ofVec at h
        simp only at h
        rw [if_neg (by omega)] at h
        exact PSet.meetPairs_lower m (PSet.normalizeIfTop_lower t h)

/-- by design it fails without `powerset_exact_meet`: `{[0,0],[2,2]} & {[1,1]}` is `{[1,1]}`
    (both operands are smashed first) -/
theorem C04.powerset_meet_lower_counterexample : ¬ C04.powerset_meet_lower_Statement := by
  intro h
  have := h Int itvDom itvDom_topSound itvDom_meetLower ⟨8, false⟩ [WItv.mk 0 0, WItv.mk 2 2] [WItv.mk 1 1] 1
    ⟨WItv.mk 1 1, by decide, show Itv.mem 1 _ by decide⟩
  obtain ⟨d, hd, hg⟩ := this.1
  simp only [List.mem_cons, List.mem_nil_iff, or_false] at hd
  rcases hd with rfl | rfl
  · exact absurd hg (show ¬ Itv.mem 1 _ by decide)
  · exact absurd hg (show ¬ Itv.mem 1 _ by decide)

/-- ... and with the exact meet when `max_disjuncts` forces a smash of the result -/
theorem C04.powerset_meet_lower_counterexample_smash :
    ∃ (a : PSet itvDom) (s : Int), PSet.γ (PSet.meet ⟨1, true⟩ a a) s ∧ ¬ PSet.γ a s := by
  refine ⟨[WItv.mk 0 0, WItv.mk 2 2], 1, ⟨WItv.mk 0 2, by decide, show Itv.mem 1 _ by decide⟩, ?_⟩
  rintro ⟨d, hd, hg⟩
  simp only [List.mem_cons, List.mem_nil_iff, or_false] at hd
  rcases hd with rfl | rfl
  · exact absurd hg (show ¬ Itv.mem 1 _ by decide)
  · exact absurd hg (show ¬ Itv.mem 1 _ by decide)

/-- "an inclusion of concretisations is answered yes": fails by design (a disjunct must fit in
    ONE disjunct of the right operand): `{[0,2]}` vs `{[0,1],[2,2]}` -/
def C04.powerset_leq_complete_Statement : Prop :=
  ∀ (S : Type) (D : LDom S) (a b : PSet D), (∀ s, PSet.γ a s → PSet.γ b s) → PSet.leq a b = true

theorem C04.powerset_leq_incomplete :
    ∃ a b : PSet itvDom, (∀ s, PSet.γ a s → PSet.γ b s) ∧ PSet.leq a b = false ∧ PSet.leq b a = true := by
  refine ⟨[WItv.mk 0 2], [WItv.mk 0 1, WItv.mk 2 2], ?_, by decide, by decide⟩
  rintro s ⟨d, hd, hg⟩
  simp only [List.mem_cons, List.mem_nil_iff, or_false] at hd
  subst hd
  have hg : Itv.mem s ⟨.fin 0, .fin 2⟩ := hg
  simp only [Itv.mem, Bound.le, decide_eq_true_eq] at hg
  by_cases h : s ≤ 1
  · refine ⟨WItv.mk 0 1, by simp, ?_⟩
    show Itv.mem s ⟨.fin 0, .fin 1⟩
    simp only [Itv.mem, Bound.le, decide_eq_true_eq]; omega
  · refine ⟨WItv.mk 2 2, by simp, ?_⟩
    show Itv.mem s ⟨.fin 2, .fin 2⟩
    simp only [Itv.mem, Bound.le, decide_eq_true_eq]; omega

theorem C04.powerset_leq_complete_counterexample : ¬ C04.powerset_leq_complete_Statement := by
  intro h
  obtain ⟨a, b, hab, hl, _⟩ := C04.powerset_leq_incomplete
  rw [h Int itvDom a b hab] at hl
  exact absurd hl (by decide)

/-- partial converse: when every non-bottom disjunct of the left fits in one disjunct of the right -/
theorem C04.powerset_leq_complete_partial {S : Type} {D : LDom S} (a b : PSet D)
    (h : ∀ x ∈ a, D.isBot x = true ∨ ∃ y ∈ b, D.leq x y = true) : PSet.leq a b = true := by
  unfold PSet.leq
  split
  · rfl
  · apply List.all_eq_true.2
    intro x hx
    rcases h x hx with h | ⟨y, hy, hl⟩
    · simp [h]
    · simp only [Bool.or_eq_true]; exact Or.inr (List.any_eq_true.2 ⟨y, hy, hl⟩)

/-! ## numerical packing -/

/-- a yes answer of `operator<=` (early tests, then `union_find_domain::operator<=`: every class
    of the right operand must contain the left class of each of its variables, with a smaller base
    value) is an inclusion of concretisations -/
theorem C04.packing_leq_sound {V : Type} [DecidableEq V] {N : NDom V} (t : N.TopSound) (a b : PK N) (hb : b.WF)
    (s : St V) (h : PK.leq a b = true) (hg : PK.γc a s) : PK.γc b s := PK.leq_sound t hb h hg

theorem C04.packing_leq_refl {V : Type} [DecidableEq V] {N : NDom V} (hr : N.LeqRefl) (a : PK N) (hw : a.WF) :
    PK.leq a a = true := PK.leq_refl hr hw

theorem C04.packing_bot_le {V : Type} [DecidableEq V] {N : NDom V} (a b : PK N) (h : PK.isBottom a = true) :
    PK.leq a b = true := PK.leq_of_isBottom h b

theorem C04.packing_le_top {V : Type} [DecidableEq V] {N : NDom V} (a : PK N) : PK.leq a PK.top = true :=
  PK.leq_top a

theorem C04.packing_is_bottom_sound {V : Type} [DecidableEq V] {N : NDom V} (a : PK N) (s : St V)
    (h : PK.isBottom a = true) : ¬ PK.γc a s := PK.not_γc_of_isBottom h s

theorem C04.packing_is_top_sound {V : Type} [DecidableEq V] {N : NDom V} (t : N.TopSound) (a : PK N) (s : St V)
    (h : PK.isTop a = true) : PK.γc a s := PK.γc_of_isTop t h s

/-- `make_top()` (the empty union-find) describes every state and is recognised -/
theorem C04.packing_make_top {V : Type} [DecidableEq V] {N : NDom V} :
    (∀ s, PK.γc (PK.top : PK N) s) ∧ PK.isTop (PK.top : PK N) = true ∧ PK.isBottom (PK.top : PK N) = false ∧
    PK.isBottom (PK.bot : PK N) = true := ⟨PK.γc_top, rfl, rfl, rfl⟩

/-- `|` / `||` are upper bounds, `&` / `&&` keep the common states (whenever a value is returned) -/
theorem C04.packing_join_upper {V : Type} [DecidableEq V] {N : NDom V} (t : N.TopSound) (a b : PK N) (ha : a.WF)
    (hb : b.WF) (res : PK N) (s : St V) (hs : PK.γc a s ∨ PK.γc b s) :
    (PK.joinWith N.join a b = some res → PK.γc res s) ∧ (PK.joinWith N.widen a b = some res → PK.γc res s) :=
  ⟨fun h => PK.joinWith_sound t N.uSound_join ha hb h hs, fun h => PK.joinWith_sound t N.uSound_widen ha hb h hs⟩

theorem C04.packing_meet_sound {V : Type} [DecidableEq V] {N : NDom V} (a b : PK N) (ha : a.WF) (hb : b.WF)
    (res : PK N) (s : St V) (hsa : PK.γc a s) (hsb : PK.γc b s) :
    (PK.meetWith N.meet a b = some res → PK.γc res s) ∧ (PK.meetWith N.narrow a b = some res → PK.γc res s) :=
  ⟨fun h => PK.meetWith_sound N.meet_sound ha hb h hsa hsb, fun h => PK.meetWith_sound N.narrow_sound ha hb h hsa hsb⟩

/-- the partition of the result of `join_or_widening` / `meet_or_narrowing` is a common coarsening:
    `b2`, the merged right operand, coarsens both restricted operands (`PK.MergeAllSpec.finest`), and every
    class of `b2` lies inside a class of the result `Z` (`ufJoin_spec`) -/
theorem C04.packing_join_aligned {V : Type} [DecidableEq V] {N : NDom V} (g : N.B → N.B → N.B) (a b : List (Pack N))
    (ha : PK.WFl a) (hb : PK.WFl b) (res : PK N) (h : PK.ufJoin g a b = some res) :
    ∃ b2 Z, PK.mergeAll (fun _ => N.top) (PK.restrictTo a b) (PK.restrictTo b a) = some b2 ∧ res = .packs Z ∧
      PK.WFl Z ∧ PK.Coarser Z b2 ∧ PK.Coarser b2 (PK.restrictTo a b) ∧ PK.Coarser b2 (PK.restrictTo b a) := by
  obtain ⟨b2, Z, sp⟩ := PK.ufJoin_spec ha hb h
  exact ⟨b2, Z, sp.merged, sp.res_eq, sp.wfl, sp.aligned, sp.above_a, sp.above_b⟩
