import CrabProofs.Lemmas.XDomCstOps

/-!
# C04 for `constant_domain<z_number>` — inclusion test, lattice operations, `is_bottom`, `is_top`
and `entails` agree with the concretisation (proved on the exact model `Crab.CDom`, see
`Props/C03Cst.lean` for the model, the correspondence and the hypotheses `Inv`, `CstOk`)
-/
open Crab Crab.CDom Crab.XDom Crab.Lin

/-- a yes answer of `operator<=` is an inclusion of concretisations -/
theorem C04.cstdom_leq_sound (a b : Env) (ha : a.Inv) (hb : b.Inv) (σ : State)
    (h : XDom.Env.leq cstLattice a b = true) (hg : a.γ σ) : b.γ σ := XDom.Env.leq_sound cstLaws ha hb h hg

/-- yes on equal values, with bottom on the left, with top on the right -/
theorem C04.cstdom_leq_refl (a : Env) (ha : a.Inv) : XDom.Env.leq cstLattice a a = true :=
  XDom.Env.leq_refl cstLaws ha
theorem C04.cstdom_bot_le (b : Env) : XDom.Env.leq cstLattice CDom.Env.bot b = true :=
  XDom.Env.leq_of_bot rfl b
theorem C04.cstdom_leq_bottom_left (a b : Env) (h : a.isBot = true) : XDom.Env.leq cstLattice a b = true :=
  XDom.Env.leq_of_bot h b
theorem C04.cstdom_le_top (a : Env) (ha : a.Inv) : XDom.Env.leq cstLattice a CDom.Env.top = true :=
  XDom.Env.leq_top cstLaws ha

/-- `is_bottom()` answers yes exactly on the values that describe no state -/
theorem C04.cstdom_is_bottom_iff (e : Env) (he : e.Inv) : XDom.Env.isBottom e = true ↔ ∀ σ, ¬ e.γ σ :=
  XDom.Env.isBottom_iff cstLaws he

/-- `is_top()` answers yes exactly on the values that describe every state -/
theorem C04.cstdom_is_top_iff (e : Env) (he : e.Inv) : XDom.Env.isTop e = true ↔ ∀ σ, e.γ σ :=
  XDom.Env.isTop_iff cstLaws he

/-- `make_bottom` describes no state, `make_top` describes every state -/
theorem C04.cstdom_bot_empty (σ : State) : ¬ CDom.Env.bot.γ σ := XDom.Env.not_γ_bot σ
theorem C04.cstdom_top_all (σ : State) : CDom.Env.top.γ σ := XDom.Env.γ_top cstLaws σ
theorem C04.cstdom_top_is_top : XDom.Env.isTop CDom.Env.top = true ∧ XDom.Env.isBottom CDom.Env.bot = true := by
  decide

/-- join contains both arguments -/
theorem C04.cstdom_join_upper (a b : Env) (ha : a.Inv) (hb : b.Inv) (σ : State) (h : a.γ σ ∨ b.γ σ) :
    Env.γ (XDom.Env.join cstLattice a b) σ := XDom.Env.upper_sound cstLaws cstLaws.join ha hb h

/-- meet is below both arguments … -/
theorem C04.cstdom_meet_lower (a b : Env) (ha : a.Inv) (hb : b.Inv) (σ : State)
    (h : Env.γ (XDom.Env.meet cstLattice a b) σ) : a.γ σ ∧ b.γ σ :=
  XDom.Env.lower_below cstLaws cstLaws.meet (fun x y k hk => (C08.cst_meet_exact x y k).mp hk) ha hb h

/-- … and describes exactly the common states -/
theorem C04.cstdom_meet_iff (a b : Env) (ha : a.Inv) (hb : b.Inv) (σ : State) :
    Env.γ (XDom.Env.meet cstLattice a b) σ ↔ (a.γ σ ∧ b.γ σ) :=
  ⟨C04.cstdom_meet_lower a b ha hb σ, fun ⟨h1, h2⟩ => XDom.Env.lower_sound cstLaws cstLaws.meet ha hb h1 h2⟩

/-- widening (`operator||`, `widening_thresholds`) contains both arguments -/
theorem C04.cstdom_widen_upper (a b : Env) (ha : a.Inv) (hb : b.Inv) (σ : State) (h : a.γ σ ∨ b.γ σ) :
    Env.γ (XDom.Env.widen cstLattice a b) σ := XDom.Env.upper_sound cstLaws cstLaws.widen ha hb h

/-- narrowing keeps the common states -/
theorem C04.cstdom_narrow_sound (a b : Env) (ha : a.Inv) (hb : b.Inv) (σ : State) (h1 : a.γ σ) (h2 : b.γ σ) :
    Env.γ (XDom.Env.narrow cstLattice a b) σ := XDom.Env.lower_sound cstLaws cstLaws.narrow ha hb h1 h2

/-- `entails(cst)` (`DEFAULT_ENTAILS`): a yes answer holds in every state of `γ` -/
theorem C04.cstdom_entails_sound (e : Env) (he : e.Inv) (σ : State) (c : Lin.Cst) (hc : CstOk c) (hg : e.γ σ)
    (h : e.entails c = true) : c.sat σ := CDom.Env.entails_sound he hg hc h

/-- non-vacuity: `{x = 3} <= {x = 3}`, not `<= {x = 4}`; `{x = 3}` entails `x - 5 <= 0` -/
example : XDom.Env.leq cstLattice (CDom.Env.top.set 0 (.val 3)) (CDom.Env.top.set 0 (.val 3)) = true ∧
    XDom.Env.leq cstLattice (CDom.Env.top.set 0 (.val 3)) (CDom.Env.top.set 0 (.val 4)) = false ∧
    (CDom.Env.top.set 0 (.val 3)).entails ⟨(Expr.var 0).subNum 5, .leq⟩ = true ∧
    XDom.Env.bindings (XDom.Env.join cstLattice (CDom.Env.top.set 0 (.val 3)) (CDom.Env.top.set 0 (.val 4))) = [] := by
  decide +kernel
