import CrabProofs.Lemmas.CrawlCtrlMain
import CrabProofs.Lemmas.CrawlCtrlSpec
import CrabProofs.Props.C18Crawler

/-!
# C18 (control part) — the control dependences of the REPAIRED code over-approximate the real ones

Models: `CrabModel/Transform/Cdg.lean` (`Prog.cdgModel` = `graph_algo::control_dep_graph` after the
fixes d60f473 / e25485d: post-dominance frontiers by the walk of `graph_algo_impl::dominance` up
the immediate-post-dominator tree, plus the blocks reachable from a branch with a successor that
cannot reach the exit; Boost's `lengauer_tarjan_dominator_tree` is modelled by its specification)
and `CrabModel/Transform/Crawler.lean` (`crawl CrawlVariant.fixed` = the crawler after 747e96f /
631458b).  Lemmas: `CrabProofs/Lemmas/CrawlCtrl*.lean`.

Notions (all w.r.t. the exit block `x`; `avoid_iff_path` restates `Avoid` with paths as lists):
  `Avoid P x S n`  some path from `n` to `x` has no block in `S`;
  `PDom P x y n`   every path from `n` to `x` contains `y`;  `CoReach P x n`  `n` reaches `x`.

Proved, for every well-formed CFG (no size bound):
* `C18.pdom_decided`, `C18.coReach_decided`: the boolean tests of the model (`pdomB`,
  `coReachable`) decide post-dominance / reachability of the exit;
  `C18.ipdom_spec`: what the model takes for Boost's `idom[n]` IS the immediate post-dominator
  (a strict post-dominator of `n` that every strict post-dominator of `n` post-dominates), and it
  exists for every block other than the exit that reaches the exit (`C18.ipdom_exists`).
* `C18.cdg_sound` (definition of Ferrante/Ottenstein/Warren = paths TO THE EXIT): if `s1`, `s2` are
  successors of `b`, `s1` reaches the exit, every path from `s1` to the exit passes through `n`
  and some path from `s2` to the exit avoids `n`, then `n` is listed under `b` in the model of the
  repaired `control_dep_graph`.  For a loop header `n = b` (fix d60f473).
  `C18.cdg_sound_escape` (blocks that cannot reach the exit, fix e25485d; this is where the
  definition by maximal paths is needed): if `b` has two successors, one of them cannot reach
  the exit (or there is no exit block), then every block reachable from a successor of `b` is
  listed under `b`.  (Dependences through non-termination of a region that CAN reach the exit are
  not in the graph -- `differCtrl` does not judge runs that are cut by the bound either.)
* `C18.cdg_model_ok`, `C18.cdg_covers_ok`: the model, and every graph that contains it, passes the
  decidable test `isCdgOK` that the crawler theorem needs.
* `C18.crawler_model_isCtrlSol`: the fixpoint of the model of the repaired crawler, for ANY
  control-dependence graph, satisfies the control inequations `isCtrlSol`.
* `C18.crawler_ctrl_sound_partial`: for ANY answer `F` and graph `g` passing the three decidable
  tests `isDataSol`, `isCtrlSol`, `isCdgOK` (the driver runs them on the implementation's answer
  for every program): a variable not listed for assertion `a` at the entry of block `l` is not
  `RelevantCtrl` there -- paired executions under one scheduler that may take different paths.
* `C18.crawler_ctrl_sound`: the full statement for the repaired code: model of the crawler run
  with the model of cdg.hpp, every well-formed CFG (also with blocks that cannot reach the exit
  or without exit block).
* `C18.crawler_ctrl_sound_old`: the OLD full statement `C18.crawler_ctrl_sound_Statement` (false
  for `CrawlVariant.cur`: `C18.crawler_ctrl_counterexample`) HOLDS for the repaired variant.  It
  takes the graph `P.cdgSpec x` of the definition as input (Ferrante/Ottenstein/Warren with the
  iterative post-dominator table `Prog.pdom`) and is restricted to CFGs all of whose blocks reach
  the exit; `C18.pdom_table_correct`: there the table holds exactly the post-dominators, hence the
  graph is complete (`C18.cdg_spec_ok`).  `C18.crawler_ctrl_sound` is the statement about the code:
  graph of cdg.hpp, every CFG.
* Defect of the real code found with the tie (M) of `Driver/CrawlCH.lean`:
  `C18.cdg_impl_counterexample` (dominance.hpp initialises the DFS numbers with 0).
-/
open Crab Crab.TIR

/-! ### post-dominance is decided by the model -/

theorem C18.pdom_decided (P : Prog) (hwf : P.wf = true) (x y n : Label) (hn : n ∈ P.labels) :
    P.pdomB x y n = true ↔ PDom P x y n :=
  pdomB_iff (WFp.of_wf hwf) hn

theorem C18.coReach_decided (P : Prog) (hwf : P.wf = true) (x l : Label) (hx : x ∈ P.labels) :
    l ∈ P.coReachable x ↔ CoReach P x l :=
  mem_coReachable (WFp.of_wf hwf) hx

/-- `Avoid` / `PDom` in terms of paths as lists of blocks -/
theorem C18.pdom_paths (P : Prog) (x y n : Label) :
    PDom P x y n ↔ ∀ π, isPath P (n :: π) = true → (n :: π).getLast? = some x → y ∈ n :: π := by
  unfold PDom
  rw [avoid_iff_path]
  constructor
  · intro h π h1 h2
    apply Classical.byContradiction
    intro hy
    exact h ⟨π, h1, h2, fun m hm e => hy (e ▸ hm)⟩
  · rintro h ⟨π, h1, h2, h3⟩
    exact h3 y (h π h1 h2) rfl

/-- the model's `idom[n]` (specification of Boost's result on the reversed CFG) is the immediate
    post-dominator -/
theorem C18.ipdom_spec (P : Prog) (hwf : P.wf = true) (x n p : Label) (hx : P.exit = some x) (hn : n ∈ P.labels)
    (h : P.ipdom x (P.coReachable x) n = some p) :
    p ≠ n ∧ PDom P x p n ∧ ∀ y, y ≠ n → PDom P x y n → PDom P x y p := by
  obtain ⟨_, h1, h2, _, h3⟩ := ipdom_some (WFp.of_wf hwf) ((WFp.of_wf hwf).exit x hx) hn h
  exact ⟨h1, h2, h3⟩

theorem C18.ipdom_exists (P : Prog) (hwf : P.wf = true) (x n : Label) (hx : P.exit = some x) (hn : n ∈ P.labels)
    (hco : CoReach P x n) (hnx : n ≠ x) : ∃ p, P.ipdom x (P.coReachable x) n = some p :=
  Crab.TIR.ipdom_exists (WFp.of_wf hwf) ((WFp.of_wf hwf).exit x hx) hn hco hnx

/-! ### the control-dependence graph -/

/-- THE MODEL OF THE REPAIRED cdg.hpp CONTAINS EVERY CONTROL DEPENDENCE (paths to the exit) -/
theorem C18.cdg_sound (P : Prog) (hwf : P.wf = true) (x b n s1 s2 : Label) (hx : P.exit = some x)
    (hb : b ∈ P.labels) (h1 : s1 ∈ P.succsOf b) (h2 : s2 ∈ P.succsOf b)
    (hreach : CoReach P x s1) (hall : PDom P x n s1) (havoid : Avoid P x (· = n) s2) :
    n ∈ P.cdgModel.kids b := by
  apply (cdgModel_complete (WFp.of_wf hwf)).fow x b s1 n hx hb h1 hreach hall
  rintro ⟨hnb, hpd⟩
  exact hpd (Avoid.step (fun e => hnb e.symm) h2 havoid)

/-- ... and the blocks behind a branch with a successor that cannot reach the exit -/
theorem C18.cdg_sound_escape (P : Prog) (hwf : P.wf = true) (b n s1 s2 : Label) (hb : b ∈ P.labels)
    (h1 : s1 ∈ P.succsOf b) (h2 : s2 ∈ P.succsOf b) (hne : s1 ≠ s2)
    (hesc : ∀ x, P.exit = some x → ¬ CoReach P x s2 ∨ ¬ CoReach P x s1) (hn : GPath P.succsOf s1 n) :
    n ∈ P.cdgModel.kids b := by
  have h2l := two_le_of_mem_ne h1 h2 hne
  by_cases hc : ∀ x, P.exit = some x → ¬ CoReach P x s2
  · exact (cdgModel_complete (WFp.of_wf hwf)).escape b s2 s1 n hb h2l h2 hc h1 hn
  · refine (cdgModel_complete (WFp.of_wf hwf)).escape b s1 s1 n hb h2l h1 ?_ h1 hn
    intro x hx
    rcases hesc x hx with h | h
    · exact absurd (fun x' hx' => by rw [hx] at hx'; cases hx'; exact h) hc
    · exact h

theorem C18.cdg_model_ok (P : Prog) (hwf : P.wf = true) : isCdgOK P P.cdgModel = true :=
  isCdgOK_of_complete (WFp.of_wf hwf) (cdgModel_complete (WFp.of_wf hwf))

theorem C18.cdg_covers_ok (P : Prog) (hwf : P.wf = true) (g : Cdg) (hc : g.covers P.cdgModel = true) :
    isCdgOK P g = true :=
  isCdgOK_of_complete (WFp.of_wf hwf) (CdgComplete.of_covers hc (cdgModel_complete (WFp.of_wf hwf)))

/-! ### the crawler -/

/-- the fixpoint of the model of the repaired crawler solves the control inequations, for any
    control-dependence graph and any block order that covers the blocks -/
theorem C18.crawler_model_isCtrlSol (P : Prog) (g : Cdg) (order : List Label) (M : InMap) (hwf : P.wf = true)
    (hord : ∀ l, l ∈ P.labels → l ∈ order) (h : crawl CrawlVariant.fixed P g order = some M) :
    isCtrlSol P g M.get = true :=
  crawl_isCtrlSol P g order M (WFp.of_wf hwf).nodup hord h

-- the hypothesis `hl` is part of the statement; the proof does not need it
set_option linter.unusedVariables false in
/-- ANY ANSWER that passes the three decidable tests: a variable that is not listed for `a` at the
    entry of `l` is not relevant there (data and control dependences) -/
theorem C18.crawler_ctrl_sound_partial (P : Prog) (g : Cdg) (F : Label → Facts) (hwf : P.wf = true)
    (hdata : isDataSol P F = true) (hctrl : isCtrlSol P g F = true) (hg : isCdgOK P g = true)
    (a : AId) (l : Label) (y : Var) (hl : l ∈ P.labels) (hy : y ∉ (F l).get a) : ¬ RelevantCtrl P a l 0 y :=
  not_relevantCtrl_any (WFp.of_wf hwf) hdata hctrl hg a hy

/-- FULL statement for version `v` of the crawler run with the control-dependence graph of the
    repaired cdg.hpp (its model), on every well-formed CFG.  (`C18.crawler_ctrl_sound_Statement`,
    C18Crawler.lean, is the earlier formulation: graph of the definition, only CFGs all of whose
    blocks reach the exit.) -/
def C18.crawler_ctrl_sound_Statement' (v : CrawlVariant) : Prop :=
  ∀ (P : Prog) (order : List Label) (M : InMap),
    P.wf = true → (∀ l, l ∈ P.labels → l ∈ order) → crawl v P P.cdgModel order = some M →
    ∀ (a : AId) (l : Label) (y : Var), l ∈ P.labels → y ∉ (M.get l).get a → ¬ RelevantCtrl P a l 0 y

/-- THE REPAIRED CODE IS SOUND FOR CONTROL DEPENDENCES -/
theorem C18.crawler_ctrl_sound : C18.crawler_ctrl_sound_Statement' CrawlVariant.fixed := by
  intro P order M hwf hord h a l y hl hy
  exact C18.crawler_ctrl_sound_partial P P.cdgModel M.get hwf
    (C18.crawler_model_isDataSol CrawlVariant.fixed P P.cdgModel order M hwf hord h)
    (C18.crawler_model_isCtrlSol P P.cdgModel order M hwf hord h)
    (C18.cdg_model_ok P hwf) a l y hl hy

/-- the repaired crawler with ANY graph that passes `isCdgOK` (e.g. one that contains the model) -/
theorem C18.crawler_ctrl_sound_any_graph (P : Prog) (g : Cdg) (order : List Label) (M : InMap) (hwf : P.wf = true)
    (hord : ∀ l, l ∈ P.labels → l ∈ order) (hg : isCdgOK P g = true)
    (h : crawl CrawlVariant.fixed P g order = some M)
    (a : AId) (l : Label) (y : Var) (hl : l ∈ P.labels) (hy : y ∉ (M.get l).get a) : ¬ RelevantCtrl P a l 0 y :=
  C18.crawler_ctrl_sound_partial P g M.get hwf
    (C18.crawler_model_isDataSol CrawlVariant.fixed P g order M hwf hord h)
    (C18.crawler_model_isCtrlSol P g order M hwf hord h) hg a l y hl hy

/-- the iterative post-dominator table of the specification (`Prog.pdom`, `|blocks| + 2` rounds)
    is correct when every block reaches the exit -/
theorem C18.pdom_table_correct (P : Prog) (hwf : P.wf = true) (x n y : Label) (hx : P.exit = some x)
    (hall : ∀ l, l ∈ P.labels → l ∈ P.coReachable x) (hn : n ∈ P.labels) (hy : y ∈ P.labels) :
    (P.pdom x n).contains y = true ↔ PDom P x y n :=
  pdom_table_iff (WFp.of_wf hwf) ((WFp.of_wf hwf).exit x hx)
    (fun l hl => (mem_coReachable (WFp.of_wf hwf) ((WFp.of_wf hwf).exit x hx)).mp (hall l hl)) hn hy

/-- the graph of the definition passes the test when every block reaches the exit -/
theorem C18.cdg_spec_ok (P : Prog) (hwf : P.wf = true) (x : Label) (hx : P.exit = some x)
    (hall : ∀ l, l ∈ P.labels → l ∈ P.coReachable x) : isCdgOK P (P.cdgSpec x) = true :=
  isCdgOK_of_complete (WFp.of_wf hwf) (cdgSpec_complete (WFp.of_wf hwf) hx
    (fun l hl => (mem_coReachable (WFp.of_wf hwf) ((WFp.of_wf hwf).exit x hx)).mp (hall l hl)))

/-- THE OLD FULL STATEMENT (C18Crawler.lean; false for the tree before the repairs) holds for the
    repaired crawler -/
theorem C18.crawler_ctrl_sound_old : C18.crawler_ctrl_sound_Statement CrawlVariant.fixed := by
  intro P x order M hwf hx hall hord h a l y hl hy
  exact C18.crawler_ctrl_sound_any_graph P (P.cdgSpec x) order M hwf hord (C18.cdg_spec_ok P hwf x hx hall) h
    a l y hl hy

/-! ### non-vacuity -/

/-- the diamond `if (v0 <= 0) v1 := 0 else v1 := 1; assert(v1 <= 0)` (`C18.progCtrlDef`): the model
    of cdg.hpp makes both branch blocks control dependent on `b0`; the repaired crawler lists the
    branch variable `v0` for the assertion at `b0`; all hypotheses of the theorems hold (the order
    covers the blocks, the answer passes the three tests); and `v0` IS relevant there -- so it
    must be listed: the old code did not (`C18.crawler_ctrl_counterexample`) -/
theorem C18.crawler_ctrl_diamond_example :
    C18.progCtrlDef.wf = true ∧ C18.progCtrlDef.cdgModel = [(0, [1, 2])] ∧
    (crawl CrawlVariant.fixed C18.progCtrlDef C18.progCtrlDef.cdgModel [3, 1, 2, 0]).map
      (fun M => (((M.get 0).get (3, 0)).contains 0, isDataSol C18.progCtrlDef M.get,
        isCtrlSol C18.progCtrlDef C18.progCtrlDef.cdgModel M.get)) = some (true, true, true) ∧
    isCdgOK C18.progCtrlDef C18.progCtrlDef.cdgModel = true ∧
    RelevantCtrl C18.progCtrlDef (3, 0) 0 0 0 :=
  ⟨by decide +kernel, by decide +kernel, by decide +kernel, by decide +kernel, C18.crawler_ctrl_relevant_progCtrlDef⟩

/-- `while (v0 <= 0) { v0++; v1++ }  assert(v1 <= 0)`: the assertion sits after the loop -/
def C18.progLoopAfter : Prog :=
  { nvars := 2, entry := 0, exit := some 3, hasFd := false, ins := [], outs := [],
    blocks := [⟨0, [], [1], []⟩,
               ⟨1, [], [2, 3], [0, 2]⟩,
               ⟨2, [.assume ⟨.le, ⟨0, [(1, 0)]⟩⟩, .bin .add 0 (.var 0) (.const 1), .bin .add 1 (.var 1) (.const 1)], [1], [1]⟩,
               ⟨3, [.assume ⟨.le, ⟨1, [(-1, 0)]⟩⟩, .assert ⟨.le, ⟨0, [(1, 1)]⟩⟩], [], [1]⟩] }

/-- the loop: the header `b1` and the body `b2` are control dependent on the header (the
    self-dependence is what fix d60f473 added); the variable `v0` of the exit condition is listed
    for the assertion after the loop at the entry block, and it is relevant there (with `v0 = 0`
    the body runs once and the assertion fails, with `v0 = 1` it holds) -/
theorem C18.crawler_ctrl_loop_example :
    C18.progLoopAfter.wf = true ∧ C18.progLoopAfter.cdgModel = [(1, [2, 1])] ∧
    (crawl CrawlVariant.fixed C18.progLoopAfter C18.progLoopAfter.cdgModel [3, 2, 1, 0]).map
      (fun M => (((M.get 0).get (3, 1)).contains 0, isDataSol C18.progLoopAfter M.get,
        isCtrlSol C18.progLoopAfter C18.progLoopAfter.cdgModel M.get)) = some (true, true, true) ∧
    isCdgOK C18.progLoopAfter C18.progLoopAfter.cdgModel = true ∧
    RelevantCtrl C18.progLoopAfter (3, 1) 0 0 0 :=
  ⟨by decide +kernel, by decide +kernel, by decide +kernel, by decide +kernel,
   ⟨fun _ => 0, 1, fun _ _ => 0, fun _ _ _ => 0, 8, by decide +kernel⟩⟩

/-- the assertion in the loop header (`C18.progLoopHeader`) and the branch into a block that
    cannot reach the exit (`C18.progSink`): the repaired graph has the dependences the old one
    lacked, and the repaired crawler lists `v0` (cf. `C18.crawler_ctrl_self_loop_counterexample`,
    `C18.crawler_ctrl_sink_counterexample`) -/
theorem C18.crawler_ctrl_repaired_examples :
    C18.progLoopHeader.cdgModel = [(1, [2, 1])] ∧
    (crawl CrawlVariant.fixed C18.progLoopHeader C18.progLoopHeader.cdgModel [3, 2, 1, 0]).map
      (fun M => ((M.get 0).get (1, 0)).contains 0) = some true ∧
    C18.progSink.cdgModel = [(0, [1, 2])] ∧
    (crawl CrawlVariant.fixed C18.progSink C18.progSink.cdgModel [1, 2, 0]).map
      (fun M => ((M.get 0).get (2, 1)).contains 0) = some true := by
  decide +kernel

/-- the hypotheses of `C18.cdg_sound` are satisfiable: in the diamond, `b1` post-dominates the
    successor `b1` of `b0`, and the path `b2 b3` avoids it -/
example : CoReach C18.progCtrlDef 3 1 ∧ PDom C18.progCtrlDef 3 1 1 ∧ Avoid C18.progCtrlDef 3 (· = 1) 2 :=
  ⟨GPath.step (by decide +kernel) (GPath.refl 3), PDom.refl _ _ _,
   Avoid.step (by decide +kernel) (show 3 ∈ C18.progCtrlDef.succsOf 2 by decide +kernel) (Avoid.here (by decide +kernel))⟩

/-! ### the real code: Boost's dominator tree is called with DFS numbers initialised to 0 -/

/-- `b0 -> {b1, b2}; b1 -> b5; b2 -> {b3, b4}; b4 -> b5; b3` has no successor, `b5` is the exit -/
def C18.progDom : Prog :=
  { nvars := 1, entry := 0, exit := some 5, hasFd := false, ins := [], outs := [],
    blocks := [⟨0, [], [1, 2], []⟩, ⟨1, [], [5], [0]⟩, ⟨2, [], [3, 4], [0]⟩, ⟨3, [], [], [2]⟩,
               ⟨4, [], [5], [2]⟩, ⟨5, [], [], [1, 4]⟩] }

/-- what `graph_algo::control_dep_graph` of the tree as it is answers on `progDom` (h_crawl) -/
def C18.progDomImplGraph : Cdg := [(0, [1, 2, 5]), (2, [3, 4, 5])]

/-- DEFECT (dominance.hpp, `dominator_tree`: `df_num(num_vertices(g), 0)`): the vertices that the
    root of the reversed CFG does not reach keep DFS number 0, Boost's test for unreachable
    predecessors never fires, `b2` (it has the successor `b3` that cannot reach the exit) gets the
    unreachable `b3` as semidominator and no immediate dominator; the walk from `b2` stops there.
    `b4` is control dependent on `b0` by the definition (every path from `b2` to the exit passes
    through `b4`, the path `b1 b5` avoids it), the model of cdg.hpp lists it (`C18.cdg_sound`),
    the implementation's graph does not.  The implementation's graph still passes `isCdgOK`, so
    the crawler theorem `C18.crawler_ctrl_sound_partial` applies to the answers of the real code
    on this program. -/
theorem C18.cdg_impl_counterexample :
    C18.progDom.wf = true ∧
    (1 ∈ C18.progDom.succsOf 0 ∧ 2 ∈ C18.progDom.succsOf 0 ∧ CoReach C18.progDom 5 2 ∧
      PDom C18.progDom 5 4 2 ∧ Avoid C18.progDom 5 (· = 4) 1) ∧
    4 ∈ C18.progDom.cdgModel.kids 0 ∧ 4 ∉ C18.progDomImplGraph.kids 0 ∧
    isCdgOK C18.progDom C18.progDomImplGraph = true := by
  refine ⟨by decide +kernel, ⟨by decide +kernel, by decide +kernel, ?_, ?_, ?_⟩, by decide +kernel, by decide +kernel, by decide +kernel⟩
  · exact GPath.step (show 4 ∈ C18.progDom.succsOf 2 by decide +kernel)
      (GPath.step (show 5 ∈ C18.progDom.succsOf 4 by decide +kernel) (GPath.refl 5))
  · exact (C18.pdom_decided C18.progDom (by decide +kernel) 5 4 2 (by decide +kernel)).mp (by decide +kernel)
  · exact Avoid.step (by decide +kernel) (show 5 ∈ C18.progDom.succsOf 1 by decide +kernel) (Avoid.here (by decide +kernel))
