import CrabProofs.Lemmas.InterTDREnd
import CrabProofs.Props.C10BottomUp

/-!
# C09 — the whole top-down inter-procedural analysis is sound

Model: `CrabModel/Inter/TopDownRun.lean` (`tdAnalyze` = `top_down_inter_analyzer::run`: on-demand
analysis of callees at call sites, calling-context table with subsumption / exact reuse,
`max_call_contexts` with joined = stale contexts, both treatments of recursion), running on the
state-passing model `Fix.runS` of the interleaved fixpoint iterator (soundness: `Fix.Sound.runS_sound`,
a port of the proof of `C01.run_sound`).  Concrete semantics: the call-stack machine of
`CrabModel/Inter/ISemantics.lean`.

* `C09.td_analysis_sound_partial` — for every well-formed program (any number of functions, any call
  graph), every abstract domain satisfying `IDom`, every `max_call_contexts`, exact or approximate
  reuse, every fixpoint parameter: `get_pre` / `get_post` of every block contain every frame with which
  an execution from `main` arrives at / leaves the block;
* `C09.td_summaries_valid_partial` — every stored (pre, post) summary that `get_summary` exposes is
  valid: a returned call whose entry frames are described by `pre` has its exit frames described by `post`.

Hypotheses that exclude the open findings (decidable):
* `callsWiringOK` (F29, `[xshare]`: sequential parameter wiring; `C09.callsWiringOK_of_not_crossShare`),
* `entriesOK` (F30, `[scc-multi-entry]`: its `pathsOK` part says that a function found on the call
  stack again is a widening point of the call graph; plus: `main` is a call-graph entry),
and the limit of the proof: `TDParams.simpleRec` — recursion is treated the default way
(`analyze_recursive_functions = false`: `top` entry for widening points, `top` result for a callee on the
call stack), or the call graph has no widening point.  The precise treatment of recursion (fixpoint over
the (entry, exit) pair) is modelled and executable but its end-to-end soundness is not proved.
`C09.td_wiring_counterexample`, `C09.td_multi_entry_counterexample`: the statements without the two
excluding hypotheses are false in the model.
-/
open Crab Crab.Inter Crab.Fix

/-- frames of the executions from `main` are inside the reported context-insensitive invariants -/
theorem C09.td_analysis_sound_partial (p : IProg) (hwf : p.wf = true) (hsc : p.scoped = true)
    (hwire : p.callsWiringOK = true) (D : IDom) (cfg : FixCfg) (hw : WtoHyp D p cfg) (P : TDParams)
    (hmode : P.simpleRec = true) (hent : entriesOK p P = true) (lvl : Nat) (init : D.A) (s : TDSt D)
    (hrun : tdAnalyze D p cfg P lvl init = some s)
    (ch : Choices) (hinit : EnvIn D.toAbsDom init (mkFrame p ch 0 p.main []).env)
    (fuel : Nat) (e : Event) (he : e ∈ (run p ch fuel).tr.events) :
    EnvIn D.toAbsDom (if e.atExit then s.getPost e.fn e.blk else s.getPre e.fn e.blk) e.env := by
  have hP := progOK_of_wf hwf hsc
  have hmain := main_lt hwf
  obtain ⟨hI, hstk, pre, post, hρm⟩ :=
    tdAnalyze_ok hP hmain hmode (progWireOK_of_bool hwire) hent cfg hw lvl init s hrun
  have hinv := final_inv hP hmain hI hstk ch ⟨_, hρm, rfl, hinit⟩ _ (reach_run ch fuel)
  obtain ⟨_, hev⟩ := hinv.evs e he
  obtain ⟨_, hloc⟩ := hev trivial
  obtain ⟨ρ, hρ, hfn, hat⟩ := final_at_run hloc
  obtain ⟨tp, tq, h1, h2, h3⟩ := hI.glob ρ hρ
  have hs := (hI.runs ρ hρ).2
  rw [hfn] at h1 h2
  unfold TDSt.getPre TDSt.getPost
  rw [h1, h2]
  simp only
  by_cases hx : e.atExit = true
  · simp only [hx, if_true] at hat ⊢
    exact (h3 e.blk).2.envIn ((hs e.blk _ e.env (by rw [hfn]; exact hat)).2 (by rw [hfn]))
  · simp only [hx] at hat ⊢
    exact (h3 e.blk).1.envIn ((hs e.blk _ e.env (by rw [hfn]; exact hat)).1 rfl)

/-- the summaries exposed by `get_summary` are valid: for every returned call `r` of `h` in an
    execution from `main`, if every frame with the input values of `r` is described by `pre`, then
    every frame with the input and output values of `r` is described by `post` -/
theorem C09.td_summaries_valid_partial (p : IProg) (hwf : p.wf = true) (hsc : p.scoped = true)
    (hwire : p.callsWiringOK = true) (D : IDom) (cfg : FixCfg) (hw : WtoHyp D p cfg) (P : TDParams)
    (hmode : P.simpleRec = true) (hent : entriesOK p P = true) (lvl : Nat) (init : D.A) (s : TDSt D)
    (hrun : tdAnalyze D p cfg P lvl init = some s)
    (h : Nat) (pre post : D.A) (hsum : (pre, post) ∈ s.summaries h)
    (ch : Choices) (fuel : Nat) (r : CallRec) (hr : r ∈ (run p ch fuel).tr.calls) (hfn : r.fn = h)
    (hpre : EntryIn D p h pre r.ins) : ExitIn D p h post r.ins r.outs := by
  have hP := progOK_of_wf hwf hsc
  have hmain := main_lt hwf
  obtain ⟨hI, _, _, _, _⟩ :=
    tdAnalyze_ok hP hmain hmode (progWireOK_of_bool hwire) hent cfg hw lvl init s hrun
  have hmnc : p.isCalled p.main = false := by
    have := hent
    simp only [entriesOK, Bool.and_eq_true, List.contains_eq_mem, decide_eq_true_eq, List.all_eq_true,
      Bool.not_eq_true'] at this
    exact (this.2 p.main this.1).1.1
  unfold TDSt.summaries at hsum
  obtain ⟨c, hc, hcp⟩ := List.mem_map.mp hsum
  obtain ⟨hcm, hst⟩ := List.mem_filter.mp hc
  have hst' : c.stale = false := by simpa using hst
  obtain ⟨hcalled, hv⟩ := hI.ctxs h c hcm
  obtain ⟨hfact, _⟩ := hv hst'
  cases hcp
  have ht : TrueCR p h r.ins r.outs := ⟨ch, _, reach_run ch fuel, by rw [← hfn]; exact hr⟩
  obtain ⟨_, hlen, hcov⟩ := (inv_reach hP hmain ch _ (reach_run ch fuel)).recs r hr
  have hli : r.ins.length = (p.fn h).ins.length := by
    rcases hlen with hl | hl
    · rw [← hfn]; exact hl
    · -- `main` is a call-graph entry that is never called: it has no stored context
      exfalso
      rw [hfn] at hl
      rw [hl, hmnc] at hcalled
      cases hcalled
  exact hfact r.ins r.outs ht hli (trueCR_facts hP hmain ht).2 hpre

/-- the hypothesis that excludes F29 holds whenever no call site shares a name with the callee's
    declaration at another position (`IProg.crossShare`, the driver's tag `[xshare]`) -/
theorem C09.callsWiringOK_of_not_crossShare (p : IProg) (hwf : p.wf = true) (h : p.crossShare = false) :
    p.callsWiringOK = true :=
  Crab.Inter.callsWiringOK_of_not_crossShare hwf h

/-! ### the excluded cases -/

/-- `C09.td_analysis_sound_partial` without `callsWiringOK`: FALSE (F29) -/
def C09.td_wiring_Statement : Prop :=
  ∀ (p : IProg), p.wf = true → p.scoped = true →
  ∀ (D : IDom) (cfg : FixCfg), WtoHyp D p cfg → ∀ (P : TDParams), P.simpleRec = true → entriesOK p P = true →
  ∀ (lvl : Nat) (init : D.A) (s : TDSt D), tdAnalyze D p cfg P lvl init = some s →
  ∀ (ch : Choices), EnvIn D.toAbsDom init (mkFrame p ch 0 p.main []).env →
  ∀ (fuel : Nat) (e : Event), e ∈ (run p ch fuel).tr.events →
    EnvIn D.toAbsDom (if e.atExit then s.getPost e.fn e.blk else s.getPre e.fn e.blk) e.env

/-- `C09.td_analysis_sound_partial` without the `pathsOK` part of `entriesOK`: FALSE (F30), also for
    widening sets that cut every cycle of the call graph (as the heads of a weak topological ordering do) -/
def C09.td_multi_entry_Statement : Prop :=
  ∀ (p : IProg), p.wf = true → p.scoped = true → p.callsWiringOK = true →
  ∀ (D : IDom) (cfg : FixCfg), WtoHyp D p cfg → ∀ (P : TDParams), P.simpleRec = true →
    wsetCutsCycles p P.wset = true → (tdEntries p P).contains p.main = true → p.isCalled p.main = false →
  ∀ (lvl : Nat) (init : D.A) (s : TDSt D), tdAnalyze D p cfg P lvl init = some s →
  ∀ (ch : Choices), EnvIn D.toAbsDom init (mkFrame p ch 0 p.main []).env →
  ∀ (fuel : Nat) (e : Event), e ∈ (run p ch fuel).tr.events →
    EnvIn D.toAbsDom (if e.atExit then s.getPost e.fn e.blk else s.getPre e.fn e.blk) e.env

namespace C09.Cex

/-- default parameters: unbounded contexts, exact reuse, default treatment of recursion -/
def params (W : List Nat) : TDParams :=
  { maxCtx := none, exactReuse := true, recursive := false, onlyMain := true, wset := W, cgNest := fun _ => [] }

/-- `main: v0 := 5; v1 := g(v0)`   `g(v0) -> v1: v1 := f(v0)`   `f(v0) -> v1: v2 := v0 + 1; v1 := g(v2)`;
    widening point of the cycle: `f` -/
def prog2 : IProg :=
  { nv := 3, main := 0,
    funs := #[
      { name := "main", ins := [], outs := [],
        blocks := #[{ stmts := #[.assign 0 ⟨5, []⟩, .call 1 [1] [0]], succs := #[] }] },
      { name := "g", ins := [0], outs := [1],
        blocks := #[{ stmts := #[.call 2 [1] [0]], succs := #[] }] },
      { name := "f", ins := [0], outs := [1],
        blocks := #[{ stmts := #[.bin .add 2 0 (.cst 1), .call 1 [1] [2]], succs := #[] }] }] }

def cfg2 : FixCfg := crabWto prog2 20 1 1

end C09.Cex

open C09.Cex C10.Cex in
theorem C09.Cex.hyps2 : prog2.wf = true ∧ prog2.scoped = true ∧ prog2.callsWiringOK = true ∧
    (params [2]).simpleRec = true ∧ wsetCutsCycles prog2 (params [2]).wset = true ∧
    (tdEntries prog2 (params [2])).contains prog2.main = true ∧ prog2.isCalled prog2.main = false := by
  decide +kernel

open C09.Cex in
/-- over `cstDom` the analysis ends and reports `v0 = 5` at the entry of `g`: the second call of `g`,
    made while `g` is on the call stack, is answered with `top` and its entry value is lost -/
theorem C09.Cex.st2_v0 : (tdAnalyze cstDom prog2 cfg2 (params [2]) 4 cstDom.top).map
    (fun s => s.getPre 1 0 0) = some (some 5) := by decide +kernel

open C09.Cex C10.Cex in
/-- in the execution the second call enters `g` with `v0 = 6` -/
theorem C09.Cex.ev2 : ∃ e ∈ (run prog2 ch0 5).tr.events, e.fn = 1 ∧ e.blk = 0 ∧ e.atExit = false ∧
    e.env.getD 0 0 = 6 :=
  ⟨_, Array.mem_push_self, rfl, rfl, rfl, by decide +kernel⟩

open C10.Cex C09.Cex in
theorem C09.Cex.hyps1 : prog.callsWiringOK = false ∧ entriesOK prog (params []) = true ∧
    (params []).simpleRec = true := by
  decide +kernel

open C10.Cex C09.Cex in
/-- the top-down analysis of `C10.Cex.prog` (`f(v0, v1)` called as `f(v1, v0)`) reports `v1 = 20` at the
    entry of `f` -/
theorem C09.Cex.st1_v1 : (tdAnalyze cstDom prog cfg (params []) 5 cstDom.top).map
    (fun s => s.getPre 1 0 1) = some (some 20) := by decide +kernel

open C10.Cex C09.Cex in
theorem C09.td_wiring_counterexample : ¬ C09.td_wiring_Statement := by
  intro hS
  obtain ⟨s, hs, hv⟩ := Option.map_eq_some_iff.mp st1_v1
  have hev : (⟨1, 0, false, C10.Cex.fenv⟩ : Event) ∈ (run prog ch0 3).tr.events := Array.mem_push_self
  have hc := hS prog C10.Cex.prog_ok.1 C10.Cex.prog_ok.2.1 cstDom cfg (C10.crab_wto_ok _ C10.Cex.prog_ok.1 _ 20 1 1)
    (params []) hyps1.2.2 hyps1.2.1 5 cstDom.top s hs ch0 (envIn_top cstDom _) 3 _ hev
  exact absurd ((cstDom_envIn hc hv).symm.trans fenv_v1) (by decide)

open C09.Cex C10.Cex in
theorem C09.td_multi_entry_counterexample : ¬ C09.td_multi_entry_Statement := by
  intro hS
  obtain ⟨s, hs, hv⟩ := Option.map_eq_some_iff.mp st2_v0
  obtain ⟨hwf, hsc, hwi, hmode, hcut, hent, hmnc⟩ := hyps2
  obtain ⟨e, he, hfn, hblk, hx, h6⟩ := ev2
  have hc := hS prog2 hwf hsc hwi cstDom cfg2 (C10.crab_wto_ok _ hwf _ 20 1 1) (params [2])
    hmode hcut hent hmnc 4 cstDom.top s hs ch0 (envIn_top cstDom _) 5 e he
  rw [hfn, hblk, hx] at hc
  exact absurd ((cstDom_envIn hc hv).symm.trans h6) (by decide)

/-! ### non-vacuity: the two-function program of `C10.Ex`; the collecting domain for the summaries,
    constant propagation (`cstDom`) for `get_pre` -/

namespace C09.Ex
/-- `max_call_contexts = 1`, approximate reuse, default treatment of recursion -/
def params : TDParams :=
  { maxCtx := some 1, exactReuse := false, recursive := false, onlyMain := true, wset := [], cgNest := fun _ => [] }

def st : TDSt C10.collIDom :=
  (tdAnalyze C10.collIDom C10.Ex.prog C10.Ex.cfg params 5 C10.collIDom.top).getD (TDSt.empty _)

/-- the summary stored for `f` -/
def sumF : (St → Prop) × (St → Prop) := (st.summaries 1).headD (fun _ => True, fun _ => True)
end C09.Ex

open C09.Ex in
theorem C09.Ex.st_eq : tdAnalyze C10.collIDom C10.Ex.prog C10.Ex.cfg params 5 C10.collIDom.top = some st :=
  eq_some_getD _ (by decide +kernel)

open C09.Ex in
theorem C09.Ex.sumF_mem : sumF ∈ st.summaries 1 :=
  match h : st.summaries 1, (by decide +kernel : (st.summaries 1).isEmpty = false) with
  | _ :: _, _ => by unfold sumF; rw [h]; exact List.mem_cons_self ..

open C09.Ex in
theorem C09.Ex.hyps : C10.Ex.prog.callsWiringOK = true ∧ entriesOK C10.Ex.prog params = true ∧
    params.simpleRec = true :=
  by decide +kernel

open C09.Ex in
/-- the hypotheses of `C09.td_analysis_sound_partial` hold for the example and the theorem says
    something: in every execution `f` is entered with `v0 = 5` -/
example (ch : Choices) (fuel : Nat) (e : Event) (he : e ∈ (run C10.Ex.prog ch fuel).tr.events) (hf : e.fn = 1)
    (hb : e.blk = 0) (hx : e.atExit = false) : e.env.getD 0 0 = 5 := by
  -- over `cstDom` the analysis reports `v0 = 5` at the entry block of `f`
  have hv0 : (tdAnalyze cstDom C10.Ex.prog C10.Ex.cfg params 5 cstDom.top).map
      (fun s => s.getPre 1 0 0) = some (some 5) := by decide +kernel
  obtain ⟨s, hs, hv⟩ := Option.map_eq_some_iff.mp hv0
  have h := C09.td_analysis_sound_partial C10.Ex.prog C10.Ex.prog_wf C10.Ex.prog_scoped hyps.1 cstDom
    C10.Ex.cfg (C10.crab_wto_ok _ C10.Ex.prog_wf _ 20 1 1) params hyps.2.2 hyps.2.1 5 cstDom.top s hs
    ch (envIn_top cstDom _) fuel e he
  rw [hf, hb, hx] at h
  exact cstDom_envIn h hv

open C09.Ex in
/-- and of `C09.td_summaries_valid_partial`: every returned call of `f` with input 5 has output 6 -/
example (ch : Choices) (fuel : Nat) (r : CallRec) (hr : r ∈ (run C10.Ex.prog ch fuel).tr.calls) (hf : r.fn = 1)
    (o : Int) (hi : r.ins = [5]) (ho : r.outs = [o]) : o = 6 := by
  have h := C09.td_summaries_valid_partial C10.Ex.prog C10.Ex.prog_wf C10.Ex.prog_scoped hyps.1 C10.collIDom
    C10.Ex.cfg (C10.crab_wto_ok _ C10.Ex.prog_wf _ 20 1 1) params hyps.2.2 hyps.2.1 5 C10.collIDom.top st st_eq
    1 sumF.1 sumF.2 sumF_mem ch fuel r hr hf
  rw [hi, ho] at h
  -- a frame with `v0 = 5`, `v1 = o`
  let env : Env := envOfSt 4 (fun v => if v = 0 then 5 else o)
  have hpre : EntryIn C10.collIDom C10.Ex.prog 1 sumF.1 [5] := by
    intro env1 hsz1 hm σ hσ
    have hv0 : σ 0 = 5 := by
      rw [hσ 0 (by rw [hsz1]; decide)]; exact hm.1
    exact ⟨(σ.upd 2 5).upd 0 5, ⟨trivial, σ.upd 2 5, ⟨σ, trivial, rfl⟩, rfl⟩,
      fun v hv => by
        have hv' : v ∈ ([0] : List Var) := hv
        have : v = 0 := by simpa using hv'
        subst this; rw [hv0, St.upd_same]⟩
  have hpost := h hpre env (envOfSt_size _ _) ⟨envOfSt_getD 4 _ 0 (by decide), trivial⟩
    ⟨envOfSt_getD 4 _ 1 (by decide), trivial⟩ (toSt env) (Ext_toSt env)
  obtain ⟨s, ⟨s', ⟨s2, ⟨_, s3, ⟨σ00, _, hs3⟩, hs2⟩, hp2⟩, hst⟩, hp⟩ := hpost
  have e1 : toSt env 1 = s 1 := hp 1 (by decide)
  have e2 : toSt env 1 = o := envOfSt_getD 4 _ 1 (by decide)
  have e3 : s = s'.upd 1 (s' 0 + 1) := hst
  have e4 : s' 0 = s2 0 := hp2 0 (by decide)
  have e5 : s3 = σ00.upd 2 5 := hs3
  rw [← e2, e1, e3, St.upd_same, e4, hs2, St.upd_same, e5, St.upd_same]
  rfl
