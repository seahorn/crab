import CrabProofs.Lemmas.TIRWf
import CrabProofs.Lemmas.TIRDce
import CrabProofs.Lemmas.TIRMerge

/-!
# C17 — CFG simplification, dead-code elimination and lowering of proven assertions preserve behaviour

Model: `CrabModel/Transform/{TIR,Simplify,Liveness,Dce}.lean`.  "Behaviour" is `ExitBeh P σ t outs`:
from the input state `σ` some execution completes the exit block after emitting exactly the
events `t` (assume / assert conditions with their outcomes) with the output values `outs`.

* DCE (`TIR.dce`, the transcription of `dead_code_elimination::run`):
  `C17.dce_preserves_Statement v` for version `v` of the liveness code is proved for the current
  tree (`C17.dce_preserves`) and for any version under the two hypotheses that the fixes
  d9754d9 / 2ccd3fb made unnecessary (`C17.dce_preserves_under`); it is FALSE for the behaviour
  before fix 2ccd3fb (`C17.old_dce_counterexample`, explicit old flag).  All carry the side
  condition `defsTotal` ("no statement that may be deleted can stop": no division by a variable
  or by 0), without which even a perfect DCE changes the exit-reaching executions under crab's
  reading of division by zero (`C17.dce_dead_division_counterexample`).
* lowering (`TIR.lower`): `C17.lower_preserves`, unconditional (for every set of positions).
* simplify: `C17Simplify.lean`; here the fold step in terms of the lookups
  (`C17.merge_step_preserves`) and the CRAB_ERROR before fix 4b61ab6 (`C17.old_simplify_error`).
-/
open Crab Crab.TIR

/-! ### dead-code elimination -/

/-- FULL statement for variant `v` of the liveness code: on a well-formed CFG whose deletable
    statements cannot stop, the result of the pass has exactly the same exit-reaching executions -/
def C17.dce_preserves_Statement (v : Variant) : Prop :=
  ∀ (P T : Prog) (order : List Label), P.wf = true → (∀ l, l ∈ P.labels → l ∈ order) →
    P.defsTotal = true → dce v order dceMaxIterations P = some T →
    ∀ σ t outs, ExitBeh P σ t outs ↔ ExitBeh T σ t outs

theorem C17.dce_preserves_under (v : Variant) (P T : Prog) (order : List Label)
    (hwf : P.wf = true) (hord : ∀ l, l ∈ P.labels → l ∈ order) (htot : P.defsTotal = true)
    (hun : v.unreachGen = true ∨ P.noUnreachable = true)
    (hseed : ∀ x, P.exit = some x → seedLabel v P order = some x ∨ P.liveAtExit = [])
    (n : Nat) (h : dce v order n P = some T) (σ : State) (t : List Event) (outs : List Int) :
    ExitBeh P σ t outs ↔ ExitBeh T σ t outs :=
  dce_exitBeh v order n P T h
    ⟨hord, (WFp.of_wf hwf).succ_lab, (WFp.of_wf hwf).exitPresent, hun, hseed⟩ htot σ t outs

theorem C17.dce_preserves : C17.dce_preserves_Statement Variant.cur :=
  fun P T order hwf hord htot h σ t outs =>
    C17.dce_preserves_under Variant.cur P T order hwf hord htot (Or.inl rfl) (seedOk_cur P order) _ h σ t outs

/-- one round with ANY live-out map that contains the specification liveness (C18): every
    execution of the original that does not divide by zero is an execution of the result -/
theorem C17.dce_round_forward (P : Prog) (L : LiveMap) (hL : ∀ l x, LiveAt P [] l x → x ∈ L l)
    (σ : State) (t : List Event) (o : Outcome) (ho : o ≠ .divzero) (h : Beh P σ t o) :
    Beh (dceRound P L) σ t o := by
  have := dce_forward P L hL h ho σ (fun _ _ => rfl)
  rw [← dceRound_stmtsOf] at this
  exact this

/-- and conversely when the deleted statements cannot stop -/
theorem C17.dce_round_backward (P : Prog) (L : LiveMap) (hL : ∀ l x, LiveAt P [] l x → x ∈ L l)
    (htot : dceTotal P L = true) (σ : State) (t : List Event) (o : Outcome)
    (h : Beh (dceRound P L) σ t o) : Beh P σ t o :=
  dce_backward P L hL htot h (P.stmtsOf P.entry) σ (dceRound_stmtsOf P L P.entry) (fun _ _ => rfl)
    (dceTotal_stmtsOf htot P.entry)

/-- a sink besides the exit:  b0: goto b1, b2     b1 (exit): v1 = 5     b2: (sink)     outputs {v1} -/
def C17.progSeed : Prog :=
  { nvars := 2, entry := 0, exit := some 1, hasFd := true, ins := [0], outs := [1],
    blocks := [⟨0, [], [1, 2], []⟩, ⟨1, [.assign 1 ⟨5, []⟩], [], [0]⟩, ⟨2, [], [], [0]⟩] }

def C17.progSeedDce : Prog :=
  { C17.progSeed with blocks := [⟨0, [], [1, 2], []⟩, ⟨1, [], [], [0]⟩, ⟨2, [], [], [0]⟩] }

/-- before fix 2ccd3fb: with the order [b2, b1, b0] the outputs are live at b2, not at the exit b1,
    and `v1 = 5` in the exit block is deleted -/
theorem C17.old_dce_counterexample : ¬ C17.dce_preserves_Statement Variant.old := by
  intro hS
  have hT : dce Variant.old [2, 1, 0] dceMaxIterations C17.progSeed = some C17.progSeedDce := by decide +kernel
  have h := hS _ _ [2, 1, 0] (by decide +kernel) (by decide +kernel) (by decide +kernel) hT (fun _ => 0) [] [5]
  have hP : ExitBeh C17.progSeed (fun _ => 0) [] [5] := by
    refine Exec.goto (l' := 1) (by decide +kernel) (by decide +kernel) ?_
    show Exec C17.progSeed [.assign 1 ⟨5, []⟩] 1 (fun _ => 0) [] _
    refine Exec.cont (σ' := State.set (fun _ => 0) 1 5) (ev := none) (t := []) 0 rfl ?_
    exact Exec.exit (by decide +kernel)
  have hT' := h.mp hP
  -- the transformed program can only output the input value of v1
  unfold ExitBeh Beh at hT'
  have e0 : C17.progSeedDce.stmtsOf C17.progSeedDce.entry = [] := by decide +kernel
  rw [e0] at hT'
  rcases Exec.nil_inv hT' with ⟨hex, _⟩ | ⟨_, l', hmem, hrest⟩ | ⟨_, _, _, ho⟩
  · revert hex; decide +kernel
  · have hl : l' = 1 ∨ l' = 2 := by
      have : C17.progSeedDce.succsOf C17.progSeedDce.entry = [1, 2] := by decide +kernel
      rw [this] at hmem; simpa using hmem
    rcases hl with rfl | rfl
    · have e1 : C17.progSeedDce.stmtsOf 1 = [] := by decide +kernel
      rw [e1] at hrest
      rcases Exec.nil_inv hrest with ⟨_, _, ho⟩ | ⟨hex, _⟩ | ⟨hex, _⟩
      · simp only [Outcome.exit.injEq] at ho
        revert ho; decide +kernel
      · revert hex; decide +kernel
      · revert hex; decide +kernel
    · have e2 : C17.progSeedDce.stmtsOf 2 = [] := by decide +kernel
      rw [e2] at hrest
      rcases Exec.nil_inv hrest with ⟨hex, _⟩ | ⟨_, l'', hmem', _⟩ | ⟨_, _, _, ho⟩
      · revert hex; decide +kernel
      · have : C17.progSeedDce.succsOf 2 = [] := by decide +kernel
        rw [this] at hmem'; cases hmem'
      · cases ho
  · cases ho

/-- why `defsTotal` is a hypothesis: a dead division by zero blocks the original (crab: no
    successor state) but not the result -/
def C17.progDeadDiv : Prog :=
  { nvars := 2, entry := 0, exit := some 0, hasFd := false, ins := [], outs := [],
    blocks := [⟨0, [.bin .sdiv 1 (.var 0) (.var 0)], [], []⟩] }

theorem C17.dce_dead_division_counterexample :
    dce Variant.cur [0] dceMaxIterations C17.progDeadDiv =
      some { C17.progDeadDiv with blocks := [⟨0, [], [], []⟩] } ∧
    ExitBeh { C17.progDeadDiv with blocks := [⟨0, [], [], []⟩] } (fun _ => 0) [] [] ∧
    ¬ ExitBeh C17.progDeadDiv (fun _ => 0) [] [] := by
  refine ⟨by decide +kernel, Exec.exit (by decide +kernel), ?_⟩
  intro h
  unfold ExitBeh Beh at h
  have e0 : C17.progDeadDiv.stmtsOf C17.progDeadDiv.entry = [.bin .sdiv 1 (.var 0) (.var 0)] := by decide +kernel
  rw [e0] at h
  obtain ⟨hv, ⟨σ', ev, t', hstep, _, _⟩ | ⟨ev, hstep, _⟩⟩ := Exec.cons_inv h
  · simp [stepStmt, BinOp.eval, Opd.eval] at hstep
  · simp [stepStmt, BinOp.eval, Opd.eval] at hstep

/-! ### lowering of safe assertions -/

/-- for ANY set of assertion positions: the exit-reaching executions are the same, up to the
    kind (assert / assume) recorded in the events of the lowered assertions -/
theorem C17.lower_preserves (P : Prog) (safe : List (Label × Nat)) (σ : State) (outs : List Int) :
    (∀ t, ExitBeh P σ t outs → ∃ t', ExitBeh (lower P safe) σ t' outs ∧ eraseKinds t' = eraseKinds t) ∧
    (∀ t', ExitBeh (lower P safe) σ t' outs → ∃ t, ExitBeh P σ t outs ∧ eraseKinds t = eraseKinds t') := by
  have hk := lower_kindProg P safe
  constructor
  · intro t h
    exact kind_forward P (lower P safe) hk h outs rfl _ (hk.stmts P.entry)
  · intro t' h
    exact kind_forward (lower P safe) P hk.symm h outs rfl _ (hk.symm.stmts P.entry)

/-! ### simplify: the fold step, and the CRAB_ERROR before fix 4b61ab6 -/

/-- folding `b` into its unique predecessor `a` whose unique successor is `b` (the result being
    described by its lookups, `MergeRel`) preserves ALL executions from the entry: same events,
    same final status, same outputs -/
theorem C17.merge_step_preserves (P T : Prog) (a b : Label) (h : MergeRel P T a b)
    (hentry : T.entry = P.entry) (hb : P.entry ≠ b) (σ : State) (t : List Event) (o : Outcome) :
    Beh P σ t o ↔ Beh T σ t o :=
  merge_beh P T a b h hentry hb σ t o

/-- FULL statement: `simplify` returns a CFG for every well-formed CFG -/
def C17.simplify_total_Statement (v : Variant) : Prop := ∀ P : Prog, P.wf = true → (simplify v P).isSome = true

/-- DESIGN §4 #9:  b0 (entry) → b1 → {b2, b3},  b2 → b0 -/
def C17.progEntryMerge : Prog :=
  { nvars := 1, entry := 0, exit := some 3, hasFd := false, ins := [], outs := [],
    blocks := [⟨0, [], [1], [2]⟩, ⟨1, [], [2, 3], [0]⟩, ⟨2, [], [0], [1]⟩, ⟨3, [], [], [1]⟩] }

theorem C17.old_simplify_error : ¬ C17.simplify_total_Statement Variant.old := by
  intro h
  have := h C17.progEntryMerge (by decide +kernel)
  revert this
  decide +kernel

/-- the current code simplifies the same CFG (nothing to fold) -/
example : (simplify Variant.cur C17.progEntryMerge).map (fun T => (T.labels, T.succsOf 1, T.wf)) =
    some ([0, 1, 2, 3], [2, 3], true) := by decide +kernel
