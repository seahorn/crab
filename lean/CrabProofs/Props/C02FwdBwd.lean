import CrabProofs.Lemmas.FwdBwdRun
import CrabProofs.Props.C01Engine

/-!
# C02 — the verdicts of the combined forward+backward analyzer (dominator-based discharge)

Model: `CrabModel/Analysis/FwdBwd.lean` (`runFB` = `intra_forward_backward_analyzer::run`,
`discharge` = `discharge_assertions`, `dominates`, `idomTree` = the tree built from
`graph_algo::dominator_tree`, `checkBlockFB` = the checker with `m_safe_assertions`).
Semantics: `CrabModel/IR/Semantics.lean`; `Arrives`, `FailsFrom`, `ErrArr`, `CoFail` (model file §4).

**What the code discharges** (`C02.discharge_exact`): when the tree is not empty, every assertion
located in a block `m` that is a PROPER descendant, in the immediate-dominator tree rooted at
`m_cfg.entry()`, of a block `n` of the CFG whose entry in `refined_assumptions` is bottom; when
the tree is empty (no block other than the entry is reachable, or Boost < 1.62), every assertion
if the entry of the entry block is bottom.  `refined_assumptions[n]` is the meet, over the
refinement iterations run so far, of the backward values at the ENTRY of `n` (and of the caller's
assumption), so it speaks about all the statements of `n`.

**What is proved**: the argument justifies more than the code uses — a bottom value at the entry
of `n` makes every assertion of every block dominated by `n` safe, `n` included
(`C02.bottom_block_no_failure_after`), back edges included (every visit of `m` is preceded by a
visit of `n` in the same execution; the lemma `arrives_through` needs no acyclicity).  The code
only uses strict descendants, so it never discharges too much: no defect in the discharge rule.

* (a) `C02.bottom_block_no_failure_after`, `C02.bottom_block_trace_safe`,
      `C02.dominated_discharge_sound`, `C02.tree_discharge_sound`;
* (b) `C02.dominators_sound` (the tree the model computes, every graph, every round bound),
      `C02.sdom_checker_sound` (the decidable strict-dominance test);
* (c) `C02.bwd_values_cover`, `C02.refine_keeps_cover`, `C02.refined_forward_sound` (the loop
      invariant `ErrCoverT`: every entry of the assumption table contains the states of the
      executions from the initial states that go on to violate an assertion),
      `C02.run_result_sound`, `C02.fwdbwd_checker_sound` (verdict `safe`),
      `C02.fwdbwd_unreachable_sound_partial` (verdict `unreachable`, `use_refined_invariants` off);
* a genuine finding, repaired in the repository by commit 874487d: `run(entry, ...)` with
  `entry ≠ m_cfg.entry()` discharged with a dominator tree whose root is not the block where the
  executions start, and an assertion that fails was reported `safe` —
  `C02.fwdbwd_checker_sound_Statement`, `C02.fwdbwd_checker_sound_counterexample`.  The model keeps
  the root as a field of its own (`FBCtx.cfgEntry`) so that this can be stated; all theorems about
  `runFB` carry the hypothesis `x.cfgEntry = p.entry`, which holds by construction in the code as
  it now is (bwd_analyzer.hpp:536, :684 pass `entry` to `dominator_tree` and
  `discharge_assertions`);
* a genuine finding: with `use_refined_invariants = true` the stored "invariants" only describe
  the error-reaching executions, and the checker reports `unreachable` for assertions that every
  execution reaches — `C02.fwdbwd_unreachable_counterexample` (file `C02FwdBwdEx.lean`, with the
  replay of the real analyzer); the examples are in the same file.

The sections below come in the order (b), (a), (c).
-/
open Crab Crab.Fix Crab.IR Crab.Analysis

/-! ### (b) dominators -/

/-- the decidable strict-dominance test of the model is correct: if it answers `true`, every
    path from the entry to `n` contains `d`, and `d ≠ n` -/
theorem C02.sdom_checker_sound (G : DGraph) (d n : Nat) (h : sdomB G d n = true) :
    (∀ l, PathTo G n l → d ∈ l) ∧ n ≠ d :=
  ⟨sdomB_sound G d n h, sdomB_ne G d n h⟩

/-- if the member function `dominates` answers `true` on the tree computed by the model, then
    every path of the CFG from the entry to `v` contains `u` — every graph (cycles, unreachable
    nodes, irreducible loops), every depth bound, every round bound of the closure -/
theorem C02.dominators_sound (G : DGraph) (fuel u v : Nat)
    (h : dominates (idomTree G) fuel u v = true) : ∀ l, PathTo G v l → u ∈ l :=
  dominates_sound G fuel u v h

/-! ### (a) a bottom backward value and the blocks it dominates -/

/-- if the table `X` contains, at every block, every state of an execution from `Init` that goes
    on to violate an assertion (the conclusion of `C11.bwd_precondition_sound`, see
    `C02.bwd_values_cover`) and `X d` is bottom, then no execution from the entry that arrives at
    `d` violates an assertion afterwards (in `d` or later) -/
theorem C02.bottom_block_no_failure_after {A : Type} (γ : A → State → Prop) (isBottom : A → Bool)
    (hbot : ∀ a σ, isBottom a = true → ¬ γ a σ) (p : Program) (Init : State → Prop) (X : Nat → A)
    (hX : ErrCover p Init γ X) (d : Nat) (hd : isBottom (X d) = true)
    (σ : State) (l : List Nat) (ha : Arrives p Init d σ l) : ¬ FailsFrom p d σ :=
  fun hf => hbot (X d) σ hd (hX d σ ⟨⟨l, ha⟩, hf⟩)

/-- the same on traces: once a run from an initial state has entered `d`, no continuation of it
    (whatever the remaining choices) contains a failed check -/
theorem C02.bottom_block_trace_safe {A : Type} (γ : A → State → Prop) (isBottom : A → Bool)
    (hbot : ∀ a σ, isBottom a = true → ¬ γ a σ) (p : Program) (Init : State → Prop) (X : Nat → A)
    (hX : ErrCover p Init γ X) (d : Nat) (hd : isBottom (X d) = true)
    (n : Nat) (σ0 : State) (ch : List Int) (h0 : Init σ0) (σd : State)
    (hen : Event.enter d σd ∈ IR.run p n σ0 ch)
    (n' : Nat) (ch' : List Int) (b j : Nat) (σ' : State) :
    Event.check b j σ' false ∉ exec p n' d σd ch' := by
  intro hc
  obtain ⟨l, hl⟩ := trace_arrives p Init n p.entry σ0 ch [p.entry] (Arrives.init σ0 h0) d σd hen
  exact C02.bottom_block_no_failure_after γ isBottom hbot p Init X hX d hd σd l hl
    (exec_fail_failsFrom p n' d σd ch' b j σ' hc)

/-- the discharge rule: `X d` bottom and `d` dominates `m` (every path from the entry to `m`
    passes through `d`; `d = m` allowed) ⇒ no assertion of `m` is ever violated -/
theorem C02.dominated_discharge_sound {A : Type} (γ : A → State → Prop) (isBottom : A → Bool)
    (hbot : ∀ a σ, isBottom a = true → ¬ γ a σ) (p : Program) (Init : State → Prop) (X : Nat → A)
    (hX : ErrCover p Init γ X) (d m : Nat) (hd : isBottom (X d) = true)
    (hdom : Dominates (progGraph p) d m)
    (n : Nat) (σ0 : State) (ch : List Int) (h0 : Init σ0) (j : Nat) (σ' : State) (ok : Bool)
    (hev : Event.check m j σ' ok ∈ IR.run p n σ0 ch) : ok = true := by
  cases ok with
  | true => rfl
  | false =>
    exfalso
    obtain ⟨σ, l, ha, hf⟩ := run_fail_arrives p Init n σ0 ch h0 m j σ' hev
    exact dominated_safe (fun σd he => hbot (X d) σd hd (hX d σd he)) hdom σ l ha (FailsFrom.here m σ hf)

/-- the rule as the code applies it: `dominates(d, m, idom_tree)` answers `true` -/
theorem C02.tree_discharge_sound {A : Type} (γ : A → State → Prop) (isBottom : A → Bool)
    (hbot : ∀ a σ, isBottom a = true → ¬ γ a σ) (p : Program) (Init : State → Prop) (X : Nat → A)
    (hX : ErrCover p Init γ X) (d m fuel : Nat) (hd : isBottom (X d) = true)
    (hdom : dominates (idomTree (progGraph p)) fuel d m = true)
    (n : Nat) (σ0 : State) (ch : List Int) (h0 : Init σ0) (j : Nat) (σ' : State) (ok : Bool)
    (hev : Event.check m j σ' ok ∈ IR.run p n σ0 ch) : ok = true :=
  C02.dominated_discharge_sound γ isBottom hbot p Init X hX d m hd
    (C02.dominators_sound (progGraph p) fuel d m hdom) n σ0 ch h0 j σ' ok hev

/-- exactly which assertions `discharge_assertions` marks (see the header) -/
theorem C02.discharge_exact {A : Type} (o : FBOps A) (tree : List (Nat × List Nat)) (nodes : List Nat)
    (entry : Nat) (asm : AsmTable A) (asserts : List (Nat × Nat)) (kv : Nat × Nat) :
    kv ∈ (discharge o tree nodes entry asm ⟨asserts, []⟩).proved ↔
    kv ∈ asserts ∧
    ((tree ≠ [] ∧ ∃ n, n ∈ nodes ∧ botAt o asm n = true ∧
        dominates tree (tree.length + 1) n kv.1 = true) ∨
     (tree = [] ∧ botAt o asm entry = true)) :=
  Crab.Analysis.discharge_exact o tree nodes entry asm asserts kv

/-! ### (c) the refinement loop -/

/-- from the conclusion of C11 to the invariant: if the forward invariants `F` contain the
    error-reaching states and `B` contains every state from which an assertion violation is
    reachable along an execution consistent with `F`, then `B` contains the error-reaching
    states -/
theorem C02.bwd_values_cover {A : Type} (γ : A → State → Prop) (p : Program) (Init : State → Prop)
    (F B : Nat → A) (hF : ErrCover p Init γ F)
    (hB : ∀ n σ, CoFail p (fun n s => γ (F n) s) n σ → γ (B n) σ) : ErrCover p Init γ B :=
  fun b σ he => hB b σ (errArr_coFail p Init γ F hF b σ he)

/-- `refine`: the new assumption table (the backward value, met with the old entry when there is
    one) still contains the error-reaching states -/
theorem C02.refine_keeps_cover {A : Type} (γ : A → State → Prop) (o : FBOps A) (p : Program)
    (Init : State → Prop) (hmeet : ∀ a b σ, γ a σ → γ b σ → γ (o.meet a b) σ) (nodes : List Nat)
    (old : AsmTable A) (bv : Nat → A) (hold : ErrCoverT p Init γ old) (hbv : ErrCover p Init γ bv) :
    ErrCoverT p Init γ (refineAll o nodes old bv).2 :=
  refineAll_cover γ o p Init hmeet nodes old bv hold hbv

/-- the forward pass of a refinement iteration, on the proved engine (`C01.run_sound`): run with
    an assumption map that holds on the error-reaching states (`asmOk` = the filter `strengthen`
    applies), the `pre` table contains the error-reaching states.  It is NOT an invariant of the
    other executions. -/
theorem C02.refined_forward_sound {A : Type} (c : Ctx A) (w : List Comp) (p : Program)
    (sem : Sem c State) (hentry : c.entry = p.entry)
    (hpreds : ∀ b n, n ∈ (p.block b).succs → b ∈ c.preds n)
    (hstep : ∀ b σ σ', BlockStep p b σ σ' → sem.step b σ σ')
    (hwf : WtoWF c w) (fuel : Nat) (st : St A) (hrun : Crab.Fix.run c fuel w = some st)
    (hasm : ∀ b σ, ErrArr p (sem.γ c.init) b σ → asmOk c sem b σ) :
    ErrCover p (sem.γ c.init) sem.γ st.pre := by
  intro b σ he
  apply (C01.run_sound c w State sem fuel st hwf hrun).1
  obtain ⟨⟨l, ha⟩, hf⟩ := he
  induction ha with
  | init σ hi =>
    have := ReachPre.init (c := c) (sem := sem) σ hi
      (by rw [hentry]; exact hasm p.entry σ ⟨⟨_, Arrives.init σ hi⟩, hf⟩)
    rwa [hentry] at this
  | step b m σ σ' l ha hs hm ih =>
    have hpre := ih (FailsFrom.step b m σ σ' hs hm hf)
    exact ReachPre.flow b m σ' (hpreds b m hm) (ReachPost.step b σ σ' hpre (hstep b σ σ' hs))
      (hasm m σ' ⟨⟨_, Arrives.step b m σ σ' l ha hs hm⟩, hf⟩)

/-- the result of `run` started at `m_cfg.entry()` (`hce`), every parameter setting: the stored
    invariants contain the error-reaching states, and every discharged assertion is an assertion of the program located
    in a block from which no execution from the initial states can fail -/
theorem C02.run_result_sound {A : Type} (γ : A → State → Prop) (x : FBCtx A) (p : Program)
    (Init : State → Prop) (hs : FBSound γ x p Init) (hce : x.cfgEntry = p.entry) :
    ErrCover p Init γ (runFB x p).pre ∧
    ∀ kv, kv ∈ (runFB x p).proved → kv ∈ gatherAsserts p ∧ SafeBlock p Init kv.1 :=
  runFB_good γ x p Init hs hce

/-- the full statement for the verdict `safe`: every `entry` argument of `run`.  False for the
    model with a root `cfgEntry` of its own, i.e. for the code before commit 874487d
    (`C02.fwdbwd_checker_sound_counterexample` in `C02FwdBwdEx.lean`): the dominator tree was
    rooted at `m_cfg.entry()` even when the forward pass starts elsewhere. -/
def C02.fwdbwd_checker_sound_Statement : Prop :=
  ∀ (A : Type) (D : CheckDom A) (tr : Stmt → A → A) (x : FBCtx A) (p : Program) (Init : State → Prop),
    TrSound D tr → FBSound D.γ x p Init →
    ∀ n σ0 ch, Init σ0 → ∀ b j σ' ok v, Event.check b j σ' ok ∈ IR.run p n σ0 ch →
      (j, v) ∈ checkBlockFB D tr p (runFB x p) b → v = CheckKind.safe → ok = true

/-- C02 for the forward+backward analyzer, verdict `safe` (forward rule OR discharged), every
    parameter setting (`max_refine_iterations`, `use_refined_invariants`), every program, every
    execution, for `run` started at the entry block of the CFG (`hce`, decidable; always true for
    the overload of `run` without `entry` argument): under the contract `FBSound` (domain
    operations sound; forward pass sound on the error-reaching executions — C01,
    `C02.refined_forward_sound`; backward values = the C11 conclusion) an assertion reported
    `safe` is never violated. -/
theorem C02.fwdbwd_checker_sound {A : Type} (D : CheckDom A) (tr : Stmt → A → A) (htr : TrSound D tr)
    (x : FBCtx A) (p : Program) (Init : State → Prop) (hs : FBSound D.γ x p Init)
    (hce : x.cfgEntry = p.entry)
    (n : Nat) (σ0 : State) (ch : List Int) (h0 : Init σ0)
    (b j : Nat) (σ' : State) (ok : Bool) (v : CheckKind)
    (hev : Event.check b j σ' ok ∈ IR.run p n σ0 ch)
    (hv : (j, v) ∈ checkBlockFB D tr p (runFB x p) b) (hsafe : v = .safe) : ok = true := by
  cases ok with
  | true => rfl
  | false =>
    exfalso
    obtain ⟨σ, ch', hen, hc⟩ := exec_check_of_enter p n p.entry σ0 ch b j σ' false hev
    obtain ⟨l, ha⟩ := trace_arrives p Init n p.entry σ0 ch [p.entry] (Arrives.init σ0 h0) b σ hen
    have hf : FailsFrom p b σ := FailsFrom.here b σ ⟨ch', j, σ', hc⟩
    obtain ⟨hpre, hproved⟩ := C02.run_result_sound D.γ x p Init hs hce
    have hγ : D.γ ((runFB x p).pre b) σ := hpre b σ ⟨⟨l, ha⟩, hf⟩
    have := (checkStmtsFB_sound D tr htr (fun i => (runFB x p).proved.contains (b, i)) b
      (p.block b).stmts 0 _ σ ch' hγ j σ' false v hc hv).2 hsafe
    rcases this with h1 | h1
    · have hmem : (b, j) ∈ (runFB x p).proved := by simpa using h1
      exact (hproved (b, j) hmem).2 σ l ha hf
    · cases h1

/-- the same under the name required for a statement that does not hold in full -/
theorem C02.fwdbwd_checker_sound_partial {A : Type} (D : CheckDom A) (tr : Stmt → A → A)
    (htr : TrSound D tr) (x : FBCtx A) (p : Program) (Init : State → Prop) (hs : FBSound D.γ x p Init)
    (hce : x.cfgEntry = p.entry)
    (n : Nat) (σ0 : State) (ch : List Int) (h0 : Init σ0)
    (b j : Nat) (σ' : State) (ok : Bool) (v : CheckKind)
    (hev : Event.check b j σ' ok ∈ IR.run p n σ0 ch)
    (hv : (j, v) ∈ checkBlockFB D tr p (runFB x p) b) (hsafe : v = .safe) : ok = true :=
  C02.fwdbwd_checker_sound D tr htr x p Init hs hce n σ0 ch h0 b j σ' ok v hev hv hsafe

/-- the full statement for the verdict `unreachable` (false for the code as it is, see
    `C02.fwdbwd_unreachable_counterexample` in `C02FwdBwdEx.lean`): given moreover that the first
    forward pass returns invariants of ALL executions (C01) -/
def C02.fwdbwd_unreachable_sound_Statement : Prop :=
  ∀ (A : Type) (D : CheckDom A) (tr : Stmt → A → A) (x : FBCtx A) (p : Program) (Init : State → Prop),
    TrSound D tr → FBSound D.γ x p Init → x.cfgEntry = p.entry →
    (∀ n σ0 ch b σ, Init σ0 → Event.enter b σ ∈ IR.run p n σ0 ch → D.γ (x.fwd x.assumptions b) σ) →
    ∀ n σ0 ch, Init σ0 → ∀ b j σ' ok v, Event.check b j σ' ok ∈ IR.run p n σ0 ch →
      (j, v) ∈ checkBlockFB D tr p (runFB x p) b → v ≠ CheckKind.unreachable

/-- verdict `unreachable`, with the explicit decidable hypothesis `use_refined_invariants = false`
    (the default): the checker then works on the invariants of the first forward pass
    (`runFB_pre_first`), and an assertion reported `unreachable` is never executed -/
theorem C02.fwdbwd_unreachable_sound_partial {A : Type} (D : CheckDom A) (tr : Stmt → A → A)
    (htr : TrSound D tr) (x : FBCtx A) (p : Program) (Init : State → Prop)
    (hu : x.params.useRefined = false)
    (hfull : ∀ n σ0 ch b σ, Init σ0 → Event.enter b σ ∈ IR.run p n σ0 ch →
      D.γ (x.fwd x.assumptions b) σ)
    (n : Nat) (σ0 : State) (ch : List Int) (h0 : Init σ0)
    (b j : Nat) (σ' : State) (ok : Bool) (v : CheckKind)
    (hev : Event.check b j σ' ok ∈ IR.run p n σ0 ch)
    (hv : (j, v) ∈ checkBlockFB D tr p (runFB x p) b) : v ≠ .unreachable := by
  obtain ⟨σ, ch', hen, hc⟩ := exec_check_of_enter p n p.entry σ0 ch b j σ' ok hev
  have hγ : D.γ ((runFB x p).pre b) σ := by
    rw [runFB_pre_first x p hu]
    exact hfull n σ0 ch b σ h0 hen
  exact (checkStmtsFB_sound D tr htr (fun i => (runFB x p).proved.contains (b, i)) b
    (p.block b).stmts 0 _ σ ch' hγ j σ' ok v hc hv).1

/-- without `use_refined_invariants` the invariants handed to the checker (and to every other
    client of `get_pre`) are those of the plain forward analysis with the caller's assumptions -/
theorem C02.stored_invariants_first_pass {A : Type} (x : FBCtx A) (p : Program)
    (hu : x.params.useRefined = false) : (runFB x p).pre = x.fwd x.assumptions :=
  runFB_pre_first x p hu

/-- the loop of the model is the loop of the code: the iteration reached with
    `iters > max_refine_iterations` always leaves the loop -/
theorem C02.loop_exits_at_limit {A : Type} (x : FBCtx A) (p : Program) (tree : List (Nat × List Nat))
    (onlyFwd : Bool) (asserts : List (Nat × Nat)) (iters : Nat) (asm : AsmTable A) (stored : Nat → A)
    (h : iters > x.params.maxRefine) :
    ∃ r, fbIter x p tree onlyFwd asserts iters asm stored = .done r :=
  fbIter_done_of_limit x p tree onlyFwd asserts iters asm stored h
