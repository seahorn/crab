import CrabProofs.Lemmas.ZonesExact
import CrabProofs.Lemmas.ItvEnvExact
import CrabProofs.Lemmas.OctComplete
import CrabModel.Dom.OctTightenCoded

/-!
# C12 — intervals, zones and octagons are exact on their own constraint language

Canonical reference models (`CrabModel/Dom/{ItvEnv,Zones,Octagon}.lean`): interval environments,
difference-bound matrices over `Int ∪ {+∞}` with Floyd–Warshall closure, and `2n × 2n` coherent
matrices with the *tight* closure for the integers (closure; tightening; strengthening).
Concretisations are over integer states `σ : Fin n → Int`; `γ z σ` says that every finite matrix
entry `m i j = k` is a true difference bound `v i - v j ≤ k` of the valuation induced by `σ`.

All statements hold for ALL `n` and ALL matrices (zones), all well-formed environments (intervals:
no `[+oo, ..]` / `[.., -oo]` interval, an invariant of every operation) and all coherent matrices
(octagons: `m i j = m j̄ ī`, an invariant of every operation).  The real domains are tied to these
models by the differential harness `h_exact` / `Driver/ExactH.lean`.
-/
open Crab

/-! ## Zones -/
section Zones
open Crab.Zones Crab.Dbm
variable {n : Nat}

/-- shortest-path closure keeps the set of states -/
theorem C12.close_preserves_γ (z : Zone n) (σ : State n) : γ (close z) σ ↔ γ z σ :=
  Zones.close_preserves_γ z σ

/-- closure only lowers entries -/
theorem C12.close_below (z : Zone n) : Mat.LE (close z) z := Zones.close_LE z

/-- a consistent closure is closed: zero diagonal and triangle inequality -/
theorem C12.close_closed (z : Zone n) (h : isBottom z = false) : Mat.Closed (close z) :=
  Zones.close_closed h

/-- tightness at the level of matrices: every finite entry of a closed matrix is attained by a
    solution and every infinite entry is unbounded (potential / shortest-path argument) -/
theorem C12.closed_matrix_is_tight {N : Nat} (m : Mat N) (hc : Mat.Closed m) (i j : Fin N) :
    (∀ d, m.get i j = some d → ∃ v, m.sat v ∧ v i - v j = d) ∧
    (m.get i j = none → ∀ B : Int, ∃ v, m.sat v ∧ B < v i - v j) :=
  hc.tight i j

/-- tightness on states: for a non-bottom zone each closed entry is a valid bound, a finite entry
    is attained by a state of γ and an infinite entry is unbounded over γ -/
theorem C12.closed_is_tight (z : Zone n) (hb : isBottom z = false) (i j : Fin (n + 1)) :
    (∀ σ, γ z σ → ∀ d, (close z).get i j = some d → ext σ i - ext σ j ≤ d) ∧
    (∀ d, (close z).get i j = some d → ∃ σ, γ z σ ∧ ext σ i - ext σ j = d) ∧
    ((close z).get i j = none → ∀ B : Int, ∃ σ, γ z σ ∧ B < ext σ i - ext σ j) :=
  Zones.close_tight z hb i j

/-- the witness used by the driver is a state of γ attaining row `i` -/
theorem C12.witnessEdge_spec (z : Zone n) (hb : isBottom z = false) (i : Fin (n + 1)) (B : Int) :
    γ z (witnessEdge z i B) ∧
    ∀ j, (∀ d, (close z).get i j = some d → ext (witnessEdge z i B) i - ext (witnessEdge z i B) j = d) ∧
         ((close z).get i j = none → B < ext (witnessEdge z i B) i - ext (witnessEdge z i B) j) :=
  Zones.witnessEdge_spec z hb i B

/-- assuming an in-language constraint is exact -/
theorem C12.assume_exact (z : Zone n) (c : Zones.Cst n) (σ : State n) :
    γ (assumeCst z c) σ ↔ (γ z σ ∧ c.sat σ) := Zones.assumeCst_exact z c σ

/-- a conjunction of in-language constraints added in any order -/
theorem C12.assumeAll_exact (cs : List (Zones.Cst n)) (σ : State n) :
    γ (assumeAll (Zones.top : Zone n) cs) σ ↔ ∀ c ∈ cs, c.sat σ := by
  rw [Zones.assumeAll_exact]
  exact ⟨fun h => h.2, fun h => ⟨Zones.top_γ σ, h⟩⟩

/-- bottom exactly when unsatisfiable over the integers -/
theorem C12.bottom_iff_unsat (z : Zone n) : isBottom z = true ↔ ¬ ∃ σ, γ z σ := Zones.bottom_iff_unsat z

/-- the reported interval contains every state -/
theorem C12.bounds_sound (z : Zone n) (σ : State n) (h : γ z σ) (x : Fin n) : Itv.mem (σ x) (bounds z x) :=
  Zones.bounds_sound z σ h x

/-- the reported bounds are the tightest implied ones: finite bounds are attained, infinite
    bounds mean unbounded; a bottom value reports the empty interval -/
theorem C12.bounds_tight (z : Zone n) (x : Fin n) :
    (isBottom z = true → bounds z x = Itv.bot) ∧
    (isBottom z = false →
      (∀ k, (bounds z x).ub = .fin k → ∃ σ, γ z σ ∧ σ x = k) ∧
      (∀ k, (bounds z x).lb = .fin k → ∃ σ, γ z σ ∧ σ x = k) ∧
      ((bounds z x).ub = .pinf → ∀ B : Int, ∃ σ, γ z σ ∧ B < σ x) ∧
      ((bounds z x).lb = .ninf → ∀ B : Int, ∃ σ, γ z σ ∧ σ x < B)) :=
  ⟨fun hb => Zones.bounds_bottom hb x,
   fun hb => ⟨fun k h => Zones.bounds_tight_ub z hb x k h, fun k h => Zones.bounds_tight_lb z hb x k h,
              fun h B => Zones.bounds_unbounded_ub z hb x h B, fun h B => Zones.bounds_unbounded_lb z hb x h B⟩⟩

/-- entailment answers yes exactly on the implied in-language constraints -/
theorem C12.entails_iff_implied (z : Zone n) (c : Zones.Cst n) :
    entails z c = true ↔ ∀ σ, γ z σ → c.sat σ := Zones.entails_iff_implied z c

/-- the join of two zones contains both -/
theorem C12.join_upper (a b : Zone n) (σ : State n) (h : γ a σ ∨ γ b σ) : γ (join a b) σ :=
  Zones.join_upper a b σ h

/-- the join is contained in every zone that contains both arguments -/
theorem C12.join_least (a b c : Zone n) (ha : ∀ σ, γ a σ → γ c σ) (hb : ∀ σ, γ b σ → γ c σ)
    (σ : State n) (h : γ (join a b) σ) : γ c σ := Zones.join_least a b c ha hb σ h

theorem C12.meet_exact (a b : Zone n) (σ : State n) : γ (meet a b) σ ↔ (γ a σ ∧ γ b σ) :=
  Zones.meet_exact a b σ

/-- forgetting a variable is the exact projection -/
theorem C12.forget_exact (z : Zone n) (x : Fin n) (σ : State n) :
    γ (forget z x) σ ↔ ∃ t, γ z (Zones.updS σ x t) := Zones.forget_exact z x σ

/-- the inclusion test is exact -/
theorem C12.leq_iff (a b : Zone n) : leq a b = true ↔ ∀ σ, γ a σ → γ b σ := (Zones.laws n).leq_iff trivial b

/-- non-vacuity: a satisfiable and an unsatisfiable conjunction (`x - y ≤ -1 ∧ y - x ≤ 0`) -/
example : isBottom (assumeAll (Zones.top : Zone 2) [.diff 0 1 3, .ub 1 2]) = false := by decide
example : isBottom (assumeAll (Zones.top : Zone 2) [.diff 0 1 (-1), .diff 1 0 0]) = true := by decide
example : bounds (assumeAll (Zones.top : Zone 2) [.diff 0 1 3, .ub 1 2]) 0 = ⟨.ninf, .fin 5⟩ := by decide

end Zones

/-! ## Intervals -/
section Intervals
open Crab.ItvEnv
variable {n : Nat}

theorem C12.itv_wf_invariant :
    EnvWF (ItvEnv.top : Env n) ∧
    (∀ (e : Env n) c, EnvWF e → EnvWF (assumeCst e c)) ∧
    (∀ a b : Env n, EnvWF a → EnvWF b → EnvWF (join a b)) ∧
    (∀ a b : Env n, EnvWF a → EnvWF b → EnvWF (meet a b)) ∧
    (∀ (e : Env n) x, EnvWF e → EnvWF (forget e x)) :=
  ⟨EnvWF_top, fun _ c h => EnvWF_assumeCst h c, fun _ _ ha hb => EnvWF_join ha hb,
   fun _ _ ha hb => EnvWF_meet ha hb, fun _ x h => EnvWF_forget h x⟩

theorem C12.itv_assume_exact (e : Env n) (c : ItvEnv.Cst n) (σ : ItvEnv.State n) :
    γ (assumeCst e c) σ ↔ (γ e σ ∧ c.sat σ) := ItvEnv.assumeCst_exact e c σ

theorem C12.itv_assumeAll_exact (cs : List (ItvEnv.Cst n)) (σ : ItvEnv.State n) :
    γ (assumeAll (ItvEnv.top : Env n) cs) σ ↔ ∀ c ∈ cs, c.sat σ := by
  rw [ItvEnv.assumeAll_exact]
  exact ⟨fun h => h.2, fun h => ⟨ItvEnv.top_γ σ, h⟩⟩

theorem C12.itv_bottom_iff_unsat (e : Env n) (hw : EnvWF e) : isBottom e = true ↔ ¬ ∃ σ, γ e σ :=
  ItvEnv.bottom_iff_unsat e hw

theorem C12.itv_bounds_sound (e : Env n) (σ : ItvEnv.State n) (h : γ e σ) (x : Fin n) :
    Itv.mem (σ x) (bounds e x) := ItvEnv.bounds_sound e σ h x

theorem C12.itv_bounds_tight (e : Env n) (hw : EnvWF e) (hb : isBottom e = false) (x : Fin n) :
    (∀ k, (bounds e x).ub = .fin k → ∃ σ, γ e σ ∧ σ x = k) ∧
    (∀ k, (bounds e x).lb = .fin k → ∃ σ, γ e σ ∧ σ x = k) ∧
    ((bounds e x).ub = .pinf → ∀ B : Int, ∃ σ, γ e σ ∧ B < σ x) ∧
    ((bounds e x).lb = .ninf → ∀ B : Int, ∃ σ, γ e σ ∧ σ x < B) :=
  ⟨fun k h => ItvEnv.bounds_tight_ub e hw hb x k h, fun k h => ItvEnv.bounds_tight_lb e hw hb x k h,
   fun h B => ItvEnv.bounds_unbounded_ub e hw hb x h B, fun h B => ItvEnv.bounds_unbounded_lb e hw hb x h B⟩

theorem C12.itv_entails_iff_implied (e : Env n) (hw : EnvWF e) (c : ItvEnv.Cst n) :
    entails e c = true ↔ ∀ σ, γ e σ → c.sat σ := ItvEnv.entails_iff_implied e hw c

theorem C12.itv_join_upper (a b : Env n) (σ : ItvEnv.State n) (h : γ a σ ∨ γ b σ) : γ (join a b) σ :=
  ItvEnv.join_upper a b σ h

theorem C12.itv_join_least (a b c : Env n) (hwa : EnvWF a) (hwb : EnvWF b)
    (ha : ∀ σ, γ a σ → γ c σ) (hb : ∀ σ, γ b σ → γ c σ) (σ : ItvEnv.State n) (h : γ (join a b) σ) : γ c σ :=
  ItvEnv.join_least a b c hwa hwb ha hb σ h

theorem C12.itv_meet_exact (a b : Env n) (σ : ItvEnv.State n) : γ (meet a b) σ ↔ (γ a σ ∧ γ b σ) :=
  ItvEnv.meet_exact a b σ

theorem C12.itv_forget_exact (e : Env n) (hw : EnvWF e) (x : Fin n) (σ : ItvEnv.State n) :
    γ (forget e x) σ ↔ ∃ t, γ e (ItvEnv.updS σ x t) := ItvEnv.forget_exact e hw x σ

end Intervals

/-! ## Octagons -/
section Octagons
open Crab.Octagon Crab.Dbm
variable {n : Nat}

/-- coherence `m i j = m j̄ ī` is an invariant of every operation -/
theorem C12.oct_coherent_invariant :
    Coherent (Octagon.top : Oct n) ∧
    (∀ (o : Oct n) c, Coherent o → Coherent (assumeCst o c)) ∧
    (∀ a b : Oct n, Coherent a → Coherent b → Coherent (join a b)) ∧
    (∀ a b : Oct n, Coherent a → Coherent b → Coherent (meet a b)) ∧
    (∀ (o : Oct n) x, Coherent o → Coherent (forget o x)) :=
  ⟨top_coherent, fun o c h => assumeCst_coherent o c h, fun a b ha hb => join_coherent a b ha hb,
   fun a b ha hb => meet_coherent a b ha hb, fun o x h => forget_coherent o x h⟩

/-- shortest-path closure, integer tightening and strengthening keep γ over the integers -/
theorem C12.oct_close_preserves_γ (o : Oct n) (σ : Octagon.State n) : γ (close o) σ ↔ γ o σ :=
  Octagon.close_preserves_γ o σ

theorem C12.oct_tighten_preserves_γ (m : Oct n) (σ : Octagon.State n) :
    (tighten m).sat (ext σ) ↔ m.sat (ext σ) := tighten_sat m σ

theorem C12.oct_strengthen_preserves_γ (m : Oct n) (σ : Octagon.State n) :
    (strengthen m).sat (ext σ) ↔ m.sat (ext σ) := strengthen_sat m σ

/-- the tight closure of a consistent coherent matrix is tightly closed: closed, coherent, even
    unary entries, strongly closed -/
theorem C12.oct_close_tightClosed (o : Oct n) (hco : Coherent o) (hb : isBottom o = false) :
    TightClosed (close o) := close_tightClosed o hco hb

/-- Bagnara–Hill–Zaffanella: a tightly closed matrix is satisfiable over the integers and each
    entry is the tightest implied bound (attained if finite, unbounded if infinite) -/
theorem C12.oct_tightClosed_is_tight (c : Oct n) (h : TightClosed c) (a b : Fin (2 * n)) :
    (∃ σ : Octagon.State n, c.sat (ext σ)) ∧
    (∀ d, c.get a b = some d → ∃ σ : Octagon.State n, c.sat (ext σ) ∧ ext σ a - ext σ b = d) ∧
    (c.get a b = none → ∀ B : Int, ∃ σ : Octagon.State n, c.sat (ext σ) ∧ B < ext σ a - ext σ b) :=
  ⟨tightClosed_sat c h, (tightClosed_attained c h a b).1, (tightClosed_attained c h a b).2⟩

theorem C12.oct_assume_exact (o : Oct n) (c : Octagon.Cst n) (σ : Octagon.State n) :
    γ (assumeCst o c) σ ↔ (γ o σ ∧ c.sat σ) := Octagon.assumeCst_exact o c σ

theorem C12.oct_assumeAll_exact (cs : List (Octagon.Cst n)) (σ : Octagon.State n) :
    γ (assumeAll (Octagon.top : Oct n) cs) σ ↔ ∀ c ∈ cs, c.sat σ := by
  rw [Octagon.assumeAll_exact]
  exact ⟨fun h => h.2, fun h => ⟨Octagon.top_γ σ, h⟩⟩

/-- exactness of integer octagons on their constraint language: emptiness test, entailment and
    bounds of a coherent octagon are exact over the integer states -/
def C12.oct_exact_Statement : Prop :=
  ∀ (n : Nat) (o : Oct n), Coherent o →
    (isBottom o = true ↔ ¬ ∃ σ, γ o σ) ∧
    (∀ c : Octagon.Cst n, entails o c = true ↔ ∀ σ, γ o σ → c.sat σ) ∧
    (∀ σ, γ o σ → ∀ x, Itv.mem (σ x) (bounds o x)) ∧
    (isBottom o = false → ∀ x,
      (∀ k, (bounds o x).ub = .fin k → ∃ σ, γ o σ ∧ σ x = k) ∧
      (∀ k, (bounds o x).lb = .fin k → ∃ σ, γ o σ ∧ σ x = k) ∧
      ((bounds o x).ub = .pinf → ∀ B : Int, ∃ σ, γ o σ ∧ B < σ x) ∧
      ((bounds o x).lb = .ninf → ∀ B : Int, ∃ σ, γ o σ ∧ σ x < B))

/-- integer octagons are exact, by the completeness of the tight closure over the integers -/
theorem C12.oct_exact : C12.oct_exact_Statement := fun _ o hco =>
  ⟨Octagon.bottom_iff_unsat o hco, fun c => Octagon.entails_iff_implied o hco c,
   fun σ h x => Octagon.bounds_sound o σ h x, fun hb x => Octagon.bounds_tight o hco hb x⟩

/-- the soundness half of `C12.oct_exact` holds for every matrix, coherent or not -/
theorem C12.oct_exact_partial (o : Oct n) :
    (isBottom o = true → ¬ ∃ σ, γ o σ) ∧
    (∀ c : Octagon.Cst n, entails o c = true → ∀ σ, γ o σ → c.sat σ) ∧
    (∀ σ, γ o σ → ∀ x, Itv.mem (σ x) (bounds o x)) :=
  ⟨fun h => Octagon.bottom_sound o h, fun c h σ hσ => Octagon.entails_sound o c h σ hσ,
   fun σ h x => Octagon.bounds_sound o σ h x⟩

theorem C12.oct_join_upper (a b : Oct n) (σ : Octagon.State n) (h : γ a σ ∨ γ b σ) : γ (join a b) σ :=
  Octagon.join_upper a b σ h

theorem C12.oct_join_least (a b c : Oct n) (hca : Coherent a) (hcb : Coherent b)
    (ha : ∀ σ, γ a σ → γ c σ) (hb : ∀ σ, γ b σ → γ c σ) (σ : Octagon.State n) (h : γ (join a b) σ) : γ c σ :=
  Octagon.join_least a b c hca hcb ha hb σ h

theorem C12.oct_meet_exact (a b : Oct n) (σ : Octagon.State n) : γ (meet a b) σ ↔ (γ a σ ∧ γ b σ) :=
  Octagon.meet_exact a b σ

theorem C12.oct_forget_exact (o : Oct n) (hco : Coherent o) (x : Fin n) (σ : Octagon.State n) :
    γ (forget o x) σ ↔ ∃ t, γ o (Octagon.updS σ x t) := Octagon.forget_exact o hco x σ

theorem C12.oct_leq_iff (a b : Oct n) (hca : Coherent a) : leq a b = true ↔ ∀ σ, γ a σ → γ b σ :=
  (Octagon.laws n).leq_iff hca b

/-- non-vacuity: the parity contradiction `x + y ≤ 1 ∧ x - y ≤ 0 ∧ -x - y ≤ -1 ∧ y - x ≤ 0`
    (`2x = 1`) is bottom only thanks to the integer tightening; `2x ≤ 1` alone gives `x ≤ 0` -/
example : isBottom (assumeAll (Octagon.top : Oct 2) [.sum 0 1 1, .diff 0 1 0, .nsum 0 1 (-1), .diff 1 0 0]) = true := by decide
example : isBottom (assumeAll (Octagon.top : Oct 2) [.sum 0 1 1, .diff 0 1 0]) = false := by decide
example : bounds (assumeAll (Octagon.top : Oct 2) [.sum 0 1 1, .diff 0 1 0]) 0 = ⟨.ninf, .fin 0⟩ := by decide

end Octagons

/-! ## The integer tightening of `split_oct_domain` as coded (genuine defect, found by `h_exact`)

`split_oct.hpp: integer_tightening()` rounds the odd unary weight through a 32-bit `float`.  The
exactness (and soundness) of the real octagon domain therefore only holds for unary weights below
`2^24`; above, the bound is rounded to a multiple of the float ulp — upwards (imprecise) or
downwards (UNSOUND: integer solutions are cut off). -/
section TightenCoded
open Crab.Octagon

/-- what `C12` needs from the coded tightening -/
def C12.oct_tighten_coded_Statement : Prop := ∀ w : Int, tightenCoded w = tightenExact w

/-- the coded tightening agrees with the exact one while the weight fits the float significand -/
theorem C12.oct_tighten_coded_partial (w : Int) (h : w.natAbs < 2 ^ 24) : tightenCoded w = tightenExact w := by
  simp [tightenCoded, tightenExact, f32round, h]

/-- the coded tightening is wrong above `2^24`: `x - y ≤ 0 ∧ x + y ≤ 67108867` gives `2x ≤ 67108867`, coded tightening
    yields `2x ≤ 67108864`, i.e. `x ≤ 33554432`, although `x = y = 33554433` is a solution -/
theorem C12.oct_tighten_coded_counterexample : ¬ C12.oct_tighten_coded_Statement := by
  intro h
  have := h 67108867
  revert this
  decide

theorem C12.oct_tighten_coded_unsound_witness :
    let x : Int := 33554433; let y : Int := 33554433
    x - y ≤ 0 ∧ x + y ≤ 67108867 ∧ ¬ (2 * x ≤ tightenCoded 67108867) := by decide

/-- where the float rounds upwards the coded tightening loses precision: `2x ≤ 17999999` becomes `2x ≤ 18000000` -/
theorem C12.oct_tighten_coded_imprecise_witness : tightenCoded 17999999 = 18000000 ∧ tightenExact 17999999 = 17999998 := by
  decide

example : tightenCoded 7 = 6 ∧ tightenCoded (-7) = -8 := by decide

end TightenCoded
