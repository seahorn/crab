import CrabProofs.Lemmas.IntervalCongruence
import CrabProofs.Lemmas.IntervalMul

/-!
# C08 (interval–congruence pairs) — `interval_congruence<z_number>::reduce()` is sound and exact

`Crab.IC` is the model of the reduced product (CrabModel/Scalar/IntervalCongruence.lean);
`IC.mem k p` : `k` is in the interval and in the congruence.  Every operation of the class is
the component-wise operation followed by `reduce()`; its soundness is the soundness of the
two components (C08.itv_*, C08.cg_*) plus `ic_reduce_sound`.  It is spelled out for `+ - * | &`
(the other operations have the same shape; the driver evaluates all of them).
-/
open Crab

/-- the reduction loses no common member -/
theorem C08.ic_reduce_sound (p q : IC) (k : Int) (h : IC.reduce p = some q) (hk : IC.mem k p) :
    IC.mem k q := IC.reduce_sound hk h
/-- the reduction is exact: same concretisation before and after -/
theorem C08.ic_reduce_exact (p q : IC) (k : Int) (h : IC.reduce p = some q) :
    IC.mem k q ↔ IC.mem k p := IC.mem_reduce h k
/-- the reduction never raises CRAB_ERROR -/
theorem C08.ic_reduce_defined (p : IC) : (IC.reduce p).isSome = true := IC.reduce_defined p

theorem C08.ic_ofInt_exact (n k : Int) : IC.mem k (IC.ofInt n) ↔ k = n := by
  simp only [IC.mem, IC.ofInt, Itv.mem_single, Cong.mem_ofInt, and_self]

theorem C08.ic_add_sound (p q r : IC) (a b : Int) (ha : IC.mem a p) (hb : IC.mem b q)
    (h : IC.add p q = some r) : IC.mem (a + b) r := by
  unfold IC.add at h
  split at h
  · rename_i i hi
    exact IC.reduce_sound ⟨Itv.add_sound ha.1 hb.1 hi, Cong.add_sound ha.2 hb.2⟩ h
  · cases h

theorem C08.ic_sub_sound (p q r : IC) (a b : Int) (ha : IC.mem a p) (hb : IC.mem b q)
    (h : IC.sub p q = some r) : IC.mem (a - b) r := by
  unfold IC.sub at h
  split at h
  · rename_i i hi
    exact IC.reduce_sound ⟨Itv.sub_sound ha.1 hb.1 hi, Cong.sub_sound ha.2 hb.2⟩ h
  · cases h

theorem C08.ic_mul_sound (p q r : IC) (a b : Int) (ha : IC.mem a p) (hb : IC.mem b q)
    (h : IC.mul p q = some r) : IC.mem (a * b) r :=
  IC.reduce_sound ⟨Itv.mul_sound ha.1 hb.1, Cong.mul_sound ha.2 hb.2⟩ h

theorem C08.ic_join_upper (p q r : IC) (k : Int) (hk : IC.mem k p ∨ IC.mem k q)
    (h : IC.join p q = some r) : IC.mem k r := by
  rcases hk with hk | hk
  · exact IC.reduce_sound ⟨Itv.join_upper_left hk.1, Cong.join_upper_left hk.2⟩ h
  · exact IC.reduce_sound ⟨Itv.join_upper_right hk.1, Cong.join_upper_right hk.2⟩ h

/-- `operator&` is exactly the intersection -/
theorem C08.ic_meet_exact (p q r : IC) (k : Int) (h : IC.meet p q = some r) :
    IC.mem k r ↔ (IC.mem k p ∧ IC.mem k q) := by
  have hred := C08.ic_reduce_exact ⟨Itv.meet p.i q.i, Cong.meet p.c q.c⟩ r k h
  rw [hred]
  constructor
  · intro ⟨h1, h2⟩
    have a1 := Itv.meet_exact h1
    have a2 := Cong.meet_exact h2
    exact ⟨⟨a1.1, a2.1⟩, ⟨a1.2, a2.2⟩⟩
  · intro ⟨h1, h2⟩
    exact ⟨Itv.meet_sound h1.1 h2.1, Cong.meet_sound h1.2 h2.2⟩

/-- non-vacuity: `[12,+oo] ∩ (4Z-1)` reduces to `[15,+oo]`, `[-12,-7] ∩ (6Z-3)` to the constant -9 -/
example : IC.reduce ⟨⟨.fin 12, .pinf⟩, ⟨false, 4, -1⟩⟩ = some ⟨⟨.fin 15, .pinf⟩, ⟨false, 4, -1⟩⟩ ∧
    IC.reduce ⟨⟨.fin (-12), .fin (-7)⟩, ⟨false, 6, -3⟩⟩ = some ⟨Itv.single (-9), Cong.ofInt (-9)⟩ ∧
    IC.mem 19 ⟨⟨.fin 12, .pinf⟩, ⟨false, 4, -1⟩⟩ := by
  refine ⟨by decide, by decide, by decide⟩
