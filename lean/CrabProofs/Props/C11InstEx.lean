import CrabProofs.Props.C11Inst

/-!
# C11 instances: computed, non-trivial necessary preconditions (non-vacuity)

The program (`x` = variable 0, `y` = variable 1)

    B0 (entry):  x := y + 1;  goto B1
    B1 (exit):   assert(x <= 5)

analysed backwards in error mode (`good_states = false`) from bottom at the exit block, without
forward invariants (top).  The model computes `x >= 6` before the assertion and `y >= 5` at the
entry block — on the exact interval model and on the canonical zone / octagon models — and the
instantiated theorems apply to these runs with satisfiable hypotheses: the state `y = 5` (which
violates the assertion) is in the precondition because of `C11.idom_bwd_precondition_sound`,
the state `y = 4` (which does not) is outside of it.  On the constant domain the same run
returns top (the theorem holds, the answer carries no information).
Further: `x := y / 2` backwards from `x >= 4` gives `y >= 7` (`BackwardAssignOps`, `OP_SDIV`,
commit ac800bc: `y := x * 2 + r`, `|r| <= 1`; the exact answer is `y >= 8`); by `-3`: `y <= -10`.
-/
open Crab Crab.Bwd Crab.Fix

/-- block 0 = entry `x := y + 1`, block 1 = exit `assert(x - 5 <= 0)` -/
def C11.Ex.prog : Prog :=
  { blocks := [⟨[.assign 0 ⟨1, [(1, 1)]⟩], [1]⟩, ⟨[.assert ⟨.le, ⟨-5, [(1, 0)]⟩⟩], []⟩],
    entry := 0, exit := 1 }

def C11.Ex.nest : Nat → Option (List Nat) := fun n => if n = 1 ∨ n = 0 then some [] else none

/-- the ordering of the reversed graph from the exit block -/
def C11.Ex.wto : List Comp := [.vertex 1, .vertex 0]

theorem C11.Ex.succs (n : Nat) : (C11.Ex.prog.block n).succs = if n = 0 then [1] else [] := by
  match n with
  | 0 => rfl
  | 1 => rfl
  | n + 2 => rfl

/-- the ordering is well formed for the reversed-graph problem of every domain -/
theorem C11.Ex.wf {A : Type} (D : BDom A) (good : Bool) (invAbs : Nat → A) (fin : A) (delay desc : Nat) :
    WtoWF (bwdCtx D C11.Ex.prog good invAbs fin C11.Ex.nest delay desc) C11.Ex.wto :=
  .of_check 2 rfl fun n hn => by
    have h0 : n ≠ 0 := by omega
    have h1 : ¬ (n = 1 ∨ n = 0) := by omega
    exact ⟨by show (C11.Ex.prog.block n).succs = []; rw [C11.Ex.succs, if_neg h0], if_neg h1⟩

/-- the state `x = 0, y = k` -/
def C11.Ex.sy (k : Int) : State := fun i => if i = 1 then k else 0

/-- from `y = 5` at the entry block the assertion fails: `x = 6` -/
theorem C11.Ex.coreach_y5 (inv : Nat → State → Prop) (hinv : ∀ n σ, inv n σ) (fin : State → Prop) :
    CoReach C11.Ex.prog inv true fin 0 (C11.Ex.sy 5) := by
  refine CoReach.flow 0 1 (C11.Ex.sy 5) (Bwd.upd (C11.Ex.sy 5) 0 6) (hinv _ _) (by decide) ?_ ?_
  · exact ⟨_, ⟨0, rfl⟩, rfl⟩
  · refine CoReach.fail 1 _ rfl (hinv _ _) (Or.inl ⟨0, ?_⟩)
    simp [stepStmt, Bwd.Cst.sat, Lin.eval, evalTerms, Bwd.upd]

/-! ### intervals -/

def C11.Ex.itvCtx : Ctx IDom.SEnv :=
  bwdCtx ItvB.dom C11.Ex.prog false (fun _ => IDom.SEnv.top) IDom.SEnv.bot C11.Ex.nest 1 1

/-- the run stores `x >= 6` for the exit block and `y >= 5` for the entry block -/
theorem C11.Ex.itv_run :
    (run C11.Ex.itvCtx 10 C11.Ex.wto).map (fun st => ((st.post 0).1, (st.post 1).1)) =
      some (⟨false, [(1, ⟨.fin 5, .pinf⟩)]⟩, ⟨false, [(0, ⟨.fin 6, .pinf⟩)]⟩) := by decide +kernel

/-- `C11.idom_bwd_precondition_sound` applies to this run: the failing state is covered -/
theorem C11.Ex.itv_y5_covered (fuel : Nat) (st : St IDom.SEnv) (h : run C11.Ex.itvCtx fuel C11.Ex.wto = some st) :
    IDom.SEnv.γ (preAt ItvB.dom C11.Ex.prog st.post 0) (C11.Ex.sy 5) :=
  C11.idom_bwd_precondition_sound C11.Ex.prog false (fun _ => IDom.SEnv.top) IDom.SEnv.bot C11.Ex.nest 1 1 C11.Ex.wto fuel
    st (C11.Ex.wf _ _ _ _ _ _) h 0 (C11.Ex.sy 5) (C11.Ex.coreach_y5 _ (fun _ σ => IDom.Env.γ_top σ) _)

/-- and the precondition is not trivial: `y = 4` (no violation: `x = 5`) is outside of it -/
theorem C11.Ex.itv_y4_excluded (st : St IDom.SEnv) (h : run C11.Ex.itvCtx 10 C11.Ex.wto = some st) :
    ¬ IDom.SEnv.γ (preAt ItvB.dom C11.Ex.prog st.post 0) (C11.Ex.sy 4) := by
  have hr := C11.Ex.itv_run
  rw [h] at hr
  simp only [Option.map_some, Option.some.injEq, Prod.mk.injEq] at hr
  have hre : reachExitF C11.Ex.prog 0 = true := by decide
  intro hg
  unfold preAt at hg
  rw [hre, if_pos rfl] at hg
  have h1 := hg.2 1
  rw [hr.1] at h1
  revert h1
  decide

/-! ### division by a constant (commit ac800bc) on intervals -/

/-- `x >= 4` -/
def C11.Ex.xGe4 : IDom.SEnv := ItvB.dom.assume ⟨.le, ⟨4, [(-1, 0)]⟩⟩ IDom.SEnv.top

theorem C11.Ex.itv_sdiv :
    (ItvB.dom.bwdApply .sdiv 0 1 (.const 2) C11.Ex.xGe4 IDom.SEnv.top).1 = ⟨false, [(1, ⟨.fin 7, .pinf⟩)]⟩ ∧
    (ItvB.dom.bwdApply .sdiv 0 1 (.const (-3)) C11.Ex.xGe4 IDom.SEnv.top).1 = ⟨false, [(1, ⟨.ninf, .fin (-10)⟩)]⟩ ∧
    (ItvB.dom.bwdApply .add 0 0 (.const 3) C11.Ex.xGe4 IDom.SEnv.top).1 = ⟨false, [(0, ⟨.fin 1, .pinf⟩)]⟩ ∧
    (ItvB.dom.bwdAssign 0 ⟨1, [(2, 0)]⟩ C11.Ex.xGe4 IDom.SEnv.top).1 = ⟨false, [(0, ⟨.fin 1, .pinf⟩)]⟩ := by
  decide +kernel

/-- `y = 9`: `9 / 2 = 4` is in the postcondition, so `y = 9` is in the result
    (the pre-fix inversion `y := x * 2` alone gave `y >= 8`, which happens to contain it; the state
    lost before the fix is of the kind `y = 7` for the postcondition `x = 3`, see
    `C11.old_generic_backward_apply_counterexample`) -/
example : IDom.SEnv.γ (ItvB.dom.bwdApply .sdiv 0 1 (.const 2) C11.Ex.xGe4 IDom.SEnv.top) (C11.Ex.sy 9) :=
  C11.idom_backward_sdiv_const_sound 0 1 2 (by decide) C11.Ex.xGe4 IDom.SEnv.top (C11.Ex.sy 9) (IDom.Env.γ_top _)
    (ItvB.fwd_sound.assume_sound _ _ _ (IDom.Env.γ_top _)
      (by simp [Bwd.Cst.holds, Lin.eval, evalTerms, Bwd.upd, C11.Ex.sy]))

/-! ### the canonical zone model (2 tracked variables) -/

def C11.Ex.zoneCtx : Ctx (Zones.ZVal 2) :=
  bwdCtx (C11.zoneDom 2) C11.Ex.prog false (fun _ => Zones.ZVal.top) Zones.ZVal.bot C11.Ex.nest 1 1

/-- the intervals of `x` and `y` in the stored values: `y >= 5` at the entry, `x >= 6` at the exit -/
theorem C11.Ex.zone_run :
    (run C11.Ex.zoneCtx 10 C11.Ex.wto).map (fun st =>
      ((st.post 0).map (fun z => (Zones.bounds z 0, Zones.bounds z 1)),
       (st.post 1).map (fun z => (Zones.bounds z 0, Zones.bounds z 1)))) =
      some (some (⟨.ninf, .pinf⟩, ⟨.fin 5, .pinf⟩), some (⟨.fin 6, .pinf⟩, ⟨.ninf, .pinf⟩)) := by
  decide +kernel

theorem C11.Ex.zone_y5_covered (fuel : Nat) (st : St (Zones.ZVal 2)) (h : run C11.Ex.zoneCtx fuel C11.Ex.wto = some st) :
    C11.zoneγ 2 (preAt (C11.zoneDom 2) C11.Ex.prog st.post 0) (C11.Ex.sy 5) :=
  C11.zones_bwd_precondition_sound 2 C11.Ex.prog false (fun _ => Zones.ZVal.top) Zones.ZVal.bot C11.Ex.nest 1 1 C11.Ex.wto
    fuel st (C11.Ex.wf _ _ _ _ _ _) h 0 (C11.Ex.sy 5) (C11.Ex.coreach_y5 _ (fun _ σ => Zones.top_γ _) _)

/-- the entry precondition entails `-y <= -5` and not `-y <= -6` -/
theorem C11.Ex.zone_entry_entails :
    (run C11.Ex.zoneCtx 10 C11.Ex.wto).map (fun st => (st.post 0).map (fun z =>
      (Zones.isBottom z, Zones.entails z (.lb 1 (-5)), Zones.entails z (.lb 1 (-6))))) =
      some (some (false, true, false)) := by decide +kernel

/-! ### the canonical octagon model -/

def C11.Ex.octCtx : Ctx (Octagon.OVal 2) :=
  bwdCtx (C11.octDom 2) C11.Ex.prog false (fun _ => Octagon.OVal.top) Octagon.OVal.bot C11.Ex.nest 1 1

theorem C11.Ex.oct_run :
    (run C11.Ex.octCtx 10 C11.Ex.wto).map (fun st =>
      (st.post 0).map (fun o => (Octagon.boundsC (Octagon.close o) 0, Octagon.boundsC (Octagon.close o) 1))) =
      some (some (⟨.ninf, .pinf⟩, ⟨.fin 5, .pinf⟩)) := by decide +kernel

theorem C11.Ex.oct_y5_covered (fuel : Nat) (st : St (Octagon.OVal 2)) (h : run C11.Ex.octCtx fuel C11.Ex.wto = some st) :
    C11.octγ 2 (preAt (C11.octDom 2) C11.Ex.prog st.post 0) (C11.Ex.sy 5) :=
  C11.oct_bwd_precondition_sound 2 C11.Ex.prog false (fun _ => Octagon.OVal.top) Octagon.OVal.bot C11.Ex.nest 1 1 C11.Ex.wto
    fuel st (C11.Ex.wf _ _ _ _ _ _) h 0 (C11.Ex.sy 5) (C11.Ex.coreach_y5 _ (fun _ σ => Octagon.top_γ _) _)

/-! ### constants and signs: the same run returns top / a sign fact -/

def C11.Ex.cstCtx : Ctx CDom.SEnv :=
  bwdCtx constDom C11.Ex.prog false (fun _ => CDom.SEnv.top) CDom.SEnv.bot C11.Ex.nest 1 1

/-- nothing is known at the entry block (the constant domain cannot express `y >= 5`) -/
theorem C11.Ex.cst_run :
    (run C11.Ex.cstCtx 10 C11.Ex.wto).map (fun st => ((st.post 0).1.isBot, XDom.Env.isTop (st.post 0).1)) =
      some (false, true) := by decide +kernel

theorem C11.Ex.cst_y5_covered (fuel : Nat) (st : St CDom.SEnv) (h : run C11.Ex.cstCtx fuel C11.Ex.wto = some st) :
    CDom.SEnv.γ (preAt constDom C11.Ex.prog st.post 0) (C11.Ex.sy 5) :=
  C11.cst_bwd_precondition_sound C11.Ex.prog false (fun _ => CDom.SEnv.top) CDom.SEnv.bot C11.Ex.nest 1 1 C11.Ex.wto
    fuel st (C11.Ex.wf _ _ _ _ _ _) h 0 (C11.Ex.sy 5)
    (C11.Ex.coreach_y5 _ (fun _ σ => XDom.Env.γ_top CDom.cstLaws σ) _)

def C11.Ex.sgnCtx : Ctx SDom.SEnv :=
  bwdCtx signDom C11.Ex.prog false (fun _ => SDom.SEnv.top) SDom.SEnv.bot C11.Ex.nest 1 1

theorem C11.Ex.sgn_y5_covered (fuel : Nat) (st : St SDom.SEnv) (h : run C11.Ex.sgnCtx fuel C11.Ex.wto = some st) :
    SDom.SEnv.γ (preAt signDom C11.Ex.prog st.post 0) (C11.Ex.sy 5) :=
  C11.sgn_bwd_precondition_sound C11.Ex.prog false (fun _ => SDom.SEnv.top) SDom.SEnv.bot C11.Ex.nest 1 1 C11.Ex.wto
    fuel st (C11.Ex.wf _ _ _ _ _ _) h 0 (C11.Ex.sy 5)
    (C11.Ex.coreach_y5 _ (fun _ σ => XDom.Env.γ_top SDom.signLaws σ) _)

/-- the sign run terminates with a value (the hypothesis of `C11.Ex.sgn_y5_covered` is satisfiable) -/
theorem C11.Ex.sgn_run : (run C11.Ex.sgnCtx 10 C11.Ex.wto).isSome = true := by decide +kernel

