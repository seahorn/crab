import CrabProofs.Props.C01Prog
import CrabProofs.Lemmas.AbsTransformerChecker
import CrabProofs.Lemmas.AbsTransformerItvLaws

/-!
# C01 (transformer part) — `intra_abs_transformer` and `fwd_analyzer` are sound

Model: `CrabModel/Analysis/AbsTransformer.lean` — `execStmtE` = `intra_abs_transformer::exec`
(one branch per statement kind of the CrabIR fragment, the two `conv_op` tables,
`m_ignore_assert`, the `CrabSanityCheckFlag` epilogues, `none` = CRAB_ERROR), `analyze` =
`fwd_analyzer::analyze` (fold over the block, then `prune_dead_variables`), over an abstract
domain given as the record `NDom` of the methods these classes call.  Concrete side:
`CrabModel/IR/Semantics.lean`.

* `C01.exec_stmt_sound` : one statement, every kind, both flags, from the per-method laws
  `NDom.Laws` (what C03 proves of a domain).  Executions that stop (false `assume`, division by
  zero, `unreachable`), fail an `assert`, or leave crab's reading of an operation have no
  successor state: `C01.exec_no_successor` — nothing leaves the block, nothing is claimed.
* `C01.exec_no_crab_error`, `C01.exec_sanity_flag_only_aborts` : the CRAB_ERRORs of `exec`.
* `C01.exec_block_sound`, `C01.block_transformer_is_sem`, `C01.analyzer_sound` : the block
  transformer satisfies the `Sem` contract of the proved engine (`C01.run_sound`), hence the
  tables of the analyzer contain every state an execution arrives at / leaves a block with —
  C01 for the whole intra-procedural forward analyzer modulo per-method domain soundness.
* `C01.prune_dead_sound`, `C01.prune_checker_sound` : liveness pruning.
* `C01.idom_analyzer_sound` : the instance for the exact model of `interval_domain`.

Hypotheses about variable indices: statements define declared variables (`Program.defsOk`) and
the initial state has exactly the declared variables (`Shape`); the executable semantics ignores
a write to an undeclared index, which no domain does.
-/
open Crab Crab.Fix Crab.IR Crab.Analysis

/-! ### 1. one statement -/

/-- C01, one statement: if `σ ∈ γ(inv)`, the statement steps `σ → σ'` and `exec` returns `inv'`
    (whatever `m_ignore_assert` and the sanity flag are), then `σ' ∈ γ(inv')`. -/
theorem C01.exec_stmt_sound {A : Type} (D : NDom A) (L : D.Laws) (cfg : TrCfg) (nI nB : Nat)
    (s : Stmt) (inv inv' : A) (σ σ' : State) (ch : Int) (hd : s.defOk nI nB = true)
    (hsh : Shape nI nB σ) (hg : D.γ inv σ) (hs : stepStmt s σ ch = .next σ')
    (he : execStmtE D cfg s inv = some inv') : D.γ inv' σ' ∧ Shape nI nB σ' :=
  ⟨execStmtE_some he ▸ execStmt_sound D L cfg.ignoreAssert nI nB s inv σ σ' ch hd hsh hg hs, stepStmt_shape hsh hs⟩

/-- the same for the transformer as it runs by default (sanity flag off): it is total -/
theorem C01.exec_stmt_sound_default {A : Type} (D : NDom A) (L : D.Laws) (ignoreAssert : Bool)
    (nI nB : Nat) (s : Stmt) (inv : A) (σ σ' : State) (ch : Int) (hd : s.defOk nI nB = true)
    (hsh : Shape nI nB σ) (hg : D.γ inv σ) (hs : stepStmt s σ ch = .next σ') :
    D.γ (execStmt D ignoreAssert s inv) σ' :=
  execStmt_sound D L ignoreAssert nI nB s inv σ σ' ch hd hsh hg hs

/-- with the sanity flag off `exec` raises no CRAB_ERROR (in particular every
    `binary_operation_t` is in one of the two `conv_op` tables) -/
theorem C01.exec_no_crab_error {A : Type} (D : NDom A) (ignoreAssert : Bool) (s : Stmt) (inv : A) :
    execStmtE D ⟨ignoreAssert, false⟩ s inv = some (execStmt D ignoreAssert s inv) :=
  execStmtE_sanity_off D ignoreAssert s inv

/-- switching the sanity flag on never changes a result: it can only abort the analysis -/
theorem C01.exec_sanity_flag_only_aborts {A : Type} (D : NDom A) (ignoreAssert : Bool) (s : Stmt)
    (inv r : A) (h : execStmtE D ⟨ignoreAssert, true⟩ s inv = some r) :
    r = execStmt D ignoreAssert s inv := execStmtE_some h

/-- a statement without successor state (false `assume`, division by zero, `unreachable`, failed
    `assert`, operation outside crab's reading) ends the execution of the block: no state
    leaves the block, so soundness asks nothing of the abstract result -/
theorem C01.exec_no_successor (b i : Nat) (s : Stmt) (ss : List Stmt) (σ : State) (ch : List Int)
    (h : ∀ c σ1, stepStmt s σ c ≠ .next σ1) (σ' : State) :
    (runStmts b i (s :: ss) σ ch).res ≠ .next σ' := by
  intro hr
  obtain ⟨σ1, c, _, hs, _⟩ := runStmts_cons_next b i s ss σ σ' ch hr
  exact h c σ1 hs

/-- the cases the semantics stops on -/
example (σ : State) (ch : Int) : stepStmt (.binop .sdiv 0 1 (.const 0)) σ ch = .stop := by
  simp [stepStmt, evalBin, Operand.eval]
example (σ : State) (ch : Int) : stepStmt (.assert ⟨.lt, ⟨0, []⟩⟩) σ ch = .fail := by
  simp [stepStmt, Cst.holds, Lin.eval]
example (σ : State) (ch : Int) : stepStmt .unreachable σ ch = .stop := rfl

/-- `exec(int_cast_t&)` (no cast statement in the IR fragment: the concrete step is
    `dst := src`, and for `zext` the source fits its width), from the law of the one method it
    calls -/
theorem C01.exec_int_cast_sound {A : Type} (D : NDom A) (cfg : TrCfg) (op : CastOp)
    (dst src bw : Nat) (inv inv' : A) (σ : State)
    (hlaw : ∀ a σ, D.γ a σ → dst < σ.iv.size → (convCast op = .zext → σ.geti src ≤ 2 ^ bw - 1) →
      D.γ (D.intCast a (convCast op) dst src bw) (σ.seti dst (σ.geti src)))
    (hd : dst < σ.iv.size) (hz : op = .zext → σ.geti src ≤ 2 ^ bw - 1) (hg : D.γ inv σ)
    (he : execIntCastE D cfg op dst src bw inv = some inv') :
    D.γ inv' (σ.seti dst (σ.geti src)) := by
  unfold execIntCastE at he
  rw [sanityGuard_some he]
  refine hlaw inv σ hg hd (fun h => hz ?_)
  cases op <;> simp [convCast] at h ⊢

/-! ### 2. blocks, the engine contract, the analyzer -/

/-- C01, the loop of `analyze` over a statement list: every state with which an execution leaves
    the list is described by the result of the fold -/
theorem C01.exec_block_sound {A : Type} (D : NDom A) (L : D.Laws) (cfg : TrCfg) (nI nB b i : Nat)
    (ss : List Stmt) (inv inv' : A) (σ σ' : State) (ch : List Int)
    (hd : ∀ s ∈ ss, s.defOk nI nB = true) (hsh : Shape nI nB σ) (hg : D.γ inv σ)
    (hr : (runStmts b i ss σ ch).res = .next σ') (he : execStmtsE D cfg ss inv = some inv') :
    D.γ inv' σ' ∧ Shape nI nB σ' :=
  execStmtsE_some he ▸ (execStmts_sound D L cfg.ignoreAssert nI nB b ss i inv σ σ' ch hd hsh hg hr).symm

/-- `fwd_analyzer::analyze` (fold, then pruning of the dead variables) is sound w.r.t. the
    executable block semantics, with or without a liveness object -/
theorem C01.analyze_sound {A : Type} (D : NDom A) (L : D.Laws) (cfg : FwdCfg) (p : Program)
    (hp : p.defsOk = true) (node : Nat) (inv : A) (σ σ' : State) (hsh : Shape p.nI p.nB σ)
    (hg : D.γ inv σ) (hst : BlockStep p node σ σ') :
    D.γ (analyze D cfg p node inv) σ' ∧ Shape p.nI p.nB σ' :=
  (Analysis.analyze_sound D L cfg p hp node inv σ σ' hsh hg hst).symm

/-- the block transformer built from `exec` satisfies the contract `Sem` of `C01.run_sound`:
    there is a `Sem` instance for the analyzer's iterator context whose concretisation is the one
    of the domain (on states with the declared variables) and whose block relation is the
    executable block semantics -/
theorem C01.block_transformer_is_sem {A : Type} (D : NDom A) (L : D.Laws) (ops : Fix.Ops A)
    (LL : LatLaws ops D.γ) (cfg : FwdCfg) (p : Program) (hp : p.defsOk = true)
    (preds : Nat → List Nat) (nesting : Nat → Option (List Nat)) (init : A)
    (assumptions : Option (List (Nat × A))) (delay descending : Nat) :
    ∃ sem : Sem (mkCtx D ops cfg p preds nesting init assumptions delay descending) State,
      (∀ a σ, sem.γ a σ ↔ (Shape p.nI p.nB σ ∧ D.γ a σ)) ∧
      (∀ n σ σ', sem.step n σ σ' ↔ BlockStep p n σ σ') :=
  ⟨analyzerSem D L ops LL cfg p hp preds nesting init assumptions delay descending,
   fun _ _ => Iff.rfl, fun _ _ _ => Iff.rfl⟩

/-- the context `mkCtx` with the predecessor lists of the program and no assumption reads the
    program -/
theorem C01.reads_mkCtx {A : Type} (D : NDom A) (ops : Fix.Ops A) (cfg : FwdCfg) (p : Program)
    (nesting : Nat → Option (List Nat)) (init : A) (delay descending : Nat) :
    C01.Reads (mkCtx D ops cfg p (predsOf p) nesting init none delay descending) p where
  entry := rfl
  preds := fun b n h => predsOf_covers p b n h
  noAsm := rfl

/-- **C01 for the intra-procedural forward analyzer**: engine + `intra_abs_transformer` +
    (optional) liveness pruning.  For every domain record satisfying the method laws and the
    lattice laws, every program whose statements define declared variables, every well-formed
    ordering, fixpoint parameters, `m_ignore_assert`, liveness object: the tables the analyzer
    returns (`get_pre` / `get_post`) contain every concrete state with which an execution started
    in a state of the initial value arrives at / leaves a block. -/
theorem C01.analyzer_sound {A : Type} (D : NDom A) (L : D.Laws) (ops : Fix.Ops A)
    (LL : LatLaws ops D.γ) (cfg : FwdCfg) (p : Program) (hp : p.defsOk = true)
    (preds : Nat → List Nat) (nesting : Nat → Option (List Nat)) (init : A)
    (assumptions : Option (List (Nat × A))) (delay descending : Nat) (w : List Comp)
    (hr : C01.Reads (mkCtx D ops cfg p preds nesting init assumptions delay descending) p)
    (hwf : WtoWF (mkCtx D ops cfg p preds nesting init assumptions delay descending) w)
    (fuel : Nat) (st : St A)
    (hrun : Fix.run (mkCtx D ops cfg p preds nesting init assumptions delay descending) fuel w = some st)
    (σ0 : State) (hsh : Shape p.nI p.nB σ0) (hinit : D.γ init σ0) (n : Nat) (ch : List Int) :
    (∀ b σ, Event.enter b σ ∈ IR.run p n σ0 ch → D.γ (st.pre b) σ) ∧
    (∀ b σ, Event.leave b σ ∈ IR.run p n σ0 ch → D.γ (st.post b) σ) := by
  have h := C01.program_sound _ w p
    (analyzerSem D L ops LL cfg p hp preds nesting init assumptions delay descending) hr
    (fun _ _ _ h => h) hwf fuel st hrun σ0 ⟨hsh, hinit⟩ n ch
  exact ⟨fun b σ he => (h.1 b σ he).2, fun b σ he => (h.2 b σ he).2⟩

/-! ### 3. liveness pruning -/

/-- `prune_dead_variables`: forgetting variables only enlarges the concretisation, so the pruned
    invariant still contains every concrete state — for ANY set the liveness object reports
    (no hypothesis on the liveness analysis is needed for soundness; what liveness buys is
    precision: C18 is the statement that the forgotten variables are irrelevant afterwards) -/
theorem C01.prune_dead_sound {A : Type} (D : NDom A) (L : D.Laws) (dead : Nat → List AVar)
    (formals : List AVar) (node : Nat) (inv : A) (σ : State) (hg : D.γ inv σ) :
    D.γ (pruneDead D (some dead) formals node inv) σ :=
  pruneDead_sound D L (some dead) formals node inv σ hg

/-- without a liveness object nothing is pruned; a bottom or top invariant is left alone -/
theorem C01.prune_dead_noop {A : Type} (D : NDom A) (dead : Nat → List AVar) (formals : List AVar)
    (node : Nat) (inv : A) :
    pruneDead D none formals node inv = inv ∧
    ((D.isBottom inv || D.isTop inv) = true → pruneDead D (some dead) formals node inv = inv) := by
  refine ⟨rfl, fun h => ?_⟩
  simp only [pruneDead, h, if_true]

/-- the invariants at block entries AND exits stay sound when the analyzer prunes at every block
    exit whatever `dead_exit` returns (`C01.analyzer_sound` with a liveness object) -/
theorem C01.prune_dead_analyzer_sound {A : Type} (D : NDom A) (L : D.Laws) (ops : Fix.Ops A)
    (LL : LatLaws ops D.γ) (ignoreAssert : Bool) (dead : Nat → List AVar) (formals : List AVar)
    (p : Program) (hp : p.defsOk = true) (nesting : Nat → Option (List Nat)) (init : A)
    (delay descending : Nat) (w : List Comp) (fuel : Nat) (st : St A)
    (hwf : WtoWF (mkCtx D ops ⟨ignoreAssert, some dead, formals⟩ p (predsOf p) nesting init none
      delay descending) w)
    (hrun : Fix.run (mkCtx D ops ⟨ignoreAssert, some dead, formals⟩ p (predsOf p) nesting init none
      delay descending) fuel w = some st)
    (σ0 : State) (hsh : Shape p.nI p.nB σ0) (hinit : D.γ init σ0) (n : Nat) (ch : List Int) :
    (∀ b σ, Event.enter b σ ∈ IR.run p n σ0 ch → D.γ (st.pre b) σ) ∧
    (∀ b σ, Event.leave b σ ∈ IR.run p n σ0 ch → D.γ (st.post b) σ) :=
  C01.analyzer_sound D L ops LL ⟨ignoreAssert, some dead, formals⟩ p hp (predsOf p) nesting init none
    delay descending w (C01.reads_mkCtx D ops _ p nesting init delay descending) hwf fuel st hrun
    σ0 hsh hinit n ch

/-- pruning never makes the assertion checker answer `safe` (or `unreachable`) wrongly: the
    checker (`intra_checker::run`) re-propagates the block-entry invariants of the analyzer —
    computed with pruning at every block exit, for any liveness answer — with the analyzer's own
    transformer; an assert it classifies `unreachable` is not executed and one it classifies
    `safe` does not fail, in any execution from a state of the initial value. -/
theorem C01.prune_checker_sound {A : Type} (D : NDom A) (L : D.Laws) (ops : Fix.Ops A)
    (LL : LatLaws ops D.γ) (cfg : FwdCfg) (p : Program) (hp : p.defsOk = true)
    (preds : Nat → List Nat) (nesting : Nat → Option (List Nat)) (init : A)
    (assumptions : Option (List (Nat × A))) (delay descending : Nat) (w : List Comp)
    (hr : C01.Reads (mkCtx D ops cfg p preds nesting init assumptions delay descending) p)
    (hwf : WtoWF (mkCtx D ops cfg p preds nesting init assumptions delay descending) w)
    (fuel : Nat) (st : St A)
    (hrun : Fix.run (mkCtx D ops cfg p preds nesting init assumptions delay descending) fuel w = some st)
    (C : CheckDom A) (hC : C.γ = D.γ)
    (σ0 : State) (hsh : Shape p.nI p.nB σ0) (hinit : D.γ init σ0) (n : Nat) (ch : List Int)
    (b j : Nat) (σ' : State) (ok : Bool) (v : CheckKind)
    (hev : Event.check b j σ' ok ∈ IR.run p n σ0 ch)
    (hv : (j, v) ∈ checkBlock C (execStmt D cfg.ignoreAssert) p st.pre b) :
    v ≠ .unreachable ∧ (v = .safe → ok = true) := by
  obtain ⟨σ, ch', hen, hc⟩ := exec_check_of_enter p n p.entry σ0 ch b j σ' ok hev
  have h := (C01.program_sound _ w p
    (analyzerSem D L ops LL cfg p hp preds nesting init assumptions delay descending) hr
    (fun _ _ _ h => h) hwf fuel st hrun σ0 ⟨hsh, hinit⟩ n ch).1 b σ hen
  exact checkBlock_sound_exec D L C hC cfg.ignoreAssert p hp st.pre b σ ch' h.1 h.2 j σ' ok v hc hv

/-! ### 4. the interval domain -/

/-- **C01 ∘ C03 for `interval_domain`**: the forward analyzer run on the exact model of the
    interval domain (`ItvN.dom`: every method one call of `Crab.IDom`; method laws `ItvN.laws`
    from the soundness theorems of Props/C03Itv.lean) returns invariants that contain every
    concrete state — every program, ordering, fixpoint parameters, `m_ignore_assert`, liveness
    object. -/
theorem C01.idom_analyzer_sound (cfg : FwdCfg) (p : Program) (hp : p.defsOk = true)
    (preds : Nat → List Nat) (nesting : Nat → Option (List Nat)) (init : IDom.SEnv)
    (assumptions : Option (List (Nat × IDom.SEnv))) (delay descending : Nat) (w : List Comp)
    (hr : C01.Reads (mkCtx ItvN.dom IDom.SEnv.ops cfg p preds nesting init assumptions delay descending) p)
    (hwf : WtoWF (mkCtx ItvN.dom IDom.SEnv.ops cfg p preds nesting init assumptions delay descending) w)
    (fuel : Nat) (st : St IDom.SEnv)
    (hrun : Fix.run (mkCtx ItvN.dom IDom.SEnv.ops cfg p preds nesting init assumptions delay descending)
      fuel w = some st)
    (σ0 : State) (hsh : Shape p.nI p.nB σ0) (hinit : ItvN.dom.γ init σ0) (n : Nat) (ch : List Int) :
    (∀ b σ, Event.enter b σ ∈ IR.run p n σ0 ch → ItvN.dom.γ (st.pre b) σ) ∧
    (∀ b σ, Event.leave b σ ∈ IR.run p n σ0 ch → ItvN.dom.γ (st.post b) σ) :=
  C01.analyzer_sound ItvN.dom ItvN.laws IDom.SEnv.ops ItvN.latLaws cfg p hp preds nesting init
    assumptions delay descending w hr hwf fuel st hrun σ0 hsh hinit n ch

/-- read on the variables: the value of every integer variable at a block entry is in the
    interval the analyzer reports for it -/
theorem C01.idom_analyzer_sound_at (cfg : FwdCfg) (p : Program) (hp : p.defsOk = true)
    (preds : Nat → List Nat) (nesting : Nat → Option (List Nat)) (init : IDom.SEnv)
    (assumptions : Option (List (Nat × IDom.SEnv))) (delay descending : Nat) (w : List Comp)
    (hr : C01.Reads (mkCtx ItvN.dom IDom.SEnv.ops cfg p preds nesting init assumptions delay descending) p)
    (hwf : WtoWF (mkCtx ItvN.dom IDom.SEnv.ops cfg p preds nesting init assumptions delay descending) w)
    (fuel : Nat) (st : St IDom.SEnv)
    (hrun : Fix.run (mkCtx ItvN.dom IDom.SEnv.ops cfg p preds nesting init assumptions delay descending)
      fuel w = some st)
    (σ0 : State) (hsh : Shape p.nI p.nB σ0) (hinit : ItvN.dom.γ init σ0) (n : Nat) (ch : List Int)
    (b : Nat) (σ : State) (he : Event.enter b σ ∈ IR.run p n σ0 ch) (x : Nat) :
    (st.pre b).1.bottom = false ∧ Itv.mem (σ.geti x) ((st.pre b).1.get (2 * x)) := by
  have h := (C01.idom_analyzer_sound cfg p hp preds nesting init assumptions delay descending w hr hwf
    fuel st hrun σ0 hsh hinit n ch).1 b σ he
  refine ⟨h.1, ?_⟩
  have := h.2 (2 * x)
  rwa [ItvN.view_int] at this

/-! ### example: a three-block program with a loop, liveness pruning at the exit of `B0`

Replayed on the real analyzer (`python3 tools/hrun.py h_prog_1 --source h_prog --define -DVDOM=1 --
--ops f`, request `(prog.fwd intervals (params 1 1 0 1) (ivars v0 v1) (bvars b0) (entry B0)
(exit B2) (init) (blocks (B0 (stmts (assign v0 (lin 0)) (assign v1 (lin 5)) (bassign b0 (le (lin 0
(1 v0))))) (succs B1)) (B1 (stmts (assume (le (lin -9 (1 v0)))) (add v0 v0 1)) (succs B1 B2)) (B2
(stmts (assume (le (lin 10 (-1 v0)))) (mul v1 v0 2) (assert (le (lin -20 (1 v1))))) (succs))))`):
the six invariants and the verdict of `C01.TrEx.run_eq` / `check_eq` are the ones it prints; with
`live = 0` it prints `v1 = [5,5]` at the exit of `B0` and at the entries of `B1`, `B2` instead. -/

/-- `B0: v0 := 0; v1 := 5; b0 := (v0 <= 0); goto B1`
    `B1: assume v0 <= 9; v0 := v0 + 1; goto B1, B2`
    `B2: assume v0 >= 10; v1 := v0 * 2; assert v1 <= 20` -/
def C01.TrEx.prog : Program :=
  ⟨2, 1, 0, 2,
   #[⟨[.assign 0 ⟨0, []⟩, .assign 1 ⟨5, []⟩, .bassign 0 ⟨.le, ⟨0, [(1, 0)]⟩⟩], [1]⟩,
     ⟨[.assume ⟨.le, ⟨-9, [(1, 0)]⟩⟩, .binop .add 0 0 (.const 1)], [1, 2]⟩,
     ⟨[.assume ⟨.le, ⟨10, [(-1, 0)]⟩⟩, .binop .mul 1 0 (.const 2),
       .assert ⟨.le, ⟨-20, [(1, 1)]⟩⟩], []⟩]⟩

def C01.TrEx.wto : List Comp := [.vertex 0, .cycle 1 [], .vertex 2]
def C01.TrEx.nesting : Nat → Option (List Nat) := fun n => if n ≤ 2 then some [] else none

/-- the answers of `live_and_dead_analysis::dead_exit` on this program: `v1` and `b0` are dead at
    the exit of `B0` (`(USE ∪ DEF)(B0) \ live_out(B0)`), nothing at the exit of `B1`; `B2` has an
    empty live-out set, for which the class records no dead set -/
def C01.TrEx.cfg : FwdCfg := ⟨false, some (fun n => if n = 0 then [.int 1, .bool 0] else []), []⟩

/-- widening delay 1, one descending iteration, initial value top, no assumption -/
def C01.TrEx.ctx : Ctx IDom.SEnv :=
  mkCtx ItvN.dom IDom.SEnv.ops C01.TrEx.cfg C01.TrEx.prog (predsOf C01.TrEx.prog) C01.TrEx.nesting
    IDom.SEnv.top none 1 1

theorem C01.TrEx.defsOk : C01.TrEx.prog.defsOk = true := by decide

/-- the run: `v0` is key `0`, `v1` is key `2`; widening at the head `B1`, one narrowing step;
    `v1 = 5` pruned from the exit invariant of `B0` -/
theorem C01.TrEx.run_eq :
    ((Fix.run C01.TrEx.ctx 10 C01.TrEx.wto).map fun st =>
      [0, 1, 2].map fun b => ((st.pre b).1, (st.post b).1)) =
    some [(⟨false, []⟩, ⟨false, [(0, Itv.single 0)]⟩),
          (⟨false, [(0, ⟨.fin 0, .fin 10⟩)]⟩, ⟨false, [(0, ⟨.fin 1, .fin 10⟩)]⟩),
          (⟨false, [(0, ⟨.fin 1, .fin 10⟩)]⟩, ⟨false, [(0, Itv.single 10), (2, Itv.single 20)]⟩)] := by decide +kernel

/-- the checker on these invariants: the assert of `B2` is `safe` -/
theorem C01.TrEx.check_eq :
    (Fix.run C01.TrEx.ctx 10 C01.TrEx.wto).map (fun st =>
      checkBlock ItvN.checkDom (execStmt ItvN.dom false) C01.TrEx.prog st.pre 2) =
    some [(2, .safe)] := by decide +kernel

theorem C01.TrEx.edges (q n : Nat) (h : q ∈ predsOf C01.TrEx.prog n) :
    (q = 0 ∧ n = 1) ∨ (q = 1 ∧ n = 1) ∨ (q = 1 ∧ n = 2) := by
  unfold predsOf at h
  rw [List.mem_filter, List.mem_range] at h
  obtain ⟨hq, hs⟩ := h
  have hq' : q < 3 := hq
  have : q = 0 ∨ q = 1 ∨ q = 2 := by omega
  rcases this with h | h | h <;> subst h <;> simp [Program.block, C01.TrEx.prog] at hs <;> omega

theorem C01.TrEx.nodes : nodesList C01.TrEx.wto = [0, 1, 2] := by decide

theorem C01.TrEx.wf : WtoWF C01.TrEx.ctx C01.TrEx.wto where
  nodup := by decide
  closed := by
    intro q n hq _
    rw [C01.TrEx.nodes]
    rcases C01.TrEx.edges q n hq with ⟨_, h⟩ | ⟨_, h⟩ | ⟨_, h⟩ <;> subst h <;> decide
  edge := by
    intro q n hq _ _
    rcases C01.TrEx.edges q n hq with ⟨h1, h2⟩ | ⟨h1, h2⟩ | ⟨h1, h2⟩ <;> subst h1 <;> subst h2 <;>
      decide
  entry_mem := by decide
  nesting_in := by
    intro n hn
    rw [C01.TrEx.nodes] at hn
    simp only [List.mem_cons, List.not_mem_nil, or_false] at hn
    rcases hn with h | h | h <;> subst h <;> decide
  nesting_out := by
    intro n hn
    rw [C01.TrEx.nodes] at hn
    simp only [List.mem_cons, List.not_mem_nil, or_false, not_or] at hn
    have h3 : ¬ n ≤ 2 := by omega
    simp [C01.TrEx.ctx, mkCtx, C01.TrEx.nesting, h3]

/-- an execution goes ten times round the loop and reaches `B2` with `v0 = 10` -/
example : ((IR.run C01.TrEx.prog 13 ⟨#[7, 7], #[false]⟩ [0, 0, 0, 0, 0, 0, 0, 0, 0, 1]).filterMap
    (fun e => match e with | .enter 2 σ => some (σ.geti 0) | _ => none)) = [10] := by decide +kernel

/-- the theorem applied to the example: whatever the run returns contains every state with which
    an execution from any initial state with two integer variables and one boolean arrives at a
    block; in particular at `B2` the value of `v0` is in the reported interval -/
example (fuel : Nat) (st : St IDom.SEnv) (h : Fix.run C01.TrEx.ctx fuel C01.TrEx.wto = some st)
    (σ0 : State)
    (hsh : Shape 2 1 σ0) (n : Nat) (ch : List Int) (σ : State)
    (he : Event.enter 2 σ ∈ IR.run C01.TrEx.prog n σ0 ch) : Itv.mem (σ.geti 0) ((st.pre 2).1.get 0) :=
  (C01.idom_analyzer_sound_at C01.TrEx.cfg C01.TrEx.prog C01.TrEx.defsOk (predsOf C01.TrEx.prog)
    C01.TrEx.nesting IDom.SEnv.top none 1 1 C01.TrEx.wto
    (C01.reads_mkCtx ItvN.dom IDom.SEnv.ops C01.TrEx.cfg C01.TrEx.prog C01.TrEx.nesting IDom.SEnv.top 1 1)
    C01.TrEx.wf fuel st h σ0 hsh
    (ItvN.γ_top σ0) n ch 2 σ he 0).2

/-- and the `safe` verdict of the example is right in every execution (`C01.prune_checker_sound`
    with the pruning liveness object of `C01.TrEx.cfg`) -/
example (fuel : Nat) (st : St IDom.SEnv) (h : Fix.run C01.TrEx.ctx fuel C01.TrEx.wto = some st)
    (σ0 : State)
    (hsh : Shape 2 1 σ0) (n : Nat) (ch : List Int) (σ' : State) (ok : Bool)
    (hev : Event.check 2 2 σ' ok ∈ IR.run C01.TrEx.prog n σ0 ch)
    (hv : (2, CheckKind.safe) ∈
      checkBlock ItvN.checkDom (execStmt ItvN.dom false) C01.TrEx.prog st.pre 2) :
    ok = true :=
  (C01.prune_checker_sound ItvN.dom ItvN.laws IDom.SEnv.ops ItvN.latLaws C01.TrEx.cfg C01.TrEx.prog
    C01.TrEx.defsOk (predsOf C01.TrEx.prog)
    C01.TrEx.nesting IDom.SEnv.top none 1 1 C01.TrEx.wto
    (C01.reads_mkCtx ItvN.dom IDom.SEnv.ops C01.TrEx.cfg C01.TrEx.prog C01.TrEx.nesting IDom.SEnv.top 1 1)
    C01.TrEx.wf fuel st h
    ItvN.checkDom rfl σ0 hsh (ItvN.γ_top σ0) n ch 2 2 σ' ok .safe hev hv).2 rfl



/-- without the liveness object the exit invariant of `B0` keeps `v1 = 5` (as the real analyzer
    run with `live = 0`) -/
example : ((Fix.run (mkCtx ItvN.dom IDom.SEnv.ops {} C01.TrEx.prog (predsOf C01.TrEx.prog)
      C01.TrEx.nesting IDom.SEnv.top none 1 1) 10 C01.TrEx.wto).map fun st => (st.post 0).1) =
    some ⟨false, [(0, Itv.single 0), (2, Itv.single 5)]⟩ := by decide +kernel

/-! ### example: one block with the statement kinds of the fragment

`init: v3 ∈ [2,7]`; the real analyzer (same replay command, `(init (v3 2 7))`, statements in the
order below) prints `post: v0 = [8,28], v1 = [0,12], v2 = [1,17], v3 = [0,2]`, booleans top, and
the verdicts `(B0 14 safe) (B0 15 warning)`; `x := y sdiv 0`, `x := y srem z` with `z = 0` and a
block containing `unreachable` give bottom — as the model below. -/

def C01.TrEx.allKinds : List Stmt :=
  [.assign 0 ⟨3, [(2, 3)]⟩, .binop .add 1 0 (.var 3), .binop .sdiv 2 1 (.const 2),
   .select 2 ⟨.le, ⟨-5, [(1, 3)]⟩⟩ ⟨1, []⟩ ⟨0, [(1, 0)]⟩, .bassign 0 ⟨.le, ⟨0, [(1, 0)]⟩⟩,
   .bcopy 1 0 true, .bbin .bor 2 0 1, .bassume 2 false, .bselect 1 0 1 2,
   .binop .and 1 0 (.const 12), .binop .shl 0 3 (.const 2), .havoc 3,
   .assume ⟨.lt, ⟨-4, [(1, 3)]⟩⟩, .binop .urem 3 3 (.const 3), .assert ⟨.le, ⟨-2, [(1, 3)]⟩⟩,
   .bassert 0]

/-- `v3 ∈ [2,7]` built as the harness builds it: `top += (v3 >= 2); += (v3 <= 7)` -/
def C01.TrEx.init : IDom.SEnv :=
  ItvN.dom.addCst (ItvN.dom.addCst IDom.SEnv.top ⟨.le, ⟨2, [(-1, 3)]⟩⟩) ⟨.le, ⟨-7, [(1, 3)]⟩⟩

theorem C01.TrEx.allKinds_eq :
    (execStmts ItvN.dom false C01.TrEx.allKinds C01.TrEx.init).1 =
      ⟨false, [(0, ⟨.fin 8, .fin 28⟩), (2, ⟨.fin 0, .fin 12⟩), (4, ⟨.fin 1, .fin 17⟩),
               (6, ⟨.fin 0, .fin 2⟩)]⟩ ∧
    checkStmts ItvN.checkDom (execStmt ItvN.dom false) 0 C01.TrEx.allKinds C01.TrEx.init =
      [(14, .safe), (15, .warning)] := by decide +kernel

theorem C01.TrEx.bottom_cases :
    (execStmts ItvN.dom false [.binop .sdiv 1 0 (.const 0)] IDom.SEnv.top).1.bottom = true ∧
    (execStmts ItvN.dom false [.assign 1 ⟨0, []⟩, .binop .srem 1 0 (.var 1)] IDom.SEnv.top).1.bottom = true ∧
    (execStmts ItvN.dom false [.assign 1 ⟨9, []⟩, .unreachable, .assign 1 ⟨1, []⟩]
      IDom.SEnv.top).1.bottom = true := by decide +kernel
