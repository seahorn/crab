import CrabProofs.Lemmas.XDomCongStmt
import CrabProofs.Props.C03

/-!
# C03 for `congruence_domain<z_number>` — every operation is sound, proved on the exact model

`Crab.GDom` (CrabModel/Dom/CongruenceDomain.lean + Dom/NonRelEnv.lean) is the branch-by-branch
model of `ikos::congruence_domain<z_number, VariableName>` and of its
`equality_congruence_solver` over the existing model of `separate_domain` (`SepDom`, Patricia
tree) and of `congruence<z_number>` (`Crab.Cong`); it is tied to the real code by the exact
correspondence `xdom` (harness/h_cdom.cpp -DXDOM=3, Driver/XDomH.lean: every binding after every
operation of random histories).

Concretisation: `Env.γ e σ := e.isBot = false ∧ ∀ x, σ x ∈ γ(e.at(x))` over integer valuations.
Hypotheses `e.Inv`, `x < 2^64`, `CstOk c`: as in `Props/C03Cst.lean`; here `Inv` also says that
every stored congruence is in the standard form `0 ≤ b < a` established by `normalize()`
(`Cong.WF`), which every operation re-establishes (`C03.congdom_stmt_inv`, …).

`Shl` by a variable amount needs the modulus of the class of the amount to fit a machine word
(`C03.congdom_apply_bitwise_var_sound`, from `C08.cg_shl_sound`; `z_number` shifts by
`mpz_get_ui` of the amount, known finding F22); such statements are left out of the histories
(`GDom.Ok'`).
-/
open Crab Crab.GDom Crab.XDom Crab.Lin

/-! ### transformers -/

/-- `set(x, c)`: `x` receives any member of `c` (a congruence in standard form) -/
theorem C03.congdom_set_sound (e : Env) (he : e.Inv) (σ : State) (x : Var) (hx : x < 2 ^ 64) (c : Cong) (n : Int)
    (hw : Cong.WF c) (hg : e.γ σ) (hn : Cong.mem n c) : (e.set x c).γ (upd σ x n) := Env.set_sound he hg hx hw hn

/-- `to_congruence(expr)` contains the value of the expression in every state of `γ` -/
theorem C03.congdom_eval_sound (e : Env) (σ : State) (ex : Expr) (hg : e.γ σ) :
    Cong.mem (ex.eval σ) (e.eval ex) := Env.eval_sound hg ex

/-- `assign(x, e)` -/
theorem C03.congdom_assign_sound (e : Env) (he : e.Inv) (σ : State) (x : Var) (hx : x < 2 ^ 64) (ex : Expr)
    (hg : e.γ σ) : (e.assign x ex).γ (upd σ x (ex.eval σ)) := Env.assign_sound he hg hx ex

/-- `weak_assign(x, e)`: both the old state and the updated state are described -/
theorem C03.congdom_weak_assign_sound (e : Env) (he : e.Inv) (σ : State) (x : Var) (hx : x < 2 ^ 64) (ex : Expr)
    (hg : e.γ σ) : (e.weakAssign x ex).γ σ ∧ (e.weakAssign x ex).γ (upd σ x (ex.eval σ)) :=
  Env.weakAssign_sound he hg hx ex

/-- `apply(arith op, x, y, z)` for every arithmetic operation (`ArithOp.conc` is the operation on
    mathematical integers; no successor for a division by zero) -/
theorem C03.congdom_apply_arith_var_sound (e : Env) (he : e.Inv) (σ : State) (op : ArithOp) (x y z : Var)
    (hx : x < 2 ^ 64) (c : Int) (hg : e.γ σ) (hc : op.conc (σ y) (σ z) = some c) :
    (e.applyVar op x y z).γ (upd σ x c) :=
  exec_sound' (.arithVar op x y z) hx trivial he hg ⟨c, hc, rfl⟩

/-- `apply(arith op, x, y, k)` -/
theorem C03.congdom_apply_arith_cst_sound (e : Env) (he : e.Inv) (σ : State) (op : ArithOp) (x y : Var)
    (hx : x < 2 ^ 64) (k c : Int) (hg : e.γ σ) (hc : op.conc (σ y) k = some c) :
    (e.applyCst op x y k).γ (upd σ x c) :=
  exec_sound' (.arithCst op x y k) hx trivial he hg ⟨c, hc, rfl⟩

/-- `apply(bitwise op, x, y, z)`; the concrete shifts are defined for amounts in `[0, 2^64)`; for
    `Shl` the modulus of the class of `z` must fit a machine word too (F22) -/
theorem C03.congdom_apply_bitwise_var_sound (e : Env) (he : e.Inv) (σ : State) (op : BitOp) (x y z : Var)
    (hx : x < 2 ^ 64) (c : Int) (hg : e.γ σ) (hc : op.conc (σ y) (σ z) = some c)
    (hz : op = .shl → (e.get z).a < 2 ^ 64) :
    (e.applyBitVar op x y z).γ (upd σ x c) :=
  exec_sound' (.bitVar op x y z) hx hz he hg ⟨c, hc, rfl⟩

/-- `apply(bitwise op, x, y, k)` -/
theorem C03.congdom_apply_bitwise_cst_sound (e : Env) (he : e.Inv) (σ : State) (op : BitOp) (x y : Var)
    (hx : x < 2 ^ 64) (k c : Int) (hg : e.γ σ) (hc : op.conc (σ y) k = some c) :
    (e.applyBitCst op x y k).γ (upd σ x c) :=
  exec_sound' (.bitCst op x y k) hx trivial he hg ⟨c, hc, rfl⟩

/-- the solver (`equality_congruence_solver`: constructor + `run`), for every cycle bound: a state
    of `γ env` that satisfies the system is in `γ` of the result -/
theorem C03.congdom_solver_sound (csts : Sys) (maxCycles : Nat) (env : Env) (he : env.Inv) (σ : State)
    (hc : ∀ c ∈ csts, CstOk c) (hg : env.γ σ) (hsat : Sys.sat csts σ) :
    (solverRun csts maxCycles env).γ σ := (solverRun_spec hc maxCycles he).2 σ hsat hg

/-- `operator+=(csts)`: every state of `γ` that satisfies the system is kept -/
theorem C03.congdom_assume_sound (e : Env) (he : e.Inv) (σ : State) (csts : Sys) (hc : ∀ c ∈ csts, CstOk c)
    (hg : e.γ σ) (hsat : Sys.sat csts σ) : (e.add csts).γ σ := Env.add_sound he hg hc hsat

/-- `select(lhs, cond, e1, e2)` -/
theorem C03.congdom_select_sound (e : Env) (he : e.Inv) (σ : State) (lhs : Var) (hx : lhs < 2 ^ 64)
    (cond : Lin.Cst) (e1 e2 : Expr) (hc : CstOk cond) (hg : e.γ σ) :
    (e.select lhs cond e1 e2).γ (upd σ lhs (if cond.sat σ then e1.eval σ else e2.eval σ)) :=
  Env.select_sound he hg hx hc e1 e2

/-- `operator-=(x)` -/
theorem C03.congdom_forget_sound (e : Env) (he : e.Inv) (σ : State) (x : Var) (hx : x < 2 ^ 64) (n : Int)
    (hg : e.γ σ) : (e.forget x).γ (upd σ x n) := by
  rw [GDom.Env.forget_eq]; exact XDom.Env.forget_sound congLaws he hg hx n

/-- `forget(variables)`: the state may change on the forgotten variables only -/
theorem C03.congdom_forget_vector_sound (e : Env) (he : e.Inv) (σ σ' : State) (vs : List Var)
    (hv : ∀ v ∈ vs, v < 2 ^ 64) (hg : e.γ σ) (h : ∀ y, y ∉ vs → σ' y = σ y) :
    (e.forgetAll vs).γ σ' := by
  rw [GDom.Env.forgetAll_eq]; exact XDom.Env.forgetAll_sound congLaws he hg hv h

/-- `project(variables)`, both branches of `separate_domain::project`: the state is kept on the
    projected variables only -/
theorem C03.congdom_project_sound (e : Env) (he : e.Inv) (σ σ' : State) (vs : List Var)
    (hv : ∀ v ∈ vs, v < 2 ^ 64) (hg : e.γ σ) (h : ∀ y ∈ vs, σ' y = σ y) :
    (e.project vs).γ σ' := by
  rw [GDom.Env.project_eq]; exact XDom.Env.project_sound congLaws he hg hv h

/-- `expand(x, new_x)`: `new_x` receives any value the domain allows for `x` (in particular the
    value of `x`) -/
theorem C03.congdom_expand_sound (e : Env) (he : e.Inv) (σ : State) (x nx : Var) (hnx : nx < 2 ^ 64) (n : Int)
    (hg : e.γ σ) (hn : Cong.mem n (e.get x)) : (e.expand x nx).γ (upd σ nx n) :=
  XDom.Env.expand_sound congLaws he hg hnx hn

/-- `rename(from, to)` with distinct sources and distinct, fresh targets: `to[i]` receives the value
    of `from[i]`, the variables outside `from` and `to` keep theirs -/
theorem C03.congdom_rename_sound (e e' : Env) (he : e.Inv) (σ σ' : State) (frm to : List Var) (hg : e.γ σ)
    (hr : e.rename frm to = some e')
    (hf : ∀ v ∈ frm, v < 2 ^ 64) (ht : ∀ v ∈ to, v < 2 ^ 64) (hnf : frm.Nodup) (hnt : to.Nodup)
    (hdis : ∀ y ∈ to, y ∉ frm) (hfresh : ∀ y ∈ to, e.tree.lookup y = none)
    (hrel : ∀ p ∈ frm.zip to, σ' p.2 = σ p.1) (hout : ∀ y, y ∉ frm → y ∉ to → σ' y = σ y) : e'.γ σ' := by
  rw [GDom.Env.rename_eq] at hr
  exact XDom.Env.rename_sound congLaws he hg hr hf ht hnf hnt hdis hfresh hrel hout

/-- `rename` raises CRAB_ERROR exactly on vectors of different lengths (unless nothing is to do) -/
theorem C03.congdom_rename_defined (e : Env) (frm to : List Var) :
    (e.rename frm to).isSome =
      (e.isBot || SepDom.isTop e || decide (frm.length = to.length)) := by
  rw [GDom.Env.rename_eq]
  exact XDom.Env.rename_isSome _ e frm to

/-- integer casts between integer variables (`assign`, plus `dst <= 2^bw - 1` for `zext`) -/
theorem C03.congdom_cast_sound (e : Env) (he : e.Inv) (σ : State) (zext : Bool) (bw : Nat) (dst src : Var)
    (hd : dst < 2 ^ 64) (hg : e.γ σ) (hz : zext = true → σ src ≤ 2 ^ bw - 1) :
    (e.intCast zext bw dst src).γ (upd σ dst (σ src)) := Parts.intCast_sound sound he hg zext bw hd src hz

/-! ### exported facts -/

/-- `to_linear_constraint_system()` holds in every state of `γ`, and has no solution for bottom -/
theorem C03.congdom_to_csts_sound (e : Env) (he : e.Inv) (σ : State) (hg : e.γ σ) : Sys.sat e.toCsts σ :=
  Env.toCsts_sound he hg

theorem C03.congdom_to_csts_bottom (e : Env) (σ : State) (h : e.isBot = true) : ¬ Sys.sat e.toCsts σ :=
  XDom.Env.exportCsts_bot _ h σ

/-- `at(v)` / `operator[](v)` ("not implemented": top) contains every value -/
theorem C03.congdom_at_sound (e : Env) (σ : State) (x : Var) : Itv.mem (σ x) (e.atItv x) := Itv.mem_top _

/-! ### the invariant of `separate_domain` is maintained -/

theorem C03.congdom_top_bot_inv : GDom.Env.top.Inv ∧ GDom.Env.bot.Inv := ⟨GDom.Env.inv_top, GDom.Env.inv_bot⟩

/-- every statement keeps the invariant -/
theorem C03.congdom_stmt_inv (st : Stmt) (hok : st.Ok) (a : Env) (h : a.Inv) : (exec st a).Inv := exec_inv st hok h

/-- so do `set`, `rename` and the lattice operations -/
theorem C03.congdom_set_inv (e : Env) (he : e.Inv) (x : Var) (hx : x < 2 ^ 64) (c : Cong) (hw : Cong.WF c) :
    (e.set x c).Inv := Env.set_inv he hx hw

theorem C03.congdom_rename_inv (e e' : Env) (he : e.Inv) (frm to : List Var)
    (hr : e.rename frm to = some e') (hf : ∀ v ∈ frm, v < 2 ^ 64) (ht : ∀ v ∈ to, v < 2 ^ 64) :
    e'.Inv := by
  rw [GDom.Env.rename_eq] at hr; exact XDom.Env.rename_inv congLaws he hr hf ht

theorem C03.congdom_lattice_inv (a b : Env) (ha : a.Inv) (hb : b.Inv) :
    Env.Inv (XDom.Env.join congLattice a b) ∧ Env.Inv (XDom.Env.meet congLattice a b) ∧
    Env.Inv (XDom.Env.widen congLattice a b) ∧ Env.Inv (XDom.Env.narrow congLattice a b) :=
  ⟨XDom.Env.upper_inv congLaws congLaws.join ha hb, XDom.Env.lower_inv congLaws congLaws.meet ha hb,
   XDom.Env.upper_inv congLaws congLaws.widen ha hb, XDom.Env.lower_inv congLaws congLaws.narrow ha hb⟩

/-! ### the operations as steps of the generic history contract -/

/-- every statement (one call of `assign` / `weak_assign` / `apply` / `+=` / `select` / `-=` /
    `forget` / `project` / `expand` / cast) is a sound transformer step -/
theorem C03.congdom_step_trans_sound (d : Nat) (st : Stmt) (hok : Ok' st) :
    (Dom.Step.trans d ⟨execS st hok.1, st.rel⟩ : Dom.Step SEnv State).Sound SEnv.γ :=
  fun a _ _ hg hr => exec_sound st hok a.2 hg hr

theorem C03.congdom_step_join_sound (d a b : Nat) :
    (Dom.Step.upper d a b SEnv.join : Dom.Step SEnv State).Sound SEnv.γ :=
  fun x y _ h => XDom.Env.upper_sound congLaws congLaws.join x.2 y.2 h

/-- `operator||` and `widening_thresholds` (which ignores its thresholds): `_env || e._env` -/
theorem C03.congdom_step_widen_sound (d a b : Nat) :
    (Dom.Step.upper d a b SEnv.widen : Dom.Step SEnv State).Sound SEnv.γ :=
  fun x y _ h => XDom.Env.upper_sound congLaws congLaws.widen x.2 y.2 h

theorem C03.congdom_step_meet_sound (d a b : Nat) :
    (Dom.Step.lower d a b SEnv.meet : Dom.Step SEnv State).Sound SEnv.γ :=
  fun x y _ h1 h2 => XDom.Env.lower_sound congLaws congLaws.meet x.2 y.2 h1 h2

theorem C03.congdom_step_narrow_sound (d a b : Nat) :
    (Dom.Step.lower d a b SEnv.narrow : Dom.Step SEnv State).Sound SEnv.γ :=
  fun x y _ h1 h2 => XDom.Env.lower_sound congLaws congLaws.narrow x.2 y.2 h1 h2

/-- the steps an operation history of the congruence domain is made of -/
inductive C03.CongdomStep : Dom.Step SEnv State → Prop
  | trans (d : Nat) (st : Stmt) (hok : Ok' st) : C03.CongdomStep (.trans d ⟨execS st hok.1, st.rel⟩)
  | join (d a b : Nat) : C03.CongdomStep (.upper d a b SEnv.join)
  | widen (d a b : Nat) : C03.CongdomStep (.upper d a b SEnv.widen)
  | meet (d a b : Nat) : C03.CongdomStep (.lower d a b SEnv.meet)
  | narrow (d a b : Nat) : C03.CongdomStep (.lower d a b SEnv.narrow)
  | copy (d s : Nat) : C03.CongdomStep (.copy d s)
  | setBot (d : Nat) : C03.CongdomStep (.setBot d SEnv.bot)

theorem C03.congdom_step_sound (st : Dom.Step SEnv State) (h : C03.CongdomStep st) : st.Sound SEnv.γ := by
  cases h with
  | trans d s hok => exact C03.congdom_step_trans_sound d s hok
  | join d a b => exact C03.congdom_step_join_sound d a b
  | widen d a b => exact C03.congdom_step_widen_sound d a b
  | meet d a b => exact C03.congdom_step_meet_sound d a b
  | narrow d a b => exact C03.congdom_step_narrow_sound d a b
  | copy d s => trivial
  | setBot d => trivial

/-- **C03 for the congruence domain**: after ANY history of its operations over a pool of values,
    every slot contains the collecting semantics of the history (instance of `C03.history_sound`) -/
theorem C03.congdom_history_sound (hist : List (Dom.Step SEnv State)) (hs : ∀ st ∈ hist, C03.CongdomStep st)
    (p : Dom.Pool SEnv) (c : Dom.CPool State) (h : ∀ i s, c i s → (p i).γ s) :
    ∀ i s, (Dom.collHist c hist) i s → ((Dom.runHist p hist) i).γ s :=
  C03.history_sound SEnv.γ hist (fun st hst => C03.congdom_step_sound st (hs st hst)) p c h

/-- a slot whose collecting semantics is inhabited is never reported bottom -/
theorem C03.congdom_not_bottom_if_inhabited (hist : List (Dom.Step SEnv State))
    (hs : ∀ st ∈ hist, C03.CongdomStep st) (p : Dom.Pool SEnv) (c : Dom.CPool State)
    (h : ∀ i s, c i s → (p i).γ s) (i : Nat) (s : State) (hc : (Dom.collHist c hist) i s) :
    ((Dom.runHist p hist) i).1.isBot = false := (C03.congdom_history_sound hist hs p c h i s hc).1

/-- the invariant holds of every slot after any history: the values are subtypes carrying it -/
theorem C03.congdom_history_inv (hist : List (Dom.Step SEnv State)) (p : Dom.Pool SEnv) (i : Nat) :
    ((Dom.runHist p hist) i).1.Inv := ((Dom.runHist p hist) i).2

/-! ### non-vacuity -/

/-- `x := 2y + 1; assume x - z = 0; w := x * z` from top: the bindings are exactly the expected
    ones (`x, z ∈ 2Z+1`, `w ∈ 2Z+1`) -/
example :
    let e := exec (.arithVar .mul 3 0 2) (exec (.assume [⟨⟨[(0, 1), (2, -1)], 0⟩, .eq⟩]) (exec (.assign 0 ⟨[(1, 2)], 1⟩) GDom.Env.top))
    XDom.Env.bindings e = [(0, ⟨false, 2, 1⟩), (2, ⟨false, 2, 1⟩), (3, ⟨false, 2, 1⟩)] := by decide +kernel

example : Ok' (.assume [⟨⟨[(0, 1), (2, -1)], 0⟩, .eq⟩]) := by
  refine ⟨?_, fun _ _ _ h => by cases h⟩
  intro c hc
  simp only [List.mem_cons, List.not_mem_nil, or_false] at hc
  subst hc
  exact ⟨by decide, by intro p hp; simp at hp; rcases hp with h | h <;> subst h <;> decide⟩

example : GDom.Env.γ (GDom.Env.top.set 0 ⟨false, 2, 1⟩) (fun _ => 7) :=
  GDom.Env.set_sound_same GDom.Env.inv_top (XDom.Env.γ_top congLaws _) (by decide) (by decide) (by decide)
