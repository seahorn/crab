import CrabProofs.Lemmas.FunctorFlatBoolStmtNum
import CrabProofs.Props.C03

/-!
# C03 for `flat_boolean_numerical_domain<Dom>`, as a functor over any lawful numerical base

Model: `Crab.Dom.Fct.FBN N` (`CrabModel/Dom/Functors/FlatBool*.lean`) over a base `N : BNDom V K`
(the laws of `LDom` plus `+=`, `entails`, the two interval tests of `trunc`, `assign(x, k)`) and a
signature of constraints `K : CSig V` (`negate` is exact, a constraint only reads its variables).
Concrete states `CSt V`: an integer valuation and a Boolean valuation.

**The invariant** (`FBN.Inv`, part of `FBN.γ`): for every Boolean `b`
* every constraint `c` recorded in `m_bool_to_lincsts[b]` whose variables are all in
  `m_unchanged_vars` is EQUIVALENT to `b` in the state (`FBN.LinInvOf`) — an equivalence, not an
  implication: this is what makes `b := not(c)` / the negative reduction right, and it is why
  `select_bool` must not record what it only implies (26c913b);
* every Boolean recorded in `m_bool_to_bools[b]` is implied by `b` (`FBN.BoolInvOf`);
* none of the three components is the bottom of its lattice.

Every operation re-establishes it (`C03.flatbool_inv_step`), the meet-like ones included since
repo commit ef2ddd6: `&`, `&=`, `&&` unite the maps and INTERSECT the unchanged-variable sets, so
that a constraint that is usable in the result is usable in the operand that recorded it.  Before
that commit they took the union of the sets, which revived stale constraints of one operand
through the marks of the other: `FBN.meetOld`, `C03.flatbool_meetOld_counterexample` in
`Props/C03FlatBoolCex.lean` (found by this proof, replayed on the real code).

Hypotheses on the base besides `LDom`'s laws: each transformer `f2` the product forwards to the base
abstracts the concrete relation of the statement (`LDom.TSound`); `b := trunc(x)` does not call the
base at all, so the base must not constrain the Boolean `b` (`FBN.IgnoresBool`, true of the shipped
numerical domains: `int_cast_domain_traits` forgets, it never relates a Boolean).  `expand` and
`rename` are proved under their documented contract (the target is not in the abstract state:
`FBN.BoolFresh`, `FBN.Fresh`, established by `forget`), `rename` for one pair of variables.
Not proved: `rename` of several variables at once, the reference-constraint map, backward
operations.
-/
open Crab Crab.Dom Crab.Dom.Fct

variable {V : Type} [DecidableEq V] {K : CSig V} {N : BNDom V K}

/-! ## the operations one by one -/

/-- `b := cst` (linear constraint), incl. the constant cases, `mark_vars_as_unchanged` and the
    removal of what was recorded for / about the old `b` -/
theorem C03.flatbool_assign_bool_cst_sound (f2 : N.B → N.B) (x : V) (c : K.C)
    (hf2 : N.TSound f2 (FBN.relBcst x c)) (a : FBN N) (s s' : CSt V) (hg : a.γ s)
    (hr : FBN.relBcst x c s s') : (FBN.assignBoolCst f2 x c a).γ s' := FBN.assignBoolCst_sound hf2 hg hr

/-- `b := c`, `b := not(c)` -/
theorem C03.flatbool_assign_bool_var_sound (f2 : N.B → N.B) (x y : V) (neg : Bool)
    (hf2 : N.TSound f2 (FBN.relBvar x y neg)) (a : FBN N) (s s' : CSt V) (hg : a.γ s)
    (hr : FBN.relBvar x y neg s s') : (FBN.assignBoolVar f2 x y neg a).γ s' :=
  FBN.assignBoolVar_sound hf2 hg hr

/-- `b := c and/or/xor d` -/
theorem C03.flatbool_apply_binary_bool_sound (f2 : N.B → N.B) (op : BBin) (x y z : V)
    (hf2 : N.TSound f2 (FBN.relBbin op x y z)) (a : FBN N) (s s' : CSt V) (hg : a.γ s)
    (hr : FBN.relBbin op x y z s s') : (FBN.applyBinaryBool f2 op x y z a).γ s' :=
  FBN.applyBinaryBool_sound hf2 hg hr

/-- `assume(b)` / `assume(not(b))` with the reduction that pushes the recorded constraints whose
    variables are unchanged into the numerical value -/
theorem C03.flatbool_assume_bool_sound (f2 : N.B → N.B) (x : V) (neg : Bool)
    (hf2 : N.TSound f2 (FBN.relAssume x neg)) (a : FBN N) (s s' : CSt V) (hg : a.γ s)
    (hr : FBN.relAssume x neg s s') : (FBN.assumeBool f2 x neg a).γ s' := FBN.assumeBool_sound hf2 hg hr

/-- the reduction alone, both polarities (the negative one is dead code in `assume_bool`) -/
theorem C03.flatbool_reduction_sound (x : V) (neg : Bool) (a : FBN N) (s : CSt V) (hg : a.γ s)
    (hx : s.bool x = !neg) :
    (FBN.reduceBoolToCsts x neg a).γ s ∧ (FBN.bwdReductionAssumeBool x neg a).γ s :=
  ⟨FBN.reduceBoolToCsts_sound x neg hg hx, FBN.bwdReductionAssumeBool_sound x neg hg hx⟩

/-- `lhs := select(cond, b1, b2)` -/
theorem C03.flatbool_select_bool_sound (f2 f2' : N.B → N.B) (lhs cond b1 b2 : V)
    (hf2 : N.TSound f2 (FBN.relBsel lhs cond b1 b2))
    (hf2' : b1 = b2 → N.TSound f2' (FBN.relBvar lhs b1 false)) (a : FBN N) (s s' : CSt V) (hg : a.γ s)
    (hr : FBN.relBsel lhs cond b1 b2 s s') : (FBN.selectBool f2 f2' lhs cond b1 b2 a).γ s' :=
  FBN.selectBool_sound hf2 hf2' hg hr

/-- `assign`, `weak_assign`, `apply` (arithmetic / bitwise), `select`, `set`, `array_load`, .. on a
    numerical `x`: the constraints that mention `x` become unusable (`m_unchanged_vars -= x`) -/
theorem C03.flatbool_numerical_sound (m : Prod2.Meth) (f2 : N.B → N.B) (x : V) (r : CSt V → CSt V → Prop)
    (hf2 : N.TSound f2 r) (hd : FBN.DefinesNum x r) (a : FBN N) (s s' : CSt V) (hg : a.γ s) (hr : r s s') :
    (FBN.numDef m f2 x a).γ s' := FBN.numDef_sound m hf2 hd hg hr

/-- `operator+=` (all three paths) -/
theorem C03.flatbool_add_constraints_sound (isTrue allNonBool : Bool) (lits : List (V × Bool))
    (f2 : N.B → N.B) (r : CSt V → CSt V → Prop) (hf2 : N.TSound f2 r) (hd : FBN.Filters r)
    (hl : ∀ s s', r s s' → ∀ l ∈ lits, s.bool l.1 = !l.2) (a : FBN N) (s s' : CSt V) (hg : a.γ s)
    (hr : r s s') : (FBN.addCsts isTrue allNonBool lits f2 a).γ s' :=
  FBN.addCsts_sound isTrue allNonBool hf2 hd hl hg hr

/-- `operator-=` on a Boolean or on a numerical variable -/
theorem C03.flatbool_forget1_sound (isBool : V → Bool) (f2 : N.B → N.B) (v : V)
    (hf2 : N.TSound f2 (FBN.relForget1 isBool v)) (a : FBN N) (s s' : CSt V) (hg : a.γ s)
    (hr : FBN.relForget1 isBool v s s') : (FBN.forget1 isBool f2 v a).γ s' :=
  FBN.forget1_sound isBool hf2 hg hr

/-- `forget(variables)` (Booleans and numerical variables mixed) -/
theorem C03.flatbool_forget_sound (isBool : V → Bool) (f2 : N.B → N.B) (vs : List V)
    (hf2 : N.TSound f2 (FBN.relForget isBool vs)) (a : FBN N) (s s' : CSt V) (hg : a.γ s)
    (hr : FBN.relForget isBool vs s s') : (FBN.forget isBool f2 vs a).γ s' :=
  FBN.forget_sound isBool hf2 hg hr

/-- `project(variables)`: the three auxiliary components are reset -/
theorem C03.flatbool_project_sound (f2 : N.B → N.B) (vs : List V) (hf2 : N.TSound f2 (FBN.relProject vs))
    (a : FBN N) (s s' : CSt V) (hg : a.γ s) (hr : FBN.relProject vs s s') : (FBN.project f2 vs a).γ s' :=
  FBN.project_sound hf2 hg hr

/-- `expand(x, new_x)`.  The code does not touch `m_bool_to_bools`: for a Boolean `x` the target
    must not occur in it (contract of `expand`: `new_x` is not in the abstract state; a `forget`
    establishes it — without it the real code is unsound).  For a numerical
    `x` the maps need nothing: `new_x` is marked as changed (bb23efe). -/
theorem C03.flatbool_expand_sound (isBool : V → Bool) (f2 : N.B → N.B) (x nx : V)
    (hf2 : N.TSound f2 (FBN.relExpand isBool x nx)) (a : FBN N) (s s' : CSt V) (hg : a.γ s)
    (hfresh : isBool x = true → FBN.BoolFresh nx a.bools)
    (hty : isBool x = false → a.prod.fst.get x = .top)
    (hr : FBN.relExpand isBool x nx s s') : (FBN.expand isBool f2 x nx a).γ s' :=
  FBN.expand_sound isBool hf2 hg hfresh hty hr

/-- `rename({x}, {y})` of one variable, `y` of the type of `x` and not in the abstract state
    (`FBN.Fresh`: the documented contract of `rename`; without it the real code is unsound) -/
theorem C03.flatbool_rename1_sound (isBool : V → Bool) (f2 : N.B → N.B) (x y : V) (hxy : x ≠ y)
    (hty : isBool y = isBool x) (hf2 : N.TSound f2 (FBN.relRename1 isBool x y)) (a : FBN N) (s s' : CSt V)
    (hg : a.γ s) (hfresh : FBN.Fresh isBool y a) (htx : isBool x = false → a.prod.fst.get x = .top)
    (hr : FBN.relRename1 isBool x y s s') : (FBN.rename isBool f2 [x] [y] a).γ s' :=
  FBN.rename1_sound isBool hxy hty hf2 hg hfresh htx hr

/-- `-= y` establishes the part of the freshness contract that concerns the three auxiliary
    components (what `expand` and `rename` rely on) -/
theorem C03.flatbool_forget1_fresh (isBool : V → Bool) (f2 : N.B → N.B) (y : V) (a : FBN N)
    (hl : a.lin.isBot = false) (hb : a.bools.isBot = false) (hu : a.unch.isBot = false) :
    if isBool y then
      (∀ c, ((FBN.forget1 isBool f2 y a).lin.look y).mem c = false) ∧
        FBN.BoolFresh y (FBN.forget1 isBool f2 y a).bools
    else (FBN.forget1 isBool f2 y a).unch.mem y = false := by
  unfold FBN.forget1
  cases hy : isBool y with
  | true => exact ⟨SEnv.mem_look_del_self hl y, FBN.boolFresh_forget hb y⟩
  | false => exact DSet.mem_remove_self _ hu y

/-- `weak_assign_bool_cst`, `weak_assign_bool_var` (copy, strong assignment, `|=`) -/
theorem C03.flatbool_weak_assign_bool_sound (f2 : N.B → N.B) (x y : V) (neg : Bool) (c : K.C) (a : FBN N)
    (s s' : CSt V) (hg : a.γ s) :
    (N.TSound f2 (FBN.relBcst x c) → FBN.relWeak (FBN.relBcst x c) s s' →
      (FBN.weakAssignBoolCst f2 x c a).γ s') ∧
    (N.TSound f2 (FBN.relBvar x y neg) → FBN.relWeak (FBN.relBvar x y neg) s s' →
      (FBN.weakAssignBoolVar f2 x y neg a).γ s') :=
  ⟨fun h hr => FBN.weakAssignBoolCst_sound h hg hr, fun h hr => FBN.weakAssignBoolVar_sound h hg hr⟩

/-- `to_linear_constraint_system()`: the Boolean part (`b == 1` / `b == 0` for the definite
    Booleans) holds in every state of the value (the numerical part is the base's) -/
theorem C03.flatbool_to_linear_constraint_system_sound (a : FBN N) (s : CSt V) (hg : a.γ s) :
    ∃ l, FBN.boolFacts a = some l ∧ ∀ p ∈ l, s.bool p.1 = p.2 := FBN.boolFacts_sound hg

/-- `b := trunc(x)`: needs a base that does not constrain the Boolean `b` (it is not called) -/
theorem C03.flatbool_cast_trunc_sound (dst src : V) (hN : FBN.IgnoresBool N dst) (a : FBN N)
    (s s' : CSt V) (hg : a.γ s) (hr : FBN.relTrunc dst src s s') : (FBN.castTrunc dst src a).γ s' :=
  FBN.castTrunc_sound hN hg hr

/-- `x := zext(b)` (three cases on the flat value of `b`) -/
theorem C03.flatbool_cast_ext_sound (funk : N.B → N.B) (dst src : V)
    (hf : N.TSound funk (FBN.relExt dst src)) (a : FBN N) (s s' : CSt V) (hg : a.γ s)
    (hr : FBN.relExt dst src s s') : (FBN.castExt funk dst src a).γ s' := FBN.castExt_sound hf hg hr

theorem C03.flatbool_cast_other_sound (f2 : N.B → N.B) (dst : V) (r : CSt V → CSt V → Prop)
    (hf2 : N.TSound f2 r) (hd : FBN.DefinesNum dst r) (a : FBN N) (s s' : CSt V) (hg : a.γ s)
    (hr : r s s') : (FBN.castOther f2 dst a).γ s' := FBN.castOther_sound hf2 hd hg hr

/-- `|`, `|=`: the maps and the unchanged set are intersected -/
theorem C03.flatbool_join_sound (a b : FBN N) (s : CSt V) (h : a.γ s ∨ b.γ s) :
    (FBN.join a b).γ s ∧ (FBN.joinEq a b).γ s := ⟨FBN.join_sound h, FBN.joinEq_sound h⟩

/-- `||`, `widening_thresholds` -/
theorem C03.flatbool_widen_sound (w2 : N.B → N.B → N.B) (hw : N.USound w2) (a b : FBN N) (s : CSt V)
    (h : a.γ s ∨ b.γ s) : (FBN.widenWith w2 a b).γ s := FBN.widenWith_sound hw h

/-- `&`, `&=`, `&&` (after ef2ddd6) keep every state common to both operands -/
theorem C03.flatbool_meet_sound (a b : FBN N) (s : CSt V) (ha : a.γ s) (hb : b.γ s) :
    (FBN.meet a b).γ s ∧ (FBN.meetEq a b).γ s ∧ (FBN.narrow a b).γ s :=
  ⟨FBN.meet_sound ha hb, FBN.meetEq_sound ha hb, FBN.narrow_sound ha hb⟩

theorem C03.flatbool_make_top_bottom (s : CSt V) : (FBN.top : FBN N).γ s ∧ ¬ (FBN.bottom : FBN N).γ s :=
  ⟨FBN.γ_top s, FBN.not_γ_bottom s⟩

/-! ## histories -/

/-- every operation of the language satisfies its soundness law (History.lean) on every abstract
    value -/
theorem C03.flatbool_step_sound (isBool : V → Bool) (op : FBN.Op N) (hop : op.BaseSound isBool) :
    (op.toStep isBool).Sound FBN.γ := by
  cases op with
  | bcst d f2 x c => exact fun a s s' hg hr => FBN.assignBoolCst_sound hop hg hr
  | bvar d f2 x y neg => exact fun a s s' hg hr => FBN.assignBoolVar_sound hop hg hr
  | bbin d f2 op x y z => exact fun a s s' hg hr => FBN.applyBinaryBool_sound hop hg hr
  | bassume d f2 x neg => exact fun a s s' hg hr => FBN.assumeBool_sound hop hg hr
  | bsel d f2 f2' lhs cond b1 b2 => exact fun a s s' hg hr => FBN.selectBool_sound hop.1 hop.2 hg hr
  | numDef d m f2 x r => exact fun a s s' hg hr => FBN.numDef_sound m hop.1 hop.2 hg hr
  | addCsts d t nb lits f2 r => exact fun a s s' hg hr => FBN.addCsts_sound t nb hop.1 hop.2.1 hop.2.2 hg hr
  | forget1 d f2 v => exact fun a s s' hg hr => FBN.forget1_sound isBool hop hg hr
  | forget d f2 vs => exact fun a s s' hg hr => FBN.forget_sound isBool hop hg hr
  | project d f2 vs => exact fun a s s' hg hr => FBN.project_sound hop hg hr
  | wbcst d f2 x c => exact fun a s s' hg hr => FBN.weakAssignBoolCst_sound hop hg hr
  | wbvar d f2 x y neg => exact fun a s s' hg hr => FBN.weakAssignBoolVar_sound hop hg hr
  | trunc d dst src => exact fun a s s' hg hr => FBN.castTrunc_sound hop hg hr
  | ext d funk dst src => exact fun a s s' hg hr => FBN.castExt_sound hop hg hr
  | castOther d f2 dst r => exact fun a s s' hg hr => FBN.castOther_sound hop.1 hop.2 hg hr
  | join d a b => exact fun a b s h => FBN.join_sound h
  | joinEq d a b => exact fun a b s h => FBN.joinEq_sound h
  | widen d a b w2 => exact fun a b s h => FBN.widenWith_sound hop h
  | meet d a b => exact fun a b s ha hb => FBN.meet_sound ha hb
  | meetEq d a b => exact fun a b s ha hb => FBN.meetEq_sound ha hb
  | narrow d a b => exact fun a b s ha hb => FBN.narrow_sound ha hb
  | copy d s => trivial
  | setTop d => exact fun a s s' _ _ => FBN.γ_top s'
  | setBottom d => trivial

/-- **the invariant is preserved by every operation**: after a transformer the auxiliary components
    of the result describe the new state; after `|`, `|=`, `||` they describe every state of either
    operand; after `&`, `&=`, `&&` every state of both -/
theorem C03.flatbool_inv_step (isBool : V → Bool) (op : FBN.Op N) (hop : op.BaseSound isBool) :
    match op.toStep isBool with
    | .trans _ t => ∀ a s s', FBN.γ a s → t.r s s' → FBN.Inv (t.f a) s'
    | .upper _ _ _ g => ∀ a b s, (FBN.γ a s ∨ FBN.γ b s) → FBN.Inv (g a b) s
    | .lower _ _ _ g => ∀ a b s, FBN.γ a s → FBN.γ b s → FBN.Inv (g a b) s
    | _ => True := by
  have h := C03.flatbool_step_sound isBool op hop
  revert h
  generalize op.toStep isBool = st
  intro h
  cases st with
  | trans d t => exact fun a s s' hg hr => (h a s s' hg hr).2
  | upper d a b g => exact fun a b s hg => (h a b s hg).2
  | lower d a b g => exact fun a b s ha hb => (h a b s ha hb).2
  | copy d s => trivial
  | setBot d b => trivial

/-- **History soundness of `flat_boolean_numerical_domain`** over every lawful base: every pool,
    history length and interleaving of Boolean statements and reductions, numerical statements,
    casts, `-=`, `forget`, `project`, weak assignments, `|`, `|=`, `||`, `&`, `&=`, `&&`, copies,
    `set_to_top`, `set_to_bottom`. -/
theorem C03.flatbool_history_sound (isBool : V → Bool) (ops : List (FBN.Op N))
    (hops : ∀ op ∈ ops, op.BaseSound isBool) (p : Pool (FBN N)) (c : CPool (CSt V))
    (h0 : ∀ i s, c i s → FBN.γ (p i) s) :
    ∀ i s, collHist c (FBN.toHist isBool ops) i s → FBN.γ (runHist p (FBN.toHist isBool ops) i) s := by
  apply C03.history_sound FBN.γ _ _ p c h0
  intro st hst
  simp only [FBN.toHist, List.mem_map] at hst
  obtain ⟨op, hop, rfl⟩ := hst
  exact C03.flatbool_step_sound isBool op (hops op hop)

/-- a slot that some execution reaches is never reported bottom -/
theorem C03.flatbool_not_bottom_on_reachable (isBool : V → Bool) (ops : List (FBN.Op N))
    (hops : ∀ op ∈ ops, op.BaseSound isBool) (p : Pool (FBN N)) (c : CPool (CSt V))
    (h0 : ∀ i s, c i s → FBN.γ (p i) s) (i : Nat) (s : CSt V)
    (hc : collHist c (FBN.toHist isBool ops) i s) :
    (runHist p (FBN.toHist isBool ops) i).isBottom = false := by
  cases hb : (runHist p (FBN.toHist isBool ops) i).isBottom
  · rfl
  · exact absurd (C03.flatbool_history_sound isBool ops hops p c h0 i s hc) (FBN.not_γ_of_isBottom hb s)
