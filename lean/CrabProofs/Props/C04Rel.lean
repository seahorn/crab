import CrabProofs.Lemmas.RelDomItvEnv

/-!
# C04 for the relational domains — inclusion test, lattice operations, `is_bottom`, `is_top`
agree with the concretisation (zones, octagons, interval environments)

Stated on the values with a bottom flag (`ZVal n`, `OVal n`, see `Props/C03Rel.lean`); for two
matrices `some a`, `some b` the operations are those of the canonical models of property C12
(`Zones.leq/join/meet`, `Octagon.leq/join/meet`), and the statements are corollaries of the C12
lemmas (`leq_iff`, `bottom_iff_unsat`, `join_upper`, `join_least`, `meet_exact`).

Zones: everything is an equivalence, for all matrices.  Octagons: the soundness halves hold for all
matrices; the completeness halves (a `false` answer of `<=` / `is_bottom` is justified, the join is
the least upper bound) need the coherence invariant `OVal.Coh` of the left argument, which every
operation maintains (`C03.oct_history_coherent`).
-/
open Crab Crab.Dbm

/-! ## Zones -/
section Zones
open Crab.Zones
variable {n : Nat}

/-- a yes answer of `<=` is an inclusion of concretisations … -/
theorem C04.zones_leq_sound (a b : ZVal n) (σ : State n) (h : ZVal.leq a b = true) (hg : γv a σ) : γv b σ :=
  (ZVal.leq_iff a b).1 h σ hg

/-- … and a no answer is justified: the test is exact -/
theorem C04.zones_leq_iff (a b : ZVal n) : ZVal.leq a b = true ↔ ∀ σ, γv a σ → γv b σ := ZVal.leq_iff a b

theorem C04.zones_leq_refl (a : ZVal n) : ZVal.leq a a = true := (ZVal.leq_iff a a).2 (fun _ h => h)

theorem C04.zones_leq_trans (a b c : ZVal n) (h1 : ZVal.leq a b = true) (h2 : ZVal.leq b c = true) :
    ZVal.leq a c = true :=
  (ZVal.leq_iff a c).2 (fun σ h => (ZVal.leq_iff b c).1 h2 σ ((ZVal.leq_iff a b).1 h1 σ h))

theorem C04.zones_bot_le (b : ZVal n) : ZVal.leq ZVal.bot b = true := rfl

/-- also for a bottom that is not flagged (an unsatisfiable matrix) -/
theorem C04.zones_leq_bottom_left (a b : ZVal n) (h : ZVal.isBottom a = true) : ZVal.leq a b = true :=
  (ZVal.leq_iff a b).2 (fun σ hσ => absurd hσ ((ZVal.isBottom_iff a).1 h σ))

theorem C04.zones_le_top (a : ZVal n) : ZVal.leq a ZVal.top = true :=
  (ZVal.leq_iff a ZVal.top).2 (fun σ _ => Zones.top_γ σ)

/-- `is_bottom()` answers yes exactly on the values that describe no state -/
theorem C04.zones_is_bottom_iff (v : ZVal n) : ZVal.isBottom v = true ↔ ∀ σ, ¬ γv v σ := ZVal.isBottom_iff v

/-- `is_top()` answers yes exactly on the values that describe every state -/
theorem C04.zones_is_top_iff (v : ZVal n) : ZVal.isTop v = true ↔ ∀ σ, γv v σ := ZVal.isTop_iff v

theorem C04.zones_bot_empty (σ : State n) : ¬ γv (ZVal.bot : ZVal n) σ := fun h => h

/-- the canonical unsatisfiable matrix `0 - 0 ≤ -1` -/
theorem C04.zones_canonical_bot (σ : State n) : ¬ γ (Zones.bot : Zone n) σ ∧ isBottom (Zones.bot : Zone n) = true :=
  ⟨Zones.bot_not_γ σ, Zones.isBottom_bot⟩

theorem C04.zones_top_all (σ : State n) : γv (ZVal.top : ZVal n) σ := Zones.top_γ σ

theorem C04.zones_top_is_top : ZVal.isTop (ZVal.top : ZVal n) = true ∧ ZVal.isBottom (ZVal.bot : ZVal n) = true :=
  ⟨(ZVal.isTop_iff _).2 (fun σ => Zones.top_γ σ), rfl⟩

/-- join contains both arguments … -/
theorem C04.zones_join_upper (a b : ZVal n) (σ : State n) (h : γv a σ ∨ γv b σ) : γv (ZVal.join a b) σ :=
  ZVal.join_upper a b σ h

/-- … and is below every value that contains both -/
theorem C04.zones_join_least (a b c : ZVal n) (ha : ZVal.leq a c = true) (hb : ZVal.leq b c = true) :
    ZVal.leq (ZVal.join a b) c = true :=
  (ZVal.leq_iff _ c).2 (ZVal.join_least a b c ((ZVal.leq_iff a c).1 ha) ((ZVal.leq_iff b c).1 hb))

theorem C04.zones_meet_lower (a b : ZVal n) (σ : State n) (h : γv (ZVal.meet a b) σ) : γv a σ ∧ γv b σ :=
  (ZVal.meet_exact a b σ).1 h

theorem C04.zones_meet_iff (a b : ZVal n) (σ : State n) : γv (ZVal.meet a b) σ ↔ (γv a σ ∧ γv b σ) :=
  ZVal.meet_exact a b σ

/-- the widenings of `split_dbm_domain` / `sparse_dbm_domain` contain both arguments -/
theorem C04.zones_widen_upper (a b : ZVal n) (σ : State n) (h : γv a σ ∨ γv b σ) :
    γv (SplitDbm.widen a b) σ ∧ γv (SparseDbm.widen a b) σ :=
  ⟨h.elim (widenE_upper splitEw_soundEw a b σ).1 (widenE_upper splitEw_soundEw a b σ).2,
   h.elim (widenE_upper sparseEw_soundEw a b σ).1 (widenE_upper sparseEw_soundEw a b σ).2⟩

/-- narrowing (`operator&&` is the meet in the code) keeps the common states -/
theorem C04.zones_narrow_sound (a b : ZVal n) (σ : State n) (h1 : γv a σ) (h2 : γv b σ) :
    γv ((ZVal.ops splitEw).narrow a b) σ := (ZVal.meet_exact a b σ).2 ⟨h1, h2⟩

/-- `entails(cst)` answers yes exactly on the implied in-language constraints (C12) -/
theorem C04.zones_entails_iff (z : Zone n) (c : Zones.Cst n) : entails z c = true ↔ ∀ σ, γ z σ → c.sat σ :=
  Zones.entails_iff_implied z c

/-- the inclusion test AS CODED (`split_dbm::operator<=` / `sparse_dbm::operator<=`: edges of the
    right argument covered by the normalised left one, diagonal ignored) is sound on graphs without
    self loops — the representation invariant of the code, not of the canonical matrices -/
theorem C04.zones_coded_leq_sound (a : ZVal n) (l : Zone n) (hl : NoSelfLoop l) (σ : State n)
    (h : SplitDbm.leq a (some l) = true ∨ SparseDbm.leq a (some l) = true) (hg : γv a σ) : γ l σ := by
  cases a with
  | none => exact hg.elim
  | some r =>
    rcases h with h | h
    · exact leqBy_sat hl h _ (splitEw_soundEw r _ hg)
    · exact leqBy_sat hl h _ (sparseEw_soundEw r _ hg)

/-- non-vacuity: `{x ≤ 3, y ≤ x}` is below `{y ≤ 3}` (a derived bound), not conversely -/
example :
    let a : ZVal 2 := ZVal.exec (.assume [.ub 0 3, .diff 1 0 0]) ZVal.top
    let b : ZVal 2 := ZVal.exec (.assume [.ub 1 3]) ZVal.top
    ZVal.leq a b = true ∧ ZVal.leq b a = false ∧ ZVal.isBottom a = false ∧ ZVal.isTop a = false ∧
    ZVal.leq (ZVal.join a b) b = true ∧ ZVal.leq (ZVal.meet a b) a = true ∧
    ZVal.isBottom (ZVal.exec (.assume [.diff 0 1 (-1)]) a) = true := by decide +kernel

end Zones

/-! ## Octagons -/
section Octagons
open Crab.Octagon
variable {n : Nat}

/-- a yes answer of `<=` is an inclusion of concretisations (all matrices) -/
theorem C04.oct_leq_sound (a b : OVal n) (σ : Octagon.State n) (h : OVal.leq a b = true) (hg : γv a σ) :
    γv b σ := OVal.leq_sound a b h σ hg

/-- on coherent values the test is exact (tight closure is complete over the integers) -/
theorem C04.oct_leq_iff (a b : OVal n) (hca : OVal.Coh a) : OVal.leq a b = true ↔ ∀ σ, γv a σ → γv b σ :=
  OVal.leq_iff a b hca

theorem C04.oct_leq_refl (a : OVal n) : OVal.leq a a = true := OVal.leq_refl a

theorem C04.oct_leq_trans (a b c : OVal n) (hca : OVal.Coh a) (h1 : OVal.leq a b = true)
    (h2 : OVal.leq b c = true) : OVal.leq a c = true :=
  (OVal.leq_iff a c hca).2 (fun σ h => OVal.leq_sound b c h2 σ (OVal.leq_sound a b h1 σ h))

theorem C04.oct_bot_le (b : OVal n) : OVal.leq OVal.bot b = true := rfl

theorem C04.oct_leq_bottom_left (a b : OVal n) (hca : OVal.Coh a) (h : OVal.isBottom a = true) :
    OVal.leq a b = true :=
  (OVal.leq_iff a b hca).2 (fun σ hσ => absurd hσ (OVal.isBottom_sound a h σ))

theorem C04.oct_le_top (a : OVal n) : OVal.leq a OVal.top = true := OVal.leq_top a

/-- `is_bottom()`: a yes answer means no state (all matrices) … -/
theorem C04.oct_is_bottom_sound (v : OVal n) (h : OVal.isBottom v = true) (σ : Octagon.State n) : ¬ γv v σ :=
  OVal.isBottom_sound v h σ

/-- … and on coherent values it answers yes exactly on the values without integer state -/
theorem C04.oct_is_bottom_iff (v : OVal n) (hco : OVal.Coh v) : OVal.isBottom v = true ↔ ∀ σ, ¬ γv v σ :=
  OVal.isBottom_iff v hco

/-- `is_top()` answers yes exactly on the values that describe every state (all matrices) -/
theorem C04.oct_is_top_iff (v : OVal n) : OVal.isTop v = true ↔ ∀ σ, γv v σ := OVal.isTop_iff v

theorem C04.oct_bot_empty (σ : Octagon.State n) : ¬ γv (OVal.bot : OVal n) σ := fun h => h
theorem C04.oct_top_all (σ : Octagon.State n) : γv (OVal.top : OVal n) σ := Octagon.top_γ σ
theorem C04.oct_top_is_top : OVal.isTop (OVal.top : OVal n) = true ∧ OVal.isBottom (OVal.bot : OVal n) = true :=
  ⟨(OVal.isTop_iff _).2 (fun σ => Octagon.top_γ σ), rfl⟩

theorem C04.oct_join_upper (a b : OVal n) (σ : Octagon.State n) (h : γv a σ ∨ γv b σ) : γv (OVal.join a b) σ :=
  OVal.join_upper a b σ h

/-- the join of coherent values is the least upper bound among octagons -/
theorem C04.oct_join_least (a b c : OVal n) (hca : OVal.Coh a) (hcb : OVal.Coh b)
    (ha : ∀ σ, γv a σ → γv c σ) (hb : ∀ σ, γv b σ → γv c σ) (σ : Octagon.State n)
    (h : γv (OVal.join a b) σ) : γv c σ := OVal.join_least a b c hca hcb ha hb σ h

theorem C04.oct_meet_lower (a b : OVal n) (σ : Octagon.State n) (h : γv (OVal.meet a b) σ) :
    γv a σ ∧ γv b σ := (OVal.meet_exact a b σ).1 h

theorem C04.oct_meet_iff (a b : OVal n) (σ : Octagon.State n) : γv (OVal.meet a b) σ ↔ (γv a σ ∧ γv b σ) :=
  OVal.meet_exact a b σ

/-- the (textbook) widening contains both arguments; narrowing = meet keeps the common states -/
theorem C04.oct_widen_upper (a b : OVal n) (σ : Octagon.State n) (h : γv a σ ∨ γv b σ) :
    γv (OVal.widen a b) σ := OVal.widen_upper a b σ h

theorem C04.oct_narrow_sound (a b : OVal n) (σ : Octagon.State n) (h1 : γv a σ) (h2 : γv b σ) :
    γv (OVal.ops.narrow a b) σ := (OVal.meet_exact a b σ).2 ⟨h1, h2⟩

/-- `entails(cst)`: sound on all matrices, exact on coherent ones (C12) -/
theorem C04.oct_entails_iff (o : Oct n) (hco : Coherent o) (c : Octagon.Cst n) :
    entails o c = true ↔ ∀ σ, γ o σ → c.sat σ := Octagon.entails_iff_implied o hco c

/-- the coherence hypothesis is satisfiable: top, and everything computed from it -/
theorem C04.oct_coh_closed :
    OVal.Coh (OVal.top : OVal n) ∧ OVal.Coh (OVal.bot : OVal n) ∧
    (∀ st (v : OVal n), OVal.Coh v → OVal.Coh (OVal.exec st v)) ∧
    (∀ a b : OVal n, OVal.Coh a → OVal.Coh b → OVal.Coh (OVal.join a b) ∧ OVal.Coh (OVal.meet a b) ∧
      OVal.Coh (OVal.widen a b)) :=
  ⟨OVal.coh_top, OVal.coh_bot, OVal.coh_exec,
   fun a b ha hb => ⟨OVal.coh_join a b ha hb, OVal.coh_meet a b ha hb, OVal.coh_widen a b ha hb⟩⟩

/-- non-vacuity: `{x + y ≤ 1, x - y ≤ 0}` is below `{x ≤ 0}` only thanks to the integer
    tightening (`2x ≤ 1`), not conversely -/
example :
    let a : OVal 2 := OVal.exec (.assume [.sum 0 1 1, .diff 0 1 0]) OVal.top
    let b : OVal 2 := OVal.exec (.assume [.ub 0 0]) OVal.top
    OVal.leq a b = true ∧ OVal.leq b a = false ∧ OVal.isBottom a = false ∧ OVal.isTop a = false ∧
    OVal.leq (OVal.join a b) b = true ∧ OVal.leq (OVal.meet a b) a = true ∧
    OVal.isBottom (OVal.exec (.assume [.nsum 0 1 (-1), .diff 1 0 0]) a) = true := by decide +kernel

end Octagons

/-! ## Interval environments (canonical reference model of C12) -/
section ItvEnvs
open Crab.ItvEnv
variable {n : Nat}

theorem C04.itvenv_leq_sound (a b : Env n) (σ : ItvEnv.State n) (h : ItvEnv.leq a b = true) (hg : γ a σ) :
    γ b σ := ItvEnv.leq_sound a b h σ hg

/-- exact on well-formed environments -/
theorem C04.itvenv_leq_iff (a b : Env n) (hwa : EnvWF a) : ItvEnv.leq a b = true ↔ ∀ σ, γ a σ → γ b σ :=
  ItvEnv.leq_iff a b hwa

theorem C04.itvenv_leq_refl (a : Env n) : ItvEnv.leq a a = true := ItvEnv.leq_refl a

theorem C04.itvenv_bot_le (a b : Env n) (h : isBottom a = true) : ItvEnv.leq a b = true := by
  simp [ItvEnv.leq, h]

theorem C04.itvenv_le_top (a : Env n) : ItvEnv.leq a ItvEnv.top = true := ItvEnv.leq_top a

theorem C04.itvenv_is_bottom_iff (e : Env n) (hw : EnvWF e) : isBottom e = true ↔ ∀ σ, ¬ γ e σ :=
  ItvEnv.isBottom_iff_empty e hw

theorem C04.itvenv_is_top_iff (e : Env n) : ItvEnv.isTop e = true ↔ ∀ σ, γ e σ := ItvEnv.isTop_iff e

theorem C04.itvenv_join_upper (a b : Env n) (σ : ItvEnv.State n) (h : γ a σ ∨ γ b σ) : γ (join a b) σ :=
  ItvEnv.join_upper a b σ h

theorem C04.itvenv_meet_lower (a b : Env n) (σ : ItvEnv.State n) (h : γ (meet a b) σ) : γ a σ ∧ γ b σ :=
  (ItvEnv.meet_exact a b σ).1 h

theorem C04.itvenv_meet_iff (a b : Env n) (σ : ItvEnv.State n) : γ (meet a b) σ ↔ (γ a σ ∧ γ b σ) :=
  ItvEnv.meet_exact a b σ

example :
    let a : Env 2 := assumeAll ItvEnv.top [.ub 0 3, .lb 0 0]
    let b : Env 2 := assumeAll ItvEnv.top [.ub 0 5]
    ItvEnv.leq a b = true ∧ ItvEnv.leq b a = false ∧ ItvEnv.isTop a = false ∧
    isBottom (assumeAll a [.lb 0 (-4)]) = true := by decide +kernel

end ItvEnvs
