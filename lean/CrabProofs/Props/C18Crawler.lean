import CrabProofs.Lemmas.TIRCrawlerExec

/-!
# C18 (second half) — the assertion crawler over-approximates the real dependences

Model: `CrabModel/Transform/Crawler.lean` — transcription of `assertion_crawler`
(`xferStmt`, `xferFrom`, `crawl`, `stmtFacts`; control-dependence graph and block order are
inputs), the data-dependence inequations `isDataSol`, the concrete semantics with observations
(`runWith`) and the specification by paired executions (`RelevantData`, `RelevantCtrl`).

Proved (all inputs, no size bound):
* `C18.crawler_stmt_sound`, `C18.crawler_straightline_sound`, `C18.crawler_straightline_independent`:
  the data part of the transfer function (`dataStep` = `add_data_deps` / `remove_deps`) on one
  statement and on straight-line code: if `x` is not in the set propagated backwards from the
  variables of a condition, the value of the condition after the code does not depend on `x`.
* `C18.crawler_block_transfer_sound`: the same for `analyze` of the MODEL of the code
  (`xferFrom`, both variants, any control-dependence graph): what it answers for an assertion of
  the block is enough to determine the outcome of the assertion.
* `C18.crawler_data_sound`, `C18.crawler_data_independent`: across blocks.  For ANY answer `F`
  that passes the decidable test `isDataSol` (the driver runs it on the implementation's answer
  for every program, in both modes), along ANY path of the CFG from the entry of a block `l0` to
  an assertion `A`: if `x` is not in `F l0 A`, then the value of `A`'s condition at `A` does not
  depend on the value of `x` at the entry of `l0` (same havoc values; outcomes of the `assume`s
  and of the other assertions on the way are irrelevant).
* `C18.crawler_transfer_flow`, `C18.crawler_transfer_gen`: the block transfer of the model
  satisfies the two inequations of `isDataSol` (flow through a block, generation at an assert).
* `C18.crawler_model_isDataSol`, `C18.crawler_model_data_independent`: the fixpoint computed by
  the model of the code (`crawl`: round robin of `run_bwd_fixpo` with "assertions are generated
  at their first visit only", both variants, data-only or with any control-dependence graph, any
  block order covering the blocks) IS a solution of `isDataSol`; so the path statement holds
  for the model's answers unconditionally.
* `C18.crawler_data_not_relevant`, `C18.crawler_model_data_not_relevant`: the same at the level of
  the SPECIFICATION (`RelevantData`: paired executions of the concrete semantics, second run
  forced along the path of the first): an unlisted variable is never relevant through data
  dependences, for any answer that passes `isDataSol` and for the model's answers.
Control dependences: `CrawlVariant.cur` is the crawler BEFORE the repairs 747e96f / 631458b
(`CrawlVariant.fixed` is the one after them, the tree as it is now; note that `Variant.cur` of
C17 / C18 liveness means the opposite, all fixes in).  The full statement
`C18.crawler_ctrl_sound_Statement` is FALSE for `CrawlVariant.cur`
(`C18.crawler_ctrl_counterexample`, `C18.crawler_ctrl_self_loop_counterexample`,
`C18.crawler_ctrl_sink_counterexample`), and its per-statement answers are not even data-sound
(`C18.crawler_stmt_answers_counterexample`); for `CrawlVariant.fixed` the statement is proved in
`C18Ctrl.lean` (`C18.crawler_ctrl_sound_old`, and `C18.crawler_ctrl_sound` for the graph of cdg.hpp).
-/
open Crab Crab.TIR

/-- one statement (`add_data_deps`, `remove_deps`): states that agree on the set propagated
    backwards have successor states that agree on the set -/
theorem C18.crawler_stmt_sound (s : Stmt) (D : VarSet) (σ σ' τ τ' : State) (hv : Int)
    (hag : agreeOn (dataStep s D) σ σ') (h1 : s.effect σ hv = some τ) (h2 : s.effect σ' hv = some τ') :
    agreeOn D τ τ' :=
  dataStep_sound s D σ σ' τ τ' hv hag h1 h2

/-- straight-line code -/
theorem C18.crawler_straightline_sound (ss : List Stmt) (D : VarSet) (hv : Nat → Int) (i : Nat)
    (σ σ' τ τ' : State) (hag : agreeOn (bwdData ss D) σ σ')
    (h1 : effects hv i ss σ = some τ) (h2 : effects hv i ss σ' = some τ') : agreeOn D τ τ' :=
  bwdData_sound hv ss i D σ σ' τ τ' hag h1 h2

/-- straight-line code followed by `assert c`: a variable that is not in the propagated set
    cannot change the outcome of the assertion -/
theorem C18.crawler_straightline_independent (ss : List Stmt) (c : Cst) (x : Var)
    (hx : x ∉ bwdData ss c.vars) (σ : State) (v : Int) (hv : Nat → Int) (i : Nat) (τ τ' : State)
    (h1 : effects hv i ss σ = some τ) (h2 : effects hv i ss (σ.set x v) = some τ') :
    c.holds τ = c.holds τ' :=
  Cst.holds_congr c τ τ' (bwdData_sound hv ss i c.vars σ (σ.set x v) τ τ' (State.agree_set hx σ v) h1 h2)

/-! ### the block transfer of the model -/

/-- flow inequation: whatever `analyze` (the model `xferFrom`, any variant, any graph) is given
    for an assertion, its answer contains the data propagation of it -/
theorem C18.crawler_transfer_flow (v : CrawlVariant) (g : Cdg) (preds : List Label) (l : Label)
    (ss : List Stmt) (k : Nat) (X : XState) (hX : X.regInv) (a : AId) :
    VarSet.subset (bwdData ss (X.facts.get a)) ((xferFrom v g preds l k ss X).facts.get a) = true :=
  VarSet.subset_iff.mpr (xferFrom_bwdData v g preds l ss k X hX a)

/-- generation inequation: statement `j` of the block is `assert c`, visited for the first time
    (or the repaired `process_assertion`): the answer for it contains the variables of the
    condition propagated back through the statements in front of it -/
theorem C18.crawler_transfer_gen (v : CrawlVariant) (g : Cdg) (preds : List Label) (l : Label)
    (ss : List Stmt) (k : Nat) (X : XState) (j : Nat) (c : Cst) (hX : X.regInv)
    (hreg : (l, k + j) ∉ X.reg ∨ v.stmtFromOut = true) (hj : ss[j]? = some (.assert c)) :
    VarSet.subset (bwdData (ss.take j) c.vars) ((xferFrom v g preds l k ss X).facts.get (l, k + j)) = true :=
  xferFrom_gen v g preds l ss k X j c hX hreg hj

/-- `analyze` of the model on ONE block, started from nothing: if `x` is not in the answer for
    the assertion at index `j`, the outcome of that assertion does not depend on `x` -/
theorem C18.crawler_block_transfer_sound (v : CrawlVariant) (g : Cdg) (preds : List Label) (l : Label)
    (ss : List Stmt) (j : Nat) (c : Cst) (hj : ss[j]? = some (.assert c)) (x : Var)
    (hx : x ∉ (xferFrom v g preds l 0 ss ⟨[], []⟩).facts.get (l, j))
    (σ : State) (w : Int) (hv : Nat → Int) (i : Nat) (τ τ' : State)
    (h1 : effects hv i (ss.take j) σ = some τ) (h2 : effects hv i (ss.take j) (σ.set x w) = some τ') :
    c.holds τ = c.holds τ' := by
  have hX : (⟨[], []⟩ : XState).regInv := by intro b hb; simp [Facts.has, List.lookup] at hb
  have hsub := VarSet.subset_iff.mp
    (xferFrom_gen v g preds l ss 0 ⟨[], []⟩ j c hX (Or.inl (by simp)) hj)
  simp only [Nat.zero_add] at hsub
  exact C18.crawler_straightline_independent (ss.take j) c x (fun h => hx (hsub x h)) σ w hv i τ τ' h1 h2

/-! ### across blocks: every solution of the data-dependence inequations -/

/-- ACROSS BLOCKS.  `F` = any answer (facts at block entries) that passes `isDataSol`;
    `l0 :: π` = any path of the CFG that ends in the block of the assertion `(lA, k)` with
    condition `c`.  States that agree on `F l0 (lA, k)` at the entry of `l0` give the condition
    the same value when the assertion is reached along the path (same havoc values). -/
theorem C18.crawler_data_sound (P : Prog) (F : Label → Facts) (hsol : isDataSol P F = true)
    (l0 : Label) (π : List Label) (lA : Label) (k : Nat) (c : Cst)
    (hpath : isPath P (l0 :: π) = true) (hlast : (l0 :: π).getLast? = some lA)
    (hA : (P.stmtsOf lA)[k]? = some (.assert c))
    (hv : Nat → Int) (σ σ' τ τ' : State) (hag : agreeOn ((F l0).get (lA, k)) σ σ')
    (h1 : effects hv 0 (pathStmts P (l0 :: π) k) σ = some τ)
    (h2 : effects hv 0 (pathStmts P (l0 :: π) k) σ' = some τ') : c.holds τ = c.holds τ' :=
  crawler_path P F hsol (lA, k) c (mem_asserts hA) hv π l0 hpath hlast 0 σ σ' τ τ' hag h1 h2

/-- the property in its own words: if the answer does NOT list `x` for the assertion at the
    entry of `l0`, changing `x` there never changes the value of the assertion's condition along
    any fixed path -/
theorem C18.crawler_data_independent (P : Prog) (F : Label → Facts) (hsol : isDataSol P F = true)
    (l0 : Label) (π : List Label) (lA : Label) (k : Nat) (c : Cst)
    (hpath : isPath P (l0 :: π) = true) (hlast : (l0 :: π).getLast? = some lA)
    (hA : (P.stmtsOf lA)[k]? = some (.assert c))
    (x : Var) (hx : x ∉ (F l0).get (lA, k))
    (hv : Nat → Int) (σ : State) (w : Int) (τ τ' : State)
    (h1 : effects hv 0 (pathStmts P (l0 :: π) k) σ = some τ)
    (h2 : effects hv 0 (pathStmts P (l0 :: π) k) (σ.set x w) = some τ') : c.holds τ = c.holds τ' :=
  C18.crawler_data_sound P F hsol l0 π lA k c hpath hlast hA hv σ (σ.set x w) τ τ' (State.agree_set hx σ w) h1 h2

/-- THE MODEL OF THE CODE: the fixpoint computed by `crawl` (round robin of `run_bwd_fixpo`;
    before or after the repairs 747e96f / 631458b; data-only `g = []` or any control-dependence graph; any block
    order that covers the blocks) satisfies the data-dependence inequations -/
theorem C18.crawler_model_isDataSol (v : CrawlVariant) (P : Prog) (g : Cdg) (order : List Label) (M : InMap)
    (hwf : P.wf = true) (hord : ∀ l, l ∈ P.labels → l ∈ order) (h : crawl v P g order = some M) :
    isDataSol P M.get = true :=
  crawl_isDataSol v P g order M (WFp.of_wf hwf).nodup hord h

/-- hence, for the model of the code in both modes: a variable that is not listed for an
    assertion at the entry of a block cannot change the value of the assertion's condition
    along any fixed path from there -/
theorem C18.crawler_model_data_independent (v : CrawlVariant) (P : Prog) (g : Cdg) (order : List Label)
    (M : InMap) (hwf : P.wf = true) (hord : ∀ l, l ∈ P.labels → l ∈ order) (h : crawl v P g order = some M)
    (l0 : Label) (π : List Label) (lA : Label) (k : Nat) (c : Cst)
    (hpath : isPath P (l0 :: π) = true) (hlast : (l0 :: π).getLast? = some lA)
    (hA : (P.stmtsOf lA)[k]? = some (.assert c))
    (x : Var) (hx : x ∉ (M.get l0).get (lA, k))
    (hv : Nat → Int) (σ : State) (w : Int) (τ τ' : State)
    (h1 : effects hv 0 (pathStmts P (l0 :: π) k) σ = some τ)
    (h2 : effects hv 0 (pathStmts P (l0 :: π) k) (σ.set x w) = some τ') : c.holds τ = c.holds τ' :=
  C18.crawler_data_independent P M.get (C18.crawler_model_isDataSol v P g order M hwf hord h)
    l0 π lA k c hpath hlast hA x hx hv σ w τ τ' h1 h2

/-- SPECIFICATION LEVEL (paired executions of `runWith`, real semantics: false `assume`s and
    failed assertions stop the runs).  For any answer that passes `isDataSol`: a variable that is
    not listed for assertion `(lA, k)` at the entry of block `l` is not relevant there through
    data dependences, i.e. no two executions from states that differ only in that variable, the
    second following the path of the first, with the same havoc values, ever give the assertion
    different outcomes at the same position.  This is exactly the judgement of the driver's
    (R) check in the data-only mode: with (S) it can never fire. -/
theorem C18.crawler_data_not_relevant (P : Prog) (F : Label → Facts) (hsol : isDataSol P F = true)
    (lA : Label) (k : Nat) (c : Cst) (hA : (P.stmtsOf lA)[k]? = some (.assert c))
    (l : Label) (x : Var) (hx : x ∉ (F l).get (lA, k)) : ¬ RelevantData P (lA, k) l 0 x :=
  not_relevantData P F hsol (lA, k) c (mem_asserts hA) l x hx

/-- the same for the answers of the model of the code (both variants, data-only or with any
    control-dependence graph) -/
theorem C18.crawler_model_data_not_relevant (v : CrawlVariant) (P : Prog) (g : Cdg) (order : List Label)
    (M : InMap) (hwf : P.wf = true) (hord : ∀ l, l ∈ P.labels → l ∈ order) (h : crawl v P g order = some M)
    (lA : Label) (k : Nat) (c : Cst) (hA : (P.stmtsOf lA)[k]? = some (.assert c))
    (l : Label) (x : Var) (hx : x ∉ (M.get l).get (lA, k)) : ¬ RelevantData P (lA, k) l 0 x :=
  C18.crawler_data_not_relevant P M.get (C18.crawler_model_isDataSol v P g order M hwf hord h) lA k c hA l x hx

/-- real executions are covered: a statement that continues has the state effect used above -/
theorem C18.crawler_effect_of_step (s : Stmt) (σ σ' : State) (hv : Int) (ev : Option Event)
    (h : stepStmt s σ hv = .cont σ' ev) : s.effect σ hv = some σ' :=
  effect_of_step h

/-! ### control dependences: the crawler before 747e96f / 631458b (`CrawlVariant.cur`) -/

/-- FULL statement for version `v` of the code, with the control-dependence graph of the
    definition (Ferrante-Ottenstein-Warren), on CFGs all of whose blocks reach the exit: a
    variable that the data+control answer does not list for an assertion at the entry of a block
    is not relevant there (paired executions under one scheduler, `RelevantCtrl`).
    The statement about the code is `C18.crawler_ctrl_sound_Statement'` (C18Ctrl.lean): graph of
    cdg.hpp instead of the graph of the definition, every well-formed CFG. -/
def C18.crawler_ctrl_sound_Statement (v : CrawlVariant) : Prop :=
  ∀ (P : Prog) (x : Label) (order : List Label) (M : InMap),
    P.wf = true → P.exit = some x → (∀ l, l ∈ P.labels → l ∈ P.coReachable x) →
    (∀ l, l ∈ P.labels → l ∈ order) → crawl v P (P.cdgSpec x) order = some M →
    ∀ (a : AId) (l : Label) (y : Var), l ∈ P.labels → y ∉ (M.get l).get a → ¬ RelevantCtrl P a l 0 y

/-- `if (v0 <= 0) v1 := 0 else v1 := 1;  assert(v1 <= 0)` -/
def C18.progCtrlDef : Prog :=
  { nvars := 2, entry := 0, exit := some 3, hasFd := false, ins := [], outs := [],
    blocks := [⟨0, [], [1, 2], []⟩,
               ⟨1, [.assume ⟨.le, ⟨0, [(1, 0)]⟩⟩, .assign 1 ⟨0, []⟩], [3], [0]⟩,
               ⟨2, [.assume ⟨.le, ⟨1, [(-1, 0)]⟩⟩, .assign 1 ⟨1, []⟩], [3], [0]⟩,
               ⟨3, [.assert ⟨.le, ⟨0, [(1, 1)]⟩⟩], [], [1, 2]⟩] }

/-- what the model of the crawler before 747e96f / 631458b answers on `progCtrlDef` (the implementation answers the
    same: corpus/h_crawl/defects.ops line 1): nothing is listed for the assertion at `b0` -/
theorem C18.crawler_ctrl_answer_progCtrlDef :
    C18.progCtrlDef.cdgSpec 3 = [(0, [1, 2])] ∧
    (crawl CrawlVariant.cur C18.progCtrlDef [(0, [1, 2])] [3, 1, 2, 0]).map (fun M => (M.get 0).get (3, 0))
      = some [] := by
  decide +kernel

/-- ... but `v0` is relevant there: with `v0 = 0` the assertion holds, with `v0 = 1` it fails -/
theorem C18.crawler_ctrl_relevant_progCtrlDef : RelevantCtrl C18.progCtrlDef (3, 0) 0 0 0 :=
  ⟨fun _ => 0, 1, fun _ _ => 0, fun _ _ _ => 0, 6, by decide +kernel⟩

theorem C18.crawler_ctrl_counterexample : ¬ C18.crawler_ctrl_sound_Statement CrawlVariant.cur := by
  intro hS
  have hans := C18.crawler_ctrl_answer_progCtrlDef
  cases hc : crawl CrawlVariant.cur C18.progCtrlDef [(0, [1, 2])] [3, 1, 2, 0] with
  | none => rw [hc] at hans; simp at hans
  | some M =>
    have h2 := hans.2
    rw [hc] at h2
    simp only [Option.map_some, Option.some.injEq] at h2
    have := hS C18.progCtrlDef 3 [3, 1, 2, 0] M (by decide +kernel) rfl (by decide +kernel) (by decide +kernel)
      (by rw [hans.1]; exact hc) (3, 0) 0 0 (by decide +kernel) (by rw [h2]; simp)
    exact this C18.crawler_ctrl_relevant_progCtrlDef

/-- the repaired `add_control_deps` (`CrawlVariant.fixed`) lists `v0` on this program -/
example :
    (crawl CrawlVariant.fixed C18.progCtrlDef [(0, [1, 2])] [3, 1, 2, 0]).map (fun M => (M.get 0).get (3, 0))
      = some [0, 0] := by
  decide +kernel

/-- the assertion sits in the loop header:  `b1: assert(v1 <= 0); if (v0 <= 0) { v0++; goto b1 }` -/
def C18.progLoopHeader : Prog :=
  { nvars := 2, entry := 0, exit := some 3, hasFd := false, ins := [], outs := [],
    blocks := [⟨0, [], [1], []⟩,
               ⟨1, [.assert ⟨.le, ⟨0, [(1, 1)]⟩⟩], [2, 3], [0, 2]⟩,
               ⟨2, [.assume ⟨.le, ⟨0, [(1, 0)]⟩⟩, .bin .add 0 (.var 0) (.const 1)], [1], [1]⟩,
               ⟨3, [.assume ⟨.le, ⟨1, [(-1, 0)]⟩⟩], [], [1]⟩] }

/-- by the definition the loop header `b1` is control dependent on itself; the graph computed by
    `graph_algo::control_dep_graph` is `[(1, [2])]` (corpus/h_crawl/defects.ops line 2): the walk
    in `dominance` stops at `runner == n`.  With that graph `v0` is not listed for the assertion,
    with the graph of the definition it is; and `v0` is relevant: it decides how often the
    assertion is executed. -/
theorem C18.crawler_ctrl_self_loop_counterexample :
    C18.progLoopHeader.cdgSpec 3 = [(1, [1, 2])] ∧
    (crawl CrawlVariant.cur C18.progLoopHeader [(1, [2])] [3, 2, 1, 0]).map (fun M => (M.get 0).get (1, 0))
      = some [1] ∧
    (crawl CrawlVariant.cur C18.progLoopHeader [(1, [1, 2])] [3, 2, 1, 0]).map
      (fun M => ((M.get 0).get (1, 0)).contains 0) = some true ∧
    RelevantCtrl C18.progLoopHeader (1, 0) 0 0 0 :=
  ⟨by decide +kernel, by decide +kernel, by decide +kernel,
   ⟨fun y => if y = 0 then 1 else 0, 0, fun _ _ => 0, fun _ _ _ => 0, 8, by decide +kernel⟩⟩

/-- `if (v0 <= 0) stop;  else assert(v1 <= 0)`  with a sink that is not the exit block -/
def C18.progSink : Prog :=
  { nvars := 2, entry := 0, exit := some 2, hasFd := false, ins := [], outs := [],
    blocks := [⟨0, [], [1, 2], []⟩,
               ⟨1, [.assume ⟨.le, ⟨0, [(1, 0)]⟩⟩], [], [0]⟩,
               ⟨2, [.assume ⟨.le, ⟨1, [(-1, 0)]⟩⟩, .assert ⟨.le, ⟨0, [(1, 1)]⟩⟩], [], [0]⟩] }

/-- the implementation's graph is `[(0, [1])]` (post-dominance only sees the blocks that reach the
    exit; corpus/h_crawl/defects.ops line 3): `v0` is not listed although it decides whether the
    assertion is executed -/
theorem C18.crawler_ctrl_sink_counterexample :
    (crawl CrawlVariant.cur C18.progSink [(0, [1])] [1, 2, 0]).map (fun M => (M.get 0).get (2, 1))
      = some [1] ∧
    RelevantCtrl C18.progSink (2, 1) 0 0 0 :=
  ⟨by decide +kernel, ⟨fun _ => 1, 0, fun _ _ => 0, fun _ _ _ => 0, 6, by decide +kernel⟩⟩

/-- `b0: v0 := v1; assert(v0 <= 0)` -/
def C18.progStmt : Prog :=
  { nvars := 2, entry := 0, exit := some 0, hasFd := false, ins := [], outs := [],
    blocks := [⟨0, [.assign 0 ⟨0, [(1, 1)]⟩, .assert ⟨.le, ⟨0, [(1, 0)]⟩⟩], [], []⟩] }

/-- the per-statement answers before 631458b (`get_results(b, map)` starts from the facts
    at the ENTRY of the block and skips known assertions): in front of the assertion `{v1}` is
    answered (corpus/h_crawl/defects.ops line 4), `v0` is relevant there even on a fixed path;
    the repaired code answers `{v0}` -/
theorem C18.crawler_stmt_answers_counterexample :
    (crawl CrawlVariant.cur C18.progStmt [] [0]).map
      (fun M => ((stmtFacts CrawlVariant.cur C18.progStmt [] 0 M.get).lookup 1).map (fun F => F.get (0, 1)))
      = some (some [1]) ∧
    RelevantData C18.progStmt (0, 1) 0 1 0 ∧
    (crawl CrawlVariant.fixed C18.progStmt [] [0]).map
      (fun M => ((stmtFacts CrawlVariant.fixed C18.progStmt [] 0 M.get).lookup 1).map (fun F => F.get (0, 1)))
      = some (some [0]) :=
  ⟨by decide +kernel, ⟨fun _ => 0, 1, fun _ _ => 0, fun _ _ _ => 0, 3, by decide +kernel⟩, by decide +kernel⟩

/-- non-vacuity of `C18.crawler_data_sound`: the answers of the model on `progCtrlDef` pass
    `isDataSol`, and the path b0 b1 b3 satisfies the hypotheses -/
example :
    (crawl CrawlVariant.cur C18.progCtrlDef [(0, [1, 2])] [3, 1, 2, 0]).map (fun M => isDataSol C18.progCtrlDef M.get)
      = some true ∧
    isPath C18.progCtrlDef [0, 1, 3] = true ∧ [0, 1, 3].getLast? = some 3 ∧
    (C18.progCtrlDef.stmtsOf 3)[0]? = some (.assert ⟨.le, ⟨0, [(1, 1)]⟩⟩) := by
  decide +kernel
