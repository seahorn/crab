import CrabProofs.Props.C13WInt2
import CrabProofs.Lemmas.WDomVal

/-!
# C13 (part 4) — the wrapped interval *domain* follows bit-vector arithmetic

Property theorems only (helpers: `CrabProofs/Lemmas/WDomVal.lean`).  `Crab.WDom` is the
function-by-function model of `crab::domains::wrapped_interval_domain<z_number, VariableName>`
(`CrabModel/Dom/WIntDomain.lean`; tie: harness/h_wdom.cpp + Driver/WDomH.lean, tag `wdom`).

Every variable `v` has a declared bit-width `wd v` (`1 ≤ wd v ≤ 64`); a concrete state gives it a
bit-vector of that width.  What the environment returns for `v` (`_env.at(v)`) is the object
`top()` or an interval of width `wd v`: `Good (wd v)` (`top()` has width 3 whatever the variable).

This file: the *transfer functions on values* — the interval the domain computes and stores for
the target `x` contains the `BitVec` result of the operation on every choice of members of the
operands' values:
`eval_expr` (linear expression, wrap-around at the width), the `switch` of both arithmetic
`apply`, of both bitwise `apply`, the constant operand `mk_winterval(k, width(x))`, the casts
(`OP_TRUNC` stores top: the truncated interval is assigned to a shadowed local), `set(v, n)`,
`set(v, [lb, ub])`, `at(v)` (signed reading), the two exported constraints of a binding.

`C13WDomEnv.lean` lifts them to environments and states.
-/
open Crab Crab.WInt Crab.WrapInt Crab.WDom Crab.XDom Crab.Lin

/-- bit-vector meaning of the arithmetic operations (`none`: division by zero has no result) -/
def C13.bvArith {w : Nat} : ArithOp → BitVec w → BitVec w → Option (BitVec w)
  | .add, a, b => some (a + b)
  | .sub, a, b => some (a - b)
  | .mul, a, b => some (a * b)
  | .sdiv, a, b => if b = 0 then none else some (a.sdiv b)
  | .udiv, a, b => if b = 0 then none else some (a / b)
  | .srem, a, b => if b = 0 then none else some (a.srem b)
  | .urem, a, b => if b = 0 then none else some (a % b)

/-- bit-vector meaning of the bitwise operations (shifts by a bit-vector amount: an amount `≥ w`
    shifts everything out) -/
def C13.bvBit {w : Nat} : BitOp → BitVec w → BitVec w → BitVec w
  | .and, a, b => a &&& b
  | .or, a, b => a ||| b
  | .xor, a, b => a ^^^ b
  | .shl, a, b => a <<< b
  | .lshr, a, b => a >>> b
  | .ashr, a, b => a.sshiftRight' b

/-- **arithmetic `apply`**: the value stored for `x` is `top()` or of the width of the operands, and
    contains the bit-vector result for every choice of members of the operands (all seven
    operations; division by zero has no successor) -/
theorem C13.wdom_apply_arith_sound (w : Nat) (h1 : 1 ≤ w) (hw : w ≤ 64) (op : ArithOp)
    (yi zi r : WInt) (hy : Good w yi) (hz : Good w zi) (h : arithEval op yi zi = some r) :
    Good w r ∧ ∀ a b c : BitVec w, memBV a yi → memBV b zi → C13.bvArith op a b = some c → memBV c r := by
  cases op <;> simp only [arithEval, Option.some.injEq] at h <;>
    simp only [C13.bvArith, Option.some.injEq]
  · subst h; exact ⟨(add_spec h1 hw hy hz).1, fun a b c ha hb hc => hc ▸ add_sound_bv h1 hw hy hz ha hb⟩
  · subst h; exact ⟨(sub_spec h1 hw hy hz).1, fun a b c ha hb hc => hc ▸ sub_sound_bv h1 hw hy hz ha hb⟩
  · exact ⟨(mul_spec h1 hw hy hz h).1, fun a b c ha hb hc => hc ▸ mul_sound_bv h1 hw hy hz h ha hb⟩
  · refine ⟨(sdiv_spec h1 hw hy hz h).1, fun a b c ha hb hc => ?_⟩
    by_cases hb0 : b = 0
    · rw [if_pos hb0] at hc; cases hc
    · rw [if_neg hb0] at hc; exact Option.some.inj hc ▸ sdiv_sound_bv h1 hw hy hz h ha hb hb0
  · refine ⟨(udiv_spec h1 hw hy hz h).1, fun a b c ha hb hc => ?_⟩
    by_cases hb0 : b = 0
    · rw [if_pos hb0] at hc; cases hc
    · rw [if_neg hb0] at hc; exact Option.some.inj hc ▸ udiv_sound_bv h1 hw hy hz h ha hb hb0
  · subst h; exact ⟨defaultImpl_good w yi zi, fun a b c ha hb _ => C13.wint_default_sound w yi zi a b c ha hb⟩
  · subst h; exact ⟨defaultImpl_good w yi zi, fun a b c ha hb _ => C13.wint_default_sound w yi zi a b c ha hb⟩

/-- **bitwise `apply`**: `And/Or/Xor` (top), `Shl/LShr/AShr` (only a singleton amount refines) -/
theorem C13.wdom_apply_bitwise_sound (w : Nat) (h1 : 1 ≤ w) (hw : w ≤ 64) (op : BitOp)
    (yi zi r : WInt) (hy : Good w yi) (hz : Good w zi) (h : bitEval op yi zi = some r)
    (a b : BitVec w) (ha : memBV a yi) (hb : memBV b zi) : memBV (C13.bvBit op a b) r := by
  cases op <;> simp only [bitEval, Option.some.injEq] at h
  · subst h; exact C13.wint_default_sound w yi zi a b _ ha hb
  · subst h; exact C13.wint_default_sound w yi zi a b _ ha hb
  · subst h; exact C13.wint_default_sound w yi zi a b _ ha hb
  · exact shl_sound_bv h1 hw hy hz h ha hb
  · exact lshr_sound_bv h1 hw hy hz h ha hb
  · exact ashr_sound_bv h1 hw hy hz h ha hb

/-- the constant operand of `apply(op, x, y, k)` and of `set(v, n)`: `mk_winterval(k, w)` is a
    value of width `w` that contains `k mod 2^w` -/
theorem C13.wdom_const_sound (w : Nat) (h1 : 1 ≤ w) (hw : w ≤ 64) (k : Int) (zi : WInt)
    (h : WInt.ofZ k w = some zi) : memBV (BitVec.ofInt w k) zi :=
  C13.wint_ofZ_sound w h1 hw k zi h

/-- `mk_winterval(k, w)` is `top()` or of width `w` (it can be chained with the other values) -/
theorem C13.wdom_const_good (w : Nat) (h1 : 1 ≤ w) (hw : w ≤ 64) (k : Int) (zi : WInt)
    (h : WInt.ofZ k w = some zi) : Good w zi := ofZ_good h1 hw h

/-- wrap-around value of a linear expression at width `w` (`σ v` = unsigned value of `v`; the
    residue does not depend on the signed/unsigned reading of the variables) -/
def C13.bvLin (w : Nat) (σ : Var → Nat) (ex : Expr) : BitVec w :=
  BitVec.ofInt w (ex.eval (fun v => (σ v : Int)))

/-- **`eval_expr(e, w)`**: the result is `top()` or of width `w`; for a state that gives every
    variable of `e` a `w`-bit member of its abstract value, it contains the value of `e` computed
    modulo `2^w`.  (All the variables of `e` have the width of the assigned variable: mixing widths
    is outside the model.) -/
theorem C13.wdom_eval_sound (w : Nat) (h1 : 1 ≤ w) (hw : w ≤ 64) (e : WDom.Env) (ex : Expr) (r : WInt)
    (hgood : ∀ p ∈ ex.terms, Good w (e.get p.1)) (h : e.evalExpr ex w = some r) :
    Good w r ∧ ∀ σ : Var → Nat, (∀ p ∈ ex.terms, σ p.1 < 2 ^ w ∧ mem w (σ p.1) (e.get p.1)) →
      memBV (C13.bvLin w σ ex) r := by
  unfold WDom.Env.evalExpr at h
  rw [if_neg (by omega)] at h
  cases hc : WInt.ofZ ex.cst w with
  | none => rw [hc] at h; cases h
  | some r0 =>
    rw [hc] at h
    obtain ⟨g, m⟩ := evalLoop_spec h1 hw e ex.terms r0 r hgood (ofZ_good h1 hw hc) h
    refine ⟨g, fun σ hσ => ?_⟩
    unfold memBV C13.bvLin
    rw [BitVec.toNat_ofInt]
    have : ex.eval (fun v => (σ v : Int)) = ex.cst + Expr.evalTerms (fun v => (σ v : Int)) ex.terms := by
      unfold Expr.eval; omega
    rw [this]; exact m σ ex.cst hσ (ofZ_sound h1 hw hc)

/-- bit-vector meaning of the casts -/
def C13.bvCast {w : Nat} : CastOp → (w' : Nat) → BitVec w → BitVec w'
  | .zext, w', a => a.setWidth w'
  | .sext, w', a => a.signExtend w'
  | .trunc, w', a => a.setWidth w'

/-- **casts** (`apply(int_conv_operation_t, dst, src)`): the value stored for `dst` contains the
    zero extension / sign extension / truncation of every member of the value of `src`.
    (`OP_TRUNC` always stores top: the result of `Trunc` goes to a shadowed local variable.) -/
theorem C13.wdom_cast_sound (wd : Ty) (op : CastOp) (dst src : Var) (srcI r : WInt)
    (hs1 : 1 ≤ wd src) (hs64 : wd src ≤ 64) (hg : Good (wd src) srcI)
    (h : Env.castVal wd op dst src srcI = some r) (a : BitVec (wd src)) (ha : memBV a srcI) :
    memBV (C13.bvCast op (wd dst) a) r := by
  unfold Env.castVal at h
  by_cases hbt : (srcI.isBottom || srcI.isTop) = true
  · rw [if_pos hbt] at h
    obtain rfl := Option.some.inj h
    exact memBV_of_isTop (by simpa [ha.1] using hbt)
  rw [if_neg hbt] at h
  revert h ha hs1 hs64 hg a
  generalize wd src = ws
  generalize wd dst = wdd
  intro hs1 hs64 hg h a ha
  cases op with
  | trunc =>
    simp only at h
    split at h
    · cases h
    · cases ht : srcI.trunc wdd with
      | none => rw [ht] at h; cases h
      | some t => rw [ht] at h; exact Option.some.inj h ▸ mem_top _ _
  | zext =>
    simp only at h
    split at h
    · cases h
    · obtain ⟨k, rfl⟩ : ∃ k, wdd = ws + k := ⟨wdd - ws, by omega⟩
      rw [Nat.add_sub_cancel_left] at h
      exact zext_sound_bv hs1 hs64 hg h ha
  | sext =>
    simp only at h
    split at h
    · cases h
    · obtain ⟨k, rfl⟩ : ∃ k, wdd = ws + k := ⟨wdd - ws, by omega⟩
      rw [Nat.add_sub_cancel_left] at h
      exact sext_sound_bv hs1 hs64 hg h ha

/-- **`set(v, [lb, ub])`** (finite bounds): every `z` of the range, reduced modulo `2^w` -/
theorem C13.wdom_set_interval_sound (w : Nat) (h1 : 1 ≤ w) (hw : w ≤ 64) (lb ub z : Int) (r : WInt)
    (h : WInt.ofZ2 lb ub w = some r) (hl : lb ≤ z) (hu : z ≤ ub) : memBV (BitVec.ofInt w z) r :=
  C13.wint_ofZ2_sound w h1 hw lb ub z r h hl hu

/-- **`at(v)` / `operator[](v)`**: the unlimited interval contains the *signed* value of every
    member -/
theorem C13.wdom_at_sound (w : Nat) (h1 : 1 ≤ w) (hw : w ≤ 64) (x : WInt) (hg : Good w x) (i : Itv)
    (h : x.toInterval = some i) (a : BitVec w) (ha : memBV a x) : Itv.mem a.toInt i :=
  toInterval_sound_bv h1 hw hg h ha
