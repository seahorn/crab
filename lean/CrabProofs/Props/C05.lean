import CrabProofs.Lemmas.FixTermination

/-!
# C05 (engine part) — the interleaved fixpoint iterator terminates

`Crab.Fix.run` (transcription of `wto_iterator`, interleaved_fixpoint_iterator.hpp) takes fuel for
its four mutually recursive loops (one component, the components of a body, increasing sequence,
decreasing sequence).  Under the
widening chain condition `WellFounded (WidenStep c)` some fuel suffices, for every weak topological
ordering term, every start block, every `widening_delay` / `descending_iterations`, every
assumption map and every block transformer; and once enough fuel is given the result does not
depend on it.
-/
open Crab Crab.Fix

/-- C05: every run of the iterator terminates as soon as strict widening steps cannot be chained
    forever (`RunTerminates c w` unfolds to
    `WellFounded (WidenStep c) → ∃ fuel st, run c fuel w = some st`) -/
theorem C05.run_terminates {A : Type} (c : Ctx A) (w : List Comp) : RunTerminates c w :=
  fun wf => run_total c wf w

/-- the same for one component visited from an arbitrary state of the tables -/
theorem C05.visit_terminates {A : Type} (c : Ctx A) (wf : WellFounded (WidenStep c))
    (x : Comp) (st : St A) : ∃ fuel r, visitComp c fuel st x = some r :=
  visitComp_total c wf x st

/-- fuel monotonicity of the four mutually recursive loops: a result obtained with some fuel is
    obtained with any larger fuel -/
theorem C05.fuel_mono_loops {A : Type} (c : Ctx A) (f f' : Nat) (hf : f ≤ f') :
    (∀ st x r, visitComp c f st x = some r → visitComp c f' st x = some r) ∧
    (∀ st xs r, visitList c f st xs = some r → visitList c f' st xs = some r) ∧
    (∀ st h b i p r, ascend c f st h b i p = some r → ascend c f' st h b i p = some r) ∧
    (∀ st h b i p r, descend c f st h b i p = some r → descend c f' st h b i p = some r) :=
  ⟨fun _ _ _ h => visitComp_mono h hf, fun _ _ _ h => visitList_mono h hf,
   fun _ _ _ _ _ _ h => ascend_mono h hf, fun _ _ _ _ _ _ h => descend_mono h hf⟩

/-- fuel monotonicity of `run` -/
theorem C05.fuel_mono {A : Type} (c : Ctx A) (w : List Comp) (f f' : Nat) (st : St A)
    (h : run c f w = some st) (hf : f ≤ f') : run c f' w = some st :=
  run_mono h hf

/-- the result does not depend on the fuel: two successful runs return the same tables -/
theorem C05.fuel_irrelevant {A : Type} (c : Ctx A) (w : List Comp) (f f' : Nat) (st st' : St A)
    (h : run c f w = some st) (h' : run c f' w = some st') : st = st' := by
  have h1 := run_mono h (Nat.le_max_left f f')
  have h2 := run_mono h' (Nat.le_max_right f f')
  rw [h1] at h2
  exact Option.some.inj h2

/-! ### non-vacuity: the chain condition holds for a finite-height value type -/

/-- the two-point lattice `false ≤ true` with widening = join -/
def C05.boolCtx : Ctx Bool where
  ops := { bot := false, top := true, leq := fun a b => !a || b, join := (· || ·),
           meet := (· && ·), widen := (· || ·), narrow := (· && ·) }
  analyze := fun _ a => a
  preds := fun n => if n = 0 then [1] else if n = 1 then [0] else []
  nesting := fun n => if n = 0 then some [] else if n = 1 then some [0] else none
  entry := 0
  init := true
  assumptions := none
  delay := 1
  descending := 2

example : WellFounded (WidenStep C05.boolCtx) := by
  have htrue : Acc (WidenStep C05.boolCtx) true :=
    Acc.intro _ (by rintro y ⟨z, hz, _⟩; simp [C05.boolCtx] at hz)
  refine ⟨fun a => ?_⟩
  cases a
  · refine Acc.intro _ ?_
    rintro y ⟨z, hz, rfl⟩
    simp [C05.boolCtx] at hz
    subst hz
    exact htrue
  · exact htrue

/-- and the model does run on it (a loop `0 → 1 → 0`) -/
example : (run C05.boolCtx 10 [.cycle 0 [.vertex 1]]).isSome = true := by decide

/-! ### the hypothesis cannot be dropped -/

/-- a value type whose order test never succeeds: the increasing sequence never stabilises -/
def C05.loopCtx : Ctx Unit where
  ops := { bot := (), top := (), leq := fun _ _ => false, join := fun _ _ => (),
           meet := fun _ _ => (), widen := fun _ _ => (), narrow := fun _ _ => () }
  analyze := fun _ a => a
  preds := fun _ => [0]
  nesting := fun _ => some []
  entry := 0
  init := ()
  assumptions := none
  delay := 0
  descending := 0

/-- without the chain condition no fuel suffices -/
theorem C05.chain_condition_needed :
    ¬ ∃ fuel st, run C05.loopCtx fuel [.cycle 0 []] = some st := by
  have asc : ∀ f st it pre, ascend C05.loopCtx f st 0 [] it pre = none := by
    intro f
    induction f with
    | zero => intro st it pre; rfl
    | succ f ih =>
      intro st it pre
      rw [ascend_succ]
      cases f with
      | zero => rfl
      | succ g =>
        rw [visitList_nil, Option.bind_some, if_neg (by simp [C05.loopCtx])]
        exact ih _ _ _
  rintro ⟨fuel, st, h⟩
  unfold run at h
  cases fuel with
  | zero => simp [visitList_zero] at h
  | succ f =>
    rw [visitList_cons] at h
    cases f with
    | zero => simp [visitComp_zero] at h
    | succ g =>
      rw [visitComp_cycle, asc] at h
      simp [Comp.member, C05.loopCtx] at h

/-- accordingly its widening has an infinite chain of strict steps -/
theorem C05.loopCtx_not_wf : ¬ WellFounded (WidenStep C05.loopCtx) :=
  fun wf => C05.chain_condition_needed (C05.run_terminates _ _ wf)
