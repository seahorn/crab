import CrabProofs.Lemmas.ArraySmash
import CrabProofs.Lemmas.ArrayCells
import CrabProofs.Lemmas.ArraySmashCst
import CrabProofs.Props.C03

/-!
# C14 — array domains never lose a value that a cell can hold

## Array smashing (`array_smashing.hpp`) over ANY base domain

`Crab.Dom.Smash` models the functor over a base domain given only by its operations and their
soundness laws (`Smash.Base`: assign, weak_assign, expand with the summarized-dimension
semantics, forget, assume, join, widening, is_bottom).  The concretisation `Smash.γ` says: the
base domain accepts the program variables together with, for EVERY choice of one cell per tracked
array, the value of that cell as the value of the array's summary variable.

* `C14.smash_step_sound`: every operation of the history language satisfies `Step.Sound`
  (History.lean).
* `C14.smash_history_sound`: after any history every state of the collecting semantics is in `γ`.
* `C14.smash_load_sound`: whatever history produced the abstract value, every value a concrete
  load can return is a value the base domain allows for the loaded variable.
* `C14.smash_never_bottom_on_reachable`.
* `C14.smash_old_array_assign_counterexample`: the statement fails for `array_assign` as it was
  before the repair (`Smash.aAssignOld`): after
  `array_init(a0,..,5); a1[0] := 7; array_assign(a0, a1); x := a0[0]` the base domain says x = 5.

## Array adaptive (`array_adaptive.hpp`): the cell algebra only (partial)

`Crab.Dom.Cells` models `cell_t`, `offset_map_t` (`get_cell`, `mk_cell`, overlap, kill by erasing
or by marking as removed) and the offset-map part of a store at a constant offset.

* `C14.adaptive_cells_cover`: after any sequence of constant-offset stores (any offsets and sizes,
  both kill modes) every live cell is the target of a store that no later store overlaps — the
  ghost variable of a live cell holds exactly the last value written to all its bytes.
* `C14.adaptive_written_cell_live`: the written cell is live after the store.
* `C14.adaptive_old_mk_cell_counterexample`: with `mk_cell` as it was before the repair
  (`Cells.mkCellOld`) a store to a cell marked as removed leaves it marked as removed.
Not covered by proof (tested only, mechanism R): the scan of `get_overlap_cells`, ghost naming,
smashing decisions from the parameters, the all-cells-known flag, joins of offset maps,
delegation to the base domain.

The strong-update flag is trusted only under the client contract (`singleCell`, part of the
transition relation of a strong store); uniform element sizes per array are the function `esz`.
-/
open Crab Crab.Dom Crab.Dom.Arr Crab.Dom.Smash

/-- Every operation satisfies its soundness law w.r.t. `γ`. -/
theorem C14.smash_step_sound (Bs : Base) (esz : Nat → Nat) (op : Op) :
    (op.toStep (Bs := Bs) esz).Sound (γ esz) := step_sound Bs esz op

/-- **History soundness of the smashing functor** for every base domain, pool, history length and
    interleaving of numeric operations, initialisations, strong (legal) / weak / range stores,
    loads, array copies, joins, widenings and copies. -/
theorem C14.smash_history_sound (Bs : Base) (esz : Nat → Nat) (ops : List Op)
    (p : Pool (St Bs)) (c : CPool CState) (h0 : ∀ i s, c i s → γ esz (p i) s) :
    ∀ i s, collHist c (toHist (Bs := Bs) esz ops) i s → γ esz (runHist p (toHist esz ops) i) s := by
  apply C03.history_sound (γ esz) (toHist esz ops) _ p c h0
  intro st hst
  simp only [toHist, List.mem_map] at hst
  obtain ⟨op, _, rfl⟩ := hst
  exact C14.smash_step_sound Bs esz op

/-- **C14 for array smashing**: whatever history produced the abstract value, a load `x := a[i]`
    executed on any state of the collecting semantics yields a value that the base domain allows
    for `x` — all histories, all base domains, all element sizes. -/
theorem C14.smash_load_sound (Bs : Base) (esz : Nat → Nat) (ops : List Op)
    (p : Pool (St Bs)) (c : CPool CState) (h0 : ∀ i s, c i s → γ esz (p i) s)
    (d x a : Nat) (i : Lin) (s s' : CState)
    (hs : collHist c (toHist (Bs := Bs) esz ops) d s) (hl : cLoad (esz a) x a i.eval s = some s') :
    ValIn (runHist p (toHist esz (ops ++ [Op.aLoad d x a i])) d) x (s'.iv x) := by
  exact valIn_of_γ (C14.smash_history_sound Bs esz _ p c h0 d s' (collHist_map_snoc rfl hs hl)) x

/-- Array operations never turn a value that some execution reaches into bottom. -/
theorem C14.smash_never_bottom_on_reachable (Bs : Base) (esz : Nat → Nat) (ops : List Op)
    (p : Pool (St Bs)) (c : CPool CState) (h0 : ∀ i s, c i s → γ esz (p i) s)
    (d : Nat) (s : CState) (hs : collHist c (toHist (Bs := Bs) esz ops) d s) :
    (runHist p (toHist esz ops) d).isBottom = false :=
  not_bottom_of_γ (C14.smash_history_sound Bs esz ops p c h0 d s hs)

/-! ### `array_assign` before the repair violated the statement (untracked right-hand side) -/

/-- the statement of `C14.smash_load_sound` over the OLD `array_assign` (`Smash.aAssignOld`) -/
def C14.smash_old_array_assign_Statement : Prop :=
  ∀ (Bs : Base) (esz : Nat → Nat) (ops : List Op) (p : Pool (St Bs)) (c : CPool CState),
    (∀ i s, c i s → γ esz (p i) s) →
    ∀ (d x a : Nat) (i : Lin) (s s' : CState),
      collHist c (toHistOld (Bs := Bs) esz ops) d s → cLoad (esz a) x a i.eval s = some s' →
      ValIn (runHist p (toHistOld esz (ops ++ [Op.aLoad d x a i])) d) x (s'.iv x)

namespace C14cex

def k (n : Int) : Lin := ⟨n, []⟩

/-- `array_init(a0, 4, 0, 3, 5); array_store(a1, 4, 0, 7, weak); array_assign(a0, a1)` -/
def ops : List Op := [.aInit 0 0 (k 0) (k 3) (k 5), .aStore 0 1 (k 0) (k 7) false, .aAssign 0 0 1]

def s0 : CState := ⟨fun _ => 0, fun _ => Mem.empty⟩
def s1 : CState := s0.setArr 0 (Mem.init 4 0 3 5)
def s2 : CState := s1.setArr 1 ((s1.ar 1).store 0 7)
def s3 : CState := s2.setArr 0 (s2.ar 1)
def s4 : CState := s3.setVar 0 7

end C14cex

open C14cex in
theorem C14.smash_old_array_assign_counterexample : ¬ C14.smash_old_array_assign_Statement := by
  intro h
  have hv := h cstBase (fun _ => 4) C14cex.ops (fun _ => St.top) (fun _ s => s = s0)
    (fun _ s _ => γ_top s) 0 0 0 (k 0) s3 s4
    (by
      simp only [C14cex.ops, toHistOld, List.map_cons, List.map_nil, collHist, Op.toStepWith]
      simp only [List.foldl, Step.coll, CPool.set, if_true]
      refine ⟨s2, ⟨s1, ⟨s0, rfl, ?_⟩, ?_, ?_⟩, trivial, ?_⟩
      · rfl
      · rfl
      · intro hf; exact absurd hf (by decide)
      · rfl)
    (by rfl)
  obtain ⟨ρ, hρ, hx⟩ := hv
  have h5 : ρ (.prog 0) = 5 := hρ (.prog 0) 5 (by rfl)
  have h7 : ρ (.prog 0) = 7 := hx
  rw [h5] at h7
  exact absurd h7 (by decide)

/-- the same history with the repaired `array_assign`: the base domain no longer claims x = 5
    (the summary of a0 is forgotten) -/
example : (runHist (fun _ => (St.top : St C14cex.cstBase))
      (toHist (fun _ => 4) (C14cex.ops ++ [Op.aLoad 0 0 0 (C14cex.k 0)])) 0).base (.prog 0) = none := by rfl

/-- non-vacuity: the hypotheses of `smash_load_sound` are satisfiable with a non-trivial value:
    after `array_init(a0, 4, 0, 3, 5)` on the constants base, the load `x := a0[0]` is defined and
    the base domain says `x = 5` -/
example : ValIn (runHist (fun _ => (St.top : St C14cex.cstBase))
      (toHist (fun _ => 4) [Op.aInit 0 0 (C14cex.k 0) (C14cex.k 3) (C14cex.k 5), Op.aLoad 0 0 0 (C14cex.k 0)]) 0) 0 5 :=
  C14.smash_load_sound C14cex.cstBase (fun _ => 4) [Op.aInit 0 0 (C14cex.k 0) (C14cex.k 3) (C14cex.k 5)]
    (fun _ => St.top) (fun _ s => s = C14cex.s0) (fun _ s _ => γ_top s) 0 0 0 (C14cex.k 0) C14cex.s1
    (C14cex.s1.setVar 0 5)
    (by
      simp only [toHist, List.map_cons, List.map_nil, collHist, Op.toStep, Op.toStepWith]
      simp only [List.foldl, Step.coll, CPool.set, if_true]
      exact ⟨C14cex.s0, rfl, rfl⟩)
    (by rfl)

/-! ## array_adaptive: the cell algebra -/
open Crab.Dom.Cells

/-- **Cells cover**: every live cell of the offset map is the target of a store that no later
    store overlaps (stores listed most recent first), for both kill modes. -/
theorem C14.adaptive_cells_cover (smashable : Bool) (hist : List (Int × Nat)) (c : Cell)
    (h : c ∈ live (runStores smashable hist)) :
    ∃ newer older, hist = newer ++ (c.off, c.size) :: older ∧
      ∀ s ∈ newer, rangesMeet c.off c.size s.1 s.2 = false := by
  induction hist with
  | nil => simp [runStores, live] at h
  | cons s rest ih =>
    simp only [runStores] at h
    rcases live_storeConst h with h1 | ⟨h1, h2⟩
    · subst h1
      exact ⟨[], rest, rfl, by simp⟩
    · obtain ⟨newer, older, heq, hno⟩ := ih h1
      refine ⟨s :: newer, older, by rw [heq]; rfl, ?_⟩
      intro t ht
      rcases List.mem_cons.1 ht with h3 | h3
      · subst h3; exact h2
      · exact hno t h3

/-- the cell written by a constant-offset store is live afterwards (every map, both kill modes) -/
theorem C14.adaptive_written_cell_live (smashable : Bool) (om : OMap) (o : Int) (sz : Nat) :
    (⟨o, sz, false⟩ : Cell) ∈ live (storeConst smashable om o sz) :=
  written_live

/-- the same statement over `mk_cell` as it was before the repair (`Cells.mkCellOld`) -/
def C14.adaptive_old_mk_cell_Statement : Prop :=
  ∀ (smashable : Bool) (om : OMap) (o : Int) (sz : Nat),
    (⟨o, sz, false⟩ : Cell) ∈ live (storeConstOld smashable om o sz)

/-- before the repair a store to a cell marked as removed left it marked as removed -/
theorem C14.adaptive_old_mk_cell_counterexample : ¬ C14.adaptive_old_mk_cell_Statement := by
  intro h
  have := h true [⟨0, 4, true⟩] 0 4
  revert this
  decide

/-- non-vacuity of `adaptive_cells_cover`: `a[0..3] := _; a[8..11] := _; a[2..5] := _` leaves the
    cells (8,4) and (2,4) live (erase mode) -/
example : live (runStores false [(2, 4), (8, 4), (0, 4)]) = [⟨2, 4, false⟩, ⟨8, 4, false⟩] := by decide
