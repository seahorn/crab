import CrabProofs.Lemmas.ZSpecBits
import CrabProofs.Lemmas.ZSpecOps
import CrabProofs.Lemmas.ZSpecStr
import CrabProofs.Lemmas.QNumSpec
import CrabProofs.Lemmas.SafeIntSpec
import CrabProofs.Lemmas.LinTerm

/-!
# C20 — numbers and linear constraints keep their mathematical meaning

Property theorems only (helper lemmas live in `CrabProofs/Lemmas`).  Models:
`Crab.ZNum` (`ikos::z_number`), `Crab.QNum` (`ikos::q_number`), `Crab.SafeInt` (`crab::safe_i64`),
`Crab.Lin.Expr` / `Cst` / `Sys` (`ikos::linear_expression` / `linear_constraint` /
`linear_constraint_system` over `z_number`), `Crab.Lin.Term` / `CTerm` (construction histories).
Every statement quantifies over all numbers / expressions / valuations.  Where the code as it is
violates the full statement, the statement is kept as a `def …_Statement`, with a `_partial`
theorem (explicit decidable hypothesis) and a `_counterexample` (left: shift amounts `≥ 2^64`,
and the `mpz_import` construction path that is dead code on LP64).
-/
open Crab

/-! ## z_number -/

/-- int64 round trip: `(int64_t) z_number(x) = x` for every `int64_t` x -/
theorem C20.z_int64_roundtrip (x : Int) (h : ZNum.fitsInt64 x = true) :
    ZNum.toInt64? (ZNum.X.ofInt64' x) = some x := by
  have h' := (ZNum.Spec.fitsInt64_iff x).1 h
  rw [ZNum.Spec.ofInt64'_eq x h'.1 h'.2, ZNum.Spec.toInt64?_eq, if_pos h]

/-- `operator int64_t`: the value itself when it fits, CRAB_ERROR exactly outside the range -/
theorem C20.z_to_int64_exact (x : Int) :
    ZNum.toInt64? x = if ZNum.fitsInt64 x then some x else none := ZNum.Spec.toInt64?_eq x

theorem C20.z_fits_int64_iff (x : Int) :
    ZNum.fitsInt64 x = true ↔ (-(2 ^ 63) ≤ x ∧ x ≤ 2 ^ 63 - 1) := ZNum.Spec.fitsInt64_iff x

/-- uint64 round trip: `from_uint64(n)` has the value `n` -/
theorem C20.z_uint64_roundtrip (n : Nat) (h : n < 2 ^ 64) : ZNum.X.ofUInt64 n = (n : Int) :=
  ZNum.Spec.ofUInt64_eq n h

/-- both construction paths of `z_number(int64_t)` keep the value: violated by the
    `mpz_import` path (taken only where `signed long` is narrower than 64 bits) on negatives -/
def C20.z_of_int64_paths_Statement : Prop :=
  ∀ n : Int, -(2 ^ 63) ≤ n → n ≤ 2 ^ 63 - 1 → ZNum.X.ofInt64Si n = n ∧ ZNum.X.ofInt64Import n = n

theorem C20.z_of_int64_paths_partial (n : Int) (h0 : 0 ≤ n) (h2 : n ≤ 2 ^ 63 - 1) :
    ZNum.X.ofInt64Si n = n ∧ ZNum.X.ofInt64Import n = n :=
  ⟨rfl, ZNum.Spec.ofInt64Import_nonneg n h0 h2⟩

theorem C20.z_of_int64_paths_counterexample : ¬ C20.z_of_int64_paths_Statement := by
  intro h
  have := (h (-5) (by decide) (by decide)).2
  revert this
  decide

/-- text round trip in every base 2..36: `z_number(x.get_str(b), b) = x` -/
theorem C20.z_string_roundtrip (b : Nat) (hb : 2 ≤ b) (hb' : b ≤ 36) (x : Int) :
    ZNum.X.ofStr? b (ZNum.X.toStr b x) = some x := ZNum.Spec.ofStr?_toStr b hb hb' x

/-- `/` and `%` are truncating: `a = b*q + r`, `|r| < |b|`, `r` has the sign of `a`, and these
    conditions determine `q` and `r` -/
theorem C20.z_div_rem_spec (a b q r : Int) (hb : b ≠ 0) :
    (ZNum.div? a b = some q ∧ ZNum.rem? a b = some r) ↔
      (a = b * q + r ∧ r.natAbs < b.natAbs ∧ (0 ≤ a → 0 ≤ r) ∧ (a ≤ 0 → r ≤ 0)) :=
  ZNum.Spec.div_rem_spec a b q r hb

/-- division and remainder raise CRAB_ERROR exactly on a zero divisor -/
theorem C20.z_div_rem_error_iff (a b : Int) :
    (ZNum.div? a b = none ↔ b = 0) ∧ (ZNum.rem? a b = none ↔ b = 0) :=
  ⟨ZNum.Spec.div?_none_iff a b, ZNum.Spec.rem?_none_iff a b⟩

/-- `>>` is the floor quotient by `2^k` for every non-negative amount: violated for amounts
    `≥ 2^64`, which `mpz_get_ui` silently reduces modulo `2^64` -/
def C20.z_shr_floor_Statement : Prop :=
  ∀ a k : Int, 0 ≤ k → ZNum.shr a k = a / 2 ^ k.toNat

theorem C20.z_shr_floor_partial (a k : Int) (h0 : 0 ≤ k) (h1 : k < 2 ^ 64) :
    ZNum.shr a k = a / 2 ^ k.toNat := ZNum.Spec.shr_floor a k h0 h1

theorem C20.z_shr_floor_counterexample : ¬ C20.z_shr_floor_Statement := by
  intro h
  have h1 := h 1 (2 ^ 64) (by decide)
  rw [ZNum.Spec.shr_one_two_pow_64, ZNum.Spec.one_div_two_pow _ (by decide)] at h1
  exact absurd h1 (by decide)

/-- what `>>` computes for any amount: floor quotient by `2^(|k| mod 2^64)` -/
theorem C20.z_shr_as_coded (a k : Int) : ZNum.shr a k = a / 2 ^ (k.natAbs % 2 ^ 64) :=
  ZNum.shr_eq_getUi a k

/-- `<<` multiplies by `2^k` for every non-negative amount: same restriction -/
def C20.z_shl_Statement : Prop :=
  ∀ a k : Int, 0 ≤ k → ZNum.shl a k = a * 2 ^ k.toNat

theorem C20.z_shl_partial (a k : Int) (h0 : 0 ≤ k) (h1 : k < 2 ^ 64) :
    ZNum.shl a k = a * 2 ^ k.toNat := ZNum.shl_eq h0 h1

theorem C20.z_shl_counterexample : ¬ C20.z_shl_Statement := by
  intro h
  have h1 := h 1 (2 ^ 64) (by decide)
  have h2 : ZNum.shl 1 (2 ^ 64) = 1 := by decide
  rw [h2, Int.one_mul] at h1
  have h3 := ZNum.Spec.one_lt_two_pow_int (2 ^ 64 : Int).toNat (by decide)
  rw [← h1] at h3
  exact absurd h3 (by decide)

/-- meaning of a bit in infinite two's complement: parity of the floor quotient by `2^i` -/
theorem C20.z_bit_meaning (x : Int) (i : Nat) :
    ZNum.X.bit x i = decide ((x / 2 ^ i) % 2 = 1) := ZNum.Spec.bit_eq_div_mod x i

/-- an integer is determined by its bits -/
theorem C20.z_bit_ext (x y : Int) (h : ∀ i, ZNum.X.bit x i = ZNum.X.bit y i) : x = y :=
  ZNum.Spec.bit_ext h

/-- `&`, `|`, `^` act bit by bit on the infinite two's-complement representations, for all
    operands (negative ones included) and all bit positions -/
theorem C20.z_and_bitwise (a b : Int) (i : Nat) :
    ZNum.X.bit (ZNum.land a b) i = (ZNum.X.bit a i && ZNum.X.bit b i) := ZNum.Spec.bit_land a b i
theorem C20.z_or_bitwise (a b : Int) (i : Nat) :
    ZNum.X.bit (ZNum.lor a b) i = (ZNum.X.bit a i || ZNum.X.bit b i) := ZNum.Spec.bit_lor a b i
theorem C20.z_xor_bitwise (a b : Int) (i : Nat) :
    ZNum.X.bit (ZNum.lxor a b) i = (ZNum.X.bit a i ^^ ZNum.X.bit b i) := ZNum.Spec.bit_lxor a b i

/-- on non-negative operands they are the bitwise operations of the natural numbers -/
theorem C20.z_bitwise_nonneg (m n : Nat) :
    ZNum.land (m : Int) (n : Int) = ((m &&& n : Nat) : Int) ∧
    ZNum.lor (m : Int) (n : Int) = ((m ||| n : Nat) : Int) ∧
    ZNum.lxor (m : Int) (n : Int) = ((m ^^^ n : Nat) : Int) :=
  ⟨ZNum.Spec.land_natCast m n, ZNum.Spec.lor_natCast m n, ZNum.Spec.lxor_natCast m n⟩

/-- `fill_ones` of `x ≥ 0` is the least number of the form `2^j - 1` that is `≥ x` -/
theorem C20.z_fill_ones_spec (x : Int) (hx : 0 ≤ x) :
    ∃ j : Nat, ZNum.fillOnes x = 2 ^ j - 1 ∧ x ≤ ZNum.fillOnes x ∧
      ∀ k : Nat, x ≤ 2 ^ k - 1 → ZNum.fillOnes x ≤ 2 ^ k - 1 := ZNum.Spec.fillOnes_spec x hx

/-! ## q_number -/

/-- `q_number(num, den)`: CRAB_ERROR exactly on a zero denominator; otherwise (denominator of
    either sign, common factors allowed) the stored pair is canonical and denotes `num / den` -/
theorem C20.q_constructor (n d : Int) :
    (QNum.mk? n d = none ↔ d = 0) ∧
    (d ≠ 0 → ∃ q, QNum.mk? n d = some q ∧ q.Canonical ∧ q.toRat = Rat.divInt n d) :=
  ⟨QNum.mk?_none_iff n d, QNum.mk?_spec n d⟩

/-- `round_to_lower` is the floor, for ALL pairs with a non-zero denominator -/
theorem C20.q_round_lower (n d : Int) (h : d ≠ 0) :
    ∃ q, QNum.mk? n d = some q ∧ QNum.roundToLower q = some (Rat.divInt n d).floor :=
  QNum.roundToLower_mk n d h

/-- `round_to_upper` is the ceiling, for ALL pairs with a non-zero denominator -/
theorem C20.q_round_upper (n d : Int) (h : d ≠ 0) :
    ∃ q, QNum.mk? n d = some q ∧ QNum.roundToUpper q = some (Rat.divInt n d).ceil :=
  QNum.roundToUpper_mk n d h

/-- on any stored pair with a positive denominator (every value of the class): floor / ceiling of
    the denoted rational, i.e. floor division of the raw numerator by the raw denominator -/
theorem C20.q_round_stored (q : QNum) (h : 0 < q.den) :
    QNum.roundToLower q = some q.toRat.floor ∧ QNum.roundToUpper q = some q.toRat.ceil ∧
    QNum.roundToLower q = some (q.num / q.den) ∧ QNum.roundToUpper q = some (-((-q.num) / q.den)) :=
  ⟨QNum.roundToLower_floor q h, QNum.roundToUpper_ceil q h, QNum.roundToLower_pos q h,
   QNum.roundToUpper_pos q h⟩

/-- on a raw pair the rounding functions raise CRAB_ERROR exactly on a zero denominator (which the
    constructor rejects) -/
theorem C20.q_round_error_iff (q : QNum) :
    (QNum.roundToLower q = none ↔ q.den = 0) ∧ (QNum.roundToUpper q = none ↔ q.den = 0) :=
  ⟨QNum.roundToLower_none_iff q, QNum.roundToUpper_none_iff q⟩

/-- `+`, `-`, `*` (and `+=`, `-=`, `*=`) return a canonical pair that denotes the exact result -/
theorem C20.q_arith_exact (a b : QNum) (ha : 0 < a.den) (hb : b.den ≠ 0) :
    (∃ r, QNum.add a b = .ok r ∧ r.Canonical ∧ r.toRat = a.toRat + b.toRat) ∧
    (∃ r, QNum.sub a b = .ok r ∧ r.Canonical ∧ r.toRat = a.toRat - b.toRat) ∧
    (∃ r, QNum.mul a b = .ok r ∧ r.Canonical ∧ r.toRat = a.toRat * b.toRat) :=
  ⟨QNum.bin_spec _ a b ha hb, QNum.bin_spec _ a b ha hb, QNum.bin_spec _ a b ha hb⟩

theorem C20.q_arith_assign_exact (a b : QNum) (ha : a.den ≠ 0) (hb : b.den ≠ 0) :
    (∃ r, QNum.addAssign a b = .ok r ∧ r.Canonical ∧ r.toRat = a.toRat + b.toRat) ∧
    (∃ r, QNum.subAssign a b = .ok r ∧ r.Canonical ∧ r.toRat = a.toRat - b.toRat) ∧
    (∃ r, QNum.mulAssign a b = .ok r ∧ r.Canonical ∧ r.toRat = a.toRat * b.toRat) :=
  ⟨QNum.binAssign_spec _ a b ha hb, QNum.binAssign_spec _ a b ha hb, QNum.binAssign_spec _ a b ha hb⟩

/-- `/` : CRAB_ERROR exactly on a zero divisor, otherwise the exact quotient -/
theorem C20.q_div_exact (a b : QNum) (ha : 0 < a.den) (hb : b.den ≠ 0) :
    (b.toRat = 0 → QNum.div a b = .err) ∧
    (b.toRat ≠ 0 → ∃ r, QNum.div a b = .ok r ∧ r.Canonical ∧ r.toRat = a.toRat / b.toRat) :=
  QNum.div_spec a b ha hb

/-! ## safe_i64 -/

/-- a checked operation answers `r` iff `r` is the exact result and fits `int64_t`; otherwise it
    raises CRAB_ERROR: it never wraps silently -/
theorem C20.safe_add_exact (a b r : Int) (ha : SafeInt.inRange a = true) (hb : SafeInt.inRange b = true) :
    SafeInt.add a b = some r ↔ (r = a + b ∧ SafeInt.inRange r = true) :=
  SafeInt.fits_iff (SafeInt.add_eq ha hb) Option.some.inj nofun
theorem C20.safe_sub_exact (a b r : Int) (ha : SafeInt.inRange a = true) (hb : SafeInt.inRange b = true) :
    SafeInt.sub a b = some r ↔ (r = a - b ∧ SafeInt.inRange r = true) :=
  SafeInt.fits_iff (SafeInt.sub_eq ha hb) Option.some.inj nofun
theorem C20.safe_mul_exact (a b r : Int) (ha : SafeInt.inRange a = true) (hb : SafeInt.inRange b = true) :
    SafeInt.mul a b = some r ↔ (r = a * b ∧ SafeInt.inRange r = true) :=
  SafeInt.fits_iff (SafeInt.mul_eq ha hb) Option.some.inj nofun
theorem C20.safe_div_exact (a b r : Int) (ha : SafeInt.inRange a = true) (hb : b ≠ 0) :
    SafeInt.div a b = .ok r ↔ (r = a.tdiv b ∧ SafeInt.inRange r = true) :=
  SafeInt.fits_iff (SafeInt.div_eq ha hb) Outcome.ok.inj nofun
theorem C20.safe_neg_exact (a r : Int) (ha : SafeInt.inRange a = true) :
    SafeInt.neg a = some r ↔ (r = -a ∧ SafeInt.inRange r = true) :=
  SafeInt.fits_iff (SafeInt.neg_eq ha) Option.some.inj nofun
theorem C20.safe_of_z_exact (n r : Int) :
    SafeInt.ofZ n = some r ↔ (r = n ∧ SafeInt.inRange r = true) :=
  SafeInt.fits_iff (SafeInt.ofZ_eq n) Option.some.inj nofun

/-- CRAB_ERROR exactly when the exact result does not fit -/
theorem C20.safe_error_iff (a b : Int) (ha : SafeInt.inRange a = true) (hb : SafeInt.inRange b = true) :
    (SafeInt.add a b = none ↔ SafeInt.inRange (a + b) = false) ∧
    (SafeInt.sub a b = none ↔ SafeInt.inRange (a - b) = false) ∧
    (SafeInt.mul a b = none ↔ SafeInt.inRange (a * b) = false) ∧
    (b ≠ 0 → (SafeInt.div a b = .err ↔ SafeInt.inRange (a.tdiv b) = false)) :=
  ⟨SafeInt.overflow_iff (SafeInt.add_eq ha hb) nofun,
   SafeInt.overflow_iff (SafeInt.sub_eq ha hb) nofun,
   SafeInt.overflow_iff (SafeInt.mul_eq ha hb) nofun,
   fun h => SafeInt.overflow_iff (SafeInt.div_eq ha h) nofun⟩

/-- the 128-bit intermediate of every checked operation holds the exact result -/
theorem C20.safe_wide_exact (a b : Int) (ha : SafeInt.inRange a = true) (hb : SafeInt.inRange b = true) :
    SafeInt.wide (a + b) = a + b ∧ SafeInt.wide (a - b) = a - b ∧ SafeInt.wide (a * b) = a * b ∧
    SafeInt.wide (a.tdiv b) = a.tdiv b := by
  have ha' := (SafeInt.inRange_iff a).1 ha
  have hb' := (SafeInt.inRange_iff b).1 hb
  have hm := SafeInt.mul_bound ha hb
  have hd := SafeInt.tdiv_bound b ha
  exact ⟨SafeInt.wide_eq (by omega) (by omega), SafeInt.wide_eq (by omega) (by omega),
    SafeInt.wide_eq hm.1 hm.2, SafeInt.wide_eq hd.1 hd.2⟩

/-! ## linear expressions -/
open Crab.Lin

/-- evaluation is a homomorphism for sum, difference, scaling, negation and the mixed operators -/
theorem C20.lin_eval_add (a b : Expr) (σ : Var → Int) :
    (Expr.add a b).eval σ = a.eval σ + b.eval σ := Expr.eval_add a b σ
theorem C20.lin_eval_sub (a b : Expr) (σ : Var → Int) :
    (Expr.sub a b).eval σ = a.eval σ - b.eval σ := Expr.eval_sub a b σ
theorem C20.lin_eval_scale (e : Expr) (n : Int) (σ : Var → Int) :
    (Expr.scale e n).eval σ = n * e.eval σ := Expr.eval_scale e n σ
theorem C20.lin_eval_neg (e : Expr) (σ : Var → Int) :
    (Expr.neg e).eval σ = -e.eval σ := Expr.eval_neg e σ
theorem C20.lin_eval_mixed (e : Expr) (n : Int) (x : Var) (σ : Var → Int) :
    (Expr.addNum e n).eval σ = e.eval σ + n ∧ (Expr.subNum e n).eval σ = e.eval σ - n ∧
    (Expr.addVar e x).eval σ = e.eval σ + σ x ∧ (Expr.subVar e x).eval σ = e.eval σ - σ x ∧
    (Expr.const n).eval σ = n ∧ (Expr.var x).eval σ = σ x ∧ (Expr.term n x).eval σ = n * σ x :=
  ⟨Expr.eval_addNum e n σ, Expr.eval_subNum e n σ, Expr.eval_addVar e x σ, Expr.eval_subVar e x σ,
   Expr.eval_const n σ, Expr.eval_var x σ, Expr.eval_term n x σ⟩

/-- renaming (any map, injective or not) evaluates as the original under the renamed
    valuation; the hypothesis is the map invariant of `flat_map` (strictly increasing keys) -/
theorem C20.lin_eval_rename (e : Expr) (h : e.Sorted) (m : List (Var × Var)) (σ : Var → Int) :
    (Expr.rename e m).eval σ = e.eval (fun v => σ (Expr.renVar m v)) := Expr.eval_rename h m σ

/-- the operators preserve the canonical form (sorted map without zero coefficient) of their
    left operand, whatever the right operand is; scaling, negation and renaming always return
    zero-free maps -/
theorem C20.lin_canonical_preserved (a b : Expr) (n : Int) (x : Var) (m : List (Var × Var))
    (h : a.Canonical) :
    (Expr.add a b).Canonical ∧ (Expr.sub a b).Canonical ∧ (Expr.scale a n).Canonical ∧
    (Expr.neg a).Canonical ∧ (Expr.addNum a n).Canonical ∧ (Expr.subNum a n).Canonical ∧
    (Expr.addVar a x).Canonical ∧ (Expr.subVar a x).Canonical ∧ (Expr.rename b m).Canonical :=
  ⟨Expr.canonical_add b h, Expr.canonical_sub b h, Expr.canonical_scale n h.1, Expr.canonical_neg h.1,
   Expr.canonical_addNum n h, Expr.canonical_subNum n h, Expr.canonical_addVar x h, Expr.canonical_subVar x h,
   Expr.canonical_rename b m⟩

/-- whole histories: every expression built with the public constructors and operators has a
    sorted map and evaluates to what the history denotes, under every valuation -/
theorem C20.lin_history_value (t : Term) (σ : Var → Int) :
    t.interp.Sorted ∧ t.interp.eval σ = t.den σ := ⟨(Term.interp_canonical t).1, Term.eval_interp t σ⟩

/-- every expression built through the public interface is canonical (sorted map without zero
    coefficient), `0 * x` and `linear_expression(Number 0, variable)` included -/
theorem C20.lin_canonical (t : Term) : t.interp.Canonical := Term.interp_canonical t

/-- `equal` is equality of the stored maps and constants -/
theorem C20.lin_equal_iff (e o : Expr) : e.equal o = true ↔ e = o := Expr.equal_iff e o

/-! ## linear constraints -/

/-- negation is the exact complement over the integers, for every kind of constraint -/
theorem C20.lin_negate_complement (c : Cst) (σ : Var → Int) :
    (Cst.negate c).sat σ ↔ ¬ c.sat σ := Cst.sat_negate c σ

/-- the generic inequality case (used when the numbers are not integers) is a complement too -/
theorem C20.lin_negate_generic_complement (c : Cst) (σ : Var → Int) :
    (Cst.negateGeneric c).sat σ ↔ ¬ c.sat σ := Cst.sat_negateGeneric c σ

/-- a yes of either test is correct for every constraint -/
theorem C20.lin_tests_sound (c : Cst) (σ : Var → Int) :
    (c.isTautology = true → c.sat σ) ∧ (c.isContradiction = true → ¬ c.sat σ) :=
  ⟨fun h => Cst.sat_of_isTautology h σ, fun h => Cst.not_sat_of_isContradiction h σ⟩

/-- both tests are exact on constraints whose expression has an empty map -/
theorem C20.lin_tests_exact_on_constants (c : Cst) (hc : c.expr.isConstant = true) :
    (c.isTautology = true ↔ ∀ σ, c.sat σ) ∧ (c.isContradiction = true ↔ ∀ σ, ¬ c.sat σ) :=
  ⟨Cst.isTautology_iff_of_constant hc, Cst.isContradiction_iff_of_constant hc⟩

/-- both tests answer no on a constraint whose expression has a non-empty map -/
theorem C20.lin_tests_false_otherwise (c : Cst) (hc : c.expr.isConstant = false) :
    c.isTautology = false ∧ c.isContradiction = false := Cst.tests_false_of_not_constant hc

/-- the tests are exact on every canonical constraint whose expression denotes a constant
    function -/
theorem C20.lin_tests_semantic_canonical (c : Cst) (hc : c.expr.Canonical)
    (hk : ∃ k, ∀ σ, c.expr.eval σ = k) :
    (c.isTautology = true ↔ ∀ σ, c.sat σ) ∧ (c.isContradiction = true ↔ ∀ σ, ¬ c.sat σ) := by
  obtain ⟨k, hk⟩ := hk
  exact C20.lin_tests_exact_on_constants c (Expr.isConstant_of_constant_fun hc k hk)

/-- the tests are exact on every constraint built through the public interface (constructors, relational
    operators, negate, strict-to-non-strict, rename) that denotes a constant function:
    `0*x - 5 <= 0` is recognised as a tautology -/
theorem C20.lin_tests_semantic (c : CTerm) (r : Cst) (h : c.interp = some r)
    (hk : ∃ k, ∀ σ, r.expr.eval σ = k) :
    (r.isTautology = true ↔ ∀ σ, r.sat σ) ∧ (r.isContradiction = true ↔ ∀ σ, ¬ r.sat σ) :=
  C20.lin_tests_semantic_canonical r (CTerm.interp_canonical h) hk

/-- strict to non-strict over the integers: `e < 0` and `e + 1 <= 0` have the same solutions -/
theorem C20.lin_strict_to_non_strict (c r : Cst) (h : c.strictToNonStrict? = some r) (σ : Var → Int) :
    r.kind = .leq ∧ (r.sat σ ↔ c.sat σ) := by
  refine ⟨?_, Cst.sat_strictToNonStrict h σ⟩
  obtain ⟨_, hr⟩ := (Cst.strictToNonStrict_iff c r).1 h
  rw [hr]

/-- renaming a constraint -/
theorem C20.lin_cst_rename (c : Cst) (h : c.expr.Sorted) (m : List (Var × Var)) (σ : Var → Int) :
    (Cst.rename c m).sat σ ↔ c.sat (fun v => σ (Expr.renVar m v)) := Cst.sat_rename h m σ

/-- whole histories of constraints (constructors, relational operators, negate,
    strict-to-non-strict, rename): the result holds exactly where the history's meaning holds -/
theorem C20.lin_history_constraint (c : CTerm) (r : Cst) (h : c.interp = some r) (σ : Var → Int) :
    r.expr.Canonical ∧ (r.sat σ ↔ c.den σ) := ⟨CTerm.interp_canonical h, CTerm.sat_interp h σ⟩

/-! ## constraint systems -/

/-- `+=` adds exactly the given constraint to the solutions' conditions (duplicates dropped) -/
theorem C20.lin_system_add (s : Sys) (c : Cst) (σ : Var → Int) :
    Sys.sat (Sys.addCst s c) σ ↔ (Sys.sat s σ ∧ c.sat σ) := Sys.sat_addCst s c σ

theorem C20.lin_system_union (a b : Sys) (σ : Var → Int) :
    Sys.sat (Sys.union a b) σ ↔ (Sys.sat a σ ∧ Sys.sat b σ) := Sys.sat_union a b σ

/-- `normalize()` preserves the solution set, for every system (duplicates, constants,
    several pairs `e <= 0`, `-e <= 0` included) -/
theorem C20.lin_normalize_preserves (s : Sys) (σ : Var → Int) :
    Sys.sat (Sys.normalize s) σ ↔ Sys.sat s σ := Sys.sat_normalize s σ

/-! ## non-vacuity -/

example : ZNum.fitsInt64 (-(2 ^ 63)) = true ∧ ZNum.toInt64? (-(2 ^ 63)) = some (-(2 ^ 63)) ∧
    ZNum.toInt64? (2 ^ 63) = none := by decide

example : ZNum.div? (-7) 2 = some (-3) ∧ ZNum.rem? (-7) 2 = some (-1) ∧ ZNum.shr (-7) 1 = -4 ∧
    ZNum.land (-4) 6 = 4 ∧ ZNum.lor (-4) 1 = -3 ∧ ZNum.lxor (-1) 5 = -6 ∧ ZNum.fillOnes 9 = 15 := by
  decide

example : QNum.roundToLower ⟨-7, 2⟩ = some (-4) ∧ QNum.roundToUpper ⟨-7, 2⟩ = some (-3) ∧
    QNum.roundToLower ⟨7, 0⟩ = none ∧ QNum.mk? 7 0 = none := by decide

example : SafeInt.inRange (2 ^ 63 - 1) = true ∧ SafeInt.add (2 ^ 63 - 1) 1 = none ∧
    SafeInt.mul (-(2 ^ 63)) (-1) = none ∧ SafeInt.div (-(2 ^ 63)) (-1) = .err ∧
    SafeInt.mul 3037000499 3037000499 = some 9223372030926249001 := by decide

example : (Term.add (.term 2 0) (.term 3 1)).interp = ⟨[(0, 2), (1, 3)], 0⟩ ∧
    (Term.term 0 1).interp = Expr.const 0 ∧
    (Term.sub (.term 2 0) (.term 2 0)).interp = Expr.const 0 ∧
    (CTerm.mk .leq (.addn (.term 0 1) (-5))).interp = some ⟨Expr.const (-5), .leq⟩ ∧
    Cst.isTautology ⟨Expr.const (-5), .leq⟩ = true := by decide

example : Sys.normalize [⟨Expr.term 2 1, .leq⟩, ⟨Expr.term (-2) 1, .leq⟩, ⟨Expr.var 0, .lt⟩]
    = [⟨Expr.term 2 1, .eq⟩, ⟨Expr.var 0, .lt⟩] := by decide

example : Cst.negate ⟨Expr.addNum (Expr.var 0) (-3), .leq⟩ = ⟨Expr.addNum (Expr.term (-1) 0) 4, .leq⟩ := by
  decide

example : QNum.mk? 3 (-2) = some ⟨-3, 2⟩ ∧ QNum.mk? 4 (-6) = some ⟨-2, 3⟩ ∧
    (QNum.mk? 3 (-2)).bind QNum.roundToUpper = some (-1) ∧
    (QNum.mk? 3 (-2)).bind QNum.roundToLower = some (-2) := by decide
