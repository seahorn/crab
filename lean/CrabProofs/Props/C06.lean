import CrabProofs.Props.C01Engine
import CrabProofs.Props.C06Below

/-!
# C06 — the fixpoint engine computes the least solution when nothing is extrapolated

`Crab.Fix.run` is the transcription of `wto_iterator` (interleaved_fixpoint_iterator.hpp).
-/
open Crab Crab.Fix

/-- no extrapolation is applied while a loop head has been iterated at most `widening_delay`
    times: the iterator then combines with the join of the value type -/
theorem C06.no_widening_within_delay {A : Type} (c : Ctx A) (iteration : Nat) (a b : A)
    (h : iteration ≤ c.delay) : extrapolate c iteration a b = c.ops.join a b :=
  extrapolate_of_le c a b h

/-- beyond the delay the widening of the value type is what is applied -/
theorem C06.widening_after_delay {A : Type} (c : Ctx A) (iteration : Nat) (a b : A)
    (h : c.delay < iteration) : extrapolate c iteration a b = c.ops.widen a b :=
  extrapolate_of_lt c a b h

/-- the first descending step uses the meet, later ones the narrowing -/
theorem C06.refine_first_is_meet {A : Type} (c : Ctx A) (a b : A) :
    refine c 1 a b = c.ops.meet a b := by simp [refine]

/-- **Least solution.**  Driven with an exact value type (join = union, meet = intersection,
    bottom = empty, `analyze` = exact image, widening = join, narrowing = meet) over a well-formed
    ordering, every table entry describes exactly the states that reach the block: the iterator
    returns the least solution of the flow equations, for every start block of the ordering
    (the entry may head a loop), every assumption map, delay and number of descending iterations. -/
theorem C06.run_exact {A S : Type} (c : Ctx A) (w : List Comp) (sem : Sem c S) (ex : Exact c sem)
    (wf : WtoWF c w) (fuel : Nat) (st : St A) (h : run c fuel w = some st) (n : Nat) (s : S) :
    (sem.γ (st.pre n) s ↔ ReachPre c sem n s) ∧ (sem.γ (st.post n) s ↔ ReachPost c sem n s) := by
  have hs := C01.run_sound c w S sem fuel st wf h
  have hb := C06.run_below_reach c w S sem fuel st ex wf.entry_mem h
  exact ⟨⟨hb.1 n s, hs.1 n s⟩, ⟨hb.2 n s, hs.2 n s⟩⟩
