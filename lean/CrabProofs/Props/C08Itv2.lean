import CrabProofs.Lemmas.IntervalDiv
import CrabProofs.Lemmas.IntervalBits
import CrabProofs.Lemmas.IntervalTight
import CrabProofs.Lemmas.IntervalWiden

/-!
# C08 (part 2) — the remaining operations of integer intervals

Property theorems only (helper lemmas live in `CrabProofs/Lemmas/Interval{Div,Bits,Tight,Widen}`).
`Crab.Itv` is the branch-by-branch model of `ikos::interval<z_number>` (`lib/interval.cpp`);
`Itv.mem k i` is `k ∈ γ(i)`.  Every statement quantifies over all intervals (finite or infinite
bounds, bottom included; well-formedness `Itv.WF` only where stated) and all integers.

* division, remainders, bitwise operations, shifts, `trim_interval`: soundness
  (and definedness of `/`: no CRAB_ERROR);
* `+`, `-`, unary `-`, `*`, join, meet: the result is the smallest interval containing all
  concrete results (`+`/`-` are even exact);
* widening: stationarity and the chain condition (well-foundedness of strict widening steps).
-/
open Crab Crab.Itv

/-! ## 1. division -/

/-- `z_interval::operator/` over-approximates the truncating division by a non-zero divisor -/
theorem C08.itv_div_sound (x y r : Itv) (a b : Int) (ha : mem a x) (hb : mem b y) (hb0 : b ≠ 0)
    (h : Itv.div x y = some r) : mem (Int.tdiv a b) r := div_sound ha hb hb0 h

/-- `z_interval::operator/` never reaches CRAB_ERROR (for all operands, well-formed or not) -/
theorem C08.itv_div_defined (x y : Itv) : (Itv.div x y).isSome = true := div_defined x y

/-! ## 2. remainders -/

theorem C08.itv_srem_sound (x y : Itv) (a b : Int) (ha : mem a x) (hb : mem b y) (hb0 : b ≠ 0) :
    mem (Int.tmod a b) (srem x y) := srem_sound ha hb hb0

theorem C08.itv_urem_sound (x y : Itv) (a b : Int) (ha : mem a x) (hb : mem b y)
    (ha0 : 0 ≤ a) (hb0 : 0 < b) : mem (a % b) (urem x y) := urem_sound ha hb ha0 hb0

/-- `UDiv` is top on non-bottom operands: it contains every number -/
theorem C08.itv_udiv_sound (x y : Itv) (a b : Int) (ha : mem a x) (hb : mem b y) (k : Int) :
    mem k (udiv x y) := udiv_sound ha hb k

/-! ## 3. bitwise operations (infinite two's complement, `mpz_and/ior/xor`) -/

theorem C08.itv_and_sound (x y : Itv) (a b : Int) (ha : mem a x) (hb : mem b y) :
    mem (ZNum.land a b) (Itv.and x y) := and_sound ha hb
theorem C08.itv_or_sound (x y : Itv) (a b : Int) (ha : mem a x) (hb : mem b y) :
    mem (ZNum.lor a b) (Itv.or x y) := or_sound ha hb
theorem C08.itv_xor_sound (x y : Itv) (a b : Int) (ha : mem a x) (hb : mem b y) :
    mem (ZNum.lxor a b) (Itv.xor x y) := xor_sound ha hb

/-! ## 4. shifts -/

/-- `Shl` by `k ≥ 0` over-approximates the multiplication by `2^k` -/
theorem C08.itv_shl_sound (x y : Itv) (a k : Int) (ha : mem a x) (hk : mem k y) (h0 : 0 ≤ k) :
    mem (a * 2 ^ k.toNat) (shl x y) := shl_sound ha hk h0

/-- `AShr` by `k ≥ 0` over-approximates the floor division by `2^k` -/
theorem C08.itv_ashr_sound (x y : Itv) (a k : Int) (ha : mem a x) (hk : mem k y) (h0 : 0 ≤ k) :
    mem (a / 2 ^ k.toNat) (ashr x y) := ashr_sound ha hk h0

/-- `LShr` of a non-negative number by `k ≥ 0`: the full statement.  It fails for shift
    amounts `≥ 2^64`, which `z_number::operator>>` reduces modulo `2^64` (`mpz_get_ui`) while
    `AShr`/`Shl` answer top beyond 128 and `LShr` has no such guard. -/
def C08.itv_lshr_sound_Statement : Prop :=
  ∀ (x y : Itv) (a k : Int), mem a x → mem k y → 0 ≤ k → 0 ≤ a →
    mem (a / 2 ^ k.toNat) (lshr x y)

theorem C08.itv_lshr_sound_partial (x y : Itv) (a k : Int) (ha : mem a x) (hk : mem k y)
    (h0 : 0 ≤ k) (h64 : k < 2 ^ 64) (_ha0 : 0 ≤ a) :
    mem (a / 2 ^ k.toNat) (lshr x y) := lshr_sound ha hk h0 h64

/-- `[1,1] LShr [2^64,2^64] = [1,1]`, but `1 >> 2^64 = 0` -/
theorem C08.itv_lshr_sound_counterexample : ¬ C08.itv_lshr_sound_Statement := by
  intro h
  obtain ⟨h1, h2, h3⟩ := lshr_big_shift
  exact h3 (h (single 1) (single (2 ^ 64)) 1 (2 ^ 64) h1 h2 (by decide) (by decide))

/-! ## 5. `trim_interval` -/

/-- trimming by `j` keeps every member different from the singleton value of `j` -/
theorem C08.itv_trim_sound (i j : Itv) (k : Int) (hk : mem k i) (hne : j.singleton? ≠ some k) :
    mem k (trim i j) := trim_sound hk hne
/-- and adds nothing -/
theorem C08.itv_trim_below (i j : Itv) (k : Int) (hk : mem k (trim i j)) : mem k i :=
  trim_below hk

/-! ## 6. smallest interval -/

/-- `+` and `-` are exact on well-formed operands: every member of the result is a sum
    (difference) of members -/
theorem C08.itv_add_exact (x y r : Itv) (k : Int) (hx : x.WF) (hy : y.WF)
    (h : add x y = some r) (hk : mem k r) : ∃ a b, mem a x ∧ mem b y ∧ k = a + b :=
  add_exact hx hy h hk
theorem C08.itv_sub_exact (x y r : Itv) (k : Int) (hx : x.WF) (hy : y.WF)
    (h : sub x y = some r) (hk : mem k r) : ∃ a b, mem a x ∧ mem b y ∧ k = a - b :=
  sub_exact hx hy h hk

/-- any interval `r'` (well-formed or not) that contains all concrete results is above the
    computed interval -/
theorem C08.itv_add_tight (x y r r' : Itv) (hx : x.WF) (hy : y.WF) (h : add x y = some r)
    (hr : ∀ a b, mem a x → mem b y → mem (a + b) r') : leq r r' = true := add_tight hx hy h hr
theorem C08.itv_sub_tight (x y r r' : Itv) (hx : x.WF) (hy : y.WF) (h : sub x y = some r)
    (hr : ∀ a b, mem a x → mem b y → mem (a - b) r') : leq r r' = true := sub_tight hx hy h hr
theorem C08.itv_neg_tight (x r' : Itv) (hx : x.WF) (hr : ∀ a, mem a x → mem (-a) r') :
    leq (neg x) r' = true := neg_tight hx hr
theorem C08.itv_mul_tight (x y r' : Itv) (hx : x.WF) (hy : y.WF)
    (hr : ∀ a b, mem a x → mem b y → mem (a * b) r') : leq (mul x y) r' = true :=
  mul_tight hx hy hr
theorem C08.itv_join_tight (x y r' : Itv) (hx : x.WF) (hy : y.WF)
    (hr : ∀ k, mem k x ∨ mem k y → mem k r') : leq (join x y) r' = true := join_tight hx hy hr
theorem C08.itv_meet_tight (x y r' : Itv) (hx : x.WF) (hy : y.WF)
    (hr : ∀ k, mem k x → mem k y → mem k r') : leq (meet x y) r' = true := meet_tight hx hy hr

/-- the order reflects inclusion of concretisations (well-formed left side) -/
theorem C08.itv_leq_complete (r r' : Itv) (hw : r.WF) (h : ∀ k, mem k r → mem k r') :
    leq r r' = true := leq_of_subset hw h

/-! ## 7. widening -/

/-- widening by a covered value gives nothing new -/
theorem C08.itv_widen_stationary (x y : Itv) (h : leq y x = true) : leq (widen x y) x = true :=
  widen_stationary h

/-- chain condition: the strict widening steps `x ↦ x ∇ y` with `y ⋢ x` are well-founded
    (on all interval values, well-formed or not), so every increasing widened sequence is
    eventually stationary -/
theorem C08.itv_widen_wf :
    WellFounded (fun x' x : Itv => ∃ y, leq y x = false ∧ x' = widen x y) := widen_wf

/-- at most three strict widening steps from any value -/
theorem C08.itv_widen_measure (x y : Itv) (h : leq y x = false) :
    wmeasure (widen x y) < wmeasure x ∧ wmeasure x ≤ 3 :=
  ⟨widen_measure h, wmeasure_le_three x⟩

/-! ## non-vacuity -/

example : mem (-7) (⟨.ninf, .fin (-2)⟩ : Itv) ∧ mem 3 (⟨.fin (-1), .fin 4⟩ : Itv) ∧
    Itv.div ⟨.ninf, .fin (-2)⟩ ⟨.fin (-1), .fin 4⟩ = some top ∧
    Itv.div ⟨.fin (-6), .fin (-6)⟩ ⟨.fin 3, .fin 4⟩ = some ⟨.fin (-2), .fin (-1)⟩ := by
  refine ⟨by decide, by decide, by decide, by decide⟩

example : srem ⟨.fin (-5), .fin 9⟩ ⟨.fin (-3), .fin 2⟩ = ⟨.fin (-2), .fin 2⟩ ∧
    Itv.or ⟨.fin 1, .fin 5⟩ ⟨.fin 0, .fin 9⟩ = ⟨.fin 0, .fin 15⟩ ∧
    ashr ⟨.fin (-3), .pinf⟩ (single 1) = ⟨.fin (-2), .pinf⟩ ∧
    trim ⟨.fin 2, .fin 7⟩ (single 2) = ⟨.fin 3, .fin 7⟩ := by
  refine ⟨by decide, by decide, by decide, by decide⟩

example : (⟨.fin (-2), .pinf⟩ : Itv).WF ∧ (⟨.ninf, .fin 0⟩ : Itv).WF ∧
    leq (⟨.fin 0, .fin 5⟩ : Itv) ⟨.fin 0, .fin 3⟩ = false ∧
    widen ⟨.fin 0, .fin 3⟩ ⟨.fin 0, .fin 5⟩ = ⟨.fin 0, .pinf⟩ := by
  refine ⟨⟨by simp, by simp⟩, ⟨by simp, by simp⟩, by decide, by decide⟩
