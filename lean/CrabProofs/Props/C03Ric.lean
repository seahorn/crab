import CrabProofs.Lemmas.XDomRicInst
import CrabProofs.Props.C03
import CrabProofs.Props.C01Engine

/-!
# C03 for the "ric" domain `numerical_congruence_domain<interval_domain<z_number>>` — every
operation is sound, proved on the exact model

`Crab.RDom` (CrabModel/Dom/RicDomain.lean) is the branch-by-branch model of
`numerical_congruence_domain` (combined_congruences.hpp) over `reduced_domain_product2` /
`basic_domain_product2` (combined_domains.hpp: flag + two lazily canonicalised components) of
the exact models of `interval_domain` (`Crab.IDom`) and `congruence_domain` (`Crab.GDom`), with
the per-variable reduction `reduce_variable` through the constructor of `interval_congruence`
(`IC.reduce`).  It is tied to the real code by the exact correspondence `xdom`
(harness/h_cdom.cpp -DXDOM=4, Driver/XDomH.lean: both components after every operation of
random histories).

Concretisation: `Env.γ e σ := e.isBot = false ∧ e.f.γ σ ∧ e.s.γ σ` (the states described by the
interval component and by the congruence component).  `e.Inv`: the map invariants of the two
components, and a raised bottom flag means bottom components.  Other hypotheses (`x < 2^64`,
`CstOk c`, `GDom.Ok'`, the `Shl` side condition): as in Props/C03Cst.lean, C03CongDom.lean.

**Defect of the code (precision, not soundness)** — `reduce_variable` compares the reduced pair
with values it has just moved from (`interval_congruence_t val(std::move(i), std::move(c)); if
(val.first() != i) …; if (val.second() != c) …`): a moved-from `z_number` is 0, so the reduced
congruence is not stored when it is the constant 0, and the reduced interval is not stored when
it is `[0, 0]` and the interval had finite bounds.  The model has the comparisons as coded
(`firstChanged`, `secondChanged`); `C03.ricdom_reduce_variable_not_as_intended` is the witness
`x ∈ [0, 0]`: the congruence of `x` stays top instead of becoming 0.  Soundness is not affected
(`C03.ricdom_reduce_variable_sound` holds whatever the comparisons answer).
-/
open Crab Crab.RDom Crab.XDom Crab.Lin

/-! ### the reduction -/

/-- the constructor of `interval_congruence` (Granger's reduction) keeps the common members -/
theorem C03.ricdom_ic_reduce_sound (i : Itv) (c : Cong) (k : Int) (hi : Itv.mem k i) (hc : Cong.mem k c) :
    IC.mem k (icReduce i c) := icReduce_sound hi hc

/-- `reduce_variable(v)` keeps every state -/
theorem C03.ricdom_reduce_variable_sound (e : Env) (he : e.Inv) (σ : State) (v : Var) (hv : v < 2 ^ 64)
    (hg : e.γ σ) : (e.reduceVar v).γ σ := Env.reduceVar_sound he hg hv

/-- what the code intends: `reduce_variable` stores the reduced pair whenever it differs from the
    stored one -/
def C03.ricdom_reduce_variable_as_intended_Statement : Prop :=
  ∀ (e : Env) (v : Var), e.Inv → (e.reduceVar v).s = (e.reduceVarIntended v).s

/-- the use after move: for `x ∈ [0, 0]` with no congruence the code leaves the congruence of `x`
    top, the intended code stores the constant 0 -/
theorem C03.ricdom_reduce_variable_not_as_intended : ¬ C03.ricdom_reduce_variable_as_intended_Statement := by
  intro h
  let e : Env := ⟨false, IDom.Env.top.set 0 (Itv.single 0), GDom.Env.top⟩
  have he : e.Inv := ⟨IDom.Env.set_sorted _ _ _ IDom.Env.sorted_top, GDom.Env.inv_top, fun h => by cases h⟩
  have h1 : ((e.reduceVar 0).s).tree.lookup 0 = none := by decide +kernel
  have h2 : ((e.reduceVarIntended 0).s).tree.lookup 0 = some (Cong.ofInt 0) := by decide +kernel
  rw [h e 0 he, h2] at h1
  cases h1

/-! ### transformers -/

/-- `set(x, v)`: `x` receives any member of the pair -/
theorem C03.ricdom_set_sound (e : Env) (he : e.Inv) (σ : State) (x : Var) (hx : x < 2 ^ 64) (v : IC)
    (hw : Cong.WF v.c) (n : Int) (hg : e.γ σ) (hn : IC.mem n v) : (e.set x v).γ (upd σ x n) :=
  Env.set_sound he hg hx hw hn

/-- `assign(x, e)` -/
theorem C03.ricdom_assign_sound (e : Env) (he : e.Inv) (σ : State) (x : Var) (hx : x < 2 ^ 64) (ex : Expr)
    (hg : e.γ σ) : (e.assign x ex).γ (upd σ x (ex.eval σ)) := Env.assign_sound he hg hx ex

/-- `weak_assign(x, e)` -/
theorem C03.ricdom_weak_assign_sound (e : Env) (he : e.Inv) (σ : State) (x : Var) (hx : x < 2 ^ 64) (ex : Expr)
    (hg : e.γ σ) : (e.weakAssign x ex).γ σ ∧ (e.weakAssign x ex).γ (upd σ x (ex.eval σ)) :=
  have h := fun σ' => exec_sound' (.weakAssign x ex) hx trivial he hg (s' := σ')
  ⟨h _ (Or.inl rfl), h _ (Or.inr rfl)⟩

/-- `apply(arith op, x, y, z)` -/
theorem C03.ricdom_apply_arith_var_sound (e : Env) (he : e.Inv) (σ : State) (op : ArithOp) (x y z : Var)
    (hx : x < 2 ^ 64) (c : Int) (hg : e.γ σ) (hc : op.conc (σ y) (σ z) = some c) :
    (e.applyVar op x y z).γ (upd σ x c) :=
  exec_sound' (.arithVar op x y z) hx trivial he hg ⟨c, hc, rfl⟩

/-- `apply(arith op, x, y, k)` -/
theorem C03.ricdom_apply_arith_cst_sound (e : Env) (he : e.Inv) (σ : State) (op : ArithOp) (x y : Var)
    (hx : x < 2 ^ 64) (k c : Int) (hg : e.γ σ) (hc : op.conc (σ y) k = some c) :
    (e.applyCst op x y k).γ (upd σ x c) :=
  exec_sound' (.arithCst op x y k) hx trivial he hg ⟨c, hc, rfl⟩

/-- `apply(bitwise op, x, y, z)`; for `Shl` the modulus of the class of `z` must fit a machine word -/
theorem C03.ricdom_apply_bitwise_var_sound (e : Env) (he : e.Inv) (σ : State) (op : BitOp) (x y z : Var)
    (hx : x < 2 ^ 64) (c : Int) (hg : e.γ σ) (hc : op.conc (σ y) (σ z) = some c)
    (hz : op = .shl → (e.s.get z).a < 2 ^ 64) : (e.applyBitVar op x y z).γ (upd σ x c) :=
  exec_sound' (.bitVar op x y z) hx hz he hg ⟨c, hc, rfl⟩

/-- `apply(bitwise op, x, y, k)` -/
theorem C03.ricdom_apply_bitwise_cst_sound (e : Env) (he : e.Inv) (σ : State) (op : BitOp) (x y : Var)
    (hx : x < 2 ^ 64) (k c : Int) (hg : e.γ σ) (hc : op.conc (σ y) k = some c) :
    (e.applyBitCst op x y k).γ (upd σ x c) :=
  exec_sound' (.bitCst op x y k) hx trivial he hg ⟨c, hc, rfl⟩

/-- `operator+=(csts)`: both solvers, `reduce()`, then `reduce_variable` of every variable -/
theorem C03.ricdom_assume_sound (e : Env) (he : e.Inv) (σ : State) (csts : Sys) (hc : ∀ c ∈ csts, CstOk c)
    (hg : e.γ σ) (hsat : Sys.sat csts σ) : (e.add csts).γ σ :=
  exec_sound' (.assume csts) hc trivial he hg ⟨hsat, rfl⟩

/-- `select(lhs, cond, e1, e2)` -/
theorem C03.ricdom_select_sound (e : Env) (he : e.Inv) (σ : State) (lhs : Var) (hx : lhs < 2 ^ 64)
    (cond : Lin.Cst) (e1 e2 : Expr) (hc : CstOk cond) (hg : e.γ σ) :
    (e.select lhs cond e1 e2).γ (upd σ lhs (if cond.sat σ then e1.eval σ else e2.eval σ)) :=
  exec_sound' (.select lhs cond e1 e2) ⟨hx, hc⟩ trivial he hg rfl

/-- `operator-=(x)` -/
theorem C03.ricdom_forget_sound (e : Env) (he : e.Inv) (σ : State) (x : Var) (hx : x < 2 ^ 64) (n : Int)
    (hg : e.γ σ) : (e.forget x).γ (upd σ x n) :=
  exec_sound' (.forget x) hx trivial he hg ⟨n, rfl⟩

/-- `forget(variables)` -/
theorem C03.ricdom_forget_vector_sound (e : Env) (he : e.Inv) (σ σ' : State) (vs : List Var)
    (hv : ∀ v ∈ vs, v < 2 ^ 64) (hg : e.γ σ) (h : ∀ y, y ∉ vs → σ' y = σ y) : (e.forgetAll vs).γ σ' :=
  exec_sound' (.havoc vs) hv trivial he hg h

/-- `project(variables)` -/
theorem C03.ricdom_project_sound (e : Env) (he : e.Inv) (σ σ' : State) (vs : List Var)
    (hv : ∀ v ∈ vs, v < 2 ^ 64) (hg : e.γ σ) (h : ∀ y ∈ vs, σ' y = σ y) : (e.project vs).γ σ' :=
  exec_sound' (.project vs) hv trivial he hg h

/-- `expand(x, new_x)` -/
theorem C03.ricdom_expand_sound (e : Env) (he : e.Inv) (σ : State) (x nx : Var) (hnx : nx < 2 ^ 64)
    (hg : e.γ σ) : (e.expand x nx).γ (upd σ nx (σ x)) :=
  exec_sound' (.expand x nx) hnx trivial he hg rfl

/-- `rename(from, to)` with distinct sources and distinct, fresh targets -/
theorem C03.ricdom_rename_sound (e e' : Env) (he : e.Inv) (σ σ' : State) (frm to : List Var) (hg : e.γ σ)
    (hr : e.rename frm to = some e') (hf : ∀ v ∈ frm, v < 2 ^ 64) (ht : ∀ v ∈ to, v < 2 ^ 64)
    (hnf : frm.Nodup) (hnt : to.Nodup) (hdis : ∀ y ∈ to, y ∉ frm)
    (hfresh : ∀ y ∈ to, IDom.Map.find e.f.m y = none ∧ e.s.tree.lookup y = none)
    (hrel : ∀ p ∈ frm.zip to, σ' p.2 = σ p.1) (hout : ∀ y, y ∉ frm → y ∉ to → σ' y = σ y) : e'.γ σ' :=
  Env.rename_sound he hg hr hf ht hnf hnt hdis hfresh hrel hout

/-- integer casts between integer variables -/
theorem C03.ricdom_cast_sound (e : Env) (he : e.Inv) (σ : State) (zext : Bool) (bw : Nat) (dst src : Var)
    (hd : dst < 2 ^ 64) (hg : e.γ σ) (hz : zext = true → σ src ≤ 2 ^ bw - 1) :
    (e.intCast zext bw dst src).γ (upd σ dst (σ src)) :=
  exec_sound' (.cast zext bw dst src) hd trivial he hg ⟨hz, rfl⟩

/-- `to_linear_constraint_system()` holds in every state of `γ` -/
theorem C03.ricdom_to_csts_sound (e : Env) (he : e.Inv) (σ : State) (hg : e.γ σ) : Sys.sat e.toCsts σ :=
  Env.toCsts_sound he hg

/-- `at(v)` contains the value of `v` in every state of `γ` -/
theorem C03.ricdom_at_sound (e : Env) (σ : State) (x : Var) (hg : e.γ σ) : Itv.mem (σ x) (e.atItv x) :=
  Env.atItv_sound hg x

/-! ### the invariant -/

theorem C03.ricdom_top_bot_inv : RDom.Env.top.Inv ∧ RDom.Env.bot.Inv := ⟨RDom.Env.inv_top, RDom.Env.inv_bot⟩

theorem C03.ricdom_stmt_inv (st : Stmt) (hok : st.Ok) (a : Env) (h : a.Inv) : (exec st a).Inv := exec_inv st hok h

theorem C03.ricdom_lattice_inv (a b : Env) (ha : a.Inv) (hb : b.Inv) :
    (Env.join a b).Inv ∧ (Env.meet a b).Inv ∧ (Env.widen a b).Inv ∧ (Env.narrow a b).Inv ∧
    (Env.joinEq a b).Inv ∧ (Env.meetEq a b).Inv :=
  ⟨Env.join_inv ha hb, Env.meet_inv ha hb, Env.widen_inv ha hb, Env.narrow_inv ha hb,
   Env.joinEq_inv ha hb, Env.meetEq_inv ha hb⟩

/-! ### the operations as steps of the generic history contract -/

theorem C03.ricdom_step_trans_sound (d : Nat) (st : Stmt) (hok : GDom.Ok' st) :
    (Dom.Step.trans d ⟨execS st hok.1, st.rel⟩ : Dom.Step SEnv State).Sound SEnv.γ :=
  fun a _ _ hg hr => exec_sound st hok a.2 hg hr

theorem C03.ricdom_step_join_sound (d a b : Nat) :
    (Dom.Step.upper d a b SEnv.join : Dom.Step SEnv State).Sound SEnv.γ :=
  fun x y _ h => Env.join_upper x.2 y.2 h

/-- `operator|=` (no canonicalisation of the product) -/
theorem C03.ricdom_step_join_eq_sound (d a b : Nat) :
    (Dom.Step.upper d a b SEnv.joinEq : Dom.Step SEnv State).Sound SEnv.γ :=
  fun x y _ h => Env.joinEq_upper x.2 y.2 h

theorem C03.ricdom_step_widen_sound (d a b : Nat) :
    (Dom.Step.upper d a b SEnv.widen : Dom.Step SEnv State).Sound SEnv.γ :=
  fun x y _ h => Env.widen_upper x.2 y.2 h

theorem C03.ricdom_step_widen_thresholds_sound (d a b : Nat) (ts : IDom.Thresholds) (hw : ts.WF) :
    (Dom.Step.upper d a b (SEnv.widenTh ts) : Dom.Step SEnv State).Sound SEnv.γ :=
  fun x y _ h => Env.widenTh_upper hw x.2 y.2 h

theorem C03.ricdom_step_meet_sound (d a b : Nat) :
    (Dom.Step.lower d a b SEnv.meet : Dom.Step SEnv State).Sound SEnv.γ :=
  fun x y _ h1 h2 => Env.meet_sound x.2 y.2 h1 h2

/-- `operator&=` (no canonicalisation of the product) -/
theorem C03.ricdom_step_meet_eq_sound (d a b : Nat) :
    (Dom.Step.lower d a b SEnv.meetEq : Dom.Step SEnv State).Sound SEnv.γ :=
  fun x y _ h1 h2 => Env.meetEq_sound x.2 y.2 h1 h2

theorem C03.ricdom_step_narrow_sound (d a b : Nat) :
    (Dom.Step.lower d a b SEnv.narrow : Dom.Step SEnv State).Sound SEnv.γ :=
  fun x y _ h1 h2 => Env.narrow_sound x.2 y.2 h1 h2

/-- the steps an operation history of the "ric" domain is made of -/
inductive C03.RicdomStep : Dom.Step SEnv State → Prop
  | trans (d : Nat) (st : Stmt) (hok : GDom.Ok' st) : C03.RicdomStep (.trans d ⟨execS st hok.1, st.rel⟩)
  | join (d a b : Nat) : C03.RicdomStep (.upper d a b SEnv.join)
  | joinEq (d a b : Nat) : C03.RicdomStep (.upper d a b SEnv.joinEq)
  | widen (d a b : Nat) : C03.RicdomStep (.upper d a b SEnv.widen)
  | widenTh (d a b : Nat) (ts : IDom.Thresholds) (hw : ts.WF) : C03.RicdomStep (.upper d a b (SEnv.widenTh ts))
  | meet (d a b : Nat) : C03.RicdomStep (.lower d a b SEnv.meet)
  | meetEq (d a b : Nat) : C03.RicdomStep (.lower d a b SEnv.meetEq)
  | narrow (d a b : Nat) : C03.RicdomStep (.lower d a b SEnv.narrow)
  | copy (d s : Nat) : C03.RicdomStep (.copy d s)
  | setBot (d : Nat) : C03.RicdomStep (.setBot d SEnv.bot)

theorem C03.ricdom_step_sound (st : Dom.Step SEnv State) (h : C03.RicdomStep st) : st.Sound SEnv.γ := by
  cases h with
  | trans d s hok => exact C03.ricdom_step_trans_sound d s hok
  | join d a b => exact C03.ricdom_step_join_sound d a b
  | joinEq d a b => exact C03.ricdom_step_join_eq_sound d a b
  | widen d a b => exact C03.ricdom_step_widen_sound d a b
  | widenTh d a b ts hw => exact C03.ricdom_step_widen_thresholds_sound d a b ts hw
  | meet d a b => exact C03.ricdom_step_meet_sound d a b
  | meetEq d a b => exact C03.ricdom_step_meet_eq_sound d a b
  | narrow d a b => exact C03.ricdom_step_narrow_sound d a b
  | copy d s => trivial
  | setBot d => trivial

/-- **C03 for the "ric" domain**: after ANY history of its operations over a pool of values, every
    slot contains the collecting semantics of the history (instance of `C03.history_sound`) -/
theorem C03.ricdom_history_sound (hist : List (Dom.Step SEnv State)) (hs : ∀ st ∈ hist, C03.RicdomStep st)
    (p : Dom.Pool SEnv) (c : Dom.CPool State) (h : ∀ i s, c i s → (p i).γ s) :
    ∀ i s, (Dom.collHist c hist) i s → ((Dom.runHist p hist) i).γ s :=
  C03.history_sound SEnv.γ hist (fun st hst => C03.ricdom_step_sound st (hs st hst)) p c h

/-- a slot whose collecting semantics is inhabited is never reported bottom -/
theorem C03.ricdom_not_bottom_if_inhabited (hist : List (Dom.Step SEnv State))
    (hs : ∀ st ∈ hist, C03.RicdomStep st) (p : Dom.Pool SEnv) (c : Dom.CPool State)
    (h : ∀ i s, c i s → (p i).γ s) (i : Nat) (s : State) (hc : (Dom.collHist c hist) i s) :
    ((Dom.runHist p hist) i).1.isBottom = false :=
  Env.isBottom_false (C03.ricdom_history_sound hist hs p c h i s hc)

theorem C03.ricdom_history_inv (hist : List (Dom.Step SEnv State)) (p : Dom.Pool SEnv) (i : Nat) :
    ((Dom.runHist p hist) i).1.Inv := ((Dom.runHist p hist) i).2

/-- **C01 ∘ C03**: the fixpoint iterator on the "ric" domain returns tables that contain the
    collecting semantics of the program -/
theorem C03.ricdom_run_sound (prog : Nat → List eng.AStmt) (preds : Nat → List Nat)
    (nesting : Nat → Option (List Nat)) (entry : Nat) (init : SEnv)
    (assumptions : Option (List (Nat × SEnv))) (delay descending : Nat) (w : List Fix.Comp)
    (fuel : Nat) (st : Fix.St SEnv)
    (hwf : Fix.WtoWF (eng.mkCtx prog preds nesting entry init assumptions delay descending) w)
    (hrun : Fix.run (eng.mkCtx prog preds nesting entry init assumptions delay descending) fuel w = some st) :
    let sm := eng.sem prog preds nesting entry init assumptions delay descending
    (∀ n s, Fix.ReachPre _ sm n s → (st.pre n).γ s) ∧ (∀ n s, Fix.ReachPost _ sm n s → (st.post n).γ s) :=
  C01.run_sound _ w State (eng.sem prog preds nesting entry init assumptions delay descending) fuel st hwf hrun

/-! ### non-vacuity -/

/-- `x := 2y + 1; assume 1 <= x <= 6`: the reduction tightens the interval to `[1, 5]` -/
example :
    let e := exec (.assume [⟨⟨[(0, -1)], 1⟩, .leq⟩, ⟨⟨[(0, 1)], -6⟩, .leq⟩]) (exec (.assign 0 ⟨[(1, 2)], 1⟩) RDom.Env.top)
    e.f.get 0 = ⟨.fin 1, .fin 5⟩ ∧ e.s.get 0 = ⟨false, 2, 1⟩ ∧ e.isBottom = false := by decide +kernel

example : RDom.Env.γ (RDom.Env.top.set 0 ⟨⟨.fin 1, .fin 5⟩, ⟨false, 2, 1⟩⟩) (upd (fun _ => 3) 0 3) :=
  RDom.Env.set_sound RDom.Env.inv_top (RDom.Env.γ_top _) (by decide) (by decide) (by decide)
