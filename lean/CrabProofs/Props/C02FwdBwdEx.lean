import CrabProofs.Props.C02FwdBwd
import CrabProofs.Props.C02

/-!
# C02, forward+backward analyzer — examples, non-vacuity, and the `use_refined_invariants` finding

All examples use the two-point domain of `C02.lean` (`false` = bottom, `true` = top; it entails
nothing, so the forward rule of the checker answers `warning` for every reachable assertion) and
the forward pass "top strengthened with the assumption of the block".  The backward passes are
tables that are PROVED to satisfy the contract `FBSound` on the program at hand.

* `C02.FB.twoBlock` : `B0: x := 1`  `B1: assert(x <= 5)` — discharged (`B0` is bottom and strictly
  dominates `B1`); real analyzer (`prog.fwdbwd`, intervals): `(chk (B1 0 safe))`;
* `C02.FB.diamond` : `B0: havoc x; goto B1, B2`  `B1: assume(x != 3); goto B3`  `B2: goto B4`
  `B3: assert(x != 3)`  `B4: assert(x != 3)`  `B5` — only the assertion of `B3` is discharged;
  real analyzer: forward `(chk (B3 0 warning) (B4 0 warning))`, forward+backward
  `(chk (B3 0 safe) (B4 0 warning))`;
* `C02.FB.refProg` : `B0: x := 1; assert(x <= 5); goto B1`  `B1:` — with
  `use_refined_invariants = true` the checker answers `unreachable` for an assertion every
  execution reaches.  Real analyzer (h_prog.cpp with `params.get_use_refined_invariants() = true`,
  intervals): `(inv (B0 (pre 1 0 (iv bot) ...` and `(chk (B0 1 unreachable))` on
  `(prog.fwdbwd any (params 1 1 0 0) (ivars v0) (bvars) (entry B0) (exit B1) (init) (blocks (B0 (stmts (assign v0 (lin 1)) (assert (le (lin -5 (1 v0))))) (succs B1)) (B1 (stmts) (succs))))`;
* `C02.FB.sameBlock` : `B0: havoc x; assume(x != 3); assert(x != 3)` with or without a successor —
  the code discharges less than the argument allows (an assertion in the bottom block itself);
* `C02.FB.entryProg` : `B0: goto B1`  `B1: assume(x != 3); goto B2`  `B2: assert(x != 3)` analysed
  from `B2` with the tree rooted at `B0` — the behaviour before commit 874487d, a failing assertion
  reported `safe`.
-/
open Crab Crab.Fix Crab.IR Crab.Analysis

def C02.FB.ops : FBOps Bool := ⟨true, fun a => !a, fun a b => a && b, fun a b => !a || b⟩

/-- forward pass of the examples: top, strengthened with the assumption of the block -/
def C02.FB.fwd (T : AsmTable Bool) (b : Nat) : Bool := (T b).getD true

/-- `cfgEntry = 0`: block 0 is the entry block of every example CFG -/
def C02.FB.ctx (bwd : (Nat → Bool) → Nat → Bool) (backward refined : Bool) : FBCtx Bool :=
  { ops := C02.FB.ops, fwd := C02.FB.fwd, bwd := bwd,
    params := { enabledBackward := backward, maxRefine := 5, useRefined := refined },
    assumptions := fun _ => none, hasExit := true, cfgEntry := 0 }

/-- the contract holds as soon as the backward table is top wherever a failure is reachable -/
theorem C02.FB.sound (p : Program) (Init : State → Prop) (bwd : (Nat → Bool) → Nat → Bool)
    (backward refined : Bool)
    (h : ∀ (inv : Nat → State → Prop) (F : Nat → Bool) n σ, CoFail p inv n σ → bwd F n = true) :
    FBSound C02.Example.dom.γ (C02.FB.ctx bwd backward refined) p Init where
  top_sound := fun _ => rfl
  isBottom_sound := by intro a σ h1 h2; cases a <;> simp_all [C02.FB.ctx, C02.FB.ops, C02.Example.dom]
  meet_sound := by
    intro a b σ h1 h2
    simp_all [C02.FB.ctx, C02.FB.ops, C02.Example.dom]
  asm_cover := by intro b a σ hb; cases hb
  fwd_cover := by
    intro T hT b σ he
    show (T b).getD true = true
    cases hb : T b with
    | none => rfl
    | some a => exact hT b a σ hb he
  bwd_sound := fun T _ n σ hc => h _ _ n σ hc

theorem C02.FB.geti_seti (σ : State) (x : Nat) (v : Int) :
    (σ.seti x v).geti x = v ∨ (σ.seti x v).geti x = 0 := by
  unfold State.geti State.seti
  simp only [Array.getD_eq_getD_getElem?, Array.getElem?_setIfInBounds_self]
  by_cases h : x < σ.iv.size
  · left; simp [h]
  · right; simp [h]

/-! ### the two-block program -/

def C02.FB.twoBlock : Program :=
  ⟨1, 0, 0, 1, #[⟨[.assign 0 ⟨1, []⟩], [1]⟩, ⟨[.assert ⟨.le, ⟨-5, [(1, 0)]⟩⟩], []⟩]⟩

/-- backward table: no state at the entry of `B0` leads to a violation -/
def C02.FB.twoBlockBwd (_ : Nat → Bool) (b : Nat) : Bool := b != 0

theorem C02.FB.twoBlock_no_fail_from_entry (inv : Nat → State → Prop) (σ : State) :
    ¬ CoFail C02.FB.twoBlock inv 0 σ := by
  intro h
  cases h with
  | fail _ _ _ hf =>
    rcases (hf.stmts : StmtsFail [.assign 0 ⟨1, []⟩] σ) with ⟨_, h⟩ | ⟨_, _, _, h⟩
    · cases h
    · exact h
  | flow _ m _ σ' _ hs hm hc =>
    obtain ⟨_, σ1, h1, rfl⟩ : StmtsStep [.assign 0 ⟨1, []⟩] σ σ' := hs.stmts
    cases h1
    obtain rfl : m = 1 := List.mem_singleton.1 hm
    cases hc with
    | fail _ _ _ hf =>
      rcases (hf.stmts : StmtsFail [.assert ⟨.le, ⟨-5, [(1, 0)]⟩⟩] _) with ⟨_, h⟩ | ⟨_, _, _, h⟩
      · have := stepStmt_assert_fail h
        rcases C02.FB.geti_seti σ 0 1 with h1 | h1 <;> simp [Cst.holds, Lin.eval, h1] at this
      · exact h
    | flow _ m' _ _ _ _ hm' _ => exact nomatch hm'

theorem C02.FB.twoBlock_sound (Init : State → Prop) (refined : Bool) :
    FBSound C02.Example.dom.γ (C02.FB.ctx C02.FB.twoBlockBwd true refined) C02.FB.twoBlock Init :=
  C02.FB.sound _ Init _ true refined (fun inv _ n σ hc => by
    show (n != 0) = true
    cases n with
    | zero => exact absurd hc (C02.FB.twoBlock_no_fail_from_entry inv σ)
    | succ k => rfl)

/-- the run of the analyzer on it, evaluated once -/
theorem C02.FB.twoBlock_run :
    (runFB (C02.FB.ctx C02.FB.twoBlockBwd true false) C02.FB.twoBlock).proved = [(1, 0)] ∧
    (runFB (C02.FB.ctx C02.FB.twoBlockBwd true false) C02.FB.twoBlock).iters = 2 ∧
    (runFB (C02.FB.ctx C02.FB.twoBlockBwd true false) C02.FB.twoBlock).pre 1 = true := by decide

/-- the tree, the discharged assertion, the verdicts (forward only: `warning`) -/
example : idomTree (progGraph C02.FB.twoBlock) = [(0, [1])] := by decide
example : (runFB (C02.FB.ctx C02.FB.twoBlockBwd true false) C02.FB.twoBlock).proved = [(1, 0)] :=
  C02.FB.twoBlock_run.1
example : (runFB (C02.FB.ctx C02.FB.twoBlockBwd true false) C02.FB.twoBlock).iters = 2 :=
  C02.FB.twoBlock_run.2.1
example : checkBlockFB C02.Example.dom (fun _ a => a) C02.FB.twoBlock
    (runFB (C02.FB.ctx C02.FB.twoBlockBwd true false) C02.FB.twoBlock) 1 = [(0, .safe)] := by
  rw [checkBlockFB_of _ _ _ _ _ C02.FB.twoBlock_run.1 C02.FB.twoBlock_run.2.2]; decide
example : checkBlockFB C02.Example.dom (fun _ a => a) C02.FB.twoBlock
    (runFB (C02.FB.ctx C02.FB.twoBlockBwd false false) C02.FB.twoBlock) 1 = [(0, .warning)] := by decide

/-- `C02.fwdbwd_checker_sound` applies to it with every hypothesis proved: the discharged
    assertion is violated by no execution, whatever the initial state -/
theorem C02.FB.twoBlock_assert_never_fails (n : Nat) (σ0 : State) (ch : List Int) (σ' : State) (ok : Bool)
    (hev : Event.check 1 0 σ' ok ∈ IR.run C02.FB.twoBlock n σ0 ch) : ok = true :=
  C02.fwdbwd_checker_sound C02.Example.dom (fun _ a => a) C02.Example.tr_sound
    (C02.FB.ctx C02.FB.twoBlockBwd true false) C02.FB.twoBlock (fun _ => True)
    (C02.FB.twoBlock_sound _ false) rfl n σ0 ch trivial 1 0 σ' ok .safe hev
    (by rw [checkBlockFB_of _ _ _ _ _ C02.FB.twoBlock_run.1 C02.FB.twoBlock_run.2.2]; decide) rfl

/-- and the assertion is executed: the statement is not vacuous -/
example : Event.check 1 0 ⟨#[1], #[]⟩ true ∈ IR.run C02.FB.twoBlock 2 ⟨#[7], #[]⟩ [] := by decide

/-! ### the diamond: only one branch is discharged -/

def C02.FB.ne3 : Cst := ⟨.ne, ⟨-3, [(1, 0)]⟩⟩

def C02.FB.diamond : Program :=
  ⟨1, 0, 0, 5, #[⟨[.havoc 0], [1, 2]⟩, ⟨[.assume C02.FB.ne3], [3]⟩, ⟨[], [4]⟩,
                 ⟨[.assert C02.FB.ne3], [5]⟩, ⟨[.assert C02.FB.ne3], [5]⟩, ⟨[], []⟩]⟩

/-- backward table: bottom at `B1` (after `assume(x != 3)` the assertion of `B3` holds) and at the
    exit block, top elsewhere (the two-point domain cannot say `x = 3`) -/
def C02.FB.diamondBwd (_ : Nat → Bool) (b : Nat) : Bool := !(b == 1 || b == 5)

theorem C02.FB.diamond_no_fail_from_exit (inv : Nat → State → Prop) (σ : State) :
    ¬ CoFail C02.FB.diamond inv 5 σ := by
  intro h
  cases h with
  | fail _ _ _ hf => exact (hf.stmts : StmtsFail [] σ)
  | flow _ m _ σ' _ _ hm _ => exact nomatch hm

theorem C02.FB.diamond_no_fail_from_B1 (inv : Nat → State → Prop) (σ : State) :
    ¬ CoFail C02.FB.diamond inv 1 σ := by
  intro h
  cases h with
  | fail _ _ _ hf =>
    rcases (hf.stmts : StmtsFail [.assume C02.FB.ne3] σ) with ⟨_, h⟩ | ⟨_, _, _, h⟩
    · exact stepStmt_assume_ne_fail h
    · exact h
  | flow _ m _ σ' _ hs hm hc =>
    obtain rfl : m = 3 := List.mem_singleton.1 hm
    cases hc with
    | fail _ _ _ hf => exact assume_then_assert C02.FB.ne3 hs.stmts hf.stmts
    | flow _ m' _ σ'' _ _ hm' hc' =>
      obtain rfl : m' = 5 := List.mem_singleton.1 hm'
      exact C02.FB.diamond_no_fail_from_exit inv σ'' hc'

theorem C02.FB.diamond_sound (Init : State → Prop) (refined : Bool) :
    FBSound C02.Example.dom.γ (C02.FB.ctx C02.FB.diamondBwd true refined) C02.FB.diamond Init :=
  C02.FB.sound _ Init _ true refined (fun inv _ n σ hc => by
    show (!(n == 1 || n == 5)) = true
    by_cases h1 : n = 1
    · subst h1; exact absurd hc (C02.FB.diamond_no_fail_from_B1 inv σ)
    · by_cases h5 : n = 5
      · subst h5; exact absurd hc (C02.FB.diamond_no_fail_from_exit inv σ)
      · simp [h1, h5])

/-- the run of the analyzer on it, evaluated once -/
theorem C02.FB.diamond_run :
    (runFB (C02.FB.ctx C02.FB.diamondBwd true false) C02.FB.diamond).proved = [(3, 0)] ∧
    (runFB (C02.FB.ctx C02.FB.diamondBwd true false) C02.FB.diamond).pre 3 = true ∧
    (runFB (C02.FB.ctx C02.FB.diamondBwd true false) C02.FB.diamond).pre 4 = true := by decide

example : idomTree (progGraph C02.FB.diamond) = [(0, [1, 2, 5]), (1, [3]), (2, [4])] := by decide
/-- only the assertion of `B3` is discharged -/
example : (runFB (C02.FB.ctx C02.FB.diamondBwd true false) C02.FB.diamond).proved = [(3, 0)] :=
  C02.FB.diamond_run.1
example : (gatherAsserts C02.FB.diamond) = [(3, 0), (4, 0)] := by decide
example : [3, 4].map (checkBlockFB C02.Example.dom (fun _ a => a) C02.FB.diamond
    (runFB (C02.FB.ctx C02.FB.diamondBwd true false) C02.FB.diamond)) =
    [[(0, .safe)], [(0, .warning)]] := by
  rw [List.map_cons, List.map_cons, List.map_nil,
    checkBlockFB_of _ _ _ _ 3 C02.FB.diamond_run.1 C02.FB.diamond_run.2.1,
    checkBlockFB_of _ _ _ _ 4 C02.FB.diamond_run.1 C02.FB.diamond_run.2.2]
  decide
/-- the assertion of the other branch can fail: not discharging it is right -/
example : Event.check 4 0 ⟨#[3], #[]⟩ false ∈ IR.run C02.FB.diamond 4 ⟨#[0], #[]⟩ [3, 1] := by decide
/-- the discharged one is executed (and passes) -/
example : Event.check 3 0 ⟨#[4], #[]⟩ true ∈ IR.run C02.FB.diamond 4 ⟨#[0], #[]⟩ [4, 0] := by decide

theorem C02.FB.diamond_B3_assert_never_fails (n : Nat) (σ0 : State) (ch : List Int) (σ' : State) (ok : Bool)
    (hev : Event.check 3 0 σ' ok ∈ IR.run C02.FB.diamond n σ0 ch) : ok = true :=
  C02.fwdbwd_checker_sound C02.Example.dom (fun _ a => a) C02.Example.tr_sound
    (C02.FB.ctx C02.FB.diamondBwd true false) C02.FB.diamond (fun _ => True)
    (C02.FB.diamond_sound _ false) rfl n σ0 ch trivial 3 0 σ' ok .safe hev
    (by rw [checkBlockFB_of _ _ _ _ _ C02.FB.diamond_run.1 C02.FB.diamond_run.2.1]; decide) rfl

/-! ### the code discharges LESS than the argument allows: the bottom block itself

`B0: havoc x; assume(x != 3); assert(x != 3); goto B1`  `B1:`.  The entry of `B0` is bottom, the
tree is `B0 → B1`, the assertion sits in `B0` itself: not discharged.  Real analyzer (intervals):
`(chk (B0 2 warning))`.  Without `B1` (one block, empty tree, rule of the entry block) it is
discharged; real analyzer: `(chk (B0 2 safe))`, also with a self-loop on `B0`. -/

def C02.FB.sameBlock (succs0 : List Nat) (blocks1 : List Block) : Program :=
  ⟨1, 0, 0, 0, (⟨[.havoc 0, .assume C02.FB.ne3, .assert C02.FB.ne3], succs0⟩ :: blocks1).toArray⟩

example : (runFB (C02.FB.ctx (fun _ _ => false) true false) (C02.FB.sameBlock [1] [⟨[], []⟩])).proved = [] := by
  decide
example : checkBlockFB C02.Example.dom (fun _ a => a) (C02.FB.sameBlock [1] [⟨[], []⟩])
    (runFB (C02.FB.ctx (fun _ _ => false) true false) (C02.FB.sameBlock [1] [⟨[], []⟩])) 0 =
    [(2, .warning)] := by decide
example : idomTree (progGraph (C02.FB.sameBlock [] [])) = [] := by decide
example : (runFB (C02.FB.ctx (fun _ _ => false) true false) (C02.FB.sameBlock [] [])).proved = [(0, 2)] := by
  decide
example : (runFB (C02.FB.ctx (fun _ _ => false) true false) (C02.FB.sameBlock [0] [])).proved = [(0, 2)] := by
  decide

/-! ### `use_refined_invariants = true`: a reached assertion is reported `unreachable` -/

def C02.FB.refProg : Program :=
  ⟨1, 0, 0, 1, #[⟨[.assign 0 ⟨1, []⟩, .assert ⟨.le, ⟨-5, [(1, 0)]⟩⟩], [1]⟩, ⟨[], []⟩]⟩

/-- no state, at any block, leads to a violation: the backward table is bottom everywhere -/
theorem C02.FB.refProg_never_fails (inv : Nat → State → Prop) (n : Nat) (σ : State) :
    ¬ CoFail C02.FB.refProg inv n σ := by
  intro h
  induction h with
  | flow _ _ _ _ _ _ _ _ ih => exact ih
  | fail b σ _ hf =>
    match b with
    | 0 =>
      rcases (hf.stmts : StmtsFail [.assign 0 ⟨1, []⟩, .assert ⟨.le, ⟨-5, [(1, 0)]⟩⟩] σ) with
        ⟨_, h⟩ | ⟨_, σ1, h1, ⟨_, h⟩ | ⟨_, _, _, h⟩⟩
      · cases h
      · cases h1
        have := stepStmt_assert_fail h
        rcases C02.FB.geti_seti σ 0 1 with h1 | h1 <;> simp [Cst.holds, Lin.eval, h1] at this
      · exact h
    | 1 => exact (hf.stmts : StmtsFail [] σ)
    | k + 2 => exact (hf.stmts : StmtsFail [] σ)

theorem C02.FB.refProg_sound (Init : State → Prop) :
    FBSound C02.Example.dom.γ (C02.FB.ctx (fun _ _ => false) true true) C02.FB.refProg Init :=
  C02.FB.sound _ Init _ true true
    (fun inv _ n σ hc => absurd hc (C02.FB.refProg_never_fails inv n σ))

/-- the model run: two iterations, nothing discharged (`B0` is bottom but the assertion is in
    `B0` itself), the refined "invariant" of `B0` is bottom, the checker says `unreachable` -/
theorem C02.FB.refProg_run :
    (runFB (C02.FB.ctx (fun _ _ => false) true true) C02.FB.refProg).proved = [] ∧
    (runFB (C02.FB.ctx (fun _ _ => false) true true) C02.FB.refProg).pre 0 = false := by decide

example : (runFB (C02.FB.ctx (fun _ _ => false) true true) C02.FB.refProg).proved = [] :=
  C02.FB.refProg_run.1
example : (runFB (C02.FB.ctx (fun _ _ => false) true true) C02.FB.refProg).pre 0 = false :=
  C02.FB.refProg_run.2
example : checkBlockFB C02.Example.dom (fun _ a => a) C02.FB.refProg
    (runFB (C02.FB.ctx (fun _ _ => false) true true) C02.FB.refProg) 0 = [(1, .unreachable)] := by
  rw [checkBlockFB_of _ _ _ _ _ C02.FB.refProg_run.1 C02.FB.refProg_run.2]; decide
/-- with the default `use_refined_invariants = false` the same run answers `warning` here (the
    two-point domain proves nothing forward) -/
example : checkBlockFB C02.Example.dom (fun _ a => a) C02.FB.refProg
    (runFB (C02.FB.ctx (fun _ _ => false) true false) C02.FB.refProg) 0 = [(1, .warning)] := by decide

/-- GENUINE FINDING (real code: see the header).  The statement "an assertion reported
    `unreachable` by the forward+backward analyzer + checker is never executed" is false when
    `use_refined_invariants` is set: every hypothesis holds on `refProg`, the assertion is executed
    by every run, and the verdict is `unreachable`. -/
theorem C02.fwdbwd_unreachable_counterexample : ¬ C02.fwdbwd_unreachable_sound_Statement := by
  intro hS
  exact hS Bool C02.Example.dom (fun _ a => a) (C02.FB.ctx (fun _ _ => false) true true)
    C02.FB.refProg (fun _ => True) C02.Example.tr_sound (C02.FB.refProg_sound _) rfl
    (fun _ _ _ _ _ _ _ => rfl) 2 ⟨#[0], #[]⟩ [] trivial 0 1 ⟨#[1], #[]⟩ true .unreachable
    (by decide)
    (by rw [checkBlockFB_of _ _ _ _ _ C02.FB.refProg_run.1 C02.FB.refProg_run.2]; decide) rfl

/-! ### `run(entry, ...)` with `entry ≠ m_cfg.entry()`: a failing assertion is reported `safe`

`B0: goto B1`  `B1: assume(x != 3); goto B2`  `B2: assert(x != 3)`, CFG entry `B0`, the analysis
is started at `B2` (`entry` argument of `run`) with every value of `x`.  The forward pass leaves
`B0`, `B1` at bottom, so does the backward pass refined with it; the tree rooted at `B0` says that
`B1` dominates `B2`; the assertion is discharged.  Real analyzer (h_prog.cpp with the `entry`
argument of `a.run` replaced by `"B2"`, intervals) on
`(prog.fwdbwd any (params 1 1 0 0) (ivars v0) (bvars) (entry B0) (exit B2) (init) (blocks (B0 (stmts) (succs B1)) (B1 (stmts (assume (ne (lin -3 (1 v0))))) (succs B2)) (B2 (stmts (assert (ne (lin -3 (1 v0))))) (succs))))`
answers `(B2 (pre 0 1 (iv (iv -oo +oo)) ...` (every state is analysed at `B2`) and `(chk (B2 0 safe))`. -/

/-- the program seen from the block where the executions start (`entry := 2`) -/
def C02.FB.entryProg : Program :=
  ⟨1, 0, 2, 2, #[⟨[], [1]⟩, ⟨[.assume C02.FB.ne3], [2]⟩, ⟨[.assert C02.FB.ne3], []⟩]⟩

/-- backward table: only from the entry of `B2` can a violation be reached -/
def C02.FB.entryBwd (_ : Nat → Bool) (b : Nat) : Bool := b == 2

theorem C02.FB.entryProg_no_fail_from_B1 (inv : Nat → State → Prop) (σ : State) :
    ¬ CoFail C02.FB.entryProg inv 1 σ := by
  intro h
  cases h with
  | fail _ _ _ hf =>
    rcases (hf.stmts : StmtsFail [.assume C02.FB.ne3] σ) with ⟨_, h⟩ | ⟨_, _, _, h⟩
    · exact stepStmt_assume_ne_fail h
    · exact h
  | flow _ m _ σ' _ hs hm hc =>
    obtain rfl : m = 2 := List.mem_singleton.1 hm
    cases hc with
    | fail _ _ _ hf => exact assume_then_assert C02.FB.ne3 hs.stmts hf.stmts
    | flow _ m' _ σ'' _ _ hm' _ => exact nomatch hm'

theorem C02.FB.entryProg_fail_only_from_B2 (inv : Nat → State → Prop) (n : Nat) (σ : State)
    (h : CoFail C02.FB.entryProg inv n σ) : n = 2 := by
  match n, h with
  | 2, _ => rfl
  | 1, h => exact absurd h (C02.FB.entryProg_no_fail_from_B1 inv σ)
  | 0, h =>
    cases h with
    | fail _ _ _ hf => exact (hf.stmts : StmtsFail [] σ).elim
    | flow _ m _ σ' _ _ hm hc =>
      obtain rfl : m = 1 := List.mem_singleton.1 hm
      exact absurd hc (C02.FB.entryProg_no_fail_from_B1 inv σ')
  | k + 3, h =>
    cases h with
    | fail _ _ _ hf => exact (hf.stmts : StmtsFail [] σ).elim
    | flow _ m _ σ' _ _ hm _ => exact nomatch hm

/-- every hypothesis of the contract holds (it does not depend on where the tree is rooted) -/
theorem C02.FB.entryProg_sound (Init : State → Prop) :
    FBSound C02.Example.dom.γ (C02.FB.ctx C02.FB.entryBwd true false) C02.FB.entryProg Init :=
  C02.FB.sound _ Init _ true false (fun inv _ n σ hc => by
    show (n == 2) = true
    rw [C02.FB.entryProg_fail_only_from_B2 inv n σ hc]; rfl)

/-- the hypothesis of the theorems fails, the tree is rooted at `B0`, the assertion is discharged -/
example : (C02.FB.ctx C02.FB.entryBwd true false).cfgEntry ≠ C02.FB.entryProg.entry := by decide
example : idomTree (cfgGraph C02.FB.entryProg 0) = [(0, [1]), (1, [2])] := by decide
theorem C02.FB.entryProg_run :
    (runFB (C02.FB.ctx C02.FB.entryBwd true false) C02.FB.entryProg).proved = [(2, 0)] ∧
    (runFB (C02.FB.ctx C02.FB.entryBwd true false) C02.FB.entryProg).pre 2 = true := by decide

example : (runFB (C02.FB.ctx C02.FB.entryBwd true false) C02.FB.entryProg).proved = [(2, 0)] :=
  C02.FB.entryProg_run.1

/-- GENUINE FINDING (real code: see above).  `x = 3` is an analysed initial state at `B2`, the
    assertion fails on it, the verdict is `safe`. -/
theorem C02.fwdbwd_checker_sound_counterexample : ¬ C02.fwdbwd_checker_sound_Statement := by
  intro hS
  have := hS Bool C02.Example.dom (fun _ a => a) (C02.FB.ctx C02.FB.entryBwd true false)
    C02.FB.entryProg (fun _ => True) C02.Example.tr_sound (C02.FB.entryProg_sound _)
    1 ⟨#[3], #[]⟩ [] trivial 2 0 ⟨#[3], #[]⟩ false .safe (by decide)
    (by rw [checkBlockFB_of _ _ _ _ _ C02.FB.entryProg_run.1 C02.FB.entryProg_run.2]; decide) rfl
  cases this
