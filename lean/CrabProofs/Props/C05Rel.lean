import CrabProofs.Props.C05Chain
import CrabProofs.Lemmas.RelDomEngine

/-!
# C05 for the relational engines of `Props/C01Rel.lean`

`Props/C05Zones.lean` proves the chain condition of the zones widening w.r.t. the inclusion test
AS CODED (`leqE`, which ignores the diagonal and is only sound on graphs without self loops).  The
engine instances of `C01Rel` use the EXACT inclusion test of the canonical model (`ZVal.leq`,
sound on every matrix) together with the same widening of the code; here the chain condition is
proved for that pair of operations — a strict step still drops an edge of the unclosed left
operand (one that the right operand does not cover, or a self loop) — and for the octagon
operations (`OVal.leq`, textbook widening `OVal.widen`).
-/
open Crab Crab.Fix Crab.Dbm

section Zones
open Crab.Zones
variable {n : Nat}

/-- a strict step w.r.t. the exact inclusion test lowers (bottom flag, number of edges) -/
theorem C05.zones_rel_widen_measure (ew : Zone n → Fin (n + 1) → Fin (n + 1) → W) (hew : SoundEw ew)
    (x y : ZVal n) (h : ZVal.leq y x = false) :
    Prod.Lex (· < ·) (· < ·) (zmeas (widenE ew x y)) (zmeas x) := zmeas_widenE_lt_canon hew x y h

theorem C05.zones_rel_strictStep_wf (ew : Zone n → Fin (n + 1) → Fin (n + 1) → W) (hew : SoundEw ew) :
    WellFounded (C05.StrictStep ZVal.leq (widenE ew)) :=
  C05.strictStep_wf_of_measure ZVal.leq (widenE ew) _ (Prod.lex Nat.lt_wfRel Nat.lt_wfRel).wf zmeas
    (fun x y h => C05.zones_rel_widen_measure ew hew x y h)

theorem C05.zones_rel_widenStep_wf (ew : Zone n → Fin (n + 1) → Fin (n + 1) → W) (hew : SoundEw ew)
    (c : Ctx (ZVal n)) (hleq : c.ops.leq = ZVal.leq) (hw : c.ops.widen = widenE ew) :
    WellFounded (WidenStep c) := by
  rw [C05.widenStep_eq, hleq, hw]
  exact C05.zones_rel_strictStep_wf ew hew

/-- every analysis run over the exact inclusion test and the widening of the code terminates -/
theorem C05.zones_rel_run_terminates (ew : Zone n → Fin (n + 1) → Fin (n + 1) → W) (hew : SoundEw ew)
    (c : Ctx (ZVal n)) (hleq : c.ops.leq = ZVal.leq) (hw : c.ops.widen = widenE ew) (w : List Comp) :
    ∃ fuel st, run c fuel w = some st :=
  C05.run_terminates c w (C05.zones_rel_widenStep_wf ew hew c hleq hw)

/-- along `x₀ = l₀`, `xₖ₊₁ = xₖ ∇ yₖ` a covered `yₖ` occurs within `edges l₀ ≤ (n+1)²` steps -/
theorem C05.zones_rel_chain_first_stationary (ew : Zone n → Fin (n + 1) → Fin (n + 1) → W)
    (hew : SoundEw ew) (l0 : Zone n) (xs ys : Nat → ZVal n) (h0 : xs 0 = some l0)
    (hstep : ∀ k, xs (k + 1) = widenE ew (xs k) (ys k)) :
    ∃ k, k ≤ edges l0 ∧ k ≤ (n + 1) * (n + 1) ∧ ZVal.leq (ys k) (xs k) = true := by
  have key := chain_first_stationary_on (A := ZVal n) (B := ZVal n) (fun x => x.isSome = true)
    ZVal.leq (widenE ew) (fun x => (zmeas x).2)
    (fun x y hx => match x, y, hx with
      | some _, none, _ => rfl
      | some _, some _, _ => rfl)
    (fun x y hx h => match x, y, hx, h with
      | some _, some _, _, h => edges_widenBy_lt_canon hew h)
    xs ys (by rw [h0]; rfl) hstep
  obtain ⟨k, hk, hl⟩ := key
  rw [h0] at hk
  exact ⟨k, hk, Nat.le_trans hk (edges_le l0), hl⟩

end Zones

section Octagons
open Crab.Octagon
variable {n : Nat}

/-- a strict step of the octagon widening drops an entry of the unclosed left operand -/
theorem C05.oct_widen_measure (x y : OVal n) (h : OVal.leq y x = false) :
    Prod.Lex (· < ·) (· < ·) (omeas (OVal.widen x y)) (omeas x) := omeas_widen_lt x y h

theorem C05.oct_strictStep_wf : WellFounded (C05.StrictStep (OVal.leq (n := n)) OVal.widen) :=
  C05.strictStep_wf_of_measure OVal.leq OVal.widen _ (Prod.lex Nat.lt_wfRel Nat.lt_wfRel).wf omeas
    (fun x y h => C05.oct_widen_measure x y h)

theorem C05.oct_widenStep_wf (c : Ctx (OVal n)) (hleq : c.ops.leq = OVal.leq) (hw : c.ops.widen = OVal.widen) :
    WellFounded (WidenStep c) := by
  rw [C05.widenStep_eq, hleq, hw]
  exact C05.oct_strictStep_wf

theorem C05.oct_run_terminates (c : Ctx (OVal n)) (hleq : c.ops.leq = OVal.leq)
    (hw : c.ops.widen = OVal.widen) (w : List Comp) : ∃ fuel st, run c fuel w = some st :=
  C05.run_terminates c w (C05.oct_widenStep_wf c hleq hw)

/-- a covered `yₖ` occurs within `edges l₀ ≤ (2n)²` steps -/
theorem C05.oct_chain_first_stationary (l0 : Oct n) (xs ys : Nat → OVal n) (h0 : xs 0 = some l0)
    (hstep : ∀ k, xs (k + 1) = OVal.widen (xs k) (ys k)) :
    ∃ k, k ≤ Zones.edges l0 ∧ k ≤ (2 * n) * (2 * n) ∧ OVal.leq (ys k) (xs k) = true := by
  have key := chain_first_stationary_on (A := OVal n) (B := OVal n) (fun x => x.isSome = true)
    OVal.leq OVal.widen (fun x => (omeas x).2)
    (fun x y hx => match x, y, hx with
      | some _, none, _ => rfl
      | some _, some _, _ => by simp only [OVal.widen]; split <;> rfl)
    (fun x y hx h => match x, y, hx, h with
      | some _, some _, _, h => by
        obtain ⟨e, hlt⟩ := widen_some_lt h
        rw [e]; exact hlt)
    xs ys (by rw [h0]; rfl) hstep
  obtain ⟨k, hk, hl⟩ := key
  rw [h0] at hk
  exact ⟨k, hk, Nat.le_trans hk (Zones.edges_le l0), hl⟩

/-- non-vacuity: a strict step on concrete octagons: `x ≤ 3` is not covered by `x ≤ 4` and is
    dropped (with its coherent twin it is one entry: 3 finite entries become 2) -/
example :
    let a : OVal 2 := OVal.exec (.assume [.ub 0 3, .sum 0 1 4]) OVal.top
    let b : OVal 2 := OVal.exec (.assume [.ub 0 4, .sum 0 1 4]) OVal.top
    OVal.leq b a = false ∧ omeas a = (0, 3) ∧ omeas (OVal.widen a b) = (0, 2) ∧
    OVal.leq b (OVal.widen a b) = true := by decide +kernel

end Octagons
