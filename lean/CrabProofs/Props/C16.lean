import CrabModel.Dom.History

/-!
# C16 — abstract values have value semantics and a representation-independent meaning

Reference semantics the implementation is compared with: in the functional model of a pool of
values an operation writes exactly one slot; every other slot — in particular every earlier
copy of the written value — is untouched, after any history.
-/
open Crab Crab.Dom

def C16.target {A S : Type} : Step A S → Nat
  | .trans d _ => d | .upper d _ _ _ => d | .lower d _ _ _ => d | .copy d _ => d | .setBot d _ => d

/-- one step leaves every other slot unchanged -/
theorem C16.step_frame {A S : Type} (st : Step A S) (p : Pool A) (i : Nat) (h : i ≠ C16.target st) :
    (st.run p) i = p i := by
  cases st <;> simp_all [Step.run, Pool.set, C16.target]

/-- after copying slot `s` into `d`, any history that never writes `d` leaves the copy equal to
    the value `s` had at the time of the copy, whatever happens to `s` afterwards -/
theorem C16.copy_independent {A S : Type} (p : Pool A) (d s : Nat) (hist : List (Step A S))
    (hd : ∀ st ∈ hist, C16.target st ≠ d) :
    (runHist ((Step.copy d s : Step A S).run p) hist) d = p s := by
  have key : (runHist ((Step.copy d s : Step A S).run p) hist) d = (Step.copy d s : Step A S).run p d :=
    List.foldlRecOn hist Step.run (motive := fun q => q d = (Step.copy d s : Step A S).run p d) rfl
      fun q h st hst => (C16.step_frame st q d fun e => hd st hst e.symm).trans h
  rw [key]
  simp [Step.run, Pool.set]

/-- queries and normalisation are transformers with the identity relation: a transformer whose
    abstract function preserves the concretisation does not change what the value describes -/
theorem C16.normalize_preserves_meaning {A S : Type} (γ : A → S → Prop) (norm : A → A)
    (h : ∀ a s, γ (norm a) s ↔ γ a s) (p : Pool A) (d : Nat) (s : S) :
    γ (((Step.trans d ⟨norm, fun x y => y = x⟩ : Step A S).run p) d) s ↔ γ (p d) s := by
  simp [Step.run, Pool.set, h]
