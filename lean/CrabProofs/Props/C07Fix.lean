import CrabProofs.Lemmas.WtoFixBridge
import CrabProofs.Props.C07

/-!
# C07 (bridge) — an ordering accepted by `checkWto` is well-formed for the fixpoint iterator

`Crab.Fix.WtoWF c w` (CrabModel/Fix/Semantics.lean) is the hypothesis of the iterator soundness
theorem `C01.run_sound`.  It holds for the translation `toCompL w` of every ordering accepted by
the checker, for every iterator context `c` whose predecessor lists only contain edges of the
graph, whose start block is the entry and whose nesting table is the checked one.
-/
open Crab Crab.Wto

theorem C07.wtowf_implies_fix_wtowf {A : Type} (g : Graph) (e : Nat) (w : List WtoC)
    (nest : Nat → Option (List Nat)) (h : WtoWF g e w nest) (c : Fix.Ctx A)
    (hpreds : ∀ p n, p ∈ c.preds n → n ∈ g.succ p) (hentry : c.entry = e)
    (hnest : c.nesting = nest) : Fix.WtoWF c (toCompL w) :=
  fix_wtowf_of_wtowf h c hpreds hentry hnest

theorem C07.checkWto_implies_fix_wtowf {A : Type} (g : Graph) (e : Nat) (w : List WtoC)
    (tbl : List (Nat × List Nat)) (h : checkWto g e w tbl = true) (c : Fix.Ctx A)
    (hpreds : ∀ p n, p ∈ c.preds n → n ∈ g.succ p) (hentry : c.entry = e)
    (hnest : c.nesting = fun v => tbl.lookup v) : Fix.WtoWF c (toCompL w) :=
  fix_wtowf_of_wtowf (Wto.checkWto_sound h) c hpreds hentry hnest

/-- the checker's hypothesis is satisfiable: a 3-node graph with a self loop and an ordering of it -/
example : checkWto
    { n := 3, succ := fun u => match u with | 0 => [1] | 1 => [1, 2] | _ => [] } 0
    [.vertex 0, .cycle 1 [], .vertex 2] [(0, []), (1, []), (2, [])] = true := by decide

/-- with `C07.build_wf`: the ordering the model builds is well-formed for the fixpoint iterator,
    for every graph, with no check left -/
theorem C07.build_fix_wtowf {A : Type} (g : Graph) (hg : g.WF) (e : Nat) (he : e < g.n) (c : Fix.Ctx A)
    (hpreds : ∀ p n, p ∈ c.preds n → n ∈ g.succ p) (hentry : c.entry = e)
    (hnest : c.nesting = nesting (build g e)) : Fix.WtoWF c (toCompL (build g e)) :=
  fix_wtowf_of_wtowf (C07.build_wf g hg e he) c hpreds hentry hnest
