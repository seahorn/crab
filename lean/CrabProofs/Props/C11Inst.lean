import CrabProofs.Props.C11
import CrabProofs.Lemmas.BwdInstItv
import CrabProofs.Lemmas.BwdInstXDom
import CrabProofs.Lemmas.BwdInstRel

/-!
# C11 instantiated on the exact domain models

`Props/C11.lean` proves the necessary-precondition analysis sound for EVERY domain record that
satisfies the per-operation contract `BDomSound`.  Here the contract is DISCHARGED for the exact
executable models of the shipped domains, and the generic theorems are instantiated:

| instance | record | `backward_assign` / `backward_apply` modelled | real code |
|---|---|---|---|
| intervals | `ItvB.dom` over `IDom.SEnv` | `BackwardAssignOps` over the model's own `+=`, `-=`, `apply`, `rename`, `&` | `interval_domain::backward_assign/backward_apply` (intervals.hpp) → `BackwardAssignOps<interval_domain_t>::assign/apply` (backward_assign_operations.hpp, incl. the `OP_SDIV` branch of commit ac800bc) |
| constants | `constDom` over `CDom.SEnv` | `-= x`, `& inv` | `constant_domain::backward_assign/backward_apply` (commit ced0dcf) |
| signs | `signDom` over `SDom.SEnv` | `-= x`, `& inv` | `sign_domain::backward_assign/backward_apply` (commit ced0dcf) |
| congruences | `withGenBwd congFwd rename bound` | `BackwardAssignOps`, CONDITIONAL on the contracts of `rename` / fresh variable | `congruence_domain::backward_assign/backward_apply` |
| zones | `RB.dom (zoneLang n)` over `Zones.ZVal n` | `BackwardAssignOps` recipe over the CANONICAL model (not split_dbm's operations) | — (recipe of `split_dbm_domain::backward_*`) |
| octagons | `RB.dom (octLang n)` over `Octagon.OVal n` | same, canonical octagon model | — (recipe of `split_oct_domain::backward_*`) |

For each of intervals, constants, signs, zones, octagons: `*_backward_assign_sound`,
`*_backward_apply_sound` (every `BinOp`, variable or constant operand), `*_bwd_stmt_sound`,
`*_bwd_stmt_fail_sound`, `*_bwd_run_sound`, `*_bwd_precondition_sound`; for intervals also
`idom_bwd_block_sound`, `idom_bwd_block_fail_sound`, `idom_empty_entry_precondition_safe` (the other
domains get them from `C11.bwd_block_sound` … with their `*_contract` in the same way).  Computed
non-trivial preconditions are in `C11InstEx.lean`.
-/
open Crab Crab.Bwd Crab.Fix

/-! ### the generic theorems with the `Setup` unfolded -/

/-- the analysis problem of a domain record that satisfies the contract -/
def C11.mkSetup {A : Type} (D : BDom A) (γ : A → State → Prop) (hD : BDomSound D γ) (p : Prog)
    (good : Bool) (invAbs : Nat → A) (fin : A) (nesting : Nat → Option (List Nat))
    (delay descending : Nat) : Setup A :=
  { D := D, γ := γ, sound := hD, p := p, good := good, invAbs := invAbs, fin := fin,
    nesting := nesting, delay := delay, descending := descending }

/-- `C11.bwd_run_sound` stated on the fixpoint problem `bwdCtx D p ...` itself -/
theorem C11.inst_bwd_run_sound {A : Type} (D : BDom A) (γ : A → State → Prop) (hD : BDomSound D γ)
    (p : Prog) (good : Bool) (invAbs : Nat → A) (fin : A) (nesting : Nat → Option (List Nat))
    (delay descending : Nat) (w : List Comp) (fuel : Nat) (st : St A)
    (hw : WtoWF (bwdCtx D p good invAbs fin nesting delay descending) w)
    (hrun : run (bwdCtx D p good invAbs fin nesting delay descending) fuel w = some st)
    (n : Nat) (σ : State) (hn : ReachesExit p n)
    (h : CoReach p (fun m τ => γ (invAbs m) τ) (!good) (γ fin) n σ) : γ (st.post n) σ :=
  C11.bwd_run_sound (C11.mkSetup D γ hD p good invAbs fin nesting delay descending) w fuel st hw hrun
    n σ hn h

/-- `C11.bwd_precondition_sound` stated on `bwdCtx D p ...` -/
theorem C11.inst_bwd_precondition_sound {A : Type} (D : BDom A) (γ : A → State → Prop)
    (hD : BDomSound D γ) (p : Prog) (good : Bool) (invAbs : Nat → A) (fin : A)
    (nesting : Nat → Option (List Nat)) (delay descending : Nat) (w : List Comp) (fuel : Nat)
    (st : St A) (hw : WtoWF (bwdCtx D p good invAbs fin nesting delay descending) w)
    (hrun : run (bwdCtx D p good invAbs fin nesting delay descending) fuel w = some st)
    (n : Nat) (σ : State)
    (h : CoReach p (fun m τ => γ (invAbs m) τ) (!good) (γ fin) n σ) : γ (preAt D p st.post n) σ :=
  C11.bwd_precondition_sound (C11.mkSetup D γ hD p good invAbs fin nesting delay descending) w fuel st
    hw hrun n σ h

/-- `C11.empty_entry_precondition_safe` stated on `bwdCtx D p ...` -/
theorem C11.inst_empty_entry_precondition_safe {A : Type} (D : BDom A) (γ : A → State → Prop)
    (hD : BDomSound D γ) (p : Prog) (good : Bool) (invAbs : Nat → A) (fin : A)
    (nesting : Nat → Option (List Nat)) (delay descending : Nat) (w : List Comp) (fuel : Nat)
    (st : St A) (hw : WtoWF (bwdCtx D p good invAbs fin nesting delay descending) w)
    (hrun : run (bwdCtx D p good invAbs fin nesting delay descending) fuel w = some st)
    (hbot : D.isBottom (preAt D p st.post p.entry) = true) (σ : State) :
    ¬ CoReach p (fun m τ => γ (invAbs m) τ) (!good) (γ fin) p.entry σ :=
  C11.empty_entry_precondition_safe (C11.mkSetup D γ hD p good invAbs fin nesting delay descending)
    w fuel st hw hrun hbot σ

/-! ### `interval_domain` -/

/-- what the two backward operations of the interval record are: `BackwardAssignOps` over the
    forward operations of the exact model, with a fresh index above the statement and above
    every variable bound in `post` -/
theorem C11.idom_backward_ops_eq (x y : Var) (e : Lin) (op : BinOp) (z : Operand)
    (post inv : IDom.SEnv) :
    ItvB.dom.bwdAssign x e post inv =
      genBwdAssign ItvB.fwd ItvB.rename (freshFor (ItvB.bound post) (x :: e.vars)) x e post inv ∧
    ItvB.dom.bwdApply op x y z post inv =
      genBwdApply ItvB.fwd ItvB.rename (freshFor (ItvB.bound post) (x :: y :: z.vars)) op x y z post inv :=
  ⟨rfl, rfl⟩

/-- the forward fields are single calls of the exact model `IDom.Env` -/
theorem C11.idom_forward_ops_eq (x y w : Var) (k : Int) (e e1 e2 : Lin) (c : Bwd.Cst) (op : BinOp)
    (a b : IDom.SEnv) :
    (ItvB.dom.assume c a).1 = a.1.add [c.toLin] ∧
    (ItvB.dom.forget x a).1 = a.1.forget x ∧
    (ItvB.dom.assign x e a).1 = a.1.assign x e.toExpr ∧
    (ItvB.dom.apply op x y (.var w) a).1 = a.1.applyVar (itvOp op) x y w ∧
    (ItvB.dom.apply op x y (.const k) a).1 = a.1.applyCst (itvOp op) x y k ∧
    (ItvB.dom.select x c e1 e2 a).1 = a.1.select x c.toLin e1.toExpr e2.toExpr ∧
    (ItvB.dom.meet a b).1 = IDom.Env.meet a.1 b.1 ∧
    (ItvB.dom.join a b).1 = IDom.Env.join a.1 b.1 ∧
    (ItvB.rename y x a).1 = ItvB.rename1 a.1 y x ∧
    a.1.rename [y] [x] = some (ItvB.rename1 a.1 y x) :=
  ⟨rfl, rfl, rfl, rfl, rfl, rfl, rfl, rfl, rfl, ItvB.rename1_eq a.1 y x⟩

/-- the interval domain satisfies the whole per-operation contract of C11 -/
theorem C11.idom_contract : BDomSound ItvB.dom IDom.SEnv.γ := ItvB.dom_sound

/-- `interval_domain::backward_assign`: a state of the forward invariant whose successor by
    `x := e` is in `post` is in the result -/
theorem C11.idom_backward_assign_sound (x : Var) (e : Lin) (post inv : IDom.SEnv) (σ : State)
    (hinv : IDom.SEnv.γ inv σ) (hpost : IDom.SEnv.γ post (Bwd.upd σ x (e.eval σ))) :
    IDom.SEnv.γ (ItvB.dom.bwdAssign x e post inv) σ :=
  ItvB.dom_sound.bwdAssign_sound x e post inv σ hinv hpost

/-- the same for ANY fresh variable (not `x`, not in `e`, unconstrained by `post`): the choice of
    `vfac.get()` does not matter for soundness -/
theorem C11.idom_backward_assign_sound_any_fresh (fresh x : Var) (e : Lin) (post inv : IDom.SEnv)
    (σ : State) (hfx : fresh ≠ x) (hfe : fresh ∉ e.vars)
    (hfp : ∀ τ v, IDom.SEnv.γ post τ → IDom.SEnv.γ post (Bwd.upd τ fresh v))
    (hinv : IDom.SEnv.γ inv σ) (hpost : IDom.SEnv.γ post (Bwd.upd σ x (e.eval σ))) :
    IDom.SEnv.γ (genBwdAssign ItvB.fwd ItvB.rename fresh x e post inv) σ :=
  genBwdAssign_sound ItvB.fwd_sound ItvB.rename ItvB.rename_after_forget fresh x e post inv σ
    hfx hfe hfp hinv hpost

/-- `interval_domain::backward_apply`, every arithmetic operation of a `bin_op` statement
    (`+`, `-`, `*`, `/`), variable or constant right operand; in particular the division by a
    constant as repaired by commit ac800bc -/
theorem C11.idom_backward_apply_sound (op : BinOp) (x y : Var) (z : Operand) (post inv : IDom.SEnv)
    (σ : State) (v : Int) (hinv : IDom.SEnv.γ inv σ)
    (hv : binSem op (σ y) (z.eval σ) = some v) (hpost : IDom.SEnv.γ post (Bwd.upd σ x v)) :
    IDom.SEnv.γ (ItvB.dom.bwdApply op x y z post inv) σ :=
  ItvB.dom_sound.bwdApply_sound op x y z post inv σ v hinv hv hpost

/-- division by a constant, spelled out: every `y` with `y / k` in the postcondition of `x` -/
theorem C11.idom_backward_sdiv_const_sound (x y : Var) (k : Int) (hk : k ≠ 0) (post inv : IDom.SEnv)
    (σ : State) (hinv : IDom.SEnv.γ inv σ) (hpost : IDom.SEnv.γ post (Bwd.upd σ x ((σ y).tdiv k))) :
    IDom.SEnv.γ (ItvB.dom.bwdApply .sdiv x y (.const k) post inv) σ :=
  C11.idom_backward_apply_sound .sdiv x y (.const k) post inv σ _ hinv
    (by simp [binSem, Operand.eval, hk]) hpost

theorem C11.idom_bwd_stmt_sound (good : Bool) (s : Stmt) (post inv : IDom.SEnv) (σ σ' : State)
    (hinv : IDom.SEnv.γ inv σ) (hstep : StmtStep s σ σ') (hpost : IDom.SEnv.γ post σ') :
    IDom.SEnv.γ (bwdExec ItvB.dom good s post inv) σ :=
  C11.bwd_stmt_sound ItvB.dom_sound good s post inv σ σ' hinv hstep hpost

theorem C11.idom_bwd_stmt_fail_sound (s : Stmt) (post inv : IDom.SEnv) (σ : State)
    (hfail : StmtFails s σ) : IDom.SEnv.γ (bwdExec ItvB.dom false s post inv) σ :=
  C11.bwd_stmt_fail_sound ItvB.dom_sound s post inv σ hfail

theorem C11.idom_bwd_block_sound (good : Bool) (ss : List Stmt) (post inv : IDom.SEnv)
    (σ σ' : State) (hinv : IDom.SEnv.γ inv σ) (hrun : StmtsStep ss σ σ')
    (hpost : IDom.SEnv.γ post σ') : IDom.SEnv.γ (bwdStmts ItvB.dom good ss post inv) σ :=
  C11.bwd_block_sound ItvB.dom_sound good ss post inv σ σ' hinv hrun hpost

theorem C11.idom_bwd_block_fail_sound (ss : List Stmt) (post inv : IDom.SEnv) (σ : State)
    (hinv : IDom.SEnv.γ inv σ) (hfail : StmtsFail ss σ) :
    IDom.SEnv.γ (bwdStmts ItvB.dom false ss post inv) σ :=
  C11.bwd_block_fail_sound ItvB.dom_sound ss post inv σ hinv hfail

/-- C11 for the interval domain, whole run: every state at a block (that reaches the exit) from
    which some execution consistent with the supplied invariants fails an assertion (error mode)
    or ends in `fin` is in the stored precondition -/
theorem C11.idom_bwd_run_sound (p : Prog) (good : Bool) (invAbs : Nat → IDom.SEnv) (fin : IDom.SEnv)
    (nesting : Nat → Option (List Nat)) (delay descending : Nat) (w : List Comp) (fuel : Nat)
    (st : St IDom.SEnv)
    (hw : WtoWF (bwdCtx ItvB.dom p good invAbs fin nesting delay descending) w)
    (hrun : run (bwdCtx ItvB.dom p good invAbs fin nesting delay descending) fuel w = some st)
    (n : Nat) (σ : State) (hn : ReachesExit p n)
    (h : CoReach p (fun m τ => IDom.SEnv.γ (invAbs m) τ) (!good) (IDom.SEnv.γ fin) n σ) :
    IDom.SEnv.γ (st.post n) σ :=
  C11.inst_bwd_run_sound ItvB.dom _ ItvB.dom_sound p good invAbs fin nesting delay descending w fuel
    st hw hrun n σ hn h

/-- what `analyzer[n]` returns, every block -/
theorem C11.idom_bwd_precondition_sound (p : Prog) (good : Bool) (invAbs : Nat → IDom.SEnv)
    (fin : IDom.SEnv) (nesting : Nat → Option (List Nat)) (delay descending : Nat) (w : List Comp)
    (fuel : Nat) (st : St IDom.SEnv)
    (hw : WtoWF (bwdCtx ItvB.dom p good invAbs fin nesting delay descending) w)
    (hrun : run (bwdCtx ItvB.dom p good invAbs fin nesting delay descending) fuel w = some st)
    (n : Nat) (σ : State)
    (h : CoReach p (fun m τ => IDom.SEnv.γ (invAbs m) τ) (!good) (IDom.SEnv.γ fin) n σ) :
    IDom.SEnv.γ (preAt ItvB.dom p st.post n) σ :=
  C11.inst_bwd_precondition_sound ItvB.dom _ ItvB.dom_sound p good invAbs fin nesting delay
    descending w fuel st hw hrun n σ h

theorem C11.idom_empty_entry_precondition_safe (p : Prog) (good : Bool) (invAbs : Nat → IDom.SEnv)
    (fin : IDom.SEnv) (nesting : Nat → Option (List Nat)) (delay descending : Nat) (w : List Comp)
    (fuel : Nat) (st : St IDom.SEnv)
    (hw : WtoWF (bwdCtx ItvB.dom p good invAbs fin nesting delay descending) w)
    (hrun : run (bwdCtx ItvB.dom p good invAbs fin nesting delay descending) fuel w = some st)
    (hbot : (preAt ItvB.dom p st.post p.entry).1.isBottom = true) (σ : State) :
    ¬ CoReach p (fun m τ => IDom.SEnv.γ (invAbs m) τ) (!good) (IDom.SEnv.γ fin) p.entry σ :=
  C11.inst_empty_entry_precondition_safe ItvB.dom _ ItvB.dom_sound p good invAbs fin nesting delay
    descending w fuel st hw hrun hbot σ

/-! ### `constant_domain` -/

/-- the constant domain satisfies the whole per-operation contract of C11 -/
theorem C11.cst_contract : BDomSound constDom CDom.SEnv.γ := constDom_sound

/-- the backward operations of the record are "forget `x`, meet with the invariant" -/
theorem C11.cst_backward_ops_eq (x y : Var) (e : Lin) (op : BinOp) (z : Operand)
    (post inv : CDom.SEnv) :
    constDom.bwdAssign x e post inv = constDom.meet (constDom.forget x post) inv ∧
    constDom.bwdApply op x y z post inv = constDom.meet (constDom.forget x post) inv :=
  ⟨rfl, rfl⟩

/-- on the statements a real program can contain (variable indices fit `index_t`) the forward
    fields are single calls of the exact model `CDom.Env` (the top fallback of `XB.run` is not
    taken) -/
theorem C11.cst_forward_ops_eq (x y w : Var) (k : Int) (e : Lin) (c : Bwd.Cst) (op : BinOp)
    (a : CDom.SEnv) (hx : x < 2 ^ 64) (hc : ∀ v ∈ c.e.vars, v < 2 ^ 64) :
    (constDom.assume c a).1 = a.1.add [c.toLin] ∧
    (constDom.forget x a).1 = XDom.Env.forget CDom.cstLattice a.1 x ∧
    (constDom.assign x e a).1 = a.1.assign x e.toExpr ∧
    (constDom.apply op x y (.var w) a).1 = a.1.applyVar (xOp op) x y w ∧
    (constDom.apply op x y (.const k) a).1 = a.1.applyCst (xOp op) x y k := by
  have hcs : (XDom.Stmt.assume [c.toLin]).Ok := by
    intro c' hc'; rw [List.mem_singleton.1 hc']; exact cstOk_toLin c hc
  exact ⟨congrArg Subtype.val (XB.run_adm CDom.eng constX (.assume [c.toLin]) hcs a),
    congrArg Subtype.val (XB.run_adm CDom.eng constX (.forget x) hx a),
    congrArg Subtype.val (XB.run_adm CDom.eng constX (.assign x e.toExpr) hx a),
    congrArg Subtype.val (XB.run_adm CDom.eng constX (.arithVar (xOp op) x y w) hx a),
    congrArg Subtype.val (XB.run_adm CDom.eng constX (.arithCst (xOp op) x y k) hx a)⟩

theorem C11.cst_backward_assign_sound (x : Var) (e : Lin) (post inv : CDom.SEnv) (σ : State)
    (hinv : CDom.SEnv.γ inv σ) (hpost : CDom.SEnv.γ post (Bwd.upd σ x (e.eval σ))) :
    CDom.SEnv.γ (constDom.bwdAssign x e post inv) σ :=
  constDom_sound.bwdAssign_sound x e post inv σ hinv hpost

theorem C11.cst_backward_apply_sound (op : BinOp) (x y : Var) (z : Operand) (post inv : CDom.SEnv)
    (σ : State) (v : Int) (hinv : CDom.SEnv.γ inv σ)
    (hv : binSem op (σ y) (z.eval σ) = some v) (hpost : CDom.SEnv.γ post (Bwd.upd σ x v)) :
    CDom.SEnv.γ (constDom.bwdApply op x y z post inv) σ :=
  constDom_sound.bwdApply_sound op x y z post inv σ v hinv hv hpost

theorem C11.cst_bwd_stmt_sound (good : Bool) (s : Stmt) (post inv : CDom.SEnv) (σ σ' : State)
    (hinv : CDom.SEnv.γ inv σ) (hstep : StmtStep s σ σ') (hpost : CDom.SEnv.γ post σ') :
    CDom.SEnv.γ (bwdExec constDom good s post inv) σ :=
  C11.bwd_stmt_sound constDom_sound good s post inv σ σ' hinv hstep hpost

theorem C11.cst_bwd_stmt_fail_sound (s : Stmt) (post inv : CDom.SEnv) (σ : State)
    (hfail : StmtFails s σ) : CDom.SEnv.γ (bwdExec constDom false s post inv) σ :=
  C11.bwd_stmt_fail_sound constDom_sound s post inv σ hfail

theorem C11.cst_bwd_run_sound (p : Prog) (good : Bool) (invAbs : Nat → CDom.SEnv) (fin : CDom.SEnv)
    (nesting : Nat → Option (List Nat)) (delay descending : Nat) (w : List Comp) (fuel : Nat)
    (st : St CDom.SEnv)
    (hw : WtoWF (bwdCtx constDom p good invAbs fin nesting delay descending) w)
    (hrun : run (bwdCtx constDom p good invAbs fin nesting delay descending) fuel w = some st)
    (n : Nat) (σ : State) (hn : ReachesExit p n)
    (h : CoReach p (fun m τ => CDom.SEnv.γ (invAbs m) τ) (!good) (CDom.SEnv.γ fin) n σ) :
    CDom.SEnv.γ (st.post n) σ :=
  C11.inst_bwd_run_sound constDom _ constDom_sound p good invAbs fin nesting delay descending w fuel
    st hw hrun n σ hn h

theorem C11.cst_bwd_precondition_sound (p : Prog) (good : Bool) (invAbs : Nat → CDom.SEnv)
    (fin : CDom.SEnv) (nesting : Nat → Option (List Nat)) (delay descending : Nat) (w : List Comp)
    (fuel : Nat) (st : St CDom.SEnv)
    (hw : WtoWF (bwdCtx constDom p good invAbs fin nesting delay descending) w)
    (hrun : run (bwdCtx constDom p good invAbs fin nesting delay descending) fuel w = some st)
    (n : Nat) (σ : State)
    (h : CoReach p (fun m τ => CDom.SEnv.γ (invAbs m) τ) (!good) (CDom.SEnv.γ fin) n σ) :
    CDom.SEnv.γ (preAt constDom p st.post n) σ :=
  C11.inst_bwd_precondition_sound constDom _ constDom_sound p good invAbs fin nesting delay
    descending w fuel st hw hrun n σ h

/-! ### `sign_domain` -/

theorem C11.sgn_contract : BDomSound signDom SDom.SEnv.γ := signDom_sound

theorem C11.sgn_backward_ops_eq (x y : Var) (e : Lin) (op : BinOp) (z : Operand)
    (post inv : SDom.SEnv) :
    signDom.bwdAssign x e post inv = signDom.meet (signDom.forget x post) inv ∧
    signDom.bwdApply op x y z post inv = signDom.meet (signDom.forget x post) inv :=
  ⟨rfl, rfl⟩

theorem C11.sgn_forward_ops_eq (x y w : Var) (k : Int) (e : Lin) (c : Bwd.Cst) (op : BinOp)
    (a : SDom.SEnv) (hx : x < 2 ^ 64) (hc : ∀ v ∈ c.e.vars, v < 2 ^ 64) :
    (signDom.assume c a).1 = a.1.add [c.toLin] ∧
    (signDom.forget x a).1 = XDom.Env.forget SDom.signLattice a.1 x ∧
    (signDom.assign x e a).1 = a.1.assign x e.toExpr ∧
    (signDom.apply op x y (.var w) a).1 = a.1.applyVar (xOp op) x y w ∧
    (signDom.apply op x y (.const k) a).1 = a.1.applyCst (xOp op) x y k := by
  have hcs : (XDom.Stmt.assume [c.toLin]).Ok := by
    intro c' hc'; rw [List.mem_singleton.1 hc']; exact cstOk_toLin c hc
  exact ⟨congrArg Subtype.val (XB.run_adm SDom.eng signX (.assume [c.toLin]) hcs a),
    congrArg Subtype.val (XB.run_adm SDom.eng signX (.forget x) hx a),
    congrArg Subtype.val (XB.run_adm SDom.eng signX (.assign x e.toExpr) hx a),
    congrArg Subtype.val (XB.run_adm SDom.eng signX (.arithVar (xOp op) x y w) hx a),
    congrArg Subtype.val (XB.run_adm SDom.eng signX (.arithCst (xOp op) x y k) hx a)⟩

theorem C11.sgn_backward_assign_sound (x : Var) (e : Lin) (post inv : SDom.SEnv) (σ : State)
    (hinv : SDom.SEnv.γ inv σ) (hpost : SDom.SEnv.γ post (Bwd.upd σ x (e.eval σ))) :
    SDom.SEnv.γ (signDom.bwdAssign x e post inv) σ :=
  signDom_sound.bwdAssign_sound x e post inv σ hinv hpost

theorem C11.sgn_backward_apply_sound (op : BinOp) (x y : Var) (z : Operand) (post inv : SDom.SEnv)
    (σ : State) (v : Int) (hinv : SDom.SEnv.γ inv σ)
    (hv : binSem op (σ y) (z.eval σ) = some v) (hpost : SDom.SEnv.γ post (Bwd.upd σ x v)) :
    SDom.SEnv.γ (signDom.bwdApply op x y z post inv) σ :=
  signDom_sound.bwdApply_sound op x y z post inv σ v hinv hv hpost

theorem C11.sgn_bwd_stmt_sound (good : Bool) (s : Stmt) (post inv : SDom.SEnv) (σ σ' : State)
    (hinv : SDom.SEnv.γ inv σ) (hstep : StmtStep s σ σ') (hpost : SDom.SEnv.γ post σ') :
    SDom.SEnv.γ (bwdExec signDom good s post inv) σ :=
  C11.bwd_stmt_sound signDom_sound good s post inv σ σ' hinv hstep hpost

theorem C11.sgn_bwd_stmt_fail_sound (s : Stmt) (post inv : SDom.SEnv) (σ : State)
    (hfail : StmtFails s σ) : SDom.SEnv.γ (bwdExec signDom false s post inv) σ :=
  C11.bwd_stmt_fail_sound signDom_sound s post inv σ hfail

theorem C11.sgn_bwd_run_sound (p : Prog) (good : Bool) (invAbs : Nat → SDom.SEnv) (fin : SDom.SEnv)
    (nesting : Nat → Option (List Nat)) (delay descending : Nat) (w : List Comp) (fuel : Nat)
    (st : St SDom.SEnv)
    (hw : WtoWF (bwdCtx signDom p good invAbs fin nesting delay descending) w)
    (hrun : run (bwdCtx signDom p good invAbs fin nesting delay descending) fuel w = some st)
    (n : Nat) (σ : State) (hn : ReachesExit p n)
    (h : CoReach p (fun m τ => SDom.SEnv.γ (invAbs m) τ) (!good) (SDom.SEnv.γ fin) n σ) :
    SDom.SEnv.γ (st.post n) σ :=
  C11.inst_bwd_run_sound signDom _ signDom_sound p good invAbs fin nesting delay descending w fuel
    st hw hrun n σ hn h

theorem C11.sgn_bwd_precondition_sound (p : Prog) (good : Bool) (invAbs : Nat → SDom.SEnv)
    (fin : SDom.SEnv) (nesting : Nat → Option (List Nat)) (delay descending : Nat) (w : List Comp)
    (fuel : Nat) (st : St SDom.SEnv)
    (hw : WtoWF (bwdCtx signDom p good invAbs fin nesting delay descending) w)
    (hrun : run (bwdCtx signDom p good invAbs fin nesting delay descending) fuel w = some st)
    (n : Nat) (σ : State)
    (h : CoReach p (fun m τ => SDom.SEnv.γ (invAbs m) τ) (!good) (SDom.SEnv.γ fin) n σ) :
    SDom.SEnv.γ (preAt signDom p st.post n) σ :=
  C11.inst_bwd_precondition_sound signDom _ signDom_sound p good invAbs fin nesting delay
    descending w fuel st hw hrun n σ h

/-! ### `congruence_domain` (conditional: forward part discharged) -/

/-- the forward operations of the congruence model satisfy the contract -/
theorem C11.cong_forward_contract : BDomSound congFwd GDom.SEnv.γ := congFwd_sound

/-- `congruence_domain::backward_assign / backward_apply` = `BackwardAssignOps`: the contract of
    C11 holds for every model of `rename({y}, {x})` that is a renaming right after `-= x` and
    every bound of the variables a value constrains (these two side contracts are NOT discharged
    for the Patricia-tree environment of `GDom`) -/
theorem C11.cong_contract_of (rename : Var → Var → GDom.SEnv → GDom.SEnv)
    (hren : RenameAfterForget congFwd GDom.SEnv.γ rename) (bound : GDom.SEnv → Nat)
    (hb : BoundOk GDom.SEnv.γ bound) :
    BDomSound (withGenBwd congFwd rename bound) GDom.SEnv.γ :=
  congDom_sound_of rename hren bound hb

/-! ### the canonical zone model (generic `BackwardAssignOps` recipe, NOT split_dbm's code) -/

/-- zones over the variables `0 .. n-1` with the recipe of `BackwardAssignOps` -/
abbrev C11.zoneDom (n : Nat) : BDom (Zones.ZVal n) := RB.dom (zoneLang n)
/-- concretisation: the tracked part of the state is described by the matrix -/
abbrev C11.zoneγ (n : Nat) : Zones.ZVal n → State → Prop := RB.γ (zoneLang n)

theorem C11.zones_contract (n : Nat) : BDomSound (C11.zoneDom n) (C11.zoneγ n) :=
  RB.dom_sound (zoneLang n)

/-- the backward operations are `BackwardAssignOps` over the canonical forward operations with an
    untracked fresh index (`>= n`) -/
theorem C11.zones_backward_ops_eq (n : Nat) (x y : Var) (e : Lin) (op : BinOp) (z : Operand)
    (post inv : Zones.ZVal n) :
    (C11.zoneDom n).bwdAssign x e post inv =
      genBwdAssign (RB.fwd (zoneLang n)) (RB.rename (zoneLang n)) (freshFor n (x :: e.vars)) x e post inv ∧
    (C11.zoneDom n).bwdApply op x y z post inv =
      genBwdApply (RB.fwd (zoneLang n)) (RB.rename (zoneLang n)) (freshFor n (x :: y :: z.vars))
        op x y z post inv :=
  ⟨rfl, rfl⟩

theorem C11.zones_backward_assign_sound (n : Nat) (x : Var) (e : Lin) (post inv : Zones.ZVal n)
    (σ : State) (hinv : C11.zoneγ n inv σ) (hpost : C11.zoneγ n post (Bwd.upd σ x (e.eval σ))) :
    C11.zoneγ n ((C11.zoneDom n).bwdAssign x e post inv) σ :=
  (C11.zones_contract n).bwdAssign_sound x e post inv σ hinv hpost

theorem C11.zones_backward_apply_sound (n : Nat) (op : BinOp) (x y : Var) (z : Operand)
    (post inv : Zones.ZVal n) (σ : State) (v : Int) (hinv : C11.zoneγ n inv σ)
    (hv : binSem op (σ y) (z.eval σ) = some v) (hpost : C11.zoneγ n post (Bwd.upd σ x v)) :
    C11.zoneγ n ((C11.zoneDom n).bwdApply op x y z post inv) σ :=
  (C11.zones_contract n).bwdApply_sound op x y z post inv σ v hinv hv hpost

theorem C11.zones_bwd_stmt_sound (n : Nat) (good : Bool) (s : Stmt) (post inv : Zones.ZVal n)
    (σ σ' : State) (hinv : C11.zoneγ n inv σ) (hstep : StmtStep s σ σ')
    (hpost : C11.zoneγ n post σ') : C11.zoneγ n (bwdExec (C11.zoneDom n) good s post inv) σ :=
  C11.bwd_stmt_sound (C11.zones_contract n) good s post inv σ σ' hinv hstep hpost

theorem C11.zones_bwd_stmt_fail_sound (n : Nat) (s : Stmt) (post inv : Zones.ZVal n) (σ : State)
    (hfail : StmtFails s σ) : C11.zoneγ n (bwdExec (C11.zoneDom n) false s post inv) σ :=
  C11.bwd_stmt_fail_sound (C11.zones_contract n) s post inv σ hfail

theorem C11.zones_bwd_run_sound (k : Nat) (p : Prog) (good : Bool) (invAbs : Nat → Zones.ZVal k)
    (fin : Zones.ZVal k) (nesting : Nat → Option (List Nat)) (delay descending : Nat)
    (w : List Comp) (fuel : Nat) (st : St (Zones.ZVal k))
    (hw : WtoWF (bwdCtx (C11.zoneDom k) p good invAbs fin nesting delay descending) w)
    (hrun : run (bwdCtx (C11.zoneDom k) p good invAbs fin nesting delay descending) fuel w = some st)
    (n : Nat) (σ : State) (hn : ReachesExit p n)
    (h : CoReach p (fun m τ => C11.zoneγ k (invAbs m) τ) (!good) (C11.zoneγ k fin) n σ) :
    C11.zoneγ k (st.post n) σ :=
  C11.inst_bwd_run_sound (C11.zoneDom k) _ (C11.zones_contract k) p good invAbs fin nesting delay
    descending w fuel st hw hrun n σ hn h

theorem C11.zones_bwd_precondition_sound (k : Nat) (p : Prog) (good : Bool)
    (invAbs : Nat → Zones.ZVal k) (fin : Zones.ZVal k) (nesting : Nat → Option (List Nat))
    (delay descending : Nat) (w : List Comp) (fuel : Nat) (st : St (Zones.ZVal k))
    (hw : WtoWF (bwdCtx (C11.zoneDom k) p good invAbs fin nesting delay descending) w)
    (hrun : run (bwdCtx (C11.zoneDom k) p good invAbs fin nesting delay descending) fuel w = some st)
    (n : Nat) (σ : State)
    (h : CoReach p (fun m τ => C11.zoneγ k (invAbs m) τ) (!good) (C11.zoneγ k fin) n σ) :
    C11.zoneγ k (preAt (C11.zoneDom k) p st.post n) σ :=
  C11.inst_bwd_precondition_sound (C11.zoneDom k) _ (C11.zones_contract k) p good invAbs fin nesting
    delay descending w fuel st hw hrun n σ h

/-! ### the canonical octagon model (generic `BackwardAssignOps` recipe, NOT split_oct's code) -/

abbrev C11.octDom (n : Nat) : BDom (Octagon.OVal n) := RB.dom (octLang n)
abbrev C11.octγ (n : Nat) : Octagon.OVal n → State → Prop := RB.γ (octLang n)

theorem C11.oct_contract (n : Nat) : BDomSound (C11.octDom n) (C11.octγ n) :=
  RB.dom_sound (octLang n)

theorem C11.oct_backward_ops_eq (n : Nat) (x y : Var) (e : Lin) (op : BinOp) (z : Operand)
    (post inv : Octagon.OVal n) :
    (C11.octDom n).bwdAssign x e post inv =
      genBwdAssign (RB.fwd (octLang n)) (RB.rename (octLang n)) (freshFor n (x :: e.vars)) x e post inv ∧
    (C11.octDom n).bwdApply op x y z post inv =
      genBwdApply (RB.fwd (octLang n)) (RB.rename (octLang n)) (freshFor n (x :: y :: z.vars))
        op x y z post inv :=
  ⟨rfl, rfl⟩

theorem C11.oct_backward_assign_sound (n : Nat) (x : Var) (e : Lin) (post inv : Octagon.OVal n)
    (σ : State) (hinv : C11.octγ n inv σ) (hpost : C11.octγ n post (Bwd.upd σ x (e.eval σ))) :
    C11.octγ n ((C11.octDom n).bwdAssign x e post inv) σ :=
  (C11.oct_contract n).bwdAssign_sound x e post inv σ hinv hpost

theorem C11.oct_backward_apply_sound (n : Nat) (op : BinOp) (x y : Var) (z : Operand)
    (post inv : Octagon.OVal n) (σ : State) (v : Int) (hinv : C11.octγ n inv σ)
    (hv : binSem op (σ y) (z.eval σ) = some v) (hpost : C11.octγ n post (Bwd.upd σ x v)) :
    C11.octγ n ((C11.octDom n).bwdApply op x y z post inv) σ :=
  (C11.oct_contract n).bwdApply_sound op x y z post inv σ v hinv hv hpost

theorem C11.oct_bwd_stmt_sound (n : Nat) (good : Bool) (s : Stmt) (post inv : Octagon.OVal n)
    (σ σ' : State) (hinv : C11.octγ n inv σ) (hstep : StmtStep s σ σ')
    (hpost : C11.octγ n post σ') : C11.octγ n (bwdExec (C11.octDom n) good s post inv) σ :=
  C11.bwd_stmt_sound (C11.oct_contract n) good s post inv σ σ' hinv hstep hpost

theorem C11.oct_bwd_stmt_fail_sound (n : Nat) (s : Stmt) (post inv : Octagon.OVal n) (σ : State)
    (hfail : StmtFails s σ) : C11.octγ n (bwdExec (C11.octDom n) false s post inv) σ :=
  C11.bwd_stmt_fail_sound (C11.oct_contract n) s post inv σ hfail

theorem C11.oct_bwd_run_sound (k : Nat) (p : Prog) (good : Bool) (invAbs : Nat → Octagon.OVal k)
    (fin : Octagon.OVal k) (nesting : Nat → Option (List Nat)) (delay descending : Nat)
    (w : List Comp) (fuel : Nat) (st : St (Octagon.OVal k))
    (hw : WtoWF (bwdCtx (C11.octDom k) p good invAbs fin nesting delay descending) w)
    (hrun : run (bwdCtx (C11.octDom k) p good invAbs fin nesting delay descending) fuel w = some st)
    (n : Nat) (σ : State) (hn : ReachesExit p n)
    (h : CoReach p (fun m τ => C11.octγ k (invAbs m) τ) (!good) (C11.octγ k fin) n σ) :
    C11.octγ k (st.post n) σ :=
  C11.inst_bwd_run_sound (C11.octDom k) _ (C11.oct_contract k) p good invAbs fin nesting delay
    descending w fuel st hw hrun n σ hn h

theorem C11.oct_bwd_precondition_sound (k : Nat) (p : Prog) (good : Bool)
    (invAbs : Nat → Octagon.OVal k) (fin : Octagon.OVal k) (nesting : Nat → Option (List Nat))
    (delay descending : Nat) (w : List Comp) (fuel : Nat) (st : St (Octagon.OVal k))
    (hw : WtoWF (bwdCtx (C11.octDom k) p good invAbs fin nesting delay descending) w)
    (hrun : run (bwdCtx (C11.octDom k) p good invAbs fin nesting delay descending) fuel w = some st)
    (n : Nat) (σ : State)
    (h : CoReach p (fun m τ => C11.octγ k (invAbs m) τ) (!good) (C11.octγ k fin) n σ) :
    C11.octγ k (preAt (C11.octDom k) p st.post n) σ :=
  C11.inst_bwd_precondition_sound (C11.octDom k) _ (C11.oct_contract k) p good invAbs fin nesting
    delay descending w fuel st hw hrun n σ h
