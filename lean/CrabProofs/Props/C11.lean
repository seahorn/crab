import CrabProofs.Lemmas.BwdRun
import CrabProofs.Lemmas.BwdRunOld
import CrabProofs.Lemmas.BwdGeneric

/-!
# C11 — the backward analysis returns necessary preconditions

Model: `CrabModel/Bwd/BwdTransfer.lean` (`bwdExec` = `intra_necessary_preconditions_abs_transformer::exec`,
`bwdStmts` = `necessary_preconditions_fixpoint_iterator::analyze`, `reachExitF` / `mayFailB` =
`compute_fail_without_exit`, `bwdCtx` = the fixpoint problem on `cfg_rev`, `preAt` = `operator[]`,
`genBwdAssign` / `genBwdApply` = `BackwardAssignOps`), semantics: `CrabModel/Bwd/BSemantics.lean`
(`CoReach` = states from which an assertion violation / a given final state at the exit is
reachable along an execution consistent with the supplied forward invariants).
The model is the code after the `fix:` commits 111ab80 (assertions in blocks that cannot reach
the exit), ac800bc (backward `x := y / k`), ced0dcf (constant / sign backward operations).

* statement level (`bwd_stmt_sound`, `bwd_stmt_fail_sound`), block level (`bwd_block_sound`,
  `bwd_block_fail_sound`): for every domain satisfying the contract `BDomSound`;
* `reach_exit_exact`, `fail_without_exit_exact`: the sets computed by
  `compute_fail_without_exit` are exactly "can reach the exit" and "cannot reach the exit but
  can reach an assertion";
* run level: `bwd_run_sound` (`C01.run_sound` instantiated on the reversed graph with the
  co-reachability collecting semantics), `bwd_precondition_sound` (what `analyzer[n]` returns,
  every block), `empty_entry_precondition_safe`;
* `BackwardAssignOps`: `generic_backward_assign_sound`, `generic_backward_apply_sound`;
* every witness of the driver is a member of `CoReach`: `replay_witness_coreach`;
* the behaviour BEFORE the fix commits, behind the explicit definitions `bwdCtxOld` /
  `genBwdApplyOld`: `old_reversed_collecting_semantics_is_coreachX`, `old_bwd_run_sound_partial`,
  `old_bwd_run_sound_counterexample`, `old_empty_entry_precondition_safe_counterexample`,
  `old_generic_backward_apply_counterexample`.
-/
open Crab Crab.Bwd Crab.Fix

/-- C11, one statement: `σ ∈ γ fwdInv`, `σ →[s] σ'`, `σ' ∈ γ post` ⇒ `σ ∈ γ (bwdExec s post fwdInv)`
    (good and error mode). -/
theorem C11.bwd_stmt_sound {A : Type} {D : BDom A} {γ : A → State → Prop} (hD : BDomSound D γ)
    (good : Bool) (s : Stmt) (post inv : A) (σ σ' : State)
    (hinv : γ inv σ) (hstep : StmtStep s σ σ') (hpost : γ post σ') :
    γ (bwdExec D good s post inv) σ :=
  bwdExec_step_sound hD good s post inv σ σ' hinv hstep hpost

/-- C11, one statement, error mode: a state from which the statement fails is in the
    precondition whatever the postcondition is. -/
theorem C11.bwd_stmt_fail_sound {A : Type} {D : BDom A} {γ : A → State → Prop} (hD : BDomSound D γ)
    (s : Stmt) (post inv : A) (σ : State) (hfail : StmtFails s σ) :
    γ (bwdExec D false s post inv) σ :=
  bwdExec_fail_sound hD s post inv σ hfail

/-- C11, one block (`analyze`): states that satisfy the block invariant and run through the
    block into `post`. -/
theorem C11.bwd_block_sound {A : Type} {D : BDom A} {γ : A → State → Prop} (hD : BDomSound D γ)
    (good : Bool) (ss : List Stmt) (post inv : A) (σ σ' : State)
    (hinv : γ inv σ) (hrun : StmtsStep ss σ σ') (hpost : γ post σ') :
    γ (bwdStmts D good ss post inv) σ :=
  bwdStmts_step_sound hD good ss post inv σ σ' hinv hrun hpost

/-- C11, one block, error mode: states that satisfy the block invariant and from which an
    assertion of the block fails. -/
theorem C11.bwd_block_fail_sound {A : Type} {D : BDom A} {γ : A → State → Prop} (hD : BDomSound D γ)
    (ss : List Stmt) (post inv : A) (σ : State) (hinv : γ inv σ) (hfail : StmtsFail ss σ) :
    γ (bwdStmts D false ss post inv) σ :=
  bwdStmts_fail_sound hD ss post inv σ hinv hfail

/-- `compute_fail_without_exit`, first pass: `reach_exit` is exactly the set of blocks from which
    the exit block is reachable (|blocks| propagation rounds reach the fixpoint). -/
theorem C11.reach_exit_exact (p : Prog) (n : Nat) : reachExitF p n = true ↔ ReachesExit p n :=
  reachExitF_iff p n

/-- `compute_fail_without_exit`, second pass: `m_fail_without_exit` is exactly the set of blocks
    that cannot reach the exit block but can reach a block containing an assertion. -/
theorem C11.fail_without_exit_exact (p : Prog) (n : Nat) :
    mayFailB p n = true ↔ ¬ ReachesExit p n ∧ CanFail p n :=
  mayFailB_iff p n

/-- C11, whole run: the table `m_preconditions` contains, for every block from which the exit
    block is reachable (these are the blocks the iterator visits), every state from which an
    execution consistent with the supplied forward invariants ends the exit block in a given
    final state or (error mode) fails an assertion — in whatever block.  Obtained from
    `C01.run_sound` on the reversed graph. -/
theorem C11.bwd_run_sound {A : Type} (S : Setup A) (w : List Comp) (fuel : Nat) (st : St A)
    (hw : WtoWF S.ctx w) (hrun : run S.ctx fuel w = some st) (n : Nat) (σ : State)
    (hn : ReachesExit S.p n)
    (h : CoReach S.p S.inv (!S.good) (S.γ S.fin) n σ) : S.γ (st.post n) σ :=
  (C01.run_sound S.ctx w (Option State) S.sem fuel st hw hrun).2 n (some σ)
    (S.reachPost_of_coReach n σ h hn)

/-- C11 as the client sees it: `analyzer[n]` (`preAt`: the stored value of a visited block, top
    for the others) contains every co-reachable state, for every block. -/
theorem C11.bwd_precondition_sound {A : Type} (S : Setup A) (w : List Comp) (fuel : Nat) (st : St A)
    (hw : WtoWF S.ctx w) (hrun : run S.ctx fuel w = some st) (n : Nat) (σ : State)
    (h : CoReach S.p S.inv (!S.good) (S.γ S.fin) n σ) : S.γ (preAt S.D S.p st.post n) σ := by
  unfold preAt
  cases hr : reachExitF S.p n with
  | true =>
    simp only [if_true]
    exact C11.bwd_run_sound S w fuel st hw hrun n σ ((reachExitF_iff S.p n).1 hr) h
  | false => exact S.sound.top_sound σ

/-- Corollary: an empty precondition at the entry block means that no initial state
    (consistent with the supplied invariants) leads to a violation / to a given final state. -/
theorem C11.empty_entry_precondition_safe {A : Type} (S : Setup A) (w : List Comp)
    (fuel : Nat) (st : St A) (hw : WtoWF S.ctx w) (hrun : run S.ctx fuel w = some st)
    (hbot : S.D.isBottom (preAt S.D S.p st.post S.p.entry) = true) (σ : State) :
    ¬ CoReach S.p S.inv (!S.good) (S.γ S.fin) S.p.entry σ :=
  fun h => S.sound.isBottom_sound _ σ hbot
    (C11.bwd_precondition_sound S w fuel st hw hrun S.p.entry σ h)

/-! ### the behaviour before commit 111ab80 (`bwdCtxOld`) -/

/-- What the collecting semantics of the OLD reversed system is: a program state leaves block
    `n` of the reversed graph (= stands at the ENTRY of block `n`) iff it is co-reachable with
    failures restricted to blocks that reach the exit; the token does iff `n` reaches the exit. -/
theorem C11.old_reversed_collecting_semantics_is_coreachX {A : Type} (S : Setup A) (n : Nat) :
    (∀ σ, ReachPost S.ctxOld S.semOld n (some σ) ↔ CoReachX S.p S.inv (!S.good) (S.γ S.fin) n σ) ∧
    (ReachPost S.ctxOld S.semOld n none ↔ ReachesExit S.p n) := by
  refine ⟨fun σ => ⟨fun h => S.post_charOld n (some σ) h, S.reachPostOld_of_coReachX n σ⟩,
    ⟨fun h => S.post_charOld n none h, fun h => ?_⟩⟩
  exact ReachPost.step n none none (S.token_preOld n h) trivial

/-- what the old code guaranteed: assertion failures only in blocks that reach the exit -/
theorem C11.old_bwd_run_sound_partial {A : Type} (S : Setup A) (w : List Comp) (fuel : Nat) (st : St A)
    (hw : WtoWF S.ctxOld w) (hrun : run S.ctxOld fuel w = some st) (n : Nat) (σ : State)
    (h : CoReachX S.p S.inv (!S.good) (S.γ S.fin) n σ) : S.γ (st.post n) σ :=
  (C01.run_sound S.ctxOld w (Option State) S.semOld fuel st hw hrun).2 n (some σ)
    (S.reachPostOld_of_coReachX n σ h)

/-- the full statement for the old code (false, see the counterexample) -/
def C11.old_bwd_run_sound_Statement : Prop :=
  ∀ (A : Type) (S : Setup A) (w : List Comp) (fuel : Nat) (st : St A),
    WtoWF S.ctxOld w → run S.ctxOld fuel w = some st →
    ∀ n σ, ReachesExit S.p n → CoReach S.p S.inv (!S.good) (S.γ S.fin) n σ → S.γ (st.post n) σ

/-- the old code was right on programs in which every block containing an assertion can reach
    the exit block (decidable hypothesis) -/
theorem C11.old_bwd_run_sound_of_asserts_reach_exit {A : Type} (S : Setup A) (w : List Comp)
    (fuel : Nat) (st : St A) (hw : WtoWF S.ctxOld w) (hrun : run S.ctxOld fuel w = some st)
    (hx : assertsReachExitB S.p = true) (n : Nat) (σ : State)
    (h : CoReach S.p S.inv (!S.good) (S.γ S.fin) n σ) : S.γ (st.post n) σ :=
  C11.old_bwd_run_sound_partial S w fuel st hw hrun n σ
    (coReachX_of_coReach S.p S.inv _ _ (assertsReachExitB_sound S.p hx) n σ h)

def C11.old_empty_entry_precondition_safe_Statement : Prop :=
  ∀ (A : Type) (S : Setup A) (w : List Comp) (fuel : Nat) (st : St A),
    WtoWF S.ctxOld w → run S.ctxOld fuel w = some st →
    S.D.isBottom (preAt S.D S.p st.post S.p.entry) = true →
    ∀ σ, ¬ CoReach S.p S.inv (!S.good) (S.γ S.fin) S.p.entry σ

/-! ### counterexample (DESIGN.md §4 #8): `E: havoc(x); goto A, X`   `A: assert(x != 3)` (dead end) -/

/-- the two-point domain (`false` = bottom, `true` = top) -/
def C11.Cex.flatDom : BDom Bool where
  top := true
  bot := false
  isBottom := fun a => !a
  leq := fun a b => !a || b
  join := (· || ·)
  meet := (· && ·)
  widen := (· || ·)
  narrow := (· && ·)
  assume := fun _ a => a
  forget := fun _ a => a
  assign := fun _ _ a => a
  apply := fun _ _ _ _ a => a
  select := fun _ _ _ _ a => a
  bwdAssign := fun _ _ post inv => post && inv
  bwdApply := fun _ _ _ _ post inv => post && inv

theorem C11.Cex.flatDom_sound : BDomSound C11.Cex.flatDom (fun a _ => a = true) where
  top_sound := fun _ => rfl
  isBottom_sound := by intro a σ h; simpa [C11.Cex.flatDom] using h
  join_left := by intro a b σ h; simp [C11.Cex.flatDom, h]
  join_right := by intro a b σ h; simp [C11.Cex.flatDom, h]
  widen_left := by intro a b σ h; simp [C11.Cex.flatDom, h]
  widen_right := by intro a b σ h; simp [C11.Cex.flatDom, h]
  meet_sound := by intro a b σ h1 h2; simp [C11.Cex.flatDom, h1, h2]
  narrow_sound := by intro a b σ h1 h2; simp [C11.Cex.flatDom, h1, h2]
  leq_sound := by intro a b σ h1 h2; simpa [C11.Cex.flatDom, h2] using h1
  assume_sound := fun _ _ _ h _ => h
  forget_sound := fun _ _ _ _ h => h
  assign_sound := fun _ _ _ _ h => h
  apply_sound := fun _ _ _ _ _ _ _ h _ => h
  select_sound := fun _ _ _ _ _ _ h => h
  bwdAssign_sound := by intro x e post inv σ h1 h2; simp [C11.Cex.flatDom, h1, h2]
  bwdApply_sound := by intro op x y z post inv σ v h1 _ h2; simp [C11.Cex.flatDom, h1, h2]

/-- block 0 = E (entry), block 1 = A (dead end), block 2 = X (exit) -/
def C11.Cex.prog : Prog :=
  { blocks := [⟨[.havoc 0], [1, 2]⟩, ⟨[.assert ⟨.ne, ⟨-3, [(1, 0)]⟩⟩], []⟩, ⟨[], []⟩],
    entry := 0, exit := 2 }

/-- error mode, no forward invariants (top), started from bottom at the exit block -/
def C11.Cex.setup : Setup Bool where
  D := C11.Cex.flatDom
  γ := fun a _ => a = true
  sound := C11.Cex.flatDom_sound
  p := C11.Cex.prog
  good := false
  invAbs := fun _ => true
  fin := false
  nesting := fun n => if n = 2 ∨ n = 0 then some [] else none
  delay := 1
  descending := 1

/-- the ordering of the reversed graph from the exit block: X, E (A is not reachable) -/
def C11.Cex.wto : List Comp := [.vertex 2, .vertex 0]

theorem C11.Cex.preds (n : Nat) :
    C11.Cex.setup.ctxOld.preds n = if n = 0 then [1, 2] else [] := by
  show (C11.Cex.prog.block n).succs = _
  match n with
  | 0 => rfl
  | 1 => rfl
  | 2 => rfl
  | n + 3 => rfl

theorem C11.Cex.wfOld : WtoWF C11.Cex.setup.ctxOld C11.Cex.wto :=
  .of_check 3 (by decide) fun n hn => by
    have h0 : n ≠ 0 := by omega
    have h2 : ¬ (n = 2 ∨ n = 0) := by omega
    exact ⟨by rw [C11.Cex.preds, if_neg h0], if_neg h2⟩

/-- the ordering is the same for the current model (same graph, start block, nesting) -/
theorem C11.Cex.wf : WtoWF C11.Cex.setup.ctx C11.Cex.wto :=
  { nodup := C11.Cex.wfOld.nodup, closed := C11.Cex.wfOld.closed, edge := C11.Cex.wfOld.edge,
    entry_mem := C11.Cex.wfOld.entry_mem, nesting_in := C11.Cex.wfOld.nesting_in,
    nesting_out := C11.Cex.wfOld.nesting_out }

/-- the old run returns and stores bottom for the entry block -/
theorem C11.Cex.old_run_entry_bottom :
    (run C11.Cex.setup.ctxOld 10 C11.Cex.wto).map (fun st => st.post 0) = some false := by decide

/-- but `x = 3` at the entry block violates the assertion of `A` -/
theorem C11.Cex.coreach : CoReach C11.Cex.setup.p C11.Cex.setup.inv (!C11.Cex.setup.good)
    (C11.Cex.setup.γ C11.Cex.setup.fin) 0 (fun _ => 3) := by
  refine CoReach.flow 0 1 (fun _ => 3) (Bwd.upd (fun _ => 3) 0 3) rfl (by decide) ?_ ?_
  · exact ⟨_, stmtStep_havoc.2 ⟨3, rfl⟩, rfl⟩
  · refine CoReach.fail 1 _ rfl rfl (Or.inl (stmtFails_iff.2 ⟨_, rfl, ?_⟩))
    simp [Cst.holds, Lin.eval, evalTerms, Bwd.upd]

theorem C11.Cex.entry_reaches_exit : ReachesExit C11.Cex.prog 0 :=
  ReachesExit.edge 0 2 (by decide) ReachesExit.here

theorem C11.old_bwd_run_sound_counterexample : ¬ C11.old_bwd_run_sound_Statement := by
  intro hS
  have hb := C11.Cex.old_run_entry_bottom
  cases hr : run C11.Cex.setup.ctxOld 10 C11.Cex.wto with
  | none => rw [hr] at hb; cases hb
  | some st =>
    rw [hr] at hb
    have h0 : st.post 0 = false := by simpa using hb
    have := hS Bool C11.Cex.setup C11.Cex.wto 10 st C11.Cex.wfOld hr 0 (fun _ => 3)
      C11.Cex.entry_reaches_exit C11.Cex.coreach
    rw [h0] at this
    cases this

theorem C11.old_empty_entry_precondition_safe_counterexample :
    ¬ C11.old_empty_entry_precondition_safe_Statement := by
  intro hS
  have hb := C11.Cex.old_run_entry_bottom
  cases hr : run C11.Cex.setup.ctxOld 10 C11.Cex.wto with
  | none => rw [hr] at hb; cases hb
  | some st =>
    rw [hr] at hb
    have h0 : st.post 0 = false := by simpa using hb
    refine hS Bool C11.Cex.setup C11.Cex.wto 10 st C11.Cex.wfOld hr ?_ (fun _ => 3) C11.Cex.coreach
    have hre : reachExitF C11.Cex.prog 0 = true := by decide
    show (!(preAt C11.Cex.flatDom C11.Cex.prog st.post 0)) = true
    simp only [preAt, hre, if_true, h0]
    rfl

/-- the hypothesis under which the old code was right is decidable and fails on this program -/
example : assertsReachExitB C11.Cex.prog = false := by decide

/-! ### non-vacuity of the current theorems: the same program -/

/-- `compute_fail_without_exit` finds the dead-end block `A` -/
example : (List.range 3).map (mayFailB C11.Cex.prog) = [false, true, false] := by decide

/-- the current model stores top for the entry block: the failing state is covered -/
theorem C11.Cex.run_entry_top :
    (run C11.Cex.setup.ctx 10 C11.Cex.wto).map (fun st => st.post 0) = some true := by decide

/-- and `bwd_run_sound` applies to it with a satisfiable hypothesis set -/
example (fuel : Nat) (st : St Bool) (h : run C11.Cex.setup.ctx fuel C11.Cex.wto = some st) :
    st.post 0 = true :=
  C11.bwd_run_sound C11.Cex.setup C11.Cex.wto fuel st C11.Cex.wf h 0 (fun _ => 3)
    C11.Cex.entry_reaches_exit C11.Cex.coreach

/-! ### every witness reported by the driver is a member of `CoReach` -/

/-- C11 (tie to the driver): a choice stream accepted by the executable `replay` is an
    execution in the sense of `CoReach`. -/
theorem C11.replay_witness_coreach (p : Prog) (invOk : Nat → State → Bool)
    (errAt : Nat → Nat → Bool) (fin : State → Bool) (err : Bool)
    (herr : ∀ n i, errAt n i = true → err = true)
    (fuel n : Nat) (σ : State) (cs : List Int)
    (h : replay p invOk errAt fin fuel n σ cs = true) :
    CoReach p (fun n σ => invOk n σ = true) err (fun σ => fin σ = true) n σ :=
  replay_coReach p invOk errAt fin err herr fuel n σ cs h

/-! ### `BackwardAssignOps` -/

/-- `BackwardAssignOps::assign` (constraint `x = e[x'/x]`, forget, rename, meet with the forward
    invariant) satisfies the `bwdAssign_sound` field of the contract. -/
theorem C11.generic_backward_assign_sound {A : Type} {D : BDom A} {γ : A → State → Prop}
    (hD : BDomSound D γ) (rename : Var → Var → A → A) (hren : RenameSound γ rename)
    (fresh x : Var) (e : Lin) (post inv : A) (σ : State)
    (hfx : fresh ≠ x) (hfe : fresh ∉ e.vars) (hfp : ∀ τ v, γ post τ → γ post (Bwd.upd τ fresh v))
    (hinv : γ inv σ) (hpost : γ post (Bwd.upd σ x (e.eval σ))) :
    γ (genBwdAssign D rename fresh x e post inv) σ :=
  genBwdAssign_sound hD rename (hren.afterForget hD) fresh x e post inv σ hfx hfe hfp hinv hpost

/-- `BackwardAssignOps::apply` (inverse operation for `+`, `-`, `*` by a constant, `y := x * k + r`
    with `|r| <= |k| - 1` for the division, `backward assign` for `y ± z`, forget otherwise)
    satisfies the `bwdApply_sound` field of the contract. -/
theorem C11.generic_backward_apply_sound {A : Type} {D : BDom A} {γ : A → State → Prop}
    (hD : BDomSound D γ) (rename : Var → Var → A → A) (hren : RenameSound γ rename)
    (fresh : Var) (op : BinOp) (x y : Var) (z : Operand) (post inv : A) (σ : State) (v : Int)
    (hfx : fresh ≠ x) (hfy : fresh ≠ y) (hfz : ∀ w, z = .var w → fresh ≠ w)
    (hfp : ∀ τ u, γ post τ → γ post (Bwd.upd τ fresh u))
    (hinv : γ inv σ) (hv : binSem op (σ y) (z.eval σ) = some v) (hpost : γ post (Bwd.upd σ x v)) :
    γ (genBwdApply D rename fresh op x y z post inv) σ :=
  genBwdApply_sound hD rename (hren.afterForget hD) fresh op x y z post inv σ v hfx hfy hfz hfp hinv hv
    hpost

/-- non-vacuity: on the exact set domain `x := y / 2`, post `x = 3` keeps the pre-state `y = 7` -/
example : genBwdApply setDom setRename 9 .sdiv 0 1 (.const 2) (fun τ => τ 0 = 3) (fun _ => True)
    (fun i => if i = 1 then 7 else 0) :=
  C11.generic_backward_apply_sound setDom_sound setRename setRename_sound 9 .sdiv 0 1 (.const 2)
    (fun τ => τ 0 = 3) (fun _ => True) (fun i => if i = 1 then 7 else 0) 3
    (by decide) (by decide) (by intro w hw; cases hw)
    (by intro τ u hτ; show Bwd.upd τ 9 u 0 = 3; rw [upd_other τ 9 0 u (by decide)]; exact hτ)
    trivial (by decide) (by show Bwd.upd _ 0 3 0 = 3; simp [Bwd.upd])

/-- the statement for `BackwardAssignOps::apply` before commit ac800bc (false) -/
def C11.old_generic_backward_apply_sound_Statement : Prop :=
  ∀ (A : Type) (D : BDom A) (γ : A → State → Prop), BDomSound D γ →
  ∀ (rename : Var → Var → A → A), RenameSound γ rename →
  ∀ (fresh : Var) (op : BinOp) (x y : Var) (z : Operand) (post inv : A) (σ : State) (v : Int),
    fresh ≠ x → fresh ≠ y → (∀ w, z = .var w → fresh ≠ w) →
    (∀ τ u, γ post τ → γ post (Bwd.upd τ fresh u)) →
    γ inv σ → binSem op (σ y) (z.eval σ) = some v → γ post (Bwd.upd σ x v) →
    γ (genBwdApplyOld D rename fresh op x y z post inv) σ

/-- `x := y / 2`, post `x = 3`: the pre-state `y = 7` (7 / 2 = 3) is not in the result
    `y = 6` computed by `y := x * 2` — on the exact set domain. -/
theorem C11.old_generic_backward_apply_counterexample :
    ¬ C11.old_generic_backward_apply_sound_Statement := by
  intro hS
  let σ : State := fun i => if i = 1 then 7 else 0
  let post : State → Prop := fun τ => τ 0 = 3
  have h := hS (State → Prop) setDom (fun a s => a s) setDom_sound setRename setRename_sound
    9 .sdiv 0 1 (.const 2) post (fun _ => True) σ 3 (by decide) (by decide)
    (by intro w hw; cases hw) (by
      intro τ u hτ
      show Bwd.upd τ 9 u 0 = 3
      rw [upd_other τ 9 0 u (by decide)]; exact hτ)
    trivial (by decide) (by show Bwd.upd σ 0 3 0 = 3; simp [Bwd.upd])
  -- unfold the computed set
  have h' : (setDom.forget 0 (setDom.apply .mul 1 0 (.const 2) post)) σ := by
    have := h
    simp only [genBwdApplyOld, genInverse, setDom] at this
    exact this.1
  obtain ⟨v0, τ, w, hτ, hw, heq⟩ := h'
  have h1 : (Bwd.upd σ 0 v0) 1 = (Bwd.upd τ 1 w) 1 := by rw [heq]
  have hτ0 : τ 0 = 3 := hτ
  simp only [binSem, Operand.eval, Option.some.injEq] at hw
  simp [Bwd.upd, σ] at h1
  omega
