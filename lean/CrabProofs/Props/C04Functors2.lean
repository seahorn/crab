import CrabProofs.Lemmas.FunctorVPartInst
import CrabProofs.Lemmas.FunctorUfInst
import CrabProofs.Props.C03Functors2

/-!
# C04 — inclusion test and lattice operations vs. concretisation, functor part 2:
# `value_partitioning_domain` over an arbitrary base, `uf_domain` (second half of the file)

Model `Crab.Dom.Fct.VP` (`CrabModel/Dom/Functors/ValuePartitioning.lean`).  `operator<=` after repo
commits eb25fa6 (no join of the right partitions) is sound for every pairing case; `is_bottom` /
`is_top` mean "every partition is"; the canonical bottom is ONE bottom partition (335d5b6).
Reflexivity of `<=` needs separated intervals: `update_partitions()` guarantees them after repo
commit 8f4c9c7 (`C04.vpart_leq_refl_after_update`); the counterexample is a value the pinned tree
computed (`VP.updatePartsOld`; scenario and replay line in the header of `Props/C03Functors2.lean`),
and the statement over all values with `VP.Inv` stays `_partial` (see that header).
-/
open Crab Crab.Dom Crab.Dom.Fct

variable {V S : Type} [DecidableEq V] {D : VDom V S}

/-- a yes of `operator<=` is an inclusion: bottom/top shortcuts, no variable, different variables
    (each left partition in some right partition), same variable (the sweep over both vectors) -/
theorem C04.vpart_leq_sound (t : D.TopSound) {a b : VP D} (ha : VP.Inv a) (hb : VP.Inv b)
    (h : VP.leq a b = true) (s : S) : VP.γ a s → VP.γ b s := VP.leq_sound t ha hb h s

def C04.vpart_leq_refl_Statement : Prop :=
  ∀ (V S : Type) [DecidableEq V] (D : VDom V S), D.LeqRefl → ∀ a : VP D, VP.Inv a → VP.leq a a = true

/-- reflexive without partitioning variable, and with one when the intervals are non-empty and
    each strictly before the next (decidable: `VP.keysSep`) -/
theorem C04.vpart_leq_refl_partial (hr : D.LeqRefl) {a : VP D} (ha : VP.Inv a)
    (hk : a.var = none ∨ VP.keysSep a.parts = true) : VP.leq a a = true :=
  binop_cases (· = true) (fun _ => rfl) (fun _ _ => rfl) fun _ _ =>
    VP.pairing_cases (· = true) a a (fun _ _ => hr _) (fun hne => absurd rfl hne)
      (fun _ hn => VP.leqSame_refl hr _ (hk.resolve_left hn))

/-- every value is `<=` itself right after `update_partitions()` (assignment to the partitioning
    variable, constraint on it, partition start) -/
theorem C04.vpart_leq_refl_after_update (hr : D.LeqRefl) {a : VP D} (ha : VP.Inv a) (hv : a.var ≠ none) :
    VP.leq (VP.updateParts a) (VP.updateParts a) = true :=
  C04.vpart_leq_refl_partial hr (VP.updateParts_inv ha) (Or.inr (VP.updateParts_sep hv))

open VPartEx in
/-- pinned-tree value (old merge loop, fixed by 8f4c9c7) -/
theorem C04.vpart_leq_refl_counterexample : ¬ C04.vpart_leq_refl_Statement := by
  intro h
  have h1 := h V3 (St V3) constVDom constDom_leqRefl (xyOld W0) inv_xyOld_W0
  revert h1
  decide

/-- everything `is_bottom()` recognises is below everything -/
theorem C04.vpart_bot_le {a : VP D} (h : VP.isBottom a = true) (b : VP D) : VP.leq a b = true := by
  unfold VP.leq; rw [h]; rfl

/-- `make_bottom()` / `set_to_bottom()` is ONE bottom partition: recognised as soon as the base
    recognises its own bottom, empty in any case, and well-formed -/
theorem C04.vpart_make_bottom (hb : D.BotIsBot) (a : VP D) :
    VP.isBottom (VP.bottom : VP D) = true ∧ VP.isBottom (VP.setBottom a) = true ∧
    (∀ s, ¬ VP.γ (VP.bottom : VP D) s) ∧ (∀ s, ¬ VP.γ (VP.setBottom a) s) ∧
    VP.Inv (VP.bottom : VP D) ∧ VP.Inv (VP.setBottom a) := by
  have h1 : VP.isBottom (VP.bottom : VP D) = true := by
    simp only [VP.isBottom, VP.bottom, List.all_cons, List.all_nil, Bool.and_true]; exact hb
  have h2 : VP.isBottom (VP.setBottom a) = true := by
    simp only [VP.isBottom, VP.setBottom, List.all_cons, List.all_nil, Bool.and_true]; exact hb
  exact ⟨h1, h2, VP.not_γ_of_isBottom h1, VP.not_γ_of_isBottom h2, VP.inv_single _ _, VP.inv_single _ _⟩

/-- everything is below `make_top()` -/
theorem C04.vpart_le_top (ht : D.TopIsTop) (a : VP D) : VP.leq a VP.top = true :=
  have : VP.isTop (VP.top : VP D) = true := by
    simp only [VP.isTop, VP.top, List.all_cons, List.all_nil, Bool.and_true]; exact ht
  binop_cases (· = true) (fun _ => rfl) (fun _ _ => rfl) fun _ h => absurd this h

/-- `|`, `|=` are upper bounds -/
theorem C04.vpart_join_upper {a b : VP D} (ha : VP.Inv a) (hb : VP.Inv b) (s : S) :
    (VP.γ a s → VP.γ (VP.join a b) s) ∧ (VP.γ b s → VP.γ (VP.join a b) s) :=
  ⟨fun h => VP.join_sound ha hb s (Or.inl h), fun h => VP.join_sound ha hb s (Or.inr h)⟩

/-- `&` contains the intersection unless it pairs several partitions by position
    (`C03.vpart_meet_sound_counterexample` for that branch) -/
theorem C04.vpart_meet_sound_partial {a b : VP D} (ha : VP.Inv a) (hb : VP.Inv b)
    (he : VP.eltwise a b = false) (s : S) : VP.γ a s → VP.γ b s → VP.γ (VP.meet a b) s :=
  C03.vpart_meet_sound_partial ha hb he s

/-- `&` is NOT below its operands (the partitions are joined first when the operands partition
    differently: "the solution here is sub-optimal"): a precision statement that fails by design -/
def C04.vpart_meet_lower_Statement : Prop :=
  ∀ (V S : Type) [DecidableEq V] (D : VDom V S), D.MeetLower → ∀ (a b : VP D) (s : S),
    VP.Inv a → VP.Inv b → VP.γ (VP.meet a b) s → VP.γ a s

/-- `{x=[0,0] → [0,0], x=[2,2] → [2,2]} & [0,5]` (no partitioning on the right) is `[0,2]` -/
theorem C04.vpart_meet_lower_counterexample : ¬ C04.vpart_meet_lower_Statement := by
  intro h
  let a : VP itvVDom := ⟨some (), [⟨Itv.single 0, WItv.mk 0 0⟩, ⟨Itv.single 2, WItv.mk 2 2⟩]⟩
  let b : VP itvVDom := ⟨none, [⟨Itv.top, WItv.mk 0 5⟩]⟩
  have h1 := h Unit Int itvVDom itvDom_meetLower a b 1 (VP.inv_of_some (x := ()) rfl (by simp [a]))
    (VP.inv_single _ _) ⟨_, List.mem_singleton.2 rfl, by decide⟩
  obtain ⟨p, hp, hg⟩ := h1
  simp only [a, List.mem_cons, List.mem_nil_iff, or_false] at hp
  rcases hp with rfl | rfl
  · exact absurd hg (by decide)
  · exact absurd hg (by decide)

/-- `is_bottom()` = every partition is bottom: a yes means empty; it is exact when the base's is -/
theorem C04.vpart_is_bottom_sound {a : VP D} (h : VP.isBottom a = true) (s : S) : ¬ VP.γ a s :=
  VP.not_γ_of_isBottom h s

theorem C04.vpart_is_bottom_complete (hc : D.BotComplete) {a : VP D} (h : ∀ s, ¬ VP.γ a s) :
    VP.isBottom a = true := by
  apply List.all_eq_true.2
  intro p hp
  exact hc p.val (fun s hg => h s ⟨p, hp, hg⟩)

/-- `is_top()` = every partition is top: a yes means every state (the vector is never empty) -/
theorem C04.vpart_is_top_sound (t : D.TopSound) {a : VP D} (ha : VP.Inv a) (h : VP.isTop a = true) (s : S) :
    VP.γ a s := VP.γ_of_isTop t ha.1 h s

/-! ### non-vacuity over the interval instance -/
namespace C04VPartEx

def keys (a : VP itvVDom) : List Itv := a.parts.map (·.key)
def vals (a : VP itvVDom) : List Itv := a.parts.map (·.val.1)

/-- `x ∈ [0,0]`, `x ∈ [5,6]`, `x ∈ [6,20]` without partitioning -/
def a0 : VP itvVDom := ⟨none, [⟨Itv.top, WItv.mk 0 0⟩]⟩
def a1 : VP itvVDom := ⟨none, [⟨Itv.top, WItv.mk 5 6⟩]⟩
def a2 : VP itvVDom := ⟨none, [⟨Itv.top, WItv.mk 6 20⟩]⟩

def s0 := VP.vpStart () a0
def s1 := VP.vpStart () a1
def s2 := VP.vpStart () a2

/-- partition start computes the interval; `|` keeps separated partitions apart and merges the
    ones the third operand overlaps; `<=` sweeps both vectors -/
example : keys s0 = [Itv.single 0] ∧ keys (VP.join s0 s1) = [Itv.single 0, ⟨.fin 5, .fin 6⟩] ∧
    keys (VP.join (VP.join s0 s1) s2) = [Itv.single 0, ⟨.fin 5, .fin 20⟩] ∧
    vals (VP.join (VP.join s0 s1) s2) = [Itv.single 0, ⟨.fin 5, .fin 20⟩] ∧
    VP.leq (VP.join s0 s1) (VP.join (VP.join s0 s1) s2) = true ∧
    VP.leq (VP.join (VP.join s0 s1) s2) (VP.join s0 s1) = false ∧
    VP.leq (VP.join s0 s1) (VP.join s0 s1) = true ∧
    VP.keysSep (VP.join s0 s1).parts = true := by decide

/-- `x := x + 6` recomputes the intervals (`update_partitions`); partition end joins everything -/
example : keys (VP.assignOp () (itvAddK 6) (VP.join s0 s1)) = [Itv.single 6, ⟨.fin 11, .fin 12⟩] ∧
    vals (VP.vpEnd () (VP.join s0 s1)) = [⟨.fin 0, .fin 6⟩] ∧
    (VP.vpEnd () (VP.join s0 s1)).var = none := by decide

/-- `&` with the same partitions is element-wise, with different ones on the joined values -/
example : vals (VP.meet (VP.join s0 s1) (VP.join s0 s1)) = [Itv.single 0, ⟨.fin 5, .fin 6⟩] ∧
    VP.eltwise (VP.join s0 s1) (VP.join s0 s1) = true ∧
    vals (VP.meet (VP.join s0 s1) s2) = [⟨.fin 6, .fin 6⟩] ∧ VP.eltwise (VP.join s0 s1) s2 = false := by
  decide

/-- the hypotheses of `vpart_leq_sound` hold on this pair: `0 ∈ γ` is carried over -/
example : VP.γ (VP.join (VP.join s0 s1) s2) 0 :=
  C04.vpart_leq_sound itvDom_topSound (a := VP.join s0 s1) (b := VP.join (VP.join s0 s1) s2)
    (VP.join_inv (VP.vpStart_inv _ (VP.inv_single _ _)) (VP.vpStart_inv _ (VP.inv_single _ _)))
    (VP.join_inv (VP.join_inv (VP.vpStart_inv _ (VP.inv_single _ _)) (VP.vpStart_inv _ (VP.inv_single _ _)))
      (VP.vpStart_inv _ (VP.inv_single _ _)))
    (by decide) 0 (VPartEx.γ_of_iMem (by decide))

end C04VPartEx

/-! # `uf_domain`

`operator<=` after repo commit 7d37137 (the loop runs over the variables the RIGHT operand tracks,
the left operand gets a fresh term for a variable it does not track). -/
section uf
open Uf
variable {V F : Type} [DecidableEq V] [DecidableEq F] (I : F → List Int → Int)

/-- a yes of `operator<=` is an inclusion, for every interpretation of the symbols -/
theorem C04.uf_leq_sound {a b : UF V F} (ha : a.WF) (h : UF.leq a b = true) (s : St V) :
    UF.γ I a s → UF.γ I b s := leq_sound I ha h s

/-- reflexive (no variable is tracked twice: `m_var_map` is a `flat_map`) -/
theorem C04.uf_leq_refl (a : UF V F) (hn : match a with | .bot => True | .val u => KeysNodup u.map) :
    UF.leq a a = true := leq_refl a hn

theorem C04.uf_bot_le (b : UF V F) : UF.leq (UF.bottom : UF V F) b = true := rfl

theorem C04.uf_le_top (a : UF V F) : UF.leq a (UF.top : UF V F) = true := by
  match a with
  | .bot => rfl
  | .val u => rfl

/-- `|` (= `||`) is an upper bound -/
theorem C04.uf_join_upper {a b : UF V F} (hb : b.WF) (s : St V) :
    (UF.γ I a s → UF.γ I (UF.join a b) s) ∧ (UF.γ I b s → UF.γ I (UF.join a b) s) :=
  ⟨fun h => C03.uf_join_sound I hb s (Or.inl h), fun h => C03.uf_join_sound I hb s (Or.inr h)⟩

/-- `&` (= `&&`) contains the intersection -/
theorem C04.uf_meet_sound {choose : List (Term F) → Option (Term F)} (hch : ChooseOK choose) {a b : UF V F}
    (ha : a.WF) (s : St V) : UF.γ I a s → UF.γ I b s → UF.γ I (UF.meet choose a b) s := meet_sound I hch ha s

theorem C04.uf_is_bottom_sound {a : UF V F} (h : UF.isBottom a = true) (s : St V) : ¬ UF.γ I a s :=
  not_γ_of_isBottom I h s

theorem C04.uf_is_top_sound {a : UF V F} (h : UF.isTop a = true) (s : St V) : UF.γ I a s :=
  γ_of_isTop I h s

/-- `&` is not below its operands: the pseudo-meet rebuilds every shared variable from its class
    and a class without TERM_APP member becomes a fresh term variable, so constants are lost -/
def C04.uf_meet_lower_Statement : Prop :=
  ∀ (I : Nat → List Int → Int) (choose : List (Term Nat) → Option (Term Nat)), ChooseOK choose →
    ∀ (a b : UF Nat Nat) (s : St Nat), a.WF → b.WF → UF.γ I (UF.meet choose a b) s → UF.γ I a s

/-- `{v0 -> 5} & {v0 -> 5} = {v0 -> $VAR_0}` (printed so by the real code) contains `v0 = 6` -/
theorem C04.uf_meet_lower_counterexample : ¬ C04.uf_meet_lower_Statement := by
  intro h
  let a : UF Nat Nat := UF.assign 0 (.const 5) UF.top
  have ha : a.WF := assign_wf 0 _ wf_top
  have h1 := h (fun _ _ => 0) C03UfEx.ch C03UfEx.ch_ok a a (fun _ => 6) ha ha
    ⟨fun _ => 6, by
      intro p hp
      have : p = (0, Term.var 0) := by revert hp; decide +revert
      rw [this]; rfl⟩
  obtain ⟨ρ, hm⟩ := h1
  have := hm (0, .const 5) (by decide)
  simp [Term.eval] at this

end uf

