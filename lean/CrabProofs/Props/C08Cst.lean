import CrabProofs.Lemmas.Constant
import CrabProofs.Lemmas.ZNumBits

/-!
# C08 (constants) — `crab::domains::constant<z_number>` over-approximates the concrete operations

`Crab.Cst` is the branch-by-branch model (`CrabModel/Scalar/Constant.lean`); `Cst.mem k c` is
`k ∈ γ(c)`.  All statements quantify over all abstract values (bottom, top, every constant)
and all integers; concrete semantics as fixed by the project (see `C08Cong.lean`).
Shift amounts are required to fit a machine word (`k < 2^64`): `z_number::operator<<`/`>>`
shift by `mpz_get_ui` of the amount.
-/
open Crab Crab.Cst

theorem C08.cst_leq_sound (c d : Cst) (h : leq c d = true) (k : Int) (hk : mem k c) : mem k d := by
  cases c <;> cases d <;> simp_all [leq, mem, isBottom, isTop]
theorem C08.cst_leq_refl (c : Cst) : leq c c = true := by cases c <;> simp [leq, isBottom, isTop]
theorem C08.cst_bot_leq (d : Cst) : leq bot d = true := by simp [leq, isBottom]
theorem C08.cst_leq_top (c : Cst) : leq c top = true := by simp [leq, isTop]
/-- the order is exact: it answers yes exactly on included concretisations -/
theorem C08.cst_leq_exact (c d : Cst) : leq c d = true ↔ ∀ k, mem k c → mem k d := by
  constructor
  · intro h k hk; exact C08.cst_leq_sound c d h k hk
  · intro h
    cases c with
    | bot => simp [leq, isBottom]
    | top =>
      cases d with
      | bot => exact absurd (h 0 trivial) (by simp [mem])
      | top => simp [leq, isTop]
      | val n => have := h (n + 1) trivial; simp only [mem] at this; omega
    | val a =>
      cases d with
      | bot => exact absurd (h a rfl) (by simp [mem])
      | top => simp [leq, isTop]
      | val n => have := h a rfl; simp [mem] at this; simp [leq, isBottom, isTop, this]

theorem C08.cst_join_upper (c d : Cst) (k : Int) (hk : mem k c ∨ mem k d) : mem k (join c d) := by
  cases c with
  | bot => cases d <;> simp_all [join, mem, isBottom, isTop]
  | top => cases d <;> simp_all [join, mem, isBottom, isTop]
  | val a =>
    cases d with
    | bot => simp_all [join, mem, isBottom, isTop]
    | top => simp_all [join, mem, isBottom, isTop]
    | val b =>
      simp only [join, isBottom, isTop, Bool.or_self, Bool.false_eq_true, if_false]
      by_cases h : a = b
      · subst h; simp only [mem] at hk; simp only [if_true, mem]; omega
      · simp [h, mem]
theorem C08.cst_widen_upper (c d : Cst) (k : Int) (hk : mem k c ∨ mem k d) : mem k (widen c d) :=
  C08.cst_join_upper c d k hk
/-- meet is exact -/
theorem C08.cst_meet_exact (c d : Cst) (k : Int) : mem k (meet c d) ↔ (mem k c ∧ mem k d) := by
  cases c <;> cases d <;> simp [meet, mem, isBottom, isTop]
  rename_i a b
  by_cases h : a = b
  · simp [h]
  · simp [h]; omega
theorem C08.cst_narrow_sound (c d : Cst) (k : Int) (hc : mem k c) (hd : mem k d) : mem k (narrow c d) :=
  (C08.cst_meet_exact c d k).mpr ⟨hc, hd⟩

theorem C08.cst_add_sound (x y : Cst) (a b : Int) (ha : mem a x) (hb : mem b y) : mem (a + b) (add x y) := by
  exact mem_lift ha hb rfl rfl rfl
theorem C08.cst_sub_sound (x y : Cst) (a b : Int) (ha : mem a x) (hb : mem b y) : mem (a - b) (sub x y) := by
  exact mem_lift ha hb rfl rfl rfl
theorem C08.cst_mul_sound (x y : Cst) (a b : Int) (ha : mem a x) (hb : mem b y) : mem (a * b) (mul x y) := by
  exact mem_lift ha hb rfl rfl rfl
theorem C08.cst_sdiv_sound (x y : Cst) (a b : Int) (ha : mem a x) (hb : mem b y) (hb0 : b ≠ 0) :
    mem (Int.tdiv a b) (sdiv x y) := by
  have hy : y ≠ val 0 := by rintro rfl; exact hb0 hb
  unfold sdiv; rw [if_neg hy]
  rcases eq_of_mem ha with rfl | rfl
  · trivial
  · rcases eq_of_mem hb with rfl | rfl
    · trivial
    · rfl
theorem C08.cst_srem_sound (x y : Cst) (a b : Int) (ha : mem a x) (hb : mem b y) (hb0 : b ≠ 0) :
    mem (Int.tmod a b) (srem x y) := by
  have hy : y ≠ val 0 := by rintro rfl; exact hb0 hb
  unfold srem; rw [if_neg hy]
  rcases eq_of_mem ha with rfl | rfl
  · trivial
  · rcases eq_of_mem hb with rfl | rfl
    · trivial
    · rfl
/-- `UDiv`/`URem` ignore the left operand (`mem a x` is not needed): top unless the divisor is the
    constant 0 -/
theorem C08.cst_udiv_sound (x y : Cst) (a b : Int) (_ha : mem a x) (hb : mem b y) (hb0 : 0 < b) :
    mem (a / b) (udiv x y) := by
  cases y with
  | bot => exact absurd hb (by simp [mem])
  | top => simp [udiv, mem]
  | val n =>
    have : n ≠ 0 := by simp only [mem] at hb; omega
    simp [udiv, mem, this]
theorem C08.cst_urem_sound (x y : Cst) (a b : Int) (_ha : mem a x) (hb : mem b y) (hb0 : 0 < b) :
    mem (a % b) (urem x y) := by
  cases y with
  | bot => exact absurd hb (by simp [mem])
  | top => simp [urem, mem]
  | val n =>
    have : n ≠ 0 := by simp only [mem] at hb; omega
    simp [urem, mem, this]
theorem C08.cst_and_sound (x y : Cst) (a b : Int) (ha : mem a x) (hb : mem b y) :
    mem (ZNum.land a b) (and x y) := by
  exact mem_lift ha hb rfl rfl rfl
theorem C08.cst_or_sound (x y : Cst) (a b : Int) (ha : mem a x) (hb : mem b y) :
    mem (ZNum.lor a b) (or x y) := by
  exact mem_lift ha hb rfl rfl rfl
theorem C08.cst_xor_sound (x y : Cst) (a b : Int) (ha : mem a x) (hb : mem b y) :
    mem (ZNum.lxor a b) (xor x y) := by
  exact mem_lift ha hb rfl rfl rfl

theorem C08.cst_shl_sound (x y : Cst) (a k : Int) (ha : mem a x) (hk : mem k y) (hk0 : 0 ≤ k)
    (hk1 : k < 2 ^ 64) : mem (a * 2 ^ k.toNat) (shl x y) := by
  refine mem_lift ha hk rfl rfl ?_
  show mem _ (if k ≥ 0 then val (ZNum.shl a k) else top)
  rw [if_pos hk0, ZNum.shl_eq hk0 hk1]; rfl
theorem C08.cst_ashr_sound (x y : Cst) (a k : Int) (ha : mem a x) (hk : mem k y) (hk0 : 0 ≤ k)
    (hk1 : k < 2 ^ 64) : mem (a / 2 ^ k.toNat) (ashr x y) := by
  refine mem_lift ha hk rfl rfl ?_
  show mem _ (if k ≥ 0 then val (ZNum.shr a k) else top)
  rw [if_pos hk0, ZNum.shr_eq hk0 hk1]; rfl
/-- `BitwiseLShr` answers top for a negative left operand, so no sign hypothesis is needed -/
theorem C08.cst_lshr_sound (x y : Cst) (a k : Int) (ha : mem a x) (hk : mem k y) (hk0 : 0 ≤ k)
    (hk1 : k < 2 ^ 64) : mem (a / 2 ^ k.toNat) (lshr x y) := by
  refine mem_lift ha hk rfl rfl ?_
  show mem _ (if a ≥ 0 then (if k ≥ 0 then val (ZNum.shr a k) else top) else top)
  by_cases h : a ≥ 0
  · rw [if_pos h, if_pos hk0, ZNum.shr_eq hk0 hk1]; rfl
  · rw [if_neg h]; trivial

/-- non-vacuity -/
example : mem 6 (val 6) ∧ mem (-4) (val (-4)) ∧ sdiv (val 6) (val (-4)) = val (-1) ∧
    join (val 1) (val 2) = top ∧ meet (val 1) (val 2) = bot := by
  refine ⟨by decide, by decide, by decide, by decide, by decide⟩
