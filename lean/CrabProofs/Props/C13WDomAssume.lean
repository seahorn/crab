import CrabProofs.Props.C13WDomEnv
import CrabProofs.Lemmas.LinSys

/-!
# C13 (part 6) — `wrapped_interval_domain::operator+=` : a genuine unsoundness

Meaning of a linear constraint for this domain: the one the class announces
(`propagate`: "cst is always signed"; `to_linear_constraint_system`: "we interpret wrapint as
signed mathematical integers"): every variable is read as the **signed** number of its bit-vector
and the expression is evaluated over the mathematical integers (`C13.satSigned`).

`linear_interval_solver::compute_residual` computes `c - Σ aᵢ·xᵢ` with wrapped intervals of the
width of the pivot, i.e. modulo `2^w`, and `propagate` then reads the result as a signed number
(`lower_half_line(rhs, true)` / `upper_half_line(rhs, true)`).  As soon as the mathematical
residual leaves `[-2^(w-1), 2^(w-1) - 1]` the refinement is wrong although nothing overflows in
the constraint itself.

Failing input (confirmed on the real code, harness/h_wdom.cpp):
  8-bit `x = -128`, `y` unconstrained, `assume(x - y <= 1)`.
  Pivot `y` (coefficient -1): residual `1 - (-128) = 129 ≡ -127 (mod 256)`; `-127 / -1 = 127`;
  `upper_half_line` gives `y ∈ [127, 127]`.  But `x = -128, y = 0` satisfies `-128 - 0 <= 1`.
-/
open Crab Crab.WInt Crab.WrapInt Crab.WDom Crab.XDom Crab.Lin

/-- signed number of the `w`-bit vector whose unsigned value is `n` -/
def C13.sval (w n : Nat) : Int := (BitVec.ofNat w n).toInt

/-- a linear constraint under the signed mathematical reading of the variables -/
def C13.satSigned (wd : Ty) (σ : Var → Nat) (c : Lin.Cst) : Bool :=
  let v := c.expr.eval (fun x => C13.sval (wd x) (σ x))
  match c.kind with
  | .leq => decide (v ≤ 0)
  | .lt => decide (v < 0)
  | .eq => decide (v = 0)
  | .neq => decide (v ≠ 0)

/-- the expected law of `operator+=`: the states of the input that satisfy the constraints are
    states of the result -/
def C13.wdom_assume_Statement : Prop :=
  ∀ (wd : Ty), C13.TyOk wd → ∀ (e r : WDom.Env) (csts : Sys), Inv e → Typed wd e →
    e.add wd csts = some r → ∀ σ : Var → Nat, C13.StOk wd σ → γ wd e σ →
    (∀ c ∈ csts, C13.satSigned wd σ c = true) → γ wd r σ

namespace C13.AssumeCex
/-- all variables are 8-bit -/
def wd : Ty := fun _ => 8
/-- `{x ↦ [-128, -128]}` -/
def e0 : WDom.Env := WDom.Env.top.set 0 (WInt.single ⟨8, 128⟩)
/-- `x - y - 1 <= 0` -/
def c0 : Lin.Cst := ⟨⟨[(0, 1), (1, -1)], -1⟩, .leq⟩
/-- `x = -128` (unsigned 128), everything else 0 -/
def σ0 : Var → Nat := upd (fun _ => 0) 0 128
end C13.AssumeCex

open C13.AssumeCex in
/-- the code answers `y ∈ [127, 127]` -/
theorem C13.wdom_assume_answer :
    (e0.add wd [c0]).map (fun r => (r.isBot, r.get 0, r.get 1)) =
      some (false, W 8 128 128 false, W 8 127 127 false) := by decide

open C13.AssumeCex in
/-- **`operator+=` is unsound**: `x = -128, y = 0` satisfies `x - y <= 1` and is lost -/
theorem C13.wdom_assume_counterexample : ¬ C13.wdom_assume_Statement := by
  intro h
  have hty : C13.TyOk wd := fun _ => ⟨by show 1 ≤ 8; decide, by show 8 ≤ 64; decide⟩
  have hgood : Good (wd 0) (WInt.single ⟨8, 128⟩) := good_of_shape (by decide)
  have hinv := C13.wdom_set_sound wd WDom.Env.top 0 (by decide) (WInt.single ⟨8, 128⟩) inv_top
  have hγ : γ wd e0 σ0 :=
    (set_spec (wd := wd) inv_top (by decide)).2.2 _ 128 (γ_top wd (fun _ => 0)) (by decide : mem (wd 0) 128 (WInt.single ⟨8, 128⟩))
  have hst : C13.StOk wd σ0 := by
    intro k; unfold σ0 upd wd; split
    · decide
    · show 0 < 2 ^ 8; decide
  have hsat : ∀ c ∈ [c0], C13.satSigned wd σ0 c = true := by
    intro c hc; simp only [List.mem_singleton] at hc; subst hc; decide
  have key := C13.wdom_assume_answer
  cases hr : e0.add wd [c0] with
  | none => rw [hr] at key; cases key
  | some r =>
    rw [hr] at key
    simp only [Option.map_some, Option.some.injEq, Prod.mk.injEq] at key
    have hres := h wd hty e0 r [c0] hinv.1 (hinv.2.1 (typed_top wd) hgood) hr σ0 hst hγ hsat
    have hm := hres.2 1
    rw [key.2.2] at hm
    exact absurd hm (by decide)

/-! ## what is proved of `operator+=`

Only the part of `operator+=` that does not go through `propagate`: the constructor of the solver
(well-typedness filter, tautologies dropped, contradiction detected).  The hypothesis is
decidable: after preprocessing the table of constraints is empty or a contradiction was found. -/

/-- the decidable side condition of `C13.wdom_assume_partial` -/
def C13.assumeTrivial (wd : Ty) (csts : Sys) : Bool :=
  let wt := csts.foldl (fun s c => if wellTyped wd c then Sys.addCst s c else s) []
  let p := prepLoop wt [] 0
  p.contradiction || p.tbl.isEmpty

theorem C13.prepLoop_contradiction : ∀ (cs tbl : List Lin.Cst) (opc : Nat),
    (prepLoop cs tbl opc).contradiction = true → ∃ c ∈ cs, c.isContradiction = true := by
  intro cs
  induction cs with
  | nil => intro tbl opc h; simp [prepLoop] at h
  | cons c rest ih =>
    intro tbl opc h
    unfold prepLoop at h
    split at h
    · next hc => exact ⟨c, List.mem_cons_self .., hc⟩
    · split at h
      · obtain ⟨c', h1, h2⟩ := ih _ _ h; exact ⟨c', List.mem_cons_of_mem _ h1, h2⟩
      · split at h
        · obtain ⟨c', h1, h2⟩ := ih _ _ h; exact ⟨c', List.mem_cons_of_mem _ h1, h2⟩
        · obtain ⟨c', h1, h2⟩ := ih _ _ h; exact ⟨c', List.mem_cons_of_mem _ h1, h2⟩

theorem C13.filter_subset (wd : Ty) : ∀ (csts : Sys) (acc : Sys) (c : Lin.Cst),
    c ∈ csts.foldl (fun s c => if wellTyped wd c then Sys.addCst s c else s) acc → c ∈ acc ∨ c ∈ csts := by
  intro csts
  induction csts with
  | nil => intro acc c h; exact Or.inl h
  | cons d rest ih =>
    intro acc c h
    simp only [List.foldl_cons] at h
    rcases ih _ c h with h1 | h1
    · split at h1
      · rcases Sys.mem_addCst.mp h1 with h2 | h2
        · exact Or.inl h2
        · exact Or.inr (h2 ▸ List.mem_cons_self ..)
      · exact Or.inl h1
    · exact Or.inr (List.mem_cons_of_mem _ h1)

/-- a contradiction is not satisfied by any state -/
theorem C13.contradiction_unsat (wd : Ty) (σ : Var → Nat) (c : Lin.Cst) (h : c.isContradiction = true) :
    C13.satSigned wd σ c = false := by
  unfold Lin.Cst.isContradiction at h
  unfold C13.satSigned
  have hev : ∀ (hc : c.expr.isConstant = true), c.expr.eval (fun x => C13.sval (wd x) (σ x)) = c.expr.constant := by
    intro hc
    unfold Expr.isConstant at hc
    have : c.expr.terms = [] := by simpa using hc
    simp [Expr.eval, this, Expr.evalTerms, Expr.constant]
  cases hk : c.kind <;> rw [hk] at h <;> simp only [Bool.and_eq_true] at h <;> simp only [hev h.1]
  · simpa using h.2
  · simpa using h.2
  · have := h.2; simp only [decide_eq_true_eq] at this; simp; omega
  · have := h.2; simp only [decide_eq_true_eq] at this; simp; omega

/-- **`operator+=`, the part that is sound**: when the preprocessing of the solver leaves no
    constraint to propagate, or finds a contradiction -/
theorem C13.wdom_assume_partial (wd : Ty) (e r : WDom.Env) (csts : Sys)
    (htriv : C13.assumeTrivial wd csts = true) (h : e.add wd csts = some r)
    (σ : Var → Nat) (hg : γ wd e σ) (hsat : ∀ c ∈ csts, C13.satSigned wd σ c = true) : γ wd r σ := by
  unfold Env.add at h
  have nb : e.isBot = false := hg.1
  simp only [nb, Bool.false_eq_true, if_false] at h
  unfold C13.assumeTrivial at htriv
  simp only [Bool.or_eq_true] at htriv
  unfold solverRun at h
  rcases htriv with hc | ht
  · exfalso
    obtain ⟨c, hmem, hcon⟩ := C13.prepLoop_contradiction _ _ _ hc
    have hin : c ∈ csts := by
      rcases C13.filter_subset wd csts [] c hmem with h1 | h1
      · cases h1
      · exact h1
    have := C13.contradiction_unsat wd σ c hcon
    rw [hsat c hin] at this; cases this
  · cases hcon : (prepLoop (csts.foldl (fun s c => if wellTyped wd c then Sys.addCst s c else s) []) [] 0).contradiction
    · have htbl : (prepLoop (csts.foldl (fun s c => if wellTyped wd c then Sys.addCst s c else s) []) [] 0).tbl = [] := by
        simpa using ht
      simp only [hcon, Bool.false_eq_true, if_false, htbl] at h
      have key : ∀ (cond : Bool) (mo : Nat), (if cond = true then solveLarge wd [] mo ⟨e, [], 0⟩
          else solveSmallLoop wd [] maxReductionCycles ⟨e, [], 0⟩) = some (false, ⟨e, [], 0⟩) := by
        intro cond mo
        split
        · simp [solveLarge, solveLargeLoop, propagateAll]
        · simp [solveSmallLoop, propagateAll, maxReductionCycles]
      rw [key] at h
      simp only [Option.some.injEq] at h
      subst h; exact hg
    · exfalso
      obtain ⟨c, hmem, hcc⟩ := C13.prepLoop_contradiction _ _ _ hcon
      have hin : c ∈ csts := by
        rcases C13.filter_subset wd csts [] c hmem with h1 | h1
        · cases h1
        · exact h1
      have := C13.contradiction_unsat wd σ c hcc
      rw [hsat c hin] at this; cases this

/-- non-vacuity: a tautology and an ill-typed constraint are dropped; a contradiction is found -/
example : C13.assumeTrivial (fun v => if v = 0 then 8 else 32) [⟨⟨[], -3⟩, .leq⟩, ⟨⟨[(0, 1), (1, -1)], 0⟩, .leq⟩] = true ∧
    C13.assumeTrivial (fun _ => 8) [⟨⟨[(0, 1)], 0⟩, .leq⟩, ⟨⟨[], 1⟩, .leq⟩] = true := by decide

/-! ## non-vacuity of the environment-level theorems (`C13WDomEnv.lean`, `C13WDomHist.lean`) -/

open C13.AssumeCex in
/-- a non-bottom, non-top, well-typed environment with the invariant and a state it describes -/
example : Inv e0 ∧ Typed wd e0 ∧ γ wd e0 σ0 ∧ XDom.Env.isTop e0 = false ∧ e0.isBot = false := by
  have hgood : Good (wd 0) (WInt.single ⟨8, 128⟩) := good_of_shape (by decide)
  have hinv := C13.wdom_set_sound wd WDom.Env.top 0 (by decide) (WInt.single ⟨8, 128⟩) inv_top
  exact ⟨hinv.1, hinv.2.1 (typed_top wd) hgood,
    (set_spec (wd := wd) inv_top (by decide)).2.2 _ 128 (γ_top wd (fun _ => 0)) (by decide : mem (wd 0) 128 (WInt.single ⟨8, 128⟩)),
    by decide, by decide⟩

open C13.AssumeCex in
/-- the transformers compute proper intervals with wrap-around: `y := x + 1`, `z := y * 2`
    (`-127 * 2 = -254 ≡ 2`), `z := x /s y` , casts -/
example :
    ((e0.applyCst wd .add 1 0 1).bind (fun r => (r.applyCst wd .mul 2 1 2).map (fun r => (r.get 1, r.get 2)))) =
      some (W 8 129 129 false, W 8 2 2 false) ∧
    (e0.cast (fun v => if v = 3 then 32 else 8) .sext 3 0).map (fun r => r.get 3) = some (W 32 4294967168 4294967168 false) ∧
    (e0.cast (fun v => if v = 3 then 32 else 8) .zext 3 0).map (fun r => r.get 3) = some (W 32 128 128 false) ∧
    (e0.cast (fun v => if v = 3 then 1 else 8) .trunc 3 0).map (fun r => r.get 3) = some WInt.top := by decide
