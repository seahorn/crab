import CrabProofs.Lemmas.XDomSgnOps

/-!
# C04 for `sign_domain<z_number>` — inclusion test, lattice operations, `is_bottom`, `is_top`
and `entails` agree with the concretisation (proved on the exact model `Crab.SDom`, see
`Props/C03Sgn.lean` for the model, the correspondence and the hypotheses `Inv`, `CstOk`).
Widening is the join and narrowing the meet in this domain.
-/
open Crab Crab.SDom Crab.XDom Crab.Lin

/-- a yes answer of `operator<=` is an inclusion of concretisations -/
theorem C04.sgndom_leq_sound (a b : Env) (ha : a.Inv) (hb : b.Inv) (σ : State)
    (h : XDom.Env.leq signLattice a b = true) (hg : a.γ σ) : b.γ σ := XDom.Env.leq_sound signLaws ha hb h hg

/-- yes on equal values, with bottom on the left, with top on the right -/
theorem C04.sgndom_leq_refl (a : Env) (ha : a.Inv) : XDom.Env.leq signLattice a a = true :=
  XDom.Env.leq_refl signLaws ha
theorem C04.sgndom_bot_le (b : Env) : XDom.Env.leq signLattice SDom.Env.bot b = true :=
  XDom.Env.leq_of_bot rfl b
theorem C04.sgndom_leq_bottom_left (a b : Env) (h : a.isBot = true) : XDom.Env.leq signLattice a b = true :=
  XDom.Env.leq_of_bot h b
theorem C04.sgndom_le_top (a : Env) (ha : a.Inv) : XDom.Env.leq signLattice a SDom.Env.top = true :=
  XDom.Env.leq_top signLaws ha

/-- `is_bottom()` answers yes exactly on the values that describe no state -/
theorem C04.sgndom_is_bottom_iff (e : Env) (he : e.Inv) : XDom.Env.isBottom e = true ↔ ∀ σ, ¬ e.γ σ :=
  XDom.Env.isBottom_iff signLaws he

/-- `is_top()` answers yes exactly on the values that describe every state -/
theorem C04.sgndom_is_top_iff (e : Env) (he : e.Inv) : XDom.Env.isTop e = true ↔ ∀ σ, e.γ σ :=
  XDom.Env.isTop_iff signLaws he

/-- `make_bottom` describes no state, `make_top` describes every state -/
theorem C04.sgndom_bot_empty (σ : State) : ¬ SDom.Env.bot.γ σ := XDom.Env.not_γ_bot σ
theorem C04.sgndom_top_all (σ : State) : SDom.Env.top.γ σ := XDom.Env.γ_top signLaws σ
theorem C04.sgndom_top_is_top : XDom.Env.isTop SDom.Env.top = true ∧ XDom.Env.isBottom SDom.Env.bot = true := by
  decide

/-- join contains both arguments -/
theorem C04.sgndom_join_upper (a b : Env) (ha : a.Inv) (hb : b.Inv) (σ : State) (h : a.γ σ ∨ b.γ σ) :
    Env.γ (XDom.Env.join signLattice a b) σ := XDom.Env.upper_sound signLaws signLaws.join ha hb h

/-- meet is below both arguments … -/
theorem C04.sgndom_meet_lower (a b : Env) (ha : a.Inv) (hb : b.Inv) (σ : State)
    (h : Env.γ (XDom.Env.meet signLattice a b) σ) : a.γ σ ∧ b.γ σ :=
  XDom.Env.lower_below signLaws signLaws.meet (fun _ _ _ hk => meet_lower hk) ha hb h

/-- … and describes exactly the common states -/
theorem C04.sgndom_meet_iff (a b : Env) (ha : a.Inv) (hb : b.Inv) (σ : State) :
    Env.γ (XDom.Env.meet signLattice a b) σ ↔ (a.γ σ ∧ b.γ σ) :=
  ⟨C04.sgndom_meet_lower a b ha hb σ, fun ⟨h1, h2⟩ => XDom.Env.lower_sound signLaws signLaws.meet ha hb h1 h2⟩

/-- widening (`operator||`, `widening_thresholds`: the join) contains both arguments -/
theorem C04.sgndom_widen_upper (a b : Env) (ha : a.Inv) (hb : b.Inv) (σ : State) (h : a.γ σ ∨ b.γ σ) :
    (SEnv.widen ⟨a, ha⟩ ⟨b, hb⟩).γ σ := XDom.Env.upper_sound signLaws signLaws.join ha hb h

/-- narrowing (`operator&&`: the meet) keeps the common states -/
theorem C04.sgndom_narrow_sound (a b : Env) (ha : a.Inv) (hb : b.Inv) (σ : State) (h1 : a.γ σ) (h2 : b.γ σ) :
    (SEnv.narrow ⟨a, ha⟩ ⟨b, hb⟩).γ σ := XDom.Env.lower_sound signLaws signLaws.meet ha hb h1 h2

/-- `entails(cst)` (`DEFAULT_ENTAILS`): a yes answer holds in every state of `γ` -/
theorem C04.sgndom_entails_sound (e : Env) (he : e.Inv) (σ : State) (c : Lin.Cst) (hc : CstOk c) (hg : e.γ σ)
    (h : e.entails c = true) : c.sat σ := SDom.Env.entails_sound he hg hc h

/-- non-vacuity: `{x > 0} <= {x >= 0}`, not the converse; `{x > 0}` entails `-x <= 0` -/
example : XDom.Env.leq signLattice (SDom.Env.top.set 0 .gtz) (SDom.Env.top.set 0 .gez) = true ∧
    XDom.Env.leq signLattice (SDom.Env.top.set 0 .gez) (SDom.Env.top.set 0 .gtz) = false ∧
    (SDom.Env.top.set 0 .gtz).entails ⟨⟨[(0, -1)], 0⟩, .leq⟩ = true ∧
    XDom.Env.bindings (XDom.Env.join signLattice (SDom.Env.top.set 0 .gtz) (SDom.Env.top.set 0 .eqz)) = [(0, .gez)] := by
  decide +kernel
