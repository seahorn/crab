import CrabProofs.Lemmas.RCheckerSound

/-!
# C02 on programs with references — `safe` / `unreachable` verdicts of the assertion checker

Model: `CrabModel/Analysis/RChecker.lean` (`assert_property_checker::check(assert_ref_t&)`,
`check(assert_t&)`, `check(bool_assert_t&)`, the statement loop of `intra_checker::run`) over the
syntax `CrabModel/IR/RSyntax.lean`.  Semantics: `CrabModel/IR/RSemantics.lean` (heap operations
of `CrabModel/Dom/RegionSem.lean`) — an assertion executed in state σ emits `check b i σ ok`,
`ok = false` iff it fails.

* `C02.ref_negate_is_negation` : `reference_constraint::negate` (the checker assumes the negated
  constraint) holds exactly when the constraint does not;
* `C02.assert_ref_safe_sound`, `C02.assert_ref_unreachable_sound` : the decision rule of
  `check(assert_ref_t&)`;
* `C02.rcheckBlock_sound` : the statement loop, for one block and any execution of the block
  started in a state of the block-entry invariant (integer, boolean and reference assertions);
* `C02.rfwd_checker_sound` : whole programs, given invariants at block entries that contain
  every state with which an execution arrives (C01's conclusion).

What the theorems assume of the abstract domain is exactly `RCheckDom` (soundness of
`is_bottom`, `entails`, `assume_bool`, `ref_assume`) and `RTrSound` (soundness of the forward
transformer); for `region_domain` these are tested by `harness/h_rprog.cpp` / `Driver/RProgH.lean`
and `harness/h_rgn.cpp` / `Driver/RgnH.lean`, not proved.  The discharge of assertions by the
combined forward+backward analysis is not covered for programs with references (without
references: `Props/C02FwdBwd.lean`).
-/
open Crab Crab.RIR Crab.Analysis

theorem C02.ref_negate_is_negation (c nc : RefCst) (σ : RState) (h : c.negate = some nc) :
    nc.holds σ = !c.holds σ :=
  RefCst.negate_holds c nc σ h

/-- if the abstract pre-state contains the concrete state and the verdict rule of
    `check(assert_ref_t&)` says `safe`, the assertion holds: the statement has the successor σ -/
theorem C02.assert_ref_safe_sound {A : Type} (D : RCheckDom A) (inv : A) (c : RefCst) (σ : RState) (ch : Int)
    (h : checkAssertRef D inv c = some .safe) (hγ : D.γ inv σ) :
    stepStmt D.nI (.assertRef c) σ ch = .next σ := by
  simp [stepStmt, checkAssertRef_safe D inv c σ h hγ]

theorem C02.assert_ref_unreachable_sound {A : Type} (D : RCheckDom A) (inv : A) (c : RefCst) (σ : RState)
    (h : checkAssertRef D inv c = some .unreachable) : ¬ D.γ inv σ :=
  checkAssertRef_unreachable D inv c σ h

/-- one block: if the execution of block `b` starts in a state of the invariant the checker
    starts from, an assertion classified `unreachable` is not executed and an assertion
    classified `safe` does not fail -/
theorem C02.rcheckBlock_sound {A : Type} (D : RCheckDom A) (tr : Stmt → A → A) (htr : RTrSound D tr)
    (p : Program) (hn : p.nI = D.nI) (pre : Nat → A) (b : Nat) (σ : RState) (ch : List Int) (hγ : D.γ (pre b) σ)
    (res : List (Nat × CheckKind)) (hres : rcheckBlock D tr p pre b = some res)
    (j : Nat) (σ' : RState) (ok : Bool) (v : CheckKind)
    (hev : Event.check b j σ' ok ∈ (runBlock p b σ ch).events)
    (hv : (j, v) ∈ res) :
    v ≠ .unreachable ∧ (v = .safe → ok = true) := by
  unfold runBlock at hev
  rw [hn] at hev
  exact rcheckStmts_sound D tr htr b _ 0 (pre b) σ ch res hγ hres j σ' ok v hev hv

/-- C02 (forward analysis, programs with references): given invariants at the block entries that
    contain every state with which an execution from an initial state arrives, no execution
    reaches an assertion classified `unreachable`, and no execution fails an assertion
    classified `safe`. -/
theorem C02.rfwd_checker_sound {A : Type} (D : RCheckDom A) (tr : Stmt → A → A) (htr : RTrSound D tr)
    (p : Program) (hn : p.nI = D.nI) (pre : Nat → A) (Init : RState → Prop)
    (hpre : ∀ n σ0 ch b σ, Init σ0 → Event.enter b σ ∈ RIR.run p n σ0 ch → D.γ (pre b) σ)
    (n : Nat) (σ0 : RState) (ch : List Int) (h0 : Init σ0)
    (b j : Nat) (σ' : RState) (ok : Bool) (v : CheckKind)
    (res : List (Nat × CheckKind)) (hres : rcheckBlock D tr p pre b = some res)
    (hev : Event.check b j σ' ok ∈ RIR.run p n σ0 ch)
    (hv : (j, v) ∈ res) :
    v ≠ .unreachable ∧ (v = .safe → ok = true) := by
  obtain ⟨σ, ch', hen, hc⟩ := rexec_check_of_enter p n p.entry σ0 ch b j σ' ok hev
  exact C02.rcheckBlock_sound D tr htr p hn pre b σ ch' (hpre n σ0 ch b σ h0 hen) res hres j σ' ok v hc hv

/-! ### an assertion that every execution fails: `r0 := make_ref(g0, 4); assert_ref(r0 == NULL)` -/

/-- `B0: r0 := make_ref(g0, 4, site 0); assert_ref(r0 == NULL)` (entry = exit); the test program
    of crab's commit 167875f (the forward+backward analysis must not report the assertion
    `safe`). -/
def C02.makeNullProg : Program :=
  ⟨0, 1, 0, 0, #[⟨[.makeRef 0 0 (.const 4) 0, .assertRef (RefCst.mk' (some 0) none 0 .eq)], []⟩]⟩

/-- every execution of that program fails the assertion (`make_ref` returns a non-null
    reference): its trace contains the event `check B0 #1 … false` -/
theorem C02.makeNull_assert_fails (iv : Array Int) (b : Bool) :
    (RIR.run C02.makeNullProg 1 (initState iv b) []).any
      (fun e => match e with | .check 0 1 _ false => true | _ => false) = true := by
  simp [RIR.run, exec, runBlock, C02.makeNullProg, Program.block, runStmts, stepStmt, Stmt.usesChoice,
    Stmt.isAssert, ofOpt, Rgn.State.refMake, dynSite, initState, Rgn.State.blockOf, RefCst.mk', RefCst.holds,
    RKind.cmp, refAddr, Rgn.State.setRef, Rgn.State.setMem, Rgn.upd, Rgn.RefVal.toInt]

/-! ### non-vacuity -/

/-- a domain with two values (`false` = no state, `true` = every state) that entails nothing and
    whose `ref_assume` keeps the value -/
def C02.RExample.dom : RCheckDom Bool where
  nI := 0
  γ := fun a _ => a = true
  isBottom := fun a => !a
  entails := fun _ _ => false
  assumeBool := fun a _ _ => a
  refAssume := fun a _ => a
  isBottom_sound := by intro a σ h; simpa using h
  entails_sound := by intro a c σ h; cases h
  assumeBool_sound := by intro a b neg σ h _; exact h
  refAssume_sound := by intro a c σ h _; exact h

theorem C02.RExample.tr_sound : RTrSound C02.RExample.dom (fun _ a => a) := by
  intro s a σ ch σ' h _; exact h

/-- the checker model on the program above: `warning` when the block is reachable,
    `unreachable` with a bottom invariant -/
example : rcheckBlock C02.RExample.dom (fun _ a => a) C02.makeNullProg (fun _ => true) 0 = some [(1, .warning)] := by decide
example : rcheckBlock C02.RExample.dom (fun _ a => a) C02.makeNullProg (fun _ => false) 0 = some [(1, .unreachable)] := by decide
/-- the negation the checker assumes for `r0 == NULL` is `r0 != NULL` -/
example : (RefCst.mk' (some 0) none 0 .eq).negate = some ⟨.ne, some 0, none, 0⟩ := by decide
/-- `p <= q + 8` is negated to `q < p - 8` -/
example : (RefCst.mk' (some 0) (some 1) 8 .le).negate = some ⟨.lt, some 1, some 0, -8⟩ := by decide
