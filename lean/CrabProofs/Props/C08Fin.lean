import CrabProofs.Lemmas.SignCls

/-!
# C08 (finite abstractions) — `sign<z_number>` and `boolean_value`, proved about the extracted tables

`CrabModel/Gen/SignTable.lean` and `BoolTable.lean` are regenerated from the current tree by
every check (`tools/tables.py`, `harness/t_tables.cpp`): they list the answer of the code for
**every** operation on **every** pair of abstract values.  The model of an operation is the
table lookup (`Sign.binop`, `BoolV.binop`, …).  The theorems below are proved from

* kernel-evaluated checks of the generated tables (`decide +kernel`, re-run whenever a table
  changes; a table that stops passing makes the build fail), and
* the partition lemma `SOp.clsOp_sound` (once and for all): on all integers, the sign class
  of `op a b` is among `SOp.clsOp op (class a) (class b)`.

What is evaluated (everything else is reasoned):

| check | enumerates | consumed by |
|---|---|---|
| `Sign.keysCheck_ok` (SignCls) | the 960 keys of `signTable` against `Sign.keys` | `Sign.binop_total` (every lookup succeeds), `C08.sgn_table_complete` |
| `Sign.tableCheck_ok` (SignCls) | `Sign.entryOk` on the 960 rows | `C08.sgn_op_sound`, `Sign.binop_total` |
| `Sign.lattice_rows_exact` (SignCls) | the 128 join / meet rows: union / intersection of classes | `C08.sgn_join_upper`, `C08.sgn_meet_sound`, the lattice laws and widening measure of `sign_domain` |
| `SOp.rules_cover` (SignCls) | 15 operations × 27 class triples: `clsOp` allows what the sign rules allow | `SOp.clsOp_sound` |
| `C08.sgn_leq_table_exact` | `Sign.leqCheck`: 64 pairs of `signLeqTable` | `C08.sgn_leq_*`, `SDom.beq_eq` |
| `C08.sgn_toInterval_table_ok` | `Sign.toItvCheck`: 8 rows × 3 classes | `C08.sgn_toInterval_sound` |
| `C08.sgn_ofInt_table` | the 5 rows of `signOfNumTable` | itself (the hand model `Sign.ofInt` agrees) |
| `C08.bool_table_complete`, `C08.bool_table_ok` | the 112 rows of `boolTable` | `C08.bool_*_sound` |
| `C08.bool_neg_table_ok`, `C08.bool_leq_table_exact` | `BoolV.negCheck` (4 rows), `BoolV.leqCheck` (16 pairs) | `C08.bool_neg_sound`, `C08.bool_leq_*` |
| `SDom.divCheck_ok` (XDomSgnSolve) | the 16 rows `x / s`, `s` `< 0` or `> 0` | `sign_domain::solve_constraints` (`C03.sgndom_solve_one_sound`, `C03.sgndom_neq_branch_dead`) |

`Sign.mem k s` : `k ∈ γ(s)` (γ(ltz) = negative numbers, …); `BoolV.mem b v` likewise over `Bool`.
What is claimed per operation is `SOp.clsOp` (CrabModel/Scalar/FinTypes.lean): exact classes for
`+ - * / srem udiv urem shl ashr lshr`; for `and or xor` only "0 is absorbing/neutral".
Concrete operations: `SOp.conc` (`none` = no successor: zero divisor, negative shift amount,
unsigned operation on a negative number).
-/
open Crab

/-! ## sign -/

/-- the table has exactly one entry for each of the 15 × 8 × 8 cases, in canonical order -/
theorem C08.sgn_table_complete : Sign.keysCheck = true := Sign.keysCheck_ok

/-- every entry (none is a CRAB_ERROR) passes the side condition -/
theorem C08.sgn_table_ok : Sign.tableCheck = true := Sign.tableCheck_ok

/-- every operation of `sign` over-approximates the concrete one: all operations × all pairs
    of abstract values × all integers -/
theorem C08.sgn_op_sound (op : SOp) (x y res : Sign) (a b r : Int)
    (hl : Sign.binop op x y = some res)
    (ha : Sign.mem a x) (hb : Sign.mem b y) (hc : op.conc a b = some r) : Sign.mem r res := by
  have := List.all_eq_true.mp C08.sgn_table_ok _ (Sign.binop_mem hl)
  exact Sign.entryOk_sound this ha hb hc

/-- `operator|` is an upper bound -/
theorem C08.sgn_join_upper (x y res : Sign) (k : Int) (hl : Sign.binop .join x y = some res)
    (hk : Sign.mem k x ∨ Sign.mem k y) : Sign.mem k res := by
  rw [Sign.mem, Sign.join_has hl, Bool.or_eq_true]; exact hk

/-- `operator&` contains the intersection -/
theorem C08.sgn_meet_sound (x y res : Sign) (k : Int) (hl : Sign.binop .meet x y = some res)
    (hx : Sign.mem k x) (hy : Sign.mem k y) : Sign.mem k res := by
  rw [Sign.mem, Sign.meet_has hl, Bool.and_eq_true]; exact ⟨hx, hy⟩

/-- `operator<=` answers exactly the inclusion of concretisations and `operator==` the
    equality, on all 64 pairs -/
theorem C08.sgn_leq_table_exact : Sign.leqCheck = true := by decide +kernel

theorem C08.sgn_leq_eq_incl (x y : Sign) : Sign.leq x y = some (Sign.incl x y) := by
  have h := Sign.forall_of_all (Sign.forall_of_all C08.sgn_leq_table_exact x) y
  simp only [Bool.and_eq_true, beq_iff_eq] at h
  exact h.1

theorem C08.sgn_leq_sound (x y : Sign) (h : Sign.leq x y = some true) (k : Int)
    (hk : Sign.mem k x) : Sign.mem k y := by
  rw [C08.sgn_leq_eq_incl] at h
  simp only [Option.some.injEq] at h
  have := Cls.forall_of_all h (Cls.of k)
  rw [(Sign.mem_iff k x).mp hk] at this
  exact (Sign.mem_iff k y).mpr (by simpa using this)

theorem C08.sgn_leq_refl (x : Sign) : Sign.leq x x = some true := by
  rw [C08.sgn_leq_eq_incl]; cases x <;> decide
theorem C08.sgn_bot_leq (y : Sign) : Sign.leq .bot y = some true := by
  rw [C08.sgn_leq_eq_incl]; cases y <;> decide
theorem C08.sgn_leq_top (x : Sign) : Sign.leq x .top = some true := by
  rw [C08.sgn_leq_eq_incl]; cases x <;> decide

/-- `sign(Number c)` contains `c`; the hand model agrees with the extracted representatives -/
theorem C08.sgn_ofInt_sound (k : Int) : Sign.mem k (Sign.ofInt k) := by
  unfold Sign.ofInt Sign.mem Cls.of
  by_cases h0 : k = 0
  · simp [h0, Sign.has]
  · by_cases h1 : k < 0 <;> simp [h0, h1, Sign.has]
theorem C08.sgn_ofInt_table : Gen.signOfNumTable.all (fun e => Sign.ofInt e.1 == e.2) = true := by
  decide +kernel

/-- `to_interval()` contains the concretisation (checked on the extracted table of the 8 values) -/
theorem C08.sgn_toInterval_table_ok : Sign.toItvCheck = true := by decide +kernel
theorem C08.sgn_toInterval_sound (x : Sign) (i : Itv) (k : Int) (hl : Sign.toInterval x = some i)
    (hk : Sign.mem k x) : Itv.mem k i := by
  have h1 := Sign.forall_of_all C08.sgn_toInterval_table_ok x
  rw [hl] at h1
  have h2 := Cls.forall_of_all h1 (Cls.of k)
  rw [(Sign.mem_iff k x).mp hk] at h2
  exact Sign.clsInItv_sound (by simpa using h2)

/-- `from_interval(i)` (hand model, tied by the differential run) contains every member of `i` -/
theorem C08.sgn_fromInterval_sound (i : Itv) (k : Int) (hk : Itv.mem k i) :
    Sign.mem k (Sign.fromInterval i) := Sign.fromInterval_sound hk

/-! ## boolean_value -/

theorem C08.bool_table_complete : BoolV.keysCheck = true := by decide +kernel
/-- every entry of the 7 × 4 × 4 table (none is a CRAB_ERROR) passes the side condition -/
theorem C08.bool_table_ok : BoolV.tableCheck = true := by decide +kernel

/-- `And`, `Or`, `Xor` over-approximate the boolean operations -/
theorem C08.bool_op_sound (op : BOp) (x y res : BoolV) (a b r : Bool)
    (hl : BoolV.binop op x y = some res) (ha : BoolV.mem a x) (hb : BoolV.mem b y)
    (hc : op.conc a b = some r) : BoolV.mem r res := by
  have := List.all_eq_true.mp C08.bool_table_ok _ (BoolV.binop_mem hl)
  exact BoolV.entryOk_sound this ha hb hc

/-- `operator|` and `operator||` are upper bounds -/
theorem C08.bool_join_upper (op : BOp) (hop : op = .join ∨ op = .widen) (x y res : BoolV) (k : Bool)
    (hl : BoolV.binop op x y = some res) (hk : BoolV.mem k x ∨ BoolV.mem k y) : BoolV.mem k res := by
  have := List.all_eq_true.mp C08.bool_table_ok _ (BoolV.binop_mem hl)
  exact BoolV.entryOk_upper hop this hk

/-- `operator&` and `operator&&` contain the intersection -/
theorem C08.bool_meet_sound (op : BOp) (hop : op = .meet ∨ op = .narrow) (x y res : BoolV) (k : Bool)
    (hl : BoolV.binop op x y = some res) (hx : BoolV.mem k x) (hy : BoolV.mem k y) : BoolV.mem k res := by
  have := List.all_eq_true.mp C08.bool_table_ok _ (BoolV.binop_mem hl)
  exact BoolV.entryOk_lower hop this hx hy

/-- `Negate` over-approximates the negation (and never raises CRAB_ERROR) -/
theorem C08.bool_neg_table_ok : BoolV.negCheck = true := by decide +kernel
theorem C08.bool_neg_sound (x res : BoolV) (a : Bool) (hl : BoolV.neg x = some res)
    (ha : BoolV.mem a x) : BoolV.mem (!a) res := by
  have h1 := BoolV.forall_of_all C08.bool_neg_table_ok x
  rw [hl] at h1
  have h2 := BoolV.forall_of_bools h1 a
  rw [(BoolV.mem_iff a x).mp ha] at h2
  exact (BoolV.mem_iff _ res).mpr (by simpa using h2)

/-- `operator<=` is exactly the inclusion, `operator==` the equality, on all 16 pairs -/
theorem C08.bool_leq_table_exact : BoolV.leqCheck = true := by decide +kernel
theorem C08.bool_leq_eq_incl (x y : BoolV) : BoolV.leq x y = some (BoolV.incl x y) := by
  have h := BoolV.forall_of_all (BoolV.forall_of_all C08.bool_leq_table_exact x) y
  simp only [Bool.and_eq_true, beq_iff_eq] at h
  exact h.1
theorem C08.bool_leq_sound (x y : BoolV) (h : BoolV.leq x y = some true) (k : Bool)
    (hk : BoolV.mem k x) : BoolV.mem k y := by
  rw [C08.bool_leq_eq_incl] at h
  simp only [Option.some.injEq] at h
  have := BoolV.forall_of_bools h k
  rw [(BoolV.mem_iff k x).mp hk] at this
  exact (BoolV.mem_iff k y).mpr (by simpa using this)

/-! ## non-vacuity -/
example : Sign.binop .mul .ltz .lez = some .gez ∧ Sign.mem (-3) .ltz ∧ Sign.mem 0 .lez ∧
    SOp.conc .mul (-3) 0 = some 0 ∧ Sign.binop .div .gtz .gtz = some .gez ∧ SOp.conc .div 1 2 = some 0 := by
  refine ⟨by decide +kernel, by decide, by decide, by decide, by decide +kernel, by decide⟩
example : BoolV.binop .and .tt .top = some .top ∧ BoolV.mem true .tt ∧ BoolV.mem false .top := by
  refine ⟨by decide +kernel, by decide, by decide⟩
