import CrabProofs.Lemmas.TIRWf
import CrabProofs.Lemmas.TIRDce

/-!
# C18 — a variable reported dead at the end of a block is irrelevant for the rest of every execution

Model: `CrabModel/Transform/TIR.lean` (semantics `Exec`), `CrabModel/Transform/Liveness.lean`
(specification liveness `LiveAt`, its executable least solution `specLiveOut` / the decidable
solution test `isSpecSol`, and the model `codedLiveOut` of `liveness_analysis` as coded).

* `C18.dead_irrelevant` (full): if `x` is dead at the end of block `l` for the specification
  liveness, then changing `x` there does not change the events, the final status or the function
  outputs of any execution.
* `C18.solution_dead_irrelevant` (full): the same for ANY live-out map that passes the decidable
  test `isSpecSol` (this is what the driver checks for `specLiveOut` on every program).
* coded liveness: `C18.coded_sound_Statement v` says that the liveness computed by version `v`
  of the code contains the specification liveness on every well-formed CFG ("reported dead ⇒
  dead").  It is proved for the current tree (`C18.coded_sound`, hence
  `C18.coded_dead_irrelevant`), and for any version under the two hypotheses that the fixes
  d9754d9 / 2ccd3fb made unnecessary (`C18.coded_sound_under`).  The statement is FALSE for the
  behaviour before those fixes, selected by the explicit flags of `Variant`
  (`C18.old_coded_unsound_unreachable`, `C18.old_coded_unsound_seed`,
  `C18.old_reported_dead_but_relevant`).
-/
open Crab Crab.TIR

/-- states that agree on the variables live at a configuration have the same executions -/
theorem C18.agree_on_live (P : Prog) (stmts : List Stmt) (l : Label) (σ σ' : State)
    (t : List Event) (o : Outcome) (hag : ∀ y, LiveAt P stmts l y → σ y = σ' y)
    (h : Exec P stmts l σ t o) : Exec P stmts l σ' t o :=
  exec_agree P h σ' hag

/-- a variable dead at the end of block `l` can be changed there without changing the rest of
    any execution: same events, same final status, same outputs -/
theorem C18.dead_irrelevant (P : Prog) (l : Label) (x : Var) (hdead : ¬ LiveAt P [] l x)
    (σ : State) (v : Int) (t : List Event) (o : Outcome) :
    Exec P [] l σ t o ↔ Exec P [] l (σ.set x v) t o := by
  exact ⟨fun h => exec_agree P h _ (State.agree_set hdead σ v),
    fun h => exec_agree P h _ (fun y hy => (State.agree_set hdead σ v y hy).symm)⟩

/-- every live-out map accepted by the decidable test `isSpecSol` contains the specification
    liveness -/
theorem C18.solution_contains_live (P : Prog) (L : LiveMap) (hsol : isSpecSol P L = true)
    (hex : P.exitPresent) (l : Label) (x : Var) (h : LiveAt P [] l x) : x ∈ L l := by
  simpa [specIn] using liveAt_sub_sol P L hsol hex h

theorem C18.solution_dead_irrelevant (P : Prog) (L : LiveMap) (hsol : isSpecSol P L = true)
    (hwf : P.wf = true) (l : Label) (x : Var) (hdead : x ∉ L l)
    (σ : State) (v : Int) (t : List Event) (o : Outcome) :
    Exec P [] l σ t o ↔ Exec P [] l (σ.set x v) t o :=
  C18.dead_irrelevant P l x
    (fun h => hdead (C18.solution_contains_live P L hsol (WFp.of_wf hwf).exitPresent l x h)) σ v t o

/-! ### the coded liveness -/

/-- FULL statement: on every well-formed CFG, for every iteration order that covers the blocks,
    the liveness computed by the code (variant `v`) contains the specification liveness, i.e.
    "reported dead ⇒ dead" -/
def C18.coded_sound_Statement (v : Variant) : Prop :=
  ∀ (P : Prog) (order : List Label) (L : LiveMap), P.wf = true → (∀ l, l ∈ P.labels → l ∈ order) →
    codedLiveOut v P order = some L → ∀ l x, LiveAt P [] l x → x ∈ L l

/-- any version of the code, under the two (decidable) hypotheses: no block contains
    `unreachable` (or fix d9754d9 is in), and the seed block is the exit (true with fix 2ccd3fb)
    or nothing is live at the exit -/
theorem C18.coded_sound_under (v : Variant) (P : Prog) (order : List Label) (L : LiveMap)
    (hwf : P.wf = true) (hord : ∀ l, l ∈ P.labels → l ∈ order)
    (hun : v.unreachGen = true ∨ P.noUnreachable = true)
    (hseed : ∀ x, P.exit = some x → seedLabel v P order = some x ∨ P.liveAtExit = [])
    (h : codedLiveOut v P order = some L) : ∀ l x, LiveAt P [] l x → x ∈ L l :=
  coded_sound (v := v) (order := order)
    ⟨hord, (WFp.of_wf hwf).succ_lab, (WFp.of_wf hwf).exitPresent, hun, hseed⟩ h

/-- hence a variable the coded liveness reports dead is irrelevant (same hypotheses) -/
theorem C18.coded_dead_irrelevant_under (v : Variant) (P : Prog) (order : List Label) (L : LiveMap)
    (hwf : P.wf = true) (hord : ∀ l, l ∈ P.labels → l ∈ order)
    (hun : v.unreachGen = true ∨ P.noUnreachable = true)
    (hseed : ∀ x, P.exit = some x → seedLabel v P order = some x ∨ P.liveAtExit = [])
    (h : codedLiveOut v P order = some L) (l : Label) (x : Var) (hdead : x ∉ L l)
    (σ : State) (w : Int) (t : List Event) (o : Outcome) :
    Exec P [] l σ t o ↔ Exec P [] l (σ.set x w) t o :=
  C18.dead_irrelevant P l x
    (fun hl => hdead (C18.coded_sound_under v P order L hwf hord hun hseed h l x hl)) σ w t o

/-- the current tree satisfies the full statement -/
theorem C18.coded_sound : C18.coded_sound_Statement Variant.cur :=
  fun P order L hwf hord h =>
    C18.coded_sound_under Variant.cur P order L hwf hord (Or.inl rfl) (seedOk_cur P order) h

/-- hence: a variable that the current liveness reports dead at the end of a block (`x ∉ get(l)`)
    can be changed there without changing the rest of any execution -/
theorem C18.coded_dead_irrelevant (P : Prog) (order : List Label) (L : LiveMap)
    (hwf : P.wf = true) (hord : ∀ l, l ∈ P.labels → l ∈ order)
    (h : codedLiveOut Variant.cur P order = some L) (l : Label) (x : Var) (hdead : x ∉ L l)
    (σ : State) (w : Int) (t : List Event) (o : Outcome) :
    Exec P [] l σ t o ↔ Exec P [] l (σ.set x w) t o :=
  C18.dead_irrelevant P l x (fun hl => hdead (C18.coded_sound P order L hwf hord h l x hl)) σ w t o

/-! ### the behaviour before the fixes (explicit old flags) -/

/-- DESIGN §4 #7:  b0: v0 = 5; goto b1, b2     b1: assert(v0 >= 1); unreachable     b2 (exit) -/
def C18.progUnreachable : Prog :=
  { nvars := 1, entry := 0, exit := some 2, hasFd := false, ins := [], outs := [],
    blocks := [⟨0, [.assign 0 ⟨5, []⟩], [1, 2], []⟩,
               ⟨1, [.assert ⟨.le, ⟨1, [(-1, 0)]⟩⟩, .unreachable], [], [0]⟩,
               ⟨2, [], [], [0]⟩] }

theorem C18.old_coded_unsound_unreachable : ¬ C18.coded_sound_Statement Variant.old := fun hS =>
  coded_misses (P := C18.progUnreachable) (order := [2, 1, 0]) (l := 0) (x := 0) (by decide +kernel)
    (LiveAt.goto (l' := 1) (by decide +kernel) (by decide +kernel) (LiveAt.here (by decide +kernel)))
    (fun L => hS _ _ L (by decide +kernel) (by decide +kernel))

/-- a sink besides the exit:  b0: goto b1, b2     b1 (exit): v1 = 5     b2: (sink)     outputs {v1};
    with the order [b2, b1, b0] the outputs are made live at b2 instead of the exit b1 -/
def C18.progSeed : Prog :=
  { nvars := 2, entry := 0, exit := some 1, hasFd := true, ins := [0], outs := [1],
    blocks := [⟨0, [], [1, 2], []⟩, ⟨1, [.assign 1 ⟨5, []⟩], [], [0]⟩, ⟨2, [], [], [0]⟩] }

theorem C18.old_coded_unsound_seed : ¬ C18.coded_sound_Statement ⟨true, true, false⟩ := fun hS =>
  coded_misses (P := C18.progSeed) (order := [2, 1, 0]) (l := 1) (x := 1) (by decide +kernel)
    (LiveAt.out (by decide +kernel) (by decide +kernel))
    (fun L => hS _ _ L (by decide +kernel) (by decide +kernel))

/-- the semantic content of the first counterexample: at the end of b0 the code reports v0 dead
    (`get(b0) = {}`), yet changing v0 there turns a passing assertion into a failing one -/
theorem C18.old_reported_dead_but_relevant :
    (codedLiveOut Variant.old C18.progUnreachable [2, 1, 0]).map (fun L => L 0) = some [] ∧
    Exec C18.progUnreachable [] 0 (fun _ => 5) [⟨true, ⟨.le, ⟨1, [(-1, 0)]⟩⟩, true⟩] .blocked ∧
    Exec C18.progUnreachable [] 0 (State.set (fun _ => 5) 0 0)
      [⟨true, ⟨.le, ⟨1, [(-1, 0)]⟩⟩, false⟩] .failed := by
  refine ⟨by decide +kernel, ?_, ?_⟩
  · refine Exec.goto (l' := 1) (by decide +kernel) (by decide +kernel) ?_
    show Exec C18.progUnreachable [.assert ⟨.le, ⟨1, [(-1, 0)]⟩⟩, .unreachable] 1 (fun _ => 5) _ _
    exact Exec.cont (σ' := fun _ => 5) (ev := some ⟨true, ⟨.le, ⟨1, [(-1, 0)]⟩⟩, true⟩) (t := []) 0 rfl
      (Exec.stop (ev := none) 0 rfl)
  · refine Exec.goto (l' := 1) (by decide +kernel) (by decide +kernel) ?_
    show Exec C18.progUnreachable [.assert ⟨.le, ⟨1, [(-1, 0)]⟩⟩, .unreachable] 1 _ _ _
    exact Exec.stop (ev := some ⟨true, ⟨.le, ⟨1, [(-1, 0)]⟩⟩, false⟩) 0 rfl

/-- a looping program with a function output -/
def C18.progLoop : Prog :=
  { nvars := 2, entry := 0, exit := some 2, hasFd := true, ins := [0], outs := [1],
    blocks := [⟨0, [.assign 1 ⟨0, []⟩], [1], []⟩,
               ⟨1, [.bin .add 1 (.var 1) (.var 0)], [1, 2], [0, 1]⟩,
               ⟨2, [.assert ⟨.le, ⟨0, [(-1, 1)]⟩⟩], [], [1]⟩] }

/-- non-vacuity of `C18.coded_sound`: the model of the current code runs on `progLoop` and
    computes non-trivial sets -/
example :
    C18.progLoop.wf = true ∧ C18.progLoop.noUnreachable = true ∧
    seedLabel Variant.cur C18.progLoop [2, 1, 0] = some 2 ∧
    (codedLiveOut Variant.cur C18.progLoop [2, 1, 0]).map (fun L => ((L 0).eraseDups, (L 1).eraseDups, (L 2).eraseDups))
      = some ([1, 0], [1, 0], [1]) := by
  decide +kernel
