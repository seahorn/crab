import CrabProofs.Lemmas.IDomInst
import CrabProofs.Lemmas.IDomThresholds

/-!
# C04 for `interval_domain<z_number>` — inclusion test, lattice operations and `entails` agree
with the concretisation (proved on the exact model `Crab.IDom`, see `Props/C03Itv.lean`)
-/
open Crab Crab.IDom Crab.Lin

/-- a yes answer of `operator<=` is an inclusion of concretisations -/
theorem C04.idom_leq_sound (a b : Env) (σ : State) (h : Env.leq a b = true) (hg : a.γ σ) : b.γ σ :=
  Env.leq_sound h hg

/-! yes on equal values, with bottom on the left, with top on the right -/

theorem C04.idom_leq_refl (a : Env) (hs : a.m.Sorted) : Env.leq a a = true := Env.leq_refl hs
theorem C04.idom_leq_bottom_left (a b : Env) (h : a.bottom = true) : Env.leq a b = true := Env.leq_of_bottom h b
theorem C04.idom_bot_leq (b : Env) : Env.leq Env.bot b = true := Env.bot_leq b
theorem C04.idom_leq_top (a : Env) : Env.leq a Env.top = true := Env.leq_top a

/-! `is_bottom` / `make_bottom` describe no state, `make_top` describes every state and is top -/

theorem C04.idom_is_bottom_sound (e : Env) (σ : State) (h : e.isBottom = true) : ¬ e.γ σ := Env.not_γ_bottom h σ
theorem C04.idom_bot_empty (σ : State) : ¬ Env.bot.γ σ := Env.not_γ_bot σ
theorem C04.idom_top_all (σ : State) : Env.top.γ σ := Env.γ_top σ
theorem C04.idom_is_top_sound (e : Env) (σ : State) (h : e.isTop = true) : e.γ σ := Env.γ_of_isTop h σ
theorem C04.idom_top_is_top : Env.top.isTop = true ∧ Env.bot.isBottom = true := by decide

/-- join contains both arguments (keys bound on one side only are dropped: they are top there) -/
theorem C04.idom_join_upper (a b : Env) (σ : State) (hs : a.m.Sorted) (h : a.γ σ ∨ b.γ σ) : (Env.join a b).γ σ :=
  h.elim (fun h => Env.join_upper_left hs b h) (fun h => Env.join_upper_right hs h)

/-- meet describes exactly the common states -/
theorem C04.idom_meet_iff (a b : Env) (σ : State) (hs : a.m.Sorted) : (Env.meet a b).γ σ ↔ (a.γ σ ∧ b.γ σ) :=
  ⟨Env.meet_exact, fun ⟨h1, h2⟩ => Env.meet_sound hs h1 h2⟩

/-- widening (plain and with thresholds) contains both arguments -/
theorem C04.idom_widen_upper (a b : Env) (σ : State) (hs : a.m.Sorted) (h : a.γ σ ∨ b.γ σ) : (Env.widen a b).γ σ :=
  h.elim (fun h => Env.widen_upper_left hs b h) (fun h => Env.widen_upper_right hs h)

theorem C04.idom_widen_thresholds_upper (ts : Thresholds) (hw : ts.WF) (a b : Env) (σ : State) (hs : a.m.Sorted)
    (h : a.γ σ ∨ b.γ σ) : (Env.widenTh ts a b).γ σ :=
  h.elim (fun h => Env.widenTh_upper_left hw hs b h) (fun h => Env.widenTh_upper_right hw hs h)

/-- narrowing keeps the common states -/
theorem C04.idom_narrow_sound (a b : Env) (σ : State) (hs : a.m.Sorted) (ha : a.γ σ) (hb : b.γ σ) :
    (Env.narrow a b).γ σ := Env.narrow_sound hs ha hb

/-- `entails(cst)`: a yes answer holds in every state of `γ` -/
theorem C04.idom_entails_sound (e : Env) (σ : State) (c : Cst) (hc : c.expr.Canonical) (hg : e.γ σ)
    (h : e.entails c = true) : c.sat σ := Env.entails_sound hg hc h

/-- `entails` uses `+=` on a single constraint that is never a disequation: there the lowering of
    `+=` does nothing (this is how the model breaks the recursion `+=` → `lower_disequality` →
    `entails` → `+=`) -/
theorem C04.idom_add_single_eq_addRaw (e : Env) (c : Cst) (h : c.kind ≠ .neq) : e.add [c] = e.addRaw [c] :=
  Env.add_single_eq_addRaw e h

/-- the map invariant is preserved by the lattice operations -/
theorem C04.idom_lattice_sorted (a b : Env) (ha : a.Sorted) (hb : b.Sorted) :
    (Env.join a b).Sorted ∧ (Env.meet a b).Sorted ∧ (Env.widen a b).Sorted ∧ (Env.narrow a b).Sorted :=
  ⟨Env.upperWith_sorted _ ha hb, Env.lowerWith_sorted _ ha b, Env.upperWith_sorted _ ha hb, Env.lowerWith_sorted _ ha b⟩

/-- non-vacuity -/
example : Env.leq (Env.top.set 0 (Itv.single 3)) (Env.top.set 0 ⟨.fin 0, .pinf⟩) = true ∧
    (Env.top.set 0 (Itv.single 3)).entails ⟨(Expr.var 0).subNum 5, .leq⟩ = true := by decide
