import CrabProofs.Props.C05Chain
import CrabProofs.Lemmas.OctWiden

/-!
# C05 (octagon part) — the widening of `split_oct_domain` AS CODED stabilises every chain

Model: `CrabModel/Dom/OctWiden.lean` (`split_oct.hpp`: `operator||`, `widening_thresholds`,
`split_widen`, `split_widen_rels`, `operator<=`).  Unlike the zones widening, `split_widen` does
not only drop edges of the left operand: its last pass ADDS explicit edges of the RIGHT operand
(with the right weight) when the unary bounds of the left operand imply them and an end point is
"unstable", and it may lower a kept weight.  The number of edges is therefore NOT a measure
(`C05.oct_code_edge_count_increases`).  The measure that works is lexicographic:

1. the number of unary bounds (they are only kept with the left weight or dropped, never created:
   `C05.oct_code_bounds_never_created`);
2. while no unary bound is lost: the number of relational edges that the unary bounds of the same
   graph do NOT imply.  Every added or lowered edge is implied by the (unchanged) unary bounds, so
   it never counts; an edge of `x` that `y` covers neither explicitly nor through its unary
   bounds is such a non-implied edge and is dropped or replaced by an implied one.

The argument does not use the unstable set at all (the "Important for termination" test of the
code is not what makes the chain finite), nor the normal form of the right operand: all chain
theorems hold for EVERY `nf` and for every content of `m_unstable` (also the stale vertex numbers
that the code carries over when a variable disappears).

* `C05.oct_code_widen_origin`, `C05.oct_code_widen_upper`: origin of the edges of the result;
  the result contains both operands (integer states), for every sound normal form;
* `C05.oct_code_leq_sound`: the inclusion test on which the iterator stops is sound;
* `C05.oct_code_widen_measure`, `C05.oct_code_strictStep_wf`, `C05.oct_code_widenStep_wf`,
  `C05.oct_code_run_terminates`, `C05.oct_code_chain_first_stationary`: strict steps are well
  founded for every number of variables, every run terminates, a covered `yₖ` occurs within
  `(2n+1)·(4n²+1)` steps;
* `widening_thresholds` ignores its thresholds: same theorems (`.._thresholds_..`).

Closing the left operand (`C05.zones_closed_left_diverges`) does not carry over to the code:
`split_oct_domain::normalize()` closes only the relational part and never re-derives a unary
bound from a relation and another bound (measured with the harness, modes `index` / `indexj`: the
two-counter chain stabilises at step 2 also when `operator[]` normalises the stored left operand
in place before every widening).
-/
open Crab Crab.Fix Crab.Dbm Crab.Octagon Crab.OctW

/-! ## the result of the widening -/

/-- **origin of every edge of the result** `(i, j, a)` (`v i - v j ≤ a`) of `split_widen`:
    (A) an explicit edge of the right operand between two variables that the unary bounds of the
        left operand imply (RIGHT weight — an edge the left operand need not have), or
    (B) an edge of the left operand covered by an explicit edge of the right one (left weight), or
    (C) an edge of the left operand between two variables covered by the unary bounds of the right
        operand (left weight) -/
theorem C05.oct_code_widen_origin {n : Nat} (U : Fin (2 * n) → Bool) (l r : Oct n) (i j : Fin (2 * n))
    (a : Int) (h : (splitWiden U l r).get i j = some a) :
    (r.get i j = some a ∧ isRel i j = true ∧ W.le (implW l i j) (some a) = true) ∨
    (l.get i j = some a ∧ i ≠ j ∧ W.le (r.get i j) (some a) = true) ∨
    (l.get i j = some a ∧ isRel i j = true ∧ W.le (implW r i j) (some a) = true) :=
  splitWiden_cases h

/-- unary bounds are never created and never change weight: a bound of the result is a bound of
    the left operand that the explicit bound of the right operand covers -/
theorem C05.oct_code_bounds_never_created {n : Nat} (U : Fin (2 * n) → Bool) (l r : Oct n)
    (i : Fin (2 * n)) (a : Int) (h : (splitWiden U l r).get i (bar i) = some a) :
    l.get i (bar i) = some a ∧ W.le (r.get i (bar i)) (some a) = true :=
  bnd_splitWiden h

/-- `split_oct_domain::operator||` contains both operands (concretisation over the integers), for
    every sound normal form of the right operand -/
theorem C05.oct_code_widen_upper {n : Nat} {nf : OVal n → Oct n} (hnf : SoundNf nf) (x y : Val n)
    (σ : State n) :
    (γV x σ → γV (widenV nf x y) σ) ∧ (γV y σ → γV (widenV nf x y) σ) :=
  widenV_upper hnf x y σ

/-- .. in particular for the tight closure as normal form -/
theorem C05.oct_code_widen_upper_tight {n : Nat} (x y : Val n) (σ : State n) :
    (γV x σ → γV (widenV nfTight x y) σ) ∧ (γV y σ → γV (widenV nfTight x y) σ) :=
  widenV_upper nfTight_sound x y σ

/-- `widening_thresholds` (thresholds ignored by the code) contains both operands -/
theorem C05.oct_code_widen_thresholds_upper {n : Nat} {nf : OVal n → Oct n} (hnf : SoundNf nf)
    (x y : Val n) (ts : List Int) (σ : State n) :
    (γV x σ → γV (widenThresholds nf x y ts) σ) ∧ (γV y σ → γV (widenThresholds nf x y ts) σ) :=
  widenV_upper hnf x y σ

/-- the graphs of a chain have no self loops -/
theorem C05.oct_code_widen_noSelfLoop {n : Nat} (nf : OVal n → Oct n) (a b : OVal n) :
    ∃ g, widenV nf (some a) (some b) = some g ∧ NoSelfLoop g.g :=
  ⟨_, rfl, splitWiden_noSelfLoop _ _ _⟩

/-- the inclusion test on which the iterator stops is sound -/
theorem C05.oct_code_leq_sound {n : Nat} {nf : OVal n → Oct n} (hnf : SoundNf nf) (y : Val n)
    (a : OVal n) (ha : NoSelfLoop a.g) (h : leqV nf y (some a) = true) (σ : State n) (hy : γV y σ) :
    γV (some a) σ :=
  leqV_sound hnf y a ha h σ hy

/-! ## the chain condition -/

/-- a strict step (`y ⋢ x`, the test of the iterator) lowers
    (is bottom, number of unary bounds, number of relational edges not implied by the unary bounds)
    lexicographically — for every normal form, every unstable set, every number of variables -/
theorem C05.oct_code_widen_measure {n : Nat} (nf : OVal n → Oct n) (x y : Val n)
    (h : leqV nf y x = false) :
    Prod.Lex (· < ·) (Prod.Lex (· < ·) (· < ·)) (omeas (widenV nf x y)) (omeas x) :=
  omeas_widenV_lt nf x y h

/-- between two graphs: a unary bound is lost, or none is and the non-implied relational edges
    become strictly fewer -/
theorem C05.oct_code_widen_counts {n : Nat} (nf : OVal n → Oct n) (a b : OVal n)
    (h : leqV nf (some b) (some a) = false) :
    ∃ g, widenV nf (some a) (some b) = some g ∧
      (nBnd g.g < nBnd a.g ∨ (nBnd g.g = nBnd a.g ∧ nTight g.g < nTight a.g)) ∧
      nBnd a.g ≤ 2 * n ∧ nTight a.g ≤ (2 * n) * (2 * n) := by
  obtain ⟨g, hg, hc⟩ := widenV_counts nf a b h
  exact ⟨g, hg, hc, nBnd_le _, nTight_le _⟩

/-- **chain condition of the split-octagon widening as coded** -/
theorem C05.oct_code_strictStep_wf {n : Nat} (nf : OVal n → Oct n) :
    WellFounded (C05.StrictStep (leqV nf) (widenV nf)) :=
  C05.strictStep_wf_of_measure (leqV nf) (widenV nf) _
    (Prod.lex Nat.lt_wfRel (Prod.lex Nat.lt_wfRel Nat.lt_wfRel)).wf omeas
    (fun x y h => C05.oct_code_widen_measure nf x y h)

/-- the same with a (finite) threshold set: the code ignores it -/
theorem C05.oct_code_thresholds_strictStep_wf {n : Nat} (nf : OVal n → Oct n) (ts : List Int) :
    WellFounded (C05.StrictStep (leqV nf) (fun x y => widenThresholds nf x y ts)) :=
  C05.oct_code_strictStep_wf nf

/-- in the engine's form: every context whose order test and widening are the split-octagon ones -/
theorem C05.oct_code_widenStep_wf {n : Nat} (nf : OVal n → Oct n) (c : Ctx (Val n))
    (hleq : c.ops.leq = leqV nf) (hw : c.ops.widen = widenV nf) : WellFounded (WidenStep c) := by
  rw [C05.widenStep_eq, hleq, hw]
  exact C05.oct_code_strictStep_wf nf

/-- every analysis run over the split-octagon operations terminates -/
theorem C05.oct_code_run_terminates {n : Nat} (nf : OVal n → Oct n) (c : Ctx (Val n))
    (hleq : c.ops.leq = leqV nf) (hw : c.ops.widen = widenV nf) (w : List Comp) :
    ∃ fuel st, run c fuel w = some st :=
  C05.run_terminates c w (C05.oct_code_widenStep_wf nf c hleq hw)

/-- **every chain is eventually stationary**: along `xₖ₊₁ = xₖ ∇ yₖ` with arbitrary `yₖ`, a covered
    `yₖ` occurs within the first `(2n+1)·(4n²+1)` steps (one more when the chain starts at bottom) -/
theorem C05.oct_code_chain_first_stationary {n : Nat} (nf : OVal n → Oct n) (xs ys : Nat → Val n)
    (hstep : ∀ k, xs (k + 1) = widenV nf (xs k) (ys k)) :
    ∃ k, k ≤ (2 * n + 1) * ((2 * n) * (2 * n) + 1) ∧ leqV nf (ys k) (xs k) = true := by
  obtain ⟨k, hk, hl⟩ := chain_first_stationary_on (A := Val n) (B := Val n) (fun _ => True)
    (leqV nf) (widenV nf) (nmeas n) (fun _ _ _ => trivial)
    (fun x y _ h => nmeas_widenV_lt nf x y h) xs ys trivial hstep
  refine ⟨k, Nat.le_trans hk ?_, hl⟩
  cases h0 : xs 0 with
  | none => exact Nat.le_refl _
  | some a => exact Nat.le_of_lt (nmeas_some_lt a)

/-! ## the number of edges is not a measure -/

namespace Crab.OctW.Example

/-- a 4×4 matrix by its entries (two variables: indices 0,1 = `±v0`, 2,3 = `±v1`) -/
def m4 (f : Nat → Nat → W) : Oct 2 := Mat.ofFn fun i j => f i.val j.val

/-- left operand `{v0 = 0, -1 ≤ v1 ≤ 0}`: unary bounds only -/
def l : Oct 2 := m4 fun i j =>
  match i, j with
  | 0, 1 => some 0 | 1, 0 => some 0 | 2, 3 => some 0 | 3, 2 => some 2
  | _, _ => none

/-- right operand `{0 ≤ v0 ≤ 1, -1 ≤ v1 ≤ 0, v0 - v1 ≤ 2, v0 + v1 ≤ 1}`, both copies of each relation:
    the graph `split_oct_domain` holds after `+=` of `v0-v1<=2, v0+v1<=1, v0>=0, v0<=1, v1<=0, v1>=-1`
    (second step of the corpus line "the widening adds edges of the right operand") -/
def r : Oct 2 := m4 fun i j =>
  match i, j with
  | 0, 1 => some 2 | 1, 0 => some 0 | 2, 3 => some 0 | 3, 2 => some 2
  | 0, 2 => some 2 | 3, 1 => some 2 | 0, 3 => some 1 | 2, 1 => some 1
  | _, _ => none

end Crab.OctW.Example

open Crab.OctW.Example in
/-- **the widening adds edges of the right operand**: on a strict step (`v0 ≤ 0` is not covered
    and dropped, which makes the vertex `-v0` unstable) the result has the 3 remaining bounds of
    the left operand plus the two relations of the right operand leaving `-v0`
    (`-v1 - (-v0) ≤ 2`, `v1 - (-v0) ≤ 1`, one copy each; the same step on the real code gives
    exactly this graph): 4 edges become 5.  The measure of
    `C05.oct_code_widen_measure` goes from `(4 bounds, 0 non-implied)` to `(3 bounds, 2 non-implied)`:
    the two added relations were implied by the bounds of the left operand, one of which is gone. -/
theorem C05.oct_code_edge_count_increases :
    leqV nfTight (ofGraph r) (ofGraph l) = false ∧
    (∃ g, widenV nfTight (ofGraph l) (ofGraph r) = some g ∧
      Zones.edges l = 4 ∧ Zones.edges g.g = 5 ∧
      g.g.get 3 1 = some 2 ∧ l.get 3 1 = none ∧ g.g.get 2 1 = some 1 ∧ l.get 2 1 = none ∧
      g.g.get 0 2 = none ∧ g.un = [1] ∧
      nBnd l = 4 ∧ nTight l = 0 ∧ nBnd g.g = 3 ∧ nTight g.g = 2) := by
  refine ⟨by decide +kernel, _, rfl, ?_⟩
  decide +kernel

/-! ## closing the left operand -/

open Crab.OctW.TwoCounter in
/-- the two-counter chain of `C05.zones_closed_left_diverges` in the octagon model: if the left
    operand is replaced by its EXACT closure before each widening, every one of the first six
    steps is strict (the closure re-derives from `y ≤ x ≤ y+1` the bound the previous widening
    dropped), while the widening of the code (left operand as it is) covers every `yₖ` from step 2
    on.  Checked by evaluation for the prefix only; on the real code the hazard does not exist
    because `normalize()` is not an exact closure (see the header). -/
theorem C05.oct_closed_left_prefix_strict :
    ∀ k : Fin 6, leqV nfTight (ys k) (badChain k) = false ∧
      (2 ≤ k.val → leqV nfTight (ys k) (goodChain k) = true) := by
  intro k
  have := prefixOk_spec 6 0 (by decide +kernel) k.val k.isLt
  rwa [Nat.zero_add] at this

/-! ## non-vacuity -/

open Crab.OctW.Example in
/-- the hypotheses of `C05.oct_code_leq_sound` are satisfiable, and the test does succeed on a
    non-trivial pair: `l ⊑ r` (every edge of `r` is explicit in `l` or implied by its bounds) -/
example : NoSelfLoop r ∧ SoundNf (n := 2) nfTight ∧ leqV nfTight (ofGraph l) (ofGraph r) = true ∧
    γV (ofGraph l) (fun _ => 0) := by
  refine ⟨by unfold NoSelfLoop; decide +kernel, nfTight_sound, by decide +kernel, ?_⟩
  intro i j k hk
  have h0 : ∀ i : Fin (2 * 2), ext (fun _ : Fin 2 => (0 : Int)) i = 0 := by decide +kernel
  have hk' : ∀ i j : Fin (2 * 2), ∀ k, l.get i j = some k → 0 ≤ k := by
    intro i j
    cases h : l.get i j with
    | none => intro k hk; cases hk
    | some a =>
      intro k hk; cases hk
      have : ∀ i j : Fin (2 * 2), W.le (some 0) (l.get i j) = true := by decide +kernel
      have := this i j
      rw [h] at this
      simpa [W.le] using this
  rw [h0, h0]
  have := hk' i j k hk
  omega

open Crab.OctW.Example in
/-- `C05.oct_code_chain_first_stationary` applies to a concrete chain -/
example : ∃ k, k ≤ 85 ∧
    leqV nfTight (ofGraph r) (Zones.chainOf (widenV nfTight) (ofGraph l) (fun _ => ofGraph r) k) = true :=
  C05.oct_code_chain_first_stationary (n := 2) nfTight
    (Zones.chainOf (widenV nfTight) (ofGraph l) (fun _ => ofGraph r)) (fun _ => ofGraph r) (fun _ => rfl)
