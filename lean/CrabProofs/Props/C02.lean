import CrabProofs.Props.C01Prog
import CrabProofs.Lemmas.CheckerSound

/-!
# C02 — a `safe` / `unreachable` verdict of the assertion checker is never wrong (forward analysis)

Model: `CrabModel/Analysis/Checker.lean` (`assert_property_checker::check`, the statement loop of
`intra_checker::run`).  Semantics: `CrabModel/IR/Semantics.lean` — an assert executed in state σ
emits `check b i σ ok`, `ok = false` iff it fails.

* decision rules: `C02.checkAssert_safe_sound`, `C02.checkAssert_unreachable_sound`,
  `C02.checkBoolAssert_safe_sound`, `C02.checkBoolAssert_unreachable_sound`;
* `C02.checkBlock_sound` : the statement loop, for one block and any execution of the block
  started in a state of the block-entry invariant;
* `C02.fwd_checker_sound` : whole programs, given invariants at block entries that contain
  every state with which an execution arrives (C01's conclusion);
* `C02.fwd_checker_sound_engine` : the same with the tables computed by the proved iterator
  (`C01.program_sound`), so the only hypotheses left are the domain contract and the soundness
  of the abstract transformer.

The discharge of assertions by the combined forward+backward analysis
(`intra_forward_backward_analyzer::discharge_assertions`) is not the subject of this file but of
`Props/C02FwdBwd.lean` (`C02.fwdbwd_checker_sound`: the verdict `safe`, relative to the contract
`FBSound` on the backward values).  Two programs on which the harness saw the real analyzer
answer `safe` for an assertion that fails are kept here as machine-checked facts about the
concrete semantics (`C02.deadend_assert_fails`, `C02.bwd_sdiv_assert_fails`; the replays are
quoted in the doc comments).
-/
open Crab Crab.Fix Crab.IR Crab.Analysis

theorem C02.checkAssert_safe_sound {A : Type} (D : CheckDom A) (inv : A) (c : Cst) (σ : State) (ch : Int)
    (h : checkAssert D inv c = .safe) (hγ : D.γ inv σ) : stepStmt (.assert c) σ ch = .next σ := by
  simp [stepStmt, checkAssert_safe D inv c σ h hγ]

theorem C02.checkAssert_unreachable_sound {A : Type} (D : CheckDom A) (inv : A) (c : Cst) (σ : State)
    (h : checkAssert D inv c = .unreachable) : ¬ D.γ inv σ :=
  checkAssert_unreachable D inv c σ h

theorem C02.checkBoolAssert_safe_sound {A : Type} (D : CheckDom A) (inv : A) (b : Nat) (σ : State) (ch : Int)
    (h : checkBoolAssert D inv b = .safe) (hγ : D.γ inv σ) : stepStmt (.bassert b) σ ch = .next σ := by
  simp [stepStmt, checkBoolAssert_safe D inv b σ h hγ]

theorem C02.checkBoolAssert_unreachable_sound {A : Type} (D : CheckDom A) (inv : A) (b : Nat) (σ : State)
    (h : checkBoolAssert D inv b = .unreachable) : ¬ D.γ inv σ :=
  checkBoolAssert_unreachable D inv b σ h

/-- one block: if the execution of block `b` starts in a state of the invariant the checker
    starts from, an assert classified `unreachable` is not executed and an assert classified
    `safe` does not fail -/
theorem C02.checkBlock_sound {A : Type} (D : CheckDom A) (tr : Stmt → A → A) (htr : TrSound D tr)
    (p : Program) (pre : Nat → A) (b : Nat) (σ : State) (ch : List Int) (hγ : D.γ (pre b) σ)
    (j : Nat) (σ' : State) (ok : Bool) (v : CheckKind)
    (hev : Event.check b j σ' ok ∈ (runBlock p b σ ch).events)
    (hv : (j, v) ∈ checkBlock D tr p pre b) :
    v ≠ .unreachable ∧ (v = .safe → ok = true) :=
  checkStmts_sound D tr htr b _ 0 (pre b) σ ch hγ j σ' ok v hev hv

/-- C02 (forward analysis): given invariants at the block entries that contain every state with
    which an execution from an initial state arrives, no execution reaches an assert classified
    `unreachable`, and no execution fails an assert classified `safe`. -/
theorem C02.fwd_checker_sound {A : Type} (D : CheckDom A) (tr : Stmt → A → A) (htr : TrSound D tr)
    (p : Program) (pre : Nat → A) (Init : State → Prop)
    (hpre : ∀ n σ0 ch b σ, Init σ0 → Event.enter b σ ∈ IR.run p n σ0 ch → D.γ (pre b) σ)
    (n : Nat) (σ0 : State) (ch : List Int) (h0 : Init σ0)
    (b j : Nat) (σ' : State) (ok : Bool) (v : CheckKind)
    (hev : Event.check b j σ' ok ∈ IR.run p n σ0 ch)
    (hv : (j, v) ∈ checkBlock D tr p pre b) :
    v ≠ .unreachable ∧ (v = .safe → ok = true) := by
  obtain ⟨σ, ch', hen, hc⟩ := exec_check_of_enter p n p.entry σ0 ch b j σ' ok hev
  exact C02.checkBlock_sound D tr htr p pre b σ ch' (hpre n σ0 ch b σ h0 hen) j σ' ok v hc hv

/-- C02 on top of the proved engine: the checker run on the `pre` table returned by the
    interleaved iterator. -/
theorem C02.fwd_checker_sound_engine {A : Type} (c : Ctx A) (w : List Comp) (p : Program)
    (sem : Sem c State) (hr : C01.Reads c p)
    (hstep : ∀ b σ σ', BlockStep p b σ σ' → sem.step b σ σ')
    (hwf : WtoWF c w) (fuel : Nat) (st : St A) (hrun : Crab.Fix.run c fuel w = some st)
    (D : CheckDom A) (hD : D.γ = sem.γ) (tr : Stmt → A → A) (htr : TrSound D tr)
    (n : Nat) (σ0 : State) (ch : List Int) (h0 : sem.γ c.init σ0)
    (b j : Nat) (σ' : State) (ok : Bool) (v : CheckKind)
    (hev : Event.check b j σ' ok ∈ IR.run p n σ0 ch)
    (hv : (j, v) ∈ checkBlock D tr p st.pre b) :
    v ≠ .unreachable ∧ (v = .safe → ok = true) :=
  C02.fwd_checker_sound D tr htr p st.pre (fun σ => sem.γ c.init σ)
    (fun n σ0 ch b σ hi he => by
      rw [hD]
      exact (C01.program_sound c w p sem hr hstep hwf fuel st hrun σ0 hi n ch).1 b σ he)
    n σ0 ch h0 b j σ' ok v hev hv

/-! ### the two shapes on which the combined forward+backward analysis answers `safe` wrongly -/

/-- `B0: goto B1, B2`  `B1: assert(0 < 0)` (dead end)  `B2:` (exit).
    Real code (`prog.fwdbwd`, every domain tried): `(chk (B1 0 safe))`. -/
def C02.deadendProg : Program := ⟨0, 0, 0, 2, #[⟨[], [1, 2]⟩, ⟨[.assert ⟨.lt, ⟨0, []⟩⟩], []⟩, ⟨[], []⟩]⟩

/-- the execution that takes the branch to `B1` fails the assertion -/
theorem C02.deadend_assert_fails :
    Event.check 1 0 ⟨#[], #[]⟩ false ∈ IR.run C02.deadendProg 2 ⟨#[], #[]⟩ [0] := by decide

/-- `B0: v0 := 1; v0 := v0 sdiv 2; v0 := 0; assert(1 <= 0)`, entry = exit.
    Real code (`prog.fwdbwd`, every domain tried): `(chk (B0 3 safe))`. -/
def C02.bwdSdivProg : Program :=
  ⟨1, 0, 0, 0, #[⟨[.assign 0 ⟨1, []⟩, .binop .sdiv 0 0 (.const 2), .assign 0 ⟨0, []⟩, .assert ⟨.le, ⟨1, []⟩⟩], []⟩]⟩

theorem C02.bwd_sdiv_assert_fails :
    Event.check 0 3 ⟨#[0], #[]⟩ false ∈ IR.run C02.bwdSdivProg 1 ⟨#[5], #[]⟩ [] := by decide

/-! ### non-vacuity -/

/-- a domain with two values (`false` = no state, `true` = every state) that entails nothing -/
def C02.Example.dom : CheckDom Bool where
  γ := fun a _ => a = true
  isBottom := fun a => !a
  entails := fun _ _ => false
  assumeBool := fun a _ _ => a
  isBottom_sound := by intro a σ h; simpa using h
  entails_sound := by intro a c σ h; cases h
  assumeBool_sound := by intro a b neg σ h _; exact h

theorem C02.Example.tr_sound : TrSound C02.Example.dom (fun _ a => a) := by
  intro s a σ ch σ' h _; exact h

/-- the checker model classifies the assert of the dead-end program `warning` when the block is
    reachable; with a bottom invariant the contradiction `0 < 0` is `safe` (first branch of
    `check(assert_t&)`), any other assert `unreachable` -/
example : checkBlock C02.Example.dom (fun _ a => a) C02.deadendProg (fun _ => true) 1 = [(0, .warning)] := by decide
example : checkBlock C02.Example.dom (fun _ a => a) C02.deadendProg (fun b => b != 1) 1 = [(0, .safe)] := by decide
example : checkAssert C02.Example.dom false ⟨.le, ⟨0, [(1, 0)]⟩⟩ = .unreachable := by decide
