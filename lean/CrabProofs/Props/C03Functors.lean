import CrabProofs.Lemmas.FunctorProductOps
import CrabProofs.Lemmas.FunctorPowerset
import CrabProofs.Lemmas.FunctorInst
import CrabProofs.Lemmas.FunctorPackingBin
import CrabProofs.Lemmas.FunctorHistory
import CrabProofs.Lemmas.FunctorInstPack
import CrabProofs.Props.C03

/-!
# C03 for the domain COMBINATORS, as functors over any base domain

`Props/C03*.lean` prove history soundness for exact models of base domains.  The combinators that
crab ships on top of them are modelled here as functors over an arbitrary base domain given by its
operations and their soundness laws (`Crab.Dom.Fct.LDom`, file `CrabModel/Dom/Functors/Base.lean`):
every theorem holds for every instantiation at once.

* `basic_domain_product2` / `reduced_domain_product2` / `reduced_numerical_domain_product2`
  (combined_domains.hpp), model `Crab.Dom.Fct.Prod2`, γ = intersection of the components (nothing
  when `m_is_bottom` is set);
* `powerset_domain` (powerset_domain.hpp), model `Crab.Dom.Fct.PSet`, γ = union of the disjuncts;
* `numerical_packing_domain` (numerical_packing.hpp + the part of union_find_domain.hpp it uses),
  model `Crab.Dom.Fct.PK` at the level of the partition, γc = intersection over the packs of the
  cylinder of the base value over the variables of the pack (`PK.γc`; it implies the plain
  intersection `PK.γ` of the base concretisations).  The laws hold on values whose packs are
  pairwise disjoint and non-empty (`PK.WF`), an invariant of every operation
  (`packing_step_ok`); the history theorem is `history_sound_along` (Lemmas/FunctorHistory.lean).

Hypotheses on the base (and nothing else): each component transformer abstracts the concrete
relation of the statement (`LDom.TSound`), widenings are upper bounds (`LDom.USound`), the
reduction hook of `reduce_variable` keeps the states of the meet (`Prod2.RedSound`), and — for the
powerset only, whose early returns trust it — a yes of the base `is_top` means every state
(`LDom.TopSound`).
-/
open Crab Crab.Dom Crab.Dom.Fct

/-! ## products -/

/-- every operation of the products satisfies its soundness law (History.lean) -/
theorem C03.product_step_sound {S V : Type} {D1 D2 : LDom S} (P : Prod2.NParams)
    (red : V → D1.B → D2.B → D1.B × D2.B) (hred : Prod2.RedSound red) (op : Prod2.Op D1 D2 V)
    (hop : op.BaseSound) : (op.toStep P red).Sound Prod2.γ := by
  cases op with
  | meth d m f1 f2 r => exact fun a s s' hg hr => Prod2.op_sound m hop.1 hop.2 hg hr
  | nmeth d m f1 f2 vs r => exact fun a s s' hg hr => Prod2.nop_sound P red hred m hop.1 hop.2 vs hg hr
  | join d a b => exact fun _ _ _ => Prod2.join_sound
  | joinEq d a b => exact fun _ _ _ => Prod2.joinEq_sound
  | meet d a b => exact fun _ _ _ => Prod2.meet_sound
  | meetEq d a b => exact fun _ _ _ => Prod2.meetEq_sound
  | widen d a b w1 w2 => exact fun _ _ _ => Prod2.widenWith_sound hop.1 hop.2
  | narrow d a b => exact fun _ _ _ => Prod2.narrow_sound
  | copy d s => trivial
  | setTop d => exact fun a s s' _ _ => Prod2.γ_top s'
  | setBottom d => trivial

/-- **History soundness of the three product combinators** for every pair of base domains, every
    reduction hook that keeps the meet, every pool, history length and interleaving of
    transformers (with and without `reduce()` / `reduce_variable`), `|`, `|=`, `&`, `&=`, `||`,
    `widening_thresholds`, `&&`, copies, `set_to_top`, `set_to_bottom`. -/
theorem C03.product_history_sound {S V : Type} {D1 D2 : LDom S} (P : Prod2.NParams)
    (red : V → D1.B → D2.B → D1.B × D2.B) (hred : Prod2.RedSound red) (ops : List (Prod2.Op D1 D2 V))
    (hops : ∀ op ∈ ops, op.BaseSound) (p : Pool (Prod2 D1 D2)) (c : CPool S)
    (h0 : ∀ i s, c i s → (p i).γ s) :
    ∀ i s, collHist c (Prod2.toHist P red ops) i s → (runHist p (Prod2.toHist P red ops) i).γ s :=
  C03.history_sound Prod2.γ _
    (List.forall_mem_map.2 fun op hop => C03.product_step_sound P red hred op (hops op hop)) p c h0

/-- `reduce_variable` alone: whatever the hook does within its law, no state of the value is lost -/
theorem C03.product_reduce_variable_sound {S V : Type} {D1 D2 : LDom S} (P : Prod2.NParams)
    (red : V → D1.B → D2.B → D1.B × D2.B) (hred : Prod2.RedSound red) (vs : List V) (p : Prod2 D1 D2) (s : S)
    (h : p.γ s) : (Prod2.reduceVars P red vs p).γ s :=
  Prod2.reduceVars_ind P red (·.γ s) (fun v _ => Prod2.reduceVariable_sound P red hred v) vs h

/-- a slot that some execution reaches is never reported bottom, neither by the flag nor by a
    component -/
theorem C03.product_not_bottom_on_reachable {S V : Type} {D1 D2 : LDom S} (P : Prod2.NParams)
    (red : V → D1.B → D2.B → D1.B × D2.B) (hred : Prod2.RedSound red) (ops : List (Prod2.Op D1 D2 V))
    (hops : ∀ op ∈ ops, op.BaseSound) (p : Pool (Prod2 D1 D2)) (c : CPool S)
    (h0 : ∀ i s, c i s → (p i).γ s) (i : Nat) (s : S) (hc : collHist c (Prod2.toHist P red ops) i s) :
    (runHist p (Prod2.toHist P red ops) i).isBottom = false :=
  C03.not_bottom_if_inhabited Prod2.γ Prod2.isBottom (fun _ s hb => Prod2.not_γ_of_isBottom hb s) _
    (List.forall_mem_map.2 fun op hop => C03.product_step_sound P red hred op (hops op hop)) p c h0 i s hc

/-! ## powerset -/

/-- the four shapes of transformers of `powerset_domain` (pointwise; pointwise + removal of bottom
    disjuncts; `+=` with its two syntactic early tests; `forget` with its collapse to top) -/
theorem C03.powerset_trans_sound {S : Type} {D : LDom S} (k : PSet.TKind) (f : D.B → D.B) (r : S → S → Prop)
    (hf : D.TSound f r)
    (hk : match k with
      | .add t fl => (t = true → ∀ s s', r s s' → s' = s) ∧ (fl = true → ∀ s s', ¬ r s s')
      | _ => True)
    (ps : PSet D) (s s' : S) (hg : PSet.γ ps s) (hr : r s s') : PSet.γ (PSet.trans k f ps) s' := by
  have hb := PSet.isBottom_false_of_γ hg
  cases k with
  | map => simp only [PSet.trans, PSet.mapOp, hb]; exact PSet.map_sound hf hg hr
  | filter => simp only [PSet.trans, PSet.filterOp, hb]; exact PSet.filter_sound (PSet.map_sound hf hg hr)
  | forget =>
    simp only [PSet.trans, PSet.forgetOp, hb, PSet.forgetGo_eq]
    by_cases ht : ps.any (fun d => D.isTop (f d)) = true
    · simp only [ht, if_true]; exact PSet.γ_top s'
    · simp only [ht]; exact PSet.map_sound hf hg hr
  | add t fl =>
    simp only [PSet.trans, PSet.addOp, hb]
    cases t
    · cases fl
      · exact PSet.filter_sound (PSet.map_sound hf hg hr)
      · exact absurd hr (hk.2 rfl s s')
    · rw [hk.1 rfl s s' hr]; exact hg

theorem C03.powerset_join_sound {S : Type} {D : LDom S} (t : D.TopSound) (P : PParams) (a b : PSet D) (s : S)
    (h : PSet.γ a s ∨ PSet.γ b s) : PSet.γ (PSet.join P a b) s ∧ PSet.γ (PSet.joinEq P a b) s :=
  ⟨binop_cases (PSet.γ · s) (fun hc => PSet.γ_of_early t h (Bool.or_eq_true_iff.1 hc))
      (fun _ hc => PSet.γ_of_early t h.symm (Bool.or_eq_true_iff.1 hc)) fun _ _ =>
        PSet.ofVec_sound P (PSet.append_sound b h), by
    refine binop_cases (PSet.γ · s) (fun hc => PSet.γ_of_early t h.symm (Bool.or_eq_true_iff.1 hc).symm)
      (fun _ hc => PSet.γ_of_early t h (Or.inl hc)) fun _ _ => ?_
    split
    · exact PSet.γ_top s
    · simp only
      split
      · exact PSet.smashInPlace_sound (PSet.append_sound b h)
      · exact PSet.append_sound b h⟩

/-- widening (`||`, `widening_thresholds`): both operands are smashed first -/
theorem C03.powerset_widen_sound {S : Type} {D : LDom S} (w : D.B → D.B → D.B) (hw : D.USound w)
    (a b : PSet D) (s : S) (h : PSet.γ a s ∨ PSet.γ b s) : PSet.γ (PSet.widenWith w a b) s :=
  PSet.ofDom_sound (hw _ _ s (h.imp PSet.smash_sound PSet.smash_sound))

/-- meet in both modes (`powerset_exact_meet`) and narrowing keep the common states -/
theorem C03.powerset_meet_sound {S : Type} {D : LDom S} (P : PParams) (a b : PSet D) (s : S)
    (ha : PSet.γ a s) (hb : PSet.γ b s) : PSet.γ (PSet.meet P a b) s ∧ PSet.γ (PSet.narrow a b) s :=
  ⟨PSet.meet_sound P ha hb, PSet.narrow_sound ha hb⟩

/-- `smash_disjuncts` (both versions) contains every disjunct -/
theorem C03.powerset_smash_sound {S : Type} {D : LDom S} (ps : PSet D) (s : S) (h : PSet.γ ps s) :
    D.γ (PSet.smash ps) s ∧ PSet.γ (PSet.smashInPlace ps) s :=
  ⟨PSet.smash_sound h, PSet.smashInPlace_sound h⟩

theorem C03.powerset_step_sound {S : Type} {D : LDom S} (t : D.TopSound) (P : PParams) (op : PSet.Op D)
    (hop : op.BaseSound) : (op.toStep P).Sound PSet.γ := by
  cases op with
  | trans d k f r =>
    intro a s s' hg hr
    exact C03.powerset_trans_sound k f r hop.1 hop.2 a s s' hg hr
  | join d a b => exact fun a b s h => (C03.powerset_join_sound t P a b s h).1
  | joinEq d a b => exact fun a b s h => (C03.powerset_join_sound t P a b s h).2
  | meet d a b => exact fun _ _ _ => PSet.meet_sound P
  | widen d a b w => exact C03.powerset_widen_sound _ hop
  | narrow d a b => exact fun _ _ _ => PSet.narrow_sound
  | copy d s => trivial
  | setTop d => exact fun a s s' _ _ => PSet.γ_top s'
  | setBottom d => trivial

/-- **History soundness of `powerset_domain`** for every base domain with a sound `is_top`, every
    setting of `max_disjuncts` / `exact_meet`, every pool, history length and interleaving. -/
theorem C03.powerset_history_sound {S : Type} {D : LDom S} (t : D.TopSound) (P : PParams) (ops : List (PSet.Op D))
    (hops : ∀ op ∈ ops, op.BaseSound) (p : Pool (PSet D)) (c : CPool S)
    (h0 : ∀ i s, c i s → PSet.γ (p i) s) :
    ∀ i s, collHist c (PSet.toHist P ops) i s → PSet.γ (runHist p (PSet.toHist P ops) i) s :=
  C03.history_sound PSet.γ _
    (List.forall_mem_map.2 fun op hop => C03.powerset_step_sound t P op (hops op hop)) p c h0

theorem C03.powerset_not_bottom_on_reachable {S : Type} {D : LDom S} (t : D.TopSound) (P : PParams)
    (ops : List (PSet.Op D)) (hops : ∀ op ∈ ops, op.BaseSound) (p : Pool (PSet D)) (c : CPool S)
    (h0 : ∀ i s, c i s → PSet.γ (p i) s) (i : Nat) (s : S) (hc : collHist c (PSet.toHist P ops) i s) :
    PSet.isBottom (runHist p (PSet.toHist P ops) i) = false :=
  PSet.isBottom_false_of_γ (C03.powerset_history_sound t P ops hops p c h0 i s hc)

/-! ## non-vacuity: intervals × congruences, powerset of intervals (one variable) -/
namespace C03FunctorsEx

/-- x ∈ [0,4] ∧ x ≡ 0 (mod 2) -/
def p0 : Prod2 itvDom congDom := Prod2.mk' (WItv.mk 0 4) (Cong.mk' 2 0)

/-- `x := x + 1` through `reduced_numerical_domain_product2::apply` -/
def addOne (d : Nat) : Prod2.Op itvDom congDom Unit :=
  .nmeth d .apply (itvAddK 1) (congAddK 1) [()] (fun s s' => s' = s + 1)

/-- the model computes: after `x := x + 1; x := x + 1; join with the start value` the value is
    `[0,6]`, `0 mod 2`, not bottom -/
def r0 : Prod2 itvDom congDom :=
  runHist (fun _ => p0) (Prod2.toHist {} redIC [addOne 0, addOne 0, .join 0 0 1]) 0

def r0fst : Itv := r0.fst.1
def r0snd : Cong := r0.snd

example : r0fst = ⟨.fin 0, .fin 6⟩ ∧ r0snd = ⟨false, 2, 0⟩ ∧ r0.isBottom = false := by decide

/-- ... and `product_history_sound` applies to it: 2 ↦ 3 ↦ 4 is an execution, 4 is in the result -/
example : (runHist (fun _ => p0) (Prod2.toHist {} redIC [addOne 0, addOne 0, .join 0 0 1]) 0).γ 4 :=
  C03.product_history_sound {} redIC redIC_sound _
    (by intro op hop; simp only [List.mem_cons, List.mem_nil_iff, or_false] at hop
        rcases hop with rfl | rfl | rfl
        · exact ⟨itvAddK_sound 1, congAddK_sound 1⟩
        · exact ⟨itvAddK_sound 1, congAddK_sound 1⟩
        · trivial)
    (fun _ => p0) (fun _ s => s = 2)
    (by intro i s hs; subst hs; exact (Prod2.γ_mk' _ _ _ _).2
          ⟨show Itv.mem 2 _ by decide, (Cong.contains_iff _ _).1 (by decide)⟩) 0 4
    (by simp only [Prod2.toHist, List.map, collHist, List.foldl, addOne, Prod2.Op.toStep, Step.coll, CPool.set]
        simp)

/-- `reduce_variable` finds the empty meet that the components do not see -/
def p1 : Prod2 itvDom congDom := Prod2.mk' (WItv.mk 1 1) (Cong.mk' 2 0)

example : p1.isBottom = false ∧ (Prod2.reduceVariable {} redIC () p1).isBottom = true := by decide

/-- powerset of intervals, `max_disjuncts = 2`: `{[0,0],[2,2]}`, `x := x + 1`, join with `{[5,5]}`
    (three disjuncts: smashed), `<=` -/
def q0 : PSet itvDom := [WItv.mk 0 0, WItv.mk 2 2]
def q1 : PSet itvDom := [WItv.mk 5 5]

def pAddOne (d : Nat) : PSet.Op itvDom := .trans d .map (itvAddK 1) (fun s s' => s' = s + 1)

def rq : Pool (PSet itvDom) :=
  runHist (fun i => if i = 0 then q0 else q1) (PSet.toHist ⟨2, true⟩ [pAddOne 0, .copy 2 0, .join 0 0 1])

def rqv (i : Nat) : List Itv := (rq i).map (·.1)

example : rqv 2 = [⟨.fin 1, .fin 1⟩, ⟨.fin 3, .fin 3⟩] ∧ rqv 0 = [⟨.fin 1, .fin 5⟩] ∧
    PSet.leq (rq 2) (rq 0) = true ∧ PSet.leq (rq 0) (rq 2) = false := by decide

example : PSet.γ (runHist (fun i => if i = 0 then q0 else q1)
    (PSet.toHist ⟨2, true⟩ [pAddOne 0, .copy 2 0, .join 0 0 1]) 0) 3 :=
  C03.powerset_history_sound itvDom_topSound ⟨2, true⟩ _
    (by intro op hop; simp only [List.mem_cons, List.mem_nil_iff, or_false] at hop
        rcases hop with rfl | rfl | rfl
        · exact ⟨itvAddK_sound 1, trivial⟩
        · trivial
        · trivial)
    _ (fun i s => i = 0 ∧ s = 2)
    (by rintro i s ⟨rfl, rfl⟩; exact ⟨WItv.mk 2 2, List.mem_cons_of_mem _ List.mem_cons_self, show Itv.mem 2 _ by decide⟩) 0 3
    (by simp only [PSet.toHist, List.map, collHist, List.foldl, pAddOne, PSet.Op.toStep, Step.coll, CPool.set]
        simp)

end C03FunctorsEx

/-! ## numerical packing -/

/-- **statements** (`assign`, `weak_assign`, every `apply`, `select`, `expand`: the wrappers of
    `CrabModel/Dom/Functors/Packing.lean` are instances of `PK.stmt`): on a well-formed value that
    has a state the statement raises no CRAB_ERROR and its result accepts every successor state.
    `r` must be local to the variables handed to `merge` (`PK.Local`). -/
theorem C03.packing_stmt_sound {V : Type} [DecidableEq V] {N : NDom V} (fx : Option V) (vars : List V)
    (hv : vars ≠ []) (f : N.B → N.B) (normBot errOnNull : Bool) (r : St V → St V → Prop) (hf : N.TSound f r)
    (hloc : PK.Local r vars) (a : PK N) (hw : a.WF) (s s' : St V) (h : PK.γc a s) (hr : r s s') :
    ∃ b, PK.stmt fx vars f normBot errOnNull a = some b ∧ PK.γc b s' ∧ b.WF := by
  obtain ⟨b, hb, hg⟩ := PK.stmt_sound fx hv normBot errOnNull hf hloc hw h hr
  exact ⟨b, hb, hg, PK.stmt_wf fx vars f normBot errOnNull hw b hb⟩

/-- `operator+=`: every constraint is handled as coded (contradiction, tautology, no variable,
    merge of the packs of its variables, bottom test) -/
theorem C03.packing_add_sound {V : Type} [DecidableEq V] {N : NDom V} (cs : List (PK.CstInfo N))
    (hcs : ∀ c ∈ cs, (c.contra = true → ∀ s, ¬ c.sat s) ∧ N.TSound c.f (fun s s' => c.sat s ∧ s' = s) ∧
      (∀ s t, PK.agree c.vars s t → c.sat s → c.sat t))
    (a : PK N) (hw : a.WF) (s : St V) (h : PK.γc a s) (hsat : ∀ c ∈ cs, c.sat s) :
    PK.γc (PK.addCsts cs a) s ∧ (PK.addCsts cs a).WF :=
  ⟨PK.addCsts_sound cs hcs hw h hsat, PK.addCsts_wf cs hw⟩

/-- `operator-=` / `forget` (after b231e50: also on values whose base values are all top) -/
theorem C03.packing_forget_sound {V : Type} [DecidableEq V] {N : NDom V} (xs : List V) (a : PK N) (hw : a.WF)
    (s s' : St V) (h : PK.γc a s) (hr : PK.forgetRel xs s s') :
    PK.γc (PK.forgetAll xs a) s' ∧ (PK.forgetAll xs a).WF :=
  ⟨PK.forgetAll_sound xs hw h hr, PK.forgetAll_wf xs hw⟩

/-- `|`, `||`, `widening_thresholds`: whenever a value is returned it contains both operands (the
    partitions are aligned to their finest common coarsening first) -/
theorem C03.packing_join_sound {V : Type} [DecidableEq V] {N : NDom V} (t : N.TopSound) (g : N.B → N.B → N.B)
    (hg : N.USound g) (a b : PK N) (ha : a.WF) (hb : b.WF) (res : PK N) (h : PK.joinWith g a b = some res)
    (s : St V) (hs : PK.γc a s ∨ PK.γc b s) : PK.γc res s ∧ res.WF :=
  ⟨PK.joinWith_sound t hg ha hb h hs, PK.joinWith_wf ha hb h⟩

/-- `&`, `&&` keep the common states -/
theorem C03.packing_meet_sound {V : Type} [DecidableEq V] {N : NDom V} (g : N.B → N.B → N.B)
    (hg : ∀ x y t, N.γ x t → N.γ y t → N.γ (g x y) t) (a b : PK N) (ha : a.WF) (hb : b.WF) (res : PK N)
    (h : PK.meetWith g a b = some res) (s : St V) (hsa : PK.γc a s) (hsb : PK.γc b s) : PK.γc res s ∧ res.WF :=
  ⟨PK.meetWith_sound hg ha hb h hsa hsb, PK.meetWith_wf ha hb h⟩

/-- `normalize_if_bottom` (851b9a3): when the base operation makes the merged pack bottom the whole
    value is bottom -/
theorem C03.packing_bottom_when_pack_bottom {V : Type} [DecidableEq V] {N : NDom V} (vars : List V) (f : N.B → N.B)
    (errOnNull : Bool) (l : List (Pack N)) (acc : Pack N) (rest : List (Pack N))
    (hm : PK.merge N.top l vars = some (acc, rest)) (hb : N.isBot (f acc.val) = true) :
    PK.stmt none vars f true errOnNull (.packs l) = some .bot ∧ PK.isBottom (.bot : PK N) = true := by
  simp [PK.stmt, PK.stmtOn, hm, hb, PK.isBottom]

/-- what every operation owes at a pool of well-formed values (`Step.OkAt`): the packs of the new
    value are pairwise disjoint and non-empty, and it contains the new states; where the code raises
    CRAB_ERROR (`none`) the model answers top -/
theorem C03.packing_step_ok {V : Type} [DecidableEq V] {N : NDom V} (t : N.TopSound) (op : PK.Op N)
    (hop : op.BaseSound) (p : Pool (PK N)) (hI : ∀ i, (p i).WF) : Step.OkAt PK.WF PK.γc p op.toStep := by
  have htop : (PK.top : PK N).WF := ⟨List.Pairwise.nil, fun p hp => by simp at hp⟩
  cases op with
  | stmt d fx vars f nb en r =>
    show PK.WF ((PK.stmt fx vars f nb en (p d)).getD PK.top) ∧
      ∀ s s', _ → _ → PK.γc ((PK.stmt fx vars f nb en (p d)).getD PK.top) s'
    cases h : PK.stmt fx vars f nb en (p d) with
    | none => exact ⟨htop, fun _ s' _ _ => PK.γc_top s'⟩
    | some b =>
      refine ⟨PK.stmt_wf fx vars f nb en (hI d) b h, fun s s' hg hr => ?_⟩
      obtain ⟨b', hb', hgb⟩ := PK.stmt_sound fx hop.2.2 nb en hop.1 hop.2.1 (hI d) hg hr
      exact Option.some.inj (h.symm.trans hb') ▸ hgb
  | add d cs =>
    exact ⟨PK.addCsts_wf cs (hI d), fun s s' hg hr => hr.1 ▸ PK.addCsts_sound cs hop (hI d) hg hr.2⟩
  | forget d xs => exact ⟨PK.forgetAll_wf xs (hI d), fun s s' => PK.forgetAll_sound xs (hI d)⟩
  | join d a b g =>
    show PK.WF ((PK.joinWith g (p a) (p b)).getD PK.top) ∧ ∀ s, _ → PK.γc ((PK.joinWith g (p a) (p b)).getD PK.top) s
    cases h : PK.joinWith g (p a) (p b) with
    | none => exact ⟨htop, fun s _ => PK.γc_top s⟩
    | some res => exact ⟨PK.joinWith_wf (hI a) (hI b) h, fun s => PK.joinWith_sound t hop (hI a) (hI b) h⟩
  | meet d a b g =>
    show PK.WF ((PK.meetWith g (p a) (p b)).getD PK.top) ∧
      ∀ s, _ → _ → PK.γc ((PK.meetWith g (p a) (p b)).getD PK.top) s
    cases h : PK.meetWith g (p a) (p b) with
    | none => exact ⟨htop, fun s _ _ => PK.γc_top s⟩
    | some res => exact ⟨PK.meetWith_wf (hI a) (hI b) h, fun s => PK.meetWith_sound hop (hI a) (hI b) h⟩
  | copy d s => trivial
  | setTop d => exact ⟨htop, fun _ s' _ _ => PK.γc_top s'⟩
  | setBottom d => trivial

/-- **History soundness of `numerical_packing_domain`** for every base numerical domain with a
    sound `is_top`, every pool of well-formed values, history length and interleaving of
    statements (with pack merging), `+=`, `forget`, `|`, `||`, `&`, `&&`, copies, `set_to_top`,
    `set_to_bottom`; for the cylindrical concretisation and hence for the plain intersection. -/
theorem C03.packing_history_sound {V : Type} [DecidableEq V] {N : NDom V} (t : N.TopSound) (ops : List (PK.Op N))
    (hops : ∀ op ∈ ops, op.BaseSound) (p : Pool (PK N)) (c : CPool (St V)) (hwf : ∀ i, (p i).WF)
    (h0 : ∀ i s, c i s → PK.γc (p i) s) :
    ∀ i s, collHist c (PK.toHist ops) i s →
      PK.γc (runHist p (PK.toHist ops) i) s ∧ PK.γ (runHist p (PK.toHist ops) i) s ∧
      (runHist p (PK.toHist ops) i).WF := by
  have h := history_sound_along _
    (runOk_of_forall _ (List.forall_mem_map.2 fun op hop => C03.packing_step_ok t op (hops op hop)) p) hwf h0
  exact fun i s hc => ⟨h.2 i s hc, PK.γ_of_γc (h.2 i s hc), h.1 i⟩

theorem C03.packing_not_bottom_on_reachable {V : Type} [DecidableEq V] {N : NDom V} (t : N.TopSound)
    (ops : List (PK.Op N)) (hops : ∀ op ∈ ops, op.BaseSound) (p : Pool (PK N)) (c : CPool (St V))
    (hwf : ∀ i, (p i).WF) (h0 : ∀ i s, c i s → PK.γc (p i) s) (i : Nat) (s : St V)
    (hc : collHist c (PK.toHist ops) i s) : PK.isBottom (runHist p (PK.toHist ops) i) = false := by
  cases hb : PK.isBottom (runHist p (PK.toHist ops) i)
  · rfl
  · exact absurd (C03.packing_history_sound t ops hops p c hwf h0 i s hc).1 (PK.not_γc_of_isBottom hb s)

/-! ### non-vacuity: packing over constants (three variables) -/
namespace C03PackingEx
open PK PackEx

/-- the partition and one value of a packing value, for `decide` -/
def shape (a : PK constDom) : Option (List (List V3)) :=
  match a with
  | .bot => none
  | .packs l => some (l.map (·.vars))

def valAt (a : PK constDom) (i : Nat) (v : V3) : Option Int :=
  match a with
  | .bot => none
  | .packs l => match l[i]? with
    | some p => (match p.val with | some m => m v | none => none)
    | none => none

def run (ops : List (Op constDom)) : Pool (PK constDom) := runHist (fun _ => PK.top) (toHist ops)

/-- the model computes: `v0 := 5; v1 := v0; v2 := 7` gives the packs `{v2}`, `{v0, v1}`;
    `forget(v0)` leaves `{v2}`, `{v1}` with `v1 = 5`; `assume v1 == 6` makes a pack bottom and
    with it the whole value (851b9a3), the copy taken before is untouched -/
example : shape (run [op1, op2, op3] 0) = some [[2], [0, 1]] ∧ valAt (run [op1, op2, op3] 0) 1 1 = some 5 ∧
    shape (run [op1, op2, op3, .forget 0 [0]] 0) = some [[2], [1]] ∧
    valAt (run [op1, op2, op3, .forget 0 [0]] 0) 1 1 = some 5 ∧
    isBottom (run [op1, op2, op3, .forget 0 [0], .copy 1 0, op4] 0) = true ∧
    isBottom (run [op1, op2, op3, .forget 0 [0], .copy 1 0, op4] 1) = false := by decide

/-- `|` aligns `{v2},{v0,v1}` with `{v2},{v1}`: common variables v1, v2, classes `{v1}`, `{v2}` -/
example : shape (run [op1, op2, op3, .copy 1 0, .forget 0 [0], .join 2 0 1 constDom.join] 2) = some [[1], [2]] ∧
    valAt (run [op1, op2, op3, .copy 1 0, .forget 0 [0], .join 2 0 1 constDom.join] 2) 0 1 = some 5 := by
  decide

/-- `&` of the same two values: the classes of the right operand are added on the left:
    `{v0, v1}`, `{v2}` with `v0 = 5` (the real code prints the same packs for P1..P4 of this
    scenario over split_dbm: `{x,y},{z}` / `{y},{z}` / join `{y},{z}` / meet `{x,y},{z}` / bottom) -/
example : shape (run [op1, op2, op3, .copy 1 0, .forget 0 [0], .meet 2 0 1 constDom.meet] 2) = some [[0, 1], [2]] ∧
    valAt (run [op1, op2, op3, .copy 1 0, .forget 0 [0], .meet 2 0 1 constDom.meet] 2) 0 0 = some 5 := by
  decide

/-- `packing_history_sound` applies: the run (0,0,0) ↦ (5,0,0) ↦ (5,5,0) ↦ (5,5,7) is in the result -/
example : PK.γ (run [op1, op2, op3] 0) (fun v => if v = 2 then 7 else 5) :=
  (C03.packing_history_sound constDom_topSound [op1, op2, op3]
    (fun op hop => ops_baseSound op (by
      simp only [List.mem_cons, List.mem_nil_iff, or_false] at hop ⊢
      rcases hop with h | h | h <;> simp [h]))
    (fun _ => PK.top) (fun _ s => s = fun _ => 0)
    (fun _ => ⟨List.Pairwise.nil, fun p hp => by simp at hp⟩)
    (fun _ s _ => PK.γc_top s) 0 _
    (by
      simp only [toHist, List.map, collHist, List.foldl, op1, op2, op3, Op.toStep, Step.coll, CPool.set, if_true]
      refine ⟨St.set (St.set (fun _ => 0) 0 5) 1 5, ⟨St.set (fun _ => 0) 0 5, ⟨fun _ => 0, rfl, rfl⟩, rfl⟩, ?_⟩
      funext v
      match v with
      | 0 => rfl
      | 1 => rfl
      | 2 => rfl)).2.1

end C03PackingEx
