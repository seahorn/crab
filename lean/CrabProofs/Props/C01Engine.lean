import CrabProofs.Lemmas.FixSoundRun

/-!
# C01 (engine part) — the interleaved fixpoint iterator is sound

`Crab.Fix.run` is the transcription of `wto_iterator`
(include/crab/fixpoint/interleaved_fixpoint_iterator.hpp); `Crab.Fix.RunSound` is stated in
`CrabModel/Fix/Semantics.lean`: whenever the iterator returns (any fuel, any widening delay, any
number of descending iterations, any assumption map, start block anywhere in the ordering), the
`pre`/`post` tables contain the collecting semantics, for every value type that satisfies the
soundness contract `Sem` (no monotonicity of the transformers, no lattice laws beyond `Sem`)
and every well-formed weak topological ordering.

Of `Sem`, the proof uses `analyze_sound`, `join_left/right` (the joins over predecessors),
`meet_sound`, `narrow_sound` (assumptions, descending phase) and `leq_sound`; `widen_left` and
`widen_right` are used nowhere: the increasing sequence may extrapolate to anything, since the
value it stores has passed the test `new_pre <= pre`, and `leq_sound` makes that value contain the
join over the predecessors.  The two fields are part of `Sem` because it is the soundness contract
of the value type as a whole (the one the domain properties discharge); termination (C05) and
exactness (C06) do not use them either.

Proof: `CrabProofs/Lemmas/FixSoundStruct.lean` (what is used of the ordering),
`FixSoundSem.lean` (least solution of a region relative to the posts outside of it),
`FixSoundMain.lean` (the four mutually recursive visit functions of the state-passing iterator
`runS`, by induction on the fuel), `FixSoundRun.lean` (skipping up to the start block, global
collecting semantics; `run` is `runS` with a stateless block transformer, `FixEqns.lean`).
-/
open Crab Crab.Fix Crab.Fix.Sound

/-- C01: the tables returned by the iterator contain the collecting semantics. -/
theorem C01.run_sound {A : Type} (c : Crab.Fix.Ctx A) (w : List Crab.Fix.Comp) :
    Crab.Fix.RunSound c w :=
  run_sound_of c w

/-- The same with the hypotheses spelled out: of `WtoWF` only `nodup`, `closed`, `edge` and
    `entry_mem` are needed; the nesting table of the ordering plays no role for soundness. -/
theorem C01.run_sound_any_nesting {A S : Type} (c : Ctx A) (w : List Comp) (sem : Sem c S)
    (fuel : Nat) (st : St A)
    (hnodup : (nodesList w).Nodup)
    (hclosed : ∀ p n, p ∈ c.preds n → p ∈ nodesList w → n ∈ nodesList w)
    (hedge : ∀ p n, p ∈ c.preds n → p ∈ nodesList w → n ∈ nodesList w →
      pos w p < pos w n ∨ n ∈ headsOfList p w)
    (hentry : c.entry ∈ nodesList w)
    (hrun : run c fuel w = some st) :
    (∀ n s, ReachPre c sem n s → sem.γ (st.pre n) s) ∧
    (∀ n s, ReachPost c sem n s → sem.γ (st.post n) s) :=
  run_sound_core c w sem fuel st hnodup hclosed hedge hentry hrun

/-- C01, one component: a visit of a component (with skipping already switched off) changes
    only the tables of its own blocks, and afterwards these contain the least solution of the
    flow equations of the component relative to the posts of all other blocks
    (`LPre … (Ext sem st)`), whatever the tables were before.  For a top-level component of a
    well-formed ordering the two hypotheses on `x` are `WtoWF.compOK`. -/
theorem C01.component_sound {A S : Type} (c : Ctx A) (sem : Sem c S) (fuel : Nat)
    (st st' : St A) (x : Comp)
    (hrun : visitComp c fuel st x = some st') (hskip : st.skip = false)
    (hok : CompOK c x) (hnodup : x.nodes.Nodup) :
    (∀ n, n ∉ x.nodes → st'.pre n = st.pre n ∧ st'.post n = st.post n) ∧
    (∀ n s, LPre c sem x.nodes (Ext sem st) n s →
      sem.γ (st'.pre n) s ∧ ∀ s', sem.step n s s' → sem.γ (st'.post n) s') :=
  let h := visitComp_sound c sem fuel st st' x hrun hskip hok hnodup
  ⟨h.1.2, h.2⟩

/-! ### non-vacuity: a well-formed ordering with a loop on which the iterator returns -/

/-- `0 → 1 → 2 → 1`, `1 → 3`; value type `Bool` (`false` = unreachable) -/
def C01.Example.ctx : Ctx Bool where
  ops := { bot := false, top := true, leq := fun a b => !a || b, join := (· || ·),
           meet := (· && ·), widen := (· || ·), narrow := (· && ·) }
  analyze := fun _ a => a
  preds := fun n => if n = 1 then [0, 2] else if n = 2 then [1] else if n = 3 then [1] else []
  nesting := fun n => if n = 2 then some [1] else if n ≤ 3 then some [] else none
  entry := 0
  init := true
  assumptions := none
  delay := 1
  descending := 1

def C01.Example.wto : List Comp := [.vertex 0, .cycle 1 [.vertex 2], .vertex 3]

theorem C01.Example.wf : WtoWF C01.Example.ctx C01.Example.wto :=
  .of_check 4 (by decide) fun n hn => by
    have h1 : n ≠ 1 := by omega
    have h2 : n ≠ 2 := by omega
    have h3 : n ≠ 3 := by omega
    have h4 : ¬ n ≤ 3 := by omega
    exact ⟨by simp only [C01.Example.ctx, if_neg h1, if_neg h2, if_neg h3],
      by simp only [C01.Example.ctx, if_neg h2, if_neg h4]⟩

/-- the iterator returns on it, and reaches every block -/
example : ((run C01.Example.ctx 10 C01.Example.wto).map fun st => [st.pre 0, st.pre 1, st.pre 2, st.pre 3]) =
    some [true, true, true, true] := by decide

/-- the soundness contract is satisfiable for this value type (`γ true` = every state) -/
def C01.Example.sem : Sem C01.Example.ctx Unit where
  γ := fun a _ => a = true
  step := fun _ _ _ => True
  analyze_sound := by intro n a s s' h _; simpa [C01.Example.ctx] using h
  join_left := by intro a b s h; simp [C01.Example.ctx, h]
  join_right := by intro a b s h; simp [C01.Example.ctx, h]
  widen_left := by intro a b s h; simp [C01.Example.ctx, h]
  widen_right := by intro a b s h; simp [C01.Example.ctx, h]
  meet_sound := by intro a b s h1 h2; simp [C01.Example.ctx, h1, h2]
  narrow_sound := by intro a b s h1 h2; simp [C01.Example.ctx, h1, h2]
  leq_sound := by intro a b s h1 h2; simpa [C01.Example.ctx, h2] using h1

/-- and the theorem then says something: block 3 is reachable, so every run stores `true` -/
example (fuel : Nat) (st : St Bool) (h : run C01.Example.ctx fuel C01.Example.wto = some st) :
    st.pre 3 = true := by
  have hs := (C01.run_sound C01.Example.ctx C01.Example.wto Unit C01.Example.sem fuel st
    C01.Example.wf h).1 3 ()
  apply hs
  have asm : ∀ n, asmOk C01.Example.ctx C01.Example.sem n () := by
    intro n; simp [asmOk, hasAssumptions, C01.Example.ctx]
  have r0 : ReachPre C01.Example.ctx C01.Example.sem 0 () := .init () rfl (asm _)
  have r1 : ReachPre C01.Example.ctx C01.Example.sem 1 () :=
    .flow 0 1 () (by simp [C01.Example.ctx]) (.step 0 () () r0 trivial) (asm _)
  exact .flow 1 3 () (by simp [C01.Example.ctx]) (.step 1 () () r1 trivial) (asm _)
