import CrabProofs.Props.C13WDom
import CrabProofs.Lemmas.WDomEnv

/-!
# C13 (part 5) — the wrapped interval domain on environments and bit-vector states

Property theorems only (helpers: `CrabProofs/Lemmas/WDomEnv.lean`, `WDomVal.lean`).

* typing `wd : Var → Nat` with `C13.TyOk wd` (`1 ≤ wd v ≤ 64`);
* a concrete state `σ : Var → Nat` gives every variable the unsigned value of a bit-vector of its
  declared width (`C13.StOk wd σ`); `C13.bv wd σ v : BitVec (wd v)` is that bit-vector;
* `WDom.γ wd e σ` : `e` is not bottom and `σ v ∈ γ(e[v])` at width `wd v`, for every `v`;
* `WDom.Inv e` (invariant of `separate_domain`) and `WDom.Typed wd e` (every binding has the
  declared width) hold of `top`, `bottom` and are preserved by every operation below.

Proved for all typings, environments and states: `assign`, the arithmetic and bitwise `apply`
(variable and constant operand), the casts, `operator-=`, `set`, `<=`, `|`, `||`, `is_bottom`,
`is_top`.  `operator+=` is **unsound** on the current tree (`C13.wdom_assume_counterexample`).
-/
open Crab Crab.WInt Crab.WrapInt Crab.WDom Crab.XDom Crab.Lin

def C13.TyOk (wd : Ty) : Prop := ∀ k, 1 ≤ wd k ∧ wd k ≤ 64
def C13.StOk (wd : Ty) (σ : Var → Nat) : Prop := ∀ k, σ k < 2 ^ wd k
/-- the bit-vector held by `v` -/
def C13.bv (wd : Ty) (σ : Var → Nat) (v : Var) : BitVec (wd v) := BitVec.ofNat (wd v) (σ v)

theorem C13.bv_toNat {wd : Ty} {σ : Var → Nat} (hσ : C13.StOk wd σ) (v : Var) : (C13.bv wd σ v).toNat = σ v := by
  unfold C13.bv; rw [BitVec.toNat_ofNat]; exact Nat.mod_eq_of_lt (hσ v)

theorem C13.memBV_bv {wd : Ty} {e : WDom.Env} {σ : Var → Nat} (hσ : C13.StOk wd σ) (hg : γ wd e σ) (v : Var) :
    memBV (C13.bv wd σ v) (e.get v) := by
  unfold memBV; rw [C13.bv_toNat hσ]; exact hg.2 v

theorem C13.stOk_upd {wd : Ty} {σ : Var → Nat} (hσ : C13.StOk wd σ) (x : Var) (b : BitVec (wd x)) :
    C13.StOk wd (upd σ x b.toNat) := by
  intro k; unfold upd; split
  · next h => subst h; exact b.isLt
  · exact hσ k

/-- the common last step of every transformer: `_env.set(x, i)` keeps the invariant of
    `separate_domain`, keeps the typing when `i` is `top()` or of the width of `x`, and describes the
    state where `x` holds any member of `i` -/
theorem C13.wdom_set_sound (wd : Ty) (e : WDom.Env) (x : Var) (hx : x < 2 ^ 64) (i : WInt) (he : Inv e) :
    Inv (e.set x i) ∧ (Typed wd e → Good (wd x) i → Typed wd (e.set x i)) ∧
      ∀ σ, γ wd e σ → ∀ b : BitVec (wd x), memBV b i → γ wd (e.set x i) (upd σ x b.toNat) :=
  have h := set_spec (wd := wd) (i := i) he hx
  ⟨h.1, h.2.1, fun σ hg b hb => h.2.2 σ b.toNat hg hb⟩

/-- members of the value of a variable `y` of the width of `x`, as a bit-vector of that width -/
theorem C13.memBV_cast {wd : Ty} {e : WDom.Env} {σ : Var → Nat} (hσ : C13.StOk wd σ) (hg : γ wd e σ)
    {x y : Var} (hy : wd y = wd x) : memBV ((C13.bv wd σ y).cast hy) (e.get y) := by
  unfold memBV; rw [BitVec.toNat_cast, C13.bv_toNat hσ, ← hy]; exact hg.2 y

/-- **`apply(op, x, y, z)`, arithmetic, variable operand** (`y`, `z` of the width of `x`): the result
    keeps the invariants, and the successor state gives `x` the bit-vector result (no successor on a
    division by zero) -/
theorem C13.wdom_apply_arith_var_sound (wd : Ty) (hty : C13.TyOk wd) (e r : WDom.Env) (op : ArithOp)
    (x y z : Var) (hx : x < 2 ^ 64) (hy : wd y = wd x) (hz : wd z = wd x)
    (he : Inv e) (ht : Typed wd e) (h : e.applyVar op x y z = some r) :
    (Inv r ∧ Typed wd r) ∧ ∀ σ, C13.StOk wd σ → γ wd e σ → ∀ c : BitVec (wd x),
      C13.bvArith op ((C13.bv wd σ y).cast hy) ((C13.bv wd σ z).cast hz) = some c →
      γ wd r (upd σ x c.toNat) := by
  obtain ⟨xi, hv, rfl⟩ := store_eq (o := arithEval op (e.get y) (e.get z)) h
  obtain ⟨gx, m⟩ := C13.wdom_apply_arith_sound (wd x) (hty x).1 (hty x).2 op _ _ xi
    (hy ▸ get_good ht y) (hz ▸ get_good ht z) hv
  obtain ⟨i, t, s⟩ := C13.wdom_set_sound wd e x hx xi he
  exact ⟨⟨i, t ht gx⟩, fun σ hσ hg c hc =>
    s σ hg c (m _ _ c (C13.memBV_cast hσ hg hy) (C13.memBV_cast hσ hg hz) hc)⟩

/-- **`apply(op, x, y, k)`, arithmetic, constant operand**: `k` is read modulo `2^width(x)` -/
theorem C13.wdom_apply_arith_cst_sound (wd : Ty) (hty : C13.TyOk wd) (e r : WDom.Env) (op : ArithOp)
    (x y : Var) (k : Int) (hx : x < 2 ^ 64) (hy : wd y = wd x)
    (he : Inv e) (ht : Typed wd e) (h : e.applyCst wd op x y k = some r) :
    (Inv r ∧ Typed wd r) ∧ ∀ σ, C13.StOk wd σ → γ wd e σ → ∀ c : BitVec (wd x),
      C13.bvArith op ((C13.bv wd σ y).cast hy) (BitVec.ofInt (wd x) k) = some c →
      γ wd r (upd σ x c.toNat) := by
  unfold Env.applyCst at h
  cases hk : WInt.ofZ k (wd x) with
  | none => rw [hk] at h; cases h
  | some zi =>
    rw [hk] at h
    obtain ⟨xi, hv, rfl⟩ := store_eq (o := arithEval op (e.get y) zi) h
    obtain ⟨gx, m⟩ := C13.wdom_apply_arith_sound (wd x) (hty x).1 (hty x).2 op _ _ xi
      (hy ▸ get_good ht y) (C13.wdom_const_good (wd x) (hty x).1 (hty x).2 k zi hk) hv
    obtain ⟨i, t, s⟩ := C13.wdom_set_sound wd e x hx xi he
    exact ⟨⟨i, t ht gx⟩, fun σ hσ hg c hc => s σ hg c (m _ _ c (C13.memBV_cast hσ hg hy)
      (C13.wdom_const_sound (wd x) (hty x).1 (hty x).2 k zi hk) hc)⟩

/-- **bitwise `apply`**, variable operand: `r = e.set x xi` for the value `xi` of the `switch`;
    the typing is kept when `xi` is `top()` or of the width of `x` (always for `And/Or/Xor`) -/
theorem C13.wdom_apply_bitwise_var_sound (wd : Ty) (hty : C13.TyOk wd) (e r : WDom.Env) (op : BitOp)
    (x y z : Var) (hx : x < 2 ^ 64) (hy : wd y = wd x) (hz : wd z = wd x)
    (he : Inv e) (ht : Typed wd e) (h : e.applyBitVar op x y z = some r)
    (σ : Var → Nat) (hσ : C13.StOk wd σ) (hg : γ wd e σ) :
    γ wd r (upd σ x (C13.bvBit op ((C13.bv wd σ y).cast hy) ((C13.bv wd σ z).cast hz)).toNat) ∧ Inv r ∧
      ∃ xi, bitEval op (e.get y) (e.get z) = some xi ∧ (Good (wd x) xi → Typed wd r) ∧
        (op = .and ∨ op = .or ∨ op = .xor → Typed wd r) := by
  obtain ⟨xi, hv, rfl⟩ := store_eq (o := bitEval op (e.get y) (e.get z)) h
  have gy : Good (wd x) (e.get y) := hy ▸ get_good ht y
  have gz : Good (wd x) (e.get z) := hz ▸ get_good ht z
  have hm := C13.wdom_apply_bitwise_sound (wd x) (hty x).1 (hty x).2 op _ _ xi gy gz hv _ _
    (C13.memBV_cast hσ hg hy) (C13.memBV_cast hσ hg hz)
  obtain ⟨i, t, s⟩ := C13.wdom_set_sound wd e x hx xi he
  refine ⟨s σ hg _ hm, i, xi, hv, t ht, fun hop => ?_⟩
  have : xi = (e.get y).defaultImpl (e.get z) := by
    rcases hop with rfl | rfl | rfl <;> exact (Option.some.inj hv).symm
  exact t ht (this ▸ defaultImpl_good (wd x) _ _)

/-- **bitwise `apply`**, constant operand -/
theorem C13.wdom_apply_bitwise_cst_sound (wd : Ty) (hty : C13.TyOk wd) (e r : WDom.Env) (op : BitOp)
    (x y : Var) (k : Int) (hx : x < 2 ^ 64) (hy : wd y = wd x)
    (he : Inv e) (ht : Typed wd e) (h : e.applyBitCst wd op x y k = some r)
    (σ : Var → Nat) (hσ : C13.StOk wd σ) (hg : γ wd e σ) :
    γ wd r (upd σ x (C13.bvBit op ((C13.bv wd σ y).cast hy) (BitVec.ofInt (wd x) k)).toNat) ∧ Inv r ∧
      ∃ zi xi, WInt.ofZ k (wd x) = some zi ∧ bitEval op (e.get y) zi = some xi ∧
        (Good (wd x) xi → Typed wd r) := by
  unfold Env.applyBitCst at h
  cases hk : WInt.ofZ k (wd x) with
  | none => rw [hk] at h; cases h
  | some zi =>
    rw [hk] at h
    obtain ⟨xi, hv, rfl⟩ := store_eq (o := bitEval op (e.get y) zi) h
    have gy : Good (wd x) (e.get y) := hy ▸ get_good ht y
    have gz := C13.wdom_const_good (wd x) (hty x).1 (hty x).2 k zi hk
    have hm := C13.wdom_apply_bitwise_sound (wd x) (hty x).1 (hty x).2 op _ _ xi gy gz hv _ _
      (C13.memBV_cast hσ hg hy) (C13.wdom_const_sound (wd x) (hty x).1 (hty x).2 k zi hk)
    obtain ⟨i, t, s⟩ := C13.wdom_set_sound wd e x hx xi he
    exact ⟨s σ hg _ hm, i, zi, xi, rfl, hv, t ht⟩

/-- **`assign(x, e)`** (all the variables of `e` have the width of `x`): the result keeps the
    invariants, and the successor state gives `x` the value of `e` computed modulo `2^width(x)` -/
theorem C13.wdom_assign_sound (wd : Ty) (hty : C13.TyOk wd) (e r : WDom.Env) (x : Var) (ex : Expr)
    (hx : x < 2 ^ 64) (hex : ∀ p ∈ ex.terms, wd p.1 = wd x)
    (he : Inv e) (ht : Typed wd e) (h : e.assign wd x ex = some r) :
    (Inv r ∧ Typed wd r) ∧ ∀ σ, C13.StOk wd σ → γ wd e σ →
      γ wd r (upd σ x (C13.bvLin (wd x) σ ex).toNat) := by
  unfold Env.assign at h
  cases hv : getVariable ex with
  | some v =>
    rw [hv] at h; obtain rfl := Option.some.inj h
    have hshape := getVariable_some hv
    have hvw : wd v = wd x := hex (v, 1) (by rw [hshape.1]; exact List.mem_cons_self ..)
    obtain ⟨i, t, s⟩ := C13.wdom_set_sound wd e x hx (e.get v) he
    refine ⟨⟨i, t ht (hvw ▸ get_good ht v)⟩, fun σ hσ hg => s σ hg _ ?_⟩
    have hval : (C13.bvLin (wd x) σ ex).toNat = σ v := by
      unfold C13.bvLin Expr.eval
      rw [hshape.1, hshape.2]
      simp only [Expr.evalTerms, Int.one_mul, Int.add_zero, BitVec.toNat_ofInt]
      have hlt : σ v < 2 ^ wd x := hvw ▸ hσ v
      have hlt' : ((σ v : Nat) : Int) < ((2 ^ wd x : Nat) : Int) := by exact_mod_cast hlt
      rw [Int.emod_eq_of_lt (by omega) hlt']
      rfl
    unfold memBV; rw [hval, ← hvw]; exact hg.2 v
  | none =>
    rw [hv] at h
    obtain ⟨ri, hr, rfl⟩ := store_eq (o := e.evalExpr ex (wd x)) h
    obtain ⟨g, m⟩ := C13.wdom_eval_sound (wd x) (hty x).1 (hty x).2 e ex ri
      (fun p hp => hex p hp ▸ get_good ht p.1) hr
    obtain ⟨i, t, s⟩ := C13.wdom_set_sound wd e x hx ri he
    exact ⟨⟨i, t ht g⟩, fun σ hσ hg =>
      s σ hg _ (m σ fun p hp => ⟨hex p hp ▸ hσ p.1, hex p hp ▸ hg.2 p.1⟩)⟩

/-- **casts on environments** (`apply(int_conv_operation_t, dst, src)`): the successor state gives
    `dst` the zero extension / sign extension / truncation of the bit-vector of `src` -/
theorem C13.wdom_cast_env_sound (wd : Ty) (hty : C13.TyOk wd) (e r : WDom.Env) (op : CastOp)
    (dst src : Var) (hd : dst < 2 ^ 64) (he : Inv e) (ht : Typed wd e)
    (h : e.cast wd op dst src = some r) (σ : Var → Nat) (hσ : C13.StOk wd σ) (hg : γ wd e σ) :
    γ wd r (upd σ dst (C13.bvCast op (wd dst) (C13.bv wd σ src)).toNat) ∧ Inv r ∧
      ∃ di, Env.castVal wd op dst src (e.get src) = some di ∧ (Good (wd dst) di → Typed wd r) := by
  obtain ⟨di, hv, rfl⟩ := store_eq (o := Env.castVal wd op dst src (e.get src)) h
  have hm := C13.wdom_cast_sound wd op dst src (e.get src) di (hty src).1 (hty src).2 (get_good ht src) hv
    (C13.bv wd σ src) (C13.memBV_bv hσ hg src)
  obtain ⟨i, t, s⟩ := C13.wdom_set_sound wd e dst hd di he
  exact ⟨s σ hg _ hm, i, di, hv, t ht⟩

/-- **`operator-=(x)`**: `x` may take any value afterwards -/
theorem C13.wdom_forget_sound (wd : Ty) (e : WDom.Env) (x : Var) (hx : x < 2 ^ 64) (he : Inv e)
    (ht : Typed wd e) (σ : Var → Nat) (hg : γ wd e σ) (n : Nat) :
    γ wd (XDom.Env.forget wintLattice e x) (upd σ x n) ∧ Inv (XDom.Env.forget wintLattice e x) ∧
      Typed wd (XDom.Env.forget wintLattice e x) :=
  ⟨(forget_spec' he ht hx).2.2 σ hg n, (forget_spec' he ht hx).1, (forget_spec' he ht hx).2.1⟩

/-- **`expand(x, new_x)`** (`new_x` of the width of `x`): `new_x` becomes a copy of `x` -/
theorem C13.wdom_expand_sound (wd : Ty) (e : WDom.Env) (x nx : Var) (hnx : nx < 2 ^ 64) (hw : wd nx = wd x)
    (he : Inv e) (ht : Typed wd e) (σ : Var → Nat) (hg : γ wd e σ) :
    γ wd (XDom.Env.expand wintLattice e x nx) (upd σ nx (σ x)) ∧ Inv (XDom.Env.expand wintLattice e x nx) ∧
      Typed wd (XDom.Env.expand wintLattice e x nx) := by
  unfold XDom.Env.expand
  split
  · next hbt =>
    have hbt' : e.isTop = true := by
      simp only [Bool.or_eq_true] at hbt
      rcases hbt with hb | hb
      · have : e.isBot = true := hb
        rw [hg.1] at this; cases this
      · exact hb
    exact ⟨γ_of_isTop he hbt' _, he, ht⟩
  · obtain ⟨i, t, s⟩ := set_spec (wd := wd) (i := e.get x) he hnx
    exact ⟨s σ (σ x) hg (hw ▸ hg.2 x), i, t ht (hw ▸ get_good ht x)⟩

/-! ## lattice operations -/

/-- **`operator<=`**: a yes answer is an inclusion of concretisations -/
theorem C13.wdom_leq_sound (wd : Ty) (hty : C13.TyOk wd) (a b : WDom.Env) (ha : Inv a) (hb : Inv b)
    (ta : Typed wd a) (tb : Typed wd b) (h : XDom.Env.leq wintLattice a b = true)
    (σ : Var → Nat) (hσ : C13.StOk wd σ) (hg : γ wd a σ) : γ wd b σ :=
  leq_sound (fun k => (hty k).2) ha hb ta tb h hσ hg

/-- **`operator|`** is an upper bound, and keeps the invariants -/
theorem C13.wdom_join_upper (wd : Ty) (hty : C13.TyOk wd) (a b : WDom.Env) (ha : Inv a) (hb : Inv b)
    (ta : Typed wd a) (tb : Typed wd b) (σ : Var → Nat) (hσ : C13.StOk wd σ) (hg : γ wd a σ ∨ γ wd b σ) :
    γ wd (XDom.Env.join wintLattice a b) σ :=
  upper_sound (fun _ _ => join_nonbot) (fun _ => join_self) (fun k => (hty k).2) ha hb ta tb
    (fun _ hw _ _ hx hy _ hv hm => WInt.join_upper hw hx hy hv hm) hσ hg

theorem C13.wdom_join_inv (wd : Ty) (hty : C13.TyOk wd) (a b : WDom.Env) (ha : Inv a) (hb : Inv b)
    (ta : Typed wd a) (tb : Typed wd b) :
    Inv (XDom.Env.join wintLattice a b) ∧ Typed wd (XDom.Env.join wintLattice a b) :=
  upper_inv (fun _ _ => join_nonbot) (fun _ => join_self) (fun k => (hty k).2) ha hb ta tb
    fun _ _ _ _ hx hy => join_shape hx hy

/-- **`operator||`** is an upper bound of both operands, and keeps the invariants -/
theorem C13.wdom_widen_upper (wd : Ty) (hty : C13.TyOk wd) (a b : WDom.Env) (ha : Inv a) (hb : Inv b)
    (ta : Typed wd a) (tb : Typed wd b) (σ : Var → Nat) (hσ : C13.StOk wd σ) (hg : γ wd a σ ∨ γ wd b σ) :
    γ wd (XDom.Env.widen wintLattice a b) σ :=
  upper_sound (fun _ _ => widen_nonbot) (fun _ => widen_self) (fun k => (hty k).2) ha hb ta tb
    (fun _ hw _ _ hx hy _ hv hm => WInt.widen_sound hw hx hy hv hm) hσ hg

theorem C13.wdom_widen_inv (wd : Ty) (hty : C13.TyOk wd) (a b : WDom.Env) (ha : Inv a) (hb : Inv b)
    (ta : Typed wd a) (tb : Typed wd b) :
    Inv (XDom.Env.widen wintLattice a b) ∧ Typed wd (XDom.Env.widen wintLattice a b) :=
  upper_inv (fun _ _ => widen_nonbot) (fun _ => widen_self) (fun k => (hty k).2) ha hb ta tb
    fun _ hw _ _ hx hy => widen_good hw hx hy

/-- **`operator&`** keeps every common state.  (That the result again satisfies the invariant "top
    is never stored" is not proved here; it is what the harness observes.) -/
theorem C13.wdom_meet_sound (wd : Ty) (hty : C13.TyOk wd) (a b : WDom.Env) (ha : Inv a) (hb : Inv b)
    (ta : Typed wd a) (tb : Typed wd b) (σ : Var → Nat) (hσ : C13.StOk wd σ) (hga : γ wd a σ) (hgb : γ wd b σ) :
    γ wd (XDom.Env.meet wintLattice a b) σ :=
  meet_sound (fun k => (hty k).2) ha hb ta tb hσ hga hgb

/-- **`operator&&`** (the meet of the values) keeps every common state -/
theorem C13.wdom_narrow_sound (wd : Ty) (hty : C13.TyOk wd) (a b : WDom.Env) (ha : Inv a) (hb : Inv b)
    (ta : Typed wd a) (tb : Typed wd b) (σ : Var → Nat) (hσ : C13.StOk wd σ) (hga : γ wd a σ) (hgb : γ wd b σ) :
    γ wd (XDom.Env.narrow wintLattice a b) σ :=
  meet_sound (fun k => (hty k).2) ha hb ta tb hσ hga hgb

/-- **`is_bottom()`**: a yes answer describes no state -/
theorem C13.wdom_is_bottom_sound (wd : Ty) (e : WDom.Env) (h : XDom.Env.isBottom e = true) (σ : Var → Nat) :
    ¬ γ wd e σ := not_γ_of_bot h σ

/-- **`is_top()`**: a yes answer describes every state -/
theorem C13.wdom_is_top_sound (wd : Ty) (e : WDom.Env) (he : Inv e) (h : XDom.Env.isTop e = true)
    (σ : Var → Nat) : γ wd e σ := γ_of_isTop he h σ

/-- `top` describes every state, `bottom` none -/
theorem C13.wdom_top_bottom (wd : Ty) (σ : Var → Nat) : γ wd WDom.Env.top σ ∧ ¬ γ wd WDom.Env.bot σ :=
  ⟨γ_top wd σ, not_γ_of_bot rfl σ⟩
