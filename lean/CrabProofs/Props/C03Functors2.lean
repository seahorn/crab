import CrabProofs.Lemmas.FunctorVPartInst
import CrabProofs.Lemmas.FunctorUfInst
import CrabProofs.Lemmas.FunctorHistory

/-!
# C03 — soundness under arbitrary histories, functor part 2: `value_partitioning_domain`, `uf_domain`

Model: `CrabModel/Dom/Functors/ValuePartitioning.lean` (the code of
include/crab/domains/value_partitioning_domain.hpp as it is, over ANY lawful base `VDom V S`).
Every theorem below holds for every base domain, every partitioning variable, any number of
partitions.  `γ` = union of the partitions; `VP.Inv` = the vector is not empty and has one element
when there is no partitioning variable (this is what keeps the CRAB_ERROR branches of
`merge_partitions()` / `remove_partitions()` unreachable).

`update_partitions()` is modelled AFTER repo commit 8f4c9c7: its intervals are non-empty, sorted and
strictly separated (`C03.vpart_update_disjoint`).

PINNED-TREE DEFECT (fixed by 8f4c9c7; `VP.mergeAdjOld` / `VP.updatePartsOld` keep the old loop for the
counterexample theorems): the merge loop did not compare a merged partition with its new
successor, so intervals could overlap (`C03.vpart_update_disjoint_old_counterexample`); the
element-wise branch of `apply_binary_op` (`&`, `&&`, `&=`) pairs the partitions by position, and the
meet of two such values that share a state was bottom.  Replay (corpus/h_dom2/vpart_overlap.ops;
`python3 tools/hrun.py h_dom2_27 --source h_dom2 --define -DVDOM=27 -- --ops f`): on the pinned tree
the final `(meet 1 0 2)` answered bottom although `(v0,v1,v2) = (5,5,0)` is in both operands, and
value #0 was not `<=` itself:

    (dom2.hist vpart-intervals (params) (ops (assign 0 v0 (lin 0)) (assume 0 (le (lin 0 (-1 v1))) (le (lin -10 (1 v1)))) (assign 0 v2 (lin 0)) (vpstart 0 v0) (top 1) (assign 1 v0 (lin 1)) (assume 1 (le (lin 1 (-1 v1))) (le (lin -2 (1 v1)))) (assign 1 v2 (lin 0)) (vpstart 1 v0) (join 0 0 1) (top 1) (assign 1 v0 (lin 2)) (assume 1 (le (lin 5 (-1 v1))) (le (lin -6 (1 v1)))) (assign 1 v2 (lin 1)) (vpstart 1 v0) (join 0 0 1) (assign 0 v0 (lin 0 (1 v1))) (assign 2 v0 (lin 0)) (assume 2 (le (lin 0 (-1 v1))) (le (lin -10 (1 v1)))) (assign 2 v2 (lin 1)) (vpstart 2 v0) (top 3) (assign 3 v0 (lin 1)) (assume 3 (le (lin 1 (-1 v1))) (le (lin -2 (1 v1)))) (assign 3 v2 (lin 1)) (vpstart 3 v0) (join 2 2 3) (top 3) (assign 3 v0 (lin 2)) (assume 3 (le (lin 5 (-1 v1))) (le (lin -6 (1 v1)))) (assign 3 v2 (lin 0)) (vpstart 3 v0) (join 2 2 3) (assign 2 v0 (lin 0 (1 v1))) (meet 1 0 2)))

`_partial`: `&`, `&&`, histories and reflexivity of `<=`.  As statements about ALL values with
`VP.Inv` they are false (values with overlapping intervals exist: the counterexamples, built with
the old loop).  Full statements need the stronger pool invariant "intervals pairwise disjoint and
every reachable state sits in a partition whose interval covers its value of the partitioning
variable".  `C03.vpart_meet_sound_of_keys` shows it suffices, `C03.vpart_update_disjoint` establishes
its first half after every `update_partitions()`; its preservation by EVERY operation is not
proved: it needs (i) a law `s(x) ∈ dom[x]` for the base query, (ii) frame conditions "the statement
does not change the partitioning variable" that the operation language `VP.Op` does not carry
(`.map`, `.drop`, `.rename` come with an arbitrary relation), (iii) separation of the result of the
two-cursor sweep of `operator|=`; and it is a property of (concrete set, value) pairs, not of
values, so `history_sound_along` has to be run with the key-aware concretisation instead of `VP.γ`.
-/
open Crab Crab.Dom Crab.Dom.Fct

variable {V S : Type} [DecidableEq V] {D : VDom V S}

/-! ## transformers -/

/-- statements applied per partition (`expand`, other intrinsics, `normalize`, `minimize`) -/
theorem C03.vpart_map_sound {f : D.B → D.B} {r : S → S → Prop} (hf : D.TSound f r) (a : VP D) (s s' : S) :
    VP.γ a s → r s s' → VP.γ (VP.mapOp f a) s' := by
  intro hg hr
  unfold VP.mapOp
  rw [VP.isBottom_false_of_γ hg]
  exact VP.mapParts_sound hf a s s' hg hr

/-- `assign`, `weak_assign`, the `apply`s: per partition plus `update_partitions()` when the
    partitioning variable is defined (intervals recomputed, empty partitions dropped, sort, merge) -/
theorem C03.vpart_assign_sound (x : V) {f : D.B → D.B} {r : S → S → Prop} (hf : D.TSound f r) (a : VP D)
    (s s' : S) : VP.γ a s → r s s' → VP.γ (VP.assignOp x f a) s' := by
  intro hg hr
  unfold VP.assignOp
  rw [VP.isBottom_false_of_γ hg]
  simp only [Bool.not_false, if_true]
  split
  · exact VP.updateParts_sound _ _ (VP.mapParts_sound hf a s s' hg hr)
  · exact VP.mapParts_sound hf a s s' hg hr

/-- `update_partitions()` alone loses no state -/
theorem C03.vpart_update_sound (a : VP D) (s : S) : VP.γ a s → VP.γ (VP.updateParts a) s :=
  VP.updateParts_sound a s

/-- `operator+=`: bottom partitions dropped, one split per disequality on the partitioning
    variable, canonical bottom when nothing is left -/
theorem C03.vpart_add_sound {c : VP.Csts D} {P : S → Prop} (hc : c.Sound P) {a : VP D} (h : VP.Inv a) (s : S) :
    VP.γ a s → P s → VP.γ (VP.addOp c a) s := VP.addOp_sound hc h s

/-- `operator-=`, `forget`, `project` (partitioning given up when its variable goes) -/
theorem C03.vpart_forget_sound (hit : V → Bool) {f : D.B → D.B} {r : S → S → Prop} (hf : D.TSound f r)
    {a : VP D} (h : VP.Inv a) (s s' : S) : VP.γ a s → r s s' → VP.γ (VP.dropOp hit f a) s' := by
  intro hg hr
  unfold VP.dropOp
  rw [VP.isBottom_false_of_γ hg]
  simp only [Bool.not_false, if_true]
  split
  · split
    · exact VP.mapParts_sound hf _ s s' (VP.removeParts_sound h hg) hr
    · exact VP.mapParts_sound hf a s s' hg hr
  · exact VP.mapParts_sound hf a s s' hg hr

theorem C03.vpart_rename_sound (ren : V → V) {f : D.B → D.B} {r : S → S → Prop} (hf : D.TSound f r)
    (a : VP D) (s s' : S) : VP.γ a s → r s s' → VP.γ (VP.renameOp ren f a) s' := by
  intro hg hr
  unfold VP.renameOp
  rw [VP.isBottom_false_of_γ hg]
  exact VP.mapParts_sound hf ⟨a.var.map ren, a.parts⟩ s s' hg hr

/-- `intrinsic("value_partition_start", x)` -/
theorem C03.vpart_partition_start_sound (x : V) (a : VP D) (s : S) : VP.γ a s → VP.γ (VP.vpStart x a) s := by
  intro hg
  unfold VP.vpStart
  split
  · exact hg
  · split
    · exact hg
    · exact VP.updateParts_sound _ _ hg

/-- `intrinsic("value_partition_end", x)` -/
theorem C03.vpart_partition_end_sound (x : V) {a : VP D} (h : VP.Inv a) (s : S) :
    VP.γ a s → VP.γ (VP.vpEnd x a) s := by
  intro hg
  unfold VP.vpEnd
  split
  · exact hg
  · split
    · exact VP.removeParts_sound h hg
    · exact hg

/-- `select` (DEFAULT_SELECT: two `+=`, two `assign`, one `|`) -/
theorem C03.vpart_select_sound (x : V) {cnd cneg : VP.Csts D} {f1 f2 : D.B → D.B} {P : S → Prop}
    {r1 r2 : S → S → Prop} (h1 : cnd.Sound P) (h2 : cneg.Sound (fun s => ¬ P s))
    (hf1 : D.TSound f1 r1) (hf2 : D.TSound f2 r2) {a : VP D} (h : VP.Inv a) (s s' : S) :
    VP.γ a s → ((P s ∧ r1 s s') ∨ (¬ P s ∧ r2 s s')) → VP.γ (VP.selectOp x cnd cneg f1 f2 a) s' := by
  intro hg hr
  unfold VP.selectOp
  rw [VP.isBottom_false_of_γ hg]
  simp only [Bool.not_false, if_true]
  split
  · rename_i hb
    rcases hr with ⟨hP, _⟩ | ⟨_, hr⟩
    · exact absurd hP (VP.addOp_bottom h1 h hb s hg)
    · exact C03.vpart_assign_sound x hf2 a s s' hg hr
  · split
    · rename_i hb
      rcases hr with ⟨_, hr⟩ | ⟨hP, _⟩
      · exact C03.vpart_assign_sound x hf1 a s s' hg hr
      · exact absurd hP (VP.addOp_bottom h2 h hb s hg)
    · apply VP.join_sound (VP.assignOp_inv _ _ (VP.addOp_inv _ h)) (VP.assignOp_inv _ _ (VP.addOp_inv _ h))
      rcases hr with ⟨hP, hr⟩ | ⟨hP, hr⟩
      · exact Or.inl (C03.vpart_assign_sound x hf1 _ s s' (VP.addOp_sound h1 h s hg hP) hr)
      · exact Or.inr (C03.vpart_assign_sound x hf2 _ s s' (VP.addOp_sound h2 h s hg hP) hr)

theorem C03.vpart_set_to_top_sound (a : VP D) (s : S) : VP.γ (VP.setTop a) s := VP.setTop_sound a s

/-! ## queries -/

/-- `at`, `operator[]`, `to_linear_constraint_system`: any sound query of the base, asked on the
    join of all partitions, is sound -/
theorem C03.vpart_query_sound {R : Type} (q : D.B → R) (ok : R → S → Prop)
    (hq : ∀ b s, D.γ b s → ok (q b) s) (a : VP D) (s : S) : VP.γ a s → ok (VP.smashQuery q a) s :=
  fun hg => hq _ _ (VP.mergeParts_sound hg)

/-- `entails`: a yes holds in every state -/
theorem C03.vpart_entails_sound (e : D.B → Bool) (C : S → Prop) (he : ∀ b s, e b = true → D.γ b s → C s)
    (a : VP D) (h : VP.entails e a = true) (s : S) : VP.γ a s → C s := VP.entails_sound e C he a h s

/-- `to_disjunctive_linear_constraint_system`: never "false" on a state of the value, and some
    disjunct holds unless the answer is "true" -/
theorem C03.vpart_disj_sound {R : Type} (q : D.B → R) (ok : R → S → Prop) (hq : ∀ b s, D.γ b s → ok (q b) s)
    (a : VP D) (s : S) : VP.γ a s → ∃ l, VP.toDisj q a = some l ∧ (l = [] ∨ ∃ c ∈ l, ok c s) := by
  intro hg
  unfold VP.toDisj
  rw [VP.isBottom_false_of_γ hg]
  simp only [Bool.false_eq_true, if_false]
  split
  · exact ⟨[], rfl, Or.inl rfl⟩
  · obtain ⟨p, hp, hx⟩ := hg
    exact ⟨_, rfl, Or.inr ⟨q p.val, List.mem_map.2 ⟨p, hp, rfl⟩, hq _ _ hx⟩⟩

/-! ## upper bounds -/

/-- `operator|`, `operator|=`: all four pairing cases, including the merging loop -/
theorem C03.vpart_join_sound {a b : VP D} (ha : VP.Inv a) (hb : VP.Inv b) (s : S) :
    (VP.γ a s ∨ VP.γ b s) → VP.γ (VP.join a b) s := VP.join_sound ha hb s

/-- `operator||`, `widening_thresholds` for any widening `w` of the base and ANY function `iw` on
    the intervals (they do not take part in the concretisation) -/
theorem C03.vpart_widen_sound (t : D.TopSound) (iw : Itv → Itv → Itv) {w : D.B → D.B → D.B} (hw : D.USound w)
    {a b : VP D} (ha : VP.Inv a) (hb : VP.Inv b) (s : S) :
    (VP.γ a s ∨ VP.γ b s) → VP.γ (VP.widenWith iw w a b) s := fun h =>
  binop_cases (VP.γ · s) (VP.γ_of_early t hb h) (fun _ => VP.γ_of_early t ha h.symm) fun _ _ =>
    VP.applyBin_upper iw hw ha hb s h

/-! ## lower bounds: `&`, `&&` -/

def C03.vpart_meet_sound_Statement : Prop :=
  ∀ (V S : Type) [DecidableEq V] (D : VDom V S) (a b : VP D) (s : S),
    VP.Inv a → VP.Inv b → VP.γ a s → VP.γ b s → VP.γ (VP.meet a b) s

def C03.vpart_narrow_sound_Statement : Prop :=
  ∀ (V S : Type) [DecidableEq V] (D : VDom V S) (a b : VP D) (s : S),
    VP.Inv a → VP.Inv b → VP.γ a s → VP.γ b s → VP.γ (VP.narrow a b) s

/-- `&` is a lower bound whenever it does not take the element-wise branch on more than one
    partition (decidable: `VP.eltwise`) -/
theorem C03.vpart_meet_sound_partial {a b : VP D} (ha : VP.Inv a) (hb : VP.Inv b)
    (he : VP.eltwise a b = false) (s : S) : VP.γ a s → VP.γ b s → VP.γ (VP.meet a b) s :=
  VP.lowerWith_sound _ D.lSound_meet ha hb (fun c1 c2 =>
    VP.zipLower_of_not_eltwise D.lSound_meet ha (Bool.not_eq_true _ ▸ c1) (Bool.not_eq_true _ ▸ c2) he) s

theorem C03.vpart_narrow_sound_partial {a b : VP D} (ha : VP.Inv a) (hb : VP.Inv b)
    (he : VP.eltwise a b = false) (s : S) : VP.γ a s → VP.γ b s → VP.γ (VP.narrow a b) s :=
  VP.lowerWith_sound _ D.lSound_narrow ha hb (fun c1 c2 =>
    VP.zipLower_of_not_eltwise D.lSound_narrow ha (Bool.not_eq_true _ ▸ c1) (Bool.not_eq_true _ ▸ c2) he) s

/-- ... and on every branch when the intervals of the left operand are pairwise disjoint and
    the intervals of both operands cover the values of the partitioning variable (`ev`) in their
    partitions: the promise of the class comment, which `update_partitions()` does not keep -/
theorem C03.vpart_meet_sound_of_keys (ev : S → V → Int) {a b : VP D} (ha : VP.Inv a) (hb : VP.Inv b)
    (ka : VP.KeySound ev a) (kb : VP.KeySound ev b) (hd : VP.KeysDisjoint a.parts) (s : S) :
    VP.γ a s → VP.γ b s → VP.γ (VP.meet a b) s :=
  VP.lowerWith_sound _ D.lSound_meet ha hb (fun _ _ => VP.zipLower_of_keys ev D.lSound_meet ha ka kb hd) s

theorem C03.vpart_narrow_sound_of_keys (ev : S → V → Int) {a b : VP D} (ha : VP.Inv a) (hb : VP.Inv b)
    (ka : VP.KeySound ev a) (kb : VP.KeySound ev b) (hd : VP.KeysDisjoint a.parts) (s : S) :
    VP.γ a s → VP.γ b s → VP.γ (VP.narrow a b) s :=
  VP.lowerWith_sound _ D.lSound_narrow ha hb (fun _ _ => VP.zipLower_of_keys ev D.lSound_narrow ha ka kb hd) s

open VPartEx in
/-- pinned-tree behaviour (fixed by 8f4c9c7): `x := y` on three separated partitions left the
    intervals `[-oo,+oo]`, `[5,5]`; two such values share the state `(x,y,f) = (5,5,0)` and their
    meet is bottom.  The values still satisfy `VP.Inv`, so the statement over all such values fails -/
theorem C03.vpart_meet_sound_counterexample : ¬ C03.vpart_meet_sound_Statement := by
  intro h
  have h1 : VP.γ (VP.meet (xyOld W0) (xyOld Z0)) (st 5 5 0) :=
    h V3 (St V3) constVDom (xyOld W0) (xyOld Z0) (st 5 5 0) inv_xyOld_W0 inv_xyOld_Z0
      mem_xyOld_W0 mem_xyOld_Z0
  exact VP.not_γ_of_isBottom (by decide) _ h1

open VPartEx in
theorem C03.vpart_narrow_sound_counterexample : ¬ C03.vpart_narrow_sound_Statement := by
  intro h
  have h1 : VP.γ (VP.narrow (xyOld W0) (xyOld Z0)) (st 5 5 0) :=
    h V3 (St V3) constVDom (xyOld W0) (xyOld Z0) (st 5 5 0) inv_xyOld_W0 inv_xyOld_Z0
      mem_xyOld_W0 mem_xyOld_Z0
  exact VP.not_γ_of_isBottom (by decide) _ h1

/-- "partitions are sorted and they don't overlap" after `update_partitions()` (code after
    8f4c9c7): the intervals are non-empty, each strictly before the next, hence pairwise disjoint -/
theorem C03.vpart_update_disjoint {a : VP D} (hv : a.var ≠ none) :
    VP.keysSep (VP.updateParts a).parts = true ∧ VP.KeysDisjoint (VP.updateParts a).parts :=
  ⟨VP.updateParts_sep hv, VP.keysDisjoint_of_sep _ (VP.updateParts_sep hv)⟩

/-- the same for the pinned tree (`VP.updatePartsOld`, fixed by 8f4c9c7) -/
def C03.vpart_update_disjoint_old_Statement : Prop :=
  ∀ (V S : Type) [DecidableEq V] (D : VDom V S) (a : VP D), a.var ≠ none →
    VP.KeysDisjoint (VP.updatePartsOld a).parts

/-- with at most two partitions left after dropping the empty ones, the old loop did separate them -/
theorem C03.vpart_update_disjoint_old_partial {a : VP D} {x : V} (hv : a.var = some x)
    (h : (VP.refreshGo x 0 a.parts).1.length ≤ 2) : VP.KeysDisjoint (VP.updatePartsOld a).parts := by
  rw [VP.updatePartsOld_some hv]
  split
  · rename_i hstop
    obtain ⟨p, hp⟩ := VP.refreshGo_stop x a.parts hstop
    show VP.KeysDisjoint (VP.refreshGo x 0 a.parts).1
    rw [hp]; simp [VP.KeysDisjoint]
  · exact VP.mergeAdjOld_short_disjoint _ (by rw [VP.length_sortParts]; exact h)

open VPartEx in
theorem C03.vpart_update_disjoint_old_counterexample : ¬ C03.vpart_update_disjoint_old_Statement := by
  intro h
  have h1 := h V3 (St V3) constVDom (VP.mapParts (cAssignV 0 1) W0) (by simp [VP.mapParts, W0])
  have h2 := VP.keysDisjoint_count h1 5
  revert h2
  decide

open VPartEx in
/-- the same scenario with the code after 8f4c9c7: one partition `[-oo,+oo]` is left, the meet keeps
    `(5,5,0)` and `<=` is reflexive (the real code answers likewise on the replay line) -/
example : keys (xy W0) = [Itv.top] ∧ vMem (VP.meet (xy W0) (xy Z0)) (st 5 5 0) = true ∧
    VP.leq (xy W0) (xy W0) = true ∧ keys (xyOld W0) = [Itv.top, Itv.single 5] := by decide

/-! ## histories -/

/-- every operation keeps `VP.Inv` (hence no CRAB_ERROR of `merge_partitions()` /
    `remove_partitions()` is reachable from a well-formed pool) -/
theorem C03.vpart_inv_step (op : VP.Op D) : Step.Preserves VP.Inv (VP.Op.toStep op) := by
  cases op with
  | map d f r => exact fun _ => VP.mapOp_inv f
  | assign d x f r => exact fun _ => VP.assignOp_inv x f
  | add d c P => exact fun _ => VP.addOp_inv c
  | drop d hit f r => exact fun _ => VP.dropOp_inv hit f
  | rename d ren f r => exact fun _ => VP.renameOp_inv ren f
  | select d x cnd cneg f1 f2 P r1 r2 => exact fun _ => VP.selectOp_inv x cnd cneg f1 f2
  | vpStart d x => exact fun _ => VP.vpStart_inv x
  | vpEnd d x => exact fun _ => VP.vpEnd_inv x
  | join d a b => exact fun _ _ => VP.join_inv
  | meet d a b => exact fun _ _ => VP.meet_inv
  | widen d a b iw w => exact fun _ _ => VP.widenWith_inv iw w
  | narrow d a b => exact fun _ _ => VP.narrow_inv
  | copy d s => trivial
  | setTop d => exact fun a _ => VP.inv_single _ _
  | setBottom d => exact fun a _ => VP.inv_single _ _

/-- what every operation owes at a well-formed pool (`Step.OkAt`); `&`, `&&` provided they do not take
    the element-wise branch on more than one partition there -/
theorem C03.vpart_step_ok (t : D.TopSound) (op : VP.Op D) (hop : op.BaseSound) {p : Pool (VP D)}
    (hI : ∀ i, (p i).Inv) (hok : VP.histOk p [op] = true) : Step.OkAt VP.Inv VP.γ p op.toStep := by
  have hinv := C03.vpart_inv_step op
  cases op with
  | map d f r => exact ⟨hinv _ (hI d), fun s s' => C03.vpart_map_sound hop _ s s'⟩
  | assign d x f r => exact ⟨hinv _ (hI d), fun s s' => C03.vpart_assign_sound x hop _ s s'⟩
  | add d c P => exact ⟨hinv _ (hI d), fun s s' hg hr => hr.1 ▸ VP.addOp_sound hop (hI d) s hg hr.2⟩
  | drop d hit f r => exact ⟨hinv _ (hI d), fun s s' => C03.vpart_forget_sound hit hop (hI d) s s'⟩
  | rename d ren f r => exact ⟨hinv _ (hI d), fun s s' => C03.vpart_rename_sound ren hop _ s s'⟩
  | select d x cnd cneg f1 f2 P r1 r2 =>
    exact ⟨hinv _ (hI d), fun s s' => C03.vpart_select_sound x hop.1 hop.2.1 hop.2.2.1 hop.2.2.2 (hI d) s s'⟩
  | vpStart d x => exact ⟨hinv _ (hI d), fun s s' hg hr => hr ▸ C03.vpart_partition_start_sound x _ s hg⟩
  | vpEnd d x => exact ⟨hinv _ (hI d), fun s s' hg hr => hr ▸ C03.vpart_partition_end_sound x (hI d) s hg⟩
  | join d a b => exact ⟨hinv _ _ (hI a) (hI b), VP.join_sound (hI a) (hI b)⟩
  | meet d a b =>
    exact ⟨hinv _ _ (hI a) (hI b), C03.vpart_meet_sound_partial (hI a) (hI b) (by simpa [VP.histOk] using hok)⟩
  | widen d a b iw w => exact ⟨hinv _ _ (hI a) (hI b), C03.vpart_widen_sound t iw hop (hI a) (hI b)⟩
  | narrow d a b =>
    exact ⟨hinv _ _ (hI a) (hI b), C03.vpart_narrow_sound_partial (hI a) (hI b) (by simpa [VP.histOk] using hok)⟩
  | copy d s => trivial
  | setTop d => exact ⟨hinv _ (hI d), fun s s' _ _ => VP.setTop_sound _ s'⟩
  | setBottom d => exact ⟨hinv _ (hI d), fun s s' _ hr => hr.elim⟩

/-- `VP.histOk` is `RunOk` of the history: the guard is evaluated on the pools the run meets -/
theorem C03.vpart_runOk (t : D.TopSound) (ops : List (VP.Op D)) (hops : ∀ op ∈ ops, op.BaseSound)
    (p : Pool (VP D)) (hok : VP.histOk p ops = true) : RunOk VP.Inv VP.γ p (VP.toHist ops) := by
  induction ops generalizing p with
  | nil => trivial
  | cons op ops ih =>
    simp only [VP.histOk, Bool.and_eq_true] at hok
    exact ⟨fun hI => C03.vpart_step_ok t op (hops op List.mem_cons_self) hI (by simp only [VP.histOk, hok.1, Bool.and_true]),
      ih (fun x hx => hops x (List.mem_cons_of_mem _ hx)) _ hok.2⟩

def C03.vpart_history_sound_Statement : Prop :=
  ∀ (V S : Type) [DecidableEq V] (D : VDom V S), D.TopSound → ∀ (ops : List (VP.Op D)),
    (∀ op ∈ ops, op.BaseSound) → ∀ (p : Pool (VP D)) (c : CPool S), (∀ i, (p i).Inv) →
    (∀ i s, c i s → VP.γ (p i) s) →
    ∀ i s, collHist c (VP.toHist ops) i s → VP.γ (runHist p (VP.toHist ops) i) s

/-- C03 for `value_partitioning_domain<Base>`: every base with sound operations and sound `is_top`,
    every well-formed pool, history length, partitioning variables, interleaving of statements,
    `+=`, forget/project/rename, partition start/end, `select`, `|`, widenings, `&`, `&&`, copies,
    `set_to_top/bottom` — provided no `&`, `&&` of the run takes the element-wise branch on more
    than one partition (`VP.histOk`, computed along the run).  The invariant is kept throughout. -/
theorem C03.vpart_history_sound_partial (t : D.TopSound) (ops : List (VP.Op D))
    (hops : ∀ op ∈ ops, op.BaseSound) (p : Pool (VP D)) (c : CPool S) (hI : ∀ i, (p i).Inv)
    (h0 : ∀ i s, c i s → VP.γ (p i) s) (hok : VP.histOk p ops = true) :
    ∀ i s, collHist c (VP.toHist ops) i s →
      VP.γ (runHist p (VP.toHist ops) i) s ∧ (runHist p (VP.toHist ops) i).Inv := by
  have h := history_sound_along _ (C03.vpart_runOk t ops hops p hok) hI h0
  exact fun i s hc => ⟨h.2 i s hc, h.1 i⟩

/-- the invariant alone needs no side condition -/
theorem C03.vpart_history_inv (ops : List (VP.Op D)) (p : Pool (VP D)) (hI : ∀ i, (p i).Inv) :
    ∀ i, (runHist p (VP.toHist ops) i).Inv :=
  runHist_preserves VP.Inv _ (List.forall_mem_map.2 fun op _ => C03.vpart_inv_step op) p hI

open VPartEx in
/-- one `&` from a pool holding the two values the pinned tree reached by `x := y` (overlapping
    intervals, `VP.Inv` holds): `(5,5,0)` is in both, the result is bottom.  With the code after
    8f4c9c7 these pool values are no longer produced, but the statement quantifies over every pool
    with `VP.Inv`: see the header for what a full statement needs. -/
theorem C03.vpart_history_sound_counterexample : ¬ C03.vpart_history_sound_Statement := by
  intro h
  have h1 := h V3 (St V3) constVDom constDom_topSound [.meet 2 0 1]
    (by intro op hop; simp only [List.mem_singleton] at hop; subst hop; trivial)
    pool0 cpool0
    (by
      intro i
      unfold pool0
      split
      · exact inv_xyOld_W0
      · split
        · exact inv_xyOld_Z0
        · exact VP.inv_single _ _)
    (by
      intro i s hc
      obtain ⟨hi, rfl⟩ := hc
      rcases hi with rfl | rfl
      · exact mem_xyOld_W0
      · exact mem_xyOld_Z0)
    2 (st 5 5 0)
    (by
      simp only [VP.toHist, List.map, collHist, List.foldl, VP.Op.toStep, Step.coll, CPool.set, if_true]
      exact ⟨⟨Or.inl rfl, rfl⟩, ⟨Or.inr rfl, rfl⟩⟩)
  exact VP.not_γ_of_isBottom (by decide) _ h1

/-! ### non-vacuity over the interval instance -/
section C03VPartEx
open VPartEx C03VPartEx

example : keys (runHist pool (VP.toHist ops) 2) = [Itv.single 6, ⟨.fin 11, .fin 12⟩] ∧
    vals (runHist pool (VP.toHist ops) 2) = [Itv.single 6, ⟨.fin 11, .fin 12⟩] ∧
    vals (runHist pool (VP.toHist ops2) 3) = [⟨.fin 6, .fin 12⟩] ∧
    VP.histOk pool ops2 = true ∧ VP.histOk pool (ops ++ [.meet 3 2 2]) = false := by decide


/-- `vpart_history_sound_partial` applies: the runs `0 ↦ 6` and `5 ↦ 11` are in the result -/
example : VP.γ (runHist pool (VP.toHist ops) 2) 6 ∧ VP.γ (runHist pool (VP.toHist ops) 2) 11 := by
  have h := C03.vpart_history_sound_partial itvDom_topSound ops ops_baseSound pool cpool pool_inv
    pool_sound (by decide) 2
  constructor
  · refine (h 6 ?_).1
    simp only [ops, VP.toHist, List.map, collHist, List.foldl, VP.Op.toStep, Step.coll, CPool.set]
    simp only [if_true, if_false, show (2 : Nat) ≠ 1 by decide, show (2 : Nat) ≠ 0 by decide,
      show (1 : Nat) ≠ 0 by decide, show (0 : Nat) ≠ 1 by decide]
    exact ⟨0, Or.inl ⟨0, Or.inl ⟨rfl, rfl⟩, rfl⟩, rfl⟩
  · refine (h 11 ?_).1
    simp only [ops, VP.toHist, List.map, collHist, List.foldl, VP.Op.toStep, Step.coll, CPool.set]
    simp only [if_true, if_false, show (2 : Nat) ≠ 1 by decide, show (2 : Nat) ≠ 0 by decide,
      show (1 : Nat) ≠ 0 by decide, show (0 : Nat) ≠ 1 by decide]
    exact ⟨5, Or.inr ⟨5, Or.inr ⟨rfl, rfl⟩, rfl⟩, rfl⟩

end C03VPartEx

/-! # `uf_domain`

Model `Crab.Dom.Fct.Uf` (`CrabModel/Dom/Functors/Uf.lean`): variables ↦ Herbrand terms (as trees),
for EVERY interpretation `I` of the symbols, any set of variables and symbols, any selection
function `choose` of `choose_non_var` that returns one of its candidates.  `UF.WF` = every term
variable of the map is below `m_free_var` (what makes `fresh_var()` fresh). -/
section uf
open Uf
variable {V F : Type} [DecidableEq V] [DecidableEq F] (I : F → List Int → Int)

/-- `assign`, `apply` (arithmetic, bitwise, casts), `set(x, symbol)`, `set(x, functor, args)`,
    `array_load`, `ref_load`, `assign_bool_var`, `apply_binary_bool`: `x := e`, `e` read by `I` -/
theorem C03.uf_assign_sound (x : V) (e : Exp V F) {a : UF V F} (hw : a.WF) (s : St V) :
    UF.γ I a s → UF.γ I (UF.assign x e a) (s.set x (e.eval I s)) := assign_sound I x e hw s

/-- the tree `build_linexpr` builds means the linear expression when `+`, `*` mean themselves -/
theorem C03.uf_assign_linear (add mul : F) (hadd : ∀ a b, I add [a, b] = a + b)
    (hmul : ∀ a b, I mul [a, b] = a * b) (x : V) (c : Int) (ts : List (Int × V)) {a : UF V F} (hw : a.WF)
    (s : St V) : UF.γ I a s → UF.γ I (UF.assign x (Exp.ofLin add mul c ts) a) (s.set x (linVal s c ts)) := by
  intro hg
  rw [← eval_ofLin I add mul hadd hmul s c ts]
  exact assign_sound I x _ hw s hg

/-- `operator-=` (havoc), `forget`, `project` -/
theorem C03.uf_forget_sound (x : V) {a : UF V F} (s : St V) (k : Int) :
    UF.γ I a s → UF.γ I (UF.forgetVar x a) (s.set x k) := by
  intro hg
  match a with
  | .bot => exact hg
  | .val u => exact γ_of_sub I (fun p hp => ⟨(mem_erase hp).1, by simp [St.set, (mem_erase hp).2]⟩) hg

theorem C03.uf_forget_list_sound (xs : List V) {a : UF V F} (s s' : St V) :
    UF.γ I a s → (∀ v, v ∉ xs → s' v = s v) → UF.γ I (UF.forget xs a) s' := by
  intro hg h
  match a with
  | .bot => exact absurd hg id
  | .val u =>
    rw [forget_val]
    exact γ_of_sub I (fun p hp => ⟨(List.mem_filter.1 hp).1, h p.1 (by simpa using (List.mem_filter.1 hp).2)⟩) hg

theorem C03.uf_project_sound (xs : List V) {a : UF V F} (s s' : St V) :
    UF.γ I a s → (∀ v, v ∈ xs → s' v = s v) → UF.γ I (UF.project xs a) s' := by
  intro hg h
  refine binop_cases (UF.γ I · s') (fun hc => ?_) (fun _ _ => γ_top I s') fun _ _ => ?_
  · exact (Bool.or_eq_true_iff.1 hc).elim (fun hc => absurd hg (not_γ_of_isBottom I hc s)) (fun hc => γ_of_isTop I hc s')
  · match a with
    | .bot => exact absurd hg id
    | .val u =>
      show UF.γ I (UF.forget _ (.val u)) s'
      rw [forget_val]
      refine γ_of_sub I (fun p hp => ⟨(List.mem_filter.1 hp).1, h p.1 ?_⟩) hg
      have hk := (List.mem_filter.1 hp).2
      simp only [decide_eq_true_eq, List.mem_filter, List.mem_map, Bool.not_eq_true', not_and, Bool.not_eq_false] at hk
      simpa using hk ⟨p, (List.mem_filter.1 hp).1, rfl⟩

/-- `rename(from, to)` when it does not raise CRAB_ERROR: the loop, pair by pair -/
theorem C03.uf_rename_sound (ps : List (V × V)) {a a' : UF V F} (h : UF.rename ps a = some a') (s s' : St V) :
    UF.γ I a s → UF.RenRel ps s s' → UF.γ I a' s' := by
  intro hg hr
  unfold UF.rename at h
  split at h
  · rename_i hc
    cases h
    simp only [Bool.or_eq_true] at hc
    rcases hc with hc | hc
    · exact γ_of_isTop I hc s'
    · exact absurd hg (not_γ_of_isBottom I hc s)
  · match a with
    | .bot => exact absurd hg id
    | .val u =>
      simp only [Option.map_eq_some_iff] at h
      obtain ⟨u', hu', rfl⟩ := h
      obtain ⟨ρ, hm⟩ := hg
      exact ⟨ρ, renameGo_sound I ps hu' hm hr⟩

/-- `expand(x, y)` in the reading of the drivers of this project (`y` receives the value of `x`) -/
theorem C03.uf_expand_sound (x y : V) {a : UF V F} (hw : a.WF) (s : St V) :
    UF.γ I a s → UF.γ I (UF.expand x y a) (s.set y (s x)) := by
  intro hg
  unfold UF.expand
  split
  · rename_i hc
    simp only [Bool.or_eq_true] at hc
    rcases hc with hc | hc
    · exact absurd hg (not_γ_of_isBottom I hc s)
    · exact γ_of_isTop I hc _
  · exact assign_sound I y (.var x) hw s hg

/-- `operator+=`: `x == y` (union + rebuilt terms), `x != y` (bottom when both have the same
    term), anything else ignored -/
theorem C03.uf_add_sound {choose : List (Term F) → Option (Term F)} (hch : ChooseOK choose)
    (cs : List (UF.Cst V)) {a : UF V F} (hw : a.WF) (s : St V) :
    UF.γ I a s → (∀ c ∈ cs, c.holds s) → UF.γ I (UF.addCsts choose cs a) s := fun hg hc =>
  (List.foldlRecOn cs _ (motive := fun a => a.WF ∧ UF.γ I a s) ⟨hw, hg⟩ fun _ h c hm =>
    ⟨addCst_wf hch c h.1, addCst_sound I hch c h.1 s h.2 (hc c hm)⟩).2

/-- `operator|`, `|=`, `||`, `widening_thresholds` (anti-unification) -/
theorem C03.uf_join_sound {a b : UF V F} (hb : b.WF) (s : St V) :
    (UF.γ I a s ∨ UF.γ I b s) → UF.γ I (UF.join a b) s := by
  intro h
  refine binop_cases (UF.γ I · s) (γ_of_early I h) (fun _ => γ_of_early I h.symm) fun h1 h2 => ?_
  match a, b with
  | .bot, _ => exact absurd rfl h1
  | .val ua, .bot => exact absurd rfl h2
  | .val ua, .val ub =>
    rcases h with ⟨ρ, hm⟩ | ⟨ρ, hm⟩
    · obtain ⟨ρ', _, _, h3, _⟩ := joinGo_spec I (sv_left I ρ) s ua.map ub ⟨[], 0⟩ (fun _ => 0)
        (fun e he => by simp at he)
      exact ⟨ρ', h3 (pairsOK_left I ua.map ub hm)⟩
    · obtain ⟨ρb, _, hp⟩ := pairsOK_right I ua.map ub hb ρ hm
      obtain ⟨ρ', _, _, h3, _⟩ := joinGo_spec I (sv_right I ρb) s ua.map ub ⟨[], 0⟩ (fun _ => 0)
        (fun e he => by simp at he)
      exact ⟨ρ', h3 hp⟩

/-- `operator&`, `&=`, `&&` (the pseudo-meet) -/
theorem C03.uf_meet_sound {choose : List (Term F) → Option (Term F)} (hch : ChooseOK choose) {a b : UF V F}
    (ha : a.WF) (s : St V) : UF.γ I a s → UF.γ I b s → UF.γ I (UF.meet choose a b) s := meet_sound I hch ha s

/-- `to_linear_constraint_system()`: every exported equality holds -/
theorem C03.uf_equalities_sound {a : UF V F} {x y : V} (h : (x, y) ∈ UF.equalities a) (s : St V) :
    UF.γ I a s → s x = s y := by
  intro hg
  match a with
  | .bot => exact absurd hg id
  | .val u =>
    obtain ⟨ρ, hm⟩ := hg
    simp only [UF.equalities, List.mem_flatMap, List.mem_map, List.mem_filter, Bool.and_eq_true,
      decide_eq_true_eq, Prod.mk.injEq] at h
    obtain ⟨p, hp, q, ⟨hq, he, _⟩, rfl, rfl⟩ := h
    rw [hm p hp, hm q hq, he]

/-- what every operation owes at a well-formed pool (`Step.OkAt`): the term variables of the new
    value are below its `m_free_var`, and it contains the new states -/
theorem C03.uf_step_ok {choose : List (Term F) → Option (Term F)} (hch : ChooseOK choose) (op : UF.Op V F)
    (p : Pool (UF V F)) (hI : ∀ i, (p i).WF) : Step.OkAt UF.WF (UF.γ I) p (UF.Op.toStep I choose op) := by
  cases op with
  | assign d x e => exact ⟨assign_wf x e (hI d), fun s s' hg hr => hr ▸ assign_sound I x e (hI d) s hg⟩
  | forgetVar d x => exact ⟨forgetVar_wf x (hI d), fun s s' hg hr => hr.elim fun k hk => hk ▸ C03.uf_forget_sound I x s k hg⟩
  | forget d xs => exact ⟨forget_wf xs (hI d), C03.uf_forget_list_sound I xs⟩
  | project d xs => exact ⟨project_wf xs (hI d), C03.uf_project_sound I xs⟩
  | rename d ps =>
    show ((UF.rename ps (p d)).getD UF.top).WF ∧ ∀ s s', _ → _ → UF.γ I ((UF.rename ps (p d)).getD UF.top) s'
    cases h : UF.rename ps (p d) with
    | none => exact ⟨wf_top, fun _ s' _ _ => γ_top I s'⟩
    | some a' => exact ⟨rename_wf ps h (hI d), C03.uf_rename_sound I ps h⟩
  | expand d x y => exact ⟨expand_wf x y (hI d), fun s s' hg hr => hr ▸ C03.uf_expand_sound I x y (hI d) s hg⟩
  | add d cs => exact ⟨addCsts_wf hch cs (hI d), fun s s' hg hr => hr.1 ▸ C03.uf_add_sound I hch cs (hI d) s hg hr.2⟩
  | join d a b => exact ⟨join_wf (hI a) (hI b), C03.uf_join_sound I (hI b)⟩
  | meet d a b => exact ⟨meet_wf hch (hI a) (hI b), meet_sound I hch (hI a)⟩
  | copy d s => trivial
  | setTop d => exact ⟨wf_top, fun _ s' _ _ => γ_top I s'⟩
  | setBottom d => trivial

/-- C03 for `uf_domain`: every interpretation of the symbols, every well-formed pool, history
    length and interleaving of assignments / applications of (un)interpreted functions, havoc,
    forget, project, rename, expand, equalities and disequalities, `|` (= widening), `&`
    (= narrowing), copies, `set_to_top/bottom`. -/
theorem C03.uf_history_sound {choose : List (Term F) → Option (Term F)} (hch : ChooseOK choose)
    (ops : List (UF.Op V F)) (p : Pool (UF V F)) (c : CPool (St V)) (hI : ∀ i, (p i).WF)
    (h0 : ∀ i s, c i s → UF.γ I (p i) s) :
    ∀ i s, collHist c (UF.toHist I choose ops) i s →
      UF.γ I (runHist p (UF.toHist I choose ops) i) s ∧ (runHist p (UF.toHist I choose ops) i).WF :=
  have h := history_sound_along _
    (runOk_of_forall _ (List.forall_mem_map.2 fun op _ => C03.uf_step_ok I hch op) p) hI h0
  fun i s hc => ⟨h.2 i s hc, h.1 i⟩

end uf

/-! ### non-vacuity: `uf_domain` over variables and symbols `Nat` -/
section C03UfEx
open Uf C03UfEx

/-- hash-consing = equal trees: `v1` and `v3` get the same term, the export says `v1 = v3`;
    `assume v0 == v2` keeps the classes but rebuilds every other variable as a fresh term variable
    and loses the constant (printed by the real code for the same statements:
    `{v0 -> $VAR_1, v1 -> $VAR_2, v2 -> $VAR_1, v3 -> $VAR_2}`); `v1 != v3` then gives bottom -/
example : terms (run ops 0) = some [(3, .app 0 [.const 5, .var 0]), (1, .app 0 [.const 5, .var 0]),
      (2, .var 0), (0, .const 5)] ∧
    UF.equalities (run ops 0) = [(3, 1), (1, 3)] ∧
    terms (run (ops ++ [.add 0 [.eq 0 2]]) 0) = some [(3, .var 1), (1, .var 1), (2, .var 2), (0, .var 2)] ∧
    UF.isBottom (run (ops ++ [.add 0 [.eq 0 2], .add 0 [.ne 1 3]]) 0) = true := by decide


/-- `|` of the runs with `v0 := 5` and `v0 := 6` keeps `v1 = v3` (anti-unification with memo);
    `&` of `{v0 -> 5}` with itself is `{v0 -> $VAR}` (as printed by the real code) -/
example : terms (UF.join (run ops 0) (run ((UF.Op.assign 0 0 (.const 6)) :: ops.tail) 0)) =
      some [(3, .app 0 [.var 0, .var 1]), (1, .app 0 [.var 0, .var 1]), (2, .var 1), (0, .var 0)] ∧
    terms (UF.meet ch (run [.assign 0 0 (.const 5)] 0) (run [.assign 0 0 (.const 5)] 0)) =
      some [(0, .var 0)] := by decide


/-- `uf_history_sound` applies: the run `(0,0,2,0) ↦ (5,7,2,7)` is in the result -/
example : UF.γ I0 (run ops 0) sfin := by
  have h := C03.uf_history_sound I0 ch_ok ops (fun _ => UF.top) (fun _ s => s = fun v => if v = 2 then 2 else 0)
    (fun _ => wf_top) (fun _ s _ => γ_top I0 s) 0 sfin
  refine (h ?_).1
  simp only [ops, UF.toHist, List.map, collHist, List.foldl, UF.Op.toStep, Step.coll, CPool.set, if_true]
  refine ⟨_, ⟨_, ⟨_, rfl, rfl⟩, rfl⟩, ?_⟩
  funext v
  simp only [St.set, Exp.eval, Exp.evalL, I0, sfin]
  by_cases h3 : v = 3
  · subst h3; decide
  · by_cases h1 : v = 1
    · subst h1; decide
    · by_cases h0 : v = 0
      · subst h0; decide
      · simp [h3, h1, h0]

end C03UfEx

