import CrabProofs.Lemmas.DbmIncrHist

/-!
# C12 — the incremental closure of `split_dbm_domain`, as coded, is the full closure

First mechanism named by C12: "incremental shortest-path closure kept after each edge addition":
`split_dbm.hpp close_over_edge()`, `add_linear_leq()`, `repair_potential()`;
`graph_ops.hpp GraphOps::repair_potential()`, `close_after_assign()`, `apply_delta()`.
Model: `CrabModel/Dom/DbmIncr.lean` (line-by-line; crab's edge `s → d` of weight `w`, i.e.
`d - s ≤ w`, is the matrix entry `(d, s)` of the `Zone n` of the canonical model, `edge g s d`).

THE INVARIANT (`DbmIncr.SplitNF`, "split normal form"): no self loop, and the stored graph with
the trivial zero diagonal satisfies the triangle inequality through every VARIABLE vertex
`k ≠ 0` — for `i, j` variables: the edges among variables are closed and close no negative cycle;
for `i = 0` or `j = 0`: the bounds are closed under the edges among variables; for `i = j = 0`:
`lb ≤ ub`.  The triangle inequality through the ZERO vertex is not maintained: exactly the
difference constraints `x - y ≤ ub(x) - lb(y)` implied by two bounds may be absent or weaker in the
stored graph; every reader re-derives them (`DbmIncr.fullOf`: bound edges as stored, an edge
between two variables as `min(stored, path through 0)` = `Zones.splitW`).
Without `zones.close_bounds_inline` the loop over the difference constraints of `add_linear_leq`
runs on `DbmIncr.VarNF` (only the edges among variables closed) and `close_after_assign(.., 0, ..)`
restores `SplitNF` at the end.

All statements hold for every number of variables and for EVERY enumeration order `vs` of the
adjacency lists (duplicate-free, containing every vertex).
-/
open Crab Crab.Dbm Crab.Zones Crab.DbmIncr

variable {n : Nat}

/-! ## `close_over_edge` -/

-- `vs.Nodup` (`hnd`) is part of the statement and not needed by the proof
set_option linter.unusedVariables false in
/-- `close_over_edge(ii, jj)` on the edges among variables, for both settings of
    `zones.close_bounds_inline`: if these edges were closed (`VarNF`) before the caller relaxed
    `ii → jj` to `w` and the new graph `G` has no negative cycle, the result has EXACTLY the
    closure of the variable subgraph of `G` as its edges among variables, it has the solutions of
    `G`, and without `close_bounds_inline` the bound edges are untouched -/
theorem C12.close_over_edge_vars_exact (inl : Bool) (vs : List (Fin (n + 1))) (hvs : ∀ v, v ∈ vs)
    (hnd : vs.Nodup) (g : Zone n) (hg : VarNF g) (ii jj : Fin (n + 1)) (hi : ii ≠ 0) (hj : jj ≠ 0)
    (hij : ii ≠ jj) (w : Int) (hb : isBottom (updEdge g ii w jj) = false) :
    let G := updEdge g ii w jj
    let r := closeOverEdge inl vs G ii jj
    VarNF r ∧ (∀ a b, (varPart r).get a b = (close (varPart G)).get a b) ∧
      (∀ v, r.sat v ↔ G.sat v) ∧
      (inl = false → ∀ x, edge r 0 x = edge G 0 x ∧ edge r x 0 = edge G x 0) := by
  have vr := closeOverEdge_var inl vs hvs hg hi hj hij (w := w) hb
  exact ⟨vr.varNF, vr.vars, vr.btw.sat_iff, vr.bnd⟩

set_option linter.unusedVariables false in
/-- **close_over_edge_exact**: under `zones.close_bounds_inline`, if the graph was in split normal
    form before the caller relaxed `ii → jj` to `w` and the new graph `G` has no negative cycle
    (`repair_potential` succeeded), then `close_over_edge` restores the split normal form and the
    result READS as exactly the Floyd–Warshall closure of `G`: zero diagonal, every bound edge
    equal to the closed entry, every edge between two variables `i, j` such that
    `close G (i,j) = min(stored (i,j), stored (i,0) + stored (0,j))` -/
theorem C12.close_over_edge_exact (vs : List (Fin (n + 1))) (hvs : ∀ v, v ∈ vs) (hnd : vs.Nodup)
    (g : Zone n) (hg : SplitNF g) (ii jj : Fin (n + 1)) (hi : ii ≠ 0) (hj : jj ≠ 0) (hij : ii ≠ jj)
    (w : Int) (hb : isBottom (updEdge g ii w jj) = false) :
    let G := updEdge g ii w jj
    let r := closeOverEdge true vs G ii jj
    SplitNF r ∧ (∀ i j, (close G).get i j = (fullOf r).get i j) ∧
      (∀ x, x ≠ 0 → edge r 0 x = edge (close G) 0 x ∧ edge r x 0 = edge (close G) x 0) := by
  intro G r
  obtain ⟨h1, h2⟩ := closeOverEdge_full vs hvs hg hi hj hij (w := w) hb
  exact ⟨h1, fun i j => by rw [h1.close_eq h2], fun x hx => h1.bounds_eq_close h2 hx⟩

/-- the re-closure of the bounds at the end of `add_linear_leq` without `close_bounds_inline`
    (`close_after_assign(g, potential, 0, delta); apply_delta(g, delta)`, also the last step of
    `normalize()`): from closed edges among variables it restores the split normal form, for every
    expansion order of the successors (the code sorts them by slack), keeps the solutions, does
    not touch the edges among variables, and the result reads as the closure -/
theorem C12.close_after_assign_exact (adjF adjB vs : List (Fin (n + 1))) (hF : ∀ x, x ∈ adjF)
    (hB : ∀ x, x ∈ adjB) (hvs : ∀ x, x ∈ vs) (g : Zone n) (hg : VarNF g) (hb : isBottom g = false) :
    let r := closeAfterAssign adjF adjB vs g 0
    SplitNF r ∧ (∀ i j, (close g).get i j = (fullOf r).get i j) ∧
      ∀ s d, s ≠ 0 → d ≠ 0 → edge r s d = edge g s d := by
  intro r
  obtain ⟨h1, h2, h3⟩ := closeAfterAssign_exact adjF adjB vs hF hB hvs hg hb
  exact ⟨h1, fun i j => by rw [h1.close_eq h2], h3⟩

/-- the reading of a graph in split normal form is a closed matrix (so all of
    `C12.closed_matrix_is_tight` applies to what the code stores) -/
theorem C12.splitNF_reads_closed (g : Zone n) (h : SplitNF g) : Mat.Closed (fullOf g) :=
  h.closed_fullOf

/-! ## the bottom test -/

/-- `repair_potential(ii, jj)` after the edge `ii → jj` was set: it answers `false` (bottom) iff
    the graph has no integer solution; when it answers `true` the new potential is a solution -/
theorem C12.repair_potential_bottom_iff (vs : List (Fin (n + 1))) (hvs : ∀ v, v ∈ vs) (g : Zone n)
    (p : Fin (n + 1) → Int) (ii jj : Fin (n + 1)) (w : Int) (hw : edge g ii jj = some w)
    (hp : PotValidExcept g p ii jj) :
    (repairPotential vs g p ii jj = none ↔ ¬ ∃ v, g.sat v) ∧
    (∀ p', repairPotential vs g p ii jj = some p' → g.sat p') := by
  exact ⟨repairPotential_none_iff vs hvs g p ii jj w hw hp,
    (repairPotential_spec vs hvs g p ii jj w hw hp).1⟩

set_option linter.unusedVariables false in
/-- **add_edge_bottom_iff**: `operator+=` of an in-language constraint on a value in split normal
    form with a valid potential (either setting of `close_bounds_inline`): the "already implied"
    tests and `repair_potential` answer bottom iff the constraints of the value together with the
    new one have no integer solution; otherwise the new value is again in split normal form with a
    valid potential and has exactly the states of the old value that satisfy the constraint -/
theorem C12.add_edge_bottom_iff (inl : Bool) (vs : List (Fin (n + 1))) (hvs : ∀ v, v ∈ vs)
    (hnd : vs.Nodup) (s : SG n) (hs : SplitNF s.g) (hp : s.g.sat s.pot) (c : Zones.Cst n) :
    (addCst inl vs s c = none ↔ ¬ ∃ σ : State n, γ s.g σ ∧ c.sat σ) ∧
    (∀ s', addCst inl vs s c = some s' →
      SplitNF s'.g ∧ s'.g.sat s'.pot ∧ ∀ σ : State n, γ s'.g σ ↔ (γ s.g σ ∧ c.sat σ)) := by
  exact (addCst_spec inl vs hvs s ⟨hs, hp⟩ c).on_states

/-! ## histories -/

set_option linter.unusedVariables false in
/-- **incr_history_exact**: after ANY sequence of in-language constraints added from top (with
    either setting of `zones.close_bounds_inline`), the
    code's value is bottom iff the canonical model's value is, and otherwise the stored graph is
    in split normal form, the potential is a solution, and the stored graph reads entrywise as the
    closure of the canonical model's matrix — so every exactness theorem of `C12.lean` about
    `close (assumeAll top cs)` is a theorem about the graph as the code stores it -/
theorem C12.incr_history_exact (inl : Bool) (vs : List (Fin (n + 1))) (hvs : ∀ v, v ∈ vs)
    (hnd : vs.Nodup) (cs : List (Zones.Cst n)) :
    match addAll inl vs cs with
    | none => isBottom (assumeAll (Zones.top : Zone n) cs) = true
    | some s => SplitNF s.g ∧ s.g.sat s.pot ∧ isBottom (assumeAll (Zones.top : Zone n) cs) = false ∧
        ∀ i j, (close (assumeAll (Zones.top : Zone n) cs)).get i j = (fullOf s.g).get i j := by
  exact (addAll_spec' inl vs hvs cs).exact

set_option linter.unusedVariables false in
/-- the code's bottom flag after a history is exact -/
theorem C12.incr_history_bottom_iff (inl : Bool) (vs : List (Fin (n + 1))) (hvs : ∀ v, v ∈ vs)
    (hnd : vs.Nodup) (cs : List (Zones.Cst n)) :
    addAll inl vs cs = none ↔ ¬ ∃ σ : State n, ∀ c ∈ cs, c.sat σ := by
  rw [(addAll_spec' inl vs hvs cs).none_iff, isBottom_assumeAll_top]

set_option linter.unusedVariables false in
/-- transfer, bounds: `operator[]` of the canonical model after a history is read off the two
    bound edges the code stores -/
theorem C12.incr_history_bounds (inl : Bool) (vs : List (Fin (n + 1))) (hvs : ∀ v, v ∈ vs)
    (hnd : vs.Nodup) (cs : List (Zones.Cst n)) (s : SG n) (h : addAll inl vs cs = some s) (x : Fin n) :
    bounds (assumeAll (Zones.top : Zone n) cs) x =
      ⟨toLb (edge s.g x.succ 0), toUb (edge s.g 0 x.succ)⟩ := by
  have hh := (addAll_spec' inl vs hvs cs).exact
  rw [h] at hh
  exact bounds_of_reading hh.2.2.1 hh.2.2.2 x

set_option linter.unusedVariables false in
/-- transfer, entailment: the canonical model entails an in-language constraint after a history
    iff the reading of the stored graph is below its bound -/
theorem C12.incr_history_entails (inl : Bool) (vs : List (Fin (n + 1))) (hvs : ∀ v, v ∈ vs)
    (hnd : vs.Nodup) (cs : List (Zones.Cst n)) (s : SG n) (h : addAll inl vs cs = some s) (c : Zones.Cst n) :
    entails (assumeAll (Zones.top : Zone n) cs) c = W.le ((fullOf s.g).get c.row c.col) (some c.bound) := by
  have hh := (addAll_spec' inl vs hvs cs).exact
  rw [h] at hh
  exact entails_of_reading hh.2.2.1 hh.2.2.2 c

/-! ## the seeded regression is caught by the model -/

/-- what exactness would mean for the variant of `close_over_edge` that records a successor in
    `dest_dec` only when its edge is new (`/verif/seeded/C12b/patch.diff`) -/
def C12.close_over_edge_mutant_Statement : Prop :=
  ∀ (n : Nat) (vs : List (Fin (n + 1))), (∀ v, v ∈ vs) → vs.Nodup →
    ∀ (g : Zone n), VarNF g → ∀ (ii jj : Fin (n + 1)), ii ≠ 0 → jj ≠ 0 → ii ≠ jj → ∀ w : Int,
      isBottom (updEdge g ii w jj) = false →
      ∀ a b, (varPart (closeOverEdgeMut false vs (updEdge g ii w jj) ii jj)).get a b =
        (close (varPart (updEdge g ii w jj))).get a b

/-- the witness graph is a legal input (edges among variables closed, no self loop) -/
theorem C12.mutantWitness_varNF : VarNF mutantWitness := by
  refine ⟨fun i => ?_, ⟨fun i => ?_, fun i j k => (W.le_iff _ _).1 ?_⟩⟩
  · revert i; decide +kernel
  · revert i; decide +kernel
  · revert i j k; decide +kernel

/-- the same input through the code as it is -/
theorem C12.close_over_edge_on_witness :
    edge (closeOverEdge false (List.finRange 5) (updEdge mutantWitness 2 1 3) 2 3) 1 4 = some 2 ∧
    edge (closeOverEdgeMut false (List.finRange 5) (updEdge mutantWitness 2 1 3) 2 3) 1 4 = some 10 ∧
    edge (close (updEdge mutantWitness 2 1 3)) 1 4 = some 2 := by decide +kernel

/-- **close_over_edge_mutant_counterexample**: on the 4-variable graph
    `{i - a ≤ 0, d - i ≤ 10, d - j ≤ 1, d - a ≤ 10}` the new edge `j - i ≤ 1` tightens the existing
    `d - i` to 2; the variant leaves `d - a ≤ 10` although the closure (and the real
    `close_over_edge`) has `d - a ≤ 2` -/
theorem C12.close_over_edge_mutant_counterexample : ¬ C12.close_over_edge_mutant_Statement := by
  intro h
  have := h 4 (List.finRange 5) (fun v => List.mem_finRange v) (List.nodup_finRange 5) mutantWitness
    C12.mutantWitness_varNF 2 3 (by decide) (by decide) (by decide) 1 (by decide +kernel) 4 1
  -- the left side is the edge `1 → 4` of `close_over_edge_on_witness`
  have e : (close (varPart (updEdge mutantWitness 2 1 3))).get 4 1 = some 2 := by decide +kernel
  rw [e, varPart_get, if_neg (by decide), if_neg (by decide)] at this
  exact absurd (C12.close_over_edge_on_witness.2.1.symm.trans this) (by decide)

/-! ## non-vacuity -/

/-- the hypotheses of `C12.close_over_edge_exact` hold on a non-trivial graph in split normal form
    (built by the model of `operator+=`: `x ≤ 5, y - x ≤ 2`), and the conclusion is not trivial:
    adding `z - y ≤ 1` under `close_bounds_inline` derives `z - x ≤ 3` and `z ≤ 8` -/
example :
    (addAll false (List.finRange 4) [.ub (0 : Fin 3) 5, .diff 1 0 2]).map (fun s =>
      let r := closeOverEdge true (List.finRange 4) (updEdge s.g 2 1 3) 2 3
      (edge r 1 3, edge r 0 3, edge r 0 2)) = some (some 3, some 8, some 7) := by decide +kernel

/-- a satisfiable history, an unsatisfiable one (`x - y ≤ -1 ∧ y - x ≤ 0`: `repair_potential`
    fails), and a difference constraint skipped because the bounds imply it -/
example : (addAll false (List.finRange 3) [.diff 0 1 3, .ub (1 : Fin 2) 2]).isSome = true := by decide +kernel
example : addAll false (List.finRange 3) [.diff (0 : Fin 2) 1 (-1), .diff 1 0 0] = none := by decide +kernel
example : (addAll false (List.finRange 3) [.ub (0 : Fin 2) 1, .lb 1 0, .diff 0 1 5]).map
    (fun s => (edge s.g 2 1, (fullOf s.g).get 1 2)) = some (none, some 1) := by decide +kernel

/-- the same histories under `close_bounds_inline`: same stored bounds, same bottom -/
example : (addAll true (List.finRange 4) [.ub (0 : Fin 3) 5, .diff 1 0 2, .diff 2 1 1]).map
    (fun s => (edge s.g 0 3, edge s.g 1 3)) = some (some 8, some 3) := by decide +kernel
example : addAll true (List.finRange 3) [.diff (0 : Fin 2) 1 (-1), .diff 1 0 0] = none := by decide +kernel

/-- `repair_potential` really repairs: after `y - x ≤ -3` from the zero potential the new
    potential is a solution that differs from the old one -/
example : (repairPotential (List.finRange 3) (updEdge (SG.top : SG 2).g 1 (-3) 2) (fun _ => 0) 1 2).map
    (fun p => (p 0, p 1, p 2)) = some (0, 0, -3) := by decide +kernel
