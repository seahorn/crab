import CrabProofs.Lemmas.XDomRicInst

/-!
# C04 for the "ric" domain `numerical_congruence_domain<interval_domain<z_number>>` — inclusion
test, lattice operations, `is_bottom`, `is_top` and `entails` agree with the concretisation
(proved on the exact model `Crab.RDom`, see Props/C03Ric.lean for the model, the correspondence
and the hypotheses).

`is_bottom()` is sound but, by design of the product, not complete: the lattice operations
combine the components without the per-variable reduction, so a value can describe no state and
not be bottom (`C04.ricdom_is_bottom_incomplete`: `x ∈ [1, 2]` met with `x ∈ 4Z`).
-/
open Crab Crab.RDom Crab.XDom Crab.Lin

/-- a yes answer of `operator<=` is an inclusion of concretisations -/
theorem C04.ricdom_leq_sound (a b : Env) (ha : a.Inv) (hb : b.Inv) (σ : State) (h : Env.leq a b = true)
    (hg : a.γ σ) : b.γ σ := Env.leq_sound ha hb h hg

/-- yes on equal values, with bottom on the left, with top on the right -/
theorem C04.ricdom_leq_refl (a : Env) (ha : a.Inv) : Env.leq a a = true := Env.leq_refl ha
theorem C04.ricdom_bot_le (b : Env) : Env.leq RDom.Env.bot b = true := Env.leq_of_isBottom rfl b
theorem C04.ricdom_leq_bottom_left (a b : Env) (h : a.isBottom = true) : Env.leq a b = true :=
  Env.leq_of_isBottom h b
theorem C04.ricdom_le_top (a : Env) (ha : a.Inv) : Env.leq a RDom.Env.top = true := Env.leq_top ha

/-- `is_bottom()` answers yes only on values that describe no state -/
theorem C04.ricdom_is_bottom_sound (e : Env) (σ : State) (h : e.isBottom = true) : ¬ e.γ σ :=
  Env.not_γ_of_isBottom h σ

/-- the full statement: `is_bottom()` answers yes exactly on the values that describe no state -/
def C04.ricdom_is_bottom_iff_Statement : Prop :=
  ∀ e : Env, e.Inv → (e.isBottom = true ↔ ∀ σ, ¬ e.γ σ)

/-- the meet of `x ∈ [1, 2]` and `x ∈ 4Z` (two reduced values) describes no state and is not bottom:
    `operator&` meets the components and does not call `reduce_variable` -/
theorem C04.ricdom_is_bottom_incomplete : ¬ C04.ricdom_is_bottom_iff_Statement := by
  intro h
  let a : Env := RDom.Env.top.set 0 ⟨⟨.fin 1, .fin 2⟩, Cong.top⟩
  let b : Env := RDom.Env.top.set 0 ⟨Itv.top, ⟨false, 4, 0⟩⟩
  have ha : a.Inv := Env.set_inv RDom.Env.inv_top (by decide) (by decide)
  have hb : b.Inv := Env.set_inv RDom.Env.inv_top (by decide) (by decide)
  have hm := Env.meet_inv ha hb
  have hvals : (Env.meet a b).isBottom = false ∧ (Env.meet a b).f.get 0 = ⟨.fin 1, .fin 2⟩ ∧
      (Env.meet a b).s.get 0 = ⟨false, 4, 0⟩ := by decide +kernel
  have hno : ∀ σ, ¬ (Env.meet a b).γ σ := by
    intro σ hg
    have h1 := hg.2.1.2 0
    have h2 := GDom.Env.get_mem hg.2.2 0
    rw [hvals.2.1] at h1
    rw [hvals.2.2] at h2
    simp only [Itv.mem, Bound.le, decide_eq_true_eq] at h1
    obtain ⟨_, k, hk⟩ := h2
    simp only at hk
    omega
  have := (h _ hm).mpr hno
  rw [hvals.1] at this
  cases this

/-- `is_top()` answers yes only on values that describe every state -/
theorem C04.ricdom_is_top_sound (e : Env) (he : e.Inv) (σ : State) (h : e.isTop = true) : e.γ σ :=
  Env.γ_of_isTop he h σ

theorem C04.ricdom_bot_empty (σ : State) : ¬ RDom.Env.bot.γ σ := Env.not_γ_bot σ
theorem C04.ricdom_top_all (σ : State) : RDom.Env.top.γ σ := Env.γ_top σ
theorem C04.ricdom_top_is_top : RDom.Env.top.isTop = true ∧ RDom.Env.bot.isBottom = true := by decide

/-- join (`operator|`, `operator|=`) contains both arguments -/
theorem C04.ricdom_join_upper (a b : Env) (ha : a.Inv) (hb : b.Inv) (σ : State) (h : a.γ σ ∨ b.γ σ) :
    (Env.join a b).γ σ ∧ (Env.joinEq a b).γ σ := ⟨Env.join_upper ha hb h, Env.joinEq_upper ha hb h⟩

/-- meet is below both arguments … -/
theorem C04.ricdom_meet_lower (a b : Env) (ha : a.Inv) (hb : b.Inv) (σ : State) (h : (Env.meet a b).γ σ) :
    a.γ σ ∧ b.γ σ := Env.meet_lower ha hb h

/-- … and describes exactly the common states -/
theorem C04.ricdom_meet_iff (a b : Env) (ha : a.Inv) (hb : b.Inv) (σ : State) :
    (Env.meet a b).γ σ ↔ (a.γ σ ∧ b.γ σ) :=
  ⟨Env.meet_lower ha hb, fun ⟨h1, h2⟩ => Env.meet_sound ha hb h1 h2⟩

/-- `operator&=` keeps the common states -/
theorem C04.ricdom_meet_eq_sound (a b : Env) (ha : a.Inv) (hb : b.Inv) (σ : State) (h1 : a.γ σ) (h2 : b.γ σ) :
    (Env.meetEq a b).γ σ := Env.meetEq_sound ha hb h1 h2

/-- widening (`operator||`, no canonicalisation) contains both arguments -/
theorem C04.ricdom_widen_upper (a b : Env) (ha : a.Inv) (hb : b.Inv) (σ : State) (h : a.γ σ ∨ b.γ σ) :
    (Env.widen a b).γ σ := Env.widen_upper ha hb h

/-- widening with thresholds contains both arguments -/
theorem C04.ricdom_widen_thresholds_upper (ts : IDom.Thresholds) (hw : ts.WF) (a b : Env) (ha : a.Inv) (hb : b.Inv)
    (σ : State) (h : a.γ σ ∨ b.γ σ) : (Env.widenTh ts a b).γ σ := Env.widenTh_upper hw ha hb h

/-- narrowing keeps the common states -/
theorem C04.ricdom_narrow_sound (a b : Env) (ha : a.Inv) (hb : b.Inv) (σ : State) (h1 : a.γ σ) (h2 : b.γ σ) :
    (Env.narrow a b).γ σ := Env.narrow_sound ha hb h1 h2

/-- `entails(cst)`: a yes answer of either component holds in every state of `γ` -/
theorem C04.ricdom_entails_sound (e : Env) (he : e.Inv) (σ : State) (c : Lin.Cst) (hc : CstOk c) (hg : e.γ σ)
    (h : e.entails c = true) : c.sat σ := Env.entails_sound he hg hc h

/-- non-vacuity: `{x ∈ [1,5] ∩ 4Z+1} <= {x ∈ [1,9] ∩ 2Z+1}`, not the converse; the first entails `x - 5 <= 0` -/
example :
    let a : Env := RDom.Env.top.set 0 ⟨⟨.fin 1, .fin 5⟩, ⟨false, 4, 1⟩⟩
    let b : Env := RDom.Env.top.set 0 ⟨⟨.fin 1, .fin 9⟩, ⟨false, 2, 1⟩⟩
    Env.leq a b = true ∧ Env.leq b a = false ∧ a.entails ⟨(Expr.var 0).subNum 5, .leq⟩ = true := by
  decide +kernel
