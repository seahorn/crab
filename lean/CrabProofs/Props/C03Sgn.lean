import CrabProofs.Lemmas.XDomSgnOps
import CrabProofs.Props.C03

/-!
# C03 for `sign_domain<z_number>` — every operation is sound, proved on the exact model

`Crab.SDom` (CrabModel/Dom/SignDomain.lean + Dom/NonRelEnv.lean) is the branch-by-branch model
of `crab::domains::sign_domain<z_number, VariableName>` over the existing model of
`separate_domain` (`SepDom`, Patricia tree) and of `sign<z_number>` (the table extracted from the
code, `CrabModel/Gen/SignTable.lean`, through the total wrapper `sop`); it is tied to the real code
by the exact correspondence `xdom` (harness/h_cdom.cpp -DXDOM=2, Driver/XDomH.lean: every binding
after every operation of random histories).

Concretisation: `Env.γ e σ := e.isBot = false ∧ ∀ x, σ x ∈ γ(e.at(x))` over integer valuations.
Hypotheses `e.Inv`, `x < 2^64`, `CstOk c`: as in `Props/C03Cst.lean`.

The constraint solving of the class (`extract_sign_constraints`, `solve_strict_inequality`,
`solve_inequality`, the loops over `equal` / `not_equal`) is proved sound from decidable checks
on the extracted table: it has an answer for every case (`Sign.binop_total`), its join and meet
are the union and the intersection of classes (`Sign.lattice_rows_exact`, CrabProofs/Lemmas/
SignCls.lean), and `divCheck` (XDomSgnSolve.lean).  `divCheck` also shows that the branch `v != rhs` with
`rhs.not_equal_zero()` (it concludes `v == 0`, which would be unsound) is dead code:
a quotient by a non-zero sign is never `!= 0` (`C03.sgndom_neq_branch_dead`).
-/
open Crab Crab.SDom Crab.XDom Crab.Lin

/-! ### transformers -/

/-- `set_sign(x, s)`: `x` receives any member of `s` -/
theorem C03.sgndom_set_sound (e : Env) (he : e.Inv) (σ : State) (x : Var) (hx : x < 2 ^ 64) (c : Sign) (n : Int)
    (hg : e.γ σ) (hn : Sign.mem n c) : (e.set x c).γ (upd σ x n) := Env.set_sound he hg hx hn

/-- `eval_expr(expr)` contains the value of the expression in every state of `γ` -/
theorem C03.sgndom_eval_sound (e : Env) (σ : State) (ex : Expr) (hg : e.γ σ) :
    Sign.mem (ex.eval σ) (e.eval ex) := Env.eval_sound hg ex

/-- `assign(x, e)`, including the single-variable shortcut -/
theorem C03.sgndom_assign_sound (e : Env) (he : e.Inv) (σ : State) (x : Var) (hx : x < 2 ^ 64) (ex : Expr)
    (hg : e.γ σ) : (e.assign x ex).γ (upd σ x (ex.eval σ)) := Env.assign_sound he hg hx ex

/-- `weak_assign(x, e)`: both the old state and the updated state are described -/
theorem C03.sgndom_weak_assign_sound (e : Env) (he : e.Inv) (σ : State) (x : Var) (hx : x < 2 ^ 64) (ex : Expr)
    (hg : e.γ σ) : (e.weakAssign x ex).γ σ ∧ (e.weakAssign x ex).γ (upd σ x (ex.eval σ)) :=
  Parts.weakAssign_sound signLaws scalar he hg hx ex

/-- `apply(arith op, x, y, z)` for every arithmetic operation (`ArithOp.conc` is the operation on
    mathematical integers; no successor for a division by zero) -/
theorem C03.sgndom_apply_arith_var_sound (e : Env) (he : e.Inv) (σ : State) (op : ArithOp) (x y z : Var)
    (hx : x < 2 ^ 64) (c : Int) (hg : e.γ σ) (hc : op.conc (σ y) (σ z) = some c) :
    (e.applyVar op x y z).γ (upd σ x c) := Parts.apply_sound signLaws scalar he hg hx (scalar.arith_sound op (hg.2 y) (hg.2 z) hc)

/-- `apply(arith op, x, y, k)` -/
theorem C03.sgndom_apply_arith_cst_sound (e : Env) (he : e.Inv) (σ : State) (op : ArithOp) (x y : Var)
    (hx : x < 2 ^ 64) (k c : Int) (hg : e.γ σ) (hc : op.conc (σ y) k = some c) :
    (e.applyCst op x y k).γ (upd σ x c) := Parts.apply_sound signLaws scalar he hg hx (scalar.arith_sound op (hg.2 y) (scalar.ofInt_sound k) hc)

/-- `apply(bitwise op, x, y, z)` -/
theorem C03.sgndom_apply_bitwise_var_sound (e : Env) (he : e.Inv) (σ : State) (op : BitOp) (x y z : Var)
    (hx : x < 2 ^ 64) (c : Int) (hg : e.γ σ) (hc : op.conc (σ y) (σ z) = some c) :
    (e.applyBitVar op x y z).γ (upd σ x c) := Parts.apply_sound signLaws scalar he hg hx (scalar.bit_sound op (hg.2 y) (hg.2 z) hc)

/-- `apply(bitwise op, x, y, k)` -/
theorem C03.sgndom_apply_bitwise_cst_sound (e : Env) (he : e.Inv) (σ : State) (op : BitOp) (x y : Var)
    (hx : x < 2 ^ 64) (k c : Int) (hg : e.γ σ) (hc : op.conc (σ y) k = some c) :
    (e.applyBitCst op x y k).γ (upd σ x c) := Parts.apply_sound signLaws scalar he hg hx (scalar.bit_sound op (hg.2 y) (scalar.ofInt_sound k) hc)

/-- the body of the loop of `solve_constraints` for one constraint (extraction of the facts
    `pivot OP sign`, then the lambdas / loops) -/
theorem C03.sgndom_solve_one_sound (e : Env) (he : e.Inv) (σ : State) (c : Lin.Cst) (hc : CstOk c)
    (hg : e.γ σ) (hsat : c.sat σ) : (e.solveOne c).2.γ σ := Env.solveOne_sound he hg hc hsat

/-- the total wrapper `sop` is the lookup in the extracted table (no lookup fails) -/
theorem C03.sgndom_sop_defined (op : SOp) (x y : Sign) : Sign.binop op x y = some (sop op x y) :=
  binop_eq_sop op x y

/-- a quotient by the sign of a non-zero number is never `!= 0`: the branch of `solve_constraints`
    for `v != rhs` with `rhs.not_equal_zero()` is never taken -/
theorem C03.sgndom_neq_branch_dead (e : Env) (ex : Expr) (hc : ex.Canonical) :
    ∀ t ∈ e.extract ex, t.2.2 ≠ .nez := by
  intro t ht
  unfold Env.extract at ht
  rw [List.mem_filterMap] at ht
  obtain ⟨p, hp, hpt⟩ := ht
  simp only at hpt
  split at hpt
  · cases hpt
  · split at hpt
    · simp only [Option.some.injEq] at hpt; subst hpt
      exact div_ne_nez _ (hc.2 _ hp)
    · cases hpt

/-- `operator+=(csts)` (`solve_constraints`): every state of `γ` that satisfies the system is kept -/
theorem C03.sgndom_assume_sound (e : Env) (he : e.Inv) (σ : State) (csts : Sys) (hc : ∀ c ∈ csts, CstOk c)
    (hg : e.γ σ) (hsat : Sys.sat csts σ) : (e.add csts).γ σ := Env.add_sound he hg hc hsat

/-- `select(lhs, cond, e1, e2)` -/
theorem C03.sgndom_select_sound (e : Env) (he : e.Inv) (σ : State) (lhs : Var) (hx : lhs < 2 ^ 64)
    (cond : Lin.Cst) (e1 e2 : Expr) (hc : CstOk cond) (hg : e.γ σ) :
    (e.select lhs cond e1 e2).γ (upd σ lhs (if cond.sat σ then e1.eval σ else e2.eval σ)) :=
  Parts.select_sound sound scalar he hg hx hc e1 e2

/-- `operator-=(x)` -/
theorem C03.sgndom_forget_sound (e : Env) (he : e.Inv) (σ : State) (x : Var) (hx : x < 2 ^ 64) (n : Int)
    (hg : e.γ σ) : Env.γ (XDom.Env.forget signLattice e x) (upd σ x n) :=
  XDom.Env.forget_sound signLaws he hg hx n

/-- `forget(variables)`: the state may change on the forgotten variables only -/
theorem C03.sgndom_forget_vector_sound (e : Env) (he : e.Inv) (σ σ' : State) (vs : List Var)
    (hv : ∀ v ∈ vs, v < 2 ^ 64) (hg : e.γ σ) (h : ∀ y, y ∉ vs → σ' y = σ y) :
    Env.γ (XDom.Env.forgetAll signLattice e vs) σ' := XDom.Env.forgetAll_sound signLaws he hg hv h

/-- `project(variables)`, both branches of `separate_domain::project`: the state is kept on the
    projected variables only -/
theorem C03.sgndom_project_sound (e : Env) (he : e.Inv) (σ σ' : State) (vs : List Var)
    (hv : ∀ v ∈ vs, v < 2 ^ 64) (hg : e.γ σ) (h : ∀ y ∈ vs, σ' y = σ y) :
    Env.γ (XDom.Env.project signLattice e vs) σ' := XDom.Env.project_sound signLaws he hg hv h

/-- `expand(x, new_x)`: `new_x` receives any value the domain allows for `x` (in particular the
    value of `x`) -/
theorem C03.sgndom_expand_sound (e : Env) (he : e.Inv) (σ : State) (x nx : Var) (hnx : nx < 2 ^ 64) (n : Int)
    (hg : e.γ σ) (hn : Sign.mem n (e.get x)) : Env.γ (XDom.Env.expand signLattice e x nx) (upd σ nx n) :=
  XDom.Env.expand_sound signLaws he hg hnx hn

/-- `rename(from, to)` with distinct sources and distinct, fresh targets: `to[i]` receives the value
    of `from[i]`, the variables outside `from` and `to` keep theirs -/
theorem C03.sgndom_rename_sound (e e' : Env) (he : e.Inv) (σ σ' : State) (frm to : List Var) (hg : e.γ σ)
    (hr : XDom.Env.rename signLattice e frm to = some e')
    (hf : ∀ v ∈ frm, v < 2 ^ 64) (ht : ∀ v ∈ to, v < 2 ^ 64) (hnf : frm.Nodup) (hnt : to.Nodup)
    (hdis : ∀ y ∈ to, y ∉ frm) (hfresh : ∀ y ∈ to, e.tree.lookup y = none)
    (hrel : ∀ p ∈ frm.zip to, σ' p.2 = σ p.1) (hout : ∀ y, y ∉ frm → y ∉ to → σ' y = σ y) : e'.γ σ' :=
  XDom.Env.rename_sound signLaws he hg hr hf ht hnf hnt hdis hfresh hrel hout

/-- `rename` raises CRAB_ERROR exactly on vectors of different lengths (unless nothing is to do) -/
theorem C03.sgndom_rename_defined (e : Env) (frm to : List Var) :
    (XDom.Env.rename signLattice e frm to).isSome =
      (e.isBot || SepDom.isTop e || decide (frm.length = to.length)) :=
  XDom.Env.rename_isSome _ e frm to

/-- integer casts between integer variables (`assign`, plus `dst <= 2^bw - 1` for `zext`) -/
theorem C03.sgndom_cast_sound (e : Env) (he : e.Inv) (σ : State) (zext : Bool) (bw : Nat) (dst src : Var)
    (hd : dst < 2 ^ 64) (hg : e.γ σ) (hz : zext = true → σ src ≤ 2 ^ bw - 1) :
    (e.intCast zext bw dst src).γ (upd σ dst (σ src)) := Parts.intCast_sound sound he hg zext bw hd src hz

/-! ### exported facts -/

/-- `to_linear_constraint_system()` holds in every state of `γ`, and has no solution for bottom -/
theorem C03.sgndom_to_csts_sound (e : Env) (he : e.Inv) (σ : State) (hg : e.γ σ) : Sys.sat e.toCsts σ :=
  Env.toCsts_sound he hg

theorem C03.sgndom_to_csts_bottom (e : Env) (σ : State) (h : e.isBot = true) : ¬ Sys.sat e.toCsts σ :=
  XDom.Env.exportCsts_bot _ h σ

/-- `at(v)` / `operator[](v)` contains the value of `v` in every state of `γ` -/
theorem C03.sgndom_at_sound (e : Env) (σ : State) (x : Var) (hg : e.γ σ) : Itv.mem (σ x) (e.atItv x) :=
  Env.atItv_sound hg x

/-! ### the invariant of `separate_domain` is maintained -/

theorem C03.sgndom_top_bot_inv : SDom.Env.top.Inv ∧ SDom.Env.bot.Inv := ⟨SDom.Env.inv_top, SDom.Env.inv_bot⟩

/-- every statement keeps the invariant -/
theorem C03.sgndom_stmt_inv (st : Stmt) (hok : st.Ok) (a : Env) (h : a.Inv) : (exec st a).Inv := exec_inv st hok h

/-- so do `set`, `rename` and the lattice operations -/
theorem C03.sgndom_set_inv (e : Env) (he : e.Inv) (x : Var) (hx : x < 2 ^ 64) (c : Sign) : (e.set x c).Inv :=
  Env.set_inv he hx c

theorem C03.sgndom_rename_inv (e e' : Env) (he : e.Inv) (frm to : List Var)
    (hr : XDom.Env.rename signLattice e frm to = some e') (hf : ∀ v ∈ frm, v < 2 ^ 64) (ht : ∀ v ∈ to, v < 2 ^ 64) :
    e'.Inv := XDom.Env.rename_inv signLaws he hr hf ht

theorem C03.sgndom_lattice_inv (a b : Env) (ha : a.Inv) (hb : b.Inv) :
    Env.Inv (XDom.Env.join signLattice a b) ∧ Env.Inv (XDom.Env.meet signLattice a b) :=
  ⟨XDom.Env.upper_inv signLaws signLaws.join ha hb, XDom.Env.lower_inv signLaws signLaws.meet ha hb⟩

/-! ### the operations as steps of the generic history contract -/

/-- every statement (one call of `assign` / `weak_assign` / `apply` / `+=` / `select` / `-=` /
    `forget` / `project` / `expand` / cast) is a sound transformer step -/
theorem C03.sgndom_step_trans_sound (d : Nat) (st : Stmt) (hok : st.Ok) :
    (Dom.Step.trans d ⟨execS st hok, st.rel⟩ : Dom.Step SEnv State).Sound SEnv.γ :=
  fun a _ _ hg hr => exec_sound st hok a.2 hg hr

theorem C03.sgndom_step_join_sound (d a b : Nat) :
    (Dom.Step.upper d a b SEnv.join : Dom.Step SEnv State).Sound SEnv.γ :=
  fun x y _ h => XDom.Env.upper_sound signLaws signLaws.join x.2 y.2 h

/-- `operator||` and `widening_thresholds`: both are the join (`m_env | o.m_env`) in this domain -/
theorem C03.sgndom_step_widen_sound (d a b : Nat) :
    (Dom.Step.upper d a b SEnv.widen : Dom.Step SEnv State).Sound SEnv.γ :=
  fun x y _ h => XDom.Env.upper_sound signLaws signLaws.widen x.2 y.2 h

theorem C03.sgndom_step_meet_sound (d a b : Nat) :
    (Dom.Step.lower d a b SEnv.meet : Dom.Step SEnv State).Sound SEnv.γ :=
  fun x y _ h1 h2 => XDom.Env.lower_sound signLaws signLaws.meet x.2 y.2 h1 h2

/-- `operator&&` is the meet (`m_env & o.m_env`) in this domain -/
theorem C03.sgndom_step_narrow_sound (d a b : Nat) :
    (Dom.Step.lower d a b SEnv.narrow : Dom.Step SEnv State).Sound SEnv.γ :=
  fun x y _ h1 h2 => XDom.Env.lower_sound signLaws signLaws.narrow x.2 y.2 h1 h2

/-- the steps an operation history of the sign domain is made of -/
inductive C03.SgndomStep : Dom.Step SEnv State → Prop
  | trans (d : Nat) (st : Stmt) (hok : st.Ok) : C03.SgndomStep (.trans d ⟨execS st hok, st.rel⟩)
  | join (d a b : Nat) : C03.SgndomStep (.upper d a b SEnv.join)
  | widen (d a b : Nat) : C03.SgndomStep (.upper d a b SEnv.widen)
  | meet (d a b : Nat) : C03.SgndomStep (.lower d a b SEnv.meet)
  | narrow (d a b : Nat) : C03.SgndomStep (.lower d a b SEnv.narrow)
  | copy (d s : Nat) : C03.SgndomStep (.copy d s)
  | setBot (d : Nat) : C03.SgndomStep (.setBot d SEnv.bot)

theorem C03.sgndom_step_sound (st : Dom.Step SEnv State) (h : C03.SgndomStep st) : st.Sound SEnv.γ := by
  cases h with
  | trans d s hok => exact C03.sgndom_step_trans_sound d s hok
  | join d a b => exact C03.sgndom_step_join_sound d a b
  | widen d a b => exact C03.sgndom_step_widen_sound d a b
  | meet d a b => exact C03.sgndom_step_meet_sound d a b
  | narrow d a b => exact C03.sgndom_step_narrow_sound d a b
  | copy d s => trivial
  | setBot d => trivial

/-- **C03 for the sign domain**: after ANY history of its operations over a pool of values,
    every slot contains the collecting semantics of the history (instance of `C03.history_sound`) -/
theorem C03.sgndom_history_sound (hist : List (Dom.Step SEnv State)) (hs : ∀ st ∈ hist, C03.SgndomStep st)
    (p : Dom.Pool SEnv) (c : Dom.CPool State) (h : ∀ i s, c i s → (p i).γ s) :
    ∀ i s, (Dom.collHist c hist) i s → ((Dom.runHist p hist) i).γ s :=
  C03.history_sound SEnv.γ hist (fun st hst => C03.sgndom_step_sound st (hs st hst)) p c h

/-- a slot whose collecting semantics is inhabited is never reported bottom -/
theorem C03.sgndom_not_bottom_if_inhabited (hist : List (Dom.Step SEnv State))
    (hs : ∀ st ∈ hist, C03.SgndomStep st) (p : Dom.Pool SEnv) (c : Dom.CPool State)
    (h : ∀ i s, c i s → (p i).γ s) (i : Nat) (s : State) (hc : (Dom.collHist c hist) i s) :
    ((Dom.runHist p hist) i).1.isBot = false := (C03.sgndom_history_sound hist hs p c h i s hc).1

/-- the invariant holds of every slot after any history: the values are subtypes carrying it -/
theorem C03.sgndom_history_inv (hist : List (Dom.Step SEnv State)) (p : Dom.Pool SEnv) (i : Nat) :
    ((Dom.runHist p hist) i).1.Inv := ((Dom.runHist p hist) i).2

/-! ### non-vacuity -/

/-- `assume -x < 0; assume -y < 0; z := x * y`: the bindings are exactly the expected ones -/
example :
    let e := exec (.arithVar .mul 2 0 1) (exec (.assume [⟨⟨[(1, -1)], 0⟩, .lt⟩]) (exec (.assume [⟨⟨[(0, -1)], 0⟩, .lt⟩]) SDom.Env.top))
    XDom.Env.bindings e = [(0, .gtz), (1, .gtz), (2, .gtz)] ∧ e.toCsts.length = 3 := by decide +kernel

example : Stmt.Ok (.assume [⟨⟨[(0, -1)], 0⟩, .lt⟩]) := by
  intro c hc
  simp only [List.mem_cons, List.not_mem_nil, or_false] at hc
  subst hc
  exact ⟨by decide, by intro p hp; simp at hp; subst hp; decide⟩

example : SDom.Env.γ (SDom.Env.top.set 0 .gtz) (fun _ => 3) :=
  SDom.Env.set_sound_same SDom.Env.inv_top (XDom.Env.γ_top signLaws _) (by decide) (by decide)
