import CrabProofs.Lemmas.DisIntervalMisc

/-!
# C08 — disjunctive intervals (`crab::domains::dis_interval<z_number>`)

Property theorems only (helper lemmas: `CrabProofs/Lemmas/DisInterval*.lean`).  `Crab.Dis` is the
branch-by-branch model of the class (state BOT / FINITE / TOP + vector of intervals), tied to the
code by `harness/h_dis.cpp` + `Driver/DisH.lean`.  `Dis.mem k x` is `k ∈ γ(x)`.

* `Dis.WF` is the invariant of the class (what `check_well_formed` tests, plus non-adjacency and the
  bound of 49 disjuncts): BOT / TOP carry no vector, a FINITE value a non-empty vector of fewer than 50
  proper intervals, sorted, pairwise separated by at least one integer.
* `Dis.EWF` only says that the intervals of the vector (any order, overlapping, bottom/top allowed)
  have `lb ≠ +oo`, `ub ≠ -oo`; it is all the arithmetic, `|`, `&`, `normalize`, `trim` need.

The constructor merges all intervals when 50 remain (`max_num_disjunctions`): meet / join are then
no longer exact and — defect — the merged interval can be `[-oo,+oo]` kept in a FINITE value.
-/
open Crab Crab.Dis

/-! ## 1. order -/

theorem C08.dis_leq_sound (x y : Dis) (h : leq x y = true) (k : Int) (hk : mem k x) : mem k y :=
  leq_sound h hk
theorem C08.dis_leq_refl (x : Dis) : leq x x = true := leq_refl x
theorem C08.dis_bot_le (y : Dis) : leq Dis.bot y = true := bot_leq _ y rfl
theorem C08.dis_le_top (x : Dis) : leq x Dis.top = true := leq_top x _ rfl
/-- on normalised values the test is complete: inclusion of concretisations is answered yes -/
theorem C08.dis_leq_complete (x y : Dis) (hx : x.WF) (hy : y.WF) (h : ∀ k, mem k x → mem k y) :
    leq x y = true := leq_complete hx hy h

/-! ## 2. constructors, `normalize`, invariant -/

theorem C08.dis_ofItv_exact (i : Itv) (hw : i.WF) (k : Int) : mem k (ofItv i) ↔ Itv.mem k i :=
  mem_ofItv hw k
theorem C08.dis_wf_ofItv (i : Itv) (hw : i.WF) : (ofItv i).WF := ofItv_wf hw
theorem C08.dis_wf_bot_top : Dis.bot.WF ∧ Dis.top.WF := by decide

/-- the list constructor describes at least the union of the vector … -/
theorem C08.dis_mkList_upper (l : List Itv) (hl : ∀ i ∈ l, i.WF) (k : Int) (i : Itv) (hi : i ∈ l)
    (hk : Itv.mem k i) : mem k (mkList l) := mkList_mem_upper hl ⟨i, hi, hk⟩
/-- … and exactly the union below 50 intervals -/
theorem C08.dis_mkList_exact (l : List Itv) (hl : ∀ i ∈ l, i.WF) (hne : l ≠ [])
    (hlen : l.length < maxDisjunctions) (k : Int) (hk : mem k (mkList l)) : ∃ i ∈ l, Itv.mem k i :=
  mkList_mem_exact hl hne hlen hk
/-- it establishes the invariant (a vector of one interval is kept as it is) -/
theorem C08.dis_wf_mkList (l : List Itv) (hl : ∀ i ∈ l, i.WF) (h1 : ∀ a, l = [a] → proper a = true)
    (hlen : l.length < maxDisjunctions) : (mkList l).WF := mkList_wf hl h1 hlen
/-- a normalised vector is a fixed point -/
theorem C08.dis_mkList_fixed (x : Dis) (hx : x.WF) (hf : x.st = .fin) : mkList x.l = x :=
  mkList_of_wf hx hf

theorem C08.dis_normalize_sound (x : Dis) (hx : x.EWF) (k : Int) (h : mem k x) : mem k (normalize x) :=
  normalize_mem_upper hx h
theorem C08.dis_normalize_exact (x : Dis) (hx : x.EWF) (hne : x.l ≠ []) (k : Int)
    (h : mem k (normalize x)) : mem k x := normalize_mem_exact hx hne h
theorem C08.dis_normalize_fixed (x : Dis) (hx : x.WF) : normalize x = x := normalize_of_wf hx
/-- `check_well_formed` accepts the values that satisfy the invariant -/
theorem C08.dis_checkWellFormed (x : Dis) (hx : x.WF) : checkWellFormed x = some true :=
  checkWellFormed_of_wf hx
theorem C08.dis_contains_iff (x : Dis) (k : Int) : x.contains k = true ↔ mem k x := contains_iff x k
theorem C08.dis_approx_sound (x : Dis) (hx : x.WF) :
    ∃ i, approx x = some i ∧ ∀ k, mem k x → Itv.mem k i := approx_sound hx

/-! ## 3. join -/

theorem C08.dis_join_upper (x y : Dis) (hx : x.EWF) (hy : y.EWF) (k : Int) (h : mem k x ∨ mem k y) :
    mem k (join x y) := join_mem_upper hx hy h

/-- full statement: the join of two values that satisfy the invariant satisfies it -/
def C08.dis_wf_join_Statement : Prop := ∀ x y : Dis, x.WF → y.WF → (join x y).WF

theorem C08.dis_wf_join_partial (x y : Dis) (hx : x.WF) (hy : y.WF)
    (hlen : x.l.length + y.l.length < maxDisjunctions) : (join x y).WF := join_wf hx hy hlen

/-- 30 + 30 interleaved intervals, the first unbounded below, the last unbounded above -/
def C08.disA : Dis :=
  ⟨.fin, ⟨.ninf, .fin 0⟩ :: (List.range 29).map (fun i => Itv.single (4 * (Int.ofNat i + 1)))⟩
def C08.disB : Dis :=
  ⟨.fin, (List.range 29).map (fun i => Itv.single (4 * Int.ofNat i + 2)) ++ [⟨.fin 200, .pinf⟩]⟩

/-- the 60 pieces are merged into `[-oo,+oo]`, which is left in a FINITE value -/
theorem C08.dis_join_top_in_finite : join C08.disA C08.disB = ⟨.fin, [Itv.top]⟩ := by decide +kernel

theorem C08.dis_wf_join_counterexample : ¬ C08.dis_wf_join_Statement := by
  -- stated about variables: instantiating the statement at the witnesses makes Lean unfold them
  have aux : ∀ (x y r : Dis), join x y = r → ¬ r.WF → x.WF → y.WF → ¬ C08.dis_wf_join_Statement :=
    fun x y r e hr hx hy h => hr (e ▸ h x y hx hy)
  exact aux C08.disA C08.disB _ C08.dis_join_top_in_finite (by decide)
    (wf_of_mkList_eq (by decide +kernel)) (wf_of_mkList_eq (by decide +kernel))

/-! ## 4. meet, narrowing -/

theorem C08.dis_meet_sound (x y : Dis) (hx : x.EWF) (hy : y.EWF) (k : Int) (h1 : mem k x)
    (h2 : mem k y) : mem k (meet x y) := meet_mem_sound hx hy h1 h2
/-- `operator&&` is the meet: it keeps every common member, in particular every member of its
    second argument when that is below the first -/
theorem C08.dis_narrow_sound (x y : Dis) (hx : x.EWF) (hy : y.EWF) (k : Int) (h1 : mem k x)
    (h2 : mem k y) : mem k (narrow x y) := meet_mem_sound hx hy h1 h2

/-- full statement: the meet describes exactly the common members -/
def C08.dis_meet_exact_Statement : Prop :=
  ∀ (x y : Dis) (k : Int), x.WF → y.WF → (mem k (meet x y) ↔ (mem k x ∧ mem k y))

theorem C08.dis_meet_exact_partial (x y : Dis) (hx : x.EWF) (hy : y.EWF)
    (hsmall : x.l.length * y.l.length < maxDisjunctions) (k : Int) :
    mem k (meet x y) ↔ (mem k x ∧ mem k y) :=
  ⟨meet_mem_exact hx hy hsmall, fun ⟨h1, h2⟩ => meet_mem_sound hx hy h1 h2⟩

def C08.disC : Dis :=
  ⟨.fin, (List.range 49).map (fun i => ⟨.fin (4 * Int.ofNat i), .fin (4 * Int.ofNat i + 2)⟩)⟩
def C08.disD : Dis :=
  ⟨.fin, (List.range 49).map (fun i => ⟨.fin (4 * Int.ofNat i + 2), .fin (4 * Int.ofNat i + 4)⟩)⟩

/-- 97 common points are merged into their hull -/
theorem C08.dis_meet_merged : meet C08.disC C08.disD = ⟨.fin, [⟨.fin 2, .fin 194⟩]⟩ := by
  decide +kernel

theorem C08.dis_meet_exact_counterexample : ¬ C08.dis_meet_exact_Statement := by
  have aux : ∀ (x y r : Dis) (k : Int), meet x y = r → mem k r → ¬ mem k x → x.WF → y.WF →
      ¬ C08.dis_meet_exact_Statement :=
    fun x y r k e hr hx wx wy h => hx ((h x y k wx wy).mp (e ▸ hr)).1
  refine aux C08.disC C08.disD _ 3 C08.dis_meet_merged
    (mem_fin.mpr ⟨⟨.fin 2, .fin 194⟩, List.mem_singleton.mpr rfl, by decide⟩) ?_
    (wf_of_mkList_eq (by decide +kernel)) (wf_of_mkList_eq (by decide +kernel))
  rw [← C08.dis_contains_iff]
  decide +kernel

theorem C08.dis_wf_meet (x y : Dis) (hx : x.WF) (hy : y.WF)
    (hsmall : x.l.length * y.l.length < maxDisjunctions) : (meet x y).WF := meet_wf hx hy hsmall

/-! ## 5. widening -/

theorem C08.dis_widen_upper (x y : Dis) (hx : x.WF) (hy : y.WF) (k : Int) (h : mem k x ∨ mem k y) :
    mem k (widen x y) := widenWith_upper wop_widen hx hy h
theorem C08.dis_widenTh_upper (ts : IDom.Thresholds) (hts : ts.WF) (x y : Dis) (hx : x.WF) (hy : y.WF)
    (k : Int) (h : mem k x ∨ mem k y) : mem k (widenTh ts x y) :=
  widenWith_upper (wop_widenTh hts) hx hy h
theorem C08.dis_wf_widen (x y : Dis) (hx : x.WF) (hy : y.WF) : (widen x y).WF :=
  widenWith_wf wop_widen hx hy
theorem C08.dis_wf_widenTh (ts : IDom.Thresholds) (hts : ts.WF) (x y : Dis) (hx : x.WF) (hy : y.WF) :
    (widenTh ts x y).WF := widenWith_wf (wop_widenTh hts) hx hy

/-! ## 6. arithmetic (`apply_bin_op`): soundness for every operation

`r` is the answer (`some`: no CRAB_ERROR).  Operands only need `Dis.EWF`: unsorted or overlapping
vectors are fine. -/

theorem C08.dis_add_sound (x y r : Dis) (hx : x.EWF) (hy : y.EWF) (h : Dis.add x y = some r)
    (a b : Int) (ha : mem a x) (hb : mem b y) : mem (a + b) r :=
  binOp_sound opSound_add true hx hy h ha hb rfl
theorem C08.dis_sub_sound (x y r : Dis) (hx : x.EWF) (hy : y.EWF) (h : Dis.sub x y = some r)
    (a b : Int) (ha : mem a x) (hb : mem b y) : mem (a - b) r :=
  binOp_sound opSound_sub true hx hy h ha hb rfl
theorem C08.dis_mul_sound (x y r : Dis) (hx : x.EWF) (hy : y.EWF) (h : Dis.mul x y = some r)
    (a b : Int) (ha : mem a x) (hb : mem b y) : mem (a * b) r :=
  binOp_sound opSound_mul true hx hy h ha hb rfl
theorem C08.dis_div_sound (x y r : Dis) (hx : x.EWF) (hy : y.EWF) (h : Dis.div x y = some r)
    (a b : Int) (ha : mem a x) (hb : mem b y) (hb0 : b ≠ 0) : mem (Int.tdiv a b) r :=
  binOp_sound opSound_div false hx hy h ha hb ⟨hb0, rfl⟩
/-- `UDiv` is coded with the signed interval division: sound on the unsigned range -/
theorem C08.dis_udiv_sound (x y r : Dis) (hx : x.EWF) (hy : y.EWF) (h : Dis.udiv x y = some r)
    (a b : Int) (ha : mem a x) (hb : mem b y) (ha0 : 0 ≤ a) (hb0 : 0 < b) : mem (a / b) r :=
  binOp_sound opSound_udiv false hx hy h ha hb ⟨ha0, hb0, rfl⟩
theorem C08.dis_srem_sound (x y r : Dis) (hx : x.EWF) (hy : y.EWF) (h : Dis.srem x y = some r)
    (a b : Int) (ha : mem a x) (hb : mem b y) (hb0 : b ≠ 0) : mem (Int.tmod a b) r :=
  binOp_sound opSound_srem false hx hy h ha hb ⟨hb0, rfl⟩
theorem C08.dis_urem_sound (x y r : Dis) (hx : x.EWF) (hy : y.EWF) (h : Dis.urem x y = some r)
    (a b : Int) (ha : mem a x) (hb : mem b y) (ha0 : 0 ≤ a) (hb0 : 0 < b) : mem (a % b) r :=
  binOp_sound opSound_urem false hx hy h ha hb ⟨ha0, hb0, rfl⟩
theorem C08.dis_and_sound (x y r : Dis) (hx : x.EWF) (hy : y.EWF) (h : Dis.and x y = some r)
    (a b : Int) (ha : mem a x) (hb : mem b y) : mem (ZNum.land a b) r :=
  binOp_sound opSound_and false hx hy h ha hb rfl
theorem C08.dis_or_sound (x y r : Dis) (hx : x.EWF) (hy : y.EWF) (h : Dis.or x y = some r)
    (a b : Int) (ha : mem a x) (hb : mem b y) : mem (ZNum.lor a b) r :=
  binOp_sound opSound_or false hx hy h ha hb rfl
theorem C08.dis_xor_sound (x y r : Dis) (hx : x.EWF) (hy : y.EWF) (h : Dis.xor x y = some r)
    (a b : Int) (ha : mem a x) (hb : mem b y) : mem (ZNum.lxor a b) r :=
  binOp_sound opSound_xor false hx hy h ha hb rfl
theorem C08.dis_shl_sound (x y r : Dis) (hx : x.EWF) (hy : y.EWF) (h : Dis.shl x y = some r)
    (a k : Int) (ha : mem a x) (hk : mem k y) (h0 : 0 ≤ k) : mem (a * 2 ^ k.toNat) r :=
  binOp_sound opSound_shl false hx hy h ha hk ⟨h0, rfl⟩
theorem C08.dis_ashr_sound (x y r : Dis) (hx : x.EWF) (hy : y.EWF) (h : Dis.ashr x y = some r)
    (a k : Int) (ha : mem a x) (hk : mem k y) (h0 : 0 ≤ k) : mem (a / 2 ^ k.toNat) r :=
  binOp_sound opSound_ashr false hx hy h ha hk ⟨h0, rfl⟩
/-- `LShr` inherits the restriction of the interval operation (`C08.itv_lshr_sound_partial`):
    shift amounts below `2^64` -/
theorem C08.dis_lshr_sound_partial (x y r : Dis) (hx : x.EWF) (hy : y.EWF) (h : Dis.lshr x y = some r)
    (a k : Int) (ha : mem a x) (hk : mem k y) (h0 : 0 ≤ k) (h64 : k < 2 ^ 64) (ha0 : 0 ≤ a) :
    mem (a / 2 ^ k.toNat) r :=
  binOp_sound opSound_lshr false hx hy h ha hk ⟨h0, h64, ha0, rfl⟩

/-- generic form: any interval operation that over-approximates a relation `R` on well-formed
    intervals lifts to disjunctive intervals (both settings of `shortcut_top`) -/
theorem C08.dis_binop_sound (op : Itv → Itv → Option Itv) (R : Int → Int → Int → Prop)
    (hop : OpSound op R) (sc : Bool) (x y r : Dis) (hx : x.EWF) (hy : y.EWF)
    (h : binOp op sc x y = some r) (a b c : Int) (ha : mem a x) (hb : mem b y) (hR : R a b c) :
    mem c r := binOp_sound hop sc hx hy h ha hb hR

/-! ## 7. unary operations, `trim_interval` -/

theorem C08.dis_neg_sound (x r : Dis) (hx : x.EWF) (h : Dis.neg x = some r) (a : Int) (ha : mem a x) :
    mem (-a) r :=
  unOp_sound (R := fun i c => c = -i)
    (fun _ hw => ⟨Itv.neg_wf hw, fun _ _ hi hc => hc ▸ Itv.neg_sound hi⟩) hx h ha rfl
theorem C08.dis_lowerHalfLine_sound (x r : Dis) (hx : x.EWF) (h : Dis.lowerHalfLine x = some r)
    (a c : Int) (ha : mem a x) (hc : c ≤ a) : mem c r :=
  unOp_sound (R := fun i c => c ≤ i)
    (fun _ hw => ⟨Itv.wf_lowerHalfLine hw, fun _ _ hi hc => lowerHalfLine_sound hi hc⟩) hx h ha hc
theorem C08.dis_upperHalfLine_sound (x r : Dis) (hx : x.EWF) (h : Dis.upperHalfLine x = some r)
    (a c : Int) (ha : mem a x) (hc : a ≤ c) : mem c r :=
  unOp_sound (R := fun i c => i ≤ c)
    (fun _ hw => ⟨Itv.wf_upperHalfLine hw, fun _ _ hi hc => upperHalfLine_sound hi hc⟩) hx h ha hc
/-- trimming by `y` keeps every member of `x` unless `y` is the singleton of that member -/
theorem C08.dis_trim_sound (x y r : Dis) (hx : x.EWF) (h : trim x y = some r) (k : Int) (hk : mem k x)
    (hne : singleton? y ≠ some (some k)) : mem k r := trim_sound hx h hk hne

/-! ## 8. invariant and absence of CRAB_ERROR for the arithmetic -/

/-- below 50 pairs of intervals every arithmetic result satisfies the invariant -/
theorem C08.dis_wf_binop (op : Itv → Itv → Option Itv)
    (hop : ∀ a b r, a.WF → b.WF → op a b = some r → r.WF) (sc : Bool) (x y r : Dis) (hx : x.WF)
    (hy : y.WF) (hsmall : x.l.length * y.l.length < maxDisjunctions) (h : binOp op sc x y = some r) :
    r.WF := binOp_wf hop sc hx hy hsmall h
theorem C08.dis_wf_add (x y r : Dis) (hx : x.WF) (hy : y.WF)
    (hsmall : x.l.length * y.l.length < maxDisjunctions) (h : Dis.add x y = some r) : r.WF :=
  binOp_wf (fun _ _ _ ha hb h => Itv.add_wf ha hb h) true hx hy hsmall h
theorem C08.dis_wf_sub (x y r : Dis) (hx : x.WF) (hy : y.WF)
    (hsmall : x.l.length * y.l.length < maxDisjunctions) (h : Dis.sub x y = some r) : r.WF :=
  binOp_wf (fun _ _ _ ha hb h => Itv.sub_wf ha hb h) true hx hy hsmall h
theorem C08.dis_wf_mul (x y r : Dis) (hx : x.WF) (hy : y.WF)
    (hsmall : x.l.length * y.l.length < maxDisjunctions) (h : Dis.mul x y = some r) : r.WF :=
  binOp_wf (fun a b r ha hb h => (opSound_mul a b r ha hb h).1) true hx hy hsmall h
theorem C08.dis_wf_div (x y r : Dis) (hx : x.WF) (hy : y.WF)
    (hsmall : x.l.length * y.l.length < maxDisjunctions) (h : Dis.div x y = some r) : r.WF :=
  binOp_wf (fun _ _ _ ha hb h => Itv.wf_div ha hb h) false hx hy hsmall h
theorem C08.dis_wf_neg (x r : Dis) (hx : x.WF) (h : Dis.neg x = some r) : r.WF :=
  unOp_wf (fun _ hw => Itv.neg_wf hw) hx h

theorem C08.dis_add_defined (x y : Dis) (hx : x.EWF) (hy : y.EWF) : (Dis.add x y).isSome = true :=
  binOp_defined (fun _ _ ha hb => Itv.add_defined ha hb) true hx hy
theorem C08.dis_sub_defined (x y : Dis) (hx : x.EWF) (hy : y.EWF) : (Dis.sub x y).isSome = true :=
  binOp_defined (fun _ _ ha hb => Itv.sub_defined ha hb) true hx hy
theorem C08.dis_div_defined (x y : Dis) (hx : x.EWF) (hy : y.EWF) : (Dis.div x y).isSome = true :=
  binOp_defined (fun a b _ _ => Itv.div_defined a b) false hx hy
theorem C08.dis_neg_defined (x : Dis) (hx : x.WF) : (Dis.neg x).isSome = true := unOp_defined _ hx

/-! ## non-vacuity -/

/-- a normalised value, an unnormalised one, and what the operations answer on them -/
example :
    let x : Dis := ⟨.fin, [⟨.ninf, .fin (-3)⟩, ⟨.fin 0, .fin 2⟩, ⟨.fin 7, .fin 7⟩]⟩
    let y : Dis := ⟨.fin, [⟨.fin 1, .fin 4⟩, ⟨.fin 6, .pinf⟩]⟩
    x.WF ∧ y.WF ∧ mem 7 x ∧ mem 2 x ∧ ¬ mem 3 x ∧
    join x y = ⟨.fin, [⟨.ninf, .fin (-3)⟩, ⟨.fin 0, .fin 4⟩, ⟨.fin 6, .pinf⟩]⟩ ∧
    meet x y = ⟨.fin, [⟨.fin 1, .fin 2⟩, ⟨.fin 7, .fin 7⟩]⟩ ∧
    leq (meet x y) x = true ∧ leq x y = false ∧
    Dis.add x (ofItv (Itv.single 1)) =
      some ⟨.fin, [⟨.ninf, .fin (-2)⟩, ⟨.fin 1, .fin 3⟩, ⟨.fin 8, .fin 8⟩]⟩ := by
  intro x y
  decide +kernel

example :
    mkList [⟨.fin 5, .fin 6⟩, Itv.bot, ⟨.fin 0, .fin 2⟩, ⟨.fin 3, .fin 3⟩, ⟨.fin 5, .fin 6⟩] =
      ⟨.fin, [⟨.fin 0, .fin 3⟩, ⟨.fin 5, .fin 6⟩]⟩ ∧
    mkList [⟨.fin 5, .fin 6⟩, Itv.top] = Dis.top ∧ mkList [Itv.bot, Itv.bot] = Dis.bot ∧
    (⟨.fin, [⟨.fin 5, .fin 6⟩, Itv.bot, ⟨.fin 0, .fin 2⟩]⟩ : Dis).EWF ∧
    ¬ (⟨.fin, [⟨.fin 5, .fin 6⟩, Itv.bot, ⟨.fin 0, .fin 2⟩]⟩ : Dis).WF := by
  decide +kernel

/-- the widening keeps a stable interior and gives up the disjunction when the interior grows
    (commit 2e81953) -/
example :
    widen ⟨.fin, [⟨.fin 0, .fin 1⟩, ⟨.fin 4, .fin 4⟩, ⟨.fin 9, .fin 9⟩]⟩
          ⟨.fin, [⟨.fin 0, .fin 1⟩, ⟨.fin 4, .fin 4⟩, ⟨.fin 9, .fin 12⟩]⟩ =
      ⟨.fin, [⟨.fin 0, .fin 1⟩, ⟨.fin 4, .fin 4⟩, ⟨.fin 9, .pinf⟩]⟩ ∧
    widen ⟨.fin, [⟨.fin 0, .fin 1⟩, ⟨.fin 9, .fin 9⟩]⟩
          ⟨.fin, [⟨.fin 0, .fin 1⟩, ⟨.fin 4, .fin 4⟩, ⟨.fin 9, .fin 9⟩]⟩ = ⟨.fin, [⟨.fin 0, .fin 9⟩]⟩ := by
  decide +kernel
