import CrabProofs.Lemmas.InterWire

/-!
  C10 — summary-based analysis: instantiation of a bottom-up summary at a call site
  (`bu_summ_abs_transformer::reuse_summary`, model `instantiate`).
-/
open Crab Crab.Inter

/-- Renaming lemma of the bottom-up instantiation.  `sum` is a summary over the formals
    `ins ++ outs` (it does not constrain other variables), `rin ++ rout` are its internal names
    (fresh: distinct, not used by the call site nor by the declaration, unconstrained in the
    caller's value).  If the caller's state `σ` is in the caller's value, `ρ ∈ γ sum` relates the
    input values `σ(args)` to the output values and `σ'` is `σ` with `lhs := outputs`, then `σ'` is in
    the value computed by `reuse_summary`. -/
theorem C10.summary_instantiate_sound (D : AbsDom) (hren : D.RenameSound)
    (ins outs rin rout lhs args : List Var) (caller sum : D.A) (σ ρ σ' : St)
    (hl_in : ins.length = rin.length) (hl_out : outs.length = rout.length)
    (hl_args : rin.length = args.length) (hl_lhs : lhs.length = rout.length)
    (hnd : (rin ++ rout).Nodup) (hlhs : lhs.Nodup)
    (hfresh : ∀ v, v ∈ rin ++ rout → v ∉ args ∧ v ∉ lhs ∧ v ∉ ins ++ outs)
    (hfree : ∀ σ1 σ2, D.γ caller σ1 → (∀ v, v ∉ rin ++ rout → σ2 v = σ1 v) → D.γ caller σ2)
    (hsupp : ∀ ρ1 ρ2, D.γ sum ρ1 → (∀ v, v ∈ ins ++ outs → ρ2 v = ρ1 v) → D.γ sum ρ2)
    (hσ : D.γ caller σ) (hρ : D.γ sum ρ)
    (hin : AllPairs (fun f a => ρ f = σ a) ins args)
    (hout : AllPairs (fun l o => σ' l = ρ o) lhs outs)
    (hfr : ∀ v, v ∉ lhs → σ' v = σ v) :
    D.γ (instantiate D ins outs rin rout lhs args caller sum) σ' :=
  instantiate_sound_univ D hren ins outs rin rout lhs args caller sum σ ρ σ' hl_in hl_out hl_args hl_lhs hnd hlhs
    hfresh (fun σ2 h => hfree σ σ2 hσ h) (fun ρ2 h => hsupp ρ ρ2 hρ h) hin hout hfr

/-- non-vacuity of the freshness hypotheses: `f(v0) -> v1` with internal names `v7, v8`, call site
    `v3 := f(v2)` -/
example : ([7] ++ [8] : List Var).Nodup ∧
    (∀ v, v ∈ ([7] ++ [8] : List Var) → v ∉ ([2] : List Var) ∧ v ∉ ([3] : List Var) ∧ v ∉ ([0] ++ [1] : List Var)) := by
  refine ⟨by decide, ?_⟩
  intro v hv
  simp only [List.cons_append, List.nil_append, List.mem_cons, List.mem_nil_iff, or_false] at hv
  rcases hv with rfl | rfl <;> decide
