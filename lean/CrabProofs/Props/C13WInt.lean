import CrabProofs.Lemmas.WIntUDiv

/-!
# C13 (part 2) — wrapped intervals over-approximate bit-vector operations

Property theorems only (helper lemmas: `CrabProofs/Lemmas/WInterval.lean`, `WIntUDiv.lean`).
`Crab.WInt` is the branch-by-branch model of `crab::domains::wrapped_interval<z_number>`
(`CrabModel/Scalar/WInterval.lean`).

* `Shape w x` : `x` is bottom, or its two end points are reduced wrapints of width `w`
  (this includes every full circle of width `w`, which `is_top()` recognises).
* `mem w v x` : the value `v < 2^w` belongs to `γ(x)`: `x` is not bottom and (`x.isTop`, or walking
  clockwise from `start`, `v` comes no later than `end`:
  `(v - start) mod 2^w ≤ (end - start) mod 2^w`, written with the circular distance `D`).
  `memBV v x` is the same for `v : BitVec w`.

Every statement quantifies over all widths `1 ≤ w ≤ 64`, all intervals of that width (arbitrary
`start`, `end`: crossing the north pole, the south pole, both or none; top; bottom) and all
members.

Proved for all widths: the specification of `at`, soundness of `<=`, `|` (upper bound), `&`
(keeps the common members), the widening `||` (upper bound of both operands), `+`, binary `-`,
unary `-`, `UDiv` (all the way through `unsigned_split`, `trim_zero`, `unsigned_div` and the
three nested loops).
Proved in `C13WInt2.lean` (and tested: the complete tables of every operation over every pair of
intervals of width 3 and 4, 1.14 million cases, and random cases at every width 1..64; the model
agrees with the code on all of them): `*`, `SDiv`, `Shl/LShr/AShr`, `ZExt/SExt/Trunc`,
`to_interval`, half lines, `trim_interval`, `mk_winterval`.  For `*` only the trivial case is stated
below (`_partial`); the full statement `C13.wint_mul_Statement` is proved there.

State of the code: after the fixes to `signed_mul` (overflow tests on signed values), `UDiv`
(`unsigned_split`), the widening (third case guarded by `*this <= x`) — before them `*`, `UDiv`
and `||` lost members (`[5,5]*[5,3]` at width 3, `[2,0]/u[2,0]` at width 2, `[53,64] || [61,54]`
at width 7); the examples at the end check the repaired answers.
-/
open Crab Crab.WInt Crab.WrapInt

/-! ## membership -/

/-- circular distance is the modular difference -/
theorem C13.wint_dist_spec (M s v : Nat) (hs : s < M) (hv : v < M) :
    D M s v = (v + M - s) % M := D_eq_mod hs hv

/-- specification of `at` on a non-bottom interval `(start, end)` of width `w`:
    `at(v) ↔ is_top ∨ (v - start) mod 2^w ≤ (end - start) mod 2^w`, and `is_top` is
    `(end - start) mod 2^w = 2^w - 1` -/
theorem C13.wint_at_spec (w : Nat) (hw : w ≤ 64) (s e v : Nat)
    (hs : s < 2 ^ w) (he : e < 2 ^ w) (hv : v < 2 ^ w) :
    ((W w s e false).at ⟨w, v⟩ = true ↔
      ((e + 2 ^ w - s) % 2 ^ w = 2 ^ w - 1 ∨ (v + 2 ^ w - s) % 2 ^ w ≤ (e + 2 ^ w - s) % 2 ^ w)) ∧
    ((W w s e false).isTop = true ↔ (e + 2 ^ w - s) % 2 ^ w = 2 ^ w - 1) := by
  rw [at_iff_mem hw hs he hv, mem_W hw hs he, isTop_W hw hs he]
  rw [D_eq_mod hs he, D_eq_mod hs hv]
  simp
/-- the same with bit-vectors: `at(v) ↔ end - start = 11…1 ∨ v - start ≤ᵤ end - start` -/
theorem C13.wint_at_spec_bitvec (w : Nat) (hw : w ≤ 64) (S E V : BitVec w) :
    (W w S.toNat E.toNat false).at (ofBV V) = true ↔
      (E - S = BitVec.allOnes w ∨ V - S ≤ E - S) := by
  rw [at_iff_mem hw S.isLt E.isLt V.isLt, mem_W hw S.isLt E.isLt]
  rw [← bv_sub_toNat_D, ← bv_sub_toNat_D, BitVec.le_def, ← BitVec.toNat_inj, BitVec.toNat_allOnes]
/-- `at` decides membership; bottom has no member, top has them all -/
theorem C13.wint_at_iff_mem (w : Nat) (hw : w ≤ 64) (s e v : Nat)
    (hs : s < 2 ^ w) (he : e < 2 ^ w) (hv : v < 2 ^ w) :
    (W w s e false).at ⟨w, v⟩ = true ↔ mem w v (W w s e false) := by
  exact at_iff_mem hw hs he hv
theorem C13.wint_bottom_empty (w v : Nat) (x : WInt) (h : x.isBottom = true) :
    ¬ mem w v x ∧ x.at ⟨w, v⟩ = false := by
  refine ⟨mem_bottom_false h, ?_⟩
  simp [WInt.at, h]
theorem C13.wint_top_full (w v : Nat) : mem w v WInt.top := mem_top w v

/-! ## order and lattice operations -/

/-- a yes answer of `<=` is an inclusion of concretisations -/
theorem C13.wint_leq_sound (w : Nat) (hw : w ≤ 64) (x y : WInt) (hx : Shape w x) (hy : Shape w y)
    (h : x.leq y = true) (v : BitVec w) (hv : memBV v x) : memBV v y :=
  leq_sound hw hx hy v.isLt h hv
/-- `|` is an upper bound of both operands -/
theorem C13.wint_join_upper (w : Nat) (hw : w ≤ 64) (x y : WInt) (hx : Shape w x) (hy : Shape w y)
    (v : BitVec w) (hv : memBV v x ∨ memBV v y) : memBV v (x.join y) :=
  join_upper hw hx hy v.isLt hv
/-- `&` (and `&&`, which calls it) keeps every common member -/
theorem C13.wint_meet_sound (w : Nat) (hw : w ≤ 64) (x y : WInt) (hx : Shape w x) (hy : Shape w y)
    (v : BitVec w) (h1 : memBV v x) (h2 : memBV v y) : memBV v (x.meet y) :=
  meet_sound hw hx hy v.isLt h1 h2

/-! ## arithmetic under wrap-around semantics -/

theorem C13.wint_add_sound (w : Nat) (h1 : 1 ≤ w) (hw : w ≤ 64) (x y : WInt)
    (hx : Shape w x) (hy : Shape w y) (a b : BitVec w) (ha : memBV a x) (hb : memBV b y) :
    memBV (a + b) (x.add y) := add_sound_bv h1 hw (good_of_shape hx) (good_of_shape hy) ha hb
theorem C13.wint_sub_sound (w : Nat) (h1 : 1 ≤ w) (hw : w ≤ 64) (x y : WInt)
    (hx : Shape w x) (hy : Shape w y) (a b : BitVec w) (ha : memBV a x) (hb : memBV b y) :
    memBV (a - b) (x.sub y) := sub_sound_bv h1 hw (good_of_shape hx) (good_of_shape hy) ha hb
theorem C13.wint_neg_sound (w : Nat) (hw : w ≤ 64) (x : WInt) (hx : Shape w x)
    (a : BitVec w) (ha : memBV a x) : memBV (-a) x.neg := by
  unfold memBV
  rw [bv_neg_toNat_D]
  exact neg_sound hw hx a.isLt ha
/-- bottom operands give bottom, top operands give top -/
theorem C13.wint_arith_bottom_top (x y : WInt) :
    (x.isBottom = true ∨ y.isBottom = true → x.add y = WInt.bottom ∧ x.sub y = WInt.bottom) ∧
    (x.isBottom = false → y.isBottom = false → x.isTop = true ∨ y.isTop = true →
      x.add y = WInt.top ∧ x.sub y = WInt.top) := by
  constructor
  · rintro (h | h) <;> simp [WInt.add, WInt.sub, h]
  · intro hx hy h
    rcases h with h | h <;> simp [WInt.add, WInt.sub, hx, hy, h]

/-! ## widening -/

/-- the widening is an upper bound of both operands -/
theorem C13.wint_widen_upper (w : Nat) (hw : w ≤ 64) (x y : WInt) (hx : Shape w x) (hy : Shape w y)
    (v : BitVec w) (hv : memBV v x ∨ memBV v y) : memBV v (x.widen y) :=
  widen_sound hw hx hy v.isLt hv

/-! ## multiplication (trivial case only) and unsigned division -/

/-- multiplication over-approximates the products modulo 2^w (proved in `C13WInt2.lean`) -/
def C13.wint_mul_Statement : Prop :=
  ∀ (w : Nat), 1 ≤ w → w ≤ 64 → ∀ (x y r : WInt), Shape w x → Shape w y → x.mul y = some r →
    ∀ a b : BitVec w, memBV a x → memBV b y → memBV (a * b) r
/-- it holds when an operand is top (the result is top) -/
theorem C13.wint_mul_partial (w : Nat) (x y r : WInt)
    (hex : x.isBottom = false ∧ y.isBottom = false ∧ (x.isTop = true ∨ y.isTop = true))
    (h : x.mul y = some r) (v : BitVec w) : memBV v r := by
  obtain ⟨hx, hy, ht⟩ := hex
  have : x.mul y = some WInt.top := by
    rcases ht with ht | ht <;> simp [WInt.mul, hx, hy, ht]
  rw [this] at h
  injection h with h
  subst h
  exact mem_top w _

/-- `UDiv` over-approximates the unsigned quotients (divisor ≠ 0; a zero divisor has no
    quotient), whenever it returns a value (`none` = CRAB_ERROR, never observed) -/
theorem C13.wint_udiv_sound (w : Nat) (h1 : 1 ≤ w) (hw : w ≤ 64) (x y r : WInt)
    (hx : Shape w x) (hy : Shape w y) (h : x.udiv y = some r)
    (a b : BitVec w) (ha : memBV a x) (hb : memBV b y) (hb0 : b ≠ 0) : memBV (a / b) r :=
  udiv_sound_bv h1 hw (good_of_shape hx) (good_of_shape hy) h ha hb hb0

/-- the inputs that used to lose members, on the repaired code -/
example : (W 3 5 5 false).mul (W 3 5 3 false) = some WInt.top ∧
    (W 2 2 0 false).udiv (W 2 2 0 false) = some (W 2 0 1 false) ∧
    ((W 7 53 64 false).widen (W 7 61 54 false)).isTop = true := by decide

/-- non-vacuity: intervals crossing the poles with concrete members, and the operations on them -/
example : Shape 8 (W 8 250 3 false) ∧ Shape 8 (W 8 120 130 false) ∧
    memBV 255#8 (W 8 250 3 false) ∧ memBV 2#8 (W 8 250 3 false) ∧ ¬ memBV 4#8 (W 8 250 3 false) ∧
    memBV 128#8 (W 8 120 130 false) ∧
    (W 8 250 3 false).add (W 8 120 130 false) = W 8 114 133 false ∧
    (W 8 250 3 false).join (W 8 120 130 false) = W 8 250 130 false ∧
    (W 8 250 3 false).meet (W 8 0 10 false) = W 8 0 3 false := by decide
