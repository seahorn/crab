import CrabProofs.Lemmas.WtoTotal
import CrabProofs.Lemmas.WtoCheck

/-!
# C07 — weak topological orderings are well-formed for every graph

Property theorems (and the example graph they are tried on).  Model: `CrabModel/Graph/Wto.lean` (`Crab.Wto.build`, transcription of the
iterative `ikos::wto<G>::visit` / `component`, and `nesting` = `nesting_builder` + `wto::nesting`).
Specification: `CrabProofs/Lemmas/WtoSpec.lean` (`Crab.Wto.WtoWF g e w nest`):
  (a) the flattening of `w` lists exactly the nodes reachable from `e`, each exactly once;
  (b) every edge `u → v` with `u` reachable either goes forward in the flattening or enters the
      head `v` of a cycle of `w` that contains `u`;
  (c) `nest v` = heads of the cycles strictly enclosing `v`, outermost first; undefined outside `w`.
`checkWto` (`CrabModel/Graph/WtoCheck.lean`) is the decision procedure the driver evaluates on the
ordering and nesting table printed by the real implementation, on every line.
`C07.build_wf` is the property itself for the model of the algorithm: for EVERY finite graph
(nodes `0..n-1`, any edges, self loops, irreducible loops, unreachable parts), every entry and every
successor order, the iterative Bourdoncle construction terminates within `fuel g`, never pops an
empty stack (no CRAB_ERROR) and returns a well-formed ordering with the right nesting table.  The
proof (CrabProofs/Lemmas/WtoInv.lean, WtoStep.lean, WtoTotal.lean) is a Tarjan style loop invariant
over the explicit DFS stack plus a termination measure.
-/
open Crab Crab.Wto

/-- the executable checker accepts only well-formed orderings (all graphs, all tables) -/
theorem C07.checkWto_sound (g : Graph) (e : Nat) (w : List WtoC) (tbl : List (Nat × List Nat))
    (h : checkWto g e w tbl = true) : WtoWF g e w (fun v => tbl.lookup v) :=
  Wto.checkWto_sound h

/-- the executable checker accepts every well-formed ordering of a graph whose edges stay inside
    `0..n-1` -/
theorem C07.checkWto_complete (g : Graph) (hg : g.WF) (e : Nat) (he : e < g.n) (w : List WtoC)
    (tbl : List (Nat × List Nat)) (h : WtoWF g e w (fun v => tbl.lookup v)) :
    checkWto g e w tbl = true :=
  Wto.checkWto_complete hg he h

/-- `nesting_builder`: in an ordering without repeated nodes, the nesting recorded for `v` is
    the list of heads of the cycles strictly enclosing `v`, outermost first -/
theorem C07.nesting_spec (w : List WtoC) (hn : (flattenL w).Nodup) (v : Nat) (hs : List Nat)
    (h : Encl w v hs) : nesting w v = some hs :=
  nesting_of_encl hn h

/-- whatever `nesting` answers for `v` is the list of heads enclosing an occurrence of `v` -/
theorem C07.nesting_encl (w : List WtoC) (v : Nat) (hs : List Nat) (h : nesting w v = some hs) :
    Encl w v hs :=
  encl_of_nesting h

/-- `wto::nesting(n)` is undefined exactly for the nodes that do not occur in the ordering -/
theorem C07.nesting_none (w : List WtoC) (v : Nat) : nesting w v = none ↔ v ∉ flattenL w :=
  nesting_eq_none

/-- (c) of `WtoWF` holds for the model's nesting function on every ordering without repeats -/
theorem C07.nesting_wf (g : Graph) (e : Nat) (w : List WtoC) (nest : Nat → Option (List Nat))
    (h : WtoWF g e w nest) : WtoWF g e w (nesting w) :=
  WtoWF.of_graph h.nodes h.nodup h.edges

/-- the model of `wto(G g, entry)` terminates within `fuel g`, without CRAB_ERROR -/
theorem C07.build_done (g : Graph) (hg : g.WF) (e : Nat) (he : e < g.n) :
    ∃ w, buildOut g e = .done w := by
  obtain ⟨w, st, hrun, _, _⟩ := build_total g hg e he
  exact ⟨w, by simp [buildOut, hrun]⟩

/-- C07 for the model of the algorithm: the ordering built for any graph, from any entry, with
    any successor order, is well-formed, and its nesting table lists the enclosing heads -/
theorem C07.build_wf (g : Graph) (hg : g.WF) (e : Nat) (he : e < g.n) :
    WtoWF g e (build g e) (nesting (build g e)) := by
  obtain ⟨w, st, hrun, hP, hmem⟩ := build_total g hg e he
  have : build g e = w := by simp [build, buildOut, hrun]
  rw [this]
  obtain ⟨hnodes, hnodup, hedges⟩ := placed_top_wf g e hP hmem
  exact WtoWF.of_graph hnodes hnodup hedges

/-- hence the checker accepts the model's output on every graph (what the driver observes) -/
theorem C07.build_checkWto (g : Graph) (hg : g.WF) (e : Nat) (he : e < g.n) :
    checkWto g e (build g e) (nestingTable (build g e)) = true :=
  Wto.checkWto_complete hg he (C07.build_wf g hg e he)

/-- an irreducible graph: cycle 1-2 entered at 1 and at 2, self loop on 3, node 4 unreachable -/
def C07.exampleGraph : Graph :=
  { n := 5, succ := fun u => match u with | 0 => [1, 2] | 1 => [2] | 2 => [1, 3] | 3 => [3, 1] | 4 => [0] | _ => [] }

/- non-vacuity: the model's ordering of the example graph is `0 (1 2 (3))`, it passes the checker,
   and a wrong ordering (`0 1 2 (3)`) does not -/
example : build C07.exampleGraph 0 = [.vertex 0, .cycle 1 [.vertex 2, .cycle 3 []]] := by rfl
example : checkWto C07.exampleGraph 0 (build C07.exampleGraph 0)
    (nestingTable (build C07.exampleGraph 0)) = true := by decide
example : checkWto C07.exampleGraph 0 [.vertex 0, .vertex 1, .vertex 2, .cycle 3 []]
    [(0, []), (1, []), (2, []), (3, [])] = false := by decide
