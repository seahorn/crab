import CrabProofs.Lemmas.InterCex
import CrabProofs.Lemmas.InterCtxTable

/-!
  C09 — top-down inter-procedural analysis: the call / return transformers and the
  calling-context table (`CrabModel/Inter/TopDown.lean`).
-/
open Crab Crab.Inter

/-- `get_callee_entry` is sound: if the caller's state is in the caller's value and the entry
    state of the callee gets `formals := actuals` (parallel), the entry state is in `restrict`.
    `callee` is the value the callee's entry is met with (`top` in every use of the code: `restrict_sound_top`);
    `hc` asks that it does not exclude the caller's state after the wiring. -/
theorem C09.restrict_sound (D : AbsDom) (ins args : List Var) (caller callee : D.A) (σ τ : St)
    (hσ : D.γ caller σ) (hc : D.γ callee (seqAssign σ ins args))
    (hnd : ins.Nodup) (hok : SeqOK ins args) (hlen : ins.length ≤ args.length)
    (hτ : AllPairs (fun f a => τ f = σ a) ins args) :
    D.γ (restrict D ins args caller callee) τ :=
  Crab.Inter.restrict_sound D ins args caller callee σ τ hσ hc hnd hok hlen hτ

/-- the callee's initial value is `top` in every use of `get_callee_entry` -/
theorem C09.restrict_sound_top (D : AbsDom) (ins args : List Var) (caller : D.A) (σ τ : St)
    (hσ : D.γ caller σ) (hnd : ins.Nodup) (hok : SeqOK ins args) (hlen : ins.length ≤ args.length)
    (hτ : AllPairs (fun f a => τ f = σ a) ins args) :
    D.γ (restrict D ins args caller D.top) τ :=
  C09.restrict_sound D ins args caller D.top σ τ hσ (D.top_sound _) hnd hok hlen hτ

/-- `get_caller_continuation` (after the projection of the callee's exit value on its
    parameters) is sound: `σ` caller state at the call, `ρ` the callee's state at its exit whose
    inputs still hold the actuals, `σ'` = `σ` with `lhs := outputs`. -/
theorem C09.call_sound (D : AbsDom) (ins outs lhs args : List Var) (caller exit : D.A) (σ ρ σ' : St)
    (hok : CallOK ins outs lhs args)
    (hσ : D.γ caller σ) (hρ : D.γ exit ρ)
    (hin : AllPairs (fun f a => ρ f = σ a) ins args)
    (hout : AllPairs (fun l o => σ' l = ρ o) lhs outs)
    (hfr : ∀ v, v ∉ lhs → σ' v = σ v) :
    D.γ (callReturn D ins outs lhs args caller exit) σ' := by
  unfold callReturn
  exact extend_sound D ins outs lhs args caller _ σ ρ σ' hok hσ
    (D.project_sound _ hρ (fun v hv => by simp only [hv, if_true])) hin hout hfr

/-- a summary computed for `pre` may be reused for every `d ≤ pre`
    (from the collecting semantics of the callee, not from monotonicity of abstract transformers) -/
theorem C09.reuse_exact_sound (L : Lat) (F : St → St → Prop) (pre post d : L.A)
    (hv : SummaryValid L F pre post) (hle : L.leq d pre = true) : SummaryValid L F d post :=
  fun σ τ hd hF => hv σ τ (L.leq_sound hle hd) hF

/-- the scan of the table only returns posts that are valid for the looked-up entry, provided
    every stored context is valid -/
theorem C09.lookup_sound (L : Lat) (F : St → St → Prop) :
    ∀ (ccs : List (Ctx L)) (d post : L.A) (e : Bool), TableValid L F ccs →
      lookup ccs d e = some post → SummaryValid L F d post
  | [], _, _, _, _, h => by simp [lookup] at h
  | c :: cs, d, post, e, hv, h => by
    unfold lookup at h
    by_cases hs : c.isSubsumed d e = true
    · simp only [hs, if_true, Option.some.injEq] at h
      subst h
      exact C09.reuse_exact_sound L F c.pre c.post d (hv c (List.mem_cons_self ..)) (subsumed_leq hs)
    · simp only [hs] at h
      exact C09.lookup_sound L F cs d post e (fun c' hc' => hv c' (List.mem_cons_of_mem _ hc')) h

/-- Full statement about the context policy: adding a valid context keeps the table valid.
    FALSE for the code as it is (the join of two valid contexts is not a valid context). -/
def C09.joined_summary_Statement : Prop :=
  ∀ (L : Lat) (F : St → St → Prop) (max : Option Nat) (ccs : List (Ctx L)) (cc : Ctx L),
    TableValid L F ccs → SummaryValid L F cc.pre cc.post → TableValid L F (policyAdd max ccs cc)

theorem C09.joined_summary_partial (L : Lat) (F : St → St → Prop) (max : Option Nat)
    (ccs : List (Ctx L)) (cc : Ctx L) (hno : policyJoins max ccs = false)
    (hv : TableValid L F ccs) (hc : SummaryValid L F cc.pre cc.post) :
    TableValid L F (policyAdd max ccs cc) := by
  have happ : TableValid L F (ccs ++ [cc]) := by
    intro c hcm
    rcases List.mem_append.mp hcm with h | h
    · exact hv c h
    · have : c = cc := by simpa using h
      subst this; exact hc
  unfold policyAdd
  cases max with
  | none => exact happ
  | some m =>
    match ccs, hno, hv, happ with
    | [], _, _, happ => exact happ
    | [_], _, _, happ => exact happ
    | c1 :: c2 :: rest, hno, _, happ =>
      have hlen : ¬ ((c1 :: c2 :: rest).length > m) := by
        simp only [policyJoins, List.length_cons, Bool.and_eq_false_imp, decide_eq_true_eq, decide_eq_false_iff_not] at hno
        exact hno (by omega)
      simp only [hlen, if_false]
      exact happ

/-- what the joined context would have to satisfy: the statement about one join -/
def C09.join_contexts_Statement : Prop :=
  ∀ (L : Lat) (F : St → St → Prop) (c1 c2 : Ctx L),
    SummaryValid L F c1.pre c1.post → SummaryValid L F c2.pre c2.post →
    SummaryValid L F (c1.joinWith c2).pre (c1.joinWith c2).post

/-- the joined post is valid for the entries already covered by one of the two contexts -/
theorem C09.join_contexts_partial (L : Lat) (F : St → St → Prop) (c1 c2 : Ctx L) (d : L.A)
    (h1 : SummaryValid L F c1.pre c1.post) (h2 : SummaryValid L F c2.pre c2.post)
    (hd : (L.leq d c1.pre || L.leq d c2.pre) = true) :
    SummaryValid L F d (c1.joinWith c2).post := by
  intro σ τ hσ hF
  rcases Bool.or_eq_true _ _ |>.mp hd with h | h
  · exact L.join_left (h1 σ τ (L.leq_sound h hσ) hF)
  · exact L.join_right (h2 σ τ (L.leq_sound h hσ) hF)

theorem C09.join_contexts_counterexample : ¬ C09.join_contexts_Statement := fun h =>
  gapJoin_invalid gapσ_hull
    (h boxLat gapF (gapC 0) (gapC 2) (gapC_valid 0 (by decide)) (gapC_valid 2 (by decide)))

/-- `main` calls `f(0), f(2), f(4)` with `max_call_contexts = 1`: after the third call the table
    holds the join of the first two contexts, which is not a valid summary (it answers `[0,0]` for `f(1)`). -/
theorem C09.joined_summary_counterexample : ¬ C09.joined_summary_Statement := by
  intro h
  have hv : TableValid boxLat gapF [gapC 0, gapC 2] := by
    intro c hc
    simp only [List.mem_cons, List.mem_nil_iff, or_false] at hc
    rcases hc with rfl | rfl
    · exact gapC_valid 0 (by decide)
    · exact gapC_valid 2 (by decide)
  have ht := h boxLat gapF (some 1) [gapC 0, gapC 2] (gapC 4) hv (gapC_valid 4 (by decide))
  have hmem : (gapC 0).joinWith (gapC 2) ∈ policyAdd (some 1) [gapC 0, gapC 2] (gapC 4) := by
    simp [policyAdd]
  exact gapJoin_invalid gapσ_hull (ht _ hmem)

/-- and the scan then reuses it: `lookup` answers the joined post `[0,0]` for the entry `x = 1`,
    which is not a valid summary for that entry -/
theorem C09.lookup_joined_counterexample :
    ∃ post, lookup (policyAdd (some 1) [gapC 0, gapC 2] (gapC 4)) (((1, 1), (0, 0)) : boxLat.A) true = some post ∧
      ¬ SummaryValid boxLat gapF (((1, 1), (0, 0)) : boxLat.A) post := by
  refine ⟨((gapC 0).joinWith (gapC 2)).post, by rfl, gapJoin_invalid ?_⟩
  show ((1:Int) ≤ (1:Int) ∧ (1:Int) ≤ (1:Int) ∧ (0:Int) ≤ (0:Int) ∧ (0:Int) ≤ (0:Int))
  decide

/-- non-vacuity: valid tables and contexts exist, and the non-joining case is reachable -/
example : TableValid boxLat gapF [gapC 0] ∧ policyJoins (some 1) [gapC 0] = false :=
  ⟨fun c hc => by
      have : c = gapC 0 := by simpa using hc
      subst this; exact gapC_valid 0 (by decide), by decide⟩

/-! #### the repaired table -/

/-- with the repair, adding a context keeps every *reusable* context valid, whatever the bound -/
theorem C09.fixed_policy_add_valid (L : Lat) (F : St → St → Prop) (max : Option Nat)
    (ccs : List (FCtx L)) (cc : FCtx L) (hv : TableValidF L F ccs)
    (hc : cc.stale = false → SummaryValid L F cc.pre cc.post) :
    TableValidF L F (policyAddFixed max ccs cc) := by
  intro c hcm hs
  rcases policyAddFixed_mem max ccs cc c hcm with h | rfl | h
  · exact hv c h hs
  · exact hc hs
  · rw [h] at hs; cases hs

/-- the repaired scan: a reused post is a valid summary for the looked-up entry, and a
    re-analysis entry contains the looked-up entry -/
theorem C09.fixed_lookup_sound (L : Lat) (F : St → St → Prop) :
    ∀ (ccs : List (FCtx L)) (d : L.A) (e : Bool), TableValidF L F ccs →
      (∀ post, lookupFixed ccs d e = .hit post → SummaryValid L F d post) ∧
      (∀ entry, lookupFixed ccs d e = .reanalyze entry → L.leq d entry = true)
  | [], _, _, _ => by constructor <;> intro _ h <;> simp [lookupFixed] at h
  | c :: cs, d, e, hv => by
    have ih := C09.fixed_lookup_sound L F cs d e (fun c' hc' => hv c' (List.mem_cons_of_mem _ hc'))
    unfold lookupFixed
    by_cases hs : c.isSubsumed d e = true
    · have hle : L.leq d c.pre = true := subsumed_leq hs
      by_cases hst : c.stale = true
      · simp only [hs, hst, if_true]
        constructor
        · intro _ h; cases h
        · intro entry h
          cases h
          exact hle
      · have hst' : c.stale = false := by simpa using hst
        simp only [hs, hst', if_true]
        constructor
        · intro post h
          cases h
          exact C09.reuse_exact_sound L F c.pre c.post d (hv c (List.mem_cons_self ..) hst') hle
        · intro _ h; cases h
    · simp only [hs]
      exact ih

/-- the repaired `get_summary` only exposes valid summaries -/
theorem C09.fixed_exposed_valid (L : Lat) (F : St → St → Prop) (ccs : List (FCtx L))
    (hv : TableValidF L F ccs) : ∀ c, c ∈ exposedFixed ccs → SummaryValid L F c.pre c.post := by
  intro c hc
  have := List.mem_filter.mp hc
  exact hv c this.1 (by simpa using this.2)

/-! #### parameter wiring without the name-sharing hypothesis -/

/-- `restrict_sound` without `SeqOK`: FALSE, `get_callee_entry` assigns the formals one after the
    other (`f(a, b)` called as `f(b, a)` reads the already overwritten `a`) -/
def C09.restrict_anynames_Statement : Prop :=
  ∀ (D : AbsDom) (ins args : List Var) (caller : D.A) (σ τ : St),
    D.γ caller σ → ins.Nodup → ins.length = args.length →
    AllPairs (fun f a => τ f = σ a) ins args → D.γ (restrict D ins args caller D.top) τ

theorem C09.restrict_anynames_counterexample : ¬ C09.restrict_anynames_Statement := by
  intro h
  -- f(v0, v1) called as f(v1, v0) with v0 = 10, v1 = 20
  let σ : St := fun v => if v = 0 then 10 else 20
  let τ : St := fun v => if v = 0 then 20 else 10
  have hτ : AllPairs (fun f a => τ f = σ a) [0, 1] [1, 0] := by
    refine ⟨?_, ?_, trivial⟩ <;> decide
  have hr := h collDom [0, 1] [1, 0] (fun s => s = σ) σ τ rfl (by decide) rfl hτ
  -- unfold what `restrict` computed
  have hr' : ∃ s : St, (True ∧ ∃ s1 : St, (∃ s0 : St, s0 = σ ∧ s1 = s0.upd 0 (s0 1)) ∧ s = s1.upd 1 (s1 0)) ∧
      ∀ v, v ∈ ([0, 1] : List Var) → τ v = s v := hr
  obtain ⟨s, ⟨_, s1, ⟨s0, hs0, hs1⟩, hs⟩, hproj⟩ := hr'
  have h1 : τ 1 = s 1 := hproj 1 (by decide)
  subst hs0
  have : s 1 = 20 := by
    rw [hs, St.upd_same, hs1, St.upd_same]
    decide
  rw [this] at h1
  exact absurd h1 (by decide)

/-- `restrict_sound` applies to a non-trivial call: `f(v0, v1)` called as `f(v2, v3)` -/
example : SeqOK [0, 1] [2, 3] ∧ ([0, 1] : List Var).Nodup := by
  refine ⟨⟨Or.inr (by decide), Or.inr (by decide), trivial⟩, by decide⟩

/-- `call_sound` applies to `v2 := f(v2)` with `f(v0) -> v1` (the output overwrites the argument)
    and to a call that reuses the formal's name at its own position -/
example : CallOK [0] [1] [2] [2] ∧ CallOK [0] [1] [5] [0] := by
  refine ⟨⟨rfl, rfl, by decide, ⟨Or.inr (by decide), trivial⟩, ⟨by decide, trivial⟩, by decide⟩,
          ⟨rfl, rfl, by decide, ⟨Or.inr (by decide), trivial⟩, ⟨by decide, trivial⟩, by decide⟩⟩
