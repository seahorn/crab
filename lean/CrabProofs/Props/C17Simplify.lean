import CrabProofs.Lemmas.TIRRemoveSem

/-!
# C17 (simplify) — `cfg::simplify()` preserves behaviour and well-formedness

Model: `CrabModel/Transform/Simplify.lean` (`merge_blocks_rec` in the DFS order of the code,
`remove`, `remove_unreachable_blocks`, `remove_useless_blocks`).  All theorems hold for every
version flag of `Variant` (the flag only decides whether the entry block may be folded, which
in the old version ends in CRAB_ERROR, i.e. `none`).

Hypotheses: the input is well formed (`Prog.wf`, what `>>` / `-=` maintain) and its exit block
has no successor (`Prog.exitNoSucc`: executions end when they complete the exit block;
`C17.simplify_exit_successor_counterexample` shows that the hypothesis is needed).

* `C17.simplify_preserves` : the exit-reaching executions (input, events, outputs) of the result
  are exactly those of the original;
* `C17.simplify_wf` : the result is well formed and has the same entry and exit;
* `C17.merge_blocks_preserves`, `C17.remove_unreachable_preserves` : these two phases preserve
  ALL executions from the entry (any final status), `C17.remove_useless_preserves` the
  exit-reaching ones.
Not proved (tested only): that the current `simplify` never raises CRAB_ERROR on a well-formed
CFG (the statements are conditional on `= some T`).
-/
open Crab Crab.TIR

theorem C17.sinv_of_wf {P : Prog} (hwf : P.wf = true) (hx : P.exitNoSucc = true) : SInv P :=
  ⟨WFp.of_wf hwf, exitNoSucc_iff.mp hx⟩

theorem C17.simplify_preserves (v : Variant) (P T : Prog) (hwf : P.wf = true) (hx : P.exitNoSucc = true)
    (h : simplify v P = some T) (σ : State) (t : List Event) (outs : List Int) :
    ExitBeh P σ t outs ↔ ExitBeh T σ t outs :=
  (simplify_good v (C17.sinv_of_wf hwf hx) h).beh σ t _ ⟨outs, rfl⟩

theorem C17.simplify_wf (v : Variant) (P T : Prog) (hwf : P.wf = true) (hx : P.exitNoSucc = true)
    (h : simplify v P = some T) : T.wf = true ∧ T.entry = P.entry ∧ T.exit = P.exit := by
  have g := simplify_good v (C17.sinv_of_wf hwf hx) h
  exact ⟨g.inv.wf.to_wf, g.entry, g.exit⟩

/-- merging blocks (the whole DFS) preserves every execution from the entry -/
theorem C17.merge_blocks_preserves (v : Variant) (P T : Prog) (hwf : P.wf = true) (hx : P.exitNoSucc = true)
    (h : mergeBlocks v P = some T) (σ : State) (t : List Event) (o : Outcome) :
    (Beh P σ t o ↔ Beh T σ t o) ∧ T.wf = true := by
  have g := mergeBlocks_good (O := fun _ => True) v (C17.sinv_of_wf hwf hx) h
  exact ⟨g.beh σ t o trivial, g.inv.wf.to_wf⟩

/-- removing the blocks unreachable from the entry preserves every execution from the entry -/
theorem C17.remove_unreachable_preserves (P T : Prog) (hwf : P.wf = true) (hx : P.exitNoSucc = true)
    (h : removeUnreachable P = some T) (σ : State) (t : List Event) (o : Outcome) :
    (Beh P σ t o ↔ Beh T σ t o) ∧ T.wf = true := by
  have g := removeUnreachable_good (O := fun _ => True) (C17.sinv_of_wf hwf hx) h
  exact ⟨g.beh σ t o trivial, g.inv.wf.to_wf⟩

/-- removing the blocks that cannot reach the exit preserves the exit-reaching executions -/
theorem C17.remove_useless_preserves (P T : Prog) (hwf : P.wf = true) (hx : P.exitNoSucc = true)
    (h : removeUseless P = some T) (σ : State) (t : List Event) (outs : List Int) :
    (ExitBeh P σ t outs ↔ ExitBeh T σ t outs) ∧ T.wf = true := by
  have g := removeUseless_good (C17.sinv_of_wf hwf hx) h
  exact ⟨g.beh σ t _ ⟨outs, rfl⟩, g.inv.wf.to_wf⟩

/-- `cfg::remove` keeps a well-formed CFG well formed -/
theorem C17.remove_wf (P T : Prog) (l : Label) (hwf : P.wf = true) (h : P.remove l = some T) : T.wf = true :=
  ((remove_spec (WFp.of_wf hwf) h).wfp (WFp.of_wf hwf)).to_wf

/-- why `exitNoSucc` is a hypothesis:  b0 → b1 (exit) → b2 → b1,  b2: v0 = 7,  output v0.
    `simplify` folds b2 into the exit block b1, after which every execution that completes the
    exit block has executed `v0 = 7` -/
def C17.progExitSucc : Prog :=
  { nvars := 1, entry := 0, exit := some 1, hasFd := true, ins := [], outs := [0],
    blocks := [⟨0, [], [1], []⟩, ⟨1, [], [2], [0, 2]⟩, ⟨2, [.assign 0 ⟨7, []⟩], [1], [1]⟩] }

def C17.progExitSuccRes : Prog :=
  { C17.progExitSucc with blocks := [⟨0, [], [1], []⟩, ⟨1, [.assign 0 ⟨7, []⟩], [1], [0, 1]⟩] }

theorem C17.simplify_exit_successor_counterexample :
    C17.progExitSucc.wf = true ∧ simplify Variant.cur C17.progExitSucc = some C17.progExitSuccRes ∧
    ExitBeh C17.progExitSucc (fun _ => 0) [] [0] ∧ ¬ ExitBeh C17.progExitSuccRes (fun _ => 0) [] [0] := by
  refine ⟨by decide +kernel, by decide +kernel, ?_, ?_⟩
  · exact Exec.goto (l' := 1) (by decide +kernel) (by decide +kernel) (Exec.exit (by decide +kernel))
  · intro h
    unfold ExitBeh Beh at h
    have e0 : C17.progExitSuccRes.stmtsOf C17.progExitSuccRes.entry = [] := by decide +kernel
    rw [e0] at h
    rcases Exec.nil_inv h with ⟨hex, _⟩ | ⟨_, l', hmem, hrest⟩ | ⟨_, _, _, ho⟩
    · revert hex; decide +kernel
    · have hl : l' = 1 := by
        have : C17.progExitSuccRes.succsOf C17.progExitSuccRes.entry = [1] := by decide +kernel
        rw [this] at hmem; simpa using hmem
      subst hl
      have e1 : C17.progExitSuccRes.stmtsOf 1 = [.assign 0 ⟨7, []⟩] := by decide +kernel
      rw [e1] at hrest
      obtain ⟨hv, ⟨σ', ev, t', hstep, hr2, _⟩ | ⟨ev, hstep, _⟩⟩ := Exec.cons_inv hrest
      · simp only [stepStmt, StepRes.cont.injEq] at hstep
        obtain ⟨rfl, _⟩ := hstep
        rcases Exec.nil_inv hr2 with ⟨_, _, ho⟩ | ⟨hex, _⟩ | ⟨hex, _⟩
        · simp only [Outcome.exit.injEq] at ho
          have : C17.progExitSuccRes.outputs = [0] := by decide +kernel
          rw [this] at ho
          simp [State.set, Lin.eval, evalTerms] at ho
        · revert hex; decide +kernel
        · revert hex; decide +kernel
      · simp [stepStmt] at hstep
    · cases ho

/-- a chain with a branch, a block that cannot reach the exit (b4) and an unreachable block (b5) -/
def C17.progDemo : Prog :=
  { nvars := 1, entry := 0, exit := some 3, hasFd := false, ins := [], outs := [],
    blocks := [⟨0, [.havoc 0], [1], []⟩, ⟨1, [.assume ⟨.le, ⟨0, [(1, 0)]⟩⟩], [2, 4], [0]⟩,
               ⟨2, [.assert ⟨.le, ⟨-1, [(1, 0)]⟩⟩], [3], [1]⟩, ⟨3, [], [], [2]⟩,
               ⟨4, [.unreachable], [], [1]⟩, ⟨5, [], [], []⟩] }

/-- non-vacuity: `simplify` merges the chain b0 b1 b2 and deletes b4 and b5 -/
example :
    C17.progDemo.wf = true ∧ C17.progDemo.exitNoSucc = true ∧
    (simplify Variant.cur C17.progDemo).map (fun T => (T.labels, T.stmtsOf 0, T.succsOf 0)) =
      some ([0, 3], [.havoc 0, .assume ⟨.le, ⟨0, [(1, 0)]⟩⟩, .assert ⟨.le, ⟨-1, [(1, 0)]⟩⟩], [3]) := by
  decide +kernel
