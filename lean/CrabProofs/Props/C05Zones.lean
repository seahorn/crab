import CrabProofs.Props.C05Chain
import CrabProofs.Lemmas.DbmTwoCounter

/-!
# C05 (zones part) — the widening of `split_dbm_domain` / `sparse_dbm_domain` stabilises every chain

Model: `CrabModel/Dom/DbmWiden.lean` (`split_dbm.hpp` `operator||` + `split_widen`,
`sparse_dbm.hpp` `operator||` + `GrOps::widen`, and the `operator<=` of both).  The code keeps
exactly the edges of the **unclosed** left operand whose weight is `≥` the weight the normalised
right operand gives to the same pair of vertices; `widening_thresholds` ignores its thresholds.

* `C05.zones_widen_keeps_exactly`, `C05.zones_widen_upper`: the result has exactly those edges and
  contains both operands;
* `C05.zones_leq_iff_stationary`: the inclusion test `y ⊑ x` on which the iterator stops (it
  normalises a copy of `y`) succeeds iff `x ∇ y = x`;
* `C05.zones_widen_measure`, `C05.zones_strictStep_wf`, `C05.zones_widenStep_wf`,
  `C05.zones_run_terminates`, `C05.zones_chain_first_stationary`: a strict step drops an edge, so
  strict steps are well founded for every number of variables, every analysis run over these
  operations terminates, and a chain started from a graph `l` is stationary within `edges l`
  steps; the statements hold for *every* way `ew` of reading weights off the right operand
  (so for split_dbm, sparse_dbm, and both normalisation algorithms);
* `C05.zones_closed_left_diverges`, `C05.zones_closed_left_not_wf`: if the left operand is closed
  before each widening (what `term_domain` did through assign/project before repo commit
  307309d), the two-counter chain is strictly increasing for all `k`;
  `C05.zones_two_counter_stabilises`: on the same inputs the code's widening is stationary from
  step 2 on.
-/
open Crab Crab.Fix Crab.Dbm Crab.Zones

/-! ## the result of the widening -/

/-- **exactly the stable edges**: `(i, j, k)` is an edge of `l ∇ r` iff it is an (off-diagonal)
    edge of the unclosed left operand `l` and the right operand's weight for `(i, j)` is `≤ k` -/
theorem C05.zones_widen_keeps_exactly {n : Nat} (ew : Fin (n + 1) → Fin (n + 1) → W) (l : Zone n)
    (i j : Fin (n + 1)) (k : Int) :
    (widenBy ew l).get i j = some k ↔ i ≠ j ∧ l.get i j = some k ∧ W.le (ew i j) (some k) = true := by
  constructor
  · intro h
    obtain ⟨h1, h2, h3⟩ := widenBy_some h
    exact ⟨h1, h2, W.le_some_iff.2 h3⟩
  · rintro ⟨h1, h2, h3⟩
    rw [get_widenBy, h2, if_pos ⟨h1, h3⟩]

/-- the widening is an upper bound of both operands, for every sound reading of the right one -/
theorem C05.zones_widenE_upper {n : Nat} {ew : Zone n → Fin (n + 1) → Fin (n + 1) → W}
    (hew : SoundEw ew) (x y : ZVal n) (σ : State n) :
    (γv x σ → γv (widenE ew x y) σ) ∧ (γv y σ → γv (widenE ew x y) σ) :=
  widenE_upper hew x y σ

/-- `split_dbm_domain::operator||` contains both operands -/
theorem C05.zones_widen_upper {n : Nat} (x y : ZVal n) (σ : State n) :
    (γv x σ → γv (SplitDbm.widen x y) σ) ∧ (γv y σ → γv (SplitDbm.widen x y) σ) :=
  widenE_upper splitEw_soundEw x y σ

/-- `sparse_dbm_domain::operator||` contains both operands -/
theorem C05.zones_sparse_widen_upper {n : Nat} (x y : ZVal n) (σ : State n) :
    (γv x σ → γv (SparseDbm.widen x y) σ) ∧ (γv y σ → γv (SparseDbm.widen x y) σ) :=
  widenE_upper sparseEw_soundEw x y σ

/-- `widening_thresholds` (thresholds ignored by the code) contains both operands -/
theorem C05.zones_widen_thresholds_upper {n : Nat} (x y : ZVal n) (ts : List Int) (σ : State n) :
    (γv x σ → γv (SplitDbm.widenThresholds x y ts) σ) ∧
    (γv y σ → γv (SplitDbm.widenThresholds x y ts) σ) :=
  C05.zones_widen_upper x y σ

/-! ## the inclusion test -/

/-- the test on which the iterator stops is **exactly** stationarity of the widening: `y ⊑ x`
    (a copy of `y` is normalised and read with `ew`) succeeds iff `x ∇ y = x` -/
theorem C05.zones_leq_iff_stationary {n : Nat} (ew : Zone n → Fin (n + 1) → Fin (n + 1) → W)
    (l r : Zone n) (hl : NoSelfLoop l) :
    leqE ew (some r) (some l) = true ↔ widenE ew (some l) (some r) = some l := by
  constructor
  · intro h
    show some (widenBy (ew r) l) = some l
    rw [widenBy_eq_self hl h]
  · intro h
    have h' : widenBy (ew r) l = l := Option.some.inj h
    cases hq : leqE ew (some r) (some l)
    · have := edges_widenBy_lt (ew := ew r) (x := l) hq
      rw [h'] at this
      omega
    · rfl

/-- the inclusion test is sound -/
theorem C05.zones_leq_sound {n : Nat} {ew : Zone n → Fin (n + 1) → Fin (n + 1) → W} (hew : SoundEw ew)
    (y : ZVal n) (l : Zone n) (hl : NoSelfLoop l) (h : leqE ew y (some l) = true) (σ : State n)
    (hy : γv y σ) : γv (some l) σ := by
  cases y with
  | none => exact hy.elim
  | some r => exact leqBy_sat hl h _ (hew r _ hy)

/-- the widening never creates self loops, so the hypothesis `NoSelfLoop` holds along a chain -/
theorem C05.zones_widen_noSelfLoop {n : Nat} (ew : Zone n → Fin (n + 1) → Fin (n + 1) → W)
    (l r : Zone n) : ∃ g, widenE ew (some l) (some r) = some g ∧ NoSelfLoop g :=
  ⟨_, rfl, widenBy_noSelfLoop _ _⟩

/-! ## the chain condition -/

/-- a strict step (`y ⋢ x`) lowers (is bottom, number of edges) lexicographically; between two
    graphs it drops at least one edge — for every reading `ew`, every number of variables -/
theorem C05.zones_widen_measure {n : Nat} (ew : Zone n → Fin (n + 1) → Fin (n + 1) → W)
    (x y : ZVal n) (h : leqE ew y x = false) :
    Prod.Lex (· < ·) (· < ·) (zmeas (widenE ew x y)) (zmeas x) :=
  zmeas_widenE_lt ew x y h

/-- between two graphs: the number of edges strictly decreases on every non-stationary step -/
theorem C05.zones_widen_edges {n : Nat} (ew : Zone n → Fin (n + 1) → Fin (n + 1) → W)
    (l r : Zone n) (h : leqE ew (some r) (some l) = false) :
    edges (widenBy (ew r) l) < edges l ∧ edges l ≤ (n + 1) * (n + 1) :=
  ⟨edges_widenBy_lt h, edges_le l⟩

/-- **chain condition of the zones widening** (left operand never closed) -/
theorem C05.zones_strictStep_wf {n : Nat} (ew : Zone n → Fin (n + 1) → Fin (n + 1) → W) :
    WellFounded (C05.StrictStep (leqE ew) (widenE ew)) :=
  C05.strictStep_wf_of_measure (leqE ew) (widenE ew) _ (Prod.lex Nat.lt_wfRel Nat.lt_wfRel).wf zmeas
    (fun x y h => C05.zones_widen_measure ew x y h)

theorem C05.zones_split_strictStep_wf {n : Nat} :
    WellFounded (C05.StrictStep (SplitDbm.leq (n := n)) SplitDbm.widen) :=
  C05.zones_strictStep_wf splitEw

theorem C05.zones_sparse_strictStep_wf {n : Nat} :
    WellFounded (C05.StrictStep (SparseDbm.leq (n := n)) SparseDbm.widen) :=
  C05.zones_strictStep_wf sparseEw

/-- the same with a (finite) threshold set: the code ignores it -/
theorem C05.zones_thresholds_strictStep_wf {n : Nat} (ts : List Int) :
    WellFounded (C05.StrictStep (SplitDbm.leq (n := n)) (fun x y => SplitDbm.widenThresholds x y ts)) :=
  C05.zones_strictStep_wf splitEw

/-- in the engine's form: every context whose order test and widening are the zones ones -/
theorem C05.zones_widenStep_wf {n : Nat} (ew : Zone n → Fin (n + 1) → Fin (n + 1) → W)
    (c : Ctx (ZVal n)) (hleq : c.ops.leq = leqE ew) (hw : c.ops.widen = widenE ew) :
    WellFounded (WidenStep c) := by
  rw [C05.widenStep_eq, hleq, hw]
  exact C05.zones_strictStep_wf ew

/-- every analysis run over the zones operations terminates -/
theorem C05.zones_run_terminates {n : Nat} (ew : Zone n → Fin (n + 1) → Fin (n + 1) → W)
    (c : Ctx (ZVal n)) (hleq : c.ops.leq = leqE ew) (hw : c.ops.widen = widenE ew) (w : List Comp) :
    ∃ fuel st, run c fuel w = some st :=
  C05.run_terminates c w (C05.zones_widenStep_wf ew c hleq hw)

/-- **every chain is eventually stationary**: along `x₀ = l₀`, `xₖ₊₁ = xₖ ∇ yₖ` with arbitrary
    `yₖ`, a covered `yₖ` occurs within the first `edges l₀ + 1 ≤ (n+1)² + 1` steps -/
theorem C05.zones_chain_first_stationary {n : Nat} (ew : Zone n → Fin (n + 1) → Fin (n + 1) → W)
    (l0 : Zone n) (xs ys : Nat → ZVal n) (h0 : xs 0 = some l0)
    (hstep : ∀ k, xs (k + 1) = widenE ew (xs k) (ys k)) :
    ∃ k, k ≤ edges l0 ∧ k ≤ (n + 1) * (n + 1) ∧ leqE ew (ys k) (xs k) = true := by
  obtain ⟨k, hk, hl⟩ := chain_first_stationary_on (A := ZVal n) (B := ZVal n) (fun x => x.isSome = true)
    (leqE ew) (widenE ew) (fun x => (zmeas x).2) (fun _ y hx => widenE_isSome ew y hx)
    (fun _ _ hx h => edges_widenE_lt ew hx h) xs ys (by rw [h0]; rfl) hstep
  rw [h0] at hk
  exact ⟨k, hk, Nat.le_trans hk (edges_le l0), hl⟩

/-! ## why the left operand must not be closed: the two-counter chain -/

open Crab.Zones.TwoCounter

/-- **closing the left operand breaks the chain condition.**  Two counters, start
    `x₀ = {0 ≤ y ≤ x ≤ y+1, x ≤ 1, y ≤ 1}`, further values `yₖ` = the same relation with the bound of
    `x` (even `k`) resp. `y` (odd `k`) raised by one.  If the left operand is closed before each
    widening (`xₖ₊₁ = close(xₖ) ∇ yₖ`), then for **every** `k` the concretisation of `xₖ₊₁`
    contains that of `xₖ`, contains a state that `xₖ` does not, and `yₖ ⋢ xₖ`: an infinite
    strictly ascending chain (the closure re-derives from `y ≤ x ≤ y+1` the bound that the
    previous widening dropped). -/
theorem C05.zones_closed_left_diverges (k : Nat) :
    (∀ σ, γv (badChain splitEw k) σ → γv (badChain splitEw (k + 1)) σ) ∧
    (∃ σ, γv (badChain splitEw (k + 1)) σ ∧ ¬ γv (badChain splitEw k) σ) ∧
    SplitDbm.leq (ys k) (badChain splitEw k) = false :=
  ⟨fun σ => bad_incl splitEw_soundEw k σ, (bad_strict splitEw_readsClosed k).1,
   (bad_strict splitEw_readsClosed k).2⟩

/-- the same for `sparse_dbm_domain` -/
theorem C05.zones_sparse_closed_left_diverges (k : Nat) :
    (∀ σ, γv (badChain sparseEw k) σ → γv (badChain sparseEw (k + 1)) σ) ∧
    (∃ σ, γv (badChain sparseEw (k + 1)) σ ∧ ¬ γv (badChain sparseEw k) σ) ∧
    SparseDbm.leq (ys k) (badChain sparseEw k) = false :=
  ⟨fun σ => bad_incl sparseEw_soundEw k σ, (bad_strict sparseEw_readsClosed k).1,
   (bad_strict sparseEw_readsClosed k).2⟩

/-- the explicit values of the diverging chain: the bounds grow without limit -/
theorem C05.zones_closed_left_chain_values (m : Nat) :
    badChain splitEw (2 * m + 1) = some (formY ((m : Int) + 1)) ∧
    badChain splitEw (2 * m + 2) = some (formX ((m : Int) + 2)) :=
  bad_forms splitEw_readsClosed m

/-- hence the widening with a closed left operand does **not** satisfy the chain condition -/
theorem C05.zones_closed_left_not_wf :
    ¬ WellFounded (C05.StrictStep (SplitDbm.leq (n := 2)) (widenClosedLeft splitEw)) :=
  not_wf_of_chain _ (badChain splitEw)
    (fun k => ⟨ys k, (C05.zones_closed_left_diverges k).2.2, rfl⟩)

/-- on the very same inputs the widening of the code (left operand as it is) reaches the
    relational part `{0 ≤ y ≤ x ≤ y+1}` at step 2 and every later `yₖ` is covered -/
theorem C05.zones_two_counter_stabilises (k : Nat) (hk : 2 ≤ k) :
    goodChain splitEw k = some rel ∧ SplitDbm.leq (ys k) (goodChain splitEw k) = true :=
  good_forms splitEw_readsClosed k hk

/-! ## non-vacuity -/

/-- a strict step on concrete graphs: `x ≤ 1` is dropped, 5 edges become 4 -/
example : SplitDbm.leq (ys 0) x0 = false ∧ SplitDbm.widen x0 (ys 0) = some (rawY 1) ∧
    edges (raw 1 1) = 5 ∧ edges (rawY 1) = 4 := by
  exact ⟨(C05.zones_closed_left_diverges 0).2.2, good_one splitEw_readsClosed, by decide, by decide⟩

/-- the hypotheses of `C05.zones_leq_sound` / `C05.zones_leq_iff_stationary` are satisfiable -/
example : NoSelfLoop rel ∧ SoundEw (n := 2) splitEw ∧ γv (some rel) (st 3 2) := by
  refine ⟨noSelfLoop_rel, splitEw_soundEw, ?_⟩
  simp [γv, rel, γ_m3_st, W.LE_none, W.LE_some_some]

/-- `C05.zones_chain_first_stationary` applies to the two-counter chain -/
example : ∃ k, k ≤ 5 ∧ SplitDbm.leq (ys k) (goodChain splitEw k) = true := by
  obtain ⟨k, h1, _, h3⟩ := C05.zones_chain_first_stationary splitEw (raw 1 1) (goodChain splitEw) ys rfl
    (fun _ => rfl)
  have : edges (raw 1 1) = 5 := by decide
  exact ⟨k, by omega, h3⟩
