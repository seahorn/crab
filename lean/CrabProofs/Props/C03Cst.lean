import CrabProofs.Lemmas.XDomCstOps
import CrabProofs.Props.C03

/-!
# C03 for `constant_domain<z_number>` — every operation is sound, proved on the exact model

`Crab.CDom` (CrabModel/Dom/ConstantDomain.lean + Dom/NonRelEnv.lean) is the branch-by-branch
model of `crab::domains::constant_domain<z_number, VariableName>` over the existing model of
`separate_domain` (`SepDom`, Patricia tree) and of `constant<z_number>` (`Crab.Cst`); it is tied to
the real code by the exact correspondence `xdom` (harness/h_cdom.cpp -DXDOM=1,
Driver/XDomH.lean: every binding after every operation of random histories).

Concretisation: `Env.γ e σ := e.isBot = false ∧ ∀ x, σ x ∈ γ(e.at(x))` over integer valuations.

Hypotheses that appear below:
 * `e.Inv`: the invariant of `separate_domain` (well-formed Patricia tree with keys `< 2^64`, no
   stored bottom or top, empty tree when bottom); it holds of top and bottom and is preserved by
   every operation (`C03.cstdom_stmt_inv`, `C03.cstdom_lattice_inv`, `C03.cstdom_history_inv`);
 * `x < 2^64` for the variables an operation writes: a variable is its `index_t = uint64_t` index;
 * `CstOk c`: the expression of the constraint is canonical (sorted variables, no zero
   coefficient: the invariant of the class `linear_expression`) over such variables.
-/
open Crab Crab.CDom Crab.XDom Crab.Lin

/-! ### transformers -/

/-- `set_constant(x, c)`: `x` receives any member of `c` -/
theorem C03.cstdom_set_sound (e : Env) (he : e.Inv) (σ : State) (x : Var) (hx : x < 2 ^ 64) (c : Crab.Cst) (n : Int)
    (hg : e.γ σ) (hn : Crab.Cst.mem n c) : (e.set x c).γ (upd σ x n) := Env.set_sound he hg hx hn

/-- `eval(expr)` contains the value of the expression in every state of `γ` -/
theorem C03.cstdom_eval_sound (e : Env) (σ : State) (ex : Expr) (hg : e.γ σ) :
    Crab.Cst.mem (ex.eval σ) (e.eval ex) := Env.eval_sound hg ex

/-- `assign(x, e)`, including the single-variable shortcut -/
theorem C03.cstdom_assign_sound (e : Env) (he : e.Inv) (σ : State) (x : Var) (hx : x < 2 ^ 64) (ex : Expr)
    (hg : e.γ σ) : (e.assign x ex).γ (upd σ x (ex.eval σ)) := Env.assign_sound he hg hx ex

/-- `weak_assign(x, e)`: both the old state and the updated state are described -/
theorem C03.cstdom_weak_assign_sound (e : Env) (he : e.Inv) (σ : State) (x : Var) (hx : x < 2 ^ 64) (ex : Expr)
    (hg : e.γ σ) : (e.weakAssign x ex).γ σ ∧ (e.weakAssign x ex).γ (upd σ x (ex.eval σ)) :=
  Parts.weakAssign_sound cstLaws scalar he hg hx ex

/-- `apply(arith op, x, y, z)` for every arithmetic operation (`ArithOp.conc` is the operation on
    mathematical integers; no successor for a division by zero) -/
theorem C03.cstdom_apply_arith_var_sound (e : Env) (he : e.Inv) (σ : State) (op : ArithOp) (x y z : Var)
    (hx : x < 2 ^ 64) (c : Int) (hg : e.γ σ) (hc : op.conc (σ y) (σ z) = some c) :
    (e.applyVar op x y z).γ (upd σ x c) := Parts.apply_sound cstLaws scalar he hg hx (scalar.arith_sound op (hg.2 y) (hg.2 z) hc)

/-- `apply(arith op, x, y, k)` -/
theorem C03.cstdom_apply_arith_cst_sound (e : Env) (he : e.Inv) (σ : State) (op : ArithOp) (x y : Var)
    (hx : x < 2 ^ 64) (k c : Int) (hg : e.γ σ) (hc : op.conc (σ y) k = some c) :
    (e.applyCst op x y k).γ (upd σ x c) := Parts.apply_sound cstLaws scalar he hg hx (scalar.arith_sound op (hg.2 y) (scalar.ofInt_sound k) hc)

/-- `apply(bitwise op, x, y, z)`; the concrete shifts are defined for amounts in `[0, 2^64)`
    (`BitOp.conc`: `z_number` shifts by `mpz_get_ui` of the amount, known finding F22) -/
theorem C03.cstdom_apply_bitwise_var_sound (e : Env) (he : e.Inv) (σ : State) (op : BitOp) (x y z : Var)
    (hx : x < 2 ^ 64) (c : Int) (hg : e.γ σ) (hc : op.conc (σ y) (σ z) = some c) :
    (e.applyBitVar op x y z).γ (upd σ x c) := Parts.apply_sound cstLaws scalar he hg hx (scalar.bit_sound op (hg.2 y) (hg.2 z) hc)

/-- `apply(bitwise op, x, y, k)` -/
theorem C03.cstdom_apply_bitwise_cst_sound (e : Env) (he : e.Inv) (σ : State) (op : BitOp) (x y : Var)
    (hx : x < 2 ^ 64) (k c : Int) (hg : e.γ σ) (hc : op.conc (σ y) k = some c) :
    (e.applyBitCst op x y k).γ (upd σ x c) := Parts.apply_sound cstLaws scalar he hg hx (scalar.bit_sound op (hg.2 y) (scalar.ofInt_sound k) hc)

/-- `propagate(cst)`: the constraint solving of the class for one constraint -/
theorem C03.cstdom_propagate_sound (e : Env) (he : e.Inv) (σ : State) (c : Lin.Cst) (hc : CstOk c)
    (hg : e.γ σ) (hsat : c.sat σ) : (e.propagate c).γ σ := Env.propagate_sound he hg hc hsat

/-- `operator+=(csts)` (`solve_constraints`): every state of `γ` that satisfies the system is kept -/
theorem C03.cstdom_assume_sound (e : Env) (he : e.Inv) (σ : State) (csts : Sys) (hc : ∀ c ∈ csts, CstOk c)
    (hg : e.γ σ) (hsat : Sys.sat csts σ) : (e.add csts).γ σ := Env.add_sound he hg hc hsat

/-- `select(lhs, cond, e1, e2)` -/
theorem C03.cstdom_select_sound (e : Env) (he : e.Inv) (σ : State) (lhs : Var) (hx : lhs < 2 ^ 64)
    (cond : Lin.Cst) (e1 e2 : Expr) (hc : CstOk cond) (hg : e.γ σ) :
    (e.select lhs cond e1 e2).γ (upd σ lhs (if cond.sat σ then e1.eval σ else e2.eval σ)) :=
  Parts.select_sound sound scalar he hg hx hc e1 e2

/-- `operator-=(x)` -/
theorem C03.cstdom_forget_sound (e : Env) (he : e.Inv) (σ : State) (x : Var) (hx : x < 2 ^ 64) (n : Int)
    (hg : e.γ σ) : Env.γ (XDom.Env.forget cstLattice e x) (upd σ x n) :=
  XDom.Env.forget_sound cstLaws he hg hx n

/-- `forget(variables)`: the state may change on the forgotten variables only -/
theorem C03.cstdom_forget_vector_sound (e : Env) (he : e.Inv) (σ σ' : State) (vs : List Var)
    (hv : ∀ v ∈ vs, v < 2 ^ 64) (hg : e.γ σ) (h : ∀ y, y ∉ vs → σ' y = σ y) :
    Env.γ (XDom.Env.forgetAll cstLattice e vs) σ' := XDom.Env.forgetAll_sound cstLaws he hg hv h

/-- `project(variables)`, both branches of `separate_domain::project`: the state is kept on the
    projected variables only -/
theorem C03.cstdom_project_sound (e : Env) (he : e.Inv) (σ σ' : State) (vs : List Var)
    (hv : ∀ v ∈ vs, v < 2 ^ 64) (hg : e.γ σ) (h : ∀ y ∈ vs, σ' y = σ y) :
    Env.γ (XDom.Env.project cstLattice e vs) σ' := XDom.Env.project_sound cstLaws he hg hv h

/-- `expand(x, new_x)`: `new_x` receives any value the domain allows for `x` (in particular the
    value of `x`) -/
theorem C03.cstdom_expand_sound (e : Env) (he : e.Inv) (σ : State) (x nx : Var) (hnx : nx < 2 ^ 64) (n : Int)
    (hg : e.γ σ) (hn : Crab.Cst.mem n (e.get x)) : Env.γ (XDom.Env.expand cstLattice e x nx) (upd σ nx n) :=
  XDom.Env.expand_sound cstLaws he hg hnx hn

/-- `rename(from, to)` with distinct sources and distinct, fresh targets: `to[i]` receives the value
    of `from[i]`, the variables outside `from` and `to` keep theirs -/
theorem C03.cstdom_rename_sound (e e' : Env) (he : e.Inv) (σ σ' : State) (frm to : List Var) (hg : e.γ σ)
    (hr : XDom.Env.rename cstLattice e frm to = some e')
    (hf : ∀ v ∈ frm, v < 2 ^ 64) (ht : ∀ v ∈ to, v < 2 ^ 64) (hnf : frm.Nodup) (hnt : to.Nodup)
    (hdis : ∀ y ∈ to, y ∉ frm) (hfresh : ∀ y ∈ to, e.tree.lookup y = none)
    (hrel : ∀ p ∈ frm.zip to, σ' p.2 = σ p.1) (hout : ∀ y, y ∉ frm → y ∉ to → σ' y = σ y) : e'.γ σ' :=
  XDom.Env.rename_sound cstLaws he hg hr hf ht hnf hnt hdis hfresh hrel hout

/-- `rename` raises CRAB_ERROR exactly on vectors of different lengths (unless nothing is to do) -/
theorem C03.cstdom_rename_defined (e : Env) (frm to : List Var) :
    (XDom.Env.rename cstLattice e frm to).isSome =
      (e.isBot || SepDom.isTop e || decide (frm.length = to.length)) :=
  XDom.Env.rename_isSome _ e frm to

/-- integer casts between integer variables (`assign`, plus `dst <= 2^bw - 1` for `zext`) -/
theorem C03.cstdom_cast_sound (e : Env) (he : e.Inv) (σ : State) (zext : Bool) (bw : Nat) (dst src : Var)
    (hd : dst < 2 ^ 64) (hg : e.γ σ) (hz : zext = true → σ src ≤ 2 ^ bw - 1) :
    (e.intCast zext bw dst src).γ (upd σ dst (σ src)) := Parts.intCast_sound sound he hg zext bw hd src hz

/-! ### exported facts -/

/-- `to_linear_constraint_system()` holds in every state of `γ`, and has no solution for bottom -/
theorem C03.cstdom_to_csts_sound (e : Env) (he : e.Inv) (σ : State) (hg : e.γ σ) : Sys.sat e.toCsts σ :=
  Env.toCsts_sound he hg

theorem C03.cstdom_to_csts_bottom (e : Env) (σ : State) (h : e.isBot = true) : ¬ Sys.sat e.toCsts σ :=
  XDom.Env.exportCsts_bot _ h σ

/-- `at(v)` / `operator[](v)` contains the value of `v` in every state of `γ` -/
theorem C03.cstdom_at_sound (e : Env) (σ : State) (x : Var) (hg : e.γ σ) : Itv.mem (σ x) (e.atItv x) :=
  Env.atItv_sound hg x

/-! ### the invariant of `separate_domain` is maintained -/

theorem C03.cstdom_top_bot_inv : CDom.Env.top.Inv ∧ CDom.Env.bot.Inv := ⟨CDom.Env.inv_top, CDom.Env.inv_bot⟩

/-- every statement keeps the invariant -/
theorem C03.cstdom_stmt_inv (st : Stmt) (hok : st.Ok) (a : Env) (h : a.Inv) : (exec st a).Inv := exec_inv st hok h

/-- so do `set`, `rename` and the lattice operations -/
theorem C03.cstdom_set_inv (e : Env) (he : e.Inv) (x : Var) (hx : x < 2 ^ 64) (c : Crab.Cst) : (e.set x c).Inv :=
  Env.set_inv he hx c

theorem C03.cstdom_rename_inv (e e' : Env) (he : e.Inv) (frm to : List Var)
    (hr : XDom.Env.rename cstLattice e frm to = some e') (hf : ∀ v ∈ frm, v < 2 ^ 64) (ht : ∀ v ∈ to, v < 2 ^ 64) :
    e'.Inv := XDom.Env.rename_inv cstLaws he hr hf ht

theorem C03.cstdom_lattice_inv (a b : Env) (ha : a.Inv) (hb : b.Inv) :
    Env.Inv (XDom.Env.join cstLattice a b) ∧ Env.Inv (XDom.Env.meet cstLattice a b) ∧
    Env.Inv (XDom.Env.widen cstLattice a b) ∧ Env.Inv (XDom.Env.narrow cstLattice a b) :=
  ⟨XDom.Env.upper_inv cstLaws cstLaws.join ha hb, XDom.Env.lower_inv cstLaws cstLaws.meet ha hb,
   XDom.Env.upper_inv cstLaws cstLaws.widen ha hb, XDom.Env.lower_inv cstLaws cstLaws.narrow ha hb⟩

/-! ### the operations as steps of the generic history contract -/

/-- every statement (one call of `assign` / `weak_assign` / `apply` / `+=` / `select` / `-=` /
    `forget` / `project` / `expand` / cast) is a sound transformer step -/
theorem C03.cstdom_step_trans_sound (d : Nat) (st : Stmt) (hok : st.Ok) :
    (Dom.Step.trans d ⟨execS st hok, st.rel⟩ : Dom.Step SEnv State).Sound SEnv.γ :=
  fun a _ _ hg hr => exec_sound st hok a.2 hg hr

theorem C03.cstdom_step_join_sound (d a b : Nat) :
    (Dom.Step.upper d a b SEnv.join : Dom.Step SEnv State).Sound SEnv.γ :=
  fun x y _ h => XDom.Env.upper_sound cstLaws cstLaws.join x.2 y.2 h

/-- `operator||` and `widening_thresholds` (which ignores its thresholds) -/
theorem C03.cstdom_step_widen_sound (d a b : Nat) :
    (Dom.Step.upper d a b SEnv.widen : Dom.Step SEnv State).Sound SEnv.γ :=
  fun x y _ h => XDom.Env.upper_sound cstLaws cstLaws.widen x.2 y.2 h

theorem C03.cstdom_step_meet_sound (d a b : Nat) :
    (Dom.Step.lower d a b SEnv.meet : Dom.Step SEnv State).Sound SEnv.γ :=
  fun x y _ h1 h2 => XDom.Env.lower_sound cstLaws cstLaws.meet x.2 y.2 h1 h2

theorem C03.cstdom_step_narrow_sound (d a b : Nat) :
    (Dom.Step.lower d a b SEnv.narrow : Dom.Step SEnv State).Sound SEnv.γ :=
  fun x y _ h1 h2 => XDom.Env.lower_sound cstLaws cstLaws.narrow x.2 y.2 h1 h2

/-- the steps an operation history of the constant domain is made of -/
inductive C03.CstdomStep : Dom.Step SEnv State → Prop
  | trans (d : Nat) (st : Stmt) (hok : st.Ok) : C03.CstdomStep (.trans d ⟨execS st hok, st.rel⟩)
  | join (d a b : Nat) : C03.CstdomStep (.upper d a b SEnv.join)
  | widen (d a b : Nat) : C03.CstdomStep (.upper d a b SEnv.widen)
  | meet (d a b : Nat) : C03.CstdomStep (.lower d a b SEnv.meet)
  | narrow (d a b : Nat) : C03.CstdomStep (.lower d a b SEnv.narrow)
  | copy (d s : Nat) : C03.CstdomStep (.copy d s)
  | setBot (d : Nat) : C03.CstdomStep (.setBot d SEnv.bot)

theorem C03.cstdom_step_sound (st : Dom.Step SEnv State) (h : C03.CstdomStep st) : st.Sound SEnv.γ := by
  cases h with
  | trans d s hok => exact C03.cstdom_step_trans_sound d s hok
  | join d a b => exact C03.cstdom_step_join_sound d a b
  | widen d a b => exact C03.cstdom_step_widen_sound d a b
  | meet d a b => exact C03.cstdom_step_meet_sound d a b
  | narrow d a b => exact C03.cstdom_step_narrow_sound d a b
  | copy d s => trivial
  | setBot d => trivial

/-- **C03 for the constant domain**: after ANY history of its operations over a pool of values,
    every slot contains the collecting semantics of the history (instance of `C03.history_sound`) -/
theorem C03.cstdom_history_sound (hist : List (Dom.Step SEnv State)) (hs : ∀ st ∈ hist, C03.CstdomStep st)
    (p : Dom.Pool SEnv) (c : Dom.CPool State) (h : ∀ i s, c i s → (p i).γ s) :
    ∀ i s, (Dom.collHist c hist) i s → ((Dom.runHist p hist) i).γ s :=
  C03.history_sound SEnv.γ hist (fun st hst => C03.cstdom_step_sound st (hs st hst)) p c h

/-- a slot whose collecting semantics is inhabited is never reported bottom -/
theorem C03.cstdom_not_bottom_if_inhabited (hist : List (Dom.Step SEnv State))
    (hs : ∀ st ∈ hist, C03.CstdomStep st) (p : Dom.Pool SEnv) (c : Dom.CPool State)
    (h : ∀ i s, c i s → (p i).γ s) (i : Nat) (s : State) (hc : (Dom.collHist c hist) i s) :
    ((Dom.runHist p hist) i).1.isBot = false := (C03.cstdom_history_sound hist hs p c h i s hc).1

/-- the invariant holds of every slot after any history: the values are subtypes carrying it -/
theorem C03.cstdom_history_inv (hist : List (Dom.Step SEnv State)) (p : Dom.Pool SEnv) (i : Nat) :
    ((Dom.runHist p hist) i).1.Inv := ((Dom.runHist p hist) i).2

/-! ### non-vacuity -/

/-- `x := 3; assume x + y = 5; z := x * y` from top gives exactly the expected bindings, and the
    described state satisfies `γ` -/
example :
    let e := exec (.arithVar .mul 2 0 1) (exec (.assume [⟨⟨[(0, 1), (1, 1)], -5⟩, .eq⟩]) (exec (.assign 0 (Expr.const 3)) CDom.Env.top))
    XDom.Env.bindings e = [(0, .val 3), (1, .val 2), (2, .val 6)] ∧ e.toCsts.length = 3 := by decide

example : Stmt.Ok (.assume [⟨⟨[(0, 1), (1, 1)], -5⟩, .eq⟩]) := by
  intro c hc
  simp only [List.mem_cons, List.not_mem_nil, or_false] at hc
  subst hc
  exact ⟨by decide, by intro p hp; simp at hp; rcases hp with h | h <;> subst h <;> decide⟩

example : CDom.Env.γ (CDom.Env.top.set 0 (.val 3)) (fun _ => 3) :=
  CDom.Env.set_sound_same CDom.Env.inv_top (XDom.Env.γ_top cstLaws _) (by decide) rfl
