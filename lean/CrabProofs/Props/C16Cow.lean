import CrabModel.Dom.CowRef
import CrabModel.Gen.CowMethods
import CrabProofs.Lemmas.CowRef

/-!
# C16 — the copy-on-write wrapper `abstract_domain_ref` has value semantics

Model: `CrabModel/Dom/CowRef.lean` (a store of reference-counted cells, wrappers = pairs of
pointers `m_base_ref` / `m_norm_ref`, `detach()` before every in-place update).

* `C16.cow_refines_values`: EVERY history of constructions, copies, moves, destructions, mutating
  methods (unary and with a wrapper argument), const methods and binary operations executed on the
  shared store is observationally equal to the same history executed on plain, unshared values —
  including which histories are erroneous (use of a moved-from / destroyed variable).
* `C16.cow_invariant`: after every history, use_count = number of pointers to the cell, no dangling
  pointer, `*m_base_ref` and `*m_norm_ref` hold the same value.
* corollaries: an operation changes only what its target variables describe; a copy is not
  affected by a mutation of the original (and conversely); a mutator that preserves the meaning
  (`normalize`, `minimize`) preserves the meaning of every variable.
* `C16.cow_mutateNoDetach_counterexample`: with ONE mutating method that forgets `detach()` the
  refinement is false — this is why `C16.all_mutators_detach` is checked on every run against the
  list of member functions extracted from the current source (`CrabModel/Gen/CowMethods.lean`,
  regenerated by `tools/cow_methods.py`).
-/
open Crab Crab.Dom Crab.Dom.Cow

/-! ## refinement -/

/-- every history on wrappers = the same history on plain values (values seen through every
    variable, and erroneous histories, coincide) -/
theorem C16.cow_refines_values {A : Type} (n : Nat) (ops : List (Op A)) :
    (run (init n) ops).map view = prun (List.replicate n none) ops := by
  have := (run_sim (init_inv n) ops).1
  rwa [view_init] at this

/-- the store invariant holds after every history: use_count = number of shared_ptrs pointing to
    the object (`count`), deleted exactly when it reaches 0 (`nozombie`), and the base copy made by
    widening holds the same value as the normalised one (`base`) -/
theorem C16.cow_invariant {A : Type} (n : Nat) (ops : List (Op A)) (st : State A)
    (h : run (init n) ops = some st) : Inv st :=
  (run_sim (init_inv n) ops).2 st h

/-- the reference count of every cell is the number of pointers to it, and every pointer of a
    live wrapper points to an allocated cell -/
theorem C16.cow_refcount_exact {A : Type} (n : Nat) (ops : List (Op A)) (st : State A)
    (h : run (init n) ops = some st) :
    (∀ c, rcOf st c = cnt c st.pool) ∧
    (∀ d hd, getH st d = some hd → valOf st hd.norm ≠ none ∧
       ∀ b, hd.base = some b → valOf st b ≠ none) := by
  have hi := C16.cow_invariant n ops st h
  refine ⟨fun c => by simpa [hcnt_none] using hi.count c, ?_⟩
  intro d hd hg
  refine ⟨(hi.live_pool _ (getH_mem hg) _ (hcnt_norm_pos hd)).1, ?_⟩
  intro b hb
  exact (hi.live_pool _ (getH_mem hg) _ (hcnt_base_pos hd b hb)).1

/-- what a const method sees through any variable after any history is what the plain-value
    execution of the same history stores in that variable -/
theorem C16.cow_observe_eq {A : Type} (n : Nat) (ops : List (Op A)) (st : State A)
    (h : run (init n) ops = some st) (d : Nat) :
    ∃ p, prun (List.replicate n none) ops = some p ∧ observe st d = pget p d := by
  have := C16.cow_refines_values n ops
  rw [h] at this
  exact ⟨view st, this.symm, (pget_view st d).symm⟩

/-! ## corollaries: operations on one variable never change what another describes -/

/-- one operation changes only what its target variables describe -/
theorem C16.cow_step_frame {A : Type} (n : Nat) (ops : List (Op A)) (st st' : State A)
    (h : run (init n) ops = some st) (op : Op A) (hs : step st op = some st')
    (e : Nat) (he : e ∉ op.targets) : observe st' e = observe st e := by
  have hi := C16.cow_invariant n ops st h
  have h1 := (step_sim hi op).1
  rw [hs] at h1
  rw [← pget_view, ← pget_view]
  exact pstep_frame h1.symm e he

/-- after `d = s` (copy), mutating `s` leaves `d` describing the old value of `s` -/
theorem C16.cow_mutate_does_not_affect_copies {A : Type} (n : Nat) (ops : List (Op A))
    (st st' : State A) (h : run (init n) ops = some st) (d s : Nat) (hds : d ≠ s) (f : A → A)
    (h' : run st [.copy d s, .mutate s f] = some st') :
    observe st' d = observe st s ∧ observe st' s = (observe st s).map f := by
  have h1 := (run_sim (C16.cow_invariant n ops st h) [.copy d s, .mutate s f]).1
  rw [h'] at h1
  obtain ⟨h2, h3⟩ := prun_copy_mutate hds (Or.inl rfl) h1.symm
  rw [← pget_view st' d, ← pget_view st' s, ← pget_view st s]
  exact ⟨h3 d hds (Or.inl rfl), h2⟩

/-- after `d = s` (copy), mutating the copy `d` leaves the original `s` unchanged -/
theorem C16.cow_mutate_copy_does_not_affect_original {A : Type} (n : Nat) (ops : List (Op A))
    (st st' : State A) (h : run (init n) ops = some st) (d s : Nat) (hds : d ≠ s) (f : A → A)
    (h' : run st [.copy d s, .mutate d f] = some st') :
    observe st' s = observe st s ∧ observe st' d = (observe st s).map f := by
  have h1 := (run_sim (C16.cow_invariant n ops st h) [.copy d s, .mutate d f]).1
  rw [h'] at h1
  obtain ⟨h2, h3⟩ := prun_copy_mutate hds (Or.inr rfl) h1.symm
  rw [← pget_view st' d, ← pget_view st' s, ← pget_view st s]
  exact ⟨h3 s (fun e => hds e.symm) (Or.inr rfl), h2⟩

/-- a const method does not change the store at all -/
theorem C16.cow_query_pure {A : Type} (st st' : State A) (d : Nat)
    (h : step st (.query d) = some st') : st' = st := by
  simp only [step] at h
  split at h
  · cases h
  · cases h; rfl

/-- `normalize()` / `minimize()` (any mutator `nf` that preserves the meaning `γ` of the wrapped
    value) preserve the meaning of EVERY variable, in particular of all copies of the
    normalised one -/
theorem C16.cow_normalize_preserves_meaning {A S : Type} (γ : A → S → Prop) (nf : A → A)
    (hγ : ∀ a, γ (nf a) = γ a) (n : Nat) (ops : List (Op A)) (st st' : State A)
    (h : run (init n) ops = some st) (d : Nat) (hs : step st (.mutate d nf) = some st') (e : Nat) :
    (observe st' e).map γ = (observe st e).map γ := by
  by_cases he : e = d
  · subst he
    have hi := C16.cow_invariant n ops st h
    have h1 := (step_sim hi (.mutate e nf)).1
    rw [hs] at h1
    simp only [Option.map_some, pstep] at h1
    rw [← pget_view, ← pget_view]
    cases hv : pget (view st) e with
    | none => simp [hv] at h1
    | some v =>
      simp only [hv, Option.some.injEq] at h1
      rw [h1, pget_set_eq _ _ _ (pget_lt hv)]
      simp [hγ]
  · rw [C16.cow_step_frame n ops st st' h _ hs e (by simpa [Op.targets] using he)]

/-! ## the protocol is necessary: one mutator without `detach()` breaks value semantics -/

/-- the refinement statement for a wrapper some of whose mutators skip `detach()` -/
def C16.cow_refines_values_without_detach_Statement : Prop :=
  ∀ (n : Nat) (ops : List (XOp Nat)),
    (xrun (init n) ops).map view = prun (List.replicate n none) (ops.map XOp.toOp)

/-- `x = wrap(5); y = x; x.mutate(+1)` with a `mutate` that does not detach: `y` changes too -/
theorem C16.cow_mutateNoDetach_counterexample : ¬ C16.cow_refines_values_without_detach_Statement := by
  intro h
  have := h 2 [.good (.mk 0 5), .good (.copy 1 0), .mutateNoDetach 0 (· + 1)]
  revert this
  decide

/-- the same history with a detaching mutator is correct (the model is executable) -/
example : (run (init 2) [.mk 0 5, .copy 1 0, .mutate 0 (· + 1)]).map view
    = some [some 6, some 5] := by decide +kernel

/-- non-vacuity: sharing really happens (after the copy both variables point to ONE cell of
    use_count 2), widening creates a base pointer, a mutation through a moved-to variable works,
    and use of a moved-from variable is an error in both semantics -/
example : (run (init 3) [.mk 0 (5 : Nat), .copy 1 0]).map
    (fun st => (st.pool, rcOf st 0)) = some ([some ⟨none, 0⟩, some ⟨none, 0⟩, none], 2) := by decide +kernel
example : (run (init 3) [.mk 0 (5 : Nat), .mk 1 7, .binaryBase 2 0 1 (· + ·), .copy 0 2,
      .mutate2 2 0 (· * ·), .move 1 0]).map (fun st => (st.pool, view st))
    = some ([none, some ⟨some 2, 3⟩, some ⟨none, 4⟩], [none, some 12, some 144]) := by decide +kernel
example : run (init 2) [.mk 0 (5 : Nat), .move 1 0, .mutate 0 (· + 1)] = none
    ∧ prun (List.replicate 2 none) [.mk 0 (5 : Nat), .move 1 0, .mutate 0 (· + 1)] = none := by
  decide +kernel

/-! ## the syntactic side condition, checked on the current source tree -/

def C16.CowMethod.name (m : String × Bool × Bool) : String := m.1
def C16.CowMethod.isConst (m : String × Bool × Bool) : Bool := m.2.1
def C16.CowMethod.startsWithDetach (m : String × Bool × Bool) : Bool := m.2.2

/-- non-const members that legitimately do not start with `detach()`:
    * `abstract_domain_ref` — constructors: they initialise the two pointers of a NEW wrapper
      (templated constructor: `std::make_shared` of a fresh object = `Op.mk`; the two private
      pointer-adopting constructors are only reachable from `create` / `create_base`, which pass
      fresh `std::make_shared` pointers = `Op.binary` / `Op.binaryBase`; the defaulted copy and
      move constructors = `Op.copy` / `Op.move`); no existing object is written;
    * `~abstract_domain_ref` — defaulted destructor = `Op.destroy` (releases the two pointers);
    * `operator=` — defaulted copy / move assignment = `Op.copy` / `Op.move` (re-binds the
      pointers of the target, the old objects are released, none is written);
      `C16.special_members_defaulted` checks they are still `= default`;
    * `detach` — the primitive itself;
    * `norm` — the private non-const accessor `*m_norm_ref` used by the mutators AFTER `detach()`;
      its non-const callers are exactly the members covered by this theorem, const members get
      the const overload. -/
def C16.allowedNonDetaching : List String :=
  ["abstract_domain_ref", "~abstract_domain_ref", "operator=", "detach", "norm"]

/-- members allowed to mention `m_base_ref` / `m_norm_ref` directly: the constructors, `detach`
    and the accessors `base`, `norm` (all private or pointer-initialising) -/
def C16.allowedRawAccess : List String :=
  ["abstract_domain_ref", "detach", "base", "norm"]

/-- every mutating (non-const) member function of `abstract_domain_ref` in the current source
    starts with `detach();`, except the justified list above -/
theorem C16.all_mutators_detach :
    ∀ m ∈ Crab.Gen.cowMethods, ¬ C16.CowMethod.isConst m →
      C16.CowMethod.startsWithDetach m ∨ C16.CowMethod.name m ∈ C16.allowedNonDetaching := by
  decide +kernel

/-- only the constructors, `detach`, `base` and `norm` touch the shared pointers; no member uses
    `const_cast` and there is no `mutable` field (so a const member cannot write the shared
    object behind `detach()`'s back: `std::shared_ptr` constness is shallow) -/
theorem C16.raw_access_confined :
    ∀ m ∈ Crab.Gen.cowRawAccess, m ∈ C16.allowedRawAccess := by
  decide +kernel

/-- the destructor and every `operator=` of the class are `= default` -/
theorem C16.special_members_defaulted :
    ∀ nm ∈ ["~abstract_domain_ref", "operator="],
      ((Crab.Gen.cowMethods.filter (fun m => m.1 == nm)).length
        = (Crab.Gen.cowDefaulted.filter (fun x => x == nm)).length) := by
  decide +kernel

/-- the extraction is not vacuous: the list contains the mutators and the const queries the
    domain-history harness drives -/
theorem C16.cow_methods_nonvacuous :
    (∀ nm ∈ ["assign", "operator|=", "operator&=", "operator+=", "operator-=", "normalize", "minimize",
              "forget", "project", "rename", "expand", "set_to_top", "set_to_bottom", "detach"],
        (nm, false) ∈ Crab.Gen.cowMethods.map (fun m => (m.1, m.2.1))) ∧
    (∀ nm ∈ ["at", "is_bottom", "is_top", "operator<=", "operator|", "operator&", "operator||",
              "operator&&", "to_linear_constraint_system", "write"],
        (nm, true) ∈ Crab.Gen.cowMethods.map (fun m => (m.1, m.2.1))) ∧
    60 ≤ Crab.Gen.cowMethods.length := by
  decide +kernel
