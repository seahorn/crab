import CrabProofs.Lemmas.IntervalLattice
import CrabModel.Dom.History

/-!
# C04 — the inclusion test and the lattice operations agree with concretisation

Scalar level (integer intervals, the value lattice of the interval domain); the
environment-level statements (`<=` of two environments holds exactly when it holds pointwise,
also for environments over different variable sets) are in `Props/C19*.lean`.
-/
open Crab Crab.Itv

/-! yes on equal values, with bottom on the left, with top on the right -/

theorem C04.itv_leq_refl (a : Itv) : leq a a = true := leq_refl a
theorem C04.itv_leq_bottom_left (a b : Itv) (h : a.isBottom = true) : leq a b = true := leq_of_isBottom h b
theorem C04.itv_leq_top_right (a : Itv) : leq a top = true := leq_top a

/-- a yes answer is an inclusion of concretisations -/
theorem C04.itv_leq_sound (a b : Itv) (h : leq a b = true) (k : Int) (hk : mem k a) : mem k b :=
  leq_sound h hk

/-- `is_bottom` is exact: a value reported bottom describes no state, and a value that
    describes no state and is well formed is reported bottom -/
theorem C04.itv_isBottom_sound (a : Itv) (h : a.isBottom = true) (k : Int) : ¬ mem k a :=
  not_mem_of_isBottom h

theorem C04.itv_isBottom_complete (a : Itv) (hw : a.WF) (h : ∀ k, ¬ mem k a) : a.isBottom = true := by
  cases hb : a.isBottom
  · obtain ⟨k, hk⟩ := exists_mem hw hb
    exact absurd hk (h k)
  · rfl

/-- `is_top` is exact -/
theorem C04.itv_isTop_iff (a : Itv) (hw : a.WF) : a.isTop = true ↔ ∀ k, mem k a := by
  obtain ⟨l, u⟩ := a
  obtain ⟨hl, hu⟩ := hw
  constructor
  · intro h k; cases l <;> cases u <;> simp_all [isTop, Bound.isInfinite, mem]
  · intro h
    cases l with
    | pinf => exact absurd rfl hl
    | ninf =>
      cases u with
      | ninf => exact absurd rfl hu
      | pinf => rfl
      | fin m => have := (h (m + 1)).2; simp at this; omega
    | fin n =>
      have := (h (n - 1)).1; simp at this; omega

/-! join contains both arguments, meet contains (exactly) the common states -/

theorem C04.itv_join_upper (a b : Itv) (k : Int) (hk : mem k a ∨ mem k b) : mem k (join a b) :=
  hk.elim join_upper_left join_upper_right
theorem C04.itv_meet_iff (a b : Itv) (k : Int) : mem k (meet a b) ↔ (mem k a ∧ mem k b) :=
  ⟨meet_exact, fun ⟨h1, h2⟩ => meet_sound h1 h2⟩

/-! make_bottom / make_top -/

theorem C04.itv_bot_isBottom : Itv.bot.isBottom = true := by decide
theorem C04.itv_top_isTop : Itv.top.isTop = true := by decide

/-- pool level: whenever a sound inclusion test answers yes for two pool slots after any
    history, every witness of the left slot's collecting semantics is described by the right
    slot (what the correspondence evaluates on the real domains) -/
theorem C04.pool_leq_sound {A S : Type} (γ : A → S → Prop) (leq : A → A → Bool)
    (hl : ∀ a b s, leq a b = true → γ a s → γ b s)
    (p : Dom.Pool A) (c : Dom.CPool S) (h : ∀ i s, c i s → γ (p i) s)
    (i j : Nat) (hij : leq (p i) (p j) = true) (s : S) (hs : c i s) : γ (p j) s :=
  hl _ _ _ hij (h i s hs)
