import CrabProofs.Lemmas.XDomEngineInst
import CrabProofs.Props.C05Chain

/-!
# C05 for `constant_domain`, `sign_domain`, `congruence_domain` — the widening satisfies the
chain condition, and the iterator terminates on them

A widening step `x ∇ y` with `y` not below `x` strictly decreases the measure (bottom flag,
Σ over the bindings of `1 + rank`, Σ over the bindings of the second component of the scalar
measure) lexicographically (`XDom.Env.upper_wmeas_lt`, CrabProofs/Lemmas/XDomWiden.lean).  As for
the interval domain (`C05.idom_strictStep_wf`) no bound on the set of variables is needed: the
widening of `separate_domain` only keeps keys of its left argument and a Patricia tree has
finitely many bindings, so the statement holds for environments over any — in particular every
finite — set of variables.  The values are the environments that satisfy the invariant of
`separate_domain` (`SEnv`, preserved by every operation: `C03.*dom_history_inv`).

Scalar measures: constants — the height (a number 1, top 0); signs — the number of excluded
classes (the join of the extracted table is the union of classes, `C05.sgn_widen_measure`);
congruences — (rank, |modulus|) (`Cong.widen_wmeas_lt`).
-/
open Crab Crab.XDom Crab.Fix

/-! ### constants -/

/-- the measure decreases on a strict widening step -/
theorem C05.cstdom_widen_measure (x y : CDom.SEnv) (h : CDom.SEnv.leq y x = false) :
    Prod.Lex (· < ·) (Prod.Lex (· < ·) (· < ·))
      (XDom.Env.wmeas CDom.cstMu (CDom.SEnv.widen x y).1) (XDom.Env.wmeas CDom.cstMu x.1) :=
  XDom.Env.upper_wmeas_lt CDom.cstLaws CDom.cstLaws.widen CDom.cstWidenMeasure x.2 y.2 h

/-- **chain condition**: no infinite sequence `x₀, x₁ = x₀ ∇ y₀, x₂ = x₁ ∇ y₁, …` with every
    `yᵢ` not below `xᵢ` -/
theorem C05.cstdom_strictStep_wf : WellFounded (C05.StrictStep CDom.SEnv.leq CDom.SEnv.widen) :=
  C05.strictStep_wf_of_measure CDom.SEnv.leq CDom.SEnv.widen _
    (Prod.lex Nat.lt_wfRel (Prod.lex Nat.lt_wfRel Nat.lt_wfRel)).wf
    (fun x => XDom.Env.wmeas CDom.cstMu x.1) C05.cstdom_widen_measure

/-- the same in the form the fixpoint engine uses (`Fix.WidenStep`) -/
theorem C05.cstdom_widenStep_wf (c : Ctx CDom.SEnv) (hops : c.ops = CDom.SEnv.ops) : WellFounded (WidenStep c) := by
  rw [C05.widenStep_eq, hops]; exact C05.cstdom_strictStep_wf

/-- **the iterator terminates on the constant domain**: for every program of admissible
    statements, every ordering and every parameter setting some fuel suffices -/
theorem C05.cstdom_run_terminates (prog : Nat → List CDom.eng.AStmt) (preds : Nat → List Nat)
    (nesting : Nat → Option (List Nat)) (entry : Nat) (init : CDom.SEnv)
    (assumptions : Option (List (Nat × CDom.SEnv))) (delay descending : Nat) (w : List Comp) :
    ∃ fuel st, run (CDom.eng.mkCtx prog preds nesting entry init assumptions delay descending) fuel w = some st :=
  C05.run_terminates _ w (C05.cstdom_widenStep_wf _ rfl)

/-! ### signs (`operator||` = join) -/

theorem C05.sgndom_widen_measure (x y : SDom.SEnv) (h : SDom.SEnv.leq y x = false) :
    Prod.Lex (· < ·) (Prod.Lex (· < ·) (· < ·))
      (XDom.Env.wmeas SDom.signMu (SDom.SEnv.widen x y).1) (XDom.Env.wmeas SDom.signMu x.1) :=
  XDom.Env.upper_wmeas_lt SDom.signLaws SDom.signLaws.join SDom.signWidenMeasure x.2 y.2 h

theorem C05.sgndom_strictStep_wf : WellFounded (C05.StrictStep SDom.SEnv.leq SDom.SEnv.widen) :=
  C05.strictStep_wf_of_measure SDom.SEnv.leq SDom.SEnv.widen _
    (Prod.lex Nat.lt_wfRel (Prod.lex Nat.lt_wfRel Nat.lt_wfRel)).wf
    (fun x => XDom.Env.wmeas SDom.signMu x.1) C05.sgndom_widen_measure

theorem C05.sgndom_widenStep_wf (c : Ctx SDom.SEnv) (hops : c.ops = SDom.SEnv.ops) : WellFounded (WidenStep c) := by
  rw [C05.widenStep_eq, hops]; exact C05.sgndom_strictStep_wf

/-- **the iterator terminates on the sign domain** -/
theorem C05.sgndom_run_terminates (prog : Nat → List SDom.eng.AStmt) (preds : Nat → List Nat)
    (nesting : Nat → Option (List Nat)) (entry : Nat) (init : SDom.SEnv)
    (assumptions : Option (List (Nat × SDom.SEnv))) (delay descending : Nat) (w : List Comp) :
    ∃ fuel st, run (SDom.eng.mkCtx prog preds nesting entry init assumptions delay descending) fuel w = some st :=
  C05.run_terminates _ w (C05.sgndom_widenStep_wf _ rfl)

/-! ### congruences (`operator||` of the values = join, "domain is flat") -/

theorem C05.congdom_widen_measure (x y : GDom.SEnv) (h : GDom.SEnv.leq y x = false) :
    Prod.Lex (· < ·) (Prod.Lex (· < ·) (· < ·))
      (XDom.Env.wmeas Cong.wmeas (GDom.SEnv.widen x y).1) (XDom.Env.wmeas Cong.wmeas x.1) :=
  XDom.Env.upper_wmeas_lt GDom.congLaws GDom.congLaws.widen GDom.congWidenMeasure x.2 y.2 h

theorem C05.congdom_strictStep_wf : WellFounded (C05.StrictStep GDom.SEnv.leq GDom.SEnv.widen) :=
  C05.strictStep_wf_of_measure GDom.SEnv.leq GDom.SEnv.widen _
    (Prod.lex Nat.lt_wfRel (Prod.lex Nat.lt_wfRel Nat.lt_wfRel)).wf
    (fun x => XDom.Env.wmeas Cong.wmeas x.1) C05.congdom_widen_measure

theorem C05.congdom_widenStep_wf (c : Ctx GDom.SEnv) (hops : c.ops = GDom.SEnv.ops) : WellFounded (WidenStep c) := by
  rw [C05.widenStep_eq, hops]; exact C05.congdom_strictStep_wf

/-- **the iterator terminates on the congruence domain** -/
theorem C05.congdom_run_terminates (prog : Nat → List GDom.eng.AStmt) (preds : Nat → List Nat)
    (nesting : Nat → Option (List Nat)) (entry : Nat) (init : GDom.SEnv)
    (assumptions : Option (List (Nat × GDom.SEnv))) (delay descending : Nat) (w : List Comp) :
    ∃ fuel st, run (GDom.eng.mkCtx prog preds nesting entry init assumptions delay descending) fuel w = some st :=
  C05.run_terminates _ w (C05.congdom_widenStep_wf _ rfl)

/-! ### non-vacuity: strict steps exist and lower the measure (constants and congruences; for signs
    see the scalar example of `Props/C05Chain.lean`) -/

example : XDom.Env.leq CDom.cstLattice (CDom.Env.top.set 0 (.val 2)) (CDom.Env.top.set 0 (.val 1)) = false ∧
    XDom.Env.wmeas CDom.cstMu (CDom.Env.top.set 0 (.val 1)) = (0, 2, 0) ∧
    XDom.Env.wmeas CDom.cstMu (XDom.Env.widen CDom.cstLattice (CDom.Env.top.set 0 (.val 1)) (CDom.Env.top.set 0 (.val 2))) = (0, 0, 0) := by
  decide +kernel

example : XDom.Env.leq GDom.congLattice (GDom.Env.top.set 0 (Cong.ofInt 7)) (GDom.Env.top.set 0 (Cong.ofInt 3)) = false ∧
    XDom.Env.wmeas Cong.wmeas (GDom.Env.top.set 0 (Cong.ofInt 3)) = (0, 2, 0) ∧
    XDom.Env.wmeas Cong.wmeas (XDom.Env.widen GDom.congLattice (GDom.Env.top.set 0 (Cong.ofInt 3)) (GDom.Env.top.set 0 (Cong.ofInt 7))) = (0, 1, 4) := by
  decide +kernel
