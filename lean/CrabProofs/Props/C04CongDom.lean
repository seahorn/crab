import CrabProofs.Lemmas.XDomCongStmt

/-!
# C04 for `congruence_domain<z_number>` — inclusion test, lattice operations, `is_bottom`,
`is_top` and `entails` agree with the concretisation (proved on the exact model `Crab.GDom`, see
`Props/C03CongDom.lean` for the model, the correspondence and the hypotheses `Inv`, `CstOk`)
-/
open Crab Crab.GDom Crab.XDom Crab.Lin

/-- a yes answer of `operator<=` is an inclusion of concretisations -/
theorem C04.congdom_leq_sound (a b : Env) (ha : a.Inv) (hb : b.Inv) (σ : State)
    (h : XDom.Env.leq congLattice a b = true) (hg : a.γ σ) : b.γ σ := XDom.Env.leq_sound congLaws ha hb h hg

/-- yes on equal values, with bottom on the left, with top on the right -/
theorem C04.congdom_leq_refl (a : Env) (ha : a.Inv) : XDom.Env.leq congLattice a a = true :=
  XDom.Env.leq_refl congLaws ha
theorem C04.congdom_bot_le (b : Env) : XDom.Env.leq congLattice GDom.Env.bot b = true :=
  XDom.Env.leq_of_bot rfl b
theorem C04.congdom_leq_bottom_left (a b : Env) (h : a.isBot = true) : XDom.Env.leq congLattice a b = true :=
  XDom.Env.leq_of_bot h b
theorem C04.congdom_le_top (a : Env) (ha : a.Inv) : XDom.Env.leq congLattice a GDom.Env.top = true :=
  XDom.Env.leq_top congLaws ha

/-- `is_bottom()` answers yes exactly on the values that describe no state -/
theorem C04.congdom_is_bottom_iff (e : Env) (he : e.Inv) : XDom.Env.isBottom e = true ↔ ∀ σ, ¬ e.γ σ :=
  XDom.Env.isBottom_iff congLaws he

/-- `is_top()` answers yes exactly on the values that describe every state -/
theorem C04.congdom_is_top_iff (e : Env) (he : e.Inv) : XDom.Env.isTop e = true ↔ ∀ σ, e.γ σ :=
  XDom.Env.isTop_iff congLaws he

/-- `make_bottom` describes no state, `make_top` describes every state -/
theorem C04.congdom_bot_empty (σ : State) : ¬ GDom.Env.bot.γ σ := XDom.Env.not_γ_bot σ
theorem C04.congdom_top_all (σ : State) : GDom.Env.top.γ σ := XDom.Env.γ_top congLaws σ
theorem C04.congdom_top_is_top : XDom.Env.isTop GDom.Env.top = true ∧ XDom.Env.isBottom GDom.Env.bot = true := by
  decide

/-- join contains both arguments -/
theorem C04.congdom_join_upper (a b : Env) (ha : a.Inv) (hb : b.Inv) (σ : State) (h : a.γ σ ∨ b.γ σ) :
    Env.γ (XDom.Env.join congLattice a b) σ := XDom.Env.upper_sound congLaws congLaws.join ha hb h

/-- meet is below both arguments … -/
theorem C04.congdom_meet_lower (a b : Env) (ha : a.Inv) (hb : b.Inv) (σ : State)
    (h : Env.γ (XDom.Env.meet congLattice a b) σ) : a.γ σ ∧ b.γ σ :=
  XDom.Env.lower_below congLaws congLaws.meet (fun _ _ _ hk => Cong.meet_exact hk) ha hb h

/-- … and describes exactly the common states -/
theorem C04.congdom_meet_iff (a b : Env) (ha : a.Inv) (hb : b.Inv) (σ : State) :
    Env.γ (XDom.Env.meet congLattice a b) σ ↔ (a.γ σ ∧ b.γ σ) :=
  ⟨C04.congdom_meet_lower a b ha hb σ, fun ⟨h1, h2⟩ => XDom.Env.lower_sound congLaws congLaws.meet ha hb h1 h2⟩

/-- widening (`operator||`, `widening_thresholds`) contains both arguments -/
theorem C04.congdom_widen_upper (a b : Env) (ha : a.Inv) (hb : b.Inv) (σ : State) (h : a.γ σ ∨ b.γ σ) :
    Env.γ (XDom.Env.widen congLattice a b) σ := XDom.Env.upper_sound congLaws congLaws.widen ha hb h

/-- narrowing keeps the common states -/
theorem C04.congdom_narrow_sound (a b : Env) (ha : a.Inv) (hb : b.Inv) (σ : State) (h1 : a.γ σ) (h2 : b.γ σ) :
    Env.γ (XDom.Env.narrow congLattice a b) σ := XDom.Env.lower_sound congLaws congLaws.narrow ha hb h1 h2

/-- `entails(cst)` (`DEFAULT_ENTAILS`): a yes answer holds in every state of `γ` -/
theorem C04.congdom_entails_sound (e : Env) (he : e.Inv) (σ : State) (c : Lin.Cst) (hc : CstOk c) (hg : e.γ σ)
    (h : e.entails c = true) : c.sat σ := GDom.Env.entails_sound he hg hc h

/-- non-vacuity: `{x ∈ 4Z+1} <= {x ∈ 2Z+1}`, not the converse; that `{x = 3}` entails `x - 5 <= 0`
    is not found by congruences (inequalities are ignored); the join of `3` and `7` is `4Z+3` -/
example : XDom.Env.leq congLattice (GDom.Env.top.set 0 ⟨false, 4, 1⟩) (GDom.Env.top.set 0 ⟨false, 2, 1⟩) = true ∧
    XDom.Env.leq congLattice (GDom.Env.top.set 0 ⟨false, 2, 1⟩) (GDom.Env.top.set 0 ⟨false, 4, 1⟩) = false ∧
    (GDom.Env.top.set 0 (Cong.ofInt 3)).entails ⟨(Expr.var 0).subNum 5, .leq⟩ = false ∧
    XDom.Env.bindings (XDom.Env.join congLattice (GDom.Env.top.set 0 (Cong.ofInt 3)) (GDom.Env.top.set 0 (Cong.ofInt 7)))
      = [(0, ⟨false, 4, 3⟩)] := by
  decide +kernel
