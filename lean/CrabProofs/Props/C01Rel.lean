import CrabProofs.Props.C01Engine
import CrabProofs.Props.C05Rel
import CrabProofs.Lemmas.RelDomItvEnv

/-!
# C01 ∘ C03 for zones, octagons and interval environments

The interleaved fixpoint iterator (`Crab.Fix.run`, Props/C01Engine.lean) run on the zone / octagon
values of `Props/C03Rel.lean` with block transformers made of their statements (assume of a system
of in-language constraints, `x := k`, `x := y + k`, `x := -y + k` (octagons), havoc, `forget(vars)`,
`project(vars)`) returns tables that contain the collecting semantics of the program — for every
weak topological ordering, widening delay, number of descending iterations and assumption map.
The `Sem` contract of the engine is discharged from the per-operation theorems
(`RelDom.EngDom`, CrabProofs/Lemmas/RelDomEngine.lean — the analogue of `XDom.EngDom` for an
arbitrary state space and statement language).

Operations handed to the engine: zones — exact inclusion test, join, meet of the canonical model,
the widening of `split_dbm_domain` / `sparse_dbm_domain` as coded (any sound reading `ew`),
narrowing = meet as in the code; octagons — the same with the textbook widening (not the code's).
Interval environments (`C01.itvenv_run_sound`): the canonical reference model of C12 with its
pointwise interval widening.
With `Props/C05Rel.lean` the runs also terminate: `C01.zones_run_total_sound`,
`C01.oct_run_total_sound`.
-/
open Crab Crab.Fix Crab.RelDom

/-- blocks of statements are sound block transformers, for every domain given by its
    per-operation laws -/
theorem C01.rel_block_sound {S : Type} (D : EngDom S) (b : List D.Stmt) (a : D.A) (s s' : S)
    (hg : D.γ a s) (hr : D.BlockRel b s s') : D.γ (D.execBlock b a) s' := D.execBlock_sound b a s s' hg hr

/-- the generic instance: the engine on any `RelDom.EngDom` -/
theorem C01.rel_run_sound {S : Type} (D : EngDom S) (prog : Nat → List D.Stmt) (preds : Nat → List Nat)
    (nesting : Nat → Option (List Nat)) (entry : Nat) (init : D.A)
    (assumptions : Option (List (Nat × D.A))) (delay descending : Nat) (w : List Comp)
    (fuel : Nat) (st : St D.A)
    (hwf : WtoWF (D.mkCtx prog preds nesting entry init assumptions delay descending) w)
    (hrun : run (D.mkCtx prog preds nesting entry init assumptions delay descending) fuel w = some st) :
    let sm := D.sem prog preds nesting entry init assumptions delay descending
    (∀ n s, ReachPre _ sm n s → D.γ (st.pre n) s) ∧ (∀ n s, ReachPost _ sm n s → D.γ (st.post n) s) :=
  C01.run_sound _ w S (D.sem prog preds nesting entry init assumptions delay descending) fuel st hwf hrun

/-- **the engine on zones**, for the widening of the code read through any sound `ew`
    (`splitEw`: split_dbm, `sparseEw`: sparse_dbm) -/
theorem C01.zones_run_sound {n : Nat} (ew : Zones.Zone n → Fin (n + 1) → Fin (n + 1) → Dbm.W)
    (hew : Zones.SoundEw ew) (prog : Nat → List (Zones.Stmt n)) (preds : Nat → List Nat)
    (nesting : Nat → Option (List Nat)) (entry : Nat) (init : Zones.ZVal n)
    (assumptions : Option (List (Nat × Zones.ZVal n))) (delay descending : Nat) (w : List Comp)
    (fuel : Nat) (st : St (Zones.ZVal n))
    (hwf : WtoWF ((Zones.eng n ew hew).mkCtx prog preds nesting entry init assumptions delay descending) w)
    (hrun : run ((Zones.eng n ew hew).mkCtx prog preds nesting entry init assumptions delay descending) fuel w
      = some st) :
    let sm := (Zones.eng n ew hew).sem prog preds nesting entry init assumptions delay descending
    (∀ k s, ReachPre _ sm k s → Zones.γv (st.pre k) s) ∧ (∀ k s, ReachPost _ sm k s → Zones.γv (st.post k) s) :=
  C01.rel_run_sound (Zones.eng n ew hew) prog preds nesting entry init assumptions delay descending w fuel st
    hwf hrun

/-- the instance for `split_dbm_domain`'s widening -/
theorem C01.zones_split_run_sound {n : Nat} (prog : Nat → List (Zones.Stmt n)) (preds : Nat → List Nat)
    (nesting : Nat → Option (List Nat)) (entry : Nat) (init : Zones.ZVal n)
    (assumptions : Option (List (Nat × Zones.ZVal n))) (delay descending : Nat) (w : List Comp)
    (fuel : Nat) (st : St (Zones.ZVal n))
    (hwf : WtoWF ((Zones.splitEng n).mkCtx prog preds nesting entry init assumptions delay descending) w)
    (hrun : run ((Zones.splitEng n).mkCtx prog preds nesting entry init assumptions delay descending) fuel w
      = some st) :
    let sm := (Zones.splitEng n).sem prog preds nesting entry init assumptions delay descending
    (∀ k s, ReachPre _ sm k s → Zones.γv (st.pre k) s) ∧ (∀ k s, ReachPost _ sm k s → Zones.γv (st.post k) s) :=
  C01.rel_run_sound (Zones.splitEng n) prog preds nesting entry init assumptions delay descending w fuel st
    hwf hrun

/-- **the engine on octagons** -/
theorem C01.oct_run_sound {n : Nat} (prog : Nat → List (Octagon.Stmt n)) (preds : Nat → List Nat)
    (nesting : Nat → Option (List Nat)) (entry : Nat) (init : Octagon.OVal n)
    (assumptions : Option (List (Nat × Octagon.OVal n))) (delay descending : Nat) (w : List Comp)
    (fuel : Nat) (st : St (Octagon.OVal n))
    (hwf : WtoWF ((Octagon.eng n).mkCtx prog preds nesting entry init assumptions delay descending) w)
    (hrun : run ((Octagon.eng n).mkCtx prog preds nesting entry init assumptions delay descending) fuel w
      = some st) :
    let sm := (Octagon.eng n).sem prog preds nesting entry init assumptions delay descending
    (∀ k s, ReachPre _ sm k s → Octagon.γv (st.pre k) s) ∧
    (∀ k s, ReachPost _ sm k s → Octagon.γv (st.post k) s) :=
  C01.rel_run_sound (Octagon.eng n) prog preds nesting entry init assumptions delay descending w fuel st
    hwf hrun

/-- zones: the analysis returns (some fuel suffices: the widening of the code stabilises against the
    exact inclusion test, `C05.zones_rel_run_terminates`) and what it returns is sound -/
theorem C01.zones_run_total_sound {n : Nat} (ew : Zones.Zone n → Fin (n + 1) → Fin (n + 1) → Dbm.W)
    (hew : Zones.SoundEw ew) (prog : Nat → List (Zones.Stmt n)) (preds : Nat → List Nat)
    (nesting : Nat → Option (List Nat)) (entry : Nat) (init : Zones.ZVal n)
    (assumptions : Option (List (Nat × Zones.ZVal n))) (delay descending : Nat) (w : List Comp)
    (hwf : WtoWF ((Zones.eng n ew hew).mkCtx prog preds nesting entry init assumptions delay descending) w) :
    let c := (Zones.eng n ew hew).mkCtx prog preds nesting entry init assumptions delay descending
    let sm := (Zones.eng n ew hew).sem prog preds nesting entry init assumptions delay descending
    ∃ fuel st, run c fuel w = some st ∧
      (∀ k s, ReachPre c sm k s → Zones.γv (st.pre k) s) ∧ (∀ k s, ReachPost c sm k s → Zones.γv (st.post k) s) := by
  obtain ⟨fuel, st, hrun⟩ := C05.zones_rel_run_terminates ew hew
    ((Zones.eng n ew hew).mkCtx prog preds nesting entry init assumptions delay descending) rfl rfl w
  exact ⟨fuel, st, hrun, C01.zones_run_sound ew hew prog preds nesting entry init assumptions delay descending
    w fuel st hwf hrun⟩

/-- octagons: the analysis returns and what it returns is sound -/
theorem C01.oct_run_total_sound {n : Nat} (prog : Nat → List (Octagon.Stmt n)) (preds : Nat → List Nat)
    (nesting : Nat → Option (List Nat)) (entry : Nat) (init : Octagon.OVal n)
    (assumptions : Option (List (Nat × Octagon.OVal n))) (delay descending : Nat) (w : List Comp)
    (hwf : WtoWF ((Octagon.eng n).mkCtx prog preds nesting entry init assumptions delay descending) w) :
    let c := (Octagon.eng n).mkCtx prog preds nesting entry init assumptions delay descending
    let sm := (Octagon.eng n).sem prog preds nesting entry init assumptions delay descending
    ∃ fuel st, run c fuel w = some st ∧
      (∀ k s, ReachPre c sm k s → Octagon.γv (st.pre k) s) ∧
      (∀ k s, ReachPost c sm k s → Octagon.γv (st.post k) s) := by
  obtain ⟨fuel, st, hrun⟩ := C05.oct_run_terminates
    ((Octagon.eng n).mkCtx prog preds nesting entry init assumptions delay descending) rfl rfl w
  exact ⟨fuel, st, hrun, C01.oct_run_sound prog preds nesting entry init assumptions delay descending
    w fuel st hwf hrun⟩

/-- **the engine on interval environments** (canonical reference model of C12) -/
theorem C01.itvenv_run_sound {n : Nat} (prog : Nat → List (ItvEnv.Stmt n)) (preds : Nat → List Nat)
    (nesting : Nat → Option (List Nat)) (entry : Nat) (init : ItvEnv.Env n)
    (assumptions : Option (List (Nat × ItvEnv.Env n))) (delay descending : Nat) (w : List Comp)
    (fuel : Nat) (st : St (ItvEnv.Env n))
    (hwf : WtoWF ((ItvEnv.eng n).mkCtx prog preds nesting entry init assumptions delay descending) w)
    (hrun : run ((ItvEnv.eng n).mkCtx prog preds nesting entry init assumptions delay descending) fuel w
      = some st) :
    let sm := (ItvEnv.eng n).sem prog preds nesting entry init assumptions delay descending
    (∀ k s, ReachPre _ sm k s → ItvEnv.γ (st.pre k) s) ∧ (∀ k s, ReachPost _ sm k s → ItvEnv.γ (st.post k) s) :=
  C01.rel_run_sound (ItvEnv.eng n) prog preds nesting entry init assumptions delay descending w fuel st
    hwf hrun

/-! ### non-vacuity: the counting loop `x := 0; y := 0; while (x ≤ 9) { x := x + 1; y := y + 1 }`

blocks: 0 = init, 1 = loop head (no statement), 2 = body (`assume x ≤ 9; x := x+1; y := y+1`),
3 = exit (`assume x ≥ 10`); ordering `0 (1 2) 3` (the one of `C01.Example`). -/

def C01.RelExample.zprog : Nat → List (Zones.Stmt 2)
  | 0 => [.assignCst 0 0, .assignCst 1 0]
  | 2 => [.assume [.ub 0 9], .assignVar 0 0 1, .assignVar 1 1 1]
  | 3 => [.assume [.lb 0 (-10)]]
  | _ => []

def C01.RelExample.oprog : Nat → List (Octagon.Stmt 2)
  | 0 => [.assignCst 0 0, .assignCst 1 0]
  | 2 => [.assume [.ub 0 9], .assignVar 0 0 1, .assignVar 1 1 1]
  | 3 => [.assume [.lb 0 (-10)]]
  | _ => []

/-- the zone analysis (split_dbm widening, delay 1, 1 descending iteration) returns, and finds
    `x = y ∧ 0 ≤ x ≤ 10` at the loop head (the bound `x ≤ 10` is lost by the widening and recovered
    by the descending iteration) and `x = y = 10` at the exit -/
example :
    let c := (Zones.splitEng 2).mkCtx C01.RelExample.zprog C01.Example.ctx.preds C01.Example.ctx.nesting 0
      Zones.ZVal.top none 1 1
    ((run c 20 C01.Example.wto).map fun st =>
      ((st.pre 1).map fun z => (Zones.entails z (.diff 0 1 0), Zones.entails z (.diff 1 0 0), Zones.bounds z 0),
       (st.post 3).map fun z => (Zones.entails z (.diff 0 1 0), Zones.bounds z 1))) =
    some (some (true, true, ⟨.fin 0, .fin 10⟩), some (true, ⟨.fin 10, .fin 10⟩)) := by decide +kernel

/-- the same with octagons -/
example :
    let c := (Octagon.eng 2).mkCtx C01.RelExample.oprog C01.Example.ctx.preds C01.Example.ctx.nesting 0
      Octagon.OVal.top none 1 1
    ((run c 20 C01.Example.wto).map fun st =>
      ((st.pre 1).map fun o => (Octagon.entails o (.diff 0 1 0), Octagon.entails o (.diff 1 0 0), Octagon.bounds o 0),
       (st.post 3).map fun o => (Octagon.entails o (.diff 0 1 0), Octagon.bounds o 1))) =
    some (some (true, true, ⟨.fin 0, .fin 10⟩), some (true, ⟨.fin 10, .fin 10⟩)) := by decide +kernel

/-- and the soundness theorem then applies to this run: the ordering is the well-formed one of
    `C01.Example` (same predecessor lists and nesting table) -/
example : WtoWF ((Zones.splitEng 2).mkCtx C01.RelExample.zprog C01.Example.ctx.preds C01.Example.ctx.nesting 0
    Zones.ZVal.top none 1 1) C01.Example.wto :=
  { nodup := C01.Example.wf.nodup, closed := C01.Example.wf.closed, edge := C01.Example.wf.edge,
    entry_mem := C01.Example.wf.entry_mem, nesting_in := C01.Example.wf.nesting_in,
    nesting_out := C01.Example.wf.nesting_out }
