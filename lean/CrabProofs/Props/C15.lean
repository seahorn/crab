import CrabProofs.Lemmas.RegionSmash
import CrabProofs.Lemmas.RegionBaseCst
import CrabProofs.Props.C03

/-!
# C15 — the region / reference domain is sound for loads and reference queries

The models follow the tree AFTER the six C15 fixes (70510e9 .. f6afed4 in /repo).
What is proved here (all statements for every region, reference, value and every base domain
satisfying the laws of `Rgn.Base`):

* `small_range` (the per-region reference counter, `lib/small_range.cpp`): join / widening / meet /
  increment are total and sound; `increment` is sound for the reading the region domain relies
  on (number of references, fix 3175bba), `operator<=` is total and sound (fix 733b6ba).  One statement remains
  false for that reading and stays as `_Statement` / `_partial` / `_counterexample`: `meet`
  (`1(V1) & 1(V2) = bottom`); it is not reachable from `region_domain` answers of CFG programs: see
  the note at the theorem.
* the `RegionSmash` functor (`CrabModel/Dom/RegionSmash.lean`, the smashing rule of
  `region_domain`) preserves the concretisation `Rgn.Gamma` against the concrete heap semantics
  `CrabModel/Dom/RegionSem.lean` for `ref_make`, `ref_gep` (constant offset), `ref_load` (the loaded
  variable contains every value a concrete execution can load from a written cell), `ref_store`,
  `region_copy` (between two different region variables), `ref_free`, join and widening, without
  further hypotheses.
* `is_null_ref` and `get_allocation_sites` answers hold in every state of the concretisation.
* the behaviour before the fixes survives only in `SmallRange.incrementOld` / `SmallRange.leqOld` /
  `RS.refMakeOld`, with the
  counterexamples that motivated the fixes (`*_old_counterexample`).

Not covered by the proofs (compared by the history harness only): unknown regions / region_cast,
offset-size ghost variables, tags, deallocation classes, ref_assume / select_ref, symbolic gep
offsets, the ghost variable manager's renaming, the trivial bottom/top shortcuts.
-/
open Crab Crab.Rgn Crab.Dom

/-! ## small_range -/

theorem C15.smallrange_join_total (a b : SmallRange) : (SmallRange.join a b).isSome = true :=
  SmallRange.join_isSome a b

theorem C15.smallrange_meet_total (a b : SmallRange) : (SmallRange.meet a b).isSome = true :=
  SmallRange.meet_isSome a b

/-- join (and widening, which is the join) is an upper bound: counter reading -/
theorem C15.smallrange_join_sound (a b r : SmallRange) (n : Nat) (h : SmallRange.γ a n ∨ SmallRange.γ b n)
    (hj : SmallRange.join a b = some r) : SmallRange.γ r n := SmallRange.join_sound h hj

theorem C15.smallrange_widen_sound (a b r : SmallRange) (n : Nat) (h : SmallRange.γ a n ∨ SmallRange.γ b n)
    (hj : SmallRange.widen a b = some r) : SmallRange.γ r n := SmallRange.join_sound h hj

/-- join is an upper bound: variable-set reading -/
theorem C15.smallrange_joinV_sound (a b r : SmallRange) (S : Nat → Prop) (h : SmallRange.γV a S ∨ SmallRange.γV b S)
    (hj : SmallRange.join a b = some r) : SmallRange.γV r S := SmallRange.joinV_sound h hj

/-- meet (and narrowing) is a lower bound: variable-set reading -/
theorem C15.smallrange_meetV_sound (a b r : SmallRange) (S : Nat → Prop) (ha : SmallRange.γV a S) (hb : SmallRange.γV b S)
    (hm : SmallRange.meet a b = some r) : SmallRange.γV r S := SmallRange.meetV_sound ha hb hm

/-- `increment(v)` adds `v` to the set of counted variables -/
theorem C15.smallrange_incrementV_sound (a : SmallRange) (S : Nat → Prop) (v : Nat) (h : SmallRange.γV a S) :
    SmallRange.γV (SmallRange.increment a v) (fun x => S x ∨ x = v) := SmallRange.incrementV_sound h

/-- **increment** counts one more object (the statement the region domain needs) -/
theorem C15.smallrange_increment_sound (a : SmallRange) (n v : Nat) (h : SmallRange.γ a n) :
    SmallRange.γ (SmallRange.increment a v) (n + 1) := SmallRange.increment_sound h

/-- the same statement for the increment of the tree before fix 3175bba -/
def C15.smallrange_increment_old_Statement : Prop :=
  ∀ (a : SmallRange) (n v : Nat), SmallRange.γ a n → SmallRange.γ (SmallRange.incrementOld a v) (n + 1)

/-- old behaviour: `1(v)` incremented with the same `v` stayed `1(v)` although two objects are counted -/
theorem C15.smallrange_increment_old_counterexample : ¬ C15.smallrange_increment_old_Statement := by
  intro h
  exact absurd (h (SmallRange.one 0) 1 0 (by decide)) (by decide)

/-- old and fixed increment differ only there -/
theorem C15.smallrange_increment_old_eq (a : SmallRange) (v : Nat) (hne : a ≠ SmallRange.one v) :
    SmallRange.incrementOld a v = SmallRange.increment a v := SmallRange.incrementOld_eq hne

/-- OPEN (small_range alone, not reachable from region_domain answers): the meet is not a lower
    bound for the counter reading.  `region_domain` only meets counters inside `m_rgn_env` of two
    values; `1(V1)` and `1(V2)` with `V1 ≠ V2` for the same region need the single reference of
    the region to have been created by `ref_make`/`ref_gep` with two different assigned variables,
    i.e. by two different statements, hence two different allocation sites / addresses: no concrete
    state lies in both operands, and bottom is the exact meet there (`smallrange_meetV_sound`). -/
def C15.smallrange_meet_Statement : Prop :=
  ∀ (a b r : SmallRange) (n : Nat), SmallRange.γ a n → SmallRange.γ b n → SmallRange.meet a b = some r → SmallRange.γ r n

theorem C15.smallrange_meet_partial (a b r : SmallRange) (n : Nat) (hv : SmallRange.sameVar a b = true)
    (ha : SmallRange.γ a n) (hb : SmallRange.γ b n) (hm : SmallRange.meet a b = some r) : SmallRange.γ r n :=
  SmallRange.meet_sound_partial hv ha hb hm

/-- `1(V1) & 1(V2)` is bottom for `V1 ≠ V2` although both counters are one -/
theorem C15.smallrange_meet_counterexample : ¬ C15.smallrange_meet_Statement := by
  intro h
  exact absurd (h (SmallRange.one 0) (SmallRange.one 1) SmallRange.bottom 1 (by decide) (by decide) (by decide)) (by decide)

/-- **operator<=** never reaches CRAB_ERROR and answers yes only for included values (after fix 733b6ba) -/
theorem C15.smallrange_leq_total (a b : SmallRange) : (SmallRange.leq a b).isSome = true := SmallRange.leq_isSome a b

theorem C15.smallrange_leq_sound (a b : SmallRange) (n : Nat) (h : SmallRange.leq a b = some true)
    (ha : SmallRange.γ a n) : SmallRange.γ b n := SmallRange.leq_sound h ha

theorem C15.smallrange_leqV_sound (a b : SmallRange) (S : Nat → Prop) (h : SmallRange.leq a b = some true)
    (ha : SmallRange.γV a S) : SmallRange.γV b S := SmallRange.leqV_sound h ha

/-- the same statement for `operator<=` of the tree before fix 733b6ba -/
def C15.smallrange_leq_old_Statement : Prop :=
  ∀ (a b : SmallRange) (n : Nat), SmallRange.leqOld a b = some true → SmallRange.γ a n → SmallRange.γ b n

/-- old behaviour: `0 <= bottom` answered yes (and `1(V) <= bottom` raised CRAB_ERROR) -/
theorem C15.smallrange_leq_old_counterexample : ¬ C15.smallrange_leq_old_Statement := by
  intro h
  exact absurd (h SmallRange.zero SmallRange.bottom 0 (by decide) (by decide)) (by decide)

example : SmallRange.leqOld (SmallRange.one 3) SmallRange.bottom = none := by decide
example : SmallRange.leq (SmallRange.one 3) SmallRange.bottom = some false := by decide

example : SmallRange.γ (SmallRange.increment (SmallRange.zeroOrOne 3) 4) 2 := by decide
example : SmallRange.sameVar (SmallRange.one 2) (SmallRange.zeroOrOne 2) = true := by decide

/-! ## the smashing functor -/

/-- **ref_load (integer destination)**: after `x := ref_load(r, g)` the abstract value contains
    every concrete successor, i.e. every value loaded from a written cell -/
theorem C15.regionsmash_load_sound {B : Type} (D : Base B) (A : RS B) (σ σ' : State) (r g x : Nat)
    (hG : Gamma D A σ) (hs : σ.refLoadInt r g x = some σ') : Gamma D (A.refLoad D r g (.ivar x)) σ' :=
  loadInt_sound hG hs

/-- the consequence for the exported interval of the loaded variable -/
theorem C15.regionsmash_load_value {B : Type} (D : Base B) (A : RS B) (σ σ' : State) (r g x : Nat)
    (hG : Gamma D A σ) (hs : σ.refLoadInt r g x = some σ') :
    Itv.mem (σ'.ints x) (D.toItv (A.refLoad D r g (.ivar x)).base (.int x)) := by
  have h := loadInt_sound hG hs
  obtain ⟨c, hc⟩ := sel_exists σ'
  exact D.toItv_sound (.int x) (h.base c 0 hc)

/-- **ref_load (reference destination)** -/
theorem C15.regionsmash_load_ref_sound {B : Type} (D : Base B) (A : RS B) (σ σ' : State) (r g r' : Nat)
    (hG : Gamma D A σ) (hs : σ.refLoadRef r g r' = some σ') : Gamma D (A.refLoad D r g (.rvar r')) σ' :=
  loadRef_sound hG hs

/-- **ref_store** (strong while the region has at most one reference or nothing was written, else weak) -/
theorem C15.regionsmash_store_sound {B : Type} (D : Base B) (A : RS B) (σ σ' : State) (r g : Nat) (v : SVal)
    (tags : List Nat) (hG : Gamma D A σ) (hs : σ.refStore r g (v.eval σ) tags = some σ') :
    Gamma D (A.refStore D r g v) σ' := store_sound hG hs

/-- **ref_make** (fresh block, counter incremented, ghost variables of the reference forgotten) -/
theorem C15.regionsmash_make_sound {B : Type} (D : Base B) (A : RS B) (σ σ' : State) (r g site : Nat) (size : Int)
    (hG : Gamma D A σ) (hs : σ.refMake r g size site = some σ') : Gamma D (A.refMake D r g site) σ' :=
  make_sound hG hs

/-- the statement for the `ref_make` of the tree before the fixes 078ec97 / 3175bba -/
def C15.regionsmash_make_old_Statement : Prop :=
  ∀ (B : Type) (D : Base B) (A : RS B) (σ σ' : State) (r g site : Nat) (size : Int),
    Gamma D A σ → σ.refMake r g size site = some σ' → Gamma D (A.refMakeOld r g site) σ'

/-- the trivial base domain (one value, every valuation) satisfies the laws -/
def C15.unitBase : Base Unit where
  γ := fun _ _ => True
  assign := fun _ _ b => b
  assignC := fun _ _ b => b
  assignAdd := fun _ _ _ b => b
  weakAssign := fun _ _ b => b
  weakAssignC := fun _ _ b => b
  forget := fun _ b => b
  expand := fun _ _ b => b
  join := fun a _ => a
  widen := fun a _ => a
  toItv := fun _ _ => Itv.top
  assign_sound := fun _ _ _ => trivial
  assignC_sound := fun _ _ _ => trivial
  assignAdd_sound := fun _ _ _ _ => trivial
  weakAssign_keep := fun _ _ _ => trivial
  weakAssign_sound := fun _ _ _ => trivial
  weakAssignC_keep := fun _ _ _ => trivial
  weakAssignC_sound := fun _ _ _ => trivial
  forget_sound := fun _ _ _ => trivial
  expand_sound := fun _ _ _ _ _ => trivial
  join_left := fun _ => trivial
  join_right := fun _ => trivial
  widen_left := fun _ => trivial
  widen_right := fun _ => trivial
  toItv_sound := fun _ _ => Itv.mem_top _

/-- a state in which region 0 has exactly one reference, held by r0 -/
def C15.cexState : State where
  ints := fun _ => 0
  itags := fun _ => []
  cond := false
  refs := fun r => if r = 0 then .ptr ⟨0, 0, 1000⟩ else .null
  rtags := fun _ => []
  mems := fun g => if g = 0 then ⟨[], [1000]⟩ else Mem.empty
  blocks := [(0, 1000, 8)]
  freed := []

def C15.cexAbs : RS Unit where
  cnt := fun g => if g = 0 then SmallRange.one 0 else SmallRange.zero
  init := fun _ => true
  sites := fun _ => none
  rsites := fun _ => none
  base := ()

theorem C15.cex_gamma : Gamma C15.unitBase C15.cexAbs C15.cexState := by
  refine Gamma.of_regs (fun g => RegOk.of_unwritten ?_ ?_ ?_) ?_ (fun _ _ _ => trivial)
  · intro a; by_cases hg : g = 0 <;> simp [C15.cexState, hg, Mem.read, Mem.cell, Mem.empty]
  · by_cases hg : g = 0 <;> simp [C15.cexState, hg, Mem.empty]
  · by_cases hg : g = 0 <;> simp [C15.cexState, C15.cexAbs, hg, Mem.empty, SmallRange.γ]
  · intro r p h
    refine ⟨fun S hS => by simp [C15.cexAbs] at hS, ?_⟩
    by_cases hr : r = 0
    · subst hr; simp [C15.cexState] at h; subst h; simp
    · simp [C15.cexState, hr] at h

/-- old behaviour: `r0 := ref_make(g0)` a second time: the region now has two references (the first
    one may still be aliased) but the counter stayed `1(r0)` -/
theorem C15.regionsmash_make_old_counterexample : ¬ C15.regionsmash_make_old_Statement := by
  intro h
  have hs : C15.cexState.refMake 0 0 8 1 = some
      (({ C15.cexState with blocks := (1, 2000, 8) :: C15.cexState.blocks }.setRef 0 (.ptr ⟨0, 1, 2000⟩) []).setMem 0
        ((C15.cexState.mems 0).addMember 2000)) := by
    simp [State.refMake, State.blockOf, C15.cexState]
  have hG := h Unit C15.unitBase C15.cexAbs C15.cexState _ 0 0 1 8 C15.cex_gamma hs
  -- region 0 now has the members `[2000, 1000]`, its counter is still `1(r0)`
  have hmem : (((({ C15.cexState with blocks := (1, 2000, 8) :: C15.cexState.blocks }.setRef 0 (.ptr ⟨0, 1, 2000⟩) []).setMem 0
      ((C15.cexState.mems 0).addMember 2000)).mems 0).members) = [2000, 1000] := by decide
  have hcnt : (C15.cexAbs.refMakeOld 0 0 1).cnt 0 = SmallRange.one 0 := by decide
  have hc := hG.count 0
  rw [hmem, hcnt] at hc
  exact absurd hc (by decide)

/-- the statement for the old `ref_make` once the counter defect is excluded -/
def C15.regionsmash_make_old_addr_Statement : Prop :=
  ∀ (B : Type) (D : Base B) (A : RS B) (σ σ' : State) (r g site : Nat) (size : Int),
    A.cnt g ≠ SmallRange.one r →
    Gamma D A σ → σ.refMake r g size site = some σ' → Gamma D (A.refMakeOld r g site) σ'

/-- every reference null, nothing allocated -/
def C15.nullState : State where
  ints := fun _ => 0
  itags := fun _ => []
  cond := false
  refs := fun _ => .null
  rtags := fun _ => []
  mems := fun _ => Mem.empty
  blocks := []
  freed := []

/-- "r0 is null" over the constant-propagation base -/
def C15.nullAbs : RS CB where
  cnt := fun _ => SmallRange.zeroOrMore
  init := fun _ => true
  sites := fun _ => none
  rsites := fun _ => none
  base := fun x => if x = GVar.ref 0 then some 0 else none

theorem C15.null_gamma : Gamma cstBase C15.nullAbs C15.nullState := by
  refine Gamma.of_regs (fun g => RegOk.of_unwritten ?_ ?_ ?_) ?_ ?_
  · intro a; simp [C15.nullState, Mem.read, Mem.cell, Mem.empty]
  · simp [C15.nullState, Mem.empty]
  · simp [C15.nullAbs, SmallRange.γ]
  · intro r p h; simp [C15.nullState] at h
  · intro c d _ x k hx
    simp only [C15.nullAbs] at hx
    split at hx
    · rename_i hx0; cases hx; subst hx0; simp [valOf, C15.nullState, RefVal.toInt]
    · cases hx

/-- old behaviour: `assume(r0 == NULL); r0 := ref_make(g0)`: the base value still said "r0 is null"
    (the address ghost variable of the assigned reference was not forgotten) -/
theorem C15.regionsmash_make_old_addr_counterexample : ¬ C15.regionsmash_make_old_addr_Statement := by
  intro h
  have hs : C15.nullState.refMake 0 0 8 0 = some
      (({ C15.nullState with blocks := (0, 1000, 8) :: C15.nullState.blocks }.setRef 0 (.ptr ⟨0, 0, 1000⟩) []).setMem 0
        ((C15.nullState.mems 0).addMember 1000)) := by
    simp [State.refMake, State.blockOf, C15.nullState]
  have hG := h CB cstBase C15.nullAbs C15.nullState _ 0 0 0 8 (by simp [C15.nullAbs]) C15.null_gamma hs
  obtain ⟨c, hc⟩ := sel_exists (({ C15.nullState with blocks := (0, 1000, 8) :: C15.nullState.blocks }.setRef 0 (.ptr ⟨0, 0, 1000⟩) []).setMem 0
        ((C15.nullState.mems 0).addMember 1000))
  have hb := hG.base c 0 hc (.ref 0) 0 (by simp [RS.refMakeOld, C15.nullAbs])
  simp [valOf, State.setMem, State.setRef, upd, RefVal.toInt] at hb

/-- the answer of the old model in that state: "definitely null" for a freshly allocated reference;
    the fixed `ref_make` answers "unknown" -/
example : (C15.nullAbs.refMakeOld 0 0 0).isNullRef cstBase 0 = some true := by decide
example : (C15.nullAbs.refMake cstBase 0 0 0).isNullRef cstBase 0 = none := by decide

/-- **ref_gep** with a constant offset -/
theorem C15.regionsmash_gep_sound {B : Type} (D : Base B) (A : RS B) (σ σ' : State) (r1 g1 r2 g2 : Nat) (k : Int)
    (hG : Gamma D A σ) (hs : σ.refGep r1 g1 r2 g2 k = some σ') : Gamma D (A.refGep D r1 g1 r2 g2 k) σ' :=
  gep_sound hG hs

/-- **region_copy** between two different region variables -/
theorem C15.regionsmash_copy_sound {B : Type} (D : Base B) (A : RS B) (σ σ' : State) (l r : Nat) (hlr : l ≠ r)
    (hG : Gamma D A σ) (hs : σ.regionCopy l r = some σ') : Gamma D (A.regionCopy D l r) σ' :=
  copy_sound hlr hG hs

/-- **ref_free** -/
theorem C15.regionsmash_free_sound {B : Type} (D : Base B) (A : RS B) (σ σ' : State) (r g : Nat)
    (hG : Gamma D A σ) (hs : σ.refFree g r = some σ') : Gamma D (A.refFree r) σ' := free_sound hG hs

/-- **join** and **widening** are upper bounds -/
theorem C15.regionsmash_join_sound {B : Type} (D : Base B) (A1 A2 : RS B) (σ : State)
    (h : Gamma D A1 σ ∨ Gamma D A2 σ) : Gamma D (RS.join D A1 A2) σ := join_sound h

theorem C15.regionsmash_widen_sound {B : Type} (D : Base B) (A1 A2 : RS B) (σ : State)
    (h : Gamma D A1 σ ∨ Gamma D A2 σ) : Gamma D (RS.widen D A1 A2) σ := widen_sound h

/-- **is_null_ref**: a definite answer is never wrong -/
theorem C15.nullity_sound {B : Type} (D : Base B) (A : RS B) (σ : State) (r : Nat) (hG : Gamma D A σ) :
    (A.isNullRef D r = some true → σ.refs r = .null) ∧ (A.isNullRef D r = some false → σ.refs r ≠ .null) :=
  isNullRef_sound hG r

/-- **get_allocation_sites**: a reported set contains the actual allocation site -/
theorem C15.alloc_sites_superset {B : Type} (D : Base B) (A : RS B) (σ : State) (r : Nat) (p : Ptr) (S : List Nat)
    (hG : Gamma D A σ) (hr : σ.refs r = .ptr p) (hS : A.getAllocSites r = some S) : p.site ∈ S :=
  hG.sites r p S hr hS

/-- **histories**: any history over a pool of abstract values whose steps are the operations above
    (instances of `Step.Sound` below) keeps every slot above the collecting semantics -/
theorem C15.regionsmash_history_sound {B : Type} (D : Base B) (hist : List (Step (RS B) State))
    (hs : ∀ st ∈ hist, st.Sound (Gamma D)) (p : Pool (RS B)) (c : CPool State)
    (h : ∀ i s, c i s → Gamma D (p i) s) :
    ∀ i s, (collHist c hist) i s → Gamma D ((runHist p hist) i) s :=
  C03.history_sound (Gamma D) hist hs p c h

example {B : Type} (D : Base B) (d r g x : Nat) :
    (Step.trans d ⟨fun A => A.refLoad D r g (.ivar x), fun σ σ' => σ.refLoadInt r g x = some σ'⟩ :
      Step (RS B) State).Sound (Gamma D) := fun _ _ _ hG hs => loadInt_sound hG hs
example {B : Type} (D : Base B) (d r g : Nat) (k : Int) :
    (Step.trans d ⟨fun A => A.refStore D r g (.cst k), fun σ σ' => σ.refStore r g (.int k) [] = some σ'⟩ :
      Step (RS B) State).Sound (Gamma D) := fun _ _ _ hG hs => store_sound (v := .cst k) hG hs
example {B : Type} (D : Base B) (d r g site : Nat) (size : Int) :
    (Step.trans d ⟨fun A => A.refMake D r g site, fun σ σ' => σ.refMake r g size site = some σ'⟩ :
      Step (RS B) State).Sound (Gamma D) := fun _ _ _ hG hs => make_sound hG hs
example {B : Type} (D : Base B) (d r1 g1 r2 g2 : Nat) (k : Int) :
    (Step.trans d ⟨fun A => A.refGep D r1 g1 r2 g2 k, fun σ σ' => σ.refGep r1 g1 r2 g2 k = some σ'⟩ :
      Step (RS B) State).Sound (Gamma D) := fun _ _ _ hG hs => gep_sound hG hs
example {B : Type} (D : Base B) (d a b : Nat) :
    (Step.upper d a b (RS.join D) : Step (RS B) State).Sound (Gamma D) := fun _ _ _ h => join_sound h

/-- non-vacuity: the hypotheses of the load theorem are satisfiable (a state of the concretisation
    with a written cell whose load has a successor) -/
example : ((C15.cexState.setMem 0 ⟨[(1000, ⟨some (.int 5), []⟩)], [1000]⟩).refLoadInt 0 0 1).map (fun σ' => σ'.ints 1) = some 5 := by
  decide +kernel
