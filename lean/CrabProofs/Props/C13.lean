import CrabProofs.Lemmas.WrapInt

/-!
# C13 (part 1) — fixed-width integers follow arithmetic modulo 2^w

Property theorems only (helper lemmas: `CrabProofs/Lemmas/WrapInt.lean`).
`Crab.WrapInt` is the branch-by-branch model of `crab::wrapint` (uint64 arithmetic written out,
`% 2^w` exactly where the code reduces).  `ofBV x` is the wrapint of width `w` holding
`x : BitVec w`; the values `ofBV x` are exactly the reduced wrapints (`C13.reduced_iff_bitvec`),
so "for all reduced operands of width `w`" is "for all `x y : BitVec w`".

Every statement quantifies over all widths `1 ≤ w ≤ 64` and all operands.  Each says that the
model operation returns `some (ofBV (<BitVec operation>))`; since `ofBV _` is reduced, each also
says that the result is reduced.  `none` is CRAB_ERROR or C++ undefined behaviour.

State of the code: after the fixes to ashr, sdiv by -1, keep_lower(63) / sext(0) and to the
shifts by the bitwidth or more, every operation is an equality with `BitVec` for ALL operands
(shift amounts included: `<<` / `lshr` give 0 and `ashr` the sign fill when the amount is the
width or more, which is what `BitVec` does).  What remains is CRAB_ERROR, never a wrong value:
* construction from a big integer outside int64 (documented limit, `C13.ofZ_refuses`);
* division / remainder by zero, width 0 or > 64, widening beyond 64 bits, `keep_lower(0)`,
  operands of different widths.
-/
open Crab Crab.WrapInt

/-- the reduced wrapints of width `w` are exactly the images of `BitVec w` -/
theorem C13.reduced_iff_bitvec (a : WrapInt) : a.Reduced ↔ ∃ x : BitVec a.width, a = ofBV x :=
  reduced_iff_ofBV a
theorem C13.bitvec_wf (w : Nat) (h1 : 1 ≤ w) (hw : w ≤ 64) (x : BitVec w) :
    (ofBV x).WF ∧ (ofBV x).Reduced := ⟨ofBV_wf h1 hw x, ofBV_reduced x⟩

/-! ## construction and conversions -/

/-- `wrapint(uint64_t n, w)` is `n mod 2^w` -/
theorem C13.mk_eq_bitvec (w : Nat) (h1 : 1 ≤ w) (hw : w ≤ 64) (n : Nat) (hn : n < 2 ^ 64) :
    mk? n w = some (ofBV (BitVec.ofNat w n)) := mk?_eq h1 hw n hn
/-- widths 0 and > 64 are refused (CRAB_ERROR) -/
theorem C13.mk_bad_width (w n : Nat) (h : w = 0 ∨ 64 < w) : mk? n w = none := by
  rcases h with h | h
  · subst h; rfl
  · have : ¬ w ≤ 64 := by omega
    simp [mk?, widthOk, this]
/-- `wrapint(z_number z, w)` is `z mod 2^w` (two's complement) for every `z` that fits an int64 … -/
theorem C13.ofZ_eq_bitvec (w : Nat) (h1 : 1 ≤ w) (hw : w ≤ 64) (z : Int)
    (hz : -(2:Int) ^ 63 ≤ z ∧ z ≤ 2 ^ 63 - 1) :
    ofZ? z w = some (ofBV (BitVec.ofInt w z)) := ofZ?_eq h1 hw z ((fitsInt64_iff z).mpr hz)
/-- … and CRAB_ERROR for every other `z` (documented limit, `fits_wrapint`) -/
theorem C13.ofZ_refuses (w : Nat) (z : Int) (hz : ¬ (-(2:Int) ^ 63 ≤ z ∧ z ≤ 2 ^ 63 - 1)) :
    ofZ? z w = none := by
  have : ZNum.fitsInt64 z = false := by
    rw [← Bool.not_eq_true, fitsInt64_iff]; exact hz
  unfold ofZ?; rw [this]; split <;> rfl
theorem C13.fits_wrapint_spec (w : Nat) (z : Int) :
    fitsWrapint z w = true ↔ (w ≤ 64 ∧ -(2:Int) ^ 63 ≤ z ∧ z ≤ 2 ^ 63 - 1) := by
  unfold fitsWrapint
  split
  · exact ⟨fun h => (nomatch h), fun h => by omega⟩
  · rw [fitsInt64_iff]; exact ⟨fun h => ⟨by omega, h⟩, And.right⟩
/-- `get_unsigned_bignum` / `get_signed_bignum` are `toNat` / `toInt` -/
theorem C13.toNat_eq_bitvec (w : Nat) (x : BitVec w) : toUnsigned (ofBV x) = (x.toNat : Int) := rfl
theorem C13.toInt_eq_bitvec (w : Nat) (h1 : 1 ≤ w) (hw : w ≤ 64) (x : BitVec w) :
    toSigned (ofBV x) = some x.toInt := toSigned_ofBV h1 hw x
/-- conversion round trip: integer → wrapint → signed integer is reduction into [-2^(w-1), 2^(w-1)) -/
theorem C13.ofZ_toInt_roundtrip (w : Nat) (h1 : 1 ≤ w) (hw : w ≤ 64) (z : Int)
    (hz : -(2:Int) ^ 63 ≤ z ∧ z ≤ 2 ^ 63 - 1) :
    (ofZ? z w).bind toSigned = some (z.bmod (2 ^ w)) := by
  rw [C13.ofZ_eq_bitvec w h1 hw z hz]
  simp only [Option.bind_some]
  rw [toSigned_ofBV h1 hw, BitVec.toInt_ofInt]
theorem C13.msb_eq_bitvec (w : Nat) (h1 : 1 ≤ w) (hw : w ≤ 64) (x : BitVec w) :
    msb (ofBV x) = x.msb := msb_ofBV h1 hw x
theorem C13.isZero_eq_bitvec (w : Nat) (x : BitVec w) : isZero (ofBV x) = (x == 0) := isZero_ofBV x
/-- `get_signed_max/min`, `get_unsigned_max/min` -/
theorem C13.static_values (w : Nat) (h1 : 1 ≤ w) (hw : w ≤ 64) :
    signedMax? w = some (ofBV (BitVec.intMax w)) ∧ signedMin? w = some (ofBV (BitVec.intMin w)) ∧
    unsignedMax? w = some (ofBV (BitVec.allOnes w)) ∧ unsignedMin? w = some (ofBV (0 : BitVec w)) :=
  ⟨signedMax?_eq h1 hw, signedMin?_eq h1 hw, unsignedMax?_eq h1 hw, unsignedMin?_eq h1 hw⟩

/-! ## ring operations -/

theorem C13.add_eq_bitvec (w : Nat) (hw : w ≤ 64) (x y : BitVec w) :
    add (ofBV x) (ofBV y) = some (ofBV (x + y)) := add_ofBV hw x y
theorem C13.sub_eq_bitvec (w : Nat) (hw : w ≤ 64) (x y : BitVec w) :
    sub (ofBV x) (ofBV y) = some (ofBV (x - y)) := sub_ofBV hw x y
theorem C13.mul_eq_bitvec (w : Nat) (hw : w ≤ 64) (x y : BitVec w) :
    mul (ofBV x) (ofBV y) = some (ofBV (x * y)) := mul_ofBV hw x y
theorem C13.neg_eq_bitvec (w : Nat) (hw : w ≤ 64) (x : BitVec w) :
    neg (ofBV x) = ofBV (-x) := neg_ofBV hw x
/-- `+=`, `-=`, `*=`, `++`, `--` -/
theorem C13.assign_ops_eq_bitvec (w : Nat) (h1 : 1 ≤ w) (hw : w ≤ 64) (x y : BitVec w) :
    addAssign (ofBV x) (ofBV y) = some (ofBV (x + y)) ∧
    subAssign (ofBV x) (ofBV y) = some (ofBV (x - y)) ∧
    mulAssign (ofBV x) (ofBV y) = some (ofBV (x * y)) ∧
    inc (ofBV x) = ofBV (x + 1) ∧ dec (ofBV x) = ofBV (x - 1) :=
  ⟨addAssign_ofBV hw x y, subAssign_ofBV hw x y, mulAssign_ofBV hw x y, inc_ofBV hw x,
   dec_ofBV h1 hw x⟩
/-- operands of different widths are refused (CRAB_ERROR) -/
theorem C13.width_mismatch_is_error (a b : WrapInt) (h : a.width ≠ b.width) :
    add a b = none ∧ sub a b = none ∧ mul a b = none ∧ udiv a b = none ∧ urem a b = none ∧
    sdiv a b = none ∧ srem a b = none ∧ WrapInt.and a b = none ∧ WrapInt.or a b = none ∧
    WrapInt.xor a b = none ∧ shl a b = none ∧ lshr a b = none ∧ ashr a b = none ∧
    lt? a b = none ∧ le? a b = none ∧ eq? a b = none := by
  simp [add, sub, mul, udiv, urem, sdiv, srem, WrapInt.and, WrapInt.or, WrapInt.xor, shl, lshr,
    ashr, lt?, le?, eq?, h]

/-! ## division and remainder -/

theorem C13.udiv_eq_bitvec (w : Nat) (x y : BitVec w) (hy : y ≠ 0) :
    udiv (ofBV x) (ofBV y) = some (ofBV (x / y)) := udiv_ofBV x y hy
theorem C13.urem_eq_bitvec (w : Nat) (x y : BitVec w) (hy : y ≠ 0) :
    urem (ofBV x) (ofBV y) = some (ofBV (x % y)) := urem_ofBV x y hy
theorem C13.srem_eq_bitvec (w : Nat) (h1 : 1 ≤ w) (hw : w ≤ 64) (x y : BitVec w) (hy : y ≠ 0) :
    srem (ofBV x) (ofBV y) = some (ofBV (x.srem y)) := srem_ofBV h1 hw x y hy
/-- a zero divisor is refused by all four (CRAB_ERROR), never a wrong value -/
theorem C13.div_by_zero_is_error (w : Nat) (x : BitVec w) :
    udiv (ofBV x) (ofBV (0 : BitVec w)) = none ∧ urem (ofBV x) (ofBV (0 : BitVec w)) = none ∧
    sdiv (ofBV x) (ofBV (0 : BitVec w)) = none ∧ srem (ofBV x) (ofBV (0 : BitVec w)) = none := by
  simp [udiv, urem, sdiv, srem, isZero]

/-- signed division (`MIN / -1` wraps to `MIN`, as in `BitVec.sdiv`) -/
theorem C13.sdiv_eq_bitvec (w : Nat) (h1 : 1 ≤ w) (hw : w ≤ 64) (x y : BitVec w) (hy : y ≠ 0) :
    sdiv (ofBV x) (ofBV y) = some (ofBV (x.sdiv y)) := sdiv_ofBV h1 hw x y hy

/-! ## bitwise operations -/

theorem C13.and_eq_bitvec (w : Nat) (x y : BitVec w) :
    WrapInt.and (ofBV x) (ofBV y) = some (ofBV (x &&& y)) := by simp [WrapInt.and, ofBV]
theorem C13.or_eq_bitvec (w : Nat) (x y : BitVec w) :
    WrapInt.or (ofBV x) (ofBV y) = some (ofBV (x ||| y)) := by simp [WrapInt.or, ofBV]
theorem C13.xor_eq_bitvec (w : Nat) (x y : BitVec w) :
    WrapInt.xor (ofBV x) (ofBV y) = some (ofBV (x ^^^ y)) := xor_ofBV x y
/-- there is no `operator~`; complement is written `x ^ get_unsigned_max(w)` in the code base -/
theorem C13.not_eq_bitvec (w : Nat) (h1 : 1 ≤ w) (hw : w ≤ 64) (x : BitVec w) :
    (unsignedMax? w).bind (WrapInt.xor (ofBV x)) = some (ofBV (~~~x)) := by
  rw [unsignedMax?_eq h1 hw]
  simp only [Option.bind_some]
  rw [xor_ofBV]
  simp

/-! ## shifts (the amount is a wrapint of the same width; every amount, also ≥ w and ≥ 64) -/

theorem C13.shl_eq_bitvec (w : Nat) (hw : w ≤ 64) (x y : BitVec w) :
    shl (ofBV x) (ofBV y) = some (ofBV (x <<< y)) := shl_ofBV hw x y
theorem C13.lshr_eq_bitvec (w : Nat) (x y : BitVec w) :
    lshr (ofBV x) (ofBV y) = some (ofBV (x >>> y)) := lshr_ofBV x y
theorem C13.ashr_eq_bitvec (w : Nat) (h1 : 1 ≤ w) (hw : w ≤ 64) (x y : BitVec w) :
    ashr (ofBV x) (ofBV y) = some (ofBV (x.sshiftRight' y)) := ashr_ofBV h1 hw x y
/-- an amount of the width or more shifts everything out: 0, or the sign fill for `ashr` -/
theorem C13.shift_amount_ge_width (w : Nat) (h1 : 1 ≤ w) (hw : w ≤ 64) (x y : BitVec w) (hs : w ≤ y.toNat) :
    shl (ofBV x) (ofBV y) = some (ofBV (0 : BitVec w)) ∧
    lshr (ofBV x) (ofBV y) = some (ofBV (0 : BitVec w)) ∧
    ashr (ofBV x) (ofBV y) = some (ofBV (if x.msb then BitVec.allOnes w else 0)) := by
  refine ⟨?_, ?_, ?_⟩
  · rw [shl_ofBV hw, BitVec.shiftLeft_eq', BitVec.shiftLeft_eq_zero hs]; rfl
  · rw [lshr_ofBV, BitVec.ushiftRight_eq', BitVec.ushiftRight_eq_zero hs]; rfl
  · rw [ashr_ofBV h1 hw, BitVec.sshiftRight_eq', bv_ashr_ge x hs]

/-! ## extensions and truncation -/

theorem C13.zext_eq_bitvec (w : Nat) (h1 : 1 ≤ w) (x : BitVec w) (k : Nat) (hk : w + k ≤ 64) :
    zext (ofBV x) k = some (ofBV (x.setWidth (w + k))) := zext_ofBV h1 x k hk
/-- widening beyond 64 bits is refused (CRAB_ERROR) -/
theorem C13.ext_too_wide_is_error (w : Nat) (x : BitVec w) (k : Nat) (hk : 64 < w + k) :
    zext (ofBV x) k = none ∧ sext (ofBV x) k = none := by simp [zext, sext, hk]

theorem C13.sext_eq_bitvec (w : Nat) (h1 : 1 ≤ w) (x : BitVec w) (k : Nat) (hk : w + k ≤ 64) :
    sext (ofBV x) k = some (ofBV (x.signExtend (w + k))) := sext_ofBV h1 x k hk
/-- `keep_lower(k)` for `1 ≤ k < w` is truncation to `k` bits -/
theorem C13.trunc_eq_bitvec (w : Nat) (hw : w ≤ 64) (x : BitVec w) (k : Nat) (h1 : 1 ≤ k) (hk : k < w) :
    keepLower (ofBV x) k = some (ofBV (x.setWidth k)) := keepLower_ofBV hw x k h1 hk
/-- `keep_lower(k)` with `k ≥ w` is the identity, with `k = 0` CRAB_ERROR -/
theorem C13.trunc_edge_cases (w : Nat) (h1 : 1 ≤ w) (x : BitVec w) :
    (∀ k, w ≤ k → keepLower (ofBV x) k = some (ofBV x)) ∧ keepLower (ofBV x) 0 = none := by
  have : ¬ 0 ≥ w := by omega
  exact ⟨fun k hk => by simp [keepLower, hk], by simp [keepLower, this, mk?, widthOk]⟩

/-! ## comparisons -/

/-- `== != < <= > >=` are the unsigned comparisons -/
theorem C13.unsigned_compare_eq_bitvec (w : Nat) (x y : BitVec w) :
    eq? (ofBV x) (ofBV y) = some (x == y) ∧ ne? (ofBV x) (ofBV y) = some (x != y) ∧
    lt? (ofBV x) (ofBV y) = some (x.ult y) ∧ le? (ofBV x) (ofBV y) = some (x.ule y) ∧
    gt? (ofBV x) (ofBV y) = some (y.ult x) ∧ ge? (ofBV x) (ofBV y) = some (y.ule x) := by
  simp only [eq?, ne?, lt?, le?, gt?, ge?, if_true, bne, toNat_beq, BitVec.ult, BitVec.ule, and_self]
/-- signed comparisons are made by the clients on `get_signed_bignum`: they are `slt` / `sle` -/
theorem C13.signed_compare_eq_bitvec (w : Nat) (h1 : 1 ≤ w) (hw : w ≤ 64) (x y : BitVec w) :
    ∃ sx sy, toSigned (ofBV x) = some sx ∧ toSigned (ofBV y) = some sy ∧
      decide (sx < sy) = x.slt y ∧ decide (sx ≤ sy) = x.sle y :=
  ⟨x.toInt, y.toInt, toSigned_ofBV h1 hw x, toSigned_ofBV h1 hw y, rfl, rfl⟩

/-! ## `Reduced` (`_n < 2^w`) is preserved by every operation
(stated on arbitrary operands, not only on `ofBV _`) -/

theorem C13.reduced_preserved_ring (a b r : WrapInt) (hw : a.width ≤ 64)
    (h : add a b = some r ∨ sub a b = some r ∨ mul a b = some r ∨ shl a b = some r ∨
         addAssign a b = some r ∨ r = neg a) : r.Reduced := by
  rcases h with h | h | h | h | h | h
  · exact add_reduced hw h
  · exact sub_reduced hw h
  · exact mul_reduced hw h
  · exact shl_reduced hw h
  · exact addAssign_reduced hw h
  · subst h; exact neg_reduced hw
theorem C13.reduced_preserved_div_bitwise (a b r : WrapInt) (ha : a.Reduced) (hb : b.Reduced)
    (h1 : 1 ≤ a.width) (hw : a.width ≤ 64)
    (h : udiv a b = some r ∨ urem a b = some r ∨ sdiv a b = some r ∨ srem a b = some r ∨
         WrapInt.and a b = some r ∨ WrapInt.or a b = some r ∨ WrapInt.xor a b = some r ∨
         lshr a b = some r ∨ ashr a b = some r) : r.Reduced := by
  rcases h with h | h | h | h | h | h | h | h | h
  · exact udiv_reduced ha h
  · exact urem_reduced ha h
  · exact sdiv_reduced hw h
  · exact srem_reduced h
  · exact and_reduced ha h
  · exact or_reduced ha hb h
  · exact xor_reduced ha hb h
  · exact lshr_reduced ha h
  · exact ashr_reduced ha h1 hw h
theorem C13.reduced_preserved_casts (a r : WrapInt) (k : Nat) (ha : a.Reduced) (hw : a.width ≤ 64)
    (h : zext a k = some r ∨ sext a k = some r ∨ keepLower a k = some r) : r.Reduced := by
  have h64 : a.n < 2 ^ 64 := Nat.lt_of_lt_of_le ha (pow_le_64 hw)
  rcases h with h | h | h
  · exact zext_reduced h64 h
  · exact sext_reduced ha hw h
  · exact keepLower_reduced ha hw h
theorem C13.constructors_reduced (n w : Nat) (z : Int) (r : WrapInt) (hn : n < 2 ^ 64)
    (h : mk? n w = some r ∨ ofZ? z w = some r) : r.Reduced := by
  rcases h with h | h
  · exact mk?_reduced hn h
  · exact ofZ?_reduced h

/-- non-vacuity: the hypotheses are met by concrete non-trivial values and the operations
    compute what the theorems say -/
example : (ofBV 200#8).WF ∧ (ofBV 200#8).Reduced ∧
    add (ofBV 200#8) (ofBV 100#8) = some (ofBV 44#8) ∧
    sdiv (ofBV 128#8) (ofBV 255#8) = some (ofBV 128#8) ∧
    ashr (ofBV 128#8) (ofBV 1#8) = some (ofBV 192#8) ∧
    sdiv (ofBV (BitVec.intMin 64)) (ofBV (BitVec.allOnes 64)) = some (ofBV (BitVec.intMin 64)) ∧
    sext (ofBV 128#8) 8 = some (ofBV 0xFF80#16) ∧
    shl (ofBV 5#16) (ofBV 70#16) = some (ofBV 0#16) ∧ ashr (ofBV 128#8) (ofBV 9#8) = some (ofBV 255#8) ∧
    ofZ? (-129) 8 = some (ofBV 127#8) := by decide
