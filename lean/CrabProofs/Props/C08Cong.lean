import CrabProofs.Lemmas.CongruenceBits

/-!
# C08 (congruences) — `ikos::congruence<z_number>` over-approximates the concrete operations

Property theorems only (helper lemmas live in `CrabProofs/Lemmas/Congruence*.lean`,
`ZNumBits.lean`).  `Crab.Cong` is the branch-by-branch model of the class
(`CrabModel/Scalar/Congruence.lean`); `Cong.mem k c` is `k ∈ γ(c)`: `c` is not bottom and
`c.a ∣ k - c.b` (so `k = c.b` when `c.a = 0`).  Unless a hypothesis `WF` appears, a statement
quantifies over *all* values (any modulus, any residue, also not in standard form, bottom
included) and all integers.

Concrete semantics (fixed by the project): `sdiv`/`srem` truncate (`Int.tdiv`/`Int.tmod`),
a zero divisor has no successor (hypothesis `b ≠ 0`), `shl k` is `* 2^k`, `ashr k`/`lshr k` are
the floor division by `2^k` (`k ≥ 0`; `lshr` only for a non-negative left operand, where it
coincides with `ashr`), `and/or/xor` are `ZNum.land/lor/lxor`.  Shift amounts (and, for `Shl`,
the modulus of the class of amounts) are below `2^64`: `z_number::operator<<` shifts by
`mpz_get_ui` of the amount.

Counterexamples for `<=` (CRAB_ERROR), `&`, `/`, `%`, `Shl` on trees without the "fix:" commits of
`congruence_impl.hpp` are recorded in /verif/corpus/h_cong/defects.ops.
-/
open Crab Crab.Cong

/-! ## standard form -/

/-- the normalising constructor produces the standard form `a ≥ 0`, `0 ≤ b < a` -/
theorem C08.cg_mk_wf (a b : Int) : WF (mk' a b) := wf_mk' a b
/-- and denotes the class it is given -/
theorem C08.cg_mk_exact (a b k : Int) : mem k (mk' a b) ↔ a ∣ k - b := mem_mk' k a b

/-! ## order -/

/-- a yes answer of `operator<=` is an inclusion of concretisations -/
theorem C08.cg_leq_sound (c d : Cong) (h : leq c d = true) (k : Int) (hk : mem k c) : mem k d :=
  leq_sound h hk
/-- `operator<=` decides the inclusion (no hypothesis on the representation) -/
theorem C08.cg_leq_complete (c d : Cong) (h : ∀ k, mem k c → mem k d) : leq c d = true :=
  leq_complete h
theorem C08.cg_leq_refl (c : Cong) : leq c c = true := leq_refl c
theorem C08.cg_bot_leq (c d : Cong) (h : c.isBot = true) : leq c d = true := leq_of_isBot h d
theorem C08.cg_leq_top (c : Cong) : leq c top = true := leq_top c

/-! ## join, widening, narrowing -/

/-- `operator|` is an upper bound -/
theorem C08.cg_join_upper (c d : Cong) (k : Int) (hk : mem k c ∨ mem k d) : mem k (join c d) :=
  hk.elim join_upper_left join_upper_right

/-- `operator||` is an upper bound of both operands -/
theorem C08.cg_widen_upper (c d : Cong) (k : Int) (hk : mem k c ∨ mem k d) : mem k (widen c d) :=
  hk.elim join_upper_left join_upper_right

/-- `operator&&` keeps the common members -/
theorem C08.cg_narrow_sound (c d : Cong) (k : Int) (hc : mem k c) (hd : mem k d) :
    mem k (narrow c d) := narrow_sound hc hd

/-! ## meet -/

/-- `operator&` is exactly the intersection (Chinese remainder through the extended Euclid
    helper `bezout`) -/
theorem C08.cg_meet_exact (c d : Cong) (k : Int) : mem k (meet c d) ↔ (mem k c ∧ mem k d) :=
  ⟨meet_exact, fun ⟨h1, h2⟩ => meet_sound h1 h2⟩

/-- `bezout(x, y, u)` returns a common divisor `g` of `x` and `y` with `x*u ≡ g (mod y)` -/
theorem C08.cg_bezout_spec (x y : Int) :
    (bezout x y).1 ∣ x ∧ (bezout x y).1 ∣ y ∧ y ∣ x * (bezout x y).2 - (bezout x y).1 := bezout_spec x y

/-! ## ring operations -/

theorem C08.cg_add_sound (x y : Cong) (a b : Int) (ha : mem a x) (hb : mem b y) :
    mem (a + b) (add x y) := add_sound ha hb
theorem C08.cg_sub_sound (x y : Cong) (a b : Int) (ha : mem a x) (hb : mem b y) :
    mem (a - b) (sub x y) := sub_sound ha hb
theorem C08.cg_neg_sound (x : Cong) (a : Int) (ha : mem a x) : mem (-a) (neg x) := neg_sound ha
theorem C08.cg_mul_sound (x y : Cong) (a b : Int) (ha : mem a x) (hb : mem b y) :
    mem (a * b) (mul x y) := mul_sound ha hb

/-! ## division and remainder -/

/-- `operator/` (SDiv) contains every truncated quotient -/
theorem C08.cg_div_sound (x y : Cong) (a b : Int) (ha : mem a x) (hb : mem b y) (hb0 : b ≠ 0) :
    mem (Int.tdiv a b) (div x y) := div_sound ha hb hb0

/-- `operator%` (SRem) contains every truncated remainder -/
theorem C08.cg_srem_sound (x y : Cong) (a b : Int) (ha : mem a x) (hb : mem b y) (hb0 : b ≠ 0) :
    mem (Int.tmod a b) (srem x y) := srem_sound ha hb hb0

/-- `UDiv` / `URem` answer top: everything is contained -/
theorem C08.cg_udiv_sound (x y : Cong) (k : Int) : mem k (udiv x y) := mem_top k
theorem C08.cg_urem_sound (x y : Cong) (k : Int) : mem k (urem x y) := mem_top k

/-! ## bitwise operations -/

theorem C08.cg_and_sound (x y : Cong) (a b : Int) (ha : mem a x) (hb : mem b y) :
    mem (ZNum.land a b) (and x y) := and_sound ha hb
theorem C08.cg_or_sound (x y : Cong) (a b : Int) (ha : mem a x) (hb : mem b y) :
    mem (ZNum.lor a b) (or x y) := or_sound ha hb
theorem C08.cg_xor_sound (x y : Cong) (a b : Int) (ha : mem a x) (hb : mem b y) :
    mem (ZNum.lxor a b) (xor x y) := xor_sound ha hb

/-! ## shifts -/

/-- `AShr`: floor division by `2^k` for every non-negative shift amount -/
theorem C08.cg_ashr_sound (x y : Cong) (a k : Int) (ha : mem a x) (hk : mem k y) (hk0 : 0 ≤ k) :
    mem (a / 2 ^ k.toNat) (ashr x y) := ashr_sound ha hk hk0

/-- `LShr`: floor division by `2^k` for shift amounts that fit a machine word (the answer is
    top whenever the left operand is negative, so no sign hypothesis is needed) -/
theorem C08.cg_lshr_sound (x y : Cong) (a k : Int) (ha : mem a x) (hk : mem k y) (hk0 : 0 ≤ k)
    (hk1 : k < 2 ^ 64) : mem (a / 2 ^ k.toNat) (lshr x y) := lshr_sound ha hk hk0 hk1

/-- `Shl`: `a * 2^k` for every member `a` and every non-negative amount `k` of a class of
    amounts in standard form (what the constructor guarantees, `cg_mk_wf`) whose modulus
    fits a machine word -/
theorem C08.cg_shl_sound (x y : Cong) (a k : Int) (hw : WF y) (hya : y.a < 2 ^ 64)
    (ha : mem a x) (hk : mem k y) (hk0 : 0 ≤ k) (hk1 : k < 2 ^ 64) :
    mem (a * 2 ^ k.toNat) (shl x y) :=
  shl_sound_of_safe ha hk hk0 (shlSafe_of_wf hw hya hk hk1)

/-- the standard form is needed: on a class written with a residue outside `[0, a)` the code
    would start from a wrong least amount (`3Z-1`, not constructible through the API) -/
theorem C08.cg_shl_needs_wf : ¬ (∀ (x y : Cong) (a k : Int), mem a x → mem k y → 0 ≤ k → k < 2 ^ 64 →
    mem (a * 2 ^ k.toNat) (shl x y)) := by
  intro h
  exact absurd (h (ofInt 1) ⟨false, 3, -1⟩ 1 2 (by decide) (by decide) (by decide) (by decide)) (by decide)

/-! ## non-vacuity: the hypotheses are met by non-trivial values -/

example : mem 11 (mk' 4 3) ∧ mem (-6) (mk' 3 0) ∧ WF (mk' 4 3) ∧ mul (mk' 4 3) (mk' 3 0) = mk' 3 0 ∧
    join (ofInt 3) (ofInt 7) = mk' 4 3 ∧ join (ofInt (-1)) (ofInt 1) = mk' 2 1 := by
  refine ⟨by decide, by decide, by decide, by decide, by decide, by decide⟩
example : meet (mk' 2 1) (mk' 3 0) = mk' 6 3 ∧ meet (mk' 4 1) (mk' 6 1) = mk' 12 1 ∧
    meet (mk' 4 1) (mk' 6 0) = bot ∧ mem 13 (mk' 4 1) ∧ mem 13 (mk' 6 1) := by
  refine ⟨by decide, by decide, by decide, by decide, by decide⟩
example : div (mk' 6 4) (ofInt 2) = mk' 3 2 ∧ mem (-8) (mk' 6 4) ∧ div (mk' 4 3) (ofInt 2) = top ∧
    srem (mk' 4 3) (ofInt 2) = mk' 2 1 ∧ srem (ofInt 7) (mk' 2 1) = top ∧ leq (mk' 2 0) (ofInt 1) = false := by
  refine ⟨by decide, by decide, by decide, by decide, by decide, by decide⟩
example : WF (mk' 3 2) ∧ mem 5 (mk' 3 2) ∧ shl (ofInt 1) (mk' 3 2) = mk' 28 4 := by
  refine ⟨by decide, by decide, by decide⟩
