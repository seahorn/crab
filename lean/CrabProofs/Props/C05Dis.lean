import CrabProofs.Props.C05Chain
import CrabProofs.Lemmas.DisIntervalChain

/-!
# C05 for `dis_interval<z_number>` — the widening `operator||` satisfies the chain condition

On normalised values (`Dis.WF`, the invariant of the class, preserved by the widening:
`C08.dis_wf_widen`) every widening step `x ↦ x ∇ y` with `y ⋢ x` strictly decreases the measure
`Dis.wmeasure` (7 for bottom, 0 for top, otherwise `1 + 2·(number of bounded sides) + [more than one
interval]`).  This is the repaired widening of commit 2e81953: only the two extreme intervals are
extrapolated; the interior of the left argument is kept when it already covers the right argument,
otherwise the disjunction is given up and the convex hulls are widened.  (Before the fix the
interiors of both arguments were joined and no such measure exists: the chain length was bounded
only by the distance between the extreme intervals.)
-/
open Crab Crab.Dis Crab.Fix

/-- the measure decreases on every strict widening step, and it is at most 7 -/
theorem C05.dis_widen_measure (x y : Dis) (hx : x.WF) (hy : y.WF) (h : leq y x = false) :
    wmeasure (widen x y) < wmeasure x ∧ wmeasure x ≤ 7 :=
  ⟨widen_measure hx hy h, wmeasure_le x⟩

/-- **chain condition**: no infinite sequence `x₀, x₁ = x₀ ∇ y₀, x₂ = x₁ ∇ y₁, …` of normalised
    values with every `yᵢ` not below `xᵢ` -/
theorem C05.dis_widen_wf :
    WellFounded (fun x' x : Dis => x.WF ∧ ∃ y, y.WF ∧ leq y x = false ∧ x' = widen x y) := by
  apply Subrelation.wf (r := InvImage (· < ·) wmeasure)
  · rintro x' x ⟨hx, y, hy, hle, rfl⟩
    exact widen_measure hx hy hle
  · exact InvImage.wf wmeasure Nat.lt_wfRel.wf

/-- the values of the class: those that satisfy the invariant, with the order test and the
    widening restricted to them -/
def C05.DisVal : Type := { x : Dis // x.WF }
def C05.disLeq (y x : C05.DisVal) : Bool := leq y.1 x.1
def C05.disWiden (x y : C05.DisVal) : C05.DisVal := ⟨widen x.1 y.1, widenWith_wf wop_widen x.2 y.2⟩

/-- the same through the generic lemma of `C05Chain`: the strict steps of (`<=`, `||`) are well founded -/
theorem C05.dis_strictStep_wf : WellFounded (C05.StrictStep C05.disLeq C05.disWiden) :=
  C05.strictStep_wf_of_measure C05.disLeq C05.disWiden (· < ·) Nat.lt_wfRel.wf
    (fun x => wmeasure x.1) (fun x y h => widen_measure x.2 y.2 h)

/-- in the form the fixpoint engine uses (`Fix.WidenStep`): every context whose order test and
    widening are those of the class satisfies the hypothesis of `C05.run_terminates` -/
theorem C05.dis_widenStep_wf (c : Ctx C05.DisVal) (hleq : c.ops.leq = C05.disLeq)
    (hw : c.ops.widen = C05.disWiden) : WellFounded (WidenStep c) := by
  rw [C05.widenStep_eq, hleq, hw]
  exact C05.dis_strictStep_wf

/-- along any sequence `xₙ₊₁ = xₙ ∇ yₙ` of normalised values a covered argument (`yₙ ⊑ xₙ`, the test
    on which the iterator stops) occurs within the first 8 steps -/
theorem C05.dis_chain_first_stationary (xs ys : Nat → C05.DisVal)
    (hstep : ∀ n, xs (n + 1) = C05.disWiden (xs n) (ys n)) :
    ∃ n, n ≤ 7 ∧ C05.disLeq (ys n) (xs n) = true := by
  obtain ⟨n, hn, h⟩ := C05.chain_first_stationary C05.disLeq C05.disWiden (fun x => wmeasure x.1)
    (fun x y h => widen_measure x.2 y.2 h) xs ys hstep
  exact ⟨n, Nat.le_trans hn (wmeasure_le _), h⟩

/-- non-vacuity: strict steps exist (an extreme interval extrapolated; a growing interior that
    makes the widening give up the disjunction) -/
example :
    let x : Dis := ⟨.fin, [⟨.fin 0, .fin 1⟩, ⟨.fin 4, .fin 4⟩, ⟨.fin 9, .fin 9⟩]⟩
    let y : Dis := ⟨.fin, [⟨.fin 0, .fin 1⟩, ⟨.fin 4, .fin 5⟩, ⟨.fin 9, .fin 9⟩]⟩
    x.WF ∧ y.WF ∧ leq y x = false ∧ widen x y = ⟨.fin, [⟨.fin 0, .fin 9⟩]⟩ ∧
    leq y (widen x y) = true := by
  intro x y
  decide +kernel
