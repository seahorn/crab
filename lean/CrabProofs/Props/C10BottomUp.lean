import CrabProofs.Lemmas.InterTDSound
import CrabProofs.Lemmas.InterCrossShare
import CrabProofs.Lemmas.InterWto
import CrabProofs.Props.C07Fix
import CrabProofs.Lemmas.InterCex

/-!
# C10 — the summary-based (bottom-up + top-down) analysis is sound

Model: `CrabModel/Inter/BottomUp.lean` (`analyze` = `bottom_up_inter_analyzer::run`), concrete
semantics: the call-stack machine of `CrabModel/Inter/ISemantics.lean`.  Every theorem is for all
programs (any number of functions, any call graph, recursion included: the code treats it by
havoc / `top` contexts, and so do the proofs), all abstract domains satisfying the contract
`IDom` (+ `RenameSound` for the bottom-up domain), all fixpoint parameters.

* `C10.bu_call_sound`, `C10.td_call_sound` — (b) the call transformers of the two phases;
* `C10.summary_sound` — (a) every stored summary contains the (inputs, outputs) of every returned
  call of every execution; induction over the processing order `Justified.phase`;
* `C10.td_context_sound_partial` — (c) the entry value of every analysed function contains the frame
  of every call (invariant of the top-down order: `RunInv.step`), under `callsSeqOK` (finding F29, `[xshare]`);
* `C10.analysis_sound_partial` — (d) `get_pre` / `get_post` contain every reachable frame;
* `C10.td_context_sound_Statement`, `C10.analysis_sound_Statement` (the same without `callsSeqOK`) are
  FALSE: `C10.td_context_sound_counterexample`, `C10.analysis_sound_counterexample` (`f(v0, v1)` called
  as `f(v1, v0)`, constant propagation); `C10.callsSeqOK_of_not_crossShare`: the hypothesis holds for every
  program the driver does not tag `[xshare]`;
* non-vacuity: `C10.Ex` (a two-function program; the collecting domain, `cstDom` for `get_pre`): all hypotheses hold and the
  theorems yield concrete facts about every execution.

Frames are related to abstract values by `EnvIn` (every total state extending the frame is
described).  The intra-procedural solver is `Fix.run`; its soundness is `C01.run_sound`, its
hypothesis `WtoWF` is `WtoHyp` here (`C10.crab_wto_ok`: it holds for the orderings of `ikos::wto`).
-/
open Crab Crab.Inter Crab.Fix

/-- (b) `bu_summ_abs_transformer::exec(callsite)`: reuse of the summary if there is one, havoc of
    the lhs otherwise.  `env` = the caller's frame at a well-formed call site, described by `a`;
    the callee returns `ov`, and when it has a summary the summary describes this call. -/
theorem C10.bu_call_sound (p : IProg) (hwf : p.wf = true) (hsc : p.scoped = true) (D : IDom)
    (hren : D.toAbsDom.RenameSound) (T : SumTable D) (hT : TableDecl p T)
    (f : IFun) (h : Nat) (lhs args : List Var) (hS : StmtOK p f (.call h lhs args))
    (a : D.A) (env : Env) (ov : List Int) (hsz : env.size = p.nv) (ha : EnvIn D.toAbsDom a env)
    (hcr : ∀ s, T h = some s → SumHolds s (args.map (fun x => env.getD x 0)) ov) :
    EnvIn D.toAbsDom (buCall D p.nv T h lhs args a) (setMany env lhs ov) :=
  buCall_sound (progOK_of_wf hwf hsc) D hren T hT f h lhs args a env ov hS hsz ha hcr

/-- (b) for the top-down phase: `td_summ_abs_transformer::exec(callsite)` (continuation) -/
theorem C10.td_call_sound (p : IProg) (hwf : p.wf = true) (hsc : p.scoped = true) (BU TD : IDom)
    (cv : Conv BU TD) (hren : BU.toAbsDom.RenameSound) (T : SumTable BU) (hT : TableDecl p T)
    (f : IFun) (h : Nat) (lhs args : List Var) (hS : StmtOK p f (.call h lhs args))
    (a : TD.A) (env : Env) (ov : List Int) (hsz : env.size = p.nv) (ha : EnvIn TD.toAbsDom a env)
    (hcr : ∀ s, T h = some s → SumHolds s (args.map (fun x => env.getD x 0)) ov) :
    EnvIn TD.toAbsDom (tdCall BU TD cv p.nv T h lhs args a) (setMany env lhs ov) :=
  tdCall_sound (progOK_of_wf hwf hsc) BU TD cv hren T hT f h lhs args a env ov hS hsz ha hcr

/-- (a) Every summary stored by the bottom-up phase contains every (inputs, outputs) pair of a
    returned call: `r` is a call record of an execution that starts `g` in isolation with the
    inputs `iv` (`g = main`, `iv = []`: the executions of the program), `s` the summary of the
    returning function; every state giving the formal inputs / outputs the recorded values is in
    `γ s.sum`.  `order` is any list of functions (the reverse topological order in the code:
    only precision depends on it). -/
theorem C10.summary_sound (p : IProg) (hwf : p.wf = true) (hsc : p.scoped = true) (D : IDom)
    (hren : D.toAbsDom.RenameSound) (cfg : FixCfg) (hw : WtoHyp D p cfg) (order : List Nat)
    (T : SumTable D) (hrun : buPhase D p cfg order (fun _ => none) = some T)
    (ch : Choices) (g : Nat) (iv : List Int) (hg : g < p.funs.size)
    (hiv : iv.length = (p.fn g).ins.length ∨ g = p.main)
    (fuel : Nat) (r : CallRec) (hr : r ∈ (runFrom p ch fuel (callConfig p ch g iv)).tr.calls)
    (s : Summary D) (hs : T r.fn = some s) (ρ : St)
    (hin : MatchVals (p.fn r.fn).ins r.ins ρ) (hout : MatchVals (p.fn r.fn).outs r.outs ρ) :
    D.γ s.sum ρ := by
  have hP := progOK_of_wf hwf hsc
  obtain ⟨Tg, hJ⟩ := Justified.phase order _ T _ (Justified.empty D p cfg) hrun
  have h0 : Inv p (buSpec p T Tg) (callConfig p ch g iv) :=
    Inv.start hP ch g iv hg hiv (fun _ => mkFrame_env_size p ch 0 g iv)
  have hinv := bu_inv_run hP hren hw hJ ch fuel _ h0
  obtain ⟨hh, hl⟩ := bu_recs hP hren hw hJ _ hinv r hr s hs
  obtain ⟨hi, ho⟩ := hJ.decl _ _ hs
  exact SumHolds.gamma hh hl ρ (by rw [hi]; exact hin) (by rw [ho]; exact hout)

/-- (a) for the executions of the program from `main` -/
theorem C10.summary_sound_main (p : IProg) (hwf : p.wf = true) (hsc : p.scoped = true) (D : IDom)
    (hren : D.toAbsDom.RenameSound) (cfg : FixCfg) (hw : WtoHyp D p cfg) (order : List Nat)
    (T : SumTable D) (hrun : buPhase D p cfg order (fun _ => none) = some T)
    (ch : Choices) (fuel : Nat) (r : CallRec) (hr : r ∈ (run p ch fuel).tr.calls)
    (s : Summary D) (hs : T r.fn = some s) (ρ : St)
    (hin : MatchVals (p.fn r.fn).ins r.ins ρ) (hout : MatchVals (p.fn r.fn).outs r.outs ρ) :
    D.γ s.sum ρ := by
  exact C10.summary_sound p hwf hsc D hren cfg hw order T hrun ch p.main [] (main_lt hwf) (Or.inr rfl) fuel r
    (by rw [← initConfig_eq]; exact hr) s hs ρ hin hout

/-- (c) The entry value a function was analysed with in the top-down phase (the joined calling
    context read from `call_ctx_table`, `init` for the root, `top` joined in for recursive
    components) contains the frame of every call: whenever an execution from `main` is about to
    execute a call site of `h`, the frame the call creates is described by the entry value of `h`.
    Excluding hypothesis: `callsSeqOK` (the formals are wired one after the other). -/
theorem C10.td_context_sound_partial (p : IProg) (hwf : p.wf = true) (hsc : p.scoped = true)
    (hseqok : p.callsSeqOK = true) (BU TD : IDom) (cv : Conv BU TD) (hren : BU.toAbsDom.RenameSound)
    (cfg : FixCfg) (hwBU : WtoHyp BU p cfg) (hwTD : WtoHyp TD p cfg) (comps : List (List Nat))
    (hord : orderOK p comps = true) (init : TD.A) (extra : Nat → List (Nat × TD.A)) (res : BUResult BU TD)
    (hrun : analyze BU TD cv p cfg comps init extra = some res)
    (ch : Choices) (hinit : InitOK p TD init (rootFn p comps) ch)
    (fuel : Nat) (fr : Frame) (rest : List Frame) (h : Nat) (lhs args : List Var)
    (hst : (run p ch fuel).stack = fr :: rest)
    (hs : ((p.fn fr.fn).blk fr.blk).stmts.getD fr.pc default = .call h lhs args)
    (e : TD.A) (he : res.td.entry h = some e) :
    EnvIn TD.toAbsDom e (mkFrame p ch (run p ch fuel).ci h (args.map (fun a => fr.env.getD a 0))).env := by
  have hP := progOK_of_wf hwf hsc
  obtain ⟨l, hF, _, hentry, hinv⟩ :=
    td_core hP (main_lt hwf) hseqok hren hwBU hwTD hrun hord ch hinit
  have hc := hinv fuel
  have hfrm : fr ∈ (run p ch fuel).stack := by rw [hst]; exact List.mem_cons_self ..
  have hok := hc.frames fr hfrm
  have hpc : fr.pc < ((p.fn fr.fn).blk fr.blk).stmts.size := by
    by_cases hpc : fr.pc < ((p.fn fr.fn).blk fr.blk).stmts.size
    · exact hpc
    · exfalso
      rw [Array.getD_eq_getD_getElem?, Array.getElem?_eq_none (Nat.le_of_not_lt hpc)] at hs
      cases hs
  have hS := (hP fr.fn hok.1).stmts fr.blk fr.pc hpc
  rw [hs] at hS
  have hh : h < p.funs.size := hS.2.2.1
  have hcov := hF.covAll h (hF.entryCov h e he)
  exact (hentry fr.fn h fr.blk fr.pc fr.env lhs args _ _ hok.1 hcov (hc.loc fr hfrm) hpc hs hok.2.1
    (mkFrame_env_size p ch _ h _) (mkFrame_match p ch _ h _ (hP h hh).ins_nodup (hP h hh).ins_lt)).2 e he

/-- (d) The invariants reported by the analysis contain every reachable frame: every event
    `(function, block, at entry / at exit, frame)` of every execution from `main` is described by
    `get_pre` / `get_post` of that block (`top` for functions that were not analysed). -/
theorem C10.analysis_sound_partial (p : IProg) (hwf : p.wf = true) (hsc : p.scoped = true)
    (hseqok : p.callsSeqOK = true) (BU TD : IDom) (cv : Conv BU TD) (hren : BU.toAbsDom.RenameSound)
    (cfg : FixCfg) (hwBU : WtoHyp BU p cfg) (hwTD : WtoHyp TD p cfg) (comps : List (List Nat))
    (hord : orderOK p comps = true) (init : TD.A) (extra : Nat → List (Nat × TD.A)) (res : BUResult BU TD)
    (hrun : analyze BU TD cv p cfg comps init extra = some res)
    (ch : Choices) (hinit : InitOK p TD init (rootFn p comps) ch)
    (fuel : Nat) (e : Event) (he : e ∈ (run p ch fuel).tr.events) :
    EnvIn TD.toAbsDom (if e.atExit then res.post e.fn e.blk else res.pre e.fn e.blk) e.env := by
  have hP := progOK_of_wf hwf hsc
  obtain ⟨l, hF, hT, _, hinv⟩ :=
    td_core hP (main_lt hwf) hseqok hren hwBU hwTD hrun hord ch hinit
  obtain ⟨hlt, hev⟩ := (hinv fuel).evs e he
  unfold BUResult.pre BUResult.post
  cases hi : res.td.invs e.fn with
  | none =>
    simp only
    split <;> exact envIn_top TD _
  | some st =>
    simp only
    obtain ⟨_, hloc⟩ := hev ⟨st, hi⟩
    have hat := td_at_sound BU TD cv cfg res.sums init hP hren hwTD hT hF hlt hi hloc
    by_cases hx : e.atExit = true
    · simp only [hx, if_true] at hat ⊢
      exact hat.2.2 trivial
    · simp only [hx] at hat ⊢
      simpa [execPrefix] using hat.1

/-- the orderings built by `ikos::wto` (model `Wto.build`, theorem `C07.build_wf`) satisfy the
    hypothesis of the theorems, for every well-formed program -/
theorem C10.crab_wto_ok (p : IProg) (hwf : p.wf = true) (D : IDom) (fuel delay descending : Nat) :
    WtoHyp D p (crabWto p fuel delay descending) := by
  intro g hg analyze init
  obtain ⟨h1, h2⟩ := wf_graph hwf hg
  have := C07.build_fix_wtowf (p.fn g).graph h1 0 h2
    (mkCtx D (crabWto p fuel delay descending) g (p.fn g) analyze init) ?_ rfl rfl
  · simpa [crabWto, wtoCompL_eq] using this
  · intro b n hb
    simp only [mkCtx, IFun.preds, List.mem_filter] at hb
    simpa [IFun.graph] using hb.2

/-! ### the excluded case: call sites that share names across positions -/

/-- the excluding hypothesis of (c) / (d) holds whenever no call site shares a name with the
    callee's declaration at another position (`IProg.crossShare`, the driver's tag `[xshare]`) -/
theorem C10.callsSeqOK_of_not_crossShare (p : IProg) (h : p.crossShare = false) : p.callsSeqOK = true :=
  Crab.Inter.callsSeqOK_of_not_crossShare p h

/-- (c) without the hypothesis `callsSeqOK`.  FALSE for the code as it is (finding F29, driver tag
    `[xshare]`): `td_summ_abs_transformer::exec` wires `formals := actuals` one after the other. -/
def C10.td_context_sound_Statement : Prop :=
  ∀ (p : IProg), p.wf = true → p.scoped = true →
  ∀ (BU TD : IDom) (cv : Conv BU TD), BU.toAbsDom.RenameSound →
  ∀ (cfg : FixCfg), WtoHyp BU p cfg → WtoHyp TD p cfg →
  ∀ (comps : List (List Nat)), orderOK p comps = true →
  ∀ (init : TD.A) (extra : Nat → List (Nat × TD.A)) (res : BUResult BU TD),
    analyze BU TD cv p cfg comps init extra = some res →
  ∀ (ch : Choices), InitOK p TD init (rootFn p comps) ch →
  ∀ (fuel : Nat) (fr : Frame) (rest : List Frame) (h : Nat) (lhs args : List Var),
    (run p ch fuel).stack = fr :: rest →
    ((p.fn fr.fn).blk fr.blk).stmts.getD fr.pc default = .call h lhs args →
  ∀ (e : TD.A), res.td.entry h = some e →
    EnvIn TD.toAbsDom e (mkFrame p ch (run p ch fuel).ci h (args.map (fun a => fr.env.getD a 0))).env

/-- the collecting domain as an `IDom`: sets of total states, every operation is the exact image
    (`rename` answers `top`, which is sound) -/
def C10.collIDom : IDom where
  toAbsDom := collDom
  bot := fun _ => False
  widen := fun a b σ => a σ ∨ b σ
  narrow := fun a b σ => a σ ∧ b σ
  stmt := fun a s σ' => ∃ σ, a σ ∧ StStep s σ σ'
  widen_left := fun h => Or.inl h
  widen_right := fun h => Or.inr h
  narrow_sound := fun h1 h2 => ⟨h1, h2⟩
  stmt_sound := fun {_ σ _} _ h hs => ⟨σ, h, hs⟩

theorem C10.collIDom_rename : C10.collIDom.toAbsDom.RenameSound := fun _ _ _ _ _ _ _ _ => trivial

namespace C10.Cex

/-- `main: v0 := 10; v1 := 20; v3 := f(v1, v0)`   `f(v0, v1) -> v2: v2 := v0` -/
def prog : IProg :=
  { nv := 4, main := 0,
    funs := #[
      { name := "main", ins := [], outs := [],
        blocks := #[{ stmts := #[.assign 0 ⟨10, []⟩, .assign 1 ⟨20, []⟩, .call 1 [3] [1, 0]], succs := #[] }] },
      { name := "f", ins := [0, 1], outs := [2],
        blocks := #[{ stmts := #[.assign 2 ⟨0, [(1, 0)]⟩], succs := #[] }] }] }

def cfg : FixCfg := crabWto prog 20 1 1

def ch0 : Choices := fun _ => 0

/-- the frame of `main` at the call site -/
def frame : Frame := (run prog ch0 2).stack.headD default

/-- the frame the call creates -/
def fenv : Env := (mkFrame prog ch0 (run prog ch0 2).ci 1 ([1, 0].map (fun a => frame.env.getD a 0))).env

end C10.Cex

open C10.Cex in
theorem C10.Cex.prog_ok : prog.wf = true ∧ prog.scoped = true ∧ orderOK prog [[1], [0]] = true := by
  decide +kernel

open C10.Cex in
/-- over `cstDom` the analysis enters `f` with `v1 = 20` and reports it at the entry block of `f`
    (both formals received the value of the caller's `v1`) -/
theorem C10.Cex.res_v1 :
    (analyze cstDom cstDom (Conv.same _) prog cfg [[1], [0]] cstDom.top (fun _ => [])).map
      (fun r => ((r.td.entry 1).map (· 1), r.pre 1 0 1)) = some (some (some 20), some 20) := by
  decide +kernel

open C10.Cex in
/-- in the execution `f` is entered with `v1 = 10` -/
theorem C10.Cex.fenv_v1 : fenv.getD 1 0 = 10 := by decide +kernel

open C10.Cex in
theorem C10.td_context_sound_counterexample : ¬ C10.td_context_sound_Statement := by
  intro hS
  obtain ⟨res, hres, hv⟩ := Option.map_eq_some_iff.mp res_v1
  obtain ⟨e, he, he1⟩ := Option.map_eq_some_iff.mp (Prod.mk.inj hv).1
  have hc := hS prog prog_ok.1 prog_ok.2.1 cstDom cstDom (Conv.same _) cstDom_rename cfg
    (C10.crab_wto_ok prog prog_ok.1 _ 20 1 1) (C10.crab_wto_ok prog prog_ok.1 _ 20 1 1) [[1], [0]] prog_ok.2.2
    cstDom.top (fun _ => []) res hres ch0 (Or.inl (fun _ _ => envIn_top cstDom _))
    2 frame [] 1 [3] [1, 0] rfl rfl e he
  exact absurd ((cstDom_envIn hc he1).symm.trans fenv_v1) (by decide)

/-- (d) without `callsSeqOK`: FALSE as well (the callee is analysed from the wrong entry value) -/
def C10.analysis_sound_Statement : Prop :=
  ∀ (p : IProg), p.wf = true → p.scoped = true →
  ∀ (BU TD : IDom) (cv : Conv BU TD), BU.toAbsDom.RenameSound →
  ∀ (cfg : FixCfg), WtoHyp BU p cfg → WtoHyp TD p cfg →
  ∀ (comps : List (List Nat)), orderOK p comps = true →
  ∀ (init : TD.A) (extra : Nat → List (Nat × TD.A)) (res : BUResult BU TD),
    analyze BU TD cv p cfg comps init extra = some res →
  ∀ (ch : Choices), InitOK p TD init (rootFn p comps) ch →
  ∀ (fuel : Nat) (e : Event), e ∈ (run p ch fuel).tr.events →
    EnvIn TD.toAbsDom (if e.atExit then res.post e.fn e.blk else res.pre e.fn e.blk) e.env

open C10.Cex in
theorem C10.analysis_sound_counterexample : ¬ C10.analysis_sound_Statement := by
  intro hS
  obtain ⟨res, hres, hv⟩ := Option.map_eq_some_iff.mp res_v1
  have hev : (⟨1, 0, false, fenv⟩ : Event) ∈ (run prog ch0 3).tr.events := Array.mem_push_self
  have hc := hS prog prog_ok.1 prog_ok.2.1 cstDom cstDom (Conv.same _) cstDom_rename cfg
    (C10.crab_wto_ok prog prog_ok.1 _ 20 1 1) (C10.crab_wto_ok prog prog_ok.1 _ 20 1 1) [[1], [0]] prog_ok.2.2
    cstDom.top (fun _ => []) res hres ch0 (Or.inl (fun _ _ => envIn_top cstDom _)) 3 _ hev
  exact absurd ((cstDom_envIn hc (Prod.mk.inj hv).2).symm.trans fenv_v1) (by decide)

/-! ### non-vacuity: a two-function program analysed with the collecting domain (and with `cstDom` for `get_pre`) -/

-- each definition sits in `namespace C10.Ex`; the theorems that evaluate it follow it under their full names
namespace C10.Ex

/-- `main: v2 := 5; v3 := f(v2)`   `f(v0) -> v1: v1 := v0 + 1` -/
def prog : IProg :=
  { nv := 4, main := 0,
    funs := #[
      { name := "main", ins := [], outs := [],
        blocks := #[{ stmts := #[.assign 2 ⟨5, []⟩, .call 1 [3] [2]], succs := #[] }] },
      { name := "f", ins := [0], outs := [1],
        blocks := #[{ stmts := #[.bin .add 1 0 (.cst 1)], succs := #[] }] }] }

def cfg : FixCfg := crabWto prog 20 1 1

def sums : SumTable C10.collIDom := (buPhase C10.collIDom prog cfg [1, 0] (fun _ => none)).getD (fun _ => none)

end C10.Ex

open C10.Ex in
theorem C10.Ex.sums_eq : buPhase C10.collIDom prog cfg [1, 0] (fun _ => none) = some sums :=
  eq_some_getD _ (by decide +kernel)

namespace C10.Ex

def sumF : Summary C10.collIDom := (sums 1).getD ⟨fun _ => True, [], []⟩

end C10.Ex

open C10.Ex in
theorem C10.Ex.sumF_eq : sums 1 = some sumF := eq_some_getD _ (by decide +kernel)

namespace C10.Ex

def res : BUResult C10.collIDom C10.collIDom :=
  (analyze C10.collIDom C10.collIDom (Conv.same _) prog cfg [[1], [0]] C10.collIDom.top (fun _ => [])).getD
    ⟨fun _ => none, TDState.empty _⟩

end C10.Ex

open C10.Ex in
theorem C10.Ex.res_eq : analyze C10.collIDom C10.collIDom (Conv.same _) prog cfg [[1], [0]] C10.collIDom.top
    (fun _ => []) = some res := eq_some_getD _ (by decide +kernel)

open C10.Ex in
theorem C10.Ex.prog_wf : prog.wf = true := by decide +kernel

open C10.Ex in
theorem C10.Ex.prog_scoped : prog.scoped = true := by decide +kernel

open C10.Ex in
theorem C10.Ex.prog_seqok : prog.callsSeqOK = true := by decide +kernel

open C10.Ex in
/-- the hypotheses of (a) hold for the example and the theorem says something: in every execution,
    every returned call of `f` has output = input + 1 (read off the stored summary) -/
example (ch : Choices) (fuel : Nat) (r : CallRec) (hr : r ∈ (run prog ch fuel).tr.calls) (hf : r.fn = 1)
    (i o : Int) (hi : r.ins = [i]) (ho : r.outs = [o]) : o = i + 1 := by
  have h := C10.summary_sound_main prog prog_wf prog_scoped C10.collIDom C10.collIDom_rename cfg
    (C10.crab_wto_ok prog prog_wf _ 20 1 1) [1, 0] sums sums_eq ch fuel r hr sumF (by rw [hf]; exact sumF_eq)
    (fun v => if v = 0 then i else o) (by rw [hf, hi]; exact ⟨rfl, trivial⟩) (by rw [hf, ho]; exact ⟨rfl, trivial⟩)
  obtain ⟨σ, ⟨σ0, _, hst⟩, hp⟩ := h
  have h0 : i = σ 0 := hp 0 (by decide)
  have h1 : o = σ 1 := hp 1 (by decide)
  have hst' : σ = σ0.upd 1 (σ0 0 + 1) := hst
  rw [h0, h1, hst', St.upd_same, St.upd_other _ _ (by decide)]

open C10.Ex in
/-- the hypotheses of (c) / (d) hold for the example and the theorem says something: in every
    execution, `f` is entered with `v0 = 5` (read off the reported pre-invariant of its entry block) -/
example (ch : Choices) (fuel : Nat) (e : Event) (he : e ∈ (run prog ch fuel).tr.events) (hf : e.fn = 1)
    (hb : e.blk = 0) (hx : e.atExit = false) : e.env.getD 0 0 = 5 := by
  -- over `cstDom` the analysis reports `v0 = 5` at the entry block of `f`
  have hv0 : (analyze cstDom cstDom (Conv.same _) prog cfg [[1], [0]] cstDom.top (fun _ => [])).map
      (fun r => r.pre 1 0 0) = some (some 5) := by decide +kernel
  obtain ⟨res, hres, hv⟩ := Option.map_eq_some_iff.mp hv0
  have h := C10.analysis_sound_partial prog prog_wf prog_scoped prog_seqok cstDom cstDom (Conv.same _)
    cstDom_rename cfg (C10.crab_wto_ok prog prog_wf _ 20 1 1) (C10.crab_wto_ok prog prog_wf _ 20 1 1)
    [[1], [0]] (by decide) cstDom.top (fun _ => []) res hres ch (Or.inl (fun _ _ => envIn_top cstDom _))
    fuel e he
  rw [hf, hb, hx] at h
  exact cstDom_envIn h hv
