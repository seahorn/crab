import CrabProofs.Lemmas.WIntSDiv
import CrabProofs.Lemmas.WIntShift
import CrabProofs.Lemmas.WIntExt
import CrabProofs.Lemmas.WIntMul
import CrabProofs.Props.C13WInt

/-!
# C13 (part 3) — wrapped intervals: the remaining operations, at full strength

Property theorems only (helper lemmas: `CrabProofs/Lemmas/WIntPoles.lean`, `WIntUDiv.lean`,
`WIntExt.lean`, `WIntTrunc.lean`, `WIntShift.lean`, `WIntConv.lean`, `WIntMul.lean`, `WIntSDiv.lean`).
`Crab.WInt` is the branch-by-branch model of `crab::domains::wrapped_interval<z_number>`
(`CrabModel/Scalar/WInterval.lean`), `Shape`, `memBV` are those of `C13WInt.lean`.

Every statement quantifies over all widths `1 ≤ w ≤ 64`, all intervals of that width (top, bottom,
crossing one pole, both or none) and all members, given as bit-vectors; the concrete operation is
the one of `BitVec w`.  `none` = CRAB_ERROR (the statements are about the answers).

* splits: `signed_split` (cut at the north pole), `unsigned_split` (south pole),
  `signed_and_unsigned_split`: the pieces do not cross the pole(s) and every member is in a piece;
* casts: `Trunc`, `ZExt`, `SExt`;
* shifts: `Shl`, `LShr`, `AShr` by a constant and by an interval;
* `URem`, `SRem`, `And`, `Or`, `Xor` (`default_implementation`: top unless an operand is bottom);
* `SDiv` (divisor ≠ 0; `MIN / -1` wraps to `MIN` as `BitVec.sdiv` does);
* `operator*` at full strength: `C13.wint_mul_Statement` of `C13WInt.lean` holds;
* `lower_half_line` / `upper_half_line`, signed and unsigned;
* `to_interval`, `trim_interval`, `mk_winterval(n, w)`;
* `mk_winterval(lb, ub, w)`: `[lb mod 2^w, ub mod 2^w]`, and `top()` for a range as wide as the
  circle (`mk_winterval(0, 9, 3)` is top): `C13.wint_ofZ2_sound`.

Not covered: `widening_thresholds` (not in the model: it needs the thresholds object).

The private functions `LShr(uint64_t k)` / `AShr(uint64_t k)` build `wrapint(k, b)`, which reduces
`k` modulo `2^b`: they are only sound for `k < 2^b` (see `C13.wint_lshrK_needs_small_amount`).
Their only callers, `LShr/AShr(const wrapped_interval&)`, pass the value of a `b`-bit singleton, so
the public operations are sound for every amount.
-/
open Crab Crab.WInt Crab.WrapInt

/-! ## the splits -/

/-- `signed_split`: each piece `[a, b]` has `a ≤ₛ b` and is a part of `x`; every member of `x`
    lies in a piece, between its end points in the signed order -/
theorem C13.wint_ssplit_cover (w : Nat) (h1 : 1 ≤ w) (hw : w ≤ 64) (x : WInt) (hx : Shape w x)
    (l : List WInt) (h : x.signedSplit? = some l) :
    (∀ p ∈ l, ∃ a b : BitVec w, p = W w a.toNat b.toNat false ∧ a.sle b = true ∧
      ∀ v : BitVec w, a.sle v = true → v.sle b = true → memBV v x) ∧
    (∀ v : BitVec w, memBV v x → ∃ a b : BitVec w, W w a.toNat b.toNat false ∈ l ∧
      a.sle v = true ∧ v.sle b = true) := by
  cases hb : x.isBottom
  · obtain ⟨s, e, hs, he, rfl⟩ := shape_cases hx hb
    obtain ⟨pieces, cover⟩ := ssplit_cover h1 hw hs he h
    constructor
    · intro p hp
      obtain ⟨a, b, rfl, ha, hb', hab, hin⟩ := pieces p hp
      refine ⟨BitVec.ofNatLT a ha, BitVec.ofNatLT b hb', rfl, ?_, ?_⟩
      · rw [BitVec.sle_iff_toInt_le, ← sg_toInt, ← sg_toInt]; exact hab
      · intro v h1' h2'
        rw [BitVec.sle_iff_toInt_le, ← sg_toInt, ← sg_toInt] at h1' h2'
        exact hin v.toNat v.isLt h1' h2'
    · intro v hv
      obtain ⟨a, b, hmem, h1', h2'⟩ := cover v.toNat v.isLt hv
      obtain ⟨_, _, e1, ha, hb', _, _⟩ := pieces _ hmem
      obtain ⟨rfl, rfl⟩ := W_inj e1
      refine ⟨BitVec.ofNatLT _ ha, BitVec.ofNatLT _ hb', hmem, ?_, ?_⟩
      · rw [BitVec.sle_iff_toInt_le, ← sg_toInt, ← sg_toInt]; exact h1'
      · rw [BitVec.sle_iff_toInt_le, ← sg_toInt, ← sg_toInt]; exact h2'
  · have : l = [] := by simpa [signedSplit?, hb] using h.symm
    subst this
    exact ⟨fun p hp => (by cases hp), fun v hv => absurd hv (mem_bottom_false hb)⟩

/-- `unsigned_split`: each piece `[a, b]` has `a ≤ᵤ b` and is a part of `x`; every member of `x`
    lies in a piece -/
theorem C13.wint_usplit_cover (w : Nat) (h1 : 1 ≤ w) (hw : w ≤ 64) (x : WInt) (hx : Shape w x)
    (l : List WInt) (h : x.unsignedSplit? = some l) :
    (∀ p ∈ l, ∃ a b : BitVec w, p = W w a.toNat b.toNat false ∧ a ≤ b ∧
      ∀ v : BitVec w, a ≤ v → v ≤ b → memBV v x) ∧
    (∀ v : BitVec w, memBV v x → ∃ a b : BitVec w, W w a.toNat b.toNat false ∈ l ∧ a ≤ v ∧ v ≤ b) := by
  cases hb : x.isBottom
  · obtain ⟨s, e, hs, he, rfl⟩ := shape_cases hx hb
    obtain ⟨pieces, cover⟩ := usplit_cover h1 hw hs he h
    constructor
    · intro p hp
      obtain ⟨a, b, rfl, hab, hb', hin⟩ := pieces p hp
      refine ⟨BitVec.ofNatLT a (by omega), BitVec.ofNatLT b hb', rfl, ?_, ?_⟩
      · rw [BitVec.le_def]; exact hab
      · intro v h1' h2'
        rw [BitVec.le_def] at h1' h2'
        exact hin v.toNat h1' h2'
    · intro v hv
      obtain ⟨a, b, hmem, h1', h2'⟩ := cover v.toNat v.isLt hv
      obtain ⟨_, _, e1, hab, hb', _⟩ := pieces _ hmem
      obtain ⟨rfl, rfl⟩ := W_inj e1
      refine ⟨BitVec.ofNatLT _ (by omega : a < 2 ^ w), BitVec.ofNatLT _ hb', hmem, ?_, ?_⟩
      · rw [BitVec.le_def]; exact h1'
      · rw [BitVec.le_def]; exact h2'
  · have : l = [] := by simpa [unsignedSplit?, hb] using h.symm
    subst this
    exact ⟨fun p hp => (by cases hp), fun v hv => absurd hv (mem_bottom_false hb)⟩

/-- `signed_and_unsigned_split`: each piece `[a, b]` has `a ≤ᵤ b` and both end points in the same
    hemisphere (same sign bit); every member of `x` lies in a piece -/
theorem C13.wint_cut_cover (w : Nat) (h1 : 1 ≤ w) (hw : w ≤ 64) (x : WInt) (hx : Shape w x)
    (l : List WInt) (h : x.cut? = some l) :
    (∀ p ∈ l, ∃ a b : BitVec w, p = W w a.toNat b.toNat false ∧ a ≤ b ∧ a.msb = b.msb) ∧
    (∀ v : BitVec w, memBV v x → ∃ a b : BitVec w, W w a.toNat b.toNat false ∈ l ∧ a ≤ v ∧ v ≤ b) := by
  cases hb : x.isBottom
  · obtain ⟨s, e, hs, he, rfl⟩ := shape_cases hx hb
    obtain ⟨pieces, cover⟩ := cut_spec h1 hw hs he h
    constructor
    · intro p hp
      obtain ⟨a, b, rfl, hab, hb', hh⟩ := pieces p hp
      refine ⟨BitVec.ofNatLT a (by omega), BitVec.ofNatLT b hb', rfl, ?_, ?_⟩
      · rw [BitVec.le_def]; exact hab
      · rw [BitVec.msb_eq_decide, BitVec.msb_eq_decide, BitVec.toNat_ofNatLT, BitVec.toNat_ofNatLT]
        rcases hh with hh | hh
        · have c1 : ¬ 2 ^ (w - 1) ≤ a := by omega
          have c2 : ¬ 2 ^ (w - 1) ≤ b := by omega
          simp [c1, c2]
        · have c1 : 2 ^ (w - 1) ≤ a := hh
          have c2 : 2 ^ (w - 1) ≤ b := by omega
          simp [c1, c2]
    · intro v hv
      obtain ⟨a, b, hmem, h1', h2'⟩ := cover v.toNat v.isLt hv
      obtain ⟨_, _, e1, hab, hb', _⟩ := pieces _ hmem
      obtain ⟨rfl, rfl⟩ := W_inj e1
      refine ⟨BitVec.ofNatLT _ (by omega : a < 2 ^ w), BitVec.ofNatLT _ hb', hmem, ?_, ?_⟩
      · rw [BitVec.le_def]; exact h1'
      · rw [BitVec.le_def]; exact h2'
  · have : l = [] := by
      have h' : x.cut? = some [] := by simp [cut?, signedSplit?, hb]
      rw [h'] at h; injection h with h; exact h.symm
    subst this
    exact ⟨fun p hp => (by cases hp), fun v hv => absurd hv (mem_bottom_false hb)⟩

/-! ## casts -/

/-- `Trunc(k)`, `k ≤ w`: the low `k` bits of every member -/
theorem C13.wint_trunc_sound (w k : Nat) (h1 : 1 ≤ w) (hw : w ≤ 64) (hk : k ≤ w) (x r : WInt)
    (hx : Shape w x) (h : x.trunc k = some r) (a : BitVec w) (ha : memBV a x) :
    memBV (a.setWidth k) r := by
  unfold memBV
  rw [BitVec.toNat_setWidth]
  exact trunc_sound h1 hw hk (good_of_shape hx) h a.isLt ha

/-- `ZExt(k)`: the zero extension of every member to `w + k` bits -/
theorem C13.wint_zext_sound (w k : Nat) (h1 : 1 ≤ w) (hw : w ≤ 64) (x r : WInt)
    (hx : Shape w x) (h : x.zext k = some r) (a : BitVec w) (ha : memBV a x) :
    memBV (a.setWidth (w + k)) r := zext_sound_bv h1 hw (good_of_shape hx) h ha

/-- `SExt(k)`: the sign extension of every member to `w + k` bits -/
theorem C13.wint_sext_sound (w k : Nat) (h1 : 1 ≤ w) (hw : w ≤ 64) (x r : WInt)
    (hx : Shape w x) (h : x.sext k = some r) (a : BitVec w) (ha : memBV a x) :
    memBV (a.signExtend (w + k)) r := sext_sound_bv h1 hw (good_of_shape hx) h ha

/-! ## shifts -/

/-- `Shl(uint64_t k)`, every `k` -/
theorem C13.wint_shl_const_sound (w k : Nat) (h1 : 1 ≤ w) (hw : w ≤ 64) (x r : WInt)
    (hx : Shape w x) (h : x.shlK k = some r) (a : BitVec w) (ha : memBV a x) :
    memBV (a <<< k) r := by
  unfold memBV
  rw [BitVec.toNat_shiftLeft, Nat.shiftLeft_eq]
  exact shlK_sound h1 hw (good_of_shape hx) h a.isLt ha

/-- `Shl(const wrapped_interval&)` -/
theorem C13.wint_shl_sound (w : Nat) (h1 : 1 ≤ w) (hw : w ≤ 64) (x y r : WInt)
    (hx : Shape w x) (hy : Shape w y) (h : x.shl y = some r) (a b : BitVec w)
    (ha : memBV a x) (hb : memBV b y) : memBV (a <<< b) r :=
  shl_sound_bv h1 hw (good_of_shape hx) (good_of_shape hy) h ha hb

/-- `LShr(uint64_t k)` for an amount that `wrapint(k, w)` does not reduce -/
theorem C13.wint_lshr_const_sound (w k : Nat) (h1 : 1 ≤ w) (hw : w ≤ 64) (hk : k < 2 ^ w) (x r : WInt)
    (hx : Shape w x) (h : x.lshrK k = some r) (a : BitVec w) (ha : memBV a x) :
    memBV (a >>> k) r := by
  unfold memBV
  rw [BitVec.toNat_ushiftRight, Nat.shiftRight_eq_div_pow]
  exact lshrK_sound h1 hw hk (good_of_shape hx) h a.isLt ha

/-- the side condition is needed: `wrapint(4, 2)` is the amount 0 -/
theorem C13.wint_lshrK_needs_small_amount :
    (W 2 1 2 false).lshrK 4 = some (W 2 1 2 false) ∧ memBV 1#2 (W 2 1 2 false) ∧
      ¬ memBV (1#2 >>> 4) (W 2 1 2 false) := by decide

/-- `LShr(const wrapped_interval&)` -/
theorem C13.wint_lshr_sound (w : Nat) (h1 : 1 ≤ w) (hw : w ≤ 64) (x y r : WInt)
    (hx : Shape w x) (hy : Shape w y) (h : x.lshr y = some r) (a b : BitVec w)
    (ha : memBV a x) (hb : memBV b y) : memBV (a >>> b) r :=
  lshr_sound_bv h1 hw (good_of_shape hx) (good_of_shape hy) h ha hb

/-- `AShr(uint64_t k)` for an amount that `wrapint(k, w)` does not reduce -/
theorem C13.wint_ashr_const_sound (w k : Nat) (h1 : 1 ≤ w) (hw : w ≤ 64) (hk : k < 2 ^ w) (x r : WInt)
    (hx : Shape w x) (h : x.ashrK k = some r) (a : BitVec w) (ha : memBV a x) :
    memBV (a.sshiftRight k) r := by
  unfold memBV
  rw [ashrN_bv]
  exact ashrK_sound h1 hw hk (good_of_shape hx) h a.isLt ha

/-- `AShr(const wrapped_interval&)` -/
theorem C13.wint_ashr_sound (w : Nat) (h1 : 1 ≤ w) (hw : w ≤ 64) (x y r : WInt)
    (hx : Shape w x) (hy : Shape w y) (h : x.ashr y = some r) (a b : BitVec w)
    (ha : memBV a x) (hb : memBV b y) : memBV (a.sshiftRight' b) r :=
  ashr_sound_bv h1 hw (good_of_shape hx) (good_of_shape hy) h ha hb

/-! ## `URem`, `SRem`, `And`, `Or`, `Xor`: `default_implementation` -/

/-- `default_implementation` is top as soon as both operands have a member -/
theorem C13.wint_default_sound (w : Nat) (x y : WInt) (a b v : BitVec w)
    (ha : memBV a x) (hb : memBV b y) : memBV v (x.defaultImpl y) := by
  have : x.defaultImpl y = WInt.top := by simp [defaultImpl, ha.1, hb.1]
  rw [this]; exact mem_top _ _
theorem C13.wint_urem_sound (w : Nat) (x y : WInt) (a b : BitVec w) (ha : memBV a x) (hb : memBV b y) :
    memBV (a % b) (x.defaultImpl y) := C13.wint_default_sound w x y a b _ ha hb
theorem C13.wint_srem_sound (w : Nat) (x y : WInt) (a b : BitVec w) (ha : memBV a x) (hb : memBV b y) :
    memBV (a.srem b) (x.defaultImpl y) := C13.wint_default_sound w x y a b _ ha hb
theorem C13.wint_and_sound (w : Nat) (x y : WInt) (a b : BitVec w) (ha : memBV a x) (hb : memBV b y) :
    memBV (a &&& b) (x.defaultImpl y) := C13.wint_default_sound w x y a b _ ha hb
theorem C13.wint_or_sound (w : Nat) (x y : WInt) (a b : BitVec w) (ha : memBV a x) (hb : memBV b y) :
    memBV (a ||| b) (x.defaultImpl y) := C13.wint_default_sound w x y a b _ ha hb
theorem C13.wint_xor_sound (w : Nat) (x y : WInt) (a b : BitVec w) (ha : memBV a x) (hb : memBV b y) :
    memBV (a ^^^ b) (x.defaultImpl y) := C13.wint_default_sound w x y a b _ ha hb

/-! ## signed division and multiplication -/

/-- `SDiv` over-approximates the signed quotients (divisor ≠ 0) -/
theorem C13.wint_sdiv_sound (w : Nat) (h1 : 1 ≤ w) (hw : w ≤ 64) (x y r : WInt)
    (hx : Shape w x) (hy : Shape w y) (h : x.sdiv y = some r)
    (a b : BitVec w) (ha : memBV a x) (hb : memBV b y) (hb0 : b ≠ 0) : memBV (a.sdiv b) r :=
  sdiv_sound_bv h1 hw (good_of_shape hx) (good_of_shape hy) h ha hb hb0

/-- `operator*` over-approximates the products modulo `2^w`: the statement left open in
    `C13WInt.lean` -/
theorem C13.wint_mul_sound : C13.wint_mul_Statement :=
  fun _ h1 hw _ _ _ hx hy h _ _ ha hb => mul_sound_bv h1 hw (good_of_shape hx) (good_of_shape hy) h ha hb

/-- `unsigned_mul` and `signed_mul` on pieces of `signed_and_unsigned_split` (`a ≤ᵤ b`, `c ≤ᵤ d`,
    each with its end points in one hemisphere) -/
theorem C13.wint_piece_mul_sound (w : Nat) (h1 : 1 ≤ w) (hw : w ≤ 64) (a b c d u v : BitVec w)
    (hab : a ≤ b) (hcd : c ≤ d) (m1 : a.msb = b.msb) (m2 : c.msb = d.msb)
    (hau : a ≤ u) (hub : u ≤ b) (hcv : c ≤ v) (hvd : v ≤ d) :
    memBV (u * v) (unsignedMul (W w a.toNat b.toNat false) (W w c.toNat d.toNat false)) ∧
    memBV (u * v) (signedMul (W w a.toNat b.toNat false) (W w c.toNat d.toNat false)) := by
  rw [BitVec.le_def] at hab hcd hau hub hcv hvd
  have hemi : ∀ p q : BitVec w, p.toNat ≤ q.toNat → p.msb = q.msb → Hemi w p.toNat q.toNat := by
    intro p q hpq hm
    refine ⟨hpq, q.isLt, ?_⟩
    rw [BitVec.msb_eq_decide, BitVec.msb_eq_decide] at hm
    by_cases c1 : 2 ^ (w - 1) ≤ p.toNat
    · exact Or.inr c1
    · left
      have : ¬ 2 ^ (w - 1) ≤ q.toNat := by
        intro c2; simp [c1, c2] at hm
      omega
  unfold memBV
  rw [BitVec.toNat_mul]
  exact ⟨unsignedMul_sound hw hau hub hcv hvd,
    signedMul_sound h1 hw (hemi a b hab m1) (hemi c d hcd m2) hau hub hcv hvd⟩

/-! ## half lines -/

/-- `lower_half_line(is_signed = true)` contains everything `≤ₛ` a member -/
theorem C13.wint_lower_half_line_signed (w : Nat) (h1 : 1 ≤ w) (hw : w ≤ 64) (x : WInt) (hx : Shape w x)
    (a v : BitVec w) (ha : memBV a x) (hle : v.sle a = true) : memBV v (x.lowerHalfLine true) := by
  rw [BitVec.sle_iff_toInt_le, ← sg_toInt, ← sg_toInt] at hle
  exact lowerHalfLine_signed_sound h1 hw hx a.isLt v.isLt ha hle
/-- `lower_half_line(is_signed = false)` contains everything `≤ᵤ` a member -/
theorem C13.wint_lower_half_line_unsigned (w : Nat) (h1 : 1 ≤ w) (hw : w ≤ 64) (x : WInt)
    (hx : Shape w x) (a v : BitVec w) (ha : memBV a x) (hle : v ≤ a) :
    memBV v (x.lowerHalfLine false) := by
  rw [BitVec.le_def] at hle
  exact lowerHalfLine_unsigned_sound h1 hw hx a.isLt ha hle
/-- `upper_half_line(is_signed = true)` contains everything `≥ₛ` a member -/
theorem C13.wint_upper_half_line_signed (w : Nat) (h1 : 1 ≤ w) (hw : w ≤ 64) (x : WInt) (hx : Shape w x)
    (a v : BitVec w) (ha : memBV a x) (hle : a.sle v = true) : memBV v (x.upperHalfLine true) := by
  rw [BitVec.sle_iff_toInt_le, ← sg_toInt, ← sg_toInt] at hle
  exact upperHalfLine_signed_sound h1 hw hx a.isLt v.isLt ha hle
/-- `upper_half_line(is_signed = false)` contains everything `≥ᵤ` a member -/
theorem C13.wint_upper_half_line_unsigned (w : Nat) (h1 : 1 ≤ w) (hw : w ≤ 64) (x : WInt)
    (hx : Shape w x) (a v : BitVec w) (ha : memBV a x) (hle : a ≤ v) :
    memBV v (x.upperHalfLine false) := by
  rw [BitVec.le_def] at hle
  exact upperHalfLine_unsigned_sound h1 hw hx a.isLt v.isLt ha hle

/-! ## conversions: `mk_winterval`, `to_interval`, `trim_interval` -/

/-- `mk_winterval(n, w)` contains `n mod 2^w` -/
theorem C13.wint_ofZ_sound (w : Nat) (h1 : 1 ≤ w) (hw : w ≤ 64) (z : Int) (r : WInt)
    (h : WInt.ofZ z w = some r) : memBV (BitVec.ofInt w z) r := by
  unfold memBV
  rw [BitVec.toNat_ofInt]
  exact ofZ_sound h1 hw h

/-- `mk_winterval(lb, ub, w)` contains `z mod 2^w` for every `lb ≤ z ≤ ub`: a range that covers the
    circle is answered by `top()`, any other by `[lb mod 2^w, ub mod 2^w]` -/
def C13.wint_ofZ2_Statement : Prop :=
  ∀ (w : Nat), 1 ≤ w → w ≤ 64 → ∀ (lb ub z : Int) (r : WInt), WInt.ofZ2 lb ub w = some r →
    lb ≤ z → z ≤ ub → memBV (BitVec.ofInt w z) r
theorem C13.wint_ofZ2_sound : C13.wint_ofZ2_Statement := by
  intro w h1 hw lb ub z r h hl hu
  unfold memBV
  rw [BitVec.toNat_ofInt]
  exact ofZ2_sound h1 hw h hl hu
/-- the range `[0, 9]` at width 3 is the whole circle -/
example : WInt.ofZ2 0 9 3 = some WInt.top ∧ WInt.ofZ2 0 6 3 = some (W 3 0 6 false) := by decide

/-- `to_interval()` contains the signed value of every member -/
theorem C13.wint_toInterval_sound (w : Nat) (h1 : 1 ≤ w) (hw : w ≤ 64) (x : WInt) (hx : Shape w x)
    (i : Itv) (h : x.toInterval = some i) (a : BitVec w) (ha : memBV a x) : Itv.mem a.toInt i :=
  toInterval_sound_bv h1 hw (good_of_shape hx) h ha

/-- `trim_interval(i, j)` keeps every member of `i` that is not a member of `j` (only a singleton
    `j` at an end point of `i` removes anything) -/
theorem C13.wint_trim_sound (w : Nat) (h1 : 1 ≤ w) (hw : w ≤ 64) (i j : WInt) (hi : Shape w i)
    (hj : Shape w j) (a : BitVec w) (ha : memBV a i) (hne : ∀ b : BitVec w, memBV b j → a ≠ b) :
    memBV a (trim i j) := by
  refine trim_sound h1 hw hi hj a.isLt ha ?_
  intro b hb hmb hab
  exact hne (BitVec.ofNatLT b hb) (by unfold memBV; simpa using hmb)
    (BitVec.eq_of_toNat_eq (by simpa using hab))

/-! ## non-vacuity: every operation answers on intervals that cross the poles, with members -/

example : Shape 8 (W 8 250 3 false) ∧ Shape 8 (W 8 120 130 false) ∧ Shape 8 (W 8 3 3 false) ∧
    memBV 255#8 (W 8 250 3 false) ∧ memBV 128#8 (W 8 120 130 false) ∧ memBV 3#8 (W 8 3 3 false) ∧
    (W 8 120 130 false).signedSplit? = some [W 8 120 127 false, W 8 128 130 false] ∧
    (W 8 250 3 false).unsignedSplit? = some [W 8 250 255 false, W 8 0 3 false] ∧
    (W 8 120 3 false).cut? = some [W 8 120 127 false, W 8 128 255 false, W 8 0 3 false] := by decide

example : (W 8 250 3 false).trunc 4 = some (W 4 10 3 false) ∧
    (W 8 250 3 false).zext 8 = some (W 16 0 255 false) ∧
    (W 8 250 3 false).sext 8 = some (W 16 65530 3 false) ∧
    (W 8 250 3 false).shl (W 8 3 3 false) = some (W 8 208 24 false) ∧
    (W 8 120 130 false).lshr (W 8 3 3 false) = some (W 8 15 16 false) ∧
    (W 8 250 3 false).ashr (W 8 3 3 false) = some (W 8 255 0 false) := by decide

example : (W 8 250 3 false).mul (W 8 2 3 false) = some (W 8 238 9 false) ∧
    memBV (255#8 * 3#8) (W 8 238 9 false) ∧
    (W 8 250 3 false).sdiv (W 8 254 3 false) = some (W 8 250 6 false) ∧
    memBV ((250#8).sdiv 255#8) (W 8 250 6 false) ∧
    (W 8 3 10 false).lowerHalfLine true = W 8 128 10 false ∧
    (W 8 3 10 false).upperHalfLine false = W 8 3 255 false := by decide

example : WInt.ofZ (-3) 8 = some (W 8 253 253 false) ∧ WInt.ofZ2 (-3) 4 8 = some (W 8 253 4 false) ∧
    (W 8 120 130 false).toInterval = some Itv.top ∧
    (W 8 250 255 false).toInterval = some ⟨.fin (-6), .fin (-1)⟩ ∧
    trim (W 8 250 3 false) (W 8 250 250 false) = W 8 251 3 false ∧
    trim (W 8 250 3 false) (W 8 3 3 false) = W 8 250 2 false := by decide
