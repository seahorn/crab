import CrabProofs.Lemmas.FunctorFlatBoolInst
import CrabProofs.Props.C03FlatBool

/-!
# C03 for `flat_boolean_numerical_domain`: the old meet, regressions, non-vacuity, `+=` on Booleans

All on the concrete lawful instance `FBInst.N0` (`Lemmas/FunctorFlatBoolInst.lean`): constraints
`x ≥ k`, `x < k`, `true`, `false`; a base value is the list of the constraints asserted so far.
Variables are numbers: `0..9` numerical, `10..` Boolean.

## defect of the pinned tree, FIXED by repo commit ef2ddd6: `&`, `&=`, `&&` revived stale constraints

`m_unchanged_vars & other.m_unchanged_vars` is the meet of `dual_set_domain`, i.e. the UNION of the
two sets, and the maps are united too.  A constraint recorded by one operand whose variable was
changed afterwards (so: not marked there) became usable again when the OTHER operand marked that
variable.  Model of that behaviour: `FBN.meetOld`, `FBN.meetEqOld`, `FBN.narrowOld` (NOT the current
code).  On the tree before ef2ddd6 (`flat_boolean_numerical_domain<interval_domain>`, replay with
`python3 tools/hrun.py h_dom2_14 --source h_dom2 --define -DVDOM=14 -- --ops file`):

    (dom2.hist flat-bool-intervals (params) (ops (bcst 0 b0 (lt (lin 0 (-1 v0)))) (arith 0 sub v0 v0 5)
       (bcst 1 b1 (le (lin -100 (1 v0)))) (meet 2 0 1) (bassume 2 b0 0)))

answered `v0 ∈ [1, +oo]` for slot 2, although the state `v0 = -3, b0 = b1 = true` is produced by
both operand histories (from `v0 = 2`: `b0 := (v0 > 0); v0 := v0 - 5`, and from `v0 = -3`:
`b1 := (v0 <= 100)`) and passes `assume(b0)`.  Same with `narrow` and `copy; meeteq`.  The fix
(intersection of the marks: `m_unchanged_vars | other.m_unchanged_vars`) is what `FBN.meet` models
now; it is proved sound in `C03.flatbool_meet_sound` and the history below is a regression.
-/
open Crab Crab.Dom Crab.Dom.Fct Crab.Dom.Fct.FBInst

namespace C03FB
def isB (v : Nat) : Bool := decide (10 ≤ v)
def T : St0 := FBN.top
/-- `v0 := v0 - 5` -/
def rSub5 (s s' : CSt Nat) : Prop := s' = s.setN 0 (s.num 0 - 5)
/-- `b10 := (v0 ≥ 1); v0 := v0 - 5` -/
def A : St0 := FBN.numDef .apply (fforget 0) 0 (FBN.assignBoolCst id 10 (.ge 0 1) T)
/-- `b11 := (v0 < 101)` -/
def B : St0 := FBN.assignBoolCst id 11 (.lt 0 101) T
def sInit : CSt Nat := ⟨fun v => if v = 0 then 2 else 0, fun _ => true⟩
/-- `v0 = -3`, every Boolean true -/
def s0 : CSt Nat := (sInit.setB 10 true).setN 0 (-3)
end C03FB
open C03FB

theorem C03.flatbool_cex_defines : FBN.DefinesNum 0 rSub5 := fun s _ h => ⟨s.num 0 - 5, h⟩

/-- the state `v0 = -3, b10 = true` is a state of `b10 := (v0 ≥ 1); v0 := v0 - 5` (from `v0 = 2`) -/
theorem C03.flatbool_cex_in_A : A.γ s0 := by
  have h1 : (FBN.assignBoolCst id 10 (C0.ge 0 1) T).γ (sInit.setB 10 true) :=
    FBN.assignBoolCst_sound (N := N0) (id_sound_bool 10 _) (FBN.γ_top sInit)
      ⟨true, by simp [K0, C0.holds, sInit], rfl⟩
  exact FBN.numDef_sound .apply (fforget_sound 0 rSub5 C03.flatbool_cex_defines) C03.flatbool_cex_defines h1 (by
    show s0 = (sInit.setB 10 true).setN 0 ((sInit.setB 10 true).num 0 - 5)
    rfl)

/-- ... and of `b11 := (v0 < 101)` -/
theorem C03.flatbool_cex_in_B : B.γ s0 := by
  have := FBN.assignBoolCst_sound (N := N0) (x := 11) (c := C0.lt 0 101) (id_sound_bool 11 _)
    (FBN.γ_top s0) ⟨true, by simp [K0, C0.holds, s0, CSt.setN], rfl⟩
  have e : s0.setB 11 true = s0 := CSt.setB_self s0 11
  rw [e] at this; exact this

/-- ... and of none of the OLD `A & B`, `A &= B`, `A && B` (pinned tree, before ef2ddd6) -/
theorem C03.flatbool_cex_not_in_meetOld :
    ¬ (FBN.meetOld A B).γ s0 ∧ ¬ (FBN.meetEqOld A B).γ s0 ∧ ¬ (FBN.narrowOld A B).γ s0 := by
  -- the three old operators build the same maps and marks: the stale `v0 ≥ 1` is usable again
  have hl : ((A.lin.meet B.lin).look 10).mem (C0.ge 0 1) = true := by rfl
  have hu : FBN.unchanged (K := K0) (A.unch.meet B.unch) (C0.ge 0 1) = true := by rfl
  have key : ∀ (m : St0), m.lin = A.lin.meet B.lin → m.unch = A.unch.meet B.unch → ¬ m.γ s0 := by
    intro m e1 e2 hg
    have := ((FBN.lin_of_γ hg).all 10 (C0.ge 0 1) (e1 ▸ hl) (e2 ▸ hu)).1 rfl
    simp [K0, C0.holds, s0, CSt.setN] at this
  exact ⟨key _ rfl rfl, key _ rfl rfl, key _ rfl rfl⟩

/-- **pinned-tree behaviour, fixed by repo commit ef2ddd6** (replay line in the header): the old
    `&`, `&=`, `&&` (union of the unchanged-variable sets) lose states common to both operands:
    `(b10 := (v0 ≥ 1); v0 := v0 - 5) & (b11 := (v0 < 101))` claimed `b10 ⇔ v0 ≥ 1` with `v0`
    unchanged and lost `v0 = -3, b10 = true` -/
theorem C03.flatbool_meetOld_counterexample :
    ¬ (∀ (V : Type) [DecidableEq V] (K : CSig V) (N : BNDom V K) (a b : FBN N) (s : CSt V),
        a.γ s → b.γ s → (FBN.meetOld a b).γ s ∧ (FBN.meetEqOld a b).γ s ∧ (FBN.narrowOld a b).γ s) := by
  intro h
  exact C03.flatbool_cex_not_in_meetOld.1
    (h Nat K0 N0 A B s0 C03.flatbool_cex_in_A C03.flatbool_cex_in_B).1

/-- what the lost state cost: after `assume(b10)` on the OLD meet the base held `v0 ≥ 1` -/
theorem C03.flatbool_meetOld_then_assume_observable :
    (FBN.assumeBool id 10 false (FBN.meetOld A B)).prod.snd = [C0.ge 0 1] ∧
    ¬ C0.holds (C0.ge 0 1) s0.num := by
  constructor
  · rfl
  · simp [C0.holds, s0, CSt.setN]

/-- regression for ef2ddd6 on the CURRENT model: the meet keeps the state, marks nothing unchanged
    (`v0` is marked by one operand only), and `assume(b10)` teaches the base nothing -/
theorem C03.flatbool_regress_ef2ddd6 :
    (FBN.meet A B).γ s0 ∧ (FBN.meet A B).unch = .fin [] ∧
    (FBN.meet A B).lin = .env [(10, [C0.ge 0 1]), (11, [C0.lt 0 101])] ∧
    (FBN.assumeBool id 10 false (FBN.meet A B)).prod.snd = [] ∧
    (FBN.assumeBool id 10 false (FBN.narrow A B)).prod.snd = [] ∧
    (FBN.assumeBool id 10 false (FBN.meetEq A B)).prod.snd = [] :=
  ⟨FBN.meet_sound C03.flatbool_cex_in_A C03.flatbool_cex_in_B, rfl, rfl, rfl, rfl, rfl⟩

/-- the meet still transmits what BOTH operands can use: `(b10 := (v0 ≥ 1)) & (b11 := (v0 < 101))`
    followed by `assume(b10)` reaches `v0 ≥ 1` -/
example : (FBN.assumeBool id 10 false (FBN.meet (FBN.assignBoolCst (N := N0) id 10 (C0.ge 0 1) T) B)).prod.snd =
    [C0.ge 0 1] := rfl

/-! ## regressions: the histories of the old defects on the CURRENT model

Each statement evaluates the model on the history of a fixed defect of
`flat_boolean_numerical_domain` (commit in the name) and shows what the value holds afterwards; the
soundness theorems above guarantee that nothing else can happen, these show that the histories run
through the branches in question (non-vacuity) and pin the behaviour. `bK` = variable `10 + K`. -/
namespace C03FB
/-- what a value holds: the two maps, the unchanged set, the flat environment, the base -/
def view (a : St0) := (a.lin, a.bools, a.unch, a.prod.fst, a.prod.snd)
abbrev bcst (x : Nat) (c : C0) (a : St0) : St0 := FBN.assignBoolCst id x c a
abbrev bvar (x y : Nat) (neg : Bool) (a : St0) : St0 := FBN.assignBoolVar id x y neg a
abbrev bassume (x : Nat) (a : St0) : St0 := FBN.assumeBool id x false a
abbrev assign (x : Nat) (a : St0) : St0 := FBN.numDef .assign (fforget x) x a
end C03FB
open C03FB

/-- the reduction does fire: `b0 := (v0 ≥ 1); assume(b0)` gives `v0 ≥ 1` to the base; through a
    negation: `b1 := not(b0); assume(b1)` gives `v0 < 1` -/
theorem C03.flatbool_reduction_fires :
    (bassume 10 (bcst 10 (.ge 0 1) T)).prod.snd = [C0.ge 0 1] ∧
    (bassume 11 (bvar 11 10 true (bcst 10 (.ge 0 1) T))).prod.snd = [C0.lt 0 1] := ⟨rfl, rfl⟩

/-- a80cc0d (stale constraint revived by a later `b := cst` on the same variable):
    `b0 := (v0 ≥ 1); v0 := *; b1 := (v0 < 5); assume(b0)` — the entry of `b0` is gone, the base
    learns nothing -/
theorem C03.flatbool_regress_a80cc0d :
    view (bassume 10 (bcst 11 (.lt 0 5) (assign 0 (bcst 10 (.ge 0 1) T)))) =
      (.env [(11, [C0.lt 0 5])], .env [], .fin [0], .env [(10, true)], []) := rfl

/-- 54ec9a1 (`b1 := b0; b0 := not(b0); assume(b1)`): `b1 implies b0` is forgotten when `b0` is
    redefined, `b0` stays unknown -/
theorem C03.flatbool_regress_54ec9a1 :
    view (bassume 11 (bvar 10 10 true (bvar 11 10 false T))) =
      (.env [], .env [], .fin [], .env [(11, true)], []) := rfl

/-- 4866b89 (`b0 := (v0 ≥ 1); b0 := true; v0 := *; assume(b0)`): the constant definition removes the
    old entry -/
theorem C03.flatbool_regress_4866b89 :
    view (bassume 10 (assign 0 (bcst 10 .tru (bcst 10 (.ge 0 1) T)))) =
      (.env [], .env [], .fin [], .env [(10, true)], []) := rfl

/-- 2ee56db (`b0 := (v0 ≥ 1); b0 := not(b1)` with nothing recorded for `b1`; `assume(b0)`) -/
theorem C03.flatbool_regress_2ee56db :
    view (bassume 10 (bvar 10 11 true (bcst 10 (.ge 0 1) T))) =
      (.env [], .env [], .fin [0], .env [(10, true)], []) := rfl

/-- 8d85025 (`b0 := (v0 ≥ 1); b0 := trunc(v1); assume(b0)`) -/
theorem C03.flatbool_regress_8d85025 :
    view (bassume 10 (FBN.castTrunc 10 1 (bcst 10 (.ge 0 1) T))) =
      (.env [], .env [], .fin [0], .env [(10, true)], []) := rfl

/-- 67052d5, 6293d89: a value with a recorded implication is not top, and top is not below it -/
theorem C03.flatbool_regress_67052d5_6293d89 :
    FBN.isTop (bcst 10 (.ge 0 1) T) = false ∧ FBN.leq T (bcst 10 (.ge 0 1) T) = false ∧
    FBN.leq (bcst 10 (.ge 0 1) T) T = true := ⟨rfl, rfl, rfl⟩

/-- 945538d (`forget` on a value whose product is top): `b0 := (v0 ≥ 1); forget(v0); assume(b0)` -/
theorem C03.flatbool_regress_945538d :
    view (bassume 10 (FBN.forget isB (fforget 0) [0] (bcst 10 (.ge 0 1) T))) =
      (.env [(10, [C0.ge 0 1])], .env [], .fin [], .env [(10, true)], []) := rfl

/-- bb23efe (`b0 := (v1 ≥ 1); expand(v0, v1); assume(b0)`): `v1` is marked as changed -/
theorem C03.flatbool_regress_bb23efe :
    view (bassume 10 (FBN.expand isB (fforget 1) 0 1 (bcst 10 (.ge 1 1) T))) =
      (.env [(10, [C0.ge 1 1])], .env [], .fin [], .env [(10, true)], []) := rfl

/-- 8b4b7ba (an empty `rename` keeps `b1 implies b0`) -/
theorem C03.flatbool_regress_8b4b7ba :
    (FBN.rename isB id [] [] (bvar 11 10 false T)).bools = .env [(11, [10])] := rfl

/-- 26c913b / f6e88df (`b2 := false; b3 := select(b1, b0, b2)` only IMPLIES `b1 and b0`):
    the implication is used positively (`assume(b3)` reaches `v0 ≥ 1` through `b0`), and nothing is
    negated: `b4 := not(b3); assume(b4)` teaches the base nothing -/
theorem C03.flatbool_regress_26c913b :
    let a := FBN.selectBool id id 13 11 10 12 (bcst 12 .fls (bcst 10 (.ge 0 1) T))
    a.lin = .env [(10, [C0.ge 0 1])] ∧ a.bools = .env [(13, [10, 11])] ∧
    (bassume 13 a).prod.snd = [C0.ge 0 1] ∧ (bassume 14 (bvar 14 13 true a)).prod.snd = [] :=
  ⟨rfl, rfl, rfl, rfl⟩

/-- the same history on a select whose operand is the result itself (f6e88df):
    `b0 := select(b1, b0, b2)` reads `b0` before it is assigned -/
example : (FBN.selectBool id id 10 11 10 12 (bcst 12 .fls (bcst 10 (.ge 0 1) T))).prod.fst =
    .env [(12, false)] := rfl


/-! ## `operator+=` on an equality over one Boolean: the sign of the constant

The loop of `operator+=` looks at a normalised equality `1*b + k == 0` over a single Boolean `b`
through `exp.constant()` (= `k`) and calls `assume_bool(b, true)` when `k == 0`,
`assume_bool(b, false)` when `k == 1`, nothing otherwise; in all three cases the constraint is NOT
passed on to the numerical domain.  So `b == 1` (which is `b - 1 == 0`, `k = -1`) is ignored and
`b + 1 == 0` (`b = -1`) makes `b` true.  Observed on the real code (`flat-bool-intervals`):
`(assume 0 (eq (lin -1 (1 b0))))` leaves `b0` unknown, `(assume 0 (eq (lin 1 (1 b0))))` gives
`b0 = 1`.  With Booleans read as 0/1 this is a loss of PRECISION only:
* `k = 0`: `b = 0`, the literal `not b` is right;
* `k = 1`: no Boolean satisfies `b + 1 == 0`, the statement has no execution, any answer is sound
  (the precise answer would be bottom);
* other `k` (incl. `k = -1`, the intended `b == 1`): the constraint is dropped, which is the
  identity on states: sound, nothing is learnt. -/

namespace C03FB
/-- the integer reading of a Boolean -/
def b2i (b : Bool) : Int := if b then 1 else 0
/-- `is_negated` of the `assume_bool(b, ·)` call made for `b + k == 0` (`none`: no call) -/
def plusEqLit (k : Int) : Option Bool := if k = 0 then some true else if k = 1 then some false else none
/-- the literals handed to `m_product.first().assume_bool` -/
def plusEqLits (x : Nat) (k : Int) : List (Nat × Bool) :=
  match plusEqLit k with
  | some neg => [(x, neg)]
  | none => []
/-- `assume(b_x + k == 0)` -/
def rPlusEq (x : Nat) (k : Int) (s s' : CSt Nat) : Prop := s' = s ∧ b2i (s.bool x) + k = 0
end C03FB

/-- whenever the code extracts a literal from `b + k == 0`, every 0/1 value of `b` that satisfies
    the equality satisfies the literal (for `k = 1` because there is none) -/
theorem C03.flatbool_add_bool_equality_lit_sound (k : Int) (b neg : Bool)
    (h : plusEqLit k = some neg) (hc : b2i b + k = 0) : b = !neg := by
  unfold plusEqLit at h
  split at h
  · rename_i hk; cases h; subst hk
    cases b <;> simp [b2i] at hc ⊢
  · split at h
    · rename_i hk; cases h; subst hk
      cases b <;> simp [b2i] at hc
    · cases h

/-- the three outcomes: `b == 0` is used, `b == 1` (constant `-1`) is ignored — precision only —,
    and `b + 1 == 0` asks for `b`, which costs nothing because no Boolean satisfies it -/
theorem C03.flatbool_add_bool_equality_sign :
    plusEqLit 0 = some true ∧ plusEqLit (-1) = none ∧ plusEqLit 1 = some false ∧
    (∀ b, b2i b + 1 ≠ 0) ∧ (∀ b, b2i b + (-1) = 0 ↔ b = true) := by
  refine ⟨rfl, rfl, rfl, ?_, ?_⟩
  · intro b; cases b <;> simp [b2i]
  · intro b; cases b <;> simp [b2i]

/-- hence `operator+=` is sound on such an equality whatever `k` is (instance of
    `C03.flatbool_add_constraints_sound` over the test base, the base being given nothing) -/
theorem C03.flatbool_add_bool_equality_sound (x : Nat) (k : Int) (a : St0) (s s' : CSt Nat) (hg : a.γ s)
    (hr : rPlusEq x k s s') : (FBN.addCsts false false (plusEqLits x k) id a).γ s' := by
  apply FBN.addCsts_sound false false (r := rPlusEq x k) (id_sound_filter _ (fun _ _ h => h.1))
    (fun _ _ h => h.1) _ hg hr
  intro t t' ht l hl
  unfold plusEqLits at hl
  cases hlit : plusEqLit k with
  | none => rw [hlit] at hl; cases hl
  | some neg =>
    rw [hlit] at hl
    have : l = (x, neg) := by simpa using hl
    subst this
    exact C03.flatbool_add_bool_equality_lit_sound k _ neg hlit ht.2
