import CrabProofs.Lemmas.PatriciaEnvItv
import CrabProofs.Lemmas.PatriciaSetOps

/-!
# C19 — environment maps and sets behave as their mathematical counterparts

Property theorems only (helper lemmas live in `CrabProofs/Lemmas/Patricia*.lean`).

Models: `Crab.Patricia` (`patricia_trees.hpp`, case by case), `Crab.SepDom`
(`separate_domains.hpp`), `Crab.PSet` / `Crab.DD` (`patricia_tree_set`, `discrete_domain`).

* `WF P t` : the invariant of big-endian patricia trees over 64-bit indices (branching bit a
  power of two, prefix = ones below the bit and zero at the bit, no empty child, every key on
  its side, every stored value satisfies `P`).
* `c : Ctx V` are the two oracles of the C++ code — pointer equality of two `tree_ptr` and
  `ValueEqual`; `c.SoundOn P` only says that a yes answer implies structural equality.  Every
  theorem holds for every such oracle, and the `*_oracle_independent` theorems say that the
  result is literally the same for any two of them (so physical sharing never matters).
* Three defects met by this property, all repaired in the tree: #10 (`tree::compare`, leaf against
  leaf of another key), `separate_domain::join(k, v)` (stored a top binding) and
  `discrete_domain::operator==` (`top == {}`).  The model carries both versions of each (flags
  `Patricia.compareIsFixed`, `SepDom.wjoinIsFixed`, `DD.eqIsFixed`, all `true`): the `_fixed`
  theorems are about the code of the tree, `_partial` + `_counterexample` about the code before
  the fix.
* `t.lookup k : Option V` is the abstraction function: a total map with a default.
  Statements quantify over all trees / environments satisfying the invariant, all keys
  `< 2^64`, all value lattices (tree level) or the interval lattice (environment level).
-/
open Crab Crab.Patricia Crab.Patricia.Tree

/-! ## trees -/

/-- the empty tree is well formed (base of every history) -/
theorem C19.wf_empty {V : Type} (P : V → Prop) : WF P (.empty : Tree V) := trivial

/-- `insert(key, value)`: invariant kept, the binding is overwritten, nothing else changes -/
theorem C19.lookup_insert {V : Type} {P : V → Prop} (c : Ctx V) (hc : c.SoundOn P) (t : Tree V)
    (hw : WF P t) (k : Nat) (v : V) (hk : k < 2 ^ 64) (hv : P v) :
    WF P (insertKV c t k v) ∧
      ∀ k', (insertKV c t k v).lookup k' = if k' = k then some v else t.lookup k' :=
  insertKV_spec hc hw hk hv

/-- `remove(key)`: invariant kept, the binding disappears, nothing else changes -/
theorem C19.lookup_remove {V : Type} {P : V → Prop} (c : Ctx V) (hc : c.SoundOn P) (t : Tree V)
    (hw : WF P t) (k : Nat) (hk : k < 2 ^ 64) :
    WF P (remove c t k) ∧ ∀ k', (remove c t k).lookup k' = if k' = k then none else t.lookup k' :=
  remove_spec hc hk hw

/-- `tree::insert` with an arbitrary `binary_op`, both combination directions, both
    `default_is_absorbing` modes: bottom exactly when `apply` on the existing binding says so;
    otherwise the key gets the combined value and no other key changes -/
theorem C19.insert_op {V : Type} {P : V → Prop} (c : Ctx V) (hc : c.SoundOn P) (op : BinOp V)
    (hop : op.Pres P) (l2r : Bool) (t : Tree V) (hw : WF P t) (k : Nat) (v : V) (hk : k < 2 ^ 64) (hv : P v) :
    match insert c op l2r t k v with
    | none => insSpec op l2r k v (t.lookup k) = none
    | some r => WF P r ∧ insSpec op l2r k v (t.lookup k) = some (r.lookup k) ∧
        ∀ k', k' ≠ k → r.lookup k' = t.lookup k' :=
  insert_spec hc hop hk hv hw

/-- `tree::merge` is the pointwise combination `pw` of the bindings (all structural cases, both
    `default_is_absorbing` modes, both directions): it reports bottom exactly when some key
    bound on both sides combines to bottom, and otherwise the result is well formed and
    `lookup` of the result is `pw` of the lookups.  Needs `apply(k,x,x) = x` on stored values
    (what the `s == t` shortcut of the code relies on). -/
theorem C19.lookup_merge {V : Type} {P : V → Prop} (c : Ctx V) (hc : c.SoundOn P) (op : BinOp V)
    (hop : op.Pres P) (hid : op.Idem P) (l2r : Bool) (s t : Tree V) (hs : WF P s) (ht : WF P t) :
    match merge c op l2r s t with
    | none => ∃ k x y, s.lookup k = some x ∧ t.lookup k = some y ∧ app op l2r k x y = .bottom
    | some r => WF P r ∧ ∀ k, pw op l2r k (s.lookup k) (t.lookup k) = some (r.lookup k) := by
  rcases merge_cases hc hop hid l2r hs ht with ⟨hres, h⟩ | ⟨r, hres, h⟩ <;> rw [hres] <;> exact h

/-- a merge that succeeds met no bottom -/
theorem C19.merge_some_no_bottom {V : Type} {P : V → Prop} (c : Ctx V) (hc : c.SoundOn P) (op : BinOp V)
    (hop : op.Pres P) (hid : op.Idem P) (l2r : Bool) (s t r : Tree V) (hs : WF P s) (ht : WF P t)
    (h : merge c op l2r s t = some r) (k : Nat) (x y : V) (hx : s.lookup k = some x) (hy : t.lookup k = some y) :
    app op l2r k x y ≠ .bottom := by
  have h1 := merge_ok hc hop hid l2r s t hs ht
  rw [h] at h1
  have := h1.2 k
  rw [hx, hy] at this
  intro hb
  simp [pw, hb] at this

/-- **canonicity**: well-formed trees with the same bindings are structurally equal -/
theorem C19.tree_ext {V : Type} {P : V → Prop} (s t : Tree V) (hs : WF P s) (ht : WF P t)
    (h : ∀ k, s.lookup k = t.lookup k) : s = t := WF.ext hs ht h

/-- the results do not depend on pointer equality / `ValueEqual` answers -/
theorem C19.merge_oracle_independent {V : Type} {P : V → Prop} (c c' : Ctx V) (hc : c.SoundOn P)
    (hc' : c'.SoundOn P) (op : BinOp V) (hop : op.Pres P) (hid : op.Idem P) (l2r : Bool) (s t : Tree V)
    (hs : WF P s) (ht : WF P t) : merge c op l2r s t = merge c' op l2r s t :=
  merge_ctx_indep hc hc' hop hid l2r hs ht
theorem C19.insert_oracle_independent {V : Type} {P : V → Prop} (c c' : Ctx V) (hc : c.SoundOn P)
    (hc' : c'.SoundOn P) (op : BinOp V) (hop : op.Pres P) (l2r : Bool) (t : Tree V) (ht : WF P t)
    (k : Nat) (v : V) (hk : k < 2 ^ 64) (hv : P v) : insert c op l2r t k v = insert c' op l2r t k v :=
  insert_ctx_indep hc hc' hop l2r ht hk hv
theorem C19.remove_oracle_independent {V : Type} {P : V → Prop} (c c' : Ctx V) (hc : c.SoundOn P)
    (hc' : c'.SoundOn P) (t : Tree V) (ht : WF P t) (k : Nat) (hk : k < 2 ^ 64) :
    remove c t k = remove c' t k := remove_ctx_indep hc hc' ht hk
theorem C19.compare_oracle_independent {V : Type} {P : V → Prop} (c c' : Ctx V) (hc : c.SoundOn P)
    (hc' : c'.SoundOn P) (po : POrder V) (hrefl : ∀ x, P x → po.leq x x = true) (l2r : Bool) (s t : Tree V)
    (hs : WF P s) (ht : WF P t) : compare true c po l2r s t = compare true c' po l2r s t :=
  compare_ctx_indep hc hc' po hrefl l2r hs ht

/-- iteration (`toList`): keys strictly increasing (hence no duplicates), and a binding is
    listed exactly when `lookup` finds it; `size()` is the number of bindings -/
theorem C19.toList_sorted_nodup_complete {V : Type} {P : V → Prop} (t : Tree V) (hw : WF P t) :
    t.keys.Pairwise (· < ·) ∧ t.keys.Nodup ∧ (∀ k v, (k, v) ∈ t.toList ↔ t.lookup k = some v) ∧
      t.size = t.toList.length :=
  ⟨hw.keys_sorted, hw.keys_nodup, fun _ _ => mem_toList_iff_lookup hw, size_eq_length t⟩

/-- the explicit-stack iterator (`look_for_next_leaf` / `increment`) never raises CRAB_ERROR on a
    well-formed tree and delivers exactly `toList` -/
theorem C19.iterator_eq_toList {V : Type} {P : V → Prop} (t : Tree V) (hw : WF P t) :
    iterate t = some t.toList := iterate_eq_toList hw.ne

/-- `join(t0, t1)` (with `highest_bit` / `compute_branching_bit` / `mask` on 64-bit indices):
    when the prefixes differ above both branching bits, the new node is well formed and binds
    exactly the bindings of the two trees -/
theorem C19.join_trees {V : Type} {P : V → Prop} (t0 t1 : Tree V) (h0 : WF P t0) (h1 : WF P t1)
    (hd : ∃ b, max (lvl t0) (lvl t1) ≤ b ∧ t0.pfx'.testBit b ≠ t1.pfx'.testBit b) :
    WF P (join t0 t1) ∧ ∀ k, (join t0 t1).lookup k = (t0.lookup k).or (t1.lookup k) :=
  join_spec h0 h1 hd

/-! ### `compare`

Defect #10 (a leaf compared with a leaf of another key was answered yes) was repaired in the
tree by the commit "fix: patricia tree comparison of two leaves with different keys"; the model
carries both versions (`fixedLeafLeaf`), `Patricia.compareIsFixed = true` selects the one of the
current tree.  The statement is proved for the current code; for the code before the commit the
counterexample and the exact extent of the damage are kept as theorems. -/

/-- the full statement: `compare` answers yes exactly when the pointwise order holds
    (`PwLe`: a missing binding is the default, top or bottom of the order as told by
    `default_is_top`), for both directions of use and both kinds of default -/
def C19.compare_iff_pointwise_Statement (fixedLeafLeaf : Bool) : Prop :=
  ∀ (V : Type) (P : V → Prop) (c : Ctx V) (po : POrder V) (l2r : Bool) (s t : Tree V),
    c.SoundOn P → (∀ x, P x → po.leq x x = true) → WF P s → WF P t →
    (Patricia.compare fixedLeafLeaf c po l2r s t = true ↔ PwLe po l2r s t)

/-- it holds for the code after the fix commit ... -/
theorem C19.compare_iff_pointwise_fixed : C19.compare_iff_pointwise_Statement true :=
  fun _ _ _ po l2r s t hc hrefl hs ht => compare_fixed_iff hc po hrefl l2r s t hs ht

/-- ... which is the code of the current tree -/
theorem C19.compare_iff_pointwise : C19.compare_iff_pointwise_Statement Patricia.compareIsFixed :=
  C19.compare_iff_pointwise_fixed

/-- the code before the fix: exact on every input on which it agrees with the repaired test
    (a decidable condition; it fails only when the walk reaches two leaves of different keys) -/
theorem C19.compare_before_fix_partial {V : Type} {P : V → Prop} (c : Ctx V) (hc : c.SoundOn P)
    (po : POrder V) (hrefl : ∀ x, P x → po.leq x x = true) (l2r : Bool) (s t : Tree V)
    (hs : WF P s) (ht : WF P t)
    (hex : Patricia.compare false c po l2r s t = Patricia.compare true c po l2r s t) :
    Patricia.compare false c po l2r s t = true ↔ PwLe po l2r s t := by
  rw [hex]; exact compare_fixed_iff hc po hrefl l2r s t hs ht

/-- the code before the fix never answered no when the pointwise order holds -/
theorem C19.compare_before_fix_complete {V : Type} {P : V → Prop} (c : Ctx V) (hc : c.SoundOn P)
    (po : POrder V) (hrefl : ∀ x, P x → po.leq x x = true) (l2r : Bool) (s t : Tree V)
    (hs : WF P s) (ht : WF P t) (h : PwLe po l2r s t) : Patricia.compare false c po l2r s t = true :=
  compare_mono c po l2r s t ((compare_fixed_iff hc po hrefl l2r s t hs ht).mpr h)

/-- both versions are exact when the default is the bottom of the order (the sets) -/
theorem C19.compare_iff_pointwise_default_bottom (fixedLeafLeaf : Bool) {V : Type} {P : V → Prop} (c : Ctx V)
    (hc : c.SoundOn P) (po : POrder V) (hd : po.defaultIsTop = false) (hrefl : ∀ x, P x → po.leq x x = true)
    (s t : Tree V) (hs : WF P s) (ht : WF P t) :
    leqTree fixedLeafLeaf c po s t = true ↔ PwLe po true s t := by
  unfold leqTree
  cases fixedLeafLeaf
  · rw [compare_eq_of_bot c po hd s t]; exact compare_fixed_iff hc po hrefl true s t hs ht
  · exact compare_fixed_iff hc po hrefl true s t hs ht

/-- the code before the fix violated the statement: `{1 -> ()} <= {2 -> ()}` was answered yes
    with `default_is_top` although key 2 is bound on the right only -/
theorem C19.compare_before_fix_counterexample : ¬ C19.compare_iff_pointwise_Statement false := by
  intro h
  have h1 := h Unit (fun _ => True) Ctx.never ⟨fun _ _ => true, true⟩ true (.leaf 1 ()) (.leaf 2 ())
    (Ctx.never_sound.soundOn _) (fun _ _ => rfl) ⟨by decide, trivial⟩ ⟨by decide, trivial⟩
  have h2 : Patricia.compare false Ctx.never ⟨fun _ _ => true, true⟩ true (.leaf 1 ()) (.leaf 2 ()) = true := by
    simp [Patricia.compare, compareLeaf, Ctx.never, Tree.isLeaf]
  have h3 := h1.mp h2 2
  simp [rel, leO] at h3

/-- non-vacuity: a well-formed tree over indices with high bits, built by the code itself -/
example : insertKV Ctx.never (insertKV Ctx.never (insertKV Ctx.never (.empty : Tree Nat) 1 7) (2 ^ 63) 8) (2 ^ 63 + 1) 9
    = .node (2 ^ 63 - 1) (2 ^ 63) (.leaf 1 7) (.node (2 ^ 63) 1 (.leaf (2 ^ 63) 8) (.leaf (2 ^ 63 + 1) 9)) := by
  decide

/-! ## environments: `separate_domain<Key, interval<z_number>>`

`EnvInv e` : the tree is well formed, stores neither top nor bottom (nor improper bounds) and is
empty when the bottom flag is set.  `PtrSound pe` : the pointer-equality oracle only answers yes
on structurally equal trees.  `atKey itvLattice e k` is `e.at(k)`. -/

theorem C19.env_inv_top : EnvInv SepDom.top := SepDom.inv_top
theorem C19.env_inv_bottom : EnvInv SepDom.bottom := SepDom.inv_bottom

/-- `a | b`: invariant kept and `at (a | b) k = at a k | at b k` for every key (bottoms included) -/
theorem C19.env_at_join (pe : Tree Itv → Tree Itv → Bool) (hpe : PtrSound pe) (a b : IEnv)
    (ha : EnvInv a) (hb : EnvInv b) :
    EnvInv (SepDom.join (itvCtx pe) itvLattice a b) ∧
      ∀ k, SepDom.atKey itvLattice (SepDom.join (itvCtx pe) itvLattice a b) k =
        Itv.join (SepDom.atKey itvLattice a k) (SepDom.atKey itvLattice b k) :=
  IEnv.join_at hpe ha hb

/-- `a || b` likewise -/
theorem C19.env_at_widen (pe : Tree Itv → Tree Itv → Bool) (hpe : PtrSound pe) (a b : IEnv)
    (ha : EnvInv a) (hb : EnvInv b) :
    EnvInv (SepDom.widen (itvCtx pe) itvLattice a b) ∧
      ∀ k, SepDom.atKey itvLattice (SepDom.widen (itvCtx pe) itvLattice a b) k =
        Itv.widen (SepDom.atKey itvLattice a k) (SepDom.atKey itvLattice b k) :=
  IEnv.widen_at hpe ha hb

/-- `a & b`: bottom exactly when some component is bottom, otherwise pointwise -/
theorem C19.env_at_meet (pe : Tree Itv → Tree Itv → Bool) (hpe : PtrSound pe) (a b : IEnv)
    (ha : EnvInv a) (hb : EnvInv b) :
    EnvInv (SepDom.meet (itvCtx pe) itvLattice a b) ∧
    ((SepDom.meet (itvCtx pe) itvLattice a b).isBot = true ↔
      ∃ k, (Itv.meet (SepDom.atKey itvLattice a k) (SepDom.atKey itvLattice b k)).isBottom = true) ∧
    ((SepDom.meet (itvCtx pe) itvLattice a b).isBot = false →
      ∀ k, SepDom.atKey itvLattice (SepDom.meet (itvCtx pe) itvLattice a b) k =
        Itv.meet (SepDom.atKey itvLattice a k) (SepDom.atKey itvLattice b k)) :=
  IEnv.meet_at hpe ha hb

/-- `a && b` likewise -/
theorem C19.env_at_narrow (pe : Tree Itv → Tree Itv → Bool) (hpe : PtrSound pe) (a b : IEnv)
    (ha : EnvInv a) (hb : EnvInv b) :
    EnvInv (SepDom.narrow (itvCtx pe) itvLattice a b) ∧
    ((SepDom.narrow (itvCtx pe) itvLattice a b).isBot = true ↔
      ∃ k, (Itv.narrow (SepDom.atKey itvLattice a k) (SepDom.atKey itvLattice b k)).isBottom = true) ∧
    ((SepDom.narrow (itvCtx pe) itvLattice a b).isBot = false →
      ∀ k, SepDom.atKey itvLattice (SepDom.narrow (itvCtx pe) itvLattice a b) k =
        Itv.narrow (SepDom.atKey itvLattice a k) (SepDom.atKey itvLattice b k)) :=
  IEnv.narrow_at hpe ha hb

/-- `set(k, v)` for every interval `v` (bottom, top, ordinary) -/
theorem C19.env_set (pe : Tree Itv → Tree Itv → Bool) (hpe : PtrSound pe) (e : IEnv) (he : EnvInv e)
    (k : Nat) (hk : k < 2 ^ 64) (v : Itv) (hv : v.isBottom = true ∨ v.WF) :
    EnvInv (SepDom.set (itvCtx pe) itvLattice e k v) ∧
    ((SepDom.set (itvCtx pe) itvLattice e k v).isBot = (e.isBot || v.isBottom)) ∧
    ((SepDom.set (itvCtx pe) itvLattice e k v).isBot = false →
      ∀ k', SepDom.atKey itvLattice (SepDom.set (itvCtx pe) itvLattice e k v) k' =
        if k' = k then v else SepDom.atKey itvLattice e k') :=
  IEnv.set_at hpe he hk hv

/-- `operator-=` (forget) -/
theorem C19.env_forget (pe : Tree Itv → Tree Itv → Bool) (hpe : PtrSound pe) (e : IEnv) (he : EnvInv e)
    (k : Nat) (hk : k < 2 ^ 64) :
    EnvInv (SepDom.forget (itvCtx pe) e k) ∧ (SepDom.forget (itvCtx pe) e k).isBot = e.isBot ∧
      (e.isBot = false → ∀ k', SepDom.atKey itvLattice (SepDom.forget (itvCtx pe) e k) k' =
        if k' = k then Itv.top else SepDom.atKey itvLattice e k') :=
  SepDom.forget_at (itvCtx_sound hpe) he hk

/-- `project(keys)`, whichever of its two strategies runs -/
theorem C19.env_project (pe : Tree Itv → Tree Itv → Bool) (hpe : PtrSound pe) (e : IEnv) (he : EnvInv e)
    (ne : e.isBot = false) (keys : List Nat) (hkeys : ∀ k ∈ keys, k < 2 ^ 64) :
    EnvInv (SepDom.project (itvCtx pe) itvLattice e keys) ∧
    (SepDom.project (itvCtx pe) itvLattice e keys).isBot = false ∧
      ∀ k', SepDom.atKey itvLattice (SepDom.project (itvCtx pe) itvLattice e keys) k' =
        if k' ∈ keys then SepDom.atKey itvLattice e k' else Itv.top :=
  SepDom.project_at IEnv.vals (itvCtx_sound hpe) he ne hkeys

/-- `rename(from, to)` (as coded: sequential, a pair whose source is unbound is skipped):
    the bindings are those of the sequential map-level renaming `rename1Spec` -/
theorem C19.env_rename (pe : Tree Itv → Tree Itv → Bool) (hpe : PtrSound pe) (e : IEnv) (he : EnvInv e)
    (frm to : List Nat) (hb : ∀ p ∈ frm.zip to, p.1 < 2 ^ 64 ∧ p.2 < 2 ^ 64) :
    match SepDom.rename (itvCtx pe) itvLattice e frm to with
    | none => (e.isTop || e.isBot) = false ∧ frm.length ≠ to.length
    | some e' => EnvInv e' ∧ e'.isBot = e.isBot ∧
        ∀ k', e'.tree.lookup k' =
          if (e.isTop || e.isBot) = true then e.tree.lookup k'
          else (frm.zip to).foldl (fun m p => SepDom.rename1Spec m p.1 p.2) e.tree.lookup k' := by
  have h := SepDom.rename_spec (L := itvLattice) (itvCtx_sound hpe) (fun _ hx => hx.1) he frm to hb
  cases hr : SepDom.rename (itvCtx pe) itvLattice e frm to <;> rw [hr] at h <;> exact h

/-- iteration: strictly increasing keys; `(k, v)` is listed exactly when `at(k) = v` and `v` is
    not top (every non-top binding exactly once) -/
theorem C19.env_iteration (e : IEnv) (he : EnvInv e) (ne : e.isBot = false) :
    ∃ l, SepDom.bindings e = some l ∧ (l.map Prod.fst).Pairwise (· < ·) ∧
      ∀ k v, (k, v) ∈ l ↔ (SepDom.atKey itvLattice e k = v ∧ v.isTop = false) :=
  IEnv.bindings_spec he ne

/-- `is_top()` -/
theorem C19.env_is_top (e : IEnv) (he : EnvInv e) :
    e.isTop = true ↔ (e.isBot = false ∧ ∀ k, SepDom.atKey itvLattice e k = Itv.top) :=
  SepDom.isTop_iff IEnv.vals he

/-- the inclusion test: the full statement -/
def C19.env_leq_iff_pointwise_Statement (fixedLeafLeaf : Bool) : Prop :=
  ∀ (pe : Tree Itv → Tree Itv → Bool), PtrSound pe → ∀ (a b : IEnv), EnvInv a → EnvInv b →
    (SepDom.leq fixedLeafLeaf (itvCtx pe) itvLattice a b = true ↔
      ∀ k, Itv.leq (SepDom.atKey itvLattice a k) (SepDom.atKey itvLattice b k) = true)

/-- it holds for the code after the fix commit of `tree::compare` ... -/
theorem C19.env_leq_iff_pointwise_fixed : C19.env_leq_iff_pointwise_Statement true :=
  fun _ hpe _ _ ha hb => IEnv.leq_fixed_at hpe ha hb

/-- ... which is the code of the current tree -/
theorem C19.env_leq_iff_pointwise : C19.env_leq_iff_pointwise_Statement Patricia.compareIsFixed :=
  C19.env_leq_iff_pointwise_fixed

/-- `operator==` of the current tree is equality of all `at` values up to the interval order -/
theorem C19.env_eq_iff_pointwise (pe : Tree Itv → Tree Itv → Bool) (hpe : PtrSound pe) (a b : IEnv)
    (ha : EnvInv a) (hb : EnvInv b) :
    SepDom.eq Patricia.compareIsFixed (itvCtx pe) itvLattice a b = true ↔
      ∀ k, Itv.leq (SepDom.atKey itvLattice a k) (SepDom.atKey itvLattice b k) = true ∧
           Itv.leq (SepDom.atKey itvLattice b k) (SepDom.atKey itvLattice a k) = true := by
  unfold SepDom.eq
  rw [Bool.and_eq_true, C19.env_leq_iff_pointwise pe hpe a b ha hb, C19.env_leq_iff_pointwise pe hpe b a hb ha]
  exact ⟨fun h k => ⟨h.1 k, h.2 k⟩, fun h => ⟨fun k => (h k).1, fun k => (h k).2⟩⟩

/-- the code before the fix: a pointwise inclusion was never missed ... -/
theorem C19.env_leq_before_fix_complete (pe : Tree Itv → Tree Itv → Bool) (hpe : PtrSound pe) (a b : IEnv)
    (ha : EnvInv a) (hb : EnvInv b)
    (h : ∀ k, Itv.leq (SepDom.atKey itvLattice a k) (SepDom.atKey itvLattice b k) = true) :
    SepDom.leq false (itvCtx pe) itvLattice a b = true :=
  IEnv.leq_complete_at false hpe ha hb h

/-- ... and a yes answer was right on every input on which it agrees with the repaired test -/
theorem C19.env_leq_before_fix_partial (pe : Tree Itv → Tree Itv → Bool) (hpe : PtrSound pe) (a b : IEnv)
    (ha : EnvInv a) (hb : EnvInv b)
    (hex : SepDom.leq false (itvCtx pe) itvLattice a b = SepDom.leq true (itvCtx pe) itvLattice a b) :
    SepDom.leq false (itvCtx pe) itvLattice a b = true ↔
      ∀ k, Itv.leq (SepDom.atKey itvLattice a k) (SepDom.atKey itvLattice b k) = true := by
  rw [hex]; exact IEnv.leq_fixed_at hpe ha hb

/-- defect #10 on intervals (code before the fix): `{1 -> [2,+oo]} <= {2 -> [-10,3]}` was answered
    yes, although `at 2` is top on the left and `[-10,3]` on the right -/
theorem C19.env_leq_before_fix_counterexample : ¬ C19.env_leq_iff_pointwise_Statement false := by
  intro h
  let a : IEnv := ⟨false, .leaf 1 ⟨.fin 2, .pinf⟩⟩
  let b : IEnv := ⟨false, .leaf 2 ⟨.fin (-10), .fin 3⟩⟩
  have ha : EnvInv a := ⟨⟨by decide, by decide, by decide, by simp [Itv.WF]⟩, fun h => by cases h⟩
  have hb : EnvInv b := ⟨⟨by decide, by decide, by decide, by simp [Itv.WF]⟩, fun h => by cases h⟩
  have h1 := h (fun _ _ => false) (fun _ _ h => by cases h) a b ha hb
  have h2 : SepDom.leq false (itvCtx fun _ _ => false) itvLattice a b = true := by
    simp [a, b, SepDom.leq, leqTree, Patricia.compare, compareLeaf, itvCtx, SepDom.domainPO, Tree.isLeaf]
  have h3 := h1.mp h2 2
  revert h3
  decide

/-- `join(k, v)` (weak update): the invariant "top is never stored" must be kept and, for a
    non-bottom `v` on a non-bottom environment, `at k` becomes `at k | v` and nothing else changes.
    The statement is parametrised by the code version (`fixedTop = SepDom.wjoinIsFixed = true` is
    the tree). -/
def C19.env_wjoin_Statement (fixedTop : Bool) : Prop :=
  ∀ (pe : Tree Itv → Tree Itv → Bool), PtrSound pe → ∀ (e : IEnv), EnvInv e → ∀ k, k < 2 ^ 64 →
    ∀ v : Itv, (v.isBottom = true ∨ v.WF) →
      EnvInv (SepDom.wjoin fixedTop (itvCtx pe) itvLattice e k v) ∧
      (e.isBot = false → v.isBottom = false →
        (SepDom.wjoin fixedTop (itvCtx pe) itvLattice e k v).isBot = false ∧
        ∀ k', SepDom.atKey itvLattice (SepDom.wjoin fixedTop (itvCtx pe) itvLattice e k v) k' =
          if k' = k then Itv.join (SepDom.atKey itvLattice e k) v else SepDom.atKey itvLattice e k')

/-- both versions, whenever the joined value is not top or the code has the fix (the excluding
    hypothesis is decidable) -/
theorem C19.env_wjoin_partial (fixedTop : Bool) (pe : Tree Itv → Tree Itv → Bool) (hpe : PtrSound pe)
    (e : IEnv) (he : EnvInv e) (k : Nat) (hk : k < 2 ^ 64) (v : Itv) (hv : v.isBottom = true ∨ v.WF)
    (hnt : fixedTop = true ∨ ∀ old, e.tree.lookup k = some old → (Itv.join old v).isTop = false) :
    EnvInv (SepDom.wjoin fixedTop (itvCtx pe) itvLattice e k v) ∧
      (e.isBot = false → v.isBottom = false →
        (SepDom.wjoin fixedTop (itvCtx pe) itvLattice e k v).isBot = false ∧
        ∀ k', SepDom.atKey itvLattice (SepDom.wjoin fixedTop (itvCtx pe) itvLattice e k v) k' =
          if k' = k then Itv.join (SepDom.atKey itvLattice e k) v else SepDom.atKey itvLattice e k') := by
  cases ne : e.isBot
  · cases hvb : v.isBottom
    · have hw : v.WF := hv.resolve_left (by simp [hvb])
      have hab : (SepDom.atKey itvLattice e k).isBottom = false := SepDom.atKey_not_bottom IEnv.vals he ne k
      have hjb := Itv.join_not_bottom hab hvb
      -- a strong update with the joined value, which is top when `k` is unbound or `v` is top
      have key : SepDom.wjoin fixedTop (itvCtx pe) itvLattice e k v =
          SepDom.set (itvCtx pe) itvLattice e k (Itv.join (SepDom.atKey itvLattice e k) v) := by
        rw [SepDom.wjoin_eq_set IEnv.vals fixedTop ne hvb
          (fun _ old hl => Itv.join_not_bottom (he.1.val_of_lookup hl).2.1 hvb) hnt]
        congr 1
        rw [SepDom.atKey_eq, ne]
        cases hl : e.tree.lookup k with
        | none => exact (Itv.join_top_left hvb).symm
        | some old =>
          cases hvt : v.isTop
          · exact if_neg (by rw [show itvLattice.isTop v = v.isTop from rfl, hvt]; simp)
          · rw [Itv.eq_top_of_isTop hvt hw]; exact (Itv.join_top_right (he.1.val_of_lookup hl).2.1).symm
      rw [key]
      obtain ⟨h1, h2, h3⟩ := IEnv.set_at hpe he hk (v := Itv.join (SepDom.atKey itvLattice e k) v)
        (Or.inr (Itv.join_wf hab hvb (IEnv.atKey_wf he ne k) hw))
      have hnb : (SepDom.set (itvCtx pe) itvLattice e k (Itv.join (SepDom.atKey itvLattice e k) v)).isBot = false := by
        rw [h2, ne, hjb]; rfl
      exact ⟨h1, fun _ _ => ⟨hnb, h3 hnb⟩⟩
    · rw [show SepDom.wjoin fixedTop (itvCtx pe) itvLattice e k v = SepDom.bottom by
        unfold SepDom.wjoin; simp [ne, show itvLattice.isBottom v = true from hvb]]
      exact ⟨SepDom.inv_bottom, fun _ h => by cases h⟩
  · rw [show SepDom.wjoin fixedTop (itvCtx pe) itvLattice e k v = e by unfold SepDom.wjoin; simp [ne]]
    exact ⟨he, fun h => by cases h⟩

/-- the `join(k, v)` of the tree (`SepDom.wjoinIsFixed = true`) satisfies the statement -/
theorem C19.env_wjoin_fixed : C19.env_wjoin_Statement true :=
  fun pe hpe e he k hk v hv => C19.env_wjoin_partial true pe hpe e he k hk v hv (Or.inl rfl)

/-- the code before the fix did not: `{7 -> [-oo,0]}.join(7, [0,+oo])` stored `7 -> [-oo,+oo]` -/
theorem C19.env_wjoin_counterexample : ¬ C19.env_wjoin_Statement false := by
  intro h
  let e : IEnv := ⟨false, .leaf 7 ⟨.ninf, .fin 0⟩⟩
  have he : EnvInv e := ⟨⟨by decide, by decide, by decide, by simp [Itv.WF]⟩, fun h => by cases h⟩
  have h1 := (h (fun _ _ => false) (fun _ _ h => by cases h) e he 7 (by decide) ⟨.fin 0, .pinf⟩
    (Or.inr (by simp [Itv.WF]))).1
  have h2 : (SepDom.wjoin false (itvCtx fun _ _ => false) itvLattice e 7 ⟨.fin 0, .pinf⟩).tree =
      .leaf 7 ⟨.ninf, .pinf⟩ := by decide
  have h3 := h1.1
  rw [h2] at h3
  exact absurd h3.2.1 (by decide)

/-! ## sets: `patricia_tree_set`, `discrete_domain`

`PSet.Inv s`: well-formed tree whose stored values are all `true`.  `PSet.ctx pe` are the oracles. -/

theorem C19.set_inv_empty : PSet.Inv PSet.empty := PSet.inv_empty

/-! ### `+=`, `-=`, `|`, `&` through membership -/

theorem C19.set_add (pe : PSet.T → PSet.T → Bool) (hpe : ∀ a b, pe a b = true → a = b) (s : PSet.T)
    (hs : PSet.Inv s) (k : Nat) (hk : k < 2 ^ 64) :
    PSet.Inv (PSet.add (PSet.ctx pe) s k) ∧
      ∀ k', PSet.member (PSet.add (PSet.ctx pe) s k) k' = (decide (k' = k) || PSet.member s k') :=
  PSet.add_spec (PSet.ctx_sound pe hpe) hs hk
theorem C19.set_remove (pe : PSet.T → PSet.T → Bool) (hpe : ∀ a b, pe a b = true → a = b) (s : PSet.T)
    (hs : PSet.Inv s) (k : Nat) (hk : k < 2 ^ 64) :
    PSet.Inv (PSet.remove (PSet.ctx pe) s k) ∧
      ∀ k', PSet.member (PSet.remove (PSet.ctx pe) s k) k' = (!decide (k' = k) && PSet.member s k') :=
  PSet.remove_spec' (PSet.ctx_sound pe hpe) hs hk
theorem C19.set_union (pe : PSet.T → PSet.T → Bool) (hpe : ∀ a b, pe a b = true → a = b) (a b : PSet.T)
    (ha : PSet.Inv a) (hb : PSet.Inv b) :
    PSet.Inv (PSet.union (PSet.ctx pe) a b) ∧
      ∀ k, PSet.member (PSet.union (PSet.ctx pe) a b) k = (PSet.member a k || PSet.member b k) :=
  PSet.union_spec (PSet.ctx_sound pe hpe) ha hb
theorem C19.set_inter (pe : PSet.T → PSet.T → Bool) (hpe : ∀ a b, pe a b = true → a = b) (a b : PSet.T)
    (ha : PSet.Inv a) (hb : PSet.Inv b) :
    PSet.Inv (PSet.inter (PSet.ctx pe) a b) ∧
      ∀ k, PSet.member (PSet.inter (PSet.ctx pe) a b) k = (PSet.member a k && PSet.member b k) :=
  PSet.inter_spec (PSet.ctx_sound pe hpe) ha hb

/-! ### `<=`, `==`: exact on sets for both versions of `compare` (the leaf/leaf defect is
unreachable when the default is the bottom of the order) -/

theorem C19.set_subset_iff (fixedLeafLeaf : Bool) (pe : PSet.T → PSet.T → Bool)
    (hpe : ∀ a b, pe a b = true → a = b) (a b : PSet.T) (ha : PSet.Inv a) (hb : PSet.Inv b) :
    PSet.subset fixedLeafLeaf (PSet.ctx pe) a b = true ↔ ∀ k, PSet.member a k = true → PSet.member b k = true :=
  PSet.subset_spec fixedLeafLeaf (PSet.ctx_sound pe hpe) ha hb
theorem C19.set_eq_iff (fixedLeafLeaf : Bool) (pe : PSet.T → PSet.T → Bool)
    (hpe : ∀ a b, pe a b = true → a = b) (a b : PSet.T) (ha : PSet.Inv a) (hb : PSet.Inv b) :
    PSet.eq fixedLeafLeaf (PSet.ctx pe) a b = true ↔ ∀ k, PSet.member a k = PSet.member b k :=
  PSet.eq_spec fixedLeafLeaf (PSet.ctx_sound pe hpe) ha hb

/-! ### iteration, `size()`, `empty()` -/

theorem C19.set_elems (s : PSet.T) (hs : PSet.Inv s) :
    (PSet.elems s).Pairwise (· < ·) ∧ (PSet.elems s).Nodup ∧
      (∀ k, k ∈ PSet.elems s ↔ PSet.member s k = true) ∧ (PSet.elems s).length = PSet.size s :=
  PSet.elems_spec hs
theorem C19.set_isEmpty (s : PSet.T) (hs : PSet.Inv s) :
    PSet.isEmpty s = true ↔ ∀ k, PSet.member s k = false := PSet.isEmpty_iff hs

/-! ### `discrete_domain`: `|`, `&`, `<=` through `contain`

`DD.Inv`: well-formed element set, empty when the top flag is set. -/

theorem C19.dd_join (pe : PSet.T → PSet.T → Bool) (hpe : ∀ a b, pe a b = true → a = b) (a b : DD)
    (ha : DD.Inv a) (hb : DD.Inv b) :
    DD.Inv (DD.join (PSet.ctx pe) a b) ∧
      ∀ k, (DD.join (PSet.ctx pe) a b).contain k = (a.contain k || b.contain k) :=
  DD.join_spec (PSet.ctx_sound pe hpe) ha hb
theorem C19.dd_meet (pe : PSet.T → PSet.T → Bool) (hpe : ∀ a b, pe a b = true → a = b) (a b : DD)
    (ha : DD.Inv a) (hb : DD.Inv b) :
    DD.Inv (DD.meet (PSet.ctx pe) a b) ∧
      ∀ k, (DD.meet (PSet.ctx pe) a b).contain k = (a.contain k && b.contain k) :=
  DD.meet_spec (PSet.ctx_sound pe hpe) ha hb
theorem C19.dd_leq_iff (fixedLeafLeaf : Bool) (pe : PSet.T → PSet.T → Bool)
    (hpe : ∀ a b, pe a b = true → a = b) (a b : DD) (ha : DD.Inv a) (hb : DD.Inv b) :
    DD.leq fixedLeafLeaf (PSet.ctx pe) a b = true ↔ ∀ k, a.contain k = true → b.contain k = true :=
  DD.leq_spec fixedLeafLeaf (PSet.ctx_sound pe hpe) ha hb

/-- `discrete_domain::operator==`, parametrised by the code version (`fixedTop = DD.eqIsFixed =
    true` is the tree): equal top flags and, when not top, equal element sets -/
def C19.dd_eq_Statement (fixedTop : Bool) : Prop :=
  ∀ (pe : PSet.T → PSet.T → Bool), (∀ a b, pe a b = true → a = b) → ∀ (a b : DD),
    PSet.Inv a.set → PSet.Inv b.set →
    (DD.eq fixedTop false (PSet.ctx pe) a b = true ↔
      (a.isTop = b.isTop ∧ (a.isTop = false → ∀ k, PSet.member a.set k = PSet.member b.set k)))

/-- it holds for the code of the tree -/
theorem C19.dd_eq_fixed : C19.dd_eq_Statement true := by
  intro pe hpe a b ha hb
  unfold DD.eq
  simp only [if_true]
  rw [Bool.or_eq_true, Bool.and_eq_true, Bool.and_eq_true, Bool.and_eq_true,
    PSet.eq_spec false (PSet.ctx_sound pe hpe) ha hb]
  cases hat : a.isTop <;> cases hbt : b.isTop <;> simp

/-- the code before the fix was right when the two top flags agree -/
theorem C19.dd_eq_partial (pe : PSet.T → PSet.T → Bool) (hpe : ∀ a b, pe a b = true → a = b) (a b : DD)
    (ha : PSet.Inv a.set) (hb : PSet.Inv b.set) (hsame : a.isTop = b.isTop) :
    DD.eq false false (PSet.ctx pe) a b = true ↔
      (a.isTop = false → ∀ k, PSet.member a.set k = PSet.member b.set k) := by
  unfold DD.eq
  simp only [Bool.false_eq_true, if_false]
  rw [Bool.or_eq_true, PSet.eq_spec false (PSet.ctx_sound pe hpe) ha hb]
  cases hat : a.isTop
  · rw [hat] at hsame
    simp [← hsame]
  · rw [hat] at hsame
    simp [← hsame]

/-- the code before the fix answered yes on `top == {}` -/
theorem C19.dd_eq_counterexample : ¬ C19.dd_eq_Statement false := by
  intro h
  have h1 := h (fun _ _ => false) (fun _ _ h => by cases h) DD.top DD.bottom trivial trivial
  have h2 : DD.eq false false (PSet.ctx fun _ _ => false) DD.top DD.bottom = true := by
    simp [DD.eq, DD.top, DD.bottom, PSet.eq, PSet.subset, leqTree, Patricia.compare]
  have h3 := (h1.mp h2).1
  revert h3; decide

/-! ### `discrete_domain::operator+=(e)`, `operator-=(e)`, set difference `operator-(Range)`

The result is well formed and `contain` answers pointwise.  A top value is returned unchanged
by `-=` and `-` (the code cannot represent co-finite sets; the theorems say so explicitly rather
than hiding it), and `a - top` for a non-top `a` is the CRAB_ERROR of iterating a top set. -/

theorem C19.dd_add (pe : PSet.T → PSet.T → Bool) (hpe : ∀ a b, pe a b = true → a = b) (a : DD)
    (ha : DD.Inv a) (k : Nat) (hk : k < 2 ^ 64) :
    DD.Inv (DD.add (PSet.ctx pe) a k) ∧
      ∀ k', (DD.add (PSet.ctx pe) a k).contain k' = (decide (k' = k) || a.contain k') :=
  DD.add_spec (PSet.ctx_sound pe hpe) ha hk
theorem C19.dd_remove (pe : PSet.T → PSet.T → Bool) (hpe : ∀ a b, pe a b = true → a = b) (a : DD)
    (ha : DD.Inv a) (k : Nat) (hk : k < 2 ^ 64) :
    DD.Inv (DD.remove (PSet.ctx pe) a k) ∧
      (a.isTop = false → ∀ k', (DD.remove (PSet.ctx pe) a k).contain k' = (!decide (k' = k) && a.contain k')) ∧
      (a.isTop = true → DD.remove (PSet.ctx pe) a k = a) :=
  DD.remove_spec (PSet.ctx_sound pe hpe) ha hk
theorem C19.dd_diff (pe : PSet.T → PSet.T → Bool) (hpe : ∀ a b, pe a b = true → a = b) (a b : DD)
    (ha : DD.Inv a) (hb : DD.Inv b) (hbt : b.isTop = false) :
    ∃ r, DD.diff (PSet.ctx pe) a b = some r ∧ DD.Inv r ∧
      (a.isTop = false → ∀ k, r.contain k = (a.contain k && !b.contain k)) ∧
      (a.isTop = true → r = a) :=
  DD.diff_spec (PSet.ctx_sound pe hpe) ha hb hbt
theorem C19.dd_diff_top_error (pe : PSet.T → PSet.T → Bool) (a b : DD)
    (hat : a.isTop = false) (hbt : b.isTop = true) : DD.diff (PSet.ctx pe) a b = none :=
  DD.diff_top_error (PSet.ctx pe) hat hbt
/-- the hypotheses of `dd_diff` are met by non-trivial values: {3, 5, 2^63} - {5} -/
example :
    let c := PSet.ctx (fun _ _ => false)
    let a : DD := ⟨false, PSet.add c (PSet.add c (PSet.add c PSet.empty 3) 5) (2 ^ 63)⟩
    let b : DD := ⟨false, PSet.add c PSet.empty 5⟩
    (DD.diff c a b).map (fun r => (r.contain 3, r.contain 5, r.contain (2 ^ 63))) = some (true, false, true) := by
  decide

/-- `discrete_domain::rename(from, to)`: on a value that is neither top nor bottom the result is the
    left fold, pair by pair, of "if `from_i` is an element, replace it by `to_i`" on the element
    predicate (`DD.renameStepSpec`); top and bottom are returned unchanged. -/
theorem C19.dd_rename (pe : PSet.T → PSet.T → Bool) (hpe : ∀ a b, pe a b = true → a = b) (a : DD)
    (ha : DD.Inv a) (hat : a.isTop = false) (hab : a.isBottom = false) (frm to : List Nat)
    (hlen : frm.length = to.length) (hf : ∀ k ∈ frm, k < 2 ^ 64) (ht : ∀ k ∈ to, k < 2 ^ 64) :
    ∃ r, DD.rename (PSet.ctx pe) a frm to = some r ∧ DD.Inv r ∧ r.isTop = false ∧
      ∀ k, r.contain k = ((frm.zip to).foldl DD.renameStepSpec a.contain) k :=
  DD.rename_spec (PSet.ctx_sound pe hpe) ha hat hab frm to hlen hf ht
theorem C19.dd_rename_top_bottom (pe : PSet.T → PSet.T → Bool) (a : DD)
    (h : a.isTop = true ∨ a.isBottom = true) (frm to : List Nat) :
    DD.rename (PSet.ctx pe) a frm to = some a :=
  DD.rename_top_bottom (PSet.ctx pe) h frm to
/-- one pair, the readable instance: renaming an element `f` to `t ≠ f` -/
theorem C19.dd_rename_one (pe : PSet.T → PSet.T → Bool) (hpe : ∀ a b, pe a b = true → a = b) (a : DD)
    (ha : DD.Inv a) (hat : a.isTop = false) (f t : Nat) (hf : f < 2 ^ 64) (ht : t < 2 ^ 64)
    (hne : f ≠ t) (hin : a.contain f = true) :
    ∃ r, DD.rename (PSet.ctx pe) a [f] [t] = some r ∧ DD.Inv r ∧
      ∀ k, r.contain k = (decide (k = t) || (!decide (k = f) && a.contain k)) := by
  have hab : a.isBottom = false := by
    cases h : a.isBottom
    · rfl
    · simp [DD.contain, h] at hin
  obtain ⟨r, h1, h2, _, h4⟩ := C19.dd_rename pe hpe a ha hat hab [f] [t] rfl
    (by simpa using hf) (by simpa using ht)
  refine ⟨r, h1, h2, fun k => ?_⟩
  rw [h4]
  simp only [List.zip_cons_cons, List.zip_nil_right, List.foldl, DD.renameStepSpec, if_neg hne, hin, if_true]
  by_cases e1 : k = t
  · simp [e1]
  · by_cases e2 : k = f <;> simp [e1, e2]
example :
    let c := PSet.ctx (fun _ _ => false)
    let a : DD := ⟨false, PSet.add c (PSet.add c PSet.empty 3) (2 ^ 63)⟩
    (DD.rename c a [3] [7]).map (fun r => (r.contain 3, r.contain 7, r.contain (2 ^ 63))) = some (false, true, true) := by
  decide

/-! ### `discrete_domain`: iteration, `size()`, `is_bottom()`, `is_top()`

Iteration and `size()` list exactly the elements once, in index order (and are the CRAB_ERROR of
the code on top); `is_bottom()` is exact; a top value contains every element. -/

theorem C19.dd_elems (a : DD) (ha : DD.Inv a) (hat : a.isTop = false) :
    ∃ l, a.elems = some l ∧ l.Pairwise (· < ·) ∧ l.Nodup ∧ (∀ k, k ∈ l ↔ a.contain k = true) ∧
      a.size = some l.length := DD.elems_spec ha hat
theorem C19.dd_elems_top_error (a : DD) (hat : a.isTop = true) : a.elems = none ∧ a.size = none :=
  DD.elems_top hat
theorem C19.dd_isBottom_iff (a : DD) (ha : DD.Inv a) : a.isBottom = true ↔ ∀ k, a.contain k = false :=
  DD.isBottom_iff ha
theorem C19.dd_isTop_contains_all (a : DD) (ha : DD.Inv a) (h : a.isTop = true) (k : Nat) :
    a.contain k = true := DD.contain_of_isTop ha h k
