import CrabProofs.Lemmas.TIRRemove
import CrabProofs.Lemmas.TIRMerge

/-!
  `merge_blocks()` (the DFS `merge_blocks_rec`) preserves well-formedness and ALL behaviours
  from the entry, on well-formed CFGs whose exit block has no successor.
-/
namespace Crab
namespace TIR

/-- executions end at the exit block: it is not supposed to have successors -/
def ExitNoSucc (P : Prog) : Prop := ∀ x, P.exit = some x → P.succsOf x = []

theorem exitNoSucc_iff {P : Prog} : P.exitNoSucc = true ↔ ExitNoSucc P := by
  unfold Prog.exitNoSucc ExitNoSucc
  cases P.exit with
  | none => simp
  | some x => simp

structure SInv (P : Prog) : Prop where
  wf : WFp P
  ens : ExitNoSucc P

/-- `T` keeps the invariant, the entry, the exit and those executions of `P` from the entry whose
    outcome satisfies `O`; a step that preserves all executions is `GoodFor O` for every `O` -/
structure GoodFor (O : Outcome → Prop) (P T : Prog) : Prop where
  inv : SInv T
  entry : T.entry = P.entry
  exit : T.exit = P.exit
  beh : ∀ σ t o, O o → (Beh P σ t o ↔ Beh T σ t o)

variable {O : Outcome → Prop}

theorem GoodFor.refl {P : Prog} (h : SInv P) : GoodFor O P P :=
  ⟨h, rfl, rfl, fun _ _ _ _ => Iff.rfl⟩

theorem GoodFor.trans {P Q R : Prog} (h1 : GoodFor O P Q) (h2 : GoodFor O Q R) :
    GoodFor O P R :=
  ⟨h2.inv, h2.entry.trans h1.entry, h2.exit.trans h1.exit,
    fun σ t o ho => (h1.beh σ t o ho).trans (h2.beh σ t o ho)⟩

theorem WFp.congr {P T : Prog} (h : WFp P) (hl : T.labels = P.labels) (he : T.entry = P.entry)
    (hx : T.exit = P.exit) (hs : ∀ l, T.succsOf l = P.succsOf l) (hp : ∀ l, T.predsOf l = P.predsOf l) :
    WFp T where
  nodup := hl ▸ h.nodup
  entry := by rw [hl, he]; exact h.entry
  exit := by intro x hx'; rw [hl]; exact h.exit x (hx ▸ hx')
  sym := by intro l l'; rw [hs, hp]; exact h.sym l l'
  succ_lab := by intro l l' hl'; rw [hs] at hl'; rw [hl]; exact h.succ_lab l l' hl'
  nd_succ := by intro l; rw [hs]; exact h.nd_succ l
  nd_pred := by intro l; rw [hp]; exact h.nd_pred l

theorem addEdge_wfp {P : Prog} (h : WFp P) {a b : Label} (ha : a ∈ P.labels) (hb : b ∈ P.labels) :
    WFp (P.addEdge a b) where
  nodup := by rw [labels_addEdge]; exact h.nodup
  entry := by rw [labels_addEdge]; exact h.entry
  exit := by intro x hx; rw [labels_addEdge]; exact h.exit x hx
  sym := by
    intro l l'
    rw [succsOf_addEdge P a b l ha, predsOf_addEdge P a b l' hb]
    have hs := h.sym l l'
    by_cases h1 : l = a
    · by_cases h2 : l' = b
      · simp only [h1, h2, if_true, mem_insertAdj, or_true]
      · simp only [h1, h2, if_true, if_false, mem_insertAdj]
        rw [h1] at hs
        constructor
        · rintro (x | x)
          · exact hs.mp x
          · exact absurd x (by simpa using h2)
        · intro x; exact Or.inl (hs.mpr x)
    · by_cases h2 : l' = b
      · simp only [h1, h2, if_true, if_false, mem_insertAdj]
        rw [h2] at hs
        constructor
        · intro x; exact Or.inl (hs.mp x)
        · rintro (x | x)
          · exact hs.mpr x
          · exact absurd x (by simpa using h1)
      · simp only [h1, h2, if_false]; exact hs
  succ_lab := by
    intro l l' hl
    rw [labels_addEdge]
    rw [succsOf_addEdge P a b l ha] at hl
    split at hl
    · rcases mem_insertAdj.mp hl with x | x
      · exact h.succ_lab l l' x
      · exact x ▸ hb
    · exact h.succ_lab l l' hl
  nd_succ := by
    intro l
    rw [succsOf_addEdge P a b l ha]
    split
    · exact nodup_insertAdj _ (h.nd_succ l)
    · exact h.nd_succ l
  nd_pred := by
    intro l
    rw [predsOf_addEdge P a b l hb]
    split
    · exact nodup_insertAdj _ (h.nd_pred l)
    · exact h.nd_pred l

/-- the block that is folded has a successor, so it is not the exit block: the exit stays -/
theorem fold_exit_eq {P : Prog} (hinv : SInv P) {cur child : Label} (parent : Label) (st : List Stmt)
    (hsc : P.succsOf cur = [child]) :
    (if (P.copyBack parent st).exit == some cur then { P.copyBack parent st with exit := some parent }
      else P.copyBack parent st) = P.copyBack parent st := by
  have : ((P.copyBack parent st).exit == some cur) = false := by
    cases hx : (P.copyBack parent st).exit == some cur with
    | false => rfl
    | true =>
      have hx' : (P.copyBack parent st).exit = some cur := by simpa using hx
      have := hinv.ens cur hx'
      rw [hsc] at this
      cases this
  rw [this]
  rfl

/-- the result `T` of folding `cur` (only successor `child`, only predecessor `parent ≠ cur`, which
    has `cur` as only successor) into `parent`, through its lookups -/
structure FoldSpec (P T : Prog) (cur parent child : Label) : Prop where
  hpc : parent ≠ cur
  succ_cur : P.succsOf cur = [child]
  pred_cur : P.predsOf cur = [parent]
  succ_par : P.succsOf parent = [cur]
  wf : WFp T
  succ : ∀ l, T.succsOf l = if l = parent then [child] else if l = cur then [] else P.succsOf l
  stmts : ∀ l, T.stmtsOf l =
    if l = cur then [] else if l = parent then P.stmtsOf parent ++ P.stmtsOf cur else P.stmtsOf l
  exit : T.exit = P.exit
  entry : T.entry = P.entry
  outs : T.outputs = P.outputs
  ne_entry : P.entry ≠ cur

/-- the fold step of `merge_blocks_rec` produces such a program -/
theorem foldStep_spec {P P3 : Prog} {cur parent child : Label} {B PB : Block} (hinv : SInv P)
    (hB : P.block? cur = some B) (hsucc : B.succ = [child]) (hpred : B.pred = [parent])
    (hPB : P.block? parent = some PB) (hlen : PB.succ.length = 1)
    (hrem : (if (P.copyBack parent B.stmts).exit == some cur
              then { P.copyBack parent B.stmts with exit := some parent }
              else P.copyBack parent B.stmts).remove cur = some P3)
    (hpc : parent ≠ cur) : FoldSpec P (P3.addEdge parent child) cur parent child := by
  have hwf := hinv.wf
  have hsc : P.succsOf cur = [child] := (succsOf_of_block hB).trans hsucc
  have hpr : P.predsOf cur = [parent] := (predsOf_of_block hB).trans hpred
  have hparlab : parent ∈ P.labels := mem_labels_of_block hPB
  have hchild : child ∈ P.labels := hwf.succ_lab cur child (by rw [hsc]; simp)
  have hcc : child ≠ cur := by
    intro hc
    have : cur ∈ P.predsOf cur := (hwf.sym cur cur).mp (by rw [hsc, hc]; simp)
    rw [hpr] at this
    exact hpc (List.mem_singleton.mp this).symm
  have hsp : P.succsOf parent = [cur] := by
    have hmem : cur ∈ P.succsOf parent := (hwf.sym parent cur).mpr (by rw [hpr]; simp)
    have hl : (P.succsOf parent).length = 1 := by rw [succsOf_of_block hPB]; exact hlen
    match hps : P.succsOf parent, hl with
    | [x], _ => rw [hps] at hmem; simp at hmem; rw [hmem]
  rw [fold_exit_eq hinv parent B.stmts hsc] at hrem
  have hwf1 : WFp (P.copyBack parent B.stmts) :=
    hwf.congr (labels_copyBack _ _ _) rfl rfl (succsOf_copyBack P parent B.stmts) (predsOf_copyBack P parent B.stmts)
  have hspec := remove_spec hwf1 hrem
  have hl3 : P3.labels = P.labels.filter (fun x => x != cur) := by rw [hspec.labels, labels_copyBack]
  have hpar3 : parent ∈ P3.labels := by rw [hl3]; exact mem_filter_ne hparlab hpc
  have hch3 : child ∈ P3.labels := by rw [hl3]; exact mem_filter_ne hchild hcc
  refine ⟨hpc, hsc, hpr, hsp, addEdge_wfp (hspec.wfp hwf1) hpar3 hch3, ?_, ?_, ?_, ?_, ?_, ?_⟩
  · intro l
    rw [succsOf_addEdge P3 parent child l hpar3, hspec.succ, succsOf_copyBack]
    by_cases h1 : l = parent
    · subst h1
      simp only [if_true, hpc, if_false, hsp]
      simp [removeAdj, insertAdj]
    · simp only [h1, if_false]
      by_cases h2 : l = cur
      · simp [h2]
      · simp only [h2, if_false]
        apply removeAdj_of_not_mem
        intro hc
        have := (hwf.sym l cur).mp hc
        rw [hpr] at this
        exact h1 (List.mem_singleton.mp this)
  · intro l
    rw [stmtsOf_addEdge, hspec.stmts, stmtsOf_copyBack P parent B.stmts l hparlab]
    have : P.stmtsOf cur = B.stmts := by simp [Prog.stmtsOf, hB]
    by_cases h2 : l = cur
    · simp [h2]
    · simp only [h2, if_false]
      by_cases h1 : l = parent
      · subst h1; simp [this]
      · simp [h1]
  · show P3.exit = P.exit
    rw [hspec.exit]; rfl
  · show P3.entry = P.entry
    rw [hspec.entry]; rfl
  · show P3.outputs = P.outputs
    rw [hspec.outs]; rfl
  · exact fun hc => hspec.ne_entry (show cur = P.entry from hc.symm)

theorem FoldSpec.good {P T : Prog} {cur parent child : Label} (hinv : SInv P) (h : FoldSpec P T cur parent child) :
    GoodFor O P T := by
  have hxc : P.exit ≠ some cur := by
    intro hc; have := hinv.ens cur hc; rw [h.succ_cur] at this; cases this
  have hxp : P.exit ≠ some parent := by
    intro hc; have := hinv.ens parent hc; rw [h.succ_par] at this; cases this
  have hisx : ∀ l, T.isExit l = P.isExit l := fun l => by simp [Prog.isExit, h.exit]
  have hxcF : P.isExit cur = false := by simpa [Prog.isExit] using hxc
  have hxpF : P.isExit parent = false := by simpa [Prog.isExit] using hxp
  have hpc := h.hpc
  have hrel : MergeRel P T parent cur := {
    hab := hpc
    outs := h.outs
    stmts_a := by rw [h.stmts]; simp [hpc]
    stmts_o := by intro l h1 h2; rw [h.stmts]; simp [h1, h2]
    succ_a := by rw [h.succ, h.succ_cur]; simp
    succ_o := by intro l h1 h2; rw [h.succ]; simp [h1, h2]
    succP_a := h.succ_par
    pred_b := by
      intro l hl
      have := (hinv.wf.sym l cur).mp hl
      rw [h.pred_cur] at this
      exact List.mem_singleton.mp this
    exitP_a := hxpF
    exit_a := by rw [hisx, hxpF, hxcF]
    exit_o := by intro l _ _; exact hisx l }
  refine ⟨⟨h.wf, ?_⟩, h.entry, h.exit, fun σ t o _ => merge_beh P _ parent cur hrel h.entry h.ne_entry σ t o⟩
  intro x hx
  rw [h.exit] at hx
  rw [h.succ]
  have h1 : x ≠ parent := by intro hc; subst hc; exact hxp hx
  have h2 : x ≠ cur := by intro hc; subst hc; exact hxc hx
  simp only [h1, h2, if_false]
  exact hinv.ens x hx

/-- a label that is not a block is not folded: `get_node` fails -/
theorem mergeRec_absent (v : Variant) (fuel : Nat) {P : Prog} {vis : List Label} {cur : Label}
    (hb : P.block? cur = none) (hv : vis.contains cur = false) : mergeRec v fuel P vis cur = none := by
  cases fuel with
  | zero => rfl
  | succ f => simp only [mergeRec, hv, Bool.false_eq_true, if_false, hb]

/-- a block whose only predecessor and only successor is itself is removed by the fold step, and
    the recursive call for it then fails -/
theorem foldStep_self (v : Variant) (fuel : Nat) {P P3 : Prog} {cur : Label} {st : List Stmt} (vis : List Label)
    (hinv : SInv P) (hsc : P.succsOf cur = [cur])
    (hrem : (if (P.copyBack cur st).exit == some cur then { P.copyBack cur st with exit := some cur }
              else P.copyBack cur st).remove cur = some P3) :
    mergeRec v fuel (P3.addEdge cur cur) (vis.filter (fun x => x != cur)) cur = none := by
  rw [fold_exit_eq hinv cur st hsc] at hrem
  have hwf1 : WFp (P.copyBack cur st) :=
    hinv.wf.congr (labels_copyBack _ _ _) rfl rfl (succsOf_copyBack P cur st) (predsOf_copyBack P cur st)
  refine mergeRec_absent v fuel (block?_none_iff.mpr ?_) (by simp)
  rw [labels_addEdge, (remove_spec hwf1 hrem).labels]
  simp

/-- `merge_blocks_rec` and its loop over the children -/
theorem mergeRec_good (v : Variant) : ∀ (fuel : Nat),
    (∀ (P : Prog) (vis : List Label) (cur : Label) (P' : Prog) (vis' : List Label), SInv P →
      mergeRec v fuel P vis cur = some (P', vis') → GoodFor O P P') ∧
    (∀ (P : Prog) (vis : List Label) (kids : List Label) (P' : Prog) (vis' : List Label), SInv P →
      mergeKids v fuel P vis kids = some (P', vis') → GoodFor O P P') := by
  intro fuel
  induction fuel with
  | zero =>
    constructor
    · intro P vis cur P' vis' _ h; simp [mergeRec] at h
    · intro P vis kids P' vis' hinv h
      cases kids with
      | nil => simp only [mergeKids, Option.some.injEq, Prod.mk.injEq] at h; rw [← h.1]; exact GoodFor.refl hinv
      | cons n r => simp [mergeKids] at h
  | succ fuel ih =>
    obtain ⟨ihR, ihK⟩ := ih
    constructor
    · intro P vis cur P' vis' hinv h
      simp only [mergeRec] at h
      split at h
      · simp only [Option.some.injEq, Prod.mk.injEq] at h; rw [← h.1]; exact GoodFor.refl hinv
      · split at h
        · cases h
        · rename_i B hB
          split at h
          · rename_i child parent hsucc hpred
            split at h
            · exact ihK _ _ _ _ _ hinv h
            · split at h
              · cases h
              · rename_i PB hPB
                split at h
                · rename_i hlen
                  split at h
                  · cases h
                  · rename_i P3 hrem
                    by_cases hpc : parent = cur
                    · exfalso
                      subst hpc
                      have hcc : child = parent := by
                        have : parent ∈ P.succsOf parent :=
                          (hinv.wf.sym parent parent).mpr (by rw [predsOf_of_block hB, hpred]; simp)
                        rw [succsOf_of_block hB, hsucc] at this
                        exact (List.mem_singleton.mp this).symm
                      subst hcc
                      rw [foldStep_self v fuel (child :: vis) hinv (by rw [succsOf_of_block hB, hsucc]) hrem] at h
                      cases h
                    · have g := (foldStep_spec hinv hB hsucc hpred hPB (by simpa using hlen) hrem hpc).good (O := O) hinv
                      exact g.trans (ihR _ _ _ _ _ g.inv h)
                · exact ihK _ _ _ _ _ hinv h
          · exact ihK _ _ _ _ _ hinv h
    · intro P vis kids P' vis' hinv h
      cases kids with
      | nil => simp only [mergeKids, Option.some.injEq, Prod.mk.injEq] at h; rw [← h.1]; exact GoodFor.refl hinv
      | cons n r =>
        simp only [mergeKids] at h
        split at h
        · cases h
        · rename_i P1 vis1 h1
          have g1 := ihR _ _ _ _ _ hinv h1
          exact g1.trans (ihK _ _ _ _ _ g1.inv h)

theorem mergeBlocks_good (v : Variant) {P T : Prog} (hinv : SInv P) (h : mergeBlocks v P = some T) : GoodFor O P T := by
  unfold mergeBlocks at h
  cases hr : mergeRec v (mergeFuel P) P [] P.entry with
  | none => rw [hr] at h; cases h
  | some r =>
    rw [hr] at h
    simp only [Option.map_some, Option.some.injEq] at h
    subst h
    exact (mergeRec_good v (mergeFuel P)).1 P [] P.entry r.1 r.2 hinv hr

end TIR
end Crab
