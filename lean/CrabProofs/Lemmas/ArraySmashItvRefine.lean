import CrabProofs.Lemmas.ArraySmashItv
import CrabProofs.Lemmas.FunctorHistory

/-!
  The exact model of `array_smashing<interval_domain>` against the generic functor model over
  `itvBase`.

  `absS` sees an exact state as a state of the generic model; `Inv` (size environment not bottom,
  one binding per variable in the base environment) is the invariant of the values the operations
  other than meet produce; `Rep st g`: `st` satisfies `Inv` and stands for `g`.  Every exact
  operation with a generic counterpart takes a value that stands for `g` to a value that stands
  for what the generic operation AS THE CODE HAS IT (`Smash.Op.toStepCoded`) computes from `g`
  (`Comm`, `comm_upper`): one simulation, `xop_sim`, without side condition.  The refinement at
  the level of pools (`refines`: outside the two branches `AssignNoSize`, `JoinBottom` the coded
  step runs as the generic step, `toStepCoded_run`) and the soundness for the concretisation `γx`
  relative to `Inv` (`xop_soundInv`, by `Step.Sim.soundInv` from `Smash.stepCoded_sound`; then
  `Fct.history_sound_on` through `Step.SoundInv.split`) are its two corollaries.
-/
namespace Crab
namespace Dom
namespace SmashItv
open Crab.Dom.Arr Crab.IDom

/-- the size environment as the generic model sees it (`none` = no constant size known) -/
def absSz (z : SzEnv) : Nat → Option Nat := fun a => z.constSize a

/-- invariant of the values the operations other than meet produce -/
def Inv (st : St) : Prop := st.sizes.bottom = false ∧ st.base.Sorted

def absS (st : St) (h : st.base.Sorted) : Smash.St itvBase := ⟨absSz st.sizes, ⟨st.base, h⟩⟩

theorem inv_top : Inv St.top := ⟨rfl, Env.sorted_top⟩

/-! ### size environment -/

theorem absSz_of_not_bottom {z : SzEnv} (hz : z.bottom = false) (a : Nat) : absSz z a = z.m.find a := by
  simp [absSz, SzEnv.constSize, hz]

theorem set_not_bottom {z : SzEnv} (hz : z.bottom = false) (a k : Nat) : (z.set a k).bottom = false := by
  simp [SzEnv.set, hz]

theorem remove_not_bottom {z : SzEnv} (hz : z.bottom = false) (a : Nat) : (z.remove a).bottom = false := by
  simp [SzEnv.remove, hz]

theorem join_not_bottom {a b : SzEnv} (ha : a.bottom = false) (hb : b.bottom = false) :
    (SzEnv.join a b).bottom = false := by
  simp [SzEnv.join, ha, hb]

theorem absSz_set {z : SzEnv} (hz : z.bottom = false) (a k : Nat) :
    absSz (z.set a k) = Smash.setSize (absSz z) a (some k) := by
  funext b
  rw [absSz_of_not_bottom (set_not_bottom hz a k)]
  simp only [SzEnv.set, hz, Bool.false_eq_true, if_false, SzMap.find, Smash.setSize]
  by_cases h : b = a
  · simp [h]
  · simp only [h, if_false]
    rw [find_remove_ne _ h, absSz_of_not_bottom hz]

theorem absSz_remove {z : SzEnv} (hz : z.bottom = false) (a : Nat) :
    absSz (z.remove a) = Smash.setSize (absSz z) a none := by
  funext b
  rw [absSz_of_not_bottom (remove_not_bottom hz a)]
  simp only [SzEnv.remove, hz, Bool.false_eq_true, if_false, Smash.setSize]
  by_cases h : b = a
  · subst h; simp [find_remove_same]
  · simp only [h, if_false]
    rw [find_remove_ne _ h, absSz_of_not_bottom hz]

theorem equalSize_iff {z : SzEnv} (hz : z.bottom = false) (a k : Nat) :
    z.equalSize a k = true ↔ absSz z a = some k := by
  rw [absSz_of_not_bottom hz]
  unfold SzEnv.equalSize
  cases z.m.find a with
  | none => simp
  | some v => simp

theorem absSz_join {a b : SzEnv} (ha : a.bottom = false) (hb : b.bottom = false) :
    absSz (SzEnv.join a b) = Smash.envJoin (absSz a) (absSz b) := by
  funext x
  rw [absSz_of_not_bottom (join_not_bottom ha hb)]
  simp only [SzEnv.join, ha, hb, Bool.false_eq_true, if_false, Smash.envJoin]
  rw [find_build, absSz_of_not_bottom ha, absSz_of_not_bottom hb]
  cases h1 : a.m.find x with
  | none =>
    have : ¬ x ∈ SzMap.keys a.m := by rw [mem_keys_iff, h1]; simp
    simp only [this, if_false]
    cases h2 : b.m.find x <;> simp
  | some v1 =>
    have : x ∈ SzMap.keys a.m := by rw [mem_keys_iff, h1]; rfl
    simp only [this, if_true]
    cases h2 : b.m.find x with
    | none => simp
    | some v2 =>
      by_cases hv : v1 = v2
      · simp [hv]
      · simp [hv]

/-! ### the operations commute with `absS` -/

/-- the value of the generic model an exact value stands for -/
def Rep (st : St) (g : Smash.St itvBase) : Prop := ∃ h : Inv st, absS st h.2 = g

/-- `f` computes, on a value that stands for `g`, a value that stands for `fg g` -/
def Comm (f : St → St) (fg : Smash.St itvBase → Smash.St itvBase) : Prop := ∀ st g, Rep st g → Rep (f st) (fg g)

theorem comm_assign (x : Nat) (e : SLin) : Comm (·.assign x e) (Smash.nAssign · x e) := by
  rintro _ _ ⟨h, rfl⟩; exact ⟨⟨h.1, Env.assign_inv Env.sortedInv _ _ _ h.2⟩, rfl⟩

theorem comm_forget (x : Nat) : Comm (·.forget x) (Smash.nForget · x) := by
  rintro _ _ ⟨h, rfl⟩; exact ⟨⟨h.1, Env.forget_sorted _ _ h.2⟩, rfl⟩

theorem inv_assume {st : St} (h : Inv st) (cs : List XCst) : Inv (st.assume cs) :=
  ⟨h.1, Env.add_inv Env.sortedInv _ _ h.2⟩

theorem comm_arrayInit (esz : Nat → Nat) (a : Nat) (val : SLin) :
    Comm (·.arrayInit (esz a) a val) (Smash.aInit esz · a val) := by
  rintro st _ ⟨h, rfl⟩
  exact ⟨⟨set_not_bottom h.1 _ _, Env.assign_inv Env.sortedInv _ _ _ h.2⟩, by
    simp only [absS, St.arrayInit, Smash.aInit, absSz_set h.1]; rfl⟩

theorem comm_arrayLoad (esz : Nat → Nat) (x a : Nat) :
    Comm (·.arrayLoad (esz a) x a) (Smash.aLoad esz · x a) := by
  rintro st _ ⟨h, rfl⟩
  by_cases ht : absSz st.sizes a = some (esz a) <;>
    simp only [absS, St.arrayLoad, Smash.aLoad, equalSize_iff h.1, ht, if_true, if_false]
  · exact ⟨⟨h.1, Env.forget_sorted _ _ (Env.assign_inv Env.sortedInv _ _ _
      (Env.expand_inv Env.sortedInv _ _ _ h.2))⟩, rfl⟩
  · exact ⟨⟨h.1, Env.forget_sorted _ _ h.2⟩, rfl⟩

/-- a weak update of the summary of `a` if `a` is tracked with size `esz a`, else nothing: what
    `array_store_range` and a weak `array_store` do -/
theorem comm_arrayStoreRange (esz : Nat → Nat) (a : Nat) (val : SLin) :
    Comm (·.arrayStoreRange (esz a) a val) (Smash.aStoreRange esz · a val) := by
  rintro st _ ⟨h, rfl⟩
  by_cases ht : absSz st.sizes a = some (esz a) <;>
    simp only [absS, St.arrayStoreRange, Smash.aStoreRange, equalSize_iff h.1, ht, if_true, if_false]
  · exact ⟨⟨h.1, Env.weakAssign_sorted _ _ _ h.2⟩, rfl⟩
  · exact ⟨h, rfl⟩

theorem comm_arrayStore (esz : Nat → Nat) (a : Nat) (val : SLin) (strong : Bool) :
    Comm (·.arrayStore (esz a) a val strong) (Smash.aStore esz · a val strong) := by
  cases strong with
  | false => exact comm_arrayStoreRange esz a val
  | true =>
    rintro st _ ⟨h, rfl⟩
    simp only [Rep, absS, St.arrayStore, Smash.aStore, if_true, equalSize_iff (set_not_bottom h.1 _ _), absSz_set h.1,
      Smash.setSize]
    exact ⟨⟨set_not_bottom h.1 _ _, Env.assign_inv Env.sortedInv _ _ _ h.2⟩, rfl⟩

/-- `array_assign` as the code has it, the branch with no size known included -/
theorem comm_arrayAssign (lhs rhs : Nat) : Comm (·.arrayAssign lhs rhs) (Smash.aAssignC · lhs rhs) := by
  rintro st _ ⟨h, rfl⟩
  have hr : absSz st.sizes rhs = st.sizes.constSize rhs := rfl
  have hl : absSz st.sizes lhs = st.sizes.constSize lhs := rfl
  unfold St.arrayAssign Smash.aAssignC Smash.aAssign
  by_cases hlr : lhs = rhs
  · simp only [hlr, if_true, ne_eq, not_true_eq_false, false_and, if_false]; exact ⟨h, rfl⟩
  · cases hc : st.sizes.constSize rhs with
    | some k =>
      simp only [absS, hlr, if_false, hr, hc, ne_eq, not_false_eq_true, true_and, reduceCtorEq, false_and]
      exact ⟨⟨set_not_bottom h.1 _ _, Env.expand_inv Env.sortedInv _ _ _ (Env.forget_sorted _ _ h.2)⟩, by
        simp only [absS, absSz_set h.1]; rfl⟩
    | none =>
      cases hcl : st.sizes.constSize lhs with
      | some k =>
        simp only [absS, hlr, if_false, hr, hl, hc, hcl, ne_eq, not_false_eq_true, reduceCtorEq, and_false]
        exact ⟨⟨remove_not_bottom h.1 _, Env.forget_sorted _ _ h.2⟩, by simp only [absS, absSz_remove h.1]; rfl⟩
      | none =>
        simp only [absS, hlr, if_false, hr, hl, hc, hcl, ne_eq, not_false_eq_true, and_self, if_true]
        exact ⟨h, rfl⟩

theorem arrayAssign_nosize {st : St} {lhs rhs : Nat} (hlr : lhs ≠ rhs)
    (hr : st.sizes.constSize rhs = none) (hl : st.sizes.constSize lhs = none) :
    st.arrayAssign lhs rhs = st := by
  simp [St.arrayAssign, hlr, hr, hl]

/-! ### join and widening -/

/-- the common shape of `operator|` and `operator||`: `St.join = St.upper Itv.join` and
    `St.widen = St.upper Itv.widen`, by `rfl` -/
def St.upper (op : Itv → Itv → Itv) (a b : St) : St :=
  if a.isBottom then b else if b.isBottom then a
  else ⟨SzEnv.join a.sizes b.sizes, Env.upperWith op a.base b.base⟩

theorem upper_bottom_l {op : Itv → Itv → Itv} {a b : St} (h : a.isBottom = true) : St.upper op a b = b := by
  simp [St.upper, h]
theorem upper_bottom_r {op : Itv → Itv → Itv} {a b : St} (h : a.isBottom = false) (h' : b.isBottom = true) :
    St.upper op a b = a := by
  simp [St.upper, h, h']

theorem join_bottom_l {a b : St} (h : a.isBottom = true) : St.join a b = b := upper_bottom_l h
theorem join_bottom_r {a b : St} (h : a.isBottom = false) (h' : b.isBottom = true) : St.join a b = a :=
  upper_bottom_r h h'
theorem widen_bottom_l {a b : St} (h : a.isBottom = true) : St.widen a b = b := upper_bottom_l h
theorem widen_bottom_r {a b : St} (h : a.isBottom = false) (h' : b.isBottom = true) : St.widen a b = a :=
  upper_bottom_r h h'

/-- the upper bound of the generic model over `itvBase` that merges the bases with `op` -/
def upperG (op : Itv → Itv → Itv) (x y : Smash.St itvBase) : Smash.St itvBase :=
  ⟨Smash.envJoin x.env y.env, ⟨Env.upperWith op x.base.1 y.base.1, Env.upperWith_sorted _ x.base.2 y.base.2⟩⟩

/-- join and widening as the code has them: a bottom operand dropped first, else `upperG` -/
theorem comm_upper (op : Itv → Itv → Itv) (a : St) (ga : Smash.St itvBase) (b : St) (gb : Smash.St itvBase)
    (ha : Rep a ga) (hb : Rep b gb) : Rep (St.upper op a b) (Smash.upperC (upperG op) ga gb) := by
  obtain ⟨ha, rfl⟩ := ha
  obtain ⟨hb, rfl⟩ := hb
  unfold St.upper Smash.upperC
  show Rep (if a.isBottom then _ else if b.isBottom then _ else _) (if a.isBottom then _ else if b.isBottom then _ else _)
  split
  · exact ⟨hb, rfl⟩
  · split
    · exact ⟨ha, rfl⟩
    · exact ⟨⟨join_not_bottom ha.1 hb.1, Env.upperWith_sorted _ ha.2 hb.2⟩, by
        simp only [absS, upperG, absSz_join ha.1 hb.1]⟩

/-! ### soundness relative to `Inv` -/

/-- concretisation of the exact model: the one of the generic functor model -/
def γx (esz : Nat → Nat) (st : St) (s : CState) : Prop := ∃ h : st.base.Sorted, Smash.γ esz (absS st h) s

variable {esz : Nat → Nat}

theorem γx_top (s : CState) : γx esz St.top s := ⟨Env.sorted_top, Smash.γ_top s⟩

/-- what the harness dumps is implied: not bottom, every program integer in its interval -/
theorem γx_at {st : St} {s : CState} (h : γx esz st s) :
    st.isBottom = false ∧ ∀ x, Itv.mem (s.iv x) (st.atVar x) := by
  obtain ⟨hs, g, hg⟩ := h
  have h0 := hg (fun _ => 0)
  refine ⟨h0.1, fun x => ?_⟩
  have := h0.2 (enc (.prog x))
  rwa [dec_at] at this

/-! ### constraints -/

theorem mem_mkSys {cs : List XCst} {c' : Crab.Lin.Cst} (h : c' ∈ mkSys cs) :
    ∃ c ∈ cs, c' = ⟨mkExpr c.e, c.kind⟩ :=
  List.foldlRecOn cs _ (motive := fun s => ∀ c' ∈ s, ∃ c ∈ cs, c' = ⟨mkExpr c.e, c.kind⟩) (fun _ h => absurd h List.not_mem_nil)
    (fun _ hs c hc _ h' => (Crab.Lin.Sys.mem_addCst.1 h').elim (hs _) fun e => ⟨c, hc, e⟩) c' h

theorem sat_mkSys {cs : List XCst} {ρ : Smash.Env} (h : ∀ c ∈ cs, c.holds (Smash.progOf ρ)) :
    Crab.Lin.Sys.sat (mkSys cs) (dec ρ) := by
  intro c' hc'
  obtain ⟨c, hc, rfl⟩ := mem_mkSys hc'
  have := h c hc
  unfold XCst.holds at this
  unfold Crab.Lin.Cst.sat
  simp only [eval_mkExpr]
  cases hk : c.kind <;> simp only [hk] at this ⊢ <;> exact this

theorem assume_sound {st : St} {s : CState} (hI : Inv st) (cs : List XCst) (h : γx esz st s)
    (hc : ∀ c ∈ cs, c.holds s.iv) : γx esz (st.assume cs) s := by
  obtain ⟨hs, g, hg⟩ := h
  refine ⟨(inv_assume hI cs).2, g, fun c => ?_⟩
  refine Env.add_sound (hg c) ?_ (sat_mkSys hc)
  intro c' hc'
  obtain ⟨c2, _, rfl⟩ := mem_mkSys hc'
  exact mkExpr_canonical _

def XOp.isMeet : XOp → Bool
  | .meet _ _ _ => true
  | _ => false

/-- the operation of the generic model an exact operation refines; `none`: the generic language
    has no such operation (`set_to_top`, meet, `+=` of a syntactic constraint system) -/
def XOp.toOp : XOp → Option Smash.Op
  | .top _ => none
  | .meet _ _ _ => none
  | .assume _ _ => none
  | .copy d s => some (.copy d s)
  | .join d p q => some (.join d p q)
  | .widen d p q => some (.widen d p q)
  | .assign d x e => some (.assign d x e)
  | .forget d x => some (.forget d x)
  | .aInit d a lb ub val => some (.aInit d a lb ub val)
  | .aStore d a i val strong => some (.aStore d a i val strong)
  | .aStoreRange d a lb ub val => some (.aStoreRange d a lb ub val)
  | .aLoad d x a i => some (.aLoad d x a i)
  | .aAssign d lhs rhs => some (.aAssign d lhs rhs)

/-- the one branch where the code does less than the generic model: `array_assign(lhs, rhs)` with
    `lhs ≠ rhs` when neither size is known (`operator-=(lhs)` returns without touching the base
    domain; the generic model forgets the summary of lhs) -/
def XOp.AssignNoSize (p : Pool St) : XOp → Prop
  | .aAssign d lhs rhs => lhs ≠ rhs ∧ (p d).sizes.constSize rhs = none ∧ (p d).sizes.constSize lhs = none
  | _ => False

/-- the other branch where the code is not the generic model: a join / widening with an operand
    whose base is bottom returns the other operand unchanged (the generic model joins the size
    environments, which is sound but loses the sizes of the other operand) -/
def XOp.JoinBottom (p : Pool St) : XOp → Prop
  | .join _ a b => (p a).isBottom = true ∨ (p b).isBottom = true
  | .widen _ a b => (p a).isBottom = true ∨ (p b).isBottom = true
  | _ => False

def absPool (p : Pool St) (hI : ∀ i, Inv (p i)) : Pool (Smash.St itvBase) := fun j => absS (p j) (hI j).2

/-- **the one relation**: every exact operation with a generic counterpart simulates, through
    `Rep`, that operation as the code has it — no side condition -/
theorem xop_sim (esz : Nat → Nat) (o : XOp) (g : Smash.Op) (hg : o.toOp = some g) :
    Step.Sim Rep (o.toStep esz) (g.toStepCoded (Bs := itvBase) esz) := by
  -- `g` is determined by `o`; `set_to_top`, meet and `+=` have no counterpart
  cases o <;> cases hg
  case copy d s => exact .copy d s
  case join d a b => exact .upper d a b (comm_upper Itv.join)
  case widen d a b => exact .upper d a b (comm_upper Itv.widen)
  case assign d x e => exact .trans d _ (comm_assign x e)
  case forget d x => exact .trans d _ (comm_forget x)
  case aInit d a lb ub val => exact .trans d _ (comm_arrayInit esz a val)
  case aStore d a i val strong => exact .trans d _ (comm_arrayStore esz a val strong)
  case aStoreRange d a lb ub val => exact .trans d _ (comm_arrayStoreRange esz a val)
  case aLoad d x a i => exact .trans d _ (comm_arrayLoad esz x a)
  case aAssign d lhs rhs => exact .trans d _ (comm_arrayAssign lhs rhs)

/-- outside the two branches the step the code runs is the step of the generic model -/
theorem toStepCoded_run (esz : Nat → Nat) {o : XOp} {g : Smash.Op} (hg : o.toOp = some g) {p : Pool St}
    (hI : ∀ i, Inv (p i)) (hk : ¬ o.AssignNoSize p) (hj : ¬ o.JoinBottom p) :
    (g.toStepCoded (Bs := itvBase) esz).run (absPool p hI) = (g.toStep esz).run (absPool p hI) := by
  have nb : ∀ {x : Nat}, ¬ (p x).isBottom = true → (absPool p hI x).isBottom = false := Bool.eq_false_iff.2
  cases o <;> cases hg
  case join d a b => exact congrArg (Pool.set _ d) (Smash.upperC_eq (nb fun e => hj (.inl e)) (nb fun e => hj (.inr e)))
  case widen d a b => exact congrArg (Pool.set _ d) (Smash.upperC_eq (nb fun e => hj (.inl e)) (nb fun e => hj (.inr e)))
  case aAssign d lhs rhs => exact congrArg (Pool.set _ d) (if_neg hk)
  all_goals rfl

/-- **refinement**: an exact operation with a generic counterpart, run on a pool of values that
    satisfy the invariant, gives (through `absS`) exactly the pool the generic operation gives —
    except `array_assign` in the branch `AssignNoSize` -/
theorem refines (esz : Nat → Nat) (o : XOp) (g : Smash.Op) (hg : o.toOp = some g) (p : Pool St)
    (hI : ∀ i, Inv (p i)) (hk : ¬ o.AssignNoSize p) (hj : ¬ o.JoinBottom p) :
    ∃ hs : ∀ i, Inv ((o.toStep esz).run p i),
      ∀ i, absS ((o.toStep esz).run p i) (hs i).2 = (g.toStep (Bs := itvBase) esz).run (absPool p hI) i := by
  have h := (xop_sim esz o g hg).run (p := p) (p' := absPool p hI) fun i => ⟨hI i, rfl⟩
  rw [toStepCoded_run esz hg hI hk hj] at h
  exact ⟨fun i => (h i).1, fun i => (h i).2⟩

/-- a step that simulates a sound step of the generic model is sound relative to `Inv` -/
theorem _root_.Crab.Dom.Step.Sim.soundInv {esz : Nat → Nat} {st : Step St CState}
    {st' : Step (Smash.St itvBase) CState} (h : Step.Sim Rep st st') (hs : st'.Sound (Smash.γ esz)) :
    st.SoundInv Inv (γx esz) := by
  cases h with
  | trans d r h =>
    intro a hI
    obtain ⟨h', e⟩ := h a _ ⟨hI, rfl⟩
    exact ⟨h', fun s s' ⟨_, hg⟩ hr => ⟨h'.2, e ▸ hs _ s s' hg hr⟩⟩
  | upper d a b h =>
    intro x y hx hy
    obtain ⟨h', e⟩ := h x _ y _ ⟨hx, rfl⟩ ⟨hy, rfl⟩
    exact ⟨h', fun s hg => ⟨h'.2, e ▸ hs _ _ s (hg.imp (fun ⟨_, g⟩ => g) (fun ⟨_, g⟩ => g))⟩⟩
  | copy d s => trivial

/-- every operation other than meet satisfies its obligations relative to `Inv` -/
theorem xop_soundInv (esz : Nat → Nat) (o : XOp) (hm : o.isMeet = false) :
    (o.toStep esz).SoundInv Inv (γx esz) := by
  cases o with
  | meet d a b => cases hm
  | top d => exact fun a _ => ⟨inv_top, fun _ s' _ _ => γx_top s'⟩
  | assume d cs => exact fun st hI => ⟨inv_assume hI cs, fun s s' hg ⟨hc, e⟩ => e ▸ assume_sound hI cs hg hc⟩
  | _ => exact (xop_sim esz _ _ rfl).soundInv (Smash.stepCoded_sound itvBase esz _)

end SmashItv
end Dom
end Crab
