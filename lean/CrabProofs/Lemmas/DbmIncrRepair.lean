import CrabProofs.Lemmas.DbmIncrExact

/-!
  `GraphOps::repair_potential`: Dijkstra on the reduced costs from `jj`, restricted to the vertices
  whose potential has to drop.

  A potential `p` is a SOLUTION of the graph (`g.sat p`: `p d - p s ≤ w` for every edge
  `s → d` of weight `w`, i.e. every reduced cost `p s + w - p d` is non-negative).
  * `pickMin_spec`: `removeMin` returns a minimal member of the heap;
  * `RInvX`: the loop invariant (finalised vertices are frozen, minimal, and their outgoing edges
    relaxed; every negative `dists[v]` is witnessed by a path `ii → jj ⇝ v`), kept by `removeMin` +
    the relaxation of the successors (`repair_round`), which finalises a vertex; `n + 1` rounds
    empty the heap (`repairLoop_spec`);
  * `repairPotential_spec`: `some p'` ⇒ `p'` is a solution of the graph, `none` ⇒ the graph has no
    solution.
-/
namespace Crab
namespace DbmIncr
open Dbm Zones

variable {n : Nat}

def pickStep (dists : Fin (n + 1) → Int) (heap : Fin (n + 1) → Bool)
    (best : Option (Fin (n + 1))) (u : Fin (n + 1)) : Option (Fin (n + 1)) :=
  if heap u then
    match best with
    | none => some u
    | some b => if dists u < dists b then some u else some b
  else best

/-- `best` is a minimal member of the heap among the vertices seen so far -/
def IsMin (dists : Fin (n + 1) → Int) (heap : Fin (n + 1) → Bool) (S : Fin (n + 1) → Prop)
    (best : Option (Fin (n + 1))) : Prop :=
  match best with
  | none => ∀ u, S u → heap u = false
  | some b => heap b = true ∧ ∀ u, S u → heap u = true → dists b ≤ dists u

theorem IsMin.step {dists : Fin (n + 1) → Int} {heap : Fin (n + 1) → Bool} {S : Fin (n + 1) → Prop}
    {best : Option (Fin (n + 1))} (h : IsMin dists heap S best) (x : Fin (n + 1)) :
    IsMin dists heap (fun u => S u ∨ u = x) (pickStep dists heap best x) := by
  unfold pickStep
  cases hx : heap x with
  | false =>
    simp only [Bool.false_eq_true, if_false]
    cases best with
    | none => exact fun u hu => hu.elim (h u) (fun e => e ▸ hx)
    | some b =>
      exact ⟨h.1, fun u hu hh => hu.elim (fun hu => h.2 u hu hh) (fun e => by rw [e, hx] at hh; cases hh)⟩
  | true =>
    simp only [if_true]
    cases best with
    | none =>
      refine ⟨hx, fun u hu hh => hu.elim (fun hu => ?_) (fun e => e ▸ Int.le_refl _)⟩
      rw [h u hu] at hh; cases hh
    | some b =>
      by_cases hlt : dists x < dists b
      · simp only [hlt, if_true]
        refine ⟨hx, fun u hu hh => hu.elim (fun hu => ?_) (fun e => e ▸ Int.le_refl _)⟩
        have := h.2 u hu hh; omega
      · simp only [hlt, if_false]
        refine ⟨h.1, fun u hu hh => hu.elim (fun hu => h.2 u hu hh) (fun e => ?_)⟩
        rw [e]; omega

theorem IsMin.foldl {dists : Fin (n + 1) → Int} {heap : Fin (n + 1) → Bool} :
    ∀ (l : List (Fin (n + 1))) {S : Fin (n + 1) → Prop} {best : Option (Fin (n + 1))},
      IsMin dists heap S best →
      IsMin dists heap (fun u => S u ∨ u ∈ l) (l.foldl (pickStep dists heap) best)
  | [], _, best, h => by
    cases best with
    | none => exact fun u hu => h u (hu.elim id (fun e => by cases e))
    | some b => exact ⟨h.1, fun u hu => h.2 u (hu.elim id (fun e => by cases e))⟩
  | x :: l, S, best, h => by
    have := IsMin.foldl l (h.step x)
    have e : ∀ u, ((S u ∨ u = x) ∨ u ∈ l) ↔ (S u ∨ u ∈ x :: l) := fun u => by
      rw [List.mem_cons, or_assoc]
    simp only [e] at this
    exact this

/-- `removeMin`: a minimal member of the heap, `none` iff the heap is empty -/
theorem pickMin_spec (vs : List (Fin (n + 1))) (hvs : ∀ v, v ∈ vs) (dists : Fin (n + 1) → Int)
    (heap : Fin (n + 1) → Bool) :
    (pickMin vs dists heap = none → ∀ u, heap u = false) ∧
    (∀ b, pickMin vs dists heap = some b →
      heap b = true ∧ ∀ u, heap u = true → dists b ≤ dists u) := by
  have h : IsMin dists heap (fun u => False ∨ u ∈ vs) (pickMin vs dists heap) :=
    IsMin.foldl vs (S := fun _ => False) (best := none) (fun _ hu => hu.elim)
  refine ⟨fun hb u => ?_, fun b hb => ?_⟩
  · rw [hb] at h; exact h u (Or.inr (hvs u))
  · rw [hb] at h; exact ⟨h.1, fun u => h.2 u (Or.inr (hvs u))⟩

def PotValidExcept (g : Zone n) (p : Fin (n + 1) → Int) (ii jj : Fin (n + 1)) : Prop :=
  ∀ s d k, edge g s d = some k → ¬ (s = ii ∧ d = jj) → 0 ≤ p s + k - p d

/-- the state after `removeMin` took `es` off the heap: `dists_alt[es] = p[es] + dists[es]` -/
def popSt (p : Fin (n + 1) → Int) (st : RSt n) (es : Fin (n + 1)) : RSt n :=
  ⟨st.dists, fupd st.alt es (p es + st.dists es), fupd st.heap es false⟩

section
variable (g : Zone n) (p : Fin (n + 1) → Int) (ii jj : Fin (n + 1)) (d0 : Int)

/-- `RInvX` = invariant of `repair_potential`, with an exception `ex` = the vertex whose successors
    are being relaxed (none between rounds).  A vertex `v` is finalised when `alt v ≠ p v`. -/
structure RInvX (ex : Fin (n + 1) → Prop) (st : RSt n) : Prop where
  /-- a vertex on the heap is not finalised and has a negative distance -/
  hp : ∀ v, st.heap v = true → st.dists v < 0 ∧ st.alt v = p v
  /-- a vertex that is not finalised is on the heap or untouched -/
  nf : ∀ v, st.alt v = p v → st.heap v = true ∨ st.dists v = 0
  /-- a finalised vertex got `p + dists`, with `dists < 0`, and left the heap -/
  fin : ∀ v, st.alt v ≠ p v → st.alt v = p v + st.dists v ∧ st.dists v < 0 ∧ st.heap v = false
  /-- finalised vertices have the least distances (Dijkstra's order) -/
  mono : ∀ f v, st.alt f ≠ p f → st.alt v = p v → st.dists f ≤ st.dists v
  /-- the edges out of finalised vertices are relaxed (reduced cost `p f + k - p d`) -/
  rel : ∀ f d k, st.alt f ≠ p f → ¬ ex f → edge g f d = some k → ¬ (f = ii ∧ d = jj) →
    st.dists d ≤ st.dists f + (p f + k - p d)
  /-- the distance of the source `jj` is never changed -/
  dj : st.dists jj = d0
  /-- until `jj` is finalised it is the only vertex on the heap -/
  jfirst : st.alt jj = p jj → ∀ v, v ≠ jj → st.heap v = false
  /-- a negative distance is witnessed by a path `ii → jj ⇝ v`: every solution respects it -/
  sound : ∀ v, st.dists v < 0 → ∀ x : Fin (n + 1) → Int, g.sat x →
    x v - x ii ≤ st.dists v + p v - p ii

/-- `RIn` = the invariant inside a round: additional facts while the successors of `es` are relaxed -/
structure RIn (es : Fin (n + 1)) (st : RSt n) : Prop where
  inv : RInvX g p ii jj d0 (fun f => f = es) st
  /-- the source is finalised -/
  jfin : st.alt jj ≠ p jj
  efin : st.alt es ≠ p es
  /-- `es` has the greatest distance among the finalised vertices -/
  le_es : ∀ f, st.alt f ≠ p f → st.dists f ≤ st.dists es

/-- `RLe` = descent inside a round: `dists` only decreases, finalised vertices and `alt` are frozen -/
def RLe (st' st : RSt n) : Prop :=
  st'.alt = st.alt ∧ (∀ v, st'.dists v ≤ st.dists v) ∧ ∀ v, st.alt v ≠ p v → st'.dists v = st.dists v

/-- `RPost` = postcondition of `relaxSucc` for `ed`: the edge `es → ed` is relaxed -/
def RPost (es ed : Fin (n + 1)) (st : RSt n) : Prop :=
  ∀ k, edge g es ed = some k → ¬ (es = ii ∧ ed = jj) → st.dists ed ≤ st.dists es + (p es + k - p ed)

end

variable {g : Zone n} {p : Fin (n + 1) → Int} {ii jj : Fin (n + 1)} {d0 : Int}

theorem RLe.refl (st : RSt n) : RLe p st st := ⟨rfl, fun _ => Int.le_refl _, fun _ _ => rfl⟩
theorem RLe.trans (a b c : RSt n) (h1 : RLe p a b) (h2 : RLe p b c) : RLe p a c := by
  refine ⟨h1.1.trans h2.1, fun v => Int.le_trans (h1.2.1 v) (h2.2.1 v), fun v hv => ?_⟩
  rw [h1.2.2 v (by rw [h2.1]; exact hv), h2.2.2 v hv]

theorem relaxSucc_step (hpv : PotValidExcept g p ii jj)
    (es : Fin (n + 1)) (st : RSt n) (ed : Fin (n + 1)) (h : RIn g p ii jj d0 es st) :
    RIn g p ii jj d0 es (relaxSucc g p es st ed) ∧ RLe p (relaxSucc g p es st ed) st ∧
      RPost g p ii jj es ed (relaxSucc g p es st ed) := by
  unfold relaxSucc
  rcases hev : edge g es ed with _ | ev
  · exact ⟨h, RLe.refl _, fun k hk => by rw [hev] at hk; cases hk⟩
  simp only
  obtain ⟨hes1, hes2, _⟩ := h.inv.fin es h.efin
  by_cases hfin : st.alt ed = p ed
  · -- `ed` is not finalised
    simp only [hfin, if_true]
    have hedj : ed ≠ jj := fun e => h.jfin (e ▸ hfin)
    have hede : ed ≠ es := fun e => h.efin (e ▸ hfin)
    have hje : jj ≠ ed := fun e => hedj e.symm
    have hee : es ≠ ed := fun e => hede e.symm
    have hrc : 0 ≤ p es + ev - p ed := hpv es ed ev hev (fun e => hedj e.2)
    have hd_le0 : st.dists ed ≤ 0 := by
      rcases h.inv.nf ed hfin with hh | hh
      · have := (h.inv.hp ed hh).1; omega
      · omega
    by_cases hlt : st.alt es + ev - p ed < st.dists ed
    · simp only [hlt, if_true]
      have hg : st.alt es + ev - p ed = st.dists es + (p es + ev - p ed) := by rw [hes1]; omega
      refine ⟨{ inv := { hp := ?hp, nf := ?nf, fin := ?fin, mono := ?mono, rel := ?rel, dj := ?dj,
                         jfirst := ?jfirst, sound := ?sound },
                jfin := h.jfin, efin := h.efin, le_es := ?le_es }, ⟨rfl, ?lower, ?frozen⟩, ?post⟩
      case hp =>
        intro v hv
        simp only [fupd] at hv ⊢
        by_cases hve : v = ed
        · subst hve; simp only [if_true]; exact ⟨by omega, hfin⟩
        · simp only [hve, if_false] at hv ⊢; exact h.inv.hp v hv
      case nf =>
        intro v hv
        simp only [fupd]
        by_cases hve : v = ed
        · subst hve; simp
        · simp only [hve, if_false]; exact h.inv.nf v hv
      case fin =>
        intro v hv
        have hve : v ≠ ed := fun e => hv (e ▸ hfin)
        simp only [fupd, hve, if_false]
        exact h.inv.fin v hv
      case mono =>
        intro f v hf hv
        have hfe : f ≠ ed := fun e => hf (e ▸ hfin)
        simp only [fupd, hfe, if_false]
        by_cases hve : v = ed
        · subst hve; simp only [if_true]
          have := h.le_es f hf; omega
        · simp only [hve, if_false]; exact h.inv.mono f v hf hv
      case rel =>
        intro f d k hf hx hk hne
        have hfe : f ≠ ed := fun e => hf (e ▸ hfin)
        simp only [fupd, hfe, if_false]
        have := h.inv.rel f d k hf hx hk hne
        by_cases hde : d = ed
        · subst hde; simp only [if_true]; omega
        · simp only [hde, if_false]; exact this
      case dj =>
        simp only [fupd, hje, if_false]; exact h.inv.dj
      case jfirst =>
        intro hj; exact absurd hj h.jfin
      case sound =>
        intro v hv x hx
        simp only [fupd] at hv ⊢
        by_cases hve : v = ed
        · subst hve
          simp only [if_true]
          have h1 := h.inv.sound es hes2 x hx
          have h2 := sat_edge hx hev
          omega
        · simp only [hve, if_false] at hv ⊢; exact h.inv.sound v hv x hx
      case le_es =>
        intro f hf
        have hfe : f ≠ ed := fun e => hf (e ▸ hfin)
        simp only [fupd, hfe, if_false, hee]
        exact h.le_es f hf
      case lower =>
        intro v
        simp only [fupd]
        by_cases hve : v = ed
        · subst hve; simp only [if_true]; omega
        · simp only [hve, if_false]; exact Int.le_refl _
      case frozen =>
        intro v hv
        have hve : v ≠ ed := fun e => hv (e ▸ hfin)
        simp only [fupd, hve, if_false]
      case post =>
        intro k hk _
        rw [hev] at hk; cases hk
        simp only [fupd, if_true, hee, if_false]
        omega
    · simp only [hlt, if_false]
      refine ⟨h, RLe.refl _, ?_⟩
      intro k hk _
      rw [hev] at hk; cases hk
      rw [hes1] at hlt; omega
  · -- `ed` was finalised before: nothing to do
    simp only [hfin, if_false]
    refine ⟨h, RLe.refl _, ?_⟩
    intro k hk hne
    have := h.le_es ed hfin
    have := hpv es ed k hk hne
    omega

theorem RPost_stable (es ed : Fin (n + 1)) (s s' : RSt n) (hes : s.alt es ≠ p es)
    (h : RPost g p ii jj es ed s) (hle : RLe p s' s) : RPost g p ii jj es ed s' := by
  intro k hk hne
  have := h k hk hne
  have h1 := hle.2.1 ed
  have h2 := hle.2.2 es hes
  omega

def openCount (p : Fin (n + 1) → Int) (st : RSt n) : Nat :=
  (List.finRange (n + 1)).countP fun v => decide (st.alt v = p v)

theorem openCount_le (p : Fin (n + 1) → Int) (st : RSt n) : openCount p st ≤ n + 1 := by
  have := List.countP_le_length (p := fun v : Fin (n + 1) => decide (st.alt v = p v))
    (l := List.finRange (n + 1))
  simpa [openCount] using this

theorem repair_round (hpv : PotValidExcept g p ii jj)
    (vs : List (Fin (n + 1))) (hvs : ∀ v, v ∈ vs) (st : RSt n)
    (h : RInvX g p ii jj d0 (fun _ => False) st) (es : Fin (n + 1))
    (hpick : st.heap es = true ∧ ∀ u, st.heap u = true → st.dists es ≤ st.dists u) :
    RInvX g p ii jj d0 (fun _ => False) (vs.foldl (relaxSucc g p es) (popSt p st es)) ∧
    openCount p (vs.foldl (relaxSucc g p es) (popSt p st es)) < openCount p st := by
  obtain ⟨hes_neg, hes_alt⟩ := h.hp es hpick.1
  have h1 : RIn g p ii jj d0 es (popSt p st es) := by
    unfold popSt
    have e_alt : ∀ v, v ≠ es → fupd st.alt es (p es + st.dists es) v = st.alt v := by
      intro v hv; simp [fupd, hv]
    have e_es : fupd st.alt es (p es + st.dists es) es = p es + st.dists es := by simp [fupd]
    have e_heap : ∀ v, v ≠ es → fupd st.heap es false v = st.heap v := by
      intro v hv; simp [fupd, hv]
    have hes_fin : fupd st.alt es (p es + st.dists es) es ≠ p es := by rw [e_es]; omega
    have hjj : fupd st.alt es (p es + st.dists es) jj ≠ p jj := by
      by_cases hj : jj = es
      · rw [hj]; exact hes_fin
      · rw [e_alt jj hj]
        intro hjp
        have := h.jfirst hjp es (fun e => hj e.symm)
        rw [hpick.1] at this; cases this
    refine ⟨{ hp := ?hp, nf := ?nf, fin := ?fin, mono := ?mono, rel := ?rel, dj := h.dj,
              jfirst := (fun hj => absurd hj hjj), sound := h.sound }, hjj, hes_fin, ?le_es⟩
    case hp =>
      intro v hv
      have hve : v ≠ es := by
        intro e; rw [e] at hv; simp [fupd] at hv
      simp only at hv ⊢
      rw [e_heap v hve] at hv
      rw [e_alt v hve]
      exact h.hp v hv
    case nf =>
      intro v hv
      simp only at hv ⊢
      have hve : v ≠ es := fun e => hes_fin (e ▸ hv)
      rw [e_alt v hve] at hv
      rw [e_heap v hve]
      exact h.nf v hv
    case fin =>
      intro v hv
      simp only at hv ⊢
      by_cases hve : v = es
      · subst hve
        exact ⟨e_es, hes_neg, by simp [fupd]⟩
      · rw [e_alt v hve] at hv ⊢
        rw [e_heap v hve]
        exact h.fin v hv
    case mono =>
      intro f v hf hv
      simp only at hf hv ⊢
      have hve : v ≠ es := fun e => hes_fin (e ▸ hv)
      rw [e_alt v hve] at hv
      by_cases hfe : f = es
      · subst hfe
        rcases h.nf v hv with hh | hh
        · exact hpick.2 v hh
        · omega
      · rw [e_alt f hfe] at hf
        exact h.mono f v hf hv
    case rel =>
      intro f d k hf hx hk hne
      simp only at hf ⊢
      rw [e_alt f hx] at hf
      exact h.rel f d k hf (fun hh => hh) hk hne
    case le_es =>
      intro f hf
      simp only at hf ⊢
      by_cases hfe : f = es
      · subst hfe; exact Int.le_refl _
      · rw [e_alt f hfe] at hf
        exact h.mono f es hf hes_alt
  -- the successors
  obtain ⟨i2, l2, p2⟩ := foldl_post (relaxSucc g p es) (RIn g p ii jj d0 es) (RLe p)
    (fun ed st' => st'.alt es ≠ p es ∧ RPost g p ii jj es ed st') RLe.refl RLe.trans
    (fun s ed hs => by
      obtain ⟨a, b, c⟩ := relaxSucc_step hpv es s ed hs
      exact ⟨a, b, a.efin, c⟩)
    (fun ed s s' hp hle => ⟨by rw [hle.1]; exact hp.1, RPost_stable es ed s s' hp.1 hp.2 hle⟩)
    vs _ h1
  generalize hst2 : vs.foldl (relaxSucc g p es) (popSt p st es) = st2 at i2 l2 p2 ⊢
  refine ⟨⟨i2.inv.hp, i2.inv.nf, i2.inv.fin, i2.inv.mono, ?_, i2.inv.dj, i2.inv.jfirst, i2.inv.sound⟩, ?_⟩
  · intro f d k hf _ hk hne
    by_cases hfe : f = es
    · subst hfe
      exact (p2 d (hvs d)).2 k hk hne
    · exact i2.inv.rel f d k hf hfe hk hne
  · -- one more vertex is finalised
    unfold openCount
    apply countP_lt_of_imp _ _ _ ?_ es (List.mem_finRange es)
    · simp [hes_alt]
    · have := i2.efin
      simp [this]
    · intro v hv
      simp only [decide_eq_true_eq] at hv ⊢
      rw [l2.1] at hv
      by_cases hve : v = es
      · subst hve; exact hes_alt
      · simpa [popSt, fupd, hve] using hv

/-- the loop: the invariant is kept and, with enough fuel, the heap is empty at the end -/
theorem repairLoop_spec (hpv : PotValidExcept g p ii jj)
    (vs : List (Fin (n + 1))) (hvs : ∀ v, v ∈ vs) :
    ∀ (fuel : Nat) (st : RSt n), RInvX g p ii jj d0 (fun _ => False) st → openCount p st ≤ fuel →
      RInvX g p ii jj d0 (fun _ => False) (repairLoop vs g p fuel st) ∧
      ∀ v, (repairLoop vs g p fuel st).heap v = false := by
  intro fuel
  induction fuel with
  | zero =>
    intro st h hc
    show RInvX g p ii jj d0 (fun _ => False) st ∧ ∀ v, st.heap v = false
    refine ⟨h, fun v => ?_⟩
    cases hh : st.heap v with
    | false => rfl
    | true =>
      exfalso
      have := (h.hp v hh).2
      have hpos : 0 < openCount p st := by
        unfold openCount
        exact List.countP_pos_iff.2 ⟨v, List.mem_finRange v, by simp [this]⟩
      omega
  | succ fuel ih =>
    intro st h hc
    unfold repairLoop
    obtain ⟨s1, s2⟩ := pickMin_spec vs hvs st.dists st.heap
    rcases hpk : pickMin vs st.dists st.heap with _ | es
    · exact ⟨h, s1 hpk⟩
    · simp only
      obtain ⟨r1, r2⟩ := repair_round hpv vs hvs st h es (s2 es hpk)
      exact ih _ r1 (by unfold popSt at r2; omega)

theorem sat_iff_pot (g : Zone n) (p : Fin (n + 1) → Int) :
    g.sat p ↔ ∀ s d k, edge g s d = some k → 0 ≤ p s + k - p d := by
  constructor
  · intro h s d k hk; have := h d s k hk; omega
  · intro h i j k hk; have := h j i k hk; omega

/-- `repair_potential`: `return true` leaves a valid potential (a solution of the graph),
    `return false` happens only when the graph has no solution -/
theorem repairPotential_spec (vs : List (Fin (n + 1))) (hvs : ∀ v, v ∈ vs) (g : Zone n)
    (p : Fin (n + 1) → Int) (ii jj : Fin (n + 1)) (w : Int) (hw : edge g ii jj = some w)
    (hpv : PotValidExcept g p ii jj) :
    (∀ p', repairPotential vs g p ii jj = some p' → g.sat p') ∧
    (repairPotential vs g p ii jj = none → ∀ x, ¬ g.sat x) := by
  unfold repairPotential
  simp only [hw]
  by_cases hd0 : 0 ≤ p ii + w - p jj
  · simp only [hd0, if_true]
    refine ⟨fun p' hp' => ?_, fun hh => by cases hh⟩
    cases hp'
    rw [sat_iff_pot]
    intro s d k hk
    by_cases hsd : s = ii ∧ d = jj
    · obtain ⟨rfl, rfl⟩ := hsd
      rw [hw] at hk; cases hk; exact hd0
    · exact hpv s d k hk hsd
  simp only [hd0, if_false]
  -- the start state
  have h0 : RInvX g p ii jj (p ii + w - p jj) (fun _ => False)
      ⟨fun u => if u = jj then p ii + w - p jj else 0, p, fun u => decide (u = jj)⟩ := by
    refine ⟨?_, ?_, ?_, ?_, ?_, by simp, ?_, ?_⟩
    · intro v hv
      simp only [decide_eq_true_eq] at hv
      subst hv
      simp only [if_true]; exact ⟨by omega, trivial⟩
    · intro v _
      by_cases hv : v = jj
      · left; simp [hv]
      · right; simp [hv]
    · intro v hv; exact absurd rfl hv
    · intro f v hf; exact absurd rfl hf
    · intro f d k hf; exact absurd rfl hf
    · intro _ v hv; simp [hv]
    · intro v hv x hx
      by_cases hvj : v = jj
      · subst hvj
        simp only [if_true]
        have := sat_edge hx hw
        omega
      · simp [hvj] at hv
  obtain ⟨hf, hempty⟩ := repairLoop_spec hpv vs hvs (n + 1) _ h0 (openCount_le p _)
  generalize repairLoop vs g p (n + 1)
    ⟨fun u => if u = jj then p ii + w - p jj else 0, p, fun u => decide (u = jj)⟩ = st at hf hempty
  by_cases hneg : st.dists ii < 0
  · simp only [hneg, if_true]
    refine ⟨fun p' hp' => (by cases hp'), fun _ x hx => ?_⟩
    have := hf.sound ii hneg x hx
    omega
  · simp only [hneg, if_false]
    refine ⟨fun p' hp' => ?_, fun hh => by cases hh⟩
    cases hp'
    have hall : ∀ v, st.alt v = p v + st.dists v ∧ st.dists v ≤ 0 := by
      intro v
      by_cases hv : st.alt v = p v
      · rcases hf.nf v hv with hh | hh
        · rw [hempty v] at hh; cases hh
        · rw [hv, hh]; exact ⟨by omega, Int.le_refl _⟩
      · obtain ⟨a, b, _⟩ := hf.fin v hv
        exact ⟨a, by omega⟩
    rw [sat_iff_pot]
    intro s d k hk
    obtain ⟨as, ls⟩ := hall s
    obtain ⟨ad, ld⟩ := hall d
    rw [as, ad]
    by_cases hsd : s = ii ∧ d = jj
    · obtain ⟨rfl, rfl⟩ := hsd
      rw [hw] at hk; cases hk
      have hdj := hf.dj
      by_cases hs : st.alt s = p s
      · rcases hf.nf s hs with hh | hh
        · rw [hempty s] at hh; cases hh
        · omega
      · have := (hf.fin s hs).2.1
        omega
    · have hrc := hpv s d k hk hsd
      by_cases hs : st.alt s = p s
      · rcases hf.nf s hs with hh | hh
        · rw [hempty s] at hh; cases hh
        · omega
      · have := hf.rel s d k hs (fun hh => hh) hk hsd
        omega

theorem repairPotential_none_iff (vs : List (Fin (n + 1))) (hvs : ∀ v, v ∈ vs) (g : Zone n)
    (p : Fin (n + 1) → Int) (ii jj : Fin (n + 1)) (w : Int) (hw : edge g ii jj = some w)
    (hpv : PotValidExcept g p ii jj) : repairPotential vs g p ii jj = none ↔ ¬ ∃ v, g.sat v := by
  obtain ⟨h1, h2⟩ := repairPotential_spec vs hvs g p ii jj w hw hpv
  refine ⟨fun h ⟨v, hv⟩ => h2 h v hv, fun h => ?_⟩
  rcases hq : repairPotential vs g p ii jj with _ | p'
  · rfl
  · exact absurd ⟨p', h1 p' hq⟩ h

end DbmIncr
end Crab
