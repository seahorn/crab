import CrabProofs.Lemmas.CrawlCtrlExec

/-!
  Executions, control part (run level): the blocks a run enters form a chain of edges whose
  blocks were executed completely (`run_chain`); an assertion that is executed has an entry at the
  start (`run_live`); chains and post-dominance (`chain_pdom`), chains that end in a block without
  successors (`sink_reach`).
-/
namespace Crab
namespace TIR

/-- what `isCtrlSol` says, as propositions, for one assertion -/
structure CtrlSolp (P : Prog) (g : Cdg) (F : Label → Facts) (a : AId) : Prop where
  gen : noUnreach ((P.stmtsOf a.1).take a.2) = true → (F a.1).has a = true
  flow : ∀ l l', l ∈ P.labels → noUnreach (P.stmtsOf l) = true → l' ∈ P.succsOf l → (F l').has a = true →
    (F l).has a = true
  ctrl : ∀ l d, l ∈ P.labels → d ∈ P.predsOf l → (F l).has a = true → ctrlCond g d l a = true →
    ∀ y, y ∈ guardVars P l → y ∈ (F l).get a

theorem isCtrlSol_spec {P : Prog} {g : Cdg} {F : Label → Facts} (h : isCtrlSol P g F = true) {a : AId} {c : Cst}
    (hm : (a, c) ∈ P.asserts) : CtrlSolp P g F a := by
  simp only [isCtrlSol, Bool.and_eq_true, List.all_eq_true, Bool.or_eq_true, Bool.not_eq_eq_eq_not,
    Bool.not_true] at h
  obtain ⟨⟨h1, h2⟩, h3⟩ := h
  constructor
  · intro hn
    rcases h1 (a, c) hm with h | h
    · simp only at h; rw [hn] at h; cases h
    · exact h
  · intro l l' hl hn hl' hh
    rcases h2 l hl with h | h
    · rw [hn] at h; cases h
    · rcases h l' hl' (a, c) hm with h | h
      · simp only at h; rw [hh] at h; cases h
      · exact h
  · intro l d hl hd hh hc
    rcases h3 l hl d hd (a, c) hm with h | h
    · simp only [hh, hc, Bool.and_self] at h; cases h
    · exact VarSet.subset_iff.mp h

/-- the blocks `π` entered after `l`: every edge exists, every block that was left was executed
    completely and is not the exit block -/
def Chain (P : Prog) : Label → List Label → Prop
  | _, [] => True
  | l, m :: r => m ∈ P.succsOf l ∧ noUnreach (P.stmtsOf l) = true ∧ P.isExit l = false ∧ Chain P m r

def lastOf : Label → List Label → Label
  | l, [] => l
  | _, m :: r => lastOf m r

theorem lastOf_cons (l m : Label) (r : List Label) : lastOf l (m :: r) = lastOf m r := rfl

theorem endOfStop_ne (t : List TEv) (o : Outcome) : endOfStop t o ≠ .exit ∧ endOfStop t o ≠ .sink := by
  cases o <;> simp [endOfStop]
  split <;> simp

theorem run_chain (P : Prog) (hv : Nat → Var → Int) (ch : Chooser) (f step : Nat) (cnt : Counts) (l : Label)
    (σ : State) (nh : Nat) :
    Chain P l (runB P hv ch f step cnt l σ nh).path ∧
    ((runB P hv ch f step cnt l σ nh).fin = .exit → P.isExit (lastOf l (runB P hv ch f step cnt l σ nh).path) = true) ∧
    ((runB P hv ch f step cnt l σ nh).fin = .sink →
      P.succsOf (lastOf l (runB P hv ch f step cnt l σ nh).path) = [] ∧
      P.isExit (lastOf l (runB P hv ch f step cnt l σ nh).path) = false) := by
  refine runWith_induct P hv ch (motive := fun _ _ l _ ss _ _ r => ss = P.stmtsOf l →
    Chain P l r.path ∧ (r.fin = .exit → P.isExit (lastOf l r.path) = true) ∧
    (r.fin = .sink → P.succsOf (lastOf l r.path) = [] ∧ P.isExit (lastOf l r.path) = false))
    ?_ ?_ ?_ ?_ f step cnt l 0 _ σ nh rfl
  · intro _ _ _ _ _ _ _ _
    exact ⟨trivial, fun h => (nomatch h), fun h => (nomatch h)⟩
  · intro _ _ _ _ _ _ _ t o _ _
    exact ⟨trivial, fun h => absurd h (endOfStop_ne t o).1, fun h => absurd h (endOfStop_ne t o).2⟩
  · intro _ _ l _ _ _ _ _ _ _ e _ hn _
    refine ⟨trivial, fun h => ?_, fun h => ?_⟩
    · rcases nextOf_halt hn with ⟨_, hx⟩ | h' | ⟨h', _⟩
      · exact hx
      · rw [h'] at h; cases h
      · rw [h'] at h; cases h
    · rcases nextOf_halt hn with ⟨h', _⟩ | h' | ⟨_, hx, hs⟩
      · rw [h'] at h; cases h
      · rw [h'] at h; cases h
      · exact ⟨hs, hx⟩
  · intro _ _ l _ ss _ _ _ _ _ l' r hr hn ih hss
    obtain ⟨hm, hex, _⟩ := nextOf_goto hn
    exact ⟨⟨hm, hss ▸ runStmts_fall_noUnreach hv l _ _ _ _ _ _ _ hr, hex, (ih rfl).1⟩, (ih rfl).2⟩

theorem chain_live {P : Prog} {g : Cdg} {F : Label → Facts} {a : AId} (hs : CtrlSolp P g F a) :
    ∀ (π : List Label) (l m : Label), Chain P l π → m ∈ l :: π → (F m).has a = true → (F l).has a = true := by
  intro π
  induction π with
  | nil => intro l m _ h hh; rw [List.mem_singleton.mp h] at hh; exact hh
  | cons m' r ih =>
    intro l m hc hm hh
    rcases List.mem_cons.mp hm with rfl | hm
    · exact hh
    · exact hs.flow l m' (mem_labels_of_succ hc.1) hc.2.1 hc.1 (ih m' m hc.2.2.2 hm hh)

theorem chain_gpath {P : Prog} : ∀ (π : List Label) (l m : Label), Chain P l π → m ∈ l :: π → GPath P.succsOf l m := by
  intro π
  induction π with
  | nil => intro l m _ h; rw [List.mem_singleton.mp h]; exact GPath.refl _
  | cons m' r ih =>
    intro l m hc hm
    rcases List.mem_cons.mp hm with rfl | hm
    · exact GPath.refl _
    · exact GPath.step hc.1 (ih m' m hc.2.2.2 hm)

theorem chain_pdom {P : Prog} {x u : Label} :
    ∀ (π : List Label) (l : Label), Chain P l π → lastOf l π = x → PDom P x u l → u ∈ l :: π := by
  intro π
  induction π with
  | nil =>
    intro l _ hl hp
    simp only [lastOf] at hl
    subst hl
    simp [PDom.of_exit hp]
  | cons m r ih =>
    intro l hc hl hp
    by_cases hul : u = l
    · subst hul; exact List.mem_cons_self
    · rw [lastOf_cons] at hl
      exact List.mem_cons_of_mem _ (ih m hc.2.2.2 hl (PDom.succ hp hul hc.1))

/-- a chain from a block of the region (it reaches the exit, is not the join `s`, and `s`
    post-dominates it) that ends in a block without successors: it passes through `s`, or it leaves
    the blocks that reach the exit at a block `w` of the region -/
theorem sink_reach {P : Prog} (hwf : WFp P) {x s s0 : Label} (hx : P.exit = some x) :
    ∀ (π : List Label) (b : Label), Chain P b π → P.succsOf (lastOf b π) = [] → P.isExit (lastOf b π) = false →
      GPath (succsAvoid P s) s0 b → CoReach P x b → b ≠ s → PDom P x s b →
      s ∈ π ∨ ∃ w w', GPath (succsAvoid P s) s0 w ∧ CoReach P x w ∧ w ≠ s ∧ PDom P x s w ∧
        2 ≤ (P.succsOf w).length ∧ w' ∈ P.succsOf w ∧ w' ∉ P.coExit := by
  intro π
  induction π with
  | nil =>
    intro b _ hsucc hex _ hco hbs _
    simp only [lastOf] at hsucc hex
    exfalso
    by_cases hbx : b = x
    · have : P.isExit b = true := isExit_iff.mpr (hbx ▸ hx)
      rw [this] at hex; cases hex
    · obtain ⟨t, ht, _⟩ := gpath_first hco hbx
      rw [hsucc] at ht; cases ht
  | cons m r ih =>
    intro b hc hsucc hex hp hco hbs hsb
    rw [lastOf_cons] at hsucc hex
    obtain ⟨hm, _, hbex, hcr⟩ := hc
    by_cases hms : m = s
    · left; rw [hms]; exact List.mem_cons_self
    · by_cases hcm : CoReach P x m
      · rcases ih m hcr hsucc hex (hp.snoc (mem_succsAvoid.mpr ⟨hm, hms⟩)) hcm hms
          (PDom.succ hsb (fun e => hbs e.symm) hm) with h | h
        · exact Or.inl (List.mem_cons_of_mem _ h)
        · exact Or.inr h
      · right
        have hbx : b ≠ x := by
          intro e
          have : P.isExit b = true := isExit_iff.mpr (e ▸ hx)
          rw [this] at hbex; cases hbex
        obtain ⟨t, ht, htp⟩ := gpath_first hco hbx
        have hne : t ≠ m := by intro e; subst e; exact hcm htp
        refine ⟨b, m, hp, hco, hbs, hsb, two_le_of_mem_ne ht hm hne, hm, ?_⟩
        intro hmem
        exact hcm ((coExit_iff hwf hx).mp hmem)

/-- an outcome of `a` in a block: the block is the one of `a`, statement `a.2` is an assertion, and
    no `unreachable` stands in front of it -/
theorem runStmts_aSeq (a : AId) (hv : Nat → Var → Int) (l : Label) :
    ∀ (ss : List Stmt) (i : Nat) (σ : State) (nh : Nat), aSeq a (runStmts hv l i ss σ nh).1 ≠ [] →
      l = a.1 ∧ i ≤ a.2 ∧ noUnreach (ss.take (a.2 - i)) = true ∧ ∃ c, ss[a.2 - i]? = some (.assert c) := by
  intro ss
  induction ss with
  | nil => intro i σ nh h; simp [runStmts, aSeq] at h
  | cons s r ih =>
    intro i σ nh h
    cases htr : tracked a l i s with
    | true =>
      obtain ⟨c, rfl, hl, hi⟩ := tracked_iff.mp htr
      have : a.2 - i = 0 := by omega
      rw [this]
      exact ⟨hl, by omega, rfl, c, rfl⟩
    | false =>
      have hu := aSeq_tagEv_untracked a l i s σ (hvVal hv nh s) htr
      cases hs : stepStmt s σ (hvVal hv nh s) with
      | cont σ1 e1 =>
        rw [hs] at hu
        rw [runStmts_cons_cont hs, aSeq_append, show aSeq a (tagEv l i e1) = [] from hu, List.nil_append] at h
        obtain ⟨h1, h2, h3, c, h4⟩ := ih (i + 1) σ1 (hvNext nh s) h
        have he : a.2 - i = (a.2 - (i + 1)) + 1 := by omega
        rw [he, List.take_succ_cons, List.getElem?_cons_succ]
        exact ⟨h1, by omega, (noUnreach_cons s _).mpr ⟨not_unreachable_of_cont hs, h3⟩, c, h4⟩
      | stop e1 o1 =>
        rw [hs] at hu
        rw [runStmts_cons_stop hs] at h
        exact absurd hu h

theorem run_first (P : Prog) (a : AId) (hv : Nat → Var → Int) (ch : Chooser) (f step : Nat) (cnt : Counts)
    (l : Label) (σ : State) (nh : Nat) (h : aSeq a (runB P hv ch f step cnt l σ nh).evs ≠ []) :
    a.1 ∈ l :: (runB P hv ch f step cnt l σ nh).path ∧ noUnreach ((P.stmtsOf a.1).take a.2) = true ∧
      ∃ c, (P.stmtsOf a.1)[a.2]? = some (.assert c) := by
  -- in the first block
  have hblock : ∀ l σ nh (path : List Label), aSeq a (runStmts hv l 0 (P.stmtsOf l) σ nh).1 ≠ [] →
      a.1 ∈ l :: path ∧ noUnreach ((P.stmtsOf a.1).take a.2) = true ∧ ∃ c, (P.stmtsOf a.1)[a.2]? = some (.assert c) := by
    intro l σ nh path hne
    obtain ⟨h1, _, h3, h4⟩ := runStmts_aSeq a hv l _ 0 σ nh hne
    subst h1
    exact ⟨List.mem_cons_self, h3, h4⟩
  refine runWith_induct P hv ch (motive := fun _ _ l i ss _ _ r => i = 0 → ss = P.stmtsOf l → aSeq a r.evs ≠ [] →
    a.1 ∈ l :: r.path ∧ noUnreach ((P.stmtsOf a.1).take a.2) = true ∧ ∃ c, (P.stmtsOf a.1)[a.2]? = some (.assert c))
    ?_ ?_ ?_ ?_ f step cnt l 0 _ σ nh rfl rfl h
  · intro _ _ _ _ _ _ _ _ _ h; exact absurd rfl h
  · intro _ _ l _ _ σ nh t o hr hi hss h
    subst hi; subst hss
    exact hblock l σ nh [] (by rw [hr]; exact h)
  · intro _ _ l _ _ σ nh t _ _ _ hr _ hi hss h
    subst hi; subst hss
    exact hblock l σ nh [] (by rw [hr]; exact h)
  · intro _ _ l _ _ σ nh t _ _ l' r hr _ ih hi hss h
    subst hi; subst hss
    by_cases ht : aSeq a t = []
    · rw [aSeq_append, ht, List.nil_append] at h
      obtain ⟨h1, h2⟩ := ih rfl rfl h
      exact ⟨List.mem_cons_of_mem _ h1, h2⟩
    · exact hblock l σ nh _ (by rw [hr]; exact ht)

theorem run_live {P : Prog} {g : Cdg} {F : Label → Facts} {a : AId} (hs : CtrlSolp P g F a)
    (hv : Nat → Var → Int) (ch : Chooser) (f step : Nat) (cnt : Counts) (l : Label) (σ : State) (nh : Nat)
    (h : aSeq a (runB P hv ch f step cnt l σ nh).evs ≠ []) : (F l).has a = true ∧ GPath P.succsOf l a.1 := by
  obtain ⟨hm, hn, _⟩ := run_first P a hv ch f step cnt l σ nh h
  have hch := (run_chain P hv ch f step cnt l σ nh).1
  exact ⟨chain_live hs _ l a.1 hch hm (hs.gen hn), chain_gpath _ l a.1 hch hm⟩

theorem run_failed_aSeq (P : Prog) (a : AId) (hv : Nat → Var → Int) (ch : Chooser) :
    ∀ (f step : Nat) (cnt : Counts) (l : Label) (σ : State) (nh : Nat),
      (runB P hv ch f step cnt l σ nh).fin = .failed a.1 a.2 → aSeq a (runB P hv ch f step cnt l σ nh).evs ≠ [] := by
  intro f step cnt l σ nh
  refine runWith_induct P hv ch (motive := fun _ _ _ _ _ _ _ r => r.fin = .failed a.1 a.2 → aSeq a r.evs ≠ [])
    ?_ ?_ ?_ ?_ f step cnt l 0 _ σ nh
  · intro _ _ _ _ _ _ _ h; cases h
  · intro _ _ l i ss σ nh t o hr h
    cases o with
    | failed =>
      obtain ⟨t', k, c, ht⟩ := runStmts_stop_failed hv l _ _ _ _ _ hr
      subst ht
      simp only [endOfStop, List.getLast?_append, List.getLast?_singleton, Option.some_or,
        End.failed.injEq] at h
      simp [aSeq, h.1, h.2]
    | exit _ => simp [endOfStop] at h
    | blocked => simp [endOfStop] at h
    | divzero => simp [endOfStop] at h
  · intro _ _ _ _ _ _ _ _ _ _ e _ hn h
    rcases nextOf_halt hn with ⟨h', _⟩ | h' | ⟨h', _⟩ <;> rw [h'] at h <;> cases h
  · intro _ _ _ _ _ _ _ t _ _ _ r _ _ ih h
    rw [aSeq_append]
    exact fun hc => ih h (List.append_eq_nil_iff.mp hc).2

theorem kind_complete_cases (P : Prog) (a : AId) (hv : Nat → Var → Int) (ch : Chooser) (f step : Nat)
    (cnt : Counts) (l : Label) (σ : State) (nh : Nat)
    (h : (runB P hv ch f step cnt l σ nh).kind a = .complete) :
    (runB P hv ch f step cnt l σ nh).fin = .exit ∨ (runB P hv ch f step cnt l σ nh).fin = .sink ∨
      aSeq a (runB P hv ch f step cnt l σ nh).evs ≠ [] := by
  unfold Trace.kind at h
  cases hf : (runB P hv ch f step cnt l σ nh).fin with
  | exit => exact Or.inl rfl
  | sink => exact Or.inr (Or.inl rfl)
  | failed b i =>
    rw [hf] at h
    simp only at h
    split at h
    · rename_i hc
      simp only [Bool.and_eq_true, beq_iff_eq] at hc
      right; right
      apply run_failed_aSeq
      rw [hf, hc.1, hc.2]
    · cases h
  | infeasible => rw [hf] at h; cases h
  | divzero => rw [hf] at h; cases h
  | fuel => rw [hf] at h; cases h

theorem run_assert (P : Prog) (a : AId) (hv : Nat → Var → Int) (ch : Chooser) (f step : Nat) (cnt : Counts)
    (l : Label) (σ : State) (nh : Nat) (h : aSeq a (runB P hv ch f step cnt l σ nh).evs ≠ []) :
    ∃ c, (a, c) ∈ P.asserts := by
  obtain ⟨_, _, c, hc⟩ := run_first P a hv ch f step cnt l σ nh h
  exact ⟨c, mem_asserts hc⟩

end TIR
end Crab
