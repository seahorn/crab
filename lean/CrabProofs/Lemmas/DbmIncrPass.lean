import CrabProofs.Lemmas.DbmIncrRelax

/-!
  The three loops of `close_over_edge`, as coded.

  The loop over the predecessors `se` of `ii` and the loop over the successors `de` of `jj` are
  one loop `stepD fwd` read in the two directions (`rd`): `stepD true inl ii jj` and
  `stepD false inl jj ii`.  New edges wait on `delta` ("we add in delta so that we don't invalidate
  graph iterators") until `apply_delta`: the invariant `IP` speaks of the state with its pending
  edges, and `apply_delta` is a sequence of writes that keep it (`IP.flush`).
  `closeOverEdge_facts` collects what the three loops establish together (`COEFacts`).
-/
namespace Crab
namespace DbmIncr
open Dbm Zones

variable {n : Nat}

/-- generic fold lemma: an invariant `I`, a preorder `le` in which every step descends, and a
    postcondition `P a` established by the step on `a` (when `Q a`) and stable under descent -/
theorem foldl_postQ {σ α : Type} (step : σ → α → σ) (I : σ → Prop) (le : σ → σ → Prop)
    (P : α → σ → Prop) (Q : α → Prop) (le_refl : ∀ s, le s s)
    (le_trans : ∀ a b c, le a b → le b c → le a c)
    (hstep : ∀ s a, Q a → I s → I (step s a) ∧ le (step s a) s ∧ P a (step s a))
    (hstab : ∀ a s s', P a s → le s' s → P a s') :
    ∀ (l : List α) (s : σ), (∀ a ∈ l, Q a) → I s →
      I (l.foldl step s) ∧ le (l.foldl step s) s ∧ ∀ a ∈ l, P a (l.foldl step s) := by
  intro l
  induction l with
  | nil => intro s _ hs; exact ⟨hs, le_refl s, fun a ha => by cases ha⟩
  | cons x l ih =>
    intro s hq hs
    obtain ⟨h1, h2, h3⟩ := hstep s x (hq x (List.mem_cons_self ..)) hs
    obtain ⟨k1, k2, k3⟩ := ih (step s x) (fun a ha => hq a (List.mem_cons_of_mem _ ha)) h1
    refine ⟨k1, le_trans _ _ _ k2 h2, ?_⟩
    intro a ha
    rcases List.mem_cons.1 ha with rfl | ha
    · exact hstab _ _ _ h3 k2
    · exact k3 a ha

theorem foldl_post {σ α : Type} (step : σ → α → σ) (I : σ → Prop) (le : σ → σ → Prop)
    (P : α → σ → Prop) (le_refl : ∀ s, le s s) (le_trans : ∀ a b c, le a b → le b c → le a c)
    (hstep : ∀ s a, I s → I (step s a) ∧ le (step s a) s ∧ P a (step s a))
    (hstab : ∀ a s s', P a s → le s' s → P a s') (l : List α) (s : σ) (hs : I s) :
    I (l.foldl step s) ∧ le (l.foldl step s) s ∧ ∀ a ∈ l, P a (l.foldl step s) :=
  foldl_postQ step I le P (fun _ => True) le_refl le_trans (fun s a _ => hstep s a) hstab l s
    (fun _ _ => trivial) hs


/-! ### the first two loops, one loop read in the two directions -/

/-- `setD` = `set_edge` between `a` and `b` in the direction of the loop -/
def setD (fwd : Bool) (g : Zone n) (a : Fin (n + 1)) (w : Int) (b : Fin (n + 1)) : Zone n :=
  if fwd then setEdge g a w b else setEdge g b w a
/-- `cbD` = `closeBounds` for the edge between `a` and `b` in the direction of the loop -/
def cbD (fwd : Bool) (g : Zone n) (a b : Fin (n + 1)) (wt : Int) : Zone n :=
  if fwd then closeBounds g a b wt else closeBounds g b a wt
/-- `dlD` = the entry of `delta` for the edge between `a` and `b` in the direction of the loop -/
def dlD (fwd : Bool) (a b : Fin (n + 1)) (wt : Int) : Fin (n + 1) × Fin (n + 1) × Int :=
  if fwd then (a, b, wt) else (b, a, wt)
/-- `nb` = neighbour: the end of a pending edge on the side of the enumerated vertices -/
def nb (fwd : Bool) (e : Fin (n + 1) × Fin (n + 1) × Int) : Fin (n + 1) := if fwd then e.1 else e.2.1

/-- `stepD` = the coded loop body in a direction: `pass1Step inl ii jj` (`stepD true inl ii jj`) and
    `pass2Step inl ii jj` (`stepD false inl jj ii`): for a neighbour `x` of `u` the edge between `x`
    and `v` through `u` -/
def stepD (fwd inl : Bool) (u v : Fin (n + 1)) (c : Int) (st : PassSt n) (x : Fin (n + 1)) : PassSt n :=
  if x = 0 ∨ x = u then st else
  match rd fwd st.g x u with
  | none => st
  | some ev =>
    let wt := ev + c
    if x = v then st else
    match rd fwd st.g x v with
    | some w =>
      if w ≤ wt then st else
      let g1 := setD fwd st.g x wt v
      ⟨if inl then cbD fwd g1 x v wt else g1, st.delta, st.dec ++ [(x, ev)]⟩
    | none =>
      ⟨if inl then cbD fwd st.g x v wt else st.g, st.delta ++ [dlD fwd x v wt], st.dec ++ [(x, ev)]⟩

theorem pass1Step_eq (inl : Bool) (ii jj : Fin (n + 1)) (c : Int) :
    pass1Step inl ii jj c = stepD true inl ii jj c := by
  funext st x
  simp only [pass1Step, stepD, rd, setD, cbD, dlD, if_true]
  rfl

theorem pass2Step_eq (inl : Bool) (ii jj : Fin (n + 1)) (c : Int) :
    pass2Step inl ii jj c = stepD false inl jj ii c := by
  funext st x
  simp only [pass2Step, stepD, rd, setD, cbD, dlD, Bool.false_eq_true, if_false]
  rfl

theorem nb_dlD (fwd : Bool) (a b : Fin (n + 1)) (w : Int) : nb fwd (dlD fwd a b w) = a := by
  cases fwd <;> rfl

theorem rd_setD_self (fwd : Bool) (g : Zone n) (a b : Fin (n + 1)) (w : Int) :
    rd fwd (setD fwd g a w b) a b = some w := by
  cases fwd <;> simp [setD, edge_setEdge]

/-- the guarded `set_edge` (and `closeBounds`) of the coded loop is a relaxation -/
theorem improveD_eq (fwd inl : Bool) {g : Zone n} {a b : Fin (n + 1)} {wt : Int}
    (h : ∀ k, rd fwd g a b = some k → wt ≤ k) :
    improveD fwd inl g a wt b =
      if inl then cbD fwd (setD fwd g a wt b) a b wt else setD fwd g a wt b := by
  cases fwd
  · simp only [improveD_false, improve, setD, cbD, Bool.false_eq_true, if_false]
    rw [setEdge_eq_relax h]
  · simp only [improveD_true, improve, setD, cbD, if_true]
    rw [setEdge_eq_relax h]

theorem cbD_true (g : Zone n) (a b : Fin (n + 1)) (wt : Int) : cbD true g a b wt = closeBounds g a b wt :=
  if_pos rfl
theorem cbD_false (g : Zone n) (a b : Fin (n + 1)) (wt : Int) : cbD false g a b wt = closeBounds g b a wt :=
  if_neg Bool.false_ne_true

theorem Snd.cbD {G g : Zone n} (h : Snd G g) (fwd : Bool) {a b : Fin (n + 1)} {wt : Int} (ha : a ≠ 0)
    (hb : b ≠ 0) (hw : ∀ v, G.sat v → dv fwd v a b ≤ wt) : Snd G (cbD fwd g a b wt) := by
  cases fwd
  · rw [cbD_false]; exact h.closeBounds hb ha hw
  · rw [cbD_true]; exact h.closeBounds ha hb hw

theorem cbD_dec (fwd : Bool) (g : Zone n) (a b : Fin (n + 1)) (wt : Int) : Dec (cbD fwd g a b wt) g := by
  cases fwd
  · rw [cbD_false]; exact closeBounds_dec _ _ _ _
  · rw [cbD_true]; exact closeBounds_dec _ _ _ _

theorem rd_cbD_frame (fwd : Bool) (g : Zone n) (a b : Fin (n + 1)) (wt : Int) {x y : Fin (n + 1)}
    (h1 : ¬ (x = 0 ∧ y = b)) (h2 : ¬ (x = a ∧ y = 0)) :
    rd fwd (cbD fwd g a b wt) x y = rd fwd g x y := by
  cases fwd
  · rw [cbD_false]; exact closeBounds_frame _ _ _ _ (fun e => h2 ⟨e.2, e.1⟩) (fun e => h1 ⟨e.2, e.1⟩)
  · rw [cbD_true]; exact closeBounds_frame _ _ _ _ h1 h2

theorem rd_cbD_ub (fwd : Bool) {g : Zone n} {a b : Fin (n + 1)} (wt : Int) (hb : b ≠ 0) {y : Int}
    (hy : rd fwd g b 0 = some y) : W.LE (rd fwd (cbD fwd g a b wt) a 0) (some (y + wt)) := by
  cases fwd
  · rw [cbD_false]; exact closeBounds_ub0 _ _ hy
  · rw [cbD_true]; exact closeBounds_ub1 _ _ hb hy

/-- descent of states: the graph is only lowered, `src_dec` / `dest_dec` only grows -/
def PLe (s' s : PassSt n) : Prop := Dec s'.g s.g ∧ ∀ p, p ∈ s.dec → p ∈ s'.dec

theorem PLe.refl (s : PassSt n) : PLe s s := ⟨Dec.refl _, fun _ h => h⟩
theorem PLe.trans (a b c : PassSt n) (h1 : PLe a b) (h2 : PLe b c) : PLe a c :=
  ⟨Dec.trans h1.1 h2.1, fun p hp => h1.2 p (h2.2 p hp)⟩

section
variable (fwd inl : Bool) (G : Zone n) (u v : Fin (n + 1)) (c : Int)

/-- `QD` = qualifies for `*_dec`: what a member `(x, ev)` of `src_dec` (`fwd`, `u = ii`, `v = jj`) /
    of `dest_dec` (`u = jj`, `v = ii`) satisfies: a variable other than `u`, `v` whose edge to `u`
    had weight `ev` at the entry of `close_over_edge` -/
def QD (p : Fin (n + 1) × Int) : Prop := p.1 ≠ 0 ∧ p.1 ≠ u ∧ p.1 ≠ v ∧ rd fwd G p.1 u = some p.2

/-- `IP` = invariant of a pass (one of the first two loops) on the state as coded, with its pending
    `delta`; `G` is the graph at the entry of `close_over_edge`.  It is kept by every step of the
    loop and by every single `set_edge` of `apply_delta` (`IP.write`), so the state after
    `apply_delta` satisfies it with no pending edge. -/
structure IP (st : PassSt n) : Prop where
  /-- only sound relaxations of `G` were written -/
  snd : Snd G st.g
  /-- the edges read first (between a neighbour and `u`) are those of `G` -/
  intoU : ∀ x, rd fwd st.g x u = rd fwd G x u
  /-- the edges at `v` on the far side are those of `G` -/
  outV : ∀ x, rd fwd st.g v x = rd fwd G v x
  /-- the new edge `ii → jj` still has weight `c` -/
  cur : rd fwd st.g u v = some c
  /-- the first loop does not write the edges out of `ii` (the second starts from the result of
      the first, which has rewritten the edges into `jj`) -/
  outU : fwd = true → ∀ x, x ≠ 0 → rd fwd st.g u x = rd fwd G u x
  /-- every recorded pair qualifies -/
  decS : ∀ p ∈ st.dec, QD fwd G u v p
  /-- an edge between a variable and `v` is untouched unless the variable is recorded -/
  unt : ∀ x, x ≠ 0 → rd fwd st.g x v = rd fwd G x v ∨ ∃ ev, (x, ev) ∈ st.dec
  /-- without `close_bounds_inline` the bound edges are not written -/
  bnd : inl = false → BndEq st.g G
  /-- a recorded vertex has its edge to `v` through `u`, in the graph or pending -/
  ubJ : ∀ p ∈ st.dec, W.LE (rd fwd st.g p.1 v) (some (p.2 + c)) ∨ dlD fwd p.1 v (p.2 + c) ∈ st.delta
  /-- under `close_bounds_inline` a recorded vertex has its bound through `u`, `v` -/
  ubS : inl = true → ∀ p ∈ st.dec, ∀ y, rd fwd G v 0 = some y →
    W.LE (rd fwd st.g p.1 0) (some (y + (p.2 + c)))
  /-- a pending edge belongs to a recorded vertex and is absent from the graph (or there already,
      when `delta` holds it twice) -/
  pend : ∀ e ∈ st.delta, ∃ p ∈ st.dec, e = dlD fwd p.1 v (p.2 + c) ∧
    ∀ k, rd fwd st.g p.1 v = some k → k = p.2 + c

/-- `PP` = postcondition of a pass for the vertex `x` and the list `S`: recorded unless its edge to
    `v` was short enough -/
def PP (x : Fin (n + 1)) (S : List (Fin (n + 1) × Int)) : Prop :=
  ∀ ev, x ≠ 0 → x ≠ u → x ≠ v → rd fwd G x u = some ev →
    (x, ev) ∈ S ∨ W.LE (rd fwd G x v) (some (ev + c))

end

variable {fwd inl : Bool} {G : Zone n} {u v ii jj : Fin (n + 1)} {c : Int}

/-- one write for the vertex `x` (recorded, or being recorded, with `ev`): the new state `st'` differs
    from `st` at the edge between `x` and `v`, in the graph or pending, and under
    `close_bounds_inline` at the bounds of `x` and `v` -/
theorem IP.write (hu : u ≠ 0) (hv : v ≠ 0) (huv : u ≠ v) {st st' : PassSt n}
    (h : IP fwd inl G u v c st) {x : Fin (n + 1)} {ev : Int} (hq : QD fwd G u v (x, ev))
    (hS : ∀ p, p ∈ st'.dec ↔ p ∈ st.dec ∨ p = (x, ev)) (s2 : Snd G st'.g) (dd : Dec st'.g st.g)
    (fr : ∀ a b, ¬ (a = x ∧ b = v) → ¬ (a = 0 ∧ b = v) → ¬ (a = x ∧ b = 0) →
      rd fwd st'.g a b = rd fwd st.g a b)
    (hb : inl = false → BndEq st'.g G)
    (hJ : W.LE (rd fwd st'.g x v) (some (ev + c)) ∨ dlD fwd x v (ev + c) ∈ st'.delta)
    (hδ : ∀ e ∈ st.delta, e ∈ st'.delta ∨ nb fwd e = x)
    (hδ' : ∀ e ∈ st'.delta, e ∈ st.delta ∨ e = dlD fwd x v (ev + c))
    (hP : dlD fwd x v (ev + c) ∈ st'.delta → ∀ k, rd fwd st'.g x v = some k → k = ev + c)
    (hU : inl = true → ∀ y, rd fwd G v 0 = some y → W.LE (rd fwd st'.g x 0) (some (y + (ev + c)))) :
    IP fwd inl G u v c st' := by
  obtain ⟨hx0, hxu, hxv, hevG⟩ := hq
  -- a vertex is recorded with one weight
  have uniq : ∀ p ∈ st.dec, p.1 = x → p = (x, ev) := fun p hp e => by
    have := (h.decS p hp).2.2.2
    rw [e, hevG] at this
    exact Prod.ext e (Option.some.inj this).symm
  have mine : (x, ev) ∈ st'.dec := (hS _).2 (Or.inr rfl)
  refine { snd := s2, bnd := hb, cur := ?cur, intoU := (fun a => ?intoU),
           outV := (fun a => ?outV), outU := (fun hf a ha => ?outU),
           decS := (fun p hp => ?decS), unt := (fun a ha => ?unt),
           ubJ := (fun p hp => ?ubJ), ubS := (fun ht p hp y hy => ?ubS),
           pend := (fun e he => ?pend) }
  case intoU =>
    exact (fr a u (fun e => huv e.2) (fun e => huv e.2) (fun e => hu e.2)).trans (h.intoU a)
  case outV =>
    exact (fr v a (fun e => hxv e.1.symm) (fun e => hv e.1) (fun e => hxv e.1.symm)).trans
      (h.outV a)
  case cur =>
    exact (fr u v (fun e => hxu e.1.symm) (fun e => hu e.1) (fun e => hxu e.1.symm)).trans h.cur
  case outU =>
    exact (fr u a (fun e => hxu e.1.symm) (fun e => hu e.1) (fun e => hxu e.1.symm)).trans
      (h.outU hf a ha)
  case decS =>
    rcases (hS p).1 hp with hp | rfl
    · exact h.decS p hp
    · exact ⟨hx0, hxu, hxv, hevG⟩
  case unt =>
    by_cases hax : a = x
    · exact Or.inr ⟨ev, hax ▸ mine⟩
    · rw [fr a v (fun e => hax e.1) (fun e => ha e.1) (fun e => hax e.1)]
      exact (h.unt a ha).imp id (fun ⟨ev', hu'⟩ => ⟨ev', (hS _).2 (Or.inl hu')⟩)
  case ubJ =>
    rcases (hS p).1 hp with hp | rfl
    · by_cases hpx : p.1 = x
      · cases uniq p hp hpx; exact hJ
      · rcases h.ubJ p hp with hj | hj
        · exact Or.inl (W.LE_trans (dd.rd fwd _ _) hj)
        · exact Or.inr ((hδ _ hj).resolve_right (fun e => hpx ((nb_dlD ..).symm.trans e)))
    · exact hJ
  case ubS =>
    rcases (hS p).1 hp with hp | rfl
    · exact W.LE_trans (dd.rd fwd _ _) (h.ubS ht p hp y hy)
    · exact hU ht y hy
  case pend =>
    have own : dlD fwd x v (ev + c) ∈ st'.delta → ∃ p ∈ st'.dec,
        dlD fwd x v (ev + c) = dlD fwd p.1 v (p.2 + c) ∧ ∀ k, rd fwd st'.g p.1 v = some k → k = p.2 + c :=
      fun he' => ⟨(x, ev), mine, rfl, hP he'⟩
    rcases hδ' e he with he' | rfl
    · obtain ⟨p, hp, rfl, hk⟩ := h.pend e he'
      by_cases hpx : p.1 = x
      · cases uniq p hp hpx; exact own he
      · refine ⟨p, (hS _).2 (Or.inl hp), rfl, ?_⟩
        rwa [fr p.1 v (fun e => hpx e.1) (fun e => (h.decS p hp).1 e.1) (fun e => hpx e.1)]
    · exact own he

theorem PP_stable (x : Fin (n + 1)) {S S' : List (Fin (n + 1) × Int)} (h : PP fwd G u v c x S)
    (hle : ∀ p, p ∈ S → p ∈ S') : PP fwd G u v c x S' := fun ev h0 h1 h2 h3 =>
  (h ev h0 h1 h2 h3).imp (hle _) id

/-- one step of a coded loop: invariant, descent, postcondition of the vertex -/
theorem stepD_step (hu : u ≠ 0) (hv : v ≠ 0) (huv : u ≠ v)
    (st : PassSt n) (x : Fin (n + 1)) (h : IP fwd inl G u v c st) :
    IP fwd inl G u v c (stepD fwd inl u v c st x) ∧ PLe (stepD fwd inl u v c st x) st ∧
      PP fwd G u v c x (stepD fwd inl u v c st x).dec := by
  unfold stepD
  by_cases h0 : x = 0 ∨ x = u
  · rw [if_pos h0]
    refine ⟨h, PLe.refl _, fun ev a1 a2 _ _ => ?_⟩
    rcases h0 with h0 | h0
    · exact absurd h0 a1
    · exact absurd h0 a2
  rw [if_neg h0]
  have hx0 : x ≠ 0 := fun e => h0 (Or.inl e)
  have hxu : x ≠ u := fun e => h0 (Or.inr e)
  rcases hev : rd fwd st.g x u with _ | ev0
  · refine ⟨h, PLe.refl _, fun ev _ _ _ a4 => ?_⟩
    rw [← h.intoU, hev] at a4; cases a4
  have hevG : rd fwd G x u = some ev0 := by rw [← h.intoU]; exact hev
  simp only
  by_cases hxv : x = v
  · rw [if_pos hxv]
    exact ⟨h, PLe.refl _, fun ev _ _ a3 _ => absurd hxv a3⟩
  rw [if_neg hxv]
  -- a solution respects the path between `x` and `v` through `u`
  have hw : ∀ w, (varPart G).sat w → dv fwd w x v ≤ ev0 + c := fun _ =>
    h.snd.path2D fwd hx0 hu hv hev h.cur
  -- a state that records `x` after a write
  have key : ∀ st' : PassSt n, st'.dec = st.dec ++ [(x, ev0)] → IP fwd inl G u v c st' →
      Dec st'.g st.g → IP fwd inl G u v c st' ∧ PLe st' st ∧ PP fwd G u v c x st'.dec :=
    fun st' e i d => ⟨i, ⟨d, fun p hp => e ▸ List.mem_append_left _ hp⟩, fun ev _ _ _ a4 => by
      rw [hevG] at a4; cases a4
      exact Or.inl (e ▸ List.mem_append_right _ (List.mem_singleton.2 rfl))⟩
  have hS : ∀ p, p ∈ st.dec ++ [(x, ev0)] ↔ p ∈ st.dec ∨ p = (x, ev0) := fun p => by
    rw [List.mem_append, List.mem_singleton]
  rcases hwv : rd fwd st.g x v with _ | w
  · -- new edge: pushed on `delta`; the graph changes only under `close_bounds_inline`
    simp only
    have hm : ∀ δ : List (Fin (n + 1) × Fin (n + 1) × Int), dlD fwd x v (ev0 + c) ∈ δ ++ [dlD fwd x v (ev0 + c)] :=
      fun δ => List.mem_append_right _ (List.mem_singleton.2 rfl)
    have hδ' : ∀ e ∈ st.delta ++ [dlD fwd x v (ev0 + c)], e ∈ st.delta ∨ e = dlD fwd x v (ev0 + c) :=
      fun e he => by rwa [List.mem_append, List.mem_singleton] at he
    cases inl
    · refine key _ rfl (h.write hu hv huv ⟨hx0, hxu, hxv, hevG⟩ hS h.snd (Dec.refl _)
        (fun _ _ _ _ _ => rfl) h.bnd (Or.inr (hm _)) (fun e he => Or.inl (List.mem_append_left _ he))
        hδ' (fun _ k hk => by have hk' : rd fwd st.g x v = some k := hk; rw [hwv] at hk'; cases hk')
        (fun ht => by cases ht)) (Dec.refl _)
    · have fr : ∀ a b, ¬ (a = 0 ∧ b = v) → ¬ (a = x ∧ b = 0) →
          rd fwd (cbD fwd st.g x v (ev0 + c)) a b = rd fwd st.g a b :=
        fun a b a2 a3 => rd_cbD_frame fwd _ _ _ _ a2 a3
      refine key _ rfl (h.write hu hv huv ⟨hx0, hxu, hxv, hevG⟩ hS
        (h.snd.cbD fwd hx0 hv (fun w hw' => hw w (sat_varPart hw'))) (cbD_dec _ _ _ _ _)
        (fun a b _ a2 a3 => fr a b a2 a3) (fun hf => by cases hf) (Or.inr (hm _))
        (fun e he => Or.inl (List.mem_append_left _ he)) hδ'
        (fun _ k hk => by
          have hk' : rd fwd (cbD fwd st.g x v (ev0 + c)) x v = some k := hk
          rw [fr x v (fun e => hx0 e.1) (fun e => hv e.2), hwv] at hk'; cases hk')
        (fun _ y hy => rd_cbD_ub fwd _ hv ((h.outV 0).trans hy))) (cbD_dec _ _ _ _ _)
  · simp only
    by_cases hle : w ≤ ev0 + c
    · rw [if_pos hle]
      refine ⟨h, PLe.refl _, fun ev _ _ _ a4 => ?_⟩
      rw [hevG] at a4; cases a4
      rcases h.unt x hx0 with hu' | ⟨ev', hu'⟩
      · right; rw [← hu', hwv]; exact W.LE_some_some.2 hle
      · left
        have := (h.decS _ hu').2.2.2
        rw [hevG] at this; cases this
        exact hu'
    · rw [if_neg hle]
      have hge : ∀ k, rd fwd st.g x v = some k → ev0 + c ≤ k := fun k hk => by
        rw [hwv] at hk; cases hk; omega
      rw [← improveD_eq fwd inl hge]
      refine key ⟨_, _, _⟩ rfl (h.write hu hv huv ⟨hx0, hxu, hxv, hevG⟩ hS
        (h.snd.improveD fwd inl hx0 hv hxv hw) (improveD_dec _ _ _ _ _ _)
        (fun a b a1 a2 a3 => rd_improveD_frame _ _ _ _ _ _ a1 (fun _ => a2) (fun _ => a3))
        (fun hf => ?_) (Or.inl (rd_improveD_le _ _ _ _ _ _)) (fun e he => Or.inl he)
        (fun e he => Or.inl he) (fun he => ?_) (fun ht y hy => ?_)) (improveD_dec _ _ _ _ _ _)
      · subst hf; exact (h.bnd rfl).improveD fwd hx0 hv _
      · -- `x` has no pending edge: its edge to `v` is in the graph with another weight
        obtain ⟨p, hp, e, hk⟩ := h.pend _ he
        have e1 : x = p.1 := by have := congrArg (nb fwd) e; rwa [nb_dlD, nb_dlD] at this
        have e2 : ev0 + c = p.2 + c := by
          have := (h.decS p hp).2.2.2; rw [← e1, hevG] at this; cases this; rfl
        have := hk w (e1 ▸ hwv); omega
      · subst ht; exact rd_improveD_ub fwd _ hv ((h.outV 0).trans hy)

/-- a coded loop: invariant, descent, every vertex of the enumeration postconditioned; the
    enumeration may repeat vertices -/
theorem stepD_fold (hu : u ≠ 0) (hv : v ≠ 0) (huv : u ≠ v)
    (vs : List (Fin (n + 1))) (st : PassSt n) (h : IP fwd inl G u v c st) :
    let r := vs.foldl (stepD fwd inl u v c) st
    IP fwd inl G u v c r ∧ PLe r st ∧ ∀ x ∈ vs, PP fwd G u v c x r.dec :=
  foldl_post (stepD fwd inl u v c) (IP fwd inl G u v c) PLe (fun x s => PP fwd G u v c x s.dec)
    PLe.refl PLe.trans (fun s a hs => stepD_step hu hv huv s a hs)
    (fun x _ _ hp hle => PP_stable x hp hle.2) vs st h

theorem IP.ubJ_nil {g : Zone n} {S : List (Fin (n + 1) × Int)} (h : IP fwd inl G u v c ⟨g, [], S⟩) :
    ∀ p ∈ S, W.LE (rd fwd g p.1 v) (some (p.2 + c)) := fun p hp =>
  (h.ubJ p hp).resolve_right List.not_mem_nil

/-- `apply_delta` after a loop: every `set_edge` writes the pending edge of a recorded vertex -/
theorem IP.flush (hu : u ≠ 0) (hv : v ≠ 0) (huv : u ≠ v) (S : List (Fin (n + 1) × Int)) :
    ∀ (δ : List (Fin (n + 1) × Fin (n + 1) × Int)) (g : Zone n), IP fwd inl G u v c ⟨g, δ, S⟩ →
      IP fwd inl G u v c ⟨applyDelta g δ, [], S⟩ ∧ Dec (applyDelta g δ) g
  | [], g, h => ⟨h, Dec.refl _⟩
  | e :: δ, g, h => by
    obtain ⟨p, hp, rfl, hk⟩ := h.pend e (List.mem_cons_self ..)
    have hq := h.decS p hp
    have hge : ∀ k, rd fwd g p.1 v = some k → p.2 + c ≤ k := fun k hk' => Int.le_of_eq (hk k hk').symm
    have e1 : applyDelta g (dlD fwd p.1 v (p.2 + c) :: δ) =
        applyDelta (improveD fwd false g p.1 (p.2 + c) v) δ := by
      rw [improveD_eq fwd false hge]; cases fwd <;> rfl
    have hs : rd fwd (improveD fwd false g p.1 (p.2 + c) v) p.1 v = some (p.2 + c) := by
      rw [improveD_eq fwd false hge]; exact rd_setD_self fwd g p.1 v _
    obtain ⟨h2, d2⟩ := IP.flush hu hv huv S δ _ (h.write (st' := ⟨_, δ, S⟩) hu hv huv hq
      (fun q => ⟨Or.inl, fun hh => hh.elim id (fun e => e ▸ hp)⟩)
      (h.snd.improveD fwd false hq.1 hv hq.2.2.1 (fun _ =>
        h.snd.path2D fwd hq.1 hu hv ((h.intoU _).trans hq.2.2.2) h.cur))
      (improveD_dec _ _ _ _ _ _)
      (fun a b a1 _ _ => rd_improveD_frame _ _ _ _ _ _ a1 (fun t => by cases t) (fun t => by cases t))
      (fun hf => (h.bnd hf).improveD fwd hq.1 hv _) (Or.inl (hs ▸ W.LE_refl _))
      (fun e he => (List.mem_cons.1 he).elim (fun e => Or.inr (e ▸ nb_dlD ..)) Or.inl)
      (fun e he => Or.inl (List.mem_cons_of_mem _ he)) (fun _ k hk' => Option.some.inj (hs ▸ hk').symm)
      (fun ht y hy => W.LE_trans ((improveD_dec _ _ _ _ _ _).rd fwd _ _) (h.ubS ht p hp y hy)))
    exact ⟨e1 ▸ h2, e1 ▸ Dec.trans d2 (improveD_dec _ _ _ _ _ _)⟩


/-- the coded body in relaxation form -/
theorem pass3Step_eq (inl : Bool) (c : Int) (sp dp : Fin (n + 1) × Int) (g : Zone n) :
    pass3Step inl c sp g dp =
      if sp.1 = dp.1 then g else
      if W.le (edge g sp.1 dp.1) (some (c + sp.2 + dp.2)) = true then g else
      improve inl g sp.1 (c + sp.2 + dp.2) dp.1 := by
  unfold pass3Step improve
  by_cases h : sp.1 = dp.1
  · simp [h]
  · simp only [h, if_false]
    rcases hw : edge g sp.1 dp.1 with _ | w
    · have : W.le (none : W) (some (c + sp.2 + dp.2)) = false := rfl
      simp only [this, Bool.false_eq_true, if_false]
      rw [setEdge_eq_relax (fun k hk => by rw [hw] at hk; cases hk)]
    · simp only [W.le, decide_eq_true_eq]
      by_cases hle : w ≤ c + sp.2 + dp.2
      · simp [hle]
      · simp only [hle, if_false]
        rw [setEdge_eq_relax (fun k hk => by rw [hw] at hk; cases hk; omega)]

section
variable (inl : Bool) (G : Zone n) (c : Int)

/-- `I3` = invariant of the third (pairwise) loop -/
structure I3 (g : Zone n) : Prop where
  snd : Snd G g
  bnd : inl = false → BndEq g G

/-- `P3` = postcondition of the third loop for a pair: the path `se → ii → jj → de` -/
def P3 (sp dp : Fin (n + 1) × Int) (g : Zone n) : Prop :=
  sp.1 ≠ dp.1 → W.LE (edge g sp.1 dp.1) (some (c + sp.2 + dp.2))

end

theorem pass3_step (hi : ii ≠ 0) (hj : jj ≠ 0) (hij : ii ≠ jj) (hc : edge G ii jj = some c)
    (sp dp : Fin (n + 1) × Int) (h1 : QD true G ii jj sp) (h2 : QD false G jj ii dp) (g : Zone n)
    (h : I3 inl G g) :
    I3 inl G (pass3Step inl c sp g dp) ∧ Dec (pass3Step inl c sp g dp) g ∧
      P3 c sp dp (pass3Step inl c sp g dp) := by
  rw [pass3Step_eq]
  by_cases hsd : sp.1 = dp.1
  · rw [if_pos hsd]
    exact ⟨h, Dec.refl _, fun hne => absurd hsd hne⟩
  rw [if_neg hsd]
  by_cases hg : W.le (edge g sp.1 dp.1) (some (c + sp.2 + dp.2)) = true
  · rw [if_pos hg]
    exact ⟨h, Dec.refl _, fun _ => (W.le_iff _ _).1 hg⟩
  rw [if_neg hg]
  obtain ⟨a0, a1, _, a3⟩ := h1
  obtain ⟨b0, b1, _, b3⟩ := h2
  simp only [rd_true, rd_false] at a3 b3
  -- a solution respects the three-hop path `se → ii → jj → de` of `G`
  have hw : ∀ v, (varPart G).sat v → v dp.1 - v sp.1 ≤ c + sp.2 + dp.2 := fun v hv => by
    have := sat_edge hv ((edge_varPart G a0 hi a1).trans a3)
    have := sat_edge hv ((edge_varPart G hi hj hij).trans hc)
    have := sat_edge hv ((edge_varPart G hj b0 (Ne.symm b1)).trans b3)
    omega
  exact ⟨⟨h.snd.improve inl a0 b0 hsd hw, fun hf => by subst hf; exact (h.bnd rfl).improve a0 b0 _⟩,
    improve_dec _ _ _ _ _, fun _ => improve_le_val _ _ _ _ _⟩

theorem P3_stable (sp dp : Fin (n + 1) × Int) (g g' : Zone n) (h : P3 c sp dp g) (hle : Dec g' g) :
    P3 c sp dp g' := fun hne => W.LE_trans (hle _ _) (h hne)

/-- the pairwise loop: invariant, descent, every recorded pair has its path -/
theorem pass3_fold (hi : ii ≠ 0) (hj : jj ≠ 0) (hij : ii ≠ jj) (hc : edge G ii jj = some c)
    (S1 S2 : List (Fin (n + 1) × Int)) (h1 : ∀ p ∈ S1, QD true G ii jj p)
    (h2 : ∀ p ∈ S2, QD false G jj ii p) (g : Zone n) (h : I3 inl G g) :
    let r := S1.foldl (fun g sp => S2.foldl (pass3Step inl c sp) g) g
    I3 inl G r ∧ Dec r g ∧ ∀ sp ∈ S1, ∀ dp ∈ S2, P3 c sp dp r := by
  have inner : ∀ sp, QD true G ii jj sp → ∀ g : Zone n, I3 inl G g →
      I3 inl G (S2.foldl (pass3Step inl c sp) g) ∧ Dec (S2.foldl (pass3Step inl c sp) g) g ∧
        ∀ dp ∈ S2, P3 c sp dp (S2.foldl (pass3Step inl c sp) g) := by
    intro sp hsp g hg
    exact foldl_postQ (pass3Step inl c sp) (I3 inl G) Dec (P3 c sp) (QD false G jj ii) Dec.refl
      (fun _ _ _ => Dec.trans) (fun s a ha hs => pass3_step hi hj hij hc sp a hsp ha s hs)
      (P3_stable sp) S2 g h2 hg
  exact foldl_postQ (fun g sp => S2.foldl (pass3Step inl c sp) g) (I3 inl G) Dec
    (fun sp g => ∀ dp ∈ S2, P3 c sp dp g) (QD true G ii jj) Dec.refl (fun _ _ _ => Dec.trans)
    (fun s a ha hs => inner a ha s hs)
    (fun sp s s' hp hle dp hdp => P3_stable sp dp s s' (hp dp hdp) hle) S1 g h1 h


/-- what one of the first two loops leaves about its list `S` in the final graph `r` -/
structure RecFacts (fwd inl : Bool) (G : Zone n) (u v : Fin (n + 1)) (c : Int) (r : Zone n)
    (S : List (Fin (n + 1) × Int)) : Prop where
  /-- every recorded pair qualifies -/
  q : ∀ p ∈ S, QD fwd G u v p
  /-- every vertex is recorded unless its edge to `v` was short enough -/
  post : ∀ x, PP fwd G u v c x S
  /-- a recorded vertex has its edge to `v` through `u` -/
  ubJ : ∀ p ∈ S, W.LE (rd fwd r p.1 v) (some (p.2 + c))
  /-- under `close_bounds_inline` a recorded vertex has its bound through `u`, `v` -/
  ubS : inl = true → ∀ p ∈ S, ∀ y, rd fwd G v 0 = some y → W.LE (rd fwd r p.1 0) (some (y + (p.2 + c)))
  /-- under `close_bounds_inline` `u` has its bound through `v` (the update before the loops) -/
  ub0 : inl = true → ∀ y, rd fwd G v 0 = some y → W.LE (rd fwd r u 0) (some (y + c))

/-- everything the three loops establish about the result `r` (`S1 = src_dec`, `S2 = dest_dec`) -/
structure COEFacts (inl : Bool) (G : Zone n) (ii jj : Fin (n + 1)) (c : Int) (r : Zone n)
    (S1 S2 : List (Fin (n + 1) × Int)) : Prop where
  snd : Snd G r
  bnd : inl = false → BndEq r G
  rec1 : RecFacts true inl G ii jj c r S1
  rec2 : RecFacts false inl G jj ii c r S2
  p3 : ∀ sp ∈ S1, ∀ dp ∈ S2, P3 c sp dp r

/-- the graph `g0` after the bounds update that precedes the loops -/
structure StartFacts (inl : Bool) (G : Zone n) (ii jj : Fin (n + 1)) (c : Int) (g0 : Zone n) :
    Prop where
  snd : Snd G g0
  dec : Dec g0 G
  /-- only `0 → jj` and `ii → 0` are written -/
  frame : ∀ x y, ¬ (x = 0 ∧ y = jj) → ¬ (x = ii ∧ y = 0) → edge g0 x y = edge G x y
  same : inl = false → g0 = G
  ub0 : inl = true → ∀ x, edge G 0 ii = some x → W.LE (edge g0 0 jj) (some (x + c))
  ub1 : inl = true → ∀ y, edge G jj 0 = some y → W.LE (edge g0 ii 0) (some (y + c))

/-- `close_over_edge` as coded, for every enumeration that contains every vertex -/
theorem closeOverEdge_facts (hl : NoSelfLoop G) (hi : ii ≠ 0) (hj : jj ≠ 0)
    (hij : ii ≠ jj) (hc : edge G ii jj = some c) (vs : List (Fin (n + 1))) (hvs : ∀ v, v ∈ vs) :
    ∃ S1 S2, COEFacts inl G ii jj c (closeOverEdge inl vs G ii jj) S1 S2 := by
  unfold closeOverEdge closeOverEdgeG
  simp only [hc, pass1Step_eq, pass2Step_eq]
  -- the initial bounds update
  have h0 : Snd G G := Snd.refl hl
  obtain ⟨g0, hg0, k0⟩ : ∃ g0 : Zone n, g0 = (if inl then closeBounds G ii jj c else G) ∧
      StartFacts inl G ii jj c g0 := by
    cases inl with
    | false =>
      exact ⟨G, by simp, h0, Dec.refl _, fun _ _ _ _ => rfl, fun _ => rfl,
        (fun e => by cases e), (fun e => by cases e)⟩
    | true =>
      exact ⟨_, by simp, h0.closeBounds hi hj (fun _ hv => sat_edge hv hc), closeBounds_dec _ _ _ _,
        fun x y a1 a2 => closeBounds_frame _ _ _ _ a1 a2, (fun e => by cases e),
        fun _ x hx => closeBounds_ub0 _ _ hx, fun _ y hy => closeBounds_ub1 _ _ hj hy⟩
  obtain ⟨s0, d0, f0, b0, u0, u0'⟩ := k0
  rw [← hg0]
  have nil : ∀ {α : Type} {P : α → Prop}, ∀ p ∈ ([] : List α), P p := fun _ hp => by cases hp
  -- first loop
  have i1 : IP true inl G ii jj c ⟨g0, [], []⟩ := by
    refine ⟨s0, fun x => ?_, fun x => ?_, ?_, fun _ x hx => ?_, nil, fun x hx => ?_,
      fun hf x => (by rw [b0 hf]; exact ⟨rfl, rfl⟩), nil, fun _ => nil, nil⟩
    · exact f0 x ii (fun e => hij e.2) (fun e => hi e.2)
    · exact f0 jj x (fun e => hj e.1) (fun e => hij e.1.symm)
    · exact (f0 ii jj (fun e => hi e.1) (fun e => hj e.2)).trans hc
    · exact f0 ii x (fun e => hi e.1) (fun e => hx e.2)
    · exact Or.inl (f0 x jj (fun e => hx e.1) (fun e => hj e.2))
  obtain ⟨j1c, l1, post1⟩ := stepD_fold hi hj hij vs _ i1
  generalize vs.foldl (stepD true inl ii jj c) ⟨g0, [], []⟩ = s1 at j1c l1 post1
  obtain ⟨j1, l1'⟩ := IP.flush hi hj hij s1.dec s1.delta s1.g j1c
  generalize applyDelta s1.g s1.delta = g1 at j1 l1'
  -- second loop
  have i2 : IP false inl G jj ii c ⟨g1, [], []⟩ :=
    ⟨j1.snd, j1.outV, j1.intoU, j1.cur, fun e => (by cases e), nil,
      fun x hx => Or.inl (j1.outU rfl x hx), j1.bnd, nil, fun _ => nil, nil⟩
  obtain ⟨j2c, l2, post2⟩ := stepD_fold hj hi (Ne.symm hij) vs _ i2
  generalize vs.foldl (stepD false inl jj ii c) ⟨g1, [], []⟩ = s2 at j2c l2 post2
  obtain ⟨j2, l2'⟩ := IP.flush hj hi (Ne.symm hij) s2.dec s2.delta s2.g j2c
  generalize applyDelta s2.g s2.delta = g2 at j2 l2'
  -- pairwise loop
  obtain ⟨j3, l3, post3⟩ := pass3_fold hi hj hij hc s1.dec s2.dec j1.decS j2.decS g2 ⟨j2.snd, j2.bnd⟩
  generalize s1.dec.foldl (fun g sp => s2.dec.foldl (pass3Step inl c sp) g) g2 = r at j3 l3 post3
  have d31 : Dec r g1 := Dec.trans l3 (Dec.trans l2' l2.1)
  have d30 : Dec r g0 := Dec.trans d31 (Dec.trans l1' l1.1)
  exact ⟨s1.dec, s2.dec, j3.snd, j3.bnd,
    ⟨j1.decS, fun x => post1 x (hvs x), fun p hp => W.LE_trans (d31 _ _) (j1.ubJ_nil p hp),
      fun ht p hp y hy => W.LE_trans (d31 _ _) (j1.ubS ht p hp y hy),
      fun ht y hy => W.LE_trans (d30 _ _) (u0' ht y hy)⟩,
    ⟨j2.decS, fun x => post2 x (hvs x), fun p hp => W.LE_trans (l3 _ _) (j2.ubJ_nil p hp),
      fun ht p hp y hy => W.LE_trans (l3 _ _) (j2.ubS ht p hp y hy),
      fun ht y hy => W.LE_trans (d30 _ _) (u0 ht y hy)⟩, post3⟩

end DbmIncr
end Crab
