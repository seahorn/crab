import CrabModel.Scalar.Congruence

/-! Helper lemmas about `Crab.Cong` (model of `ikos::congruence<z_number>`): the gcd helpers
    compute the gcd, membership through the normalising constructor, lattice operations and
    the ring operations. -/
namespace Crab
namespace Cong

theorem gcdLoop_eq (fuel x y : Nat) (h : y < fuel) : gcdLoop fuel x y = Nat.gcd x y := by
  induction fuel generalizing x y with
  | zero => omega
  | succ n ih =>
    unfold gcdLoop
    split
    · rename_i hy; subst hy; simp
    · rename_i hy
      have hlt : x % y < y := Nat.mod_lt _ (Nat.pos_of_ne_zero hy)
      rw [ih y (x % y) (by omega), Nat.gcd_comm x y, Nat.gcd_rec y x, Nat.gcd_comm]

theorem gcdHelper_eq (x y : Nat) : gcdHelper x y = Nat.gcd x y :=
  gcdLoop_eq (y + 1) x y (by omega)

theorem gcd_eq (x y : Int) : gcd x y = (Int.gcd x y : Int) := by
  simp [gcd, gcdHelper_eq, Int.gcd]

theorem gcd_dvd_left (x y : Int) : gcd x y ∣ x := by rw [gcd_eq]; exact Int.gcd_dvd_left x y
theorem gcd_dvd_right (x y : Int) : gcd x y ∣ y := by rw [gcd_eq]; exact Int.gcd_dvd_right x y
theorem gcd_nonneg (x y : Int) : 0 ≤ gcd x y := by rw [gcd_eq]; exact Int.natCast_nonneg _

theorem gcd3_dvd_1 (x y z : Int) : gcd3 x y z ∣ x := gcd_dvd_left _ _
theorem gcd3_dvd_2 (x y z : Int) : gcd3 x y z ∣ y :=
  Int.dvd_trans (gcd_dvd_right _ _) (gcd_dvd_left _ _)
theorem gcd3_dvd_3 (x y z : Int) : gcd3 x y z ∣ z :=
  Int.dvd_trans (gcd_dvd_right _ _) (gcd_dvd_right _ _)

theorem iabs_eq_natAbs (x : Int) : iabs x = (x.natAbs : Int) := by unfold iabs; split <;> omega

theorem dvd_iabs {a x : Int} : a ∣ iabs x ↔ a ∣ x := by rw [iabs_eq_natAbs]; exact Int.dvd_natAbs
theorem iabs_dvd {a x : Int} : iabs a ∣ x ↔ a ∣ x := by rw [iabs_eq_natAbs]; exact Int.natAbs_dvd
theorem iabs_pos {a : Int} (h : a ≠ 0) : 0 < iabs a := by
  rw [iabs_eq_natAbs]; exact Int.natCast_pos.mpr (Int.natAbs_pos.mpr h)

theorem mem_def (k : Int) (c : Cong) : mem k c ↔ (c.isBot = false ∧ c.a ∣ k - c.b) := Iff.rfl

theorem not_mem_bot (k : Int) : ¬ mem k bot := by simp [mem, bot]
theorem not_mem_of_isBot {k : Int} {c : Cong} (h : c.isBot = true) : ¬ mem k c := by
  simp [mem, h]
theorem mem_top (k : Int) : mem k top := by simp [mem, top]
theorem mem_ofInt (k n : Int) : mem k (ofInt n) ↔ k = n := by
  simp [mem, ofInt]; omega

theorem eq_of_mem_cst {k : Int} {c : Cong} (h : mem k c) (ha : c.a = 0) : k = c.b := by
  have := h.2; rw [ha] at this
  exact Int.eq_of_sub_eq_zero (Int.zero_dvd.mp this)

theorem mem_of_isTop {k : Int} {c : Cong} (hb : c.isBot = false) (h : c.isTop = true) : mem k c := by
  simp [isTop] at h; simp [mem, hb, h]

/-- the tests shared by all binary operations: neither operand is bottom -/
theorem not_bot_or {x o : Cong} {a b : Int} (ha : mem a x) (hb : mem b o) :
    ¬ (x.isBot || o.isBot) = true := by
  rw [ha.1, hb.1]; exact Bool.false_ne_true

/-- the representative in `[0, m)` that `normalize()` (and `mod` of the reduction) computes from a
    truncated remainder -/
theorem tmod_norm {b m r : Int} (hm : 0 < m)
    (hr : r = if Int.tmod b m < 0 then Int.tmod b m + m else Int.tmod b m) :
    0 ≤ r ∧ r < m ∧ m ∣ b - r := by
  have h1 := Int.tmod_lt_of_pos b hm
  have h2 := Int.lt_tmod_of_pos b hm
  have h3 : m ∣ b - Int.tmod b m := by
    rw [Int.tmod_def, Int.sub_sub_self]; exact Int.dvd_mul_right _ _
  by_cases h : Int.tmod b m < 0
  · rw [if_pos h] at hr
    refine ⟨by omega, by omega, ?_⟩
    rw [hr, show b - (b.tmod m + m) = (b - b.tmod m) - m by omega]
    exact Int.dvd_sub h3 (Int.dvd_refl m)
  · rw [if_neg h] at hr
    exact ⟨by omega, by omega, hr ▸ h3⟩

/-- the normalising constructor keeps the class: `|a|` generates the same ideal and the
    reduced residue differs from `b` by a multiple of `|a|` -/
theorem mem_mk' (k a b : Int) : mem k (mk' a b) ↔ a ∣ k - b := by
  unfold mk' mem
  simp only [true_and]
  generalize ha' : (if a < 0 then -a else a) = a'
  have hdvd : ∀ x, a' ∣ x ↔ a ∣ x := by
    intro x; rw [← ha']; split
    · exact Int.neg_dvd
    · exact Iff.rfl
  rw [← hdvd]
  by_cases h0 : a' = 0
  · rw [if_neg (by simpa using h0)]
  · rw [if_pos h0]
    have hpos : 0 < a' := by rw [← ha'] at h0 ⊢; split at h0 <;> split <;> omega
    obtain ⟨_, _, hd⟩ := tmod_norm (b := b) hpos rfl
    rw [show ∀ r, k - r = (k - b) + (b - r) from fun r => by omega]
    exact Int.dvd_add_left hd

theorem wf_mk' (a b : Int) : WF (mk' a b) := by
  unfold mk' WF
  simp only [Bool.false_eq_true, false_implies, and_true]
  generalize ha' : (if a < 0 then -a else a) = a'
  have hnn : 0 ≤ a' := by rw [← ha']; split <;> omega
  refine ⟨hnn, fun h0 => ?_⟩
  rw [if_pos h0]
  obtain ⟨h1, h2, _⟩ := tmod_norm (b := b) (show 0 < a' by omega) rfl
  exact ⟨h1, h2⟩

theorem contains_iff (c : Cong) (k : Int) : c.contains k = true ↔ mem k c := by
  unfold contains mem
  cases c.isBot <;> simp
  by_cases ha : c.a = 0
  · simp [ha]; omega
  · simp [ha, Int.dvd_iff_emod_eq_zero]

theorem dvd_sub_of_tmod_eq {x y a : Int} (h : Int.tmod x a = Int.tmod y a) : a ∣ x - y := by
  have hx := Int.tmod_def x a
  have hy := Int.tmod_def y a
  have : x - y = a * (Int.tdiv x a - Int.tdiv y a) := by
    rw [Int.mul_sub]; omega
  rw [this]; exact Int.dvd_mul_right _ _

theorem mem_trans_dvd {k a a' b b' : Int} (h : a ∣ k - b) (ha : a' ∣ a) (hb : a' ∣ b - b') :
    a' ∣ k - b' := by
  have h1 := Int.dvd_trans ha h
  have : k - b' = (k - b) + (b - b') := by omega
  rw [this]; exact Int.dvd_add h1 hb

/-- on non-bottom values `operator<=` is the divisibility order on (modulus, residue) -/
theorem leq_iff_dvd {x o : Cong} (hx : x.isBot = false) (ho : o.isBot = false) :
    leq x o = true ↔ o.a ∣ x.a ∧ o.a ∣ x.b - o.b := by
  rw [leq, if_neg (by rw [hx]; exact Bool.false_ne_true), if_neg (by rw [ho]; exact Bool.false_ne_true)]
  by_cases hoa : o.a = 0
  · rw [hoa, Int.zero_dvd, Int.zero_dvd, Int.sub_eq_zero]
    by_cases hxa : x.a = 0
    · rw [if_pos ⟨hxa, rfl⟩, beq_iff_eq]; exact (and_iff_right hxa).symm
    · rw [if_neg (fun h => hxa h.1), if_pos rfl]; exact iff_of_false Bool.false_ne_true (fun h => hxa h.1)
  · rw [if_neg (fun h => hoa h.2), if_neg hoa, Bool.and_eq_true, beq_iff_eq, beq_iff_eq,
      Int.dvd_iff_tmod_eq_zero, Int.dvd_iff_tmod_eq_zero]

theorem leq_sound {x o : Cong} (h : leq x o = true) {k : Int} (hk : mem k x) : mem k o := by
  cases ho : o.isBot
  · obtain ⟨h1, h2⟩ := (leq_iff_dvd hk.1 ho).mp h
    exact ⟨ho, mem_trans_dvd hk.2 h1 h2⟩
  · rw [leq, if_neg (by rw [hk.1]; exact Bool.false_ne_true), if_pos ho] at h; cases h

theorem leq_refl (c : Cong) : leq c c = true := by
  unfold leq
  cases hb : c.isBot <;> simp

theorem bot_leq (o : Cong) : leq bot o = true := by simp [leq, bot]
theorem leq_of_isBot {c : Cong} (h : c.isBot = true) (o : Cong) : leq c o = true := by
  simp [leq, h]

theorem leq_top (c : Cong) : leq c top = true := by
  unfold leq
  cases hb : c.isBot <;> simp [top]

/-- `operator<=` decides the inclusion of the concretisations: `b` and `b + a` are members -/
theorem leq_complete {x o : Cong} (h : ∀ k, mem k x → mem k o) : leq x o = true := by
  cases hx : x.isBot
  · have h1 := h x.b ⟨hx, by rw [Int.sub_self]; exact Int.dvd_zero _⟩
    have h2 := h (x.b + x.a) ⟨hx, by rw [show x.b + x.a - x.b = x.a by omega]; exact Int.dvd_refl _⟩
    refine (leq_iff_dvd hx h1.1).mpr ⟨?_, h1.2⟩
    have := Int.dvd_sub h2.2 h1.2
    rwa [show x.b + x.a - o.b - (x.b - o.b) = x.a by omega] at this
  · exact leq_of_isBot hx o

/-- the class computed by the join contains both residues -/
theorem join_class_dvd (x o : Cong) :
    gcd3 x.a o.a (iabs (x.b - o.b)) ∣ x.b - imin x.b o.b ∧
    gcd3 x.a o.a (iabs (x.b - o.b)) ∣ o.b - imin x.b o.b := by
  have hd := dvd_iabs.mp (gcd3_dvd_3 x.a o.a (iabs (x.b - o.b)))
  unfold imin
  by_cases h : x.b < o.b
  · rw [if_pos h, Int.sub_self, ← Int.neg_sub x.b o.b]
    exact ⟨Int.dvd_zero _, Int.dvd_neg.mpr hd⟩
  · rw [if_neg h, Int.sub_self]
    exact ⟨hd, Int.dvd_zero _⟩

theorem join_upper_left {x o : Cong} {k : Int} (hk : mem k x) : mem k (join x o) := by
  rw [join, if_neg (by rw [hk.1]; exact Bool.false_ne_true)]
  by_cases ho : o.isBot = true
  · rw [if_pos ho]; exact hk
  rw [if_neg ho]
  by_cases ht : (x.isTop || o.isTop) = true
  · rw [if_pos ht]; exact mem_top k
  · rw [if_neg ht, mem_mk']
    exact mem_trans_dvd hk.2 (gcd3_dvd_1 _ _ _) (join_class_dvd x o).1

theorem join_upper_right {x o : Cong} {k : Int} (hk : mem k o) : mem k (join x o) := by
  unfold join
  by_cases hx : x.isBot = true
  · rw [if_pos hx]; exact hk
  rw [if_neg hx, if_neg (by rw [hk.1]; exact Bool.false_ne_true)]
  by_cases ht : (x.isTop || o.isTop) = true
  · rw [if_pos ht]; exact mem_top k
  · rw [if_neg ht, mem_mk']
    exact mem_trans_dvd hk.2 (gcd3_dvd_2 _ _ _) (join_class_dvd x o).2

theorem narrow_sound {x o : Cong} {k : Int} (hx : mem k x) (ho : mem k o) : mem k (narrow x o) := by
  unfold narrow; split <;> assumption

theorem add_sound {x o : Cong} {a b : Int} (ha : mem a x) (hb : mem b o) : mem (a + b) (add x o) := by
  unfold add
  simp only [ha.1, hb.1, Bool.or_self, Bool.false_eq_true, if_false]
  split
  · exact mem_top _
  · rw [mem_mk']
    have h1 := Int.dvd_trans (gcd_dvd_left x.a o.a) ha.2
    have h2 := Int.dvd_trans (gcd_dvd_right x.a o.a) hb.2
    have : a + b - (x.b + o.b) = (a - x.b) + (b - o.b) := by omega
    rw [this]; exact Int.dvd_add h1 h2

theorem sub_sound {x o : Cong} {a b : Int} (ha : mem a x) (hb : mem b o) : mem (a - b) (sub x o) := by
  unfold sub
  simp only [ha.1, hb.1, Bool.or_self, Bool.false_eq_true, if_false]
  split
  · exact mem_top _
  · rw [mem_mk']
    have h1 := Int.dvd_trans (gcd_dvd_left x.a o.a) ha.2
    have h2 := Int.dvd_trans (gcd_dvd_right x.a o.a) hb.2
    have : a - b - (x.b - o.b) = (a - x.b) - (b - o.b) := by omega
    rw [this]; exact Int.dvd_sub h1 h2

theorem neg_sound {x : Cong} {a : Int} (ha : mem a x) : mem (-a) (neg x) := by
  unfold neg
  simp only [ha.1, Bool.false_or]
  split
  · rename_i ht; exact mem_of_isTop ha.1 ht
  · rw [mem_mk']
    have : -a - (-x.b + x.a) = -(a - x.b) - x.a := by omega
    rw [this]; exact Int.dvd_sub (Int.dvd_neg.mpr ha.2) (Int.dvd_refl _)

theorem mul_sound {x o : Cong} {a b : Int} (ha : mem a x) (hb : mem b o) : mem (a * b) (mul x o) := by
  unfold mul
  simp only [ha.1, hb.1, Bool.or_self, Bool.false_eq_true, if_false]
  split
  · exact mem_top _
  · rw [mem_mk']
    obtain ⟨i, hi⟩ := ha.2
    obtain ⟨j, hj⟩ := hb.2
    have ea : a = x.a * i + x.b := by omega
    have eb : b = o.a * j + o.b := by omega
    have : a * b - x.b * o.b = (x.a * o.a) * (i * j) + (x.a * o.b) * i + (o.a * x.b) * j := by
      rw [ea, eb]
      simp only [Int.mul_add, Int.mul_comm, Int.mul_left_comm]
      omega
    rw [this]
    refine Int.dvd_add (Int.dvd_add ?_ ?_) ?_
    · exact Int.dvd_trans (gcd3_dvd_1 _ _ _) (Int.dvd_mul_right _ _)
    · exact Int.dvd_trans (gcd3_dvd_2 _ _ _) (Int.dvd_mul_right _ _)
    · exact Int.dvd_trans (gcd3_dvd_3 _ _ _) (Int.dvd_mul_right _ _)

end Cong
end Crab
