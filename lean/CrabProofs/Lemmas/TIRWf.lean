import CrabProofs.Lemmas.TIRLive

/-!
  Well-formedness of a CFG: what the boolean check `Prog.wf` gives, and the same as a proposition
  on the lookups (`WFp`), which is what the proofs about the CFG edits work with.
-/
namespace Crab
namespace TIR

theorem wf_parts {P : Prog} (h : P.wf = true) :
    nodupB P.labels = true ∧ P.labels.contains P.entry = true ∧
    (match P.exit with | some x => P.labels.contains x | none => true) = true ∧
    P.blocks.all (fun b =>
      nodupB b.succ && nodupB b.pred &&
      b.succ.all (fun l => (P.predsOf l).contains b.label && P.labels.contains l) &&
      b.pred.all (fun l => (P.succsOf l).contains b.label && P.labels.contains l)) = true := by
  unfold Prog.wf at h
  simp only [Bool.and_eq_true] at h
  exact ⟨h.1.1.1, h.1.1.2, h.1.2, h.2⟩

theorem succsOf_of_block {P : Prog} {l : Label} {b : Block} (h : P.block? l = some b) : P.succsOf l = b.succ := by
  simp [Prog.succsOf, h]
theorem predsOf_of_block {P : Prog} {l : Label} {b : Block} (h : P.block? l = some b) : P.predsOf l = b.pred := by
  simp [Prog.predsOf, h]

structure WFp (P : Prog) : Prop where
  nodup : P.labels.Nodup
  entry : P.entry ∈ P.labels
  exit : ∀ x, P.exit = some x → x ∈ P.labels
  sym : ∀ l l', l' ∈ P.succsOf l ↔ l ∈ P.predsOf l'
  succ_lab : ∀ l l', l' ∈ P.succsOf l → l' ∈ P.labels
  nd_succ : ∀ l, (P.succsOf l).Nodup
  nd_pred : ∀ l, (P.predsOf l).Nodup

theorem nodupB_iff : ∀ (xs : List Nat), nodupB xs = true ↔ xs.Nodup
  | [] => by simp [nodupB]
  | x :: r => by
    simp only [nodupB, Bool.and_eq_true, Bool.not_eq_eq_eq_not, Bool.not_true, List.nodup_cons]
    rw [nodupB_iff r]
    constructor
    · rintro ⟨h1, h2⟩; exact ⟨by simpa using h1, h2⟩
    · rintro ⟨h1, h2⟩; exact ⟨by simpa using h1, h2⟩

/-- what the check says of the adjacency lists of `l` (both empty when `l` is not a block) -/
theorem wf_at {P : Prog} (h : P.wf = true) (l : Label) :
    (P.succsOf l).Nodup ∧ (P.predsOf l).Nodup ∧
    (∀ l', l' ∈ P.succsOf l → l ∈ P.predsOf l' ∧ l' ∈ P.labels) ∧
    (∀ l', l' ∈ P.predsOf l → l ∈ P.succsOf l' ∧ l' ∈ P.labels) := by
  cases hb : P.block? l with
  | none => simp [Prog.succsOf, Prog.predsOf, hb]
  | some b =>
    have h4 := List.all_eq_true.mp (wf_parts h).2.2.2 b (block?_mem hb).1
    simp only [Bool.and_eq_true, List.all_eq_true, List.contains_iff_mem, (block?_mem hb).2, nodupB_iff] at h4
    rw [succsOf_of_block hb, predsOf_of_block hb]
    exact ⟨h4.1.1.1, h4.1.1.2, h4.1.2, h4.2⟩

theorem find?_of_mem_nodup : ∀ (bs : List Block), (bs.map (·.label)).Nodup → ∀ b, b ∈ bs →
    bs.find? (fun x => x.label == b.label) = some b
  | [], _, b, hb => by simp at hb
  | a :: r, hnd, b, hb => by
    simp only [List.map_cons, List.nodup_cons] at hnd
    simp only [List.find?_cons]
    rcases List.mem_cons.mp hb with rfl | hb'
    · simp
    · have : a.label ≠ b.label := by
        intro hc
        exact hnd.1 (by rw [hc]; exact List.mem_map.mpr ⟨b, hb', rfl⟩)
      have h2 : (a.label == b.label) = false := by simpa using this
      rw [h2]
      exact find?_of_mem_nodup r hnd.2 b hb'

theorem block?_of_mem {P : Prog} (hnd : P.labels.Nodup) {b : Block} (hb : b ∈ P.blocks) :
    P.block? b.label = some b := find?_of_mem_nodup P.blocks hnd b hb

theorem WFp.of_wf {P : Prog} (h : P.wf = true) : WFp P where
  nodup := (nodupB_iff _).mp (wf_parts h).1
  entry := by simpa using (wf_parts h).2.1
  exit := by
    intro x hx
    have h3 := (wf_parts h).2.2.1
    rw [hx] at h3
    simpa using h3
  sym := fun l l' => ⟨fun hl => ((wf_at h l).2.2.1 l' hl).1, fun hl => ((wf_at h l').2.2.2 l hl).1⟩
  succ_lab := fun l l' hl => ((wf_at h l).2.2.1 l' hl).2
  nd_succ := fun l => (wf_at h l).1
  nd_pred := fun l => (wf_at h l).2.1

theorem WFp.exitPresent {P : Prog} (h : WFp P) : P.exitPresent :=
  fun l hl => h.exit l (isExit_iff.mp hl)

theorem WFp.pred_lab {P : Prog} (h : WFp P) {l l' : Label} (hl : l' ∈ P.predsOf l) : l' ∈ P.labels :=
  mem_labels_of_succ ((h.sym l' l).mpr hl)

theorem WFp.to_wf {P : Prog} (h : WFp P) : P.wf = true := by
  unfold Prog.wf
  simp only [Bool.and_eq_true]
  refine ⟨⟨⟨(nodupB_iff _).mpr h.nodup, by simpa using h.entry⟩, ?_⟩, ?_⟩
  · cases hx : P.exit with
    | none => rfl
    | some x => simpa using h.exit x hx
  · rw [List.all_eq_true]
    intro b hb
    have hbl := block?_of_mem h.nodup hb
    have hs := succsOf_of_block hbl
    have hp := predsOf_of_block hbl
    simp only [Bool.and_eq_true, List.all_eq_true]
    refine ⟨⟨⟨(nodupB_iff _).mpr (hs ▸ h.nd_succ b.label), (nodupB_iff _).mpr (hp ▸ h.nd_pred b.label)⟩, ?_⟩, ?_⟩
    · intro l hl
      rw [← hs] at hl
      exact ⟨by simpa using (h.sym _ _).mp hl, by simpa using h.succ_lab _ _ hl⟩
    · intro l hl
      rw [← hp] at hl
      exact ⟨by simpa using (h.sym _ _).mpr hl, by simpa using h.pred_lab hl⟩

theorem wf_iff_WFp (P : Prog) : P.wf = true ↔ WFp P := ⟨WFp.of_wf, WFp.to_wf⟩

end TIR
end Crab
