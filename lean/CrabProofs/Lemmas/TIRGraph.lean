import CrabModel.Transform.Simplify
import CrabProofs.Lemmas.TIRWf

/-!
  Effect of the CFG editing primitives of `CrabModel/Transform/Simplify.lean`
  (`mapBlock`, `addEdge` = `>>`, `removeEdge` = `-=`, `copyBack`, `eraseBlock`; the adjacency-list
  edits `insertAdj`, `removeAdj`) on the lookups `block?`, `stmtsOf`, `succsOf`, `predsOf`,
  `labels`.  `cfg::remove` itself is in `TIRRemove.lean`.
-/
namespace Crab
namespace TIR

theorem block?_none_iff {P : Prog} {l : Label} : P.block? l = none ↔ l ∉ P.labels := by
  unfold Prog.block? Prog.labels
  simp [List.find?_eq_none]

theorem block?_isSome_of_mem {P : Prog} {l : Label} (h : l ∈ P.labels) : ∃ b, P.block? l = some b := by
  cases hb : P.block? l with
  | some b => exact ⟨b, rfl⟩
  | none => exact absurd h (block?_none_iff.mp hb)

theorem block?_mapBlock (P : Prog) (l : Label) (f : Block → Block) (hf : ∀ b, (f b).label = b.label)
    (l' : Label) :
    (P.mapBlock l f).block? l' = if l' = l then (P.block? l').map f else P.block? l' := by
  have h1 : (P.mapBlock l f).block? l' = (P.block? l').map (fun b => if b.label == l then f b else b) :=
    mapBlocks_block? P _ (by intro b; split <;> simp [hf]) l'
  rw [h1]
  cases hb : P.block? l' with
  | none => simp
  | some b =>
    have := (block?_mem hb).2
    by_cases h : l' = l
    · subst h; simp [this]
    · simp [h, this]

theorem labels_mapBlock (P : Prog) (l : Label) (f : Block → Block) (hf : ∀ b, (f b).label = b.label) :
    (P.mapBlock l f).labels = P.labels :=
  mapBlocks_labels P _ (by intro b; split <;> simp [hf])

@[simp] theorem labels_mapSucc (P : Prog) (l : Label) (g : List Label → List Label) :
    (P.mapBlock l (Block.mapSucc g)).labels = P.labels := labels_mapBlock P l _ (fun _ => rfl)
@[simp] theorem labels_mapPred (P : Prog) (l : Label) (g : List Label → List Label) :
    (P.mapBlock l (Block.mapPred g)).labels = P.labels := labels_mapBlock P l _ (fun _ => rfl)
@[simp] theorem labels_mapStmts (P : Prog) (l : Label) (g : List Stmt → List Stmt) :
    (P.mapBlock l (Block.mapStmts g)).labels = P.labels := labels_mapBlock P l _ (fun _ => rfl)

theorem succsOf_eq (P : Prog) (l : Label) : P.succsOf l = ((P.block? l).map (·.succ)).getD [] := by
  unfold Prog.succsOf; cases P.block? l <;> rfl
theorem predsOf_eq (P : Prog) (l : Label) : P.predsOf l = ((P.block? l).map (·.pred)).getD [] := by
  unfold Prog.predsOf; cases P.block? l <;> rfl
theorem stmtsOf_eq (P : Prog) (l : Label) : P.stmtsOf l = ((P.block? l).map (·.stmts)).getD [] := by
  unfold Prog.stmtsOf; cases P.block? l <;> rfl

/-- generic lookup after `mapBlock`: `sel` is the field read, `f` changes it to `g` of it -/
theorem lookup_mapBlock {α : Type} (P : Prog) (l : Label) (f : Block → Block) (hf : ∀ b, (f b).label = b.label)
    (sel : Block → List α) (g : List α → List α) (hs : ∀ b, sel (f b) = g (sel b)) (l' : Label)
    (hg : g [] = [] ∨ l ∈ P.labels) :
    (((P.mapBlock l f).block? l').map sel).getD [] =
      if l' = l then g (((P.block? l').map sel).getD []) else ((P.block? l').map sel).getD [] := by
  rw [block?_mapBlock P l f hf l']
  by_cases h : l' = l
  · subst h
    simp only [if_true]
    cases hb : P.block? l' with
    | none =>
      rcases hg with hg | hg
      · simp [hg]
      · exact absurd hg (block?_none_iff.mp hb)
    | some b => simp [hs]
  · simp [h]

theorem succsOf_mapSucc (P : Prog) (l : Label) (g : List Label → List Label) (l' : Label)
    (hg : g [] = [] ∨ l ∈ P.labels) :
    (P.mapBlock l (Block.mapSucc g)).succsOf l' = if l' = l then g (P.succsOf l') else P.succsOf l' := by
  simp only [succsOf_eq]
  exact lookup_mapBlock P l (Block.mapSucc g) (fun _ => rfl) (fun b => b.succ) g (fun _ => rfl) l' hg

theorem succsOf_mapPred (P : Prog) (l : Label) (g : List Label → List Label) (l' : Label) :
    (P.mapBlock l (Block.mapPred g)).succsOf l' = P.succsOf l' := by
  simp only [succsOf_eq]
  have := lookup_mapBlock P l (Block.mapPred g) (fun _ => rfl) (fun b => b.succ) id (fun _ => rfl) l' (Or.inl rfl)
  simpa using this

theorem succsOf_mapStmts (P : Prog) (l : Label) (g : List Stmt → List Stmt) (l' : Label) :
    (P.mapBlock l (Block.mapStmts g)).succsOf l' = P.succsOf l' := by
  simp only [succsOf_eq]
  have := lookup_mapBlock P l (Block.mapStmts g) (fun _ => rfl) (fun b => b.succ) id (fun _ => rfl) l' (Or.inl rfl)
  simpa using this

theorem predsOf_mapPred (P : Prog) (l : Label) (g : List Label → List Label) (l' : Label)
    (hg : g [] = [] ∨ l ∈ P.labels) :
    (P.mapBlock l (Block.mapPred g)).predsOf l' = if l' = l then g (P.predsOf l') else P.predsOf l' := by
  simp only [predsOf_eq]
  exact lookup_mapBlock P l (Block.mapPred g) (fun _ => rfl) (fun b => b.pred) g (fun _ => rfl) l' hg

theorem predsOf_mapSucc (P : Prog) (l : Label) (g : List Label → List Label) (l' : Label) :
    (P.mapBlock l (Block.mapSucc g)).predsOf l' = P.predsOf l' := by
  simp only [predsOf_eq]
  have := lookup_mapBlock P l (Block.mapSucc g) (fun _ => rfl) (fun b => b.pred) id (fun _ => rfl) l' (Or.inl rfl)
  simpa using this

theorem predsOf_mapStmts (P : Prog) (l : Label) (g : List Stmt → List Stmt) (l' : Label) :
    (P.mapBlock l (Block.mapStmts g)).predsOf l' = P.predsOf l' := by
  simp only [predsOf_eq]
  have := lookup_mapBlock P l (Block.mapStmts g) (fun _ => rfl) (fun b => b.pred) id (fun _ => rfl) l' (Or.inl rfl)
  simpa using this

theorem stmtsOf_mapStmts (P : Prog) (l : Label) (g : List Stmt → List Stmt) (l' : Label)
    (hg : g [] = [] ∨ l ∈ P.labels) :
    (P.mapBlock l (Block.mapStmts g)).stmtsOf l' = if l' = l then g (P.stmtsOf l') else P.stmtsOf l' := by
  simp only [stmtsOf_eq]
  exact lookup_mapBlock P l (Block.mapStmts g) (fun _ => rfl) (fun b => b.stmts) g (fun _ => rfl) l' hg

theorem stmtsOf_mapSucc (P : Prog) (l : Label) (g : List Label → List Label) (l' : Label) :
    (P.mapBlock l (Block.mapSucc g)).stmtsOf l' = P.stmtsOf l' := by
  simp only [stmtsOf_eq]
  have := lookup_mapBlock P l (Block.mapSucc g) (fun _ => rfl) (fun b => b.stmts) id (fun _ => rfl) l' (Or.inl rfl)
  simpa using this

theorem stmtsOf_mapPred (P : Prog) (l : Label) (g : List Label → List Label) (l' : Label) :
    (P.mapBlock l (Block.mapPred g)).stmtsOf l' = P.stmtsOf l' := by
  simp only [stmtsOf_eq]
  have := lookup_mapBlock P l (Block.mapPred g) (fun _ => rfl) (fun b => b.stmts) id (fun _ => rfl) l' (Or.inl rfl)
  simpa using this

theorem mem_removeAdj {c : List Label} {e x : Label} : x ∈ removeAdj c e ↔ x ∈ c ∧ x ≠ e := by
  simp [removeAdj]

theorem removeAdj_of_not_mem {c : List Label} {e : Label} (h : e ∉ c) : removeAdj c e = c := by
  unfold removeAdj
  apply List.filter_eq_self.mpr
  intro x hx
  simpa using fun hc : x = e => h (hc ▸ hx)

theorem nodup_removeAdj {c : List Label} (e : Label) (h : c.Nodup) : (removeAdj c e).Nodup :=
  h.filter _

theorem mem_insertAdj {c : List Label} {e x : Label} : x ∈ insertAdj c e ↔ x ∈ c ∨ x = e := by
  unfold insertAdj
  split
  · rename_i hc
    have : e ∈ c := by simpa using hc
    constructor
    · exact Or.inl
    · rintro (h | rfl)
      · exact h
      · exact this
  · simp

theorem nodup_insertAdj {c : List Label} (e : Label) (h : c.Nodup) : (insertAdj c e).Nodup := by
  unfold insertAdj
  split
  · exact h
  · rename_i hc
    have : e ∉ c := by simpa using hc
    exact List.nodup_append.mpr ⟨h, by simp, by
      intro a ha b hb
      simp at hb
      subst hb
      intro hab; subst hab; exact this ha⟩

theorem labels_removeEdge (P : Prog) (a b : Label) : (P.removeEdge a b).labels = P.labels := by
  simp [Prog.removeEdge]

theorem succsOf_removeEdge (P : Prog) (a b l : Label) :
    (P.removeEdge a b).succsOf l = if l = a then removeAdj (P.succsOf l) b else P.succsOf l := by
  unfold Prog.removeEdge
  rw [succsOf_mapPred]
  exact succsOf_mapSucc P a _ l (Or.inl rfl)

theorem predsOf_removeEdge (P : Prog) (a b l : Label) :
    (P.removeEdge a b).predsOf l = if l = b then removeAdj (P.predsOf l) a else P.predsOf l := by
  unfold Prog.removeEdge
  rw [predsOf_mapPred _ _ _ _ (Or.inl rfl), predsOf_mapSucc]

theorem stmtsOf_removeEdge (P : Prog) (a b l : Label) : (P.removeEdge a b).stmtsOf l = P.stmtsOf l := by
  unfold Prog.removeEdge
  rw [stmtsOf_mapPred, stmtsOf_mapSucc]

theorem labels_addEdge (P : Prog) (a b : Label) : (P.addEdge a b).labels = P.labels := by
  simp [Prog.addEdge]

theorem succsOf_addEdge (P : Prog) (a b l : Label) (ha : a ∈ P.labels) :
    (P.addEdge a b).succsOf l = if l = a then insertAdj (P.succsOf l) b else P.succsOf l := by
  unfold Prog.addEdge
  rw [succsOf_mapPred]
  exact succsOf_mapSucc P a _ l (Or.inr ha)

theorem predsOf_addEdge (P : Prog) (a b l : Label) (hb : b ∈ P.labels) :
    (P.addEdge a b).predsOf l = if l = b then insertAdj (P.predsOf l) a else P.predsOf l := by
  unfold Prog.addEdge
  rw [predsOf_mapPred _ _ _ _ (Or.inr (by simpa using hb)), predsOf_mapSucc]

theorem stmtsOf_addEdge (P : Prog) (a b l : Label) : (P.addEdge a b).stmtsOf l = P.stmtsOf l := by
  unfold Prog.addEdge
  rw [stmtsOf_mapPred, stmtsOf_mapSucc]

theorem labels_copyBack (P : Prog) (a : Label) (st : List Stmt) : (P.copyBack a st).labels = P.labels := by
  simp [Prog.copyBack]

theorem succsOf_copyBack (P : Prog) (a : Label) (st : List Stmt) (l : Label) :
    (P.copyBack a st).succsOf l = P.succsOf l := succsOf_mapStmts P a _ l

theorem predsOf_copyBack (P : Prog) (a : Label) (st : List Stmt) (l : Label) :
    (P.copyBack a st).predsOf l = P.predsOf l := predsOf_mapStmts P a _ l

theorem stmtsOf_copyBack (P : Prog) (a : Label) (st : List Stmt) (l : Label) (ha : a ∈ P.labels) :
    (P.copyBack a st).stmtsOf l = if l = a then P.stmtsOf l ++ st else P.stmtsOf l :=
  stmtsOf_mapStmts P a _ l (Or.inr ha)

theorem block?_eraseBlock (P : Prog) (l l' : Label) :
    (P.eraseBlock l).block? l' = if l' = l then none else P.block? l' := by
  unfold Prog.block? Prog.eraseBlock
  simp only
  induction P.blocks with
  | nil => simp
  | cons b r ih =>
    simp only [List.filter_cons]
    by_cases hb : b.label = l
    · simp only [hb, bne_self_eq_false, Bool.false_eq_true, if_false, List.find?_cons]
      rw [ih]
      by_cases h : l' = l
      · simp [h]
      · have : (l == l') = false := by simpa using fun hc => h hc.symm
        simp [h, this]
    · have hne : (b.label != l) = true := by simpa using hb
      simp only [hne, if_true, List.find?_cons]
      cases hbl : b.label == l' with
      | true =>
        have : b.label = l' := by simpa using hbl
        have h : l' ≠ l := by rw [← this]; exact hb
        simp [h]
      | false => exact ih

theorem labels_eraseBlock (P : Prog) (l : Label) : (P.eraseBlock l).labels = P.labels.filter (fun x => x != l) := by
  unfold Prog.labels Prog.eraseBlock
  simp only
  induction P.blocks with
  | nil => rfl
  | cons b r ih =>
    simp only [List.filter_cons, List.map_cons]
    cases b.label != l with
    | true => simp [ih]
    | false => simp [ih]

theorem succsOf_eraseBlock (P : Prog) (l l' : Label) :
    (P.eraseBlock l).succsOf l' = if l' = l then [] else P.succsOf l' := by
  simp only [succsOf_eq, block?_eraseBlock]
  split <;> rfl

theorem predsOf_eraseBlock (P : Prog) (l l' : Label) :
    (P.eraseBlock l).predsOf l' = if l' = l then [] else P.predsOf l' := by
  simp only [predsOf_eq, block?_eraseBlock]
  split <;> rfl

theorem stmtsOf_eraseBlock (P : Prog) (l l' : Label) :
    (P.eraseBlock l).stmtsOf l' = if l' = l then [] else P.stmtsOf l' := by
  simp only [stmtsOf_eq, block?_eraseBlock]
  split <;> rfl

end TIR
end Crab
