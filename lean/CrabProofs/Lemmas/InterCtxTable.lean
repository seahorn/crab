import CrabModel.Inter.TopDownRun

/-!
  The calling-context table: the subsumption test, the members of the table after
  `default_context_sensitivity_policy::add` (repaired version), the scan of `analyze_callee`.
-/
namespace Crab.Inter

/-- the test of `calling_context::is_subsumed` (exact or not) implies `d ≤ pre`.  Stated on the body the
    two definitions `Ctx.isSubsumed` and `FCtx.isSubsumed` share, so that it applies to both by unfolding. -/
theorem subsumed_leq {L : Lat} {pre d : L.A} {ex e : Bool}
    (h : (if ex && e then L.leq d pre && L.leq pre d else L.leq d pre) = true) : L.leq d pre = true := by
  by_cases hc : (ex && e) = true
  · simp only [hc, if_true, Bool.and_eq_true] at h; exact h.1
  · simp only [hc] at h; exact h

/-- the contexts after `default_context_sensitivity_policy::add`: old ones, the new one, or stale -/
theorem policyAddFixed_mem {L : Lat} (max : Option Nat) (ccs : List (FCtx L)) (cc c : FCtx L)
    (h : c ∈ policyAddFixed max ccs cc) : c ∈ ccs ∨ c = cc ∨ c.stale = true := by
  have happ : ∀ c, c ∈ ccs ++ [cc] → c ∈ ccs ∨ c = cc ∨ c.stale = true := by
    intro c hc
    rcases List.mem_append.mp hc with h | h
    · exact Or.inl h
    · exact Or.inr (Or.inl (by simpa using h))
  unfold policyAddFixed at h
  cases max with
  | none => exact happ c h
  | some m =>
    match ccs, h, happ with
    | [], h, happ => exact happ c h
    | [_], h, happ => exact happ c h
    | c1 :: c2 :: rest, h, happ =>
      by_cases hlen : (c1 :: c2 :: rest).length > m
      · simp only [hlen, if_true] at h
        rcases List.mem_cons.mp h with rfl | h'
        · exact Or.inr (Or.inr rfl)
        · have hm := (List.mem_filter.mp h').1
          apply happ
          rcases List.mem_append.mp hm with h'' | h''
          · exact List.mem_append.mpr (Or.inl (List.mem_cons_of_mem _ (List.mem_cons_of_mem _ h'')))
          · exact List.mem_append.mpr (Or.inr h'')
      · simp only [hlen, if_false] at h
        exact happ c h

theorem scan_spec (D : IDom) (d : D.A) (e : Bool) : ∀ ccs : List (FCtx D.toLat),
    match scanCtx D ccs d e with
    | .hit post => ∃ c, c ∈ ccs ∧ c.stale = false ∧ c.post = post ∧ D.leq d c.pre = true
    | .reanalyze en rest => D.leq d en = true ∧ ∀ c, c ∈ rest → c ∈ ccs
    | .miss => True
  | [] => trivial
  | c :: cs => by
    have ih := scan_spec D d e cs
    unfold scanCtx
    by_cases hs : c.isSubsumed d e = true
    · simp only [hs, if_true]
      by_cases hst : c.stale = true
      · simp only [hst, if_true]
        exact ⟨subsumed_leq hs, fun c' hc' => List.mem_cons_of_mem _ hc'⟩
      · simp only [hst]
        exact ⟨c, List.mem_cons_self .., by simpa using hst, rfl, subsumed_leq hs⟩
    · simp only [hs]
      cases hr : scanCtx D cs d e with
      | hit post =>
        rw [hr] at ih
        obtain ⟨c', h1, h2⟩ := ih
        exact ⟨c', List.mem_cons_of_mem _ h1, h2⟩
      | reanalyze en rest =>
        rw [hr] at ih
        exact ⟨ih.1, fun c' hc' => (List.mem_cons.mp hc').elim (fun e => e ▸ List.mem_cons_self ..)
          (fun h => List.mem_cons_of_mem _ (ih.2 c' h))⟩
      | miss => trivial

end Crab.Inter
