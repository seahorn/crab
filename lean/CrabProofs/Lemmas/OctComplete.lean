import CrabProofs.Lemmas.OctTight

/-!
  Integer completeness of the tight closure of octagons (Bagnara–Hill–Zaffanella):
  a tightly closed coherent matrix has an integer point, every finite entry is attained by an
  integer point and every infinite entry is unbounded over the integer points.
  Hence, on coherent matrices, octagons obey the laws of a matrix domain with a normal form
  (`Octagon.laws`, `Lemmas/CanonDbm.lean`): the emptiness, entailment and inclusion tests, the join and
  the projection are exact; so are the bounds.
-/
namespace Crab
namespace Octagon
open Dbm

variable {n : Nat}


/-- an integer between the bounds can be taken below any `M` that is above all the lower bounds -/
theorem exists_between_le {N : Nat} (up lo : Fin N → W)
    (h : ∀ i j a b, lo i = some a → up j = some b → -a ≤ b) (M : Int)
    (hM : ∀ i a, lo i = some a → -a ≤ M) :
    ∃ t : Int, (∀ j b, up j = some b → t ≤ b) ∧ (∀ i a, lo i = some a → -t ≤ a) ∧ t ≤ M := by
  obtain ⟨t, h1, h2⟩ := Mat.exists_between up lo h
  exact ⟨min t M, fun j b hj => by have := h1 j b hj; omega,
    fun i a hi => by have := h2 i a hi; have := hM i a hi; omega, by omega⟩


/-- a tightly closed matrix: what `close` produces on a coherent non-bottom input
    (`strong` is the strong closure `2 c i j ≤ c i ī + c j̄ j`, not a consequence of the others) -/
structure TightClosed (c : Oct n) : Prop where
  closed : Mat.Closed c
  coh : Coherent c
  even : ∀ i k, c.get i (bar i) = some k → k % 2 = 0
  strong : ∀ i j, W.LE (c.get i j) (W.half (W.add (c.get i (bar i)) (c.get (bar j) j)))

namespace TightClosed
variable {c : Oct n}

theorem tri' (h : TightClosed c) {i k j : Fin (2 * n)} {p q : Int}
    (h1 : c.get i k = some p) (h2 : c.get k j = some q) :
    ∃ r, c.get i j = some r ∧ r ≤ p + q := by
  have := h.closed.tri i j k
  rw [h1, h2] at this
  exact this _ rfl

theorem strong' (h : TightClosed c) {i j : Fin (2 * n)} {p q : Int}
    (h1 : c.get i (bar i) = some p) (h2 : c.get (bar j) j = some q) :
    ∃ r, c.get i j = some r ∧ 2 * r ≤ p + q := by
  have := h.strong i j
  rw [h1, h2] at this
  obtain ⟨r, hr, hle⟩ := this _ rfl
  exact ⟨r, hr, by omega⟩

theorem even' (h : TightClosed c) {i : Fin (2 * n)} {k : Int} (hk : c.get (bar i) i = some k) :
    k % 2 = 0 :=
  h.even (bar i) k (by rw [bar_bar]; exact hk)

theorem coh' (h : TightClosed c) {i j : Fin (2 * n)} {k : Int} (hk : c.get i j = some k) :
    c.get (bar j) (bar i) = some k := by
  rw [← h.coh i j]; exact hk

theorem diag' (h : TightClosed c) {i : Fin (2 * n)} {k : Int} (hk : c.get i i = some k) : k = 0 := by
  rw [h.closed.diag] at hk; cases hk; rfl

end TightClosed


/-- valuations of the literals induced by states -/
def CohVal (v : Fin (2 * n) → Int) : Prop := ∀ i, v (bar i) = - v i

theorem ext_cohVal (σ : State n) : CohVal (ext σ) := ext_bar σ

theorem cohVal_eq_ext {v : Fin (2 * n) → Int} (hv : CohVal v) : v = ext (fun x => v (pos x)) := by
  funext i
  induction i using lit_ind with
  | hp x => rw [ext_pos]
  | hn x => rw [ext_neg, ← hv (pos x), bar_pos]

/-- set the literal `a` to `t` (and its opposite to `-t`) -/
def updL (v : Fin (2 * n) → Int) (a : Fin (2 * n)) (t : Int) : Fin (2 * n) → Int :=
  fun i => if i = a then t else if i = bar a then -t else v i

theorem updL_self (v : Fin (2 * n) → Int) (a : Fin (2 * n)) (t : Int) : updL v a t a = t := by
  simp only [updL, if_true]

theorem updL_bar (v : Fin (2 * n) → Int) (a : Fin (2 * n)) (t : Int) : updL v a t (bar a) = -t := by
  simp only [updL, bar_ne a, if_false, if_true]

theorem updL_of_ne (v : Fin (2 * n) → Int) {a i : Fin (2 * n)} (t : Int) (h : varOf i ≠ varOf a) :
    updL v a t i = v i := by
  have h1 : i ≠ a := fun e => h (by rw [e])
  have h2 : i ≠ bar a := fun e => h (by rw [e, varOf_bar])
  simp only [updL, h1, h2, if_false]

theorem updL_cohVal {v : Fin (2 * n) → Int} (hv : CohVal v) (a : Fin (2 * n)) (t : Int) :
    CohVal (updL v a t) := by
  intro i
  by_cases h1 : i = a
  · subst h1; rw [updL_bar, updL_self]
  · by_cases h2 : i = bar a
    · subst h2; rw [bar_bar, updL_bar, updL_self]; omega
    · have h3 : bar i ≠ a := fun e => h2 (by rw [← e, bar_bar])
      have h4 : bar i ≠ bar a := fun e => h1 (bar_inj e)
      simp only [updL, h1, h2, h3, h4, if_false]
      exact hv i


/-- all the constraints between literals of the variables in `S` hold -/
def SatOn (c : Oct n) (S : Fin n → Prop) (v : Fin (2 * n) → Int) : Prop :=
  ∀ i j k, S (varOf i) → S (varOf j) → c.get i j = some k → v i - v j ≤ k

theorem SatOn.mono {c : Oct n} {S S' : Fin n → Prop} {v : Fin (2 * n) → Int} (hs : SatOn c S v)
    (h : ∀ y, S' y → S y) : SatOn c S' v :=
  fun i j k hi hj hk => hs i j k (h _ hi) (h _ hj) hk

/-- what has to be checked to give the value `t` to a new literal `a` -/
theorem satOn_insert {c : Oct n} (h : TightClosed c) {v : Fin (2 * n) → Int} (hv : CohVal v)
    (S : Fin n → Prop) (a : Fin (2 * n)) (t : Int) (hs : SatOn c S v)
    (h1 : ∀ j b, S (varOf j) → c.get a j = some b → t - v j ≤ b)
    (h2 : ∀ i k, S (varOf i) → c.get i a = some k → v i - t ≤ k)
    (h3 : ∀ k, c.get a (bar a) = some k → 2 * t ≤ k)
    (h4 : ∀ k, c.get (bar a) a = some k → -(2 * t) ≤ k) :
    SatOn c (fun y => S y ∨ y = varOf a) (updL v a t) := by
  intro i j k hi hj hk
  have hSi : ∀ i, (S (varOf i) ∨ varOf i = varOf a) →
      (S (varOf i) ∧ varOf i ≠ varOf a) ∨ i = a ∨ i = bar a := by
    intro i hi
    by_cases e : varOf i = varOf a
    · exact Or.inr (lit_cases e)
    · exact Or.inl ⟨hi.resolve_right e, e⟩
  rcases hSi i hi with ⟨si, ni⟩ | ei | ei <;> rcases hSi j hj with ⟨sj, nj⟩ | ej | ej
  · rw [updL_of_ne _ _ ni, updL_of_ne _ _ nj]; exact hs i j k si sj hk
  · subst ej
    rw [updL_of_ne _ _ ni, updL_self]; exact h2 i k si hk
  · subst ej
    rw [updL_of_ne _ _ ni, updL_bar]
    have hk' : c.get a (bar i) = some k := by
      have := h.coh' hk
      rwa [bar_bar] at this
    have := h1 (bar i) k (by rw [varOf_bar]; exact si) hk'
    rw [hv i] at this; omega
  · subst ei
    rw [updL_self, updL_of_ne _ _ nj]; exact h1 j k sj hk
  · subst ei; subst ej
    have := h.diag' hk; omega
  · subst ei; subst ej
    rw [updL_self, updL_bar]; have := h3 k hk; omega
  · subst ei
    rw [updL_bar, updL_of_ne _ _ nj]
    have hk' : c.get (bar j) a = some k := by
      have := h.coh' hk
      rwa [bar_bar] at this
    have := h2 (bar j) k (by rw [varOf_bar]; exact sj) hk'
    rw [hv j] at this; omega
  · subst ei; subst ej
    rw [updL_self, updL_bar]; have := h4 k hk; omega
  · subst ei; subst ej
    have := h.diag' hk; omega

/-- upper bounds on the value of the new literal `a`: half its unary bound, and the bounds through
    the literals already valued.  The lower bounds on `a` are the upper bounds on `bar a`, negated. -/
def upB (c : Oct n) (S : Fin n → Prop) [DecidablePred S] (v : Fin (2 * n) → Int) (a : Fin (2 * n)) :
    Fin (2 * n) → W :=
  fun j => if j = a then W.half (c.get a (bar a))
    else if S (varOf j) then W.add (c.get a j) (some (v j)) else none

theorem upB_self {c : Oct n} {S : Fin n → Prop} [DecidablePred S] {v : Fin (2 * n) → Int}
    {a : Fin (2 * n)} {k : Int} (hk : c.get a (bar a) = some k) : upB c S v a a = some (k / 2) := by
  simp only [upB, if_true, hk, W.half]

theorem upB_of_S {c : Oct n} {S : Fin n → Prop} [DecidablePred S] {v : Fin (2 * n) → Int}
    {a j : Fin (2 * n)} (ha : ¬ S (varOf a)) (hj : S (varOf j)) {k : Int} (hk : c.get a j = some k) :
    upB c S v a j = some (k + v j) := by
  have : j ≠ a := fun e => ha (by rw [← e]; exact hj)
  simp only [upB, this, if_false, hj, if_true, hk, W.add]

theorem upB_cases {c : Oct n} {S : Fin n → Prop} [DecidablePred S] {v : Fin (2 * n) → Int}
    {a j : Fin (2 * n)} {y : Int} (hy : upB c S v a j = some y) :
    (∃ k, c.get a (bar a) = some k ∧ y = k / 2) ∨
    (S (varOf j) ∧ ∃ k, c.get a j = some k ∧ y = k + v j) := by
  unfold upB at hy
  split at hy
  · left
    cases hg : c.get a (bar a) with
    | none => rw [hg] at hy; cases hy
    | some k => rw [hg] at hy; simp only [W.half] at hy; cases hy; exact ⟨k, rfl, rfl⟩
  · split at hy
    · rename_i hs
      right
      obtain ⟨p, q, hp, hq, rfl⟩ := W.add_some_iff.1 hy
      cases hq
      exact ⟨hs, p, hp, rfl⟩
    · cases hy

/-- half the unary bound of `bar a` against a bound of `a` through a valued literal `j` -/
theorem unary_upB_compat {c : Oct n} (h : TightClosed c) {v : Fin (2 * n) → Int} (hv : CohVal v)
    {S : Fin n → Prop} (hs : SatOn c S v) {a j : Fin (2 * n)} (sj : S (varOf j)) {A q : Int}
    (hA : c.get (bar a) a = some A) (hq : c.get a j = some q) : -(A / 2) ≤ q + v j := by
  obtain ⟨r1, hr1, hle1⟩ := h.tri' hA hq
  have hr1' : c.get (bar j) a = some r1 := by
    have := h.coh' hr1; rwa [bar_bar] at this
  obtain ⟨r2, hr2, hle2⟩ := h.tri' hr1' hq
  have := hs (bar j) j r2 (by rw [varOf_bar]; exact sj) sj hr2
  rw [hv j] at this
  have := h.even' hA
  omega

/-- every lower bound is below every upper bound -/
theorem upB_compat {c : Oct n} (h : TightClosed c) {v : Fin (2 * n) → Int} (hv : CohVal v)
    (S : Fin n → Prop) [DecidablePred S] (a : Fin (2 * n)) (hs : SatOn c S v) :
    ∀ i j x y, upB c S v (bar a) i = some x → upB c S v a j = some y → -x ≤ y := by
  intro i j x y hx hy
  rcases upB_cases hx with ⟨A, hA, rfl⟩ | ⟨si, p, hp, rfl⟩ <;>
  rcases upB_cases hy with ⟨B, hB, rfl⟩ | ⟨sj, q, hq, rfl⟩
  · rw [bar_bar] at hA
    obtain ⟨r, hr, hle⟩ := h.tri' hA hB
    have := h.diag' hr
    have := h.even' hA
    have := h.even _ _ hB
    omega
  · rw [bar_bar] at hA
    exact unary_upB_compat h hv hs sj hA hq
  · have := unary_upB_compat h hv hs si (a := bar a) (by rw [bar_bar]; exact hB) hp
    omega
  · have hp' : c.get (bar i) a = some p := by
      have := h.coh' hp; rwa [bar_bar] at this
    obtain ⟨r, hr, hle⟩ := h.tri' hp' hq
    have := hs (bar i) j r (by rw [varOf_bar]; exact si) sj hr
    rw [hv i] at this
    omega

/-- a value between the bounds extends the partial solution -/
theorem satOn_of_bounds {c : Oct n} (h : TightClosed c) {v : Fin (2 * n) → Int} (hv : CohVal v)
    (S : Fin n → Prop) [DecidablePred S] (a : Fin (2 * n)) (ha : ¬ S (varOf a)) (hs : SatOn c S v)
    (t : Int) (hup : ∀ j b, upB c S v a j = some b → t ≤ b)
    (hlo : ∀ i x, upB c S v (bar a) i = some x → -t ≤ x) :
    SatOn c (fun y => S y ∨ y = varOf a) (updL v a t) := by
  have ha' : ¬ S (varOf (bar a)) := by rw [varOf_bar]; exact ha
  apply satOn_insert h hv S a t hs
  · intro j b sj hb
    have := hup j _ (upB_of_S ha sj hb); omega
  · intro i k si hk
    have := hlo (bar i) _ (upB_of_S ha' (by rw [varOf_bar]; exact si) (h.coh' hk))
    rw [hv i] at this; omega
  · intro k hk
    have := hup a _ (upB_self hk); omega
  · intro k hk
    have := hlo (bar a) _ (upB_self (by rw [bar_bar]; exact hk)); omega

/-- **extension lemma**: a solution of the constraints over the variables of `S` extends to one
    more variable -/
theorem extend_one {c : Oct n} (h : TightClosed c) {v : Fin (2 * n) → Int} (hv : CohVal v)
    (S : Fin n → Prop) [DecidablePred S] (a : Fin (2 * n)) (ha : ¬ S (varOf a)) (hs : SatOn c S v) :
    ∃ t, SatOn c (fun y => S y ∨ y = varOf a) (updL v a t) := by
  obtain ⟨t, h1, h2⟩ := Mat.exists_between _ _ (upB_compat h hv S a hs)
  exact ⟨t, satOn_of_bounds h hv S a ha hs t h1 h2⟩

theorem extend_all {c : Oct n} (h : TightClosed c) {v : Fin (2 * n) → Int} (hv : CohVal v)
    (S : Fin n → Prop) [DecidablePred S] (hs : SatOn c S v) :
    ∃ v', CohVal v' ∧ c.sat v' ∧ ∀ i, S (varOf i) → v' i = v i := by
  have step : ∀ k, k ≤ n → ∃ v', CohVal v' ∧ SatOn c (fun y => S y ∨ y.val < k) v' ∧
      ∀ i, S (varOf i) → v' i = v i := by
    intro k
    induction k with
    | zero =>
      intro _
      exact ⟨v, hv, hs.mono (fun y hy => hy.resolve_right (Nat.not_lt_zero _)), fun _ _ => rfl⟩
    | succ k ih =>
      intro hk
      obtain ⟨v1, hv1, hs1, he1⟩ := ih (by omega)
      let x : Fin n := ⟨k, by omega⟩
      -- the variables below `k + 1` are those below `k` and `x`
      have hsplit : ∀ y : Fin n, S y ∨ y.val < k + 1 → (S y ∨ y.val < k) ∨ y = x := fun y hy =>
        if e : y.val = k then Or.inr (Fin.ext e) else Or.inl (hy.imp_right fun _ => by omega)
      by_cases hx : S x ∨ x.val < k
      · exact ⟨v1, hv1, hs1.mono fun y hy => (hsplit y hy).elim id fun e => e ▸ hx, he1⟩
      · obtain ⟨t, ht⟩ := extend_one h hv1 (fun y => S y ∨ y.val < k) (pos x)
          (by rw [varOf_pos]; exact hx) hs1
        refine ⟨updL v1 (pos x) t, updL_cohVal hv1 _ _, ht.mono fun y hy => ?_, fun i si => ?_⟩
        · rw [varOf_pos]; exact hsplit y hy
        · rw [updL_of_ne, he1 i si]
          rw [varOf_pos]
          exact fun e => hx (Or.inl (e ▸ si))
  obtain ⟨v', hv', hs', he'⟩ := step n (Nat.le_refl n)
  exact ⟨v', hv', fun i j k hk => hs' i j k (Or.inr (varOf i).isLt) (Or.inr (varOf j).isLt) hk, he'⟩

theorem exists_state_of_cohVal {c : Oct n} {v : Fin (2 * n) → Int} (hv : CohVal v) (hs : c.sat v) :
    ∃ σ : State n, c.sat (ext σ) ∧ ext σ = v := by
  refine ⟨fun x => v (pos x), ?_, (cohVal_eq_ext hv).symm⟩
  rw [← cohVal_eq_ext hv]; exact hs

theorem cohVal_zero : CohVal (fun _ : Fin (2 * n) => (0 : Int)) := fun _ => by simp

/-- **a tightly closed matrix has an integer point** -/
theorem tightClosed_sat (c : Oct n) (h : TightClosed c) : ∃ σ, c.sat (ext σ) := by
  obtain ⟨v', hv', hs', _⟩ := extend_all h cohVal_zero (fun _ => False)
    (fun _ _ _ hi => hi.elim)
  obtain ⟨σ, hσ, _⟩ := exists_state_of_cohVal hv' hs'
  exact ⟨σ, hσ⟩


theorem W_add_self_even {a : W} {k : Int} (h : W.add a a = some k) : k % 2 = 0 := by
  cases a <;> simp [W.add] at h
  omega

theorem close_tightClosed (o : Oct n) (hco : Coherent o) (hb : isBottom o = false) :
    TightClosed (close o) := by
  obtain ⟨hcl, hcoh⟩ := close_closed o hco hb
  refine ⟨hcl, hcoh, ?_, ?_⟩
  · intro i k hk
    unfold close at hk
    rw [strengthen_tighten_get_unary] at hk
    exact W_add_self_even hk
  · intro i j
    unfold close
    have e1 := strengthen_tighten_get_unary (Mat.fw o) i
    have e2 := strengthen_tighten_get_unary (Mat.fw o) (bar j)
    rw [bar_bar] at e2
    rw [e1, e2, ← tighten_get_unary]
    have e3 := tighten_get_unary (Mat.fw o) (bar j)
    rw [bar_bar] at e3
    rw [← e3]
    simp only [strengthen, Mat.get_ofFn]
    exact W.min_LE_right _ _

theorem extend_state {c : Oct n} (h : TightClosed c) {v : Fin (2 * n) → Int} (hv : CohVal v)
    (S : Fin n → Prop) [DecidablePred S] (hs : SatOn c S v) :
    ∃ σ : State n, c.sat (ext σ) ∧ ∀ i, S (varOf i) → ext σ i = v i := by
  obtain ⟨v', hv', hs', he⟩ := extend_all h hv S hs
  obtain ⟨σ, hσ, e⟩ := exists_state_of_cohVal hv' hs'
  exact ⟨σ, hσ, fun i si => by rw [e]; exact he i si⟩

theorem satOn_single {c : Oct n} (h : TightClosed c) (a : Fin (2 * n)) (t : Int)
    (h3 : ∀ k, c.get a (bar a) = some k → 2 * t ≤ k)
    (h4 : ∀ k, c.get (bar a) a = some k → -(2 * t) ≤ k) :
    SatOn c (fun y => y = varOf a) (updL (fun _ => 0) a t) :=
  (satOn_insert h cohVal_zero (fun _ => False) a t (fun _ _ _ hi => hi.elim)
    (fun _ _ hj => hj.elim) (fun _ _ hi => hi.elim) h3 h4).mono (fun _ hy => Or.inr hy)

/-- any value within the unary bounds of a literal is taken by an integer point -/
theorem unary_point {c : Oct n} (h : TightClosed c) (a : Fin (2 * n)) (t : Int)
    (h3 : ∀ k, c.get a (bar a) = some k → 2 * t ≤ k)
    (h4 : ∀ k, c.get (bar a) a = some k → -(2 * t) ≤ k) :
    ∃ σ : State n, c.sat (ext σ) ∧ ext σ a = t := by
  obtain ⟨σ, hσ, he⟩ := extend_state h (updL_cohVal cohVal_zero a t) (fun y => y = varOf a)
    (satOn_single h a t h3 h4)
  exact ⟨σ, hσ, by rw [he a rfl, updL_self]⟩

theorem unary_attained {c : Oct n} (h : TightClosed c) (a : Fin (2 * n)) {d : Int}
    (hd : c.get a (bar a) = some d) : ∃ σ : State n, c.sat (ext σ) ∧ ext σ a - ext σ (bar a) = d := by
  have hev := h.even _ _ hd
  obtain ⟨σ, hσ, he⟩ := unary_point h a (d / 2)
    (fun k hk => by rw [hd] at hk; cases hk; omega)
    (fun k hk => by
      obtain ⟨r, hr, hle⟩ := h.tri' hd hk
      have := h.diag' hr; omega)
  exact ⟨σ, hσ, by rw [ext_bar, he]; omega⟩

theorem exists_bound (w : W) (f : Int → Int) : ∃ M : Int, 0 ≤ M ∧ ∀ k, w = some k → f k ≤ M := by
  cases w with
  | none => exact ⟨0, Int.le_refl _, fun k hk => by cases hk⟩
  | some k =>
    refine ⟨if f k < 0 then 0 else f k, by split <;> omega, fun k' hk' => ?_⟩
    cases hk'
    split <;> omega

theorem unary_unbounded {c : Oct n} (h : TightClosed c) (a : Fin (2 * n))
    (hn : c.get a (bar a) = none) (B : Int) :
    ∃ σ : State n, c.sat (ext σ) ∧ B < ext σ a - ext σ (bar a) := by
  obtain ⟨M1, hM1, hb1⟩ := exists_bound (c.get (bar a) a) (fun k => -(k / 2))
  obtain ⟨M2, hM2, hB⟩ : ∃ M2 : Int, 0 ≤ M2 ∧ B < M2 :=
    ⟨if B < 0 then 0 else B + 1, by split <;> omega, by split <;> omega⟩
  obtain ⟨σ, hσ, he⟩ := unary_point h a (M1 + M2)
    (fun k hk => by rw [hn] at hk; cases hk)
    (fun k hk => by
      have : -(k / 2) ≤ M1 := hb1 k hk
      have := h.even' hk; omega)
  exact ⟨σ, hσ, by rw [ext_bar, he]; omega⟩


/-- a point where the literal `a` has the value `ta` and the literal `b` of another variable is
    at most `M`, provided `ta` is within the unary bounds of `a` and the lower bounds that `c` and
    `ta` put on `b` are at most `M`.  (The upper bounds on `b` need no hypothesis: every lower
    bound is below every upper bound, `upB_compat`.) -/
theorem binary_point_le {c : Oct n} (h : TightClosed c) (a b : Fin (2 * n)) (hab : varOf a ≠ varOf b)
    (ta M : Int)
    (a3 : ∀ k, c.get a (bar a) = some k → 2 * ta ≤ k)
    (a4 : ∀ k, c.get (bar a) a = some k → -(2 * ta) ≤ k)
    (hb : ∀ k, c.get (bar b) b = some k → -(k / 2) ≤ M)
    (h1 : ∀ k, c.get a b = some k → ta - k ≤ M)
    (h2 : ∀ k, c.get (bar a) b = some k → -ta - k ≤ M) :
    ∃ σ : State n, c.sat (ext σ) ∧ ext σ a = ta ∧ ext σ b ≤ M := by
  have hv : CohVal (updL (fun _ => 0) a ta) := updL_cohVal cohVal_zero a ta
  have hs := satOn_single h a ta a3 a4
  obtain ⟨tb, hup, hlo, hM⟩ := exists_between_le _ _
    (upB_compat h hv (fun y => y = varOf a) b hs) M (by
      intro i x hx
      rcases upB_cases hx with ⟨k, hk, rfl⟩ | ⟨si, k, hk, rfl⟩
      · rw [bar_bar] at hk; exact hb k hk
      · have hk' := h.coh' hk
        rw [bar_bar] at hk'
        rcases lit_cases si with e | e
        · subst e; rw [updL_self]; have := h2 k hk'; omega
        · subst e; rw [updL_bar]; rw [bar_bar] at hk'; have := h1 k hk'; omega)
  have hs2 := satOn_of_bounds h hv (fun y => y = varOf a) b (fun e => hab e.symm) hs tb hup hlo
  obtain ⟨σ, hσ, he⟩ := extend_state h (updL_cohVal hv b tb) _ hs2
  refine ⟨σ, hσ, ?_, ?_⟩
  · rw [he a (Or.inl rfl), updL_of_ne _ _ hab, updL_self]
  · rw [he b (Or.inr rfl), updL_self]; exact hM

/-- a finite entry between literals of two different variables is attained: give `a` its largest
    value `A / 2` (or, unbounded above, a value beyond the three lower bounds that `b = a - d`
    puts on it) and push `b` down to `a - d` -/
theorem binary_attained {c : Oct n} (h : TightClosed c) (a b : Fin (2 * n)) (hab : varOf a ≠ varOf b)
    {d : Int} (hd : c.get a b = some d) : ∃ σ : State n, c.sat (ext σ) ∧ ext σ a - ext σ b = d := by
  have key : ∃ ta : Int, (∀ k, c.get a (bar a) = some k → 2 * ta ≤ k) ∧
      (∀ k, c.get (bar a) a = some k → -(2 * ta) ≤ k) ∧
      (∀ k, c.get (bar b) b = some k → -(k / 2) ≤ ta - d) ∧
      (∀ k, c.get (bar a) b = some k → -ta - k ≤ ta - d) := by
    cases hA : c.get a (bar a) with
    | some A =>
      have hev := h.even _ _ hA
      refine ⟨A / 2, fun k hk => by cases hk; omega, fun k hk => ?_, fun k hk => ?_, fun k hk => ?_⟩
      · obtain ⟨r, hr, _⟩ := h.tri' hk hA
        have := h.diag' hr; omega
      · obtain ⟨r, hr, _⟩ := h.strong' hA hk
        rw [hd] at hr; cases hr
        have := h.even' hk; omega
      · obtain ⟨r, hr, _⟩ := h.tri' hA hk
        rw [hd] at hr; cases hr; omega
    | none =>
      obtain ⟨M1, hM1, hb1⟩ := exists_bound (c.get (bar a) a) (fun k => -(k / 2))
      obtain ⟨M2, hM2, hb2⟩ := exists_bound (c.get (bar b) b) (fun k => d - k / 2)
      obtain ⟨M3, hM3, hb3⟩ := exists_bound (c.get (bar a) b) (fun k => d - k)
      refine ⟨M1 + M2 + M3, fun k hk => (by cases hk), fun k hk => ?_, fun k hk => ?_, fun k hk => ?_⟩
      · have : -(k / 2) ≤ M1 := hb1 k hk
        have := h.even' hk; omega
      · have : d - k / 2 ≤ M2 := hb2 k hk
        omega
      · have : d - k ≤ M3 := hb3 k hk
        omega
  obtain ⟨ta, a3, a4, hb, h2⟩ := key
  obtain ⟨σ, hσ, ea, eb⟩ := binary_point_le h a b hab ta (ta - d) a3 a4 hb
    (fun k hk => by rw [hd] at hk; cases hk; omega) h2
  have := hσ a b d hd
  exact ⟨σ, hσ, by omega⟩

/-- an infinite entry is unbounded (case: the literal `a` is unbounded above) -/
theorem binary_unbounded_aux {c : Oct n} (h : TightClosed c) (a b : Fin (2 * n))
    (hab : varOf a ≠ varOf b) (hn : c.get a b = none) (hu : c.get a (bar a) = none) (B : Int) :
    ∃ σ : State n, c.sat (ext σ) ∧ B < ext σ a - ext σ b := by
  obtain ⟨M1, hM1, hb1⟩ := exists_bound (c.get (bar a) a) (fun k => -(k / 2))
  obtain ⟨M2, hM2, hb2⟩ := exists_bound (c.get (bar b) b) (fun k => B + 1 - k / 2)
  obtain ⟨M3, hM3, hb3⟩ := exists_bound (c.get (bar a) b) (fun k => B + 1 - k)
  obtain ⟨σ, hσ, ea, eb⟩ := binary_point_le h a b hab (M1 + M2 + M3) (M1 + M2 + M3 - B - 1)
    (fun k hk => by rw [hu] at hk; cases hk)
    (fun k hk => by
      have : -(k / 2) ≤ M1 := hb1 k hk
      have := h.even' hk; omega)
    (fun k hk => by have : B + 1 - k / 2 ≤ M2 := hb2 k hk; omega)
    (fun k hk => by rw [hn] at hk; cases hk)
    (fun k hk => by have : B + 1 - k ≤ M3 := hb3 k hk; omega)
  exact ⟨σ, hσ, by omega⟩

theorem binary_unbounded {c : Oct n} (h : TightClosed c) (a b : Fin (2 * n))
    (hab : varOf a ≠ varOf b) (hn : c.get a b = none) (B : Int) :
    ∃ σ : State n, c.sat (ext σ) ∧ B < ext σ a - ext σ b := by
  cases hu : c.get a (bar a) with
  | none => exact binary_unbounded_aux h a b hab hn hu B
  | some p =>
    cases hl : c.get (bar b) b with
    | none =>
      have hn' : c.get (bar b) (bar a) = none := by rw [← h.coh a b]; exact hn
      have hl' : c.get (bar b) (bar (bar b)) = none := by rw [bar_bar]; exact hl
      obtain ⟨σ, hσ, hB⟩ := binary_unbounded_aux h (bar b) (bar a)
        (by rw [varOf_bar, varOf_bar]; exact fun e => hab e.symm) hn' hl' B
      refine ⟨σ, hσ, ?_⟩
      rw [ext_bar, ext_bar] at hB; omega
    | some q =>
      obtain ⟨r, hr, _⟩ := h.strong' hu hl
      rw [hn] at hr; cases hr

/-- **tightness**: every finite entry of a tightly closed matrix is attained by an integer point,
    every infinite entry is unbounded over the integer points -/
theorem tightClosed_attained (c : Oct n) (h : TightClosed c) (a b : Fin (2 * n)) :
    (∀ d, c.get a b = some d → ∃ σ, c.sat (ext σ) ∧ ext σ a - ext σ b = d) ∧
    (c.get a b = none → ∀ B : Int, ∃ σ, c.sat (ext σ) ∧ B < ext σ a - ext σ b) := by
  by_cases hab : varOf a = varOf b
  · rcases lit_cases hab.symm with e | e
    · subst e
      constructor
      · intro d hd
        obtain ⟨σ, hσ⟩ := tightClosed_sat c h
        have := h.diag' hd
        exact ⟨σ, hσ, by omega⟩
      · intro hn
        rw [h.closed.diag] at hn; cases hn
    · subst e
      exact ⟨fun d hd => unary_attained h a hd, fun hn B => unary_unbounded h a hn B⟩
  · exact ⟨fun d hd => binary_attained h a b hab hd, fun hn B => binary_unbounded h a b hab hn B⟩


/-- an entry of a tightly closed matrix is below every bound that all its integer points obey -/
theorem TightClosed.entry_LE {c : Oct n} (h : TightClosed c) (a b : Fin (2 * n)) (k : Int)
    (himp : ∀ σ : State n, c.sat (ext σ) → ext σ a - ext σ b ≤ k) : W.LE (c.get a b) (some k) := by
  obtain ⟨hfin, hinf⟩ := tightClosed_attained c h a b
  cases hg : c.get a b with
  | none =>
    obtain ⟨σ, hσ, hB⟩ := hinf hg k
    have := himp σ hσ
    omega
  | some d =>
    obtain ⟨σ, hσ, hd⟩ := hfin d hg
    have := himp σ hσ
    exact W.LE_some_some.2 (by omega)

theorem entry_LE_of_implied (o : Oct n) (hco : Coherent o) (hb : isBottom o = false)
    (i j : Fin (2 * n)) (k : Int) (h : ∀ σ, γ o σ → ext σ i - ext σ j ≤ k) :
    W.LE ((close o).get i j) (some k) :=
  (close_tightClosed o hco hb).entry_LE i j k fun σ hσ => h σ ((close_preserves_γ o σ).1 hσ)

theorem updL_ext (σ : State n) (x : Fin n) (t : Int) : updL (ext σ) (pos x) t = ext (updS σ x t) := by
  funext i
  by_cases hi : varOf i = x
  · have hi' : varOf i = varOf (pos x) := by rw [varOf_pos]; exact hi
    rcases lit_cases hi' with rfl | rfl
    · rw [updL_self, ext_pos]; simp [updS]
    · rw [updL_bar, bar_pos, ext_neg]; simp [updS]
  · rw [updL_of_ne _ _ (by rw [varOf_pos]; exact hi), ext_updS_of_ne _ _ _ _ hi]

/-- a state of the constraints between the literals of the variables other than `x` extends to a
    value of `x` (`extend_one` on states) -/
theorem extend (o : Oct n) (hco : Coherent o) (hb : isBottom o = false) (x : Fin n) (σ : State n)
    (hs : SatOn (close o) (fun y => y ≠ x) (ext σ)) : ∃ t, γ o (updS σ x t) := by
  obtain ⟨t, ht⟩ := extend_one (close_tightClosed o hco hb) (ext_cohVal σ) (fun y => y ≠ x) (pos x)
    (by rw [varOf_pos]; exact fun hh => hh rfl) hs
  refine ⟨t, (close_preserves_γ o _).1 ?_⟩
  unfold γ
  rw [← updL_ext]
  refine fun i j k hk => ht i j k ?_ ?_ hk <;> rw [varOf_pos] <;> exact (Decidable.em _).symm

/-- on coherent matrices octagons are an exact matrix domain with a normal form: the emptiness and
    entailment tests, the inclusion test, the join and the projection are exact over the integers -/
theorem laws (n : Nat) : Canon.Laws (@ext n) close (fun x i => decide (varOf i = x)) Coherent where
  toSound := sound n
  point := fun o hco hb => (tightClosed_sat _ (close_tightClosed o hco hb)).elim
    fun σ hσ => ⟨σ, (close_preserves_γ o σ).1 hσ⟩
  tight := entry_LE_of_implied
  extend := fun o hco hb x σ h => extend o hco hb x σ fun i j k hi hj =>
    h i j k (decide_eq_false hi) (decide_eq_false hj)
  inv_forget := forget_coherent

theorem bottom_iff_unsat (o : Oct n) (hco : Coherent o) : isBottom o = true ↔ ¬ ∃ σ, γ o σ :=
  (laws n).bottom_iff_unsat hco

theorem entails_iff_implied (o : Oct n) (hco : Coherent o) (c : Cst n) :
    entails o c = true ↔ ∀ σ, γ o σ → c.sat σ :=
  ((laws n).entailsAt_iff hco c.row c.col c.bound).trans
    (forall_congr' fun σ => imp_congr_right fun _ => (Cst.sat_iff_entry c σ).symm)

theorem join_least (a b c : Oct n) (hca : Coherent a) (hcb : Coherent b)
    (ha : ∀ σ, γ a σ → γ c σ) (hb : ∀ σ, γ b σ → γ c σ)
    (σ : State n) (h : γ (join a b) σ) : γ c σ :=
  (laws n).join_least hca hcb c ha hb σ h

theorem forget_exact (o : Oct n) (hco : Coherent o) (x : Fin n) (σ : State n) :
    γ (forget o x) σ ↔ ∃ t, γ o (updS σ x t) :=
  (laws n).forget_exact hco x σ

/-- **the interval of a variable is exactly the set of its values** over the integer points -/
theorem bounds_exact (o : Oct n) (hco : Coherent o) (x : Fin n) (t : Int) :
    Itv.mem t (bounds o x) ↔ ∃ σ, γ o σ ∧ σ x = t := by
  refine ⟨fun ht => ?_, fun ⟨σ, hσ, e⟩ => e ▸ bounds_sound o σ hσ x⟩
  cases hb : isBottom o
  · obtain ⟨h1, h2⟩ := (mem_bounds_iff hb x t).1 ht
    obtain ⟨σ, hσ, e⟩ := unary_point (close_tightClosed o hco hb) (pos x) t
      (by rw [bar_pos]; exact h2) (by rw [bar_pos]; exact h1)
    exact ⟨σ, (close_preserves_γ o σ).1 hσ, by rw [← e, ext_pos]⟩
  · unfold bounds boundsC at ht
    rw [show isBottomC (close o) = isBottom o from rfl, hb] at ht
    exact absurd ht (Itv.not_mem_bot t)

/-- **the bounds are tight over the integers**: the interval is not empty (it holds the value of
    `x` at some point `σ0`), so its finite ends are members and an infinite end leaves room beyond
    every `B` -/
theorem bounds_tight (o : Oct n) (hco : Coherent o) (hb : isBottom o = false) (x : Fin n) :
    (∀ k, (bounds o x).ub = .fin k → ∃ σ, γ o σ ∧ σ x = k) ∧
    (∀ k, (bounds o x).lb = .fin k → ∃ σ, γ o σ ∧ σ x = k) ∧
    ((bounds o x).ub = .pinf → ∀ B, ∃ σ, γ o σ ∧ B < σ x) ∧
    ((bounds o x).lb = .ninf → ∀ B, ∃ σ, γ o σ ∧ σ x < B) := by
  obtain ⟨σ0, h0⟩ : ∃ σ, γ o σ :=
    Classical.byContradiction fun h => by rw [(bottom_iff_unsat o hco).2 h] at hb; cases hb
  obtain ⟨m1, m2⟩ := bounds_sound o σ0 h0 x
  have ex : ∀ t, Bound.le (bounds o x).lb (.fin t) = true → Bound.le (.fin t) (bounds o x).ub = true →
      ∃ σ, γ o σ ∧ σ x = t := fun t h1 h2 => (bounds_exact o hco x t).1 ⟨h1, h2⟩
  refine ⟨fun k hk => ?_, fun k hk => ?_, fun hk B => ?_, fun hk B => ?_⟩
  · rw [hk] at m2 ex
    exact ex k (Bound.le_trans m1 m2) (Bound.le_refl _)
  · rw [hk] at m1 ex
    exact ex k (Bound.le_refl _) (Bound.le_trans m1 m2)
  · rw [hk] at ex
    obtain ⟨σ, hσ, e⟩ := ex (max (σ0 x) (B + 1)) (Bound.le_trans m1 (by simp [Bound.le]; omega)) rfl
    exact ⟨σ, hσ, by omega⟩
  · rw [hk] at ex
    obtain ⟨σ, hσ, e⟩ := ex (min (σ0 x) (B - 1)) rfl (Bound.le_trans (by simp [Bound.le]; omega) m2)
    exact ⟨σ, hσ, by omega⟩

end Octagon
end Crab
