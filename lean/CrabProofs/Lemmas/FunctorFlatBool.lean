import CrabModel.Dom.Functors.FlatBoolHist
import CrabProofs.Lemmas.FunctorFlatBoolEnv
import CrabProofs.Lemmas.FunctorProductOps

/-!
The invariant of `flat_boolean_numerical_domain` under the elementary updates of the three auxiliary
components.  `FBN.γ` is the product, a `m_unchanged_vars` that is not bottom, and for each of
`m_bool_to_lincsts`, `m_bool_to_bools` that the map `SEnv.Holds` what one of its stored pairs means
(`FBN.LinP`, `FBN.BoolP`; `FBN.γ_iff`).  Which pairs a container operation leaves is known whatever
they mean (`SEnv.Holds.*`); here is when the meaning of a pair survives a change of state
(`LinP.transfer`, `BoolP.setB`), and the shapes of update made of both: a Boolean is redefined and
its entry removed or replaced.
-/
set_option linter.unusedSectionVars false

namespace Crab
namespace Dom
namespace Fct

variable {V : Type} [DecidableEq V] {K : CSig V}

namespace FBN
variable {N : BNDom V K}

theorem unchanged_iff (u : DSet V) (c : K.C) : unchanged u c = true ↔ ∀ v ∈ K.vars c, u.mem v = true :=
  DSet.leq_fin_iff u _

theorem unchanged_negate (u : DSet V) (c : K.C) : unchanged u (K.negate c) = unchanged u c := by
  rw [Bool.eq_iff_iff, unchanged_iff, unchanged_iff]
  exact ⟨fun h v hv => h v ((K.negate_vars c v).2 hv), fun h v hv => h v ((K.negate_vars c v).1 hv)⟩

theorem unchanged_mono {u u' : DSet V} (h : ∀ v, u'.mem v = true → u.mem v = true) {c : K.C}
    (hc : unchanged u' c = true) : unchanged u c = true :=
  (unchanged_iff u c).2 fun v hv => h v ((unchanged_iff u' c).1 hc v hv)

/-! ### `forget_implied_bool`, `forget_csts_with_var`, `mark_vars_as_unchanged` -/

theorem mem_forgetImpliedBool {bs : SEnv V V} (h : bs.isBot = false) (x k b' : V) :
    ((forgetImpliedBool x bs).look k).mem b' = true ↔ b' ≠ x ∧ (bs.look k).mem b' = true := by
  unfold forgetImpliedBool
  rw [SEnv.mem_look_filterIf _ _ rfl (fun l hl y hy => by
    simpa using fun e : y = x => absurd (List.contains_iff_mem.2 (e ▸ hy)) (Bool.eq_false_iff.1 hl)) h]
  simp

theorem boolFresh_forget {bs : SEnv V V} (h : bs.isBot = false) (x : V) :
    BoolFresh x (forgetImpliedBool x (bs.del x)) := fun k k' hk => by
  rw [mem_forgetImpliedBool ((SEnv.isBot_del bs x).trans h), SEnv.mem_look_del h] at hk
  exact ⟨hk.2.1, hk.1⟩

theorem isBot_forgetImpliedBool (x : V) (bs : SEnv V V) : (forgetImpliedBool x bs).isBot = bs.isBot :=
  SEnv.isBot_transformIf _ _ _

theorem mem_forgetCstsWithVar {lin : SEnv V K.C} (h : lin.isBot = false) (v k : V) (c : K.C)
    (hc : ((forgetCstsWithVar lin v).look k).mem c = true) :
    (lin.look k).mem c = true ∧ v ∉ K.vars c := by
  unfold forgetCstsWithVar at hc
  rw [SEnv.mem_look_transformIf _ _ (by simp) h] at hc
  obtain ⟨l, hl, hm⟩ := hc
  split at hm
  · cases hm
  · rename_i hany
    rw [hl]
    refine ⟨by simpa [DSet.mem, List.contains_iff_mem] using hm, fun hv => hany ?_⟩
    exact List.any_eq_true.2 ⟨c, hm, by simpa [List.contains_iff_mem] using hv⟩

theorem isBot_forgetCstsWithVar (lin : SEnv V K.C) (v : V) : (forgetCstsWithVar lin v).isBot = lin.isBot :=
  SEnv.isBot_transformIf _ _ _

theorem markVars_isBot (vs : List V) (p : SEnv V K.C × DSet V) :
    (markVars vs p).1.isBot = p.1.isBot ∧ (markVars vs p).2.isBot = p.2.isBot := by
  induction vs generalizing p with
  | nil => exact ⟨rfl, rfl⟩
  | cons v r ih =>
    unfold markVars
    split
    · have := ih (forgetCstsWithVar p.1 v, p.2.insert v)
      rwa [isBot_forgetCstsWithVar, DSet.isBot_insert] at this
    · exact ih p

/-! ### what a pair stored in `m_bool_to_lincsts` / `m_bool_to_bools` means, and when it stays true -/

/-- the fact a constraint `c` recorded for the Boolean `b` stands for: `FBN.LinInvOf lin u s` says it
    of every pair stored in `lin` -/
def LinP (u : DSet V) (s : CSt V) (b : V) (c : K.C) : Prop :=
  unchanged u c = true → (s.bool b = true ↔ K.holds c s.num)

/-- the fact a Boolean `b'` recorded for the Boolean `b` stands for (`FBN.BoolInvOf`) -/
def BoolP (s : CSt V) (b b' : V) : Prop := s.bool b = true → s.bool b' = true

variable {lin : SEnv V K.C} {u u' : DSet V} {bs : SEnv V V} {s s' : CSt V}

theorem γ_iff {a : FBN N} {s : CSt V} :
    γ a s ↔ a.prod.γ s ∧ a.unch.isBot = false ∧ a.lin.Holds (LinP a.unch s) ∧ a.bools.Holds (BoolP s) :=
  ⟨fun h => ⟨h.1, h.2.2.2.1, ⟨h.2.1, h.2.2.2.2.1⟩, ⟨h.2.2.1, h.2.2.2.2.2⟩⟩,
   fun h => ⟨h.1, h.2.2.1.ne, h.2.2.2.ne, h.2.1, h.2.2.1.all, h.2.2.2.all⟩⟩

theorem lin_of_γ {a : FBN N} {s : CSt V} (hg : γ a s) : a.lin.Holds (LinP a.unch s) := (γ_iff.1 hg).2.2.1

theorem bools_of_γ {a : FBN N} {s : CSt V} (hg : γ a s) : a.bools.Holds (BoolP s) := (γ_iff.1 hg).2.2.2

theorem isBottom_false_of_γ {a : FBN N} {s : CSt V} (hg : γ a s) : a.isBottom = false :=
  Prod2.isBottom_false_of_γ hg.1

/-- a constraint fact carries over to a state, and to a Boolean, where the Boolean has the value the old
    one had and the marked variables have kept theirs, no mark being added -/
theorem LinP.transfer {k k' : V} {c : K.C} (h : LinP u s k c) (hb : s'.bool k' = s.bool k)
    (hn : ∀ v, u'.mem v = true → u.mem v = true ∧ s'.num v = s.num v) : LinP u' s' k' c := fun hun => by
  rw [hb, K.frame c s'.num s.num fun v hv => (hn v ((unchanged_iff _ c).1 hun v hv)).2]
  exact h (unchanged_mono (fun v hv => (hn v hv).1) hun)

/-- fewer marks: fewer constraints are usable -/
theorem LinP.mono (Hu : ∀ v, u'.mem v = true → u.mem v = true) {k : V} {c : K.C} (h : LinP u s k c) :
    LinP u' s k c := h.transfer rfl fun v hv => ⟨Hu v hv, rfl⟩

theorem LinP.setB {k x : V} (hk : k ≠ x) (b : Bool) {c : K.C} (h : LinP u s k c) : LinP u (s.setB x b) k c :=
  h.transfer (CSt.setB_bool_of_ne s b hk) fun _ hv => ⟨hv, rfl⟩

theorem LinP.setN (hu : u.isBot = false) (x : V) (n : Int) {k : V} {c : K.C} (h : LinP u s k c) :
    LinP (u.remove x) (s.setN x n) k c :=
  h.transfer rfl fun v hv => by
    have hm := (DSet.mem_remove u hu x v).1 hv
    exact ⟨hm.2, by simp [CSt.setN, hm.1]⟩

theorem BoolP.setB {k k' x : V} (hk : k ≠ x) (hk' : k' ≠ x) (b : Bool) (h : BoolP s k k') :
    BoolP (s.setB x b) k k' := by
  unfold BoolP; rw [CSt.setB_bool_of_ne s b hk, CSt.setB_bool_of_ne s b hk']; exact h

/-! ### the shapes of update: a Boolean is redefined and its entry removed or replaced -/

theorem lin_setB_del (h : lin.Holds (LinP u s)) (x : V) (b : Bool) : (lin.del x).Holds (LinP u (s.setB x b)) :=
  (h.del x).imp fun ⟨hk, hP⟩ => hP.setB hk b

theorem lin_setB_set (h : lin.Holds (LinP u s)) (x : V) (b : Bool) {v : DSet K.C} (hv : v.isBot = false)
    (hx : ∀ c, v.mem c = true → unchanged u c = true → (b = true ↔ K.holds c s.num)) :
    (lin.set x v).Holds (LinP u (s.setB x b)) :=
  h.set x hv (fun c hc => by unfold LinP; rw [CSt.setB_bool_self]; exact hx c hc) fun hk hP => hP.setB hk b

theorem bools_forget {P : V → V → Prop} (h : bs.Holds P) (x : V) :
    (forgetImpliedBool x bs).Holds fun k k' => k' ≠ x ∧ P k k' :=
  ⟨(isBot_forgetImpliedBool x bs).trans h.ne, fun k k' hk => by
    rw [mem_forgetImpliedBool h.ne] at hk; exact ⟨hk.1, h.all k k' hk.2⟩⟩

theorem bools_setB_del (h : bs.Holds (BoolP s)) (x : V) (b : Bool) :
    ((forgetImpliedBool x bs).del x).Holds (BoolP (s.setB x b)) :=
  ((bools_forget h x).del x).imp fun ⟨hk, hk', hP⟩ => hP.setB hk hk' b

/-- `bools_setB_del` with the two removals in the other order -/
theorem bools_setB_del' (h : bs.Holds (BoolP s)) (x : V) (b : Bool) :
    (forgetImpliedBool x (bs.del x)).Holds (BoolP (s.setB x b)) :=
  (bools_forget (h.del x) x).imp fun ⟨hk', hk, hP⟩ => hP.setB hk hk' b

theorem bools_setB_set (h : bs.Holds (BoolP s)) (x : V) (b : Bool) {v : DSet V} (hv : v.isBot = false)
    (hx : ∀ k', v.mem k' = true → b = true → (s.setB x b).bool k' = true) :
    ((forgetImpliedBool x bs).set x v).Holds (BoolP (s.setB x b)) :=
  (bools_forget h x).set x hv (fun k' hk => by unfold BoolP; rw [CSt.setB_bool_self]; exact hx k' hk)
    fun hk ⟨hk', hP⟩ => hP.setB hk hk' b

/-- after `x := b`, where `b` holds only if `y` held before: what `y` is known to imply (`y` itself
    and the Booleans recorded for it, `x` apart) holds when `x` does -/
theorem bools_of_operand (h : bs.Holds (BoolP s)) (x y : V) {b : Bool}
    (hy : b = true → s.bool y = true) {k' : V}
    (hk : ((forgetImpliedBool x bs).look y).mem k' = true ∨ (DSet.fin [y]).mem k' = true) (hb : b = true) :
    (s.setB x b).bool k' = true := by
  rcases hk with hk | hk
  · obtain ⟨hk', hP⟩ := (bools_forget h x).all y k' hk
    rw [CSt.setB_bool_of_ne s b hk']
    exact hP (hy hb)
  · rw [(DSet.mem_single y k').1 hk]
    by_cases hyx : y = x
    · rw [hyx, CSt.setB_bool_self]; exact hb
    · rw [CSt.setB_bool_of_ne s b hyx]; exact hy hb

/-- the same in the state after the assignment, for a map that already describes it -/
theorem bools_after_operand {x y : V} {b : Bool} (h : bs.Holds (BoolP (s.setB x b)))
    (hy : b = true → s.bool y = true) {k' : V}
    (hk : (bs.look y).mem k' = true ∨ (DSet.fin [y]).mem k' = true) : BoolP (s.setB x b) x k' := fun hb => by
  rw [CSt.setB_bool_self] at hb
  have ey : (s.setB x b).bool y = true := by
    by_cases hyx : y = x
    · rw [hyx, CSt.setB_bool_self]; exact hb
    · rw [CSt.setB_bool_of_ne s b hyx]; exact hy hb
  rcases hk with hk | hk
  · exact h.all y k' hk ey
  · rw [(DSet.mem_single y k').1 hk]; exact ey

theorem isBot_meet_single {bs : SEnv V V} (hb : bs.isBot = false) (y : V) :
    ((bs.look y).meet (.fin [y])).isBot = false := by
  rw [DSet.isBot_meet, SEnv.look_isBot hb]; rfl

theorem isBot_meet_two {bs : SEnv V V} (hb : bs.isBot = false) (y z : V) :
    ((((bs.look y).meet (bs.look z)).meet (.fin [y])).meet (.fin [z])).isBot = false := by
  rw [DSet.isBot_meet, DSet.isBot_meet, DSet.isBot_meet, SEnv.look_isBot hb, SEnv.look_isBot hb]; rfl

/-- `mark_vars_as_unchanged`: marking `v` after dropping the constraints that mention `v` makes no
    constraint usable that was not -/
theorem forgetCstsWithVar_holds (h : lin.Holds (LinP u s)) (v : V) :
    (forgetCstsWithVar lin v).Holds (LinP (u.insert v) s) :=
  ⟨(isBot_forgetCstsWithVar lin v).trans h.ne, fun k c hc hun => by
    obtain ⟨h1, h2⟩ := mem_forgetCstsWithVar h.ne v k c hc
    exact h.all k c h1 ((unchanged_iff _ c).2 fun w hw =>
      ((DSet.mem_insert _ _ _).1 ((unchanged_iff _ c).1 hun w hw)).resolve_left fun e => h2 (e ▸ hw))⟩

theorem markVars_holds (vs : List V) (p : SEnv V K.C × DSet V) (h : p.1.Holds (LinP p.2 s)) :
    (markVars vs p).1.Holds (LinP (markVars vs p).2 s) := by
  induction vs generalizing p with
  | nil => exact h
  | cons v r ih =>
    unfold markVars
    split
    · exact ih _ (forgetCstsWithVar_holds h v)
    · exact ih p h

/-- nothing is marked unchanged: only a constraint without variables could be used -/
theorem lin_of_no_marks {lin : SEnv V K.C} (hl : lin.isBot = false)
    (hv : ∀ k c, (lin.look k).mem c = true → K.vars c ≠ []) (s : CSt V) : lin.Holds (LinP (.fin []) s) :=
  ⟨hl, fun k c hc hu => by
    obtain ⟨v, hv⟩ := List.exists_mem_of_ne_nil _ (hv k c hc)
    exact absurd ((unchanged_iff _ c).1 hu v hv) Bool.false_ne_true⟩

end FBN

end Fct
end Dom
end Crab
