import CrabModel.Dom.ZonesOps
import CrabProofs.Lemmas.Dbm
import CrabProofs.Lemmas.Chain

/-!
  Facts about the zones widening model (`CrabModel/Dom/DbmWiden.lean`), for every reading `ew` of
  the right operand:
  * the textbook widening of difference-bound matrices `Mat.widenStd` (every dimension) only drops
    entries of the left operand, keeps what the right operand covers, and a strict step drops one;
  * `widenBy` is that rule against the reading with its diagonal dropped (`widenBy_eq_widenStd`): it
    only drops edges (`widenBy_sat_left`, `edges_widenBy_le`), every edge it keeps is implied by the
    reading (`widenBy_sat_right`), and it looks at the reading off the diagonal only
    (`widenBy_congr`, `leqBy_congr`);
  * the inclusion test fails iff some edge is not covered (`leqBy_eq_false_iff`), and then the
    widening drops an edge (`edges_widenBy_lt`); when it succeeds the widening is the identity
    (`widenBy_eq_self`) and the test is sound (`leqBy_sat`);
  * a reading is sound (`SoundEw`) when the right operand implies it; those of split_dbm and
    sparse_dbm are (`splitEw_soundEw`, `sparseEw_soundEw`) and agree on a closed graph
    (`splitW_of_closed`);
  * on values with bottom: `widenE` is an upper bound for a sound reading (`widenE_upper`) and a
    strict step lowers the measure (`zmeas_widenE_lt`, `edges_widenE_lt`).
  The generic chain lemmas these feed are in `Lemmas/Chain.lean`.
-/
namespace Crab
namespace Zones
open Dbm


theorem mem_allPairs {N : Nat} (i j : Fin N) : (i, j) ∈ allPairs N := by
  unfold allPairs
  rw [List.mem_flatMap]
  exact ⟨i, List.mem_finRange i, List.mem_map.2 ⟨j, List.mem_finRange j, rfl⟩⟩

theorem length_allPairs (N : Nat) : (allPairs N).length = N * N := by
  simp [allPairs, List.length_flatMap, sum_map_const]

theorem edges_le {N : Nat} (m : Mat N) : edges m ≤ N * N := by
  unfold edges
  rw [← length_allPairs]
  exact List.countP_le_length

end Zones

namespace Dbm
namespace Mat
variable {N : Nat}

theorem widenStd_some {l r : Mat N} {i j : Fin N} {k : Int} (h : (widenStd l r).get i j = some k) :
    l.get i j = some k ∧ ∃ k', r.get i j = some k' ∧ k' ≤ k := by
  simp only [widenStd, get_ofFn] at h
  split at h
  · rename_i hc
    rw [h] at hc
    exact ⟨h, W.le_some_iff.1 hc⟩
  · cases h

/-- the widening only drops entries of the left operand … -/
theorem widenStd_sat_left (l r : Mat N) (v : Fin N → Int) (h : l.sat v) : (widenStd l r).sat v :=
  fun i j k hk => h i j k (widenStd_some hk).1

/-- … and every entry it keeps is above the entry of the right operand -/
theorem widenStd_sat_right (l r : Mat N) (v : Fin N → Int) (h : r.sat v) : (widenStd l r).sat v := by
  intro i j k hk
  obtain ⟨_, k', h1, h2⟩ := widenStd_some hk
  have := h i j k' h1
  omega

theorem isSome_of_widenStd {l r : Mat N} {i j : Fin N} (h : ((widenStd l r).get i j).isSome = true) :
    (l.get i j).isSome = true := by
  cases hg : (widenStd l r).get i j with
  | none => rw [hg] at h; cases h
  | some k => rw [(widenStd_some hg).1]; rfl

/-- an entry of `l` not covered by `r` is dropped: the number of finite entries decreases -/
theorem edges_widenStd_lt {l r : Mat N} {i j : Fin N} (h : W.le (r.get i j) (l.get i j) = false) :
    Zones.edges (widenStd l r) < Zones.edges l := by
  have hl : (l.get i j).isSome = true := by
    cases hx : l.get i j with
    | none => rw [hx, W.le_none] at h; cases h
    | some k => rfl
  refine countP_lt_of_imp _ _ _ (fun _ => isSome_of_widenStd) (i, j) (Zones.mem_allPairs i j) hl ?_
  simp [widenStd, h]

end Mat
end Dbm

namespace Zones
open Dbm
variable {n : Nat}


@[simp] theorem get_widenBy (ew : Fin (n + 1) → Fin (n + 1) → W) (l : Zone n) (i j : Fin (n + 1)) :
    (widenBy ew l).get i j = if i ≠ j ∧ W.le (ew i j) (l.get i j) = true then l.get i j else none := by
  simp [widenBy]

/-- the widening of the code is the textbook rule against the reading with its diagonal at `+∞`:
    a self loop of the left operand is never kept -/
theorem widenBy_eq_widenStd (ew : Fin (n + 1) → Fin (n + 1) → W) (l : Zone n) :
    widenBy ew l = Mat.widenStd l (Mat.ofFn fun i j => if i = j then none else ew i j) := by
  apply Mat.ext_get
  intro i j
  rw [get_widenBy, Mat.widenStd, Mat.get_ofFn, Mat.get_ofFn]
  by_cases hij : i = j
  · subst hij
    rw [if_neg fun h => h.1 rfl, if_pos rfl]
    cases l.get i i <;> rfl
  · simp only [ne_eq, hij, not_false_eq_true, true_and, if_false]

/-- a kept edge is an edge of the left operand, off the diagonal, covered by the reading -/
theorem widenBy_some {ew : Fin (n + 1) → Fin (n + 1) → W} {l : Zone n} {i j : Fin (n + 1)} {k : Int}
    (h : (widenBy ew l).get i j = some k) :
    i ≠ j ∧ l.get i j = some k ∧ ∃ k', ew i j = some k' ∧ k' ≤ k := by
  rw [widenBy_eq_widenStd] at h
  obtain ⟨hl, k', hr, hk⟩ := Mat.widenStd_some h
  rw [Mat.get_ofFn] at hr
  split at hr
  · cases hr
  · exact ⟨‹_›, hl, k', hr, hk⟩

theorem widenBy_sat_left (ew : Fin (n + 1) → Fin (n + 1) → W) (l : Zone n) (v : Fin (n + 1) → Int)
    (h : l.sat v) : (widenBy ew l).sat v :=
  widenBy_eq_widenStd ew l ▸ Mat.widenStd_sat_left l _ v h

theorem widenBy_sat_right (ew : Fin (n + 1) → Fin (n + 1) → W) (l : Zone n) (v : Fin (n + 1) → Int)
    (h : ∀ i j k, ew i j = some k → v i - v j ≤ k) : (widenBy ew l).sat v := by
  refine widenBy_eq_widenStd ew l ▸ Mat.widenStd_sat_right l _ v fun i j k hk => ?_
  rw [Mat.get_ofFn] at hk
  split at hk
  · cases hk
  · exact h i j k hk

theorem widenBy_noSelfLoop (ew : Fin (n + 1) → Fin (n + 1) → W) (l : Zone n) :
    NoSelfLoop (widenBy ew l) := by
  intro i; simp

theorem widenBy_congr {e e' : Fin (n + 1) → Fin (n + 1) → W} (h : ∀ i j, i ≠ j → e i j = e' i j)
    (l : Zone n) : widenBy e l = widenBy e' l := by
  apply Mat.ext_get
  intro i j
  rw [get_widenBy, get_widenBy]
  by_cases hij : i = j
  · simp [hij]
  · rw [h i j hij]


theorem leqBy_iff (ew : Fin (n + 1) → Fin (n + 1) → W) (x : Zone n) :
    leqBy ew x = true ↔ ∀ i j, i ≠ j → W.le (ew i j) (x.get i j) = true := by
  simp only [leqBy, List.all_eq_true, List.mem_finRange, forall_const, Bool.or_eq_true,
    decide_eq_true_eq]
  exact forall_congr' fun i => forall_congr' fun j =>
    ⟨fun h hij => h.resolve_left hij, fun h => (Decidable.em (i = j)).imp_right h⟩

theorem leqBy_congr {e e' : Fin (n + 1) → Fin (n + 1) → W} (h : ∀ i j, i ≠ j → e i j = e' i j)
    (x : Zone n) : leqBy e x = leqBy e' x := by
  rw [Bool.eq_iff_iff, leqBy_iff, leqBy_iff]
  constructor <;> intro hh i j hij
  · rw [← h i j hij]; exact hh i j hij
  · rw [h i j hij]; exact hh i j hij

theorem leqBy_eq_false_iff {ew : Fin (n + 1) → Fin (n + 1) → W} {x : Zone n} :
    leqBy ew x = false ↔ ∃ i j k, i ≠ j ∧ x.get i j = some k ∧ W.le (ew i j) (some k) = false := by
  rw [← Bool.not_eq_true, leqBy_iff]
  constructor
  · intro h
    apply Classical.byContradiction
    intro hne
    apply h
    intro i j hij
    cases hx : x.get i j with
    | none => exact W.le_none _
    | some k =>
      cases hl : W.le (ew i j) (some k)
      · exact absurd ⟨i, j, k, hij, hx, hl⟩ hne
      · rfl
  · rintro ⟨i, j, k, hij, hx, hl⟩ h
    have := h i j hij
    rw [hx, hl] at this
    cases this

theorem widenBy_eq_self {ew : Fin (n + 1) → Fin (n + 1) → W} {x : Zone n} (hx : NoSelfLoop x)
    (h : leqBy ew x = true) : widenBy ew x = x := by
  apply Mat.ext_get
  intro i j
  rw [get_widenBy]
  by_cases hij : i = j
  · subst hij; simp [hx i]
  · simp [hij, (leqBy_iff ew x).1 h i j hij]

theorem leqBy_sat {ew : Fin (n + 1) → Fin (n + 1) → W} {x : Zone n} (hx : NoSelfLoop x)
    (h : leqBy ew x = true) (v : Fin (n + 1) → Int)
    (hv : ∀ i j k, ew i j = some k → v i - v j ≤ k) : x.sat v := by
  intro i j k hk
  by_cases hij : i = j
  · subst hij; rw [hx i] at hk; cases hk
  · have := (leqBy_iff ew x).1 h i j hij
    rw [hk] at this
    obtain ⟨k', h1, h2⟩ := W.le_some_iff.1 this
    have := hv i j k' h1
    omega


theorem isSome_of_widenBy {ew : Fin (n + 1) → Fin (n + 1) → W} {l : Zone n} {i j : Fin (n + 1)}
    (h : ((widenBy ew l).get i j).isSome = true) : (l.get i j).isSome = true :=
  Mat.isSome_of_widenStd (widenBy_eq_widenStd ew l ▸ h)

theorem edges_widenBy_le (ew : Fin (n + 1) → Fin (n + 1) → W) (l : Zone n) :
    edges (widenBy ew l) ≤ edges l :=
  List.countP_mono_left fun _ _ => isSome_of_widenBy

theorem edges_widenBy_lt {ew : Fin (n + 1) → Fin (n + 1) → W} {x : Zone n}
    (h : leqBy ew x = false) : edges (widenBy ew x) < edges x := by
  obtain ⟨i, j, k, hij, hx, hl⟩ := leqBy_eq_false_iff.1 h
  rw [widenBy_eq_widenStd]
  exact Mat.edges_widenStd_lt (i := i) (j := j) (by rw [Mat.get_ofFn, if_neg hij, hx, hl])


theorem splitW_sound {c : Zone n} {v : Fin (n + 1) → Int} (h : c.sat v) {i j : Fin (n + 1)} {k : Int}
    (hk : splitW c i j = some k) : v i - v j ≤ k := by
  unfold splitW at hk
  split at hk
  · exact h i j k hk
  · rcases W.min_eq_or (c.get i j) (W.add (c.get i 0) (c.get 0 j)) with he | he
    · rw [he] at hk; exact h i j k hk
    · rw [he] at hk
      obtain ⟨a, b, ha, hb, rfl⟩ := W.add_some_iff.1 hk
      have h1 := h i 0 a ha
      have h2 := h 0 j b hb
      omega

/-- on a closed graph the path through the zero vertex adds nothing: split_dbm and sparse_dbm
    read the same weights -/
theorem splitW_of_closed {c : Zone n} (hc : Mat.Closed c) (i j : Fin (n + 1)) : splitW c i j = c.get i j := by
  unfold splitW
  split
  · rfl
  · exact W.min_eq_left (hc.tri i j 0)

def SoundEw (ew : Zone n → Fin (n + 1) → Fin (n + 1) → W) : Prop :=
  ∀ r v, r.sat v → ∀ i j k, ew r i j = some k → v i - v j ≤ k

theorem splitEw_soundEw : SoundEw (n := n) splitEw :=
  fun r v h _ _ _ hk => splitW_sound ((Mat.fw_sat r v).2 h) hk

theorem sparseEw_soundEw : SoundEw (n := n) sparseEw := fun r v h => (Mat.fw_sat r v).2 h


theorem γv_map_close (x : ZVal n) (σ : State n) : γv (x.map close) σ ↔ γv x σ := by
  cases x with
  | none => exact Iff.rfl
  | some z => exact Mat.fw_sat z (ext σ)

theorem widenE_upper {ew : Zone n → Fin (n + 1) → Fin (n + 1) → W} (hew : SoundEw ew)
    (x y : ZVal n) (σ : State n) : (γv x σ → γv (widenE ew x y) σ) ∧ (γv y σ → γv (widenE ew x y) σ) := by
  cases x with
  | none => exact ⟨fun h => h.elim, fun h => h⟩
  | some l =>
    cases y with
    | none => exact ⟨fun h => h, fun h => h.elim⟩
    | some r =>
      exact ⟨fun h => widenBy_sat_left _ _ _ h, fun h => widenBy_sat_right _ _ _ (hew r _ h)⟩

theorem zmeas_widenE_lt (ew : Zone n → Fin (n + 1) → Fin (n + 1) → W) (x y : ZVal n)
    (h : leqE ew y x = false) :
    Prod.Lex (· < ·) (· < ·) (zmeas (widenE ew x y)) (zmeas x) := by
  cases x with
  | none =>
    cases y with
    | none => simp [leqE] at h
    | some r => exact Prod.Lex.left _ _ (by decide)
  | some l =>
    cases y with
    | none => simp [leqE] at h
    | some r => exact Prod.Lex.right _ (edges_widenBy_lt h)

theorem widenE_isSome (ew : Zone n → Fin (n + 1) → Fin (n + 1) → W) {x : ZVal n} (y : ZVal n)
    (hx : x.isSome = true) : (widenE ew x y).isSome = true :=
  match x, y, hx with
  | some _, none, _ => rfl
  | some _, some _, _ => rfl

theorem edges_widenE_lt (ew : Zone n → Fin (n + 1) → Fin (n + 1) → W) {x y : ZVal n}
    (hx : x.isSome = true) (h : leqE ew y x = false) : (zmeas (widenE ew x y)).2 < (zmeas x).2 :=
  match x, y, hx, h with
  | some _, some _, _, h => edges_widenBy_lt h

end Zones
end Crab
