import CrabProofs.Lemmas.PatriciaInsert

/-! `tree::compare` versus the pointwise order of the bindings. -/
namespace Crab
namespace Patricia
open Tree

variable {V : Type} {P : V → Prop}

/-- the order on "binding or default": a missing binding is the default value, which is the
    top (`default_is_top`) or the bottom of the order; stored values are never the default -/
def leO (po : POrder V) : Option V → Option V → Bool
  | some x, some y => po.leq x y
  | some _, none => po.defaultIsTop
  | none, some _ => !po.defaultIsTop
  | none, none => true

/-- `compare(s, t, po, l2r)` tests `s ≤ t` when `l2r`, `t ≤ s` otherwise -/
def rel (po : POrder V) (l2r : Bool) (a b : Option V) : Bool := if l2r then leO po a b else leO po b a

def PwLe (po : POrder V) (l2r : Bool) (s t : Tree V) : Prop :=
  ∀ k, rel po l2r (s.lookup k) (t.lookup k) = true

@[simp] theorem rel_none_none (po : POrder V) (l2r : Bool) : rel po l2r none none = true := by
  cases l2r <;> rfl

/-- "bound on the left only", as `compare` tests it -/
theorem rel_some_none (po : POrder V) (l2r : Bool) (x : V) :
    rel po l2r (some x) none = !((l2r && !po.defaultIsTop) || (!l2r && po.defaultIsTop)) := by
  cases l2r <;> cases h : po.defaultIsTop <;> simp [rel, leO, h]

/-- "bound on the right only", as `compare` tests it -/
theorem rel_none_some (po : POrder V) (l2r : Bool) (y : V) :
    rel po l2r none (some y) = !((l2r && po.defaultIsTop) || (!l2r && !po.defaultIsTop)) := by
  cases l2r <;> cases h : po.defaultIsTop <;> simp [rel, leO, h]

theorem rel_some_some (po : POrder V) (l2r : Bool) (x y : V) :
    rel po l2r (some x) (some y) = (if l2r then po.leq x y else po.leq y x) := by
  cases l2r <;> rfl

theorem rel_not_both (po : POrder V) (l2r : Bool) (x y : V) :
    ¬ (rel po l2r (some x) none = true ∧ rel po l2r none (some y) = true) := by
  cases l2r <;> cases h : po.defaultIsTop <;> simp [rel, leO, h]

theorem pwLe_swap (po : POrder V) (l2r : Bool) (s t : Tree V) : PwLe po (!l2r) t s ↔ PwLe po l2r s t := by
  unfold PwLe
  constructor <;> intro h k <;> have := h k <;> cases l2r <;> simpa [rel] using this

theorem pwLe_empty_right (po : POrder V) (l2r : Bool) {s : Tree V} (hs : WF P s) (hne : s ≠ .empty) :
    PwLe po l2r s .empty ↔ ((l2r && !po.defaultIsTop) || (!l2r && po.defaultIsTop)) = false := by
  constructor
  · intro h
    obtain ⟨k, v, hv⟩ := hs.exists_binding hne
    have := h k
    rwa [hv, lookup_empty, rel_some_none, Bool.not_eq_true'] at this
  · intro h k
    rw [lookup_empty]
    cases hl : s.lookup k with
    | none => simp
    | some x => rw [rel_some_none, h]; rfl

theorem pwLe_empty_left (po : POrder V) (l2r : Bool) {t : Tree V} (ht : WF P t) (hne : t ≠ .empty) :
    PwLe po l2r .empty t ↔ ((l2r && po.defaultIsTop) || (!l2r && !po.defaultIsTop)) = false := by
  rw [← pwLe_swap, pwLe_empty_right po (!l2r) ht hne]
  cases l2r <;> simp [Bool.or_comm]

theorem pwLe_refl (po : POrder V) (l2r : Bool) (hrefl : ∀ x, P x → po.leq x x = true) {s : Tree V} (hs : WF P s) :
    PwLe po l2r s s := by
  intro k
  cases hl : s.lookup k with
  | none => simp
  | some x => rw [rel_some_some]; simp [hrefl x (hs.val_of_lookup hl)]

/-- The leaf branch of `compare`.  Both versions want the key of the leaf bound in `t` to a greater
    value, and `t` to be that leaf alone unless keys bound on the right only are allowed.  When the
    key is not bound in `t` the repaired code says no; the code before the fix still said yes for a
    leaf `t` if keys bound on the left only are allowed. -/
theorem compareLeaf_eq (f : Bool) (po : POrder V) (l2r : Bool) (ks : Nat) (vs : V) (t : Tree V) :
    compareLeaf f po l2r ks vs t =
      match t.lookup ks with
      | some v' => rel po l2r (some vs) (some v') && (t.isLeaf || rel po l2r none (some v'))
      | none => !f && (t.isLeaf && rel po l2r (some vs) none) := by
  unfold compareLeaf
  cases t.lookup ks with
  | none =>
    simp only [rel_some_none]
    cases f <;> cases l2r <;> cases po.defaultIsTop <;> cases t.isLeaf <;> rfl
  | some v' =>
    simp only [rel_none_some, rel_some_some]
    cases l2r <;> cases po.defaultIsTop <;> cases t.isLeaf <;> simp

theorem isLeaf_false_of_two {t : Tree V} {k1 k2 : Nat} {x y : V} (hne : k1 ≠ k2)
    (h1 : t.lookup k1 = some x) (h2 : t.lookup k2 = some y) : t.isLeaf = false := by
  cases t with
  | leaf kt vt =>
    simp only [lookup_leaf, Option.ite_none_right_eq_some] at h1 h2
    exact absurd (h1.1.symm.trans h2.1) hne
  | _ => rfl

/-- the leaf branch of the repaired `compare` is the pointwise order -/
theorem compareLeaf_spec (po : POrder V) (l2r : Bool) {ks : Nat} {vs : V} {t : Tree V} (ht : WF P t)
    (hne : t ≠ .empty) :
    compareLeaf true po l2r ks vs t = true ↔ PwLe po l2r (.leaf ks vs) t := by
  rw [compareLeaf_eq]
  have hoff : ∀ {k}, k ≠ ks → (Tree.leaf ks vs).lookup k = none := fun h => by simp [Ne.symm h]
  constructor
  · intro h k
    cases hf : t.lookup ks with
    | none => rw [hf] at h; cases h
    | some v' =>
      rw [hf] at h
      simp only [Bool.and_eq_true, Bool.or_eq_true] at h
      by_cases e : k = ks
      · subst e; rw [hf, lookup_leaf, if_pos rfl]; exact h.1
      · rw [hoff e]
        cases hl : t.lookup k with
        | none => simp
        | some y =>
          rw [rel_none_some, ← rel_none_some po l2r v']
          refine h.2.resolve_left (fun hlf => ?_)
          rw [isLeaf_false_of_two e hl hf] at hlf; cases hlf
  · intro h
    have hks := h ks
    rw [lookup_leaf, if_pos rfl] at hks
    cases hf : t.lookup ks with
    | none =>
      exfalso
      obtain ⟨k, y, hy⟩ := ht.exists_binding hne
      have hk : k ≠ ks := by intro e; subst e; rw [hf] at hy; cases hy
      have := h k
      rw [hoff hk, hy] at this
      rw [hf] at hks
      exact rel_not_both po l2r vs y ⟨hks, this⟩
    | some v' =>
      rw [hf] at hks
      simp only [hks, Bool.true_and, Bool.or_eq_true]
      cases t with
      | empty => exact absurd rfl hne
      | leaf kt vt => exact Or.inl rfl
      | node q n tl tr =>
        obtain ⟨k, y, hk, hl⟩ := ht.exists_other_key ks
        have := h k
        rw [hoff hk, hl, rel_none_some, ← rel_none_some po l2r v'] at this
        exact Or.inr this

theorem pwLe_split (po : POrder V) (l2r : Bool) {i p : Nat} {s t a b c d : Tree V} (ha : Aligned i p)
    (hs : Split i p s a b) (ht : Split i p t c d) :
    PwLe po l2r s t ↔ PwLe po l2r a c ∧ PwLe po l2r b d := by
  constructor
  · intro h
    refine ⟨fun k => ?_, fun k => ?_⟩ <;> by_cases hk : k ≤ p
    · have := h k; rwa [hs.lookup, ht.lookup, if_pos hk, if_pos hk] at this
    · rw [hs.left_none ha hk, ht.left_none ha hk]; exact rel_none_none po l2r
    · rw [hs.right_none ha hk, ht.right_none ha hk]; exact rel_none_none po l2r
    · have := h k; rwa [hs.lookup, ht.lookup, if_neg hk, if_neg hk] at this
  · intro ⟨h1, h2⟩ k
    rw [hs.lookup, ht.lookup]
    split
    · exact h1 k
    · exact h2 k

section
variable (po : POrder V) (l2r : Bool) {p m q n : Nat} {sl sr tl tr : Tree V}

/-- `t` inside one half of `s`: the other half of `s` is bound on the left only -/
theorem pwLe_node_inside (hs : WF P (.node p m sl sr)) (ht : WF P (.node q n tl tr))
    (h : m > n ∧ matchPrefix q p m = true) :
    PwLe po l2r (.node p m sl sr) (.node q n tl tr) ↔
      ((l2r && !po.defaultIsTop) || (!l2r && po.defaultIsTop)) = false ∧
        PwLe po l2r (if zeroBit q m = true then sl else sr) (.node q n tl tr) := by
  obtain ⟨i, rfl, ha, hsp⟩ := hs.node_inside ht h
  split at hsp <;> rename_i hz
  · rw [if_pos hz, pwLe_split po l2r ha (Split.node hs) hsp, pwLe_empty_right po l2r hs.right hs.ne_right, and_comm]
  · rw [if_neg hz, pwLe_split po l2r ha (Split.node hs) hsp, pwLe_empty_right po l2r hs.left hs.ne_left]

/-- `s` inside one half of `t`: the other half of `t` is bound on the right only -/
theorem pwLe_inside_node (hs : WF P (.node p m sl sr)) (ht : WF P (.node q n tl tr))
    (h : m < n ∧ matchPrefix p q n = true) :
    PwLe po l2r (.node p m sl sr) (.node q n tl tr) ↔
      ((l2r && po.defaultIsTop) || (!l2r && !po.defaultIsTop)) = false ∧
        PwLe po l2r (.node p m sl sr) (if zeroBit p n = true then tl else tr) := by
  rw [← pwLe_swap, pwLe_node_inside po (!l2r) ht hs h, pwLe_swap]
  cases l2r <;> simp [Bool.or_comm]

end

theorem not_pwLe_of_disjoint (po : POrder V) (l2r : Bool) {s t : Tree V} (hs : WF P s) (ht : WF P t)
    (ns : s ≠ .empty) (nt : t ≠ .empty) (hdis : ∀ k, k ∈ s.keys → k ∉ t.keys) : ¬ PwLe po l2r s t := by
  intro h
  obtain ⟨k1, x, hx⟩ := hs.exists_binding ns
  obtain ⟨k2, y, hy⟩ := ht.exists_binding nt
  have e1 := h k1
  have e2 := h k2
  rw [hx, lookup_none_of_not_mem (hdis k1 (mem_keys_of_lookup hx))] at e1
  rw [hy, lookup_none_of_not_mem (fun hm => hdis k2 hm (mem_keys_of_lookup hy))] at e2
  exact rel_not_both po l2r x y ⟨e1, e2⟩

/-- **the repaired `compare` is the pointwise order** (both directions of use, both kinds of
    default), for every sound pointer-equality oracle -/
theorem compare_fixed_iff {c : Ctx V} (hc : c.SoundOn P) (po : POrder V)
    (hrefl : ∀ x, P x → po.leq x x = true) (l2r : Bool) (s t : Tree V) (hs : WF P s) (ht : WF P t) :
    compare true c po l2r s t = true ↔ PwLe po l2r s t := by
  fun_induction compare true c po l2r s t with
  -- one of the two pointers is null
  | case1 => simp [PwLe]
  | case2 x hx => rw [pwLe_empty_left po l2r ht (fun h => hx h), Bool.not_eq_true']
  | case3 k v => rw [pwLe_empty_right po l2r hs (by simp), Bool.not_eq_true']
  | case4 p m l r => rw [pwLe_empty_right po l2r hs (by simp), Bool.not_eq_true']
  -- the same pointer on both sides (leaf/leaf, leaf/node, node/leaf in either order, node/node)
  | case5 _ _ _ _ h | case7 _ _ _ _ _ _ h | case9 _ _ _ _ _ _ h | case12 _ _ _ _ _ _ _ _ h =>
    rw [hc.1 _ _ h]; exact iff_of_true rfl (pwLe_refl po l2r hrefl ht)
  | case10 p m sl sr kt vt h1 h2 =>
    rw [hc.1 _ _ h2]; exact iff_of_true rfl (pwLe_refl po l2r hrefl hs)
  -- a leaf against a leaf, a leaf against a node, a node against a leaf (asked the other way round)
  | case6 ks vs kt vt h => exact compareLeaf_spec po l2r ht (by simp)
  | case8 ks vs q n tl tr h => exact compareLeaf_spec po l2r ht (by simp)
  | case11 p m sl sr kt vt h1 h2 => rw [compareLeaf_spec po (!l2r) hs (by simp), pwLe_swap]
  -- two nodes with the same prefix and branching bit
  | case13 p m sl sr q n tl tr h hpq ih2 ih1 =>
    obtain ⟨rfl, rfl⟩ := hpq
    obtain ⟨i, rfl⟩ := hs.bb_pow
    rw [pwLe_split po l2r hs.aligned (Split.node hs) (Split.node ht), Bool.and_eq_true,
      ih2 hs.left ht.left, ih1 hs.right ht.right]
  -- `t` below one half of `s`: refused by the direction test, else down the left or the right half
  | case14 p m sl sr q n tl tr h hne hgt hdir =>
    rw [pwLe_node_inside po l2r hs ht hgt, hdir]; simp
  | case15 p m sl sr q n tl tr h hne hgt hdir hz ih =>
    rw [pwLe_node_inside po l2r hs ht hgt, if_pos hz, ih hs.left ht,
      Bool.not_eq_true _ |>.mp hdir]; simp
  | case16 p m sl sr q n tl tr h hne hgt hdir hz ih =>
    rw [pwLe_node_inside po l2r hs ht hgt, if_neg hz, ih hs.right ht,
      Bool.not_eq_true _ |>.mp hdir]; simp
  -- `s` below one half of `t`, likewise
  | case17 p m sl sr q n tl tr h hne hngt hlt hdir =>
    rw [pwLe_inside_node po l2r hs ht hlt, hdir]; simp
  | case18 p m sl sr q n tl tr h hne hngt hlt hdir hz ih =>
    rw [pwLe_inside_node po l2r hs ht hlt, if_pos hz, ih hs ht.left,
      Bool.not_eq_true _ |>.mp hdir]; simp
  | case19 p m sl sr q n tl tr h hne hngt hlt hdir hz ih =>
    rw [pwLe_inside_node po l2r hs ht hlt, if_neg hz, ih hs ht.right,
      Bool.not_eq_true _ |>.mp hdir]; simp
  -- neither below the other: disjoint key sets
  | case20 p m sl sr q n tl tr h hne hngt hnlt =>
    exact iff_of_false Bool.false_ne_true
      (not_pwLe_of_disjoint po l2r hs ht (by simp) (by simp) (hs.node_apart ht hne hngt hnlt).2)

/-! ### the code before the fix (`fixedLeafLeaf = false`) versus the repaired test of the tree -/

/-- The two versions of `compare` only differ in the leaf test, and `compare` is monotone in
    it: the test is asked in the direction of the walk (`hl`), or in the other direction about a
    leaf of `t` against a node `s` (`hn`). -/
theorem compare_mono_of_leaf {f g : Bool} {c : Ctx V} {po : POrder V} {l2r : Bool}
    (hl : ∀ ks vs t, compareLeaf f po l2r ks vs t = true → compareLeaf g po l2r ks vs t = true)
    (hn : ∀ ks vs t, t.isLeaf = false →
      compareLeaf f po (!l2r) ks vs t = true → compareLeaf g po (!l2r) ks vs t = true)
    (s t : Tree V) : compare f c po l2r s t = true → compare g c po l2r s t = true := by
  fun_induction compare f c po l2r s t with
  -- a leaf against a leaf or a node: the leaf test in the direction of the walk
  | case6 | case8 => simp only [compare, *, if_false, Bool.false_eq_true]; exact hl _ _ _
  -- a node against a leaf: the leaf test the other way round, about the node
  | case11 => simp only [compare, *, if_false, Bool.false_eq_true]; exact hn _ _ _ rfl
  -- two nodes with the same prefix and branching bit: both halves
  | case13 p m sl sr q n tl tr h hpq ih2 ih1 =>
    obtain ⟨rfl, rfl⟩ := hpq
    simp only [compare, h, and_self, if_true, if_false, Bool.false_eq_true, Bool.and_eq_true]
    exact fun h => ⟨ih2 h.1, ih1 h.2⟩
  -- one node below a half of the other: the walk goes on in that half
  | case15 _ _ _ _ _ _ _ _ _ _ _ _ _ ih | case16 _ _ _ _ _ _ _ _ _ _ _ _ _ ih
  | case18 _ _ _ _ _ _ _ _ _ _ _ _ _ _ ih | case19 _ _ _ _ _ _ _ _ _ _ _ _ _ _ ih =>
    simp only [compare, *, if_true, if_false, Bool.false_eq_true, and_self]; exact ih
  -- null pointers, shared pointers, the direction tests, disjoint nodes: no leaf test involved
  | _ => simp only [compare, *, if_true, if_false, Bool.false_eq_true, and_self, imp_self]

theorem compareLeaf_mono (po : POrder V) (l2r : Bool) (ks : Nat) (vs : V) (t : Tree V)
    (h : compareLeaf true po l2r ks vs t = true) : compareLeaf false po l2r ks vs t = true := by
  rw [compareLeaf_eq] at h ⊢
  cases hl : t.lookup ks with
  | none => rw [hl] at h; cases h
  | some v' => rw [hl] at h; exact h

/-- the code before the fix never answered no where the repaired code answers yes -/
theorem compare_mono (c : Ctx V) (po : POrder V) (l2r : Bool) (s t : Tree V)
    (h : compare true c po l2r s t = true) : compare false c po l2r s t = true :=
  compare_mono_of_leaf (compareLeaf_mono po l2r) (fun ks vs t _ => compareLeaf_mono po (!l2r) ks vs t) s t h

theorem compareLeaf_eq_of_node (po : POrder V) (ks : Nat) (vs : V) (t : Tree V)
    (ht : t.isLeaf = false) (l2r : Bool) :
    compareLeaf false po l2r ks vs t = compareLeaf true po l2r ks vs t := by
  rw [compareLeaf_eq, compareLeaf_eq]
  cases t.lookup ks <;> simp [ht]

/-- with the bottom of the order as default, keys bound on the left only are refused in the
    direction `l2r = true` -/
theorem compareLeaf_eq_of_bot (po : POrder V) (hd : po.defaultIsTop = false) (ks : Nat) (vs : V) (t : Tree V) :
    compareLeaf false po true ks vs t = compareLeaf true po true ks vs t := by
  rw [compareLeaf_eq, compareLeaf_eq]
  cases t.lookup ks <;> simp [rel_some_none, hd]

/-- when the default is the bottom of the order (sets), the defect of the leaf/leaf test is
    not reachable from `patricia_tree::leq`: the two versions coincide on all trees -/
theorem compare_eq_of_bot (c : Ctx V) (po : POrder V) (hd : po.defaultIsTop = false) (s t : Tree V) :
    compare false c po true s t = compare true c po true s t :=
  Bool.eq_iff_iff.mpr
    ⟨compare_mono_of_leaf (fun ks vs t => by rw [compareLeaf_eq_of_bot po hd]; exact id)
        (fun ks vs t ht => by rw [compareLeaf_eq_of_node po ks vs t ht]; exact id) s t,
     compare_mono_of_leaf (fun ks vs t => by rw [compareLeaf_eq_of_bot po hd]; exact id)
        (fun ks vs t ht => by rw [compareLeaf_eq_of_node po ks vs t ht]; exact id) s t⟩

end Patricia
end Crab
