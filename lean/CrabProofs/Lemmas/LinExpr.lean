import CrabModel.Lin.Expr

/-! Lemmas on the model of `ikos::linear_expression`: evaluation is a homomorphism for every
    operator, and every constructor and operator establishes or keeps the class invariant
    `Expr.Canonical`. -/
namespace Crab.Lin.Expr

/-! The cases of `fun_induction addTerm`: 1–2 empty list (`n = 0` or not); 3–4 key found (the entry
    is erased when the sum is 0, updated otherwise); 5–6 key smaller than the head (nothing, or
    inserted in front); 7 key larger: recursion on the tail. -/

theorem evalTerms_addTerm (σ : Var → Int) (ts : List (Var × Int)) (x : Var) (n : Int) :
    evalTerms σ (addTerm ts x n) = evalTerms σ ts + n * σ x := by
  fun_induction addTerm ts x n
  case case3 c _ x n h =>
    have : c * σ x + n * σ x = 0 := by rw [← Int.add_mul, h, Int.zero_mul]
    simp only [evalTerms]; omega
  case case4 => simp only [evalTerms, Int.add_mul]; omega
  case case7 ih => simp only [evalTerms, ih]; omega
  all_goals simp only [evalTerms, Int.zero_mul]; omega

/-- membership in the result of `add(x, n)` -/
theorem mem_addTerm {ts : List (Var × Int)} {x : Var} {n : Int} {p : Var × Int}
    (h : p ∈ addTerm ts x n) : p ∈ ts ∨ (p.1 = x ∧ p.2 ≠ 0) := by
  fun_induction addTerm ts x n
  case case1 => exact Or.inl h
  case case2 hn => exact Or.inr (by rw [List.mem_singleton.1 h]; exact ⟨rfl, hn⟩)
  case case3 => exact Or.inl (List.mem_cons_of_mem _ h)
  case case4 h0 =>
    rcases List.mem_cons.1 h with h | h
    · subst h; exact Or.inr ⟨rfl, h0⟩
    · exact Or.inl (List.mem_cons_of_mem _ h)
  case case5 => exact Or.inl h
  case case6 hn =>
    rcases List.mem_cons.1 h with h | h
    · subst h; exact Or.inr ⟨rfl, hn⟩
    · exact Or.inl h
  case case7 ih =>
    rcases List.mem_cons.1 h with h | h
    · subst h; exact Or.inl (List.mem_cons_self ..)
    · exact (ih h).imp_left (List.mem_cons_of_mem _)

theorem sortedKeys_addTerm {ts : List (Var × Int)} (x : Var) (n : Int) (h : SortedKeys ts) :
    SortedKeys (addTerm ts x n) := by
  unfold SortedKeys at *
  fun_induction addTerm ts x n
  case case1 => exact h
  case case2 => exact List.pairwise_singleton _ _
  case case3 => exact (List.pairwise_cons.1 h).2
  case case4 => exact List.pairwise_cons.2 (List.pairwise_cons.1 h)
  case case5 => exact h
  case case6 hlt _ =>
    refine List.pairwise_cons.2 ⟨fun a ha => ?_, h⟩
    rcases List.mem_cons.1 ha with ha | ha
    · subst ha; exact hlt
    · exact Nat.lt_trans hlt ((List.pairwise_cons.1 h).1 a ha)
  case case7 y _ _ x _ hne hnlt ih =>
    have hc := List.pairwise_cons.1 h
    refine List.pairwise_cons.2 ⟨fun a ha => ?_, ih hc.2⟩
    rcases mem_addTerm ha with ha | ha
    · exact hc.1 a ha
    · show y < a.1
      rw [ha.1]
      exact Nat.lt_of_le_of_ne (Nat.le_of_not_lt hnlt) (fun h => hne h.symm)

/-- `add(x, n)` keeps the class invariant (the constant beside the map plays no part) -/
theorem canonical_addTerm {ts : List (Var × Int)} {c : Int} (x : Var) (n c' : Int)
    (h : Canonical ⟨ts, c⟩) : Canonical ⟨addTerm ts x n, c'⟩ :=
  ⟨sortedKeys_addTerm x n h.1, fun p hp => (mem_addTerm hp).elim (h.2 p) (·.2)⟩

theorem evalTerms_foldl_add (σ : Var → Int) (l acc : List (Var × Int)) :
    evalTerms σ (l.foldl (fun acc p => addTerm acc p.1 p.2) acc) = evalTerms σ acc + evalTerms σ l := by
  induction l generalizing acc with
  | nil => simp [evalTerms]
  | cons p rest ih =>
    obtain ⟨y, c⟩ := p
    simp only [List.foldl_cons, ih, evalTerms_addTerm, evalTerms]; omega

theorem evalTerms_foldl_sub (σ : Var → Int) (l acc : List (Var × Int)) :
    evalTerms σ (l.foldl (fun acc p => addTerm acc p.1 (-p.2)) acc) = evalTerms σ acc - evalTerms σ l := by
  induction l generalizing acc with
  | nil => simp [evalTerms]
  | cons p rest ih =>
    obtain ⟨y, c⟩ := p
    simp only [List.foldl_cons, ih, evalTerms_addTerm, evalTerms, Int.neg_mul]; omega

theorem canonical_foldl (g : Int → Int) (l : List (Var × Int)) {acc : List (Var × Int)} {c : Int} (c' : Int)
    (h : Canonical ⟨acc, c⟩) :
    Canonical ⟨l.foldl (fun acc p => addTerm acc p.1 (g p.2)) acc, c'⟩ := by
  induction l generalizing acc with
  | nil => exact h
  | cons p rest ih => exact ih (canonical_addTerm _ _ c h)

@[simp] theorem eval_zero (σ : Var → Int) : eval zero σ = 0 := by simp [eval, zero, evalTerms]
@[simp] theorem eval_const (n : Int) (σ : Var → Int) : eval (const n) σ = n := by
  simp [eval, const, evalTerms]
@[simp] theorem eval_var (x : Var) (σ : Var → Int) : eval (var x) σ = σ x := by
  simp [eval, var, evalTerms]
@[simp] theorem eval_term (n : Int) (x : Var) (σ : Var → Int) : eval (term n x) σ = n * σ x := by
  unfold term
  split
  · next h => subst h; simp [eval, evalTerms]
  · simp [eval, evalTerms]

theorem eval_addNum (e : Expr) (n : Int) (σ : Var → Int) : eval (addNum e n) σ = eval e σ + n := by
  simp only [eval, addNum]; omega
theorem eval_subNum (e : Expr) (n : Int) (σ : Var → Int) : eval (subNum e n) σ = eval e σ - n := by
  simp only [subNum, eval_addNum]; omega
theorem eval_addVar (e : Expr) (x : Var) (σ : Var → Int) : eval (addVar e x) σ = eval e σ + σ x := by
  simp only [eval, addVar, evalTerms_addTerm]; omega
theorem eval_subVar (e : Expr) (x : Var) (σ : Var → Int) : eval (subVar e x) σ = eval e σ - σ x := by
  simp only [eval, subVar, evalTerms_addTerm]; omega

theorem eval_add (a b : Expr) (σ : Var → Int) : eval (add a b) σ = eval a σ + eval b σ := by
  simp only [eval, add, evalTerms_foldl_add]; omega
theorem eval_sub (a b : Expr) (σ : Var → Int) : eval (sub a b) σ = eval a σ - eval b σ := by
  simp only [eval, sub, evalTerms_foldl_sub]; omega

theorem evalTerms_scaleTerms (σ : Var → Int) (n : Int) (ts : List (Var × Int)) :
    evalTerms σ (scaleTerms n ts) = n * evalTerms σ ts := by
  induction ts with
  | nil => simp [scaleTerms, evalTerms]
  | cons p rest ih =>
    obtain ⟨x, c⟩ := p
    simp only [scaleTerms]
    split
    · simp only [evalTerms, ih, Int.mul_add, Int.mul_assoc]
    · next h =>
      have h0 : n * c = 0 := Decidable.not_not.1 h
      have : n * (c * σ x) = 0 := by rw [← Int.mul_assoc, h0]; simp
      simp only [evalTerms, ih, Int.mul_add, this]; omega

theorem eval_scale (e : Expr) (n : Int) (σ : Var → Int) : eval (scale e n) σ = n * eval e σ := by
  unfold scale
  split
  · next h => subst h; simp
  · simp only [eval, evalTerms_scaleTerms, Int.mul_add]

theorem eval_neg (e : Expr) (σ : Var → Int) : eval (neg e) σ = -eval e σ := by
  simp only [neg, eval_scale]; omega

theorem scaleTerms_sublist_keys (n : Int) (ts : List (Var × Int)) :
    ∀ p ∈ scaleTerms n ts, p.2 ≠ 0 ∧ ∃ c, (p.1, c) ∈ ts := by
  induction ts with
  | nil => simp [scaleTerms]
  | cons q rest ih =>
    obtain ⟨x, c⟩ := q
    intro p hp
    simp only [scaleTerms] at hp
    split at hp
    · next h =>
      rcases List.mem_cons.1 hp with hp | hp
      · subst hp; exact ⟨h, c, List.mem_cons_self ..⟩
      · obtain ⟨h1, c', h2⟩ := ih p hp
        exact ⟨h1, c', List.mem_cons_of_mem _ h2⟩
    · obtain ⟨h1, c', h2⟩ := ih p hp
      exact ⟨h1, c', List.mem_cons_of_mem _ h2⟩

theorem sortedKeys_scaleTerms (n : Int) {ts : List (Var × Int)} (h : SortedKeys ts) :
    SortedKeys (scaleTerms n ts) := by
  unfold SortedKeys at *
  induction ts with
  | nil => simp [scaleTerms]
  | cons q rest ih =>
    obtain ⟨x, c⟩ := q
    have hc := List.pairwise_cons.1 h
    simp only [scaleTerms]
    split
    · refine List.pairwise_cons.2 ⟨?_, ih hc.2⟩
      intro a ha
      obtain ⟨_, c', h2⟩ := scaleTerms_sublist_keys n rest a ha
      have := hc.1 _ h2
      exact this
    · exact ih hc.2

theorem canonical_const (n : Int) : (const n).Canonical := ⟨List.Pairwise.nil, nofun⟩
/-- the single-term constructor never stores a zero coefficient -/
theorem canonical_term (n : Int) (x : Var) : (term n x).Canonical := by
  unfold term
  split
  · exact canonical_const 0
  · next h => exact ⟨List.pairwise_singleton _ _, by simp [NoZero, h]⟩
theorem canonical_var (x : Var) : (var x).Canonical := canonical_term 1 x

theorem canonical_addNum {e : Expr} (n : Int) (h : e.Canonical) : (addNum e n).Canonical := h
theorem canonical_subNum {e : Expr} (n : Int) (h : e.Canonical) : (subNum e n).Canonical := h
theorem canonical_addVar {e : Expr} (x : Var) (h : e.Canonical) : (addVar e x).Canonical :=
  canonical_addTerm x 1 _ h
theorem canonical_subVar {e : Expr} (x : Var) (h : e.Canonical) : (subVar e x).Canonical :=
  canonical_addTerm x (-1) _ h
theorem canonical_add {a : Expr} (b : Expr) (h : a.Canonical) : (add a b).Canonical :=
  canonical_foldl (fun c => c) _ _ h
theorem canonical_sub {a : Expr} (b : Expr) (h : a.Canonical) : (sub a b).Canonical :=
  canonical_foldl (fun c => -c) _ _ h
/-- scaling drops zero products: the result has no zero coefficient whatever the operand -/
theorem canonical_scale {e : Expr} (n : Int) (h : e.Sorted) : (scale e n).Canonical := by
  unfold scale
  split
  · exact canonical_const 0
  · exact ⟨sortedKeys_scaleTerms n h, fun p hp => (scaleTerms_sublist_keys n e.terms p hp).1⟩
theorem canonical_neg {e : Expr} (h : e.Sorted) : (neg e).Canonical := canonical_scale _ h

theorem findCoeff_of_sorted {ts : List (Var × Int)} (h : SortedKeys ts) :
    ∀ p ∈ ts, findCoeff ts p.1 = some p.2 := by
  unfold SortedKeys at h
  induction ts with
  | nil => simp
  | cons q rest ih =>
    obtain ⟨y, c⟩ := q
    have hc := List.pairwise_cons.1 h
    intro p hp
    rcases List.mem_cons.1 hp with hp | hp
    · subst hp; simp [findCoeff]
    · have hlt := hc.1 p hp
      have : p.1 ≠ y := by
        have h1 : y < p.1 := hlt
        exact fun h2 => Nat.lt_irrefl y (h2 ▸ h1)
      simp only [findCoeff, this, if_false]
      exact ih hc.2 p hp

/-- the fold of `rename`, over any list of variables -/
theorem eval_rename_fold (e : Expr) (m : List (Var × Var)) (σ : Var → Int) (vs : List Var) (acc : Expr) :
    eval (vs.foldl (fun acc v => add acc (term (e.coeff v) (renVar m v))) acc) σ
      = eval acc σ + (vs.map (fun v => e.coeff v * σ (renVar m v))).sum := by
  induction vs generalizing acc with
  | nil => simp
  | cons v rest ih =>
    simp only [List.foldl_cons, ih, eval_add, eval_term, List.map_cons, List.sum_cons]
    exact Int.add_assoc _ _ _

theorem sum_coeff_eq_evalTerms (e : Expr) (τ : Var → Int) (ts : List (Var × Int))
    (h : ∀ p ∈ ts, e.coeff p.1 = p.2) :
    ((ts.map (·.1)).map (fun v => e.coeff v * τ v)).sum = evalTerms τ ts := by
  induction ts with
  | nil => simp [evalTerms]
  | cons q rest ih =>
    obtain ⟨y, c⟩ := q
    have h1 := h (y, c) (List.mem_cons_self ..)
    simp only at h1
    simp only [List.map_cons, List.sum_cons, evalTerms, h1]
    rw [ih (fun p hp => h p (List.mem_cons_of_mem _ hp))]

theorem eval_rename {e : Expr} (h : e.Sorted) (m : List (Var × Var)) (σ : Var → Int) :
    eval (rename e m) σ = eval e (fun v => σ (renVar m v)) := by
  unfold rename variables
  rw [eval_rename_fold, eval_const]
  have hc : ∀ p ∈ e.terms, e.coeff p.1 = p.2 := by
    intro p hp
    simp [coeff, findCoeff_of_sorted h p hp]
  have := sum_coeff_eq_evalTerms e (fun v => σ (renVar m v)) e.terms hc
  simp only [eval]
  rw [← this]
  exact Int.add_comm _ _

/-- `rename` always returns a canonical expression (it is rebuilt from the constant) -/
theorem canonical_rename (e : Expr) (m : List (Var × Var)) : (rename e m).Canonical := by
  unfold rename
  have h := canonical_const e.cst
  generalize const e.cst = acc at h ⊢
  induction e.variables generalizing acc with
  | nil => exact h
  | cons v rest ih => exact ih _ (canonical_add _ h)

/-! ### a canonical expression that denotes a constant function has an empty map -/

theorem evalTerms_zero (ts : List (Var × Int)) : evalTerms (fun _ => 0) ts = 0 := by
  induction ts with
  | nil => rfl
  | cons p rest ih => obtain ⟨y, c⟩ := p; simp [evalTerms, ih]

theorem evalTerms_unit_of_gt (x : Var) (ts : List (Var × Int)) (h : ∀ p ∈ ts, x < p.1) :
    evalTerms (fun v => if v = x then 1 else 0) ts = 0 := by
  induction ts with
  | nil => rfl
  | cons p rest ih =>
    obtain ⟨y, c⟩ := p
    have hy : x < y := h (y, c) (List.mem_cons_self ..)
    have hne : ¬ y = x := fun e => Nat.lt_irrefl x (e ▸ hy)
    simp only [evalTerms, hne, if_false, Int.mul_zero, Int.zero_add]
    exact ih (fun p hp => h p (List.mem_cons_of_mem _ hp))

theorem isConstant_of_constant_fun {e : Expr} (hc : e.Canonical) (k : Int)
    (h : ∀ σ, e.eval σ = k) : e.isConstant = true := by
  obtain ⟨ts, c0⟩ := e
  cases ts with
  | nil => rfl
  | cons p rest =>
    exfalso
    obtain ⟨x, c⟩ := p
    have h0 := h (fun _ => 0)
    have h1 := h (fun v => if v = x then 1 else 0)
    have hs : List.Pairwise (fun a b : Var × Int => a.1 < b.1) ((x, c) :: rest) := hc.1
    have hgt := (List.pairwise_cons.1 hs).1
    simp only [eval, evalTerms_zero] at h0
    simp only [eval, evalTerms, if_true, Int.mul_one,
      evalTerms_unit_of_gt x rest (fun p hp => hgt p hp)] at h1
    have hcne : c ≠ 0 := hc.2 (x, c) (List.mem_cons_self ..)
    omega

theorem pairsEq_eq {l1 l2 : List (Var × Int)} (hl : l1.length = l2.length)
    (h : pairsEq l1 l2 = true) : l1 = l2 := by
  induction l1 generalizing l2 with
  | nil => cases l2 with
    | nil => rfl
    | cons _ _ => simp at hl
  | cons p r1 ih =>
    cases l2 with
    | nil => simp at hl
    | cons q r2 =>
      obtain ⟨x, c⟩ := p
      obtain ⟨y, d⟩ := q
      simp only [pairsEq] at h
      split at h
      · simp at h
      · next hne =>
        have hcd : c = d := by
          by_cases hcd : c = d
          · exact hcd
          · exact absurd (Or.inl hcd) hne
        have hxy : x = y := by
          by_cases hxy : x = y
          · exact hxy
          · exact absurd (Or.inr hxy) hne
        have := ih (by simpa using hl) h
        subst hcd hxy this
        rfl

theorem pairsEq_refl (l : List (Var × Int)) : pairsEq l l = true := by
  induction l with
  | nil => rfl
  | cons p r ih => obtain ⟨x, c⟩ := p; simp [pairsEq, ih]

/-- `equal` is structural equality of the stored map and constant -/
theorem equal_iff (e o : Expr) : e.equal o = true ↔ e = o := by
  constructor
  · intro h
    unfold equal at h
    by_cases he : e.isConstant = true
    · rw [if_pos he] at h
      by_cases ho : (!o.isConstant) = true
      · rw [if_pos ho] at h; simp at h
      · rw [if_neg ho] at h
        cases e with | mk t1 c1 =>
        cases o with | mk t2 c2 =>
        have h1 : t1 = [] := by simpa [isConstant] using he
        have h2 : t2 = [] := by simpa [isConstant] using ho
        have h3 : c1 = c2 := by simpa [constant] using h
        subst h1 h2 h3; rfl
    · rw [if_neg he] at h
      by_cases hc : e.constant ≠ o.constant
      · rw [if_pos hc] at h; simp at h
      · rw [if_neg hc] at h
        by_cases hs : e.size ≠ o.size
        · rw [if_pos hs] at h; simp at h
        · rw [if_neg hs] at h
          cases e with | mk t1 c1 =>
          cases o with | mk t2 c2 =>
          have h3 : c1 = c2 := Decidable.not_not.1 hc
          have h4 : t1.length = t2.length := Decidable.not_not.1 hs
          have := pairsEq_eq h4 h
          subst h3 this; rfl
  · intro h
    subst h
    unfold equal
    by_cases he : e.isConstant = true
    · rw [if_pos he]; simp [he]
    · rw [if_neg he]; simp [pairsEq_refl]

end Crab.Lin.Expr
