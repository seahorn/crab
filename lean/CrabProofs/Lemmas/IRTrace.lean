import CrabModel.IR.Semantics

/-!
  Structure of the traces of the executable CrabIR semantics (`CrabModel/IR/Semantics.lean`):
  the events of a block are `check` events of that block with increasing statement indices;
  every `check` event of a trace belongs to the run of a block that the trace enters; the
  successor taken after a block is one of its successors.
-/
namespace Crab
namespace IR

theorem runStmts_events_check (b : Nat) :
    ∀ (ss : List Stmt) (i : Nat) (σ : State) (ch : List Int) (e : Event),
      e ∈ (runStmts b i ss σ ch).events → ∃ j σ' ok, e = Event.check b j σ' ok ∧ i ≤ j := by
  intro ss
  induction ss with
  | nil => intro i σ ch e h; simp [runStmts] at h
  | cons s ss ih =>
    intro i σ ch e h
    unfold runStmts at h
    simp only at h
    split at h
    · -- next
      simp only [List.mem_append] at h
      rcases h with h | h
      · split at h
        · simp only [List.mem_singleton] at h
          exact ⟨i, σ, _, h, Nat.le_refl _⟩
        · simp at h
      · obtain ⟨j, σ', ok, he, hij⟩ := ih _ _ _ _ h
        exact ⟨j, σ', ok, he, by omega⟩
    · split at h
      · simp only [List.mem_singleton] at h
        exact ⟨i, σ, _, h, Nat.le_refl _⟩
      · simp at h

theorem pickSucc_mem (succs : List Nat) (ch : List Int) (s : Nat) (ch' : List Int)
    (h : pickSucc succs ch = some (s, ch')) : s ∈ succs := by
  unfold pickSucc at h
  split at h
  · simp at h
  · simp only [Option.some.injEq, Prod.mk.injEq] at h
    simp [h.1]
  · rename_i a as _
    simp only [Option.some.injEq, Prod.mk.injEq] at h
    rw [← h.1]
    rw [List.getD_eq_getElem?_getD]
    cases hget : (a :: as)[((popChoice ch).1 % ((a :: as).length : Int)).toNat]? with
    | none => simp
    | some v =>
      simp only [Option.getD_some]
      exact List.mem_of_getElem? hget

/-! ### relational reading of a statement list

`runStmts` threads events, indices and the choice stream; what an argument about a concrete block
needs is only which states a list can lead to and whether one of its asserts can fail. -/

/-- the list runs from `σ` to `σ'` (every assert on the way holds) -/
def StmtsStep : List Stmt → State → State → Prop
  | [], σ, σ' => σ' = σ
  | s :: ss, σ, σ' => ∃ ch σ1, stepStmt s σ ch = .next σ1 ∧ StmtsStep ss σ1 σ'

/-- some assert of the list fails in an execution from `σ` -/
def StmtsFail : List Stmt → State → Prop
  | [], _ => False
  | s :: ss, σ => (∃ ch, stepStmt s σ ch = .fail) ∨ ∃ ch σ1, stepStmt s σ ch = .next σ1 ∧ StmtsFail ss σ1

theorem runStmts_next_stmtsStep (b : Nat) : ∀ (ss : List Stmt) (i : Nat) (σ σ' : State) (ch : List Int),
    (runStmts b i ss σ ch).res = .next σ' → StmtsStep ss σ σ'
  | [], _, _, _, _, h => (Res.next.inj h).symm
  | s :: ss, i, σ, σ', ch, h => by
    unfold runStmts at h
    simp only at h
    cases hs : stepStmt s σ (if s.usesChoice then popChoice ch else (0, ch)).1 with
    | next σ1 =>
      rw [hs] at h
      exact ⟨_, σ1, hs, runStmts_next_stmtsStep b ss _ σ1 σ' _ h⟩
    | stop => rw [hs] at h; cases h
    | fail => rw [hs] at h; cases h
    | undef => rw [hs] at h; cases h

theorem BlockStep.stmts {p : Program} {b : Nat} {σ σ' : State} (h : BlockStep p b σ σ') :
    StmtsStep (p.block b).stmts σ σ' :=
  h.elim fun ch hr => runStmts_next_stmtsStep b _ 0 σ σ' ch hr

theorem stepStmt_assert_fail {c : Cst} {σ : State} {ch : Int} (h : stepStmt (.assert c) σ ch = .fail) :
    c.holds σ = false := by
  cases hc : c.holds σ with
  | false => rfl
  | true => rw [show stepStmt (.assert c) σ ch = .next σ from if_pos hc] at h; cases h

theorem stepStmt_assume_ne_fail {c : Cst} {σ : State} {ch : Int} :
    stepStmt (.assume c) σ ch ≠ .fail := by
  intro h
  change (if c.holds σ then Res.next σ else Res.stop) = Res.fail at h
  split at h <;> cases h

theorem stepStmt_assume_next {c : Cst} {σ σ' : State} {ch : Int}
    (h : stepStmt (.assume c) σ ch = .next σ') : c.holds σ = true ∧ σ' = σ := by
  cases hc : c.holds σ with
  | false => rw [show stepStmt (.assume c) σ ch = .stop from if_neg (by simp [hc])] at h; cases h
  | true =>
    rw [show stepStmt (.assume c) σ ch = .next σ from if_pos hc] at h
    exact ⟨rfl, (Res.next.inj h).symm⟩

theorem assume_then_assert (c : Cst) {σ σ' : State} (hs : StmtsStep [.assume c] σ σ')
    (hf : StmtsFail [.assert c] σ') : False := by
  obtain ⟨_, σ1, h1, rfl⟩ := hs
  obtain ⟨hc, rfl⟩ := stepStmt_assume_next h1
  rcases hf with ⟨_, h⟩ | ⟨_, _, _, h⟩
  · rw [stepStmt_assert_fail h] at hc; cases hc
  · exact h

/-- `Visits p b0 σ0 ch0 b σ ch`: the execution started at block `b0` in `σ0` with the choices `ch0`
    arrives at block `b` in `σ` with the choices `ch` left -/
inductive Visits (p : Program) : Nat → State → List Int → Nat → State → List Int → Prop
  | here (b : Nat) (σ : State) (ch : List Int) : Visits p b σ ch b σ ch
  | step {b0 : Nat} {σ0 : State} {ch0 : List Int} {σ1 : State} {s : Nat} {ch1 : List Int}
      {b : Nat} {σ : State} {ch : List Int} :
      (runBlock p b0 σ0 ch0).res = .next σ1 →
      pickSucc (p.block b0).succs (runBlock p b0 σ0 ch0).rest = some (s, ch1) →
      Visits p s σ1 ch1 b σ ch → Visits p b0 σ0 ch0 b σ ch

theorem exec_succ (p : Program) (fuel b : Nat) (σ : State) (ch : List Int) :
    exec p (fuel + 1) b σ ch =
      Event.enter b σ :: ((runBlock p b σ ch).events ++
        (match (runBlock p b σ ch).res with
         | .next σ' => Event.leave b σ' ::
             (match pickSucc (p.block b).succs (runBlock p b σ ch).rest with
              | none => [.done .halt]
              | some (s, ch') => exec p fuel s σ' ch')
         | r => [.done r.endKind])) := rfl

/-- every event of a trace other than the final `done` belongs to a block the execution visits:
    it is the `enter` event of the visit, a `check` event of the run of the block, or the `leave`
    event -/
theorem mem_exec (p : Program) : ∀ (fuel b0 : Nat) (σ0 : State) (ch : List Int) (e : Event),
    e ∈ exec p fuel b0 σ0 ch →
    (∃ k, e = .done k) ∨ ∃ b σ ch', Visits p b0 σ0 ch b σ ch' ∧ Event.enter b σ ∈ exec p fuel b0 σ0 ch ∧
      (e = .enter b σ ∨ e ∈ (runBlock p b σ ch').events ∨
        ∃ σ', (runBlock p b σ ch').res = .next σ' ∧ e = .leave b σ')
  | 0, _, _, _, e, h => Or.inl ⟨.fuel, List.mem_singleton.1 h⟩
  | fuel + 1, b0, σ0, ch, e, h => by
    have hin : Event.enter b0 σ0 ∈ exec p (fuel + 1) b0 σ0 ch := by
      rw [exec_succ]; exact List.mem_cons_self
    rw [exec_succ] at h
    simp only [List.mem_cons, List.mem_append] at h
    rcases h with h | h | h
    · exact Or.inr ⟨b0, σ0, ch, .here _ _ _, hin, Or.inl h⟩
    · exact Or.inr ⟨b0, σ0, ch, .here _ _ _, hin, Or.inr (Or.inl h)⟩
    · cases hres : (runBlock p b0 σ0 ch).res with
      | next σ1 =>
        rw [hres] at h
        simp only [List.mem_cons] at h
        rcases h with h | h
        · exact Or.inr ⟨b0, σ0, ch, .here _ _ _, hin, Or.inr (Or.inr ⟨σ1, hres, h⟩)⟩
        · cases hp : pickSucc (p.block b0).succs (runBlock p b0 σ0 ch).rest with
          | none => rw [hp] at h; exact Or.inl ⟨.halt, List.mem_singleton.1 h⟩
          | some sc =>
            obtain ⟨s, ch1⟩ := sc
            rw [hp] at h
            rcases mem_exec p fuel s σ1 ch1 e h with hd | ⟨b, σ, ch', hv, hen, hc⟩
            · exact Or.inl hd
            · refine Or.inr ⟨b, σ, ch', .step hres hp hv, ?_, hc⟩
              rw [exec_succ, hres, hp]
              exact List.mem_cons_of_mem _ (List.mem_append_right _ (List.mem_cons_of_mem _ hen))
      | stop => rw [hres] at h; exact Or.inl ⟨_, List.mem_singleton.1 h⟩
      | fail => rw [hres] at h; exact Or.inl ⟨_, List.mem_singleton.1 h⟩
      | undef => rw [hres] at h; exact Or.inl ⟨_, List.mem_singleton.1 h⟩

section
variable {p : Program} {fuel b0 : Nat} {σ0 : State} {ch : List Int}

theorem enter_mem_exec {b : Nat} {σ : State} (h : Event.enter b σ ∈ exec p fuel b0 σ0 ch) :
    ∃ ch', Visits p b0 σ0 ch b σ ch' := by
  rcases mem_exec p fuel b0 σ0 ch _ h with ⟨_, hd⟩ | ⟨b1, σ1, ch1, hv, _, hc | hc | ⟨_, _, hc⟩⟩
  · cases hd
  · cases hc; exact ⟨ch1, hv⟩
  · obtain ⟨_, _, _, he, _⟩ := runStmts_events_check b1 _ 0 σ1 ch1 _ hc
    cases he
  · cases hc

theorem leave_mem_exec {b : Nat} {σ' : State} (h : Event.leave b σ' ∈ exec p fuel b0 σ0 ch) :
    ∃ σ ch', Visits p b0 σ0 ch b σ ch' ∧ (runBlock p b σ ch').res = .next σ' := by
  rcases mem_exec p fuel b0 σ0 ch _ h with ⟨_, hd⟩ | ⟨b1, σ1, ch1, hv, _, hc | hc | ⟨_, hres, hc⟩⟩
  · cases hd
  · cases hc
  · obtain ⟨_, _, _, he, _⟩ := runStmts_events_check b1 _ 0 σ1 ch1 _ hc
    cases he
  · cases hc; exact ⟨σ1, ch1, hv, hres⟩

theorem check_mem_exec {b j : Nat} {σ' : State} {ok : Bool}
    (h : Event.check b j σ' ok ∈ exec p fuel b0 σ0 ch) :
    ∃ σ ch', Visits p b0 σ0 ch b σ ch' ∧ Event.enter b σ ∈ exec p fuel b0 σ0 ch ∧
      Event.check b j σ' ok ∈ (runBlock p b σ ch').events := by
  rcases mem_exec p fuel b0 σ0 ch _ h with ⟨_, hd⟩ | ⟨b1, σ1, ch1, hv, hen, hc | hc | ⟨_, _, hc⟩⟩
  · cases hd
  · cases hc
  · obtain ⟨_, _, _, he, _⟩ := runStmts_events_check b1 _ 0 σ1 ch1 _ hc
    cases he
    exact ⟨σ1, ch1, hv, hen, hc⟩
  · cases hc

end

/-- every `check` event of a trace lies in the run of a block the trace enters, started in the
    state of the `enter` event -/
theorem exec_check_of_enter (p : Program) :
    ∀ (fuel b0 : Nat) (σ0 : State) (ch : List Int) (b j : Nat) (σ' : State) (ok : Bool),
      Event.check b j σ' ok ∈ exec p fuel b0 σ0 ch →
      ∃ σ ch', Event.enter b σ ∈ exec p fuel b0 σ0 ch ∧
               Event.check b j σ' ok ∈ (runBlock p b σ ch').events :=
  fun _ _ _ _ _ _ _ _ h => let ⟨σ, ch', _, hen, hc⟩ := check_mem_exec h; ⟨σ, ch', hen, hc⟩

end IR
end Crab
