import CrabProofs.Lemmas.DisIntervalOrder

/-! `dis_interval::widening` (`Crab.Dis.widenWith`) for an arbitrary interval widening `wop`
    (`BasicWidenOp` = `Itv.widen`, `WidenWithThresholdsOp` = `IDom.widenTh ts`): upper bound of both
    arguments and invariant, on normalised values. -/
namespace Crab
namespace Dis
open Bound

theorem mem_ofItv {i : Itv} (hw : i.WF) (k : Int) : mem k (ofItv i) ↔ Itv.mem k i := by
  unfold ofItv
  split
  · rename_i ht; exact ⟨fun _ => Itv.mem_of_isTop ht hw k, fun _ => trivial⟩
  · split
    · rename_i hb; exact ⟨fun h => absurd h (not_mem_bot k), fun h => absurd h (Itv.not_mem_of_isBottom hb)⟩
    · simp [mem]

theorem ofItv_wf {i : Itv} (hw : i.WF) : WF (ofItv i) := by
  unfold ofItv
  split
  · exact rfl
  · split
    · exact rfl
    · rename_i ht hb
      exact ⟨by simp, (by decide : 1 < maxDisjunctions), by simpa using (proper_iff _).mpr ⟨by simpa using hb, by simpa using ht, hw⟩,
        by simp⟩

theorem ofItv_ewf {i : Itv} (hw : i.WF) : EWF (ofItv i) := by
  unfold ofItv
  split
  · exact fun a ha => absurd ha (by simp)
  · split
    · exact fun a ha => absurd ha (by simp)
    · exact fun a ha => List.mem_singleton.mp ha ▸ hw

structure WOp (wop : Itv → Itv → Itv) : Prop where
  upper : ∀ a b k, Itv.mem k a ∨ Itv.mem k b → Itv.mem k (wop a b)
  wf : ∀ a b, a.WF → b.WF → (wop a b).WF

theorem wop_widen : WOp Itv.widen :=
  ⟨fun _ _ _ h => h.elim Itv.widen_upper_left Itv.widen_upper_right, fun _ _ => Itv.wf_widen⟩

theorem wop_widenTh {ts : IDom.Thresholds} (hts : ts.WF) : WOp (IDom.widenTh ts) :=
  ⟨fun _ _ _ h => h.elim (IDom.widenTh_upper_left hts) (IDom.widenTh_upper_right hts),
   fun _ _ => IDom.wf_widenTh hts⟩

/-- the vector `lb_widen, interior of the left argument, ub_widen` -/
def stableVec (wop : Itv → Itv → Itv) (a a' : Itv) (as : List Itv) (b b' : Itv) (bs : List Itv) : List Itv :=
  wop a b :: ((a' :: as).dropLast ++ [wop ((a' :: as).getLast (by simp)) ((b' :: bs).getLast (by simp))])

theorem widenWith_cases {motive : Dis → Prop} (wop : Itv → Itv → Itv) {a b : Itv} {as bs : List Itv}
    (stable : ∀ a' as' b' bs', as = a' :: as' → bs = b' :: bs' →
      ((mkList (stableVec wop a a' as' b b' bs')).isTop ||
        leq ⟨.fin, b :: bs⟩ (mkList (stableVec wop a a' as' b b' bs'))) = true →
      motive (mkList (stableVec wop a a' as' b b' bs')))
    (hull : motive (ofItv (wop (approxNE a as) (approxNE b bs)))) :
    motive (widenWith wop ⟨.fin, a :: as⟩ ⟨.fin, b :: bs⟩) := by
  cases as with
  | nil => cases bs <;> exact hull
  | cons a' as' =>
    cases bs with
    | nil => exact hull
    | cons b' bs' =>
      have e : widenWith wop ⟨.fin, a :: a' :: as'⟩ ⟨.fin, b :: b' :: bs'⟩ =
          if (mkList (stableVec wop a a' as' b b' bs')).isTop ||
              leq ⟨.fin, b :: b' :: bs'⟩ (mkList (stableVec wop a a' as' b b' bs'))
          then mkList (stableVec wop a a' as' b b' bs')
          else ofItv (wop (approxNE a (a' :: as')) (approxNE b (b' :: bs'))) := by
        simp only [widenWith, stableVec, isBottom_fin, isTop_fin, Bool.false_eq_true, if_false]
        rfl
      rw [e]
      split
      · rename_i hc; exact stable _ _ _ _ rfl rfl hc
      · exact hull

theorem stableVec_wf {wop : Itv → Itv → Itv} (hw : WOp wop) {a a' : Itv} {as : List Itv} {b b' : Itv}
    {bs : List Itv} (hx : ∀ i ∈ a :: a' :: as, i.WF) (hy : ∀ i ∈ b :: b' :: bs, i.WF) :
    ∀ i ∈ stableVec wop a a' as b b' bs, i.WF := by
  intro i hi
  rcases List.mem_cons.mp hi with rfl | hi
  · exact hw.wf _ _ (hx a (by simp)) (hy b (by simp))
  · rcases List.mem_append.mp hi with hi | hi
    · exact hx i (List.mem_cons_of_mem _ (List.dropLast_subset _ hi))
    · exact List.mem_singleton.mp hi ▸ hw.wf _ _ (hx _ (List.mem_cons_of_mem _ (List.getLast_mem _)))
        (hy _ (List.mem_cons_of_mem _ (List.getLast_mem _)))

theorem stableVec_upper {wop : Itv → Itv → Itv} (hw : WOp wop) {a a' : Itv} {as : List Itv} {b b' : Itv}
    {bs : List Itv} {k : Int} (hk : memL k (a :: a' :: as)) : memL k (stableVec wop a a' as b b' bs) := by
  obtain ⟨i, hi, hki⟩ := hk
  rcases List.mem_cons.mp hi with rfl | hi
  · exact ⟨wop i b, List.mem_cons_self, hw.upper _ _ k (Or.inl hki)⟩
  · rw [← List.dropLast_concat_getLast (l := a' :: as) (by simp)] at hi
    rcases List.mem_append.mp hi with hi | hi
    · exact ⟨i, by simp [stableVec, hi], hki⟩
    · exact ⟨wop ((a' :: as).getLast (by simp)) ((b' :: bs).getLast (by simp)), by simp [stableVec],
        hw.upper _ _ k (Or.inl (List.mem_singleton.mp hi ▸ hki))⟩

theorem stableVec_length (wop : Itv → Itv → Itv) (a a' : Itv) (as : List Itv) (b b' : Itv) (bs : List Itv) :
    (stableVec wop a a' as b b' bs).length = (a :: a' :: as).length := by
  simp [stableVec]

/-- the vector `stableVec` is handed to the constructor with as many intervals as the left argument -/
theorem mkList_stableVec_wf {wop : Itv → Itv → Itv} (hw : WOp wop) {a a' : Itv} {as : List Itv}
    {b b' : Itv} {bs : List Itv} (hx : WF ⟨.fin, a :: a' :: as⟩) (hy : WF ⟨.fin, b :: b' :: bs⟩) :
    WF (mkList (stableVec wop a a' as b b' bs)) := by
  refine mkList_wf (stableVec_wf hw (wfList_wf hx.2.2) (wfList_wf hy.2.2)) (fun c hc => ?_)
    (by rw [stableVec_length]; exact hx.2.1)
  have := congrArg List.length hc
  rw [stableVec_length] at this
  simp at this

theorem widenWith_upper {wop : Itv → Itv → Itv} (hw : WOp wop) {x y : Dis} (hx : WF x) (hy : WF y)
    {k : Int} (h : mem k x ∨ mem k y) : mem k (widenWith wop x y) := by
  refine upper_cases (op := widenWith wop) (fun _ _ => rfl) x y (fun r _ hr => hr k h) fun lx ly ex ey => ?_
  subst ex ey
  obtain ⟨a, as, rfl⟩ := List.exists_cons_of_ne_nil hx.1
  obtain ⟨b, bs, rfl⟩ := List.exists_cons_of_ne_nil hy.1
  have hwx := wfList_wf hx.2.2
  have hwy := wfList_wf hy.2.2
  refine widenWith_cases wop (fun a' as' b' bs' ea eb hc => ?_) ?_
  · subst ea eb
    rcases h with h | h
    · exact mkList_mem_upper (stableVec_wf hw hwx hwy) (stableVec_upper hw h)
    · rcases Bool.or_eq_true _ _ |>.mp hc with hc | hc
      · exact mem_of_isTop hc k
      · exact leq_sound hc h
  · rw [mem_ofItv (hw.wf _ _ (approxNE_wf hwx) (approxNE_wf hwy))]
    exact hw.upper _ _ k (h.imp (approxNE_mem hx.2.2) (approxNE_mem hy.2.2))

theorem widenWith_wf {wop : Itv → Itv → Itv} (hw : WOp wop) {x y : Dis} (hx : WF x) (hy : WF y) :
    WF (widenWith wop x y) := by
  refine upper_cases (op := widenWith wop) (fun _ _ => rfl) x y (fun r hr _ => hr.elim (· ▸ hx) (· ▸ hy))
    fun lx ly ex ey => ?_
  subst ex ey
  obtain ⟨a, as, rfl⟩ := List.exists_cons_of_ne_nil hx.1
  obtain ⟨b, bs, rfl⟩ := List.exists_cons_of_ne_nil hy.1
  refine widenWith_cases wop (fun a' as' b' bs' ea eb _ => ?_) ?_
  · subst ea eb
    exact mkList_stableVec_wf hw hx hy
  · exact ofItv_wf (hw.wf _ _ (approxNE_wf (wfList_wf hx.2.2)) (approxNE_wf (wfList_wf hy.2.2)))

end Dis
end Crab
