import CrabProofs.Lemmas.WIntPoles

/-!
  `Crab.WInt`: `trim_zero`, the loop nest shared by `UDiv` and `SDiv` (generic in the division of
  two pieces), and `UDiv`.
-/
namespace Crab
namespace WInt
open WrapInt

/-- every element is an interval of width `w` (no condition on the end points) -/
def AllW (w : Nat) (l : List WInt) : Prop := ∀ p ∈ l, ∃ a b, p = W w a b false

theorem unsignedDiv_eq {w : Nat} {s e c d : Nat} (hs : s < 2 ^ w) (he : e < 2 ^ w) {q : WInt}
    (h : unsignedDiv? (W w s e false) (W w c d false) = some q) :
    q = W w (s / d) (e / c) false ∧ d ≠ 0 ∧ c ≠ 0 := by
  unfold unsignedDiv? at h
  by_cases hd : d = 0
  · subst hd; simp [WrapInt.udiv, isZero] at h
  by_cases hc : c = 0
  · subst hc; simp [WrapInt.udiv, isZero] at h
  simp only [udiv_raw hd hs, udiv_raw hc he] at h
  injection h with h
  exact ⟨h.symm, hd, hc⟩

theorem unsignedDiv_sound {w : Nat} (hw : w ≤ 64) {s e c d a b : Nat} (he : e < 2 ^ w)
    (hc : 1 ≤ c)
    (ha : s ≤ a ∧ a ≤ e) (hb : c ≤ b ∧ b ≤ d) :
    mem w (a / b) (W w (s / d) (e / c) false) := by
  have h1 : s / d ≤ a / b := Nat.div_le_div ha.1 hb.2 (by omega)
  have h2 : a / b ≤ e / c := Nat.div_le_div ha.2 hb.1 (by omega)
  have h3 : e / c < 2 ^ w := Nat.lt_of_le_of_lt (Nat.div_le_self _ _) he
  rw [mem_ord_iff hw (by omega) h3 (by omega)]
  exact ⟨h1, h2⟩

theorem unsignedDiv_q_shape {w : Nat} {s e : Nat} (hs : s < 2 ^ w) (he : e < 2 ^ w) {d' q : WInt}
    (hd : ∃ c d, d' = W w c d false) (h : unsignedDiv? (W w s e false) d' = some q) : Shape w q := by
  obtain ⟨c, d, rfl⟩ := hd
  obtain ⟨rfl, _, _⟩ := unsignedDiv_eq hs he h
  exact shape_W (Nat.lt_of_le_of_lt (Nat.div_le_self _ _) hs) (Nat.lt_of_le_of_lt (Nat.div_le_self _ _) he)

theorem allW_nil (w : Nat) : AllW w [] := fun _ hp => by cases hp

theorem allW_cons {w a b : Nat} {l : List WInt} (h : AllW w l) : AllW w (W w a b false :: l) :=
  fun p hp => (List.mem_cons.mp hp).elim (fun e => ⟨a, b, e⟩) (h p)

theorem trimZero_cases {w c d : Nat} {ds : List WInt} (h : trimZero? (W w c d false) = some ds) :
    (ds = [] ∧ (W w c d false).eq (W w 0 0 false) = true) ∨
    (c = 0 ∧ ds = [W w (ofNatT 1 w).n d false]) ∨
    (c ≠ 0 ∧ d = 0 ∧ ds = [W w c (ofNatT (2 ^ 64 - 1) w).n false]) ∨
    (c ≠ 0 ∧ d ≠ 0 ∧ (W w c d false).at ⟨w, 0⟩ = true ∧
      ds = [W w c (ofNatT (2 ^ 64 - 1) w).n false, W w (ofNatT 1 w).n d false]) ∨
    (c ≠ 0 ∧ d ≠ 0 ∧ ¬ (W w c d false).at ⟨w, 0⟩ = true ∧ ds = [W w c d false]) := by
  unfold trimZero? at h
  cases hb : (W w c d false).getBitwidth? with
  | none => rw [hb] at h; cases h
  | some b =>
    obtain ⟨rfl, _⟩ := getBitwidth_W hb
    rw [hb] at h
    simp only [ofNatT_zero, Bool.not_eq_true', beq_iff_eq] at h
    by_cases h0 : (W b c d false).eq (single ⟨b, 0⟩) = false
    · rw [if_pos h0] at h
      by_cases hc : c = 0
      · rw [if_pos hc] at h; exact Or.inr (Or.inl ⟨hc, (Option.some.inj h).symm⟩)
      rw [if_neg hc] at h
      by_cases hd : d = 0
      · rw [if_pos hd] at h; exact Or.inr (Or.inr (Or.inl ⟨hc, hd, (Option.some.inj h).symm⟩))
      rw [if_neg hd] at h
      by_cases ha : (W b c d false).at ⟨b, 0⟩ = true
      · rw [if_pos ha] at h
        exact Or.inr (Or.inr (Or.inr (Or.inl ⟨hc, hd, ha, (Option.some.inj h).symm⟩)))
      · rw [if_neg ha] at h
        exact Or.inr (Or.inr (Or.inr (Or.inr ⟨hc, hd, ha, (Option.some.inj h).symm⟩)))
    · rw [if_neg h0] at h
      exact Or.inl ⟨(Option.some.inj h).symm, (Bool.not_eq_false _).mp h0⟩

theorem trimZero_allW {w c d : Nat} {ds : List WInt}
    (h : trimZero? (W w c d false) = some ds) : AllW w ds := by
  rcases trimZero_cases h with ⟨rfl, _⟩ | ⟨_, rfl⟩ | ⟨_, _, rfl⟩ | ⟨_, _, _, rfl⟩ | ⟨_, _, _, rfl⟩
  · exact allW_nil w
  · exact allW_cons (allW_nil w)
  · exact allW_cons (allW_nil w)
  · exact allW_cons (allW_cons (allW_nil w))
  · exact allW_cons (allW_nil w)

/-- `trim_zero` of a piece `[c, d]`, `c ≤ d`: a member other than `0` stays in a piece `[c', d']` with
    `1 ≤ c'`, inside `[c, d]` -/
theorem trimZero_cover {w : Nat} (h1w : 1 ≤ w) (hw : w ≤ 64) {c d b : Nat} (hcd : c ≤ d) (hd : d < 2 ^ w)
    {ds : List WInt} (h : trimZero? (W w c d false) = some ds) (hb1 : 1 ≤ b) (hb : c ≤ b ∧ b ≤ d) :
    ∃ c' d', W w c' d' false ∈ ds ∧ 1 ≤ c' ∧ c ≤ c' ∧ c' ≤ b ∧ b ≤ d' ∧ d' ≤ d := by
  have h0 : (0:Nat) < 2 ^ w := Nat.pow_pos (by decide)
  rcases trimZero_cases h with ⟨_, heq⟩ | ⟨_, rfl⟩ | ⟨_, hd0, _⟩ | ⟨hc, _, hat, _⟩ | ⟨hc, _, _, rfl⟩
  · -- the piece equals the singleton 0: it has no member ≥ 1
    have hl := (Bool.and_eq_true_iff.mp heq).1
    have hm := leq_W_sound hw (by omega) hd h0 h0 (by omega : b < 2 ^ w) hl
      ((mem_ord_iff hw hcd hd (by omega)).mpr hb)
    rw [mem_ord_iff hw (Nat.le_refl 0) h0 (by omega)] at hm
    omega
  · rw [ofNatT_one_n h1w]
    exact ⟨1, d, List.mem_singleton.mpr rfl, Nat.le_refl 1, by omega, hb1, hb.2, Nat.le_refl d⟩
  · omega
  · -- `at zero` is impossible for `1 ≤ c ≤ d`
    rw [at_W hw (by omega) hd h0, decide_eq_true_eq, D_le_iff (by omega) hd h0] at hat
    omega
  · exact ⟨c, d, List.mem_singleton.mpr rfl, by omega, Nat.le_refl c, hb.1, hb.2, Nat.le_refl d⟩


/-- the bodies of the two inner loops of `SDiv` (`div? = signed_div`) and `UDiv`
    (`div? = unsigned_div`): for every piece `d` of `trim_zero` of the divisor piece, join the quotient -/
def divInner (div? : WInt → WInt → Option WInt) (ci d res : WInt) : Option (ForInStep WInt) :=
  (div? ci d).bind fun q => pure (ForInStep.yield (res.join q))
def divMid (div? : WInt → WInt → Option WInt) (ci cj res : WInt) : Option (ForInStep WInt) :=
  (cj.trimZero?).bind fun ds => (forIn ds res (divInner div? ci)).bind fun r => pure (ForInStep.yield r)

/-- a division whose operands are split by `split` and whose pairs of pieces go through `divMid`:
    the answer is good, and any member `u` and any member `v` lie in pieces `[a, b]`, `[c, d]` such
    that the quotient of `[a, b]` by every piece of `trim_zero [c, d]` is below the answer -/
theorem divOp_spec {w : Nat} (hw : w ≤ 64) {split : WInt → Option (List WInt)}
    {Pc : Nat → Nat → Prop} (hsplit : Splits w split Pc) {div? : WInt → WInt → Option WInt}
    (hgood : ∀ a b, Pc a b → ∀ c e q, div? (W w a b false) (W w c e false) = some q → Good w q)
    {x y r : WInt} (hx : Good w x) (hy : Good w y)
    (h : (if (x.isBottom || y.isBottom) = true then some bottom
          else if (x.isTop || y.isTop) = true then some top
          else (split x).bind fun cuts => (split y).bind fun ycuts =>
            cutLoop (divMid div?) cuts ycuts) = some r) :
    Good w r ∧ ∀ u v, u < 2 ^ w → v < 2 ^ w → mem w u x → mem w v y →
      r = top ∨ ∃ a b c d, Pc a b ∧ Pc c d ∧ (a ≤ u ∧ u ≤ b) ∧ (c ≤ v ∧ v ≤ d) ∧
        ∃ ds, (W w c d false).trimZero? = some ds ∧
          ∀ d' ∈ ds, ∃ q, div? (W w a b false) d' = some q ∧ LeW w q r := by
  refine splitOp_spec hsplit
    (fun ci cj r => ∃ ds, cj.trimZero? = some ds ∧ ∀ d ∈ ds, ∃ q, div? ci d = some q ∧ LeW w q r)
    (fun ci cj r r' ⟨ds, hds, hq⟩ hl => ⟨ds, hds, fun d hd =>
      (hq d hd).imp fun q hq => ⟨hq.1, LeW_trans hq.2 hl⟩⟩)
    (fun a b c d ha _ r0 s hg hs => ?_) hx hy h
  unfold divMid at hs
  cases hds : (W w c d false).trimZero? with
  | none => rw [hds] at hs; cases hs
  | some ds =>
    rw [hds] at hs
    obtain ⟨r1, hin, rfl⟩ := bind_yield hs
    refine ⟨r1, rfl, (forIn_join_spec (w := w) (divInner div? (W w a b false))
      (fun d r => ∃ q, div? (W w a b false) d = some q ∧ LeW w q r)
      (fun d r r' hq hl => hq.imp fun q hq => ⟨hq.1, LeW_trans hq.2 hl⟩) ds r0 r1 ?_ hg hin).imp_right
      (And.imp_right fun e => ⟨ds, rfl, e⟩)⟩
    intro d hd r2 s hg2 hs
    obtain ⟨c', e', rfl⟩ := trimZero_allW hds d hd
    unfold divInner at hs
    cases hq : div? (W w a b false) (W w c' e' false) with
    | none => rw [hq] at hs; cases hs
    | some q =>
      rw [hq] at hs
      obtain ⟨g, l1, l2⟩ := join_good hw hg2 (hgood a b ha c' e' q hq)
      exact ⟨_, (Option.some.inj hs).symm, g, l1, q, rfl, l2⟩


/-- a recursion over a list that threads an accumulator through `g` is the `for` loop with body `g` -/
theorem rec_eq_forIn {α : Type} {F : List α → WInt → Option WInt} {g : α → WInt → Option WInt}
    (hnil : ∀ r, F [] r = some r) (hcons : ∀ a l r, F (a :: l) r = (g a r).bind (F l)) :
    ∀ l init, F l init = forIn l init fun a r => (g a r).bind fun r => pure (ForInStep.yield r) := by
  intro l
  induction l with
  | nil => intro init; rw [hnil]; rfl
  | cons a l ih =>
    intro init
    rw [hcons, List.forIn_cons]
    cases g a init with
    | none => rfl
    | some r1 => exact ih r1

theorem udivDs_eq (ci : WInt) (ds : List WInt) (res : WInt) :
    udivDs ci ds res = forIn ds res (divInner unsignedDiv? ci) := by
  refine (rec_eq_forIn (g := fun d r => (unsignedDiv? ci d).map r.join) (fun _ => rfl)
    (fun d l r => ?_) ds res).trans ?_
  · rw [udivDs]; cases unsignedDiv? ci d <;> rfl
  · congr; funext d r; unfold divInner; cases unsignedDiv? ci d <;> rfl

theorem udivYs_eq (ci : WInt) (ys : List WInt) (res : WInt) :
    udivYs ci ys res = forIn ys res (divMid unsignedDiv? ci) := by
  refine (rec_eq_forIn (g := fun cj r => (trimZero? cj).bind fun ds => udivDs ci ds r) (fun _ => rfl)
    (fun cj l r => ?_) ys res).trans ?_
  · rw [udivYs]
    cases trimZero? cj with
    | none => rfl
    | some ds => dsimp only [Option.bind_some]; cases udivDs ci ds r <;> rfl
  · congr; funext cj r; unfold divMid
    cases trimZero? cj with
    | none => rfl
    | some ds => simp only [Option.bind_some, udivDs_eq]

theorem udivXs_eq (ycuts xs : List WInt) : udivXs ycuts xs bottom = cutLoop (divMid unsignedDiv?) xs ycuts := by
  refine (rec_eq_forIn (g := fun ci r => udivYs ci ycuts r) (fun _ => rfl) (fun ci l r => ?_) xs bottom).trans ?_
  · rw [udivXs]; cases udivYs ci ycuts r <;> rfl
  · unfold cutLoop; congr; funext ci r; rw [udivYs_eq]

theorem udiv_eq (x y : WInt) :
    x.udiv y = if (x.isBottom || y.isBottom) = true then some bottom
      else if (x.isTop || y.isTop) = true then some top
      else (unsignedSplit? x).bind fun cuts => (unsignedSplit? y).bind fun ycuts =>
        cutLoop (divMid unsignedDiv?) cuts ycuts := by
  unfold udiv
  refine ite_congr rfl (fun _ => rfl) fun _ => ite_congr rfl (fun _ => rfl) fun _ => ?_
  cases unsignedSplit? x with
  | none => rfl
  | some cuts =>
    cases unsignedSplit? y with
    | none => rfl
    | some ycuts => exact udivXs_eq ycuts cuts

theorem splits_usplit {w : Nat} (h1w : 1 ≤ w) (hw : w ≤ 64) :
    Splits w unsignedSplit? (fun a b => a ≤ b ∧ b < 2 ^ w) := by
  intro s e l hs he h
  obtain ⟨P, C⟩ := usplit_cover h1w hw hs he h
  refine ⟨fun p hp => ?_, C⟩
  obtain ⟨a, b, rfl, hab, hb, _⟩ := P p hp
  exact ⟨a, b, rfl, hab, hb⟩

/-- `UDiv` answers `top()` or an interval of width `w` that contains the quotient of every member
    by every non-zero member -/
theorem udiv_spec {w : Nat} (h1w : 1 ≤ w) (hw : w ≤ 64) {x y r : WInt} (hx : Good w x) (hy : Good w y)
    (h : x.udiv y = some r) :
    Good w r ∧ ∀ u v, u < 2 ^ w → v < 2 ^ w → 1 ≤ v → mem w u x → mem w v y → mem w (u / v) r := by
  rw [udiv_eq] at h
  obtain ⟨g, hm⟩ := divOp_spec hw (splits_usplit h1w hw)
    (fun a b hab c e q hq => good_of_shape
      (unsignedDiv_q_shape (Nat.lt_of_le_of_lt hab.1 hab.2) hab.2 ⟨c, e, rfl⟩ hq)) hx hy h
  refine ⟨g, fun u v hu hv hv1 hmu hmv => ?_⟩
  rcases hm u v hu hv hmu hmv with rfl | ⟨a, b, c, d, hab, hcd, hu', hv', ds, hds, hq⟩
  · exact mem_top _ _
  · obtain ⟨c', d', hdmem, hc1, _, hcv, hvd, _⟩ := trimZero_cover h1w hw hcd.1 hcd.2 hds hv1 hv'
    obtain ⟨q, hq', hle⟩ := hq _ hdmem
    obtain ⟨rfl, _, _⟩ := unsignedDiv_eq (Nat.lt_of_le_of_lt hab.1 hab.2) hab.2 hq'
    exact hle _ (Nat.lt_of_le_of_lt (Nat.div_le_self _ _) hu) (unsignedDiv_sound hw hab.2 hc1 hu' ⟨hcv, hvd⟩)

theorem udiv_sound_bv {w : Nat} (h1w : 1 ≤ w) (hw : w ≤ 64) {x y r : WInt} (hx : Good w x) (hy : Good w y)
    (h : x.udiv y = some r) {a b : BitVec w} (ha : memBV a x) (hb : memBV b y) (hb0 : b ≠ 0) :
    memBV (a / b) r := by
  unfold memBV
  rw [BitVec.toNat_udiv]
  exact (udiv_spec h1w hw hx hy h).2 _ _ a.isLt b.isLt (bv_pos hb0) ha hb

end WInt
end Crab
