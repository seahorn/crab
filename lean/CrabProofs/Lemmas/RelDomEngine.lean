import CrabProofs.Lemmas.RelDomZones
import CrabProofs.Lemmas.RelDomOct
import CrabModel.Fix.Semantics

/-!
  * the measures that make the widenings of the two relational engines stabilise against the EXACT
    inclusion tests: a strict step drops a finite entry of the unclosed left operand
    (`Octagon.widen_some_lt`, `Zones.edges_widenBy_lt_canon`);
  * the contract of the fixpoint engine (`Crab.Fix.Sem`) for a relational domain given by its
    per-operation soundness laws (`RelDom.EngDom`: the analogue of `XDom.EngDom` for an arbitrary
    state space and statement language), instantiated for zones (`Zones.eng`, any sound reading
    `ew` of the right operand of the widening: split_dbm / sparse_dbm) and octagons (`Octagon.eng`).
-/
namespace Crab


namespace Octagon
open Dbm
variable {n : Nat}

/-- a failing inclusion test exhibits an entry of the right operand that the tight closure of the
    left one does not reach -/
theorem leq_false {a b : Oct n} (h : leq a b = false) :
    isBottom a = false ∧ ∃ i j, W.le ((close a).get i j) (b.get i j) = false := by
  unfold leq at h
  rw [Bool.or_eq_false_iff, List.all_eq_false] at h
  obtain ⟨hb, i, _, hi⟩ := h
  rw [Bool.not_eq_true, List.all_eq_false] at hi
  obtain ⟨j, _, hj⟩ := hi
  exact ⟨hb, i, j, Bool.not_eq_true _ ▸ hj⟩

theorem widen_some_lt {l r : Oct n} (h : leq r l = false) :
    OVal.widen (some l) (some r) = some (Mat.widenStd l (close r)) ∧
      Zones.edges (Mat.widenStd l (close r)) < Zones.edges l := by
  obtain ⟨hb, i, j, hij⟩ := leq_false h
  exact ⟨by simp only [OVal.widen, hb, Bool.false_eq_true, if_false], Mat.edges_widenStd_lt hij⟩

/-- the measure of an octagon value: bottom flag above every matrix; number of finite entries -/
def omeas : OVal n → Nat × Nat
  | none => (1, 0)
  | some o => (0, Zones.edges o)

theorem omeas_widen_lt (x y : OVal n) (h : OVal.leq y x = false) :
    Prod.Lex (· < ·) (· < ·) (omeas (OVal.widen x y)) (omeas x) :=
  match x, y, h with
  | none, some _, _ => Prod.Lex.left _ _ (by decide)
  | some l, some r, h => by
    obtain ⟨e, hlt⟩ := widen_some_lt h
    rw [e]; exact Prod.Lex.right _ hlt

end Octagon

namespace Zones
open Dbm
variable {n : Nat}

/-- a strict step between two graphs (w.r.t. the EXACT inclusion test of the canonical model)
    drops an edge of the unclosed left operand: one that the right operand does not cover, or a
    self loop (which the widening never keeps) -/
theorem edges_widenBy_lt_canon {ew : Zone n → Fin (n + 1) → Fin (n + 1) → W} (hew : SoundEw ew)
    {l r : Zone n} (h : Zones.leq r l = false) : edges (widenBy (ew r) l) < edges l := by
  cases hq : leqBy (ew r) l
  · exact edges_widenBy_lt hq
  · by_cases hl : NoSelfLoop l
    · exact absurd (h.symm.trans
        (((laws n).leq_iff trivial l).2 fun σ hσ => leqBy_sat hl hq _ (hew r _ hσ))) Bool.false_ne_true
    · obtain ⟨i, hi⟩ : ∃ i, l.get i i ≠ none := Classical.not_forall.1 hl
      rw [widenBy_eq_widenStd]
      refine Mat.edges_widenStd_lt (i := i) (j := i) ?_
      rw [Mat.get_ofFn, if_pos rfl]
      cases hg : l.get i i with
      | none => exact absurd hg hi
      | some k => rfl

theorem zmeas_widenE_lt_canon {ew : Zone n → Fin (n + 1) → Fin (n + 1) → W} (hew : SoundEw ew)
    (x y : ZVal n) (h : ZVal.leq y x = false) :
    Prod.Lex (· < ·) (· < ·) (zmeas (widenE ew x y)) (zmeas x) :=
  match x, y, h with
  | none, some _, _ => Prod.Lex.left _ _ (by decide)
  | some _, some _, h => Prod.Lex.right _ (edges_widenBy_lt_canon hew h)

end Zones

namespace RelDom

/-- a domain as the engine sees it: values with a concretisation over the state space `S`, the
    lattice operations, a statement language with its concrete relation and a sound execution -/
structure EngDom (S : Type) where
  A : Type
  γ : A → S → Prop
  ops : Fix.Ops A
  Stmt : Type
  rel : Stmt → S → S → Prop
  exec : Stmt → A → A
  exec_sound : ∀ st a s s', γ a s → rel st s s' → γ (exec st a) s'
  join_left : ∀ a b s, γ a s → γ (ops.join a b) s
  join_right : ∀ a b s, γ b s → γ (ops.join a b) s
  widen_left : ∀ a b s, γ a s → γ (ops.widen a b) s
  widen_right : ∀ a b s, γ b s → γ (ops.widen a b) s
  meet_sound : ∀ a b s, γ a s → γ b s → γ (ops.meet a b) s
  narrow_sound : ∀ a b s, γ a s → γ b s → γ (ops.narrow a b) s
  leq_sound : ∀ a b s, ops.leq a b = true → γ a s → γ b s

namespace EngDom
variable {S : Type} (D : EngDom S)

def execBlock (b : List D.Stmt) (a : D.A) : D.A := b.foldl (fun a st => D.exec st a) a

def BlockRel : List D.Stmt → S → S → Prop
  | [], s, s' => s' = s
  | st :: rest, s, s' => ∃ t, D.rel st s t ∧ BlockRel rest t s'

theorem execBlock_sound : ∀ (b : List D.Stmt) (a : D.A) (s s' : S),
    D.γ a s → D.BlockRel b s s' → D.γ (D.execBlock b a) s' := by
  intro b
  induction b with
  | nil => intro a s s' hg hr; simp only [BlockRel] at hr; subst hr; exact hg
  | cons st rest ih =>
    intro a s s' hg hr
    obtain ⟨t, h1, h2⟩ := hr
    simp only [execBlock, List.foldl_cons]
    exact ih _ t s' (D.exec_sound st a s t hg h1) h2

/-- a context of the iterator whose value type is the domain and whose block transformers are
    blocks of statements -/
def mkCtx (prog : Nat → List D.Stmt) (preds : Nat → List Nat) (nesting : Nat → Option (List Nat))
    (entry : Nat) (init : D.A) (assumptions : Option (List (Nat × D.A))) (delay descending : Nat) :
    Fix.Ctx D.A :=
  { ops := D.ops, analyze := fun n a => D.execBlock (prog n) a, preds := preds, nesting := nesting,
    entry := entry, init := init, assumptions := assumptions, delay := delay, descending := descending }

def sem (prog : Nat → List D.Stmt) (preds : Nat → List Nat) (nesting : Nat → Option (List Nat))
    (entry : Nat) (init : D.A) (assumptions : Option (List (Nat × D.A))) (delay descending : Nat) :
    Fix.Sem (D.mkCtx prog preds nesting entry init assumptions delay descending) S where
  γ := D.γ
  step := fun n s s' => D.BlockRel (prog n) s s'
  analyze_sound := fun n a s s' hg hr => D.execBlock_sound (prog n) a s s' hg hr
  join_left := D.join_left
  join_right := D.join_right
  widen_left := D.widen_left
  widen_right := D.widen_right
  meet_sound := D.meet_sound
  narrow_sound := D.narrow_sound
  leq_sound := D.leq_sound

end EngDom
end RelDom

/-- zones: values `ZVal n`, the exact inclusion test, join and meet of the canonical model, the
    widening of the code for a sound reading `ew` of its right operand, narrowing = meet -/
def Zones.eng (n : Nat) (ew : Zones.Zone n → Fin (n + 1) → Fin (n + 1) → Dbm.W) (hew : Zones.SoundEw ew) :
    RelDom.EngDom (Zones.State n) where
  A := Zones.ZVal n
  γ := Zones.γv
  ops := Zones.ZVal.ops ew
  Stmt := Zones.Stmt n
  rel := Zones.Stmt.rel
  exec := Zones.ZVal.exec
  exec_sound := fun st a s s' hg hr => (Zones.ZVal.exec_exact st a s').2 ⟨s, hg, hr⟩
  join_left := fun a b s h => Zones.ZVal.join_upper a b s (Or.inl h)
  join_right := fun a b s h => Zones.ZVal.join_upper a b s (Or.inr h)
  widen_left := fun a b s h => (Zones.widenE_upper hew a b s).1 h
  widen_right := fun a b s h => (Zones.widenE_upper hew a b s).2 h
  meet_sound := fun a b s h1 h2 => (Zones.ZVal.meet_exact a b s).2 ⟨h1, h2⟩
  narrow_sound := fun a b s h1 h2 => (Zones.ZVal.meet_exact a b s).2 ⟨h1, h2⟩
  leq_sound := fun a b s h hg => (Zones.ZVal.leq_iff a b).1 h s hg

/-- `split_dbm_domain`'s widening -/
def Zones.splitEng (n : Nat) : RelDom.EngDom (Zones.State n) := Zones.eng n Zones.splitEw Zones.splitEw_soundEw
/-- `sparse_dbm_domain`'s widening -/
def Zones.sparseEng (n : Nat) : RelDom.EngDom (Zones.State n) := Zones.eng n Zones.sparseEw Zones.sparseEw_soundEw

/-- octagons: values `OVal n`, the operations of the canonical model, the textbook widening -/
def Octagon.eng (n : Nat) : RelDom.EngDom (Octagon.State n) where
  A := Octagon.OVal n
  γ := Octagon.γv
  ops := Octagon.OVal.ops
  Stmt := Octagon.Stmt n
  rel := Octagon.Stmt.rel
  exec := Octagon.OVal.exec
  exec_sound := fun st a s s' hg hr => Octagon.OVal.exec_sound st a s s' hg hr
  join_left := fun a b s h => Octagon.OVal.join_upper a b s (Or.inl h)
  join_right := fun a b s h => Octagon.OVal.join_upper a b s (Or.inr h)
  widen_left := fun a b s h => Octagon.OVal.widen_upper a b s (Or.inl h)
  widen_right := fun a b s h => Octagon.OVal.widen_upper a b s (Or.inr h)
  meet_sound := fun a b s h1 h2 => (Octagon.OVal.meet_exact a b s).2 ⟨h1, h2⟩
  narrow_sound := fun a b s h1 h2 => (Octagon.OVal.meet_exact a b s).2 ⟨h1, h2⟩
  leq_sound := fun a b s h hg => Octagon.OVal.leq_sound a b h s hg

end Crab
