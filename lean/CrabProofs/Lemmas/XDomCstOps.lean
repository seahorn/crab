import CrabProofs.Lemmas.XDomCst
import CrabProofs.Lemmas.XDomStmt
import CrabProofs.Lemmas.Interval

/-!
  `constant_domain` (model `Crab.CDom`): soundness and invariant preservation of `+=`
  (`propagate`, `solve_constraints`); the class as an instance of the text it shares with the sign
  domain (`XDom.Parts`: `assign`, `weak_assign`, `apply`, `select`, the casts, `entails`); `at` and
  `to_linear_constraint_system`; the environments with the invariant of `separate_domain`, the
  lattice operations on them, and the abstract execution of the statements of `XDom.Stmt`.
-/
namespace Crab
namespace CDom
open XDom Lin

namespace Env

theorem inv_bot : (bot : Env).Inv := XDom.Env.inv_bot
theorem inv_top : (top : Env).Inv := XDom.Env.inv_top
theorem not_γ_of_bot {e : Env} (h : e.isBot = true) (σ : State) : ¬ e.γ σ := XDom.Env.not_γ_of_bot h σ

theorem propagateEqLoop_spec {c : Lin.Cst} (hk : c.kind = .eq) (hc : CstOk c) :
    ∀ (ts : List (Var × Int)), (∀ p ∈ ts, p ∈ c.expr.terms) → ∀ e : Env, e.Inv →
      (propagateEqLoop c ts e).Inv ∧
      ∀ σ : State, c.sat σ → e.γ σ → (propagateEqLoop c ts e).γ σ := by
  intro ts
  induction ts with
  | nil => intro _ e he; exact ⟨he, fun _ _ hg => hg⟩
  | cons p rest ih =>
    intro hsub e he
    obtain ⟨pivot, coef⟩ := p
    simp only [propagateEqLoop]
    have hm : (pivot, coef) ∈ c.expr.terms := hsub _ List.mem_cons_self
    have hlt : pivot < 2 ^ 64 := hc.2 _ hm
    have hne : coef ≠ 0 := hc.1.2 _ hm
    have hrest : ∀ q ∈ rest, q ∈ c.expr.terms := fun q hq => hsub q (List.mem_cons_of_mem _ hq)
    have hinv : (if (!(Crab.Cst.sdiv (e.computeResidual c pivot) (.val coef)).isTop) = true then
        e.set pivot (Crab.Cst.meet (e.get pivot) (Crab.Cst.sdiv (e.computeResidual c pivot) (.val coef))) else e).Inv := by
      split
      · exact set_inv he hlt _
      · exact he
    obtain ⟨i2, s2⟩ := ih hrest _ hinv
    refine ⟨i2, fun σ hsat hg => s2 σ hsat ?_⟩
    split
    · apply set_sound_same he hg hlt
      have hr := residualLoop_sound hg pivot c.expr.terms (.val c.constant) c.constant rfl
      rw [XDom.pivot_value hk hsat hc.1.1 hm] at hr
      have hd := C08.cst_sdiv_sound _ (.val coef) _ coef hr rfl hne
      rw [Int.mul_tdiv_cancel_left _ hne] at hd
      exact (C08.cst_meet_exact _ _ _).mpr ⟨get_mem hg pivot, hd⟩
    · exact hg

theorem propagate_inv {e : Env} (he : e.Inv) {c : Lin.Cst} (hc : CstOk c) : (e.propagate c).Inv := by
  unfold propagate
  split
  · exact he
  · split
    · rename_i hk
      exact (propagateEqLoop_spec hk hc c.expr.terms (fun _ h => h) e he).1
    · split
      · split
        · exact he
        · exact inv_bot
      · exact he

theorem propagate_sound {e : Env} (he : e.Inv) {σ : State} (hg : e.γ σ) {c : Lin.Cst} (hc : CstOk c)
    (hsat : c.sat σ) : (e.propagate c).γ σ := by
  unfold propagate
  simp only [hg.1, Bool.false_eq_true, if_false]
  split
  · rename_i hk
    exact (propagateEqLoop_spec hk hc c.expr.terms (fun _ h => h) e he).2 σ hsat hg
  · rename_i hk
    split
    · rename_i n hn
      have hm := eval_sound hg c.expr
      rw [hn] at hm
      simp only [Crab.Cst.mem] at hm
      split
      · exact hg
      · rename_i hck
        exfalso
        apply hck
        unfold checkCst
        unfold Lin.Cst.sat at hsat
        cases hkk : c.kind <;> rw [hkk] at hsat <;> simp only at hsat ⊢
        · rw [← hm]; simpa using hsat
        · rw [← hm]; simpa using hsat
        · rw [← hm]; simpa using hsat
    · exact hg

theorem solve_spec : ∀ (csts : List Lin.Cst), (∀ c ∈ csts, CstOk c) → ∀ e : Env, e.Inv →
    (solve csts e).Inv ∧ ∀ σ : State, Sys.sat csts σ → e.γ σ → (solve csts e).γ σ := by
  intro csts
  induction csts with
  | nil => intro _ e he; exact ⟨he, fun _ _ hg => hg⟩
  | cons c rest ih =>
    intro hok e he
    have hc := hok c List.mem_cons_self
    have hrest : ∀ c' ∈ rest, CstOk c' := fun c' h => hok c' (List.mem_cons_of_mem _ h)
    simp only [solve]
    split
    · exact ⟨he, fun _ _ hg => hg⟩
    · split
      · obtain ⟨i, s⟩ := ih hrest e he
        exact ⟨i, fun σ hs hg => s σ (fun c' h => hs c' (List.mem_cons_of_mem _ h)) hg⟩
      · split
        · rename_i hcon
          refine ⟨inv_bot, fun σ hs _ => ?_⟩
          exact absurd (hs c List.mem_cons_self) (Lin.Cst.not_sat_of_isContradiction hcon σ)
        · obtain ⟨i, s⟩ := ih hrest _ (propagate_inv he hc)
          exact ⟨i, fun σ hs hg => s σ (fun c' h => hs c' (List.mem_cons_of_mem _ h))
            (propagate_sound he hg hc (hs c List.mem_cons_self))⟩

theorem add_inv {e : Env} (he : e.Inv) {csts : Sys} (hok : ∀ c ∈ csts, CstOk c) : (e.add csts).Inv :=
  (solve_spec csts hok e he).1

theorem add_sound {e : Env} (he : e.Inv) {σ : State} (hg : e.γ σ) {csts : Sys} (hok : ∀ c ∈ csts, CstOk c)
    (hsat : Sys.sat csts σ) : (e.add csts).γ σ := (solve_spec csts hok e he).2 σ hsat hg

end Env

theorem arithEval_sound (op : ArithOp) {yc zc : Crab.Cst} {a b c : Int} (ha : Crab.Cst.mem a yc)
    (hb : Crab.Cst.mem b zc) (hc : op.conc a b = some c) : Crab.Cst.mem c (arithEval op yc zc) := by
  cases op <;> simp only [ArithOp.conc] at hc <;> simp only [arithEval]
  · cases hc; exact C08.cst_add_sound _ _ _ _ ha hb
  · cases hc; exact C08.cst_sub_sound _ _ _ _ ha hb
  · cases hc; exact C08.cst_mul_sound _ _ _ _ ha hb
  · split at hc
    · cases hc
    · rename_i h0; cases hc; exact C08.cst_sdiv_sound _ _ _ _ ha hb h0
  · split at hc
    · rename_i h0; cases hc; exact C08.cst_udiv_sound _ _ _ _ ha hb h0.2
    · cases hc
  · split at hc
    · cases hc
    · rename_i h0; cases hc; exact C08.cst_srem_sound _ _ _ _ ha hb h0
  · split at hc
    · rename_i h0; cases hc; exact C08.cst_urem_sound _ _ _ _ ha hb h0.2
    · cases hc

theorem bitEval_sound (op : BitOp) {yc zc : Crab.Cst} {a b c : Int} (ha : Crab.Cst.mem a yc)
    (hb : Crab.Cst.mem b zc) (hc : op.conc a b = some c) : Crab.Cst.mem c (bitEval op yc zc) := by
  cases op <;> simp only [BitOp.conc] at hc <;> simp only [bitEval]
  · cases hc; exact C08.cst_and_sound _ _ _ _ ha hb
  · cases hc; exact C08.cst_or_sound _ _ _ _ ha hb
  · cases hc; exact C08.cst_xor_sound _ _ _ _ ha hb
  · split at hc
    · rename_i h0; cases hc; exact C08.cst_shl_sound _ _ _ _ ha hb h0.1 h0.2
    · cases hc
  · split at hc
    · rename_i h0; cases hc; exact C08.cst_lshr_sound _ _ _ _ ha hb h0.2.1 h0.2.2
    · cases hc
  · split at hc
    · rename_i h0; cases hc; exact C08.cst_ashr_sound _ _ _ _ ha hb h0.1 h0.2
    · cases hc

def parts : Parts Crab.Cst := ⟨cstLattice, .val, arithEval, bitEval, Env.eval, Env.add, Env.assign⟩

/-- each model function is the common text, by unfolding -/
example (e : Env) (x y z : Var) (k : Int) (ex e1 e2 : Expr) (c : Lin.Cst) (aop : ArithOp) (bop : BitOp)
    (zx : Bool) (bw : Nat) :
    e.assign x ex = parts.assignG e x ex ∧ e.weakAssign x ex = parts.weakAssign e x ex ∧
    e.applyVar aop x y z = parts.applyVar e aop x y z ∧ e.applyCst aop x y k = parts.applyCst e aop x y k ∧
    e.applyBitVar bop x y z = parts.applyBitVar e bop x y z ∧
    e.applyBitCst bop x y k = parts.applyBitCst e bop x y k ∧
    e.select x c e1 e2 = parts.select e x c e1 e2 ∧ e.intCast zx bw x y = parts.intCast e zx bw x y ∧
    e.entails c = parts.entails e c :=
  ⟨rfl, rfl, rfl, rfl, rfl, rfl, rfl, rfl, rfl⟩

theorem scalar : parts.Scalar Crab.Cst.mem :=
  ⟨fun _ => trivial, fun _ => rfl, Env.eval_sound, arithEval_sound, bitEval_sound⟩

theorem sound : parts.Sound Crab.Cst.mem :=
  ⟨cstLaws, Env.add_inv, Env.add_sound, Parts.assignG_inv cstLaws scalar, Parts.assignG_sound cstLaws scalar⟩

namespace Env

theorem assign_sound {e : Env} (he : e.Inv) {σ : State} (hg : e.γ σ) {x : Var} (hx : x < 2 ^ 64) (ex : Expr) :
    (e.assign x ex).γ (upd σ x (ex.eval σ)) := sound.assign_sound he hg hx ex

theorem entails_sound {e : Env} (he : e.Inv) {σ : State} (hg : e.γ σ) {c : Lin.Cst} (hc : CstOk c)
    (h : e.entails c = true) : c.sat σ := Parts.entails_sound sound he hg hc h

theorem atItv_sound {e : Env} {σ : State} (hg : e.γ σ) (x : Var) : Itv.mem (σ x) (e.atItv x) := by
  unfold atItv
  simp only [hg.1, Bool.false_eq_true, if_false]
  have := get_mem hg x
  cases hv : e.get x with
  | bot => rw [hv] at this; exact absurd this (by simp [Crab.Cst.mem])
  | top => exact Itv.mem_top _
  | val n => rw [hv] at this; simp only [Crab.Cst.mem] at this; exact (Itv.mem_single _ _).2 this

theorem bindingCst_sound (k : Var) (v : Crab.Cst) (c : Lin.Cst) (h : bindingCst (k, v) = some c) (σ : State)
    (hm : Crab.Cst.mem (σ k) v) : c.sat σ := by
  unfold bindingCst at h
  cases v with
  | bot => simp at h
  | top => simp at h
  | val n =>
    simp only [Option.some.injEq] at h
    subst h
    simp only [Crab.Cst.mem] at hm
    simp only [Lin.Cst.sat]
    rw [Expr.eval_subNum, Expr.eval_var]
    omega

theorem toCsts_sound {e : Env} (he : e.Inv) {σ : State} (hg : e.γ σ) : Sys.sat e.toCsts σ :=
  XDom.Env.exportCsts_sound bindingCst bindingCst_sound he hg

end Env

def SEnv := { e : Env // e.Inv }

namespace SEnv

def γ (a : SEnv) (σ : State) : Prop := Env.γ a.1 σ
def bot : SEnv := ⟨Env.bot, Env.inv_bot⟩
def top : SEnv := ⟨Env.top, Env.inv_top⟩
def leq (a b : SEnv) : Bool := XDom.Env.leq cstLattice a.1 b.1
def join (a b : SEnv) : SEnv := ⟨XDom.Env.join cstLattice a.1 b.1, XDom.Env.upper_inv cstLaws cstLaws.join a.2 b.2⟩
def widen (a b : SEnv) : SEnv := ⟨XDom.Env.widen cstLattice a.1 b.1, XDom.Env.upper_inv cstLaws cstLaws.widen a.2 b.2⟩
def meet (a b : SEnv) : SEnv := ⟨XDom.Env.meet cstLattice a.1 b.1, XDom.Env.lower_inv cstLaws cstLaws.meet a.2 b.2⟩
def narrow (a b : SEnv) : SEnv := ⟨XDom.Env.narrow cstLattice a.1 b.1, XDom.Env.lower_inv cstLaws cstLaws.narrow a.2 b.2⟩

end SEnv

def exec : Stmt → Env → Env
  | .assign x e, a => a.assign x e
  | .weakAssign x e, a => a.weakAssign x e
  | .arithVar op x y z, a => a.applyVar op x y z
  | .arithCst op x y k, a => a.applyCst op x y k
  | .bitVar op x y z, a => a.applyBitVar op x y z
  | .bitCst op x y k, a => a.applyBitCst op x y k
  | .assume csts, a => a.add csts
  | .select lhs c e1 e2, a => a.select lhs c e1 e2
  | .forget x, a => XDom.Env.forget cstLattice a x
  | .havoc vs, a => XDom.Env.forgetAll cstLattice a vs
  | .project vs, a => XDom.Env.project cstLattice a vs
  | .expand x nx, a => XDom.Env.expand cstLattice a x nx
  | .cast z bw d s, a => a.intCast z bw d s

theorem exec_eq (st : Stmt) (a : Env) : exec st a = parts.exec st a := by cases st <;> rfl

theorem exec_inv (st : Stmt) (hok : st.Ok) {a : Env} (h : a.Inv) : (exec st a).Inv :=
  exec_eq st a ▸ Parts.exec_inv sound scalar st hok h

theorem exec_sound (st : Stmt) (hok : st.Ok) {a : Env} (ha : a.Inv) {s s' : State} (hg : a.γ s)
    (hr : st.rel s s') : (exec st a).γ s' := exec_eq st a ▸ Parts.exec_sound sound scalar st hok ha hg hr

def execS (st : Stmt) (hok : st.Ok) (a : SEnv) : SEnv := ⟨exec st a.1, exec_inv st hok a.2⟩

end CDom
end Crab
