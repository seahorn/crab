import CrabModel.Dom.OctagonOps
import CrabProofs.Lemmas.RelDomMat
import CrabProofs.Lemmas.OctComplete

/-!
  The operations of `CrabModel/Dom/OctagonOps.lean` on the canonical integer-octagon model.
  Every statement, the inclusion test and the widening are sound on ALL matrices.  Coherence
  (`m i j = m j̄ ī`) is an invariant of every operation, and on coherent matrices every statement is
  the EXACT post-image, the inclusion / bottom / top tests are exact and the join is the least upper
  bound (from `Octagon.sound` and `Octagon.laws`, `Lemmas/OctClose.lean`, `Lemmas/OctComplete.lean`).
-/
namespace Crab
namespace Octagon
open Dbm RelDom

variable {n : Nat}

theorem varOf_ne_of_ne {x : Fin n} {i : Fin (2 * n)} (h1 : i ≠ pos x) (h2 : i ≠ neg x) : varOf i ≠ x := by
  intro e
  have e' : varOf i = varOf (pos x) := by rw [varOf_pos]; exact e
  rcases lit_cases e' with h | h
  · exact h1 h
  · rw [bar_pos] at h; exact h2 h


theorem ext_shiftVec (σ' : State n) (x : Fin n) (k : Int) :
    (fun i => ext σ' i - shiftVec x k i) = ext (updS σ' x (σ' x - k)) := by
  funext i
  by_cases h1 : i = pos x
  · subst h1; simp [shiftVec, ext_pos, updS]
  · by_cases h2 : i = neg x
    · subst h2
      have := pos_ne_neg x
      simp [shiftVec, ext_neg, updS, this.symm]; omega
    · rw [ext_updS_of_ne _ _ _ _ (varOf_ne_of_ne h1 h2)]
      simp [shiftVec, h1, h2]

theorem swapLit_swapLit (x : Fin n) (i : Fin (2 * n)) : swapLit x (swapLit x i) = i := by
  unfold swapLit
  by_cases h : varOf i = x
  · simp [h, varOf_bar, bar_bar]
  · simp [h]

theorem swapLit_bar (x : Fin n) (i : Fin (2 * n)) : swapLit x (bar i) = bar (swapLit x i) := by
  unfold swapLit
  rw [varOf_bar]
  split <;> rfl

theorem ext_swapLit (σ' : State n) (x : Fin n) :
    (fun i => ext σ' (swapLit x i)) = ext (updS σ' x (-σ' x)) := by
  funext i
  unfold swapLit
  by_cases h : varOf i = x
  · simp only [h, if_true]
    rw [ext_bar]
    have e' : varOf i = varOf (pos x) := by rw [varOf_pos]; exact h
    rcases lit_cases e' with rfl | rfl
    · simp [ext_pos, updS]
    · rw [bar_pos]; simp [ext_neg, updS]
  · simp only [h, if_false]
    rw [ext_updS_of_ne _ _ _ _ h]

/-- `x := x + k` on the matrix: the states are translated -/
theorem shift_γ (o : Oct n) (x : Fin n) (k : Int) (σ' : State n) :
    γ (o.shiftBy (shiftVec x k)) σ' ↔ γ o (updS σ' x (σ' x - k)) := by
  unfold γ
  rw [Mat.shiftBy_sat, ext_shiftVec]

/-- `x := -x` on the matrix -/
theorem negate_γ (o : Oct n) (x : Fin n) (σ' : State n) :
    γ (negate o x) σ' ↔ γ o (updS σ' x (-σ' x)) := by
  unfold γ negate
  rw [Mat.permute_sat _ _ (swapLit_swapLit x), ext_swapLit]

/-- `x := x + k`: exact on every matrix -/
theorem shift_exact (o : Oct n) (x : Fin n) (k : Int) (σ' : State n) :
    γ (o.shiftBy (shiftVec x k)) σ' ↔ ∃ σ, γ o σ ∧ σ' = updS σ x (σ x + k) :=
  (shift_γ o x k σ').trans
    (bij_post (P := γ o) (f := (· + k)) (g := (· - k)) (fun t => by omega) (fun t => by omega) σ')

/-- `x := -x + k`: exact on every matrix -/
theorem negate_shift_exact (o : Oct n) (x : Fin n) (k : Int) (σ' : State n) :
    γ ((negate o x).shiftBy (shiftVec x k)) σ' ↔ ∃ σ, γ o σ ∧ σ' = updS σ x (-σ x + k) := by
  rw [shift_γ, negate_γ, show updS (updS σ' x (σ' x - k)) x (-updS σ' x (σ' x - k) x)
    = updS σ' x (-(σ' x - k)) by rw [show updS σ' x (σ' x - k) x = σ' x - k from upd_same ..]; exact upd_upd ..]
  exact bij_post (P := γ o) (f := fun t => -t + k) (g := fun t => -(t - k))
    (fun t => by omega) (fun t => by omega) σ'


/-- `r` is `o` after `x := e`, computed in one of the two ways of the model: an invertible update of
    `x` done on the matrix, exact on every matrix; or "forget `x`, then assume constraints that say
    `x = e`", for an `e` that does not read `x`.  Either way it is sound on every matrix and exact on
    the coherent ones. -/
inductive Assigns (o : Oct n) (x : Fin n) (e : State n → Int) (r : Oct n) : Prop
  | onMatrix (h : ∀ σ', γ r σ' ↔ ∃ σ, γ o σ ∧ σ' = updS σ x (e σ))
  | viaForget (he : ∀ σ t, e (updS σ x t) = e σ)
      (h : ∀ σ', γ r σ' ↔ (γ (forget o x) σ' ∧ σ' x = e σ'))

theorem Assigns.sound {o r : Oct n} {x : Fin n} {e : State n → Int} (h : Assigns o x e r)
    {σ : State n} (hσ : γ o σ) : γ r (updS σ x (e σ)) := by
  cases h with
  | onMatrix h => exact (h _).2 ⟨σ, hσ, rfl⟩
  | viaForget he h =>
    exact (h _).2 ⟨(Octagon.sound n).forget_sound o x σ _ hσ fun _ hy => upd_ne σ _ hy,
      (upd_same σ x _).trans (he σ _).symm⟩

theorem Assigns.exact {o r : Oct n} {x : Fin n} {e : State n → Int} (h : Assigns o x e r)
    (hco : Coherent o) (σ' : State n) : γ r σ' ↔ ∃ σ, γ o σ ∧ σ' = updS σ x (e σ) := by
  cases h with
  | onMatrix h => exact h σ'
  | viaForget he h => exact (h σ').trans ((Octagon.laws n).assign_post hco x e he σ')

theorem assigns_of_says (o : Oct n) (x : Fin n) {cs : List (Cst n)} {e : State n → Int}
    (he : ∀ σ t, e (updS σ x t) = e σ) (hcs : ∀ σ', (∀ c ∈ cs, c.sat σ') ↔ σ' x = e σ') :
    Assigns o x e (assumeAll (forget o x) cs) :=
  .viaForget he fun σ' => (assumeAll_exact _ cs σ').trans (and_congr_right fun _ => hcs σ')

theorem assignCst_says (x : Fin n) (k : Int) (σ' : State n) :
    (∀ c ∈ [Cst.ub x k, .lb x (-k)], c.sat σ') ↔ σ' x = k := by simp [Cst.sat]; omega

theorem assignVar_says (x y : Fin n) (k : Int) (σ' : State n) :
    (∀ c ∈ [Cst.diff x y k, .diff y x (-k)], c.sat σ') ↔ σ' x = σ' y + k := by simp [Cst.sat]; omega

theorem assignNeg_says (x y : Fin n) (k : Int) (σ' : State n) :
    (∀ c ∈ [Cst.sum x y k, .nsum x y (-k)], c.sat σ') ↔ σ' x = -σ' y + k := by simp [Cst.sat]; omega

theorem read_other {x y : Fin n} (h : x ≠ y) (σ : State n) (t : Int) : updS σ x t y = σ y :=
  upd_ne σ t (Ne.symm h)

theorem assignCst_assigns (o : Oct n) (x : Fin n) (k : Int) :
    Assigns o x (fun _ => k) (assignCst o x k) :=
  assigns_of_says o x (fun _ _ => rfl) (assignCst_says x k)

theorem assignVar_assigns (o : Oct n) (x y : Fin n) (k : Int) :
    Assigns o x (fun σ => σ y + k) (assignVar o x y k) := by
  unfold assignVar
  split
  · rename_i e; subst e; exact .onMatrix (shift_exact o x k)
  · rename_i hne
    exact assigns_of_says o x (fun σ t => by rw [read_other hne]) (assignVar_says x y k)

theorem assignNeg_assigns (o : Oct n) (x y : Fin n) (k : Int) :
    Assigns o x (fun σ => -σ y + k) (assignNeg o x y k) := by
  unfold assignNeg
  split
  · rename_i e; subst e; exact .onMatrix (negate_shift_exact o x k)
  · rename_i hne
    exact assigns_of_says o x (fun σ t => by rw [read_other hne]) (assignNeg_says x y k)


/-- **every statement is sound** (no hypothesis on the matrix) -/
theorem Stmt.exec_sound (st : Stmt n) (o : Oct n) (σ σ' : State n) (h : γ o σ) (hr : st.rel σ σ') :
    γ (st.exec o) σ' := by
  cases st with
  | assume cs =>
    obtain ⟨rfl, hc⟩ := hr
    exact (assumeAll_exact o cs _).2 ⟨h, hc⟩
  | assignCst x k => cases hr; exact (assignCst_assigns o x k).sound h
  | assignVar x y k => cases hr; exact (assignVar_assigns o x y k).sound h
  | assignNeg x y k => cases hr; exact (assignNeg_assigns o x y k).sound h
  | havoc x => exact (sound n).forget_sound o x σ σ' h hr
  | forget xs => exact (sound n).forgetAll_sound xs o σ σ' h hr
  | project keep => exact (sound n).project_sound keep o σ σ' h hr

/-- **every statement is the exact post-image on coherent matrices** (best transformer) -/
theorem Stmt.exec_exact (st : Stmt n) (o : Oct n) (hco : Coherent o) (σ' : State n) :
    γ (st.exec o) σ' ↔ ∃ σ, γ o σ ∧ st.rel σ σ' := by
  cases st with
  | assume cs =>
    exact (assumeAll_exact o cs σ').trans
      ⟨fun ⟨h, hc⟩ => ⟨σ', h, rfl, hc⟩, fun ⟨_, h, e, hc⟩ => e ▸ ⟨h, hc⟩⟩
  | assignCst x k => exact (assignCst_assigns o x k).exact hco σ'
  | assignVar x y k => exact (assignVar_assigns o x y k).exact hco σ'
  | assignNeg x y k => exact (assignNeg_assigns o x y k).exact hco σ'
  | havoc x => exact (laws n).forget_post hco x σ'
  | forget xs => exact (laws n).forgetAll_post xs hco σ'
  | project keep => exact (laws n).project_post keep hco σ'


theorem shiftVec_bar (x : Fin n) (k : Int) (i : Fin (2 * n)) : shiftVec x k (bar i) = - shiftVec x k i := by
  have hpn := pos_ne_neg x
  by_cases h1 : i = pos x
  · subst h1; rw [bar_pos]; simp [shiftVec, hpn.symm]
  · by_cases h2 : i = neg x
    · subst h2; rw [bar_neg]; simp [shiftVec, hpn.symm]
    · have h3 : bar i ≠ pos x := fun e => h2 (by rw [← bar_bar i, e, bar_pos])
      have h4 : bar i ≠ neg x := fun e => h1 (by rw [← bar_bar i, e, bar_neg])
      simp [shiftVec, h1, h2, h3, h4]

theorem shiftBy_coherent (o : Oct n) (d : Fin (2 * n) → Int) (hd : ∀ i, d (bar i) = - d i)
    (h : Coherent o) : Coherent (o.shiftBy d) := by
  intro i j
  simp only [Mat.shiftBy, Mat.get_ofFn]
  rw [h i j, hd i, hd j]
  congr 2; omega

theorem negate_coherent (o : Oct n) (x : Fin n) (h : Coherent o) : Coherent (negate o x) := by
  intro i j
  simp only [negate, Mat.permute, Mat.get_ofFn]
  rw [swapLit_bar, swapLit_bar]
  exact h _ _

theorem assignCst_coherent (o : Oct n) (x : Fin n) (k : Int) (h : Coherent o) : Coherent (assignCst o x k) :=
  assumeAll_coherent _ _ (forget_coherent o x h)

theorem assignVar_coherent (o : Oct n) (x y : Fin n) (k : Int) (h : Coherent o) :
    Coherent (assignVar o x y k) := by
  unfold assignVar
  split
  · exact shiftBy_coherent o _ (shiftVec_bar x k) h
  · exact assumeAll_coherent _ _ (forget_coherent o x h)

theorem assignNeg_coherent (o : Oct n) (x y : Fin n) (k : Int) (h : Coherent o) :
    Coherent (assignNeg o x y k) := by
  unfold assignNeg
  split
  · exact shiftBy_coherent _ _ (shiftVec_bar x k) (negate_coherent o x h)
  · exact assumeAll_coherent _ _ (forget_coherent o x h)

theorem Stmt.exec_coherent (st : Stmt n) (o : Oct n) (h : Coherent o) : Coherent (st.exec o) := by
  cases st with
  | assume cs => exact assumeAll_coherent o cs h
  | assignCst x k => exact assignCst_coherent o x k h
  | assignVar x y k => exact assignVar_coherent o x y k h
  | assignNeg x y k => exact assignNeg_coherent o x y k h
  | havoc x => exact forget_coherent o x h
  | forget xs => exact (laws n).inv_forgetAll xs h
  | project keep => exact (laws n).inv_forgetAll _ h

theorem widenStd_coherent (l c : Oct n) (hl : Coherent l) (hc : Coherent c) : Coherent (Mat.widenStd l c) := by
  intro i j
  simp only [Mat.widenStd, Mat.get_ofFn]
  rw [hl i j, hc i j]


namespace OVal

theorem exec_sound (st : Stmt n) (v : OVal n) (σ σ' : State n) (h : γv v σ) (hr : st.rel σ σ') :
    γv (exec st v) σ' :=
  match v, h with
  | some o, h => Stmt.exec_sound st o σ σ' h hr

theorem isBottom_sound (v : OVal n) (h : isBottom v = true) (σ : State n) : ¬ γv v σ :=
  match v, h with
  | none, _ => id
  | some o, h => fun hσ => bottom_sound o h ⟨σ, hσ⟩

theorem isTop_sound (v : OVal n) (h : isTop v = true) (σ : State n) : γv v σ :=
  match v, h with
  | some _, h => (sound n).leq_sound h (top_γ σ)

theorem leq_sound (a b : OVal n) (h : leq a b = true) (σ : State n) (hσ : γv a σ) : γv b σ :=
  match a, b, h, hσ with
  | some x, none, h, hσ => absurd ⟨σ, hσ⟩ (bottom_sound x h)
  | some x, some y, h, hσ => Octagon.leq_sound x y h σ hσ

theorem leq_refl (a : OVal n) : leq a a = true :=
  match a with
  | none => rfl
  | some x => (sound n).leq_refl x

theorem leq_top (a : OVal n) : leq a top = true :=
  match a with
  | none => rfl
  | some x => Canon.leq_top close x

theorem join_upper (a b : OVal n) (σ : State n) (h : γv a σ ∨ γv b σ) : γv (join a b) σ :=
  match a, b, h with
  | none, _, h => h.resolve_left id
  | some _, none, h => h.resolve_right id
  | some x, some y, h => Octagon.join_upper x y σ h

theorem meet_exact (a b : OVal n) (σ : State n) : γv (meet a b) σ ↔ (γv a σ ∧ γv b σ) :=
  match a, b with
  | none, _ => ⟨False.elim, fun h => h.1⟩
  | some _, none => ⟨False.elim, fun h => h.2⟩
  | some x, some y => Octagon.meet_exact x y σ

theorem widen_upper (a b : OVal n) (σ : State n) (h : γv a σ ∨ γv b σ) : γv (widen a b) σ :=
  match a, b, h with
  | none, _, h => h.resolve_left id
  | some _, none, h => h.resolve_right id
  | some l, some r, h => by
    simp only [widen]
    split
    · rename_i hb
      exact h.resolve_right fun h => bottom_sound r hb ⟨σ, h⟩
    · rcases h with h | h
      · exact Mat.widenStd_sat_left _ _ _ h
      · exact Mat.widenStd_sat_right _ _ _ ((close_preserves_γ r σ).2 h)

/-- the invariant of the values: the matrix is coherent -/
def Coh : OVal n → Prop
  | none => True
  | some o => Coherent o

theorem coh_top : Coh (top : OVal n) := top_coherent
theorem coh_bot : Coh (bot : OVal n) := trivial

theorem coh_exec (st : Stmt n) (v : OVal n) (h : Coh v) : Coh (exec st v) :=
  match v, h with
  | none, _ => trivial
  | some o, h => Stmt.exec_coherent st o h

theorem coh_join (a b : OVal n) (ha : Coh a) (hb : Coh b) : Coh (join a b) :=
  match a, b, ha, hb with
  | none, _, _, hb => hb
  | some _, none, ha, _ => ha
  | some x, some y, ha, hb => join_coherent x y ha hb

theorem coh_meet (a b : OVal n) (ha : Coh a) (hb : Coh b) : Coh (meet a b) :=
  match a, b, ha, hb with
  | none, _, _, _ => trivial
  | some _, none, _, _ => trivial
  | some x, some y, ha, hb => meet_coherent x y ha hb

theorem coh_widen (a b : OVal n) (ha : Coh a) (hb : Coh b) : Coh (widen a b) :=
  match a, b, ha, hb with
  | none, _, _, hb => hb
  | some _, none, ha, _ => ha
  | some l, some r, ha, hb => by
    simp only [widen]
    split
    · exact ha
    · rename_i hbot
      exact widenStd_coherent l _ ha (close_tightClosed r hb (by simpa using hbot)).coh


theorem exec_exact (st : Stmt n) (v : OVal n) (hco : Coh v) (σ' : State n) :
    γv (exec st v) σ' ↔ ∃ σ, γv v σ ∧ st.rel σ σ' :=
  match v, hco with
  | none, _ => ⟨False.elim, fun ⟨_, h, _⟩ => h⟩
  | some o, hco => Stmt.exec_exact st o hco σ'

theorem isBottom_iff (v : OVal n) (hco : Coh v) : isBottom v = true ↔ ∀ σ, ¬ γv v σ :=
  match v, hco with
  | none, _ => ⟨fun _ _ h => h, fun _ => rfl⟩
  | some _, hco => (laws n).isBottom_iff hco

theorem isTop_iff (v : OVal n) : isTop v = true ↔ ∀ σ, γv v σ :=
  match v with
  | none => ⟨fun h => (nomatch h), fun h => (h fun _ => 0).elim⟩
  | some o => (laws n).top_leq_iff top_coherent o

theorem leq_iff (a b : OVal n) (hca : Coh a) : leq a b = true ↔ ∀ σ, γv a σ → γv b σ :=
  match a, b, hca with
  | none, _, _ => ⟨fun _ _ h => h.elim, fun _ => rfl⟩
  | some _, none, hca => (laws n).isBottom_iff hca
  | some _, some y, hca => (laws n).leq_iff hca y

theorem join_least (a b c : OVal n) (hca : Coh a) (hcb : Coh b)
    (ha : ∀ σ, γv a σ → γv c σ) (hb : ∀ σ, γv b σ → γv c σ)
    (σ : State n) (h : γv (join a b) σ) : γv c σ := by
  cases a with
  | none => exact hb σ h
  | some x =>
    cases b with
    | none => exact ha σ h
    | some y =>
      cases c with
      | some w => exact Octagon.join_least x y w hca hcb ha hb σ h
      | none =>
        -- `x` describes no state, so the join is `y`
        have hx : Octagon.isBottom x = true := ((laws n).isBottom_iff hca).2 ha
        have : join (some x) (some y) = some y := by simp [join, Octagon.join, hx]
        rw [this] at h; exact hb σ h

end OVal

end Octagon
end Crab
