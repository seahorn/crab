import CrabProofs.Lemmas.WtoStep

/-!
  Total correctness of `visitLoop` / `component` and of the constructor: with the fuel `Wto.fuel g`
  the run terminates without CRAB_ERROR and places exactly the nodes reachable from the entry.

  Two measures: the chain measure `phi` (remaining successors of the frames + weight of the free
  nodes of the region) drops at every iteration of `visitLoop`; the nesting measure `lvl` (number
  of free nodes of the region) drops at every nested call of `component`.
-/
namespace Crab
namespace Wto

/-! ### one-step unfolding equations of `visitLoop` / `component` (one per branch of the C++ code)

The fuel is a successor, so both sides agree by computation once the tests are decided. -/

section
variable (g : Graph) (f : Nat) (fr : Frame) (vs : List Frame) (ln : List Nat) (part : List WtoC) (st : St)

theorem visitLoop_nil : visitLoop g (f + 1) [] ln part st = .done (part, st) := rfl

theorem visitLoop_inf {child : Nat} {rest : List Nat} (hs : fr.succs = child :: rest)
    (hd : getDfn st.dfn child = .inf) :
    visitLoop g (f + 1) (fr :: vs) ln part st =
      visitLoop g f ({ fr with succs := rest } :: vs) ln part st := by
  show (match fr.succs with | _ :: _ => _ | [] => _) = _
  simp only [hs, hd]

theorem visitLoop_discover {child : Nat} {rest : List Nat} (hs : fr.succs = child :: rest)
    (hd : getDfn st.dfn child = .fin 0) :
    visitLoop g (f + 1) (fr :: vs) ln part st =
      visitLoop g f ({ node := child, succs := g.succ child, min := st.num + 1 } ::
        { fr with succs := rest } :: vs) ln part (discover st child) := by
  show (match fr.succs with | _ :: _ => _ | [] => _) = _
  simp only [hs, hd, if_true]; rfl

theorem visitLoop_lower {child : Nat} {rest : List Nat} {k : Nat} (hs : fr.succs = child :: rest)
    (hd : getDfn st.dfn child = .fin k) (hk0 : k ≠ 0) (hk : k ≤ fr.min) :
    visitLoop g (f + 1) (fr :: vs) ln part st =
      visitLoop g f ({ fr with succs := rest, min := k } :: vs) (child :: ln) part st := by
  show (match fr.succs with | _ :: _ => _ | [] => _) = _
  simp only [hs, hd, hk0, hk, if_true, if_false]

theorem visitLoop_skip {child : Nat} {rest : List Nat} {k : Nat} (hs : fr.succs = child :: rest)
    (hd : getDfn st.dfn child = .fin k) (hk0 : k ≠ 0) (hk : ¬ k ≤ fr.min) :
    visitLoop g (f + 1) (fr :: vs) ln part st =
      visitLoop g f ({ fr with succs := rest } :: vs) ln part st := by
  show (match fr.succs with | _ :: _ => _ | [] => _) = _
  simp only [hs, hd, hk0, hk, if_false]

theorem visitLoop_nonroot (hs : fr.succs = []) (hr : ¬ getDfn st.dfn fr.node = .fin fr.min) :
    visitLoop g (f + 1) (fr :: vs) ln part st = visitLoop g f (propagate vs fr.min) ln part st := by
  show (match fr.succs with | _ :: _ => _ | [] => _) = _
  simp only [hs, hr, if_false]

theorem visitLoop_vertex {el : Nat} {stack1 : List Nat} (hs : fr.succs = [])
    (hr : getDfn st.dfn fr.node = .fin fr.min) (hst : st.stack = el :: stack1)
    (hl : ln.contains fr.node = false) :
    visitLoop g (f + 1) (fr :: vs) ln part st =
      visitLoop g f (propagate vs fr.min) ln (.vertex fr.node :: part)
        { st with dfn := setDfn st.dfn fr.node .inf, stack := stack1 } := by
  show (match fr.succs with | _ :: _ => _ | [] => _) = _
  simp only [hs, hr, hst, hl, if_true]; rfl

theorem visitLoop_cycle {el : Nat} {stack1 stack2 : List Nat} {dfn2 : Array Dfn} {body : List WtoC}
    {st3 : St} (hs : fr.succs = [])
    (hr : getDfn st.dfn fr.node = .fin fr.min) (hst : st.stack = el :: stack1)
    (hl : ln.contains fr.node = true)
    (hp : popLoop fr.node el stack1 (setDfn st.dfn fr.node .inf) = some (stack2, dfn2))
    (hc : component g f (g.succ fr.node) [] { st with dfn := dfn2, stack := stack2 } = .done (body, st3)) :
    visitLoop g (f + 1) (fr :: vs) ln part st =
      visitLoop g f (propagate vs fr.min) ln (.cycle fr.node body :: part) st3 := by
  show (match fr.succs with | _ :: _ => _ | [] => _) = _
  simp only [hs, hr, hst, hl, if_true, hp, hc]

theorem component_nil : component g (f + 1) [] part st = .done (part, st) := rfl

theorem component_skip {s : Nat} {rest : List Nat} (hd : ¬ getDfn st.dfn s = .fin 0) :
    component g (f + 1) (s :: rest) part st = component g f rest part st :=
  if_neg hd

theorem component_visit {s : Nat} {rest : List Nat} {part' : List WtoC} {st'' : St}
    (hd : getDfn st.dfn s = .fin 0)
    (hv : visitLoop g f [{ node := s, succs := g.succ s, min := st.num + 1 }] [] part (discover st s)
      = .done (part', st'')) :
    component g (f + 1) (s :: rest) part st = component g f rest part' st'' := by
  show (if getDfn st.dfn s = .fin 0 then _ else _) = _
  rw [if_pos hd]
  show (match visitLoop g f [{ node := s, succs := g.succ s, min := st.num + 1 }] [] part (discover st s) with
    | .done (part', st'') => component g f rest part' st'' | .err => .err | .nofuel => .nofuel) = _
  rw [hv]

end

variable {g : Graph} {K : Nat → Prop} {st0 : St} {part0 : List WtoC} {v : Nat}
  {p : GF} {gs : List GF} {ln : List Nat} {part : List WtoC} {st : St} {W : List WtoC}

def wt (g : Graph) (l : List Nat) : Nat := (l.map (fun x => (g.succ x).length + 2)).sum

def framesWt (vs : List Frame) : Nat := (vs.map (fun f => f.succs.length + 1)).sum

noncomputable def phi (g : Graph) (K : Nat → Prop) (vs : List Frame) (st : St) : Nat :=
  framesWt vs + wt g (freeList K st)

noncomputable def lvl (K : Nat → Prop) (st : St) : Nat := (freeList K st).length

def totalWt (g : Graph) : Nat := g.edges + 2 * g.n

/-- fuel consumed per nesting level.  The fuel bounds the length of a chain of nested calls.  With
    `T = totalWt g`: inside one call of `visit` the chain is one `visitLoop` run, at most `phi + 1 ≤ T`
    links (`VisitSpec.enter`); a root in `loop_nodes` continues it with the loop of `component` over its
    `d` successors, `d + 1 ≤ T` links (`deg_le_totalWt`), each of which may enter `visit` one level
    down (`fuel_component`).  That is less than `2 T + 2` per level, and there are at most `n` levels
    (`lvl_le_size`, `Inv.lvl_root_lt`): `fuel_enough`. -/
def levelCost (g : Graph) : Nat := 2 * totalWt g + 2

theorem wt_cons (g : Graph) (a : Nat) (l : List Nat) : wt g (a :: l) = (g.succ a).length + 2 + wt g l := rfl

theorem wt_append (g : Graph) (l₁ l₂ : List Nat) : wt g (l₁ ++ l₂) = wt g l₁ + wt g l₂ := by
  simp [wt]

theorem framesWt_cons (f : Frame) (vs : List Frame) : framesWt (f :: vs) = f.succs.length + 1 + framesWt vs := rfl

theorem wt_le_of_subset (g : Graph) : ∀ {l₁ l₂ : List Nat}, l₁.Nodup → l₁ ⊆ l₂ → wt g l₁ ≤ wt g l₂
  | [], _, _, _ => Nat.zero_le _
  | a :: l₁, l₂, hn, hs => by
    obtain ⟨s, t, rfl⟩ := List.append_of_mem (hs (List.mem_cons_self ..))
    obtain ⟨ha, hn'⟩ := List.nodup_cons.1 hn
    have hsub : l₁ ⊆ s ++ t := by
      intro x hx
      have hxa : x ≠ a := fun e => ha (e ▸ hx)
      have := hs (List.mem_cons_of_mem _ hx)
      simp only [List.mem_append, List.mem_cons, hxa, false_or] at this ⊢
      exact this
    have ih := wt_le_of_subset g hn' hsub
    simp only [wt_append, wt_cons] at ih ⊢
    omega

theorem wt_range (g : Graph) : wt g (List.range g.n) = totalWt g := by
  have : ∀ l : List Nat, wt g l = (l.map (fun u => (g.succ u).length)).sum + 2 * l.length := by
    intro l; induction l with
    | nil => rfl
    | cons a l ih => simp only [wt_cons, List.map_cons, List.sum_cons, List.length_cons, ih]; omega
  rw [this, totalWt, Graph.edges, List.length_range]

theorem wt_free_le_total (g : Graph) (K : Nat → Prop) (st : St) (hsz : st.dfn.size = g.n) :
    wt g (freeList K st) ≤ totalWt g := by
  rw [← wt_range g, ← hsz]
  exact wt_le_of_subset g (nodup_freeList K st) fun x hx => List.mem_range.2 (mem_freeList.1 hx).1

theorem deg_le_totalWt (g : Graph) {c : Nat} (hc : c < g.n) : (g.succ c).length + 2 ≤ totalWt g := by
  have := wt_le_of_subset g (l₁ := [c]) (l₂ := List.range g.n) (by simp) (by simpa using hc)
  rwa [wt_range] at this

theorem wt_free_discover (g : Graph) {K : Nat → Prop} {st : St} {child : Nat} (hk : K child)
    (h0 : getDfn st.dfn child = .fin 0) (hsz : child < st.dfn.size) :
    wt g (freeList K (discover st child)) + ((g.succ child).length + 2) ≤ wt g (freeList K st) := by
  have hd : getDfn (discover st child).dfn child ≠ .fin 0 := by
    rw [getDfn_discover st child child hsz, if_pos rfl]; exact fun e => nomatch e
  have hsub : freeList K (discover st child) ⊆ freeList K st :=
    freeList_subset (l := [child]) (by simp [discover]) (fun x hx => by rw [List.mem_singleton.1 hx]; exact hd)
      fun x hx => by rw [getDfn_discover st child x hsz, if_neg (by simpa using hx)]
  have := wt_le_of_subset g (l₁ := child :: freeList K (discover st child)) (l₂ := freeList K st)
    (List.nodup_cons.2 ⟨fun hc => hd (mem_freeList.1 hc).2.2, nodup_freeList ..⟩)
    (List.cons_subset.2 ⟨mem_freeList.2 ⟨hsz, hk, h0⟩, hsub⟩)
  rw [wt_cons] at this
  omega

theorem lvl_le_of_placed {st1 : St} (hP : Placed g K st0 W st1) : lvl K st1 ≤ lvl K st0 :=
  (nodup_freeList K st1).length_le_of_subset
    (freeList_subset hP.size_eq (fun x hx => by rw [hP.dfn_W x hx]; exact fun e => nomatch e) hP.dfn_other)

theorem lvl_le_size (K : Nat → Prop) (st : St) : lvl K st ≤ st.dfn.size := by
  have := (nodup_freeList K st).length_le_of_subset (l₂ := List.range st.dfn.size)
    fun x hx => List.mem_range.2 (mem_freeList.1 hx).1
  rwa [List.length_range] at this

/-- the region handed to `component` has strictly fewer free nodes: the root is not in it -/
theorem Inv.lvl_root_lt (h : Inv g K st0 part0 v (p :: gs) ln part st W) (hK : ClosedK g K st0)
    (stack2 : List Nat) : lvl (fun x => x ∈ p.above) (rootState st p stack2) < lvl K st0 := by
  have hin : ∀ x ∈ stk (p :: gs), x ∈ freeList K st0 := fun x hx =>
    mem_freeList.2 ⟨(hK x (h.stk_K x hx).1).1, h.stk_K x hx⟩
  exact List.Nodup.length_le_of_subset (l₁ := p.f.node :: freeList (fun x => x ∈ p.above) (rootState st p stack2))
    (List.nodup_cons.2 ⟨fun hc => h.node_not_above (mem_freeList.1 hc).2.1, nodup_freeList ..⟩)
    (List.cons_subset.2 ⟨hin _ (node_mem_stk p gs), fun x hx => hin x (above_mem_stk (mem_freeList.1 hx).2.1)⟩)

theorem phi_examined {child : Nat} {rest : List Nat} (hs : p.f.succs = child :: rest) (m : Nat) :
    phi g K ((p.examined child rest m :: gs).map (·.f)) st < phi g K ((p :: gs).map (·.f)) st := by
  simp only [phi, List.map_cons, framesWt_cons, GF.examined, hs, List.length_cons]
  omega

theorem phi_discover {child : Nat} {rest : List Nat} (hs : p.f.succs = child :: rest) (m n : Nat)
    (hk : K child) (h0 : getDfn st.dfn child = .fin 0) (hsz : child < st.dfn.size) :
    phi g K ((GF.fresh g child n :: p.examined child rest m :: gs).map (·.f)) (discover st child) <
      phi g K ((p :: gs).map (·.f)) st := by
  have := wt_free_discover g hk h0 hsz
  simp only [phi, List.map_cons, framesWt_cons, GF.examined, GF.fresh, hs, List.length_cons]
  omega

theorem phi_merged {q : GF} (hs : p.f.succs = []) :
    phi g K ((q.merged p :: gs).map (·.f)) st < phi g K ((p :: q :: gs).map (·.f)) st := by
  simp only [phi, List.map_cons, framesWt_cons, GF.merged, hs, List.length_nil]
  omega

theorem phi_pop {st' : St} (hfl : freeList K st' ⊆ freeList K st) :
    phi g K (gs.map (·.f)) st' < phi g K ((p :: gs).map (·.f)) st := by
  have := wt_le_of_subset g (nodup_freeList K st') hfl
  simp only [phi, List.map_cons, framesWt_cons]
  omega

theorem propagate_merged (q p : GF) (vs : List Frame) :
    propagate (q.f :: vs) p.f.min = (q.merged p).f :: vs := by
  simp only [propagate, GF.merged]
  split <;> rfl

theorem Inv.propagate_root (h : Inv g K st0 part0 v (p :: gs) ln part st W)
    (hroot : p.f.min = dn st.dfn p.f.node) : propagate (gs.map (·.f)) p.f.min = gs.map (·.f) := by
  cases gs with
  | nil => rfl
  | cons q gs' =>
    have : ¬ q.f.min > p.f.min := by
      have := (h.frames q (by simp)).min_le
      have := h.below_node_lt
      omega
    simp [propagate, this]

/-- `visitLoop`, run from any state satisfying the invariant in a region with at most `L` free nodes,
    finishes the call: it returns the partition `W' ++ part0` with `Placed g K st0 W' st'` and has
    placed the visited vertex.  Fuel: `phi + 1` for the iterations of this run (`phi` drops at each,
    `Next`), plus `L * levelCost g` for the calls of `component` it makes at levels below `L`. -/
def VisitSpec (g : Graph) (L : Nat) : Prop :=
  ∀ (fuel : Nat) (K : Nat → Prop) (st0 : St) (part0 : List WtoC) (v : Nat) (gs : List GF)
    (ln : List Nat) (part : List WtoC) (st : St) (W : List WtoC),
    ClosedK g K st0 → st0.dfn.size = g.n → lvl K st0 ≤ L → Inv g K st0 part0 v gs ln part st W →
    phi g K (gs.map (·.f)) st + 1 + L * levelCost g ≤ fuel →
    ∃ st' W', visitLoop g fuel (gs.map (·.f)) ln part st = .done (W' ++ part0, st') ∧
      Placed g K st0 W' st' ∧ v ∈ flattenL W'

/-- the loop of `component` over `succs`, entered in state `st` with partition `part`, in a region
    with at most `L` free nodes: it puts some `X` in front of `part`, containing every successor that
    was free.  Fuel: one per successor, plus what a call of `visit` at level `L` needs
    (`VisitSpec.enter`). -/
def CompSpec (g : Graph) (L : Nat) : Prop :=
  ∀ (succs : List Nat) (fuel : Nat) (K : Nat → Prop) (st : St) (part : List WtoC),
    ClosedK g K st → st.dfn.size = g.n → lvl K st ≤ L →
    (∀ s ∈ succs, K s ∨ getDfn st.dfn s = .inf) →
    succs.length + 1 + (totalWt g + L * levelCost g) ≤ fuel →
    ∃ st' X, component g fuel succs part st = .done (X ++ part, st') ∧ Placed g K st X st' ∧
      ∀ s ∈ succs, getDfn st.dfn s = .fin 0 → s ∈ flattenL X

/-- one unit of fuel is consumed; the bounds are kept as opaque summands so that the arithmetic is
    done once, on variables -/
theorem fuel_succ {n B fuel : Nat} (h : n + 1 + B ≤ fuel) : ∃ f, fuel = f + 1 ∧ n + B ≤ f :=
  ⟨fuel - 1, by omega, by omega⟩

/-- one iteration of `visitLoop`: `a` is the chain measure before it, `B` the part of the bound
    that does not change; what is left covers `B` and any smaller chain measure -/
theorem fuel_step {a B f : Nat} (h : a + 1 + B ≤ f + 1) : B ≤ f ∧ ∀ a', a' < a → a' + 1 + B ≤ f := by
  refine ⟨by omega, fun a' hlt => by omega⟩

theorem VisitSpec.enter {L : Nat} (hv : VisitSpec g L) {fuel : Nat} {s : Nat} (part0 : List WtoC)
    (hK : ClosedK g K st) (hn : st.dfn.size = g.n) (hL : lvl K st ≤ L) (hs : K s)
    (h0 : getDfn st.dfn s = .fin 0) (hf : totalWt g + L * levelCost g ≤ fuel) :
    ∃ st' W', visitLoop g fuel [{ node := s, succs := g.succ s, min := st.num + 1 }] [] part0
        (discover st s) = .done (W' ++ part0, st') ∧ Placed g K st W' st' ∧ s ∈ flattenL W' := by
  have h1 := wt_free_discover g hs h0 (hK s hs).1
  have h2 := wt_free_le_total g K st hn
  exact hv fuel K st part0 s [GF.fresh g s (st.num + 1)] [] part0 (discover st s) [] hK hn hL
    (Inv.init part0 hK hs h0) (by
      simp only [phi, framesWt, GF.fresh, List.map_cons, List.map_nil, List.sum_cons, List.sum_nil]
      omega)

theorem comp_of_visit (g : Graph) (L : Nat) (hv : VisitSpec g L) : CompSpec g L := by
  intro succs
  induction succs with
  | nil =>
    intro fuel K st part _ _ _ _ hf
    obtain ⟨f, rfl, _⟩ := fuel_succ hf
    exact ⟨st, [], component_nil g f part st, Placed.refl g K st, fun s hs => nomatch hs⟩
  | cons s rest ih =>
    intro fuel K st part hK hn hL hsucc hf
    obtain ⟨f, rfl, hf'⟩ := fuel_succ hf
    by_cases hd : getDfn st.dfn s = .fin 0
    · -- `visit(g, s, partition)`, then the rest of the loop from the state it leaves
      have hKs : K s := (hsucc s (List.mem_cons_self ..)).resolve_right fun hk => by
        rw [hk] at hd; cases hd
      obtain ⟨st1, W1, hrun, hP1, hs1⟩ := hv.enter part hK hn hL hKs hd
        (fuel := f) (Nat.le_trans (Nat.le_add_left _ _) hf')
      obtain ⟨st', X, hc, hP', hall⟩ := ih f K st1 (W1 ++ part) (hK.placed hP1)
        (by rw [hP1.size_eq]; exact hn) (Nat.le_trans (lvl_le_of_placed hP1) hL)
        (fun s' hs' => (hsucc s' (List.mem_cons_of_mem _ hs')).imp_right fun hk =>
          (hP1.dfn_eq_or_inf s').elim (fun he => he ▸ hk) id) hf'
      refine ⟨st', X ++ W1, ?_, hP1.trans hP', fun s' hs' h0 => ?_⟩
      · rw [component_visit g f part st hd hrun, hc, List.append_assoc]
      · rw [flattenL_append, List.mem_append]
        rcases List.mem_cons.1 hs' with rfl | hs'
        · exact Or.inr hs1
        · by_cases hw : s' ∈ flattenL W1
          · exact Or.inr hw
          · exact Or.inl (hall s' hs' (by rw [hP1.dfn_other s' hw]; exact h0))
    · obtain ⟨st', X, hc, hP', hall⟩ := ih f K st part hK hn hL
        (fun s' hs' => hsucc s' (List.mem_cons_of_mem _ hs')) hf'
      refine ⟨st', X, by rw [component_skip g f part st hd, hc], hP', fun s' hs' h0 => ?_⟩
      rcases List.mem_cons.1 hs' with rfl | hs'
      · exact absurd h0 hd
      · exact hall s' hs' h0

/-- from a state satisfying the invariant, one iteration of the loop of `visit` leads to a state
    that satisfies it again and has a smaller chain measure -/
def Next (g : Graph) (K : Nat → Prop) (st0 : St) (part0 : List WtoC) (v f : Nat)
    (gs : List GF) (ln : List Nat) (part : List WtoC) (st : St) : Prop :=
  ∃ gs' ln' part' st' W', Inv g K st0 part0 v gs' ln' part' st' W' ∧
    visitLoop g (f + 1) (gs.map (·.f)) ln part st = visitLoop g f (gs'.map (·.f)) ln' part' st' ∧
    phi g K (gs'.map (·.f)) st' < phi g K (gs.map (·.f)) st

theorem fuel_component {d T L' L f : Nat} (hd : d + 2 ≤ T) (hL : L' < L) (hf : L * (2 * T + 2) ≤ f) :
    d + 1 + (T + L' * (2 * T + 2)) ≤ f := by
  have := Nat.mul_le_mul_right (2 * T + 2) (Nat.succ_le_of_lt hL)
  rw [Nat.succ_mul] at this
  omega

/-- all successors examined: the frame is popped -/
theorem Inv.next_pop {L f : Nat} (hc : ∀ L', L' < L → CompSpec g L') (hK : ClosedK g K st0)
    (hn : st0.dfn.size = g.n) (hL : lvl K st0 ≤ L) (hf : L * levelCost g ≤ f)
    (hI : Inv g K st0 part0 v (p :: gs) ln part st W) (hs : p.f.succs = []) :
    Next g K st0 part0 v f (p :: gs) ln part st := by
  by_cases hroot : getDfn st.dfn p.f.node = .fin p.f.min
  · -- root of a component
    have hroot' : p.f.min = dn st.dfn p.f.node := (dn_of_getDfn hroot).symm
    have hprop := hI.propagate_root hroot'
    obtain ⟨el, stack1, hst⟩ := hI.stack_cons
    cases hl : ln.contains p.f.node with
    | false =>
      obtain ⟨hI', hfl⟩ := hI.step_vertex hK hs hroot' (by simpa using hl) hst
      exact ⟨_, _, _, _, _, hI',
        (visitLoop_vertex g f p.f _ ln part st hs hroot hst hl).trans (by rw [hprop]), phi_pop hfl⟩
    | true =>
      -- `component(g, node)` at a smaller level
      obtain ⟨hK', hsuccs⟩ := hI.above_closedK hK hs hroot' (stk gs ++ st0.stack)
      have hsz : p.f.node < g.n := by rw [← hn, ← hI.size_eq]; exact hI.node_lt_size hK
      have hlt := Nat.lt_of_lt_of_le (hI.lvl_root_lt hK (stk gs ++ st0.stack)) hL
      obtain ⟨st3, X, hcomp, hP, hall⟩ := hc _ hlt (g.succ p.f.node) f
        (fun x => x ∈ p.above) (rootState st p (stk gs ++ st0.stack)) []
        hK' (by simp [rootState, hI.size_eq, hn]) (Nat.le_refl _) hsuccs
        (fuel_component (deg_le_totalWt g hsz) hlt hf)
      rw [List.append_nil] at hcomp
      obtain ⟨hI', hfl⟩ := hI.step_cycle hK hs hroot' hP hall
      exact ⟨_, _, _, _, _, hI',
        (visitLoop_cycle g f p.f _ ln part st hs hroot hst hl
          (hI.popLoop_root hst (setDfn st.dfn p.f.node .inf)) hcomp).trans (by rw [hprop]),
        phi_pop hfl⟩
  · -- not a root: hand the segment over to the parent frame
    have hlt : p.f.min < dn st.dfn p.f.node :=
      Nat.lt_of_le_of_ne hI.top_frame.min_le fun e => hroot (by rw [hI.node_dfn, e])
    obtain ⟨q, gs', rfl⟩ := hI.nonroot_has_parent hlt
    exact ⟨_, _, _, _, _, hI.step_merge hs hlt,
      (visitLoop_nonroot g f p.f _ ln part st hs hroot).trans (by rw [List.map_cons, propagate_merged]; rfl),
      phi_merged hs⟩

theorem Inv.next {L f : Nat} (hc : ∀ L', L' < L → CompSpec g L') (hK : ClosedK g K st0)
    (hn : st0.dfn.size = g.n) (hL : lvl K st0 ≤ L) (hf : L * levelCost g ≤ f)
    (hI : Inv g K st0 part0 v (p :: gs) ln part st W) : Next g K st0 part0 v f (p :: gs) ln part st := by
  cases hs : p.f.succs with
  | nil => exact hI.next_pop hc hK hn hL hf hs
  | cons child rest =>
    cases hd : getDfn st.dfn child with
    | inf =>
      exact ⟨_, _, _, _, _, hI.step_skip hK hs (Or.inl hd), visitLoop_inf g f p.f _ ln part st hs hd,
        phi_examined hs _⟩
    | fin k =>
      by_cases hk0 : k = 0
      · subst hk0
        obtain ⟨hKc, _, _, _⟩ := (hI.classify hK (hI.child_region hK hs)).2.1 hd
        exact ⟨_, _, _, _, _, hI.step_discover hK hs hd, visitLoop_discover g f p.f _ ln part st hs hd,
          phi_discover hs _ _ hKc hd (by rw [hI.size_eq]; exact (hK child hKc).1)⟩
      · by_cases hkm : k ≤ p.f.min
        · exact ⟨_, _, _, _, _, hI.step_lower hK hs hd hk0 hkm,
            visitLoop_lower g f p.f _ ln part st hs hd hk0 hkm, phi_examined hs _⟩
        · exact ⟨_, _, _, _, _, hI.step_skip hK hs (Or.inr ⟨k, hd, hk0, hkm⟩),
            visitLoop_skip g f p.f _ ln part st hs hd hk0 hkm, phi_examined hs _⟩

theorem visit_of_comp (g : Graph) (L : Nat) (hc : ∀ L', L' < L → CompSpec g L') : VisitSpec g L := by
  intro fuel
  induction fuel with
  | zero => intro K st0 part0 v gs ln part st W _ _ _ _ hf; omega
  | succ f ih =>
    intro K st0 part0 v gs ln part st W hK hn hL hI hf
    cases gs with
    | nil =>
      obtain ⟨hp, hP, hv⟩ := hI.final
      exact ⟨st, W, by rw [hp]; exact visitLoop_nil g f ln _ st, hP, hv⟩
    | cons p gs =>
      obtain ⟨hf1, hf2⟩ := fuel_step hf
      obtain ⟨gs', ln', part', st', W', hI', heq, hlt⟩ := hI.next (f := f) hc hK hn hL hf1
      rw [heq]
      exact ih K st0 part0 v gs' ln' part' st' W' hK hn hL hI' (hf2 _ hlt)

/-- both specifications at every level, by induction on the level: `visitLoop` at level `L` calls
    `component` only at lower levels, `component` calls `visit` at its own -/
theorem visitSpec_and_compSpec (g : Graph) : ∀ L, VisitSpec g L ∧ CompSpec g L := by
  intro L
  induction L using Nat.strongRecOn with
  | _ L ih =>
    have hv : VisitSpec g L := visit_of_comp g L (fun L' hL' => (ih L' hL').2)
    exact ⟨hv, comp_of_visit g L hv⟩

theorem getDfn_init (g : Graph) (x : Nat) : getDfn (St.init g).dfn x = .fin 0 := by
  simp only [St.init, getDfn, Array.getD_eq_getD_getElem?]
  by_cases hx : x < g.n <;> simp [hx]

/-- the region of the top-level call: the reachable nodes -/
def topK (g : Graph) (e : Nat) : Nat → Prop := fun x => x < g.n ∧ Reach g e x

theorem closed_top (g : Graph) (hg : g.WF) (e : Nat) : ClosedK g (topK g e) (St.init g) :=
  fun x hx => ⟨by simpa [St.init] using hx.1, Or.inl (getDfn_init g x),
    fun y hy => Or.inl ⟨hg x y hy, Reach.step hx.2 hy⟩⟩

theorem fuel_enough (g : Graph) : totalWt g + g.n * levelCost g ≤ fuel g := by
  have key : ∀ n T : Nat, T + n * (2 * T + 2) ≤ (2 * n + 2) * (T + 1) := by
    intro n T
    rw [show 2 * T + 2 = 2 * (T + 1) from rfl, Nat.mul_left_comm, Nat.add_mul, Nat.mul_assoc]
    omega
  exact key g.n (totalWt g)

theorem build_total (g : Graph) (hg : g.WF) (e : Nat) (he : e < g.n) :
    ∃ w st, visit g (fuel g) e [] (St.init g) = .done (w, st) ∧
      Placed g (topK g e) (St.init g) w st ∧ e ∈ flattenL w := by
  have hsz : (St.init g).dfn.size = g.n := by simp [St.init]
  have hL : lvl (topK g e) (St.init g) ≤ g.n := hsz ▸ lvl_le_size (topK g e) (St.init g)
  obtain ⟨st', W', hrun, hP, hv⟩ := (visitSpec_and_compSpec g _).1.enter [] (closed_top g hg e) hsz hL
    ⟨he, Reach.refl⟩ (getDfn_init g e) (fuel_enough g)
  exact ⟨W', st', by rw [← List.append_nil W', ← hrun]; rfl, hP, hv⟩

theorem placed_top_wf (g : Graph) (e : Nat) {w : List WtoC} {st : St}
    (hP : Placed g (topK g e) (St.init g) w st) (he : e ∈ flattenL w) :
    (∀ v, v ∈ flattenL w ↔ Reach g e v) ∧ (flattenL w).Nodup ∧
      ∀ u v, Reach g e u → v ∈ g.succ u → EdgeOK w u v := by
  have hedge : ∀ u ∈ flattenL w, ∀ v ∈ g.succ u, EdgeOK w u v := fun u hu v hv =>
    (hP.W_edges u hu v hv).resolve_left (by rw [getDfn_init]; exact fun e => nomatch e)
  have hmem : ∀ v, Reach g e v → v ∈ flattenL w := by
    intro v hv
    induction hv with
    | refl => exact he
    | step _ hs ih => exact (hedge _ ih _ hs).mem_right
  exact ⟨fun v => ⟨fun hv => (hP.W_K v hv).1.2, hmem v⟩, hP.W_nodup,
    fun u v hu huv => hedge u (hmem u hu) v huv⟩

end Wto
end Crab
