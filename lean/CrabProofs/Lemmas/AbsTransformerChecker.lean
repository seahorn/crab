import CrabProofs.Lemmas.AbsTransformerBlock
import CrabProofs.Lemmas.CheckerSound

/-!
  The statement loop of the assertion checker (`Analysis.checkStmts`, model of
  `intra_checker::run`) re-propagates the block-entry invariant with the analyzer's own
  transformer.  `intra_abs_transformer` is sound on the statements that define declared
  variables, in states with the declared variables: this is the instance of
  `checkStmts_sound_on` (CheckerSound.lean) for `execStmt`.
-/
namespace Crab
namespace Analysis
open Crab.IR

variable {A : Type}

/-- the checker loop run with `intra_abs_transformer` (sanity flag off) on one block -/
theorem checkBlock_sound_exec (N : NDom A) (L : N.Laws) (C : CheckDom A) (hC : C.γ = N.γ)
    (ia : Bool) (p : Program) (hp : p.defsOk = true) (pre : Nat → A) (b : Nat) (σ : State)
    (ch : List Int) (hsh : Shape p.nI p.nB σ) (hγ : N.γ (pre b) σ)
    (j : Nat) (σ' : State) (ok : Bool) (v : CheckKind)
    (hev : Event.check b j σ' ok ∈ (runBlock p b σ ch).events)
    (hv : (j, v) ∈ checkBlock C (execStmt N ia) p pre b) :
    v ≠ .unreachable ∧ (v = .safe → ok = true) := by
  refine checkStmts_sound_on C (execStmt N ia) (fun s => s.defOk p.nI p.nB = true)
    (Shape p.nI p.nB) (fun s σ ch σ' h hs => stepStmt_shape h hs) ?_ b (p.block b).stmts 0 (pre b)
    σ ch (defsOk_block p hp b) hsh (by rw [hC]; exact hγ) j σ' ok v hev hv
  intro s a σ ch σ' hP hI hg hs
  rw [hC] at hg ⊢
  exact execStmt_sound N L ia p.nI p.nB s a σ σ' ch hP hI hg hs

end Analysis
end Crab
