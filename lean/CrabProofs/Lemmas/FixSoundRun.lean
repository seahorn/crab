import CrabProofs.Lemmas.FixSoundMain

/-!
# From components to `run` (C01, engine part)

* the components in front of the one containing the start block are skipped and keep their
  tables; from the component containing the start block on, `skip` is off;
* the global collecting semantics is contained in the least solution of the region formed by
  the components that are not skipped (nothing flows back into the skipped ones, nothing is
  reachable outside the ordering).
-/
namespace Crab
namespace Fix
namespace Sound

variable {A S σ : Type}

theorem nodesList_append : ∀ K R : List Comp, nodesList (K ++ R) = nodesList K ++ nodesList R
  | [], R => by simp [nodesList]
  | x :: K, R => by simp [nodesList, nodesList_append K R]

theorem ListOK.no_back_append {c : Ctx A} : ∀ K R : List Comp, ListOK c (K ++ R) →
    ∀ p n, p ∈ c.preds n → n ∈ nodesList K → p ∈ nodesList R → False
  | [], _, _ => by simp [nodesList]
  | x :: K, R, hok => by
      intro p n hpn hn hp
      simp only [List.cons_append, ListOK] at hok
      simp only [nodesList, List.mem_append] at hn
      rcases hn with hn | hn
      · exact hok.2.2 p n hpn hn (by rw [nodesList_append]; exact List.mem_append.2 (Or.inr hp))
      · exact ListOK.no_back_append K R hok.2.1 p n hpn hn hp

theorem ListOK.suffix {c : Ctx A} : ∀ K R : List Comp, ListOK c (K ++ R) → ListOK c R
  | [], _, h => h
  | x :: K, R, h => by
      simp only [List.cons_append, ListOK] at h
      exact ListOK.suffix K R h.2.1

variable {c : Ctx A} {sem : Sem c S} {an : AnS A σ} {I : σ → Prop} {Le : σ → σ → Prop}
  {Cov : σ → Nat → S → Prop}

theorem visitCompS_skipped (c : Ctx A) (an : AnS A σ) (fuel : Nat) (st : St A) (x : Comp) (s : σ)
    (hs : st.skip = true) (hm : x.member c.entry = false) :
    visitCompS c an (fuel + 1) st x s = some (st, s) := by
  cases x with
  | vertex v =>
    have hv : (v == c.entry) = false := hm
    rw [visitCompS_vertex, visitVertexS_eq, hs, hv]
    rfl
  | cycle h B =>
    rw [visitCompS_cycle, hs, hm]
    rfl

/-- the component containing the start block: visited as if `skip` were off -/
theorem visitCompS_enter (c : Ctx A) (an : AnS A σ) (fuel : Nat) (st : St A) (x : Comp) (s : σ)
    (hs : st.skip = true) (hm : x.member c.entry = true) :
    visitCompS c an fuel st x s = visitCompS c an fuel { st with skip := false } x s := by
  cases fuel with
  | zero => rw [visitCompS_zero, visitCompS_zero]
  | succ fuel =>
    cases x with
    | vertex v =>
      have hv : (v == c.entry) = true := hm
      rw [visitCompS_vertex, visitCompS_vertex, visitVertexS_eq, visitVertexS_eq, hs, hv]
      rfl
    | cycle h B =>
      rw [visitCompS_cycle, visitCompS_cycle, hs, hm]
      rfl

/-- top level: split of the ordering into the skipped prefix and the analysed rest -/
theorem visitListS_top (ok : AnOK c sem an I Le Cov) : ∀ (w : List Comp) (fuel : Nat) (st st' : St A) (s s' : σ),
    visitListS c an fuel st w s = some (st', s') → st.skip = true → I s → c.entry ∈ nodesList w →
    ListOK c w → (nodesList w).Nodup →
    ∃ K R, w = K ++ R ∧ c.entry ∈ nodesList R ∧ VisitGoodS c sem I Le Cov (nodesList R) st s st' s'
  | [], _, _, _, _, _, _, _, _, he, _, _ => by simp [nodesList] at he
  | x :: xs, 0, _, _, _, _, H, _, _, _, _, _ => by simp [visitListS] at H
  | x :: xs, fuel + 1, st, st', s, s', H, hs, hI, he, hok, hnd => by
      rw [visitListS_cons] at H
      cases hm : x.member c.entry with
      | false =>
        have hex : c.entry ∉ x.nodes := fun h => by
          rw [(Comp.member_iff c.entry x).2 h] at hm; cases hm
        have he' : c.entry ∈ nodesList xs := (List.mem_append.1 he).resolve_left hex
        cases fuel with
        | zero => rw [visitCompS_zero] at H; cases H
        | succ fuel =>
          rw [visitCompS_skipped c an fuel st x s hs hm] at H
          obtain ⟨K, R, hw, heR, hG⟩ := visitListS_top ok xs (fuel + 1) st st' s s' H hs hI he'
            hok.2.1 (List.nodup_append.1 hnd).2.1
          exact ⟨x :: K, R, congrArg (x :: ·) hw, heR, hG⟩
      | true =>
        rw [visitCompS_enter c an fuel st x s hs hm] at H
        have hG := (visit_allS ok (fuel + 1)).2.1 { st with skip := false } (x :: xs) s st' s' H rfl hI
          hok hnd
        exact ⟨[], x :: xs, rfl, he, hG⟩

/-- the collecting semantics is inside the least solution of a suffix of the ordering that
    contains the start block -/
theorem reach_in_region (c : Ctx A) (sem : Sem c S) (K R : List Comp) (E : Nat → S → Prop)
    (hok : ListOK c (K ++ R))
    (hclosed : ∀ p n, p ∈ c.preds n → p ∈ nodesList (K ++ R) → n ∈ nodesList (K ++ R))
    (he : c.entry ∈ nodesList R) :
    (∀ n s, ReachPre c sem n s → LPre c sem (nodesList R) E n s) ∧
    (∀ n s', ReachPost c sem n s' → ∃ s, LPre c sem (nodesList R) E n s ∧ sem.step n s s') := by
  refine reach_ind ?_ ?_ ?_
  · intro s h1 h2
    exact .init s he h1 h2
  · intro p n s hpn ⟨s0, hL, hs⟩ ha
    have hpR : p ∈ nodesList R := hL.mem
    have hpw : p ∈ nodesList (K ++ R) := by
      rw [nodesList_append]; exact List.mem_append.2 (Or.inr hpR)
    have hnw := hclosed p n hpn hpw
    rw [nodesList_append] at hnw
    rcases List.mem_append.1 hnw with hn | hn
    · exact (ListOK.no_back_append K R hok p n hpn hn hpR).elim
    · exact .flow p n s0 s hn hpR hpn hL hs ha
  · intro n s s' h hs
    exact ⟨s, h, hs⟩

/-- Soundness of `runS`: the tables contain the collecting semantics, the state invariant is
    kept, the state has grown, and every reachable concrete state of every block is covered.
    Of `WtoWF` only the four clauses below are used (the nesting table, which only influences the
    first candidate invariant of a cycle head, is irrelevant). -/
theorem runS_sound_core (ok : AnOK c sem an I Le Cov) (w : List Comp) (fuel : Nat) (st : St A)
    (s s' : σ)
    (hnodup : (nodesList w).Nodup)
    (hclosed : ∀ p n, p ∈ c.preds n → p ∈ nodesList w → n ∈ nodesList w)
    (hedge : ∀ p n, p ∈ c.preds n → p ∈ nodesList w → n ∈ nodesList w →
      pos w p < pos w n ∨ n ∈ headsOfList p w)
    (hentry : c.entry ∈ nodesList w)
    (hI : I s) (hrun : runS c an fuel w s = some (st, s')) :
    I s' ∧ Le s s' ∧
    (∀ n x, ReachPre c sem n x → sem.γ (st.pre n) x ∧ Cov s' n x) ∧
    (∀ n x, ReachPost c sem n x → sem.γ (st.post n) x) := by
  have hok : ListOK c w := LWF.listOK w ⟨hnodup, hedge⟩
  unfold runS at hrun
  obtain ⟨K, R, hw, heR, hG, hI', hLe, hCov⟩ :=
    visitListS_top ok w fuel _ st s s' hrun rfl hI hentry hok hnodup
  subst hw
  have hR := reach_in_region c sem K R
    (Ext sem { pre := upd (fun _ => c.ops.bot) c.entry c.init, post := fun _ => c.ops.bot,
               skip := true })
    hok hclosed heR
  refine ⟨hI', hLe, ?_, ?_⟩
  · intro n x hr
    have hL := hR.1 n x hr
    have hp := (hG.2 n x hL).1
    exact ⟨hp, hCov n hL.mem x hp⟩
  · intro n x' hr
    obtain ⟨x, hL, hs⟩ := hR.2 n x' hr
    exact (hG.2 n x hL).2 x' hs

theorem runS_sound (ok : AnOK c sem an I Le Cov) (w : List Comp) (fuel : Nat) (st : St A) (s s' : σ)
    (hwf : WtoWF c w) (hI : I s) (hrun : runS c an fuel w s = some (st, s')) :
    I s' ∧ Le s s' ∧
    (∀ n x, ReachPre c sem n x → sem.γ (st.pre n) x ∧ Cov s' n x) ∧
    (∀ n x, ReachPost c sem n x → sem.γ (st.post n) x) :=
  runS_sound_core ok w fuel st s s' hwf.nodup hwf.closed hwf.edge hwf.entry_mem hI hrun

/-- the stateless transformer `analyze` satisfies the contract with nothing to keep or cover -/
theorem pureOK (c : Ctx A) (sem : Sem c S) :
    AnOK c sem (pureAn c) (fun _ => True) (fun _ _ => True) (fun _ _ _ => True) where
  le_refl := fun _ => trivial
  le_trans := fun _ _ _ _ _ => trivial
  cov_mono := fun _ _ _ _ _ _ => trivial
  call := by
    intro n a s1 r s2 _ h
    cases h
    exact ⟨trivial, trivial, PostOf.analyze n a, fun _ _ => trivial⟩

theorem visitComp_sound (c : Ctx A) (sem : Sem c S) (fuel : Nat) (st st' : St A) (x : Comp)
    (hrun : visitComp c fuel st x = some st') (hskip : st.skip = false) (hok : CompOK c x)
    (hnodup : x.nodes.Nodup) : VisitGood c sem x.nodes st st' :=
  ((visit_allS (pureOK c sem) fuel).1 st x () st' ()
    (by rw [(visitS_pure c fuel).1, hrun]; rfl) hskip trivial hok hnodup).1

theorem run_sound_core (c : Ctx A) (w : List Comp) (sem : Sem c S) (fuel : Nat) (st : St A)
    (hnodup : (nodesList w).Nodup)
    (hclosed : ∀ p n, p ∈ c.preds n → p ∈ nodesList w → n ∈ nodesList w)
    (hedge : ∀ p n, p ∈ c.preds n → p ∈ nodesList w → n ∈ nodesList w →
      pos w p < pos w n ∨ n ∈ headsOfList p w)
    (hentry : c.entry ∈ nodesList w)
    (hrun : run c fuel w = some st) :
    (∀ n s, ReachPre c sem n s → sem.γ (st.pre n) s) ∧
    (∀ n s, ReachPost c sem n s → sem.γ (st.post n) s) :=
  have h := runS_sound_core (pureOK c sem) w fuel st () () hnodup hclosed hedge hentry trivial
    (by rw [runS_pure, hrun]; rfl)
  ⟨fun n s hr => (h.2.2.1 n s hr).1, h.2.2.2⟩

theorem run_sound_of (c : Ctx A) (w : List Comp) : RunSound c w :=
  fun _ sem fuel st hwf hrun =>
    run_sound_core c w sem fuel st hwf.nodup hwf.closed hwf.edge hwf.entry_mem hrun

end Sound
end Fix
end Crab
