import CrabProofs.Lemmas.FunctorVPartSep
import CrabProofs.Lemmas.FunctorInst
import CrabProofs.Lemmas.FunctorInstPack

/-!
Lawful bases for the examples of `Props/C03Functors2.lean`, `Props/C04Functors2.lean`:
 * `itvVDom`: the interval instance `itvDom` (one variable, the partitioning variable itself);
 * `constVDom`: the constants over three variables `constDom` (`dom[x]` is a singleton or top),
   used for the counterexamples, which need a second and a third variable;
and the values of the counterexample scenario (replayed on the real code: request line in the
header of `Props/C03Functors2.lean`).
-/
namespace Crab
namespace Dom
namespace Fct

open Crab.Bound

/-- `interval_domain` on the single variable `()` -/
@[reducible] def itvVDom : VDom Unit Int where
  toLDom := itvDom
  itvOf := fun b _ => b.1
  itvOf_bot := fun _ _ _ h => Itv.not_mem_of_isBottom h

/-- `dom[x]` of the constant domain -/
def cItvOf (b : Option CMap) (x : V3) : Itv :=
  match b with
  | none => Itv.bot
  | some m => match m x with
    | some k => Itv.single k
    | none => Itv.top

@[reducible] def constVDom : VDom V3 (St V3) where
  toLDom := constDom.toLDom
  itvOf := cItvOf
  itvOf_bot := by
    intro b x s h hg
    match b with
    | none => exact hg
    | some m =>
      unfold cItvOf at h
      simp only at h
      split at h
      · simp [Itv.isBottom, Itv.single, Bound.gt, Bound.le] at h
      · simp [Itv.isBottom, Itv.top, Bound.gt, Bound.le] at h

namespace VPartEx

/-- decidable membership in a partitioned interval value -/
def iMem (a : VP itvVDom) (k : Int) : Bool := a.parts.any (fun p => decide (Itv.mem k p.val.1))

theorem γ_of_iMem {a : VP itvVDom} {k : Int} (h : iMem a k = true) : VP.γ a k := by
  unfold iMem at h
  obtain ⟨p, hp, hm⟩ := List.any_eq_true.1 h
  exact ⟨p, hp, of_decide_eq_true hm⟩

/-- a constant map `x ↦ a, y ↦ b, f ↦ c` (`none` = unknown) -/
def cm (a b c : Option Int) : Option CMap :=
  some (fun v => match v with | 0 => a | 1 => b | 2 => c)

/-- the state `(x, y, f)` -/
def st (a b c : Int) : St V3 := fun v => match v with | 0 => a | 1 => b | 2 => c

/-- decidable membership in a constant value -/
def cMem (b : Option CMap) (s : St V3) : Bool :=
  match b with
  | none => false
  | some m => allV (fun v => match m v with | some k => decide (s v = k) | none => true)

theorem γ_of_cMem {b : Option CMap} {s : St V3} (h : cMem b s = true) : constDom.γ b s := by
  match b with
  | none => simp [cMem] at h
  | some m =>
    intro v k hk
    have h' : allV (fun v => match m v with | some k => decide (s v = k) | none => true) = true := h
    have := (allV_iff _).1 h' v
    rw [hk] at this
    simpa using this

/-- decidable membership in a partitioned value -/
def vMem (a : VP constVDom) (s : St V3) : Bool := a.parts.any (fun p => cMem p.val s)

theorem γ_of_vMem {a : VP constVDom} {s : St V3} (h : vMem a s = true) : VP.γ a s := by
  unfold vMem at h
  obtain ⟨p, hp, hm⟩ := List.any_eq_true.1 h
  exact ⟨p, hp, γ_of_cMem hm⟩

/-- three partitions on `x` with separated intervals: `x=0 → f=0`, `x=1 → y=1, f=0`, `x=2 → y=5, f=1` -/
def W0 : VP constVDom :=
  ⟨some 0, [⟨Itv.single 0, cm (some 0) none (some 0)⟩, ⟨Itv.single 1, cm (some 1) (some 1) (some 0)⟩,
            ⟨Itv.single 2, cm (some 2) (some 5) (some 1)⟩]⟩
/-- the same with the flag `f` exchanged -/
def Z0 : VP constVDom :=
  ⟨some 0, [⟨Itv.single 0, cm (some 0) none (some 1)⟩, ⟨Itv.single 1, cm (some 1) (some 1) (some 1)⟩,
            ⟨Itv.single 2, cm (some 2) (some 5) (some 0)⟩]⟩

/-- `x := y` (code after 8f4c9c7) -/
def xy : VP constVDom → VP constVDom := VP.assignOp 0 (cAssignV 0 1)

/-- `x := y` as the pinned tree computed it: per partition, then the OLD `update_partitions()` -/
def xyOld (a : VP constVDom) : VP constVDom := VP.updatePartsOld (VP.mapParts (cAssignV 0 1) a)

theorem inv_xyOld_W0 : (xyOld W0).Inv :=
  VP.inv_of_some (x := 0) (by rfl) (fun h => by have := congrArg List.length h; revert this; decide)
theorem inv_xyOld_Z0 : (xyOld Z0).Inv :=
  VP.inv_of_some (x := 0) (by rfl) (fun h => by have := congrArg List.length h; revert this; decide)

/-- `(x, y, f) = (5, 5, 0)` is in both values -/
theorem mem_xyOld_W0 : VP.γ (xyOld W0) (st 5 5 0) := γ_of_vMem (by decide)
theorem mem_xyOld_Z0 : VP.γ (xyOld Z0) (st 5 5 0) := γ_of_vMem (by decide)

def keys (a : VP constVDom) : List Itv := a.parts.map (·.key)

/-- the value of `v` in partition `i` (`none` = unknown or no such partition) -/
def valAt (a : VP constVDom) (i : Nat) (v : V3) : Option Int :=
  match a.parts[i]? with
  | some p => (match p.val with | some m => m v | none => none)
  | none => none

/-- slots 0, 1: the two values the pinned tree reached by `x := y` (overlapping intervals) -/
def pool0 : Pool (VP constVDom) := fun i => if i = 0 then xyOld W0 else if i = 1 then xyOld Z0 else VP.top

/-- both slots hold `(5,5,0)` -/
def cpool0 : CPool (St V3) := fun i s => (i = 0 ∨ i = 1) ∧ s = st 5 5 0

end VPartEx

/-! ### the interval history of the non-vacuity examples of `Props/C03Functors2.lean` -/
namespace C03VPartEx
open VPartEx

def keys (a : VP itvVDom) : List Itv := a.parts.map (·.key)

def vals (a : VP itvVDom) : List Itv := a.parts.map (·.val.1)

/-- slot 0: `x = 0`, slot 1: `x ∈ [5,6]`, no partitioning yet -/
def pool : Pool (VP itvVDom) := fun i =>
  if i = 0 then ⟨none, [⟨Itv.top, WItv.mk 0 0⟩]⟩ else if i = 1 then ⟨none, [⟨Itv.top, WItv.mk 5 6⟩]⟩ else VP.top

def cpool : CPool Int := fun i s => (i = 0 ∧ s = 0) ∨ (i = 1 ∧ s = 5)

/-- partition start on both, `|`, `x := x + 6` -/
def ops : List (VP.Op itvVDom) :=
  [.vpStart 0 (), .vpStart 1 (), .join 2 0 1, .assign 2 () (itvAddK 6) (fun s s' => s' = s + 6)]

/-- afterwards: partition end on a copy, then `&` of the copy with the partitioned value (different
    variables: the guard `histOk` stays quiet; it fires on `.meet 3 2 2`, the partitioned value with itself) -/
def ops2 : List (VP.Op itvVDom) := ops ++ [.copy 3 2, .vpEnd 3 (), .meet 3 3 2]

theorem ops_baseSound : ∀ op ∈ ops, op.BaseSound := by
  intro op hop
  simp only [ops, List.mem_cons, List.mem_nil_iff, or_false] at hop
  rcases hop with rfl | rfl | rfl | rfl
  · trivial
  · trivial
  · trivial
  · exact itvAddK_sound 6

theorem pool_inv : ∀ i, (pool i).Inv := by
  intro i; unfold pool
  split
  · exact VP.inv_single _ _
  · split <;> exact VP.inv_single _ _

theorem pool_sound : ∀ i s, cpool i s → VP.γ (pool i) s := by
  intro i s hc
  rcases hc with ⟨rfl, rfl⟩ | ⟨rfl, rfl⟩
  · exact γ_of_iMem (by decide)
  · exact γ_of_iMem (by decide)

end C03VPartEx

end Fct
end Dom
end Crab
