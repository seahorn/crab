import CrabModel.Dom.ArraySmash
import CrabProofs.Lemmas.FunctorBase

/-!
  Per-operation soundness of the array smashing functor over a generic base domain
  (`Crab.Dom.Smash`): every operation maps `γ` of its argument into `γ` of its result along the
  concrete semantics of `Crab.Dom.Arr` (`step_soundWith`), also with `array_assign` and the upper
  bounds as `array_smashing.hpp` has them (`aAssignC`, `upperC`, `Op.toStepCoded`).  Then the two
  invariants a sound meet needs (`SizesOk`, `NE`), kept by every operation (`KeepsSizes`,
  `upperC_sizes`), and `Step.Sim`, through which the exact model of `ArraySmashItvRefine` inherits
  all of this.
-/
namespace Crab
namespace Dom
namespace Smash
open Crab.Dom.Arr

variable {Bs : Base} {esz : Nat → Nat}

theorem progOf_mkEnv (s : CState) (env : Nat → Option Nat) (g : Env) (c : Nat → Nat) :
    progOf (mkEnv esz s env g c) = s.iv := rfl

theorem mkEnv_setVar (s : CState) (env : Nat → Option Nat) (g : Env) (c : Nat → Nat) (x : Nat) (v : Int) :
    mkEnv esz (s.setVar x v) env g c = (mkEnv esz s env g c).set (.prog x) v := by
  funext y
  cases y with
  | prog n =>
    simp only [mkEnv, Env.set, CState.setVar]
    by_cases h : n = x
    · subst h; simp
    · have : ¬ Var.prog n = Var.prog x := fun h' => h (Var.prog.inj h')
      simp [h, this]
  | smashed a => simp [mkEnv, Env.set, CState.setVar]
  | copy a => simp [mkEnv, Env.set]

theorem mkEnv_choice (s : CState) (env : Nat → Option Nat) (g : Env) {c c₂ : Nat → Nat} {a : Nat}
    (h : ∀ b, b ≠ a → c₂ b = c b) : ∀ z, z ≠ Var.smashed a → mkEnv esz s env g c z = mkEnv esz s env g c₂ z := by
  intro z hz
  cases z with
  | prog n => rfl
  | copy b => rfl
  | smashed b => simp only [mkEnv, h b fun h' => hz (by rw [h'])]

theorem nAssign_sound {st : St Bs} {s : CState} (x : Nat) (e : Lin) (h : γ esz st s) :
    γ esz (nAssign st x e) (s.setVar x (e.eval s.iv)) := by
  obtain ⟨g, hg⟩ := h
  refine ⟨g, fun c => ?_⟩
  have h1 := Bs.assign_sound st.base (.prog x) (.lin e) _ (hg c)
  rw [mkEnv_setVar]
  exact h1

theorem nAssume_sound {st : St Bs} {s : CState} (c : (Nat → Int) → Prop) (h : γ esz st s) (hc : c s.iv) :
    γ esz (nAssume st c) s := by
  obtain ⟨g, hg⟩ := h
  exact ⟨g, fun ch => Bs.assume_sound st.base c _ (hg ch) hc⟩

theorem nForget_sound {st : St Bs} {s : CState} (x : Nat) (v : Int) (h : γ esz st s) :
    γ esz (nForget st x) (s.setVar x v) := by
  obtain ⟨g, hg⟩ := h
  refine ⟨g, fun c => ?_⟩
  rw [mkEnv_setVar]
  exact Bs.forget_sound st.base (.prog x) _ v (hg c)

/-! ### the concrete semantics: a step that has a successor, read as a relation -/

theorem _root_.Crab.Dom.Arr.alignedOff_some {e : Nat} {o : Int} {l : Nat} (h : alignedOff e o = some l) : (l : Int) = o := by
  unfold alignedOff at h; split at h
  · rename_i h0; rw [← Option.some.inj h]; exact Int.toNat_of_nonneg h0.1
  · cases h

theorem _root_.Crab.Dom.Arr.cInit_some {e a : Nat} {lb ub val : Expr} {s s' : CState} (h : cInit e a lb ub val s = some s') :
    ∃ l, alignedOff e (lb s.iv) = some l ∧ s' = s.setArr a (Mem.init e l (ub s.iv) (val s.iv)) := by
  unfold cInit at h; split at h
  · cases h
  · rename_i l hl; exact ⟨l, hl, (Option.some.inj h).symm⟩

theorem _root_.Crab.Dom.Arr.cStore_some {e a : Nat} {i val : Expr} {s s' : CState} (h : cStore e a i val s = some s') :
    ∃ o, alignedOff e (i s.iv) = some o ∧ s' = s.setArr a ((s.ar a).store o (val s.iv)) := by
  unfold cStore at h; split at h
  · cases h
  · rename_i o ho; exact ⟨o, ho, (Option.some.inj h).symm⟩

theorem _root_.Crab.Dom.Arr.cStoreRange_some {e a : Nat} {lb ub val : Expr} {s s' : CState}
    (h : cStoreRange e a lb ub val s = some s') :
    ∃ l, alignedOff e (lb s.iv) = some l ∧ s' = s.setArr a ((s.ar a).storeRange e l (ub s.iv) (val s.iv)) := by
  unfold cStoreRange at h; split at h
  · cases h
  · rename_i l hl; exact ⟨l, hl, (Option.some.inj h).symm⟩

theorem _root_.Crab.Dom.Arr.cLoad_some {e x a : Nat} {i : Expr} {s s' : CState} (h : cLoad e x a i s = some s') :
    ∃ o w, s.ar a o = some w ∧ s' = s.setVar x w := by
  unfold cLoad at h; split at h
  · cases h
  · rename_i o _; split at h
    · cases h
    · rename_i w hw; exact ⟨o, w, hw, (Option.some.inj h).symm⟩

theorem _root_.Crab.Dom.Arr.CState.setArr_same (s : CState) (a : Nat) (m : Mem) : (s.setArr a m).ar a = m := by
  simp [CState.setArr]

theorem _root_.Crab.Dom.Arr.CState.setArr_other (s : CState) {a b : Nat} (m : Mem) (h : b ≠ a) :
    (s.setArr a m).ar b = s.ar b := by
  simp [CState.setArr, h]

theorem _root_.Crab.Dom.Arr.CState.setArr_self (s : CState) (a : Nat) : s.setArr a (s.ar a) = s := by
  cases s with
  | mk iv ar =>
    simp only [CState.setArr]
    congr
    funext b
    by_cases hb : b = a
    · subst hb; simp
    · simp [hb]

/-! ### updates of one array -/

theorem Env.set_self (ρ : Env) (x : Var) : ρ.set x (ρ x) = ρ := by
  funext y
  simp only [Env.set]
  split
  · rename_i h; rw [h]
  · rfl

/-- after an update of array `a` (contents, recorded size, ghost values of `a`) the environment
    differs from the old one on the summary of `a` only -/
theorem mkEnv_setArr {s : CState} {env env' : Nat → Option Nat} {g g' : Env} (c : Nat → Nat) {a : Nat} (m' : Mem)
    (henv : ∀ b, b ≠ a → env' b = env b) (hg : ∀ y, y ≠ Var.smashed a → g' y = g y) :
    mkEnv esz (s.setArr a m') env' g' c
      = (mkEnv esz s env g c).set (.smashed a) (mkEnv esz (s.setArr a m') env' g' c (.smashed a)) := by
  funext y
  cases y with
  | prog n => simp [mkEnv, Env.set, CState.setArr]
  | copy b => simp [mkEnv, Env.set, hg]
  | smashed b =>
    by_cases hb : b = a
    · subst hb; simp [Env.set]
    · have hne : ¬ Var.smashed b = Var.smashed a := fun h' => hb (Var.smashed.inj h')
      simp [mkEnv, Env.set, hne, CState.setArr, hb, henv b hb, hg _ hne]

/-- an update of an array that the functor does not track needs no abstract counterpart -/
theorem untracked_update_sound {st : St Bs} {s : CState} (a : Nat) (m' : Mem)
    (hu : ¬ st.env a = some (esz a)) (h : γ esz st s) : γ esz st (s.setArr a m') := by
  obtain ⟨g, hg⟩ := h
  refine ⟨g, fun c => ?_⟩
  rw [mkEnv_setArr c m' (fun _ _ => rfl) (fun _ _ => rfl)]
  have : mkEnv esz (s.setArr a m') st.env g c (.smashed a) = mkEnv esz s st.env g c (.smashed a) := by
    simp [mkEnv, hu]
  rw [this, Env.set_self]; exact hg c

/-- weak update: every cell of the new contents holds the stored value or its old value -/
theorem weak_update_sound {st : St Bs} {s : CState} (a : Nat) (val : Lin) (m' : Mem)
    (hm : ∀ o', m' o' = some (val.eval s.iv) ∨ m' o' = s.ar a o') (h : γ esz st s) :
    γ esz (⟨st.env, Bs.weakAssign st.base (.smashed a) (.lin val)⟩ : St Bs) (s.setArr a m') := by
  obtain ⟨g, hg⟩ := h
  refine ⟨g.set (.smashed a) (val.eval s.iv), fun c => ?_⟩
  have hw := Bs.weakAssign_sound st.base (.smashed a) (.lin val) _ (hg c)
  show Bs.γ (Bs.weakAssign st.base (.smashed a) (.lin val)) _
  rw [mkEnv_setArr (env := st.env) (g := g) c m' (fun _ _ => rfl) (fun y hy => by simp [Env.set, hy])]
  -- the summary of `a` stands for the stored value or for what it stood for before
  have hv : mkEnv esz (s.setArr a m') st.env (g.set (.smashed a) (val.eval s.iv)) c (.smashed a) = val.eval s.iv ∨
      mkEnv esz (s.setArr a m') st.env (g.set (.smashed a) (val.eval s.iv)) c (.smashed a)
        = mkEnv esz s st.env g c (.smashed a) := by
    simp only [mkEnv, CState.setArr, if_true, Env.set]
    split
    · rcases hm (c a) with h1 | h1
      · rw [h1]; exact Or.inl rfl
      · rw [h1]; cases s.ar a (c a) with
        | none => exact Or.inl rfl
        | some w => exact Or.inr rfl
    · exact Or.inl rfl
  rcases hv with hv | hv
  · rw [hv]; exact hw.2
  · rw [hv, Env.set_self]; exact hw.1

/-- strong update / initialisation: every cell of the new contents holds the stored value -/
theorem strong_update_sound {st : St Bs} {s : CState} (a : Nat) (val : Lin) (m' : Mem)
    (hm : ∀ o' w, m' o' = some w → w = val.eval s.iv) (h : γ esz st s) :
    γ esz (⟨setSize st.env a (some (esz a)), Bs.assign st.base (.smashed a) (.lin val)⟩ : St Bs)
      (s.setArr a m') := by
  obtain ⟨g, hg⟩ := h
  refine ⟨g.set (.smashed a) (val.eval s.iv), fun c => ?_⟩
  have h1 := Bs.assign_sound st.base (.smashed a) (.lin val) _ (hg c)
  show Bs.γ (Bs.assign st.base (.smashed a) (.lin val)) _
  rw [mkEnv_setArr (env := st.env) (g := g) c m' (fun b hb => by simp [setSize, hb])
    (fun y hy => by simp [Env.set, hy])]
  have : mkEnv esz (s.setArr a m') (setSize st.env a (some (esz a))) (g.set (.smashed a) (val.eval s.iv)) c
      (.smashed a) = val.eval s.iv := by
    simp only [mkEnv, setSize, if_true, Env.set, CState.setArr]
    cases hm' : m' (c a) with
    | none => rfl
    | some w => exact hm _ _ hm'
  rw [this]; exact h1

/-! ### array_init -/

theorem init_cells (e l : Nat) (ub : Int) (v : Int) (o : Nat) (w : Int)
    (h : Mem.init e l ub v o = some w) : w = v := by
  unfold Mem.init Mem.storeRange at h
  split at h
  · exact (Option.some.inj h).symm
  · simp [Mem.empty] at h

theorem init_empty_range (e l : Nat) {ub : Int} (h : ub < (l : Int)) (v : Int) : Mem.init e l ub v = Mem.empty := by
  funext o
  have : inCells e l ub o = false := by
    simp only [inCells, Bool.and_eq_false_iff, decide_eq_false_iff_not]
    by_cases hlo : l ≤ o
    · exact Or.inl (Or.inr (by omega))
    · exact Or.inl (Or.inl hlo)
  simp [Mem.init, Mem.storeRange, this]

theorem aInit_sound {st : St Bs} {s s' : CState} (a : Nat) (lb ub val : Lin) (h : γ esz st s)
    (hr : cInit (esz a) a lb.eval ub.eval val.eval s = some s') : γ esz (aInit esz st a val) s' := by
  obtain ⟨l, _, rfl⟩ := cInit_some hr
  exact strong_update_sound a val _ (fun o w hw => init_cells _ _ _ _ o w hw) h

/-! ### array_store -/

theorem aStore_sound {st : St Bs} {s s' : CState} (a : Nat) (i val : Lin) (strong : Bool)
    (h : γ esz st s) (hr : cStore (esz a) a i.eval val.eval s = some s')
    (hl : strong = true → ∀ o, alignedOff (esz a) (i.eval s.iv) = some o → singleCell (s.ar a) o) :
    γ esz (aStore esz st a val strong) s' := by
  obtain ⟨o, ho, rfl⟩ := cStore_some hr
  cases strong with
  | true =>
    have hsc := hl rfl o ho
    have : aStore esz st a val true
        = ⟨setSize st.env a (some (esz a)), Bs.assign st.base (.smashed a) (.lin val)⟩ := by
      simp [aStore, setSize]
    rw [this]
    apply strong_update_sound a val _ _ h
    intro o' w hw
    unfold Mem.store at hw
    split at hw
    · exact (Option.some.inj hw).symm
    · rename_i hne
      exact absurd (hsc o' w hw) hne
  | false =>
    by_cases ht : st.env a = some (esz a)
    · have : aStore esz st a val false = ⟨st.env, Bs.weakAssign st.base (.smashed a) (.lin val)⟩ := by
        simp [aStore, ht]
      rw [this]
      apply weak_update_sound a val _ _ h
      intro o'
      unfold Mem.store
      split
      · exact Or.inl rfl
      · exact Or.inr rfl
    · have : aStore esz st a val false = st := by
        simp [aStore, ht]
      rw [this]
      exact untracked_update_sound a _ ht h

theorem aStoreRange_sound {st : St Bs} {s s' : CState} (a : Nat) (lb ub val : Lin)
    (h : γ esz st s) (hr : cStoreRange (esz a) a lb.eval ub.eval val.eval s = some s') :
    γ esz (aStoreRange esz st a val) s' := by
  obtain ⟨l, _, rfl⟩ := cStoreRange_some hr
  by_cases ht : st.env a = some (esz a)
  · have : aStoreRange esz st a val = ⟨st.env, Bs.weakAssign st.base (.smashed a) (.lin val)⟩ := by
      simp [aStoreRange, ht]
    rw [this]
    apply weak_update_sound a val _ _ h
    intro o'
    unfold Mem.storeRange
    split
    · exact Or.inl rfl
    · exact Or.inr rfl
  · have : aStoreRange esz st a val = st := by simp [aStoreRange, ht]
    rw [this]
    exact untracked_update_sound a _ ht h

/-! ### array_load -/

theorem aLoad_sound {st : St Bs} {s s' : CState} (x a : Nat) (i : Lin)
    (h : γ esz st s) (hr : cLoad (esz a) x a i.eval s = some s') : γ esz (aLoad esz st x a) s' := by
  obtain ⟨o, w, hw, rfl⟩ := cLoad_some hr
  by_cases ht : st.env a = some (esz a)
  · have hdef : aLoad esz st x a = ⟨st.env, Bs.forget (Bs.assign (Bs.expand st.base (.smashed a) (.copy a))
        (.prog x) (.var (.copy a))) (.copy a)⟩ := by simp [aLoad, ht]
    rw [hdef]
    obtain ⟨g, hg⟩ := h
    refine ⟨g, fun c => ?_⟩
    -- the state where the summary stands for the loaded cell
    let c₂ : Nat → Nat := fun b => if b = a then o else c b
    have hagree := mkEnv_choice (esz := esz) s st.env g (c := c) (c₂ := c₂) (a := a)
      fun b hb => by simp [c₂, hb]
    have h2 : mkEnv esz s st.env g c₂ (.smashed a) = w := by
      simp [mkEnv, ht, c₂, hw]
    have he := Bs.expand_sound st.base (.smashed a) (.copy a) _ _ (hg c) (hg c₂) hagree
    rw [h2] at he
    have ha := Bs.assign_sound _ (.prog x) (.var (.copy a)) _ he
    have hf := Bs.forget_sound _ (.copy a) _ (g (.copy a)) ha
    have heq : mkEnv esz (s.setVar x w) st.env g c
        = ((((mkEnv esz s st.env g c).set (.copy a) w).set (.prog x)
            ((RExpr.var (.copy a)).eval ((mkEnv esz s st.env g c).set (.copy a) w))).set (.copy a) (g (.copy a))) := by
      rw [mkEnv_setVar]
      funext y
      cases y with
      | prog n =>
        by_cases hn : n = x
        · subst hn; simp [Env.set, RExpr.eval]
        · have : ¬ Var.prog n = Var.prog x := fun h' => hn (Var.prog.inj h')
          simp [Env.set, this]
      | smashed b => simp [Env.set]
      | copy b =>
        by_cases hb : b = a
        · subst hb; simp [Env.set, mkEnv]
        · have : ¬ Var.copy b = Var.copy a := fun h' => hb (Var.copy.inj h')
          simp [Env.set, this]
    show Bs.γ (Bs.forget (Bs.assign (Bs.expand st.base (.smashed a) (.copy a)) (.prog x) (.var (.copy a))) (.copy a)) _
    rw [heq]; exact hf
  · have hdef : aLoad esz st x a = nForget st x := by simp [aLoad, ht, nForget]
    rw [hdef]
    exact nForget_sound x w h

/-! ### array_assign -/

theorem aAssign_sound {st : St Bs} {s s' : CState} (lhs rhs : Nat)
    (h : γ esz st s) (hsz : esz lhs = esz rhs) (hr : cAssign lhs rhs s = some s') :
    γ esz (aAssign st lhs rhs) s' := by
  have hs' : s' = s.setArr lhs (s.ar rhs) := (Option.some.inj hr).symm
  subst hs'
  by_cases hlr : lhs = rhs
  · subst hlr
    have : aAssign st lhs lhs = st := by simp [aAssign]
    rw [this, CState.setArr_self]; exact h
  · obtain ⟨g, hg⟩ := h
    have hforget : ∀ {ρ : Env}, Bs.γ st.base ρ → Bs.γ (Bs.forget st.base (.smashed lhs)) ρ := by
      intro ρ hρ
      have := Bs.forget_sound st.base (.smashed lhs) ρ (ρ (.smashed lhs)) hρ
      rwa [Env.set_self] at this
    cases hsize : st.env rhs with
    | none =>
      have hdef : aAssign st lhs rhs = ⟨setSize st.env lhs none, Bs.forget st.base (.smashed lhs)⟩ := by
        simp [aAssign, hlr, hsize]
      rw [hdef]
      refine ⟨g, fun c => ?_⟩
      show Bs.γ (Bs.forget st.base (.smashed lhs)) _
      rw [mkEnv_setArr (env := st.env) (g := g) c _ (fun b hb => by simp [setSize, hb]) (fun _ _ => rfl)]
      exact Bs.forget_sound st.base (.smashed lhs) _ _ (hg c)
    | some sz =>
      have hdef : aAssign st lhs rhs = ⟨setSize st.env lhs (some sz),
          Bs.expand (Bs.forget st.base (.smashed lhs)) (.smashed rhs) (.smashed lhs)⟩ := by
        simp [aAssign, hlr, hsize]
      rw [hdef]
      refine ⟨g.set (.smashed lhs) (g (.smashed rhs)), fun c => ?_⟩
      -- the summary of rhs standing for the cell chosen for lhs
      let c₂ : Nat → Nat := fun b => if b = rhs then c lhs else c b
      have hagree := mkEnv_choice (esz := esz) s st.env g (c := c) (c₂ := c₂) (a := rhs)
        fun b hb => by simp [c₂, hb]
      have he := Bs.expand_sound _ (.smashed rhs) (.smashed lhs) _ _ (hforget (hg c)) (hforget (hg c₂)) hagree
      show Bs.γ (Bs.expand (Bs.forget st.base (.smashed lhs)) (.smashed rhs) (.smashed lhs)) _
      rw [mkEnv_setArr (env := st.env) (g := g) c _ (fun b hb => by simp [setSize, hb])
        (fun y hy => by simp [Env.set, hy])]
      have hrl : ¬ rhs = lhs := fun h' => hlr h'.symm
      have : mkEnv esz (s.setArr lhs (s.ar rhs)) (setSize st.env lhs (some sz))
            (g.set (.smashed lhs) (g (.smashed rhs))) c (.smashed lhs)
          = mkEnv esz s st.env g c₂ (.smashed rhs) := by
        simp only [mkEnv, setSize, if_true, Env.set, CState.setArr, hsize, c₂]
        rw [hsz]
      rw [this]; exact he

/-! ### join and widening -/

theorem envJoin_tracked_l {e₁ e₂ : Nat → Option Nat} {a : Nat} {k : Nat}
    (h : envJoin e₁ e₂ a = some k) : e₁ a = some k := by
  unfold envJoin at h
  split at h
  · exact h
  · exact absurd h (by simp)

theorem envJoin_tracked_r {e₁ e₂ : Nat → Option Nat} {a : Nat} {k : Nat}
    (h : envJoin e₁ e₂ a = some k) : e₂ a = some k := by
  unfold envJoin at h
  split at h
  · rename_i heq; rw [← heq]; exact h
  · exact absurd h (by simp)

/-- a state accepted with tracking environment `env` is accepted with any environment that tracks
    fewer arrays (the ghosts of the arrays no longer tracked take the value of a fixed cell) -/
theorem γ_mono_env {b : Bs.B} {env env' : Nat → Option Nat} {s : CState}
    (hsub : ∀ a, env' a = some (esz a) → env a = some (esz a))
    (h : γ esz (⟨env, b⟩ : St Bs) s) : γ esz (⟨env', b⟩ : St Bs) s := by
  obtain ⟨g, hg⟩ := h
  refine ⟨mkEnv esz s env g (fun _ => 0), fun c => ?_⟩
  -- the choice of cells under `env` that gives the same environment
  let c' : Nat → Nat := fun a => if env' a = some (esz a) ∧ (s.ar a (c a)).isSome then c a else 0
  have heq : mkEnv esz s env' (mkEnv esz s env g (fun _ => 0)) c = mkEnv esz s env g c' := by
    funext y
    cases y with
    | prog n => rfl
    | copy a => rfl
    | smashed a =>
      have hdep : ∀ c₁ c₂ : Nat → Nat, c₁ a = c₂ a →
          mkEnv esz s env g c₁ (.smashed a) = mkEnv esz s env g c₂ (.smashed a) := by
        intro c₁ c₂ h; simp only [mkEnv, h]
      by_cases ht' : env' a = some (esz a)
      · cases hc : s.ar a (c a) with
        | some v =>
          have : c' a = c a := by simp [c', ht', hc]
          simp only [mkEnv, ht', if_true, hc, hsub a ht', this]
        | none =>
          have : c' a = 0 := by simp [c', hc]
          simp only [mkEnv, ht', if_true, hc]; exact hdep (fun _ => 0) c' this.symm
      · have : c' a = 0 := by simp [c', ht']
        simp only [mkEnv, ht', if_false]; exact hdep (fun _ => 0) c' this.symm
  show Bs.γ b _
  rw [heq]; exact hg c'

/-- join and widening differ in the operation of the base domain only -/
theorem upper_sound (op : Bs.B → Bs.B → Bs.B) (hl : ∀ a b ρ, Bs.γ a ρ → Bs.γ (op a b) ρ)
    (hr : ∀ a b ρ, Bs.γ b ρ → Bs.γ (op a b) ρ) {s₁ s₂ : St Bs} {s : CState} (h : γ esz s₁ s ∨ γ esz s₂ s) :
    γ esz (⟨envJoin s₁.env s₂.env, op s₁.base s₂.base⟩ : St Bs) s := by
  rcases h with ⟨g, hg⟩ | ⟨g, hg⟩
  · exact γ_mono_env (env := s₁.env) (fun a ha => envJoin_tracked_l ha) ⟨g, fun c => hl _ _ _ (hg c)⟩
  · exact γ_mono_env (env := s₂.env) (fun a ha => envJoin_tracked_r ha) ⟨g, fun c => hr _ _ _ (hg c)⟩

theorem sJoin_sound {s₁ s₂ : St Bs} {s : CState} (h : γ esz s₁ s ∨ γ esz s₂ s) : γ esz (sJoin s₁ s₂) s :=
  upper_sound Bs.join Bs.join_sound_l Bs.join_sound_r h

theorem sWiden_sound {s₁ s₂ : St Bs} {s : CState} (h : γ esz s₁ s ∨ γ esz s₂ s) : γ esz (sWiden s₁ s₂) s :=
  upper_sound Bs.widen Bs.widen_sound_l Bs.widen_sound_r h

theorem γ_top (s : CState) : γ esz (St.top : St Bs) s :=
  ⟨fun _ => 0, fun _ => Bs.top_sound _⟩

theorem valIn_of_γ {st : St Bs} {s : CState} (h : γ esz st s) (x : Nat) : ValIn st x (s.iv x) := by
  obtain ⟨g, hg⟩ := h
  exact ⟨_, hg (fun _ => 0), rfl⟩

theorem not_γ_bottom {st : St Bs} (hb : st.isBottom = true) (s : CState) : ¬ γ esz st s :=
  fun ⟨_, hg⟩ => Bs.isBot_sound _ _ hb (hg fun _ => 0)

theorem not_bottom_of_γ {st : St Bs} {s : CState} (h : γ esz st s) : st.isBottom = false :=
  Bool.eq_false_iff.2 fun hb => not_γ_bottom hb s h

/-! ### the functor as the code has it

  `array_assign` and the upper bounds of `array_smashing.hpp` do less than `aAssign`, `sJoin`,
  `sWiden` in two branches; both variants are sound for every base domain. -/

/-- `array_assign` as coded: with no size recorded for either array, `operator-=(lhs)` returns
    before it reaches the base domain -/
def aAssignC (st : St Bs) (lhs rhs : Nat) : St Bs :=
  if lhs ≠ rhs ∧ st.env rhs = none ∧ st.env lhs = none then st else aAssign st lhs rhs

theorem aAssignC_sound {st : St Bs} {s s' : CState} (lhs rhs : Nat) (h : γ esz st s) (hsz : esz lhs = esz rhs)
    (hr : cAssign lhs rhs s = some s') : γ esz (aAssignC st lhs rhs) s' := by
  unfold aAssignC
  split
  · rename_i hk
    cases hr
    exact untracked_update_sound lhs _ (by rw [hk.2.2]; exact fun e => nomatch e) h
  · exact aAssign_sound lhs rhs h hsz hr

/-- an upper bound as coded: an operand whose base is bottom is dropped first, so that the sizes
    recorded by the other operand survive -/
def upperC (op : St Bs → St Bs → St Bs) (a b : St Bs) : St Bs :=
  if a.isBottom then b else if b.isBottom then a else op a b

theorem upperC_eq {op : St Bs → St Bs → St Bs} {a b : St Bs} (ha : a.isBottom = false) (hb : b.isBottom = false) :
    upperC op a b = op a b := by
  simp [upperC, ha, hb]

theorem upperC_sound {op : St Bs → St Bs → St Bs} {a b : St Bs} {s : CState}
    (hop : γ esz a s ∨ γ esz b s → γ esz (op a b) s) (h : γ esz a s ∨ γ esz b s) : γ esz (upperC op a b) s :=
  Fct.binop_cases (γ esz · s) (fun ha => h.resolve_left (not_γ_bottom ha s))
    (fun _ hb => h.resolve_right (not_γ_bottom hb s)) fun _ _ => hop h

/-- an operation whose step is a transformer, appended to a history of operations, takes a state
    collected in its slot to a collected state -/
theorem _root_.Crab.Dom.collHist_map_snoc {α A S : Type} {f : α → Step A S} {c : CPool S} {ops : List α} {o : α}
    {d : Nat} {t : Trans A S} {s s' : S} (ho : f o = .trans d t) (hs : collHist c (ops.map f) d s) (hr : t.r s s') :
    collHist c ((ops ++ [o]).map f) d s' := by
  simp only [collHist, List.map_append, List.map_cons, List.map_nil, ho, List.foldl_append, List.foldl_cons,
    List.foldl_nil, Step.coll, CPool.set, if_true]
  exact ⟨s, hs, hr⟩

/-- every step is sound, whatever sound implementation of `array_assign` it runs -/
theorem step_soundWith (Bs : Base) (esz : Nat → Nat) (asg : St Bs → Nat → Nat → St Bs)
    (hasg : ∀ {st : St Bs} {s s' : CState} (lhs rhs : Nat), γ esz st s → esz lhs = esz rhs →
      cAssign lhs rhs s = some s' → γ esz (asg st lhs rhs) s') (op : Op) :
    (op.toStepWith asg esz).Sound (γ esz) := by
  cases op with
  | assign d x e => intro st s s' hγ hr; cases hr; exact nAssign_sound x e hγ
  | assume d c => intro st s s' hγ hr; obtain ⟨hc, rfl⟩ := hr; exact nAssume_sound c hγ hc
  | forget d x => intro st s s' hγ hr; obtain ⟨v, rfl⟩ := hr; exact nForget_sound x v hγ
  | aInit d a lb ub val => exact fun st s s' hγ hr => aInit_sound a lb ub val hγ hr
  | aLoad d x a i => exact fun st s s' hγ hr => aLoad_sound x a i hγ hr
  | aStore d a i val strong => exact fun st s s' hγ hr => aStore_sound a i val strong hγ hr.1 hr.2
  | aStoreRange d a lb ub val => exact fun st s s' hγ hr => aStoreRange_sound a lb ub val hγ hr
  | aAssign d lhs rhs => exact fun st s s' hγ hr => hasg lhs rhs hγ hr.1 hr.2
  | join d p q => exact fun a b s h => sJoin_sound h
  | widen d p q => exact fun a b s h => sWiden_sound h
  | copy d p => trivial

theorem step_sound (Bs : Base) (esz : Nat → Nat) (op : Op) : (op.toStep (Bs := Bs) esz).Sound (γ esz) :=
  step_soundWith Bs esz aAssign aAssign_sound op

/-- the step of an operation as the code runs it -/
def Op.toStepCoded (esz : Nat → Nat) : Op → Step (St Bs) CState
  | .join d p q => .upper d p q (upperC sJoin)
  | .widen d p q => .upper d p q (upperC sWiden)
  | o => o.toStepWith aAssignC esz

theorem stepCoded_sound (Bs : Base) (esz : Nat → Nat) (op : Op) : (op.toStepCoded (Bs := Bs) esz).Sound (γ esz) := by
  have h := step_soundWith Bs esz aAssignC aAssignC_sound op
  cases op with
  | join d p q => exact fun a b s => upperC_sound (h a b s)
  | widen d p q => exact fun a b s => upperC_sound (h a b s)
  | _ => exact h

/-! ### the contracts under which a meet of two values is sound

  `SizesOk` (a recorded size is the element size of its array: `array_assign` between arrays of
  one element size) and `NE` (a tracked array has a written cell: `array_init` over non-empty
  ranges) mention the size environment and the concrete arrays only.  Every array transformer
  sets the size of ONE array `a` and replaces the contents of `a` (`sizes_setArr`). -/

def SizesOk (esz : Nat → Nat) (env : Nat → Option Nat) : Prop := ∀ a k, env a = some k → k = esz a

def NE (esz : Nat → Nat) (env : Nat → Option Nat) (s : CState) : Prop :=
  ∀ a, env a = some (esz a) → ∃ o v, s.ar a o = some v

theorem setSize_self (env : Nat → Option Nat) (a : Nat) : setSize env a (env a) = env := by
  funext b; unfold setSize; split
  · rename_i h; rw [h]
  · rfl

theorem sizes_setArr {env : Nat → Option Nat} {a : Nat} {v : Option Nat} (hk : SizesOk esz env)
    (hv : ∀ k, v = some k → k = esz a) :
    SizesOk esz (setSize env a v) ∧ ∀ (s : CState) (m' : Mem), NE esz env s →
      (v = some (esz a) → ∃ o w, m' o = some w) → NE esz (setSize env a v) (s.setArr a m') := by
  refine ⟨fun b k hb => ?_, fun s m' hn hm b hb => ?_⟩
  · unfold setSize at hb; split at hb
    · rename_i e; subst e; exact hv k hb
    · exact hk b k hb
  · unfold setSize at hb; split at hb
    · rename_i e; subst e; rw [CState.setArr_same]; exact hm hb
    · rename_i e; rw [CState.setArr_other s _ e]; exact hn b hb

theorem aStore_env (st : St Bs) (a : Nat) (val : Lin) (strong : Bool) :
    (aStore esz st a val strong).env = setSize st.env a (if strong then some (esz a) else st.env a) := by
  unfold aStore; cases strong
  · simp only [Bool.false_eq_true, if_false, setSize_self]; split <;> rfl
  · simp only [if_true]; split <;> rfl

theorem aStoreRange_env (st : St Bs) (a : Nat) (val : Lin) : (aStoreRange esz st a val).env = st.env := by
  unfold aStoreRange; split <;> rfl

theorem aLoad_env (st : St Bs) (x a : Nat) : (aLoad esz st x a).env = st.env := by
  unfold aLoad; split <;> rfl

theorem aAssignC_env (st : St Bs) (lhs rhs : Nat) : (aAssignC st lhs rhs).env = setSize st.env lhs (st.env rhs) := by
  unfold aAssignC aAssign
  by_cases hlr : lhs = rhs
  · subst hlr; simp [setSize_self]
  · cases hr : st.env rhs with
    | some k => simp [hlr]
    | none =>
      cases hl : st.env lhs with
      | some k => simp [hlr]
      | none => simp only [hlr, ne_eq, not_false_eq_true, and_self, if_true]; rw [← hl, setSize_self]

/-- what a transformer `fg` with concrete relation `r` owes to `SizesOk` and `NE` -/
def KeepsSizes (esz : Nat → Nat) (fg : St Bs → St Bs) (r : CState → CState → Prop) : Prop :=
  ∀ g, SizesOk esz g.env → SizesOk esz (fg g).env ∧ ∀ s s', NE esz g.env s → r s s' → NE esz (fg g).env s'

/-- a transformer that touches neither the sizes nor the arrays -/
theorem KeepsSizes.same {fg : St Bs → St Bs} {r : CState → CState → Prop} (he : ∀ g, (fg g).env = g.env)
    (hr : ∀ s s', r s s' → s'.ar = s.ar) : KeepsSizes esz fg r := by
  intro g hk
  rw [he g]
  exact ⟨hk, fun s s' hn h a ha => hr s s' h ▸ hn a ha⟩

theorem aInit_sizes (a : Nat) (lb ub val : Lin) :
    KeepsSizes (Bs := Bs) esz (aInit esz · a val)
      fun s s' => cInit (esz a) a lb.eval ub.eval val.eval s = some s' ∧ lb.eval s.iv ≤ ub.eval s.iv := by
  intro g hk
  obtain ⟨h1, h2⟩ := sizes_setArr (a := a) (v := some (esz a)) hk fun k e => (Option.some.inj e).symm
  refine ⟨h1, fun s s' hn ⟨hr, hle⟩ => ?_⟩
  obtain ⟨l, hl, rfl⟩ := cInit_some hr
  refine h2 s _ hn fun _ => ⟨l, val.eval s.iv, ?_⟩
  have : inCells (esz a) l (ub.eval s.iv) l = true := by
    have := alignedOff_some hl
    simp only [inCells, Nat.le_refl, decide_true, Nat.sub_self, Nat.zero_mod, Bool.true_and, Bool.and_true,
      decide_eq_true_eq]
    omega
  simp [Mem.init, Mem.storeRange, this]

theorem aStore_sizes (a : Nat) (i val : Lin) (strong : Bool) (P : CState → Prop) :
    KeepsSizes (Bs := Bs) esz (aStore esz · a val strong)
      fun s s' => cStore (esz a) a i.eval val.eval s = some s' ∧ P s := by
  intro g hk
  rw [aStore_env]
  obtain ⟨h1, h2⟩ := sizes_setArr (a := a) (v := if strong then some (esz a) else g.env a) hk fun k e => by
    cases strong
    · exact hk a k e
    · exact (Option.some.inj e).symm
  refine ⟨h1, fun s s' hn ⟨hr, _⟩ => ?_⟩
  obtain ⟨o, _, rfl⟩ := cStore_some hr
  exact h2 s _ hn fun _ => ⟨o, val.eval s.iv, by simp [Mem.store]⟩

theorem aStoreRange_sizes (a : Nat) (lb ub val : Lin) :
    KeepsSizes (Bs := Bs) esz (aStoreRange esz · a val)
      fun s s' => cStoreRange (esz a) a lb.eval ub.eval val.eval s = some s' := by
  intro g hk
  obtain ⟨h1, h2⟩ := sizes_setArr (a := a) (v := g.env a) hk (hk a)
  rw [setSize_self] at h1 h2
  rw [aStoreRange_env]
  refine ⟨h1, fun s s' hn hr => ?_⟩
  obtain ⟨l, _, rfl⟩ := cStoreRange_some hr
  refine h2 s _ hn fun ha => ?_
  obtain ⟨o, v, hov⟩ := hn a ha
  by_cases hin : inCells (esz a) l (ub.eval s.iv) o = true
  · exact ⟨o, val.eval s.iv, by simp [Mem.storeRange, hin]⟩
  · exact ⟨o, v, by simp [Mem.storeRange, hin, hov]⟩

theorem aAssignC_sizes (lhs rhs : Nat) (hsz : esz lhs = esz rhs) :
    KeepsSizes (Bs := Bs) esz (aAssignC · lhs rhs) fun s s' => esz lhs = esz rhs ∧ cAssign lhs rhs s = some s' := by
  intro g hk
  rw [aAssignC_env]
  obtain ⟨h1, h2⟩ := sizes_setArr (a := lhs) (v := g.env rhs) hk fun k e => hsz ▸ hk rhs k e
  refine ⟨h1, fun s s' hn ⟨_, hr⟩ => ?_⟩
  cases hr
  exact h2 s _ hn fun e => hn rhs (hsz ▸ e)

/-- an upper bound as coded over the join of the size environments; no state is in an operand
    whose base is bottom -/
theorem upperC_sizes {op : St Bs → St Bs → St Bs} (hop : ∀ a b, (op a b).env = envJoin a.env b.env) {a b : St Bs}
    (ha : SizesOk esz a.env) (hb : SizesOk esz b.env) :
    SizesOk esz (upperC op a b).env ∧
      ∀ s, (γ esz a s ∧ NE esz a.env s) ∨ (γ esz b s ∧ NE esz b.env s) → NE esz (upperC op a b).env s :=
  Fct.binop_cases (fun r : St Bs => SizesOk esz r.env ∧ ∀ s, (γ esz a s ∧ NE esz a.env s) ∨ (γ esz b s ∧ NE esz b.env s) → NE esz r.env s)
    (fun na => ⟨hb, fun s h => (h.resolve_left fun g => not_γ_bottom na s g.1).2⟩)
    (fun _ nb => ⟨ha, fun s h => (h.resolve_right fun g => not_γ_bottom nb s g.1).2⟩)
    fun _ _ => hop a b ▸ ⟨fun x k hx => ha x k (envJoin_tracked_l hx), fun _ h x hx =>
      h.elim (fun g => g.2 x (envJoin_tracked_l hx)) (fun g => g.2 x (envJoin_tracked_r hx))⟩

/-! ### a step simulates another through a relation -/

/-- the two steps write the same slot from the same slots, abstract the same concrete relation,
    and their functions map related values to related values -/
inductive _root_.Crab.Dom.Step.Sim {A A' S : Type} (R : A → A' → Prop) : Step A S → Step A' S → Prop
  | trans (d : Nat) {f : A → A} {f' : A' → A'} (r : S → S → Prop) (h : ∀ a a', R a a' → R (f a) (f' a')) :
      Step.Sim R (.trans d ⟨f, r⟩) (.trans d ⟨f', r⟩)
  | upper (d a b : Nat) {g : A → A → A} {g' : A' → A' → A'}
      (h : ∀ x x' y y', R x x' → R y y' → R (g x y) (g' x' y')) : Step.Sim R (.upper d a b g) (.upper d a b g')
  | copy (d s : Nat) : Step.Sim R (.copy d s) (.copy d s)

/-- related pools stay related -/
theorem _root_.Crab.Dom.Step.Sim.run {A A' S : Type} {R : A → A' → Prop} {st : Step A S} {st' : Step A' S}
    (h : Step.Sim R st st') {p : Pool A} {p' : Pool A'} (hp : ∀ i, R (p i) (p' i)) :
    ∀ i, R (st.run p i) (st'.run p' i) := by
  have set : ∀ (d : Nat) {v : A} {v' : A'}, R v v' → ∀ i, R (p.set d v i) (p'.set d v' i) := by
    intro d v v' hv i; unfold Pool.set; split
    · exact hv
    · exact hp i
  cases h with
  | trans d r h => exact set d (h _ _ (hp d))
  | upper d a b h => exact set d (h _ _ _ _ (hp a) (hp b))
  | copy d s => exact set d (hp s)

end Smash
end Dom
end Crab
