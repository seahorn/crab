import CrabProofs.Lemmas.IDomWFScalar
import CrabProofs.Lemmas.IDomInst

/-!
  `Env.ValWF`: every stored interval is well formed (`lb ≠ +oo`, `ub ≠ -oo`).  It holds of `top`
  and `bottom` and is preserved by every operation of the interval domain, so it holds of every
  value the domain can build.  On such environments the partial interval operations used by the
  domain (`+` in `assign` / `operator[]`, `-` in `compute_residual`, `+`, `-`, `/` in `apply`) are
  defined: the versions of these functions written with `Option` (= with the CRAB_ERROR of
  `-oo + +oo`) return `some` of the total functions of the model (`evalExprO_eq`,
  `residualLoopO_eq`, `ArithOp.evalO_eq`).  The CRAB_ERROR is unreachable.
-/
namespace Crab
namespace IDom
open Lin

namespace Env

theorem valwf_bot : ValWF bot := by simp [ValWF, bot]
theorem valwf_top : ValWF top := by simp [ValWF, top]

theorem get_wf {e : Env} (h : e.ValWF) (x : Var) : (e.get x).WF := by
  unfold get
  split
  · exact Itv.wf_bot
  · cases hf : e.m.find x with
    | none => exact Itv.wf_top
    | some v => exact h (x, v) (Map.find_some_mem hf)

theorem remove_valwf {m : Map} (h : ∀ p ∈ m, p.2.WF) (k : Var) : ∀ p ∈ m.remove k, p.2.WF :=
  fun p hp => h p (List.mem_filter.1 hp).1

theorem insert_valwf {m : Map} (h : ∀ p ∈ m, p.2.WF) (k : Var) {v : Itv} (hv : v.WF) : ∀ p ∈ m.insert k v, p.2.WF :=
  fun p hp => (Map.mem_insert hp).elim (fun e => e ▸ hv) (h p)

theorem store_valwf {m : Map} (h : ∀ p ∈ m, p.2.WF) (k : Var) {v : Itv} (hv : v.WF) : ∀ p ∈ m.store k v, p.2.WF :=
  fun p hp => (Map.mem_store hp).elim (fun e => e ▸ hv) (h p)

theorem set_valwf {e : Env} (h : e.ValWF) (k : Var) {v : Itv} (hv : v.WF) : (e.set k v).ValWF :=
  set_ind e k v (fun _ => h) (fun _ => valwf_bot) (fun _ _ => store_valwf h k hv)

theorem forget_valwf {e : Env} (h : e.ValWF) (k : Var) : (e.forget k).ValWF := set_valwf h k Itv.wf_top

theorem joinVal_wf {e : Env} (h : e.ValWF) (k : Var) {v : Itv} (hv : v.WF) : (e.joinVal k v).WF := by
  unfold joinVal
  split
  · exact Itv.wf_top
  · cases hf : e.m.find k with
    | none => exact Itv.wf_top
    | some old => exact Itv.wf_join (h (k, old) (Map.find_some_mem hf)) hv

theorem joinKey_valwf {e : Env} (h : e.ValWF) (k : Var) {v : Itv} (hv : v.WF) : (e.joinKey k v).ValWF :=
  joinKey_ind e k v (fun _ => h) (fun _ => valwf_bot) (fun _ _ => store_valwf h k (joinVal_wf h k hv))

theorem upperWith_valwf {op : Itv → Itv → Itv} (hop : ∀ x y, x.WF → y.WF → (op x y).WF) {a b : Env}
    (ha : a.ValWF) (hb : b.ValWF) : (upperWith op a b).ValWF := by
  unfold upperWith
  split
  · exact hb
  · split
    · exact ha
    · intro p hp
      simp only [Map.mergeAbs, List.mem_filterMap] at hp
      obtain ⟨q, hq, he⟩ := hp
      cases hf : Map.find b.m q.1 with
      | none => simp [hf] at he
      | some y =>
        simp only [hf] at he
        split at he
        · simp at he
        · simp only [Option.some.injEq] at he; subst he
          exact hop _ _ (ha q hq) (hb (q.1, y) (Map.find_some_mem hf))

theorem mergeKeep_valwf {op : Itv → Itv → Itv} (hop : ∀ x y, x.WF → y.WF → (op x y).WF) {a : Map}
    (ha : ∀ p ∈ a, p.2.WF) : ∀ (b : Map), (∀ p ∈ b, p.2.WF) → ∀ p ∈ Map.mergeKeep op a b, p.2.WF := by
  intro b
  induction b with
  | nil => intro _; exact ha
  | cons q rest ih =>
    intro hb
    have ih' := ih (fun p hp => hb p (List.mem_cons_of_mem _ hp))
    unfold Map.mergeKeep at ih' ⊢
    simp only [List.foldr_cons]
    have hq := hb q List.mem_cons_self
    cases hf : Map.find a q.1 with
    | none => exact insert_valwf ih' _ hq
    | some x => exact insert_valwf ih' _ (hop _ _ (ha (q.1, x) (Map.find_some_mem hf)) hq)

theorem lowerWith_valwf {op : Itv → Itv → Itv} (hop : ∀ x y, x.WF → y.WF → (op x y).WF) {a b : Env}
    (ha : a.ValWF) (hb : b.ValWF) : (lowerWith op a b).ValWF := by
  unfold lowerWith
  split
  · exact valwf_bot
  · split
    · exact valwf_bot
    · exact mergeKeep_valwf hop ha b.m hb

/-- `operator[](e)` / the loop of `assign` with the CRAB_ERROR of `+` -/
def evalFoldO (e : Env) : List (Var × Int) → Itv → Option Itv
  | [], r => some r
  | p :: rest, r =>
    match Itv.add r (Itv.mul (Itv.single p.2) (e.get p.1)) with
    | some r' => evalFoldO e rest r'
    | none => none

def evalExprO (e : Env) (ex : Expr) : Option Itv := evalFoldO e ex.terms (Itv.single ex.cst)

/-- the loop never raises CRAB_ERROR, and its result is well formed -/
theorem evalFoldO_eq {e : Env} (h : e.ValWF) : ∀ (ts : List (Var × Int)) (r : Itv), r.WF →
    evalFoldO e ts r = some (ts.foldl (fun r p => addT r (Itv.mul (Itv.single p.2) (e.get p.1))) r) ∧
      (ts.foldl (fun r p => addT r (Itv.mul (Itv.single p.2) (e.get p.1))) r).WF := by
  intro ts
  induction ts with
  | nil => intro r hr; exact ⟨rfl, hr⟩
  | cons p rest ih =>
    intro r hr
    have hm := Itv.wf_mul (Itv.wf_single p.2) (get_wf h p.1)
    simp only [evalFoldO, add_eq_addT hr hm, List.foldl_cons]
    exact ih _ (wf_addT hr hm)

/-- evaluating an expression never raises CRAB_ERROR -/
theorem evalExprO_eq {e : Env} (h : e.ValWF) (ex : Expr) : evalExprO e ex = some (e.evalExpr ex) :=
  (evalFoldO_eq h ex.terms _ (Itv.wf_single _)).1

theorem evalExpr_wf {e : Env} (h : e.ValWF) (ex : Expr) : (e.evalExpr ex).WF :=
  (evalFoldO_eq h ex.terms _ (Itv.wf_single _)).2

theorem rhsVal_wf {e : Env} (h : e.ValWF) (ex : Expr) : (e.rhsVal ex).WF := by
  unfold rhsVal
  cases getVariable ex with
  | some v => exact get_wf h v
  | none => exact evalExpr_wf h ex

theorem assign_valwf {e : Env} (h : e.ValWF) (x : Var) (ex : Expr) : (e.assign x ex).ValWF := by
  rw [assign_eq]; exact set_valwf h x (rhsVal_wf h ex)

theorem weakAssign_valwf {e : Env} (h : e.ValWF) (x : Var) (ex : Expr) : (e.weakAssign x ex).ValWF := by
  rw [weakAssign_eq]; exact joinKey_valwf h x (rhsVal_wf h ex)

end Env

/-- the `switch` of `apply` with the CRAB_ERRORs of `+`, `-`, `/` -/
def ArithOp.evalO (op : ArithOp) (yi zi : Itv) : Option Itv :=
  match op with
  | .add => Itv.add yi zi
  | .sub => Itv.sub yi zi
  | .sdiv => Itv.div yi zi
  | op => some (op.eval yi zi)

theorem ArithOp.evalO_eq (op : ArithOp) {x y : Itv} (hx : x.WF) (hy : y.WF) : op.evalO x y = some (op.eval x y) := by
  cases op <;> simp only [ArithOp.evalO, ArithOp.eval]
  · exact add_eq_addT hx hy
  · exact sub_eq_subT hx hy
  · exact div_eq_divT x y

/-- `compute_residual` with the CRAB_ERROR of `-` -/
def residualLoopO (env : Env) (pivot : Var) : List (Var × Int) → Itv → Nat → Option (Itv × Nat)
  | [], r, n => some (r, n)
  | (v, c) :: rest, r, n =>
    if v = pivot then residualLoopO env pivot rest r n
    else
      match Itv.sub r (Itv.mul (Itv.single c) (env.get v)) with
      | some r' => if r'.isTop then some (r', n + 1) else residualLoopO env pivot rest r' (n + 1)
      | none => none

/-- computing a residual never raises CRAB_ERROR, and the residual is well formed -/
theorem residualLoopO_eq {env : Env} (h : env.ValWF) (pivot : Var) : ∀ (ts : List (Var × Int)) (r : Itv) (n : Nat),
    r.WF → residualLoopO env pivot ts r n = some (residualLoop env pivot ts r n) ∧
      (residualLoop env pivot ts r n).1.WF := by
  intro ts
  induction ts with
  | nil => intro r n hr; exact ⟨rfl, hr⟩
  | cons p rest ih =>
    obtain ⟨v, c⟩ := p
    intro r n hr
    unfold residualLoopO residualLoop
    split
    · exact ih r n hr
    · have hm := Itv.wf_mul (Itv.wf_single c) (Env.get_wf h v)
      simp only [sub_eq_subT hr hm]
      split
      · exact ⟨rfl, wf_subT hr hm⟩
      · exact ih _ _ (wf_subT hr hm)

theorem pivotRhs_wf (c : Cst) {st : SolverSt} (h : st.env.ValWF) (pivot : Var) (coef : Int) :
    (pivotRhs c st pivot coef).WF := by
  unfold pivotRhs
  split
  · exact wf_divT (residualLoopO_eq h pivot c.expr.terms _ st.ops (Itv.wf_single _)).2 (Itv.wf_single _)
  · exact Itv.wf_top

theorem propagateTerm_valwf (c : Cst) {st : SolverSt} (h : st.env.ValWF) (pivot : Var) (coef : Int) :
    (propagateTerm c st pivot coef).2.env.ValWF := by
  have hr := pivotRhs_wf c h pivot coef
  have hg := Env.get_wf h pivot
  refine propagateTerm_ind (M := fun r => r.2.env.ValWF) c st pivot coef (fun _ _ => h) (fun _ _ _ _ _ => h)
    fun v _ _ hv => Env.set_valwf h pivot ?_
  cases hv with
  | eq => exact Itv.wf_meet hg hr
  | leqPos => exact Itv.wf_meet hg (Itv.wf_lowerHalfLine hr)
  | leqNeg => exact Itv.wf_meet hg (Itv.wf_upperHalfLine hr)
  | neq => exact Itv.wf_trim hg _

theorem solverRun_valwf (csts : Sys) (maxCycles : Nat) {env : Env} (h : env.ValWF) :
    (solverRun csts maxCycles env).ValWF :=
  solverRun_ind (T := fun _ => True) (fun _ _ _ => Env.valwf_bot) (fun _ _ _ => ⟨trivial, trivial⟩)
    (fun c _ p _ _ h => passEnv_of Env.valwf_bot (propagateTerm_valwf c h p.1 p.2)) (fun _ _ => trivial) maxCycles h

namespace Env

theorem add_valwf {e : Env} (h : e.ValWF) (csts : Sys) : (e.add csts).ValWF := by
  unfold add; split
  · exact h
  · exact solverRun_valwf _ _ h

theorem select_valwf {e : Env} (h : e.ValWF) (lhs : Var) (c : Cst) (e1 e2 : Expr) : (e.select lhs c e1 e2).ValWF :=
  select_ind e lhs c e1 e2 (fun _ => h) (fun _ => assign_valwf h _ _) (fun _ => assign_valwf h _ _)
    (set_valwf h _ (Itv.wf_join (evalExpr_wf h e1) (evalExpr_wf h e2)))

theorem forgetAll_valwf {e : Env} (h : e.ValWF) (vs : List Var) : (e.forgetAll vs).ValWF := by
  unfold forgetAll; split
  · exact h
  · exact List.foldlRecOn _ _ (motive := ValWF) h fun _ he k _ => forget_valwf he k

theorem project_valwf {e : Env} (h : e.ValWF) (ks : List Var) : (e.project ks).ValWF :=
  project_ind e ks (fun _ => h) (List.foldlRecOn _ _ (motive := ValWF) valwf_top fun _ he k _ => set_valwf he k (get_wf h k))
    (fun _ => List.foldlRecOn _ _ (motive := ValWF) h fun _ he k _ => forget_valwf he k)

theorem expand_valwf {e : Env} (h : e.ValWF) (x nx : Var) : (e.expand x nx).ValWF := by
  unfold expand; split
  · exact h
  · exact set_valwf h nx (get_wf h x)

theorem intCast_valwf {e : Env} (h : e.ValWF) (z : Bool) (bw : Nat) (d s : Var) : (e.intCast z bw d s).ValWF := by
  unfold intCast
  simp only []
  split
  · exact add_valwf (assign_valwf h _ _) _
  · exact assign_valwf h _ _

theorem renameLoop_valwf (f t : List Var) (m : Map) (h : ∀ p ∈ m, p.2.WF) : ∀ p ∈ renameLoop f t m, p.2.WF :=
  renameLoop_ind (Q := fun m => ∀ p ∈ m, p.2.WF) (fun m k nk v h hv => remove_valwf (by
    split
    · exact insert_valwf h _ (h (k, v) (Map.find_some_mem hv))
    · exact h) k) f t m h

theorem rename_valwf {e e' : Env} {f t : List Var} (hr : e.rename f t = some e') (h : e.ValWF) : e'.ValWF :=
  rename_ind hr (fun _ => h) (fun _ _ => renameLoop_valwf _ _ _ h)

end Env

theorem Stmt.exec_valwf (st : Stmt) {a : Env} (h : a.ValWF) : (st.exec a).ValWF := by
  cases st <;> simp only [Stmt.exec]
  · exact Env.assign_valwf h _ _
  · exact Env.set_valwf h _ (ArithOp.eval_wf _ (Env.get_wf h _) (Env.get_wf h _))
  · exact Env.set_valwf h _ (ArithOp.eval_wf _ (Env.get_wf h _) (Itv.wf_single _))
  · exact Env.set_valwf h _ (BitOp.eval_wf _ (Env.get_wf h _) (Env.get_wf h _))
  · exact Env.set_valwf h _ (BitOp.eval_wf _ (Env.get_wf h _) (Itv.wf_single _))
  · exact Env.add_valwf h _
  · exact Env.select_valwf h _ _ _ _
  · exact Env.forgetAll_valwf h _
  · exact Env.project_valwf h _
  · exact Env.expand_valwf h _ _
  · exact Env.intCast_valwf h _ _ _ _

end IDom
end Crab
