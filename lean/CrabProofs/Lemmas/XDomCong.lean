import CrabProofs.Lemmas.XDomLin
import CrabProofs.Lemmas.XDomStmt
import CrabProofs.Props.C08Cong
import CrabModel.Dom.CongruenceDomain
import CrabProofs.Lemmas.CongruenceOps
import CrabProofs.Lemmas.CongruenceWiden

/-!
  `congruence_domain` (model `Crab.GDom`), scalar level: every operation of `congruence<z_number>`
  the domain stores the result of returns a value in standard form (`Cong.WF`), and the value
  lattice satisfies `XDom.Laws` for the representation invariant `Cong.WF`.
-/
namespace Crab
namespace GDom
open XDom Lin Cong

/-- the representation invariant of `congruence`: the standard form established by `normalize()` -/
instance : GoodVal Cong := ⟨Cong.WF⟩

theorem wf_top : WF Cong.top := by decide
theorem wf_bot : WF Cong.bot := by decide
theorem wf_ofInt (n : Int) : WF (ofInt n) := by simp [WF, ofInt]

theorem ite_of {P : Cong → Prop} {c : Prop} [Decidable c] {a b : Cong} (ha : P a) (hb : P b) :
    P (if c then a else b) := by
  split <;> assumption

/-- every operation is a cascade of tests whose leaves are bottom, top, a number, a value built
    by `mk'` or an argument: each `wf_*` below is the term that follows the cascade of its
    operation, one `wf_ite` per test, in the order of the text -/
theorem wf_ite {c : Prop} [Decidable c] {a b : Cong} (ha : WF a) (hb : WF b) : WF (if c then a else b) :=
  ite_of ha hb

theorem wf_join {x o : Cong} (hx : WF x) (ho : WF o) : WF (Cong.join x o) :=
  wf_ite ho (wf_ite hx (wf_ite wf_top (wf_mk' _ _)))

theorem wf_meet {x o : Cong} (hx : WF x) (ho : WF o) : WF (Cong.meet x o) :=
  wf_ite wf_bot (wf_ite (wf_ite hx wf_bot) (wf_ite (wf_ite hx wf_bot) (wf_ite (wf_ite ho wf_bot)
    (wf_ite (wf_mk' _ _) wf_bot))))

theorem wf_narrow {x o : Cong} (hx : WF x) (ho : WF o) : WF (Cong.narrow x o) := wf_ite ho hx

theorem wf_add (x o : Cong) : WF (Cong.add x o) := wf_ite wf_bot (wf_ite wf_top (wf_mk' _ _))
theorem wf_sub (x o : Cong) : WF (Cong.sub x o) := wf_ite wf_bot (wf_ite wf_top (wf_mk' _ _))
theorem wf_mul (x o : Cong) : WF (Cong.mul x o) := wf_ite wf_bot (wf_ite wf_top (wf_mk' _ _))

theorem wf_div {x : Cong} (hx : WF x) (o : Cong) : WF (Cong.div x o) :=
  wf_ite wf_bot (wf_ite wf_bot (wf_ite wf_top (wf_ite
    (wf_ite (wf_ofInt _) (wf_ite (wf_mk' _ _) wf_top)) (wf_ite hx wf_top))))

theorem wf_srem (x o : Cong) : WF (Cong.srem x o) :=
  wf_ite wf_bot (wf_ite wf_bot (wf_ite wf_top (wf_ite (wf_ofInt _) (wf_ite (wf_ofInt _) (wf_mk' _ _)))))

theorem wf_and {x o : Cong} (hx : WF x) (ho : WF o) : WF (Cong.and x o) :=
  wf_ite wf_bot (wf_ite wf_top (wf_ite (wf_ofInt _) (wf_ite ho (wf_ite hx (wf_ite (wf_ofInt _) wf_top)))))

theorem wf_or {x o : Cong} (hx : WF x) (ho : WF o) : WF (Cong.or x o) :=
  wf_ite wf_bot (wf_ite wf_top (wf_ite (wf_ofInt _) (wf_ite ho (wf_ite hx (wf_ite (wf_ofInt _) wf_top)))))

theorem wf_xor {x o : Cong} (hx : WF x) (ho : WF o) : WF (Cong.xor x o) :=
  wf_ite wf_bot (wf_ite wf_top (wf_ite ho (wf_ite hx (wf_ite (wf_ofInt _) wf_top))))

theorem wf_shl (x o : Cong) : WF (Cong.shl x o) :=
  wf_ite wf_bot (wf_ite wf_top (wf_ite (wf_ite wf_bot (wf_mk' _ _)) (wf_mk' _ _)))

theorem wf_singleton (s : Option Int) : WF (match s with | some n => ofInt n | none => Cong.top) := by
  cases s
  · exact wf_top
  · exact wf_ofInt _

theorem wf_ashr (x o : Cong) : WF (Cong.ashr x o) :=
  wf_ite wf_bot (wf_ite wf_top (wf_ite wf_bot (wf_ite (wf_singleton _) wf_top)))

theorem wf_lshr (x o : Cong) : WF (Cong.lshr x o) :=
  wf_ite wf_bot (wf_ite wf_top (wf_ite wf_bot (wf_ite (wf_singleton _) wf_top)))

theorem wf_arithEval (op : ArithOp) {y z : Cong} (hy : WF y) (_hz : WF z) : WF (arithEval op y z) := by
  cases op <;> simp only [arithEval]
  · exact wf_add _ _
  · exact wf_sub _ _
  · exact wf_mul _ _
  · exact wf_div hy _
  · exact wf_top
  · exact wf_srem _ _
  · exact wf_top

theorem wf_bitEval (op : BitOp) {y z : Cong} (hy : WF y) (hz : WF z) : WF (bitEval op y z) := by
  cases op <;> simp only [bitEval]
  · exact wf_and hy hz
  · exact wf_or hy hz
  · exact wf_xor hy hz
  · exact wf_shl _ _
  · exact wf_lshr _ _
  · exact wf_ashr _ _

theorem stored_iff (v : Cong) : Stored congLattice v ↔ (v.isBot = false ∧ v.a ≠ 1 ∧ WF v) := by
  simp [Stored, congLattice, Cong.isBottom, Cong.isTop, GoodVal.good]

theorem mk'_of_wf {x : Cong} (hw : WF x) (hb : x.isBot = false) : mk' x.a x.b = x := by
  obtain ⟨h0, h1, _⟩ := hw
  unfold mk'
  have ha : (if x.a < 0 then -x.a else x.a) = x.a := by split <;> omega
  simp only [ha]
  by_cases hz : x.a = 0
  · simp only [hz, ne_eq, not_true_eq_false, if_false]
    cases x; simp_all
  · simp only [ne_eq, hz, not_false_eq_true, if_true]
    obtain ⟨h2, h3⟩ := h1 hz
    have : Int.tmod x.b x.a = x.b := Int.tmod_eq_of_lt h2 h3
    rw [this]
    have : ¬ x.b < 0 := by omega
    simp only [this, if_false]
    cases x; simp_all

theorem gcd_self_zero {a : Int} (h : 0 ≤ a) : gcd3 a a (iabs 0) = a := by
  unfold gcd3
  rw [gcd_eq, gcd_eq]
  have h1 : iabs 0 = 0 := by decide
  rw [h1]
  simp only [Int.gcd, Int.natAbs_zero, Nat.gcd_zero_right, Int.natAbs_natCast, Nat.gcd_self]
  omega

theorem join_idem {x : Cong} (h : Stored congLattice x) : Cong.join x x = x := by
  obtain ⟨hb, _, hw⟩ := (stored_iff x).mp h
  have hi : imin x.b x.b = x.b := by unfold imin; split <;> rfl
  rw [Cong.join_eq_mk' hb hb, Int.sub_self, gcd_self_zero hw.1, hi]
  exact mk'_of_wf hw hb

theorem meet_idem {x : Cong} (h : Stored congLattice x) : Cong.meet x x = x := by
  obtain ⟨hb, ha, hw⟩ := (stored_iff x).mp h
  unfold Cong.meet
  simp only [hb, Bool.or_self, Bool.false_eq_true, if_false, and_self, if_true, Int.sub_self]
  by_cases hz : x.a = 0
  · simp [hz]
  · simp only [hz, if_false]
    have h0 : ∀ g : Int, Int.tmod 0 g = 0 := fun g => by simp
    simp only [h0, if_true]
    have h1 : ∀ g : Int, Int.tdiv 0 g = 0 := fun g => by simp
    simp only [h1, Int.mul_zero, Int.add_zero]
    have hl : lcm x.a x.a = x.a := by
      rw [lcm_eq]
      simp only [Int.lcm_self]
      have := hw.1; omega
    rw [hl]
    exact mk'_of_wf hw hb

theorem join_nonbot {x y : Cong} (hx : x.isBot = false) (hy : y.isBot = false) :
    (Cong.join x y).isBot = false := by
  rw [Cong.join_eq_mk' hx hy]; rfl

theorem mk'_a_ne_one {l c : Int} (h : l ≠ 1 ∧ l ≠ -1) : (mk' l c).a ≠ 1 := by
  unfold mk'
  simp only
  split <;> omega

theorem meet_nontop {x y : Cong} (hx : Stored congLattice x) (hy : Stored congLattice y)
    (hnb : (Cong.meet x y).isBot = false) : (Cong.meet x y).isTop = false := by
  obtain ⟨hb, ha, hw⟩ := (stored_iff x).mp hx
  obtain ⟨hb', ha', hw'⟩ := (stored_iff y).mp hy
  have hl : (lcm x.a y.a) ≠ 1 ∧ (lcm x.a y.a) ≠ -1 := by
    have hd := dvd_lcm_left x.a y.a
    constructor <;> intro h <;> rw [h] at hd
    · exact ha (Int.eq_one_of_dvd_one hw.1 hd)
    · exact ha (Int.eq_one_of_dvd_one hw.1 ((Int.dvd_neg).mp hd))
  have it : ∀ {c : Prop} [Decidable c] {a b : Cong}, (a.isBot = true ∨ a.a ≠ 1) → (b.isBot = true ∨ b.a ≠ 1) →
      ((if c then a else b).isBot = true ∨ (if c then a else b).a ≠ 1) :=
    ite_of (P := fun c => c.isBot = true ∨ c.a ≠ 1)
  have key : (Cong.meet x y).isBot = true ∨ (Cong.meet x y).a ≠ 1 :=
    it (.inl rfl) (it (it (.inr ha) (.inl rfl)) (it (it (.inr ha) (.inl rfl)) (it (it (.inr ha') (.inl rfl))
      (it (.inr (mk'_a_ne_one hl)) (.inl rfl)))))
  rcases key with h | h
  · rw [h] at hnb; cases hnb
  · simp [Cong.isTop, h]

/-- `operator||` is the join -/
theorem upperLaws : UpperLaws congLattice Cong.mem Cong.join where
  upper := fun x y k h => h.elim Cong.join_upper_left Cong.join_upper_right
  idem := fun x h => join_idem h
  nonbot := fun x y hx hy => join_nonbot ((stored_iff x).mp hx).1 ((stored_iff y).mp hy).1
  good := fun x y hx hy => wf_join ((stored_iff x).mp hx).2.2 ((stored_iff y).mp hy).2.2

theorem congLaws : Laws congLattice Cong.mem where
  isTop_top := rfl
  isBottom_top := rfl
  isBottom_bottom := rfl
  good_top := wf_top
  good_bottom := wf_bot
  mem_top := Cong.mem_top
  not_mem_bottom := fun v k h hm => by
    have : v.isBot = true := h
    rw [hm.1] at this; cases this
  beq_sound := fun x y h => by
    simp only [congLattice, Cong.beq, Bool.and_eq_true, beq_iff_eq] at h
    cases x; cases y; simp_all
  leq_refl := fun x _ => Cong.leq_refl x
  leq_sound := fun x y k h hk => Cong.leq_sound h hk
  nonbot_mem := fun v h => ⟨v.b, by
    have : v.isBot = false := h
    exact ⟨this, by simp⟩⟩
  nontop_out := fun v h => by
    obtain ⟨hb, ha, hw⟩ := (stored_iff v).mp h
    refine ⟨v.b + 1, fun hm => ?_⟩
    have hd : v.a ∣ 1 := by
      have := hm.2
      have e : v.b + 1 - v.b = 1 := by omega
      rwa [e] at this
    exact ha (Int.eq_one_of_dvd_one hw.1 hd)
  join := upperLaws
  widen := upperLaws
  meet :=
    { sound := fun x y k h1 h2 => Cong.meet_sound h1 h2
      idem := fun x h => meet_idem h
      nontop := fun x y hx hy hnb => meet_nontop hx hy hnb
      good := fun x y hx hy => wf_meet ((stored_iff x).mp hx).2.2 ((stored_iff y).mp hy).2.2 }
  narrow :=
    { sound := fun x y k h1 h2 => Cong.narrow_sound h1 h2
      idem := fun x _ => by simp [congLattice, Cong.narrow]
      nontop := fun x y hx _ _ => by
        have : x.isTop = false := hx.2.1
        simp only [congLattice, Cong.narrow, this, Bool.false_eq_true, if_false]
      good := fun x y hx hy => wf_narrow ((stored_iff x).mp hx).2.2 ((stored_iff y).mp hy).2.2 }

end GDom
end Crab
