import CrabProofs.Lemmas.XDomStmt
import CrabProofs.Lemmas.XDomWiden
import CrabProofs.Lemmas.XDomCstOps
import CrabProofs.Lemmas.XDomSgnOps
import CrabProofs.Lemmas.XDomCongStmt
import CrabProofs.Lemmas.CongruenceWiden
import CrabProofs.Props.C05Chain

/-!
  The constant, sign and congruence domains as `XDom.EngDom` instances (what the fixpoint engine
  needs), and the scalar measures that make their widenings satisfy the chain condition
  (`XDom.WidenMeasure`).
-/
namespace Crab
open XDom

namespace CDom

def SEnv.ops : Fix.Ops SEnv := ⟨SEnv.bot, SEnv.top, SEnv.leq, SEnv.join, SEnv.meet, SEnv.widen, SEnv.narrow⟩

def eng : EngDom where
  A := SEnv
  γ := SEnv.γ
  ops := SEnv.ops
  Adm := Stmt.Ok
  exec := execS
  exec_sound := fun st h a _ _ hg hr => exec_sound st h a.2 hg hr
  join_left := fun a b _ h => XDom.Env.upper_sound cstLaws cstLaws.join a.2 b.2 (Or.inl h)
  join_right := fun a b _ h => XDom.Env.upper_sound cstLaws cstLaws.join a.2 b.2 (Or.inr h)
  widen_left := fun a b _ h => XDom.Env.upper_sound cstLaws cstLaws.widen a.2 b.2 (Or.inl h)
  widen_right := fun a b _ h => XDom.Env.upper_sound cstLaws cstLaws.widen a.2 b.2 (Or.inr h)
  meet_sound := fun a b _ h1 h2 => XDom.Env.lower_sound cstLaws cstLaws.meet a.2 b.2 h1 h2
  narrow_sound := fun a b _ h1 h2 => XDom.Env.lower_sound cstLaws cstLaws.narrow a.2 b.2 h1 h2
  leq_sound := fun a b _ h hg => XDom.Env.leq_sound cstLaws a.2 b.2 h hg

/-- the scalar measure: the height `C05.cstMeasure` -/
def cstMu (c : Crab.Cst) : Nat × Nat := (C05.cstMeasure c, 0)

theorem cstWidenMeasure : WidenMeasure cstLattice Crab.Cst.widen cstMu where
  le := fun a b ha hb => by
    obtain ⟨n, rfl⟩ := (stored_iff a).mp ha
    obtain ⟨m, rfl⟩ := (stored_iff b).mp hb
    by_cases h : n = m <;>
      simp [Crab.Cst.widen, Crab.Cst.join, Crab.Cst.isBottom, Crab.Cst.isTop, h, cstMu, C05.cstMeasure, LexLe]
  lt := fun a b _ _ hle => by
    have := C05.cst_widen_measure a b hle
    right
    simp only [cstMu, LexLt]; omega

end CDom

namespace SDom

def SEnv.ops : Fix.Ops SEnv := ⟨SEnv.bot, SEnv.top, SEnv.leq, SEnv.join, SEnv.meet, SEnv.widen, SEnv.narrow⟩

/-- the sign domain as the engine sees it (widening = join, narrowing = meet) -/
def eng : EngDom where
  A := SEnv
  γ := SEnv.γ
  ops := SEnv.ops
  Adm := Stmt.Ok
  exec := execS
  exec_sound := fun st h a _ _ hg hr => exec_sound st h a.2 hg hr
  join_left := fun a b _ h => XDom.Env.upper_sound signLaws signLaws.join a.2 b.2 (Or.inl h)
  join_right := fun a b _ h => XDom.Env.upper_sound signLaws signLaws.join a.2 b.2 (Or.inr h)
  widen_left := fun a b _ h => XDom.Env.upper_sound signLaws signLaws.join a.2 b.2 (Or.inl h)
  widen_right := fun a b _ h => XDom.Env.upper_sound signLaws signLaws.join a.2 b.2 (Or.inr h)
  meet_sound := fun a b _ h1 h2 => XDom.Env.lower_sound signLaws signLaws.meet a.2 b.2 h1 h2
  narrow_sound := fun a b _ h1 h2 => XDom.Env.lower_sound signLaws signLaws.meet a.2 b.2 h1 h2
  leq_sound := fun a b _ h hg => XDom.Env.leq_sound signLaws a.2 b.2 h hg

/-- the scalar measure: the number of classes a sign value excludes -/
def signMu (s : Sign) : Nat × Nat := (C05.sgnMeasure s, 0)

theorem signWidenMeasure : WidenMeasure signLattice (sop .join) signMu where
  le := fun a b _ _ => by
    have : C05.sgnMeasure (sop .join a b) ≤ C05.sgnMeasure a := C05.sgn_widen_measure_le a b
    simp only [signMu, LexLe]; omega
  lt := fun a b _ _ hle => by
    have hle' : C05.sgnLeq b a = false := by
      rw [C05.sgnLeq_eq]; simpa [signLattice, C08.sgn_leq_eq_incl] using hle
    have : C05.sgnMeasure (sop .join a b) < C05.sgnMeasure a := C05.sgn_widen_measure a b hle'
    right
    simp only [signMu, LexLt]; omega

end SDom

namespace GDom
open Cong

def SEnv.ops : Fix.Ops SEnv := ⟨SEnv.bot, SEnv.top, SEnv.leq, SEnv.join, SEnv.meet, SEnv.widen, SEnv.narrow⟩

def eng : EngDom where
  A := SEnv
  γ := SEnv.γ
  ops := SEnv.ops
  Adm := Ok'
  exec := fun st h => execS st h.1
  exec_sound := fun st h a _ _ hg hr => exec_sound st h a.2 hg hr
  join_left := fun a b _ h => XDom.Env.upper_sound congLaws congLaws.join a.2 b.2 (Or.inl h)
  join_right := fun a b _ h => XDom.Env.upper_sound congLaws congLaws.join a.2 b.2 (Or.inr h)
  widen_left := fun a b _ h => XDom.Env.upper_sound congLaws congLaws.widen a.2 b.2 (Or.inl h)
  widen_right := fun a b _ h => XDom.Env.upper_sound congLaws congLaws.widen a.2 b.2 (Or.inr h)
  meet_sound := fun a b _ h1 h2 => XDom.Env.lower_sound congLaws congLaws.meet a.2 b.2 h1 h2
  narrow_sound := fun a b _ h1 h2 => XDom.Env.lower_sound congLaws congLaws.narrow a.2 b.2 h1 h2
  leq_sound := fun a b _ h hg => XDom.Env.leq_sound congLaws a.2 b.2 h hg

/-- (rank, |modulus|) never increases under the widening (= join) of two stored values -/
theorem wmeas_widen_le {a b : Cong} (ha : Stored congLattice a) (hb : Stored congLattice b) :
    LexLe (Cong.wmeas (Cong.widen a b)) (Cong.wmeas a) := by
  have ab := ((stored_iff a).mp ha).1
  rw [Cong.widen, Cong.join_eq_mk' ab ((stored_iff b).mp hb).1]
  have hd := gcd3_dvd_1 a.a b.a (iabs (a.b - b.b))
  generalize gcd3 a.a b.a (iabs (a.b - b.b)) = g at hd
  unfold Cong.wmeas Cong.wrank LexLe
  simp only [mk'_isBot, mk'_a_natAbs, Bool.false_eq_true, if_false, ab, mk'_a_eq_zero_iff]
  by_cases ha0 : a.a = 0
  · simp only [ha0, if_true, Int.natAbs_zero]
    by_cases hg : g = 0
    · simp [hg]
    · simp [hg]
  · have hg : g ≠ 0 := by
      intro h0; rw [h0] at hd; exact ha0 (Int.zero_dvd.mp hd)
    simp only [ha0, hg, if_false]
    right
    refine ⟨trivial, ?_⟩
    have hn : g.natAbs ∣ a.a.natAbs := Int.natAbs_dvd_natAbs.mpr hd
    exact Nat.le_of_dvd (by omega) hn

theorem congWidenMeasure : WidenMeasure congLattice Cong.widen Cong.wmeas where
  le := fun _ _ ha hb => wmeas_widen_le ha hb
  lt := fun _ _ _ _ hle => Or.inr (LexLt.ofLex (Cong.widen_wmeas_lt hle))

end GDom
end Crab
