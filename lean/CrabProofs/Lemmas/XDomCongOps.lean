import CrabProofs.Lemmas.XDomCong

/-!
  `congruence_domain` (model `Crab.GDom`): `to_congruence(expr)`, the solver
  (`refine`, `compute_residual`, `propagate`, `solve_system`, constructor, `run`) and `+=`.
  What one refinement of a pivot keeps (`refine_pivot`: the invariant, and the states that satisfy
  the equality) is carried through the nest of loops by `propagateLoop_ind`, `propagateAll_ind`,
  `solveLoop_ind`.
-/
namespace Crab
namespace GDom
open XDom Lin Cong

namespace Env

def Inv (e : Env) : Prop := XDom.Env.Inv congLattice e
def γ (e : Env) (σ : State) : Prop := XDom.Env.γ congLattice Cong.mem e σ

theorem inv_bot : (bot : Env).Inv := XDom.Env.inv_bot
theorem inv_top : (top : Env).Inv := XDom.Env.inv_top
theorem not_γ_of_bot {e : Env} (h : e.isBot = true) (σ : State) : ¬ e.γ σ := XDom.Env.not_γ_of_bot h σ
theorem get_mem {e : Env} {σ : State} (hg : e.γ σ) (x : Var) : Cong.mem (σ x) (e.get x) := hg.2 x
theorem get_wf {e : Env} (he : e.Inv) (x : Var) : WF (e.get x) := XDom.Env.get_good congLaws he x

theorem set_inv {e : Env} (he : e.Inv) {x : Var} (hx : x < 2 ^ 64) {v : Cong} (hv : WF v) : (e.set x v).Inv :=
  XDom.Env.set_inv congLaws he hx hv
theorem set_sound {e : Env} (he : e.Inv) {σ : State} (hg : e.γ σ) {x : Var} (hx : x < 2 ^ 64)
    {v : Cong} (hv : WF v) {n : Int} (hn : Cong.mem n v) : (e.set x v).γ (upd σ x n) :=
  XDom.Env.set_sound congLaws he hg hx hv hn
theorem set_sound_same {e : Env} (he : e.Inv) {σ : State} (hg : e.γ σ) {x : Var} (hx : x < 2 ^ 64)
    {v : Cong} (hv : WF v) (hn : Cong.mem (σ x) v) : (e.set x v).γ σ :=
  XDom.Env.set_sound_same congLaws he hg hx hv hn

theorem mul_ofInt_mem {e : Env} {σ : State} (hg : e.γ σ) (k : Int) (v : Var) :
    Cong.mem (k * σ v) (Cong.mul (Cong.ofInt k) (e.get v)) :=
  Cong.mul_sound ((Cong.mem_ofInt k k).2 rfl) (get_mem hg v)

theorem eval_sound {e : Env} {σ : State} (hg : e.γ σ) (ex : Expr) : Cong.mem (ex.eval σ) (e.eval ex) := by
  have := XDom.evalFold_sound Cong.add_sound (mul_ofInt_mem hg) ex.terms _ ex.cst ((Cong.mem_ofInt _ _).2 rfl)
  unfold Expr.eval eval
  have e1 : Expr.evalTerms σ ex.terms + ex.cst = ex.cst + Expr.evalTerms σ ex.terms := by omega
  rw [e1]; exact this

theorem wf_fold {f : Cong → Var × Int → Cong} (hf : ∀ r p, WF r → WF (f r p)) (ts : List (Var × Int)) (r : Cong)
    (h : WF r) : WF (ts.foldl f r) :=
  List.foldlRecOn ts f h (fun r hr p _ => hf r p hr)

theorem wf_eval (e : Env) (ex : Expr) : WF (e.eval ex) :=
  wf_fold (fun _ _ _ => wf_add _ _) _ _ (wf_ofInt _)

end Env

theorem wf_computeResidual (c : Lin.Cst) (pivot : Var) (env : Env) : WF (computeResidual c pivot env) :=
  Env.wf_fold (fun r p h => by
    show WF (if p.1 = pivot then r else Cong.sub r (Cong.mul (Cong.ofInt p.2) (env.get p.1)))
    split
    · exact h
    · exact wf_sub _ _) _ _ (wf_ofInt _)

theorem computeResidual_sound {env : Env} {σ : State} (hg : env.γ σ) (c : Lin.Cst) (pivot : Var) :
    Cong.mem (c.constant - IDom.restSum σ pivot c.expr.terms) (computeResidual c pivot env) :=
  XDom.residualFold_sound Cong.sub_sound (Env.mul_ofInt_mem hg) pivot _ _ _ ((Cong.mem_ofInt _ _).2 rfl)

def StInv (st : SolverSt) : Prop := st.env.Inv

theorem refine_inv {st : SolverSt} (hi : StInv st) {v : Var} (hv : v < 2 ^ 64) {i : Cong} (hw : WF i) :
    StInv (refine st v i).2 := by
  unfold refine
  simp only
  split
  · exact hi
  · split
    · exact Env.set_inv hi hv (wf_meet (Env.get_wf hi v) hw)
    · exact hi

theorem refine_sound {st : SolverSt} (hi : StInv st) {σ : State} (hg : st.env.γ σ) {v : Var} (hv : v < 2 ^ 64)
    {i : Cong} (hw : WF i) (hm : Cong.mem (σ v) i) :
    (refine st v i).1 = false ∧ (refine st v i).2.env.γ σ := by
  have hmm : Cong.mem (σ v) (Cong.meet (st.env.get v) i) := Cong.meet_sound (Env.get_mem hg v) hm
  unfold refine
  simp only
  split
  · rename_i hb
    exact absurd hmm (Cong.not_mem_of_isBot hb)
  · split
    · exact ⟨rfl, Env.set_sound_same hi hg hv (wf_meet (Env.get_wf hi v) hw) hmm⟩
    · exact ⟨rfl, hg⟩

/-- the value `propagate` refines the pivot `p.1` with -/
abbrev pivotRhs (c : Lin.Cst) (env : Env) (p : Var × Int) : Cong :=
  Cong.div (computeResidual c p.1 env) (Cong.ofInt p.2)

/-- `N`, a predicate on (bottom found, environment), is kept by every refinement of a pivot that
    `propagate(c)` can make -/
def Kept (N : Bool × Env → Prop) (c : Lin.Cst) (ts : List (Var × Int)) : Prop :=
  ∀ p ∈ ts, ∀ st, N (false, st.env) → c.kind = .eq →
    N ((refine st p.1 (pivotRhs c st.env p)).1, (refine st p.1 (pivotRhs c st.env p)).2.env)

section ind
variable {N : Bool × Env → Prop}

theorem propagateLoop_ind (c : Lin.Cst) : ∀ (ts : List (Var × Int)), Kept N c ts →
    ∀ st, N (false, st.env) → N ((propagateLoop c ts st).1, (propagateLoop c ts st).2.env)
  | [], _, _, h => h
  | (pivot, coef) :: rest, hstep, st, h => by
    have ih := propagateLoop_ind c rest (fun q hq => hstep q (List.mem_cons_of_mem _ hq))
    simp only [propagateLoop]
    split
    · have h1 := hstep _ List.mem_cons_self st h ‹_›
      generalize refine st pivot _ = r at h1
      obtain ⟨b, st'⟩ := r
      cases b
      · exact ih st' h1
      · exact h1
    · exact ih st h

theorem propagateAll_ind : ∀ (tbl : List Lin.Cst), (∀ c ∈ tbl, Kept N c c.expr.terms) →
    ∀ st, N (false, st.env) → N ((propagateAll tbl st).1, (propagateAll tbl st).2.env)
  | [], _, _, h => h
  | c :: rest, hstep, st, h => by
    have h1 := propagateLoop_ind c c.expr.terms (hstep c List.mem_cons_self) st h
    simp only [propagateAll, propagate]
    generalize propagateLoop c c.expr.terms st = r at h1
    obtain ⟨b, st'⟩ := r
    cases b
    · exact propagateAll_ind rest (fun q hq => hstep q (List.mem_cons_of_mem _ hq)) st' h1
    · exact h1

/-- a predicate kept by one refinement of a pivot passes through `solve_system` -/
theorem solveLoop_ind (tbl : List Lin.Cst) (hstep : ∀ c ∈ tbl, Kept N c c.expr.terms) (fuel : Nat) :
    ∀ env : Env, N (false, env) → N (solveLoop tbl fuel env) := by
  induction fuel with
  | zero =>
    intro env h
    have h1 := propagateAll_ind tbl hstep ⟨env, false⟩ h
    unfold solveLoop
    generalize propagateAll tbl ⟨env, false⟩ = r at h1
    obtain ⟨b, st'⟩ := r
    cases b <;> exact h1
  | succ n ih =>
    intro env h
    have h1 := propagateAll_ind tbl hstep ⟨env, false⟩ h
    unfold solveLoop
    generalize propagateAll tbl ⟨env, false⟩ = r at h1
    obtain ⟨b, st'⟩ := r
    cases b
    · simp only
      split
      · exact ih st'.env h1
      · exact h1
    · exact h1

end ind

/-- one refinement of a pivot of an equality keeps the invariant and the states that satisfy it -/
theorem refine_pivot {c : Lin.Cst} (hc : CstOk c) {p : Var × Int} (hm : p ∈ c.expr.terms) (hk : c.kind = .eq)
    {st : SolverSt} (hi : StInv st) :
    StInv (refine st p.1 (pivotRhs c st.env p)).2 ∧ ∀ σ : State, c.sat σ → st.env.γ σ →
      (refine st p.1 (pivotRhs c st.env p)).1 = false ∧ (refine st p.1 (pivotRhs c st.env p)).2.env.γ σ := by
  obtain ⟨pivot, coef⟩ := p
  have hlt : pivot < 2 ^ 64 := hc.2 _ hm
  have hne : coef ≠ 0 := hc.1.2 _ hm
  have hw : WF (pivotRhs c st.env (pivot, coef)) := wf_div (wf_computeResidual _ _ _) _
  refine ⟨refine_inv hi hlt hw, fun σ hsat hg => refine_sound hi hg hlt hw ?_⟩
  have hr := computeResidual_sound hg c pivot
  rw [XDom.pivot_value hk hsat hc.1.1 hm] at hr
  have hd := Cong.div_sound hr ((Cong.mem_ofInt coef coef).2 rfl) hne
  rwa [Int.mul_tdiv_cancel_left _ hne] at hd

theorem solveLoop_spec {tbl : List Lin.Cst} (hok : ∀ c ∈ tbl, CstOk c) (fuel : Nat) {env : Env} (hi : env.Inv) :
    (solveLoop tbl fuel env).2.Inv ∧ ∀ σ : State,
      (∀ c ∈ tbl, c.sat σ) → env.γ σ → (solveLoop tbl fuel env).1 = false ∧ (solveLoop tbl fuel env).2.γ σ :=
  solveLoop_ind (N := fun r => r.2.Inv ∧ ∀ σ : State, (∀ c ∈ tbl, c.sat σ) → env.γ σ → r.1 = false ∧ r.2.γ σ) tbl
    (fun c hc p hp st h hk =>
      have hr := refine_pivot (hok c hc) hp hk (st := st) h.1
      ⟨hr.1, fun σ hs hg => hr.2 σ (hs c hc) (h.2 σ hs hg).2⟩)
    fuel env ⟨hi, fun _ _ hg => ⟨rfl, hg⟩⟩

theorem prepLoop_spec {σ : State} : ∀ (csts tbl : List Lin.Cst),
    (∀ c ∈ csts, CstOk c) → (∀ c ∈ tbl, CstOk c) →
    match prepLoop csts tbl with
    | none => ¬ Sys.sat csts σ
    | some t => (∀ c ∈ t, CstOk c) ∧ ((∀ c ∈ tbl, c.sat σ) → Sys.sat csts σ → ∀ c ∈ t, c.sat σ) := by
  intro csts
  induction csts with
  | nil => intro tbl _ ht; simp only [prepLoop]; exact ⟨ht, fun h _ => h⟩
  | cons c rest ih =>
    intro tbl hok ht
    have hrest : ∀ c' ∈ rest, CstOk c' := fun c' h => hok c' (List.mem_cons_of_mem _ h)
    by_cases hcon : c.isContradiction = true
    · simp only [prepLoop, hcon, if_true]
      intro hs
      exact Lin.Cst.not_sat_of_isContradiction hcon σ (hs c List.mem_cons_self)
    · by_cases htau : c.isTautology = true
      · simp only [prepLoop, hcon, htau, if_true, if_false]
        have := ih tbl hrest ht
        cases heq : prepLoop rest tbl with
        | none =>
          rw [heq] at this; simp only at this ⊢
          intro hs; exact this (fun c' h => hs c' (List.mem_cons_of_mem _ h))
        | some t =>
          rw [heq] at this; simp only at this ⊢
          exact ⟨this.1, fun h1 hs => this.2 h1 (fun c' h => hs c' (List.mem_cons_of_mem _ h))⟩
      · simp only [prepLoop, hcon, htau, if_false]
        have ht' : ∀ c' ∈ tbl ++ [c], CstOk c' := by
          intro c' h
          rcases List.mem_append.mp h with h | h
          · exact ht c' h
          · simp only [List.mem_cons, List.not_mem_nil, or_false] at h; subst h; exact hok _ List.mem_cons_self
        have := ih (tbl ++ [c]) hrest ht'
        cases heq : prepLoop rest (tbl ++ [c]) with
        | none =>
          rw [heq] at this; simp only at this ⊢
          intro hs; exact this (fun c' h => hs c' (List.mem_cons_of_mem _ h))
        | some t =>
          rw [heq] at this; simp only at this ⊢
          refine ⟨this.1, fun h1 hs => this.2 ?_ (fun c' h => hs c' (List.mem_cons_of_mem _ h))⟩
          intro c' h
          rcases List.mem_append.mp h with h | h
          · exact h1 c' h
          · simp only [List.mem_cons, List.not_mem_nil, or_false] at h; subst h; exact hs _ List.mem_cons_self

theorem solverRun_spec {csts : Sys} (hok : ∀ c ∈ csts, CstOk c) (maxCycles : Nat) {env : Env} (hi : env.Inv) :
    (solverRun csts maxCycles env).Inv ∧
    ∀ σ : State, Sys.sat csts σ → env.γ σ → (solverRun csts maxCycles env).γ σ := by
  unfold solverRun
  split
  · rename_i heq
    refine ⟨Env.inv_bot, fun σ hs _ => ?_⟩
    have := prepLoop_spec (σ := σ) csts [] hok (by simp)
    rw [heq] at this
    exact absurd hs this
  · rename_i tbl heq
    have hp : ∀ σ : State, (∀ c ∈ tbl, CstOk c) ∧ (Sys.sat csts σ → ∀ c ∈ tbl, c.sat σ) := by
      intro σ
      have := prepLoop_spec (σ := σ) csts [] hok (by simp)
      rw [heq] at this
      exact ⟨this.1, fun hs => this.2 (by simp) hs⟩
    have hokt := (hp (fun _ => 0)).1
    simp only
    split
    · rename_i hb
      refine ⟨Env.inv_bot, fun σ hs hg => ?_⟩
      have := (solveLoop_spec hokt maxCycles hi).2 σ ((hp σ).2 hs) hg
      rw [this.1] at hb; cases hb
    · exact ⟨(solveLoop_spec hokt maxCycles hi).1,
        fun σ hs hg => ((solveLoop_spec hokt maxCycles hi).2 σ ((hp σ).2 hs) hg).2⟩

namespace Env

theorem add_inv {e : Env} (he : e.Inv) {csts : Sys} (hok : ∀ c ∈ csts, CstOk c) : (e.add csts).Inv := by
  unfold add
  split
  · exact he
  · exact (solverRun_spec hok _ he).1

theorem add_sound {e : Env} (he : e.Inv) {σ : State} (hg : e.γ σ) {csts : Sys} (hok : ∀ c ∈ csts, CstOk c)
    (hsat : Sys.sat csts σ) : (e.add csts).γ σ := by
  unfold add
  simp only [hg.1, Bool.false_eq_true, if_false]
  exact (solverRun_spec hok _ he).2 σ hsat hg

end Env
end GDom
end Crab
