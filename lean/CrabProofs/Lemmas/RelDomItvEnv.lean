import CrabModel.Dom.ItvEnvOps
import CrabProofs.Lemmas.ItvEnvExact
import CrabProofs.Lemmas.IntervalLattice
import CrabProofs.Lemmas.RelDomEngine

/-!
  The operations of `CrabModel/Dom/ItvEnvOps.lean` on the canonical interval-environment model:
  soundness for all environments, exactness for well-formed ones (`EnvWF`: no `[+oo, ..]` /
  `[.., -oo]` binding, an invariant of every operation), and the engine contract.
-/
namespace Crab

namespace ItvEnv
variable {n : Nat}

theorem forget_sound (e : Env n) (x : Fin n) (σ σ' : State n) (h : γ e σ)
    (hσ : ∀ y, y ≠ x → σ' y = σ y) : γ (forget e x) σ' := by
  unfold forget
  rw [isBottom_false_of_γ h]
  simp only [Bool.false_eq_true, if_false]
  rw [γ_upd]
  exact ⟨Itv.mem_top _, fun y hy => by rw [hσ y hy]; exact h y⟩

theorem assignCst_says (x : Fin n) (k : Int) (σ' : State n) :
    (∀ c ∈ [Cst.ub x k, .lb x (-k)], c.sat σ') ↔ σ' x = k := by simp [Cst.sat]; omega

theorem assignCst_sound (e : Env n) (x : Fin n) (k : Int) (σ : State n) (h : γ e σ) :
    γ (assignCst e x k) (updS σ x k) := by
  unfold assignCst
  rw [assumeAll_exact, assignCst_says]
  exact ⟨forget_sound e x σ _ h (fun y hy => RelDom.upd_ne σ k hy), RelDom.upd_same σ x k⟩

theorem assignCst_exact (e : Env n) (hw : EnvWF e) (x : Fin n) (k : Int) (σ' : State n) :
    γ (assignCst e x k) σ' ↔ ∃ σ, γ e σ ∧ σ' = updS σ x k := by
  unfold assignCst
  rw [assumeAll_exact, forget_exact e hw, assignCst_says]
  exact RelDom.assign_post (P := γ e) (e := fun _ => k) (fun _ _ => rfl) σ'

theorem Stmt.exec_sound (st : Stmt n) (e : Env n) (σ σ' : State n) (h : γ e σ) (hr : st.rel σ σ') :
    γ (st.exec e) σ' := by
  cases st with
  | assume cs =>
    obtain ⟨rfl, hc⟩ := hr
    exact (assumeAll_exact e cs _).2 ⟨h, hc⟩
  | assignCst x k => cases hr; exact assignCst_sound e x k σ h
  | havoc x => exact forget_sound e x σ σ' h hr

/-- on well-formed environments every statement is the exact post-image -/
theorem Stmt.exec_exact (st : Stmt n) (e : Env n) (hw : EnvWF e) (σ' : State n) :
    γ (st.exec e) σ' ↔ ∃ σ, γ e σ ∧ st.rel σ σ' := by
  cases st with
  | assume cs =>
    exact (assumeAll_exact e cs σ').trans
      ⟨fun ⟨h, hc⟩ => ⟨σ', h, rfl, hc⟩, fun ⟨_, h, e, hc⟩ => e ▸ ⟨h, hc⟩⟩
  | assignCst x k => exact assignCst_exact e hw x k σ'
  | havoc x => exact (forget_exact e hw x σ').trans (RelDom.havoc_post (P := γ e) σ')

theorem Stmt.exec_WF (st : Stmt n) (e : Env n) (hw : EnvWF e) : EnvWF (st.exec e) := by
  cases st with
  | assume cs => exact EnvWF_assumeAll hw cs
  | assignCst x k => exact EnvWF_assumeAll (EnvWF_forget hw x) _
  | havoc x => exact EnvWF_forget hw x

theorem EnvWF_widen {a b : Env n} (ha : EnvWF a) (hb : EnvWF b) : EnvWF (widen a b) := by
  unfold widen
  split
  · exact hb
  · split
    · exact ha
    · intro x; rw [get_ofFn]; exact Itv.wf_widen (ha x) (hb x)

theorem widen_upper (a b : Env n) (σ : State n) (h : γ a σ ∨ γ b σ) : γ (widen a b) σ := by
  unfold widen
  cases hba : isBottom a with
  | true =>
    simp only [if_true]
    rcases h with h | h
    · exact absurd h (not_γ_of_isBottom hba σ)
    · exact h
  | false =>
    cases hbb : isBottom b with
    | true =>
      simp only [Bool.false_eq_true, if_false, if_true]
      rcases h with h | h
      · exact h
      · exact absurd h (not_γ_of_isBottom hbb σ)
    | false =>
      simp only [Bool.false_eq_true, if_false]
      intro x
      rw [get_ofFn]
      rcases h with h | h
      · exact Itv.widen_upper_left (h x)
      · exact Itv.widen_upper_right (h x)

theorem leq_sound (a b : Env n) (h : leq a b = true) (σ : State n) (hσ : γ a σ) : γ b σ := by
  unfold leq at h
  rw [Bool.or_eq_true] at h
  rcases h with h | h
  · exact absurd hσ (not_γ_of_isBottom h σ)
  · intro x
    simp only [List.all_eq_true] at h
    exact Itv.leq_sound (h x (List.mem_finRange x)) (hσ x)

theorem leq_refl (a : Env n) : leq a a = true := by
  unfold leq
  rw [Bool.or_eq_true]; right
  simp only [List.all_eq_true]
  exact fun x _ => Itv.leq_refl _

theorem leq_top (a : Env n) : leq a top = true := by
  unfold leq
  rw [Bool.or_eq_true]; right
  simp only [List.all_eq_true]
  intro x _
  unfold top; rw [get_ofFn]; exact Itv.leq_top _

theorem leq_iff (a b : Env n) (hwa : EnvWF a) : leq a b = true ↔ ∀ σ, γ a σ → γ b σ := by
  constructor
  · exact fun h σ hσ => leq_sound a b h σ hσ
  · intro h
    unfold leq
    rw [Bool.or_eq_true]
    cases hb : isBottom a with
    | true => left; rfl
    | false =>
      right
      simp only [List.all_eq_true]
      intro x _
      exact leq_of_γ_subset hwa hb h x

theorem isTop_iff (e : Env n) : isTop e = true ↔ ∀ σ, γ e σ := by
  unfold isTop
  rw [leq_iff _ _ EnvWF_top]
  exact ⟨fun h σ => h σ (top_γ σ), fun h σ _ => h σ⟩

theorem isBottom_iff_empty (e : Env n) (hw : EnvWF e) : isBottom e = true ↔ ∀ σ, ¬ γ e σ := by
  rw [bottom_iff_unsat e hw]
  exact ⟨fun h σ hσ => h ⟨σ, hσ⟩, fun h ⟨σ, hσ⟩ => h σ hσ⟩

end ItvEnv

def ItvEnv.eng (n : Nat) : RelDom.EngDom (ItvEnv.State n) where
  A := ItvEnv.Env n
  γ := ItvEnv.γ
  ops := ItvEnv.ops
  Stmt := ItvEnv.Stmt n
  rel := ItvEnv.Stmt.rel
  exec := ItvEnv.Stmt.exec
  exec_sound := fun st a s s' hg hr => ItvEnv.Stmt.exec_sound st a s s' hg hr
  join_left := fun a b s h => ItvEnv.join_upper a b s (Or.inl h)
  join_right := fun a b s h => ItvEnv.join_upper a b s (Or.inr h)
  widen_left := fun a b s h => ItvEnv.widen_upper a b s (Or.inl h)
  widen_right := fun a b s h => ItvEnv.widen_upper a b s (Or.inr h)
  meet_sound := fun a b s h1 h2 => (ItvEnv.meet_exact a b s).2 ⟨h1, h2⟩
  narrow_sound := fun a b s h1 h2 => (ItvEnv.meet_exact a b s).2 ⟨h1, h2⟩
  leq_sound := fun a b s h hg => ItvEnv.leq_sound a b h s hg

end Crab
