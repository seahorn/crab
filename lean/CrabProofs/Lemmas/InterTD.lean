import CrabProofs.Lemmas.InterBU

/-!
  Phase 2 of C10, the part about the order: what the fold `tdRun` guarantees about the entry
  value every function was analysed with (`TDState.entry`) — it contains `top` for recursive
  components and for functions without summary, and it contains every context stored by a
  function analysed earlier (induction over the top-down order).
-/
namespace Crab.Inter
open Crab.Fix

def SubG (D : IDom) (a b : D.A) : Prop := ∀ σ, D.γ a σ → D.γ b σ

theorem SubG.refl (D : IDom) (a : D.A) : SubG D a a := fun _ h => h
theorem SubG.trans {D : IDom} {a b c : D.A} (h1 : SubG D a b) (h2 : SubG D b c) : SubG D a c :=
  fun σ h => h2 σ (h1 σ h)

/-- the contexts stored for functions without summary are `top` -/
def NoSumTop {BU TD : IDom} (T : SumTable BU) (C : Nat → Option TD.A) : Prop :=
  ∀ h a, C h = some a → T h = none → ∀ σ, TD.γ a σ

section CtxTable
variable (D : IDom)

theorem ctxJoin_mono (C : Nat → Option D.A) (g : Nat) (v : D.A) {h : Nat} {a : D.A} (ha : C h = some a) :
    ∃ a', ctxJoin D C g v h = some a' ∧ SubG D a a' := by
  unfold ctxJoin
  by_cases hg : h = g
  · subst hg
    simp only [if_true, ha]
    exact ⟨_, rfl, fun σ hσ => D.join_left hσ⟩
  · simp only [hg, if_false]
    exact ⟨a, ha, SubG.refl D a⟩

theorem ctxJoin_ins (C : Nat → Option D.A) (g : Nat) (v : D.A) :
    ∃ a', ctxJoin D C g v g = some a' ∧ SubG D v a' := by
  unfold ctxJoin
  simp only [if_true]
  cases C g with
  | none => exact ⟨v, rfl, SubG.refl D v⟩
  | some x => exact ⟨_, rfl, fun σ hσ => D.join_right hσ⟩

theorem ctxJoin_other (C : Nat → Option D.A) (g : Nat) (v : D.A) {h : Nat} (hg : h ≠ g) :
    ctxJoin D C g v h = C h := by
  simp [ctxJoin, hg]

theorem ctxJoinAll_mono : ∀ (l : List (Nat × D.A)) (C : Nat → Option D.A) {h : Nat} {a : D.A},
    C h = some a → ∃ a', ctxJoinAll D C l h = some a' ∧ SubG D a a'
  | [], C, h, a, ha => ⟨a, ha, SubG.refl D a⟩
  | (g, v) :: rest, C, h, a, ha => by
    obtain ⟨a1, h1, s1⟩ := ctxJoin_mono D C g v ha
    obtain ⟨a2, h2, s2⟩ := ctxJoinAll_mono rest (ctxJoin D C g v) h1
    exact ⟨a2, h2, s1.trans s2⟩

theorem ctxJoinAll_ins : ∀ (l : List (Nat × D.A)) (C : Nat → Option D.A) {h : Nat} {v : D.A},
    (h, v) ∈ l → ∃ a', ctxJoinAll D C l h = some a' ∧ SubG D v a'
  | [], _, _, _, hm => nomatch hm
  | (g, w) :: rest, C, h, v, hm => by
    rcases List.mem_cons.mp hm with he | hm'
    · cases he
      obtain ⟨a1, h1, s1⟩ := ctxJoin_ins D C g w
      obtain ⟨a2, h2, s2⟩ := ctxJoinAll_mono D rest (ctxJoin D C g w) h1
      exact ⟨a2, h2, s1.trans s2⟩
    · exact ctxJoinAll_ins rest (ctxJoin D C g w) hm'

end CtxTable

theorem NoSumTop.join {BU TD : IDom} {T : SumTable BU} {C : Nat → Option TD.A} (hC : NoSumTop T C)
    (g : Nat) (v : TD.A) (hv : T g = none → ∀ σ, TD.γ v σ) : NoSumTop T (ctxJoin TD C g v) := by
  intro h a ha hT σ
  by_cases hg : h = g
  · subst hg
    unfold ctxJoin at ha
    simp only [if_true] at ha
    cases hc : C h with
    | none => rw [hc] at ha; cases ha; exact hv hT σ
    | some x => rw [hc] at ha; cases ha; exact TD.join_right (hv hT σ)
  · rw [ctxJoin_other TD C g v hg] at ha
    exact hC h a ha hT σ

theorem NoSumTop.joinAll {BU TD : IDom} {T : SumTable BU} :
    ∀ (l : List (Nat × TD.A)) {C : Nat → Option TD.A}, NoSumTop T C →
      (∀ hc, hc ∈ l → T hc.1 ≠ none) → NoSumTop T (ctxJoinAll TD C l)
  | [], _, hC, _ => hC
  | (g, v) :: rest, _, hC, hl =>
    NoSumTop.joinAll rest (hC.join g v (fun hn => absurd hn (hl (g, v) (List.mem_cons_self ..))))
      (fun hc hm => hl hc (List.mem_cons_of_mem _ hm))

section TDRun
variable (BU TD : IDom) (cv : Conv BU TD) (p : IProg) (cfg : FixCfg) (T : SumTable BU) (init : TD.A)
  (extra : Nat → List (Nat × TD.A))

/-- the contexts joined into the table when `g` has been analysed with the final tables `st` -/
def storedCtxs (g : Nat) (st : Fix.St TD.A) : List (Nat × TD.A) :=
  (extra g).filter (fun hc => (T hc.1).isSome) ++
    funCtxs TD (tdCall BU TD cv p.nv T) T (p.fn g) st.pre

/-- the table the entry of `g` is read from -/
def ctxsAt (s : TDState TD) (gr : Nat × Bool) : Nat → Option TD.A :=
  if gr.2 then ctxJoin TD s.ctxs gr.1 TD.top else s.ctxs

def entryAt (s : TDState TD) (gr : Nat × Bool) : TD.A :=
  if s.isRoot then init else (ctxsAt TD s gr gr.1).getD TD.top

theorem tdStep_spec {s s1 : TDState TD} {gr : Nat × Bool}
    (h : tdStep BU TD cv p cfg T init extra s gr = some s1) :
    ∃ st, solve TD cfg gr.1 (p.fn gr.1) (tdCall BU TD cv p.nv T) (entryAt TD init s gr) = some st ∧
      s1 = { ctxs := ctxJoinAll TD (ctxsAt TD s gr) (storedCtxs BU TD cv p T extra gr.1 st),
             invs := optInsert s.invs gr.1 st, entry := optInsert s.entry gr.1 (entryAt TD init s gr),
             isRoot := false } := by
  unfold tdStep at h
  simp only at h
  split at h
  · cases h
  · next st hs => exact ⟨st, hs, (Option.some.inj h).symm⟩

theorem stored_has_summary (g : Nat) (st : Fix.St TD.A) :
    ∀ hc, hc ∈ storedCtxs BU TD cv p T extra g st → T hc.1 ≠ none := by
  intro hc hm
  unfold storedCtxs at hm
  rcases List.mem_append.mp hm with h | h
  · have := (List.mem_filter.mp h).2
    intro hn; rw [hn] at this; cases this
  · unfold funCtxs at h
    obtain ⟨b, _, hb⟩ := List.mem_flatMap.mp h
    generalize (p.fn g).blk b = blk at hb
    generalize st.pre b = a at hb
    generalize blk.stmts.toList = ss at hb
    induction ss generalizing a with
    | nil => nomatch hb
    | cons s ss ih =>
      simp only [blockCtxs] at hb
      rcases List.mem_append.mp hb with h1 | h1
      · split at h1
        · split at h1
          · next hT => cases List.mem_singleton.mp h1; simp [hT]
          · nomatch h1
        · nomatch h1
      · exact ih _ h1

theorem ctxsAt_mono (s : TDState TD) (gr : Nat × Bool) {h : Nat} {a : TD.A} (ha : s.ctxs h = some a) :
    ∃ a', ctxsAt TD s gr h = some a' ∧ SubG TD a a' := by
  unfold ctxsAt
  by_cases hr : gr.2 = true
  · simp only [hr, if_true]; exact ctxJoin_mono TD s.ctxs gr.1 TD.top ha
  · simp only [hr]; exact ⟨a, ha, SubG.refl TD a⟩

theorem ctxsAt_noSumTop (s : TDState TD) (gr : Nat × Bool) (h : NoSumTop T s.ctxs) :
    NoSumTop T (ctxsAt TD s gr) := by
  unfold ctxsAt
  by_cases hr : gr.2 = true
  · simp only [hr, if_true]; exact h.join gr.1 TD.top (fun _ σ => TD.top_sound σ)
  · simp only [hr]; exact h

theorem entryAt_facts (s : TDState TD) (gr : Nat × Bool) (hroot : s.isRoot = false) :
    (∀ a, s.ctxs gr.1 = some a → SubG TD a (entryAt TD init s gr)) ∧
    (gr.2 = true → SubG TD TD.top (entryAt TD init s gr)) ∧
    (NoSumTop T s.ctxs → T gr.1 = none → SubG TD TD.top (entryAt TD init s gr)) := by
  unfold entryAt
  simp only [hroot, Bool.false_eq_true, if_false]
  refine ⟨?_, ?_, ?_⟩
  · intro a ha
    obtain ⟨a', h1, h2⟩ := ctxsAt_mono TD s gr ha
    rw [h1]; exact h2
  · intro hr
    unfold ctxsAt
    simp only [hr, if_true]
    obtain ⟨a', h1, h2⟩ := ctxJoin_ins TD s.ctxs gr.1 TD.top
    rw [h1]; exact h2
  · intro hn hT
    cases hc : ctxsAt TD s gr gr.1 with
    | none => exact SubG.refl TD _
    | some a => exact fun σ _ => ctxsAt_noSumTop BU TD T s gr hn gr.1 a hc hT σ

structure StepFacts (s s1 : TDState TD) (gr : Nat × Bool) (st : Fix.St TD.A) : Prop where
  solved : solve TD cfg gr.1 (p.fn gr.1) (tdCall BU TD cv p.nv T) (entryAt TD init s gr) = some st
  notRoot : s1.isRoot = false
  mono : ∀ h a, s.ctxs h = some a → ∃ a', s1.ctxs h = some a' ∧ SubG TD a a'
  noSum : NoSumTop T s.ctxs → NoSumTop T s1.ctxs
  stored : ∀ h c, (h, c) ∈ funCtxs TD (tdCall BU TD cv p.nv T) T (p.fn gr.1) st.pre →
    ∃ a', s1.ctxs h = some a' ∧ SubG TD c a'
  entry_eq : s1.entry = optInsert s.entry gr.1 (entryAt TD init s gr)
  invs_eq : s1.invs = optInsert s.invs gr.1 st

theorem tdStep_facts {s s1 : TDState TD} {gr : Nat × Bool}
    (h : tdStep BU TD cv p cfg T init extra s gr = some s1) :
    ∃ st, StepFacts BU TD cv p cfg T init s s1 gr st := by
  obtain ⟨st, hs, rfl⟩ := tdStep_spec BU TD cv p cfg T init extra h
  refine ⟨st, hs, rfl, ?_, ?_, ?_, rfl, rfl⟩
  · intro h a ha
    obtain ⟨a1, h1, s1⟩ := ctxsAt_mono TD s gr ha
    obtain ⟨a2, h2, s2⟩ := ctxJoinAll_mono TD _ _ h1
    exact ⟨a2, h2, s1.trans s2⟩
  · intro hn
    exact NoSumTop.joinAll _ (ctxsAt_noSumTop BU TD T s gr hn) (stored_has_summary BU TD cv p T extra gr.1 st)
  · intro h c hc
    exact ctxJoinAll_ins TD _ _ (List.mem_append.mpr (Or.inr hc))

/-- what phase 2 guarantees about the entry values (`l` = the functions in top-down order) -/
structure TDFacts (l : List (Nat × Bool)) (R : TDState TD) : Prop where
  cov : ∀ g st, R.invs g = some st → g ∈ l.map (·.1) ∧
    ∃ e, R.entry g = some e ∧ solve TD cfg g (p.fn g) (tdCall BU TD cv p.nv T) e = some st
  covAll : ∀ g, g ∈ l.map (·.1) → ∃ st, R.invs g = some st
  entryCov : ∀ g e, R.entry g = some e → g ∈ l.map (·.1)
  root : ∀ gr rest, l = gr :: rest → R.entry gr.1 = some init
  top : ∀ gr, gr ∈ l → (∀ gr0 rest, l = gr0 :: rest → gr.1 ≠ gr0.1) → ∀ e, R.entry gr.1 = some e →
    (gr.2 = true ∨ T gr.1 = none) → SubG TD TD.top e
  before : ∀ g h, (l.map (·.1)).idxOf g < (l.map (·.1)).idxOf h → h ∈ l.map (·.1) →
    ∀ stg eh, R.invs g = some stg → R.entry h = some eh →
    ∀ c, (h, c) ∈ funCtxs TD (tdCall BU TD cv p.nv T) T (p.fn g) stg.pre → SubG TD c eh

/-- The invariant of the fold `tdRun`, for the list `done` of the functions analysed so far: the facts
    `TDFacts` themselves for `done`, and what the next step reads — whether the next function is the root,
    `NoSumTop`, and that every context generated by an analysed function is in the table. -/
structure RunInv (done : List (Nat × Bool)) (s : TDState TD) : Prop where
  facts : TDFacts BU TD cv p cfg T init done s
  root : s.isRoot = done.isEmpty
  noSum : NoSumTop T s.ctxs
  stored : ∀ g stg, s.invs g = some stg → ∀ h c, (h, c) ∈ funCtxs TD (tdCall BU TD cv p.nv T) T (p.fn g) stg.pre →
    ∃ a', s.ctxs h = some a' ∧ SubG TD c a'

theorem RunInv.empty : RunInv BU TD cv p cfg T init [] (TDState.empty TD) :=
  ⟨⟨(fun _ _ h => nomatch h), (fun _ h => nomatch h), (fun _ _ h => nomatch h), (fun _ _ h => nomatch h),
    (fun _ h => nomatch h), (fun _ _ _ h => nomatch h)⟩, rfl, (fun _ _ h => nomatch h), (fun _ _ h => nomatch h)⟩

variable {BU TD cv p cfg T init extra}

theorem RunInv.step {done : List (Nat × Bool)} {s s1 : TDState TD} {gr : Nat × Bool}
    (hI : RunInv BU TD cv p cfg T init done s) (hn : gr.1 ∉ done.map (·.1))
    (hs : tdStep BU TD cv p cfg T init extra s gr = some s1) :
    RunInv BU TD cv p cfg T init (done ++ [gr]) s1 := by
  obtain ⟨st, hf⟩ := tdStep_facts BU TD cv p cfg T init extra hs
  have hF := hI.facts
  -- the function analysed now is new; every other function keeps its entry and its tables
  have hne : s.entry gr.1 = none := by
    cases he : s.entry gr.1 with
    | none => rfl
    | some e => exact absurd (hF.entryCov _ e he) hn
  have hni : s.invs gr.1 = none := by
    cases he : s.invs gr.1 with
    | none => rfl
    | some e => exact absurd (hF.cov _ e he).1 hn
  have hne' : ∀ {x}, x ≠ gr.1 → s1.entry x = s.entry x ∧ s1.invs x = s.invs x := fun hx => by
    rw [hf.entry_eq, hf.invs_eq, optInsert_other _ _ _ hx, optInsert_other _ _ _ hx]; exact ⟨rfl, rfl⟩
  have hold : ∀ {x}, x ∈ done.map (·.1) → s1.entry x = s.entry x ∧ s1.invs x = s.invs x :=
    fun hx => hne' fun e => hn (e ▸ hx)
  have hnew : s1.entry gr.1 = some (entryAt TD init s gr) ∧ s1.invs gr.1 = some st := by
    rw [hf.entry_eq, hf.invs_eq, optInsert_new _ _ _ hne, optInsert_new _ _ _ hni]; exact ⟨rfl, rfl⟩
  have hmem : ∀ {x}, x ∈ (done ++ [gr]).map (·.1) ↔ x ∈ done.map (·.1) ∨ x = gr.1 := by simp
  -- what the entry value of the new function contains, when it is not the root
  have hent := fun (hd : done ≠ []) => entryAt_facts BU TD T init s gr (by rw [hI.root]; simpa using hd)
  refine ⟨⟨?_, ?_, ?_, ?_, ?_, ?_⟩, by rw [hf.notRoot]; simp, hf.noSum hI.noSum, ?_⟩
  · intro g st' hg
    by_cases hgg : g = gr.1
    · subst hgg
      rw [hnew.2] at hg; cases hg
      exact ⟨hmem.mpr (Or.inr rfl), _, hnew.1, hf.solved⟩
    · rw [(hne' hgg).2] at hg
      obtain ⟨h1, e, h2, h3⟩ := hF.cov g st' hg
      exact ⟨hmem.mpr (Or.inl h1), e, by rw [(hold h1).1]; exact h2, h3⟩
  · intro g hg
    rcases hmem.mp hg with h1 | rfl
    · rw [(hold h1).2]; exact hF.covAll g h1
    · exact ⟨st, hnew.2⟩
  · intro g e hg
    by_cases hgg : g = gr.1
    · exact hmem.mpr (Or.inr hgg)
    · rw [(hne' hgg).1] at hg
      exact hmem.mpr (Or.inl (hF.entryCov g e hg))
  · intro gr0 rest he
    cases done with
    | nil =>
      cases he
      rw [hnew.1, entryAt, hI.root]; rfl
    | cons d ds =>
      cases he
      rw [(hold (by simp)).1]; exact hF.root gr0 ds rfl
  · intro gr' hgr' hnr e he hor
    rcases List.mem_append.mp hgr' with h1 | h1
    · have h1' : gr'.1 ∈ done.map (·.1) := List.mem_map.mpr ⟨gr', h1, rfl⟩
      rw [(hold h1').1] at he
      exact hF.top gr' h1 (fun gr0 rest hd => hnr gr0 (rest ++ [gr]) (by rw [hd]; rfl)) e he hor
    · cases List.mem_singleton.mp h1
      rw [hnew.1] at he; cases he
      have hd : done ≠ [] := fun hd => hnr gr [] (by rw [hd]; rfl) rfl
      exact hor.elim (hent hd).2.1 ((hent hd).2.2 hI.noSum)
  · intro g h hidx hh stg eh hstg heh c hc
    simp only [List.map_append, List.map_cons, List.map_nil, List.idxOf_append] at hidx
    -- `g` comes before `h`, so it was analysed before this step
    have hg : g ∈ done.map (·.1) := by
      refine Decidable.by_contra fun hg => ?_
      have := List.idxOf_le_length (l := done.map (·.1)) (a := h)
      rw [if_neg hg] at hidx
      rcases hmem.mp hh with h1 | rfl
      · rw [if_pos h1] at hidx; omega
      · rw [if_neg hn, List.idxOf_cons_self] at hidx; omega
    rw [(hold hg).2] at hstg
    rcases hmem.mp hh with h1 | rfl
    · rw [(hold h1).1] at heh
      rw [if_pos hg, if_pos h1] at hidx
      exact hF.before g h hidx h1 stg eh hstg heh c hc
    · rw [hnew.1] at heh; cases heh
      obtain ⟨a', ha', hsub⟩ := hI.stored g stg hstg _ c hc
      exact hsub.trans ((hent (fun hd => by rw [hd] at hg; nomatch hg)).1 a' ha')
  · intro g stg hstg h c hc
    by_cases hgg : g = gr.1
    · subst hgg
      rw [hnew.2] at hstg; cases hstg
      exact hf.stored h c hc
    · rw [(hne' hgg).2] at hstg
      obtain ⟨a', ha', hsub⟩ := hI.stored g stg hstg h c hc
      obtain ⟨a'', ha'', hsub'⟩ := hf.mono h a' ha'
      exact ⟨a'', ha'', hsub.trans hsub'⟩

theorem RunInv.run : ∀ (l done : List (Nat × Bool)) (s R : TDState TD), RunInv BU TD cv p cfg T init done s →
    ((done ++ l).map (·.1)).Nodup → tdRun BU TD cv p cfg T init extra l s = some R →
    RunInv BU TD cv p cfg T init (done ++ l) R
  | [], done, s, R, hI, _, h => by
    simp only [tdRun, Option.some.injEq] at h
    subst h; simpa using hI
  | gr :: l, done, s, R, hI, hnd, h => by
    simp only [tdRun] at h
    split at h
    · cases h
    · next s1 hs =>
      have hn : gr.1 ∉ done.map (·.1) := by
        simp only [List.map_append, List.map_cons, List.nodup_append, List.mem_cons] at hnd
        exact fun hm => hnd.2.2 _ hm _ (Or.inl rfl) rfl
      have := RunInv.run l (done ++ [gr]) s1 R (hI.step hn hs) (by simpa using hnd) h
      simpa using this

variable (BU TD cv p cfg T init extra) in
theorem tdRun_facts (l : List (Nat × Bool)) (R : TDState TD)
    (h : tdRun BU TD cv p cfg T init extra l (TDState.empty TD) = some R) (hnd : (l.map (·.1)).Nodup) :
    TDFacts BU TD cv p cfg T init l R :=
  (RunInv.run l [] _ R (RunInv.empty BU TD cv p cfg T init) hnd h).facts

end TDRun
end Crab.Inter
