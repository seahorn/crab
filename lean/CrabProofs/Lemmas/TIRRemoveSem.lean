import CrabProofs.Lemmas.TIRSimplify
import CrabProofs.Lemmas.TIRReach

/-!
  Removing blocks that are unreachable from the entry preserves all behaviours; removing blocks
  from which the exit is unreachable preserves the exit-reaching behaviours; hence
  `cfg::simplify()` preserves the exit-reaching behaviours and well-formedness.
-/
namespace Crab
namespace TIR

/-- executions only look at the blocks they can reach: two programs that agree on a set of
    blocks closed under successors have the same executions from there -/
theorem exec_congr_on (P T : Prog) (K : Label → Prop)
    (hcl : ∀ l, K l → ∀ l', l' ∈ P.succsOf l → K l')
    (hst : ∀ l, K l → T.stmtsOf l = P.stmtsOf l)
    (hsu : ∀ l, K l → T.succsOf l = P.succsOf l)
    (hex : ∀ l, T.isExit l = P.isExit l) (hout : T.outputs = P.outputs)
    {stmts : List Stmt} {l : Label} {σ : State} {t : List Event} {o : Outcome} :
    (Exec P stmts l σ t o → K l → Exec T stmts l σ t o) ∧ (Exec T stmts l σ t o → K l → Exec P stmts l σ t o) := by
  -- one direction; the hypotheses are symmetric in the two programs
  have dir : ∀ (P T : Prog), (∀ l, K l → ∀ l', l' ∈ P.succsOf l → K l') → (∀ l, K l → T.stmtsOf l = P.stmtsOf l) →
      (∀ l, K l → T.succsOf l = P.succsOf l) → (∀ l, T.isExit l = P.isExit l) → T.outputs = P.outputs →
      ∀ {stmts l σ t o}, Exec P stmts l σ t o → K l → Exec T stmts l σ t o := by
    intro P T hcl hst hsu hex hout stmts l σ t o h
    induction h with
    | exit hx => intro _; rw [← hout]; exact Exec.exit (by rw [hex]; exact hx)
    | @goto l l' σ t o hx hm _ ih =>
      intro hk
      have hk' := hcl l hk l' hm
      have := ih hk'
      rw [← hst l' hk'] at this
      exact Exec.goto (by rw [hex]; exact hx) (by rw [hsu l hk]; exact hm) this
    | stuck hx hs => intro hk; exact Exec.stuck (by rw [hex]; exact hx) (by rw [hsu _ hk]; exact hs)
    | cont hv hstep _ ih => intro hk; exact Exec.cont hv hstep (ih hk)
    | stop hv hstep => intro _; exact Exec.stop hv hstep
  exact ⟨dir P T hcl hst hsu hex hout,
    dir T P (fun l hk l' hl' => hcl l hk l' (hsu l hk ▸ hl')) (fun l hk => (hst l hk).symm)
      (fun l hk => (hsu l hk).symm) (fun l => (hex l).symm) hout.symm⟩

theorem RemoveSpec.isExit {P T : Prog} {l : Label} (h : RemoveSpec P T l) (l' : Label) :
    T.isExit l' = P.isExit l' := by simp [Prog.isExit, h.exit]

theorem RemoveSpec.sinv {P T : Prog} {l : Label} (hinv : SInv P) (h : RemoveSpec P T l) : SInv T := by
  refine ⟨h.wfp hinv.wf, ?_⟩
  intro x hx
  rw [h.exit] at hx
  rw [h.succ]
  split
  · rfl
  · rw [hinv.ens x hx]; rfl

theorem RemoveSpec.succ_sub {P T : Prog} {l : Label} (h : RemoveSpec P T l) (l1 l2 : Label)
    (hm : l2 ∈ T.succsOf l1) : l2 ∈ P.succsOf l1 := by
  rw [h.succ] at hm
  split at hm
  · simp at hm
  · exact (mem_removeAdj.mp hm).1

variable {O : Outcome → Prop}

/-- removing, one after the other, blocks with a property `Q` that no removal destroys -/
theorem removeMany_goodFor (Q : Prog → Label → Prop)
    (hstep : ∀ {P T l}, SInv P → RemoveSpec P T l → Q P l → GoodFor O P T)
    (hkeep : ∀ {P T l l'}, RemoveSpec P T l → Q P l' → Q T l') :
    ∀ (ls : List Label) (P T : Prog), SInv P → (∀ l, l ∈ ls → Q P l) → removeMany P ls = some T →
      GoodFor O P T := by
  intro ls
  induction ls with
  | nil => intro P T hinv _ h; simp only [removeMany, Option.some.injEq] at h; subst h; exact GoodFor.refl hinv
  | cons l r ih =>
    intro P T hinv hQ h
    simp only [removeMany] at h
    cases hr : P.remove l with
    | none => rw [hr] at h; cases h
    | some P1 =>
      rw [hr] at h
      have hspec := remove_spec hinv.wf hr
      have g1 := hstep hinv hspec (hQ l List.mem_cons_self)
      exact g1.trans (ih P1 T g1.inv (fun l' hl' => hkeep hspec (hQ l' (List.mem_cons_of_mem _ hl'))) h)

theorem remove_unreachable_good {P T : Prog} {l : Label} (hinv : SInv P) (h : RemoveSpec P T l)
    (hun : ¬ GPath P.succsOf P.entry l) : GoodFor O P T := by
  refine ⟨h.sinv hinv, h.entry, h.exit, ?_⟩
  intro σ t o _
  have hK : ∀ l', GPath P.succsOf P.entry l' → l' ≠ l := by
    intro l' hp hc; subst hc; exact hun hp
  have := @exec_congr_on P T (fun l' => GPath P.succsOf P.entry l')
    (fun l1 h1 l2 h2 => h1.snoc h2)
    (fun l1 h1 => by rw [h.stmts]; simp [hK l1 h1])
    (fun l1 h1 => by
      rw [h.succ]; simp only [hK l1 h1, if_false]
      apply removeAdj_of_not_mem
      intro hc; exact hun (h1.snoc hc))
    h.isExit h.outs (P.stmtsOf P.entry) P.entry σ t o
  unfold Beh
  rw [h.entry]
  have he : T.stmtsOf P.entry = P.stmtsOf P.entry := by
    rw [h.stmts]; simp [hK P.entry (GPath.refl _)]
  rw [he]
  exact ⟨fun hx => this.1 hx (GPath.refl _), fun hx => this.2 hx (GPath.refl _)⟩

theorem exec_exit_path (P : Prog) {stmts : List Stmt} {l : Label} {σ : State} {t : List Event} {o : Outcome}
    (h : Exec P stmts l σ t o) : ∀ outs, o = .exit outs → ∃ x, P.isExit x = true ∧ GPath P.succsOf l x := by
  induction h with
  | @exit l σ hx => intro _ _; exact ⟨l, hx, GPath.refl _⟩
  | goto _ hm _ ih =>
    intro outs ho
    obtain ⟨x, h1, h2⟩ := ih outs ho
    exact ⟨x, h1, GPath.step hm h2⟩
  | stuck _ _ => intro _ ho; cases ho
  | cont _ _ _ ih => exact ih
  | stop hv hstep => intro outs ho; exact absurd ho (stepStmt_stop_not_exit hstep outs)

theorem remove_useless_forward {P T : Prog} {l0 : Label} (h : RemoveSpec P T l0)
    (hun : ∀ x, P.isExit x = true → ¬ GPath P.succsOf l0 x)
    {stmts : List Stmt} {l : Label} {σ : State} {t : List Event} {o : Outcome}
    (he : Exec P stmts l σ t o) : ∀ outs, o = .exit outs → Exec T stmts l σ t o := by
  induction he with
  | @exit l σ hx => intro _ _; rw [← h.outs]; exact Exec.exit (by rw [h.isExit]; exact hx)
  | @goto l l' σ t o hx hm hrest ih =>
    intro outs ho
    obtain ⟨x, hx1, hx2⟩ := exec_exit_path P hrest outs ho
    have hl' : l' ≠ l0 := by intro hc; subst hc; exact hun x hx1 hx2
    have hl : l ≠ l0 := by intro hc; subst hc; exact hun x hx1 (GPath.step hm hx2)
    have := ih outs ho
    rw [show P.stmtsOf l' = T.stmtsOf l' by rw [h.stmts]; simp [hl']] at this
    refine Exec.goto (by rw [h.isExit]; exact hx) ?_ this
    rw [h.succ]; simp only [hl, if_false]
    exact mem_removeAdj.mpr ⟨hm, hl'⟩
  | stuck _ _ => intro _ ho; cases ho
  | cont hv hstep _ ih => intro outs ho; exact Exec.cont hv hstep (ih outs ho)
  | stop hv hstep => intro outs ho; exact absurd ho (stepStmt_stop_not_exit hstep outs)

theorem remove_useless_backward {P T : Prog} {l0 : Label} (h : RemoveSpec P T l0)
    {stmts : List Stmt} {l : Label} {σ : State} {t : List Event} {o : Outcome}
    (he : Exec T stmts l σ t o) : ∀ outs, o = .exit outs → Exec P stmts l σ t o := by
  induction he with
  | @exit l σ hx => intro _ _; rw [h.outs]; exact Exec.exit (by rw [← h.isExit]; exact hx)
  | @goto l l' σ t o hx hm _ ih =>
    intro outs ho
    have hm' := hm
    rw [h.succ] at hm'
    split at hm'
    · simp at hm'
    · obtain ⟨h1, h2⟩ := mem_removeAdj.mp hm'
      have := ih outs ho
      rw [show T.stmtsOf l' = P.stmtsOf l' by rw [h.stmts]; simp [h2]] at this
      exact Exec.goto (by rw [← h.isExit]; exact hx) h1 this
  | stuck _ _ => intro _ ho; cases ho
  | cont hv hstep _ ih => intro outs ho; exact Exec.cont hv hstep (ih outs ho)
  | stop hv hstep => intro outs ho; exact absurd ho (stepStmt_stop_not_exit hstep outs)

def Outcome.IsExit (o : Outcome) : Prop := ∃ outs, o = .exit outs

theorem remove_useless_good {P T : Prog} {l : Label} (hinv : SInv P) (h : RemoveSpec P T l)
    (hun : ∀ x, P.isExit x = true → ¬ GPath P.succsOf l x) : GoodFor Outcome.IsExit P T := by
  refine ⟨h.sinv hinv, h.entry, h.exit, ?_⟩
  rintro σ t o ⟨outs, ho⟩
  unfold Beh
  rw [h.entry]
  have he : T.stmtsOf P.entry = P.stmtsOf P.entry := by
    rw [h.stmts]; simp [Ne.symm h.ne_entry]
  rw [he]
  exact ⟨fun hx => remove_useless_forward h hun hx outs ho, fun hx => remove_useless_backward h hx outs ho⟩

theorem wf_next_succs {P : Prog} (hwf : WFp P) :
    ∀ l, (∀ s, s ∈ P.succsOf l → s ∈ P.labels) ∧ (P.succsOf l).length ≤ P.labels.length :=
  fun l => ⟨fun s hs => hwf.succ_lab l s hs,
    (hwf.nd_succ l).length_le_of_subset (fun s hs => hwf.succ_lab l s hs)⟩

theorem wf_next_preds {P : Prog} (hwf : WFp P) :
    ∀ l, (∀ s, s ∈ P.predsOf l → s ∈ P.labels) ∧ (P.predsOf l).length ≤ P.labels.length :=
  fun l => ⟨fun s hs => hwf.pred_lab hs,
    (hwf.nd_pred l).length_le_of_subset (fun s hs => hwf.pred_lab hs)⟩

theorem mem_reachable {P : Prog} (hwf : WFp P) {l : Label} : l ∈ P.reachable ↔ GPath P.succsOf P.entry l := by
  unfold Prog.reachable
  rw [← labels_length]
  exact reachFrom_single_iff P.succsOf P.labels (wf_next_succs hwf) hwf.entry

theorem GPath.reverse {P : Prog} (hwf : WFp P) {a b : Label} (h : GPath P.succsOf a b) : GPath P.predsOf b a :=
  h.flip (fun _ _ hm => (hwf.sym _ _).mp hm)

theorem mem_coReachable {P : Prog} (hwf : WFp P) {x l : Label} (hx : x ∈ P.labels) :
    l ∈ P.coReachable x ↔ GPath P.succsOf l x := by
  unfold Prog.coReachable
  rw [← labels_length, reachFrom_single_iff P.predsOf P.labels (wf_next_preds hwf) hx]
  exact ⟨GPath.flip (fun _ _ hm => (hwf.sym _ _).mpr hm), GPath.reverse hwf⟩

theorem removeUnreachable_good {P T : Prog} (hinv : SInv P) (h : removeUnreachable P = some T) : GoodFor O P T := by
  unfold removeUnreachable at h
  refine removeMany_goodFor (fun P l => ¬ GPath P.succsOf P.entry l) remove_unreachable_good
    (fun hs hq hp => hq (hs.entry ▸ hp.mono hs.succ_sub)) _ P T hinv ?_ h
  intro l hl hp
  have := (List.mem_filter.mp hl).2
  simp only [Bool.and_eq_true, Bool.not_eq_eq_eq_not, Bool.not_true] at this
  have hnot : l ∉ P.reachable := by simpa using this.1
  exact hnot ((mem_reachable hinv.wf).mpr hp)

theorem removeUseless_good {P T : Prog} (hinv : SInv P) (h : removeUseless P = some T) :
    GoodFor Outcome.IsExit P T := by
  unfold removeUseless at h
  cases hx : P.exit with
  | none => rw [hx] at h; simp only [Option.some.injEq] at h; subst h; exact GoodFor.refl hinv
  | some x =>
    rw [hx] at h
    simp only at h
    refine removeMany_goodFor (fun P l => ∀ x, P.isExit x = true → ¬ GPath P.succsOf l x) remove_useless_good
      (fun hs hq x hx hp => hq x (hs.isExit x ▸ hx) (hp.mono hs.succ_sub)) _ P T hinv ?_ h
    intro l hl x' hx' hp
    have hxx : x' = x := by
      simp only [Prog.isExit, hx, beq_iff_eq, Option.some.injEq] at hx'
      exact hx'.symm
    subst hxx
    have := (List.mem_filter.mp hl).2
    simp only [Bool.and_eq_true, Bool.not_eq_eq_eq_not, Bool.not_true] at this
    have hnot : l ∉ P.coReachable x' := by simpa using this.1
    exact hnot ((mem_coReachable hinv.wf (hinv.wf.exit x' hx)).mpr hp)

/-- `cfg::simplify()` -/
theorem simplify_good (v : Variant) {P T : Prog} (hinv : SInv P) (h : simplify v P = some T) :
    GoodFor Outcome.IsExit P T := by
  unfold simplify at h
  cases h1 : mergeBlocks v P with
  | none => rw [h1] at h; cases h
  | some P1 =>
    rw [h1] at h
    simp only at h
    have g1 := mergeBlocks_good (O := Outcome.IsExit) v hinv h1
    cases h2 : removeUnreachable P1 with
    | none => rw [h2] at h; cases h
    | some P2 =>
      rw [h2] at h
      simp only at h
      have g2 := removeUnreachable_good (O := Outcome.IsExit) g1.inv h2
      cases h3 : removeUseless P2 with
      | none => rw [h3] at h; cases h
      | some P3 =>
        rw [h3] at h
        simp only at h
        have g3 := removeUseless_good g2.inv h3
        exact ((g1.trans g2).trans g3).trans (mergeBlocks_good v g3.inv h)

end TIR
end Crab
