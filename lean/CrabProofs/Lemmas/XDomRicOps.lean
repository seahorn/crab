import CrabProofs.Lemmas.XDomRic

/-!
  The "ric" domain (model `Crab.RDom`): the lattice operations of `basic_domain_product2`, from the
  theorems of the two components (the transformers are in `XDomRicStmt.lean`).
-/
namespace Crab
namespace RDom
open XDom Lin

/-- the concrete operations of `XDom` imply the ones the interval domain is stated with -/
theorem toIA_conc {op : ArithOp} {a b c : Int} (h : op.conc a b = some c) : (toIA op).conc a b = some c := by
  cases op <;> exact h

theorem toIB_conc {op : BitOp} {a b c : Int} (h : op.conc a b = some c) :
    (toIB op).conc a b = some c ∧ (toIB op = .lshr → b < 2 ^ 64) := by
  cases op <;> simp only [BitOp.conc, toIB, IDom.BitOp.conc] at h ⊢
  · exact ⟨h, fun e => by cases e⟩
  · exact ⟨h, fun e => by cases e⟩
  · exact ⟨h, fun e => by cases e⟩
  · split at h
    · rename_i h0; simp only [h0.1, if_true]; exact ⟨h, fun e => by cases e⟩
    · cases h
  · split at h
    · rename_i h0; simp only [h0.2.1, if_true]; exact ⟨h, fun _ => h0.2.2⟩
    · cases h
  · split at h
    · rename_i h0; simp only [h0.1, if_true]; exact ⟨h, fun e => by cases e⟩
    · cases h

namespace Env

theorem mk'_sound {f : IDom.Env} {s : GDom.Env} {σ : State} (b : Bool) (h1 : IDom.Env.γ f σ)
    (h2 : GDom.Env.γ s σ) : (mk' f s b).γ σ := by
  unfold mk'
  have hg : (⟨false, f, s⟩ : Env).γ σ := ⟨rfl, h1, h2⟩
  split
  · rw [canon_of_γ hg]; exact hg
  · exact hg

theorem mk'_inv {f : IDom.Env} {s : GDom.Env} (b : Bool) (h1 : f.Sorted) (h2 : s.Inv) : (mk' f s b).Inv := by
  unfold mk'
  have hi : (⟨false, f, s⟩ : Env).Inv := ⟨h1, h2, fun h => by cases h⟩
  split
  · exact canon_inv hi
  · exact hi

theorem leq_sound {a b : Env} (ha : a.Inv) (hb : b.Inv) (h : leq a b = true) {σ : State} (hg : a.γ σ) :
    b.γ σ := by
  unfold leq at h
  simp only [isBottom_false hg, Bool.false_eq_true, if_false] at h
  split at h
  · cases h
  · rename_i hbb
    simp only [Bool.not_eq_true] at hbb
    simp only [Bool.and_eq_true] at h
    exact ⟨(isBot_of_not_isBottom hbb).1, IDom.Env.leq_sound h.1 hg.2.1,
      XDom.Env.leq_sound GDom.congLaws ha.2.1 hb.2.1 h.2 hg.2.2⟩

theorem leq_of_isBottom {a : Env} (h : a.isBottom = true) (b : Env) : leq a b = true := by
  unfold leq; simp [h]

theorem leq_refl {a : Env} (ha : a.Inv) : leq a a = true := by
  unfold leq
  cases h : a.isBottom
  · simp only [Bool.false_eq_true, if_false, Bool.and_eq_true]
    exact ⟨IDom.Env.leq_refl ha.1, XDom.Env.leq_refl GDom.congLaws ha.2.1⟩
  · rfl

theorem leq_top {a : Env} (ha : a.Inv) : leq a top = true := by
  unfold leq
  cases h : a.isBottom
  · have : top.isBottom = false := rfl
    simp only [this, Bool.false_eq_true, if_false, Bool.and_eq_true]
    exact ⟨IDom.Env.leq_top a.f, XDom.Env.leq_top GDom.congLaws ha.2.1⟩
  · rfl

theorem join_upper {a b : Env} (ha : a.Inv) (hb : b.Inv) {σ : State} (h : a.γ σ ∨ b.γ σ) : (join a b).γ σ := by
  unfold join
  split
  · rename_i hab
    rcases h with h | h
    · exact absurd h (not_γ_of_isBottom hab σ)
    · exact h
  · split
    · rename_i hbb
      rcases h with h | h
      · exact h
      · exact absurd h (not_γ_of_isBottom hbb σ)
    · rcases h with h | h
      · exact mk'_sound _ (IDom.Env.join_upper_left ha.1 b.f h.2.1)
          (XDom.Env.upper_sound GDom.congLaws GDom.congLaws.join ha.2.1 hb.2.1 (Or.inl h.2.2))
      · exact mk'_sound _ (IDom.Env.join_upper_right ha.1 h.2.1)
          (XDom.Env.upper_sound GDom.congLaws GDom.congLaws.join ha.2.1 hb.2.1 (Or.inr h.2.2))

theorem join_inv {a b : Env} (ha : a.Inv) (hb : b.Inv) : (join a b).Inv := by
  unfold join
  split
  · exact hb
  · split
    · exact ha
    · exact mk'_inv _ (IDom.Env.upperWith_sorted _ ha.1 hb.1) (XDom.Env.upper_inv GDom.congLaws GDom.congLaws.join ha.2.1 hb.2.1)

theorem joinEq_upper {a b : Env} (ha : a.Inv) (hb : b.Inv) {σ : State} (h : a.γ σ ∨ b.γ σ) : (joinEq a b).γ σ := by
  unfold joinEq
  split
  · rename_i hab
    rcases h with h | h
    · exact absurd h (not_γ_of_isBottom hab σ)
    · exact h
  · rename_i hab
    simp only [Bool.not_eq_true] at hab
    split
    · rename_i hbb
      rcases h with h | h
      · exact h
      · exact absurd h (not_γ_of_isBottom hbb σ)
    · refine ⟨(isBot_of_not_isBottom hab).1, ?_, ?_⟩
      · rcases h with h | h
        · exact IDom.Env.join_upper_left ha.1 b.f h.2.1
        · exact IDom.Env.join_upper_right ha.1 h.2.1
      · exact XDom.Env.upper_sound GDom.congLaws GDom.congLaws.join ha.2.1 hb.2.1
          (h.elim (fun h => Or.inl h.2.2) (fun h => Or.inr h.2.2))

theorem joinEq_inv {a b : Env} (ha : a.Inv) (hb : b.Inv) : (joinEq a b).Inv := by
  unfold joinEq
  split
  · exact hb
  · rename_i hab
    simp only [Bool.not_eq_true] at hab
    split
    · exact ha
    · exact ⟨IDom.Env.upperWith_sorted _ ha.1 hb.1, XDom.Env.upper_inv GDom.congLaws GDom.congLaws.join ha.2.1 hb.2.1,
        fun h => by rw [(isBot_of_not_isBottom hab).1] at h; cases h⟩

theorem widen_upper {a b : Env} (ha : a.Inv) (hb : b.Inv) {σ : State} (h : a.γ σ ∨ b.γ σ) : (widen a b).γ σ := by
  unfold widen
  rcases h with h | h
  · exact mk'_sound _ (IDom.Env.widen_upper_left ha.1 b.f h.2.1)
      (XDom.Env.upper_sound GDom.congLaws GDom.congLaws.widen ha.2.1 hb.2.1 (Or.inl h.2.2))
  · exact mk'_sound _ (IDom.Env.widen_upper_right ha.1 h.2.1)
      (XDom.Env.upper_sound GDom.congLaws GDom.congLaws.widen ha.2.1 hb.2.1 (Or.inr h.2.2))

theorem widen_inv {a b : Env} (ha : a.Inv) (hb : b.Inv) : (widen a b).Inv :=
  mk'_inv _ (IDom.Env.upperWith_sorted _ ha.1 hb.1) (XDom.Env.upper_inv GDom.congLaws GDom.congLaws.widen ha.2.1 hb.2.1)

theorem widenTh_upper {ts : IDom.Thresholds} (hw : ts.WF) {a b : Env} (ha : a.Inv) (hb : b.Inv) {σ : State}
    (h : a.γ σ ∨ b.γ σ) : (widenTh ts a b).γ σ := by
  unfold widenTh
  rcases h with h | h
  · exact mk'_sound _ (IDom.Env.widenTh_upper_left hw ha.1 b.f h.2.1)
      (XDom.Env.upper_sound GDom.congLaws GDom.congLaws.widen ha.2.1 hb.2.1 (Or.inl h.2.2))
  · exact mk'_sound _ (IDom.Env.widenTh_upper_right hw ha.1 h.2.1)
      (XDom.Env.upper_sound GDom.congLaws GDom.congLaws.widen ha.2.1 hb.2.1 (Or.inr h.2.2))

theorem widenTh_inv (ts : IDom.Thresholds) {a b : Env} (ha : a.Inv) (hb : b.Inv) : (widenTh ts a b).Inv :=
  mk'_inv _ (IDom.Env.upperWith_sorted _ ha.1 hb.1) (XDom.Env.upper_inv GDom.congLaws GDom.congLaws.widen ha.2.1 hb.2.1)

theorem γ_of_isTop {e : Env} (he : e.Inv) (h : e.isTop = true) (σ : State) : e.γ σ := by
  unfold isTop at h
  simp only [Bool.and_eq_true] at h
  have h1 := IDom.Env.γ_of_isTop h.1 σ
  refine ⟨?_, h1, XDom.Env.γ_of_isTop GDom.congLaws he.2.1 h.2 σ⟩
  cases hb : e.isBot
  · rfl
  · have := he.2.2 hb; rw [h1.1] at this; cases this

theorem meet_sound {a b : Env} (ha : a.Inv) (hb : b.Inv) {σ : State} (h1 : a.γ σ) (h2 : b.γ σ) : (meet a b).γ σ := by
  unfold meet
  split
  · exact h1
  · split
    · exact h2
    · exact mk'_sound _ (IDom.Env.meet_sound ha.1 h1.2.1 h2.2.1)
        (XDom.Env.lower_sound GDom.congLaws GDom.congLaws.meet ha.2.1 hb.2.1 h1.2.2 h2.2.2)

theorem mk'_exact {f : IDom.Env} {s : GDom.Env} {σ : State} (h : (mk' f s true).γ σ) :
    IDom.Env.γ f σ ∧ GDom.Env.γ s σ := by
  unfold mk' canon at h
  simp only [if_true, Bool.not_false] at h
  split at h
  · exact absurd h (not_γ_bot σ)
  · exact ⟨h.2.1, h.2.2⟩

theorem meet_lower {a b : Env} (ha : a.Inv) (hb : b.Inv) {σ : State} (h : (meet a b).γ σ) : a.γ σ ∧ b.γ σ := by
  unfold meet at h
  split at h
  · rename_i hc
    simp only [Bool.or_eq_true] at hc
    rcases hc with hc | hc
    · exact absurd h (not_γ_of_isBottom hc σ)
    · exact ⟨h, γ_of_isTop hb hc σ⟩
  · split at h
    · rename_i hc
      simp only [Bool.or_eq_true] at hc
      rcases hc with hc | hc
      · exact absurd h (not_γ_of_isBottom hc σ)
      · exact ⟨γ_of_isTop ha hc σ, h⟩
    · rename_i hn1 hn2
      simp only [Bool.or_eq_true, not_or, Bool.not_eq_true] at hn1 hn2
      obtain ⟨m1, m2⟩ := mk'_exact h
      obtain ⟨f1, f2⟩ := IDom.Env.meet_exact m1
      obtain ⟨s1, s2⟩ := XDom.Env.lower_below GDom.congLaws GDom.congLaws.meet
        (fun _ _ _ hk => Cong.meet_exact hk) ha.2.1 hb.2.1 m2
      exact ⟨⟨(isBot_of_not_isBottom hn1.1).1, f1, s1⟩, ⟨(isBot_of_not_isBottom hn2.1).1, f2, s2⟩⟩

theorem meet_inv {a b : Env} (ha : a.Inv) (hb : b.Inv) : (meet a b).Inv := by
  unfold meet
  split
  · exact ha
  · split
    · exact hb
    · exact mk'_inv _ (IDom.Env.lowerWith_sorted _ ha.1 b.f) (XDom.Env.lower_inv GDom.congLaws GDom.congLaws.meet ha.2.1 hb.2.1)

theorem meetEq_sound {a b : Env} (ha : a.Inv) (hb : b.Inv) {σ : State} (h1 : a.γ σ) (h2 : b.γ σ) : (meetEq a b).γ σ := by
  unfold meetEq
  simp only [isBottom_false h1, isBottom_false h2, Bool.false_eq_true, if_false]
  exact ⟨h1.1, IDom.Env.meet_sound ha.1 h1.2.1 h2.2.1,
    XDom.Env.lower_sound GDom.congLaws GDom.congLaws.meet ha.2.1 hb.2.1 h1.2.2 h2.2.2⟩

theorem meetEq_inv {a b : Env} (ha : a.Inv) (hb : b.Inv) : (meetEq a b).Inv := by
  unfold meetEq
  split
  · exact ha
  · rename_i hab
    simp only [Bool.not_eq_true] at hab
    split
    · exact hb
    · exact ⟨IDom.Env.lowerWith_sorted _ ha.1 b.f, XDom.Env.lower_inv GDom.congLaws GDom.congLaws.meet ha.2.1 hb.2.1,
        fun h => by rw [(isBot_of_not_isBottom hab).1] at h; cases h⟩

theorem narrow_sound {a b : Env} (ha : a.Inv) (hb : b.Inv) {σ : State} (h1 : a.γ σ) (h2 : b.γ σ) : (narrow a b).γ σ := by
  unfold narrow
  split
  · exact h1
  · split
    · exact h2
    · exact mk'_sound _ (IDom.Env.narrow_sound ha.1 h1.2.1 h2.2.1)
        (XDom.Env.lower_sound GDom.congLaws GDom.congLaws.narrow ha.2.1 hb.2.1 h1.2.2 h2.2.2)

theorem narrow_inv {a b : Env} (ha : a.Inv) (hb : b.Inv) : (narrow a b).Inv := by
  unfold narrow
  split
  · exact ha
  · split
    · exact hb
    · exact mk'_inv _ (IDom.Env.lowerWith_sorted _ ha.1 b.f) (XDom.Env.lower_inv GDom.congLaws GDom.congLaws.narrow ha.2.1 hb.2.1)

end Env
end RDom
end Crab
