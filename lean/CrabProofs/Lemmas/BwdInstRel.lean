import CrabProofs.Lemmas.BwdInst
import CrabProofs.Lemmas.RelDomEngine

/-!
  The canonical zone and octagon models (`ZonesOps.lean`, `OctagonOps.lean`; engine records
  `Zones.splitEng n`, `Octagon.eng n`) as domains of the backward analysis.

  A value tracks the variables `0 .. n-1` of a `bwd` program (`res`: the tracked part of a
  state); the other variables are unconstrained.  `RelLang` says how a constraint / an assignment
  of a `bwd` program is executed in the statement language of the model (`zoneCsts`,
  `zoneAssign`, ... of `CrabModel/Bwd/BwdInst.lean`); `RB.fwd` is the resulting forward API
  (`apply(op, x, y, z)` is `assign(x, y op z)` for `+` / `-`, a havoc of `x` otherwise;
  `select` is a havoc of `x`), `RB.dom = withGenBwd fwd rename bound`.

  THIS IS THE GENERIC RECIPE ON THE CANONICAL MODEL, NOT THE CODE OF split_dbm / split_oct:
  `split_dbm_domain::backward_assign / backward_apply` are indeed `BackwardAssignOps<DBM_t>`, but
  over split_dbm's own forward operations (sparse graph, variables added on demand), which are
  not modelled; here the forward operations are those of the canonical dense model, the fresh
  variable of `BackwardAssignOps` is an UNTRACKED index (`bound = n`: a constraint on it is
  ignored, so `x := e` with `x` in `e` loses the relation the real code keeps through `rename`;
  `x := x ± k` written as `bin_op` keeps it: it is inverted by `x := x ∓ k`), and
  `rename y x` = forget both.
-/
namespace Crab
namespace Bwd

/-- the tracked part of a state -/
def res (n : Nat) (σ : State) : Fin n → Int := fun i => σ i.val

theorem res_upd_tracked (n : Nat) (σ : State) (x : Fin n) (v : Int) :
    res n (upd σ x.val v) = fun y => if y = x then v else res n σ y := by
  funext y
  by_cases h : y = x
  · subst h; simp [res, upd]
  · have : y.val ≠ x.val := fun e => h (Fin.ext e)
    simp [res, upd, h, this]

theorem res_upd_untracked (n : Nat) (σ : State) (x : Var) (v : Int) (h : ¬ x < n) :
    res n (upd σ x v) = res n σ := by
  funext y
  have : y.val ≠ x := fun e => h (e ▸ y.isLt)
  simp [res, upd, this]

/-- how the statements of a `bwd` program are executed by a relational model over `n` variables -/
structure RelLang (n : Nat) (E : RelDom.EngDom (Fin n → Int)) where
  isBottom : E.A → Bool
  isBottom_sound : ∀ a s, isBottom a = true → ¬ E.γ a s
  top_sound : ∀ s, E.γ E.ops.top s
  assume : Cst → E.Stmt
  assume_rel : ∀ c (σ : State), c.holds σ → E.rel (assume c) (res n σ) (res n σ)
  havoc : Fin n → E.Stmt
  havoc_rel : ∀ x s s', (∀ y, y ≠ x → s' y = s y) → E.rel (havoc x) s s'
  assign : Fin n → Lin → E.Stmt
  assign_rel : ∀ x e (σ : State), E.rel (assign x e) (res n σ) (res n (upd σ x.val (e.eval σ)))

namespace RB
variable {n : Nat} {E : RelDom.EngDom (Fin n → Int)} (T : RelLang n E)

def γ (_ : RelLang n E) (a : E.A) (σ : State) : Prop := E.γ a (res n σ)

def forget (x : Var) (a : E.A) : E.A := if h : x < n then E.exec (T.havoc ⟨x, h⟩) a else a
def assign (x : Var) (e : Lin) (a : E.A) : E.A :=
  if h : x < n then E.exec (T.assign ⟨x, h⟩ e) a else a
def apply (op : BinOp) (x y : Var) (z : Operand) (a : E.A) : E.A :=
  match binLin op y z with
  | some e => assign T x e a
  | none => forget T x a
/-- `rename({y}, {x})`, coarsely: both variables are forgotten (`y` is an untracked index in
    every call `BackwardAssignOps` makes) -/
def rename (y x : Var) (a : E.A) : E.A := forget T y (forget T x a)

def fwd : BDom E.A where
  top := E.ops.top
  bot := E.ops.bot
  isBottom := T.isBottom
  leq := E.ops.leq
  join := E.ops.join
  meet := E.ops.meet
  widen := E.ops.widen
  narrow := E.ops.narrow
  assume := fun c a => E.exec (T.assume c) a
  forget := forget T
  assign := assign T
  apply := apply T
  select := fun x _ _ _ a => forget T x a
  bwdAssign := fun _ _ _ inv => inv
  bwdApply := fun _ _ _ _ _ inv => inv

/-- the model with `BackwardAssignOps` over its forward operations -/
def dom : BDom E.A := withGenBwd (fwd T) (rename T) (fun _ => n)

theorem forget_sound (x : Var) (a : E.A) (σ : State) (v : Int) (hg : γ T a σ) :
    γ T (forget T x a) (upd σ x v) := by
  unfold forget γ
  by_cases h : x < n
  · rw [dif_pos h]
    refine E.exec_sound _ a _ _ hg (T.havoc_rel _ _ _ ?_)
    intro y hy
    have := res_upd_tracked n σ ⟨x, h⟩ v
    simp only [] at this
    rw [this]; simp [hy]
  · rw [dif_neg h, res_upd_untracked n σ x v h]; exact hg

theorem assign_sound (x : Var) (e : Lin) (a : E.A) (σ : State) (hg : γ T a σ) :
    γ T (assign T x e a) (upd σ x (e.eval σ)) := by
  unfold assign γ
  by_cases h : x < n
  · rw [dif_pos h]
    exact E.exec_sound _ a _ _ hg (T.assign_rel ⟨x, h⟩ e σ)
  · rw [dif_neg h, res_upd_untracked n σ x _ h]; exact hg

theorem fwd_sound : BDomSound (fwd T) (γ T) where
  top_sound := fun σ => T.top_sound _
  isBottom_sound := fun a σ h => T.isBottom_sound a _ h
  join_left := fun a b σ h => E.join_left a b _ h
  join_right := fun a b σ h => E.join_right a b _ h
  widen_left := fun a b σ h => E.widen_left a b _ h
  widen_right := fun a b σ h => E.widen_right a b _ h
  meet_sound := fun a b σ h1 h2 => E.meet_sound a b _ h1 h2
  narrow_sound := fun a b σ h1 h2 => E.narrow_sound a b _ h1 h2
  leq_sound := fun a b σ h hg => E.leq_sound a b _ h hg
  assume_sound := fun c a σ hg hc => E.exec_sound _ a _ _ hg (T.assume_rel c σ hc)
  forget_sound := fun x a σ v hg => forget_sound T x a σ v hg
  assign_sound := fun x e a σ hg => assign_sound T x e a σ hg
  apply_sound := by
    intro op x y z a σ v hg hv
    show γ T (apply T op x y z a) _
    unfold apply
    cases hb : binLin op y z with
    | some e =>
      have := binLin_eval hb σ
      rw [hv, Option.some.injEq] at this
      rw [this]
      exact assign_sound T x e a σ hg
    | none => exact forget_sound T x a σ v hg
  select_sound := fun x _ _ _ a σ hg => forget_sound T x a σ _ hg
  bwdAssign_sound := fun _ _ _ _ _ h _ => h
  bwdApply_sound := fun _ _ _ _ _ _ _ _ h _ _ => h

theorem rename_after_forget : RenameAfterForget (fwd T) (γ T) (rename T) := by
  intro y x a τ w _ hg
  have h1 := forget_sound T x a τ (τ y) hg
  have h2 := forget_sound T x _ _ (τ y) h1
  rw [upd_upd] at h2
  exact forget_sound T y _ _ w h2

theorem bound_ok : BoundOk (γ T) (fun _ => n) := by
  intro a f τ v hf hg
  unfold γ
  have hf' : n ≤ f := hf
  rw [res_upd_untracked n τ f v (Nat.not_lt.2 hf')]
  exact hg

theorem dom_sound : BDomSound (dom T) (γ T) :=
  withGenBwd_sound (fwd_sound T) (rename T) (rename_after_forget T) _ (bound_ok T)

end RB

/-! ### the translated constraints and assignments mean what the `bwd` statement means

`zoneLe` / `octLe` return at most one constraint, chosen by a cascade of tests on the coefficients:
a property holds of every member of the result when it holds of the constraint of each branch. -/

section
variable {α : Type} {P : α → Prop}
theorem forall_mem_ite {p : Prop} [Decidable p] {l1 l2 : List α} (h1 : p → ∀ k ∈ l1, P k)
    (h2 : ¬ p → ∀ k ∈ l2, P k) : ∀ k ∈ (if p then l1 else l2), P k := by
  split
  · exact h1 ‹_›
  · exact h2 ‹_›
theorem forall_mem_dite {p : Prop} [Decidable p] {l1 : p → List α} {l2 : ¬ p → List α}
    (h1 : ∀ h : p, ∀ k ∈ l1 h, P k) (h2 : ∀ h : ¬ p, ∀ k ∈ l2 h, P k) :
    ∀ k ∈ (if h : p then l1 h else l2 h), P k := by
  split
  · exact h1 ‹_›
  · exact h2 ‹_›
end

private theorem le_ub {c u : Int} (h : c + (1 * u + 0) ≤ 0) : u ≤ -c := by omega
private theorem le_lb {c u : Int} (h : c + (-1 * u + 0) ≤ 0) : -u ≤ -c := by omega
private theorem le_diff {c u v : Int} (h : c + (1 * u + (-1 * v + 0)) ≤ 0) : u - v ≤ -c := by omega
private theorem le_diff' {c u v : Int} (h : c + (-1 * u + (1 * v + 0)) ≤ 0) : v - u ≤ -c := by omega
private theorem le_sum {c u v : Int} (h : c + (1 * u + (1 * v + 0)) ≤ 0) : u + v ≤ -c := by omega
private theorem le_nsum {c u v : Int} (h : c + (-1 * u + (-1 * v + 0)) ≤ 0) : -u - v ≤ -c := by omega

private theorem eval_one {c u : Int} : c + (1 * u + 0) = u + c := by omega
private theorem eval_neg_one {c u : Int} : c + (-1 * u + 0) = -u + c := by omega

theorem updFn_congr {n : Nat} (s : Fin n → Int) (x : Fin n) {v w : Int} (h : v = w) :
    (fun y => if y = x then v else s y) = fun y => if y = x then w else s y := h ▸ rfl

/-- `zoneCsts` and `octCsts` split a constraint into inequalities `c + Σ ≤ 0` the same way -/
theorem csts_sat_of_le {K : Type} (le : Int → List (Int × Var) → List K) (sat : K → Prop)
    (σ : State) (hle : ∀ c ts, c + evalTerms ts σ ≤ 0 → ∀ k ∈ le c ts, sat k) (c : Cst)
    (h : c.holds σ) :
    ∀ k ∈ (match c.k with
      | .le => le c.e.c c.e.ts
      | .lt => le (c.e.c + 1) c.e.ts
      | .eq => le c.e.c c.e.ts ++ le c.e.neg.c c.e.neg.ts
      | .ne => []), sat k := by
  obtain ⟨kd, e⟩ := c
  cases kd <;> simp only [Cst.holds, Lin.eval] at h ⊢
  · exact hle _ _ h
  · exact hle _ _ (by omega)
  · intro k hk
    rcases List.mem_append.1 hk with hk | hk
    · exact hle _ _ (by omega) k hk
    · have := Lin.neg_eval e σ
      simp only [Lin.eval] at this
      exact hle _ _ (by omega) k hk
  · intro k hk; cases hk

theorem zoneLe_sat (n : Nat) (c : Int) (ts : List (Int × Var)) (σ : State)
    (h : c + evalTerms ts σ ≤ 0) : ∀ k ∈ zoneLe n c ts, k.sat (res n σ) := by
  rcases ts with _ | ⟨⟨a, x⟩, _ | ⟨⟨b, y⟩, _ | _⟩⟩
  · exact List.forall_mem_nil _
  · exact forall_mem_dite (fun _ =>
      forall_mem_ite (fun h' => List.forall_mem_singleton.2 (by subst h'; exact le_ub h)) fun _ =>
      forall_mem_ite (fun h' => List.forall_mem_singleton.2 (by subst h'; exact le_lb h)) fun _ =>
      List.forall_mem_nil _) fun _ => List.forall_mem_nil _
  · exact forall_mem_dite (fun _ =>
      forall_mem_ite (fun h' => List.forall_mem_singleton.2
        (by obtain ⟨rfl, rfl⟩ := h'; exact le_diff h)) fun _ =>
      forall_mem_ite (fun h' => List.forall_mem_singleton.2
        (by obtain ⟨rfl, rfl⟩ := h'; exact le_diff' h)) fun _ =>
      List.forall_mem_nil _) fun _ => List.forall_mem_nil _
  · exact List.forall_mem_nil _

theorem zoneCsts_sat (n : Nat) (c : Cst) (σ : State) (h : c.holds σ) :
    ∀ k ∈ zoneCsts n c, k.sat (res n σ) :=
  csts_sat_of_le (zoneLe n) (·.sat (res n σ)) σ (fun c ts h => zoneLe_sat n c ts σ h) c h

theorem zoneAssign_rel (n : Nat) (x : Fin n) (e : Lin) (σ : State) :
    (zoneAssign n x e).rel (res n σ) (res n (upd σ x.val (e.eval σ))) := by
  rw [res_upd_tracked]
  obtain ⟨c, ts⟩ := e
  rcases ts with _ | ⟨⟨a, y⟩, _ | _⟩
  · exact updFn_congr _ x (Int.add_zero c)
  · simp only [zoneAssign]
    by_cases h : a = 1 ∧ y < n
    · rw [dif_pos h]
      obtain ⟨rfl, hy⟩ := h
      exact updFn_congr _ x eval_one
    · rw [dif_neg h]
      exact fun v hv => if_neg hv
  · exact fun v hv => if_neg hv

/-- the zone model (widening of split_dbm) executes the `bwd` statements -/
def zoneLang (n : Nat) : RelLang n (Zones.splitEng n) where
  isBottom := Zones.ZVal.isBottom
  isBottom_sound := fun a s h => (Zones.ZVal.isBottom_iff a).1 h s
  top_sound := fun s => Zones.top_γ s
  assume := fun c => Zones.Stmt.assume (zoneCsts n c)
  assume_rel := fun c σ h => ⟨rfl, zoneCsts_sat n c σ h⟩
  havoc := fun x => Zones.Stmt.havoc x
  havoc_rel := fun _ _ _ h => h
  assign := zoneAssign n
  assign_rel := zoneAssign_rel n

theorem octLe_sat (n : Nat) (c : Int) (ts : List (Int × Var)) (σ : State)
    (h : c + evalTerms ts σ ≤ 0) : ∀ k ∈ octLe n c ts, k.sat (res n σ) := by
  rcases ts with _ | ⟨⟨a, x⟩, _ | ⟨⟨b, y⟩, _ | _⟩⟩
  · exact List.forall_mem_nil _
  · exact forall_mem_dite (fun _ =>
      forall_mem_ite (fun h' => List.forall_mem_singleton.2 (by subst h'; exact le_ub h)) fun _ =>
      forall_mem_ite (fun h' => List.forall_mem_singleton.2 (by subst h'; exact le_lb h)) fun _ =>
      List.forall_mem_nil _) fun _ => List.forall_mem_nil _
  · exact forall_mem_dite (fun _ =>
      forall_mem_ite (fun h' => List.forall_mem_singleton.2
        (by obtain ⟨rfl, rfl⟩ := h'; exact le_diff h)) fun _ =>
      forall_mem_ite (fun h' => List.forall_mem_singleton.2
        (by obtain ⟨rfl, rfl⟩ := h'; exact le_diff' h)) fun _ =>
      forall_mem_ite (fun h' => List.forall_mem_singleton.2
        (by obtain ⟨rfl, rfl⟩ := h'; exact le_sum h)) fun _ =>
      forall_mem_ite (fun h' => List.forall_mem_singleton.2
        (by obtain ⟨rfl, rfl⟩ := h'; exact le_nsum h)) fun _ =>
      List.forall_mem_nil _) fun _ => List.forall_mem_nil _
  · exact List.forall_mem_nil _

theorem octCsts_sat (n : Nat) (c : Cst) (σ : State) (h : c.holds σ) :
    ∀ k ∈ octCsts n c, k.sat (res n σ) :=
  csts_sat_of_le (octLe n) (·.sat (res n σ)) σ (fun c ts h => octLe_sat n c ts σ h) c h

theorem octAssign_rel (n : Nat) (x : Fin n) (e : Lin) (σ : State) :
    (octAssign n x e).rel (res n σ) (res n (upd σ x.val (e.eval σ))) := by
  rw [res_upd_tracked]
  obtain ⟨c, ts⟩ := e
  rcases ts with _ | ⟨⟨a, y⟩, _ | _⟩
  · exact updFn_congr _ x (Int.add_zero c)
  · simp only [octAssign]
    by_cases hy : y < n
    · rw [dif_pos hy]
      by_cases ha : a = 1
      · subst ha
        exact updFn_congr _ x eval_one
      · rw [if_neg ha]
        by_cases ha' : a = -1
        · subst ha'
          exact updFn_congr _ x eval_neg_one
        · rw [if_neg ha']
          exact fun v hv => if_neg hv
    · rw [dif_neg hy]
      exact fun v hv => if_neg hv
  · exact fun v hv => if_neg hv
/-- the octagon model executes the `bwd` statements -/
def octLang (n : Nat) : RelLang n (Octagon.eng n) where
  isBottom := Octagon.OVal.isBottom
  isBottom_sound := fun a s h => Octagon.OVal.isBottom_sound a h s
  top_sound := fun s => Octagon.top_γ s
  assume := fun c => Octagon.Stmt.assume (octCsts n c)
  assume_rel := fun c σ h => ⟨rfl, octCsts_sat n c σ h⟩
  havoc := fun x => Octagon.Stmt.havoc x
  havoc_rel := fun _ _ _ h => h
  assign := octAssign n
  assign_rel := octAssign_rel n

end Bwd
end Crab
