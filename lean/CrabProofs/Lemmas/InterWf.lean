import CrabProofs.Lemmas.InterSim

/-!
  What the proofs use of the Boolean checks `IProg.wf`, `IProg.scoped` and of the default values
  `p.fn g`, `f.blk b` answer out of range: `ProgOK`, `main < funs.size`, the CFGs are well-formed
  graphs, a check over all statements holds of the statement at `(g, b, k)`.
-/
namespace Crab.Inter

theorem getD_mem_of_lt {α : Type} (a : Array α) (i : Nat) (d : α) (h : i < a.size) : a.getD i d ∈ a := by
  rw [Array.getD_eq_getD_getElem?, Array.getElem?_eq_getElem h]
  simp

theorem funs_getElem? {p : IProg} {c : Nat} (hc : c < p.funs.size) : p.funs[c]? = some (p.fn c) := by
  simp [IProg.fn, Array.getD_eq_getD_getElem?, Array.getElem?_eq_getElem hc]

/-- a block index out of range answers the default block: no statement, no successor -/
theorem blk_default {f : IFun} {b : Nat} (hb : ¬ b < f.blocks.size) : f.blk b = default := by
  simp [IFun.blk, Array.getD_eq_getD_getElem?, Array.getElem?_eq_none (Nat.le_of_not_lt hb)]

theorem blk_stmts_lt {f : IFun} {b k : Nat} (h : k < (f.blk b).stmts.size) : b < f.blocks.size :=
  Decidable.by_contra fun hb => by rw [blk_default hb] at h; exact Nat.not_lt_zero _ h

theorem succ_blk_lt {f : IFun} {b n : Nat} (h : n ∈ (f.blk b).succs.toList) : b < f.blocks.size :=
  Decidable.by_contra fun hb => by rw [blk_default hb] at h; cases h

theorem main_lt {p : IProg} (hwf : p.wf = true) : p.main < p.funs.size := by
  simp only [IProg.wf, Bool.and_eq_true, decide_eq_true_eq] at hwf
  exact hwf.1

theorem fun_wf {p : IProg} (hwf : p.wf = true) {g : Nat} (hg : g < p.funs.size) : (p.fn g).wf p = true := by
  simp only [IProg.wf, Bool.and_eq_true, Array.all_eq_true_iff_forall_mem] at hwf
  exact hwf.2 _ (getD_mem_of_lt _ _ _ hg)

theorem progOK_of_wf {p : IProg} (hwf : p.wf = true) (hsc : p.scoped = true) : ProgOK p := by
  intro g hg
  have hmem : p.fn g ∈ p.funs := getD_mem_of_lt _ _ _ hg
  have hf := fun_wf hwf hg
  simp only [IProg.scoped, Array.all_eq_true_iff_forall_mem] at hsc
  have hs := hsc _ hmem
  simp only [IFun.wf, Bool.and_eq_true, decide_eq_true_eq, List.all_eq_true, Array.all_eq_true_iff_forall_mem, Bool.not_eq_true', List.contains_eq_mem, decide_eq_false_iff_not] at hf
  simp only [IFun.scoped, Bool.and_eq_true, decide_eq_true_eq, List.all_eq_true, Array.all_eq_true_iff_forall_mem] at hs
  obtain ⟨⟨⟨⟨_, h1⟩, h2⟩, h3⟩, h4⟩ := hf
  refine ⟨h1, h2, h3, hs.1.1, hs.1.2, ?_⟩
  intro b k hk
  have hb : (p.fn g).blk b ∈ (p.fn g).blocks := getD_mem_of_lt _ _ _ (blk_stmts_lt hk)
  have hsm : ((p.fn g).blk b).stmts.getD k default ∈ ((p.fn g).blk b).stmts := getD_mem_of_lt _ _ _ hk
  have h5 := (h4 _ hb).2 _ hsm
  refine ⟨h5.1, hs.2 _ hb _ hsm, ?_⟩
  have h6 := h5.2
  cases hst : ((p.fn g).blk b).stmts.getD k default with
  | call c lhs args =>
    rw [hst] at h6
    simp only at h6
    by_cases hc : c < p.funs.size
    · rw [funs_getElem? hc] at h6
      simp only [Bool.and_eq_true, decide_eq_true_eq, beq_iff_eq] at h6
      exact ⟨hc, h6.1.1, h6.1.2, h6.2⟩
    · have : p.funs[c]? = none := Array.getElem?_eq_none (Nat.le_of_not_lt hc)
      rw [this] at h6
      simp at h6
  | _ => trivial

theorem wf_graph {p : IProg} (hwf : p.wf = true) {g : Nat} (hg : g < p.funs.size) :
    (p.fn g).graph.WF ∧ 0 < (p.fn g).graph.n := by
  have hf := fun_wf hwf hg
  simp only [IFun.wf, Bool.and_eq_true, decide_eq_true_eq, Array.all_eq_true_iff_forall_mem] at hf
  obtain ⟨⟨⟨⟨h0, _⟩, _⟩, _⟩, h4⟩ := hf
  refine ⟨?_, h0⟩
  intro u v hv
  have hv' : v ∈ ((p.fn g).blk u).succs.toList := hv
  have hu : u < (p.fn g).blocks.size := succ_blk_lt hv'
  exact (h4 _ (getD_mem_of_lt _ _ default hu)).1 v (Array.mem_toList_iff.mp hv')

theorem mem_callees {f : IFun} {b k h : Nat} {lhs args : List Var} (hk : k < (f.blk b).stmts.size)
    (hs : (f.blk b).stmts.getD k default = .call h lhs args) : h ∈ f.callees := by
  unfold IFun.callees
  rw [List.mem_flatMap]
  refine ⟨f.blk b, by simpa using getD_mem_of_lt _ _ _ (blk_stmts_lt hk), ?_⟩
  rw [List.mem_filterMap]
  refine ⟨(f.blk b).stmts.getD k default, ?_, by rw [hs]⟩
  simpa using getD_mem_of_lt _ _ default hk

/-- a Boolean check of every statement of the program holds of the statement at `(g, b, k)` -/
theorem all_stmts_at {p : IProg} {Q : IStmt → Bool}
    (h : (p.funs.all fun f => f.blocks.all fun b => b.stmts.all Q) = true) {g b k : Nat} (hg : g < p.funs.size)
    (hk : k < ((p.fn g).blk b).stmts.size) : Q (((p.fn g).blk b).stmts.getD k default) = true := by
  simp only [Array.all_eq_true_iff_forall_mem] at h
  exact h _ (getD_mem_of_lt _ _ _ hg) _ (getD_mem_of_lt _ _ _ (blk_stmts_lt hk)) _ (getD_mem_of_lt _ _ default hk)

end Crab.Inter
