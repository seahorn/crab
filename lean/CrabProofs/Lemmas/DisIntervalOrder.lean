import CrabProofs.Lemmas.DisIntervalNorm

/-! `dis_interval::operator<=` (`Crab.Dis.leq`): sound for all values, reflexive, bottom / top, and
    complete on normalised values (the two-pointer loop relies on the sorted, gap-separated vectors).
    A normalised vector is determined by the set it denotes (`wfList_unique`), so `normalize` and the
    list constructor leave it as it is. -/
namespace Crab
namespace Dis
open Bound

/-- the inner loop: what is left of `os` from the first interval that contains `a` -/
def seek (a : Itv) (os : List Itv) : List Itv := os.dropWhile (fun o => !(Itv.leq a o))

theorem leqLoop_cons (a : Itv) (as os : List Itv) :
    leqLoop (a :: as) os = (!(seek a os).isEmpty && leqLoop as (seek a os)) := by
  rw [leqLoop, ← seek]
  cases seek a os <;> simp

theorem seek_head {a o : Itv} {os r : List Itv} (h : seek a os = o :: r) : Itv.leq a o = true := by
  have := List.head?_dropWhile_not (fun o => !(Itv.leq a o)) os
  rw [← seek, h] at this
  simpa using this

theorem seek_nil {a : Itv} {os : List Itv} (h : seek a os = []) : ∀ o ∈ os, Itv.leq a o = false := by
  induction os with
  | nil => simp
  | cons o os ih =>
    rw [seek, List.dropWhile_cons] at h
    split at h
    · rename_i ho
      exact List.forall_mem_cons.mpr ⟨by simpa using ho, ih h⟩
    · cases h

theorem leqLoop_sound (as os : List Itv) (h : leqLoop as os = true) :
    ∀ a ∈ as, ∃ o ∈ os, Itv.leq a o = true := by
  induction as generalizing os with
  | nil => simp
  | cons a as' ih =>
    rw [leqLoop_cons, Bool.and_eq_true] at h
    have hsub : seek a os ⊆ os := (List.dropWhile_suffix _).subset
    refine List.forall_mem_cons.mpr ⟨?_, fun b hb => ?_⟩
    · cases hr : seek a os with
      | nil => simp [hr] at h
      | cons o r => exact ⟨o, hsub (hr ▸ List.mem_cons_self), seek_head hr⟩
    · obtain ⟨o, ho, hle⟩ := ih _ h.2 b hb
      exact ⟨o, hsub ho, hle⟩

theorem leq_sound {x y : Dis} (h : leq x y = true) {k : Int} (hk : mem k x) : mem k y := by
  obtain ⟨sx, lx⟩ := x
  obtain ⟨sy, ly⟩ := y
  cases sx <;> cases sy <;> simp_all [leq, isBottom, isTop, mem]
  obtain ⟨a, ha, hka⟩ := hk
  obtain ⟨o, ho, hle⟩ := leqLoop_sound lx ly h a ha
  exact ⟨o, ho, Itv.leq_sound hle hka⟩

theorem leqLoop_refl_aux (as pre : List Itv) : leqLoop as (pre ++ as) = true := by
  induction as generalizing pre with
  | nil => rfl
  | cons a as' ih =>
    -- the scan stops at `a` at the latest
    obtain ⟨pre', hp⟩ : ∃ pre', seek a (pre ++ a :: as') = pre' ++ a :: as' := by
      induction pre with
      | nil => exact ⟨[], by simp [seek, Itv.leq_refl]⟩
      | cons p ps ihp =>
        rw [seek, List.cons_append, List.dropWhile_cons]
        split
        · exact ihp
        · exact ⟨p :: ps, rfl⟩
    rw [leqLoop_cons, hp, List.append_cons, ih]
    simp

theorem leq_refl (x : Dis) : leq x x = true := by
  obtain ⟨sx, lx⟩ := x
  cases sx <;> simp [leq, isBottom, isTop]
  exact leqLoop_refl_aux lx []

theorem bot_leq (x y : Dis) (h : x.isBottom = true) : leq x y = true := by simp [leq, h]
theorem leq_top (x y : Dis) (h : y.isTop = true) : leq x y = true := by simp [leq, h]

theorem exists_mem_of_proper {a : Itv} (h : proper a = true) : ∃ k, Itv.mem k a :=
  let hp := (proper_iff a).mp h
  Itv.exists_mem hp.2.2 hp.1

theorem WFList.tail {a : Itv} {l : List Itv} (h : WFList (a :: l)) : WFList l :=
  ⟨fun x hx => h.1 x (List.mem_cons_of_mem _ hx), (List.pairwise_cons.mp h.2).2⟩

theorem WFList.of_append_right {p l : List Itv} (h : WFList (p ++ l)) : WFList l :=
  ⟨fun x hx => h.1 x (List.mem_append_right _ hx), (List.pairwise_append.mp h.2).2.1⟩

theorem wfList_adjacent {l : List Itv} (h : WFList l) {a b : Itv} (ha : a ∈ l) (hb : b ∈ l)
    {j k : Int} (hj : Itv.mem j a) (hk : Itv.mem k b) (h1 : k ≤ j + 1) (h2 : j ≤ k + 1) : a = b := by
  induction l with
  | nil => cases ha
  | cons c cs ih =>
    have hpw := List.pairwise_cons.mp h.2
    rcases List.mem_cons.mp ha with rfl | ha' <;> rcases List.mem_cons.mp hb with rfl | hb'
    · rfl
    · have := gapOk_mem (hpw.1 b hb') hj hk; omega
    · have := gapOk_mem (hpw.1 a ha') hk hj; omega
    · exact ih h.tail ha' hb'

theorem lb_between {o : Itv} {k k0 : Int} (h0 : Itv.mem k0 o) (hk : ¬ Itv.mem k o) (hlt : k < k0) :
    ∃ l, o.lb = .fin l ∧ k < l ∧ l ≤ k0 := by
  have hku : Bound.le (.fin k) o.ub = true := Bound.le_trans (by simpa using Int.le_of_lt hlt) h0.2
  have h1 := h0.1
  cases hl : o.lb with
  | ninf => exact absurd ⟨by rw [hl]; rfl, hku⟩ hk
  | pinf => rw [hl] at h1; cases h1
  | fin l =>
    rw [hl] at h1
    refine ⟨l, rfl, Int.lt_of_not_ge fun hle => hk ⟨by rw [hl]; simpa using hle, hku⟩, by simpa using h1⟩

theorem ub_between {o : Itv} {k k0 : Int} (h0 : Itv.mem k0 o) (hk : ¬ Itv.mem k o) (hlt : k0 < k) :
    ∃ u, o.ub = .fin u ∧ u < k ∧ k0 ≤ u := by
  have hkl : Bound.le o.lb (.fin k) = true := Bound.le_trans h0.1 (by simpa using Int.le_of_lt hlt)
  have h2 := h0.2
  cases hu : o.ub with
  | pinf => exact absurd ⟨hkl, by rw [hu]; rfl⟩ hk
  | ninf => rw [hu] at h2; cases h2
  | fin u =>
    rw [hu] at h2
    refine ⟨u, rfl, Int.lt_of_not_ge fun hle => hk ⟨hkl, by rw [hu]; simpa using hle⟩, by simpa using h2⟩

/-- an interval covered by a normalised vector lies inside one of its intervals: if it left `o`
    it would contain the integer next to an end of `o`, which no other interval can hold -/
theorem single_cover {os : List Itv} (hos : WFList os) {a o : Itv}
    (hcov : ∀ k, Itv.mem k a → memL k os) {k0 : Int} (h0a : Itv.mem k0 a) (ho : o ∈ os)
    (h0o : Itv.mem k0 o) {k : Int} (hk : Itv.mem k a) : Itv.mem k o := by
  apply Classical.byContradiction
  intro hno
  have hob := Itv.isBottom_false_of_mem h0o
  rcases Int.lt_or_gt_of_ne (fun e : k = k0 => hno (e ▸ h0o)) with hlt | hgt
  · obtain ⟨l, hl, hlk, hl0⟩ := lb_between h0o hno hlt
    obtain ⟨o', ho', hm'⟩ := hcov _ (Itv.mem_convex hk h0a (show k ≤ l - 1 by omega) (by omega))
    have := wfList_adjacent hos ho' ho hm' (Itv.lb_mem hob hl) (by omega) (by omega)
    subst this
    have := hm'.1
    rw [hl] at this
    simp at this; omega
  · obtain ⟨u, hu, huk, hu0⟩ := ub_between h0o hno hgt
    obtain ⟨o', ho', hm'⟩ := hcov _ (Itv.mem_convex h0a hk (show k0 ≤ u + 1 by omega) (by omega))
    have := wfList_adjacent hos ho ho' (Itv.ub_mem hob hu) hm' (by omega) (by omega)
    subst this
    have := hm'.2
    rw [hu] at this
    simp at this; omega

/-- a proper interval that lies in the union of a normalised vector is inside one of its intervals -/
theorem exists_cover {os : List Itv} (hos : WFList os) {a : Itv} (ha : proper a = true)
    (hcov : ∀ k, Itv.mem k a → memL k os) : ∃ o ∈ os, Itv.leq a o = true := by
  obtain ⟨k0, h0a⟩ := exists_mem_of_proper ha
  obtain ⟨o, ho, h0o⟩ := hcov k0 h0a
  exact ⟨o, ho, Itv.leq_of_subset ((proper_iff a).mp ha).2.2 fun k hk => single_cover hos hcov h0a ho h0o hk⟩

theorem leqLoop_complete (as os : List Itv) (has : WFList as) (hos : WFList os)
    (hsub : ∀ k, memL k as → memL k os) : leqLoop as os = true := by
  induction as generalizing os with
  | nil => rfl
  | cons a as' ih =>
    obtain ⟨k0, h0a⟩ := exists_mem_of_proper (has.1 a (by simp))
    obtain ⟨o, ho, hle⟩ := exists_cover hos (has.1 a (by simp)) fun k hk => hsub k ⟨a, by simp, hk⟩
    rw [leqLoop_cons]
    cases hr : seek a os with
    | nil => rw [seek_nil hr o ho] at hle; cases hle
    | cons o1 os1 =>
      obtain ⟨pre, hpre⟩ := List.dropWhile_suffix (fun o => !(Itv.leq a o)) (l := os)
      have h0o1 : Itv.mem k0 o1 := Itv.leq_sound (seek_head hr) h0a
      rw [← seek, hr] at hpre
      subst hpre
      refine (Bool.true_and _).trans (ih _ has.tail hos.of_append_right fun k hk => ?_)
      obtain ⟨a', ha', hka'⟩ := hk
      have hlt := gapOk_mem ((List.pairwise_cons.mp has.2).1 a' ha') h0a hka'
      obtain ⟨o', ho', hko'⟩ := hsub k ⟨a', List.mem_cons_of_mem _ ha', hka'⟩
      rcases List.mem_append.mp ho' with hin | hin
      · -- an interval before `o1` cannot contain a number above `k0`
        have := gapOk_mem ((List.pairwise_append.mp hos.2).2.2 o' hin o1 (by simp)) hko' h0o1
        omega
      · exact ⟨o', hin, hko'⟩

theorem exists_not_mem {l : List Itv} (h : WFList l) (hne : l ≠ []) : ∃ k, ¬ memL k l := by
  cases l with
  | nil => exact absurd rfl hne
  | cons a as =>
    have hpa := (proper_iff a).mp (h.1 a (by simp))
    have hothers : ∀ b ∈ as, ∀ j k, Itv.mem j a → Itv.mem k b → j + 1 < k :=
      fun b hb j k hj hk => gapOk_mem ((List.pairwise_cons.mp h.2).1 b hb) hj hk
    cases hl : a.lb with
    | fin l =>
      refine ⟨l - 1, ?_⟩
      rintro ⟨i, hi, hki⟩
      rcases List.mem_cons.mp hi with rfl | hi
      · simp [Itv.mem, hl] at hki; omega
      · have := hothers i hi l (l - 1) (Itv.lb_mem hpa.1 hl) hki
        omega
    | ninf =>
      obtain ⟨u, hu⟩ : ∃ u, a.ub = .fin u := by
        obtain ⟨al, au⟩ := a
        cases au <;> simp_all [Itv.isTop, Itv.WF, Bound.isInfinite]
      refine ⟨u + 1, ?_⟩
      rintro ⟨i, hi, hki⟩
      rcases List.mem_cons.mp hi with rfl | hi
      · simp [Itv.mem, hu] at hki; omega
      · have := hothers i hi u (u + 1) (Itv.ub_mem hpa.1 hu) hki
        omega
    | pinf => exact absurd hl hpa.2.2.1

theorem leq_complete {x y : Dis} (hx : WF x) (hy : WF y) (h : ∀ k, mem k x → mem k y) :
    leq x y = true := by
  obtain ⟨sx, lx⟩ := x
  obtain ⟨sy, ly⟩ := y
  cases sx <;> cases sy <;> simp [leq, isBottom, isTop]
  · -- FINITE ≤ BOT : the left value has a member
    obtain ⟨hne, _, hw⟩ := hx
    obtain ⟨a, as, rfl⟩ := List.exists_cons_of_ne_nil hne
    obtain ⟨k, hk⟩ := exists_mem_of_proper (hw.1 a (by simp))
    exact h k ⟨a, by simp, hk⟩
  · exact leqLoop_complete lx ly hx.2.2 hy.2.2 h
  · exact h 0 trivial
  · obtain ⟨k, hk⟩ := exists_not_mem hy.2.2 hy.1
    exact hk (h k trivial)

theorem wfList_subset {l l' : List Itv} (h : WFList l) (h' : WFList l')
    (hm : ∀ k, memL k l ↔ memL k l') : ∀ a ∈ l, a ∈ l' := by
  intro a ha
  have hpa := (proper_iff a).mp (h.1 a ha)
  obtain ⟨o, ho, hao⟩ := exists_cover h' (h.1 a ha) fun k hk => (hm k).mp ⟨a, ha, hk⟩
  obtain ⟨a', ha', hoa⟩ := exists_cover h (h'.1 o ho) fun k hk => (hm k).mpr ⟨o, ho, hk⟩
  -- `a ⊆ o ⊆ a'` with `a`, `a'` in the same normalised vector: `a = a'`, so `a = o`
  obtain ⟨k, hk⟩ := Itv.exists_mem hpa.2.2 hpa.1
  have hko := Itv.leq_sound hao hk
  have e : a = a' := wfList_adjacent h ha ha' hk (Itv.leq_sound hoa hko) (by omega) (by omega)
  subst e
  have hob := Itv.isBottom_false_of_mem hko
  rw [Itv.leq_eq_of_not_bottom hpa.1 hob, Bool.and_eq_true] at hao
  rw [Itv.leq_eq_of_not_bottom hob hpa.1, Bool.and_eq_true] at hoa
  have : a = o := by
    obtain ⟨al, au⟩ := a
    obtain ⟨ol, ou⟩ := o
    simp only [Itv.mk.injEq]
    exact ⟨Bound.le_antisymm hoa.1 hao.1, Bound.le_antisymm hao.2 hoa.2⟩
  exact this ▸ ho

/-- uniqueness of the normal form: the two vectors have the same intervals, and the order of the
    intervals is forced by the gaps -/
theorem wfList_unique {l l' : List Itv} (h : WFList l) (h' : WFList l')
    (hm : ∀ k, memL k l ↔ memL k l') : l = l' := by
  have nb : ∀ {l : List Itv}, WFList l → ∀ a ∈ l, a.isBottom = false :=
    fun h a ha => ((proper_iff a).mp (h.1 a ha)).1
  have nd : ∀ {l : List Itv}, WFList l → l.Nodup := fun h =>
    List.Pairwise.imp_of_mem (fun ha _ hg e => by subst e; exact gapOk_asymm (nb h _ ha) (nb h _ ha) hg hg) h.2
  refine List.Perm.eq_of_pairwise (le := fun a b => gapOk a b = true)
    (fun a b ha hb h1 h2 => (gapOk_asymm (nb h a ha) (nb h' b hb) h1 h2).elim) h.2 h'.2 ?_
  exact (List.perm_ext_iff_of_nodup (nd h) (nd h')).mpr fun a =>
    ⟨wfList_subset h h' hm a, wfList_subset h' h (fun k => (hm k).symm) a⟩

theorem normalizeList_of_wf {l : List Itv} (h : WFList l) : normalizeList l = (l, false) := by
  have hs := normalizeList_spec (wfList_wf h)
  by_cases h1 : l.length ≤ 1
  · rw [normalizeList, if_pos h1]
  obtain ⟨a, ha⟩ : ∃ a, a ∈ l := List.exists_mem_of_length_pos (by omega)
  have hne : l ≠ [] := List.ne_nil_of_mem ha
  -- not flagged as bottom, and some interval is left
  have hb : (normalizeList l).2 = false := by
    cases hb : (normalizeList l).2
    · rfl
    · exact absurd (hs.bot hb a ha) (by simp [((proper_iff a).mp (h.1 a ha)).1])
  have hr : (normalizeList l).1 ≠ [] := fun hr =>
    let ⟨k, hk⟩ := exists_not_mem h hne
    hk (hs.top hb hr hne k)
  exact Prod.ext (wfList_unique (hs.wfList (by omega)) h (hs.coarsens hr).mem) hb

theorem mkList_of_wf {x : Dis} (hx : WF x) (hf : x.st = .fin) : mkList x.l = x := by
  obtain ⟨s, l⟩ := x
  cases hf
  unfold mkList
  rw [normalizeList_of_wf hx.2.2]
  cases l with
  | nil => exact absurd rfl hx.1
  | cons x xs => exact if_neg (Nat.not_le.mpr hx.2.1)

end Dis
end Crab
