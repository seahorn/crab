import CrabProofs.Lemmas.XDomLattice

/-!
  Chain condition of the widening of a `separate_domain`-based domain (`Crab.XDom.Env`): a
  widening step `x ∇ y` with `y` not below `x` strictly decreases the measure
  (bottom flag, Σ over the bindings of `1 + rank`, Σ over the bindings of the second component
  of the scalar measure), lexicographically.  The widening only keeps keys of its left argument
  (keys bound on one side only are dropped, a top result is not stored), and a Patricia tree has
  finitely many bindings, so no bound on the set of variables is needed.
-/
set_option linter.unusedSectionVars false

namespace Crab
namespace XDom
open Patricia Patricia.Tree Lin SepDom

/-- lexicographic order on pairs of natural numbers, in the form `omega` handles -/
def LexLe (p q : Nat × Nat) : Prop := p.1 < q.1 ∨ (p.1 = q.1 ∧ p.2 ≤ q.2)
def LexLt (p q : Nat × Nat) : Prop := p.1 < q.1 ∨ (p.1 = q.1 ∧ p.2 < q.2)

theorem LexLt.toLex {p q : Nat × Nat} (h : LexLt p q) : Prod.Lex (· < ·) (· < ·) p q := by
  obtain ⟨p1, p2⟩ := p; obtain ⟨q1, q2⟩ := q
  rcases h with h | ⟨h1, h2⟩
  · exact Prod.Lex.left _ _ h
  · simp only at h1 h2; subst h1; exact Prod.Lex.right _ h2

theorem LexLt.ofLex {p q : Nat × Nat} (h : Prod.Lex (· < ·) (· < ·) p q) : LexLt p q := by
  cases h with
  | left _ _ h => exact Or.inl h
  | right _ h => exact Or.inr ⟨rfl, h⟩

def psum {α : Type} (f : α → Nat × Nat) (l : List α) : Nat × Nat :=
  ((l.map (fun p => (f p).1)).sum, (l.map (fun p => (f p).2)).sum)

theorem psum_le {α : Type} (f g : α → Nat × Nat) : ∀ (l : List α), (∀ p ∈ l, LexLe (g p) (f p)) →
    LexLe (psum g l) (psum f l) := by
  intro l
  induction l with
  | nil => intro _; right; exact ⟨rfl, Nat.le_refl _⟩
  | cons q rest ih =>
    intro h
    have hq := h q List.mem_cons_self
    have hr := ih (fun p hp => h p (List.mem_cons_of_mem _ hp))
    unfold psum LexLe at *
    simp only [List.map_cons, List.sum_cons] at *
    omega

theorem psum_lt {α : Type} (f g : α → Nat × Nat) : ∀ (l : List α), (∀ p ∈ l, LexLe (g p) (f p)) →
    (∃ p ∈ l, LexLt (g p) (f p)) → LexLt (psum g l) (psum f l) := by
  intro l
  induction l with
  | nil => intro _ ⟨p, hp, _⟩; simp at hp
  | cons q rest ih =>
    intro h ⟨p, hp, hlt⟩
    have hq := h q List.mem_cons_self
    have hrest := fun p hp => h p (List.mem_cons_of_mem _ hp)
    have hr := psum_le f g rest hrest
    rcases List.mem_cons.1 hp with e | e
    · subst e
      unfold psum LexLe LexLt at *
      simp only [List.map_cons, List.sum_cons] at *
      omega
    · have hs := ih hrest ⟨p, e, hlt⟩
      unfold psum LexLe LexLt at *
      simp only [List.map_cons, List.sum_cons] at *
      omega

theorem sum_filterMap {α β : Type} (φ : α → Option β) (h : β → Nat) : ∀ l : List α,
    ((l.filterMap φ).map h).sum = (l.map (fun p => match φ p with | some q => h q | none => 0)).sum := by
  intro l
  induction l with
  | nil => rfl
  | cons p rest ih =>
    simp only [List.filterMap_cons, List.map_cons, List.sum_cons]
    cases hp : φ p with
    | none => simp only [ih]; omega
    | some q => simp only [List.map_cons, List.sum_cons, ih]

variable {V : Type} [GoodVal V] {L : Lattice V} {mem : Int → V → Prop}

/-- what the chain condition needs of the scalar widening `w` and a scalar measure `μ`: on stored
    values the measure never increases, and it decreases (or the result is top, which is not
    stored) when the right argument is not below the left one -/
structure WidenMeasure (L : Lattice V) (w : V → V → V) (μ : V → Nat × Nat) : Prop where
  le : ∀ a b, Stored L a → Stored L b → LexLe (μ (w a b)) (μ a)
  lt : ∀ a b, Stored L a → Stored L b → L.leq b a = false →
    L.isTop (w a b) = true ∨ LexLt (μ (w a b)) (μ a)

namespace Env

def contrib (μ : V → Nat × Nat) (p : Nat × V) : Nat × Nat := (1 + (μ p.2).1, (μ p.2).2)

def wmeas (μ : V → Nat × Nat) (e : Env V) : Nat × (Nat × Nat) :=
  (if e.isBot then 1 else 0, psum (contrib μ) e.tree.toList)

theorem toList_pairwise {P : V → Prop} {t : Tree V} (h : WF P t) :
    t.toList.Pairwise (fun a b => a.1 < b.1) := by
  have := h.keys_sorted
  unfold Tree.keys at this
  exact List.pairwise_map.mp this

theorem nodup_of_pairwise_key {l : List (Nat × V)} (h : l.Pairwise (fun a b => a.1 < b.1)) : l.Nodup := by
  unfold List.Nodup
  exact h.imp (fun {a b} hab e => by rw [e] at hab; exact Nat.lt_irrefl _ hab)

/-- the image of a binding of the left argument in the result of an upper-bound operation -/
def upperImg (L : Lattice V) (w : V → V → V) (y : Env V) (p : Nat × V) : Option (Nat × V) :=
  match y.tree.lookup p.1 with
  | some b => if L.isTop (w p.2 b) then none else some (p.1, w p.2 b)
  | none => none

theorem upperImg_eq_some {w : V → V → V} {y : Env V} {k : Nat} {a : V} {q : Nat × V} :
    upperImg L w y (k, a) = some q ↔
      ∃ b, y.tree.lookup k = some b ∧ L.isTop (w a b) = false ∧ q = (k, w a b) := by
  unfold upperImg
  cases y.tree.lookup k with
  | none => simp
  | some b =>
    by_cases ht : L.isTop (w a b) = true
    · simp [ht]
    · simp only [ht, Bool.false_eq_true, if_false, Option.some.injEq]
      constructor
      · rintro rfl; exact ⟨b, rfl, by simpa using ht, rfl⟩
      · rintro ⟨b', hb, _, rfl⟩; cases hb; rfl

/-- the bindings of `x ∇ y` are the images of the bindings of `x`, up to a permutation -/
theorem upper_toList_perm (hL : Laws L mem) {w : V → V → V} (hf : UpperLaws L mem w) {x y : Env V}
    (hx : Inv L x) (hy : Inv L y) (nx : x.isBot = false) (ny : y.isBot = false) :
    (SepDom.upper (ctxOf L) L w x y).tree.toList.Perm (x.tree.toList.filterMap (upperImg L w y)) := by
  obtain ⟨hR, _, hl⟩ := upper_spec (L := L) (f := w) (ctx_sound hL)
    hf.pres hf.idem hL.vals.not_top hx hy nx ny
  rw [List.perm_ext_iff_of_nodup (nodup_of_pairwise_key (toList_pairwise hR.1))]
  · rintro ⟨k, v⟩
    rw [mem_toList_iff_lookup hR.1, hl k, List.mem_filterMap]
    constructor
    · intro h
      cases l1 : x.tree.lookup k with
      | none => rw [l1] at h; simp at h
      | some a =>
        cases l2 : y.tree.lookup k with
        | none => rw [l1, l2] at h; simp at h
        | some b =>
          rw [l1, l2] at h
          simp only at h
          refine ⟨(k, a), (mem_toList_iff_lookup hx.1).mpr l1, upperImg_eq_some.mpr ⟨b, l2, ?_⟩⟩
          split at h
          · cases h
          · rename_i ht
            simp only [Option.some.injEq] at h
            exact ⟨by simpa using ht, by rw [h]⟩
    · rintro ⟨⟨k', a⟩, hp, himg⟩
      obtain ⟨b, l2, ht, e⟩ := upperImg_eq_some.mp himg
      cases e
      rw [(mem_toList_iff_lookup hx.1).mp hp, l2]
      simp [ht]
  · apply nodup_of_pairwise_key
    apply List.Pairwise.filterMap _ _ (toList_pairwise hx.1)
    rintro ⟨k, a⟩ ⟨k', a'⟩ hlt b hb b' hb'
    obtain ⟨_, _, _, rfl⟩ := upperImg_eq_some.mp hb
    obtain ⟨_, _, _, rfl⟩ := upperImg_eq_some.mp hb'
    exact hlt

theorem upper_wmeas_lt (hL : Laws L mem) {w : V → V → V} (hf : UpperLaws L mem w) {μ : V → Nat × Nat}
    (hm : WidenMeasure L w μ) {x y : Env V} (hx : Inv L x) (hy : Inv L y) (h : leq L y x = false) :
    Prod.Lex (· < ·) (Prod.Lex (· < ·) (· < ·)) (wmeas μ (SepDom.upper (ctxOf L) L w x y)) (wmeas μ x) := by
  cases ny : y.isBot with
  | true => rw [leq_of_bot ny] at h; cases h
  | false =>
    cases nx : x.isBot with
    | true =>
      have e0 : SepDom.upper (ctxOf L) L w x y = y := by unfold SepDom.upper; simp [nx]
      rw [e0]
      unfold wmeas
      rw [nx, ny]
      exact Prod.Lex.left _ _ (by decide)
    | false =>
      obtain ⟨_, hRb, _⟩ := upper_spec (L := L) (f := w) (ctx_sound hL)
        hf.pres hf.idem hL.vals.not_top hx hy nx ny
      have hperm := upper_toList_perm hL hf hx hy nx ny
      -- the sums over the result, as sums over the bindings of `x`
      let g : Nat × V → Nat × Nat := fun p => match upperImg L w y p with
        | some q => contrib μ q
        | none => (0, 0)
      have hsum : psum (contrib μ) (SepDom.upper (ctxOf L) L w x y).tree.toList = psum g x.tree.toList := by
        unfold psum
        rw [(hperm.map _).sum_nat, (hperm.map _).sum_nat, sum_filterMap, sum_filterMap]
        congr 1
        · congr 1; apply List.map_congr_left; intro p _; simp only [g]; cases upperImg L w y p <;> rfl
        · congr 1; apply List.map_congr_left; intro p _; simp only [g]; cases upperImg L w y p <;> rfl
      unfold wmeas
      rw [hRb, nx, hsum]
      apply Prod.Lex.right
      apply LexLt.toLex
      -- pointwise comparison
      have hle : ∀ p ∈ x.tree.toList, LexLe (g p) (contrib μ p) := by
        intro p hp
        obtain ⟨k, a⟩ := p
        have l1 := (mem_toList_iff_lookup hx.1).mp hp
        have sa := hx.1.val_of_lookup l1
        simp only [g, upperImg]
        cases l2 : y.tree.lookup k with
        | none => simp only [contrib, LexLe]; omega
        | some b =>
          simp only
          by_cases ht : L.isTop (w a b) = true
          · simp only [ht, if_true, contrib, LexLe]; omega
          · have := hm.le a b sa (hy.1.val_of_lookup l2)
            simp only [ht, Bool.false_eq_true, if_false, contrib, LexLe] at this ⊢; omega
      apply psum_lt _ _ _ hle
      -- a key where `y` is not below `x`
      have hnp : ¬ PwLe (domainPO L) true y.tree x.tree := by
        intro hp
        have := (leq_spec (ctx_sound hL) (fun v hv => hL.leq_refl v hv) hy hx ny nx).mpr hp
        rw [leq_eq] at h; rw [this] at h; cases h
      unfold PwLe at hnp
      obtain ⟨k, hk⟩ := Classical.not_forall.mp hnp
      cases l1 : x.tree.lookup k with
      | none =>
        exfalso; apply hk
        rw [l1]; cases y.tree.lookup k <;> simp [rel, leO, domainPO]
      | some a =>
        have sa := hx.1.val_of_lookup l1
        refine ⟨(k, a), (mem_toList_iff_lookup hx.1).mpr l1, ?_⟩
        simp only [g, upperImg]
        cases l2 : y.tree.lookup k with
        | none => simp only [contrib, LexLt]; omega
        | some b =>
          simp only
          have hba : L.leq b a = false := by
            rw [l1, l2] at hk
            simpa [rel, leO, domainPO] using hk
          rcases hm.lt a b sa (hy.1.val_of_lookup l2) hba with ht | hlt
          · simp only [ht, if_true, contrib, LexLt]; omega
          · by_cases ht : L.isTop (w a b) = true
            · simp only [ht, if_true, contrib, LexLt]; omega
            · simp only [ht, Bool.false_eq_true, if_false, contrib, LexLt] at hlt ⊢; omega

end Env
end XDom
end Crab
