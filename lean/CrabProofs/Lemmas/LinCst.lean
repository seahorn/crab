import CrabModel.Lin.Cst
import CrabProofs.Lemmas.LinExpr

/-! Lemmas on the model of `ikos::linear_constraint`: negation is the exact complement over the
    integers, the tautology / contradiction tests, strict-to-non-strict, renaming, `equal`. -/
namespace Crab.Lin.Cst
open Crab.Lin.Expr

theorem eval_of_isConstant {e : Expr} (h : e.isConstant = true) (σ : Var → Int) :
    e.eval σ = e.cst := by
  cases e with | mk t c =>
  have : t = [] := by simpa [isConstant] using h
  subst this
  simp [eval, evalTerms]

/-- a yes of `is_tautology()` : the constraint holds under every valuation -/
theorem sat_of_isTautology {c : Cst} (h : c.isTautology = true) (σ : Var → Int) : c.sat σ := by
  obtain ⟨e, k⟩ := c
  cases k <;> simp only [isTautology, Bool.and_eq_true] at h <;>
    simp only [sat, eval_of_isConstant h.1]
  · have := h.2; simp [Expr.constant] at this; omega
  · have := h.2; simp [Expr.constant] at this; omega
  · exact of_decide_eq_true h.2
  · exact of_decide_eq_true h.2

/-- a yes of `is_contradiction()` : the constraint fails under every valuation -/
theorem not_sat_of_isContradiction {c : Cst} (h : c.isContradiction = true) (σ : Var → Int) :
    ¬ c.sat σ := by
  obtain ⟨e, k⟩ := c
  cases k <;> simp only [isContradiction, Bool.and_eq_true] at h <;>
    simp only [sat, eval_of_isConstant h.1]
  · have := h.2; simp [Expr.constant] at this; omega
  · have := h.2; simp [Expr.constant] at this; omega
  · have := h.2; simp [Expr.constant] at this; omega
  · have := h.2; simp [Expr.constant] at this; omega

/-- on a constant constraint the two tests are exact -/
theorem isTautology_iff_of_constant {c : Cst} (hc : c.expr.isConstant = true) :
    c.isTautology = true ↔ ∀ σ, c.sat σ := by
  constructor
  · exact fun h σ => sat_of_isTautology h σ
  · intro h
    have h0 := h (fun _ => 0)
    obtain ⟨e, k⟩ := c
    simp only at hc
    cases k <;> simp only [sat, eval_of_isConstant hc] at h0 <;>
      simp [isTautology, hc, Expr.constant, h0]

theorem isContradiction_iff_of_constant {c : Cst} (hc : c.expr.isConstant = true) :
    c.isContradiction = true ↔ ∀ σ, ¬ c.sat σ := by
  constructor
  · exact fun h σ => not_sat_of_isContradiction h σ
  · intro h
    have h0 := h (fun _ => 0)
    obtain ⟨e, k⟩ := c
    simp only at hc
    cases k <;> simp only [sat, eval_of_isConstant hc] at h0 <;>
      simp only [isContradiction, hc, Expr.constant, Bool.true_and]
    · simpa using h0
    · simpa using h0
    · simp; omega
    · simp; omega

/-- on a constraint whose map is not empty both tests answer no -/
theorem tests_false_of_not_constant {c : Cst} (hc : c.expr.isConstant = false) :
    c.isTautology = false ∧ c.isContradiction = false := by
  obtain ⟨e, k⟩ := c
  simp only at hc
  cases k <;> simp [isTautology, isContradiction, hc]

theorem sat_getTrue (σ : Var → Int) : getTrue.sat σ := by simp [getTrue, sat]
theorem not_sat_getFalse (σ : Var → Int) : ¬ getFalse.sat σ := by simp [getFalse, sat]

/-- `negate()` (with either inequality case) is the complement, provided the inequality case is -/
theorem sat_negateWith {f : Cst → Cst}
    (hf : ∀ (c : Cst) (σ : Var → Int), c.kind = .leq → ((f c).sat σ ↔ ¬ c.sat σ))
    (c : Cst) (σ : Var → Int) : (negateWith f c).sat σ ↔ ¬ c.sat σ := by
  unfold negateWith
  split
  · next h =>
    constructor
    · intro h'; exact absurd h' (not_sat_getFalse σ)
    · intro h'; exact absurd (sat_of_isTautology h σ) h'
  · split
    · next h =>
      constructor
      · intro _; exact not_sat_of_isContradiction h σ
      · intro _; exact sat_getTrue σ
    · obtain ⟨e, k⟩ := c
      cases k
      · simp [sat]
      · simp [sat]
      · exact hf _ σ rfl
      · simp only [sat, eval_neg]; omega

theorem sat_negateInequalityZ (c : Cst) (σ : Var → Int) (h : c.kind = .leq) :
    (negateInequalityZ c).sat σ ↔ ¬ c.sat σ := by
  obtain ⟨e, k⟩ := c
  simp only at h
  subst h
  simp only [negateInequalityZ, sat, eval_neg, eval_subNum]; omega

theorem sat_negateInequalityGeneric (c : Cst) (σ : Var → Int) (h : c.kind = .leq) :
    (negateInequalityGeneric c).sat σ ↔ ¬ c.sat σ := by
  obtain ⟨e, k⟩ := c
  simp only at h
  subst h
  simp only [negateInequalityGeneric, sat, eval_neg]; omega

theorem sat_negate (c : Cst) (σ : Var → Int) : (negate c).sat σ ↔ ¬ c.sat σ :=
  sat_negateWith sat_negateInequalityZ c σ

theorem canonical_negate {c : Cst} (h : c.expr.Canonical) : c.negate.expr.Canonical := by
  unfold negate negateWith
  split
  · exact canonical_const 0
  · split
    · exact canonical_const 0
    · obtain ⟨e, k⟩ := c
      cases k
      · exact h
      · exact h
      · exact canonical_neg (canonical_subNum 1 h).1
      · exact canonical_neg h.1

theorem sat_negateGeneric (c : Cst) (σ : Var → Int) : (negateGeneric c).sat σ ↔ ¬ c.sat σ :=
  sat_negateWith sat_negateInequalityGeneric c σ

theorem strictToNonStrict_iff (c r : Cst) : c.strictToNonStrict? = some r ↔
    (c.kind = .lt ∧ r = ⟨c.expr.addNum 1, .leq⟩) := by
  obtain ⟨e, k⟩ := c
  cases k <;> simp [strictToNonStrict?, eq_comm]

theorem sat_strictToNonStrict {c r : Cst} (h : c.strictToNonStrict? = some r) (σ : Var → Int) :
    r.sat σ ↔ c.sat σ := by
  obtain ⟨hk, hr⟩ := (strictToNonStrict_iff c r).1 h
  obtain ⟨e, k⟩ := c
  simp only at hk
  subst hk hr
  simp only [sat, eval_addNum]; omega

theorem sat_rename {c : Cst} (h : c.expr.Sorted) (m : List (Var × Var)) (σ : Var → Int) :
    (rename c m).sat σ ↔ c.sat (fun v => σ (renVar m v)) := by
  obtain ⟨e, k⟩ := c
  cases k <;> simp only [rename, sat, eval_rename h]

theorem equal_iff (c o : Cst) : c.equal o = true ↔ c = o := by
  obtain ⟨e1, k1⟩ := c
  obtain ⟨e2, k2⟩ := o
  simp only [equal, Bool.and_eq_true, decide_eq_true_eq, Expr.equal_iff]
  constructor
  · rintro ⟨h1, h2⟩; subst h1 h2; rfl
  · intro h; cases h; exact ⟨rfl, rfl⟩

end Crab.Lin.Cst
