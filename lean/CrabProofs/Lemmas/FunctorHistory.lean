import CrabModel.Dom.Functors.Base

/-!
History soundness.  Every step overwrites one slot of the pool, so what a step owes is a fact about
the new value of that slot (`pool_set_inv`, `pool_set_sound`).  `Step.OkAt` states it at the pool the
step runs on, `history_sound_along` is the induction over the run; the history theorems for laws
quantified over all values are its instances.
-/
namespace Crab
namespace Dom
namespace Fct

variable {A S : Type}

theorem pool_set_inv {I : A → Prop} {p : Pool A} (h : ∀ i, I (p i)) (d : Nat) {v : A} (hv : I v) :
    ∀ i, I (p.set d v i) := by
  intro i; unfold Pool.set; split
  · exact hv
  · exact h i

theorem pool_set_sound {γ : A → S → Prop} {p : Pool A} {c : CPool S} (h : ∀ i s, c i s → γ (p i) s)
    (d : Nat) {v : A} {X : S → Prop} (hv : ∀ s, X s → γ v s) : ∀ i s, c.set d X i s → γ (p.set d v i) s := by
  intro i s; unfold CPool.set Pool.set; split
  · exact hv s
  · exact h i s

/-- What a step owes at the pool `p` it runs on: the new value of its slot has the invariant and
    contains what the collecting semantics puts into the slot.  `Step.Sound` (no invariant),
    `Step.SoundOn` with `Step.Preserves`, and `Step.SoundInv` (the two in one) ask the same of ALL
    values with the invariant instead of the operands `p` holds (`okAt_of_sound`, `okAt_of`). -/
def Step.OkAt (I : A → Prop) (γ : A → S → Prop) (p : Pool A) : Step A S → Prop
  | .trans d t => I (t.f (p d)) ∧ ∀ s s', γ (p d) s → t.r s s' → γ (t.f (p d)) s'
  | .upper _ a b g => I (g (p a) (p b)) ∧ ∀ s, (γ (p a) s ∨ γ (p b) s) → γ (g (p a) (p b)) s
  | .lower _ a b g => I (g (p a) (p b)) ∧ ∀ s, γ (p a) s → γ (p b) s → γ (g (p a) (p b)) s
  | .copy _ _ => True
  | .setBot _ bot => I bot

/-- every step of the run is fine at the pool it meets, given the invariant of that pool -/
def RunOk (I : A → Prop) (γ : A → S → Prop) : Pool A → List (Step A S) → Prop
  | _, [] => True
  | p, st :: rest => ((∀ i, I (p i)) → Step.OkAt I γ p st) ∧ RunOk I γ (st.run p) rest

section along
variable {I : A → Prop} {γ : A → S → Prop}

theorem Step.okAt_sound {p : Pool A} {c : CPool S} {st : Step A S}
    (hs : Step.OkAt I γ p st) (hI : ∀ i, I (p i)) (h : ∀ i s, c i s → γ (p i) s) :
    (∀ i, I (st.run p i)) ∧ ∀ i s, st.coll c i s → γ (st.run p i) s := by
  cases st with
  | trans d t => exact ⟨pool_set_inv hI d hs.1, pool_set_sound h d fun s' ⟨s, h0, hr⟩ => hs.2 s s' (h d s h0) hr⟩
  | upper d a b g => exact ⟨pool_set_inv hI d hs.1, pool_set_sound h d fun s hc => hs.2 s (hc.imp (h a s) (h b s))⟩
  | lower d a b g => exact ⟨pool_set_inv hI d hs.1, pool_set_sound h d fun s hc => hs.2 s (h a s hc.1) (h b s hc.2)⟩
  | copy d s0 => exact ⟨pool_set_inv hI d (hI s0), pool_set_sound h d (h s0)⟩
  | setBot d bot => exact ⟨pool_set_inv hI d hs, pool_set_sound h d fun _ hc => hc.elim⟩

/-- history soundness along the run: invariant and concretisation of every reachable pool -/
theorem history_sound_along (hist : List (Step A S)) {p : Pool A} {c : CPool S}
    (hok : RunOk I γ p hist) (hI : ∀ i, I (p i)) (h : ∀ i s, c i s → γ (p i) s) :
    (∀ i, I (runHist p hist i)) ∧ ∀ i s, collHist c hist i s → γ (runHist p hist i) s := by
  induction hist generalizing p c with
  | nil => exact ⟨hI, h⟩
  | cons st rest ih => exact ih hok.2 (Step.okAt_sound (hok.1 hI) hI h).1 (Step.okAt_sound (hok.1 hI) hI h).2

/-- obligations met at every pool with the invariant are met along every run -/
theorem runOk_of_forall (hist : List (Step A S))
    (h : ∀ st ∈ hist, ∀ p : Pool A, (∀ i, I (p i)) → Step.OkAt I γ p st) (p : Pool A) : RunOk I γ p hist := by
  induction hist generalizing p with
  | nil => trivial
  | cons st rest ih => exact ⟨h st List.mem_cons_self p, ih (fun x hx => h x (List.mem_cons_of_mem _ hx)) _⟩

theorem Step.okAt_of {st : Step A S} (hs : Step.SoundOn I γ st) (hp : Step.Preserves I st) {p : Pool A}
    (hI : ∀ i, I (p i)) : Step.OkAt I γ p st := by
  cases st with
  | trans d t => exact ⟨hp _ (hI d), fun s s' => hs _ s s' (hI d)⟩
  | upper d a b g => exact ⟨hp _ _ (hI a) (hI b), fun s => hs _ _ s (hI a) (hI b)⟩
  | lower d a b g => exact ⟨hp _ _ (hI a) (hI b), fun s => hs _ _ s (hI a) (hI b)⟩
  | copy d s0 => trivial
  | setBot d bot => exact hp

/-- the unrelativised laws of `CrabModel/Dom/History.lean` are the case of the trivial invariant -/
theorem Step.okAt_of_sound {st : Step A S} (hs : st.Sound γ) (p : Pool A) : Step.OkAt (fun _ => True) γ p st := by
  cases st with
  | trans d t => exact ⟨trivial, hs _⟩
  | upper d a b g => exact ⟨trivial, hs _ _⟩
  | lower d a b g => exact ⟨trivial, hs _ _⟩
  | copy d s0 => trivial
  | setBot d bot => trivial

end along

/-- history soundness for steps that are sound on, and preserve, an invariant of the pool -/
theorem history_sound_on (I : A → Prop) (γ : A → S → Prop) (hist : List (Step A S))
    (hs : ∀ st ∈ hist, Step.SoundOn I γ st) (hp : ∀ st ∈ hist, Step.Preserves I st)
    (p : Pool A) (c : CPool S) (hI : ∀ i, I (p i)) (h : ∀ i s, c i s → γ (p i) s) :
    ∀ i s, (collHist c hist) i s → γ ((runHist p hist) i) s :=
  (history_sound_along hist (runOk_of_forall hist (fun st hst _ => Step.okAt_of (hs st hst) (hp st hst)) p) hI h).2

/-- the invariant alone: no law is asked of a concretisation that accepts everything -/
theorem runHist_preserves (I : A → Prop) (hist : List (Step A S)) (hp : ∀ st ∈ hist, Step.Preserves I st)
    (p : Pool A) (h : ∀ i, I (p i)) : ∀ i, I ((runHist p hist) i) :=
  (history_sound_along (γ := fun _ _ => True) (c := fun _ _ => False) hist
    (runOk_of_forall hist
      (fun st hst _ => Step.okAt_of (by cases st <;> simp only [Step.SoundOn, implies_true]) (hp st hst)) p) h
    (fun _ _ hc => hc.elim)).1

end Fct

/-- per-step obligations relative to an invariant `I` of the abstract values (the invariant of
    BOTH operands of a lattice operation is available, which `Step.Sound` cannot express) -/
def Step.SoundInv {A S : Type} (I : A → Prop) (γ : A → S → Prop) : Step A S → Prop
  | .trans _ t => ∀ a, I a → I (t.f a) ∧ ∀ s s', γ a s → t.r s s' → γ (t.f a) s'
  | .upper _ _ _ g => ∀ a b, I a → I b → I (g a b) ∧ ∀ s, (γ a s ∨ γ b s) → γ (g a b) s
  | .lower _ _ _ g => ∀ a b, I a → I b → I (g a b) ∧ ∀ s, γ a s → γ b s → γ (g a b) s
  | .copy _ _ => True
  | .setBot _ bot => I bot

/-- the two obligations of `Step.SoundOn`, `Step.Preserves`, whose history theorems then apply -/
theorem Step.SoundInv.split {A S : Type} {I : A → Prop} {γ : A → S → Prop} {st : Step A S}
    (h : st.SoundInv I γ) : Fct.Step.Preserves I st ∧ Fct.Step.SoundOn I γ st := by
  cases st with
  | trans d t => exact ⟨fun a ha => (h a ha).1, fun a s s' ha => (h a ha).2 s s'⟩
  | upper d a b g => exact ⟨fun x y hx hy => (h x y hx hy).1, fun x y s hx hy => (h x y hx hy).2 s⟩
  | lower d a b g => exact ⟨fun x y hx hy => (h x y hx hy).1, fun x y s hx hy => (h x y hx hy).2 s⟩
  | copy d s0 => exact ⟨trivial, trivial⟩
  | setBot d bot => exact ⟨h, trivial⟩

end Dom
end Crab
