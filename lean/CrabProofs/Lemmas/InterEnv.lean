import CrabModel.Inter.BottomUp
import CrabProofs.Lemmas.InterWire

/-!
  Frames (`Env = Array Int`) of the call-stack semantics against total states (`St`): reads / writes,
  `setMany`, `MatchVals` (read by index), evaluation of expressions under `Ext`; and the transformers of
  `CrabModel/Inter/BottomUp.lean` on the frame concretisation `EnvIn` (every total state extending the
  frame is described): statements, `havocList`, `reuse_summary`.
-/
namespace Crab.Inter

theorem getD_set (σ : Env) (x y : Nat) (v : Int) :
    (σ.setIfInBounds x v).getD y 0 = if y = x ∧ x < σ.size then v else σ.getD y 0 := by
  simp only [Array.getD_eq_getD_getElem?, Array.getElem?_setIfInBounds]
  by_cases h : x = y
  · subst h
    by_cases hx : x < σ.size
    · simp [hx]
    · simp [hx]
  · have : ¬ (y = x) := fun e => h e.symm
    simp [h, this]

theorem getD_set_same (σ : Env) (x : Nat) (v : Int) (hx : x < σ.size) :
    (σ.setIfInBounds x v).getD x 0 = v := by
  rw [getD_set]; simp [hx]

theorem getD_set_other (σ : Env) (x y : Nat) (v : Int) (h : y ≠ x) :
    (σ.setIfInBounds x v).getD y 0 = σ.getD y 0 := by
  rw [getD_set]; simp [h]

/-- the frame as a total state (0 beyond the frame) -/
def toSt (env : Env) : St := fun v => env.getD v 0

theorem Ext_toSt (env : Env) : Ext env (toSt env) := fun _ _ => rfl

theorem setMany_size : ∀ (xs : List Var) (vs : List Int) (σ : Env), (setMany σ xs vs).size = σ.size
  | [], _, σ => by cases ‹List Int› <;> rfl
  | _ :: _, [], σ => rfl
  | x :: xs, v :: vs, σ => by
    simp only [setMany]
    rw [setMany_size xs vs, Array.size_setIfInBounds]

theorem setMany_other : ∀ (xs : List Var) (vs : List Int) (σ : Env) (y : Var), y ∉ xs →
    (setMany σ xs vs).getD y 0 = σ.getD y 0
  | [], _, σ, y, _ => by cases ‹List Int› <;> rfl
  | _ :: _, [], σ, y, _ => rfl
  | x :: xs, v :: vs, σ, y, h => by
    simp only [setMany]
    have hy : y ≠ x := fun e => h (e ▸ List.mem_cons_self ..)
    rw [setMany_other xs vs _ y (fun e => h (List.mem_cons_of_mem _ e)), getD_set_other _ _ _ _ hy]

theorem matchVals_iff {σ : St} {xs : List Var} {vs : List Int} :
    MatchVals xs vs σ ↔ ∀ i, i < xs.length → i < vs.length → σ (xs.getD i 0) = vs.getD i 0 :=
  pairs_iff (fun xs vs => MatchVals xs vs σ) 0 0 (fun vs => by cases vs <;> trivial)
    (fun xs => by cases xs <;> trivial) (fun _ _ _ _ => Iff.rfl) xs vs

theorem MatchVals.congr {xs : List Var} {vs : List Int} {ρ ρ' : St}
    (h : ∀ x, x ∈ xs → ρ' x = ρ x) (hm : MatchVals xs vs ρ) : MatchVals xs vs ρ' :=
  matchVals_iff.mpr fun i h1 h2 => (h _ (getD_mem_list h1)).trans (matchVals_iff.mp hm i h1 h2)

theorem MatchVals.agree {xs : List Var} {vs : List Int} {ρ ρ' : St} (hl : xs.length = vs.length)
    (h1 : MatchVals xs vs ρ) (h2 : MatchVals xs vs ρ') (x : Var) (hx : x ∈ xs) : ρ' x = ρ x := by
  obtain ⟨i, hi, rfl⟩ := mem_getD_index hx
  rw [matchVals_iff.mp h1 i hi (hl ▸ hi), matchVals_iff.mp h2 i hi (hl ▸ hi)]

theorem MatchVals_map (xs : List Var) (ρ : St) : MatchVals xs (xs.map ρ) ρ :=
  matchVals_iff.mpr fun i h1 _ => by simp [List.getD, h1]

theorem AllPairs.of_match_map {ρ σ : St} {g : Var → Int} {xs ys : List Var} (hm : MatchVals xs (ys.map g) ρ)
    (hσ : ∀ y, y ∈ ys → σ y = g y) : AllPairs (fun x y => ρ x = σ y) xs ys :=
  allPairs_iff.mpr fun i h1 h2 => by
    rw [hσ _ (getD_mem_list h2), matchVals_iff.mp hm i h1 (by simpa using h2)]
    simp [List.getD, h2]

theorem AllPairs.of_two_matches {ρ σ : St} {ls os : List Var} {vs : List Int} (hl : ls.length ≤ vs.length)
    (h1 : MatchVals ls vs σ) (h2 : MatchVals os vs ρ) : AllPairs (fun l o => σ l = ρ o) ls os :=
  allPairs_iff.mpr fun i a b => by
    rw [matchVals_iff.mp h1 i a (Nat.lt_of_lt_of_le a hl), matchVals_iff.mp h2 i b (Nat.lt_of_lt_of_le a hl)]

theorem setMany_match : ∀ (xs : List Var) (vs : List Int) (σ : Env), xs.Nodup →
    (∀ x, x ∈ xs → x < σ.size) → MatchVals xs vs (toSt (setMany σ xs vs))
  | [], _, σ, _, _ => by cases ‹List Int› <;> trivial
  | _ :: _, [], σ, _, _ => trivial
  | x :: xs, v :: vs, σ, hnd, hb => by
    have hx : x ∉ xs := (List.nodup_cons.mp hnd).1
    simp only [setMany]
    refine ⟨?_, ?_⟩
    · show (setMany (σ.setIfInBounds x v) xs vs).getD x 0 = v
      rw [setMany_other xs vs _ x hx, getD_set_same _ _ _ (hb x (List.mem_cons_self ..))]
    · apply setMany_match xs vs _ (List.nodup_cons.mp hnd).2
      intro y hy
      rw [Array.size_setIfInBounds]
      exact hb y (List.mem_cons_of_mem _ hy)

theorem MatchVals.of_getD_eq {xs : List Var} {vs : List Int} {e e' : Env}
    (h : ∀ x, x ∈ xs → e'.getD x 0 = e.getD x 0) (hm : MatchVals xs vs (toSt e)) :
    MatchVals xs vs (toSt e') :=
  MatchVals.congr (fun x hx => h x hx) hm

theorem foldl_eval_eq (env : Env) (σ : St) (h : Ext env σ) :
    ∀ (ts : List (Int × Var)) (a : Int), (∀ kv, kv ∈ ts → kv.2 < env.size) →
      ts.foldl (fun a (kv : Int × Var) => a + kv.1 * σ kv.2) a =
      ts.foldl (fun a (kv : Int × Var) => a + kv.1 * env.getD kv.2 0) a
  | [], _, _ => rfl
  | kv :: ts, a, hv => by
    simp only [List.foldl_cons]
    rw [h kv.2 (hv kv (List.mem_cons_self ..))]
    exact foldl_eval_eq env σ h ts _ (fun kv' hk => hv kv' (List.mem_cons_of_mem _ hk))

theorem ILin.evalSt_eq (l : ILin) (env : Env) (σ : St) (h : Ext env σ)
    (hv : ∀ v, v ∈ l.vars → v < env.size) : l.evalSt σ = l.eval env := by
  unfold ILin.evalSt ILin.eval
  apply foldl_eval_eq env σ h
  intro kv hk
  exact hv kv.2 (List.mem_map.mpr ⟨kv, hk, rfl⟩)

theorem ICst.satSt_eq (c : ICst) (env : Env) (σ : St) (h : Ext env σ)
    (hv : ∀ v, v ∈ c.e.vars → v < env.size) : c.satSt σ = c.sat env := by
  unfold ICst.satSt ICst.sat
  rw [ILin.evalSt_eq c.e env σ h hv]
  rfl

/-- `Ext` after a write: the old total state is recovered by resetting the written variable -/
theorem Ext_unset {env : Env} {σ' : St} {x : Var} {v : Int} (hx : x < env.size)
    (h : Ext (env.setIfInBounds x v) σ') :
    Ext env (σ'.upd x (env.getD x 0)) ∧ σ' = (σ'.upd x (env.getD x 0)).upd x v := by
  constructor
  · intro y hy
    by_cases hyx : y = x
    · subst hyx; simp [St.upd]
    · have := h y (by rw [Array.size_setIfInBounds]; exact hy)
      rw [getD_set_other _ _ _ _ hyx] at this
      simp [St.upd, hyx, this]
  · funext y
    by_cases hyx : y = x
    · subst hyx
      have := h y (by rw [Array.size_setIfInBounds]; exact hx)
      rw [getD_set_same _ _ _ hx] at this
      simp [St.upd, this]
    · simp [St.upd, hyx]

theorem nodup_map_add (nv k : Nat) : ((List.range k).map (fun i => nv + i)).Nodup := by
  rw [List.Nodup, List.pairwise_map]
  exact (List.nodup_range (n := k)).imp (fun h e => h (by omega))

theorem mem_map_add {nv k v : Nat} (h : v ∈ (List.range k).map (fun i => nv + i)) : nv ≤ v ∧ v < nv + k := by
  obtain ⟨i, hi, rfl⟩ := List.mem_map.mp h
  have := List.mem_range.mp hi
  omega

theorem foldl_take_succ {α β : Type} (f : β → α → β) (l : List α) (k : Nat) (a : β) (d : α) (h : k < l.length) :
    (l.take (k+1)).foldl f a = f ((l.take k).foldl f a) (l.getD k d) := by
  rw [List.take_add_one, List.foldl_append]
  simp [List.getD, List.getElem?_eq_getElem h]

theorem nodup_rin_rout {D : IDom} (nv : Nat) (s : Summary D) : (s.rin nv ++ s.rout nv).Nodup := by
  rw [List.nodup_append]
  refine ⟨nodup_map_add _ _, nodup_map_add _ _, ?_⟩
  intro a ha b hb
  have h1 := mem_map_add ha
  have h2 := mem_map_add hb
  intro e
  rw [e] at h1
  omega

theorem rin_rout_ge {D : IDom} (nv : Nat) (s : Summary D) {v : Var} (h : v ∈ s.rin nv ++ s.rout nv) : nv ≤ v := by
  rcases List.mem_append.mp h with h | h
  · exact (mem_map_add h).1
  · have := (mem_map_add h).1; omega

/-- summary `s` describes the call with input values `iv` and output values `ov` -/
def SumHolds {D : IDom} (s : Summary D) (iv ov : List Int) : Prop :=
  ∃ ρ0 : St, MatchVals s.ins iv ρ0 ∧ MatchVals s.outs ov ρ0 ∧
    ov.length = s.outs.length ∧ ∀ ρ, (∀ v, v ∈ s.ins ++ s.outs → ρ v = ρ0 v) → D.γ s.sum ρ

/-- the calls described by a summary table (no constraint for a callee without summary) -/
def tableCR {D : IDom} (T : SumTable D) : CallRel :=
  fun h iv ov => ∀ s, T h = some s → SumHolds s iv ov

theorem IArg.evalSt_eq (z : IArg) (env : Env) (σ : St) (h : Ext env σ)
    (hv : ∀ v, z = .var v → v < env.size) : z.evalSt σ = z.eval env := by
  cases z with
  | var v => exact h v (hv v rfl)
  | cst k => rfl

theorem LStep.size {CR : CallRel} {s : IStmt} {e e' : Env} (h : LStep CR s e e') : e'.size = e.size := by
  cases s with
  | assign x l => rw [show e' = _ from h, Array.size_setIfInBounds]
  | bin op x y z => rw [show e' = _ from h, Array.size_setIfInBounds]
  | havoc x => obtain ⟨v, hv⟩ := h; rw [hv, Array.size_setIfInBounds]
  | assume c => rw [h.2]
  | assert i c => rw [h.2]
  | call c l a => obtain ⟨o, _, ho⟩ := h; rw [ho, setMany_size]

theorem LStep.frame {CR : CallRel} {s : IStmt} {e e' : Env} (h : LStep CR s e e') {v : Var} (hv : v ∉ s.defs) :
    e'.getD v 0 = e.getD v 0 := by
  cases s with
  | assign x l => rw [show e' = _ from h]; exact getD_set_other _ _ _ _ (by simpa [IStmt.defs] using hv)
  | bin op x y z => rw [show e' = _ from h]; exact getD_set_other _ _ _ _ (by simpa [IStmt.defs] using hv)
  | havoc x => obtain ⟨w, hw⟩ := h; rw [hw]; exact getD_set_other _ _ _ _ (by simpa [IStmt.defs] using hv)
  | assume c => rw [h.2]
  | assert i c => rw [h.2]
  | call c l a => obtain ⟨o, _, ho⟩ := h; rw [ho]; exact setMany_other _ _ _ _ (by simpa [IStmt.defs] using hv)

theorem EnvIn.stmt (D : IDom) {a : D.A} {env env' : Env} {s : IStmt} (CR : CallRel)
    (h : EnvIn D.toAbsDom a env) (hv : ∀ v, v ∈ s.vars → v < env.size)
    (hnc : ∀ c l r, s ≠ .call c l r) (hs : LStep CR s env env') :
    EnvIn D.toAbsDom (D.stmt a s) env' := by
  intro σ' hext
  cases s with
  | assign x e =>
    have hx : x < env.size := hv x (by simp [IStmt.vars])
    have he : env' = env.setIfInBounds x (e.eval env) := hs
    subst he
    obtain ⟨hσ, heq⟩ := Ext_unset hx hext
    apply D.stmt_sound (.assign x e) (h _ hσ)
    show σ' = _
    rw [ILin.evalSt_eq e env _ hσ (fun v hvm => hv v (by simp [IStmt.vars, hvm]))]
    exact heq
  | bin op x y z =>
    have hx : x < env.size := hv x (by simp [IStmt.vars])
    have hy : y < env.size := hv y (by simp [IStmt.vars])
    have he : env' = env.setIfInBounds x (op.eval (env.getD y 0) (z.eval env)) := hs
    subst he
    obtain ⟨hσ, heq⟩ := Ext_unset hx hext
    apply D.stmt_sound (.bin op x y z) (h _ hσ)
    show σ' = _
    rw [IArg.evalSt_eq z env _ hσ (fun v hz => hv v (by simp [IStmt.vars, hz])), hσ y hy]
    exact heq
  | havoc x =>
    have hx : x < env.size := hv x (by simp [IStmt.vars])
    obtain ⟨v, he⟩ := hs
    subst he
    obtain ⟨hσ, heq⟩ := Ext_unset hx hext
    exact D.stmt_sound (.havoc x) (h _ hσ) ⟨v, heq⟩
  | assume c =>
    obtain ⟨hsat, he⟩ := hs
    subst he
    refine D.stmt_sound (.assume c) (h _ hext) ⟨?_, rfl⟩
    rw [ICst.satSt_eq c env' σ' hext (fun v hvm => hv v (by simp [IStmt.vars, hvm]))]
    exact hsat
  | assert i c =>
    obtain ⟨hsat, he⟩ := hs
    subst he
    refine D.stmt_sound (.assert i c) (h _ hext) ⟨?_, rfl⟩
    rw [ICst.satSt_eq c env' σ' hext (fun v hvm => hv v (by simp [IStmt.vars, hvm]))]
    exact hsat
  | call c l r => exact absurd rfl (hnc c l r)

theorem havocList_sound (D : IDom) : ∀ (lhs : List Var) (a : D.A) (σ σ' : St), D.γ a σ →
    (∀ v, v ∉ lhs → σ' v = σ v) → D.γ (havocList D a lhs) σ'
  | [], a, σ, σ', h, heq => by
    have : σ' = σ := funext (fun v => heq v (by simp))
    rw [this]; exact h
  | x :: xs, a, σ, σ', h, heq => by
    simp only [havocList, List.foldl_cons]
    apply havocList_sound D xs (D.forget a [x]) (σ.upd x (σ' x)) σ'
    · apply D.forget_sound [x] h
      intro v hv
      have : v ≠ x := by simpa using hv
      exact St.upd_other _ _ this
    · intro v hv
      by_cases hvx : v = x
      · subst hvx; rw [St.upd_same]
      · rw [St.upd_other _ _ hvx]
        exact heq v (by simp [hvx, hv])

/-- the state that agrees with the frame `env` on `lhs` and with `σ'` elsewhere -/
def resetOn (lhs : List Var) (env : Env) (σ' : St) : St := fun v => if v ∈ lhs then env.getD v 0 else σ' v

theorem Ext_resetOn {lhs : List Var} {vs : List Int} {env : Env} {σ' : St}
    (h : Ext (setMany env lhs vs) σ') : Ext env (resetOn lhs env σ') := by
  intro v hv
  by_cases hl : v ∈ lhs
  · simp [resetOn, hl]
  · have := h v (by rw [setMany_size]; exact hv)
    rw [setMany_other lhs vs env v hl] at this
    simp [resetOn, hl, this]

/-- the caller's side of a return `lhs := ov`: `σ'` extends the frame after the assignment, `ρ` gives
    the formals the values of the call, `resetOn lhs env σ'` is the caller's state at the call -/
theorem return_pairs {nv : Nat} {env : Env} {lhs args ins outs : List Var} {ov : List Int} {σ' ρ : St}
    (hsz : env.size = nv) (hargs : ∀ v : Nat, v ∈ args → v < nv) (hlhs : ∀ v : Nat, v ∈ lhs → v < nv)
    (hnd : lhs.Nodup) (hlen : lhs.length ≤ ov.length) (hext : Ext (setMany env lhs ov) σ')
    (hmi : MatchVals ins (args.map (fun a => env.getD a 0)) ρ) (hmo : MatchVals outs ov ρ) :
    AllPairs (fun f a => ρ f = resetOn lhs env σ' a) ins args ∧
    AllPairs (fun l o => σ' l = ρ o) lhs outs ∧ ∀ v, v ∉ lhs → σ' v = resetOn lhs env σ' v := by
  refine ⟨AllPairs.of_match_map hmi (fun y hy => Ext_resetOn hext y (by rw [hsz]; exact hargs y hy)),
    AllPairs.of_two_matches hlen ?_ hmo, fun v hv => by simp [resetOn, hv]⟩
  exact (setMany_match lhs ov env hnd (fun x hx => by rw [hsz]; exact hlhs x hx)).congr
    (fun x hx => hext x (by rw [setMany_size, hsz]; exact hlhs x hx))

theorem EnvIn.havoc (D : IDom) {a : D.A} {env : Env} (lhs : List Var) (vs : List Int)
    (h : EnvIn D.toAbsDom a env) : EnvIn D.toAbsDom (havocList D a lhs) (setMany env lhs vs) := by
  intro σ' hext
  apply havocList_sound D lhs a (resetOn lhs env σ') σ' (h _ (Ext_resetOn hext))
  intro v hv
  simp [resetOn, hv]

/-- `reuse_summary` on frames: the caller's frame `env` is described by `caller`, the summary
    describes the call with the argument values of `env` and the outputs `ov`; then the frame
    after `lhs := ov` is described by the result -/
theorem reuse_sound (D : IDom) (hren : D.toAbsDom.RenameSound) (nv : Nat) (s : Summary D)
    (lhs args : List Var) (caller : D.A) (env : Env) (ov : List Int)
    (hsz : env.size = nv)
    (hins : ∀ v : Nat, v ∈ s.ins → v < nv) (houts : ∀ v : Nat, v ∈ s.outs → v < nv)
    (hargs : ∀ v : Nat, v ∈ args → v < nv) (hlhs : ∀ v : Nat, v ∈ lhs → v < nv) (hnd : lhs.Nodup)
    (hla : args.length = s.ins.length) (hll : lhs.length = s.outs.length)
    (hc : EnvIn D.toAbsDom caller env)
    (hs : SumHolds s (args.map (fun a => env.getD a 0)) ov) :
    EnvIn D.toAbsDom (reuseSummary D nv s lhs args caller) (setMany env lhs ov) := by
  intro σ' hext
  obtain ⟨ρ0, hm1, hm2, hlo, hρ⟩ := hs
  have hσext := Ext_resetOn hext
  obtain ⟨hin, hout, hfr⟩ := return_pairs hsz hargs hlhs hnd (by omega) hext hm1 hm2
  have hge : ∀ v, v ∈ s.rin nv ++ s.rout nv → nv ≤ v := fun v hv => rin_rout_ge nv s hv
  unfold reuseSummary
  apply instantiate_sound_univ D.toAbsDom hren s.ins s.outs (s.rin nv) (s.rout nv) lhs args caller s.sum
    (resetOn lhs env σ') ρ0 σ' ?_ ?_ ?_ ?_ ?_ ?_ ?_ ?_ ?_ hin hout hfr
  · simp [Summary.rin]
  · simp [Summary.rout]
  · simp [Summary.rin, hla]
  · simp [Summary.rout, hll]
  · exact nodup_rin_rout nv s
  · exact hnd
  · intro v hv
    have := hge v hv
    refine ⟨fun h => ?_, fun h => ?_, fun h => ?_⟩
    · have := hargs v h; omega
    · have := hlhs v h; omega
    · rcases List.mem_append.mp h with h | h
      · have := hins v h; omega
      · have := houts v h; omega
  · intro σ2 h2
    apply hc
    intro v hv
    have hv' : v ∉ s.rin nv ++ s.rout nv := fun e => by have := hge v e; omega
    rw [h2 v hv', hσext v hv]
  · exact hρ

end Crab.Inter
