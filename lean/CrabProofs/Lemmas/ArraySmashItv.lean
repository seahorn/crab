import CrabModel.Dom.ArraySmashItv
import CrabProofs.Lemmas.ArraySmash
import CrabProofs.Lemmas.IDomInst
import CrabProofs.Lemmas.LinSys

/-!
  The exact model of `array_smashing<interval_domain>` (`Crab.Dom.SmashItv`) as an instance of the
  generic functor model (`Crab.Dom.Smash`):

   * `itvBase`: the interval domain (`IDom.SEnv`, the environments with one binding per variable)
     satisfies every law of `Smash.Base`, through the encoding `enc` of the variables;
   * the lemmas on the size environment `SzMap` (`find` after `remove` / `build`, `keys`).
  The abstraction `absS` of an exact state and the commutation of the operations with it are in
  `ArraySmashItvRefine`.
-/
namespace Crab
namespace Dom
namespace SmashItv
open Crab.Dom.Arr Crab.IDom

/-! ### the encoding of the variables is a bijection -/

def decVar (n : Nat) : Smash.Var :=
  if n % 3 = 0 then .prog (n / 3) else if n % 3 = 1 then .smashed (n / 3) else .copy (n / 3)

theorem dec_enc (v : Smash.Var) : decVar (enc v) = v := by
  cases v with
  | prog n => simp [enc, decVar, Nat.mul_mod_right]
  | smashed a => simp [enc, decVar, Nat.mul_add_div]
  | copy a => simp [enc, decVar, Nat.mul_add_div]

theorem enc_dec (n : Nat) : enc (decVar n) = n := by
  have h : 3 * (n / 3) + n % 3 = n := Nat.div_add_mod n 3
  by_cases h0 : n % 3 = 0
  · rw [decVar, if_pos h0]; rw [h0] at h; exact h
  · by_cases h1 : n % 3 = 1
    · rw [decVar, if_neg h0, if_pos h1]; rw [h1] at h; exact h
    · rw [decVar, if_neg h0, if_neg h1]
      have : n % 3 = 2 := by omega
      rw [this] at h; exact h

theorem enc_inj {v w : Smash.Var} (h : enc v = enc w) : v = w := by
  rw [← dec_enc v, ← dec_enc w, h]

def dec (ρ : Smash.Env) : State := fun n => ρ (decVar n)

theorem dec_at (ρ : Smash.Env) (v : Smash.Var) : dec ρ (enc v) = ρ v := by simp [dec, dec_enc]

theorem dec_set (ρ : Smash.Env) (x : Smash.Var) (v : Int) : dec (ρ.set x v) = upd (dec ρ) (enc x) v := by
  funext n
  simp only [dec, Smash.Env.set, upd]
  by_cases h : n = enc x
  · subst h; simp [dec_enc]
  · have : ¬ decVar n = x := fun h' => h (by rw [← h', enc_dec])
    simp [h, this]

/-! ### expressions -/

theorem eval_mkExpr (l : SLin) (ρ : Smash.Env) : (mkExpr l).eval (dec ρ) = l.eval (Smash.progOf ρ) := by
  unfold mkExpr Smash.Lin.eval
  rw [← List.foldl_hom (fun e : Crab.Lin.Expr => e.eval (dec ρ)) (g₂ := fun a t => a + t.1 * Smash.progOf ρ t.2)
    fun x y => by rw [Crab.Lin.Expr.eval_add, Crab.Lin.Expr.eval_term, dec_at]; rfl]
  simp

theorem mkExpr_canonical (l : SLin) : (mkExpr l).Canonical :=
  List.foldlRecOn l.ts _ (Crab.Lin.Expr.canonical_const _) fun _ h _ _ => Crab.Lin.Expr.canonical_add _ h

/-- the right-hand sides the functor hands to the base domain -/
def encR : Smash.RExpr → Crab.Lin.Expr
  | .lin l => mkExpr l
  | .var v => Crab.Lin.Expr.var (enc v)

theorem eval_encR (e : Smash.RExpr) (ρ : Smash.Env) : (encR e).eval (dec ρ) = e.eval ρ := by
  cases e with
  | lin l => exact eval_mkExpr l ρ
  | var v => simp [encR, Smash.RExpr.eval, dec_at]

/-! ### the interval domain satisfies the laws of `Smash.Base` -/

def itvBase : Smash.Base where
  B := SEnv
  γ := fun b ρ => Env.γ b.1 (dec ρ)
  top := SEnv.top
  assign := fun b x e => ⟨b.1.assign (enc x) (encR e), Env.assign_inv Env.sortedInv _ _ _ b.2⟩
  weakAssign := fun b x e => ⟨b.1.weakAssign (enc x) (encR e), Env.weakAssign_sorted _ _ _ b.2⟩
  expand := fun b x y => ⟨b.1.expand (enc x) (enc y), Env.expand_inv Env.sortedInv _ _ _ b.2⟩
  forget := fun b x => ⟨b.1.forget (enc x), Env.forget_sorted _ _ b.2⟩
  assume := fun b _ => b
  join := SEnv.join
  widen := SEnv.widen
  isBot := fun b => b.1.bottom
  top_sound := fun ρ => Env.γ_top _
  assign_sound := by
    intro b x e ρ h
    have := Env.assign_sound h (enc x) (encR e)
    rw [eval_encR] at this
    show Env.γ _ (dec (ρ.set x (e.eval ρ)))
    rw [dec_set]; exact this
  weakAssign_sound := by
    intro b x e ρ h
    have := Env.weakAssign_sound h (enc x) (encR e)
    rw [eval_encR] at this
    refine ⟨this.1, ?_⟩
    show Env.γ _ (dec (ρ.set x (e.eval ρ)))
    rw [dec_set]; exact this.2
  expand_sound := by
    intro b x y ρ₁ ρ₂ h1 h2 _
    have hm : Itv.mem (ρ₂ x) (b.1.get (enc x)) := by
      have := h2.2 (enc x)
      rwa [dec_at] at this
    have := Env.expand_sound h1 (enc x) (enc y) hm
    show Env.γ _ (dec (ρ₁.set y (ρ₂ x)))
    rw [dec_set]; exact this
  forget_sound := by
    intro b x ρ v h
    show Env.γ _ (dec (ρ.set x v))
    rw [dec_set]; exact Env.forget_sound h (enc x) v
  assume_sound := fun _ _ _ h _ => h
  join_sound_l := fun a b _ h => Env.join_upper_left a.2 b.1 h
  join_sound_r := fun a _ _ h => Env.join_upper_right a.2 h
  widen_sound_l := fun a b _ h => Env.widen_upper_left a.2 b.1 h
  widen_sound_r := fun a _ _ h => Env.widen_upper_right a.2 h
  isBot_sound := fun _ _ h => Env.not_γ_bottom h _

/-! ### the size environment -/

theorem find_remove_same (m : SzMap) (a : Nat) : (m.remove a).find a = none := by
  induction m with
  | nil => rfl
  | cons p rest ih =>
    obtain ⟨k, v⟩ := p
    simp only [SzMap.remove] at ih ⊢
    rw [List.filter_cons]
    by_cases h : k = a
    · simp only [h, bne_self_eq_false, Bool.false_eq_true, if_false]; exact ih
    · have h' : ¬ a = k := fun e => h e.symm
      have hb : (k != a) = true := by simp [h]
      simp only [hb, if_true, SzMap.find, h', if_false]; exact ih

theorem find_remove_ne (m : SzMap) {a b : Nat} (h : b ≠ a) : (m.remove a).find b = m.find b := by
  induction m with
  | nil => rfl
  | cons p rest ih =>
    obtain ⟨k, v⟩ := p
    simp only [SzMap.remove] at ih ⊢
    rw [List.filter_cons]
    by_cases hk : k = a
    · have : ¬ b = k := fun e => h (e.trans hk)
      simp only [hk, bne_self_eq_false, Bool.false_eq_true, if_false, SzMap.find]
      rw [← hk]; simp only [this, if_false]; rw [hk]; exact ih
    · have hb : (k != a) = true := by simp [hk]
      simp only [hb, if_true, SzMap.find]
      by_cases hbk : b = k
      · simp [hbk]
      · simp only [hbk, if_false]; exact ih

theorem mem_keys_iff (m : SzMap) (a : Nat) : a ∈ SzMap.keys m ↔ (m.find a).isSome = true := by
  induction m with
  | nil => simp [SzMap.keys, SzMap.find]
  | cons p rest ih =>
    obtain ⟨k, v⟩ := p
    by_cases h : a = k
    · subst h; simp [SzMap.keys, SzMap.find]
    · have : SzMap.keys ((k, v) :: rest) = k :: SzMap.keys rest := rfl
      rw [this, List.mem_cons]
      simp only [h, false_or, SzMap.find, if_false]
      exact ih

theorem find_build (ks : List Nat) (f : Nat → Option Nat) (a : Nat) :
    (SzMap.build ks f).find a = if a ∈ ks then f a else none := by
  induction ks with
  | nil => rfl
  | cons k rest ih =>
    unfold SzMap.build at ih ⊢
    by_cases h : a = k
    · subst h
      simp only [List.filterMap_cons, List.mem_cons, true_or, if_true]
      cases hf : f a with
      | none =>
        simp only []
        rw [ih]
        split
        · exact hf
        · rfl
      | some v => simp [SzMap.find]
    · simp only [List.filterMap_cons, List.mem_cons, h, false_or]
      cases hf : f k with
      | none => simp only []; exact ih
      | some v => simp only [SzMap.find, h, if_false]; exact ih

end SmashItv
end Dom
end Crab
