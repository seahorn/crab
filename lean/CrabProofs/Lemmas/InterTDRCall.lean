import CrabProofs.Lemmas.InterTDRInv

/-!
  C09, whole top-down analysis — the call / return transformers `restrict` and `extend` on frames
  (`get_callee_entry`, `get_caller_continuation` applied to a stored or fresh post summary);
  `analyze_callee` (`callBody`) keeps the invariant `StOK`, its continuation is sound for the true call
  relation and the frame created by the call is covered.
-/
namespace Crab.Inter
open Crab.Fix (upd)
variable {p : IProg} {D : IDom} {P : TDParams}

/-- a frame of size `nv` that agrees with the total state `σ` -/
def envOfSt (nv : Nat) (σ : St) : Env := (Array.range nv).map σ

theorem envOfSt_size (nv : Nat) (σ : St) : (envOfSt nv σ).size = nv := by simp [envOfSt]

theorem envOfSt_getD (nv : Nat) (σ : St) (v : Nat) (h : v < nv) : (envOfSt nv σ).getD v 0 = σ v := by
  simp [envOfSt, Array.getD_eq_getD_getElem?, h]

theorem Ext_envOfSt (nv : Nat) (σ : St) : Ext (envOfSt nv σ) σ := by
  intro v hv
  rw [envOfSt_size] at hv
  exact (envOfSt_getD nv σ v hv).symm

theorem CallOK.of_bool {ins outs lhs args : List Var} (h : callOKb ins outs lhs args = true) :
    CallOK ins outs lhs args := by
  simp only [callOKb, Bool.and_eq_true, decide_eq_true_eq, List.all_eq_true, List.mem_range,
    Bool.or_eq_true, Bool.not_eq_true', List.contains_eq_mem, decide_eq_false_iff_not, beq_iff_eq] at h
  obtain ⟨⟨⟨⟨⟨h1, h2⟩, h3⟩, h4⟩, h5⟩, h6⟩ := h
  refine ⟨h1, h2, h3, SeqOK.of_bool h4, ?_, ?_⟩
  · exact allPairs_iff.mpr fun j hj _ hm => (h5 j hj).elim (fun h => absurd hm h) id
  · intro f hf hl
    rcases h6 f hf with h | h
    · exact absurd hl h
    · exact h

/-- `get_callee_entry`: the value computed for the callee describes every frame the call creates -/
theorem restrict_entryIn (D : IDom) (h : Nat) (args : List Var) (caller : D.A) (env : Env)
    (hF : FunOK p (p.fn h)) (hseq : SeqOK (p.fn h).ins args) (hlen : (p.fn h).ins.length = args.length)
    (hc : EnvIn D.toAbsDom caller env) :
    EntryIn D p h (restrict D.toAbsDom (p.fn h).ins args caller D.top) (args.map (fun a => env.getD a 0)) := by
  intro env' hsz' hm τ hτ
  exact restrict_sound D.toAbsDom _ args caller D.top (toSt env) τ (hc _ (Ext_toSt env)) (D.top_sound _)
    hF.ins_nodup hseq (Nat.le_of_eq hlen)
    (AllPairs.of_match_map (hm.congr fun x hx => hτ x (by rw [hsz']; exact hF.ins_lt x hx)) (fun _ _ => rfl))

/-- `get_caller_continuation` with a post summary that describes the call -/
theorem extend_envIn (D : IDom) (h : Nat) (lhs args : List Var) (caller post : D.A) (env : Env) (ov : List Int)
    (hF : FunOK p (p.fn h)) (hok : CallOK (p.fn h).ins (p.fn h).outs lhs args) (hsz : env.size = p.nv)
    (hlhs : ∀ v : Nat, v ∈ lhs → v < p.nv) (hargs : ∀ v : Nat, v ∈ args → v < p.nv)
    (hov : ov.length = (p.fn h).outs.length)
    (hc : EnvIn D.toAbsDom caller env)
    (hx : ExitIn D p h post (args.map (fun a => env.getD a 0)) ov) :
    EnvIn D.toAbsDom (extend D.toAbsDom (p.fn h).ins (p.fn h).outs lhs args caller post) (setMany env lhs ov) := by
  intro σ' hext
  let iv := args.map (fun a => env.getD a 0)
  -- a state that gives the formals the values of the call
  let envh : Env := setMany (setMany (envOfSt p.nv σ') (p.fn h).ins iv) (p.fn h).outs ov
  have hsz1 : (setMany (envOfSt p.nv σ') (p.fn h).ins iv).size = p.nv := by
    rw [setMany_size, envOfSt_size]
  have hmo : MatchVals (p.fn h).outs ov (toSt envh) :=
    setMany_match _ _ _ hF.outs_nodup (fun x hx => by rw [hsz1]; exact hF.outs_lt x hx)
  have hmi : MatchVals (p.fn h).ins iv (toSt envh) := by
    have := setMany_match (p.fn h).ins iv (envOfSt p.nv σ') hF.ins_nodup
      (fun x hx => by rw [envOfSt_size]; exact hF.ins_lt x hx)
    refine MatchVals.of_getD_eq ?_ this
    intro x hx
    exact setMany_other _ _ _ _ (hF.disj x hx)
  -- the summary describes the mixed state
  have hρ' : D.γ post (fun v => if v ∈ (p.fn h).ins ++ (p.fn h).outs then toSt envh v else σ' v) := by
    apply hx (envOfSt p.nv _) (envOfSt_size _ _) _ _ _ (Ext_envOfSt _ _)
    · refine MatchVals.congr ?_ hmi
      intro x hx
      show (envOfSt p.nv _).getD x 0 = _
      rw [envOfSt_getD _ _ _ (hF.ins_lt x hx), if_pos (List.mem_append.mpr (Or.inl hx))]
    · refine MatchVals.congr ?_ hmo
      intro x hx
      show (envOfSt p.nv _).getD x 0 = _
      rw [envOfSt_getD _ _ _ (hF.outs_lt x hx), if_pos (List.mem_append.mpr (Or.inr hx))]
  obtain ⟨hin, hout, hfr⟩ := return_pairs hsz hargs hlhs hok.2.2.1 (by rw [hok.2.1, hov]; exact Nat.le_refl _)
    hext hmi hmo
  exact extend_sound D.toAbsDom _ _ lhs args caller post (resetOn lhs env σ') (toSt envh) σ' hok
    (hc _ (Ext_resetOn hext)) hρ' hin hout hfr

theorem trueCR_facts (hP : ProgOK p) (hmain : p.main < p.funs.size) {h : Nat} {iv ov : List Int}
    (ht : TrueCR p h iv ov) : h < p.funs.size ∧ ov.length = (p.fn h).outs.length := by
  obtain ⟨ch, c, hr, hmem⟩ := ht
  obtain ⟨h1, _, hcov⟩ := (inv_reach hP hmain ch c hr).recs _ hmem
  obtain ⟨env, _, hout, _, _⟩ := hcov trivial
  refine ⟨h1, ?_⟩
  have : ov = (p.fn h).outs.map (fun o => env.getD o 0) := hout
  rw [this]; simp

def SiteWireOK (p : IProg) (h : Nat) (lhs args : List Var) : Prop :=
  SeqOK (p.fn h).ins args ∧ CallOK (p.fn h).ins (p.fn h).outs lhs args

theorem isCalled_of_callee {g h : Nat} (hg : g < p.funs.size) (hc : h ∈ (p.fn g).callees) :
    p.isCalled h = true := by
  unfold IProg.isCalled
  rw [List.any_eq_true]
  refine ⟨g, List.mem_range.mpr hg, ?_⟩
  unfold IFun.callsFn
  simpa using hc

/-- only the call stack changes; coverage needs to be kept for called functions only -/
theorem StOK.restack {s : TDSt D} (h : StOK D p P s) (stk : List Nat)
    (hcov : ∀ x env, p.isCalled x = true → Covd D P s x env → Covd D P { s with stack := stk } x env)
    (hnd : stk.Nodup) (hpaths : ∃ k, pathsOK p P.wset k stk = true) :
    StOK D p P { s with stack := stk } :=
  { nofix := h.nofix, ctxs := h.ctxs, runs := h.runs, glob := h.glob,
    cov := fun ρ hρ b x hx k env hh lhs args h1 h2 h3 env' h4 h5 =>
      hcov _ _ (isCalled_of_callee (h.runs ρ hρ).1 (mem_callees h2 h3))
        (h.cov ρ hρ b x hx k env hh lhs args h1 h2 h3 env' h4 h5),
    nodup := hnd, paths := hpaths }

theorem StOK.setCC {s : TDSt D} (h : StOK D p P s) (g : Nat) (l : List (FCtx D.toLat))
    (hl : ∀ c, c ∈ l → CtxOK D p s g c) : StOK D p P { s with cc := upd s.cc g l } :=
  { nofix := h.nofix,
    ctxs := by
      intro x c hc
      by_cases hx : x = g
      · subst hx
        rw [show ({ s with cc := upd s.cc x l } : TDSt D).cc x = l from Fix.Sound.upd_same _ _ _] at hc
        exact hl c hc
      · rw [show ({ s with cc := upd s.cc g l } : TDSt D).cc x = s.cc x from Fix.Sound.upd_other _ _ _ _ hx] at hc
        exact h.ctxs x c hc,
    runs := h.runs, glob := h.glob, cov := h.cov, nodup := h.nodup, paths := h.paths }

theorem pathsOK_head {W : List Nat} {k g : Nat} {stk : List Nat} (h : pathsOK p W k (g :: stk) = true)
    {x : Nat} (hx : x ∈ (p.fn g).callees) :
    ((g :: stk).contains x = true → W.contains x = true) ∧
    ((g :: stk).contains x = false → ∃ k', pathsOK p W k' (x :: g :: stk) = true) := by
  cases k with
  | zero => simp [pathsOK] at h
  | succ k =>
    simp only [pathsOK, List.all_eq_true] at h
    have := h x hx
    constructor
    · intro hc; rw [if_pos hc] at this; exact this
    · intro hc
      rw [if_neg (by rw [hc]; simp)] at this
      exact ⟨k, this⟩

theorem exitIn_top (D : IDom) (p : IProg) (h : Nat) (iv ov : List Int) :
    ExitIn D p h (D.project D.top ((p.fn h).ins ++ (p.fn h).outs)) iv ov :=
  fun _ _ _ _ σ _ => D.project_sound _ (D.top_sound σ) (fun _ _ => rfl)

/-- under `simpleRec` no function is treated as a widening point under fixpoint -/
theorem recW_false (h : P.simpleRec = true) (g : Nat) : (P.recursive && P.wset.contains g) = false := by
  simp only [TDParams.simpleRec, Bool.or_eq_true, Bool.not_eq_true', List.isEmpty_iff] at h
  rcases h with h | h <;> simp [h]

theorem extend_trueCR (hP : ProgOK p) (hmain : p.main < p.funs.size) {g h : Nat} {lhs args : List Var}
    (hS : StmtOK p (p.fn g) (.call h lhs args)) (hW : SiteWireOK p h lhs args) {a post : D.A} {env : Env}
    (hsz : env.size = p.nv) (ha : EnvIn D.toAbsDom a env) {ov : List Int}
    (ht : TrueCR p h (args.map (fun x => env.getD x 0)) ov)
    (hx : ExitIn D p h post (args.map (fun x => env.getD x 0)) ov) :
    EnvIn D.toAbsDom (extend D.toAbsDom (p.fn h).ins (p.fn h).outs lhs args a post) (setMany env lhs ov) :=
  extend_envIn D h lhs args a post env ov (hP h hS.2.2.1) hW.2 hsz (callArgs_lt hS).1 (callArgs_lt hS).2
    (trueCR_facts hP hmain ht).2 ha hx

/-- what `analyze_callee` guarantees about its continuation `r` and final state `s'`, for every frame `env`
    of the caller described by `a`: `r` describes the frame after every return that happens, and the
    frames the call creates are covered in `s'` -/
def CallPost (D : IDom) (p : IProg) (P : TDParams) (h : Nat) (lhs args : List Var) (a r : D.A) (s' : TDSt D) : Prop :=
  ∀ env : Env, env.size = p.nv → EnvIn D.toAbsDom a env →
    (∀ ov, TrueCR p h (args.map (fun x => env.getD x 0)) ov → EnvIn D.toAbsDom r (setMany env lhs ov)) ∧
    SiteCov D p P s' h (args.map (fun x => env.getD x 0))

theorem callMiss_ok (hP : ProgOK p) (hmain : p.main < p.funs.size) (hmode : P.simpleRec = true)
    {rec : AF D} (hrec : AFOK D p P rec) {g h : Nat} {lhs args : List Var} (hg : g < p.funs.size)
    (hS : StmtOK p (p.fn g) (.call h lhs args)) (hW : SiteWireOK p h lhs args) (hcal : h ∈ (p.fn g).callees)
    {a d r : D.A} {rean : Bool} {s s' : TDSt D} (hI : StOK D p P s) (hhd : s.stack.head? = some g)
    (hcall : callMiss D p P rec h lhs args a d rean s = some (r, s'))
    (hd : ∀ env : Env, env.size = p.nv → EnvIn D.toAbsDom a env →
      EntryIn D p h d (args.map (fun x => env.getD x 0)))
    (hWtop : P.wset.contains h = true → ∀ env', EnvIn D.toAbsDom d env') :
    StOK D p P s' ∧ LeSt D s s' ∧ CallPost D p P h lhs args a r s' := by
  obtain ⟨hhlt, _, _, hla⟩ := hS.2.2
  obtain ⟨stk, hstk⟩ : ∃ stk, s.stack = g :: stk := by
    cases hs : s.stack with
    | nil => rw [hs] at hhd; cases hhd
    | cons x stk => rw [hs] at hhd; simp at hhd; exact ⟨stk, by rw [hhd]⟩
  obtain ⟨k, hk⟩ := hI.paths
  rw [hstk] at hk
  have hph := pathsOK_head hk hcal
  unfold callMiss at hcall
  have hfix : s.fix h = none := by rw [hI.nofix]
  simp only [hfix] at hcall
  by_cases hon : s.stack.contains h = true
  · -- 4.b
    simp only [hon, if_true, Option.some.injEq, Prod.mk.injEq] at hcall
    obtain ⟨e1, e2⟩ := hcall
    subst e1; subst e2
    refine ⟨hI, LeSt.refl _, fun env hsz ha => ⟨?_, ?_⟩⟩
    · exact fun ov ht => extend_trueCR hP hmain hS hW hsz ha ht (exitIn_top D p h _ ov)
    · intro env' _ _
      refine Or.inr ⟨hph.1 (by rw [← hstk]; exact hon), ?_⟩
      simpa using hon
  · -- 4.c
    have hon' : s.stack.contains h = false := by simpa using hon
    simp only [hon', Bool.false_eq_true, if_false] at hcall
    split at hcall
    · cases hcall
    · next nn st s2 hr =>
      have hnotin : h ∉ s.stack := by simpa using hon'
      have hI1 : StOK D p P { s with stack := h :: s.stack } := by
        apply hI.restack
        · intro x env _ hc
          rcases hc with hc | ⟨h1, h2⟩
          · exact Or.inl hc
          · exact Or.inr ⟨h1, List.mem_cons_of_mem _ h2⟩
        · exact List.nodup_cons.mpr ⟨hnotin, hI.nodup⟩
        · rw [hstk]; exact hph.2 (by rw [← hstk]; exact hon')
      obtain ⟨hI2, hLe2, hnn, hrun⟩ := hrec h d 0 _ nn st s2 hI1 rfl hhlt hr
      subst hnn
      have hstk2 : s2.stack = h :: s.stack := hLe2.1
      -- the recorded run and its summary
      have hρs := (hI2.runs _ hrun).2
      have hfact := run_fact_valid hP hmain D ⟨h, d, st.pre, st.post⟩ hhlt hρs
      -- pop
      have hI3 : StOK D p P { s2 with stack := s2.stack.tail } := by
        apply hI2.restack
        · intro x env _ hc
          rcases hc with hc | ⟨h1, h2⟩
          · exact Or.inl hc
          · rw [hstk2] at h2
            rcases List.mem_cons.mp h2 with rfl | h2'
            · exact Or.inl ⟨_, hrun, rfl, hWtop h1 env⟩
            · exact Or.inr ⟨h1, by rw [hstk2]; exact h2'⟩
        · rw [hstk2]; exact hI.nodup
        · rw [hstk2, List.tail_cons, hstk]; exact ⟨k, hk⟩
      have hstab : stabilized D P { s2 with stack := s2.stack.tail } h = true := by
        simp [stabilized, hI2.nofix]
      simp only [Bool.true_and, hstab, recW_false hmode h, Bool.false_eq_true, if_true, if_false,
        Option.some.injEq, Prod.mk.injEq] at hcall
      obtain ⟨e1, e2⟩ := hcall
      subst e1; subst e2
      have hLe : LeSt D s (addCtx D P { s2 with stack := s2.stack.tail } h
          ⟨d, D.project (st.post (p.fn h).exit) ((p.fn h).ins ++ (p.fn h).outs), !rean, false⟩) := by
        refine ⟨?_, ?_⟩
        · show s2.stack.tail = s.stack
          rw [hstk2]; rfl
        · exact hLe2.2
      refine ⟨?_, hLe, fun env hsz ha => ⟨?_, ?_⟩⟩
      · unfold addCtx
        apply hI3.setCC
        intro c hc
        rcases policyAddFixed_mem _ _ _ c hc with h1 | h1 | h1
        · exact hI3.ctxs h c h1
        · subst h1
          exact ⟨isCalled_of_callee hg hcal, fun _ => ⟨hfact, _, hrun, rfl, SubG.refl D d⟩⟩
        · exact ⟨isCalled_of_callee hg hcal, fun h2 => by rw [h1] at h2; cases h2⟩
      · exact fun ov ht => extend_trueCR hP hmain hS hW hsz ha ht
          (hfact _ ov ht (by simp [hla]) (trueCR_facts hP hmain ht).2 (hd env hsz ha))
      · intro env' hsz' hm
        exact Or.inl ⟨_, hrun, rfl, hd env hsz ha env' hsz' hm⟩

theorem EntryIn.leq {D : IDom} {h : Nat} {a b : D.A} {iv : List Int} (hle : D.leq a b = true)
    (ha : EntryIn D p h a iv) : EntryIn D p h b iv :=
  fun env hsz hm σ hσ => D.leq_sound hle (ha env hsz hm σ hσ)

theorem callBody_ok (hP : ProgOK p) (hmain : p.main < p.funs.size) (hmode : P.simpleRec = true)
    {rec : AF D} (hrec : AFOK D p P rec) {g h : Nat} {lhs args : List Var} (hg : g < p.funs.size)
    (hS : StmtOK p (p.fn g) (.call h lhs args)) (hW : SiteWireOK p h lhs args) (hcal : h ∈ (p.fn g).callees)
    {a r : D.A} {s s' : TDSt D} (hI : StOK D p P s) (hhd : s.stack.head? = some g)
    (hcall : callBody D p P rec h lhs args a s = some (r, s')) :
    StOK D p P s' ∧ LeSt D s s' ∧ CallPost D p P h lhs args a r s' := by
  obtain ⟨hhlt, _, _, hla⟩ := hS.2.2
  have hFh := hP h hhlt
  unfold callBody at hcall
  simp only at hcall
  -- the value the callee is entered with
  generalize hd0 : (if (P.recursive || !P.wset.contains h) = true
      then restrict D.toAbsDom (p.fn h).ins args a D.top else D.top) = d0 at hcall
  have hentry : ∀ env : Env, env.size = p.nv → EnvIn D.toAbsDom a env →
      EntryIn D p h d0 (args.map (fun x => env.getD x 0)) := by
    intro env hsz ha
    rw [← hd0]
    by_cases hcnd : (P.recursive || !P.wset.contains h) = true
    · rw [if_pos hcnd]
      exact restrict_entryIn D h args a env hFh hW.1 hla.symm ha
    · rw [if_neg hcnd]
      exact fun env' _ _ => envIn_top D env'
  have htop : P.wset.contains h = true → ∀ env', EnvIn D.toAbsDom d0 env' := by
    intro hc env'
    have hm := recW_false hmode h
    rw [hc, Bool.and_true] at hm
    rw [← hd0]; simp only [hm, hc, Bool.not_true, Bool.or_false, Bool.false_eq_true, if_false]
    exact envIn_top D env'
  have hsp := scan_spec D d0 (!(P.recursive && P.wset.contains h) && P.exactReuse) (s.cc h)
  cases hsc : scanCtx D (s.cc h) d0 (!(P.recursive && P.wset.contains h) && P.exactReuse) with
  | hit post =>
    rw [hsc] at hcall
    simp only [Option.some.injEq, Prod.mk.injEq] at hcall
    obtain ⟨e1, e2⟩ := hcall
    subst e1; subst e2
    rw [hsc] at hsp
    obtain ⟨c, hc, hst, hpost, hle⟩ := hsp
    obtain ⟨hfact, ρ, hρ, hρf, hsub⟩ := (hI.ctxs h c hc).2 hst
    refine ⟨hI, LeSt.refl _, fun env hsz ha => ⟨?_, ?_⟩⟩
    · intro ov ht
      apply extend_trueCR hP hmain hS hW hsz ha ht
      rw [← hpost]
      exact hfact _ ov ht (by simp [hla]) (trueCR_facts hP hmain ht).2 ((hentry env hsz ha).leq hle)
    · intro env' hsz' hm
      exact Or.inl ⟨ρ, hρ, hρf, hsub.envIn (((hentry env hsz ha).leq hle) env' hsz' hm)⟩
  | reanalyze en rest =>
    rw [hsc] at hcall
    simp only at hcall
    rw [hsc] at hsp
    obtain ⟨hle, hsubl⟩ := hsp
    have hI1 : StOK D p P { s with cc := upd s.cc h rest } :=
      hI.setCC h rest (fun c hc => hI.ctxs h c (hsubl c hc))
    obtain ⟨k1, k2, k3⟩ := callMiss_ok hP hmain hmode hrec hg hS hW hcal hI1 hhd hcall
      (fun env hsz ha => (hentry env hsz ha).leq hle)
      (fun hc env' σ hσ => D.leq_sound hle (htop hc env' σ hσ))
    exact ⟨k1, ⟨k2.1, k2.2⟩, k3⟩
  | miss =>
    rw [hsc] at hcall
    simp only at hcall
    exact callMiss_ok hP hmain hmode hrec hg hS hW hcal hI hhd hcall hentry htop

end Crab.Inter
