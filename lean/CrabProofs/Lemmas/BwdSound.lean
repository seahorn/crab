import CrabModel.Bwd.BwdTransfer
import CrabModel.Fix.Semantics

/-!
  Lemmas for property C11 (backward analysis): constraints and their negation, the statement
  relations, soundness of the per-statement backward transformer and of `analyze` on a block
  for every domain satisfying `BDomSound`.
-/
namespace Crab
namespace Bwd

theorem Cst.sat_iff (c : Cst) (σ : State) : c.sat σ = true ↔ c.holds σ := by
  unfold Cst.sat Cst.holds
  cases c.k <;> simp

theorem Cst.sat_false_iff (c : Cst) (σ : State) : c.sat σ = false ↔ ¬ c.holds σ := by
  rw [← Cst.sat_iff]; cases c.sat σ <;> simp

theorem evalTerms_neg (ts : List (Int × Var)) (σ : State) :
    evalTerms (ts.map (fun t => (-t.1, t.2))) σ = - evalTerms ts σ := by
  induction ts with
  | nil => simp [evalTerms]
  | cons t ts ih =>
    obtain ⟨k, v⟩ := t
    simp only [List.map, evalTerms, ih]
    rw [Int.neg_mul, Int.neg_add]

theorem Lin.neg_eval (e : Lin) (σ : State) : e.neg.eval σ = - e.eval σ := by
  simp only [Lin.neg, Lin.eval, evalTerms_neg]
  omega

theorem Cst.negate_holds (c : Cst) (σ : State) : c.negate.holds σ ↔ ¬ c.holds σ := by
  obtain ⟨k, e⟩ := c
  cases k
  · -- le
    have h := Lin.neg_eval e σ
    simp only [Cst.negate, Cst.holds, Lin.eval, Lin.neg] at *
    omega
  · have h := Lin.neg_eval e σ
    simp only [Cst.negate, Cst.holds] at *
    omega
  · simp [Cst.negate, Cst.holds]
  · simp [Cst.negate, Cst.holds]

theorem stmtStep_assign {x : Var} {e : Lin} {σ σ' : State} :
    StmtStep (.assign x e) σ σ' ↔ σ' = upd σ x (e.eval σ) := by
  constructor
  · rintro ⟨h, hh⟩; simp only [stepStmt, Outcome.next.injEq] at hh; exact hh.symm
  · intro h; exact ⟨0, by simp [stepStmt, h]⟩

theorem stmtStep_bin {op : BinOp} {x y : Var} {z : Operand} {σ σ' : State} :
    StmtStep (.bin op x y z) σ σ' ↔ ∃ v, binSem op (σ y) (z.eval σ) = some v ∧ σ' = upd σ x v := by
  constructor
  · rintro ⟨h, hh⟩
    simp only [stepStmt] at hh
    cases hb : binSem op (σ y) (z.eval σ) with
    | none => rw [hb] at hh; cases hh
    | some v =>
      rw [hb] at hh
      simp only [Outcome.next.injEq] at hh
      exact ⟨v, rfl, hh.symm⟩
  · rintro ⟨v, hv, h⟩
    exact ⟨0, by simp [stepStmt, hv, h]⟩

theorem stmtStep_havoc {x : Var} {σ σ' : State} :
    StmtStep (.havoc x) σ σ' ↔ ∃ v, σ' = upd σ x v := by
  constructor
  · rintro ⟨h, hh⟩; simp only [stepStmt, Outcome.next.injEq] at hh; exact ⟨h, hh.symm⟩
  · rintro ⟨v, h⟩; exact ⟨v, by simp [stepStmt, h]⟩

/-- a guarded statement (`assume`, `assert`) has a successor exactly when the guard holds, and it
    is the state itself -/
theorem guard_next {c : Cst} {σ σ' : State} {r : Outcome} (hr : ∀ τ, r ≠ .next τ) :
    (if c.sat σ then Outcome.next σ else r) = .next σ' ↔ c.holds σ ∧ σ' = σ := by
  cases hs : c.sat σ with
  | false =>
    rw [if_neg (by simp)]
    exact ⟨fun h => absurd h (hr σ'), fun h => absurd ((Cst.sat_iff c σ).2 h.1) (by simp [hs])⟩
  | true =>
    rw [if_pos rfl]
    exact ⟨fun h => ⟨(Cst.sat_iff c σ).1 hs, (Outcome.next.inj h).symm⟩, fun h => by rw [h.2]⟩

theorem stmtStep_assume {c : Cst} {σ σ' : State} :
    StmtStep (.assume c) σ σ' ↔ c.holds σ ∧ σ' = σ :=
  ⟨fun ⟨_, hh⟩ => (guard_next (r := .stuck) (fun _ h => nomatch h)).1 hh,
   fun h => ⟨0, (guard_next (r := .stuck) (fun _ h => nomatch h)).2 h⟩⟩

theorem stmtStep_assert {c : Cst} {σ σ' : State} :
    StmtStep (.assert c) σ σ' ↔ c.holds σ ∧ σ' = σ :=
  ⟨fun ⟨_, hh⟩ => (guard_next (r := .fail) (fun _ h => nomatch h)).1 hh,
   fun h => ⟨0, (guard_next (r := .fail) (fun _ h => nomatch h)).2 h⟩⟩

theorem stmtStep_select {x : Var} {c : Cst} {e1 e2 : Lin} {σ σ' : State} :
    StmtStep (.select x c e1 e2) σ σ' ↔
      σ' = upd σ x (if c.sat σ then e1.eval σ else e2.eval σ) := by
  constructor
  · rintro ⟨h, hh⟩; simp only [stepStmt, Outcome.next.injEq] at hh; exact hh.symm
  · intro h; exact ⟨0, by simp [stepStmt, h]⟩

/-- only an assert can fail, and it fails exactly when its condition is false -/
theorem stmtFails_iff {s : Stmt} {σ : State} :
    StmtFails s σ ↔ ∃ c, s = .assert c ∧ ¬ c.holds σ := by
  constructor
  · rintro ⟨h, hh⟩
    cases s with
    | assign x e => simp [stepStmt] at hh
    | bin op x y z =>
      simp only [stepStmt] at hh
      cases hb : binSem op (σ y) (z.eval σ) <;> rw [hb] at hh <;> cases hh
    | havoc x => simp [stepStmt] at hh
    | assume c =>
      simp only [stepStmt] at hh
      cases hs : c.sat σ <;> rw [hs] at hh <;> simp at hh
    | assert c =>
      refine ⟨c, rfl, ?_⟩
      simp only [stepStmt] at hh
      cases hs : c.sat σ with
      | true => rw [hs] at hh; simp at hh
      | false => exact (Cst.sat_false_iff c σ).1 hs
    | select x c e1 e2 => simp [stepStmt] at hh
  · rintro ⟨c, rfl, hc⟩
    exact ⟨0, by simp [stepStmt, (Cst.sat_false_iff c σ).2 hc]⟩

theorem stmtsFail_has_assert {ss : List Stmt} {σ : State} (h : StmtsFail ss σ) :
    ∃ s ∈ ss, s.isAssert = true := by
  induction ss generalizing σ with
  | nil => exact h.elim
  | cons s ss ih =>
    rcases h with h | ⟨σ1, _, h⟩
    · obtain ⟨c, rfl, _⟩ := stmtFails_iff.1 h
      exact ⟨_, List.mem_cons_self, rfl⟩
    · obtain ⟨t, ht, ha⟩ := ih h
      exact ⟨t, List.mem_cons_of_mem _ ht, ha⟩

variable {A : Type} {D : BDom A} {γ : A → State → Prop}

theorem BDomSound.not_bottom (hD : BDomSound D γ) {a : A} {σ : State} (h : γ a σ) :
    D.isBottom a = false := by
  cases hb : D.isBottom a with
  | false => rfl
  | true => exact absurd h (hD.isBottom_sound _ σ hb)

/-- forgetting the assigned variable keeps every pre-state of a state of `post` -/
theorem BDomSound.forget_back (hD : BDomSound D γ) {x : Var} {post : A} {σ : State} {v : Int}
    (hpost : γ post (upd σ x v)) : γ (D.forget x post) σ := by
  have h := hD.forget_sound x post _ (σ x) hpost
  rwa [upd_upd, upd_self] at h

/-- `intra_abs_transformer::exec` is sound -/
theorem fwdExec_sound (hD : BDomSound D γ) (s : Stmt) (inv : A) (σ σ' : State)
    (hinv : γ inv σ) (hstep : StmtStep s σ σ') : γ (fwdExec D s inv) σ' := by
  cases s with
  | assign x e =>
    rw [stmtStep_assign.1 hstep]; exact hD.assign_sound x e inv σ hinv
  | bin op x y z =>
    obtain ⟨v, hv, rfl⟩ := stmtStep_bin.1 hstep
    exact hD.apply_sound op x y z inv σ v hinv hv
  | havoc x =>
    obtain ⟨v, rfl⟩ := stmtStep_havoc.1 hstep
    exact hD.forget_sound x inv σ v hinv
  | assume c =>
    obtain ⟨hc, h⟩ := stmtStep_assume.1 hstep
    rw [h]; exact hD.assume_sound c inv σ hinv hc
  | assert c =>
    obtain ⟨hc, h⟩ := stmtStep_assert.1 hstep
    rw [h]; exact hD.assume_sound c inv σ hinv hc
  | select x c e1 e2 =>
    rw [stmtStep_select.1 hstep]; exact hD.select_sound x c e1 e2 inv σ hinv

/-- one statement backwards: a state that satisfies the forward invariant and has a successor
    in `post` is in the computed precondition (both modes) -/
theorem bwdExec_step_sound (hD : BDomSound D γ) (good : Bool) (s : Stmt) (post inv : A)
    (σ σ' : State) (hinv : γ inv σ) (hstep : StmtStep s σ σ') (hpost : γ post σ') :
    γ (bwdExec D good s post inv) σ := by
  cases s with
  | assign x e =>
    rw [stmtStep_assign.1 hstep] at hpost
    exact hD.bwdAssign_sound x e post inv σ hinv hpost
  | bin op x y z =>
    obtain ⟨v, hv, rfl⟩ := stmtStep_bin.1 hstep
    exact hD.bwdApply_sound op x y z post inv σ v hinv hv hpost
  | havoc x =>
    obtain ⟨v, rfl⟩ := stmtStep_havoc.1 hstep
    exact hD.forget_back hpost
  | assume c =>
    obtain ⟨hc, h⟩ := stmtStep_assume.1 hstep
    rw [h] at hpost
    exact hD.assume_sound c post σ hpost hc
  | assert c =>
    obtain ⟨hc, h⟩ := stmtStep_assert.1 hstep
    rw [h] at hpost
    cases good with
    | true => exact hD.assume_sound c post σ hpost hc
    | false => exact hD.join_left _ _ σ hpost
  | select x c e1 e2 =>
    have hσ' := stmtStep_select.1 hstep
    simp only [bwdExec]
    cases hs : c.sat σ with
    | true =>
      have hc : c.holds σ := (Cst.sat_iff c σ).1 hs
      rw [hs] at hσ'
      simp only [if_true] at hσ'
      rw [hσ'] at hpost
      have hthen : γ (D.assume c (D.bwdAssign x e1 post inv)) σ :=
        hD.assume_sound c _ σ (hD.bwdAssign_sound x e1 post inv σ hinv hpost) hc
      rw [hD.not_bottom (hD.assume_sound c inv σ hinv hc)]
      simp only [Bool.false_eq_true, if_false]
      split
      · exact hthen
      · exact hD.join_left _ _ σ hthen
    | false =>
      have hc : ¬ c.holds σ := (Cst.sat_false_iff c σ).1 hs
      have hn : c.negate.holds σ := (Cst.negate_holds c σ).2 hc
      rw [hs] at hσ'
      simp only [Bool.false_eq_true, if_false] at hσ'
      rw [hσ'] at hpost
      have helse : γ (D.assume c.negate (D.bwdAssign x e2 post inv)) σ :=
        hD.assume_sound c.negate _ σ (hD.bwdAssign_sound x e2 post inv σ hinv hpost) hn
      split
      · exact helse
      · rw [hD.not_bottom (hD.assume_sound c.negate inv σ hinv hn)]
        simp only [Bool.false_eq_true, if_false]
        exact hD.join_right _ _ σ helse

/-- one statement backwards, error mode: a state from which the statement fails is in the
    computed precondition whatever `post` is (even bottom) -/
theorem bwdExec_fail_sound (hD : BDomSound D γ) (s : Stmt) (post inv : A) (σ : State)
    (hfail : StmtFails s σ) : γ (bwdExec D false s post inv) σ := by
  obtain ⟨c, rfl, hc⟩ := stmtFails_iff.1 hfail
  have hn : c.negate.holds σ := (Cst.negate_holds c σ).2 hc
  simp only [bwdExec, Bool.false_eq_true, if_false]
  exact hD.join_right _ _ σ (hD.assume_sound c.negate D.top σ (hD.top_sound σ) hn)

/-- `analyze` on a block: states that run through the block into `post` -/
theorem bwdStmts_step_sound (hD : BDomSound D γ) (good : Bool) (ss : List Stmt) (post inv : A)
    (σ σ' : State) (hinv : γ inv σ) (hrun : StmtsStep ss σ σ') (hpost : γ post σ') :
    γ (bwdStmts D good ss post inv) σ := by
  induction ss generalizing σ inv with
  | nil =>
    simp only [StmtsStep] at hrun
    subst hrun
    exact hpost
  | cons s ss ih =>
    obtain ⟨σ1, h1, hrest⟩ := hrun
    have hinv1 : γ (fwdExec D s inv) σ1 := fwdExec_sound hD s inv σ σ1 hinv h1
    have hmid := ih (fwdExec D s inv) σ1 hinv1 hrest
    exact bwdExec_step_sound hD good s _ inv σ σ1 hinv h1 hmid

/-- `analyze` on a block, error mode: states from which an assert of the block fails -/
theorem bwdStmts_fail_sound (hD : BDomSound D γ) (ss : List Stmt) (post inv : A)
    (σ : State) (hinv : γ inv σ) (hfail : StmtsFail ss σ) :
    γ (bwdStmts D false ss post inv) σ := by
  induction ss generalizing σ inv with
  | nil => exact hfail.elim
  | cons s ss ih =>
    rcases hfail with h | ⟨σ1, h1, hrest⟩
    · exact bwdExec_fail_sound hD s _ inv σ h
    · have hinv1 : γ (fwdExec D s inv) σ1 := fwdExec_sound hD s inv σ σ1 hinv h1
      have hmid := ih (fwdExec D s inv) σ1 hinv1 hrest
      exact bwdExec_step_sound hD false s _ inv σ σ1 hinv h1 hmid

/-! ### the executable semantics agrees with the relations

A choice stream accepted by `replay` is an execution in the sense of `CoReach` (so every witness
the driver reports is a member of the set the theorems speak about). -/

theorem runStmtsFrom_done (ss : List Stmt) : ∀ (i : Nat) (σ σ' : State) (cs cs' : List Int),
    runStmtsFrom i ss σ cs = .done σ' cs' → StmtsStep ss σ σ' := by
  induction ss with
  | nil =>
    intro i σ σ' cs cs' h
    simp only [runStmtsFrom, BlockRes.done.injEq] at h
    exact h.1.symm
  | cons s ss ih =>
    intro i σ σ' cs cs' h
    simp only [runStmtsFrom] at h
    split at h
    · rename_i σ1 hstep
      exact ⟨σ1, ⟨_, hstep⟩, ih _ _ _ _ _ h⟩
    · cases h
    · cases h

theorem runStmtsFrom_fail (ss : List Stmt) : ∀ (i : Nat) (σ : State) (cs : List Int) (j : Nat),
    runStmtsFrom i ss σ cs = .fail j → StmtsFail ss σ := by
  induction ss with
  | nil => intro i σ cs j h; simp [runStmtsFrom] at h
  | cons s ss ih =>
    intro i σ cs j h
    simp only [runStmtsFrom] at h
    split at h
    · rename_i σ1 hstep
      exact Or.inr ⟨σ1, ⟨_, hstep⟩, ih _ _ _ _ h⟩
    · cases h
    · rename_i hstep
      exact Or.inl ⟨_, hstep⟩

/-- a replayed witness is a co-reachability derivation -/
theorem replay_coReach (p : Prog) (invOk : Nat → State → Bool) (errAt : Nat → Nat → Bool)
    (fin : State → Bool) (err : Bool) (herr : ∀ n i, errAt n i = true → err = true) :
    ∀ (fuel n : Nat) (σ : State) (cs : List Int), replay p invOk errAt fin fuel n σ cs = true →
      CoReach p (fun n σ => invOk n σ = true) err (fun σ => fin σ = true) n σ := by
  intro fuel
  induction fuel with
  | zero => intro n σ cs h; simp [replay] at h
  | succ fuel ih =>
    intro n σ cs h
    simp only [replay, Bool.and_eq_true] at h
    obtain ⟨hinv, h⟩ := h
    split at h
    · rename_i i hr
      exact CoReach.fail n σ (herr n i h) hinv (runStmtsFrom_fail _ _ _ _ _ hr)
    · cases h
    · rename_i σ' cs' hr
      have hrun := runStmtsFrom_done _ _ _ _ _ _ hr
      simp only [Bool.or_eq_true, Bool.and_eq_true, beq_iff_eq] at h
      rcases h with ⟨hn, hf⟩ | h
      · subst hn; exact CoReach.exit σ σ' hinv hrun hf
      · split at h
        · cases h
        · rename_i k cs''
          split at h
          · rename_i m hm
            have hmem : m ∈ (p.block n).succs := List.mem_of_getElem? hm
            exact CoReach.flow n m σ σ' hinv hmem hrun (ih m σ' cs'' h)
          · cases h

end Bwd
end Crab
