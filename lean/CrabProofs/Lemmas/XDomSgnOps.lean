import CrabProofs.Lemmas.XDomSgnSolve
import CrabProofs.Lemmas.Interval

/-!
  `sign_domain` (model `Crab.SDom`): `solve_constraints` / `+=`; the class as an instance of the
  text it shares with the constant domain (`XDom.Parts`: `assign`, `weak_assign`, `apply`, `select`,
  the casts, `entails`); `at` and `to_linear_constraint_system`; the environments with the invariant
  of `separate_domain`, the lattice operations on them, and the abstract execution of the
  statements of `XDom.Stmt`.
-/
namespace Crab
namespace SDom
open XDom Lin

namespace Env

theorem foldl_preserves {α β : Type} {I : β → Prop} {P : α → Prop} {f : β → α → β}
    (hstep : ∀ b a, P a → I b → I (f b a)) (l : List α) (b : β) (hP : ∀ a ∈ l, P a) (hb : I b) : I (l.foldl f b) :=
  List.foldlRecOn l f hb (fun b hb a ha => hstep b a (hP a ha) hb)

theorem extract_vars {e : Env} {ex : Expr} (hv : VarsLt ex) : ∀ t ∈ e.extract ex, t.1 < 2 ^ 64 := by
  intro t ht
  unfold extract at ht
  rw [List.mem_filterMap] at ht
  obtain ⟨p, hp, hpt⟩ := ht
  simp only at hpt
  split at hpt
  · cases hpt
  · split at hpt
    · simp only [Option.some.injEq] at hpt; subst hpt; exact hv _ hp
    · cases hpt

theorem solveOne_inv {e : Env} (he : e.Inv) {c : Lin.Cst} (hc : CstOk c) : (e.solveOne c).2.Inv := by
  have hx := extract_vars (e := e) hc.2
  have hx' : ∀ (p : Var × Int × Sign → Bool), ∀ t ∈ (e.extract c.expr).filter p, t.1 < 2 ^ 64 :=
    fun p t ht => hx t (List.mem_filter.mp ht).1
  unfold solveOne
  simp only
  cases c.kind <;> simp only
  · exact eqLoop_preserves (I := Inv) (fun e t ht he => set_inv he ht _) _ e hx he
  · exact neqLoop_preserves (I := Inv) (fun e t s ht _ he => set_inv he ht _) _ e hx he
  · exact foldl_preserves (I := Inv) (fun e t ht he => solveIneq_inv he ht _ _) _ _ (hx' _)
      (foldl_preserves (I := Inv) (fun e t ht he => solveIneq_inv he ht _ _) _ e (hx' _) he)
  · exact foldl_preserves (I := Inv) (fun e t ht he => solveStrict_inv he ht _ _) _ _ (hx' _)
      (foldl_preserves (I := Inv) (fun e t ht he => solveStrict_inv he ht _ _) _ e (hx' _) he)

theorem filter_pos {σ : State} {ex : Expr} {xs : List (Var × Int × Sign)} (hf : ∀ t ∈ xs, Fact σ ex t) :
    ∀ t ∈ xs.filter (fun t => !decide (t.2.1 < 0)), Fact σ ex t ∧ 0 < t.2.1 := by
  intro t ht
  obtain ⟨h1, h2⟩ := List.mem_filter.mp ht
  have hF := hf t h1
  refine ⟨hF, ?_⟩
  have hne := hF.1
  simp only [Bool.not_eq_true', decide_eq_false_iff_not] at h2
  omega

theorem filter_neg {σ : State} {ex : Expr} {xs : List (Var × Int × Sign)} (hf : ∀ t ∈ xs, Fact σ ex t) :
    ∀ t ∈ xs.filter (fun t => decide (t.2.1 < 0)), Fact σ ex t ∧ t.2.1 < 0 := by
  intro t ht
  obtain ⟨h1, h2⟩ := List.mem_filter.mp ht
  exact ⟨hf t h1, by simpa using h2⟩

theorem solveOne_sound {e : Env} (he : e.Inv) {σ : State} (hg : e.γ σ) {c : Lin.Cst} (hc : CstOk c)
    (hsat : c.sat σ) : (e.solveOne c).2.γ σ := by
  have hF := extract_facts hg hc.1 hc.2
  have h : e.Inv ∧ e.γ σ := ⟨he, hg⟩
  unfold Lin.Cst.sat at hsat
  unfold solveOne
  simp only
  cases hk : c.kind <;> rw [hk] at hsat <;> simp only at hsat ⊢
  · exact (eqLoop_preserves (I := fun e : Env => e.Inv ∧ e.γ σ) (eq_step hsat) _ e hF h).2
  · exact (neqLoop_preserves (I := fun e : Env => e.Inv ∧ e.γ σ) (neq_step hsat) _ e hF h).2
  · exact (foldl_preserves (I := fun e : Env => e.Inv ∧ e.γ σ) (fun e t hP h =>
        ⟨solveIneq_inv h.1 hP.1.2.1 _ _, solveIneq_sound h.1 h.2 hP.1 hsat (Or.inr ⟨rfl, hP.2⟩)⟩) _ _ (filter_neg hF)
      (foldl_preserves (I := fun e : Env => e.Inv ∧ e.γ σ) (fun e t hP h =>
        ⟨solveIneq_inv h.1 hP.1.2.1 _ _, solveIneq_sound h.1 h.2 hP.1 hsat (Or.inl ⟨rfl, hP.2⟩)⟩) _ e (filter_pos hF) h)).2
  · exact (foldl_preserves (I := fun e : Env => e.Inv ∧ e.γ σ) (fun e t hP h =>
        ⟨solveStrict_inv h.1 hP.1.2.1 _ _, solveStrict_sound h.1 h.2 hP.1 hsat (Or.inr ⟨rfl, hP.2⟩)⟩) _ _ (filter_neg hF)
      (foldl_preserves (I := fun e : Env => e.Inv ∧ e.γ σ) (fun e t hP h =>
        ⟨solveStrict_inv h.1 hP.1.2.1 _ _, solveStrict_sound h.1 h.2 hP.1 hsat (Or.inl ⟨rfl, hP.2⟩)⟩) _ e (filter_pos hF) h)).2

theorem solveLoop_spec : ∀ (csts : List Lin.Cst), (∀ c ∈ csts, CstOk c) → ∀ e : Env, e.Inv →
    (solveLoop csts e).Inv ∧ ∀ σ : State, Sys.sat csts σ → e.γ σ → (solveLoop csts e).γ σ := by
  intro csts
  induction csts with
  | nil => intro _ e he; exact ⟨he, fun _ _ hg => hg⟩
  | cons c rest ih =>
    intro hok e he
    have hc := hok c List.mem_cons_self
    have hrest : ∀ c' ∈ rest, CstOk c' := fun c' h => hok c' (List.mem_cons_of_mem _ h)
    simp only [solveLoop]
    split
    · obtain ⟨i, s⟩ := ih hrest e he
      exact ⟨i, fun σ hs hg => s σ (fun c' h => hs c' (List.mem_cons_of_mem _ h)) hg⟩
    · split
      · rename_i hcon
        refine ⟨inv_bot, fun σ hs _ => ?_⟩
        exact absurd (hs c List.mem_cons_self) (Lin.Cst.not_sat_of_isContradiction hcon σ)
      · have hi := solveOne_inv he hc
        split
        · rename_i e' heq
          rw [heq] at hi
          refine ⟨hi, fun σ hs hg => ?_⟩
          have := solveOne_sound he hg hc (hs c List.mem_cons_self)
          rw [heq] at this; exact this
        · rename_i e' heq
          rw [heq] at hi
          obtain ⟨i, s⟩ := ih hrest e' hi
          refine ⟨i, fun σ hs hg => s σ (fun c' h => hs c' (List.mem_cons_of_mem _ h)) ?_⟩
          have := solveOne_sound he hg hc (hs c List.mem_cons_self)
          rw [heq] at this; exact this

theorem add_inv {e : Env} (he : e.Inv) {csts : Sys} (hok : ∀ c ∈ csts, CstOk c) : (e.add csts).Inv := by
  unfold add
  split
  · exact he
  · exact (solveLoop_spec csts hok e he).1

theorem add_sound {e : Env} (he : e.Inv) {σ : State} (hg : e.γ σ) {csts : Sys} (hok : ∀ c ∈ csts, CstOk c)
    (hsat : Sys.sat csts σ) : (e.add csts).γ σ := by
  unfold add
  simp only [hg.1, Bool.false_eq_true, if_false]
  exact (solveLoop_spec csts hok e he).2 σ hsat hg

end Env

theorem arithEval_sound (op : ArithOp) {yi zi : Sign} {a b c : Int} (ha : Sign.mem a yi)
    (hb : Sign.mem b zi) (hc : op.conc a b = some c) : Sign.mem c (arithEval op yi zi) := by
  cases op <;> simp only [arithEval]
  · exact sop_sound .add ha hb hc
  · exact sop_sound .sub ha hb hc
  · exact sop_sound .mul ha hb hc
  · exact sop_sound .div ha hb hc
  · exact sop_sound .udiv ha hb hc
  · exact sop_sound .srem ha hb hc
  · exact sop_sound .urem ha hb hc

theorem bitEval_sound (op : BitOp) {yi zi : Sign} {a b c : Int} (ha : Sign.mem a yi)
    (hb : Sign.mem b zi) (hc : op.conc a b = some c) : Sign.mem c (bitEval op yi zi) := by
  cases op <;> simp only [BitOp.conc] at hc <;> simp only [bitEval]
  · exact sop_sound .and ha hb hc
  · exact sop_sound .or ha hb hc
  · exact sop_sound .xor ha hb hc
  · split at hc
    · rename_i h0; cases hc
      exact sop_sound .shl ha hb (by simp [SOp.conc, h0.1])
    · cases hc
  · split at hc
    · rename_i h0; cases hc
      exact sop_sound .lshr ha hb (by simp [SOp.conc, h0.1, h0.2.1])
    · cases hc
  · split at hc
    · rename_i h0; cases hc
      exact sop_sound .ashr ha hb (by simp [SOp.conc, h0.1])
    · cases hc

def parts : Parts Sign := ⟨signLattice, Sign.ofInt, arithEval, bitEval, Env.eval, Env.add, Env.assign⟩

/-- each model function is the common text, by unfolding -/
example (e : Env) (x y z : Var) (k : Int) (ex e1 e2 : Expr) (c : Lin.Cst) (aop : ArithOp) (bop : BitOp)
    (zx : Bool) (bw : Nat) :
    e.assign x ex = parts.assignG e x ex ∧ e.weakAssign x ex = parts.weakAssign e x ex ∧
    e.applyVar aop x y z = parts.applyVar e aop x y z ∧ e.applyCst aop x y k = parts.applyCst e aop x y k ∧
    e.applyBitVar bop x y z = parts.applyBitVar e bop x y z ∧
    e.applyBitCst bop x y k = parts.applyBitCst e bop x y k ∧
    e.select x c e1 e2 = parts.select e x c e1 e2 ∧ e.intCast zx bw x y = parts.intCast e zx bw x y ∧
    e.entails c = parts.entails e c :=
  ⟨rfl, rfl, rfl, rfl, rfl, rfl, rfl, rfl, rfl⟩

theorem scalar : parts.Scalar Sign.mem :=
  ⟨fun _ => trivial, C08.sgn_ofInt_sound, Env.eval_sound, arithEval_sound, bitEval_sound⟩

theorem sound : parts.Sound Sign.mem :=
  ⟨signLaws, Env.add_inv, Env.add_sound, Parts.assignG_inv signLaws scalar, Parts.assignG_sound signLaws scalar⟩

namespace Env

theorem assign_sound {e : Env} (he : e.Inv) {σ : State} (hg : e.γ σ) {x : Var} (hx : x < 2 ^ 64) (ex : Expr) :
    (e.assign x ex).γ (upd σ x (ex.eval σ)) := sound.assign_sound he hg hx ex

theorem entails_sound {e : Env} (he : e.Inv) {σ : State} (hg : e.γ σ) {c : Lin.Cst} (hc : CstOk c)
    (h : e.entails c = true) : c.sat σ := Parts.entails_sound sound he hg hc h

theorem atItv_sound {e : Env} {σ : State} (hg : e.γ σ) (x : Var) : Itv.mem (σ x) (e.atItv x) := by
  unfold atItv
  simp only [hg.1, Bool.false_eq_true, if_false]
  cases h : Sign.toInterval (e.get x) with
  | none => exact Itv.mem_top _
  | some i => exact C08.sgn_toInterval_sound _ i _ h (get_mem hg x)

theorem bindingCst_sound (k : Var) (v : Sign) (c : Lin.Cst) (h : bindingCst (k, v) = some c) (σ : State)
    (hm : Sign.mem (σ k) v) : c.sat σ := by
  unfold bindingCst at h
  cases v <;> simp only [Option.some.injEq] at h <;> first | cases h | subst h
  · have := Sign.mem_ltz.mp hm
    simp only [Lin.Cst.sat]; rw [Expr.eval_subNum, Expr.eval_var]; omega
  · have := Sign.mem_gtz.mp hm
    simp only [Lin.Cst.sat]; rw [Expr.eval_addNum]
    simp [Expr.term, Expr.eval, Expr.evalTerms]; omega
  · have := Sign.mem_eqz.mp hm
    simp only [Lin.Cst.sat]; rw [Expr.eval_subNum, Expr.eval_var]; omega
  · have := Sign.mem_gez.mp hm
    simp only [Lin.Cst.sat]; rw [Expr.eval_addNum]
    simp [Expr.term, Expr.eval, Expr.evalTerms]; omega
  · have := Sign.mem_lez.mp hm
    simp only [Lin.Cst.sat]; rw [Expr.eval_subNum, Expr.eval_var]; omega

theorem toCsts_sound {e : Env} (he : e.Inv) {σ : State} (hg : e.γ σ) : Sys.sat e.toCsts σ :=
  XDom.Env.exportCsts_sound bindingCst bindingCst_sound he hg

end Env

def SEnv := { e : Env // e.Inv }

namespace SEnv

def γ (a : SEnv) (σ : State) : Prop := Env.γ a.1 σ
def bot : SEnv := ⟨Env.bot, Env.inv_bot⟩
def top : SEnv := ⟨Env.top, Env.inv_top⟩
def leq (a b : SEnv) : Bool := XDom.Env.leq signLattice a.1 b.1
def join (a b : SEnv) : SEnv := ⟨XDom.Env.join signLattice a.1 b.1, XDom.Env.upper_inv signLaws signLaws.join a.2 b.2⟩
/-- `operator||` and `widening_thresholds` of the sign domain are the join -/
def widen (a b : SEnv) : SEnv := join a b
def meet (a b : SEnv) : SEnv := ⟨XDom.Env.meet signLattice a.1 b.1, XDom.Env.lower_inv signLaws signLaws.meet a.2 b.2⟩
/-- `operator&&` of the sign domain is the meet -/
def narrow (a b : SEnv) : SEnv := meet a b

end SEnv

def exec : Stmt → Env → Env
  | .assign x e, a => a.assign x e
  | .weakAssign x e, a => a.weakAssign x e
  | .arithVar op x y z, a => a.applyVar op x y z
  | .arithCst op x y k, a => a.applyCst op x y k
  | .bitVar op x y z, a => a.applyBitVar op x y z
  | .bitCst op x y k, a => a.applyBitCst op x y k
  | .assume csts, a => a.add csts
  | .select lhs c e1 e2, a => a.select lhs c e1 e2
  | .forget x, a => XDom.Env.forget signLattice a x
  | .havoc vs, a => XDom.Env.forgetAll signLattice a vs
  | .project vs, a => XDom.Env.project signLattice a vs
  | .expand x nx, a => XDom.Env.expand signLattice a x nx
  | .cast z bw d s, a => a.intCast z bw d s

theorem exec_eq (st : Stmt) (a : Env) : exec st a = parts.exec st a := by cases st <;> rfl

theorem exec_inv (st : Stmt) (hok : st.Ok) {a : Env} (h : a.Inv) : (exec st a).Inv :=
  exec_eq st a ▸ Parts.exec_inv sound scalar st hok h

theorem exec_sound (st : Stmt) (hok : st.Ok) {a : Env} (ha : a.Inv) {s s' : State} (hg : a.γ s)
    (hr : st.rel s s') : (exec st a).γ s' := exec_eq st a ▸ Parts.exec_sound sound scalar st hok ha hg hr

def execS (st : Stmt) (hok : st.Ok) (a : SEnv) : SEnv := ⟨exec st a.1, exec_inv st hok a.2⟩

end SDom
end Crab
