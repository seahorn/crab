import CrabProofs.Lemmas.CrawlCtrlCdg

/-!
  `add_control_deps::reach` (the model `Cdg.reaches`, with the fuel of the model) computes a set
  that contains the roots and is closed under the edges of the control-dependence graph; every
  block of the region between a branch `d` and the block where its branches join is reachable in
  a complete graph from the blocks control dependent on `d` (`region_reach`); a complete graph
  passes the decidable test `isCdgOK`, and the test gives back the facts the crawler proof uses
  (`CdgOKp`).
-/
namespace Crab
namespace TIR

/-- the entries whose key has not been visited yet, each with weight `|children| + 1` -/
def cdgW (g : Cdg) (seen : List Label) : Nat :=
  ((g.filter (fun p => !seen.contains p.1)).map (fun p => p.2.length + 1)).sum

theorem cdgW_mono (g : Cdg) (l : Label) (seen : List Label) : cdgW g (l :: seen) ≤ cdgW g seen := by
  unfold cdgW
  induction g with
  | nil => simp
  | cons p r ih =>
    simp only [List.filter_cons]
    by_cases h1 : seen.contains p.1 = true
    · have h2 : (l :: seen).contains p.1 = true := by
        simp only [List.contains_iff_mem] at h1 ⊢
        exact List.mem_cons_of_mem _ h1
      simp only [h1, h2, Bool.not_true, Bool.false_eq_true, if_false]
      exact ih
    · have h1' : seen.contains p.1 = false := by simpa using h1
      simp only [h1', Bool.not_false, if_true, List.map_cons, List.sum_cons]
      split
      · simp only [List.map_cons, List.sum_cons]; omega
      · omega

theorem cdgW_cons (g : Cdg) (l : Label) (seen : List Label) (hl : l ∉ seen) :
    cdgW g (l :: seen) + (g.kids l).length ≤ cdgW g seen := by
  induction g with
  | nil => simp [cdgW, Cdg.kids]
  | cons p r ih =>
    obtain ⟨k, K⟩ := p
    by_cases hk : l = k
    · subst hk
      have h1 : seen.contains l = false := by simpa using hl
      have h2 : (l :: seen).contains l = true := by simp
      have hm := cdgW_mono r l seen
      unfold cdgW at hm ⊢
      simp only [Cdg.kids, List.lookup_cons, beq_self_eq_true, Option.getD_some, List.filter_cons, h1, h2,
        Bool.not_true, Bool.false_eq_true, if_false, Bool.not_false, if_true, List.map_cons, List.sum_cons]
      omega
    · have hb : (l == k) = false := by simpa using hk
      have hkids : Cdg.kids ((k, K) :: r) l = Cdg.kids r l := by
        simp [Cdg.kids, List.lookup_cons, hb]
      rw [hkids]
      have hc : (l :: seen).contains k = seen.contains k := by
        have hne : k ≠ l := fun e => hk e.symm
        simp [hne]
      unfold cdgW at ih ⊢
      simp only [List.filter_cons, hc]
      split
      · simp only [List.map_cons, List.sum_cons]; omega
      · exact ih

theorem cdg_fuel_eq (g : Cdg) : g.fuel = 1 + (g.map (fun p => p.2.length + 1)).sum := by
  unfold Cdg.fuel
  have : ∀ (g : Cdg) (a : Nat), g.foldl (fun n p => n + p.2.length + 1) a = a + (g.map (fun p => p.2.length + 1)).sum := by
    intro g
    induction g with
    | nil => intro a; simp
    | cons p r ih => intro a; simp only [List.foldl_cons, ih, List.map_cons, List.sum_cons]; omega
  exact this g 1

theorem cdgW_nil (g : Cdg) : cdgW g [] + 1 = g.fuel := by
  rw [cdg_fuel_eq]
  unfold cdgW
  have : g.filter (fun p => !([] : List Label).contains p.1) = g := by
    apply List.filter_eq_self.mpr
    intro p _
    simp
  rw [this]
  omega

/-- `add_control_deps::reach` with the fuel of the model: the reached set contains the roots and is
    closed under the edges of the graph -/
theorem reaches_closed (g : Cdg) (roots : List Label) :
    (∀ r, r ∈ roots → g.reaches roots r = true) ∧
    (∀ a b, g.reaches roots a = true → b ∈ g.kids a → g.reaches roots b = true) := by
  unfold Cdg.reaches
  obtain ⟨_, h2, h3⟩ := reachFrom_closed (fun l => (g.lookup l).getD []) (fun _ => True) (cdgW g)
    (fun _ _ _ _ => trivial) (fun l seen _ => cdgW_cons g l seen)
    (g.fuel + roots.length) roots [] (fun _ _ => trivial) (by intro s hs; cases hs) (by have := cdgW_nil g; omega)
  exact ⟨fun r hr => List.contains_iff_mem.mpr (h2 r hr),
    fun a b ha hb => List.contains_iff_mem.mpr (h3 a (List.contains_iff_mem.mp ha) b hb)⟩

theorem reaches_root (g : Cdg) (roots : List Label) {r : Label} (hr : r ∈ roots) : g.reaches roots r = true :=
  (reaches_closed g roots).1 r hr

theorem reaches_step (g : Cdg) (roots : List Label) {a b : Label} (ha : g.reaches roots a = true)
    (hb : b ∈ g.kids a) : g.reaches roots b = true :=
  (reaches_closed g roots).2 a b ha hb

theorem gpath_avoid_sub {P : Prog} {s a b : Label} (h : GPath (succsAvoid P s) a b) : GPath P.succsOf a b :=
  h.mono (fun _ _ hl => (mem_succsAvoid.mp hl).1)

/-- `s` = a successor of `d` that strictly post-dominates `d`; from a block `b` of the region
    (reaches the exit, is not `s`, is post-dominated by `s`, and each of its post-dominators is
    reached in `g` from the children of `d` or strictly post-dominates `d`) every block `u` on a
    path that avoids `s` and that reaches the exit is reached in `g` from the children of `d` -/
theorem region_reach {P : Prog} {g : Cdg} (hg : CdgComplete P g) (hwf : WFp P) {x d s : Label}
    (hx : P.exit = some x) (hsd : PDom P x s d) (hsne : s ≠ d) (hss : s ∈ P.succsOf d) :
    ∀ {b u : Label}, GPath (succsAvoid P s) b u → CoReach P x u → b ∈ P.labels → b ≠ s → PDom P x s b →
      (∀ w, PDom P x w b → g.reaches (g.kids d) w = true ∨ (w ≠ d ∧ PDom P x w d)) →
      g.reaches (g.kids d) u = true := by
  -- a block of the region that strictly post-dominates `d` would be `s`
  have hkey : ∀ b, CoReach P x b → b ≠ s → PDom P x s b → (b ≠ d ∧ PDom P x b d) → False := by
    intro b hcb hbs hsb hbd
    have : PDom P x b s := PDom.succ hbd.2 hbd.1 hss
    exact hbs (PDom.antisymm hcb hsb this).symm
  intro b u hp
  induction hp with
  | refl a =>
    intro hco _ hbs hsb hQ
    rcases hQ a (PDom.refl P x a) with h | h
    · exact h
    · exact absurd h (hkey a hco hbs hsb)
  | @step b c u hc hp ih =>
    intro hco hbl hbs hsb hQ
    obtain ⟨hcs, hcne⟩ := mem_succsAvoid.mp hc
    have hcoc : CoReach P x c := (gpath_avoid_sub hp).trans hco
    have hcob : CoReach P x b := GPath.step hcs hcoc
    have hRb : g.reaches (g.kids d) b = true := by
      rcases hQ b (PDom.refl P x b) with h | h
      · exact h
      · exact absurd h (hkey b hcob hbs hsb)
    apply ih hco (hwf.succ_lab b c hcs) hcne (PDom.succ hsb (fun e => hbs e.symm) hcs)
    intro w hw
    by_cases hwb : w ≠ b ∧ PDom P x w b
    · exact hQ w hwb.2
    · left
      exact reaches_step g _ hRb (hg.fow x b c w hx hbl hcs hcoc hw hwb)

/-- the start of the region: the successors of `d` -/
theorem region_start {P : Prog} {g : Cdg} (hg : CdgComplete P g) {x d t : Label}
    (hx : P.exit = some x) (hd : d ∈ P.labels) (ht : t ∈ P.succsOf d) (hco : CoReach P x t) :
    ∀ w, PDom P x w t → g.reaches (g.kids d) w = true ∨ (w ≠ d ∧ PDom P x w d) := by
  intro w hw
  by_cases h : w ≠ d ∧ PDom P x w d
  · exact Or.inr h
  · exact Or.inl (reaches_root g _ (hg.fow x d t w hx hd ht hco hw h))

theorem mem_region {P : Prog} (hwf : WFp P) {d s u : Label} :
    u ∈ P.region d s ↔ ∃ t, t ∈ P.succsOf d ∧ t ≠ s ∧ GPath (succsAvoid P s) t u := by
  unfold Prog.region
  rw [reachFuel_eq, reachFrom_iff (succsAvoid P s) P.labels (wf_next_avoid hwf s) _
    (fun a ha => hwf.succ_lab d a (List.mem_filter.mp ha).1)
    (Nat.le_trans (List.length_filter_le _ _) (wf_next_succs hwf d).2)]
  simp only [List.mem_filter, bne_iff_ne, ne_eq, and_assoc]

/-- what `isCdgOK` says, as propositions -/
structure CdgOKp (P : Prog) (g : Cdg) : Prop where
  esc : ∀ d s t u, d ∈ P.labels → 2 ≤ (P.succsOf d).length → s ∈ P.succsOf d → s ∉ P.coExit →
    t ∈ P.succsOf d → GPath P.succsOf t u → u ∈ g.kids d
  join : ∀ d s, d ∈ P.labels → 2 ≤ (P.succsOf d).length → s ∈ P.succsOf d → s ∉ g.kids d →
    ∃ x, P.exit = some x ∧ (∀ t, t ∈ P.succsOf d → CoReach P x t ∧ PDom P x s t) ∧
      ∀ t u, t ∈ P.succsOf d → t ≠ s → GPath (succsAvoid P s) t u → CoReach P x u →
        g.reaches (g.kids d) u = true

theorem isCdgOK_spec {P : Prog} {g : Cdg} (hwf : WFp P) (h : isCdgOK P g = true) : CdgOKp P g := by
  unfold isCdgOK at h
  have hd := List.all_eq_true.mp h
  constructor
  · intro d s t u hdl h2 hs hsco ht hp
    have := hd d hdl
    simp only [Bool.or_eq_true, decide_eq_true_eq, Bool.and_eq_true] at this
    rcases this with h' | ⟨hA, _⟩
    · omega
    · rcases hA with hA | hA
      · simp only [Bool.not_eq_eq_eq_not, Bool.not_true, List.any_eq_false, Bool.not_eq_true', Bool.not_eq_false] at hA
        exact absurd (List.contains_iff_mem.mp (by simpa using hA s hs)) hsco
      · exact List.contains_iff_mem.mp ((List.all_eq_true.mp hA) u ((mem_reach_succs hwf).mpr ⟨t, ht, hp⟩))
  · intro d s hdl h2 hs hsk
    have := hd d hdl
    simp only [Bool.or_eq_true, decide_eq_true_eq, Bool.and_eq_true] at this
    rcases this with h' | ⟨_, hB⟩
    · omega
    · have hBs := (List.all_eq_true.mp hB) s hs
      simp only [Bool.or_eq_true, Bool.and_eq_true] at hBs
      rcases hBs with hBs | ⟨⟨hC1, hJ⟩, hC3⟩
      · exact absurd (List.contains_iff_mem.mp hBs) hsk
      · unfold Prog.joinB at hJ
        cases hx : P.exit with
        | none => rw [hx] at hJ; cases hJ
        | some x =>
          rw [hx] at hJ
          simp only at hJ
          refine ⟨x, rfl, ?_, ?_⟩
          · intro t ht
            have h1 := List.contains_iff_mem.mp ((List.all_eq_true.mp hC1) t ht)
            exact ⟨(coExit_iff hwf hx).mp h1, (pdomB_iff hwf (hwf.succ_lab d t ht)).mp ((List.all_eq_true.mp hJ) t ht)⟩
          · intro t u ht hts hp hco
            have := (List.all_eq_true.mp hC3) u ((mem_region hwf).mpr ⟨t, ht, hts, hp⟩)
            simp only [Bool.or_eq_true, Bool.not_eq_eq_eq_not, Bool.not_true] at this
            rcases this with h1 | h1
            · have := (coExit_iff hwf hx).mpr hco
              rw [List.contains_iff_mem.mpr this] at h1
              cases h1
            · exact h1

/-- a complete graph passes the test -/
theorem isCdgOK_of_complete {P : Prog} {g : Cdg} (hwf : WFp P) (hg : CdgComplete P g) : isCdgOK P g = true := by
  unfold isCdgOK
  apply List.all_eq_true.mpr
  intro d hdl
  simp only [Bool.or_eq_true, decide_eq_true_eq, Bool.and_eq_true]
  by_cases h2 : (P.succsOf d).length < 2
  · exact Or.inl h2
  · right
    have h2' : 2 ≤ (P.succsOf d).length := by omega
    constructor
    · by_cases hany : (P.succsOf d).any (fun s => !P.coExit.contains s) = true
      · right
        obtain ⟨s, hs, hsc⟩ := List.any_eq_true.mp hany
        have hsco : s ∉ P.coExit := by simpa using hsc
        apply List.all_eq_true.mpr
        intro u hu
        obtain ⟨w, hw, hp⟩ := (mem_reach_succs hwf).mp hu
        apply List.contains_iff_mem.mpr
        exact hg.escape d s w u hdl h2' hs (fun x hx hco => hsco ((coExit_iff hwf hx).mpr hco)) hw hp
      · left; simpa using hany
    · apply List.all_eq_true.mpr
      intro s hs
      simp only [Bool.or_eq_true, Bool.and_eq_true]
      by_cases hsk : s ∈ g.kids d
      · exact Or.inl (List.contains_iff_mem.mpr hsk)
      · right
        have hall : ∀ t, t ∈ P.succsOf d → t ∈ P.coExit := by
          intro t ht
          apply Classical.byContradiction
          intro htc
          exact hsk (hg.escape d t s s hdl h2' ht (fun x hx hco => htc ((coExit_iff hwf hx).mpr hco)) hs (GPath.refl s))
        obtain ⟨x, hx, hcos⟩ := mem_coExit hwf (hall s hs)
        have hsd : s ≠ d ∧ PDom P x s d := by
          apply Classical.byContradiction
          intro hno
          exact hsk (hg.fow x d s s hx hdl hs hcos (PDom.refl P x s) hno)
        have hcot : ∀ t, t ∈ P.succsOf d → CoReach P x t := by
          exact fun t ht => (coExit_iff hwf hx).mp (hall t ht)
        refine ⟨⟨?_, ?_⟩, ?_⟩
        · exact List.all_eq_true.mpr (fun t ht => List.contains_iff_mem.mpr (hall t ht))
        · unfold Prog.joinB
          rw [hx]
          apply List.all_eq_true.mpr
          intro t ht
          exact (pdomB_iff hwf (hwf.succ_lab d t ht)).mpr (PDom.succ hsd.2 hsd.1 ht)
        · apply List.all_eq_true.mpr
          intro u hu
          simp only [Bool.or_eq_true, Bool.not_eq_eq_eq_not, Bool.not_true]
          by_cases huc : u ∈ P.coExit
          · right
            have hcou := (coExit_iff hwf hx).mp huc
            obtain ⟨t, ht1, hts, hp⟩ := (mem_region hwf).mp hu
            exact region_reach hg hwf hx hsd.2 hsd.1 hs hp hcou (hwf.succ_lab d t ht1) hts
              (PDom.succ hsd.2 hsd.1 ht1) (region_start hg hx hdl ht1 (hcot t ht1))
          · left
            simpa using huc

/-- hence: what the crawler proof uses holds for every complete graph -/
theorem CdgComplete.okp {P : Prog} {g : Cdg} (hwf : WFp P) (hg : CdgComplete P g) : CdgOKp P g :=
  isCdgOK_spec hwf (isCdgOK_of_complete hwf hg)

end TIR
end Crab
