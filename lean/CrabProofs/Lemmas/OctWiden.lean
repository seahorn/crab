import CrabModel.Dom.OctWiden
import CrabProofs.Lemmas.OctClose
import CrabProofs.Lemmas.DbmWiden

/-!
  Facts about the split-octagon widening model (`CrabModel/Dom/OctWiden.lean`):
  * every edge of `splitWiden U l r` has one of three origins (`splitWiden_cases`): an explicit
    edge of `r` that the unary bounds of `l` imply (right weight), an edge of `l` that `r` covers
    explicitly, or an edge of `l` that the unary bounds of `r` imply (left weight);
  * hence the result is implied by either operand (`splitWiden_sat_left/right`, `widenV_upper` for
    every sound normal form, `nfTight_sound`), its unary bounds are unary bounds of `l` with the
    same weight that `r` covers (`bnd_splitWiden`), and it has no self loops
    (`splitWiden_noSelfLoop`);
  * a failed inclusion test exhibits an uncovered edge (`leqV_false`), and then either a unary bound
    disappears or — all unary bounds kept — the relational edges NOT implied by the unary bounds
    become strictly fewer (`widen_measure`, `widenV_counts`); as a lexicographic triple
    (`omeas_widenV_lt`) and as one number (`nmeas`, `nmeas_widenV_lt`);
  * a successful inclusion test is sound on graphs without self loops (`leqV_sound`);
  * `TwoCounter.prefixOk`: the two chains of the two-counter example run side by side, for the
    evaluation in `Props/C05Oct.lean`.
-/
namespace Crab
namespace OctW
open Dbm Octagon

variable {n : Nat}


theorem tdiv2_eq (a : Int) : a.tdiv 2 = if 0 ≤ a then a / 2 else -((-a) / 2) := by
  split
  · rename_i h; exact Int.tdiv_eq_ediv_of_nonneg h
  · rename_i h
    have : a.tdiv 2 = -((-a).tdiv 2) := by rw [Int.neg_tdiv, Int.neg_neg]
    rw [this, Int.tdiv_eq_ediv_of_nonneg (by omega)]

theorem tdiv2_mono {a b : Int} (h : a ≤ b) : a.tdiv 2 ≤ b.tdiv 2 := by
  rw [tdiv2_eq, tdiv2_eq]; split <;> split <;> omega

theorem ediv2_le_tdiv2 (a : Int) : a / 2 ≤ a.tdiv 2 := by
  rw [tdiv2_eq]; split <;> omega

theorem le_some_false {a : W} {k : Int} : W.le a (some k) = false ↔ a = none ∨ ∃ x, a = some x ∧ k < x := by
  cases a with
  | none => simp [W.le]
  | some x => simp [W.le]

theorem hsum_some {a b : W} {q : Int} :
    hsum a b = some q ↔ ∃ p1 p2, a = some p1 ∧ b = some p2 ∧ q = (p1 + p2).tdiv 2 := by
  cases a <;> cases b <;> simp [hsum, eq_comm]

theorem hsum_none_left (b : W) : hsum none b = none := rfl
theorem hsum_none_right (a : W) : hsum a none = none := by cases a <;> rfl


theorem isRel_bar (i : Fin (2 * n)) : isRel i (bar i) = false := by
  simp [isRel, varOf_bar]

theorem isRel_ne {i j : Fin (2 * n)} (h : isRel i j = true) : i ≠ j := by
  intro e; subst e; simp [isRel] at h

theorem eq_bar_of_not_isRel {i j : Fin (2 * n)} (h : isRel i j = false) (hne : i ≠ j) : j = bar i := by
  have hv : varOf i = varOf j := by simpa [isRel] using h
  exact (lit_cases hv.symm).resolve_left (Ne.symm hne)

theorem implW_congr {m1 m2 : Oct n} (h : ∀ i, m1.get i (bar i) = m2.get i (bar i)) (i j : Fin (2 * n)) :
    implW m1 i j = implW m2 i j := by
  unfold implW
  have := h (bar j)
  rw [bar_bar] at this
  rw [h i, this]

/-- the weight read off the unary bounds is implied by the graph -/
theorem implW_sound {m : Oct n} {σ : State n} (h : γ m σ) {i j : Fin (2 * n)} {q : Int}
    (hq : implW m i j = some q) : ext σ i - ext σ j ≤ q := by
  obtain ⟨p1, p2, h1, h2, rfl⟩ := hsum_some.1 hq
  have a1 := h i (bar i) p1 h1
  have a2 := h (bar j) j p2 h2
  rw [ext_bar] at a1 a2
  have := ediv2_le_tdiv2 (p1 + p2)
  omega


theorem stage1_some {l r : Oct n} {i j : Fin (2 * n)} {a : Int} (h : (stage1 l r).get i j = some a) :
    i ≠ j ∧ l.get i j = some a ∧ W.le (r.get i j) (some a) = true := by
  simp only [stage1, Mat.get_ofFn] at h
  split at h
  · rename_i e hl
    split at h
    · rename_i hc; cases h; exact ⟨hc.1, hl, hc.2⟩
    · cases h
  · cases h

theorem stage1_of {l r : Oct n} {i j : Fin (2 * n)} {a : Int} (hne : i ≠ j) (hl : l.get i j = some a)
    (hr : W.le (r.get i j) (some a) = true) : (stage1 l r).get i j = some a := by
  simp only [stage1, Mat.get_ofFn, hl]
  rw [if_pos ⟨hne, hr⟩]

theorem stage2_some {l r g1 : Oct n} {i j : Fin (2 * n)} {a : Int} (h : (stage2 l r g1).get i j = some a) :
    g1.get i j = some a ∨
      (l.get i j = some a ∧ isRel i j = true ∧ W.le (implW r i j) (some a) = true) := by
  simp only [stage2, Mat.get_ofFn] at h
  split at h
  · rename_i b hg; exact Or.inl (hg.trans h)
  · split at h
    · rename_i e hl
      split at h
      · rename_i hc; cases h; exact Or.inr ⟨hl, hc.1, hc.2.1⟩
      · cases h
    · cases h

theorem stage3_some {U' : Fin (2 * n) → Bool} {l r g2 : Oct n} {i j : Fin (2 * n)} {a : Int}
    (h : (stage3 U' l r g2).get i j = some a) :
    (r.get i j = some a ∧ isRel i j = true ∧ W.le (implW l i j) (some a) = true) ∨ g2.get i j = some a := by
  simp only [stage3, Mat.get_ofFn] at h
  split at h
  · rename_i e hr
    split at h
    · rename_i hc; cases h; exact Or.inl ⟨hr, hc.1, hc.2.1⟩
    · exact Or.inr h
  · exact Or.inr h

/-- every edge `(i, j, a)` of the result is
    (A) an explicit edge of `r` between two variables that the unary bounds of `l` imply, or
    (B) an edge of `l` covered by an explicit edge of `r`, or
    (C) an edge of `l` between two variables covered by the unary bounds of `r` -/
theorem splitWiden_cases {U : Fin (2 * n) → Bool} {l r : Oct n} {i j : Fin (2 * n)} {a : Int}
    (h : (splitWiden U l r).get i j = some a) :
    (r.get i j = some a ∧ isRel i j = true ∧ W.le (implW l i j) (some a) = true) ∨
    (l.get i j = some a ∧ i ≠ j ∧ W.le (r.get i j) (some a) = true) ∨
    (l.get i j = some a ∧ isRel i j = true ∧ W.le (implW r i j) (some a) = true) := by
  unfold splitWiden at h
  rcases stage3_some h with hA | h2
  · exact Or.inl hA
  · rcases stage2_some h2 with h1 | hC
    · obtain ⟨h1, h2, h3⟩ := stage1_some h1
      exact Or.inr (Or.inl ⟨h2, h1, h3⟩)
    · exact Or.inr (Or.inr hC)

/-- unary bounds: only kept (left weight, covered by the explicit bound of `r`), never created -/
theorem bnd_splitWiden {U : Fin (2 * n) → Bool} {l r : Oct n} {i : Fin (2 * n)} {a : Int}
    (h : (splitWiden U l r).get i (bar i) = some a) :
    l.get i (bar i) = some a ∧ W.le (r.get i (bar i)) (some a) = true := by
  rcases splitWiden_cases h with hA | hB | hC
  · rw [isRel_bar] at hA; exact absurd hA.2.1 (by decide)
  · exact ⟨hB.1, hB.2.2⟩
  · rw [isRel_bar] at hC; exact absurd hC.2.1 (by decide)


theorem le_sound {w : W} {k d : Int} (hle : W.le w (some k) = true) (hw : ∀ q, w = some q → d ≤ q) : d ≤ k := by
  obtain ⟨x, hx, hxk⟩ := W.le_some_iff.1 hle
  have := hw x hx
  omega

theorem splitWiden_sat_left (U : Fin (2 * n) → Bool) (l r : Oct n) (σ : State n) (h : γ l σ) :
    γ (splitWiden U l r) σ := by
  intro i j a ha
  rcases splitWiden_cases ha with hA | hB | hC
  · exact le_sound hA.2.2 fun q hq => implW_sound h hq
  · exact h i j a hB.1
  · exact h i j a hC.1

theorem splitWiden_sat_right (U : Fin (2 * n) → Bool) (l r : Oct n) (σ : State n) (h : γ r σ) :
    γ (splitWiden U l r) σ := by
  intro i j a ha
  rcases splitWiden_cases ha with hA | hB | hC
  · exact h i j a hA.1
  · exact le_sound hB.2.2 fun q hq => h i j q hq
  · exact le_sound hC.2.2 fun q hq => implW_sound h hq

theorem restrict_some {c : Fin n → Bool} {m : Oct n} {i j : Fin (2 * n)} {a : Int}
    (h : (restrict c m).get i j = some a) : m.get i j = some a ∧ c (varOf i) = true ∧ c (varOf j) = true := by
  simp only [restrict, Mat.get_ofFn] at h
  split at h
  · rename_i hc; exact ⟨h, hc.1, hc.2⟩
  · cases h

theorem restrict_of {c : Fin n → Bool} (m : Oct n) {i j : Fin (2 * n)} (hi : c (varOf i) = true)
    (hj : c (varOf j) = true) : (restrict c m).get i j = m.get i j := by
  simp only [restrict, Mat.get_ofFn]
  rw [if_pos ⟨hi, hj⟩]

theorem restrict_none_left {c : Fin n → Bool} (m : Oct n) {i j : Fin (2 * n)} (hi : c (varOf i) = false) :
    (restrict c m).get i j = none := by
  simp [restrict, hi]

theorem restrict_none_right {c : Fin n → Bool} (m : Oct n) {i j : Fin (2 * n)} (hj : c (varOf j) = false) :
    (restrict c m).get i j = none := by
  simp [restrict, hj]

theorem restrict_sat (c : Fin n → Bool) (m : Oct n) (σ : State n) (h : γ m σ) : γ (restrict c m) σ :=
  fun i j a ha => h i j a (restrict_some ha).1

theorem cohere_sat (m : Oct n) (σ : State n) : γ (cohere m) σ ↔ γ m σ := by
  unfold γ
  simp only [Mat.sat_iff, cohere, Mat.get_ofFn, W.LE_min_iff]
  refine ⟨fun h i j => (h i j).1, fun h i j => ⟨h i j, ?_⟩⟩
  -- the twin entry bounds the same difference
  have := h (bar j) (bar i)
  rwa [ext_bar, ext_bar, show -ext σ j - -ext σ i = ext σ i - ext σ j by omega] at this

theorem nfTight_sound : SoundNf (n := n) nfTight := by
  intro a σ h i j k hk
  simp only [nfTight, Mat.get_ofFn] at hk
  split at hk
  · cases hk
  · have := (close_preserves_γ (cohere a.g) σ).2 ((cohere_sat a.g σ).2 h)
    exact this i j k hk

theorem normOf_sound {nf : OVal n → Oct n} (hnf : SoundNf nf) (b : OVal n) (σ : State n) (h : γ b.g σ) :
    γ (normOf nf b) σ := by
  unfold normOf
  split
  · exact h
  · exact hnf b σ h

theorem widenV_upper {nf : OVal n → Oct n} (hnf : SoundNf nf) (x y : Val n) (σ : State n) :
    (γV x σ → γV (widenV nf x y) σ) ∧ (γV y σ → γV (widenV nf x y) σ) := by
  cases x with
  | none => exact ⟨fun h => h.elim, fun h => h⟩
  | some a =>
    cases y with
    | none => exact ⟨fun h => h, fun h => h.elim⟩
    | some b =>
      constructor
      · intro h
        exact splitWiden_sat_left _ _ _ σ (restrict_sat _ _ σ h)
      · intro h
        exact splitWiden_sat_right _ _ _ σ (restrict_sat _ _ σ (normOf_sound hnf b σ h))


theorem leqG_false {yl x : Oct n} (h : leqG yl x = false) :
    ∃ i j k, i ≠ j ∧ x.get i j = some k ∧ W.le (yl.get i j) (some k) = false ∧
      W.le (implW yl i j) (some k) = false := by
  unfold leqG at h
  rw [List.all_eq_false] at h
  obtain ⟨i, _, hi⟩ := h
  rw [Bool.not_eq_true, List.all_eq_false] at hi
  obtain ⟨j, _, hj⟩ := hi
  rw [Bool.not_eq_true, Bool.or_eq_false_iff] at hj
  obtain ⟨hne, hm⟩ := hj
  cases hx : x.get i j with
  | none => rw [hx] at hm; cases hm
  | some k =>
    rw [hx] at hm
    simp only [Bool.or_eq_false_iff] at hm
    exact ⟨i, j, k, by simpa using hne, hx, hm.1, hm.2⟩

theorem touches_true {m : Oct n} {v : Fin n} (h : touches m v = true) :
    ∃ i j k, i ≠ j ∧ (varOf i = v ∨ varOf j = v) ∧ m.get i j = some k := by
  unfold touches at h
  rw [List.any_eq_true] at h
  obtain ⟨i, _, hi⟩ := h
  rw [List.any_eq_true] at hi
  obtain ⟨j, _, hj⟩ := hi
  simp only [Bool.and_eq_true, Bool.or_eq_true, decide_eq_true_eq] at hj
  obtain ⟨⟨hne, hv⟩, hs⟩ := hj
  obtain ⟨k, hk⟩ := Option.isSome_iff_exists.1 hs
  exact ⟨i, j, k, hne, hv, hk⟩

theorem implW_restrict_false {c : Fin n → Bool} {m : Oct n} {i j : Fin (2 * n)} {k : Int}
    (h : W.le (implW m i j) (some k) = false) : W.le (implW (restrict c m) i j) (some k) = false := by
  unfold implW
  by_cases hi : c (varOf i) = true
  · by_cases hj : c (varOf j) = true
    · rw [restrict_of m hi (by rw [varOf_bar]; exact hi), restrict_of m (by rw [varOf_bar]; exact hj) hj]
      exact h
    · rw [restrict_none_right m (i := bar j) (j := j) (by simpa using hj), hsum_none_right]; rfl
  · rw [restrict_none_left m (i := i) (j := bar i) (by simpa using hi), hsum_none_left]; rfl

theorem get_restrict_false {c : Fin n → Bool} {m : Oct n} {i j : Fin (2 * n)} {k : Int}
    (h : W.le (m.get i j) (some k) = false) : W.le ((restrict c m).get i j) (some k) = false := by
  by_cases hi : c (varOf i) = true
  · by_cases hj : c (varOf j) = true
    · rw [restrict_of m hi hj]; exact h
    · rw [restrict_none_right m (by simpa using hj)]; rfl
  · rw [restrict_none_left m (by simpa using hi)]; rfl

/-- `y ⋢ x`: some off-diagonal edge of `x` is covered neither by an explicit edge nor by the unary
    bounds of the (normalised) `y`, seen through the common variables -/
theorem leqV_false {nf : OVal n → Oct n} {a b : OVal n} (h : leqV nf (some b) (some a) = false) :
    ∃ i j k, i ≠ j ∧ a.g.get i j = some k ∧
      W.le ((restrict (common a b) (normOf nf b)).get i j) (some k) = false ∧
      W.le (implW (restrict (common a b) (normOf nf b)) i j) (some k) = false := by
  simp only [leqV, Bool.and_eq_false_iff] at h
  rcases h with h | h
  · rw [List.all_eq_false] at h
    obtain ⟨v, _, hv⟩ := h
    simp only [Bool.not_eq_true, Bool.or_eq_false_iff, Bool.not_eq_false'] at hv
    obtain ⟨i, j, k, hne, hvar, hk⟩ := touches_true hv.1
    have hc : common a b v = false := by simp [common, hv.2]
    refine ⟨i, j, k, hne, hk, ?_, ?_⟩
    · rcases hvar with e | e
      · rw [restrict_none_left _ (by rw [e]; exact hc)]; rfl
      · rw [restrict_none_right _ (by rw [e]; exact hc)]; rfl
    · unfold implW
      rcases hvar with e | e
      · rw [restrict_none_left _ (i := i) (j := bar i) (by rw [e]; exact hc), hsum_none_left]; rfl
      · rw [restrict_none_right _ (i := bar j) (j := j) (by rw [e]; exact hc), hsum_none_right]; rfl
  · obtain ⟨i, j, k, hne, hk, h1, h2⟩ := leqG_false h
    exact ⟨i, j, k, hne, hk, get_restrict_false h1, implW_restrict_false h2⟩


theorem isTight_true {m : Oct n} {i j : Fin (2 * n)} (h : isTight m (i, j) = true) :
    isRel i j = true ∧ ∃ w, m.get i j = some w ∧ W.le (implW m i j) (some w) = false := by
  simp only [isTight, Bool.and_eq_true] at h
  refine ⟨h.1, ?_⟩
  cases hm : m.get i j with
  | none => rw [hm] at h; simp at h
  | some w => rw [hm] at h; exact ⟨w, rfl, by simpa using h.2⟩

theorem isTight_of {m : Oct n} {i j : Fin (2 * n)} {w : Int} (hr : isRel i j = true) (hm : m.get i j = some w)
    (hi : W.le (implW m i j) (some w) = false) : isTight m (i, j) = true := by
  simp [isTight, hr, hm, hi]

theorem W_eq_of_sub {x y : W} (h1 : ∀ w, x = some w → y = some w) (h2 : y.isSome = true → x.isSome = true) :
    x = y := by
  cases hx : x with
  | some w => exact (h1 w hx).symm
  | none =>
    cases hy : y with
    | none => rfl
    | some w => rw [hx, hy] at h2; cases h2 rfl

/-- the heart of the chain condition.  `a` = graph of `x`, `r'` = the right operand as the widening
    sees it, `g3` the result.  If `x` has an edge that `r'` covers neither explicitly nor through
    its unary bounds, then a unary bound disappears, or all unary bounds are kept and the
    relational edges not implied by the unary bounds become strictly fewer. -/
theorem widen_measure (U : Fin (2 * n) → Bool) (c : Fin n → Bool) (a r' : Oct n)
    (hr' : ∀ i j k, r'.get i j = some k → c (varOf i) = true ∧ c (varOf j) = true)
    {i j : Fin (2 * n)} {k : Int} (hne : i ≠ j) (hk : a.get i j = some k)
    (h1 : W.le (r'.get i j) (some k) = false) (h2 : W.le (implW r' i j) (some k) = false) :
    let g3 := splitWiden U (restrict c a) r'
    nBnd g3 < nBnd a ∨ (nBnd g3 = nBnd a ∧ nTight g3 < nTight a) := by
  intro g3
  -- unary bounds of the result are unary bounds of `a`, same weight, covered by `r'`
  have hb : ∀ i w, g3.get i (bar i) = some w →
      a.get i (bar i) = some w ∧ W.le (r'.get i (bar i)) (some w) = true := by
    intro i w hw
    obtain ⟨e1, e2⟩ := bnd_splitWiden hw
    exact ⟨(restrict_some e1).1, e2⟩
  have himp : ∀ i, hasBnd g3 i = true → hasBnd a i = true := by
    intro i hi
    obtain ⟨w, hw⟩ := Option.isSome_iff_exists.1 hi
    simp [hasBnd, (hb i w hw).1]
  by_cases hB : ∃ i, hasBnd a i = true ∧ hasBnd g3 i = false
  · obtain ⟨i0, hq, hp⟩ := hB
    exact Or.inl (countP_lt_of_imp _ _ _ himp i0 (List.mem_finRange i0) hq hp)
  · have hall : ∀ i, hasBnd a i = true → hasBnd g3 i = true := by
      intro i hi
      cases hg : hasBnd g3 i
      · exact absurd ⟨i, hi, hg⟩ hB
      · rfl
    -- all unary bounds are kept: same entries in `a`, `restrict c a`, `g3`
    have hEq : ∀ i, g3.get i (bar i) = a.get i (bar i) := fun i =>
      W_eq_of_sub (fun w hw => (hb i w hw).1) (hall i)
    have hcov : ∀ i w, a.get i (bar i) = some w → W.le (r'.get i (bar i)) (some w) = true := by
      intro i w hw
      rw [← hEq i] at hw
      exact (hb i w hw).2
    have hEqL : ∀ i, (restrict c a).get i (bar i) = a.get i (bar i) := fun i =>
      W_eq_of_sub (fun w hw => (restrict_some hw).1) fun hs => by
        obtain ⟨w, hw⟩ := Option.isSome_iff_exists.1 hs
        obtain ⟨q, hq, _⟩ := W.le_some_iff.1 (hcov i w hw)
        obtain ⟨ci, _⟩ := hr' _ _ _ hq
        rw [restrict_of a ci (by rw [varOf_bar]; exact ci), hw]; rfl
    have hI3 : ∀ i j, implW g3 i j = implW a i j := implW_congr hEq
    have hIL : ∀ i j, implW (restrict c a) i j = implW a i j := implW_congr hEqL
    have hcnt : nBnd g3 = nBnd a := by
      unfold nBnd
      apply List.countP_congr
      intro i _
      simp [hasBnd, hEq i]
    refine Or.inr ⟨hcnt, ?_⟩
    -- a tight edge of the result is a tight edge of `a` that `r'` covers
    have hsub : ∀ p q, isTight g3 (p, q) = true → ∃ w, a.get p q = some w ∧ isTight a (p, q) = true ∧
        (W.le (r'.get p q) (some w) = true ∨ W.le (implW r' p q) (some w) = true) := by
      intro p q hp
      obtain ⟨hrel, w, hw, hi⟩ := isTight_true hp
      rw [hI3] at hi
      rcases splitWiden_cases hw with hA | hB' | hC
      · rw [hIL, hi] at hA; exact absurd hA.2.2 (by decide)
      · exact ⟨w, (restrict_some hB'.1).1, isTight_of hrel (restrict_some hB'.1).1 hi, Or.inl hB'.2.2⟩
      · exact ⟨w, (restrict_some hC.1).1, isTight_of hrel (restrict_some hC.1).1 hi, Or.inr hC.2.2⟩
    -- the uncovered edge is relational ..
    have hrel : isRel i j = true := by
      cases hr : isRel i j
      · have hj := eq_bar_of_not_isRel hr hne
        subst hj
        rw [hcov i k hk] at h1; cases h1
      · rfl
    -- .. not implied by the unary bounds of `a` ..
    have hta : isTight a (i, j) = true := by
      apply isTight_of hrel hk
      cases hle : W.le (implW a i j) (some k)
      · rfl
      · exfalso
        obtain ⟨q, hq, hqk⟩ := W.le_some_iff.1 hle
        obtain ⟨p1, p2, e1, e2, rfl⟩ := hsum_some.1 hq
        obtain ⟨s1, hs1, l1⟩ := W.le_some_iff.1 (hcov i p1 e1)
        have e2' : a.get (bar j) (bar (bar j)) = some p2 := by rw [bar_bar]; exact e2
        obtain ⟨s2, hs2, l2⟩ := W.le_some_iff.1 (hcov (bar j) p2 e2')
        rw [bar_bar] at hs2
        have : implW r' i j = some ((s1 + s2).tdiv 2) := by simp [implW, hs1, hs2, hsum]
        rw [this] at h2
        have := tdiv2_mono (show s1 + s2 ≤ p1 + p2 by omega)
        simp [W.le] at h2
        omega
    -- .. and, not being covered, not a tight edge of the result
    have htg : isTight g3 (i, j) = false := by
      cases ht : isTight g3 (i, j)
      · rfl
      · obtain ⟨w, hw, _, hc⟩ := hsub i j ht
        rw [hk] at hw; cases hw
        rcases hc with hc | hc
        · rw [hc] at h1; cases h1
        · rw [hc] at h2; cases h2
    exact countP_lt_of_imp _ _ _ (fun p hp => (hsub p.1 p.2 hp).elim fun _ h => h.2.1) (i, j)
      (Zones.mem_allPairs i j) hta htg

theorem nTight_le (m : Oct n) : nTight m ≤ (2 * n) * (2 * n) := by
  unfold nTight
  rw [← Zones.length_allPairs]
  exact List.countP_le_length

theorem nBnd_le (m : Oct n) : nBnd m ≤ 2 * n := by
  unfold nBnd
  have := List.countP_le_length (p := hasBnd m) (l := List.finRange (2 * n))
  simpa using this

/-- between two graphs: a unary bound is lost, or none is and the non-implied relational edges
    become strictly fewer -/
theorem widenV_counts (nf : OVal n → Oct n) (a b : OVal n) (h : leqV nf (some b) (some a) = false) :
    ∃ g, widenV nf (some a) (some b) = some g ∧
      (nBnd g.g < nBnd a.g ∨ (nBnd g.g = nBnd a.g ∧ nTight g.g < nTight a.g)) := by
  obtain ⟨i, j, k, hne, hk, h1, h2⟩ := leqV_false h
  exact ⟨_, rfl, widen_measure _ (common a b) a.g _ (fun _ _ _ h => (restrict_some h).2) hne hk h1 h2⟩

/-- a strict step is `⊥ ∇ y` with `y ≠ ⊥`, or a step between two graphs -/
theorem leqV_false_cases {nf : OVal n → Oct n} {x y : Val n} (h : leqV nf y x = false) :
    ∃ b, y = some b ∧ (x = none ∨ ∃ a, x = some a) := by
  cases y with
  | none => cases h
  | some b => cases x with
    | none => exact ⟨b, rfl, Or.inl rfl⟩
    | some a => exact ⟨b, rfl, Or.inr ⟨a, rfl⟩⟩

theorem omeas_widenV_lt (nf : OVal n → Oct n) (x y : Val n) (h : leqV nf y x = false) :
    Prod.Lex (· < ·) (Prod.Lex (· < ·) (· < ·)) (omeas (widenV nf x y)) (omeas x) := by
  obtain ⟨b, rfl, rfl | ⟨a, rfl⟩⟩ := leqV_false_cases h
  · exact Prod.Lex.left _ _ (by decide)
  · obtain ⟨g, hg, hc⟩ := widenV_counts nf a b h
    rw [hg]
    apply Prod.Lex.right
    rcases hc with hlt | ⟨heq, hlt⟩
    · exact Prod.Lex.left _ _ hlt
    · show Prod.Lex _ _ (nBnd g.g, nTight g.g) (nBnd a.g, nTight a.g)
      rw [heq]
      exact Prod.Lex.right _ hlt

/-- a lexicographic pair whose second component is at most `T`, as one number -/
theorem lex_encode_lt {k k' t t' T : Nat} (h : k' < k ∨ (k' = k ∧ t' < t)) (ht' : t' ≤ T) :
    k' * (T + 1) + t' < k * (T + 1) + t := by
  rcases h with h | ⟨rfl, h⟩
  · calc k' * (T + 1) + t' < k' * (T + 1) + (T + 1) := by omega
      _ = (k' + 1) * (T + 1) := by rw [Nat.add_mul, Nat.one_mul]
      _ ≤ k * (T + 1) := Nat.mul_le_mul_right _ h
      _ ≤ _ := Nat.le_add_right _ _
  · omega

/-- the same as one natural number -/
def nmeas (n : Nat) : Val n → Nat
  | none => (2 * n + 1) * ((2 * n) * (2 * n) + 1)
  | some a => nBnd a.g * ((2 * n) * (2 * n) + 1) + nTight a.g

theorem nmeas_some_lt (a : OVal n) : nmeas n (some a) < (2 * n + 1) * ((2 * n) * (2 * n) + 1) :=
  lex_encode_lt (t := 0) (Or.inl (Nat.lt_succ_of_le (nBnd_le a.g))) (nTight_le a.g)

theorem nmeas_widenV_lt (nf : OVal n → Oct n) (x y : Val n) (h : leqV nf y x = false) :
    nmeas n (widenV nf x y) < nmeas n x := by
  obtain ⟨b, rfl, rfl | ⟨a, rfl⟩⟩ := leqV_false_cases h
  · exact nmeas_some_lt b
  · obtain ⟨g, hg, hc⟩ := widenV_counts nf a b h
    rw [hg]
    exact lex_encode_lt hc (nTight_le g.g)


theorem leqG_true {yl x : Oct n} (h : leqG yl x = true) {i j : Fin (2 * n)} {k : Int} (hne : i ≠ j)
    (hk : x.get i j = some k) :
    W.le (yl.get i j) (some k) = true ∨ W.le (implW yl i j) (some k) = true := by
  unfold leqG at h
  rw [List.all_eq_true] at h
  have := h i (List.mem_finRange i)
  rw [List.all_eq_true] at this
  have := this j (List.mem_finRange j)
  rw [hk] at this
  simpa [hne] using this

theorem leqG_sat {yl x : Oct n} (hx : NoSelfLoop x) (h : leqG yl x = true) (σ : State n) (hy : γ yl σ) :
    γ x σ := by
  intro i j k hk
  by_cases hne : i = j
  · subst hne; rw [hx i] at hk; cases hk
  · rcases leqG_true h hne hk with h1 | h1
    · exact le_sound h1 fun q hq => hy i j q hq
    · exact le_sound h1 fun q hq => implW_sound hy hq

theorem leqV_sound {nf : OVal n → Oct n} (hnf : SoundNf nf) (y : Val n) (a : OVal n) (hx : NoSelfLoop a.g)
    (h : leqV nf y (some a) = true) (σ : State n) (hy : γV y σ) : γV (some a) σ := by
  cases y with
  | none => exact hy.elim
  | some b =>
    simp only [leqV, Bool.and_eq_true] at h
    exact leqG_sat hx h.2 σ (normOf_sound hnf b σ hy)

theorem splitWiden_noSelfLoop (U : Fin (2 * n) → Bool) (l r : Oct n) : NoSelfLoop (splitWiden U l r) := by
  intro i
  cases h : (splitWiden U l r).get i i with
  | none => rfl
  | some a =>
    rcases splitWiden_cases h with hA | hB | hC
    · exact absurd rfl (isRel_ne hA.2.1)
    · exact absurd rfl hB.2.1
    · exact absurd rfl (isRel_ne hC.2.1)

end OctW
end Crab

namespace Crab.OctW.TwoCounter

/-- the two chains side by side from step `k` (`xb`, `xg`: the chain with the closed left operand
    and the chain of the code at step `k`): each of the next `f` steps is strict on the first and,
    from step 2 on, covered on the second.  One pass, so that the evaluation below computes every
    element of either chain once. -/
def prefixOk (k : Nat) (xb xg : Val 2) : Nat → Bool
  | 0 => true
  | f + 1 => !leqV nfTight (ys k) xb && (decide (k < 2) || leqV nfTight (ys k) xg) &&
      prefixOk (k + 1) (widenClosedLeft nfTight xb (ys k)) (widenV nfTight xg (ys k)) f

theorem prefixOk_spec : ∀ (f k : Nat), prefixOk k (badChain k) (goodChain k) f = true →
    ∀ j, j < f → leqV nfTight (ys (k + j)) (badChain (k + j)) = false ∧
      (2 ≤ k + j → leqV nfTight (ys (k + j)) (goodChain (k + j)) = true)
  | 0, _, _, _, hj => absurd hj (Nat.not_lt_zero _)
  | f + 1, k, h, j, hj => by
    simp only [prefixOk, Bool.and_eq_true, Bool.or_eq_true, decide_eq_true_eq, Bool.not_eq_true'] at h
    cases j with
    | zero => exact ⟨h.1.1, fun h2 => h.1.2.resolve_left (by omega)⟩
    | succ j =>
      have := prefixOk_spec f (k + 1) h.2 j (by omega)
      rwa [show k + 1 + j = k + (j + 1) by omega] at this

end Crab.OctW.TwoCounter
