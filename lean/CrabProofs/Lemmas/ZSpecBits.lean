import CrabModel.Num.ZNumExtra
import CrabProofs.Lemmas.ZNumBits

/-! Bits of integers in infinite two's complement and the bitwise operations of `z_number`
    (`mpz_and`, `mpz_ior`, `mpz_xor`, modelled through `BitVec` at a sufficient width). -/
namespace Crab.ZNum.Spec
open Crab.ZNum.X

theorem two_pow_le {k w : Nat} (h : k ≤ w) : (2 : Int) ^ k ≤ 2 ^ w := by
  have := Nat.pow_le_pow_right (show 0 < 2 by decide) h
  have h2 : ((2 ^ k : Nat) : Int) ≤ ((2 ^ w : Nat) : Int) := by exact_mod_cast this
  simpa [Int.natCast_pow] using h2

/-- `bit` is the parity of the floor quotient by `2^i` -/
theorem bit_eq_div_mod (x : Int) (i : Nat) : bit x i = decide ((x / 2 ^ i) % 2 = 1) := by
  cases x with
  | ofNat m =>
    simp only [bit, Nat.testBit_eq_decide_div_mod_eq]
    have : ((Int.ofNat m) / 2 ^ i) % 2 = ((m / 2 ^ i % 2 : Nat) : Int) := by
      simp [Int.natCast_pow]
    rw [this]
    congr 1
    apply propext
    omega
  | negSucc m =>
    simp only [bit, Nat.testBit_eq_decide_div_mod_eq]
    have hpos : (0 : Int) < 2 ^ i := Int.pow_pos (by decide)
    rw [Int.negSucc_ediv m hpos]
    have h1 : Int.ediv (m : Int) (2 ^ i) = ((m / 2 ^ i : Nat) : Int) := by
      show (m : Int) / 2 ^ i = _
      simp [Int.natCast_pow]
    rw [h1]
    generalize m / 2 ^ i = q
    have : (-((q : Int) + 1)) % 2 = 1 ↔ ¬ (q % 2 = 1) := by omega
    simp only [this]
    by_cases hq : q % 2 = 1 <;> simp [hq]

theorem bit_ofNat (m i : Nat) : bit (m : Int) i = m.testBit i := rfl
theorem bit_negSucc (m i : Nat) : bit (Int.negSucc m) i = !(m.testBit i) := rfl

/-- beyond the range of a number every bit is the sign -/
theorem bit_of_range {x : Int} {k i : Nat} (h1 : -(2 ^ k : Int) ≤ x) (h2 : x < 2 ^ k) (hi : k ≤ i) :
    bit x i = decide (x < 0) := by
  have hpow : (2 : Int) ^ k ≤ 2 ^ i := two_pow_le hi
  cases x with
  | ofNat m =>
    have hm : m < 2 ^ i := by
      have : (m : Int) < 2 ^ i := by
        have : (Int.ofNat m) < 2 ^ k := h2
        exact Int.lt_of_lt_of_le this hpow
      exact_mod_cast this
    simp only [bit, Nat.testBit_lt_two_pow hm]
    simp
  | negSucc m =>
    have hm : m < 2 ^ i := by
      have h3 : -(2 ^ k : Int) ≤ Int.negSucc m := h1
      have : (m : Int) < 2 ^ i := by
        rw [Int.negSucc_eq] at h3
        omega
      exact_mod_cast this
    simp only [bit, Nat.testBit_lt_two_pow hm]
    have : Int.negSucc m < 0 := Int.negSucc_lt_zero m
    simp [this]

/-- bits of `BitVec.ofInt w x` below the width are the bits of `x` -/
theorem getLsbD_ofInt_eq_bit (w : Nat) (x : Int) (i : Nat) (hi : i < w) :
    (BitVec.ofInt w x).getLsbD i = bit x i := by
  cases x with
  | ofNat m =>
    show (BitVec.ofInt w (m : Int)).getLsbD i = _
    rw [BitVec.ofInt_natCast, BitVec.getLsbD_ofNat]
    simp [hi, bit]
  | negSucc m =>
    rw [BitVec.ofInt_negSucc_eq_not_ofNat, BitVec.getLsbD_not, BitVec.getLsbD_ofNat]
    simp [hi, bit]

theorem bit_toInt (w : Nat) (v : BitVec w) (i : Nat) (hi : i < w) :
    bit v.toInt i = v.getLsbD i := by
  rw [← getLsbD_ofInt_eq_bit w v.toInt i hi, BitVec.ofInt_toInt]

theorem range_mono {a : Int} {k w : Nat} (h : -(2 ^ k : Int) ≤ a ∧ a < 2 ^ k) (hk : k ≤ w) :
    -(2 ^ w : Int) ≤ a ∧ a < 2 ^ w := by
  have : (2 : Int) ^ k ≤ 2 ^ w := two_pow_le hk
  omega

/-- bit `i` of the result of a bitwise operation is the operation on the bits of the operands,
    for every position `i` (sign extension included) -/
theorem bit_bitop (f : (w : Nat) → BitVec w → BitVec w → BitVec w) (g : Bool → Bool → Bool)
    (hf : ∀ (w : Nat) (x y : BitVec w) (i : Nat), i < w →
        (f w x y).getLsbD i = g (x.getLsbD i) (y.getLsbD i))
    (a b : Int) (i : Nat) : bit (bitop f a b) i = g (bit a i) (bit b i) := by
  unfold bitop
  generalize hw : Nat.max (width a) (width b) = w
  have hwa : width a ≤ w := by rw [← hw]; exact Nat.le_max_left ..
  have hwb : width b ≤ w := by rw [← hw]; exact Nat.le_max_right ..
  have hwpos : 0 < w := Nat.lt_of_lt_of_le (width_pos a) hwa
  have ra := range_mono (width_bounds a) (show width a - 1 ≤ w - 1 by omega)
  have rb := range_mono (width_bounds b) (show width b - 1 ≤ w - 1 by omega)
  -- below the width
  have low : ∀ j, j < w →
      bit (f w (BitVec.ofInt w a) (BitVec.ofInt w b)).toInt j = g (bit a j) (bit b j) := by
    intro j hj
    rw [bit_toInt w _ j hj, hf w _ _ j hj, getLsbD_ofInt_eq_bit w a j hj, getLsbD_ofInt_eq_bit w b j hj]
  by_cases hi : i < w
  · exact low i hi
  · -- at and above the width every number involved shows its sign bit
    have hiw : w - 1 ≤ i := by omega
    have rr : -(2 ^ (w - 1) : Int) ≤ (f w (BitVec.ofInt w a) (BitVec.ofInt w b)).toInt ∧
        (f w (BitVec.ofInt w a) (BitVec.ofInt w b)).toInt < 2 ^ (w - 1) :=
      ⟨BitVec.le_toInt _, BitVec.toInt_lt⟩
    rw [bit_of_range rr.1 rr.2 hiw, ← bit_of_range rr.1 rr.2 (Nat.le_refl _),
      low (w - 1) (by omega),
      bit_of_range ra.1 ra.2 (Nat.le_refl _), bit_of_range rb.1 rb.2 (Nat.le_refl _),
      bit_of_range ra.1 ra.2 hiw, bit_of_range rb.1 rb.2 hiw]

theorem bit_land (a b : Int) (i : Nat) : bit (land a b) i = (bit a i && bit b i) :=
  bit_bitop _ _ (fun _ _ _ _ _ => BitVec.getLsbD_and) a b i

theorem bit_lor (a b : Int) (i : Nat) : bit (lor a b) i = (bit a i || bit b i) :=
  bit_bitop _ _ (fun _ _ _ _ _ => BitVec.getLsbD_or) a b i

theorem bit_lxor (a b : Int) (i : Nat) : bit (lxor a b) i = (bit a i ^^ bit b i) :=
  bit_bitop _ _ (fun _ _ _ _ _ => BitVec.getLsbD_xor) a b i

/-- a non-negative and a negative number differ at a bit beyond both magnitudes -/
theorem bit_ofNat_ne_negSucc (m n : Nat) : bit (m : Int) (m + n) ≠ bit (Int.negSucc n) (m + n) := by
  have hm : m < 2 ^ (m + n) := Nat.lt_of_lt_of_le Nat.lt_two_pow_self
    (Nat.pow_le_pow_right (by decide) (Nat.le_add_right ..))
  have hn : n < 2 ^ (m + n) := Nat.lt_of_lt_of_le Nat.lt_two_pow_self
    (Nat.pow_le_pow_right (by decide) (Nat.le_add_left ..))
  simp [bit, Nat.testBit_lt_two_pow hm, Nat.testBit_lt_two_pow hn]

theorem bit_ext {x y : Int} (h : ∀ i, bit x i = bit y i) : x = y := by
  have nat : ∀ m n : Nat, (∀ i, m.testBit i = n.testBit i) → m = n := fun _ _ => Nat.eq_of_testBit_eq
  cases x with
  | ofNat m =>
    cases y with
    | ofNat n => exact congrArg Int.ofNat (nat m n h)
    | negSucc n => exact absurd (h _) (bit_ofNat_ne_negSucc m n)
  | negSucc m =>
    cases y with
    | ofNat n => exact absurd (h _).symm (bit_ofNat_ne_negSucc n m)
    | negSucc n => exact congrArg Int.negSucc (nat m n fun i => by simpa [bit] using h i)

/-- on non-negative operands the operations are the bitwise operations of the naturals -/
theorem land_natCast (m n : Nat) : land (m : Int) (n : Int) = ((m &&& n : Nat) : Int) :=
  bit_ext (fun i => by rw [bit_land]; simp [bit_ofNat])
theorem lor_natCast (m n : Nat) : lor (m : Int) (n : Int) = ((m ||| n : Nat) : Int) :=
  bit_ext (fun i => by rw [bit_lor]; simp [bit_ofNat])
theorem lxor_natCast (m n : Nat) : lxor (m : Int) (n : Int) = ((m ^^^ n : Nat) : Int) :=
  bit_ext (fun i => by rw [bit_lxor]; simp [bit_ofNat])

theorem bit_zero (i : Nat) : bit 0 i = false := Nat.zero_testBit i
theorem bit_neg_one (i : Nat) : bit (-1) i = true := by
  show (!(Nat.testBit 0 i)) = true
  rw [Nat.zero_testBit]; rfl

end Crab.ZNum.Spec

/-! Neutral and absorbing elements, bit by bit. -/
namespace Crab.ZNum
open X Spec

theorem land_zero_left (x : Int) : land 0 x = 0 :=
  bit_ext fun i => by rw [bit_land, bit_zero, Bool.false_and]
theorem land_zero_right (x : Int) : land x 0 = 0 :=
  bit_ext fun i => by rw [bit_land, bit_zero, Bool.and_false]
theorem land_neg_one_left (x : Int) : land (-1) x = x :=
  bit_ext fun i => by rw [bit_land, bit_neg_one, Bool.true_and]
theorem land_neg_one_right (x : Int) : land x (-1) = x :=
  bit_ext fun i => by rw [bit_land, bit_neg_one, Bool.and_true]

theorem lor_zero_left (x : Int) : lor 0 x = x :=
  bit_ext fun i => by rw [bit_lor, bit_zero, Bool.false_or]
theorem lor_zero_right (x : Int) : lor x 0 = x :=
  bit_ext fun i => by rw [bit_lor, bit_zero, Bool.or_false]
theorem lor_neg_one_left (x : Int) : lor (-1) x = -1 :=
  bit_ext fun i => by rw [bit_lor, bit_neg_one, Bool.true_or]
theorem lor_neg_one_right (x : Int) : lor x (-1) = -1 :=
  bit_ext fun i => by rw [bit_lor, bit_neg_one, Bool.or_true]

theorem lxor_zero_left (x : Int) : lxor 0 x = x :=
  bit_ext fun i => by rw [bit_lxor, bit_zero, Bool.false_xor]
theorem lxor_zero_right (x : Int) : lxor x 0 = x :=
  bit_ext fun i => by rw [bit_lxor, bit_zero, Bool.xor_false]

end Crab.ZNum
