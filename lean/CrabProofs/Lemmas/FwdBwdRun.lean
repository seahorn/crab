import CrabProofs.Lemmas.FwdBwdSem

/-!
  The refinement loop of the forward+backward model: what `discharge` marks, what `refineAll`
  keeps, what one iteration can do (`fbIter_elim`), the rule for the loop (`runFB_rule`: what `run`
  may have discharged is `Discharges`, why that is sound `Discharges.safe`), the loop invariant
  (`ErrCoverT` of the assumption table), the result of `runFB`.
-/
namespace Crab
namespace Analysis
open Crab.IR

variable {A : Type}

/-- the hypotheses about the domain and the two analyses under which the result is sound:
    `top`, `is_bottom`, `&&` are sound; the assumptions supplied by the caller hold on the
    error-reaching states; the forward pass run with assumptions that hold on the error-reaching
    states returns invariants that hold on them (C01, see `C02.refined_forward_sound`); the
    backward pass refined with such invariants returns at every block a value containing the
    states from which an assertion violation is reachable along an execution consistent with the
    invariants (the conclusion of `C11.bwd_precondition_sound`). -/
structure FBSound (γ : A → State → Prop) (x : FBCtx A) (p : Program) (Init : State → Prop) : Prop where
  top_sound : ∀ σ, γ x.ops.top σ
  isBottom_sound : ∀ a σ, x.ops.isBottom a = true → ¬ γ a σ
  meet_sound : ∀ a b σ, γ a σ → γ b σ → γ (x.ops.meet a b) σ
  asm_cover : ErrCoverT p Init γ x.assumptions
  fwd_cover : ∀ T, ErrCoverT p Init γ T → ErrCover p Init γ (x.fwd T)
  bwd_sound : ∀ T, ErrCoverT p Init γ T → ∀ n σ,
    CoFail p (fun n s => γ (x.fwd T n) s) n σ → γ (x.bwd (x.fwd T) n) σ

/-- a block whose table entry is bottom: no error-reaching state arrives at it -/
theorem botAt_no_errArr {γ : A → State → Prop} {o : FBOps A} {p : Program} {Init : State → Prop}
    (hbot : ∀ a σ, o.isBottom a = true → ¬ γ a σ) {T : AsmTable A} (hT : ErrCoverT p Init γ T)
    {d : Nat} (hb : botAt o T d = true) (σ : State) : ¬ ErrArr p Init d σ := by
  unfold botAt at hb
  cases hv : T d with
  | none => rw [hv] at hb; cases hb
  | some v => rw [hv] at hb; exact fun he => hbot v σ hb (hT d v σ hv he)

/-- the loop of `discharge_assertions`: an assertion ends up marked iff it was marked, or was
    pending and some block of the list is bottom and dominates its block -/
theorem dischargeFold_mem (dom : Nat → Nat → Bool) (bot : Nat → Bool) (kv : Nat × Nat) :
    ∀ (nodes : List Nat) (st : Pending),
      (kv ∈ (nodes.foldl (dischargeStep dom bot) st).proved ↔
        kv ∈ st.proved ∨ (kv ∈ st.unproven ∧ ∃ n, n ∈ nodes ∧ bot n = true ∧ dom n kv.1 = true)) ∧
      (kv ∈ (nodes.foldl (dischargeStep dom bot) st).unproven ↔
        kv ∈ st.unproven ∧ ∀ n, n ∈ nodes → ¬ (bot n = true ∧ dom n kv.1 = true))
  | [], st => by simp
  | n :: ns, st => by
    obtain ⟨ihp, ihu⟩ := dischargeFold_mem dom bot kv ns (dischargeStep dom bot st n)
    rw [List.foldl_cons, ihp, ihu]
    unfold dischargeStep
    by_cases hb : bot n = true
    · simp only [hb, if_true, List.mem_append, List.mem_filter, List.mem_cons, exists_eq_or_imp,
        forall_eq_or_imp, true_and, Bool.not_eq_true']
      by_cases hd : dom n kv.1 = true <;> simp [hd]
    · simp only [hb, if_false, List.mem_cons, exists_eq_or_imp, forall_eq_or_imp, false_and,
        false_or, not_false_eq_true, true_and, Bool.false_eq_true]

/-- `discharge_assertions` marks EXACTLY: with a non-empty tree, the assertions located in a block
    that is a proper descendant in the tree of a block of the CFG whose table entry is bottom; with
    an empty tree, all assertions when the entry of the entry block is bottom, none otherwise -/
theorem discharge_exact (o : FBOps A) (tree : List (Nat × List Nat)) (nodes : List Nat) (entry : Nat)
    (asm : AsmTable A) (asserts : List (Nat × Nat)) (kv : Nat × Nat) :
    kv ∈ (discharge o tree nodes entry asm ⟨asserts, []⟩).proved ↔
    kv ∈ asserts ∧
    ((tree ≠ [] ∧ ∃ n, n ∈ nodes ∧ botAt o asm n = true ∧ dominates tree (tree.length + 1) n kv.1 = true) ∨
     (tree = [] ∧ botAt o asm entry = true)) := by
  unfold discharge
  cases asserts with
  | nil => simp
  | cons a as =>
    rw [if_neg (by simp)]
    cases tree with
    | nil =>
      simp only [List.isEmpty_nil, Bool.not_true, Bool.false_eq_true, if_false, ne_eq,
        not_true_eq_false, false_and, false_or, true_and]
      by_cases hb : botAt o asm entry = true <;> simp [hb]
    | cons t ts =>
      rw [if_pos (show (!(t :: ts).isEmpty) = true from rfl), (dischargeFold_mem _ _ kv nodes _).1]
      simp

/-- `refine` keeps the invariant: meeting values that hold on the error-reaching states -/
theorem refineAll_cover (γ : A → State → Prop) (o : FBOps A) (p : Program) (Init : State → Prop)
    (hmeet : ∀ a b σ, γ a σ → γ b σ → γ (o.meet a b) σ) (nodes : List Nat) (old : AsmTable A)
    (bv : Nat → A) (hold : ErrCoverT p Init γ old) (hbv : ErrCover p Init γ bv) :
    ErrCoverT p Init γ (refineAll o nodes old bv).2 := by
  intro b a σ hb he
  simp only [refineAll] at hb
  split at hb
  · injection hb with hb
    rw [← hb]
    unfold refineNode
    cases ho : old b with
    | none => exact hbv b σ he
    | some ov => exact hmeet ov (bv b) σ (hold b ov σ ho he) (hbv b σ he)
  · cases hb

/-- the backward values computed from covering forward invariants cover the error-reaching
    states -/
theorem bwd_cover (γ : A → State → Prop) (x : FBCtx A) (p : Program) (Init : State → Prop)
    (hs : FBSound γ x p Init) (T : AsmTable A) (hT : ErrCoverT p Init γ T) :
    ErrCover p Init γ (x.bwd (x.fwd T)) :=
  fun b σ he => hs.bwd_sound T hT b σ (errArr_coFail p Init γ (x.fwd T) (hs.fwd_cover T hT) b σ he)

/-- a sound result: the invariants hold on the error-reaching states and the blocks of the
    discharged assertions cannot fail -/
def GoodResult (γ : A → State → Prop) (p : Program) (Init : State → Prop) (r : FBResult A) : Prop :=
  ErrCover p Init γ r.pre ∧ ∀ kv, kv ∈ r.proved → kv ∈ gatherAsserts p ∧ SafeBlock p Init kv.1

/-! ### one iteration and the loop

The three values an iteration computes, named, so that the proofs below speak of them and not of
the body of `fbIter`. -/

/-- `m_pre_invariants` after the forward pass of an iteration -/
def fbStored (x : FBCtx A) (iters : Nat) (asm : AsmTable A) (stored : Nat → A) : Nat → A :=
  if !x.params.useRefined && iters == 1 then x.fwd asm else stored

/-- what `get_pre` answers when the loop is left in this iteration -/
def fbPre (x : FBCtx A) (iters : Nat) (asm : AsmTable A) (stored : Nat → A) : Nat → A :=
  if x.params.useRefined then x.fwd asm else fbStored x iters asm stored

/-- `refined_assumptions` after the backward pass of an iteration -/
def fbAsm (x : FBCtx A) (p : Program) (asm : AsmTable A) : AsmTable A :=
  if (refineAll x.ops (blockIds p) asm (x.bwd (x.fwd asm))).1
  then (refineAll x.ops (blockIds p) asm (x.bwd (x.fwd asm))).2 else asm

/-- what one iteration can do: leave the loop with nothing discharged or with what
    `discharge_assertions` marks on the refined table, or — only while
    `iters <= max_refine_iterations` — go on with the refined table -/
theorem fbIter_elim {motive : FBStep A → Prop} (x : FBCtx A) (p : Program)
    (tree : List (Nat × List Nat)) (onlyFwd : Bool) (asserts : List (Nat × Nat)) (iters : Nat)
    (asm : AsmTable A) (stored : Nat → A)
    (hdone : ∀ pr, (pr = [] ∨ pr = (discharge x.ops tree (blockIds p) x.cfgEntry (fbAsm x p asm)
        ⟨asserts, []⟩).proved) → motive (.done ⟨fbPre x iters asm stored, pr, iters⟩))
    (hagain : iters ≤ x.params.maxRefine →
      motive (.again (fbAsm x p asm) (fbStored x iters asm stored))) :
    motive (fbIter x p tree onlyFwd asserts iters asm stored) := by
  unfold fbIter
  simp only
  -- `split` on a goal under `motive` is slow to check; the conditions are named instead
  by_cases h1 : (onlyFwd || asserts.isEmpty) = true
  · rw [if_pos h1]; exact hdone [] (Or.inl rfl)
  · rw [if_neg h1]
    by_cases h2 : (!(refineAll x.ops (blockIds p) asm (x.bwd (x.fwd asm))).1 ||
        decide (iters > x.params.maxRefine)) = true
    · rw [if_pos h2]; exact hdone _ (Or.inr rfl)
    · rw [if_neg h2]
      refine hagain (Nat.le_of_not_gt fun h => h2 ?_)
      rw [decide_eq_true h, Bool.or_true]

/-- the iteration run when `iters > max_refine_iterations` leaves the loop: the fallback of
    `fbLoop` for `left = 0` is never taken from `runFB` (there `left + iters = maxRefine + 1`) -/
theorem fbIter_done_of_limit (x : FBCtx A) (p : Program) (tree : List (Nat × List Nat)) (onlyFwd : Bool)
    (asserts : List (Nat × Nat)) (iters : Nat) (asm : AsmTable A) (stored : Nat → A)
    (h : iters > x.params.maxRefine) :
    ∃ r, fbIter x p tree onlyFwd asserts iters asm stored = .done r :=
  fbIter_elim (motive := fun s => ∃ r, s = .done r) x p tree onlyFwd asserts iters asm stored
    (fun _ _ => ⟨_, rfl⟩) (fun h' => absurd h (Nat.not_lt.2 h'))

/-- the dominator tree `run` builds -/
def fbTree (x : FBCtx A) (p : Program) : List (Nat × List Nat) :=
  if !(gatherAsserts p).isEmpty && !(!x.params.enabledBackward || !x.hasExit)
  then idomTree (cfgGraph p x.cfgEntry) else []

/-- what `run` may discharge with the table `T`: block `m` is a proper descendant, in the dominator
    tree rooted at `m_cfg.entry()`, of a block whose entry in `T` is bottom — or the entry of the
    root is bottom -/
def Discharges (x : FBCtx A) (p : Program) (T : AsmTable A) (m : Nat) : Prop :=
  (∃ n fuel, botAt x.ops T n = true ∧ dominates (idomTree (cfgGraph p x.cfgEntry)) fuel n m = true) ∨
  botAt x.ops T x.cfgEntry = true

theorem discharge_fbTree (x : FBCtx A) (p : Program) (T : AsmTable A) (kv : Nat × Nat)
    (h : kv ∈ (discharge x.ops (fbTree x p) (blockIds p) x.cfgEntry T ⟨gatherAsserts p, []⟩).proved) :
    kv ∈ gatherAsserts p ∧ Discharges x p T kv.1 := by
  obtain ⟨hin, hcase⟩ := (discharge_exact x.ops _ (blockIds p) x.cfgEntry T _ kv).1 h
  refine ⟨hin, ?_⟩
  rcases hcase with ⟨hne, n, _, hb, hd⟩ | ⟨_, hb⟩
  · unfold fbTree at hne hd
    split at hd
    · exact Or.inl ⟨n, _, hb, hd⟩
    · rw [if_neg ‹_›] at hne; exact absurd rfl hne
  · exact Or.inr hb

/-- why a discharged block is safe -/
theorem Discharges.safe {γ : A → State → Prop} {x : FBCtx A} {p : Program} {Init : State → Prop}
    (hbot : ∀ a σ, x.ops.isBottom a = true → ¬ γ a σ) (hce : x.cfgEntry = p.entry) {T : AsmTable A}
    (hT : ErrCoverT p Init γ T) {m : Nat} (h : Discharges x p T m) : SafeBlock p Init m := by
  rcases h with ⟨n, fuel, hb, hd⟩ | hb
  · rw [hce] at hd
    exact dominated_safe (botAt_no_errArr hbot hT hb) (dominates_sound (progGraph p) fuel n m hd)
  · rw [hce] at hb
    exact dominated_safe (botAt_no_errArr hbot hT hb) (dominates_entry (progGraph p) m)

/-- the loop of `run`: an invariant of the iterations that makes every exit satisfy `Q` makes
    the result satisfy `Q` (the round bound of the model is never hit: `left + iters` is
    `max_refine_iterations + 1`, and the iteration reached beyond the limit leaves the loop) -/
theorem runFB_rule (x : FBCtx A) (p : Program) (Inv : Nat → AsmTable A → (Nat → A) → Prop)
    (Q : FBResult A → Prop) (h0 : Inv 1 x.assumptions (fun _ => x.ops.top))
    (hdone : ∀ iters asm stored pr, Inv iters asm stored →
      (∀ kv, kv ∈ pr → kv ∈ gatherAsserts p ∧ Discharges x p (fbAsm x p asm) kv.1) →
      Q ⟨fbPre x iters asm stored, pr, iters⟩)
    (hagain : ∀ iters asm stored, Inv iters asm stored →
      Inv (iters + 1) (fbAsm x p asm) (fbStored x iters asm stored)) : Q (runFB x p) := by
  have hd : ∀ iters asm stored, Inv iters asm stored → ∀ pr,
      (pr = [] ∨ pr = (discharge x.ops (fbTree x p) (blockIds p) x.cfgEntry (fbAsm x p asm)
        ⟨gatherAsserts p, []⟩).proved) → Q ⟨fbPre x iters asm stored, pr, iters⟩ := by
    intro iters asm stored hI pr hpr
    refine hdone iters asm stored pr hI ?_
    rcases hpr with rfl | rfl
    · exact fun kv h => nomatch h
    · exact fun kv h => discharge_fbTree x p _ kv h
  suffices h : ∀ left iters asm stored, left + iters = x.params.maxRefine + 1 → Inv iters asm stored →
      Q (fbLoop x p (fbTree x p) (!x.params.enabledBackward || !x.hasExit) (gatherAsserts p)
        left iters asm stored) from h _ 1 _ _ rfl h0
  intro left
  induction left with
  | zero =>
    intro iters asm stored hl hI
    unfold fbLoop
    exact fbIter_elim (motive := fun s => Q (match s with | .done r => r | .again _ s' => ⟨s', [], iters⟩))
      x p _ _ _ iters asm stored (hd iters asm stored hI) (fun h => by omega)
  | succ left ih =>
    intro iters asm stored hl hI
    unfold fbLoop
    exact fbIter_elim (motive := fun s => Q (match s with
        | .done r => r
        | .again a s' => fbLoop x p (fbTree x p) (!x.params.enabledBackward || !x.hasExit)
            (gatherAsserts p) left (iters + 1) a s'))
      x p _ _ _ iters asm stored (hd iters asm stored hI)
      (fun _ => ih _ _ _ (by omega) (hagain iters asm stored hI))

section cover
variable {γ : A → State → Prop} {x : FBCtx A} {p : Program} {Init : State → Prop}
  (hs : FBSound γ x p Init) {asm : AsmTable A} (hasm : ErrCoverT p Init γ asm)
include hs hasm

theorem fbStored_cover {stored : Nat → A} (hst : ErrCover p Init γ stored) (iters : Nat) :
    ErrCover p Init γ (fbStored x iters asm stored) := by
  unfold fbStored
  split
  · exact hs.fwd_cover asm hasm
  · exact hst

theorem fbPre_cover {stored : Nat → A} (hst : ErrCover p Init γ stored) (iters : Nat) :
    ErrCover p Init γ (fbPre x iters asm stored) := by
  unfold fbPre
  split
  · exact hs.fwd_cover asm hasm
  · exact fbStored_cover hs hasm hst iters

theorem fbAsm_cover : ErrCoverT p Init γ (fbAsm x p asm) := by
  unfold fbAsm
  split
  · exact refineAll_cover γ x.ops p Init hs.meet_sound _ asm _ hasm (bwd_cover γ x p Init hs asm hasm)
  · exact hasm
end cover

theorem runFB_good (γ : A → State → Prop) (x : FBCtx A) (p : Program) (Init : State → Prop)
    (hs : FBSound γ x p Init) (hce : x.cfgEntry = p.entry) : GoodResult γ p Init (runFB x p) :=
  runFB_rule x p (fun _ asm stored => ErrCoverT p Init γ asm ∧ ErrCover p Init γ stored) _
    ⟨hs.asm_cover, fun _ σ _ => hs.top_sound σ⟩
    (fun iters _ _ _ h hpr => ⟨fbPre_cover hs h.1 h.2 iters, fun kv hk =>
      ⟨(hpr kv hk).1, (hpr kv hk).2.safe hs.isBottom_sound hce (fbAsm_cover hs h.1)⟩⟩)
    (fun iters _ _ h => ⟨fbAsm_cover hs h.1, fbStored_cover hs h.1 h.2 iters⟩)

/-- the first iteration runs with the caller's assumptions; from the second on the stored
    invariants are those of the first forward pass -/
def FirstStored (x : FBCtx A) (iters : Nat) (asm : AsmTable A) (stored : Nat → A) : Prop :=
  (iters = 1 ∧ asm = x.assumptions) ∨ (1 < iters ∧ stored = x.fwd x.assumptions)

/-- `use_refined_invariants = false`: `get_pre` answers with the invariants of the first forward
    pass, run with the caller's assumptions -/
theorem runFB_pre_first (x : FBCtx A) (p : Program) (hu : x.params.useRefined = false) :
    (runFB x p).pre = x.fwd x.assumptions := by
  have hst : ∀ {iters asm stored}, FirstStored x iters asm stored →
      fbStored x iters asm stored = x.fwd x.assumptions := by
    intro iters asm stored h
    unfold fbStored
    rcases h with ⟨rfl, rfl⟩ | ⟨h1, rfl⟩
    · simp [hu]
    · rw [if_neg (by simp; omega)]
  refine runFB_rule x p (FirstStored x) (fun r => r.pre = x.fwd x.assumptions) (Or.inl ⟨rfl, rfl⟩)
    (fun iters asm stored pr h _ => ?_) (fun iters asm stored h => Or.inr ⟨?_, hst h⟩)
  · show fbPre x iters asm stored = _
    unfold fbPre
    rw [hu, if_neg Bool.false_ne_true, hst h]
  · rcases h with ⟨h1, _⟩ | ⟨h1, _⟩ <;> omega

/-- the checker reads only the discharged set and the invariant of the block from a result -/
theorem checkBlockFB_of {A : Type} (D : CheckDom A) (tr : Stmt → A → A) (p : Program)
    (r : FBResult A) (b : Nat) {pr : List (Nat × Nat)} {a : A} (h1 : r.proved = pr) (h2 : r.pre b = a) :
    checkBlockFB D tr p r b =
      checkStmtsFB D tr (fun i => pr.contains (b, i)) 0 (p.block b).stmts a := by
  subst h1 h2; rfl

end Analysis
end Crab
