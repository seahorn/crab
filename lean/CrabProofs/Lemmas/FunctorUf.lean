import CrabModel.Dom.Functors.Uf
import CrabProofs.Lemmas.FunctorBase

/-!
`uf_domain` (`CrabModel/Dom/Functors/Uf.lean`): concretisation, well-formedness (every term
variable of the map is below `m_free_var`), the specification of calls that allocate fresh term
variables (`Yields`), `build_term`, soundness of `x := e`, what soundness of `-=`, `forget`,
`project`, `rename`, `expand` rests on (`γ_of_sub`, `forget_val`, `renameGo_sound`; the theorems
themselves are `C03.uf_forget_sound` … `C03.uf_expand_sound` in `Props/C03Functors2.lean`), that all
of them keep the term variables below `m_free_var` (`*_wf`), and the value of `build_linexpr` under
the arithmetic reading of `+` and `*`.
-/
namespace Crab
namespace Dom
namespace Fct
namespace Uf
set_option linter.unusedSectionVars false

variable {V F : Type} [DecidableEq V] [DecidableEq F]

def Ext (n : Nat) (ρ ρ' : Nat → Int) : Prop := ∀ m, m < n → ρ' m = ρ m

theorem Ext.refl (n : Nat) (ρ : Nat → Int) : Ext n ρ ρ := fun _ _ => rfl
theorem Ext.trans {n n' : Nat} {ρ ρ' ρ'' : Nat → Int} (h1 : Ext n ρ ρ') (h2 : Ext n' ρ' ρ'') (hn : n ≤ n') :
    Ext n ρ ρ'' := fun m hm => by rw [h2 m (Nat.lt_of_lt_of_le hm hn), h1 m hm]
theorem Ext.mono {n n' : Nat} {ρ ρ' : Nat → Int} (h : Ext n' ρ ρ') (hn : n ≤ n') : Ext n ρ ρ' :=
  fun m hm => h m (Nat.lt_of_lt_of_le hm hn)

def upd (ρ : Nat → Int) (n : Nat) (k : Int) : Nat → Int := fun m => if m = n then k else ρ m

theorem upd_ext (ρ : Nat → Int) (n : Nat) (k : Int) : Ext n ρ (upd ρ n k) := by
  intro m hm; simp [upd, Nat.ne_of_lt hm]

theorem upd_self (ρ : Nat → Int) (n : Nat) (k : Int) : upd ρ n k n = k := by simp [upd]

namespace Term
variable (I : F → List Int → Int)

/-- induction over terms and their argument lists together (`Term` is nested through `List`) -/
theorem ind {P : Term F → Prop} {Q : List (Term F) → Prop}
    (var : ∀ n, P (.var n)) (const : ∀ k, P (.const k)) (app : ∀ f ts, Q ts → P (.app f ts))
    (nil : Q []) (cons : ∀ t ts, P t → Q ts → Q (t :: ts)) : (∀ t, P t) ∧ ∀ ts, Q ts :=
  ⟨fun t => Term.rec (motive_1 := P) (motive_2 := Q) var const app nil cons t,
   fun ts => Term.rec_1 (motive_1 := P) (motive_2 := Q) var const app nil cons ts⟩

theorem eval_ext_both {ρ ρ' : Nat → Int} {n : Nat} (h : Ext n ρ ρ') :
    (∀ t : Term F, bounded n t = true → eval I ρ' t = eval I ρ t) ∧
    (∀ ts : List (Term F), boundedL n ts = true → evalL I ρ' ts = evalL I ρ ts) := by
  refine ind ?_ ?_ ?_ ?_ ?_
  · intro m hb; simp [bounded] at hb; simp [eval, h m hb]
  · intro k _; simp [eval]
  · intro f args ih hb; simp [bounded] at hb; simp [eval, ih hb]
  · intro _; rfl
  · intro t ts ih1 ih2 hb
    simp [boundedL] at hb
    simp [evalL, ih1 hb.1, ih2 hb.2]

theorem eval_ext {ρ ρ' : Nat → Int} {n : Nat} (h : Ext n ρ ρ') (t : Term F) :
    bounded n t = true → eval I ρ' t = eval I ρ t := (eval_ext_both I h).1 t
theorem evalL_ext {ρ ρ' : Nat → Int} {n : Nat} (h : Ext n ρ ρ') (ts : List (Term F)) :
    boundedL n ts = true → evalL I ρ' ts = evalL I ρ ts := (eval_ext_both I h).2 ts

theorem bounded_mono_both {n n' : Nat} (hn : n ≤ n') :
    (∀ t : Term F, bounded n t = true → bounded n' t = true) ∧
    (∀ ts : List (Term F), boundedL n ts = true → boundedL n' ts = true) := by
  refine ind ?_ ?_ ?_ ?_ ?_
  · intro m hb; simp [bounded] at hb ⊢; omega
  · intro k _; simp [bounded]
  · intro f args ih hb; simp [bounded] at hb ⊢; exact ih hb
  · intro _; rfl
  · intro t ts ih1 ih2 hb
    simp [boundedL] at hb ⊢
    exact ⟨ih1 hb.1, ih2 hb.2⟩

theorem bounded_mono {n n' : Nat} (hn : n ≤ n') (t : Term F) : bounded n t = true → bounded n' t = true :=
  (bounded_mono_both hn).1 t
theorem boundedL_mono {n n' : Nat} (hn : n ≤ n') (ts : List (Term F)) :
    boundedL n ts = true → boundedL n' ts = true := (bounded_mono_both hn).2 ts

theorem evalL_length (ρ : Nat → Int) : (ts : List (Term F)) → (evalL I ρ ts).length = ts.length
  | [] => rfl
  | t :: ts => by simp [evalL, evalL_length ρ ts]

end Term

theorem evalL_eq_map (I : F → List Int → Int) (ρ : Nat → Int) :
    (ts : List (Term F)) → Term.evalL I ρ ts = ts.map (Term.eval I ρ)
  | [] => rfl
  | t :: ts => by simp [Term.evalL, evalL_eq_map I ρ ts]

theorem look_mem {K A : Type} [DecidableEq K] {m : List (K × A)} {k : K} {v : A} (h : look m k = some v) :
    (k, v) ∈ m := by
  induction m with
  | nil => simp [look] at h
  | cons p r ih =>
    obtain ⟨k', v'⟩ := p
    simp only [look] at h
    split at h
    · rename_i he; cases h; subst he; exact List.mem_cons_self
    · exact List.mem_cons_of_mem _ (ih h)

theorem look_none {K A : Type} [DecidableEq K] {m : List (K × A)} {k : K} (h : look m k = none) :
    ∀ p ∈ m, p.1 ≠ k := by
  induction m with
  | nil => intro p hp; simp at hp
  | cons q r ih =>
    obtain ⟨k', v'⟩ := q
    simp only [look] at h
    split at h
    · cases h
    · rename_i hne
      intro p hp
      rcases List.mem_cons.1 hp with rfl | hp
      · exact hne
      · exact ih h p hp

theorem look_cons_ne {K A : Type} [DecidableEq K] (m : List (K × A)) {k k' : K} (v : A) (h : k' ≠ k) :
    look ((k', v) :: m) k = look m k := by simp [look, h]

theorem look_cons_self {K A : Type} [DecidableEq K] (m : List (K × A)) (k : K) (v : A) :
    look ((k, v) :: m) k = some v := by simp [look]

/-! ### computations that allocate fresh term variables

`generalize`, `copy_term` and `build_dag_term` thread a table state `σ` (with its next free term
variable `nx` and an invariant `J` that ties it to a valuation) and return a term.  `Yields` is what
one call gives, `YieldsL` what a run over a list of arguments gives; the lemmas are the ways such
calls are put together. -/
section yields
variable (I : F → List Int → Int) {σ : Type} (J : σ → (Nat → Int) → Prop) (nx : σ → Nat)

def Yields (st : σ) (ρ : Nat → Int) (r : Term F × σ) (v : Int) : Prop :=
  ∃ ρ', Ext (nx st) ρ ρ' ∧ J r.2 ρ' ∧ r.1.bounded (nx r.2) = true ∧ r.1.eval I ρ' = v ∧ nx st ≤ nx r.2

def YieldsL (st : σ) (ρ : Nat → Int) (r : List (Term F) × σ) (vs : List Int) : Prop :=
  ∃ ρ', Ext (nx st) ρ ρ' ∧ J r.2 ρ' ∧ Term.boundedL (nx r.2) r.1 = true ∧ Term.evalL I ρ' r.1 = vs ∧
    nx st ≤ nx r.2

/-- a memo from keys to bounded terms with the value `w` of the key -/
def MemoOK {K : Type} (w : K → Int) (n : Nat) (memo : List (K × Term F)) (ρ : Nat → Int) : Prop :=
  ∀ e ∈ memo, e.2.bounded n = true ∧ e.2.eval I ρ = w e.1

variable {I J nx} {st : σ} {ρ : Nat → Int}

/-- no new term variable: a known term, the table possibly extended -/
theorem Yields.ret {t : Term F} {v : Int} (st' : σ) (hn : nx st ≤ nx st') (hJ : J st' ρ)
    (hb : t.bounded (nx st') = true) (he : t.eval I ρ = v) : Yields I J nx st ρ (t, st') v :=
  ⟨ρ, Ext.refl _ _, hJ, hb, he, hn⟩

theorem Yields.fresh (st' : σ) (v : Int) (hn : nx st' = nx st + 1) (hJ : J st' (upd ρ (nx st) v)) :
    Yields I J nx st ρ (.var (nx st), st') v :=
  ⟨_, upd_ext _ _ _, hJ, by simp [Term.bounded, hn], by simp [Term.eval, upd_self], by simp [hn]⟩

theorem YieldsL.nil (hJ : J st ρ) : YieldsL I J nx st ρ ([], st) [] := ⟨ρ, Ext.refl _ _, hJ, rfl, rfl, Nat.le_refl _⟩

theorem YieldsL.cons {r1 : Term F × σ} {v : Int} {r2 : List (Term F) × σ} {vs : List Int}
    (h1 : Yields I J nx st ρ r1 v) (h2 : ∀ ρ1, J r1.2 ρ1 → YieldsL I J nx r1.2 ρ1 r2 vs) :
    YieldsL I J nx st ρ (r1.1 :: r2.1, r2.2) (v :: vs) := by
  obtain ⟨ρ1, a1, a2, a3, a4, a5⟩ := h1
  obtain ⟨ρ2, b1, b2, b3, b4, b5⟩ := h2 ρ1 a2
  refine ⟨ρ2, Ext.trans a1 b1 a5, b2, ?_, ?_, Nat.le_trans a5 b5⟩
  · simp only [Term.boundedL, Bool.and_eq_true]; exact ⟨Term.bounded_mono b5 _ a3, b3⟩
  · simp only [Term.evalL]; rw [b4, Term.eval_ext I b1 _ a3, a4]

/-- an application of the rebuilt arguments; `st'` is the table with the new node recorded -/
theorem YieldsL.app {r : List (Term F) × σ} {vs : List Int} (h : YieldsL I J nx st ρ r vs) (f : F) (st' : σ)
    (hn : nx st' = nx r.2)
    (hJ : ∀ ρ', J r.2 ρ' → (Term.app f r.1).bounded (nx r.2) = true → (Term.app f r.1).eval I ρ' = I f vs → J st' ρ') :
    Yields I J nx st ρ (.app f r.1, st') (I f vs) := by
  obtain ⟨ρ', e1, e2, e3, e4, e5⟩ := h
  have hv : (Term.app f r.1).eval I ρ' = I f vs := by simp only [Term.eval]; rw [e4]
  exact ⟨ρ', e1, hJ ρ' e2 e3 hv, hn ▸ e3, hv, hn ▸ e5⟩

def thread {α : Type} (g : α → σ → Term F × σ) : List α → σ → List (Term F) × σ
  | [], st => ([], st)
  | a :: as, st => ((g a st).1 :: (thread g as (g a st).2).1, (thread g as (g a st).2).2)

theorem YieldsL.thread {α : Type} {g : α → σ → Term F × σ} {val : α → Int}
    (hg : ∀ a st ρ, J st ρ → Yields I J nx st ρ (g a st) (val a)) :
    (as : List α) → (st : σ) → (ρ : Nat → Int) → J st ρ → YieldsL I J nx st ρ (thread g as st) (as.map val)
  | [], _, _, h => .nil h
  | a :: as, st, ρ, h => .cons (hg a st ρ h) (fun ρ1 h1 => YieldsL.thread hg as _ ρ1 h1)

/-- the same loop written with an accumulator -/
theorem foldl_thread {α : Type} (g : α → σ → Term F × σ) : (as : List α) → (acc : List (Term F)) → (st : σ) →
    as.foldl (fun acc c => let x := g c acc.2; (acc.1 ++ [x.1], x.2)) (acc, st) =
      (acc ++ (thread g as st).1, (thread g as st).2)
  | [], acc, st => by simp [thread]
  | a :: as, acc, st => by simp [thread, foldl_thread g as]

variable {K : Type} {w : K → Int} {n : Nat} {memo : List (K × Term F)}

theorem MemoOK.ext {n' : Nat} {ρ' : Nat → Int} (h : MemoOK I w n memo ρ) (he : Ext n ρ ρ') (hn : n ≤ n') :
    MemoOK I w n' memo ρ' :=
  fun e he' => ⟨Term.bounded_mono hn _ (h e he').1, by rw [Term.eval_ext I he _ (h e he').1]; exact (h e he').2⟩

theorem MemoOK.cons {k : K} {t : Term F} (h : MemoOK I w n memo ρ) (hb : t.bounded n = true)
    (he : t.eval I ρ = w k) : MemoOK I w n ((k, t) :: memo) ρ := List.forall_mem_cons.2 ⟨⟨hb, he⟩, h⟩

theorem MemoOK.fresh (h : MemoOK I w n memo ρ) (k : K) :
    MemoOK I w (n + 1) ((k, .var n) :: memo) (upd ρ n (w k)) :=
  (h.ext (upd_ext _ _ _) (Nat.le_succ _)).cons (by simp [Term.bounded]) (by simp [Term.eval, upd_self])

end yields


/-- `ρ` explains the state `s`: every tracked variable has the value of its term -/
def Mod (I : F → List Int → Int) (ρ : Nat → Int) (m : List (V × Term F)) (s : St V) : Prop :=
  ∀ p ∈ m, s p.1 = p.2.eval I ρ

def MapB (n : Nat) (m : List (V × Term F)) : Prop := ∀ p ∈ m, p.2.bounded n = true

def UVal.WF (u : UVal V F) : Prop := MapB u.next u.map

def UF.WF : UF V F → Prop
  | .bot => True
  | .val u => u.WF

def UF.γ (I : F → List Int → Int) : UF V F → St V → Prop
  | .bot, _ => False
  | .val u, s => ∃ ρ, Mod I ρ u.map s

theorem mod_ext {I : F → List Int → Int} {ρ ρ' : Nat → Int} {n : Nat} {m : List (V × Term F)} {s : St V}
    (h : Ext n ρ ρ') (hb : MapB n m) (hm : Mod I ρ m s) : Mod I ρ' m s :=
  fun p hp => by rw [Term.eval_ext I h p.2 (hb p hp)]; exact hm p hp

theorem mapB_mono {n n' : Nat} (hn : n ≤ n') {m : List (V × Term F)} (h : MapB n m) : MapB n' m :=
  fun p hp => Term.bounded_mono hn p.2 (h p hp)

theorem mem_erase {m : List (V × Term F)} {x : V} {p : V × Term F} (h : p ∈ UVal.erase m x) :
    p ∈ m ∧ p.1 ≠ x := by
  simp only [UVal.erase, List.mem_filter, decide_eq_true_eq] at h
  exact h

theorem mapB_erase {n : Nat} {m : List (V × Term F)} (x : V) (h : MapB n m) : MapB n (UVal.erase m x) :=
  fun p hp => h p (mem_erase hp).1

/-! ### `term_of_var`, `build_term` -/

theorem termOfVar_next (u : UVal V F) (v : V) : u.next ≤ (u.termOfVar v).2.next := by
  unfold UVal.termOfVar; split <;> simp

theorem termOfVar_wf {u : UVal V F} (v : V) (h : u.WF) :
    (u.termOfVar v).2.WF ∧ (u.termOfVar v).1.bounded (u.termOfVar v).2.next = true := by
  unfold UVal.termOfVar
  split
  · rename_i t ht
    exact ⟨h, h _ (look_mem ht)⟩
  · exact ⟨List.forall_mem_cons.2 ⟨by simp [Term.bounded], mapB_mono (Nat.le_succ _) h⟩, by simp [Term.bounded]⟩

theorem termOfVar_spec (I : F → List Int → Int) {u : UVal V F} (v : V) (h : u.WF) {ρ : Nat → Int} {s : St V}
    (hm : Mod I ρ u.map s) :
    ∃ ρ', Ext u.next ρ ρ' ∧ Mod I ρ' (u.termOfVar v).2.map s ∧ (u.termOfVar v).1.eval I ρ' = s v := by
  unfold UVal.termOfVar
  split
  · rename_i t ht
    exact ⟨ρ, Ext.refl _ _, hm, (hm _ (look_mem ht)).symm⟩
  · exact ⟨upd ρ u.next (s v), upd_ext _ _ _, List.forall_mem_cons.2 ⟨by simp [Term.eval, upd_self],
      mod_ext (upd_ext _ _ _) h hm⟩, by simp [Term.eval, upd_self]⟩

theorem Exp.ind {P : Exp V F → Prop} {Q : List (Exp V F) → Prop}
    (var : ∀ v, P (.var v)) (const : ∀ k, P (.const k)) (app : ∀ f es, Q es → P (.app f es))
    (nil : Q []) (cons : ∀ e es, P e → Q es → Q (e :: es)) : (∀ e, P e) ∧ ∀ es, Q es :=
  ⟨fun e => Exp.rec (motive_1 := P) (motive_2 := Q) var const app nil cons e,
   fun es => Exp.rec_1 (motive_1 := P) (motive_2 := Q) var const app nil cons es⟩

theorem build_wf_both :
    (∀ (e : Exp V F) {u : UVal V F}, u.WF →
      (e.build u).2.WF ∧ (e.build u).1.bounded (e.build u).2.next = true ∧ u.next ≤ (e.build u).2.next) ∧
    (∀ (es : List (Exp V F)) {u : UVal V F}, u.WF →
      (Exp.buildL es u).2.WF ∧ Term.boundedL (Exp.buildL es u).2.next (Exp.buildL es u).1 = true ∧
        u.next ≤ (Exp.buildL es u).2.next) := by
  refine Exp.ind ?_ ?_ ?_ ?_ ?_
  · intro v u h
    simp only [Exp.build]
    exact ⟨(termOfVar_wf v h).1, (termOfVar_wf v h).2, termOfVar_next u v⟩
  · intro k u h; simp only [Exp.build]; exact ⟨h, by simp [Term.bounded], Nat.le_refl _⟩
  · intro f args ih u h
    simp only [Exp.build]
    have := ih h
    exact ⟨this.1, by simp only [Term.bounded]; exact this.2.1, this.2.2⟩
  · intro u h; simp only [Exp.buildL]; exact ⟨h, rfl, Nat.le_refl _⟩
  · intro e es ih1 ih2 u h
    simp only [Exp.buildL]
    have h1 := ih1 h
    have h2 := ih2 h1.1
    refine ⟨h2.1, ?_, Nat.le_trans h1.2.2 h2.2.2⟩
    simp only [Term.boundedL, Bool.and_eq_true]
    exact ⟨Term.bounded_mono h2.2.2 _ h1.2.1, h2.2.1⟩

theorem build_wf : (e : Exp V F) → {u : UVal V F} → u.WF →
    (e.build u).2.WF ∧ (e.build u).1.bounded (e.build u).2.next = true ∧ u.next ≤ (e.build u).2.next :=
  build_wf_both.1
theorem buildL_wf : (es : List (Exp V F)) → {u : UVal V F} → u.WF →
    (Exp.buildL es u).2.WF ∧ Term.boundedL (Exp.buildL es u).2.next (Exp.buildL es u).1 = true ∧
      u.next ≤ (Exp.buildL es u).2.next :=
  build_wf_both.2

theorem build_spec_both (I : F → List Int → Int) :
    (∀ (e : Exp V F) {u : UVal V F}, u.WF → ∀ {ρ : Nat → Int} {s : St V}, Mod I ρ u.map s →
      ∃ ρ', Ext u.next ρ ρ' ∧ Mod I ρ' (e.build u).2.map s ∧ (e.build u).1.eval I ρ' = e.eval I s) ∧
    (∀ (es : List (Exp V F)) {u : UVal V F}, u.WF → ∀ {ρ : Nat → Int} {s : St V}, Mod I ρ u.map s →
      ∃ ρ', Ext u.next ρ ρ' ∧ Mod I ρ' (Exp.buildL es u).2.map s ∧
        Term.evalL I ρ' (Exp.buildL es u).1 = Exp.evalL I s es) := by
  refine Exp.ind ?_ ?_ ?_ ?_ ?_
  · intro v u h ρ s hm
    simp only [Exp.build, Exp.eval]; exact termOfVar_spec I v h hm
  · intro k u h ρ s hm
    simp only [Exp.build, Exp.eval, Term.eval]; exact ⟨ρ, Ext.refl _ _, hm, trivial⟩
  · intro f args ih u h ρ s hm
    simp only [Exp.build, Exp.eval, Term.eval]
    obtain ⟨ρ', h1, h2, h3⟩ := ih h hm
    exact ⟨ρ', h1, h2, by rw [h3]⟩
  · intro u h ρ s hm
    simp only [Exp.buildL, Exp.evalL, Term.evalL]; exact ⟨ρ, Ext.refl _ _, hm, trivial⟩
  · intro e es ih1 ih2 u h ρ s hm
    simp only [Exp.buildL, Exp.evalL, Term.evalL]
    obtain ⟨ρ1, a1, a2, a3⟩ := ih1 h hm
    have w1 := build_wf e h
    obtain ⟨ρ2, b1, b2, b3⟩ := ih2 w1.1 a2
    refine ⟨ρ2, Ext.trans a1 b1 w1.2.2, b2, ?_⟩
    rw [b3, Term.eval_ext I b1 _ w1.2.1, a3]

theorem buildL_spec (I : F → List Int → Int) : (es : List (Exp V F)) → {u : UVal V F} → u.WF →
    {ρ : Nat → Int} → {s : St V} → Mod I ρ u.map s →
    ∃ ρ', Ext u.next ρ ρ' ∧ Mod I ρ' (Exp.buildL es u).2.map s ∧
      Term.evalL I ρ' (Exp.buildL es u).1 = Exp.evalL I s es :=
  fun es _ h _ _ hm => (build_spec_both I).2 es h hm


section ops
variable (I : F → List Int → Int)

theorem γ_top (s : St V) : UF.γ I (UF.top : UF V F) s := ⟨fun _ => 0, fun p hp => by simp at hp⟩

theorem wf_top : (UF.top : UF V F).WF := fun p hp => by simp at hp

theorem γ_of_isTop {a : UF V F} (h : UF.isTop a = true) (s : St V) : UF.γ I a s := by
  match a with
  | .bot => simp [UF.isTop] at h
  | .val u =>
    simp only [UF.isTop, List.isEmpty_iff] at h
    exact ⟨fun _ => 0, fun p hp => by rw [h] at hp; simp at hp⟩

theorem not_γ_of_isBottom {a : UF V F} (h : UF.isBottom a = true) (s : St V) : ¬ UF.γ I a s := by
  match a with
  | .bot => exact fun h => h
  | .val u => simp [UF.isBottom] at h

/-! ### `x := e` -/

theorem assign_sound (x : V) (e : Exp V F) {a : UF V F} (hw : a.WF) (s : St V) (hg : UF.γ I a s) :
    UF.γ I (UF.assign x e a) (s.set x (e.eval I s)) := by
  match a with
  | .bot => exact hg
  | .val u =>
    obtain ⟨ρ, hm⟩ := hg
    obtain ⟨ρ', _, h2, h3⟩ := (build_spec_both I).1 e hw hm
    refine ⟨ρ', List.forall_mem_cons.2 ⟨by simp [St.set, h3], fun p hp => ?_⟩⟩
    simp only [St.set, (mem_erase hp).2, if_false]
    exact h2 p (mem_erase hp).1

theorem assign_wf (x : V) (e : Exp V F) {a : UF V F} (hw : a.WF) : (UF.assign x e a).WF := by
  match a with
  | .bot => trivial
  | .val u =>
    exact List.forall_mem_cons.2 ⟨(build_wf e hw).2.1, mapB_erase x (build_wf e hw).1⟩

/-! ### `-=`, `forget`, `project` -/

/-- a value that tracks part of the map of `u` (same terms, no newer term variable) keeps every
    state that agrees with a state of `u` on the variables it still tracks -/
theorem γ_of_sub {u u' : UVal V F} {s s' : St V} (h : ∀ p ∈ u'.map, p ∈ u.map ∧ s' p.1 = s p.1)
    (hg : UF.γ I (.val u) s) : UF.γ I (.val u') s' :=
  hg.elim fun ρ hm => ⟨ρ, fun p hp => (h p hp).2 ▸ hm p (h p hp).1⟩

theorem wf_of_sub {u u' : UVal V F} (hn : u.next ≤ u'.next) (h : ∀ p ∈ u'.map, p ∈ u.map) (hw : u.WF) : u'.WF :=
  fun p hp => Term.bounded_mono hn _ (hw p (h p hp))

theorem forgetVar_wf (x : V) {a : UF V F} (hw : a.WF) : (UF.forgetVar x a).WF := by
  match a with
  | .bot => trivial
  | .val u => exact mapB_erase x hw

theorem foldl_forgetVar (xs : List V) (u : UVal V F) :
    xs.foldl (fun acc x => UF.forgetVar x acc) (.val u) =
      .val ⟨u.next, u.map.filter (fun p => decide (p.1 ∉ xs))⟩ := by
  induction xs generalizing u with
  | nil =>
    obtain ⟨n, m⟩ := u
    simp only [List.foldl_nil, List.not_mem_nil, not_false_eq_true, decide_true]
    rw [List.filter_eq_self.2 (fun _ _ => rfl)]
  | cons x xs ih =>
    rw [List.foldl_cons]
    show xs.foldl _ (UF.val ⟨u.next, UVal.erase u.map x⟩) = _
    rw [ih]
    have : (UVal.erase u.map x).filter (fun p => decide (p.1 ∉ xs)) =
        u.map.filter (fun p => decide (p.1 ∉ x :: xs)) := by
      simp only [UVal.erase, List.filter_filter]
      apply List.filter_congr
      intro p _
      by_cases h1 : p.1 = x <;> by_cases h2 : p.1 ∈ xs <;> simp [h1, h2]
    rw [this]

/-- `forget(variables)` erases them from the map (also on top, where there is nothing to erase) -/
theorem forget_val (xs : List V) (u : UVal V F) :
    UF.forget xs (.val u) = .val ⟨u.next, u.map.filter (fun p => decide (p.1 ∉ xs))⟩ := by
  unfold UF.forget
  split
  · rename_i hc
    obtain ⟨n, m⟩ := u
    have hm : m = [] := by simpa [UF.isBottom, UF.isTop] using hc
    rw [hm]; rfl
  · exact foldl_forgetVar xs u

theorem forget_wf (xs : List V) {a : UF V F} (hw : a.WF) : (UF.forget xs a).WF := by
  match a with
  | .bot => exact hw
  | .val u => rw [forget_val]; exact wf_of_sub (u := u) (Nat.le_refl _) (fun p hp => (List.mem_filter.1 hp).1) hw

theorem project_wf (xs : List V) {a : UF V F} (hw : a.WF) : (UF.project xs a).WF := by
  refine binop_cases UF.WF (fun _ => hw) (fun _ _ => wf_top) fun _ _ => ?_
  match a with
  | .bot => trivial
  | .val u => exact forget_wf _ hw

/-! ### `rename`, `expand` -/

theorem renameOne_sound {u u' : UVal V F} {p : V × V} (h : UF.renameOne u p = some u') {ρ : Nat → Int}
    {s s' : St V} (hm : Mod I ρ u.map s) (hr : UF.Ren1 p s s') : Mod I ρ u'.map s' := by
  unfold UF.renameOne at h
  unfold UF.Ren1 at hr
  split at h
  · rename_i he
    cases h
    rw [if_pos he] at hr; rw [hr]; exact hm
  · rename_i hne
    rw [if_neg hne] at hr
    split at h
    · cases h
    · rename_i hn
      have hn' : look u.map p.2 = none := by
        cases hl : look u.map p.2 with
        | none => rfl
        | some t => rw [hl] at hn; simp at hn
      have hk := look_none hn'
      split at h
      · rename_i t ht
        cases h
        refine List.forall_mem_cons.2 ⟨hr.1.trans (hm (p.1, t) (look_mem ht)), fun q hq => ?_⟩
        rw [hr.2 q.1 (mem_erase hq).2 (hk q (mem_erase hq).1)]
        exact hm q (mem_erase hq).1
      · rename_i hl
        cases h
        intro q hq
        rw [hr.2 q.1 (look_none hl q hq) (hk q hq)]
        exact hm q hq

theorem renameOne_wf {u u' : UVal V F} {p : V × V} (h : UF.renameOne u p = some u') (hw : u.WF) : u'.WF := by
  unfold UF.renameOne at h
  split at h
  · cases h; exact hw
  · split at h
    · cases h
    · split at h
      · rename_i t ht
        cases h
        exact List.forall_mem_cons.2 ⟨hw (p.1, t) (look_mem ht), mapB_erase _ hw⟩
      · cases h; exact hw

theorem renameGo_sound (ps : List (V × V)) {u u' : UVal V F} (h : UF.renameGo ps u = some u')
    {ρ : Nat → Int} {s s' : St V} (hm : Mod I ρ u.map s) (hr : UF.RenRel ps s s') : Mod I ρ u'.map s' := by
  induction ps generalizing u s with
  | nil => simp only [UF.renameGo] at h; cases h; rw [show s' = s from hr]; exact hm
  | cons p ps ih =>
    simp only [UF.renameGo] at h
    obtain ⟨s1, h1, h2⟩ := hr
    split at h
    · rename_i u1 hu1
      exact ih h (renameOne_sound I hu1 hm h1) h2
    · cases h

theorem renameGo_wf (ps : List (V × V)) {u u' : UVal V F} (h : UF.renameGo ps u = some u') (hw : u.WF) :
    u'.WF := by
  induction ps generalizing u with
  | nil => simp only [UF.renameGo] at h; cases h; exact hw
  | cons p ps ih =>
    simp only [UF.renameGo] at h
    split at h
    · rename_i u1 hu1; exact ih h (renameOne_wf hu1 hw)
    · cases h

theorem rename_wf (ps : List (V × V)) {a a' : UF V F} (h : UF.rename ps a = some a') (hw : a.WF) : a'.WF := by
  unfold UF.rename at h
  split at h
  · cases h; exact hw
  · match a with
    | .bot => cases h; trivial
    | .val u =>
      simp only [Option.map_eq_some_iff] at h
      obtain ⟨u', hu', rfl⟩ := h
      exact renameGo_wf ps hu' hw

theorem expand_wf (x y : V) {a : UF V F} (hw : a.WF) : (UF.expand x y a).WF := by
  unfold UF.expand
  split
  · exact hw
  · exact assign_wf y _ hw

end ops

/-! ### `build_linexpr` under the arithmetic reading -/

/-- `c + Σ aᵢ·s(xᵢ)` -/
def linVal (s : St V) (c : Int) (ts : List (Int × V)) : Int := ts.foldl (fun acc p => acc + p.1 * s p.2) c

theorem eval_linTerm (I : F → List Int → Int) (mul : F) (hmul : ∀ a b, I mul [a, b] = a * b) (s : St V)
    (p : Int × V) : (Exp.linTerm mul p).eval I s = p.1 * s p.2 := by
  unfold Exp.linTerm
  split
  · rename_i h; simp [Exp.eval, h]
  · simp [Exp.eval, Exp.evalL, hmul]

theorem eval_linFold (I : F → List Int → Int) (add mul : F) (hadd : ∀ a b, I add [a, b] = a + b)
    (hmul : ∀ a b, I mul [a, b] = a * b) (s : St V) (ts : List (Int × V)) (e : Exp V F) :
    (ts.foldl (fun t q => Exp.app add [t, Exp.linTerm mul q]) e).eval I s = linVal s (e.eval I s) ts := by
  induction ts generalizing e with
  | nil => rfl
  | cons p ps ih =>
    simp only [List.foldl_cons, linVal]
    rw [ih]
    simp [Exp.eval, Exp.evalL, hadd, eval_linTerm I mul hmul, linVal]

theorem eval_ofLin (I : F → List Int → Int) (add mul : F) (hadd : ∀ a b, I add [a, b] = a + b)
    (hmul : ∀ a b, I mul [a, b] = a * b) (s : St V) (c : Int) (ts : List (Int × V)) :
    (Exp.ofLin add mul c ts).eval I s = linVal s c ts := by
  match ts with
  | [] => simp [Exp.ofLin, Exp.eval, linVal]
  | p :: ps =>
    simp only [Exp.ofLin]
    split
    · rename_i hc
      rw [eval_linFold I add mul hadd hmul, eval_linTerm I mul hmul]
      simp [linVal, hc]
    · rw [eval_linFold I add mul hadd hmul]
      simp [Exp.eval]

end Uf
end Fct
end Dom
end Crab
