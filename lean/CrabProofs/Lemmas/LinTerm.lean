import CrabModel.Lin.Term
import CrabProofs.Lemmas.LinSys

/-! Whole construction histories: replaying a history with the model operators gives an
    expression / constraint whose meaning is the mathematical meaning of the history. -/
namespace Crab.Lin
open Crab.Lin.Expr

namespace Term

/-- every expression built through the public constructors and operators is canonical -/
theorem interp_canonical (t : Term) : t.interp.Canonical := by
  induction t with
  | num k => exact canonical_const k
  | var i => exact canonical_var i
  | term k i => exact canonical_term k i
  | add a b iha _ => exact canonical_add _ iha
  | sub a b iha _ => exact canonical_sub _ iha
  | neg a ih => exact canonical_neg ih.1
  | scale k a ih => exact canonical_scale k ih.1
  | addn a k ih | nadd k a ih => exact canonical_addNum k ih
  | subn a k ih => exact canonical_subNum k ih
  | addv a i ih | vadd i a ih => exact canonical_addVar i ih
  | subv a i ih => exact canonical_subVar i ih
  | nsub k a _ => exact canonical_sub _ (canonical_const k)
  | vsub i a _ => exact canonical_sub _ (canonical_term 1 i)
  | ren a m _ => exact canonical_rename _ m

theorem eval_interp (t : Term) (σ : Var → Int) : t.interp.eval σ = t.den σ := by
  induction t generalizing σ with
  | num k => simp [interp, den]
  | var i => simp [interp, den]
  | term k i => simp [interp, den]
  | add a b iha ihb => simp [interp, den, eval_add, iha, ihb]
  | sub a b iha ihb => simp [interp, den, eval_sub, iha, ihb]
  | neg a ih => simp [interp, den, eval_neg, ih]
  | scale k a ih => simp [interp, den, eval_scale, ih]
  | addn a k ih => simp [interp, den, eval_addNum, ih]
  | subn a k ih => simp [interp, den, eval_subNum, ih]
  | addv a i ih => simp [interp, den, eval_addVar, ih]
  | subv a i ih => simp [interp, den, eval_subVar, ih]
  | nadd k a ih => simp [interp, den, eval_addNum, ih]; omega
  | nsub k a ih => simp [interp, den, eval_sub, ih]
  | vadd i a ih => simp [interp, den, eval_addVar, ih]; omega
  | vsub i a ih => simp [interp, den, eval_sub, ih]
  | ren a m ih => simp only [interp, den, eval_rename (interp_canonical a).1, ih]

end Term

namespace CTerm

theorem sat_relCst (op : Rel) (a b : Expr) (σ : Var → Int) :
    (relCst op a b).sat σ ↔ relHolds op (a.eval σ) (b.eval σ) := by
  cases op <;> simp only [relCst, Cst.sat, relHolds, eval_sub] <;> omega

/-- the three operations on a constraint history yield a result only from a result of the
    argument -/
theorem interp_inv {o : Option Cst} {F : Cst → Option Cst} {r : Cst}
    (h : (match o with | some a => F a | none => none) = some r) : ∃ a, o = some a ∧ F a = some r := by
  cases o with
  | none => cases h
  | some a => exact ⟨a, rfl, h⟩

/-- every constraint built through the public interface has a canonical expression -/
theorem interp_canonical {c : CTerm} {r : Cst} (h : c.interp = some r) : r.expr.Canonical := by
  induction c generalizing r with
  | mk k t => cases h; exact Term.interp_canonical t
  | rel op a b =>
    cases h
    cases op <;> exact canonical_sub _ (Term.interp_canonical _)
  | negate c ih =>
    obtain ⟨r', hc, e⟩ := interp_inv h
    cases e; exact Cst.canonical_negate (ih hc)
  | s2ns c ih =>
    obtain ⟨r', hc, e⟩ := interp_inv h
    obtain ⟨_, rfl⟩ := (Cst.strictToNonStrict_iff r' r).1 e
    exact canonical_addNum 1 (ih hc)
  | ren c m _ =>
    obtain ⟨r', hc, e⟩ := interp_inv h
    cases e; exact canonical_rename _ m

/-- the replayed constraint holds exactly where the history's meaning holds -/
theorem sat_interp {c : CTerm} {r : Cst} (h : c.interp = some r) (σ : Var → Int) :
    r.sat σ ↔ c.den σ := by
  induction c generalizing r σ with
  | mk k t =>
    cases h
    cases k <;> simp [Cst.sat, den, kindHolds, Term.eval_interp]
  | rel op a b =>
    cases h
    simp only [sat_relCst, den, Term.eval_interp]
  | negate c ih =>
    obtain ⟨r', hc, e⟩ := interp_inv h
    cases e; simp only [Cst.sat_negate, den, ih hc]
  | s2ns c ih =>
    obtain ⟨r', hc, e⟩ := interp_inv h
    simp only [Cst.sat_strictToNonStrict e, den, ih hc]
  | ren c m ih =>
    obtain ⟨r', hc, e⟩ := interp_inv h
    cases e; simp only [Cst.sat_rename (interp_canonical hc).1, den, ih hc]

theorem denB_iff (c : CTerm) (σ : Var → Int) : c.denB σ = true ↔ c.den σ := by
  induction c generalizing σ with
  | mk k t => simp [denB, den]
  | rel op a b => simp [denB, den]
  | negate c ih => simp [denB, den, ← ih]
  | s2ns c ih => simp [denB, den, ih]
  | ren c m ih => simp [denB, den, ih]

end CTerm
end Crab.Lin
