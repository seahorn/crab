import CrabProofs.Lemmas.PatriciaMerge
import CrabProofs.Lemmas.PatriciaCompare
import CrabProofs.Lemmas.PatriciaIter
import CrabModel.Container.SeparateDomain

/-! `separate_domain` over an arbitrary value lattice, on the bindings of the tree: join / widening,
    meet / narrowing, `<=` and the loop of `rename` keep the tree well formed and act pointwise on
    the bindings.  `set`, `forget`, `project` are read through `at(k)` in `PatriciaSepDomAt.lean`. -/
namespace Crab
open Patricia Patricia.Tree

variable {V : Type} {P : V → Prop}

/-- results do not depend on the oracles: two sound contexts give the same tree -/
theorem Patricia.merge_ctx_indep {c c' : Ctx V} {op : BinOp V} (hc : c.SoundOn P) (hc' : c'.SoundOn P)
    (hop : op.Pres P) (hid : op.Idem P) (l2r : Bool) {s t : Tree V} (hs : WF P s) (ht : WF P t) :
    merge c op l2r s t = merge c' op l2r s t :=
  (merge_ok hc hop hid l2r s t hs ht).unique (merge_ok hc' hop hid l2r s t hs ht)

theorem Patricia.insert_ctx_indep {c c' : Ctx V} {op : BinOp V} (hc : c.SoundOn P) (hc' : c'.SoundOn P)
    (hop : op.Pres P) (l2r : Bool) {t : Tree V} (ht : WF P t) {k : Nat} {v : V} (hk : k < 2 ^ 64) (hv : P v) :
    insert c op l2r t k v = insert c' op l2r t k v :=
  (insert_spec hc hop hk hv ht).unique (insert_spec hc' hop hk hv ht)

theorem Patricia.remove_ctx_indep {c c' : Ctx V} (hc : c.SoundOn P) (hc' : c'.SoundOn P)
    {t : Tree V} (ht : WF P t) {k : Nat} (hk : k < 2 ^ 64) : remove c t k = remove c' t k :=
  PointUpd.unique (remove_spec hc hk ht) (remove_spec hc' hk ht)

theorem Patricia.compare_ctx_indep {c c' : Ctx V} (hc : c.SoundOn P) (hc' : c'.SoundOn P) (po : POrder V)
    (hrefl : ∀ x, P x → po.leq x x = true) (l2r : Bool) {s t : Tree V} (hs : WF P s) (ht : WF P t) :
    compare true c po l2r s t = compare true c' po l2r s t :=
  Bool.eq_iff_iff.mpr
    ((compare_fixed_iff hc po hrefl l2r s t hs ht).trans (compare_fixed_iff hc' po hrefl l2r s t hs ht).symm)

namespace SepDom

def Inv (P : V → Prop) (e : SepDom V) : Prop := WF P e.tree ∧ (e.isBot = true → e.tree = .empty)

theorem inv_top : Inv P (top : SepDom V) := ⟨trivial, fun _ => rfl⟩
theorem inv_bottom : Inv P (bottom : SepDom V) := ⟨trivial, fun _ => rfl⟩

section upper
variable {c : Ctx V} {L : Lattice V} {f : V → V → V}

theorem upperOp_pres (hpres : ∀ x y, P x → P y → L.isTop (f x y) = false → P (f x y)) :
    (upperOp L f).Pres P := by
  intro k x y z hx hy h
  simp only [upperOp] at h
  split at h
  · cases h
  · rename_i ht
    simp at h; subst h
    exact hpres x y hx hy (by simpa using ht)

theorem upperOp_idem (hidem : ∀ x, P x → f x x = x) (hnt : ∀ x, P x → L.isTop x = false) :
    (upperOp L f).Idem P := by
  intro k x hx
  simp [upperOp, hidem x hx, hnt x hx]

theorem pw_upperOp (k : Nat) (a b : Option V) :
    pw (upperOp L f) true k a b = some (match a, b with
      | some x, some y => if L.isTop (f x y) then none else some (f x y)
      | _, _ => none) := by
  cases a <;> cases b <;> simp only [pw, upperOp, app, if_true]
  rename_i x y
  cases h : L.isTop (f x y) <;> simp [h]

/-- join / widening of two non-bottom environments: the common keys are combined, a top
    result and the keys bound on one side only disappear -/
theorem upper_spec (hc : c.SoundOn P)
    (hpres : ∀ x y, P x → P y → L.isTop (f x y) = false → P (f x y))
    (hidem : ∀ x, P x → f x x = x) (hnt : ∀ x, P x → L.isTop x = false)
    {a b : SepDom V} (ha : Inv P a) (hb : Inv P b) (na : a.isBot = false) (nb : b.isBot = false) :
    Inv P (upper c L f a b) ∧ (upper c L f a b).isBot = false ∧
      ∀ k, (upper c L f a b).tree.lookup k =
        match a.tree.lookup k, b.tree.lookup k with
        | some x, some y => if L.isTop (f x y) then none else some (f x y)
        | _, _ => none := by
  unfold upper mergeWith
  simp only [na, nb, Bool.false_eq_true, if_false]
  rcases merge_cases hc (upperOp_pres hpres) (upperOp_idem hidem hnt) true ha.1 hb.1 with
    ⟨_, k, x, y, _, _, hbot⟩ | ⟨r, hres, hw, hl⟩
  · simp only [app, upperOp, if_true] at hbot
    split at hbot <;> cases hbot
  · rw [hres]
    exact ⟨⟨hw, fun hb => by cases hb⟩, rfl, fun k => Option.some.inj ((hl k).symm.trans (pw_upperOp k _ _))⟩

theorem upper_bot_left {a b : SepDom V} (h : a.isBot = true) : upper c L f a b = b := by
  unfold upper; rw [if_pos h]

theorem upper_bot_right {a b : SepDom V} (na : a.isBot = false) (h : b.isBot = true) : upper c L f a b = a := by
  unfold upper; simp [na, h]

theorem upper_inv (hc : c.SoundOn P)
    (hpres : ∀ x y, P x → P y → L.isTop (f x y) = false → P (f x y))
    (hidem : ∀ x, P x → f x x = x) (hnt : ∀ x, P x → L.isTop x = false)
    {a b : SepDom V} (ha : Inv P a) (hb : Inv P b) : Inv P (upper c L f a b) := by
  cases na : a.isBot
  · cases nb : b.isBot
    · exact (upper_spec hc hpres hidem hnt ha hb na nb).1
    · rw [upper_bot_right na nb]; exact ha
  · rw [upper_bot_left na]; exact hb

end upper

section lower
variable {c : Ctx V} {L : Lattice V} {g : V → V → V}

theorem lowerOp_pres (hpres : ∀ x y, P x → P y → L.isBottom (g x y) = false → P (g x y)) :
    (lowerOp L g).Pres P := by
  intro k x y z hx hy h
  simp only [lowerOp] at h
  split at h
  · cases h
  · rename_i ht
    simp at h; subst h
    exact hpres x y hx hy (by simpa using ht)

theorem lowerOp_idem (hidem : ∀ x, P x → g x x = x) (hnb : ∀ x, P x → L.isBottom x = false) :
    (lowerOp L g).Idem P := by
  intro k x hx
  simp [lowerOp, hidem x hx, hnb x hx]

/-- meet / narrowing of two non-bottom environments: bottom exactly when some common key
    combines to bottom; otherwise common keys are combined and the others are kept -/
theorem lower_spec (hc : c.SoundOn P)
    (hpres : ∀ x y, P x → P y → L.isBottom (g x y) = false → P (g x y))
    (hidem : ∀ x, P x → g x x = x) (hnb : ∀ x, P x → L.isBottom x = false)
    {a b : SepDom V} (ha : Inv P a) (hb : Inv P b) (na : a.isBot = false) (nb : b.isBot = false) :
    Inv P (lower c L g a b) ∧
    ((lower c L g a b).isBot = true ↔
      ∃ k x y, a.tree.lookup k = some x ∧ b.tree.lookup k = some y ∧ L.isBottom (g x y) = true) ∧
    ((lower c L g a b).isBot = false →
      ∀ k, (lower c L g a b).tree.lookup k =
        match a.tree.lookup k, b.tree.lookup k with
        | some x, some y => some (g x y)
        | some x, none => some x
        | none, some y => some y
        | none, none => none) := by
  unfold lower mergeWith
  simp only [na, nb, Bool.false_eq_true, Bool.or_self, if_false]
  rcases merge_cases hc (lowerOp_pres hpres) (lowerOp_idem hidem hnb) true ha.1 hb.1 with
    ⟨hres, k, x, y, hx, hy, hbot⟩ | ⟨r, hres, hw, hl⟩
  · rw [hres]
    refine ⟨inv_bottom, ⟨fun _ => ⟨k, x, y, hx, hy, ?_⟩, fun _ => rfl⟩, fun hf => by cases hf⟩
    simp only [app, lowerOp, if_true] at hbot
    split at hbot
    · assumption
    · cases hbot
  · rw [hres]
    refine ⟨⟨hw, fun hb => by cases hb⟩, ⟨fun hf => (by cases hf), ?_⟩, fun _ k => ?_⟩
    · rintro ⟨k, x, y, hx, hy, hbot⟩
      have := hl k
      rw [hx, hy] at this
      simp [pw, app, lowerOp, hbot] at this
    · have := hl k
      cases h1 : a.tree.lookup k <;> cases h2 : b.tree.lookup k <;> rw [h1, h2] at this <;>
        simp only [pw, lowerOp, app, if_true] at this
      · simpa using this.symm
      · simpa using this.symm
      · simpa using this.symm
      · rename_i x y
        simp only
        by_cases hbq : L.isBottom (g x y) = true
        · simp [hbq] at this
        · simp [hbq] at this; exact this.symm

theorem lower_bot {a b : SepDom V} (h : (a.isBot || b.isBot) = true) : lower c L g a b = bottom := by
  unfold lower; rw [if_pos h]

theorem lower_inv (hc : c.SoundOn P)
    (hpres : ∀ x y, P x → P y → L.isBottom (g x y) = false → P (g x y))
    (hidem : ∀ x, P x → g x x = x) (hnb : ∀ x, P x → L.isBottom x = false)
    {a b : SepDom V} (ha : Inv P a) (hb : Inv P b) : Inv P (lower c L g a b) := by
  cases h : a.isBot || b.isBot
  · rw [Bool.or_eq_false_iff] at h
    exact (lower_spec hc hpres hidem hnb ha hb h.1 h.2).1
  · rw [lower_bot h]; exact inv_bottom

end lower

section order
variable {c : Ctx V} {L : Lattice V}

/-- the repaired `operator<=` on non-bottom environments is the pointwise order of the bindings -/
theorem leq_spec (hc : c.SoundOn P) (hrefl : ∀ x, P x → L.leq x x = true)
    {a b : SepDom V} (ha : Inv P a) (hb : Inv P b) (na : a.isBot = false) (nb : b.isBot = false) :
    leq true c L a b = true ↔ PwLe (domainPO L) true a.tree b.tree := by
  unfold leq leqTree
  simp only [na, nb, Bool.false_eq_true, if_false]
  exact compare_fixed_iff hc (domainPO L) hrefl true a.tree b.tree ha.1 hb.1

/-- neither version of `operator<=` misses an inclusion -/
theorem leq_complete (fxd : Bool) (hc : c.SoundOn P) (hrefl : ∀ x, P x → L.leq x x = true)
    {a b : SepDom V} (ha : Inv P a) (hb : Inv P b) (na : a.isBot = false) (nb : b.isBot = false)
    (h : PwLe (domainPO L) true a.tree b.tree) : leq fxd c L a b = true := by
  have h1 := (leq_spec hc hrefl ha hb na nb).mpr h
  cases fxd
  · unfold leq leqTree at h1 ⊢
    simp only [na, nb, Bool.false_eq_true, if_false] at h1 ⊢
    exact compare_mono c _ true _ _ h1
  · exact h1

theorem leq_bottom_left (fxd : Bool) {a b : SepDom V} (na : a.isBot = true) : leq fxd c L a b = true := by
  unfold leq; simp [na]

theorem leq_bottom_right (fxd : Bool) {a b : SepDom V} (na : a.isBot = false) (nb : b.isBot = true) :
    leq fxd c L a b = false := by
  unfold leq; simp [na, nb]

end order

section rename
variable {c : Ctx V} {L : Lattice V}

/-- pointwise effect of one renaming step on "binding or default" -/
def rename1Spec (m : Nat → Option V) (k newK : Nat) : Nat → Option V :=
  fun k' =>
    if k = newK then m k'
    else match m k with
      | none => m k'
      | some v => if k' = k then none else if k' = newK then some v else m k'

theorem rename1_spec (hc : c.SoundOn P) (hnt : ∀ x, P x → L.isTop x = false) {t : Tree V} (ht : WF P t)
    {k newK : Nat} (hk : k < 2 ^ 64) (hn : newK < 2 ^ 64) :
    WF P (rename1 c L t k newK) ∧ ∀ k', (rename1 c L t k newK).lookup k' = rename1Spec t.lookup k newK k' := by
  unfold rename1 rename1Spec
  by_cases e : k = newK
  · simp [e, ht]
  · simp only [e, if_false]
    cases hl : t.lookup k with
    | none => exact ⟨ht, fun _ => rfl⟩
    | some v =>
      have hv := ht.val_of_lookup hl
      simp only [hnt v hv, Bool.not_false, if_true]
      obtain ⟨w1, l1⟩ := insertKV_spec hc ht hn hv
      obtain ⟨w2, l2⟩ := remove_spec hc hk w1
      refine ⟨w2, fun k' => ?_⟩
      rw [l2, l1]

theorem rename_fold_spec (hc : c.SoundOn P) (hnt : ∀ x, P x → L.isTop x = false)
    (ps : List (Nat × Nat)) {t : Tree V} (ht : WF P t) (hb : ∀ p ∈ ps, p.1 < 2 ^ 64 ∧ p.2 < 2 ^ 64) :
      WF P (ps.foldl (fun t p => rename1 c L t p.1 p.2) t) ∧
      ∀ k', (ps.foldl (fun t p => rename1 c L t p.1 p.2) t).lookup k' =
        ps.foldl (fun m p => rename1Spec m p.1 p.2) t.lookup k' := by
  -- the fold over trees and the fold over maps run in step
  have := List.foldl_rel (l := ps) (f := fun t p => rename1 c L t p.1 p.2)
    (g := fun m p => rename1Spec m p.1 p.2) (r := fun t m => WF P t ∧ t.lookup = m) ⟨ht, rfl⟩
    (fun p hp t m ⟨w, e⟩ =>
      have h := rename1_spec (L := L) hc hnt w (hb p hp).1 (hb p hp).2
      ⟨h.1, e ▸ funext h.2⟩)
  exact ⟨this.1, congrFun this.2⟩

end rename

end SepDom
end Crab
