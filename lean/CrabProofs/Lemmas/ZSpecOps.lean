import CrabModel.Num.ZNumExtra
import CrabProofs.Lemmas.ZSpecBits

/-! `z_number`: 64-bit import/export paths, truncating division, shifts, `fill_ones`. -/
namespace Crab.ZNum.Spec
open Crab.ZNum.X

/-- `operator int64_t`: the value itself exactly when it fits, CRAB_ERROR otherwise
    (the sign-magnitude export path of the second branch is exact, also for `-2^63`) -/
theorem toInt64?_eq (x : Int) : toInt64? x = if fitsInt64 x then some x else none := by
  unfold toInt64? fitsSInt fitsInt64 int64Min int64Max
  by_cases h1 : (-(2 ^ 31) ≤ x && x ≤ 2 ^ 31 - 1) = true
  · have h1' := h1
    simp only [Bool.and_eq_true, decide_eq_true_eq] at h1'
    have : (-(2 ^ 63) ≤ x && x ≤ 2 ^ 63 - 1) = true := by
      simp only [Bool.and_eq_true, decide_eq_true_eq]; omega
    rw [if_pos h1, if_pos this]
  · rw [if_neg h1]
    by_cases h2 : (-(2 ^ 63) ≤ x && x ≤ 2 ^ 63 - 1) = true
    · rw [if_pos h2, if_pos h2]
      simp only [Bool.and_eq_true, decide_eq_true_eq] at h2
      simp only [Option.some.injEq]
      -- only `x = -2^63` makes the magnitude wrap; negating it wraps back
      by_cases hx : x < 0
      · by_cases hm : (x.natAbs : Int) ≥ 2 ^ 63
        · rw [if_pos hm, if_pos hx, if_pos (by omega)]; omega
        · rw [if_neg hm, if_pos hx, if_neg (by omega)]; omega
      · rw [if_neg (show ¬ (x.natAbs : Int) ≥ 2 ^ 63 by omega), if_neg hx, if_neg (by omega)]; omega
    · rw [if_neg h2, if_neg h2]

theorem fitsInt64_iff (x : Int) : fitsInt64 x = true ↔ (-(2 ^ 63) ≤ x ∧ x ≤ 2 ^ 63 - 1) := by
  unfold fitsInt64 int64Min int64Max
  rw [Bool.and_eq_true]
  exact ⟨fun h => ⟨of_decide_eq_true h.1, of_decide_eq_true h.2⟩,
    fun h => ⟨decide_eq_true h.1, decide_eq_true h.2⟩⟩

/-- `z_number(int64_t)` as compiled on LP64 keeps the value -/
theorem ofInt64'_eq (n : Int) (h1 : -(2 ^ 63) ≤ n) (h2 : n ≤ 2 ^ 63 - 1) : ofInt64' n = n := by
  unfold ofInt64' longBits ofInt64Si
  rw [if_pos ⟨by simpa using h1, by simpa using h2⟩]

/-- the `mpz_import` branch keeps non-negative values -/
theorem ofInt64Import_nonneg (n : Int) (h1 : 0 ≤ n) (h2 : n ≤ 2 ^ 63 - 1) : ofInt64Import n = n := by
  unfold ofInt64Import
  have : ¬ n < 0 := by omega
  simp only [this, if_false]
  omega

/-- the `mpz_import` branch turns a negative `n` into `-(2^64 + n)` (dead code where `long` is 64
    bits wide) -/
theorem ofInt64Import_neg (n : Int) (h1 : -(2 ^ 63) ≤ n) (h2 : n < 0) :
    ofInt64Import n = -(2 ^ 64 + n) := by
  unfold ofInt64Import
  simp only [h2, if_true]
  omega

theorem ofUInt64_eq (n : Nat) (h : n < 2 ^ 64) : ofUInt64 n = (n : Int) := by
  unfold ofUInt64 longBits
  rw [if_pos (by omega)]

/-- `/` and `%` are characterised by `a = b*q + r`, `|r| < |b|`, `r` has the sign of `a` -/
theorem div_rem_spec (a b q r : Int) (hb : b ≠ 0) :
    (div? a b = some q ∧ rem? a b = some r) ↔
      (a = b * q + r ∧ r.natAbs < b.natAbs ∧ (0 ≤ a → 0 ≤ r) ∧ (a ≤ 0 → r ≤ 0)) := by
  simp only [div?, rem?, hb, if_false, Option.some.injEq]
  constructor
  · rintro ⟨hq, hr⟩
    subst hq hr
    have hbpos : 0 < b.natAbs := Int.natAbs_pos.2 hb
    refine ⟨(Int.mul_tdiv_add_tmod a b).symm, ?_, fun ha => Int.tmod_nonneg b ha, fun ha => ?_⟩
    · rw [Int.natAbs_tmod]; exact Nat.mod_lt _ hbpos
    · have h1 := Int.tmod_nonneg b (show 0 ≤ -a by omega)
      rw [Int.neg_tmod] at h1
      omega
  · rintro ⟨h1, h2, h3, h4⟩
    by_cases ha : 0 ≤ a
    · have := h3 ha
      exact (Int.tdiv_tmod_unique ha hb).2 ⟨by omega, this, by omega⟩
    · have ha' : a ≤ 0 := by omega
      have := h4 ha'
      exact (Int.tdiv_tmod_unique' ha' hb).2 ⟨by omega, by omega, this⟩

theorem div?_none_iff (a b : Int) : div? a b = none ↔ b = 0 := by
  unfold div?; split <;> simp_all
theorem rem?_none_iff (a b : Int) : rem? a b = none ↔ b = 0 := by
  unfold rem?; split <;> simp_all

theorem shr_floor (a k : Int) (h1 : 0 ≤ k) (h2 : k < 2 ^ 64) : shr a k = a / 2 ^ k.toNat :=
  shr_eq h1 h2

/-- a shift amount of `2^64` is read as `0` -/
theorem shr_one_two_pow_64 : shr 1 (2 ^ 64) = 1 := by decide

theorem one_lt_two_pow_int (n : Nat) (h : n ≠ 0) : (1 : Int) < 2 ^ n := by
  have := Nat.one_lt_two_pow h
  have h2 : ((1 : Nat) : Int) < ((2 ^ n : Nat) : Int) := by exact_mod_cast this
  rw [Int.natCast_pow] at h2
  exact h2

theorem one_div_two_pow (n : Nat) (h : n ≠ 0) : (1 : Int) / 2 ^ n = 0 :=
  Int.ediv_eq_zero_of_lt (by decide) (one_lt_two_pow_int n h)

/-- loop invariant of `fill_ones`: the current value is `2^j - 1` and the previous one, `2^(j-1) - 1`,
    was still below `x` (or there was none, `j = 1`); with enough fuel the loop stops at the first
    `2^j' - 1` that reaches `x` -/
theorem fillOnesLoop_spec (x : Int) (fuel j : Nat) (hj : 1 ≤ j)
    (hprev : j = 1 ∨ (2 : Int) ^ (j - 1) - 1 < x)
    (hfuel : x ≤ 2 ^ (j + fuel) - 1) :
    ∃ j', j ≤ j' ∧ fillOnesLoop fuel (2 ^ j - 1) x = 2 ^ j' - 1 ∧ x ≤ 2 ^ j' - 1 ∧
      (j' = 1 ∨ (2 : Int) ^ (j' - 1) - 1 < x) := by
  induction fuel generalizing j with
  | zero => exact ⟨j, Nat.le_refl _, rfl, by simpa using hfuel, hprev⟩
  | succ f ih =>
    simp only [fillOnesLoop]
    split
    · next hlt =>
      have e : (2 : Int) * (2 ^ j - 1) + 1 = 2 ^ (j + 1) - 1 := by
        rw [Int.pow_succ]; omega
      rw [e]
      obtain ⟨j', h1, h2, h3, h4⟩ := ih (j + 1) (by omega) (Or.inr (by simpa using hlt))
        (by rw [show j + 1 + f = j + (f + 1) by omega]; exact hfuel)
      exact ⟨j', by omega, h2, h3, h4⟩
    · next hge => exact ⟨j, Nat.le_refl _, rfl, by omega, hprev⟩

/-- `fill_ones` of `x ≥ 0` is the least number of the form `2^j - 1` that is `≥ x` -/
theorem fillOnes_spec (x : Int) (hx : 0 ≤ x) :
    ∃ j : Nat, fillOnes x = 2 ^ j - 1 ∧ x ≤ fillOnes x ∧
      ∀ k : Nat, x ≤ 2 ^ k - 1 → fillOnes x ≤ 2 ^ k - 1 := by
  unfold fillOnes
  split
  · next h0 => subst h0; exact ⟨0, by simp, by simp, fun k _ => by
      have : (0 : Int) < 2 ^ k := Int.pow_pos (by decide)
      omega⟩
  · next hne =>
    have hx1 : 1 ≤ x := by omega
    have hfuel : x ≤ 2 ^ (1 + (x.toNat.log2 + 2)) - 1 := by
      have h1 : x.toNat < 2 ^ (x.toNat.log2 + 1) := Nat.lt_log2_self
      have h2 : 2 ^ (x.toNat.log2 + 1) ≤ 2 ^ (1 + (x.toNat.log2 + 2)) :=
        Nat.pow_le_pow_right (by decide) (by omega)
      have h3 : ((x.toNat : Nat) : Int) < ((2 ^ (1 + (x.toNat.log2 + 2)) : Nat) : Int) := by
        exact_mod_cast Nat.lt_of_lt_of_le h1 h2
      rw [Int.natCast_pow] at h3
      have : ((x.toNat : Nat) : Int) = x := Int.toNat_of_nonneg hx
      simp at h3
      omega
    obtain ⟨j', h1, h2, h3, h4⟩ := fillOnesLoop_spec x (x.toNat.log2 + 2) 1 (Nat.le_refl _)
      (Or.inl rfl) hfuel
    have e : ((2 : Int) ^ 1 - 1) = 1 := by decide
    rw [e] at h2
    refine ⟨j', h2, by rw [h2]; exact h3, ?_⟩
    intro k hk
    rw [h2]
    rcases h4 with h4 | h4
    · subst h4
      have : (2 : Int) ^ 1 - 1 = 1 := by decide
      omega
    · -- 2^(j'-1) - 1 < x ≤ 2^k - 1, hence j' ≤ k
      have hlt : (2 : Int) ^ (j' - 1) < 2 ^ k := by omega
      have hjk : j' - 1 < k := by
        by_cases hc : j' - 1 < k
        · exact hc
        · have := two_pow_le (show k ≤ j' - 1 by omega)
          omega
      have := two_pow_le (show j' ≤ k by omega)
      omega

end Crab.ZNum.Spec
