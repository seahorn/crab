import CrabProofs.Lemmas.PatriciaSepDom

/-! `separate_domain` read through `at(k)`: an environment is bottom, or a total map with default
    top.  The tree-level specifications of `PatriciaSepDom.lean` in that reading, for any value
    lattice: the point updates as equations on `at`; join / widening, meet / narrowing and `<=` as
    the transfer of a key-indexed property of the values (`Holds`). -/
namespace Crab
open Patricia Patricia.Tree

namespace SepDom
variable {V : Type} {P : V → Prop} {L : Lattice V} {c : Ctx V}

/-- what reading an environment through `at` needs of the value lattice: `top` is top and not
    bottom, the stored values (`P`) are neither -/
structure Vals (L : Lattice V) (P : V → Prop) : Prop where
  isTop_top : L.isTop L.top = true
  isBottom_top : L.isBottom L.top = false
  not_top : ∀ x, P x → L.isTop x = false
  not_bottom : ∀ x, P x → L.isBottom x = false

theorem atKey_eq (e : SepDom V) (k : Nat) :
    atKey L e k = if e.isBot then L.bottom else (e.tree.lookup k).getD L.top := by
  unfold atKey
  split
  · rfl
  · cases e.tree.lookup k <;> rfl

theorem atKey_bottom {e : SepDom V} (h : e.isBot = true) (k : Nat) : atKey L e k = L.bottom := by
  rw [atKey_eq, h]; rfl

/-- what `at` returns on a non-bottom environment: a stored value or top -/
theorem atKey_cases {e : SepDom V} (he : Inv P e) (ne : e.isBot = false) (k : Nat) :
    (∃ x, e.tree.lookup k = some x ∧ atKey L e k = x ∧ P x) ∨
    (e.tree.lookup k = none ∧ atKey L e k = L.top) := by
  rw [atKey_eq, ne]
  cases hl : e.tree.lookup k with
  | none => exact Or.inr ⟨rfl, rfl⟩
  | some x => exact Or.inl ⟨x, rfl, rfl, he.1.val_of_lookup hl⟩

section
variable (hL : Vals L P) {e : SepDom V} (he : Inv P e) (ne : e.isBot = false)
include hL he ne

/-- the tree of a non-bottom environment is determined by `at`: a key is bound exactly when `at`
    is not top, and then to that value -/
theorem lookup_eq (k : Nat) :
    e.tree.lookup k = if L.isTop (atKey L e k) then none else some (atKey L e k) := by
  rcases atKey_cases (L := L) he ne k with ⟨x, l, e1, hx⟩ | ⟨l, e1⟩
  · rw [l, e1, hL.not_top x hx]; rfl
  · rw [l, e1, hL.isTop_top]; rfl

/-- `at` returns a top value only as `L.top` -/
theorem atKey_top {k : Nat} (h : L.isTop (atKey L e k) = true) : atKey L e k = L.top := by
  rcases atKey_cases (L := L) he ne k with ⟨x, _, e1, hx⟩ | ⟨_, e1⟩
  · rw [e1, hL.not_top x hx] at h; cases h
  · exact e1

theorem atKey_stored {k : Nat} (h : L.isTop (atKey L e k) = false) : P (atKey L e k) := by
  rcases atKey_cases (L := L) he ne k with ⟨x, _, e1, hx⟩ | ⟨_, e1⟩
  · rw [e1]; exact hx
  · rw [e1, hL.isTop_top] at h; cases h

theorem atKey_not_bottom (k : Nat) : L.isBottom (atKey L e k) = false := by
  rcases atKey_cases (L := L) he ne k with ⟨x, _, e1, hx⟩ | ⟨_, e1⟩
  · rw [e1]; exact hL.not_bottom x hx
  · rw [e1]; exact hL.isBottom_top

end

/-- `is_top()`: every `at` is top (the tree is then empty) -/
theorem isTop_iff (hL : Vals L P) {e : SepDom V} (he : Inv P e) :
    e.isTop = true ↔ (e.isBot = false ∧ ∀ k, atKey L e k = L.top) := by
  unfold isTop
  cases ne : e.isBot
  · simp only [Bool.not_false, Bool.true_and, beq_iff_eq, true_and]
    refine ⟨fun hsz k => ?_, fun h => ?_⟩
    · rw [atKey_eq, ne, he.1.eq_empty_of_size hsz]; rfl
    · have : e.tree = .empty := Classical.byContradiction fun hne => by
        obtain ⟨k, v, hv⟩ := he.1.exists_binding hne
        have h1 := lookup_eq hL he ne k
        rw [h k, hL.isTop_top, if_pos rfl, hv] at h1; cases h1
      rw [this]; rfl
  · simp

/-! ### point updates -/

theorem set_bottom_val {e : SepDom V} (ne : e.isBot = false) {k : Nat} {v : V} (h1 : L.isBottom v = true) :
    set c L e k v = bottom := by
  unfold set; simp [ne, h1]

theorem set_of_bottom {e : SepDom V} (ne : e.isBot = true) {k : Nat} {v : V} : set c L e k v = e := by
  unfold set; simp [ne]

/-- `set(k, v)`: bottom when the environment or the value is bottom, otherwise `at k` becomes `v`
    (a top `v` is not stored) and nothing else changes -/
theorem set_at (hc : c.SoundOn P) {e : SepDom V} (he : Inv P e) {k : Nat} (hk : k < 2 ^ 64) {v : V}
    (hv : L.isBottom v = false → L.isTop v = false → P v) :
    Inv P (set c L e k v) ∧ (set c L e k v).isBot = (e.isBot || L.isBottom v) ∧
    ((set c L e k v).isBot = false → ∀ k', atKey L (set c L e k v) k' =
      if k' = k then (if L.isTop v then L.top else v) else atKey L e k') := by
  cases ne : e.isBot
  · cases hvb : L.isBottom v
    · cases hvt : L.isTop v
      · rw [show set c L e k v = ⟨false, insertKV c e.tree k v⟩ by unfold set; simp [ne, hvb, hvt]]
        obtain ⟨w, l⟩ := insertKV_spec hc he.1 hk (hv hvb hvt)
        refine ⟨⟨w, fun h => by cases h⟩, rfl, fun _ k' => ?_⟩
        rw [atKey_eq, l, atKey_eq, ne]
        by_cases e1 : k' = k <;> simp [e1]
      · rw [show set c L e k v = ⟨false, remove c e.tree k⟩ by unfold set; simp [ne, hvb, hvt]]
        obtain ⟨w, l⟩ := remove_spec hc hk he.1
        refine ⟨⟨w, fun h => by cases h⟩, rfl, fun _ k' => ?_⟩
        rw [atKey_eq, l, atKey_eq, ne]
        by_cases e1 : k' = k <;> simp [e1]
    · rw [set_bottom_val ne hvb]
      exact ⟨inv_bottom, rfl, fun h => by cases h⟩
  · rw [set_of_bottom ne]
    exact ⟨he, by simp [ne], fun h => by rw [ne] at h; cases h⟩

theorem forget_at (hc : c.SoundOn P) {e : SepDom V} (he : Inv P e) {k : Nat} (hk : k < 2 ^ 64) :
    Inv P (forget c e k) ∧ (forget c e k).isBot = e.isBot ∧
      (e.isBot = false → ∀ k', atKey L (forget c e k) k' = if k' = k then L.top else atKey L e k') := by
  unfold forget
  cases ne : e.isBot
  · obtain ⟨w, l⟩ := remove_spec hc hk he.1
    refine ⟨⟨w, fun h => by cases h⟩, rfl, fun _ k' => ?_⟩
    rw [if_neg Bool.false_ne_true, atKey_eq, l, atKey_eq, ne]
    by_cases e1 : k' = k <;> simp [e1]
  · exact ⟨he, ne, fun h => by cases h⟩

/-- a loop of point updates on a non-bottom environment: afterwards `at` is `w` on the listed keys
    and unchanged on the others -/
theorem foldl_update {upd : SepDom V → Nat → SepDom V} {w : Nat → V}
    (step : ∀ env k, k < 2 ^ 64 → Inv P env → env.isBot = false →
      Inv P (upd env k) ∧ (upd env k).isBot = false ∧
        ∀ k', atKey L (upd env k) k' = if k' = k then w k else atKey L env k') :
    ∀ (ks : List Nat) (env : SepDom V), (∀ k ∈ ks, k < 2 ^ 64) → Inv P env → env.isBot = false →
      Inv P (ks.foldl upd env) ∧ (ks.foldl upd env).isBot = false ∧
        ∀ k', atKey L (ks.foldl upd env) k' = if k' ∈ ks then w k' else atKey L env k' := by
  intro ks
  induction ks with
  | nil => intro env _ hi hb; exact ⟨hi, hb, fun _ => by simp⟩
  | cons k ks ih =>
    intro env hks hi hb
    obtain ⟨i1, b1, l1⟩ := step env k (hks k (by simp)) hi hb
    obtain ⟨i2, b2, l2⟩ := ih _ (fun q hq => hks q (by simp [hq])) i1 b1
    refine ⟨i2, b2, fun k' => ?_⟩
    rw [List.foldl_cons, l2, l1]
    by_cases e1 : k' ∈ ks
    · simp [e1]
    · by_cases e2 : k' = k
      · subst e2; simp [e1]
      · simp [e1, e2]

/-- `project(keys)`: whichever of the two strategies is chosen, `at` is kept on the listed keys
    and top on the others -/
theorem project_at (hL : Vals L P) (hc : c.SoundOn P) {e : SepDom V} (he : Inv P e) (ne : e.isBot = false)
    {keys : List Nat} (hkeys : ∀ k ∈ keys, k < 2 ^ 64) :
    Inv P (project c L e keys) ∧ (project c L e keys).isBot = false ∧
      ∀ k', atKey L (project c L e keys) k' = if k' ∈ keys then atKey L e k' else L.top := by
  by_cases hT : e.isTop = true
  · rw [show project c L e keys = e by unfold project; simp [hT]]
    exact ⟨he, ne, fun k' => by rw [((isTop_iff hL he).mp hT).2 k', ite_self]⟩
  · unfold project
    simp only [ne, hT, Bool.false_or, Bool.false_eq_true, if_false, iterate_eq_toList he.1.ne,
      Option.getD_some]
    split
    · -- copy strategy: `set` of what `at` returns, which reads back as itself
      have step : ∀ env k, k < 2 ^ 64 → Inv P env → env.isBot = false →
          Inv P (set c L env k (atKey L e k)) ∧ (set c L env k (atKey L e k)).isBot = false ∧
            ∀ k', atKey L (set c L env k (atKey L e k)) k' =
              if k' = k then atKey L e k else atKey L env k' := by
        intro env k hk hi hb
        obtain ⟨h1, h2, h3⟩ := set_at (L := L) hc hi hk (v := atKey L e k) (fun _ => atKey_stored hL he ne)
        have hnb : (set c L env k (atKey L e k)).isBot = false := by
          rw [h2, hb, atKey_not_bottom hL he ne k]; rfl
        refine ⟨h1, hnb, fun k' => (h3 hnb k').trans ?_⟩
        cases ht : L.isTop (atKey L e k)
        · rfl
        · rw [atKey_top hL he ne ht, ite_self]
      obtain ⟨i1, b1, l1⟩ := foldl_update step keys top hkeys inv_top rfl
      exact ⟨i1, b1, fun k' => by rw [l1]; rfl⟩
    · -- removal strategy: `forget` every bound key that is not listed
      have step : ∀ env k, k < 2 ^ 64 → Inv P env → env.isBot = false →
          Inv P (forget c env k) ∧ (forget c env k).isBot = false ∧
            ∀ k', atKey L (forget c env k) k' = if k' = k then L.top else atKey L env k' :=
        fun env k hk hi hb => have h := forget_at (L := L) hc hi hk; ⟨h.1, h.2.1.trans hb, h.2.2 hb⟩
      have hout : ∀ k ∈ (List.map Prod.fst e.tree.toList).filter (fun k => !keys.contains k), k < 2 ^ 64 :=
        fun k hk => he.1.key_lt (List.mem_filter.mp hk).1
      obtain ⟨i1, b1, l1⟩ := foldl_update (w := fun _ => L.top) step _ e hout he ne
      refine ⟨i1, b1, fun k' => ?_⟩
      rw [l1]
      by_cases e1 : k' ∈ keys
      · simp [e1]
      · simp only [e1, if_false]
        by_cases e2 : k' ∈ e.tree.keys
        · have : k' ∈ (List.map Prod.fst e.tree.toList).filter (fun k => !keys.contains k) := by
            rw [List.mem_filter]; exact ⟨e2, by simpa using e1⟩
          rw [if_pos this]
        · rw [atKey_eq, ne, lookup_none_of_not_mem e2]; split <;> rfl

/-- the weak update `join(k, v)` is `set(k, j)` with the joined value `j`, top when `k` is unbound
    or `v` is top: always in the repaired code, and in the code before the fix when `j` is not top -/
theorem wjoin_eq_set (hL : Vals L P) (fx : Bool) {e : SepDom V} (ne : e.isBot = false) {k : Nat} {v : V}
    (hvb : L.isBottom v = false)
    (hjb : L.isTop v = false → ∀ old, e.tree.lookup k = some old → L.isBottom (L.join old v) = false)
    (hfx : fx = true ∨ ∀ old, e.tree.lookup k = some old → L.isTop (L.join old v) = false) :
    wjoin fx c L e k v = set c L e k
      (match e.tree.lookup k with
        | none => L.top
        | some old => if L.isTop v then L.top else L.join old v) := by
  unfold wjoin set
  simp only [ne, hvb, Bool.false_eq_true, if_false]
  cases hl : e.tree.lookup k with
  | none => simp [hL.isBottom_top, hL.isTop_top]
  | some old =>
    cases hvt : L.isTop v
    · simp only [Bool.false_eq_true, if_false, hjb hvt old hl]
      cases hjt : L.isTop (L.join old v)
      · simp
      · have : fx = true := hfx.resolve_right (fun h => by rw [h old hl] at hjt; cases hjt)
        simp [this]
    · simp [hL.isBottom_top, hL.isTop_top]

/-- `rename(from, to)` (as coded: sequential, a pair whose source is unbound is skipped): CRAB_ERROR
    exactly on vectors of different lengths for a value that is neither top nor bottom; otherwise
    the bindings are those of the sequential map-level renaming `rename1Spec` -/
theorem rename_spec (hc : c.SoundOn P) (hnt : ∀ x, P x → L.isTop x = false) {e : SepDom V} (he : Inv P e)
    (frm to : List Nat) (hb : ∀ p ∈ frm.zip to, p.1 < 2 ^ 64 ∧ p.2 < 2 ^ 64) :
    match rename c L e frm to with
    | none => (e.isTop || e.isBot) = false ∧ frm.length ≠ to.length
    | some e' => Inv P e' ∧ e'.isBot = e.isBot ∧
        ∀ k', e'.tree.lookup k' =
          if (e.isTop || e.isBot) = true then e.tree.lookup k'
          else (frm.zip to).foldl (fun m p => rename1Spec m p.1 p.2) e.tree.lookup k' := by
  unfold rename
  by_cases h1 : (e.isTop || e.isBot) = true
  · rw [if_pos h1]; exact ⟨he, rfl, fun _ => by rw [if_pos h1]⟩
  · rw [if_neg h1]
    by_cases h2 : (frm.length != to.length) = true
    · rw [if_pos h2]; exact ⟨by simpa using h1, by simpa using h2⟩
    · rw [if_neg h2]
      have hne : e.isBot = false := by
        cases hb' : e.isBot
        · rfl
        · simp [hb'] at h1
      obtain ⟨w, l⟩ := rename_fold_spec (L := L) hc hnt (frm.zip to) he.1 hb
      exact ⟨⟨w, fun h => by cases h⟩, hne.symm, fun k' => by rw [if_neg h1]; exact l k'⟩

/-! ### join / widening, meet / narrowing, inclusion: a key-indexed property of the values -/

section binary
variable {a b : SepDom V}

/-- What a non-bottom environment says of the values read by `at`, key by key: `R k` is e.g.
    "the concrete value of variable `k` belongs to it" for a fixed state.  The transfer lemmas
    below hand the two bindings of a key to the hypothesis about the value operation, so that a
    client can use what it knows of the stored values at that key. -/
def Holds (L : Lattice V) (R : Nat → V → Prop) (e : SepDom V) : Prop :=
  e.isBot = false ∧ ∀ k, R k (atKey L e k)

variable {R : Nat → V → Prop}

/-- for a property true of top it is enough to look at the bindings -/
theorem holds_iff (htop : ∀ k, R k L.top) {e : SepDom V} (ne : e.isBot = false) :
    Holds L R e ↔ ∀ k x, e.tree.lookup k = some x → R k x := by
  constructor
  · intro h k x hk; have := h.2 k; rwa [atKey_eq, ne, hk] at this
  · intro h; refine ⟨ne, fun k => ?_⟩
    rw [atKey_eq, ne]
    cases hk : e.tree.lookup k with
    | none => exact htop k
    | some x => exact h k x hk

section upper
variable {f : V → V → V} (hc : c.SoundOn P)
  (hpres : ∀ x y, P x → P y → L.isTop (f x y) = false → P (f x y))
  (hidem : ∀ x, P x → f x x = x) (hnt : ∀ x, P x → L.isTop x = false) (ha : Inv P a) (hb : Inv P b)
include hc hpres hidem hnt ha hb

/-- a binding of the join / widening of two non-bottom environments comes from two bindings whose
    combination is not top -/
theorem upper_binding (na : a.isBot = false) (nb : b.isBot = false) {k : Nat} {z : V}
    (hz : (upper c L f a b).tree.lookup k = some z) :
    ∃ x y, a.tree.lookup k = some x ∧ b.tree.lookup k = some y ∧ L.isTop (f x y) = false ∧ z = f x y := by
  rw [(upper_spec hc hpres hidem hnt ha hb na nb).2.2 k] at hz
  cases l1 : a.tree.lookup k with
  | none => rw [l1] at hz; cases hz
  | some x =>
    cases l2 : b.tree.lookup k with
    | none => rw [l1, l2] at hz; cases hz
    | some y =>
      rw [l1, l2] at hz
      simp only at hz
      split at hz
      · cases hz
      · next ht => exact ⟨x, y, rfl, rfl, by simpa using ht, (Option.some.inj hz).symm⟩

/-- join / widening: `R`, true of top and kept by `f` on the two values bound to a key, is kept by
    the environment operation -/
theorem upper_holds (htop : ∀ k, R k L.top)
    (hf : ∀ k x y, a.tree.lookup k = some x → b.tree.lookup k = some y → R k x ∨ R k y → R k (f x y))
    (h : Holds L R a ∨ Holds L R b) : Holds L R (upper c L f a b) := by
  cases na : a.isBot
  · cases nb : b.isBot
    · rw [holds_iff htop na, holds_iff htop nb] at h
      refine (holds_iff htop (upper_spec (L := L) (f := f) hc hpres hidem hnt ha hb na nb).2.1).mpr fun k z hz => ?_
      obtain ⟨x, y, l1, l2, _, rfl⟩ := upper_binding hc hpres hidem hnt ha hb na nb hz
      exact hf k x y l1 l2 (h.imp (fun h => h k x l1) (fun h => h k y l2))
    · rw [upper_bot_right na nb]; exact h.resolve_right fun h => by rw [h.1] at nb; cases nb
  · rw [upper_bot_left na]; exact h.resolve_left fun h => by rw [h.1] at na; cases na

/-- a key-indexed property `T` of the stored values is kept by join / widening -/
theorem upper_stored {T : Nat → V → Prop}
    (ta : ∀ k v, a.tree.lookup k = some v → T k v) (tb : ∀ k v, b.tree.lookup k = some v → T k v)
    (hf : ∀ k x y, T k x → T k y → L.isTop (f x y) = false → T k (f x y)) :
    ∀ k v, (upper c L f a b).tree.lookup k = some v → T k v := by
  cases na : a.isBot
  · cases nb : b.isBot
    · intro k v hk
      obtain ⟨x, y, l1, l2, ht, rfl⟩ := upper_binding hc hpres hidem hnt ha hb na nb hk
      exact hf k x y (ta k x l1) (tb k y l2) ht
    · rw [upper_bot_right na nb]; exact ta
  · rw [upper_bot_left na]; exact tb

end upper

section lower
variable {g : V → V → V} (hc : c.SoundOn P)
  (hpres : ∀ x y, P x → P y → L.isBottom (g x y) = false → P (g x y))
  (hidem : ∀ x, P x → g x x = x) (hnb : ∀ x, P x → L.isBottom x = false) (ha : Inv P a) (hb : Inv P b)
include hc hpres hidem hnb ha hb

/-- meet / narrowing: `R`, true of top, kept by `g` on the two values bound to a key and false of
    bottom values, is kept by the environment operation -/
theorem lower_holds (htop : ∀ k, R k L.top) (hbot : ∀ k v, R k v → L.isBottom v = false)
    (hg : ∀ k x y, a.tree.lookup k = some x → b.tree.lookup k = some y → R k x → R k y → R k (g x y))
    (h1 : Holds L R a) (h2 : Holds L R b) : Holds L R (lower c L g a b) := by
  obtain ⟨_, hiff, hl⟩ := lower_spec (L := L) (g := g) hc hpres hidem hnb ha hb h1.1 h2.1
  have m1 := (holds_iff htop h1.1).mp h1
  have m2 := (holds_iff htop h2.1).mp h2
  have nbr : (lower c L g a b).isBot = false := by
    cases hq : (lower c L g a b).isBot
    · rfl
    · obtain ⟨k, x, y, l1, l2, hb'⟩ := hiff.mp hq
      rw [hbot k _ (hg k x y l1 l2 (m1 k x l1) (m2 k y l2))] at hb'; cases hb'
  refine (holds_iff htop nbr).mpr fun k z hz => ?_
  rw [hl nbr k] at hz
  cases l1 : a.tree.lookup k <;> cases l2 : b.tree.lookup k <;> rw [l1, l2] at hz <;>
    simp only at hz <;> first | cases hz | obtain rfl := Option.some.inj hz
  · exact m2 k _ l2
  · exact m1 k _ l1
  · exact hg k _ _ l1 l2 (m1 k _ l1) (m2 k _ l2)

/-- conversely, when `g x y` says no more than `x` and `y` (meet), what holds of the result holds
    of both operands -/
theorem lower_below (htop : ∀ k, R k L.top)
    (hlow : ∀ k x y, a.tree.lookup k = some x → b.tree.lookup k = some y → R k (g x y) → R k x ∧ R k y)
    (h : Holds L R (lower c L g a b)) : Holds L R a ∧ Holds L R b := by
  have nab : (a.isBot || b.isBot) = false := by
    cases h0 : a.isBot || b.isBot
    · rfl
    · have := h.1; rw [lower_bot h0] at this; cases this
  rw [Bool.or_eq_false_iff] at nab
  obtain ⟨_, _, hl⟩ := lower_spec (L := L) (g := g) hc hpres hidem hnb ha hb nab.1 nab.2
  have m := (holds_iff htop h.1).mp h
  refine ⟨(holds_iff htop nab.1).mpr fun k x l1 => ?_, (holds_iff htop nab.2).mpr fun k y l2 => ?_⟩
  · have hk := hl h.1 k
    rw [l1] at hk
    cases l2 : b.tree.lookup k with
    | none => rw [l2] at hk; exact m k x hk
    | some y => rw [l2] at hk; exact (hlow k x y l1 l2 (m k _ hk)).1
  · have hk := hl h.1 k
    rw [l2] at hk
    cases l1 : a.tree.lookup k with
    | none => rw [l1] at hk; exact m k y hk
    | some x => rw [l1] at hk; exact (hlow k x y l1 l2 (m k _ hk)).2

end lower

/-- a yes answer of the repaired `operator<=`: `R`, true of top and going up along the order of
    the two values bound to a key, goes from `a` to `b` -/
theorem leq_holds (hc : c.SoundOn P) (hrefl : ∀ x, P x → L.leq x x = true)
    (ha : Inv P a) (hb : Inv P b) (htop : ∀ k, R k L.top)
    (hle : ∀ k x y, a.tree.lookup k = some x → b.tree.lookup k = some y → L.leq x y = true → R k x → R k y)
    (h : leq true c L a b = true) (h1 : Holds L R a) : Holds L R b := by
  cases nb : b.isBot
  · have hp := (leq_spec hc hrefl ha hb h1.1 nb).mp h
    refine (holds_iff htop nb).mpr fun k y l2 => ?_
    have hk := hp k
    cases l1 : a.tree.lookup k with
    | none => rw [l1, l2] at hk; simp [rel, leO, domainPO] at hk
    | some x =>
      rw [l1, l2] at hk
      exact hle k x y l1 l2 hk ((holds_iff htop h1.1).mp h1 k x l1)
  · rw [leq_bottom_right true h1.1 nb] at h; cases h

end binary

end SepDom
end Crab
