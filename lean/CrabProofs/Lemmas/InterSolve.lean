import CrabProofs.Lemmas.InterWf
import CrabProofs.Props.C01Engine

/-!
  The call transformers are sound for the calls described by a summary table; the block
  transformer is sound on the local semantics; the intra-procedural solver (`solve` =
  `Fix.run`) returns tables that contain the local collecting semantics (by `C01.run_sound`).
-/
namespace Crab.Inter
open Crab.Fix

variable {p : IProg}

/-- the call transformer `call` is sound for the call relation `CR` on well-formed call sites -/
def CallSound (p : IProg) (D : IDom) (call : Nat → List Var → List Var → D.A → D.A) (CR : CallRel) : Prop :=
  ∀ (f : IFun) (h : Nat) (lhs args : List Var) (a : D.A) (env : Env) (ov : List Int),
    StmtOK p f (.call h lhs args) → env.size = p.nv → EnvIn D.toAbsDom a env →
    CR h (args.map (fun x => env.getD x 0)) ov → EnvIn D.toAbsDom (call h lhs args a) (setMany env lhs ov)

/-- the stored summaries carry the parameters of the declarations -/
def TableDecl (p : IProg) {D : IDom} (T : SumTable D) : Prop :=
  ∀ h s, T h = some s → s.ins = (p.fn h).ins ∧ s.outs = (p.fn h).outs

theorem callArgs_lt {f : IFun} {h : Nat} {lhs args : List Var} (hS : StmtOK p f (.call h lhs args)) :
    (∀ v : Nat, v ∈ lhs → v < p.nv) ∧ (∀ v : Nat, v ∈ args → v < p.nv) :=
  ⟨fun v hv => hS.2.1 v (by simp [IStmt.vars, hv]), fun v hv => hS.2.1 v (by simp [IStmt.vars, hv])⟩

theorem reuse_at_call (hP : ProgOK p) (D : IDom) (hren : D.toAbsDom.RenameSound) {T : SumTable D}
    (hT : TableDecl p T) {f : IFun} {h : Nat} {lhs args : List Var} {s : Summary D} (hs : T h = some s)
    (hS : StmtOK p f (.call h lhs args)) {a : D.A} {env : Env} {ov : List Int} (hsz : env.size = p.nv)
    (ha : EnvIn D.toAbsDom a env) (hcr : tableCR T h (args.map (fun x => env.getD x 0)) ov) :
    EnvIn D.toAbsDom (reuseSummary D p.nv s lhs args a) (setMany env lhs ov) := by
  obtain ⟨hi, ho⟩ := hT h s hs
  obtain ⟨hc, hnd, hll, hla⟩ := hS.2.2
  have hF := hP h hc
  exact reuse_sound D hren p.nv s lhs args a env ov hsz (by rw [hi]; exact hF.ins_lt) (by rw [ho]; exact hF.outs_lt)
    (callArgs_lt hS).2 (callArgs_lt hS).1 hnd (by rw [hi]; exact hla) (by rw [ho]; exact hll) ha (hcr s hs)

theorem buCall_sound (hP : ProgOK p) (D : IDom) (hren : D.toAbsDom.RenameSound) (T : SumTable D)
    (hT : TableDecl p T) : CallSound p D (buCall D p.nv T) (tableCR T) := by
  intro f h lhs args a env ov hS hsz ha hcr
  unfold buCall
  cases hs : T h with
  | none => exact EnvIn.havoc D lhs ov ha
  | some s => exact reuse_at_call hP D hren hT hs hS hsz ha hcr

theorem tdCall_sound (hP : ProgOK p) (BU TD : IDom) (cv : Conv BU TD) (hren : BU.toAbsDom.RenameSound)
    (T : SumTable BU) (hT : TableDecl p T) : CallSound p TD (tdCall BU TD cv p.nv T) (tableCR T) := by
  intro f h lhs args a env ov hS hsz ha hcr
  unfold tdCall
  cases hs : T h with
  | none => exact EnvIn.havoc TD lhs ov ha
  | some s =>
    have hbu : EnvIn BU.toAbsDom (cv.toBU a) env := fun σ hσ => cv.toBU_sound (ha σ hσ)
    have h1 := reuse_at_call hP BU hren hT hs hS hsz hbu hcr
    have h2 := EnvIn.havoc TD lhs ov ha
    exact fun σ hσ => cv.fromBU_sound (h1 σ hσ) (h2 σ hσ)

theorem execPrefix_succ (D : IDom) (call : Nat → List Var → List Var → D.A → D.A) (b : IBlock) (k : Nat)
    (a : D.A) (hk : k < b.stmts.size) :
    execPrefix D call b (k + 1) a = execStmt D call (execPrefix D call b k a) (b.stmts.getD k default) := by
  unfold execPrefix
  rw [foldl_take_succ _ _ _ _ default (by simpa using hk)]
  congr 1
  simp [Array.getD_eq_getD_getElem?, List.getD]

theorem execPrefix_all (D : IDom) (call : Nat → List Var → List Var → D.A → D.A) (b : IBlock) (a : D.A) :
    execPrefix D call b b.stmts.size a = execBlock D call b a := by
  unfold execPrefix execBlock
  rw [List.take_of_length_le (by simp)]

theorem execStmt_sound (D : IDom) {call : Nat → List Var → List Var → D.A → D.A} {CR : CallRel}
    (hcs : CallSound p D call CR) {f : IFun} {s : IStmt} (hS : StmtOK p f s) {a : D.A} {e e' : Env}
    (hsz : e.size = p.nv) (ha : EnvIn D.toAbsDom a e) (hst : LStep CR s e e') :
    EnvIn D.toAbsDom (execStmt D call a s) e' := by
  have hv : ∀ v, v ∈ s.vars → v < e.size := fun v hv => by rw [hsz]; exact hS.2.1 v hv
  cases s with
  | call h lhs args =>
    obtain ⟨ov, hcr, he⟩ := hst
    subst he
    exact hcs f h lhs args a e ov hS hsz ha hcr
  | _ => exact EnvIn.stmt D CR ha hv (fun _ _ _ hn => by cases hn) hst

theorem Pref.sound (D : IDom) {call : Nat → List Var → List Var → D.A → D.A} {CR : CallRel}
    (hcs : CallSound p D call CR) {f : IFun} (hF : FunOK p f) (b : Nat) (a : D.A) :
    ∀ {k : Nat} {s e : Env}, Pref CR (f.blk b) k s e → s.size = p.nv → EnvIn D.toAbsDom a s →
      EnvIn D.toAbsDom (execPrefix D call (f.blk b) k a) e ∧ e.size = p.nv := by
  intro k s e h
  induction h with
  | nil s => intro hs ha; exact ⟨by simpa [execPrefix] using ha, hs⟩
  | snoc hp hk hst ih =>
    intro hs ha
    obtain ⟨h1, h2⟩ := ih hs ha
    rw [execPrefix_succ D call _ _ a hk]
    exact ⟨execStmt_sound D hcs (hF.stmts b _ hk) h2 h1 hst, by rw [LStep.size hst]; exact h2⟩

/-- the contract `Sem` of the iterator theorems for one function: an abstract value describes
    frames of size `nv`, one step = the whole block on the local semantics for the call relation `CR`;
    `hA` says that the block transformer of the context is sound for it -/
def frameSem (D : IDom) (cfg : FixCfg) (g : Nat) (f : IFun) (analyze : Nat → D.A → D.A) (init : D.A) (CR : CallRel)
    (hA : ∀ n a (s s' : Env), s.size = p.nv ∧ EnvIn D.toAbsDom a s →
      Pref CR (f.blk n) (f.blk n).stmts.size s s' → s'.size = p.nv ∧ EnvIn D.toAbsDom (analyze n a) s') :
    Sem (mkCtx D cfg g f analyze init) Env where
  γ := fun a env => env.size = p.nv ∧ EnvIn D.toAbsDom a env
  step := fun n s s' => Pref CR (f.blk n) (f.blk n).stmts.size s s'
  analyze_sound := hA
  join_left := fun _ _ _ h => ⟨h.1, fun σ hσ => D.join_left (h.2 σ hσ)⟩
  join_right := fun _ _ _ h => ⟨h.1, fun σ hσ => D.join_right (h.2 σ hσ)⟩
  widen_left := fun _ _ _ h => ⟨h.1, fun σ hσ => D.widen_left (h.2 σ hσ)⟩
  widen_right := fun _ _ _ h => ⟨h.1, fun σ hσ => D.widen_right (h.2 σ hσ)⟩
  meet_sound := fun _ _ _ h1 h2 => ⟨h1.1, fun σ hσ => D.meet_sound (h1.2 σ hσ) (h2.2 σ hσ)⟩
  narrow_sound := fun _ _ _ h1 h2 => ⟨h1.1, fun σ hσ => D.narrow_sound (h1.2 σ hσ) (h2.2 σ hσ)⟩
  leq_sound := fun _ _ _ hl h => ⟨h.1, fun σ hσ => D.leq_sound hl (h.2 σ hσ)⟩

/-- `frameSem` for the solver whose block transformer executes the statements with `call` -/
def solveSem (D : IDom) (cfg : FixCfg) (g : Nat) {f : IFun} (hF : FunOK p f)
    {call : Nat → List Var → List Var → D.A → D.A} {CR : CallRel} (hcs : CallSound p D call CR) (init : D.A) :
    Sem (mkCtx D cfg g f (fun n a => execBlock D call (f.blk n) a) init) Env :=
  frameSem D cfg g f _ init CR (fun n a s s' hγ hst => by
    have := Pref.sound D hcs hF n a hst hγ.1 hγ.2
    rw [execPrefix_all] at this
    exact ⟨this.2, this.1⟩)

theorem mem_preds {f : IFun} {b n : Nat} (h : n ∈ (f.blk b).succs.toList) : b ∈ f.preds n := by
  unfold IFun.preds
  rw [List.mem_filter]
  exact ⟨List.mem_range.mpr (succ_blk_lt h), by simpa using h⟩

/-- the local collecting semantics is inside the collecting semantics of the iterator theorems -/
theorem LPre.reach (D : IDom) (cfg : FixCfg) (g : Nat) {f : IFun} {analyze : Nat → D.A → D.A} (init : D.A)
    {CR : CallRel} (hA : ∀ n a (s s' : Env), s.size = p.nv ∧ EnvIn D.toAbsDom a s →
      Pref CR (f.blk n) (f.blk n).stmts.size s s' → s'.size = p.nv ∧ EnvIn D.toAbsDom (analyze n a) s')
    (E : Env → Prop) (hE : ∀ s, E s → s.size = p.nv ∧ EnvIn D.toAbsDom init s) :
    ∀ {n : Nat} {s : Env}, LPre CR f E n s → ReachPre _ (frameSem D cfg g f analyze init CR hA) n s := by
  intro n s h
  induction h with
  | init hs => exact ReachPre.init _ (hE _ hs) (by simp [asmOk, hasAssumptions, mkCtx])
  | flow _ hp hn ih =>
    exact ReachPre.flow _ _ _ (mem_preds hn) (ReachPost.step _ _ _ ih hp) (by simp [asmOk, hasAssumptions, mkCtx])

theorem solve_sound (D : IDom) (cfg : FixCfg) (g : Nat) {f : IFun} (hF : FunOK p f)
    {call : Nat → List Var → List Var → D.A → D.A} {CR : CallRel} (hcs : CallSound p D call CR) (init : D.A)
    (E : Env → Prop) (hE : ∀ s, E s → s.size = p.nv ∧ EnvIn D.toAbsDom init s)
    (hwf : WtoWF (mkCtx D cfg g f (fun n a => execBlock D call (f.blk n) a) init) (cfg.wto g))
    (st : Fix.St D.A) (hrun : solve D cfg g f call init = some st) (b k : Nat) (env : Env)
    (h : LocalAt CR f E b k env) :
    EnvIn D.toAbsDom (execPrefix D call (f.blk b) k (st.pre b)) env ∧ env.size = p.nv ∧
    (k = (f.blk b).stmts.size → EnvIn D.toAbsDom (st.post b) env) := by
  have hs := C01.run_sound _ (cfg.wto g) Env (solveSem D cfg g hF hcs init) cfg.fuel st hwf hrun
  obtain ⟨s0, h1, h2⟩ := h
  have hr : ReachPre _ (solveSem D cfg g hF hcs init) b s0 := LPre.reach D cfg g init _ E hE h1
  have hpre := hs.1 b s0 hr
  have := Pref.sound D hcs hF b (st.pre b) h2 hpre.1 hpre.2
  refine ⟨this.1, this.2, ?_⟩
  intro hk
  subst hk
  exact (hs.2 b env (ReachPost.step _ _ _ hr h2)).2

theorem SeqOK.of_bool : ∀ {xs ys : List Var}, seqOKb xs ys = true → SeqOK xs ys
  | [], _, _ => by cases ‹List Var› <;> trivial
  | _ :: _, [], _ => trivial
  | x :: xs, y :: ys, h => by
    simp only [seqOKb, Bool.and_eq_true, Bool.or_eq_true, beq_iff_eq, Bool.not_eq_true',
      List.contains_eq_mem, decide_eq_false_iff_not] at h
    exact ⟨h.1, SeqOK.of_bool h.2⟩

/-- `project(unify(inv, formals := actuals), formals)` describes the frame the call creates, when
    the sequential wiring is a parallel assignment (`SeqOK`) -/
theorem tdCalleeCtx_sound (TD : IDom) {BU : IDom} (s : Summary BU) (args : List Var) (inv : TD.A)
    (env env' : Env) (hnd : s.ins.Nodup) (hok : SeqOK s.ins args) (hlen : s.ins.length ≤ args.length)
    (hins : ∀ v, v ∈ s.ins → v < env'.size)
    (h : EnvIn TD.toAbsDom inv env)
    (hm : MatchVals s.ins (args.map (fun a => env.getD a 0)) (toSt env')) :
    EnvIn TD.toAbsDom (tdCalleeCtx TD s args inv) env' := by
  intro τ hτ
  exact TD.project_sound s.ins (unifySeq_sound TD.toAbsDom s.ins args inv _ (h _ (Ext_toSt env)))
    (seqAssign_of_pairs hnd hok hlen
      (AllPairs.of_match_map (hm.congr fun x hx => hτ x (hins x hx)) (fun _ _ => rfl)))

end Crab.Inter
