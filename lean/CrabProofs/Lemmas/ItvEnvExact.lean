import CrabModel.Dom.ItvEnv
import CrabProofs.Lemmas.Interval
import CrabProofs.Lemmas.IntervalTight
import CrabProofs.Lemmas.Bound
import CrabProofs.Lemmas.StateUpd

/-! Exactness of the canonical interval-environment model `Crab.ItvEnv` on its own constraint
    language `±x ≤ k` (property C12): the concretisation is a product of intervals, `assume`
    and `meet` are exact, `bounds` is tight, `entails` is complete, `join` is the least upper
    bound and `forget` is exact existential quantification. -/

namespace Crab

namespace Itv
open Bound

/-- the upper bound of a well-formed non-empty interval is below every bound of its members -/
theorem ub_le_of_forall {i : Itv} (hw : i.WF) (hb : i.isBottom = false) {k : Int}
    (h : ∀ t, mem t i → t ≤ k) : Bound.le i.ub (fin k) = true := by
  cases hu : i.ub with
  | ninf => rfl
  | fin u => simpa using h u (ub_mem hb hu)
  | pinf =>
    obtain ⟨v, hlt, hv⟩ := unbounded_above hw hu (k + 1)
    have := h v hv
    omega

theorem le_lb_of_forall {i : Itv} (hw : i.WF) (hb : i.isBottom = false) {k : Int}
    (h : ∀ t, mem t i → k ≤ t) : Bound.le (fin k) i.lb = true := by
  cases hl : i.lb with
  | pinf => rfl
  | fin l => simpa using h l (lb_mem hb hl)
  | ninf =>
    obtain ⟨v, hlt, hv⟩ := unbounded_below hw hl (k - 1)
    have := h v hv
    omega

theorem mem_meet_iff {a b : Itv} {k : Int} : mem k (meet a b) ↔ (mem k a ∧ mem k b) :=
  ⟨meet_exact, fun ⟨ha, hb⟩ => meet_sound ha hb⟩

theorem mem_le_iff (t k : Int) : mem t ⟨ninf, fin k⟩ ↔ t ≤ k := by simp [mem]
theorem mem_ge_iff (t k : Int) : mem t ⟨fin k, pinf⟩ ↔ k ≤ t := by simp [mem]

end Itv

namespace ItvEnv
open Bound

variable {n : Nat}

/-- no binding is `[+oo, ..]` or `[.., -oo]`: such an interval has no member without being
    `is_bottom`.  The exactness theorems need it; every operation keeps it. -/
def EnvWF (e : Env n) : Prop := ∀ x, (get e x).WF

def updS (σ : State n) (x : Fin n) (t : Int) : State n := fun y => if y = x then t else σ y

/-- the lemmas about the update are those of `RelDom.upd` -/
theorem updS_eq : @updS n = RelDom.upd := rfl


theorem get_ofFn (f : Fin n → Itv) (x : Fin n) : get (ofFn f) x = f x := by
  unfold get ofFn
  rw [Vector.getElem_ofFn]

theorem get_upd (e : Env n) (x : Fin n) (i : Itv) (y : Fin n) :
    get (upd e x i) y = if y = x then i else get e y := by
  unfold upd; rw [get_ofFn]

theorem get_upd_same (e : Env n) (x : Fin n) (i : Itv) : get (upd e x i) x = i := by
  rw [get_upd]; simp

theorem get_upd_ne (e : Env n) {x y : Fin n} (i : Itv) (h : y ≠ x) : get (upd e x i) y = get e y := by
  rw [get_upd]; simp [h]

theorem isBottom_iff (e : Env n) : isBottom e = true ↔ ∃ x, (get e x).isBottom = true := by
  unfold isBottom
  rw [List.any_eq_true]
  constructor
  · rintro ⟨x, _, hx⟩; exact ⟨x, hx⟩
  · rintro ⟨x, hx⟩; exact ⟨x, List.mem_finRange x, hx⟩

theorem isBottom_false_iff (e : Env n) : isBottom e = false ↔ ∀ x, (get e x).isBottom = false := by
  rw [← Bool.not_eq_true, isBottom_iff, not_exists]
  simp only [Bool.not_eq_true]

/-- a bottom environment has no concrete state (no well-formedness needed) -/
theorem not_γ_of_isBottom {e : Env n} (h : isBottom e = true) (σ : State n) : ¬ γ e σ := by
  intro hγ
  obtain ⟨x, hx⟩ := (isBottom_iff e).1 h
  exact Itv.not_mem_of_isBottom hx (hγ x)

theorem isBottom_false_of_γ {e : Env n} {σ : State n} (h : γ e σ) : isBottom e = false := by
  cases hb : isBottom e
  · rfl
  · exact absurd h (not_γ_of_isBottom hb σ)


theorem EnvWF_top : EnvWF (top : Env n) := by
  intro x; unfold top; rw [get_ofFn]; exact Itv.wf_top

theorem EnvWF_upd {e : Env n} (hw : EnvWF e) (x : Fin n) {i : Itv} (hi : i.WF) : EnvWF (upd e x i) := by
  intro y; rw [get_upd]; split
  · exact hi
  · exact hw y

theorem EnvWF_assumeCst {e : Env n} (hw : EnvWF e) (c : Cst n) : EnvWF (assumeCst e c) := by
  cases c with
  | ub x k =>
    exact EnvWF_upd hw x (Itv.wf_meet (hw x) (by simp [Itv.WF]))
  | lb x k =>
    exact EnvWF_upd hw x (Itv.wf_meet (hw x) (by simp [Itv.WF]))

theorem EnvWF_assumeAll {e : Env n} (hw : EnvWF e) (cs : List (Cst n)) : EnvWF (assumeAll e cs) :=
  List.foldlRecOn cs assumeCst hw fun _ h c _ => EnvWF_assumeCst h c

theorem EnvWF_join {a b : Env n} (ha : EnvWF a) (hb : EnvWF b) : EnvWF (join a b) := by
  unfold join; split
  · exact hb
  · split
    · exact ha
    · intro x; rw [get_ofFn]; exact Itv.wf_join (ha x) (hb x)

theorem EnvWF_meet {a b : Env n} (ha : EnvWF a) (hb : EnvWF b) : EnvWF (meet a b) := by
  intro x; unfold meet; rw [get_ofFn]; exact Itv.wf_meet (ha x) (hb x)

theorem EnvWF_forget {e : Env n} (hw : EnvWF e) (x : Fin n) : EnvWF (forget e x) := by
  unfold forget; split
  · exact hw
  · exact EnvWF_upd hw x Itv.wf_top


theorem top_γ (σ : State n) : γ (top : Env n) σ := by
  intro x; unfold top; rw [get_ofFn]; exact Itv.mem_top _

theorem γ_updS (e : Env n) (σ : State n) (x : Fin n) (t : Int) :
    γ e (updS σ x t) ↔ (Itv.mem t (get e x) ∧ ∀ y, y ≠ x → Itv.mem (σ y) (get e y)) := by
  constructor
  · intro h
    refine ⟨?_, fun y hy => ?_⟩
    · have := h x; rwa [updS_eq, RelDom.upd_same] at this
    · have := h y; rwa [updS_eq, RelDom.upd_ne σ t hy] at this
  · rintro ⟨h1, h2⟩ y
    by_cases hy : y = x
    · subst hy; rw [updS_eq, RelDom.upd_same]; exact h1
    · rw [updS_eq, RelDom.upd_ne σ t hy]; exact h2 y hy

theorem exists_state (e : Env n) (hw : EnvWF e) (hb : isBottom e = false) : ∃ σ, γ e σ := by
  have h : ∀ x, ∃ k, Itv.mem k (get e x) :=
    fun x => Itv.exists_mem (hw x) ((isBottom_false_iff e).1 hb x)
  exact ⟨fun x => Classical.choose (h x), fun x => Classical.choose_spec (h x)⟩

/-- coordinates can be chosen independently: any member of the `x` interval is the `x`
    coordinate of a concrete state -/
theorem exists_state_with (e : Env n) (hw : EnvWF e) (hb : isBottom e = false) (x : Fin n)
    {v : Int} (hv : Itv.mem v (get e x)) : ∃ σ, γ e σ ∧ σ x = v := by
  obtain ⟨σ, hσ⟩ := exists_state e hw hb
  exact ⟨updS σ x v, (γ_updS e σ x v).2 ⟨hv, fun y _ => hσ y⟩, RelDom.upd_same σ x v⟩

theorem bottom_iff_unsat (e : Env n) (hw : EnvWF e) : isBottom e = true ↔ ¬ ∃ σ, γ e σ := by
  constructor
  · rintro h ⟨σ, hσ⟩; exact not_γ_of_isBottom h σ hσ
  · intro h
    cases hb : isBottom e
    · exact absurd (exists_state e hw hb) h
    · rfl


theorem γ_upd (e : Env n) (x : Fin n) (i : Itv) (σ : State n) :
    γ (upd e x i) σ ↔ (Itv.mem (σ x) i ∧ ∀ y, y ≠ x → Itv.mem (σ y) (get e y)) := by
  constructor
  · intro h
    refine ⟨?_, fun y hy => ?_⟩
    · have := h x; rwa [get_upd_same] at this
    · have := h y; rwa [get_upd_ne e i hy] at this
  · rintro ⟨h1, h2⟩ y
    by_cases hy : y = x
    · subst hy; rw [get_upd_same]; exact h1
    · rw [get_upd_ne e i hy]; exact h2 y hy

theorem γ_upd_meet (e : Env n) (x : Fin n) (j : Itv) (σ : State n) :
    γ (upd e x (Itv.meet (get e x) j)) σ ↔ (γ e σ ∧ Itv.mem (σ x) j) := by
  rw [γ_upd, Itv.mem_meet_iff]
  constructor
  · rintro ⟨⟨h1, h2⟩, h3⟩
    refine ⟨fun y => ?_, h2⟩
    by_cases hy : y = x
    · subst hy; exact h1
    · exact h3 y hy
  · rintro ⟨h1, h2⟩
    exact ⟨⟨h1 x, h2⟩, fun y _ => h1 y⟩

theorem assumeCst_exact (e : Env n) (c : Cst n) (σ : State n) :
    γ (assumeCst e c) σ ↔ (γ e σ ∧ c.sat σ) := by
  cases c with
  | ub x k =>
    show γ (upd e x (Itv.meet (get e x) ⟨.ninf, .fin k⟩)) σ ↔ (γ e σ ∧ σ x ≤ k)
    rw [γ_upd_meet, Itv.mem_le_iff]
  | lb x k =>
    show γ (upd e x (Itv.meet (get e x) ⟨.fin (-k), .pinf⟩)) σ ↔ (γ e σ ∧ -σ x ≤ k)
    rw [γ_upd_meet, Itv.mem_ge_iff]
    constructor
    · rintro ⟨h1, h2⟩; exact ⟨h1, by omega⟩
    · rintro ⟨h1, h2⟩; exact ⟨h1, by omega⟩

theorem assumeAll_exact (e : Env n) (cs : List (Cst n)) (σ : State n) :
    γ (assumeAll e cs) σ ↔ (γ e σ ∧ ∀ c ∈ cs, c.sat σ) :=
  RelDom.foldl_assume_exact assumeCst_exact cs e σ


theorem bounds_of_not_bottom {e : Env n} (hb : isBottom e = false) (x : Fin n) : bounds e x = get e x := by
  simp [bounds, hb]

theorem bounds_sound (e : Env n) (σ : State n) (h : γ e σ) (x : Fin n) : Itv.mem (σ x) (bounds e x) := by
  rw [bounds_of_not_bottom (isBottom_false_of_γ h)]; exact h x

theorem bounds_tight_ub (e : Env n) (hw : EnvWF e) (hb : isBottom e = false) (x : Fin n) (k : Int)
    (h : (bounds e x).ub = .fin k) : ∃ σ, γ e σ ∧ σ x = k := by
  rw [bounds_of_not_bottom hb] at h
  exact exists_state_with e hw hb x (Itv.ub_mem ((isBottom_false_iff e).1 hb x) h)

theorem bounds_tight_lb (e : Env n) (hw : EnvWF e) (hb : isBottom e = false) (x : Fin n) (k : Int)
    (h : (bounds e x).lb = .fin k) : ∃ σ, γ e σ ∧ σ x = k := by
  rw [bounds_of_not_bottom hb] at h
  exact exists_state_with e hw hb x (Itv.lb_mem ((isBottom_false_iff e).1 hb x) h)

theorem bounds_unbounded_ub (e : Env n) (hw : EnvWF e) (hb : isBottom e = false) (x : Fin n)
    (h : (bounds e x).ub = .pinf) (B : Int) : ∃ σ, γ e σ ∧ B < σ x := by
  rw [bounds_of_not_bottom hb] at h
  obtain ⟨v, hlt, hv⟩ := Itv.unbounded_above (hw x) h (B + 1)
  obtain ⟨σ, hσ, hx⟩ := exists_state_with e hw hb x hv
  exact ⟨σ, hσ, by omega⟩

theorem bounds_unbounded_lb (e : Env n) (hw : EnvWF e) (hb : isBottom e = false) (x : Fin n)
    (h : (bounds e x).lb = .ninf) (B : Int) : ∃ σ, γ e σ ∧ σ x < B := by
  rw [bounds_of_not_bottom hb] at h
  obtain ⟨v, hlt, hv⟩ := Itv.unbounded_below (hw x) h (B - 1)
  obtain ⟨σ, hσ, hx⟩ := exists_state_with e hw hb x hv
  exact ⟨σ, hσ, by omega⟩


theorem entails_iff_implied (e : Env n) (hw : EnvWF e) (c : Cst n) :
    entails e c = true ↔ ∀ σ, γ e σ → c.sat σ := by
  cases hb : isBottom e with
  | true =>
    exact ⟨fun _ σ hσ => absurd hσ (not_γ_of_isBottom hb σ), fun _ => by cases c <;> simp [entails, hb]⟩
  | false =>
    have hnb := (isBottom_false_iff e).1 hb
    -- every member of the interval of `x` is the value of `x` in some state
    have hx : ∀ x (P : Int → Prop), (∀ σ, γ e σ → P (σ x)) → ∀ t, Itv.mem t (get e x) → P t := by
      intro x P h t ht
      obtain ⟨σ, hσ, rfl⟩ := exists_state_with e hw hb x ht
      exact h σ hσ
    cases c with
    | ub x k =>
      show (isBottom e || Bound.le (get e x).ub (.fin k)) = true ↔ ∀ σ, γ e σ → σ x ≤ k
      rw [hb, Bool.false_or]
      exact ⟨fun h σ hσ => by simpa using Bound.le_trans (hσ x).2 h,
        fun h => Itv.ub_le_of_forall (hw x) (hnb x) (hx x (· ≤ k) h)⟩
    | lb x k =>
      show (isBottom e || Bound.le (.fin (-k)) (get e x).lb) = true ↔ ∀ σ, γ e σ → -σ x ≤ k
      rw [hb, Bool.false_or]
      exact ⟨fun h σ hσ => by have := Bound.le_trans h (hσ x).1; simp at this; omega,
        fun h => Itv.le_lb_of_forall (hw x) (hnb x) (hx x (-k ≤ ·) fun σ hσ => by have := h σ hσ; omega)⟩


theorem join_upper (a b : Env n) (σ : State n) (h : γ a σ ∨ γ b σ) : γ (join a b) σ := by
  unfold join
  rcases h with h | h
  · rw [isBottom_false_of_γ h]
    simp only [Bool.false_eq_true, if_false]
    split
    · exact h
    · intro x; rw [get_ofFn]; exact Itv.join_upper_left (h x)
  · split
    · exact h
    · rw [isBottom_false_of_γ h]
      simp only [Bool.false_eq_true, if_false]
      intro x; rw [get_ofFn]; exact Itv.join_upper_right (h x)

/-- inclusion of product concretisations is coordinatewise -/
theorem leq_of_γ_subset {a c : Env n} (hwa : EnvWF a) (hba : isBottom a = false)
    (h : ∀ σ, γ a σ → γ c σ) (x : Fin n) : Itv.leq (get a x) (get c x) = true := by
  apply Itv.leq_of_subset (hwa x)
  intro k hk
  obtain ⟨σ, hσ, hx⟩ := exists_state_with a hwa hba x hk
  have := h σ hσ x
  rwa [hx] at this

theorem join_least (a b c : Env n) (hwa : EnvWF a) (hwb : EnvWF b)
    (ha : ∀ σ, γ a σ → γ c σ) (hb : ∀ σ, γ b σ → γ c σ) (σ : State n) (h : γ (join a b) σ) : γ c σ := by
  unfold join at h
  cases hba : isBottom a with
  | true => rw [hba] at h; exact hb σ h
  | false =>
    cases hbb : isBottom b with
    | true => rw [hba, hbb] at h; exact ha σ h
    | false =>
      rw [hba, hbb] at h
      simp only [Bool.false_eq_true, if_false] at h
      intro x
      have hx := h x
      rw [get_ofFn] at hx
      exact Itv.leq_sound
        (Itv.join_least (leq_of_γ_subset hwa hba ha x) (leq_of_γ_subset hwb hbb hb x)) hx

theorem meet_exact (a b : Env n) (σ : State n) : γ (meet a b) σ ↔ (γ a σ ∧ γ b σ) := by
  unfold meet
  constructor
  · intro h
    refine ⟨fun x => ?_, fun x => ?_⟩
    · have := h x; rw [get_ofFn] at this; exact (Itv.meet_exact this).1
    · have := h x; rw [get_ofFn] at this; exact (Itv.meet_exact this).2
  · rintro ⟨h1, h2⟩ x
    rw [get_ofFn]; exact Itv.meet_sound (h1 x) (h2 x)

theorem forget_exact (e : Env n) (hw : EnvWF e) (x : Fin n) (σ : State n) :
    γ (forget e x) σ ↔ ∃ t, γ e (updS σ x t) := by
  unfold forget
  cases hb : isBottom e with
  | true =>
    simp only [if_true]
    constructor
    · intro h; exact absurd h (not_γ_of_isBottom hb σ)
    · rintro ⟨t, ht⟩; exact absurd ht (not_γ_of_isBottom hb _)
  | false =>
    simp only [Bool.false_eq_true, if_false]
    rw [γ_upd]
    constructor
    · rintro ⟨_, h⟩
      obtain ⟨t, ht⟩ := Itv.exists_mem (hw x) ((isBottom_false_iff e).1 hb x)
      exact ⟨t, (γ_updS e σ x t).2 ⟨ht, h⟩⟩
    · rintro ⟨t, ht⟩
      exact ⟨Itv.mem_top _, ((γ_updS e σ x t).1 ht).2⟩

end ItvEnv
end Crab
