import CrabModel.Dom.Functors.Packing

/-!
A lawful base numerical domain for the non-vacuity examples of the packing functor: constants over
three variables (`none` = bottom; a map variable ↦ known constant otherwise), with `-=`, the meet
that detects conflicting constants, and three transformers (`x := k`, `x := y`, `assume x == k`).
-/
namespace Crab
namespace Dom
namespace Fct

abbrev V3 := Fin 3

def allV (f : V3 → Bool) : Bool := f 0 && f 1 && f 2

theorem allV_iff (f : V3 → Bool) : allV f = true ↔ ∀ v, f v = true := by
  unfold allV
  constructor
  · intro h v
    simp only [Bool.and_eq_true] at h
    match v with
    | 0 => exact h.1.1
    | 1 => exact h.1.2
    | 2 => exact h.2
  · intro h; simp [h 0, h 1, h 2]

abbrev CMap := V3 → Option Int

def CMap.γ (m : CMap) (s : St V3) : Prop := ∀ v k, m v = some k → s v = k

def cJoin : Option CMap → Option CMap → Option CMap
  | none, b => b
  | a, none => a
  | some m, some n => some (fun v => if m v = n v then m v else none)

def cCompat (m n : CMap) : Bool := allV (fun v => (m v).isNone || (n v).isNone || decide (m v = n v))

def cMeet : Option CMap → Option CMap → Option CMap
  | some m, some n => if cCompat m n then some (fun v => match m v with | some k => some k | none => n v) else none
  | _, _ => none

def cLeq : Option CMap → Option CMap → Bool
  | none, _ => true
  | some _, none => false
  | some m, some n => allV (fun v => (n v).isNone || decide (n v = m v))

def constDom : NDom V3 where
  B := Option CMap
  γ := fun b s => match b with | none => False | some m => m.γ s
  top := some (fun _ => none)
  bot := none
  isBot := fun b => b.isNone
  isTop := fun b => match b with | none => false | some m => allV (fun v => (m v).isNone)
  leq := cLeq
  join := cJoin
  meet := cMeet
  widen := cJoin
  narrow := cMeet
  forget := fun b x => b.map (fun m v => if v = x then none else m v)
  top_sound := by intro s v k h; simp at h
  bot_sound := fun _ h => h
  isBot_sound := by intro b s h; cases b <;> simp_all
  leq_sound := by
    intro a b s h hg
    match a, b with
    | none, _ => exact absurd hg id
    | some m, none => simp [cLeq] at h
    | some m, some n =>
      intro v k hk
      have h' : allV (fun v => (n v).isNone || decide (n v = m v)) = true := h
      have := (allV_iff _).1 h' v
      simp only [Bool.or_eq_true, Option.isNone_iff_eq_none, decide_eq_true_eq] at this
      rcases this with h1 | h1
      · rw [h1] at hk; simp at hk
      · exact hg v k (h1 ▸ hk)
  join_l := by
    intro a b s hg
    match a, b with
    | none, _ => exact absurd hg id
    | some m, none => exact hg
    | some m, some n =>
      intro v k hk
      simp only at hk
      split at hk
      · exact hg v k hk
      · simp at hk
  join_r := by
    intro a b s hg
    match a, b with
    | none, _ => exact hg
    | some m, none => exact absurd hg id
    | some m, some n =>
      intro v k hk
      simp only at hk
      split at hk
      · rename_i he; exact hg v k (he ▸ hk)
      · simp at hk
  widen_l := by
    intro a b s hg
    match a, b with
    | none, _ => exact absurd hg id
    | some m, none => exact hg
    | some m, some n =>
      intro v k hk
      simp only at hk
      split at hk
      · exact hg v k hk
      · simp at hk
  widen_r := by
    intro a b s hg
    match a, b with
    | none, _ => exact hg
    | some m, none => exact absurd hg id
    | some m, some n =>
      intro v k hk
      simp only at hk
      split at hk
      · rename_i he; exact hg v k (he ▸ hk)
      · simp at hk
  meet_sound := by
    intro a b s ha hb
    match a, b with
    | none, _ => exact absurd ha id
    | some m, none => exact absurd hb id
    | some m, some n =>
      have hc : cCompat m n = true := by
        apply (allV_iff _).2
        intro v
        cases hm : m v with
        | none => simp
        | some k1 =>
          cases hn : n v with
          | none => simp
          | some k2 =>
            have e1 := ha v k1 hm
            have e2 := hb v k2 hn
            simp [← e1, ← e2]
      simp only [cMeet, hc, if_true]
      intro v k hk
      simp only at hk
      split at hk
      · rename_i k1 hm
        simp only [Option.some.injEq] at hk
        exact hk ▸ ha v k1 hm
      · exact hb v k hk
  narrow_sound := by
    intro a b s ha hb
    match a, b with
    | none, _ => exact absurd ha id
    | some m, none => exact absurd hb id
    | some m, some n =>
      have hc : cCompat m n = true := by
        apply (allV_iff _).2
        intro v
        cases hm : m v with
        | none => simp
        | some k1 =>
          cases hn : n v with
          | none => simp
          | some k2 =>
            have e1 := ha v k1 hm
            have e2 := hb v k2 hn
            simp [← e1, ← e2]
      simp only [cMeet, hc, if_true]
      intro v k hk
      simp only at hk
      split at hk
      · rename_i k1 hm
        simp only [Option.some.injEq] at hk
        exact hk ▸ ha v k1 hm
      · exact hb v k hk
  forget_sound := by
    intro b x s k hg
    match b with
    | none => exact absurd hg id
    | some m =>
      intro v k' hk
      simp only at hk
      split at hk
      · simp at hk
      · rename_i hne
        simp only [St.set, hne, if_false]
        exact hg v k' hk

theorem constDom_topSound : constDom.TopSound := by
  intro b s h
  match b with
  | none => simp [constDom] at h
  | some m =>
    intro v k hk
    have h' : allV (fun v => (m v).isNone) = true := h
    have := (allV_iff _).1 h' v
    simp only [Option.isNone_iff_eq_none] at this
    rw [this] at hk; simp at hk

theorem constDom_leqRefl : constDom.LeqRefl := by
  intro a
  match a with
  | none => rfl
  | some m =>
    show allV (fun v => (m v).isNone || decide (m v = m v)) = true
    apply (allV_iff _).2; intro v; simp

/-- `x := k` -/
def cAssignK (x : V3) (k : Int) : constDom.B → constDom.B := fun b => b.map (fun m v => if v = x then some k else m v)
/-- `x := y` -/
def cAssignV (x y : V3) : constDom.B → constDom.B := fun b => b.map (fun m v => if v = x then m y else m v)
/-- `assume x == k` -/
def cAssumeEq (x : V3) (k : Int) : constDom.B → constDom.B := fun b =>
  match b with
  | none => none
  | some m => match m x with
    | some k' => if k' = k then some m else none
    | none => some (fun v => if v = x then some k else m v)

theorem cAssignK_sound (x : V3) (k : Int) : constDom.TSound (cAssignK x k) (fun s s' => s' = s.set x k) := by
  intro a s s' hg hr
  subst hr
  match a with
  | none => exact absurd hg id
  | some m =>
    intro v k' hk
    simp only at hk
    unfold St.set
    split at hk
    · rename_i he; simp only [Option.some.injEq] at hk; simp [he, hk]
    · rename_i hne; simp only [hne, if_false]; exact hg v k' hk

theorem cAssignV_sound (x y : V3) : constDom.TSound (cAssignV x y) (fun s s' => s' = s.set x (s y)) := by
  intro a s s' hg hr
  subst hr
  match a with
  | none => exact absurd hg id
  | some m =>
    intro v k' hk
    simp only at hk
    unfold St.set
    split at hk
    · rename_i he; simp only [he, if_true]; exact hg y k' hk
    · rename_i hne; simp only [hne, if_false]; exact hg v k' hk

theorem cAssumeEq_sound (x : V3) (k : Int) :
    constDom.TSound (cAssumeEq x k) (fun s s' => s x = k ∧ s' = s) := by
  intro a s s' hg hr
  obtain ⟨hx, rfl⟩ := hr
  match a with
  | none => exact absurd hg id
  | some m =>
    unfold cAssumeEq
    simp only
    split
    · rename_i k' hm
      have := hg x k' hm
      have hk : k' = k := by rw [← this, hx]
      simp only [hk, if_true]
      exact hg
    · intro v k' hk'
      simp only at hk'
      split at hk'
      · rename_i he; simp only [Option.some.injEq] at hk'; rw [he, hx, hk']
      · exact hg v k' hk'

/-! ### the operations of the example histories of `Props/C03Functors.lean` -/
namespace PackEx
open PK

theorem local_assignK (x : V3) (k : Int) : Local (fun s s' => s' = s.set x k) [x] := by
  constructor
  · intro s s' h v hv; subst h
    have : v ≠ x := by simpa using hv
    simp [St.set, this]
  · intro s s' h t _; subst h
    funext v
    by_cases hv : v = x <;> simp [St.set, hv]

theorem local_assignV (x y : V3) : Local (fun s s' => s' = s.set x (s y)) [y, x] := by
  constructor
  · intro s s' h v hv; subst h
    have : v ≠ x := by intro he; apply hv; simp [he]
    simp [St.set, this]
  · intro s s' h t ht; subst h
    funext v
    by_cases hv : v = x
    · simp [St.set, hv, ht y (by simp)]
    · by_cases hy : v = y <;> simp [St.set, hv, hy, ht y (by simp)]

/-- `v0 := 5` (`assign` with a constant right-hand side: `forget(v0); merge({v0})`) -/
def op1 : Op constDom := .stmt 0 (some 0) [0] (cAssignK 0 5) true true (fun s s' => s' = s.set 0 5)
/-- `v1 := v0` (`forget(v1); merge({v0, v1})`: the two packs are merged) -/
def op2 : Op constDom := .stmt 0 (some 1) [0, 1] (cAssignV 1 0) true true (fun s s' => s' = s.set 1 (s 0))
/-- `v2 := 7` in its own pack -/
def op3 : Op constDom := .stmt 0 (some 2) [2] (cAssignK 2 7) true true (fun s s' => s' = s.set 2 7)
/-- `assume v1 == 6` -/
def op4 : Op constDom := .add 0 [⟨false, false, [1], cAssumeEq 1 6, fun s => s 1 = 6⟩]

theorem ops_baseSound : ∀ op ∈ [op1, op2, op3, Op.forget 0 [0], Op.copy 1 0, op4], op.BaseSound := by
  intro op hop
  simp only [List.mem_cons, List.mem_nil_iff, or_false] at hop
  rcases hop with rfl | rfl | rfl | rfl | rfl | rfl
  · exact ⟨cAssignK_sound 0 5, local_assignK 0 5, by simp⟩
  · exact ⟨cAssignV_sound 1 0, local_assignV 1 0, by simp⟩
  · exact ⟨cAssignK_sound 2 7, local_assignK 2 7, by simp⟩
  · trivial
  · trivial
  · intro c hc
    simp only [List.mem_cons, List.mem_nil_iff, or_false] at hc
    subst hc
    refine ⟨by simp, cAssumeEq_sound 1 6, ?_⟩
    intro s t ht hs
    simp only at hs ⊢
    rw [ht 1 (by simp)]; exact hs

end PackEx

end Fct
end Dom
end Crab
