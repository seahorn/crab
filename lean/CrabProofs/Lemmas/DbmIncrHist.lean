import CrabProofs.Lemmas.DbmIncrAdd

/-!
  `addCst` (one `operator+=` of an in-language constraint) and `addAll` (a history from top), for
  both settings of `zones.close_bounds_inline`, against the canonical model `Zones.assumeCst` /
  `Zones.assumeAll`.
-/
namespace Crab
namespace DbmIncr
open Dbm Zones

variable {n : Nat}

def cstV (c : Zones.Cst n) (v : Fin (n + 1) → Int) : Prop := v c.row - v c.col ≤ c.bound

theorem assumeCst_sat (z : Zone n) (c : Zones.Cst n) (v : Fin (n + 1) → Int) :
    (assumeCst z c).sat v ↔ (z.sat v ∧ cstV c v) := Mat.addEdge_sat z c.row c.col c.bound v

/-- the loops of `add_linear_leq` followed by the final re-closure of the bounds -/
theorem StepTo.finish {inl : Bool} (vs : List (Fin (n + 1))) (hvs : ∀ v, v ∈ vs)
    {P : (Fin (n + 1) → Int) → Prop} {s : SG n} {r : Option (SG n)} (h : StepTo (Inside inl) P s r) :
    StepGood P s (r.map (closeBoundsEnd inl vs)) := by
  cases r with
  | none => exact h
  | some s1 =>
    obtain ⟨hm, he⟩ := h
    obtain ⟨hg, he2⟩ := closeBoundsEnd_spec inl vs hvs s1 hm
    exact ⟨hg, fun v => by rw [he2, he]⟩

theorem StepOK.finish (vs : List (Fin (n + 1))) (hvs : ∀ v, v ∈ vs)
    {P : (Fin (n + 1) → Int) → Prop} {s : SG n} {r : Option (SG n)} (h : StepOK P s r) :
    StepGood P s (r.map (closeBoundsEnd false vs)) :=
  StepTo.finish (inl := false) vs hvs (by cases r <;> exact h)

/-- `StepBtw` = step between: a step that only adds consequences of `A`; its result lies between `s` and
    `s` with `A` -/
def StepBtw (inl : Bool) (A : (Fin (n + 1) → Int) → Prop) (s : SG n) (r : Option (SG n)) : Prop :=
  match r with
  | none => ∀ v, s.g.sat v → ¬ A v
  | some s1 => Inside inl s1 ∧ (∀ v, s1.g.sat v → s.g.sat v) ∧ ∀ v, s.g.sat v → A v → s1.g.sat v

theorem StepTo.btw {inl : Bool} {P A : (Fin (n + 1) → Int) → Prop} {s : SG n} {r : Option (SG n)}
    (h : StepTo (Inside inl) P s r) (himp : ∀ x, s.g.sat x → A x → P x) : StepBtw inl A s r := by
  cases r with
  | none => exact fun x hx hc => h x hx (himp x hx hc)
  | some s1 =>
    exact ⟨h.1, fun x hx => ((h.2 x).1 hx).1, fun x hx hc => (h.2 x).2 ⟨hx, himp x hx hc⟩⟩

theorem addDerivedLb_spec (inl : Bool) (vs : List (Fin (n + 1))) (hvs : ∀ v, v ∈ vs) (s : SG n)
    (hm : Inside inl s) (lbx : W) (v : Fin (n + 1)) (hv : v ≠ 0) (k : Int)
    (A : (Fin (n + 1) → Int) → Prop)
    (himp : ∀ a, lbx = some a → ∀ x, s.g.sat x → A x → x 0 - x v ≤ k + a) :
    StepBtw inl A s (addDerivedLb inl vs s lbx v k) := by
  rcases lbx with _ | a
  · exact ⟨hm, fun _ h => h, fun _ h _ => h⟩
  · exact (addLb_spec inl vs hvs s hm v hv (k + a)).btw (himp a rfl)

theorem addDerivedUb_spec (inl : Bool) (vs : List (Fin (n + 1))) (hvs : ∀ v, v ∈ vs) (s : SG n)
    (hm : Inside inl s) (uby : W) (v : Fin (n + 1)) (hv : v ≠ 0) (k : Int)
    (A : (Fin (n + 1) → Int) → Prop)
    (himp : ∀ b, uby = some b → ∀ x, s.g.sat x → A x → x v - x 0 ≤ k + b) :
    StepBtw inl A s (addDerivedUb inl vs s uby v k) := by
  rcases uby with _ | b
  · exact ⟨hm, fun _ h => h, fun _ h _ => h⟩
  · exact (addUb_spec inl vs hvs s hm v hv (k + b)).btw (himp b rfl)

/-- `operator+=` of one in-language constraint, both settings of `close_bounds_inline` -/
theorem addCst_spec (inl : Bool) (vs : List (Fin (n + 1))) (hvs : ∀ v, v ∈ vs)
    (s : SG n) (hg : Good s) (c : Zones.Cst n) : StepGood (cstV c) s (addCst inl vs s c) := by
  have hm := hg.inside inl
  cases c with
  | ub x k => exact (addUb_spec inl vs hvs s hm x.succ (Fin.succ_ne_zero x) k).finish vs hvs
  | lb x k => exact (addLb_spec inl vs hvs s hm x.succ (Fin.succ_ne_zero x) k).finish vs hvs
  | diff x y k =>
    unfold addCst
    by_cases hxy : x = y
    · subst hxy
      simp only [if_true]
      by_cases hk : 0 ≤ k
      · simp only [hk, if_true, StepGood]
        refine ⟨hg, fun v => ⟨fun h => ⟨h, ?_⟩, fun h => h.1⟩⟩
        simp only [cstV, Cst.row, Cst.col, Cst.bound]; omega
      · simp only [hk, if_false, StepGood]
        intro v _ hP
        simp only [cstV, Cst.row, Cst.col, Cst.bound] at hP; omega
    simp only [hxy, if_false]
    have hx0 : x.succ ≠ 0 := Fin.succ_ne_zero x
    have hy0 : y.succ ≠ 0 := Fin.succ_ne_zero y
    have hne : y.succ ≠ x.succ := fun e => hxy (Fin.succ_inj.1 e).symm
    have hA : ∀ v, cstV (Cst.diff x y k) v ↔ v x.succ - v y.succ ≤ k := fun v => Iff.rfl
    -- first derived bound
    have h1 := addDerivedLb_spec inl vs hvs s hm (edge s.g x.succ 0) y.succ hy0 k
      (fun v => v x.succ - v y.succ ≤ k) (by
        intro a ha v hv hc
        have := sat_edge hv ha
        omega)
    rcases hr1 : addDerivedLb inl vs s (edge s.g x.succ 0) y.succ k with _ | s1
    · rw [hr1] at h1
      simp only [Option.bind, StepGood]
      exact fun v hv hc => h1 v hv ((hA v).1 hc)
    rw [hr1] at h1
    obtain ⟨hm1, hb1, hf1⟩ := h1
    simp only [Option.bind]
    -- second derived bound
    have h2 := addDerivedUb_spec inl vs hvs s1 hm1 (edge s.g 0 y.succ) x.succ hx0 k
      (fun v => s.g.sat v ∧ v x.succ - v y.succ ≤ k) (by
        intro b hb v _ hc
        have := sat_edge hc.1 hb
        omega)
    rcases hr2 : addDerivedUb inl vs s1 (edge s.g 0 y.succ) x.succ k with _ | s2
    · rw [hr2] at h2
      simp only [StepGood]
      exact fun v hv hc => h2 v (hf1 v hv ((hA v).1 hc)) ⟨hv, (hA v).1 hc⟩
    rw [hr2] at h2
    obtain ⟨hm2, hb2, hf2⟩ := h2
    simp only
    -- the difference constraint itself
    have sp := (addDiffEdge_spec inl vs hvs s2 hm2 y.succ x.succ hy0 hx0 hne k).finish vs hvs
    rcases hr3 : (addDiffEdge inl vs s2 y.succ x.succ k).map (closeBoundsEnd inl vs) with _ | s3
    · rw [hr3] at sp
      simp only [StepGood] at sp ⊢
      exact fun v hv hc => sp v (hf2 v (hf1 v hv ((hA v).1 hc)) ⟨hv, (hA v).1 hc⟩) ((hA v).1 hc)
    · rw [hr3] at sp
      simp only [StepGood] at sp ⊢
      refine ⟨sp.1, fun v => ?_⟩
      rw [sp.2 v]
      constructor
      · rintro ⟨h, hc⟩; exact ⟨hb1 v (hb2 v h), hc⟩
      · rintro ⟨h, hc⟩; exact ⟨hf2 v (hf1 v h ((hA v).1 hc)) ⟨h, (hA v).1 hc⟩, hc⟩

theorem good_top : Good (SG.top : SG n) := by
  refine ⟨⟨fun i => by simp [SG.top], ?_⟩, fun i j k hk => by simp [SG.top] at hk⟩
  intro i j k _
  simp only [zdiag_get, SG.top, Mat.get_ofFn]
  by_cases hij : i = j
  · subst hij
    by_cases hik : i = k
    · subst hik; simp
    · have : ¬ (k = i) := fun e => hik e.symm
      simp [hik, this]
  · by_cases hik : i = k
    · subst hik; simp [hij]
    · simp [hij, hik]

/-- relation between the coded value and the canonical matrix after the same history -/
def HistRel (acc : Option (SG n)) (z : Zone n) : Prop :=
  match acc with
  | none => ∀ v, ¬ z.sat v
  | some s => Good s ∧ ∀ v, s.g.sat v ↔ z.sat v

theorem histRel_step (inl : Bool) (vs : List (Fin (n + 1))) (hvs : ∀ v, v ∈ vs)
    (acc : Option (SG n)) (z : Zone n) (c : Zones.Cst n) (h : HistRel acc z) :
    HistRel (addStep inl vs acc c) (assumeCst z c) := by
  cases acc with
  | none =>
    intro v hv
    exact h v ((assumeCst_sat z c v).1 hv).1
  | some s =>
    obtain ⟨hg, he⟩ := h
    have sp := addCst_spec inl vs hvs s hg c
    show HistRel (addCst inl vs s c) (assumeCst z c)
    rcases hq : addCst inl vs s c with _ | s'
    · rw [hq] at sp
      intro v hv
      obtain ⟨h1, h2⟩ := (assumeCst_sat z c v).1 hv
      exact sp v ((he v).2 h1) h2
    · rw [hq] at sp
      refine ⟨sp.1, fun v => ?_⟩
      rw [sp.2 v, he v, assumeCst_sat]

theorem histRel_foldl (inl : Bool) (vs : List (Fin (n + 1))) (hvs : ∀ v, v ∈ vs)
    (cs : List (Zones.Cst n)) (acc : Option (SG n)) (z : Zone n) (h : HistRel acc z) :
    HistRel (cs.foldl (addStep inl vs) acc) (assumeAll z cs) := by
  induction cs generalizing acc z with
  | nil => exact h
  | cons c cs ih =>
    simp only [List.foldl_cons, assumeAll]
    exact ih _ _ (histRel_step inl vs hvs acc z c h)

theorem addAll_spec' (inl : Bool) (vs : List (Fin (n + 1))) (hvs : ∀ v, v ∈ vs)
    (cs : List (Zones.Cst n)) : HistRel (addAll inl vs cs) (assumeAll (Zones.top : Zone n) cs) :=
  histRel_foldl inl vs hvs cs (some SG.top) Zones.top
    ⟨good_top, fun v => ⟨fun _ => Mat.top_sat v, fun _ i j k hk => by simp [SG.top] at hk⟩⟩

set_option linter.unusedVariables false in
/-- a history of constraints: the coded value against the canonical one -/
theorem addAll_spec (vs : List (Fin (n + 1))) (hvs : ∀ v, v ∈ vs) (hnd : vs.Nodup)
    (cs : List (Zones.Cst n)) : HistRel (addAll false vs cs) (assumeAll (Zones.top : Zone n) cs) :=
  addAll_spec' false vs hvs cs


theorem StepGood.on_states {s : SG n} {c : Zones.Cst n} {r : Option (SG n)}
    (sp : StepGood (cstV c) s r) :
    (r = none ↔ ¬ ∃ σ : State n, γ s.g σ ∧ c.sat σ) ∧
    (∀ s', r = some s' →
      SplitNF s'.g ∧ s'.g.sat s'.pot ∧ ∀ σ : State n, γ s'.g σ ↔ (γ s.g σ ∧ c.sat σ)) := by
  have hc : ∀ σ : State n, cstV c (ext σ) ↔ c.sat σ := fun σ => (Cst.sat_iff_entry c σ).symm
  cases r with
  | none =>
    exact ⟨⟨fun _ ⟨σ, h1, h2⟩ => sp (ext σ) h1 ((hc σ).2 h2), fun _ => rfl⟩, fun s' h => by cases h⟩
  | some s' =>
    refine ⟨⟨fun h => (by cases h), fun h => ?_⟩, fun s'' h => ?_⟩
    · have := (sp.2 _).1 ((sat_stateOf _ _).2 sp.1.2)
      exact absurd ⟨stateOf s'.pot, this.1, (hc _).1 this.2⟩ h
    · cases h
      exact ⟨sp.1.1, sp.1.2, fun σ => by rw [← hc]; exact sp.2 (ext σ)⟩

/-- related values: both bottom, or the stored graph reads as the closure of the canonical matrix -/
theorem HistRel.exact {acc : Option (SG n)} {z : Zone n} : HistRel acc z →
    match acc with
    | none => isBottom z = true
    | some s => SplitNF s.g ∧ s.g.sat s.pot ∧ isBottom z = false ∧
        ∀ i j, (close z).get i j = (fullOf s.g).get i j := by
  intro h
  cases acc with
  | none => exact (Zones.bottom_iff_unsat z).2 (fun ⟨σ, hσ⟩ => h (ext σ) hσ)
  | some s =>
    exact ⟨h.1.1, h.1.2, not_bottom_of_sat ((h.2 _).1 h.1.2), fun i j => by rw [h.1.1.close_eq h.2]⟩

theorem HistRel.none_iff {acc : Option (SG n)} {z : Zone n} (h : HistRel acc z) :
    acc = none ↔ isBottom z = true := by
  have := h.exact
  cases acc with
  | none => exact ⟨fun _ => this, fun _ => rfl⟩
  | some s => exact ⟨fun e => (by cases e), fun e => by rw [this.2.2.1] at e; cases e⟩

theorem isBottom_assumeAll_top (cs : List (Zones.Cst n)) :
    isBottom (assumeAll (Zones.top : Zone n) cs) = true ↔ ¬ ∃ σ : State n, ∀ c ∈ cs, c.sat σ := by
  rw [Zones.bottom_iff_unsat]
  exact not_congr ⟨fun ⟨σ, hσ⟩ => ⟨σ, ((Zones.assumeAll_exact _ cs σ).1 hσ).2⟩,
    fun ⟨σ, hσ⟩ => ⟨σ, (Zones.assumeAll_exact _ cs σ).2 ⟨Zones.top_γ σ, hσ⟩⟩⟩

/-- `operator[]` of the canonical value read off the two bound edges of a graph that reads as its
    closure -/
theorem bounds_of_reading {z g : Zone n} (hb : isBottom z = false)
    (he : ∀ i j, (close z).get i j = (fullOf g).get i j) (x : Fin n) :
    bounds z x = ⟨toLb (edge g x.succ 0), toUb (edge g 0 x.succ)⟩ := by
  rw [Zones.bounds_of_not_bottom hb, he, he]
  have h0 : ¬ ((0 : Fin (n + 1)) = x.succ) := fun e => Fin.succ_ne_zero x e.symm
  simp [fullOf_get, splitW, h0, Fin.succ_ne_zero, edge]

theorem entails_of_reading {z g : Zone n} (hb : isBottom z = false)
    (he : ∀ i j, (close z).get i j = (fullOf g).get i j) (c : Zones.Cst n) :
    entails z c = W.le ((fullOf g).get c.row c.col) (some c.bound) := by
  unfold entails entailsC
  rw [show isBottomC (close z) = false from hb, he]
  simp

end DbmIncr
end Crab
