import CrabModel.Fix.Semantics

/-!
# Structural facts about weak topological orderings used by the soundness proof (C01)

* `member` is membership in `nodes`;
* heads of the components containing a block are blocks of the component;
* `LWF c xs` : the part of `WtoWF` local to a list of sibling components (no duplicates, edges go
  forward or to an enclosing head), inherited by tails and bodies;
* `ListOK c w` : the only consequence of `WtoWF.edge` the soundness proof needs — inside every
  list of sibling components (top level, and every cycle body, recursively) there is no edge
  from a later sibling into an earlier one — and its derivation from `WtoWF`.
-/
namespace Crab
namespace Fix
namespace Sound

variable {A : Type}

mutual
theorem Comp.member_iff (e : Nat) : ∀ x : Comp, x.member e = true ↔ e ∈ x.nodes
  | .vertex v => by
      simp only [Comp.member, Comp.nodes, beq_iff_eq, List.mem_singleton]
      exact eq_comm
  | .cycle h b => by
      simp only [Comp.member, Comp.nodes, Bool.or_eq_true, beq_iff_eq, List.mem_cons,
        memberList_iff e b]
      exact or_congr_left eq_comm
theorem memberList_iff (e : Nat) : ∀ xs : List Comp, memberList e xs = true ↔ e ∈ nodesList xs
  | [] => by simp only [memberList, nodesList, List.not_mem_nil, Bool.false_eq_true]
  | x :: xs => by
      simp only [memberList, nodesList, Bool.or_eq_true, List.mem_append, Comp.member_iff e x,
        memberList_iff e xs]
end

mutual
theorem Comp.headsOf_sub (p n : Nat) : ∀ x : Comp, n ∈ x.headsOf p → n ∈ x.nodes ∧ p ∈ x.nodes
  | .vertex v => fun hn => nomatch hn
  | .cycle h b => by
      intro hn
      simp only [Comp.headsOf] at hn
      split at hn
      · rename_i hc
        refine ⟨?_, (Comp.member_iff p (.cycle h b)).1 hc⟩
        rcases List.mem_cons.1 hn with rfl | hn
        · exact List.mem_cons_self
        · exact List.mem_cons_of_mem _ (headsOfList_sub p n b hn).1
      · cases hn
theorem headsOfList_sub (p n : Nat) : ∀ xs : List Comp,
    n ∈ headsOfList p xs → n ∈ nodesList xs ∧ p ∈ nodesList xs
  | [] => fun hn => nomatch hn
  | x :: xs => by
      intro hn
      simp only [nodesList, List.mem_append]
      rcases List.mem_append.1 hn with hn | hn
      · exact ⟨Or.inl (Comp.headsOf_sub p n x hn).1, Or.inl (Comp.headsOf_sub p n x hn).2⟩
      · exact ⟨Or.inr (headsOfList_sub p n xs hn).1, Or.inr (headsOfList_sub p n xs hn).2⟩
end

mutual
/-- no edge from a later sibling into an earlier one, recursively in every body, and no
    self-loop on a block that is a plain vertex of the ordering -/
def CompOK (c : Ctx A) : Comp → Prop
  | .vertex v => v ∉ c.preds v
  | .cycle _ body => ListOK c body
def ListOK (c : Ctx A) : List Comp → Prop
  | [] => True
  | x :: xs => CompOK c x ∧ ListOK c xs ∧
      ∀ p n, p ∈ c.preds n → n ∈ x.nodes → p ∈ nodesList xs → False
end

/-- the part of `WtoWF` that is local to a list of sibling components -/
def LWF (c : Ctx A) (xs : List Comp) : Prop :=
  (nodesList xs).Nodup ∧
  ∀ p n, p ∈ c.preds n → p ∈ nodesList xs → n ∈ nodesList xs →
    (nodesList xs).idxOf p < (nodesList xs).idxOf n ∨ n ∈ headsOfList p xs

theorem LWF.tail {c : Ctx A} {x : Comp} {xs : List Comp} (h : LWF c (x :: xs)) : LWF c xs := by
  obtain ⟨hnd, he⟩ := h
  simp only [nodesList] at hnd he
  have hnd' := List.nodup_append.1 hnd
  refine ⟨hnd'.2.1, ?_⟩
  intro p n hpn hp hn
  have hpx : p ∉ x.nodes := fun h' => hnd'.2.2 p h' p hp rfl
  have hnx : n ∉ x.nodes := fun h' => hnd'.2.2 n h' n hn rfl
  have := he p n hpn (List.mem_append.2 (Or.inr hp)) (List.mem_append.2 (Or.inr hn))
  rw [List.idxOf_append, List.idxOf_append] at this
  simp only [hpx, hnx, if_false] at this
  rcases this with h1 | h1
  · left; omega
  · right
    simp only [headsOfList, List.mem_append] at h1
    rcases h1 with h1 | h1
    · exact absurd (Comp.headsOf_sub p n x h1).1 hnx
    · exact h1

theorem LWF.no_back {c : Ctx A} {x : Comp} {xs : List Comp} (h : LWF c (x :: xs)) :
    ∀ p n, p ∈ c.preds n → n ∈ x.nodes → p ∈ nodesList xs → False := by
  obtain ⟨hnd, he⟩ := h
  simp only [nodesList] at hnd he
  have hnd' := List.nodup_append.1 hnd
  intro p n hpn hn hp
  have hpx : p ∉ x.nodes := fun h' => hnd'.2.2 p h' p hp rfl
  have hnx : n ∉ nodesList xs := fun h' => hnd'.2.2 n hn n h' rfl
  have := he p n hpn (List.mem_append.2 (Or.inr hp)) (List.mem_append.2 (Or.inl hn))
  rw [List.idxOf_append, List.idxOf_append] at this
  simp only [hpx, hn, if_false, if_true] at this
  rcases this with h1 | h1
  · have := List.idxOf_lt_length_of_mem hn
    omega
  · simp only [headsOfList, List.mem_append] at h1
    rcases h1 with h1 | h1
    · exact hpx (Comp.headsOf_sub p n x h1).2
    · exact hnx (headsOfList_sub p n xs h1).1

theorem LWF.no_self {c : Ctx A} {v : Nat} {xs : List Comp} (h : LWF c (Comp.vertex v :: xs)) :
    v ∉ c.preds v := by
  obtain ⟨hnd, he⟩ := h
  simp only [nodesList, Comp.nodes] at hnd he
  have hnd1 := List.nodup_cons.1 hnd
  intro hv
  have := he v v hv (by simp) (by simp)
  rcases this with h1 | h1
  · omega
  · simp only [headsOfList, Comp.headsOf, List.nil_append] at h1
    exact hnd1.1 (by simpa using (headsOfList_sub v v xs h1).1)

theorem LWF.body {c : Ctx A} {h : Nat} {b xs : List Comp} (hw : LWF c (Comp.cycle h b :: xs)) :
    LWF c b := by
  obtain ⟨hnd, he⟩ := hw
  simp only [nodesList, Comp.nodes] at hnd he
  have hnd1 := List.nodup_cons.1 hnd
  have hnd' := List.nodup_append.1 hnd1.2
  refine ⟨hnd'.1, ?_⟩
  intro p n hpn hp hn
  have hph : p ≠ h := fun e => hnd1.1 (by simp [← e, hp])
  have hnh : n ≠ h := fun e => hnd1.1 (by simp [← e, hn])
  have hnx : n ∉ nodesList xs := fun h' => hnd'.2.2 n hn n h' rfl
  have := he p n hpn (by simp [hp]) (by simp [hn])
  simp only [List.cons_append, List.idxOf_cons, List.idxOf_append] at this
  have e1 : (h == p) = false := by simp [Ne.symm hph]
  have e2 : (h == n) = false := by simp [Ne.symm hnh]
  simp only [hp, hn, if_true, e1, e2, cond_false] at this
  rcases this with h1 | h1
  · left; omega
  · right
    simp only [headsOfList, Comp.headsOf, List.mem_append] at h1
    rcases h1 with h1 | h1
    · split at h1
      · simp only [List.mem_cons] at h1
        rcases h1 with h1 | h1
        · exact absurd h1 hnh
        · exact h1
      · simp at h1
    · exact absurd (headsOfList_sub p n xs h1).1 hnx

mutual
theorem LWF.compOK {c : Ctx A} : ∀ (x : Comp) (xs : List Comp), LWF c (x :: xs) → CompOK c x
  | .vertex _, _, h => by
      simp only [CompOK]
      exact h.no_self
  | .cycle _ b, _, h => by
      simp only [CompOK]
      exact LWF.listOK b h.body
theorem LWF.listOK {c : Ctx A} : ∀ xs : List Comp, LWF c xs → ListOK c xs
  | [], _ => by simp [ListOK]
  | x :: xs, h => by
      simp only [ListOK]
      exact ⟨LWF.compOK x xs h, LWF.listOK xs h.tail, h.no_back⟩
end

/-- a top-level component of a well-formed ordering satisfies the hypotheses of
    `C01.component_sound` -/
theorem _root_.Crab.Fix.WtoWF.compOK {c : Ctx A} {w : List Comp} (hwf : WtoWF c w) {x : Comp}
    (hx : x ∈ w) : CompOK c x ∧ x.nodes.Nodup := by
  have key : ∀ xs : List Comp, ListOK c xs → (nodesList xs).Nodup → x ∈ xs →
      CompOK c x ∧ x.nodes.Nodup := by
    intro xs
    induction xs with
    | nil => exact fun _ _ h => nomatch h
    | cons y ys ih =>
      intro hok hnd hm
      have hnd' := List.nodup_append.1 hnd
      rcases List.mem_cons.1 hm with rfl | hm
      · exact ⟨hok.1, hnd'.1⟩
      · exact ih hok.2.1 hnd'.2.1 hm
  exact key w (LWF.listOK w ⟨hwf.nodup, hwf.edge⟩) hwf.nodup hx

/-- Bourdoncle's conditions tested on the blocks below `N` -/
def wtoCheck (c : Ctx A) (w : List Comp) (N : Nat) : Bool :=
  decide (nodesList w).Nodup &&
  (List.range N).all (fun n => (c.preds n).all fun p =>
    !(nodesList w).contains p ||
      ((nodesList w).contains n && (decide (pos w p < pos w n) || (headsOfList p w).contains n))) &&
  (nodesList w).contains c.entry &&
  (nodesList w).all (fun n => c.nesting n == some ((headsOfList n w).filter (· != n))) &&
  (List.range N).all (fun n => (nodesList w).contains n || c.nesting n == none)

/-- an ordering that passes the check is well formed when the blocks from `N` on have no
    predecessor and no nesting -/
theorem _root_.Crab.Fix.WtoWF.of_check {c : Ctx A} {w : List Comp} (N : Nat) (h : wtoCheck c w N = true)
    (hN : ∀ n, N ≤ n → c.preds n = [] ∧ c.nesting n = none) : WtoWF c w := by
  simp only [wtoCheck, Bool.and_eq_true, decide_eq_true_eq, List.all_eq_true, List.mem_range,
    Bool.or_eq_true, Bool.not_eq_true', List.contains_eq_mem, decide_eq_false_iff_not,
    beq_iff_eq] at h
  obtain ⟨⟨⟨⟨h1, h2⟩, h3⟩, h4⟩, h5⟩ := h
  have edge : ∀ p n, p ∈ c.preds n → p ∈ nodesList w →
      n ∈ nodesList w ∧ (pos w p < pos w n ∨ n ∈ headsOfList p w) := by
    intro p n hp hpw
    have hn : n < N := Nat.lt_of_not_le fun hge => by rw [(hN n hge).1] at hp; cases hp
    exact (h2 n hn p hp).resolve_left (fun h => h hpw)
  exact ⟨h1, fun p n hp hpw => (edge p n hp hpw).1, fun p n hp hpw _ => (edge p n hp hpw).2, h3,
    h4, fun n hn => (Nat.lt_or_ge n N).elim (fun hlt => (h5 n hlt).resolve_left hn)
      (fun hge => (hN n hge).2)⟩

end Sound
end Fix
end Crab
