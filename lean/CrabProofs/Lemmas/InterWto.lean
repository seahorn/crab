import CrabProofs.Lemmas.InterSolve
import CrabProofs.Lemmas.WtoFixBridge

/-!
  The orderings of `crabWto` (`CrabModel/Inter/BottomUp.lean`) are the translation `toCompL` of
  the orderings of the WTO model.
-/
namespace Crab.Inter

mutual
theorem wtoComp_eq : ∀ c : Wto.WtoC, wtoComp c = Wto.toComp c
  | .vertex v => by simp [wtoComp, Wto.toComp]
  | .cycle h body => by simp [wtoComp, Wto.toComp, wtoCompL_eq body]
theorem wtoCompL_eq : ∀ l : List Wto.WtoC, wtoCompL l = Wto.toCompL l
  | [] => by simp [wtoCompL, Wto.toCompL]
  | c :: cs => by simp [wtoCompL, Wto.toCompL, wtoComp_eq c, wtoCompL_eq cs]
end

end Crab.Inter
