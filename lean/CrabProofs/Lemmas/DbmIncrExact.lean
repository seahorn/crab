import CrabProofs.Lemmas.DbmIncrPass
import CrabProofs.Lemmas.ZonesExact

/-!
  Exactness of `close_over_edge`.

  From the facts established by the loops (`COEFacts`) to the upper bounds of the result: every
  edge among variables is at most `min(old, (s → ii) + c + (jj → d))` (`COEFacts.var_ub`), and under
  `zones.close_bounds_inline` every bound is at most the bound through the new edge
  (`RecFacts.bnd_ub`, in both directions); the hypotheses are on the graph `G` at the entry of
  `close_over_edge` (closed before the edge `ii → jj` of weight `c` was added, so closed except
  through that edge).

  Then, for `g` in normal form, `G = updEdge g ii w jj` (the caller has relaxed the edge) with a
  solution:
  * `closeOverEdge_var` (both settings of `close_bounds_inline`, `VarNF g`): the edges among the
    variables of the result are exactly the closure of the variable subgraph of `G`, nothing
    unsound is written, without `close_bounds_inline` the bounds are untouched;
  * `closeOverEdge_full` (`close_bounds_inline`, `SplitNF g`): the result is in split normal
    form and has the solutions of `G`.
-/
namespace Crab
namespace DbmIncr
open Dbm Zones

variable {n : Nat}

section
variable {inl : Bool} {G : Zone n} {ii jj : Fin (n + 1)} {c : Int} {r : Zone n}
  {S1 S2 : List (Fin (n + 1) × Int)}

theorem rd_zdiag_self (fwd : Bool) (g : Zone n) (a : Fin (n + 1)) : rd fwd (zdiag g) a a = some 0 := by
  cases fwd <;> exact edge_zdiag_self g a

theorem rd_zdiag_ne (fwd : Bool) (g : Zone n) {a b : Fin (n + 1)} (h : a ≠ b) :
    rd fwd (zdiag g) a b = rd fwd g a b := by
  cases fwd
  · exact edge_zdiag_ne g (Ne.symm h)
  · exact edge_zdiag_ne g h

def VarClosedExcept (G : Zone n) (ii jj : Fin (n + 1)) : Prop :=
  ∀ a k b, a ≠ 0 → k ≠ 0 → b ≠ 0 → a ≠ b → ¬ (a = ii ∧ k = jj) → ¬ (k = ii ∧ b = jj) →
    W.LE (edge G a b) (W.add (edge G a k) (edge G k b))

/-- the bounds on one side (`fwd`: the edges into the zero vertex) are closed, except through the
    new edge -/
def BndClosedExcept (fwd : Bool) (G : Zone n) (u v : Fin (n + 1)) : Prop :=
  ∀ a k, a ≠ 0 → k ≠ 0 → ¬ (a = u ∧ k = v) →
    W.LE (rd fwd G a 0) (W.add (rd fwd G a k) (rd fwd G k 0))

theorem COEFacts.var_ub (f : COEFacts inl G ii jj c r S1 S2) (hi : ii ≠ 0) (hj : jj ≠ 0)
    (hij : ii ≠ jj) (hc : edge G ii jj = some c) (hV : VarClosedExcept G ii jj)
    (hn : ∀ x, edge G jj ii = some x → 0 ≤ x + c)
    {s d : Fin (n + 1)} (hs : s ≠ 0) (hd : d ≠ 0) (hsd : s ≠ d) {x y : Int}
    (hx : edge (zdiag G) s ii = some x) (hy : edge (zdiag G) jj d = some y) :
    W.LE (edge r s d) (some (x + c + y)) := by
  have dec := f.snd.dec
  -- the facts about the two lists, read in the direction of their loops
  have p1 : ∀ se ev, se ≠ 0 → se ≠ ii → se ≠ jj → edge G se ii = some ev →
      (se, ev) ∈ S1 ∨ W.LE (edge G se jj) (some (ev + c)) := fun se => f.rec1.post se
  have p2 : ∀ de dv, de ≠ 0 → de ≠ jj → de ≠ ii → edge G jj de = some dv →
      (de, dv) ∈ S2 ∨ W.LE (edge G ii de) (some (dv + c)) := fun de => f.rec2.post de
  have ubJ1 : ∀ p ∈ S1, W.LE (edge r p.1 jj) (some (p.2 + c)) := f.rec1.ubJ
  have ubJ2 : ∀ p ∈ S2, W.LE (edge r ii p.1) (some (p.2 + c)) := f.rec2.ubJ
  by_cases hsi : s = ii
  · subst hsi
    rw [edge_zdiag_self] at hx; cases hx
    by_cases hdj : d = jj
    · subst hdj
      rw [edge_zdiag_self] at hy; cases hy
      have := dec s d; rw [hc] at this; simpa using this
    · rw [edge_zdiag_ne G (Ne.symm hdj)] at hy
      rcases p2 d y hd hdj (fun e => hsd e.symm) hy with hm | hm
      · have := ubJ2 _ hm
        simp only at this
        have e : 0 + c + y = y + c := by omega
        rw [e]; exact this
      · have e : 0 + c + y = y + c := by omega
        rw [e]; exact W.LE_trans (dec _ _) hm
  · rw [edge_zdiag_ne G hsi] at hx
    by_cases hdj : d = jj
    · subst hdj
      rw [edge_zdiag_self] at hy; cases hy
      rcases p1 s x hs hsi hsd hx with hm | hm
      · have := ubJ1 _ hm
        simp only at this
        have e : x + c + 0 = x + c := by omega
        rw [e]; exact this
      · have e : x + c + 0 = x + c := by omega
        rw [e]; exact W.LE_trans (dec _ _) hm
    · rw [edge_zdiag_ne G (Ne.symm hdj)] at hy
      by_cases hsj : s = jj
      · subst hsj
        have := hn x hx
        have h1 := dec s d
        rw [hy] at h1
        exact W.LE_trans h1 (by simp; omega)
      by_cases hdi : d = ii
      · subst hdi
        have := hn y hy
        have h1 := dec s d
        rw [hx] at h1
        exact W.LE_trans h1 (by simp; omega)
      rcases p1 s x hs hsi hsj hx with hm1 | hm1
      · rcases p2 d y hd hdj hdi hy with hm2 | hm2
        · have := f.p3 _ hm1 _ hm2 hsd
          simp only at this
          have e : x + c + y = c + x + y := by omega
          rw [e]; exact this
        · -- `ii → d` was short enough: `s → ii → d`
          have t := hV s ii d hs hi hd hsd (fun e => hij e.2) (fun e => hdj e.2)
          rw [hx] at t
          rcases hz : edge G ii d with _ | z
          · rw [hz] at hm2; simp at hm2
          · rw [hz] at hm2 t
            simp at hm2 t
            exact W.LE_trans (dec _ _) (W.LE_trans t (by simp; omega))
      · -- `s → jj` was short enough: `s → jj → d`
        have t := hV s jj d hs hj hd hsd (fun e => hsi e.1) (fun e => hij e.1.symm)
        rw [hy] at t
        rcases hz : edge G s jj with _ | z
        · rw [hz] at hm1; simp at hm1
        · rw [hz] at hm1 t
          simp at hm1 t
          exact W.LE_trans (dec _ _) (W.LE_trans t (by simp; omega))

/-- under `close_bounds_inline`, the bound of `s` on the side of the loop (`fwd`: `s → 0`) is at
    most the bound through the new edge -/
theorem RecFacts.bnd_ub {fwd : Bool} {u v : Fin (n + 1)} {S : List (Fin (n + 1) × Int)}
    (f : RecFacts fwd true G u v c r S) (dec : Dec r G) (hv : v ≠ 0)
    (hB : BndClosedExcept fwd G u v) (hn : ∀ x, rd fwd G v u = some x → 0 ≤ x + c)
    {s : Fin (n + 1)} (hs : s ≠ 0) {x y : Int}
    (hx : rd fwd (zdiag G) s u = some x) (hy : rd fwd G v 0 = some y) :
    W.LE (rd fwd r s 0) (some (x + c + y)) := by
  by_cases hsu : s = u
  · subst hsu
    rw [rd_zdiag_self] at hx; cases hx
    have := f.ub0 rfl y hy
    rwa [show 0 + c + y = y + c by omega]
  rw [rd_zdiag_ne fwd G hsu] at hx
  by_cases hsv : s = v
  · subst hsv
    have := hn x hx
    have h1 := dec.rd fwd s 0
    rw [hy] at h1
    exact W.LE_trans h1 (by simp; omega)
  rcases f.post s x hs hsu hsv hx with hm | hm
  · have := f.ubS rfl _ hm y hy
    rwa [show x + c + y = y + (x + c) by omega]
  · have t := hB s v hs hv (fun e => hsu e.1)
    rw [hy] at t
    rcases hz : rd fwd G s v with _ | z
    · rw [hz] at hm; simp at hm
    · rw [hz] at hm t
      simp at hm t
      exact W.LE_trans (dec.rd fwd _ _) (W.LE_trans t (by simp; omega))

end

theorem exists_sat_of_not_bottom {G : Zone n} (h : isBottom G = false) : ∃ v, G.sat v := by
  obtain ⟨v, hv⟩ := Mat.closed_sat (Zones.close_closed h)
  exact ⟨v, (Mat.fw_sat G v).1 hv⟩

/-- entrywise: a graph between `G` and the solutions of `G` is above the closure of `G` -/
theorem Btw.above {G g : Zone n} (h : Btw G g) (hb : isBottom G = false) (a b : Fin (n + 1)) :
    W.LE (edge (close G) a b) (edge g a b) :=
  (Zones.close_closed hb).LE_of_sat_imp (fun v hv => h.sol v ((Mat.fw_sat G v).1 hv)) b a

/-- the split normal form of a graph with a solution needs the triangle inequality only for three
    distinct vertices (the degenerate cases follow from the solution) -/
theorem splitNF_of_tri {r : Zone n} {v : Fin (n + 1) → Int} (hsat : r.sat v) (hl : NoSelfLoop r)
    (h : ∀ i j k, k ≠ 0 → i ≠ k → k ≠ j → i ≠ j →
      W.LE (r.get i j) (W.add (r.get i k) (r.get k j))) : SplitNF r := by
  refine ⟨hl, fun i j k hk => ?_⟩
  simp only [zdiag_get]
  by_cases hik : i = k
  · subst hik
    simp only [if_true]
    rw [W.zero_add]; exact W.LE_refl _
  by_cases hkj : k = j
  · subst hkj
    simp only [if_true]
    rw [W.add_zero]; exact W.LE_refl _
  simp only [hik, hkj, if_false]
  by_cases hij : i = j
  · subst hij
    simp only [if_true]
    intro y hy
    obtain ⟨x1, x2, h1, h2, rfl⟩ := W.add_some_iff.1 hy
    exact ⟨0, rfl, by have := hsat i k x1 h1; have := hsat k i x2 h2; omega⟩
  simp only [hij, if_false]
  exact h i j k hk hik hkj hij

/-- a graph with closed edges among variables, between `G` and its solutions and with the bounds
    of the closure of `G`, is in split normal form -/
theorem splitNF_of_exact_bounds {G r : Zone n} {v : Fin (n + 1) → Int} (hsat : G.sat v) (hvr : VarNF r)
    (hbtw : Btw G r) (hout : ∀ d, d ≠ 0 → edge r 0 d = edge (close G) 0 d)
    (hin : ∀ s, s ≠ 0 → edge r s 0 = edge (close G) s 0) : SplitNF r := by
  have hb := not_bottom_of_sat hsat
  refine splitNF_of_tri (hbtw.sol v hsat) hvr.noLoop (fun i j k hk hik hkj hij => ?_)
  have triF := (Zones.close_closed hb).tri i j k
  have ab : ∀ a b, W.LE ((close G).get a b) (r.get a b) := fun a b => hbtw.above hb b a
  by_cases hi0 : i = 0
  · subst hi0
    rw [show r.get 0 j = (close G).get 0 j from hin j (Ne.symm hij)]
    exact W.LE_trans triF (W.add_mono (ab 0 k) (ab k j))
  by_cases hj0 : j = 0
  · subst hj0
    rw [show r.get i 0 = (close G).get i 0 from hout i hi0]
    exact W.LE_trans triF (W.add_mono (ab i k) (ab k 0))
  have t := hvr.vars.tri i j k
  simp only [varPart_get, hik, hkj, hij, hi0, hj0, hk, or_false, if_false] at t
  exact t

/-- the closure of a graph in split normal form with one more edge `a → b`, from its reading:
    the one-edge formula `min(old, (b → y) + w + (x → a))` -/
theorem SplitNF.close_relax {g : Zone n} (hs : SplitNF g) {a b : Fin (n + 1)} {w : Int}
    {v : Fin (n + 1) → Int} (hsat : (relax g a w b).sat v) (x y : Fin (n + 1)) :
    edge (close (relax g a w b)) x y =
      W.min (edge (fullOf g) x y)
        (W.add (W.add (edge (fullOf g) b y) (some w)) (edge (fullOf g) x a)) := by
  obtain ⟨hg, hw⟩ := (relax_sat g a b w v).1 hsat
  have hn : ∀ z, (fullOf g).get a b = some z → 0 ≤ w + z := by
    intro z hz
    have := (fullOf_sat hs.noLoop v).2 hg a b z hz
    omega
  have : close (relax g a w b) = Mat.addClose (fullOf g) b a w :=
    (Mat.addClose_closed hs.closed_fullOf b a w hn).fw_eq
      (fun u => by rw [Mat.addClose_sat hs.closed_fullOf, fullOf_sat hs.noLoop, relax_sat])
  rw [this]
  simp only [edge, Mat.addClose, Mat.get_ofFn]

/-- a bound that is at most `x` is at most `x` plus a closed walk -/
theorem LE_add_cycle {p x : W} (h : W.LE p x) {q : W} (hq : ∀ k, q = some k → 0 ≤ k) :
    W.LE p (W.add x q) := by
  rcases q with _ | k
  · simp
  rcases x with _ | y
  · simp
  have := hq k rfl
  exact W.LE_trans h (by simp; omega)

/-- THE CERTIFICATE of the loops that follow one relaxed edge.  A graph `r` between
    `G = relax g a w b` (`g` in split normal form) and the solutions of `G`, with closed edges among
    variables, whose bounds are at most the bounds through the new edge ALONG STORED EDGES
    (`0 → a → b → d` and `s → a → b → 0`, with `p → p` of weight 0), is in split normal form.
    The paths of the reading of `g` that pass through the zero vertex need no hypothesis: with the
    closed walk `0 → a → b → 0`, which costs at least nothing, they give the old bound. -/
theorem splitNF_of_bounds {g G r : Zone n} (hs : SplitNF g) {a b : Fin (n + 1)} {w : Int}
    (hG : G = relax g a w b) {v : Fin (n + 1) → Int} (hsat : G.sat v) (hvr : VarNF r) (hbtw : Btw G r)
    (hout : b ≠ 0 → ∀ d, d ≠ 0 → W.LE (edge r 0 d)
      (W.add (W.add (edge (zdiag g) b d) (some w)) (edge (zdiag g) 0 a)))
    (hin : a ≠ 0 → ∀ s, s ≠ 0 → W.LE (edge r s 0)
      (W.add (W.add (edge (zdiag g) b 0) (some w)) (edge (zdiag g) s a))) : SplitNF r := by
  subst hG
  have hb := not_bottom_of_sat hsat
  have hdg : Dec r g := Dec.trans hbtw.dec (relax_dec _ _ _ _)
  obtain ⟨hg, hw⟩ := (relax_sat g a b w v).1 hsat
  have cyc : ∀ k, W.add (W.add (edge (zdiag g) b 0) (some w)) (edge (zdiag g) 0 a) = some k → 0 ≤ k := by
    intro k hk
    obtain ⟨k1, z, h1, hz, rfl⟩ := W.add_some_iff.1 hk
    obtain ⟨y, w', hy, h2, rfl⟩ := W.add_some_iff.1 h1
    cases h2
    have := sat_edge (sat_zdiag hg) hy
    have := sat_edge (sat_zdiag hg) hz
    omega
  -- the reading of `g`: the stored edge or the path through the zero vertex
  have F : ∀ p q, edge (fullOf g) p q =
      W.min (edge (zdiag g) p q) (W.add (edge (zdiag g) 0 q) (edge (zdiag g) p 0)) := fun p q =>
    (hs.fullOf_eq_fwStep q p).trans (Mat.get_ofFn _ q p)
  refine splitNF_of_exact_bounds hsat hvr hbtw (fun d hd => ?_) (fun s hs' => ?_)
  · have e := hs.close_relax hsat 0 d
    rw [e]
    refine W.LE.antisymm (W.LE_min (edge_fullOf_out g hd ▸ hdg 0 d) ?_) (e ▸ hbtw.above hb 0 d)
    have old : W.LE (edge r 0 d) (edge (zdiag g) 0 d) := edge_zdiag_ne g (Ne.symm hd) ▸ hdg 0 d
    rw [edge_fullOf_zero_left]
    by_cases hb0 : b = 0
    · subst hb0
      rw [edge_fullOf_out g hd, ← edge_zdiag_ne g (Ne.symm hd), W.add_assoc]
      refine LE_add_cycle old (fun k hk => cyc k ?_)
      rw [edge_zdiag_self, ← hk]; simp [W.add]
    rw [F b d]
    rcases W.min_eq_or (edge (zdiag g) b d) (W.add (edge (zdiag g) 0 d) (edge (zdiag g) b 0))
      with hm | hm <;> rw [hm]
    · exact hout hb0 d hd
    · rw [W.add_assoc, W.add_assoc]
      exact LE_add_cycle old (fun k hk => cyc k (by rw [← hk, W.add_assoc]))
  · have e := hs.close_relax hsat s 0
    rw [e]
    refine W.LE.antisymm (W.LE_min (edge_fullOf_in g hs' ▸ hdg s 0) ?_) (e ▸ hbtw.above hb s 0)
    have old : W.LE (edge r s 0) (edge (zdiag g) s 0) := edge_zdiag_ne g hs' ▸ hdg s 0
    rw [edge_fullOf_zero_right]
    by_cases ha0 : a = 0
    · subst ha0
      rw [edge_fullOf_in g hs', ← edge_zdiag_ne g hs', W.add_comm]
      refine LE_add_cycle old (fun k hk => cyc k ?_)
      rw [edge_zdiag_self, W.add_zero, ← hk]
    rw [F s a]
    rcases W.min_eq_or (edge (zdiag g) s a) (W.add (edge (zdiag g) 0 a) (edge (zdiag g) s 0))
      with hm | hm <;> rw [hm]
    · exact hin ha0 s hs'
    · rw [W.add_comm (edge (zdiag g) 0 a), ← W.add_assoc, W.add_comm _ (edge (zdiag g) s 0), W.add_assoc]
      exact LE_add_cycle old (fun k hk => cyc k (by rw [← hk]))

theorem no_neg_2cycle {G : Zone n} {v : Fin (n + 1) → Int} (h : G.sat v) {a b : Fin (n + 1)} {c : Int}
    (hc : edge G a b = some c) (x : Int) (hx : edge G b a = some x) : 0 ≤ x + c := by
  have h1 := sat_edge h hx
  have h2 := sat_edge h hc
  omega

section
variable (g : Zone n) (ii jj : Fin (n + 1)) (w : Int)

/-- the weight of `ii → jj` after `g.update_edge(ii, w, jj, min_op)` -/
theorem edge_upd_new : ∃ c, edge (updEdge g ii w jj) ii jj = some c ∧ c ≤ w ∧
    (∀ k, edge g ii jj = some k → c ≤ k) := by
  rw [updEdge_eq_relax, edge_relax_self]
  rcases edge g ii jj with _ | k
  · exact ⟨w, by simp, Int.le_refl _, fun k hk => by cases hk⟩
  · refine ⟨min k w, by simp, by omega, fun k' hk' => by cases hk'; omega⟩

theorem edge_upd_old {a b : Fin (n + 1)} (h : ¬ (a = ii ∧ b = jj)) :
    edge (updEdge g ii w jj) a b = edge g a b := by
  rw [updEdge_eq_relax, edge_relax_ne _ _ h]

theorem upd_dec : Dec (updEdge g ii w jj) g := by
  rw [updEdge_eq_relax]; exact relax_dec _ _ _ _

/-- the stored edges with zero diagonal, away from the relaxed edge -/
theorem edge_zdiag_upd {a b : Fin (n + 1)} (h : ¬ (a = ii ∧ b = jj)) :
    edge (zdiag (updEdge g ii w jj)) a b = edge (zdiag g) a b := by
  by_cases hab : a = b
  · subst hab; rw [edge_zdiag_self, edge_zdiag_self]
  · rw [edge_zdiag_ne _ hab, edge_zdiag_ne _ hab, edge_upd_old _ _ _ _ h]

end

variable {g : Zone n} {ii jj : Fin (n + 1)} {w : Int}

theorem noLoop_upd (hl : NoSelfLoop g) (hij : ii ≠ jj) : ∀ a, edge (updEdge g ii w jj) a a = none := by
  intro a
  rw [edge_upd_old _ _ _ _ (fun e => hij (e.1.symm.trans e.2))]
  exact hl a

theorem varClosedExcept_upd (hv : VarNF g) : VarClosedExcept (updEdge g ii w jj) ii jj := by
  intro a k b ha hk hb hab h1 h2
  rw [edge_upd_old _ _ _ _ h1, edge_upd_old _ _ _ _ h2]
  exact W.LE_trans (upd_dec g ii jj w a b) (hv.tri_edge ha hk hb hab)

theorem bndClosedExcept_upd (hs : SplitNF g) (hi : ii ≠ 0) (hj : jj ≠ 0) :
    BndClosedExcept true (updEdge g ii w jj) ii jj ∧ BndClosedExcept false (updEdge g ii w jj) jj ii := by
  constructor
  · intro a k ha hk h1
    simp only [rd_true]
    rw [edge_upd_old _ _ _ _ h1, edge_upd_old _ _ _ _ (fun e => hj e.2.symm),
      edge_upd_old _ _ _ _ (fun e => hj e.2.symm)]
    have t := hs.tri 0 a k hk
    have e0 : ¬ ((0 : Fin (n + 1)) = a) := fun e => ha e.symm
    have e1 : ¬ ((0 : Fin (n + 1)) = k) := fun e => hk e.symm
    simp only [zdiag_get, e0, e1, if_false] at t
    by_cases hak : k = a
    · subst hak
      rw [show edge g k k = none from hs.noLoop k]; simp
    simp only [hak, if_false] at t
    rw [W.add_comm] at t
    exact t
  · intro a k ha hk h1
    simp only [rd_false]
    rw [edge_upd_old _ _ _ _ (fun e => h1 ⟨e.2, e.1⟩), edge_upd_old _ _ _ _ (fun e => hi e.1.symm),
      edge_upd_old _ _ _ _ (fun e => hi e.1.symm)]
    have t := hs.tri a 0 k hk
    simp only [zdiag_get, ha, if_false] at t
    have e : ¬ (k = (0 : Fin (n + 1))) := hk
    simp only [e, if_false] at t
    by_cases hka : a = k
    · subst hka
      rw [show edge g a a = none from hs.noLoop a]; simp
    simp only [hka, if_false] at t
    exact t

/-- what `close_over_edge` (result `r`) does on the edges among the variables, from `g` in `VarNF`
    and `G = updEdge g ii w jj` -/
structure VarResult (inl : Bool) (g G r : Zone n) (ii jj : Fin (n + 1)) (w : Int) : Prop where
  varNF : VarNF r
  /-- the edges among variables are the closure of the variable subgraph of `G` -/
  vars : ∀ a b, (varPart r).get a b = (close (varPart G)).get a b
  btw : Btw G r
  bnd : inl = false → ∀ x, edge r 0 x = edge G 0 x ∧ edge r x 0 = edge G x 0
  /-- the facts of the three loops, for the upper bounds under `close_bounds_inline` -/
  loops : ∃ c S1 S2, edge G ii jj = some c ∧ c ≤ w ∧ COEFacts inl G ii jj c r S1 S2

theorem closeOverEdge_var (inl : Bool) (vs : List (Fin (n + 1))) (hvs : ∀ v, v ∈ vs)
    (hv : VarNF g) (hi : ii ≠ 0) (hj : jj ≠ 0) (hij : ii ≠ jj)
    (hb : isBottom (updEdge g ii w jj) = false) :
    let G := updEdge g ii w jj
    let r := closeOverEdge inl vs G ii jj
    VarResult inl g G r ii jj w := by
  intro G r
  obtain ⟨c, hc, hcw, _⟩ := edge_upd_new g ii jj w
  obtain ⟨v, hsat⟩ := exists_sat_of_not_bottom hb
  have hn := no_neg_2cycle hsat hc
  -- the closure of the variable subgraph of `G`, by the one-edge formula
  have hnV : ∀ x, (varPart g).get ii jj = some x → 0 ≤ w + x := by
    intro x hx
    have e : ¬ (ii = jj) := hij
    simp only [varPart_get, e, hi, hj, false_or, if_false] at hx
    have : edge G jj ii = some x := by
      rw [edge_upd_old _ _ _ _ (fun e => hij e.1.symm)]; exact hx
    have := hn x this
    omega
  have cTv := Mat.addClose_closed hv.vars jj ii w hnV
  have eTv : close (varPart G) = Mat.addClose (varPart g) jj ii w := by
    show close (varPart (updEdge g ii w jj)) = _
    rw [updEdge_eq_relax, varPart_relax_var g hi hj hij w]
    exact Mat.addClose_eq_fw hv.vars jj ii w hnV
  obtain ⟨S1, S2, f⟩ := closeOverEdge_facts (inl := inl) (noLoop_upd hv.noLoop hij) hi hj hij hc vs hvs
  have hVC := varClosedExcept_upd (ii := ii) (jj := jj) (w := w) hv
  have zv : ∀ {a b}, a ≠ 0 → b ≠ 0 → ¬ (a = ii ∧ b = jj) →
      (varPart g).get b a = edge (zdiag G) a b := fun ha hb' h => by
    rw [edge_zdiag_upd g ii jj w h]; simp [edge, ha, hb']
  -- entries among variables: exact
  have hex : ∀ s d, s ≠ 0 → d ≠ 0 → s ≠ d →
      edge r s d = edge (Mat.addClose (varPart g) jj ii w) s d := by
    intro s d hs hd hsd
    apply W.LE.antisymm
    · simp only [edge, Mat.addClose, Mat.get_ofFn]
      apply W.LE_min
      · have e : ¬ (d = s) := fun e => hsd e.symm
        simp only [varPart_get, e, hs, hd, false_or, if_false]
        exact Dec.trans f.snd.dec (upd_dec g ii jj w) s d
      · rcases hy : (varPart g).get d jj with _ | y
        · simp
        rcases hx : (varPart g).get ii s with _ | x
        · simp
        have := f.var_ub hi hj hij hc hVC hn hs hd hsd
          ((zv hs hi (fun e => hij e.2)).symm.trans hx) ((zv hj hd (fun e => hij e.1.symm)).symm.trans hy)
        exact W.LE_trans this (by simp; omega)
    · have := f.snd.var.above (not_bottom_of_sat (sat_varPart hsat)) s d
      rwa [eTv, edge_varPart r hs hd hsd] at this
  have hvp : ∀ a b, (varPart r).get a b = (Mat.addClose (varPart g) jj ii w).get a b := by
    intro a b
    simp only [varPart_get]
    by_cases hab : a = b
    · subst hab; simp only [if_true]; exact (cTv.diag a).symm
    simp only [hab, if_false]
    by_cases h0' : a = 0 ∨ b = 0
    · simp only [h0', if_true, Mat.addClose, Mat.get_ofFn, varPart_get, hab, if_false]
      rcases h0' with h0' | h0'
      · subst h0'
        have : ¬ ((0 : Fin (n + 1)) = jj) := fun e => hj e.symm
        simp [this]
      · subst h0'
        have : ¬ (ii = (0 : Fin (n + 1))) := hi
        simp [this]
    · simp only [h0', if_false]
      have ha : a ≠ 0 := fun e => h0' (Or.inl e)
      have hb' : b ≠ 0 := fun e => h0' (Or.inr e)
      exact hex b a hb' ha (fun e => hab e.symm)
  refine ⟨⟨f.snd.noLoop, ?_⟩, ?_, f.snd.full, f.bnd, c, S1, S2, hc, hcw, f⟩
  · rw [show varPart r = Mat.addClose (varPart g) jj ii w from Mat.ext_get hvp]
    exact cTv
  · intro a b; rw [hvp, eTv]

theorem closeOverEdge_full (vs : List (Fin (n + 1))) (hvs : ∀ v, v ∈ vs)
    (hs : SplitNF g) (hi : ii ≠ 0) (hj : jj ≠ 0) (hij : ii ≠ jj)
    (hb : isBottom (updEdge g ii w jj) = false) :
    let G := updEdge g ii w jj
    let r := closeOverEdge true vs G ii jj
    SplitNF r ∧ ∀ v, r.sat v ↔ G.sat v := by
  intro G r
  have vr := closeOverEdge_var true vs hvs hs.varNF hi hj hij hb
  obtain ⟨c, S1, S2, hc, hcw, f⟩ := vr.loops
  obtain ⟨v, hsat⟩ := exists_sat_of_not_bottom hb
  have hn := no_neg_2cycle hsat hc
  obtain ⟨hB1, hB2⟩ := bndClosedExcept_upd (w := w) hs hi hj
  have eG : ∀ {a b}, ¬ (a = ii ∧ b = jj) → edge (zdiag g) a b = edge (zdiag G) a b :=
    fun h => (edge_zdiag_upd g ii jj w h).symm
  refine ⟨splitNF_of_bounds hs (updEdge_eq_relax g ii jj w) hsat vr.varNF vr.btw
    (fun _ d hd => ?_) (fun _ s hs' => ?_), vr.btw.sat_iff⟩
  · rw [eG (fun e => hij e.1.symm), eG (fun e => hi e.1.symm), edge_zdiag_ne G (Ne.symm hi)]
    rcases hy : edge (zdiag G) jj d with _ | y
    · simp
    rcases hx : edge G 0 ii with _ | x
    · simp
    have := f.rec2.bnd_ub f.snd.dec hi hB2 hn hd hy hx
    exact W.LE_trans this (by simp; omega)
  · rw [eG (fun e => hij e.1.symm), eG (fun e => hij e.2), edge_zdiag_ne G hj]
    rcases hy : edge G jj 0 with _ | y
    · simp
    rcases hx : edge (zdiag G) s ii with _ | x
    · simp
    have := f.rec1.bnd_ub f.snd.dec hj hB1 hn hs' hx hy
    exact W.LE_trans this (by simp; omega)

end DbmIncr
end Crab
