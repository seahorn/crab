import CrabProofs.Lemmas.DisIntervalOrder

/-! `dis_interval::operator|` and `operator&` (`Crab.Dis.join`, `Crab.Dis.meet`).

    `operator|`: the main loop and the two tails (`restLoop`, through `absorb`) only coarsen the
    vector of all intervals of the two operands (`joinVec_coarsens`), in no particular order; the
    constructor does the rest.  `join_fin_cases` is the last stage, and `upper_cases` the four tests
    on the states. Results: `join_mem_upper`, `join_ewf`, `join_wf`.
    `operator&`: `meetVec` (the non-bottom pairwise meets) and `meet_cases` for the states; results
    `meet_mem_sound`, `meet_mem_exact` (below 50 pieces), `meet_wf`. -/
namespace Crab
namespace Dis
open Bound

theorem restLoop_cons (intv : Itv) (more res : List Itv) :
    restLoop (intv :: more) res = restLoop more (pushed (absorb intv res)) := by
  rw [restLoop]
  rcases absorb intv res with ⟨res', _ | v⟩ <;> rfl

theorem restLoop_coarsens (l res : List Itv) : Coarsens (l ++ res) (restLoop l res) := by
  induction l generalizing res with
  | nil => exact .refl _
  | cons intv more ih =>
    rw [restLoop_cons]
    exact ((Coarsens.of_perm List.perm_middle.symm).trans (.append_left more (absorb_coarsens intv res))).trans (ih _)

/-- the heads `a`, `b` of the two operands are replaced by one interval `c` on the result vector -/
theorem Coarsens.heads {a b c : Itv} (as bs res : List Itv) (h : Coarsens [a, b] [c]) :
    Coarsens ((a :: as) ++ (b :: bs) ++ res) (as ++ bs ++ c :: res) := by
  have p1 : ((a :: as) ++ (b :: bs) ++ res).Perm ([a, b] ++ (as ++ bs ++ res)) := by
    simp only [List.cons_append, List.nil_append, List.append_assoc]
    exact .cons a List.perm_middle
  have p2 : (c :: (as ++ bs ++ res)).Perm (as ++ bs ++ c :: res) := List.perm_middle.symm
  exact ((Coarsens.of_perm p1).trans (h.append_right _)).trans (.of_perm p2)

theorem joinMain_coarsens (fuel : Nat) (xs ys res : List Itv) {xs' ys' res' : List Itv} :
    joinMain fuel xs ys res = some (xs', ys', res') →
    Coarsens (xs ++ ys ++ res) (xs' ++ ys' ++ res') := by
  have refl : ∀ {xs ys res : List Itv}, some (xs, ys, res) = some (xs', ys', res') →
      Coarsens (xs ++ ys ++ res) (xs' ++ ys' ++ res') := fun h => by cases h; exact .refl _
  fun_induction joinMain fuel xs ys res with
  | case1 | case2 | case3 => exact refl
  | case4 => exact fun h => nomatch h
  | case5 fuel a as b bs res _ hab ih =>
    exact fun h => (Coarsens.drop fun k hk => absurd hk (Itv.not_mem_of_isBottom hab)).trans (ih h)
  | case6 fuel a as b bs res _ _ hbb ih =>
    refine fun h => Coarsens.trans ?_ (ih h)
    rw [List.append_assoc, List.append_assoc]
    exact .append_left _ (.drop fun k hk => absurd hk (Itv.not_mem_of_isBottom hbb))
  | case7 fuel a as b bs res _ hab _ heq ih =>
    refine fun h => (Coarsens.heads as bs res ?_).trans (ih h)
    exact eq_of_beq (by simpa using hab) heq ▸ .drop fun k hk => memL_cons.mpr (Or.inl hk)
  | case8 fuel a as b bs res _ _ _ _ hle ih =>
    exact fun h => (Coarsens.heads as bs res
      (.drop fun k hk => memL_cons.mpr (Or.inl (Itv.leq_sound hle hk)))).trans (ih h)
  | case9 fuel a as b bs res _ _ _ _ _ hle ih =>
    exact fun h => (Coarsens.heads as bs res ((Coarsens.of_perm (.swap b a [])).trans
      (.drop fun k hk => memL_cons.mpr (Or.inl (Itv.leq_sound hle hk))))).trans (ih h)
  | case10 fuel a as b bs res _ _ _ _ _ _ hm ih =>
    exact fun h => (Coarsens.heads as bs res (.merge (by simpa using hm) [])).trans (ih h)
  | case11 fuel a as b bs res _ _ _ _ _ _ _ _ ih =>
    exact fun h => (Coarsens.of_perm List.perm_middle.symm).trans (ih h)
  | case12 fuel a as b bs res _ _ _ _ _ _ _ _ ih =>
    refine fun h => Coarsens.trans ?_ (ih h)
    rw [List.append_assoc, List.append_assoc]
    exact .append_left _ (.of_perm List.perm_middle.symm)

/-- the vector handed to the constructor at the end of `operator|` -/
def joinVec (lx ly : List Itv) : Option (List Itv) :=
  match joinMain (lx.length + ly.length) lx ly [] with
  | none => none
  | some (xs, ys, res) => some (restLoop ys (restLoop xs res)).reverse

theorem join_fin (lx ly : List Itv) : join ⟨.fin, lx⟩ ⟨.fin, ly⟩ =
    match joinVec lx ly with
    | none => ⟨.top, []⟩
    | some [] => ⟨.bot, []⟩
    | some [r] => if r.isTop then ⟨.top, []⟩ else mkList [r]
    | some v => mkList v := by
  simp only [join, joinVec, isBottom_fin, isTop_fin, Bool.false_eq_true, if_false]
  cases joinMain (lx.length + ly.length) lx ly [] with
  | none => rfl
  | some p =>
    obtain ⟨xs, ys, res⟩ := p
    dsimp only
    generalize (restLoop ys (restLoop xs res)).reverse = v
    match v with
    | [] => rfl
    | [r] => rfl
    | a :: b :: c => rfl

theorem joinVec_coarsens {lx ly v : List Itv} (h : joinVec lx ly = some v) : Coarsens (lx ++ ly) v := by
  unfold joinVec at h
  cases hm : joinMain (lx.length + ly.length) lx ly [] with
  | none => simp [hm] at h
  | some p =>
    obtain ⟨xs, ys, res⟩ := p
    simp only [hm, Option.some.injEq] at h
    subst h
    have h1 := joinMain_coarsens _ lx ly [] hm
    rw [List.append_nil] at h1
    refine (h1.trans ((Coarsens.of_perm ?_).trans ((Coarsens.append_left ys (restLoop_coarsens xs res)).trans
      (restLoop_coarsens ys _)))).trans (.of_perm (List.reverse_perm _).symm)
    rw [List.append_assoc]
    exact List.perm_append_comm_assoc xs ys res

/-- the last stage of `operator|` on FINITE values: the coarsened vector `v` of all intervals goes to
    the constructor, unless no interval is left -/
theorem join_fin_cases {motive : Dis → Prop} {lx ly : List Itv} (hx : ∀ i ∈ lx, i.WF) (hy : ∀ i ∈ ly, i.WF)
    (top : motive ⟨.top, []⟩) (bot : Coarsens (lx ++ ly) [] → motive ⟨.bot, []⟩)
    (mk : ∀ v, Coarsens (lx ++ ly) v → v ≠ [] → (∀ i ∈ v, i.WF) → (∀ r, v = [r] → r.isTop = false) →
      motive (mkList v)) :
    motive (join ⟨.fin, lx⟩ ⟨.fin, ly⟩) := by
  rw [join_fin]
  cases hv : joinVec lx ly with
  | none => exact top
  | some v =>
    have hc := joinVec_coarsens hv
    have hvw := hc.all Itv.WF (fun _ _ => Itv.wf_join) (List.forall_mem_append.mpr ⟨hx, hy⟩)
    match v, hc, hvw with
    | [], hc, _ => exact bot hc
    | [r], hc, hvw =>
      dsimp only
      split
      · exact top
      · rename_i hnt
        exact mk _ hc (by simp) hvw (fun r' e => by rw [← List.singleton_inj.mp e]; simpa using hnt)
    | a :: b :: c, hc, hvw => exact mk _ hc (by simp) hvw (fun r e => by simp at e)

theorem join_mem_upper {x y : Dis} (hx : EWF x) (hy : EWF y) {k : Int} (h : mem k x ∨ mem k y) :
    mem k (join x y) := by
  refine upper_cases (op := join) (fun _ _ => rfl) x y (fun r _ hr => hr k h) fun lx ly ex ey => ?_
  subst ex ey
  have hk : ∀ {v}, Coarsens (lx ++ ly) v → memL k v := fun hc => (hc.mem k).mpr (memL_append.mpr h)
  exact join_fin_cases hx hy (mem_top k) (fun hc => absurd (hk hc) (memL_nil k))
    (fun v hc _ hw _ => mkList_mem_upper hw (hk hc))

theorem join_ewf {x y : Dis} (hx : EWF x) (hy : EWF y) : EWF (join x y) := by
  refine upper_cases (op := join) (fun _ _ => rfl) x y (fun r hr _ => hr.elim (· ▸ hx) (· ▸ hy))
    fun lx ly ex ey => ?_
  subst ex ey
  exact join_fin_cases hx hy (by simp [EWF]) (by simp [EWF]) (fun v _ _ hw _ => mkList_ewf hw)

theorem join_wf {x y : Dis} (hx : WF x) (hy : WF y)
    (hlen : x.l.length + y.l.length < maxDisjunctions) : WF (join x y) := by
  refine upper_cases (op := join) (fun _ _ => rfl) x y (fun r hr _ => hr.elim (· ▸ hx) (· ▸ hy))
    fun lx ly ex ey => ?_
  subst ex ey
  refine join_fin_cases (wfList_wf hx.2.2) (wfList_wf hy.2.2) rfl (fun _ => rfl)
    (fun v hc _ hw h1 => mkList_wf hw (fun a ha => ?_) (Nat.lt_of_le_of_lt (by simpa using hc.length_le) hlen))
  have hnb := hc.all (fun i => i.isBottom = false) (fun a b => Itv.join_not_bottom)
    (fun i hi => ((proper_iff i).mp ((List.mem_append.mp hi).elim (hx.2.2.1 i) (hy.2.2.1 i))).1) a (by simp [ha])
  exact (proper_iff a).mpr ⟨hnb, h1 a ha, hw a (by simp [ha])⟩

def meetVec (lx ly : List Itv) : List Itv :=
  (lx.flatMap (fun a => ly.map (fun b => Itv.meet a b))).filter (fun m => !m.isBottom)

theorem mem_meetVec {lx ly : List Itv} {m : Itv} :
    m ∈ meetVec lx ly ↔ (∃ a ∈ lx, ∃ b ∈ ly, Itv.meet a b = m) ∧ m.isBottom = false := by
  simp [meetVec, List.mem_filter, List.mem_flatMap, List.mem_map]

theorem length_pairs {β : Type} (f : Itv → Itv → β) (lx ly : List Itv) :
    (lx.flatMap (fun a => ly.map (fun b => f a b))).length = lx.length * ly.length := by
  induction lx with
  | nil => simp
  | cons a as ih => simp [List.flatMap_cons, ih, Nat.succ_mul, Nat.add_comm]

theorem length_meetVec (lx ly : List Itv) : (meetVec lx ly).length ≤ lx.length * ly.length :=
  Nat.le_trans (List.length_filter_le _ _) (Nat.le_of_eq (length_pairs _ lx ly))

theorem meet_fin (lx ly : List Itv) : meet ⟨.fin, lx⟩ ⟨.fin, ly⟩ =
    if (meetVec lx ly).isEmpty then bot else mkList (meetVec lx ly) := rfl

theorem meetVec_wf {lx ly : List Itv} (hx : ∀ a ∈ lx, a.WF) (hy : ∀ b ∈ ly, b.WF) :
    ∀ m ∈ meetVec lx ly, m.WF := by
  intro m hm
  obtain ⟨⟨a, ha, b, hb, rfl⟩, _⟩ := mem_meetVec.mp hm
  exact Itv.wf_meet (hx a ha) (hy b hb)

theorem meet_cases {motive : Dis → Prop} (x y : Dis)
    (arg : ∀ r, r = bot ∨ r = x ∨ r = y → (∀ k, mem k r ↔ mem k x ∧ mem k y) → motive r)
    (fin : ∀ lx ly, x = ⟨.fin, lx⟩ → y = ⟨.fin, ly⟩ → motive (meet ⟨.fin, lx⟩ ⟨.fin, ly⟩)) :
    motive (meet x y) := by
  unfold meet
  by_cases h1 : (x.isBottom || y.isBottom) = true
  · rw [if_pos h1]
    refine arg bot (Or.inl rfl) fun k => ⟨fun h => absurd h (not_mem_bot k), fun h => ?_⟩
    rcases Bool.or_eq_true _ _ |>.mp h1 with hb | hb
    · exact absurd h.1 (not_mem_of_isBottom hb k)
    · exact absurd h.2 (not_mem_of_isBottom hb k)
  rw [if_neg h1]
  by_cases h2 : x.isTop = true
  · rw [if_pos h2]; exact arg y (Or.inr (Or.inr rfl)) fun k => ⟨fun h => ⟨mem_of_isTop h2 k, h⟩, And.right⟩
  rw [if_neg h2]
  by_cases h3 : y.isTop = true
  · rw [if_pos h3]; exact arg x (Or.inr (Or.inl rfl)) fun k => ⟨fun h => ⟨h, mem_of_isTop h3 k⟩, And.left⟩
  rw [if_neg h3]
  simp only [Bool.or_eq_true, not_or] at h1
  exact fin _ _ (eq_fin h1.1 h2) (eq_fin h1.2 h3)

theorem meet_mem_sound {x y : Dis} (hx : EWF x) (hy : EWF y) {k : Int} (h1 : mem k x) (h2 : mem k y) :
    mem k (meet x y) := by
  refine meet_cases x y (fun r _ hr => (hr k).mpr ⟨h1, h2⟩) fun lx ly ex ey => ?_
  subst ex ey
  obtain ⟨a, ha, hka⟩ := h1
  obtain ⟨b, hb, hkb⟩ := h2
  have hkm : Itv.mem k (Itv.meet a b) := Itv.meet_sound hka hkb
  have hin : Itv.meet a b ∈ meetVec lx ly :=
    mem_meetVec.mpr ⟨⟨a, ha, b, hb, rfl⟩, Itv.isBottom_false_of_mem hkm⟩
  rw [meet_fin, if_neg (by simpa using List.ne_nil_of_mem hin)]
  exact mkList_mem_upper (meetVec_wf hx hy) ⟨_, hin, hkm⟩

theorem meet_mem_exact {x y : Dis} (hx : EWF x) (hy : EWF y)
    (hsmall : x.l.length * y.l.length < maxDisjunctions) {k : Int} (h : mem k (meet x y)) :
    mem k x ∧ mem k y := by
  revert h
  refine meet_cases x y (fun r _ hr => (hr k).mp) fun lx ly ex ey h => ?_
  subst ex ey
  rw [meet_fin] at h
  split at h
  · exact absurd h (not_mem_bot k)
  · rename_i hne
    obtain ⟨m, hm, hkm⟩ := mkList_mem_exact (meetVec_wf hx hy) (by simpa using hne)
      (Nat.lt_of_le_of_lt (length_meetVec lx ly) hsmall) h
    obtain ⟨⟨a, ha, b, hb, rfl⟩, _⟩ := mem_meetVec.mp hm
    obtain ⟨h1, h2⟩ := Itv.meet_exact hkm
    exact ⟨⟨a, ha, h1⟩, ⟨b, hb, h2⟩⟩

theorem meet_isTop {a b : Itv} (ha : a.WF) (hb : b.WF) (h : (Itv.meet a b).isTop = true) :
    a.isTop = true := by
  have hall : ∀ k, Itv.mem k a := fun k =>
    (Itv.meet_exact (Itv.mem_of_isTop h (Itv.wf_meet ha hb) k)).1
  obtain ⟨al, au⟩ := a
  cases al with
  | fin l => have := (hall (l - 1)).1; simp at this; omega
  | pinf => exact absurd rfl ha.1
  | ninf =>
    cases au with
    | fin u => have := (hall (u + 1)).2; simp at this; omega
    | ninf => exact absurd rfl ha.2
    | pinf => rfl

theorem meet_wf {x y : Dis} (hx : WF x) (hy : WF y)
    (hsmall : x.l.length * y.l.length < maxDisjunctions) : WF (meet x y) := by
  refine meet_cases x y (fun r hr _ => ?_) fun lx ly ex ey => ?_
  · rcases hr with rfl | rfl | rfl
    · exact rfl
    · exact hx
    · exact hy
  subst ex ey
  rw [meet_fin]
  split
  · exact rfl
  · have hpx := fun a ha => (proper_iff a).mp (hx.2.2.1 a ha)
    have hpy := fun a ha => (proper_iff a).mp (hy.2.2.1 a ha)
    have hwf := meetVec_wf (fun a ha => (hpx a ha).2.2) (fun a ha => (hpy a ha).2.2)
    refine mkList_wf hwf (fun m hm => ?_) (Nat.lt_of_le_of_lt (length_meetVec lx ly) hsmall)
    have hin : m ∈ meetVec lx ly := by simp [hm]
    obtain ⟨⟨a, ha, b, hb, rfl⟩, hnb⟩ := mem_meetVec.mp hin
    refine (proper_iff _).mpr ⟨hnb, ?_, hwf _ hin⟩
    cases ht : (Itv.meet a b).isTop with
    | false => rfl
    | true => exact absurd (meet_isTop (hpx a ha).2.2 (hpy b hb).2.2 ht) (by simp [(hpx a ha).2.1])

end Dis
end Crab
