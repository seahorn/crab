import CrabProofs.Lemmas.PatriciaSepDomAt
import CrabModel.Dom.NonRelEnv

/-!
  The environment shared by `constant_domain`, `sign_domain` and `congruence_domain`
  (`Crab.XDom.Env V` = `SepDom V`, CrabModel/Dom/NonRelEnv.lean) for an arbitrary value lattice
  that satisfies `Laws`: concretisation `γ`, invariant `Inv` (well-formed Patricia tree whose
  stored values are neither bottom nor top), and the soundness of every forwarded operation,
  obtained from the reading of `separate_domain` through `at` (`PatriciaSepDomAt.lean`): `get` is
  `SepDom.atKey`, and `γ L mem e σ` is `SepDom.Holds L (fun k v => mem (σ k) v) e`.  Here `set`,
  `-=`, the vector operations (`forget`, `project`, `expand`) and the weak update `joinKey` (a `set`
  of an upper bound of the old and the new value); the lattice operations, the inclusion test and
  `is_bottom` / `is_top` are in `XDomLattice.lean`.
-/
set_option linter.unusedSectionVars false

namespace Crab
namespace XDom
open Patricia Patricia.Tree Lin SepDom

variable {V : Type}

/-- the representation invariant of the values of the class `Value` (e.g. the standard form
    `0 ≤ b < a` of `congruence`); `True` for the classes that have none -/
class GoodVal (V : Type) where
  good : V → Prop

/-- values `separate_domain` stores: neither bottom nor top (and in standard form) -/
def Stored [GoodVal V] (L : Lattice V) (v : V) : Prop :=
  L.isBottom v = false ∧ L.isTop v = false ∧ GoodVal.good v

/-- what is needed of an upper-bound operation (join, widening) -/
structure UpperLaws [GoodVal V] (L : Lattice V) (mem : Int → V → Prop) (f : V → V → V) : Prop where
  upper : ∀ x y k, mem k x ∨ mem k y → mem k (f x y)
  idem : ∀ x, Stored L x → f x x = x
  nonbot : ∀ x y, Stored L x → Stored L y → L.isBottom (f x y) = false
  good : ∀ x y, Stored L x → Stored L y → GoodVal.good (f x y)

/-- what is needed of a lower-bound operation (meet, narrowing) -/
structure LowerLaws [GoodVal V] (L : Lattice V) (mem : Int → V → Prop) (g : V → V → V) : Prop where
  sound : ∀ x y k, mem k x → mem k y → mem k (g x y)
  idem : ∀ x, Stored L x → g x x = x
  nontop : ∀ x y, Stored L x → Stored L y → L.isBottom (g x y) = false → L.isTop (g x y) = false
  good : ∀ x y, Stored L x → Stored L y → GoodVal.good (g x y)

/-- laws of the value lattice w.r.t. its concretisation `mem k v` (`k ∈ γ(v)`) -/
structure Laws [GoodVal V] (L : Lattice V) (mem : Int → V → Prop) : Prop where
  isTop_top : L.isTop L.top = true
  isBottom_top : L.isBottom L.top = false
  isBottom_bottom : L.isBottom L.bottom = true
  good_top : GoodVal.good L.top
  good_bottom : GoodVal.good L.bottom
  mem_top : ∀ k, mem k L.top
  not_mem_bottom : ∀ v k, L.isBottom v = true → ¬ mem k v
  beq_sound : ∀ x y, L.beq x y = true → x = y
  leq_refl : ∀ x, Stored L x → L.leq x x = true
  leq_sound : ∀ x y k, L.leq x y = true → mem k x → mem k y
  nonbot_mem : ∀ v, L.isBottom v = false → ∃ k, mem k v
  nontop_out : ∀ v, Stored L v → ∃ k, ¬ mem k v
  join : UpperLaws L mem L.join
  widen : UpperLaws L mem L.widen
  meet : LowerLaws L mem L.meet
  narrow : LowerLaws L mem L.narrow

theorem UpperLaws.pres [GoodVal V] {L : Lattice V} {mem : Int → V → Prop} {f : V → V → V} (hf : UpperLaws L mem f)
    (x y : V) (hx : Stored L x) (hy : Stored L y) (ht : L.isTop (f x y) = false) : Stored L (f x y) :=
  ⟨hf.nonbot x y hx hy, ht, hf.good x y hx hy⟩

theorem LowerLaws.pres [GoodVal V] {L : Lattice V} {mem : Int → V → Prop} {g : V → V → V} (hg : LowerLaws L mem g)
    (x y : V) (hx : Stored L x) (hy : Stored L y) (hb : L.isBottom (g x y) = false) : Stored L (g x y) :=
  ⟨hb, hg.nontop x y hx hy hb, hg.good x y hx hy⟩

theorem Laws.vals [GoodVal V] {L : Lattice V} {mem : Int → V → Prop} (hL : Laws L mem) : Vals L (Stored L) :=
  ⟨hL.isTop_top, hL.isBottom_top, fun _ h => h.2.1, fun _ h => h.1⟩

abbrev State := Var → Int

/-- `σ[x := n]` -/
def upd (σ : State) (x : Var) (n : Int) : State := fun y => if y = x then n else σ y

@[simp] theorem upd_same (σ : State) (x : Var) (n : Int) : upd σ x n x = n := by simp [upd]
theorem upd_other (σ : State) {x y : Var} (n : Int) (h : y ≠ x) : upd σ x n y = σ y := by simp [upd, h]
theorem upd_self (σ : State) (x : Var) : upd σ x (σ x) = σ := by
  funext y; unfold upd; split
  · rename_i h; rw [h]
  · rfl

namespace Env

/-- the invariant of `separate_domain`: well-formed tree (keys `< 2^64`), no stored bottom or
    top, empty tree when bottom -/
def Inv [GoodVal V] (L : Lattice V) (e : Env V) : Prop := SepDom.Inv (Stored L) e

/-- concretisation: the integer valuations described by the environment -/
def γ (L : Lattice V) (mem : Int → V → Prop) (e : Env V) (σ : State) : Prop :=
  e.isBot = false ∧ ∀ x, mem (σ x) (Env.get L e x)

variable [GoodVal V] {L : Lattice V} {mem : Int → V → Prop}

theorem ctx_sound (hL : Laws L mem) : (ctxOf L).SoundOn (Stored L) :=
  ⟨fun _ _ h => by simp [ctxOf] at h, fun x y _ h => hL.beq_sound x y h⟩

theorem inv_top : Inv L (top : Env V) := SepDom.inv_top
theorem inv_bot : Inv L (bot : Env V) := SepDom.inv_bottom

theorem get_eq (e : Env V) (k : Var) :
    get L e k = if e.isBot then L.bottom else (e.tree.lookup k).getD L.top := atKey_eq e k

theorem get_good (hL : Laws L mem) {e : Env V} (he : Inv L e) (k : Var) : GoodVal.good (get L e k) := by
  unfold get
  cases ne : e.isBot
  · rcases atKey_cases (L := L) he ne k with ⟨x, _, e1, hx⟩ | ⟨_, e1⟩
    · rw [e1]; exact hx.2.2
    · rw [e1]; exact hL.good_top
  · rw [atKey_bottom ne]; exact hL.good_bottom

theorem γ_top (hL : Laws L mem) (σ : State) : γ L mem (top : Env V) σ := by
  refine ⟨rfl, fun x => ?_⟩
  rw [get_eq]; exact hL.mem_top _

theorem not_γ_of_bot {e : Env V} (h : e.isBot = true) (σ : State) : ¬ γ L mem e σ := by
  intro hg; rw [hg.1] at h; cases h

theorem not_γ_bot (σ : State) : ¬ γ L mem (bot : Env V) σ := not_γ_of_bot rfl σ

/-! ### `set`, `operator-=` -/

/-- `set(k, v)`: invariant, bottom flag and bindings of the result (a top value removes the
    binding) -/
theorem set_spec (hL : Laws L mem) {e : Env V} (he : Inv L e) {k : Var} (hk : k < 2 ^ 64) {v : V}
    (hgd : GoodVal.good v) :
    Inv L (set L e k v) ∧
    ((set L e k v).isBot = (e.isBot || L.isBottom v)) ∧
    ((set L e k v).isBot = false → ∀ k', get L (set L e k v) k' =
      if k' = k then (if L.isTop v then L.top else v) else get L e k') :=
  set_at (ctx_sound hL) he hk fun hb ht => ⟨hb, ht, hgd⟩

theorem set_inv (hL : Laws L mem) {e : Env V} (he : Inv L e) {k : Var} (hk : k < 2 ^ 64) {v : V}
    (hgd : GoodVal.good v) : Inv L (set L e k v) := (set_spec hL he hk hgd).1

/-- `x` receives any member of `v` -/
theorem set_sound (hL : Laws L mem) {e : Env V} (he : Inv L e) {σ : State} (hg : γ L mem e σ)
    {x : Var} (hx : x < 2 ^ 64) {v : V} (hgd : GoodVal.good v) {n : Int} (hn : mem n v) :
    γ L mem (set L e x v) (upd σ x n) := by
  obtain ⟨_, hb, hl⟩ := set_spec hL he hx hgd
  have hvb : L.isBottom v = false := by
    cases h : L.isBottom v
    · rfl
    · exact absurd hn (hL.not_mem_bottom v n h)
  have hb' : (set L e x v).isBot = false := by rw [hb, hg.1, hvb]; rfl
  refine ⟨hb', fun y => ?_⟩
  rw [hl hb']
  by_cases e1 : y = x
  · subst e1
    simp only [if_true, upd_same]
    split
    · exact hL.mem_top _
    · exact hn
  · simp only [e1, if_false]; rw [upd_other _ _ e1]; exact hg.2 y

/-- refinement of a variable by a value that contains its current concrete value -/
theorem set_sound_same (hL : Laws L mem) {e : Env V} (he : Inv L e) {σ : State} (hg : γ L mem e σ)
    {x : Var} (hx : x < 2 ^ 64) {v : V} (hgd : GoodVal.good v) (hn : mem (σ x) v) : γ L mem (set L e x v) σ := by
  have := set_sound hL he hg hx hgd hn
  rwa [upd_self] at this

theorem forget_spec' (hL : Laws L mem) {e : Env V} (he : Inv L e) {k : Var} (hk : k < 2 ^ 64) :
    Inv L (forget L e k) ∧ (forget L e k).isBot = e.isBot ∧
      (e.isBot = false → ∀ k', get L (forget L e k) k' = if k' = k then L.top else get L e k') := by
  have : forget L e k = SepDom.forget (ctxOf L) e k := by unfold forget SepDom.forget; split <;> rfl
  rw [this]; exact forget_at (ctx_sound hL) he hk

theorem forget_inv (hL : Laws L mem) {e : Env V} (he : Inv L e) {k : Var} (hk : k < 2 ^ 64) :
    Inv L (forget L e k) := (forget_spec' hL he hk).1

/-- `operator-=(x)`: `x` may take any value -/
theorem forget_sound (hL : Laws L mem) {e : Env V} (he : Inv L e) {σ : State} (hg : γ L mem e σ)
    {x : Var} (hx : x < 2 ^ 64) (n : Int) : γ L mem (forget L e x) (upd σ x n) := by
  obtain ⟨_, hb, hl⟩ := forget_spec' hL he hx
  refine ⟨by rw [hb]; exact hg.1, fun y => ?_⟩
  rw [hl hg.1]
  by_cases e1 : y = x
  · simp only [e1, if_true]; exact hL.mem_top _
  · simp only [e1, if_false]; rw [upd_other _ _ e1]; exact hg.2 y

/-! ### `is_top`, vector operations, the weak update -/

theorem γ_of_isTop (hL : Laws L mem) {e : Env V} (he : Inv L e) (h : e.isTop = true) (σ : State) :
    γ L mem e σ :=
  have h' := (SepDom.isTop_iff hL.vals he).mp h
  ⟨h'.1, fun x => by unfold get; rw [h'.2 x]; exact hL.mem_top _⟩

theorem forget_fold_sound (hL : Laws L mem) : ∀ (vs : List Var) {e : Env V} {σ : State}, Inv L e →
    γ L mem e σ → (∀ v ∈ vs, v < 2 ^ 64) → ∀ σ' : State, (∀ y, y ∉ vs → σ' y = σ y) →
    γ L mem (vs.foldl (fun env v => forget L env v) e) σ' := by
  intro vs
  induction vs with
  | nil =>
    intro e σ _ hg _ σ' h
    have : σ' = σ := funext (fun y => h y (by simp))
    rw [this]; exact hg
  | cons v rest ih =>
    intro e σ he hg hv σ' h
    simp only [List.foldl_cons]
    have hv0 := hv v (by simp)
    apply ih (forget_inv hL he hv0) (forget_sound hL he hg hv0 (σ' v)) (fun w hw => hv w (by simp [hw]))
    intro y hy
    by_cases e1 : y = v
    · subst e1; simp
    · rw [upd_other _ _ e1]; exact h y (by simp [e1, hy])

theorem forgetAll_inv (hL : Laws L mem) {e : Env V} (he : Inv L e) {vs : List Var} (hv : ∀ v ∈ vs, v < 2 ^ 64) :
    Inv L (forgetAll L e vs) := by
  unfold forgetAll
  split
  · exact he
  · exact List.foldlRecOn vs _ he fun _ hb v hm => forget_inv hL hb (hv v hm)

theorem forgetAll_sound (hL : Laws L mem) {e : Env V} (he : Inv L e) {σ : State} (hg : γ L mem e σ)
    {vs : List Var} (hv : ∀ v ∈ vs, v < 2 ^ 64) {σ' : State} (h : ∀ y, y ∉ vs → σ' y = σ y) :
    γ L mem (forgetAll L e vs) σ' := by
  unfold forgetAll
  split
  · rename_i hc
    have : e.isTop = true := by
      have hb : e.isBottom = false := hg.1
      simpa [hb] using hc
    exact γ_of_isTop hL he this σ'
  · exact forget_fold_sound hL vs he hg hv σ' h

theorem project_spec' (hL : Laws L mem) {e : Env V} (he : Inv L e) (ne : e.isBot = false)
    {vs : List Var} (hv : ∀ v ∈ vs, v < 2 ^ 64) :
    Inv L (project L e vs) ∧ (project L e vs).isBot = false ∧
      ∀ k', get L (project L e vs) k' = if k' ∈ vs then get L e k' else L.top := by
  unfold project
  rw [if_neg (by simp [ne])]
  exact project_at hL.vals (ctx_sound hL) he ne hv

theorem project_inv (hL : Laws L mem) {e : Env V} (he : Inv L e) {vs : List Var} (hv : ∀ v ∈ vs, v < 2 ^ 64) :
    Inv L (project L e vs) := by
  cases ne : e.isBot
  · exact (project_spec' hL he ne hv).1
  · unfold project; simp only [ne, if_true]; exact he

theorem project_sound (hL : Laws L mem) {e : Env V} (he : Inv L e) {σ : State} (hg : γ L mem e σ)
    {vs : List Var} (hv : ∀ v ∈ vs, v < 2 ^ 64) {σ' : State} (h : ∀ y ∈ vs, σ' y = σ y) :
    γ L mem (project L e vs) σ' := by
  obtain ⟨_, hb, hl⟩ := project_spec' hL he hg.1 hv
  refine ⟨hb, fun y => ?_⟩
  rw [hl]
  split
  · rename_i hy; rw [h y hy]; exact hg.2 y
  · exact hL.mem_top _

theorem expand_inv (hL : Laws L mem) {e : Env V} (he : Inv L e) {x nx : Var} (hnx : nx < 2 ^ 64) :
    Inv L (expand L e x nx) := by
  unfold expand
  split
  · exact he
  · exact set_inv hL he hnx (get_good hL he x)

theorem expand_sound (hL : Laws L mem) {e : Env V} (he : Inv L e) {σ : State} (hg : γ L mem e σ)
    {x nx : Var} (hnx : nx < 2 ^ 64) {n : Int} (hn : mem n (get L e x)) :
    γ L mem (expand L e x nx) (upd σ nx n) := by
  unfold expand
  split
  · rename_i hc
    have : e.isTop = true := by
      have hb : e.isBottom = false := hg.1
      simpa [hb] using hc
    exact γ_of_isTop hL he this _
  · exact set_sound hL he hg hnx (get_good hL he x) hn

/-- the weak update of a non-bottom environment is `set(k, j)` for an upper bound `j` of the value
    of `k` and of `v` (their join, or top when `k` is unbound or `v` is top) -/
theorem joinKey_eq_set (hL : Laws L mem) {e : Env V} (he : Inv L e) (ne : e.isBot = false) (k : Var) {v : V}
    (hgd : GoodVal.good v) (hvb : L.isBottom v = false) :
    ∃ j, joinKey L e k v = set L e k j ∧ GoodVal.good j ∧ ∀ n, mem n (get L e k) ∨ mem n v → mem n j := by
  refine ⟨_, wjoin_eq_set hL.vals _ ne hvb
    (fun hvt old hl => hL.join.nonbot old v (he.1.val_of_lookup hl) ⟨hvb, hvt, hgd⟩) (Or.inl rfl), ?_⟩
  cases hl : e.tree.lookup k with
  | none => exact ⟨hL.good_top, fun _ _ => hL.mem_top _⟩
  | some old =>
    simp only
    split
    · exact ⟨hL.good_top, fun _ _ => hL.mem_top _⟩
    · rename_i hvt
      exact ⟨hL.join.good old v (he.1.val_of_lookup hl) ⟨hvb, by simpa using hvt, hgd⟩,
        fun n hn => hL.join.upper old v n (by rwa [get_eq, ne, hl] at hn)⟩

theorem joinKey_inv (hL : Laws L mem) {e : Env V} (he : Inv L e) {k : Var} (hk : k < 2 ^ 64) {v : V}
    (hgd : GoodVal.good v) : Inv L (joinKey L e k v) := by
  cases ne : e.isBot
  · cases hvb : L.isBottom v
    · obtain ⟨j, ej, hj, _⟩ := joinKey_eq_set hL he ne k hgd hvb
      rw [ej]; exact set_inv hL he hk hj
    · unfold joinKey wjoin; simp only [ne, hvb, Bool.false_eq_true, if_false, if_true]
      exact SepDom.inv_bottom
  · unfold joinKey wjoin; simp only [ne, if_true]; exact he

theorem joinKey_sound (hL : Laws L mem) {e : Env V} (he : Inv L e) {σ : State} (hg : γ L mem e σ)
    {x : Var} (hx : x < 2 ^ 64) {v : V} (hgd : GoodVal.good v) {n : Int} (hn : mem n v) :
    γ L mem (joinKey L e x v) σ ∧ γ L mem (joinKey L e x v) (upd σ x n) := by
  have hvb : L.isBottom v = false := by
    cases h : L.isBottom v
    · rfl
    · exact absurd hn (hL.not_mem_bottom v n h)
  obtain ⟨j, ej, hj, hm⟩ := joinKey_eq_set hL he hg.1 x hgd hvb
  rw [ej]
  exact ⟨set_sound_same hL he hg hx hj (hm _ (Or.inl (hg.2 x))), set_sound hL he hg hx hj (hm _ (Or.inr hn))⟩

end Env
end XDom
end Crab
