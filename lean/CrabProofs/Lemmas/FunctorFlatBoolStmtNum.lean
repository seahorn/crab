import CrabProofs.Lemmas.FunctorFlatBoolStmtBool

/-!
Soundness of the numerical statements, `+=`, the casts and the operations on variables (`-=`,
`forget`, `project`, `expand`, `rename` of one variable) for the model of
`flat_boolean_numerical_domain`.
-/
set_option linter.unusedSectionVars false

namespace Crab
namespace Dom
namespace Fct

variable {V : Type} [DecidableEq V] {K : CSig V}

namespace FBN
variable {N : BNDom V K} {f2 : N.B → N.B} {a : FBN N} {s s' : CSt V}

theorem setN_bool (s : CSt V) (x : V) (k : Int) : (s.setN x k).bool = s.bool := rfl

/-! ### the two shapes of a definition -/

/-- the numerical variable `x` is redefined: the product is transformed, `x` is marked as changed -/
theorem γ_setN (hg : γ a s) (x : V) (k : Int) {p : Prod2 (FB V) N.toLDom}
    (hp : p.γ (s.setN x k)) : γ ({ a with prod := p, unch := a.unch.remove x } : FBN N) (s.setN x k) := by
  obtain ⟨_, hu, hL, hB⟩ := γ_iff.1 hg
  exact γ_iff.2 ⟨hp, (DSet.isBot_remove _ _).trans hu, hL.imp (LinP.setN hu x k), hB⟩

/-- the Boolean `x` is redefined: the product is transformed, what is recorded for and about `x`
    is removed -/
theorem γ_setB (hg : γ a s) (x : V) (b : Bool) {p : Prod2 (FB V) N.toLDom}
    (hp : p.γ (s.setB x b)) :
    γ (⟨p, a.lin.del x, forgetImpliedBool x (a.bools.del x), a.unch⟩ : FBN N) (s.setB x b) := by
  obtain ⟨_, hu, hL, hB⟩ := γ_iff.1 hg
  exact γ_iff.2 ⟨hp, hu, lin_setB_del hL x b, bools_setB_del' hB x b⟩

/-! ### numerical statements, casts -/

theorem numDef_sound (m : Prod2.Meth) {x : V} {r : CSt V → CSt V → Prop}
    (hf2 : N.TSound f2 r) (hd : DefinesNum x r) (hg : γ a s) (hr : r s s') :
    γ (numDef m f2 x a) s' := by
  have h2 := hf2 _ _ _ hg.1.2.2 hr
  obtain ⟨k, rfl⟩ := hd s s' hr
  exact γ_setN hg x k (Prod2.op_γ m hg.1 (FEnv.γ_congr hg.1.2.1 rfl) h2)

theorem castOther_sound {dst : V} {r : CSt V → CSt V → Prop}
    (hf2 : N.TSound f2 r) (hd : DefinesNum dst r) (hg : γ a s) (hr : r s s') :
    γ (castOther f2 dst a) s' := by
  have h2 := hf2 _ _ _ hg.1.2.2 hr
  obtain ⟨k, rfl⟩ := hd s s' hr
  exact γ_setN hg dst k (Prod2.op_γ .cast hg.1 (FEnv.forget1_sound hg.1.2.1 dst fun _ _ => rfl) h2)

theorem castTrunc_sound {dst src : V} (hN : IgnoresBool N dst) (hg : γ a s)
    (hr : relTrunc dst src s s') : γ (castTrunc dst src a) s' := by
  obtain ⟨b, rfl, rfl⟩ := hr
  have hp := hg.1
  unfold castTrunc
  rw [Prod2.canonicalize_of_γ hp]
  apply γ_setB hg
  apply Prod2.onFirst_γ hp _ (hN _ _ _ hp.2.2)
  apply FEnv.set_sound hp.2.1
  split
  · rename_i hz
    simp [BVal.γ, N.isZero_sound _ _ _ hz hp.2.2]
  · split
    · rename_i hz
      simp [BVal.γ, N.nonZero_sound _ _ _ hz hp.2.2]
    · trivial

theorem castExt_sound {funk : N.B → N.B} {dst src : V} (hf : N.TSound funk (relExt dst src))
    (hg : γ a s) (hr : relExt dst src s s') : γ (castExt funk dst src a) s' := by
  have hp := hg.1
  have hk := hf _ _ _ hp.2.2 hr
  unfold relExt at hr
  subst hr
  unfold castExt
  rw [Prod2.canonicalize_of_γ hp]
  apply γ_setN hg
  have hsrc := FEnv.get_sound hp.2.1 src
  have h1 : (FB V).γ a.prod.fst (s.setN dst (if s.bool src = true then 1 else 0)) := FEnv.γ_congr hp.2.1 rfl
  split
  · rename_i ht
    apply Prod2.onSecond_γ hp h1
    rw [BVal.eq_tt hsrc ht, if_pos rfl]
    exact N.assignK_sound _ dst 1 s hp.2.2
  · rename_i ht
    apply Prod2.onSecond_γ hp h1
    rw [BVal.eq_ff hsrc ht, if_neg Bool.false_ne_true]
    exact N.assignK_sound _ dst 0 s hp.2.2
  · exact Prod2.onSecond_γ hp h1 hk

/-! ### `operator+=` -/

/-- the loop of `+=` over the Boolean literals -/
theorem foldl_assume_sound {s : CSt V} (lits : List (V × Bool)) {p : Prod2 (FB V) N.toLDom} (hp : p.γ s)
    (hl : ∀ l ∈ lits, s.bool l.1 = !l.2) :
    (lits.foldl (fun p l => Prod2.onFirst (fun (e : FEnv V) => e.assumeBool l.1 l.2) p) p).γ s :=
  List.foldlRecOn lits _ (motive := (Prod2.γ · s)) hp fun _ hp l hm =>
    Prod2.onFirst_γ hp (FEnv.assumeBool_sound hp.2.1 l.1 l.2 (hl l hm)) hp.2.2

theorem addCsts_sound (isTrue allNonBool : Bool) {lits : List (V × Bool)} {f2 : N.B → N.B}
    {r : CSt V → CSt V → Prop} (hf2 : N.TSound f2 r) (hd : Filters r)
    (hl : ∀ s s', r s s' → ∀ l ∈ lits, s.bool l.1 = !l.2) (hg : γ a s)
    (hr : r s s') : γ (addCsts isTrue allNonBool lits f2 a) s' := by
  have e := hd s s' hr
  subst e
  unfold addCsts
  refine ite_ind (γ · _) (fun _ => hg) fun _ => ite_ind (γ · _) (fun _ => ?_) fun _ => ?_
  · exact ⟨Prod2.onSecond_γ hg.1 hg.1.2.1 (hf2 _ _ _ hg.1.2.2 hr), hg.2⟩
  · have hp1 := foldl_assume_sound lits hg.1 (hl _ _ hr)
    exact ⟨Prod2.onSecond_γ hp1 hp1.2.1 (hf2 _ _ _ hp1.2.2 hr), hg.2⟩

/-! ### `operator-=`, `forget(variables)`, `project(variables)` -/

theorem forget1_sound (isBool : V → Bool) {v : V}
    (hf2 : N.TSound f2 (relForget1 isBool v)) (hg : γ a s)
    (hr : relForget1 isBool v s s') : γ (forget1 isBool f2 v a) s' := by
  obtain ⟨hp, hu, hL, hB⟩ := γ_iff.1 hg
  have h2 := hf2 _ _ _ hp.2.2 hr
  unfold relForget1 at hr
  unfold forget1
  cases hv : isBool v with
  | true =>
    rw [hv, if_pos rfl] at hr
    obtain ⟨b, rfl⟩ := hr
    exact γ_setB hg v b (Prod2.op_γ .forget1 hp
      (FEnv.forget1_sound hp.2.1 v fun _ hk => CSt.setB_bool_of_ne s b hk) h2)
  | false =>
    rw [hv, if_neg Bool.false_ne_true] at hr
    obtain ⟨k, rfl⟩ := hr
    exact γ_iff.2 ⟨Prod2.op_γ .forget1 hp (FEnv.forget1_sound hp.2.1 v fun _ _ => rfl) h2,
      (DSet.isBot_remove _ _).trans hu, hL.imp (LinP.setN hu v k), (bools_forget hB v).imp And.right⟩

/-- the loop of `forget(variables)` component by component -/
theorem forgetMaps_eq (isBool : V → Bool) (vs : List V) (a : FBN N) : forgetMaps isBool vs a =
    ⟨a.prod, (vs.filter isBool).foldl SEnv.del a.lin, (vs.filter isBool).foldl SEnv.del a.bools,
      (vs.filter fun v => !isBool v).foldl DSet.remove a.unch⟩ := by
  induction vs generalizing a with
  | nil => rfl
  | cons v r ih =>
    unfold forgetMaps
    rw [ih]
    cases hv : isBool v <;> simp [hv]

theorem forget_sound (isBool : V → Bool) {vs : List V}
    (hf2 : N.TSound f2 (relForget isBool vs)) (hg : γ a s)
    (hr : relForget isBool vs s s') : γ (forget isBool f2 vs a) s' := by
  obtain ⟨hp, hu, hL, hB⟩ := γ_iff.1 hg
  -- a Boolean that is not forgotten keeps its value, so does such a numerical variable
  have hbool : ∀ k, k ∉ vs.filter isBool → s'.bool k = s.bool k := by
    intro k hk
    by_cases hkv : k ∈ vs
    · cases hb : isBool k
      · exact hr.2.2 k hb
      · exact absurd (List.mem_filter.2 ⟨hkv, hb⟩) hk
    · exact (hr.1 k hkv).2
  have hnum : ∀ k, k ∉ vs.filter (fun v => !isBool v) → s'.num k = s.num k := by
    intro k hk
    by_cases hkv : k ∈ vs
    · cases hb : isBool k
      · exact absurd (List.mem_filter.2 ⟨hkv, by rw [hb]; rfl⟩) hk
      · exact hr.2.1 k hb
    · exact (hr.1 k hkv).1
  unfold forget
  simp only [isBottom_false_of_γ hg, Bool.false_eq_true, if_false, forgetMaps_eq]
  refine γ_iff.2 ⟨Prod2.op_γ .forget hp (FEnv.forget_sound hp.2.1 vs fun k hk => (hr.1 k hk).2)
    (hf2 _ _ _ hp.2.2 hr), (DSet.isBot_foldl_remove _ _).trans hu, ?_, ?_⟩
  · exact (hL.foldl_del _).imp fun ⟨hk, hP⟩ => hP.transfer (hbool _ hk) fun v hv =>
      ⟨((DSet.mem_foldl_remove _ _ hu v).1 hv).2, hnum v ((DSet.mem_foldl_remove _ _ hu v).1 hv).1⟩
  · -- a member that is left was recorded before and is not forgotten
    refine ((hB.foldl_del _).filterIf _ _ (by simp) fun l hl y hy => by
      simpa [List.contains_iff_mem] using fun hv : y ∈ vs => absurd (List.any_eq_true.2 ⟨y, hv,
        List.contains_iff_mem.2 hy⟩) (Bool.eq_false_iff.1 hl)).imp fun {k k'} ⟨hq, hk, hP⟩ hs => ?_
    have hk' : k' ∉ vs := by simpa [List.contains_iff_mem] using hq
    rw [(hr.1 k' hk').2]; exact hP (hbool k hk ▸ hs)

theorem project_sound {vs : List V} (hf2 : N.TSound f2 (relProject vs)) 
    (hg : γ a s) (hr : relProject vs s s') : γ (project f2 vs a) s' := by
  unfold project
  rw [isBottom_false_of_γ hg, if_neg Bool.false_ne_true]
  refine ite_ind (γ · _) (fun _ => γ_top s') fun _ => ?_
  exact γ_iff.2 ⟨Prod2.op_γ .project hg.1 (FEnv.project_sound hg.1.2.1 vs (fun k hk => (hr k hk).2))
    (hf2 _ _ _ hg.1.2.2 hr), rfl, SEnv.holds_top, SEnv.holds_top⟩

/-! ### `expand(x, new_x)`, `rename({x}, {y})` -/

/-- `expand(x, new_x)`: for a Boolean `x` the target must not occur in `m_bool_to_bools` (the
    code leaves that map alone); for a numerical `x` nothing is asked of the maps, but `x` must
    have no value in the flat Boolean environment (typing) -/
theorem expand_sound (isBool : V → Bool) {x nx : V}
    (hf2 : N.TSound f2 (relExpand isBool x nx)) (hg : γ a s)
    (hfresh : isBool x = true → BoolFresh nx a.bools)
    (hty : isBool x = false → a.prod.fst.get x = .top)
    (hr : relExpand isBool x nx s s') : γ (expand isBool f2 x nx a) s' := by
  obtain ⟨hp, hu, hL, hB⟩ := γ_iff.1 hg
  have h2 := hf2 _ _ _ hp.2.2 hr
  unfold expand
  rw [isBottom_false_of_γ hg, if_neg Bool.false_ne_true]
  unfold relExpand at hr
  cases hx : isBool x with
  | true =>
    rw [hx, if_pos rfl] at hr
    subst hr
    refine γ_iff.2 ⟨Prod2.op_γ .expand hp (FEnv.expand_sound_bool hp.2.1 x nx) h2, hu,
      lin_setB_set hL nx _ (SEnv.look_isBot hL.ne x) (hL.all x), hB.ne, fun k k' hk => ?_⟩
    obtain ⟨h1, h2⟩ := hfresh hx k k' hk
    exact (hB.all k k' hk).setB h1 h2 _
  | false =>
    rw [hx, if_neg Bool.false_ne_true] at hr
    subst hr
    exact γ_setN hg nx _ (Prod2.op_γ .expand hp (FEnv.expand_sound_num hp.2.1 x nx rfl (hty hx)) h2)

theorem mem_renameMember {x y j' : V} {l : List V}
    (hm : j' ∈ if l.contains x then
      (if (l.filter (· ≠ x)).contains y then l.filter (· ≠ x) else y :: l.filter (· ≠ x)) else l) :
    ∃ j0', j0' ∈ l ∧ ((j0' ≠ x ∧ j' = j0') ∨ (j0' = x ∧ j' = y)) := by
  split at hm
  · rename_i hcx
    split at hm
    · rw [List.mem_filter, decide_eq_true_eq] at hm
      exact ⟨j', hm.1, Or.inl ⟨hm.2, rfl⟩⟩
    · rw [List.mem_cons, List.mem_filter, decide_eq_true_eq] at hm
      rcases hm with hm | hm
      · exact ⟨x, List.contains_iff_mem.1 hcx, Or.inr ⟨rfl, hm⟩⟩
      · exact ⟨j', hm.1, Or.inl ⟨hm.2, rfl⟩⟩
  · rename_i hcx
    exact ⟨j', hm, Or.inl ⟨fun e => hcx (List.contains_iff_mem.2 (e ▸ hm)), rfl⟩⟩

theorem rename1_sound (isBool : V → Bool) {x y : V} (hxy : x ≠ y)
    (hty : isBool y = isBool x) (hf2 : N.TSound f2 (relRename1 isBool x y))
    (hg : γ a s) (hfresh : Fresh isBool y a) (htx : isBool x = false → a.prod.fst.get x = .top)
    (hr : relRename1 isBool x y s s') : γ (rename isBool f2 [x] [y] a) s' := by
  obtain ⟨hp, hu, hL, hB⟩ := γ_iff.1 hg
  have h2 := hf2 _ _ _ hp.2.2 hr
  unfold rename
  rw [isBottom_false_of_γ hg, if_neg Bool.false_ne_true]
  unfold relRename1 at hr
  unfold Fresh at hfresh
  cases hx : isBool x with
  | false =>
    rw [hx, if_neg Bool.false_ne_true] at hr
    rw [hty, hx, if_neg Bool.false_ne_true] at hfresh
    obtain ⟨k, rfl⟩ := hr
    simp only [hx, hty, List.filter_cons, List.filter_nil, Bool.not_false, Bool.false_eq_true, if_true, if_false,
      List.foldl_cons, List.foldl_nil, SEnv.rename_nil, renameMembers]
    -- `x` is marked changed and `y` was not marked
    refine γ_iff.2 ⟨Prod2.op_γ .rename hp (FEnv.rename1_sound_num hp.2.1 x y hxy (htx hx) rfl) h2,
      (DSet.isBot_remove _ _).trans hu, hL.imp fun hP => hP.transfer rfl fun v hv => ?_, hB⟩
    have h1 := (DSet.mem_remove _ hu x v).1 hv
    have hvy : v ≠ y := by rintro rfl; rw [hfresh] at h1; exact absurd h1.2 Bool.false_ne_true
    exact ⟨h1.2, by simp [CSt.setN, h1.1, hvy]⟩
  | true =>
    rw [hx, if_pos rfl] at hr
    rw [hty, hx, if_pos rfl] at hfresh
    obtain ⟨b, rfl⟩ := hr
    obtain ⟨fy1, fy2, fy3⟩ := hfresh
    simp only [hx, hty, List.filter_cons, List.filter_nil, Bool.not_true, Bool.false_eq_true, if_true, if_false,
      List.foldl_nil, renameMembers]
    have hbool := fun j => CSt.setB_setB_bool_of_ne s (x := x) (y := y) (j := j) (s.bool x) b
    have hboolY := CSt.setB_setB_bool_fst s (s.bool x) b hxy
    -- nothing is recorded for `y` in `m_bool_to_bools`, and `y` is recorded for nothing
    have fy3' : ∀ c, (a.bools.look y).mem c = false := fun c => by
      cases h : (a.bools.look y).mem c
      · rfl
      · exact absurd rfl (fy3 y c h).1
    have hB' : a.bools.Holds fun k k' => k' ≠ y ∧ BoolP s k k' :=
      ⟨hB.ne, fun k k' hk => ⟨(fy3 k k' hk).2, hB.all k k' hk⟩⟩
    refine γ_iff.2 ⟨Prod2.op_γ .rename hp (FEnv.rename1_sound_bool hp.2.1 x y hxy fy1 b) h2, hu, ?_, ?_⟩
    · exact (hL.rename1 hxy fy2).imp fun hk => hk.elim
        (fun ⟨h1, h2, hP⟩ => hP.transfer (hbool _ h1 h2) fun _ hv => ⟨hv, rfl⟩)
        fun ⟨h1, hP⟩ => hP.transfer (h1 ▸ hboolY) fun _ hv => ⟨hv, rfl⟩
    · -- `m_bool_to_bools`: keys, then members; `j0`, `j0'` are the key and the member of the old entry
      refine ((hB'.rename1 hxy fy3').transformIf _ _ (by simp) fun _ _ => mem_renameMember).imp
        fun {j j'} ⟨j0', hmem, hkey⟩ hs => ?_
      obtain ⟨j0, hj, hy0, hP⟩ :
          ∃ j0, ((s.setB y (s.bool x)).setB x b).bool j = s.bool j0 ∧ j0' ≠ y ∧ BoolP s j0 j0' := by
        rcases hkey with ⟨h1, h2, h3⟩ | ⟨rfl, h3⟩
        · exact ⟨j, hbool j h1 h2, h3⟩
        · exact ⟨x, hboolY, h3⟩
      have hold := hP (hj ▸ hs)
      rcases hmem with ⟨h1, rfl⟩ | ⟨rfl, rfl⟩
      · rw [hbool _ h1 hy0]; exact hold
      · rw [hboolY]; exact hold

end FBN

end Fct
end Dom
end Crab
