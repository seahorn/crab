import CrabProofs.Lemmas.XDomLin
import CrabProofs.Lemmas.IDomSolver
import CrabProofs.Lemmas.LinCst
import CrabProofs.Props.C08Cst
import CrabModel.Dom.ConstantDomain

/-!
  `constant_domain` (model `Crab.CDom`): the value lattice satisfies `XDom.Laws`, and every
  operation of the class is sound for `γ` (integer valuations).
-/
namespace Crab
namespace CDom
open XDom Lin

/-- `constant<z_number>` has no representation invariant -/
instance : GoodVal Crab.Cst := ⟨fun _ => True⟩

theorem stored_iff (v : Crab.Cst) : Stored cstLattice v ↔ ∃ n, v = .val n := by
  cases v <;> simp [Stored, cstLattice, Crab.Cst.isBottom, Crab.Cst.isTop, GoodVal.good]

/-- `operator||` is the join -/
theorem upperLaws : UpperLaws cstLattice Crab.Cst.mem Crab.Cst.join where
  upper := fun x y k h => C08.cst_join_upper x y k h
  idem := fun x h => by
    obtain ⟨n, rfl⟩ := (stored_iff x).mp h
    simp [Crab.Cst.join, Crab.Cst.isBottom, Crab.Cst.isTop]
  good := fun _ _ _ _ => trivial
  nonbot := fun x y hx hy => by
    obtain ⟨n, rfl⟩ := (stored_iff x).mp hx
    obtain ⟨m, rfl⟩ := (stored_iff y).mp hy
    by_cases hnm : n = m <;> simp [cstLattice, Crab.Cst.join, Crab.Cst.isBottom, Crab.Cst.isTop, hnm]

/-- `operator&&` is the meet -/
theorem lowerLaws : LowerLaws cstLattice Crab.Cst.mem Crab.Cst.meet where
  sound := fun x y k h1 h2 => (C08.cst_meet_exact x y k).mpr ⟨h1, h2⟩
  idem := fun x h => by
    obtain ⟨n, rfl⟩ := (stored_iff x).mp h
    simp [Crab.Cst.meet, Crab.Cst.isBottom, Crab.Cst.isTop]
  good := fun _ _ _ _ => trivial
  nontop := fun x y hx hy _ => by
    obtain ⟨n, rfl⟩ := (stored_iff x).mp hx
    obtain ⟨m, rfl⟩ := (stored_iff y).mp hy
    by_cases hnm : n = m <;> simp [cstLattice, Crab.Cst.meet, Crab.Cst.isBottom, Crab.Cst.isTop, hnm]

theorem cstLaws : Laws cstLattice Crab.Cst.mem where
  isTop_top := rfl
  isBottom_top := rfl
  isBottom_bottom := rfl
  good_top := trivial
  good_bottom := trivial
  mem_top := fun _ => trivial
  not_mem_bottom := fun v k h => by cases v <;> simp_all [cstLattice, Crab.Cst.isBottom, Crab.Cst.mem]
  beq_sound := fun x y h => by simpa [cstLattice, Crab.Cst.beq] using h
  leq_refl := fun x _ => C08.cst_leq_refl x
  leq_sound := fun x y k h hk => C08.cst_leq_sound x y h k hk
  nonbot_mem := fun v h => by
    cases v with
    | bot => simp [cstLattice, Crab.Cst.isBottom] at h
    | top => exact ⟨0, trivial⟩
    | val n => exact ⟨n, rfl⟩
  nontop_out := fun v h => by
    obtain ⟨n, rfl⟩ := (stored_iff v).mp h
    exact ⟨n + 1, by simp only [Crab.Cst.mem]; omega⟩
  join := upperLaws
  widen := upperLaws
  meet := lowerLaws
  narrow := lowerLaws

namespace Env

def Inv (e : Env) : Prop := XDom.Env.Inv cstLattice e
def γ (e : Env) (σ : State) : Prop := XDom.Env.γ cstLattice Crab.Cst.mem e σ

theorem get_mem {e : Env} {σ : State} (hg : e.γ σ) (x : Var) : Crab.Cst.mem (σ x) (e.get x) := hg.2 x

theorem set_inv {e : Env} (he : e.Inv) {x : Var} (hx : x < 2 ^ 64) (v : Crab.Cst) : (e.set x v).Inv :=
  XDom.Env.set_inv cstLaws he hx (v := v) trivial

theorem set_sound {e : Env} (he : e.Inv) {σ : State} (hg : e.γ σ) {x : Var} (hx : x < 2 ^ 64)
    {v : Crab.Cst} {n : Int} (hn : Crab.Cst.mem n v) : (e.set x v).γ (upd σ x n) :=
  XDom.Env.set_sound cstLaws he hg hx trivial hn

theorem set_sound_same {e : Env} (he : e.Inv) {σ : State} (hg : e.γ σ) {x : Var} (hx : x < 2 ^ 64)
    {v : Crab.Cst} (hn : Crab.Cst.mem (σ x) v) : (e.set x v).γ σ :=
  XDom.Env.set_sound_same cstLaws he hg hx trivial hn

theorem isTop_mem {c : Crab.Cst} (h : c.isTop = true) (k : Int) : Crab.Cst.mem k c := by
  cases c <;> simp_all [Crab.Cst.isTop, Crab.Cst.mem]

/-- `XDom.evalFold_sound` with the early exit on top of the loop of the class -/
theorem evalLoop_sound {e : Env} {σ : State} (hg : e.γ σ) : ∀ (ts : List (Var × Int)) (r : Crab.Cst) (acc : Int),
    Crab.Cst.mem acc r → Crab.Cst.mem (acc + Expr.evalTerms σ ts) (evalLoop e ts r) := by
  intro ts
  induction ts with
  | nil => intro r acc h; simpa [evalLoop, Expr.evalTerms] using h
  | cons p rest ih =>
    intro r acc h
    obtain ⟨v, c⟩ := p
    simp only [evalLoop]
    have h1 : Crab.Cst.mem (acc + c * σ v) (Crab.Cst.add r (Crab.Cst.mul (.val c) (e.get v))) :=
      C08.cst_add_sound _ _ _ _ h (C08.cst_mul_sound _ _ _ _ rfl (get_mem hg v))
    split
    · rename_i ht; exact isTop_mem ht _
    · have := ih _ _ h1
      simp only [Expr.evalTerms]
      have e1 : acc + (c * σ v + Expr.evalTerms σ rest) = acc + c * σ v + Expr.evalTerms σ rest := by omega
      rw [e1]; exact this

theorem eval_sound {e : Env} {σ : State} (hg : e.γ σ) (ex : Expr) : Crab.Cst.mem (ex.eval σ) (e.eval ex) := by
  have := evalLoop_sound hg ex.terms (.val ex.cst) ex.cst rfl
  unfold Expr.eval eval
  have e1 : Expr.evalTerms σ ex.terms + ex.cst = ex.cst + Expr.evalTerms σ ex.terms := by omega
  rw [e1]; exact this

/-- `XDom.residualFold_sound` with the early exit on top -/
theorem residualLoop_sound {e : Env} {σ : State} (hg : e.γ σ) (pivot : Var) :
    ∀ (ts : List (Var × Int)) (r : Crab.Cst) (acc : Int), Crab.Cst.mem acc r →
      Crab.Cst.mem (acc - IDom.restSum σ pivot ts) (residualLoop e pivot ts r) := by
  intro ts
  induction ts with
  | nil => intro r acc h; simpa [residualLoop, IDom.restSum] using h
  | cons p rest ih =>
    intro r acc h
    obtain ⟨v, c⟩ := p
    simp only [residualLoop, IDom.restSum]
    by_cases hv : v = pivot
    · simp only [hv, if_true]; exact ih r acc h
    · simp only [hv, if_false]
      have h1 : Crab.Cst.mem (acc - c * σ v) (Crab.Cst.sub r (Crab.Cst.mul (.val c) (e.get v))) :=
        C08.cst_sub_sound _ _ _ _ h (C08.cst_mul_sound _ _ _ _ rfl (get_mem hg v))
      split
      · rename_i ht; exact isTop_mem ht _
      · have := ih _ _ h1
        have e1 : acc - (c * σ v + IDom.restSum σ pivot rest) = acc - c * σ v - IDom.restSum σ pivot rest := by omega
        rw [e1]; exact this

end Env
end CDom
end Crab
