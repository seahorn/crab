import CrabProofs.Lemmas.XDomRename
import CrabProofs.Lemmas.IDomOps
import CrabProofs.Lemmas.LinSys

/-!
  Side conditions on the linear constraints handled by the non-relational domains: canonical
  expression (the invariant of the class `linear_expression`) whose variables have an index
  below `2^64` (`index_t = uint64_t`), and their preservation by the constraints the domains
  build themselves (`negate`, the two inequalities of `entails`, the bound of `zext`); then the
  exported constraints (`exportCsts`: sound, and without solution for bottom), and the two folds
  by which `sign_domain` and `congruence_domain` evaluate an expression and a residual.
-/
set_option linter.unusedSectionVars false

namespace Crab
namespace XDom
open Lin

def VarsLt (ex : Expr) : Prop := ∀ p ∈ ex.terms, p.1 < 2 ^ 64

/-- a constraint as the class `linear_constraint` builds it, over machine-indexed variables -/
def CstOk (c : Lin.Cst) : Prop := c.expr.Canonical ∧ VarsLt c.expr

theorem varsLt_const (n : Int) : VarsLt (Expr.const n) := by simp [VarsLt, Expr.const]

theorem varsLt_scale {ex : Expr} (h : VarsLt ex) (n : Int) : VarsLt (ex.scale n) := by
  unfold Expr.scale
  split
  · simp [VarsLt, Expr.zero]
  · intro p hp
    obtain ⟨_, c, hc⟩ := Expr.scaleTerms_sublist_keys n ex.terms p hp
    exact h (p.1, c) hc

theorem varsLt_neg {ex : Expr} (h : VarsLt ex) : VarsLt ex.neg := varsLt_scale h (-1)

theorem varsLt_subNum {ex : Expr} (h : VarsLt ex) (n : Int) : VarsLt (ex.subNum n) := h

theorem cstOk_negate {c : Lin.Cst} (h : CstOk c) : CstOk c.negate := by
  refine ⟨Lin.Cst.canonical_negate h.1, ?_⟩
  unfold Lin.Cst.negate Lin.Cst.negateWith
  split
  · exact varsLt_const 0
  · split
    · exact varsLt_const 0
    · cases hk : c.kind <;> simp only []
      · exact h.2
      · exact h.2
      · exact varsLt_neg (varsLt_subNum h.2 1)
      · exact varsLt_neg h.2

theorem cstOk_leq {c : Lin.Cst} (h : CstOk c) : CstOk ⟨c.expr, .leq⟩ := h

theorem cstOk_scale_leq {c : Lin.Cst} (h : CstOk c) (n : Int) : CstOk ⟨c.expr.scale n, .leq⟩ :=
  ⟨Expr.canonical_scale n h.1.1, varsLt_scale h.2 n⟩

theorem cstOk_var_subNum {x : Var} (hx : x < 2 ^ 64) (n : Int) (k : Kind) : CstOk ⟨(Expr.var x).subNum n, k⟩ := by
  refine ⟨Expr.canonical_subNum n (Expr.canonical_var x), ?_⟩
  intro p hp
  simp only [Expr.subNum, Expr.addNum, Expr.var, List.mem_cons, List.not_mem_nil, or_false] at hp
  subst hp; exact hx

theorem getVariable_spec {ex : Expr} {v : Var} (h : getVariable ex = some v) (σ : State) : ex.eval σ = σ v :=
  IDom.Env.getVariable_spec (ex := ex) h σ

/-- the two inequalities `entails` replaces an equality with -/
theorem mem_eq_split (c : Lin.Cst) :
    (⟨c.expr, .leq⟩ : Lin.Cst) ∈ Sys.addCst (Sys.addCst [] ⟨c.expr, .leq⟩) ⟨c.expr.scale (-1), .leq⟩ ∧
    (⟨c.expr.scale (-1), .leq⟩ : Lin.Cst) ∈ Sys.addCst (Sys.addCst [] ⟨c.expr, .leq⟩) ⟨c.expr.scale (-1), .leq⟩ := by
  constructor
  · rw [Sys.mem_addCst, Sys.mem_addCst]; left; right; rfl
  · rw [Sys.mem_addCst]; right; rfl

theorem sat_of_eq_split {c : Lin.Cst} {σ : State} (hk : c.kind = .eq)
    (h1 : (⟨c.expr, .leq⟩ : Lin.Cst).sat σ) (h2 : (⟨c.expr.scale (-1), .leq⟩ : Lin.Cst).sat σ) : c.sat σ := by
  simp only [Lin.Cst.sat, Expr.eval_scale] at h1 h2
  simp only [Lin.Cst.sat, hk]
  omega

theorem sat_single {c : Lin.Cst} {σ : State} (h : c.sat σ) : Sys.sat [c] σ :=
  List.forall_mem_singleton.mpr h

namespace Env
open Patricia Patricia.Tree

variable {V : Type} [GoodVal V] {L : Lattice V} {mem : Int → V → Prop}

theorem mem_insertSorted {p q : Var × V} : ∀ {l : List (Var × V)}, q ∈ insertSorted p l ↔ q = p ∨ q ∈ l := by
  intro l
  induction l with
  | nil => simp [insertSorted]
  | cons r rest ih =>
    simp only [insertSorted]
    split
    · simp
    · simp only [List.mem_cons, ih]
      constructor
      · rintro (h | h | h)
        · right; left; exact h
        · left; exact h
        · right; right; exact h
      · rintro (h | h | h)
        · right; left; exact h
        · left; exact h
        · right; right; exact h

theorem mem_foldr_insertSorted {q : Var × V} : ∀ {l : List (Var × V)}, q ∈ l.foldr insertSorted [] ↔ q ∈ l := by
  intro l
  induction l with
  | nil => simp
  | cons r rest ih => simp only [List.foldr_cons, mem_insertSorted, ih, List.mem_cons]

theorem mem_bindings {e : Env V} (he : Inv L e) (ne : e.isBot = false) {k : Var} {v : V} :
    (k, v) ∈ bindings e ↔ e.tree.lookup k = some v := by
  unfold bindings
  simp only [ne, Bool.false_eq_true, if_false]
  rw [mem_foldr_insertSorted]
  exact mem_toList_iff_lookup he.1

theorem mem_export_fold (f : Var × V → Option Lin.Cst) : ∀ (l : List (Var × V)) (init : Sys) (c : Lin.Cst),
    c ∈ l.foldl (fun s p => match f p with | some c => Sys.addCst s c | none => s) init →
    c ∈ init ∨ ∃ p ∈ l, f p = some c := by
  intro l
  induction l with
  | nil => intro init c h; exact Or.inl h
  | cons q rest ih =>
    intro init c h
    simp only [List.foldl_cons] at h
    rcases ih _ c h with h1 | ⟨p, hp, hfp⟩
    · cases hq : f q with
      | none => rw [hq] at h1; exact Or.inl h1
      | some c' =>
        rw [hq] at h1
        rcases Sys.mem_addCst.mp h1 with h2 | h2
        · exact Or.inl h2
        · exact Or.inr ⟨q, List.mem_cons_self, by rw [hq, h2]⟩
    · exact Or.inr ⟨p, List.mem_cons_of_mem _ hp, hfp⟩

theorem exportCsts_sound (f : Var × V → Option Lin.Cst)
    (hf : ∀ k v c, f (k, v) = some c → ∀ σ : State, mem (σ k) v → c.sat σ)
    {e : Env V} (he : Inv L e) {σ : State} (hg : γ L mem e σ) : Sys.sat (exportCsts f e) σ := by
  unfold exportCsts
  simp only [hg.1, Bool.false_eq_true, if_false]
  intro c hc
  rcases mem_export_fold f _ _ c hc with h | ⟨p, hp, hfp⟩
  · simp at h
  · obtain ⟨k, v⟩ := p
    have hl := (mem_bindings he hg.1).mp hp
    have hm := hg.2 k
    rw [get_eq, hg.1, hl] at hm
    exact hf k v c hfp σ hm

theorem exportCsts_bot (f : Var × V → Option Lin.Cst) {e : Env V} (h : e.isBot = true) (σ : State) :
    ¬ Sys.sat (exportCsts f e) σ := by
  unfold exportCsts
  simp only [h, if_true]
  intro hs
  have : Lin.Cst.getFalse ∈ Sys.addCst [] Lin.Cst.getFalse := by rw [Sys.mem_addCst]; right; rfl
  exact Lin.Cst.not_sat_getFalse σ (hs _ this)

end Env

/-! ### evaluation of an expression, and of a residual, by a fold over the terms
    (`sign_domain::eval_expr` / `compute_residual`, `congruence_domain::to_congruence` / `compute_residual`) -/
section folds
variable {V : Type} {mem : Int → V → Prop} {op mul : V → V → V} {ofInt : Int → V} {get : Var → V} {σ : State}

theorem evalFold_sound (hop : ∀ {x y : V} {a b : Int}, mem a x → mem b y → mem (a + b) (op x y))
    (hmul : ∀ (k : Int) (v : Var), mem (k * σ v) (mul (ofInt k) (get v))) :
    ∀ (ts : List (Var × Int)) (r : V) (acc : Int), mem acc r →
      mem (acc + Expr.evalTerms σ ts) (ts.foldl (fun r p => op r (mul (ofInt p.2) (get p.1))) r)
  | [], r, acc, h => by simpa [Expr.evalTerms] using h
  | (v, c) :: rest, r, acc, h => by
    have := evalFold_sound hop hmul rest _ _ (hop h (hmul c v))
    simp only [List.foldl_cons, Expr.evalTerms]
    rwa [Int.add_assoc] at this

theorem residualFold_sound (hop : ∀ {x y : V} {a b : Int}, mem a x → mem b y → mem (a - b) (op x y))
    (hmul : ∀ (k : Int) (v : Var), mem (k * σ v) (mul (ofInt k) (get v))) (pivot : Var) :
    ∀ (ts : List (Var × Int)) (r : V) (acc : Int), mem acc r →
      mem (acc - IDom.restSum σ pivot ts)
        (ts.foldl (fun r p => if p.1 = pivot then r else op r (mul (ofInt p.2) (get p.1))) r)
  | [], r, acc, h => by simpa [IDom.restSum] using h
  | (v, c) :: rest, r, acc, h => by
    simp only [List.foldl_cons, IDom.restSum]
    by_cases hv : v = pivot
    · simp only [hv, if_true]; exact residualFold_sound hop hmul pivot rest r acc h
    · simp only [hv, if_false]
      have := residualFold_sound hop hmul pivot rest _ _ (hop h (hmul c v))
      rwa [Int.sub_sub] at this

end folds

theorem pivot_value {c : Lin.Cst} {σ : State} (hk : c.kind = .eq) (hsat : c.sat σ) (hs : c.expr.Sorted)
    {pivot : Var} {coef : Int} (hm : (pivot, coef) ∈ c.expr.terms) :
    c.constant - IDom.restSum σ pivot c.expr.terms = coef * σ pivot := by
  have h0 : c.expr.eval σ = 0 := by simpa [Lin.Cst.sat, hk] using hsat
  unfold Expr.eval at h0
  rw [IDom.evalTerms_split σ hs hm] at h0
  simp only [Lin.Cst.constant, Expr.constant]
  omega

end XDom
end Crab
