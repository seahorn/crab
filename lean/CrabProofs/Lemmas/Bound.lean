import CrabModel.Scalar.Interval

/-! `Crab.Bound` as an ordered set: order, min/max, unary minus and `+` (finite and infinite bounds).
    The lemmas on `*` are in `IntervalMul`, those on `/` in `IntervalDiv`. -/
namespace Crab
namespace Bound

@[simp] theorem le_fin_fin (a b : Int) : le (fin a) (fin b) = decide (a ≤ b) := rfl
@[simp] theorem le_ninf (b : Bound) : le ninf b = true := by cases b <;> rfl
@[simp] theorem le_pinf (b : Bound) : le b pinf = true := by cases b <;> rfl
@[simp] theorem le_fin_ninf (a : Int) : le (fin a) ninf = false := rfl
@[simp] theorem le_pinf_fin (a : Int) : le pinf (fin a) = false := rfl
@[simp] theorem le_pinf_ninf : le pinf ninf = false := rfl

theorem le_refl (a : Bound) : le a a = true := by cases a <;> simp

theorem le_trans {a b c : Bound} (h1 : le a b = true) (h2 : le b c = true) : le a c = true := by
  cases a <;> cases b <;> cases c <;> simp_all <;> omega

theorem le_total (a b : Bound) : le a b = true ∨ le b a = true := by
  cases a <;> cases b <;> simp <;> omega

theorem le_antisymm {a b : Bound} (h1 : le a b = true) (h2 : le b a = true) : a = b := by
  cases a <;> cases b <;> simp_all <;> omega

theorem not_le {a b : Bound} (h : le a b = false) : le b a = true := by
  cases a <;> cases b <;> simp_all <;> omega

theorem gt_iff (a b : Bound) : gt a b = true ↔ le a b = false := by simp [gt]
theorem lt_iff (a b : Bound) : lt a b = true ↔ le b a = false := by simp [lt, ge]

theorem le_of_not_lt {a b : Bound} (h : ¬ lt a b = true) : le b a = true := by
  simpa [lt, ge] using h

theorem le_of_not_gt {a b : Bound} (h : ¬ gt a b = true) : le a b = true := by
  simpa [gt] using h

theorem min_le_left (a b : Bound) : le (min a b) a = true := by
  unfold min; split
  · exact le_refl a
  · rename_i h; exact not_le (Bool.eq_false_iff.mpr h)

theorem min_le_right (a b : Bound) : le (min a b) b = true := by
  unfold min; split
  · assumption
  · exact le_refl b

theorem le_min {a b c : Bound} (h1 : le c a = true) (h2 : le c b = true) : le c (min a b) = true := by
  unfold min; split <;> assumption

theorem le_max_left (a b : Bound) : le a (max a b) = true := by
  unfold max; split
  · assumption
  · exact le_refl a

theorem le_max_right (a b : Bound) : le b (max a b) = true := by
  unfold max; split
  · exact le_refl b
  · rename_i h; exact not_le (Bool.eq_false_iff.mpr h)

theorem max_le {a b c : Bound} (h1 : le a c = true) (h2 : le b c = true) : le (max a b) c = true := by
  unfold max; split <;> assumption

theorem min_eq_or (a b : Bound) : min a b = a ∨ min a b = b := by unfold min; split <;> simp
theorem max_eq_or (a b : Bound) : max a b = a ∨ max a b = b := by unfold max; split <;> simp

theorem eq_ninf_of_isInfinite {a : Bound} (hi : a.isInfinite = true) (hp : a ≠ pinf) : a = ninf := by
  cases a <;> simp_all [isInfinite]

theorem eq_pinf_of_isInfinite {a : Bound} (hi : a.isInfinite = true) (hp : a ≠ ninf) : a = pinf := by
  cases a <;> simp_all [isInfinite]

theorem min_mono {a b c d : Bound} (h1 : le a c = true) (h2 : le b d = true) :
    le (min a b) (min c d) = true :=
  le_min (le_trans (min_le_left _ _) h1) (le_trans (min_le_right _ _) h2)

theorem max_mono {a b c d : Bound} (h1 : le a c = true) (h2 : le b d = true) :
    le (max a b) (max c d) = true :=
  max_le (le_trans h1 (le_max_left _ _)) (le_trans h2 (le_max_right _ _))

theorem minmax_of_between {p m q : Bound}
    (h : (le p m = true ∧ le m q = true) ∨ (le q m = true ∧ le m p = true)) :
    le (min p q) m = true ∧ le m (max p q) = true := by
  rcases h with h | h
  · exact ⟨le_trans (min_le_left _ _) h.1, le_trans h.2 (le_max_right _ _)⟩
  · exact ⟨le_trans (min_le_right _ _) h.1, le_trans h.2 (le_max_left _ _)⟩

theorem min4_le_minmin (a b c d : Bound) : le (min4 a b c d) (min (min a b) (min c d)) = true := by
  unfold min4
  refine le_min (le_min (min_le_left _ _) ?_) (le_min ?_ ?_)
  · exact le_trans (min_le_right _ _) (min_le_left _ _)
  · exact le_trans (min_le_right _ _) (le_trans (min_le_right _ _) (min_le_left _ _))
  · exact le_trans (min_le_right _ _) (le_trans (min_le_right _ _) (min_le_right _ _))

theorem maxmax_le_max4 (a b c d : Bound) : le (max (max a b) (max c d)) (max4 a b c d) = true := by
  unfold max4
  refine max_le (max_le (le_max_left _ _) ?_) (max_le ?_ ?_)
  · exact le_trans (le_max_left _ _) (le_max_right _ _)
  · exact le_trans (le_trans (le_max_left _ _) (le_max_right _ _)) (le_max_right _ _)
  · exact le_trans (le_trans (le_max_right _ _) (le_max_right _ _)) (le_max_right _ _)

/-- the corner step of `*` and `/`: `m` lies between `p` and `q`, each of which lies between two corners -/
theorem corners {m p q pl pu ql qu : Bound}
    (hm : le (min p q) m = true ∧ le m (max p q) = true)
    (hp : le (min pl pu) p = true ∧ le p (max pl pu) = true)
    (hq : le (min ql qu) q = true ∧ le q (max ql qu) = true) :
    le (min4 pl pu ql qu) m = true ∧ le m (max4 pl pu ql qu) = true :=
  ⟨le_trans (min4_le_minmin _ _ _ _) (le_trans (min_mono hp.1 hq.1) hm.1),
   le_trans hm.2 (le_trans (max_mono hp.2 hq.2) (maxmax_le_max4 _ _ _ _))⟩

theorem exists_between {l u : Bound} (hl : l ≠ pinf) (hu : u ≠ ninf) (h : le l u = true) :
    ∃ k, le l (fin k) = true ∧ le (fin k) u = true := by
  cases l with
  | fin a => exact ⟨a, le_refl _, h⟩
  | pinf => exact absurd rfl hl
  | ninf =>
    cases u with
    | fin b => exact ⟨b, rfl, le_refl _⟩
    | ninf => exact absurd rfl hu
    | pinf => exact ⟨0, rfl, rfl⟩

theorem neg_neg (a : Bound) : neg (neg a) = a := by cases a <;> simp [neg]

theorem neg_le_fin (a : Bound) (k : Int) : le (neg a) (fin k) = le (fin (-k)) a := by
  cases a <;> simp [neg]; omega

theorem fin_le_neg (a : Bound) (k : Int) : le (fin k) (neg a) = le a (fin (-k)) := by
  cases a <;> simp [neg]; omega

theorem neg_le_neg (a b : Bound) : le (neg a) (neg b) = le b a := by
  cases a <;> cases b <;> simp [neg]

theorem neg_ne_pinf {a : Bound} (h : a ≠ ninf) : neg a ≠ pinf := by cases a <;> simp_all [neg]
theorem neg_ne_ninf {a : Bound} (h : a ≠ pinf) : neg a ≠ ninf := by cases a <;> simp_all [neg]

/-! ### `+`, through the reflection `b ↦ k - b` that turns a sum bound into an order statement -/

def rsub (k : Int) : Bound → Bound
  | fin v => fin (k - v)
  | pinf => ninf
  | ninf => pinf

theorem fin_le_rsub (k a : Int) (b : Bound) : le (fin a) (rsub k b) = le b (fin (k - a)) := by
  cases b <;> simp [rsub]; omega

theorem rsub_le_fin (k a : Int) (b : Bound) : le (rsub k b) (fin a) = le (fin (k - a)) b := by
  cases b <;> simp [rsub]; omega

theorem rsub_le_rsub (k : Int) (a b : Bound) : le (rsub k a) (rsub k b) = le b a := by
  cases a <;> cases b <;> simp [rsub]

theorem rsub_ne_pinf {k : Int} {b : Bound} (h : b ≠ ninf) : rsub k b ≠ pinf := by
  cases b <;> simp_all [rsub]
theorem rsub_ne_ninf {k : Int} {b : Bound} (h : b ≠ pinf) : rsub k b ≠ ninf := by
  cases b <;> simp_all [rsub]

/-- `a + b ≤ k ↔ a ≤ k - b`, also at the infinite bounds where the sum is defined -/
theorem add_le_fin {a b c : Bound} (h : add a b = some c) (k : Int) :
    le c (fin k) = le a (rsub k b) := by
  cases a <;> cases b <;> simp [add] at h <;> subst h <;> simp [rsub]; omega

theorem fin_le_add {a b c : Bound} (h : add a b = some c) (k : Int) :
    le (fin k) c = le (rsub k b) a := by
  cases a <;> cases b <;> simp [add] at h <;> subst h <;> simp [rsub]; omega

theorem add_of_ne_pinf {a b : Bound} (ha : a ≠ pinf) (hb : b ≠ pinf) :
    ∃ c, add a b = some c ∧ c ≠ pinf := by
  cases a <;> cases b <;> simp_all [add]

theorem add_of_ne_ninf {a b : Bound} (ha : a ≠ ninf) (hb : b ≠ ninf) :
    ∃ c, add a b = some c ∧ c ≠ ninf := by
  cases a <;> cases b <;> simp_all [add]

theorem min_self (a : Bound) : min a a = a := by unfold min; split <;> rfl
theorem max_self (a : Bound) : max a a = a := by unfold max; split <;> rfl
theorem lt_irrefl (a : Bound) : lt a a = false := by simp [lt, ge, le_refl]
theorem le_ninf_iff {a : Bound} : le a ninf = true ↔ a = ninf := by cases a <;> simp
theorem pinf_le_iff {a : Bound} : le pinf a = true ↔ a = pinf := by cases a <;> simp
theorem min_ninf_left (b : Bound) : min ninf b = ninf := by simp [min]
theorem max_ninf_left (b : Bound) : max ninf b = b := by simp [max]
theorem min_pinf_left (b : Bound) : min pinf b = b := by
  unfold min; split
  · rename_i h; exact (pinf_le_iff.mp h).symm
  · rfl
theorem max_pinf_left (b : Bound) : max pinf b = pinf := by
  unfold max; split
  · rename_i h; exact pinf_le_iff.mp h
  · rfl
theorem min_ninf_right (a : Bound) : min a ninf = ninf := by
  unfold min; split
  · rename_i h; exact le_ninf_iff.mp h
  · rfl
theorem max_ninf_right (a : Bound) : max a ninf = a := by
  unfold max; split
  · rename_i h; exact (le_ninf_iff.mp h).symm
  · rfl
theorem min_pinf_right (a : Bound) : min a pinf = a := by simp [min]
theorem max_pinf_right (a : Bound) : max a pinf = pinf := by simp [max]

end Bound
end Crab
