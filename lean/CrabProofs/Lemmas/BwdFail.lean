import CrabProofs.Lemmas.BwdSound
import CrabProofs.Lemmas.Chain

/-!
  `compute_fail_without_exit` (constructor of `necessary_preconditions_fixpoint_iterator`): the
  round-based model `reachF` run for |blocks| rounds is exactly graph reachability, hence
  * `reachExitF p n = true ↔ ReachesExit p n`   (first worklist pass, `reach_exit`);
  * `mayFailB p n = true ↔ ¬ ReachesExit p n ∧ CanFail p n`   (second pass,
    `m_fail_without_exit`: blocks that cannot reach the exit but can reach an assertion).
  At the end: `reachSet` (the list-based closure the driver `Driver/BwdH.lean` runs) is sound for
  reachability, hence `reachesExitB` and the decidable hypothesis `assertsReachExitB`.
-/
namespace Crab
namespace Bwd

/-- a block satisfying `goal` is reachable along edges -/
inductive Reaches (p : Prog) (goal : Nat → Bool) : Nat → Prop
  | here (n : Nat) : goal n = true → Reaches p goal n
  | edge (n m : Nat) : m ∈ (p.block n).succs → Reaches p goal m → Reaches p goal n

/-- a block containing an assertion is reachable along edges -/
inductive CanFail (p : Prog) : Nat → Prop
  | here (n : Nat) : (∃ s ∈ (p.block n).stmts, s.isAssert = true) → CanFail p n
  | edge (n m : Nat) : m ∈ (p.block n).succs → CanFail p m → CanFail p n

variable (p : Prog) (g : Nat → Bool)

theorem reachF_succ (k i : Nat) : reachF p g (k + 1) i = true ↔
    reachF p g k i = true ∨ ∃ m ∈ (p.block i).succs, reachF p g k m = true := by
  simp only [reachF, Bool.or_eq_true, List.any_eq_true]

theorem reachF_sound : ∀ (k i : Nat), reachF p g k i = true → Reaches p g i := by
  intro k
  induction k with
  | zero => intro i h; exact Reaches.here i h
  | succ k ih =>
    intro i h
    rcases (reachF_succ p g k i).1 h with h | ⟨m, hm, h⟩
    · exact ih i h
    · exact Reaches.edge i m hm (ih m h)

theorem reachF_mono (k i : Nat) (h : reachF p g k i = true) : reachF p g (k + 1) i = true :=
  (reachF_succ p g k i).2 (Or.inl h)

/-- outside the program: the default block, without statements and successors -/
theorem Prog.block_outside {i : Nat} (hi : p.blocks.length ≤ i) : p.block i = ⟨[], []⟩ := by
  unfold Prog.block
  rw [List.getD_eq_getElem?_getD, List.getElem?_eq_none hi]
  rfl

theorem reachF_outside (k i : Nat) (hi : p.blocks.length ≤ i) :
    reachF p g (k + 1) i = reachF p g k i := by
  simp [reachF, Prog.block_outside p hi]

theorem reaches_reachF (i : Nat) (h : Reaches p g i) : ∃ k, reachF p g k i = true := by
  induction h with
  | here n hn => exact ⟨0, hn⟩
  | edge n m hm _ ih =>
    obtain ⟨k, hk⟩ := ih
    exact ⟨k + 1, (reachF_succ p g k n).2 (Or.inr ⟨m, hm, hk⟩)⟩

/-- new marks fall on blocks of the program, and a round that marks nothing new is followed by
    one that marks nothing new: `|blocks|` rounds mark all that any round marks -/
theorem reachF_complete (i : Nat) (h : Reaches p g i) : reachF p g p.blocks.length i = true := by
  obtain ⟨k, hk⟩ := reaches_reachF p g i h
  have := rounds_saturate (fun k i => reachF p g k i = true) (List.range p.blocks.length)
    (reachF_mono p g)
    (fun k i h1 h0 => List.mem_range.2 (Nat.lt_of_not_le fun hi => h0 (reachF_outside p g k i hi ▸ h1)))
    (fun k hs i h => ((reachF_succ p g (k + 1) i).1 h).elim id
      fun ⟨m, hm, h⟩ => (reachF_succ p g k i).2 (Or.inr ⟨m, hm, hs m h⟩)) hk
  rwa [List.length_range] at this

theorem reachF_iff (i : Nat) : reachF p g p.blocks.length i = true ↔ Reaches p g i :=
  ⟨reachF_sound p g _ i, reachF_complete p g i⟩

theorem reaches_exit_iff (i : Nat) : Reaches p (fun j => j == p.exit) i ↔ ReachesExit p i := by
  constructor
  · intro h
    induction h with
    | here n hn =>
      have : n = p.exit := by simpa using hn
      rw [this]; exact ReachesExit.here
    | edge n m hm _ ih => exact ReachesExit.edge n m hm ih
  · intro h
    induction h with
    | here => exact Reaches.here _ (by simp)
    | edge n m hm _ ih => exact Reaches.edge n m hm ih

/-- first pass: `reach_exit` is exactly the set of blocks from which the exit is reachable -/
theorem reachExitF_iff (i : Nat) : reachExitF p i = true ↔ ReachesExit p i := by
  unfold reachExitF
  rw [reachF_iff, reaches_exit_iff]

theorem reachExitF_false_iff (i : Nat) : reachExitF p i = false ↔ ¬ ReachesExit p i := by
  rw [← reachExitF_iff]; cases reachExitF p i <;> simp

/-- a block that cannot reach the exit and reaches an assertion reaches a seed of the second
    pass (every block on the way is outside `reach_exit` as well) -/
theorem reaches_seed (n : Nat) (h : CanFail p n) (hn : ¬ ReachesExit p n) :
    Reaches p (fun i => !reachExitF p i && (p.block i).stmts.any Stmt.isAssert) n := by
  induction h with
  | here n hs =>
    refine Reaches.here n ?_
    obtain ⟨s, hs, ha⟩ := hs
    have h1 : reachExitF p n = false := (reachExitF_false_iff p n).2 hn
    have h2 : (p.block n).stmts.any Stmt.isAssert = true := List.any_eq_true.2 ⟨s, hs, ha⟩
    simp [h1, h2]
  | edge n m hm _ ih =>
    exact Reaches.edge n m hm (ih (fun h => hn (ReachesExit.edge n m hm h)))

theorem canFail_of_reaches_seed (n : Nat)
    (h : Reaches p (fun i => !reachExitF p i && (p.block i).stmts.any Stmt.isAssert) n) :
    CanFail p n := by
  induction h with
  | here n hn =>
    simp only [Bool.and_eq_true, List.any_eq_true] at hn
    exact CanFail.here n hn.2
  | edge n m hm _ ih => exact CanFail.edge n m hm ih

/-- second pass: `m_fail_without_exit` is exactly the set of blocks that cannot reach the exit
    block but can reach an assertion -/
theorem mayFailB_iff (n : Nat) : mayFailB p n = true ↔ ¬ ReachesExit p n ∧ CanFail p n := by
  unfold mayFailB
  rw [Bool.and_eq_true, reachF_iff, Bool.not_eq_true', reachExitF_false_iff]
  constructor
  · rintro ⟨h1, h2⟩; exact ⟨h1, canFail_of_reaches_seed p n h2⟩
  · rintro ⟨h1, h2⟩; exact ⟨h1, reaches_seed p n h2 h1⟩

/-! ### the list-based closure `reachSet`

`reachesExitB` is sound for `ReachesExit`; hence the decidable hypothesis `assertsReachExitB`
("every block that contains an assertion can reach the exit block") under which the backward
analysis before commit 111ab80 accounted for every assertion. -/

theorem getD_map_range (n : Nat) (f : Nat → Bool) (i : Nat)
    (h : ((List.range n).map f).getD i false = true) : f i = true := by
  by_cases hi : i < n
  · simpa [List.getD_eq_getElem?_getD, List.getElem?_map, List.getElem?_range hi] using h
  · have : (List.range n)[i]? = none := by
      apply List.getElem?_eq_none; simp; omega
    simp [List.getD_eq_getElem?_getD, List.getElem?_map, this] at h

theorem reachSet_sound (p : Prog) (goal : Nat → Bool) (R : Nat → Prop)
    (hgoal : ∀ i, goal i = true → R i)
    (hedge : ∀ n m, m ∈ (p.block n).succs → R m → R n) (fuel : Nat) :
    ∀ i, (reachSet p goal fuel).getD i false = true → R i := by
  unfold reachSet
  induction fuel with
  | zero =>
    intro i h
    simp only [List.range_zero, List.foldl_nil] at h
    exact hgoal i (getD_map_range _ _ i h)
  | succ k ih =>
    intro i h
    rw [List.range_succ, List.foldl_append] at h
    simp only [List.foldl_cons, List.foldl_nil] at h
    have h' := getD_map_range _ _ i h
    simp only [Bool.or_eq_true, List.any_eq_true] at h'
    rcases h' with h' | ⟨m, hm, h'⟩
    · exact ih i h'
    · exact hedge i m hm (ih m h')

theorem reachesExitB_sound (p : Prog) (n : Nat) (h : reachesExitB p n = true) : ReachesExit p n := by
  unfold reachesExitB at h
  refine reachSet_sound p (fun i => i == p.exit) (ReachesExit p) ?_ ?_ _ n h
  · intro i hi
    have : i = p.exit := by simpa using hi
    subst this; exact ReachesExit.here
  · intro n m hm hr; exact ReachesExit.edge n m hm hr

/-- decidable form of "every block containing an assertion can reach the exit block" -/
def assertsReachExitB (p : Prog) : Bool :=
  (List.range p.blocks.length).all (fun n =>
    !((p.block n).stmts.any Stmt.isAssert) || reachesExitB p n)

theorem assertsReachExitB_sound (p : Prog) (h : assertsReachExitB p = true) :
    ∀ n, (∃ s ∈ (p.block n).stmts, s.isAssert = true) → ReachesExit p n := by
  intro n ⟨s, hs, ha⟩
  by_cases hn : n < p.blocks.length
  · unfold assertsReachExitB at h
    rw [List.all_eq_true] at h
    have hn' := h n (by simp [hn])
    simp only [Bool.or_eq_true, Bool.not_eq_true'] at hn'
    rcases hn' with hno | hr
    · have : (p.block n).stmts.any Stmt.isAssert = true := List.any_eq_true.2 ⟨s, hs, ha⟩
      rw [this] at hno; cases hno
    · exact reachesExitB_sound p n hr
  · rw [Prog.block_outside p (by omega)] at hs
    cases hs

end Bwd
end Crab
