import CrabModel.Analysis.FwdBwd

/-!
  Dominators of the forward+backward model (`CrabModel/Analysis/FwdBwd.lean`): the reachability
  closure is checked closed, hence contains every node reachable without the removed node;
  `sdomB` implies dominance; immediate dominators and the edges of `idomTree` are strict
  dominators; dominance is transitive; `dominates` (descent in the tree) implies dominance.
  Everything holds for every graph and every round bound (`reachAvoid` answers `none`, and
  `sdomB` `false`, when the bound is hit).
-/
namespace Crab
namespace Analysis

theorem closedB_mem (succs : Nat → List Nat) (avoid : Option Nat) (S : List Nat)
    (h : closedB succs avoid S = true) (x y : Nat) (hx : x ∈ S) (hy : y ∈ succs x)
    (hne : avoid ≠ some y) : y ∈ S := by
  unfold closedB at h
  rw [List.all_eq_true] at h
  have h1 := h x hx
  rw [List.all_eq_true] at h1
  have h2 := h1 y hy
  simp only [Bool.or_eq_true, beq_iff_eq, List.contains_eq_mem, decide_eq_true_eq] at h2
  rcases h2 with h2 | h2
  · exact absurd h2 hne
  · exact h2

theorem mem_foldl_of_mem {α β : Type} {f : List α → β → List α} {x : α}
    (hf : ∀ acc y, x ∈ acc → x ∈ f acc y) : ∀ (ys : List β) (acc : List α), x ∈ acc → x ∈ ys.foldl f acc
  | [], _, h => h
  | y :: ys, acc, h => mem_foldl_of_mem hf ys _ (hf acc y h)

theorem reachRound_mono (succs : Nat → List Nat) (avoid : Option Nat) (S : List Nat) (x : Nat)
    (hx : x ∈ S) : x ∈ reachRound succs avoid S :=
  mem_foldl_of_mem (fun _ z h => mem_foldl_of_mem (fun acc y h => by
    split
    · exact h
    · exact List.mem_append_left _ h) (succs z) _ h) S S hx

theorem reachIter_mono (succs : Nat → List Nat) (avoid : Option Nat) (k : Nat) (S : List Nat) (x : Nat)
    (hx : x ∈ S) : x ∈ reachIter succs avoid k S := by
  induction k generalizing S with
  | zero => exact hx
  | succ k ih =>
    unfold reachIter
    simp only
    split
    · exact hx
    · exact ih _ (reachRound_mono succs avoid S x hx)

/-- the closure contains every node that a path avoiding the removed node leads to -/
theorem reachAvoid_sound (G : DGraph) (avoid : Option Nat) (S : List Nat)
    (h : reachAvoid G avoid = some S) (n : Nat) (l : List Nat) (hp : PathTo G n l)
    (hav : ∀ d, avoid = some d → d ∉ l) : n ∈ S := by
  unfold reachAvoid at h
  simp only at h
  by_cases hc : closedB G.succs avoid
      (reachIter G.succs avoid G.fuel (if avoid == some G.entry then [] else [G.entry])) = true
  · rw [if_pos hc] at h
    injection h with hS
    rw [← hS]
    induction hp with
    | entry =>
      -- the start set contains the entry unless it is the removed node; the rounds only add
      have hne : avoid ≠ some G.entry := fun he => hav G.entry he (by simp)
      have hstart : G.entry ∈ (if avoid == some G.entry then [] else [G.entry]) := by
        have : (avoid == some G.entry) = false := by
          cases hb : (avoid == some G.entry) with
          | false => rfl
          | true => exact absurd (by simpa using hb) hne
        simp [this]
      exact reachIter_mono G.succs avoid G.fuel _ _ hstart
    | step b m l' _ hm ih =>
      have hb : b ∈ reachIter G.succs avoid G.fuel (if avoid == some G.entry then [] else [G.entry]) :=
        ih (fun d hd hmem => hav d hd (List.mem_cons_of_mem _ hmem))
      exact closedB_mem G.succs avoid _ hc b m hb hm (fun he => hav m he (by simp))
  · rw [if_neg hc] at h
    cases h

/-- `sdomB` is sound: no path from the entry reaches `n` without passing through `d` -/
theorem sdomB_sound (G : DGraph) (d n : Nat) (h : sdomB G d n = true) : Dominates G d n := by
  unfold sdomB at h
  simp only [Bool.and_eq_true] at h
  obtain ⟨_, h2⟩ := h
  intro l hp
  cases hr : reachAvoid G (some d) with
  | none => rw [hr] at h2; cases h2
  | some S =>
    rw [hr] at h2
    simp only [List.contains_eq_mem, Bool.not_eq_true', decide_eq_false_iff_not] at h2
    by_cases hd : d ∈ l
    · exact hd
    · exfalso
      apply h2
      exact reachAvoid_sound G (some d) S hr n l hp (fun d' hd' => by injection hd' with e; rw [← e]; exact hd)

theorem sdomB_ne (G : DGraph) (d n : Nat) (h : sdomB G d n = true) : n ≠ d := by
  unfold sdomB at h
  simp only [Bool.and_eq_true, bne_iff_ne] at h
  exact h.1

theorem pathTo_prefix (G : DGraph) (v : Nat) (l : List Nat) (hp : PathTo G v l) (w : Nat) (hw : w ∈ l) :
    ∃ l', PathTo G w l' ∧ ∀ x, x ∈ l' → x ∈ l := by
  induction hp with
  | entry =>
    simp only [List.mem_singleton] at hw
    subst hw
    exact ⟨[G.entry], PathTo.entry, fun x hx => hx⟩
  | step b m l' hp' hm ih =>
    simp only [List.mem_cons] at hw
    rcases hw with hw | hw
    · subst hw
      exact ⟨w :: l', PathTo.step b w l' hp' hm, fun x hx => hx⟩
    · obtain ⟨l2, h2, hsub⟩ := ih hw
      exact ⟨l2, h2, fun x hx => List.mem_cons_of_mem _ (hsub x hx)⟩

theorem pathTo_head (G : DGraph) (v : Nat) (l : List Nat) (hp : PathTo G v l) : v ∈ l := by
  cases hp <;> simp

theorem pathTo_entry_mem (G : DGraph) (v : Nat) (l : List Nat) (hp : PathTo G v l) : G.entry ∈ l := by
  induction hp with
  | entry => simp
  | step b m l' _ _ ih => exact List.mem_cons_of_mem _ ih

theorem dominates_refl (G : DGraph) (v : Nat) : Dominates G v v := fun l hp => pathTo_head G v l hp

theorem dominates_entry (G : DGraph) (v : Nat) : Dominates G G.entry v :=
  fun l hp => pathTo_entry_mem G v l hp

theorem dominates_trans (G : DGraph) (d w v : Nat) (h1 : Dominates G d w) (h2 : Dominates G w v) :
    Dominates G d v := by
  intro l hp
  obtain ⟨l', hp', hsub⟩ := pathTo_prefix G v l hp w (h2 l hp)
  exact hsub d (h1 l' hp')

theorem idomOf_sdom (G : DGraph) (R : List Nat) (n d : Nat) (h : idomOf G R n = some d) :
    sdomB G d n = true := by
  unfold idomOf at h
  have hm := List.mem_of_find?_eq_some h
  rw [List.mem_filter] at hm
  exact hm.2

/-- an edge of the tree: the parent is the immediate dominator of the child -/
theorem idomTree_edge (G : DGraph) (u : Nat) (cs : List Nat) (v : Nat)
    (h : (u, cs) ∈ idomTree G) (hv : v ∈ cs) : sdomB G u v = true := by
  unfold idomTree at h
  split at h
  · cases h
  · rename_i R _
    rw [List.mem_filter, List.mem_map] at h
    obtain ⟨⟨u', _, he⟩, _⟩ := h
    injection he with h1 h2
    subst h1
    rw [← h2, List.mem_filter] at hv
    have := hv.2
    simp only [beq_iff_eq] at this
    exact idomOf_sdom G R v u' this

theorem lookup_mem {α : Type} (l : List (Nat × α)) (k : Nat) (v : α) (h : l.lookup k = some v) :
    (k, v) ∈ l := by
  obtain ⟨l₁, l₂, rfl, _⟩ := List.lookup_eq_some_iff.1 h
  exact List.mem_append_right _ List.mem_cons_self

/-- `dominates` on the tree computed by the model is sound (and strict), for every graph -/
theorem dominates_sound (G : DGraph) : ∀ (fuel u v : Nat), dominates (idomTree G) fuel u v = true →
    Dominates G u v := by
  intro fuel
  induction fuel with
  | zero => intro u v h; simp [dominates] at h
  | succ fuel ih =>
    intro u v h
    unfold dominates at h
    split at h
    · cases h
    · rename_i cs hl
      have hmem := lookup_mem _ _ _ hl
      simp only [Bool.or_eq_true, List.contains_eq_mem, decide_eq_true_eq, List.any_eq_true] at h
      rcases h with h | ⟨w, hw, hd⟩
      · exact sdomB_sound G u v (idomTree_edge G u cs v hmem h)
      · exact dominates_trans G u w v (sdomB_sound G u w (idomTree_edge G u cs w hmem hw)) (ih w v hd)

end Analysis
end Crab
