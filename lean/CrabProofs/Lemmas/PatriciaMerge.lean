import CrabProofs.Lemmas.PatriciaInsert

/-! `tree::merge` is the pointwise combination of the bindings, in both
    `default_is_absorbing` modes and both combination directions. -/
namespace Crab
namespace Patricia
open Tree

variable {V : Type} {P : V → Prop}

/-- pointwise effect of `merge` on "binding or default"; outer `none` = bottom is raised.
    A key bound on one side only keeps its value when the default is neutral and loses it
    when the default is absorbing (`apply` is not called). -/
def pw (op : BinOp V) (l2r : Bool) (k : Nat) : Option V → Option V → Option (Option V)
  | some x, some y =>
    match app op l2r k x y with
    | .bottom => none
    | .dflt => some none
    | .val z => some (some z)
  | some x, none => some (if op.absorbing then none else some x)
  | none, some y => some (if op.absorbing then none else some y)
  | none, none => some none

def MergeOK (P : V → Prop) (op : BinOp V) (l2r : Bool) (s t : Tree V) (res : Option (Tree V)) : Prop :=
  match res with
  | none => ∃ k, pw op l2r k (s.lookup k) (t.lookup k) = none
  | some r => WF P r ∧ ∀ k, pw op l2r k (s.lookup k) (t.lookup k) = some (r.lookup k)

/-- `apply(k, x, x) = x` on stored values (what the `s == t` shortcut relies on) -/
def BinOp.Idem (op : BinOp V) (P : V → Prop) : Prop := ∀ k x, P x → op.apply k x x = .val x

@[simp] theorem pw_none_none (op : BinOp V) (l2r : Bool) (k : Nat) : pw op l2r k none none = some none := rfl

theorem pw_none_right (op : BinOp V) (l2r : Bool) (k : Nat) (a : Option V) :
    pw op l2r k a none = some (if op.absorbing then none else a) := by
  cases a <;> simp [pw]

theorem pw_none_left (op : BinOp V) (l2r : Bool) (k : Nat) (b : Option V) :
    pw op l2r k none b = some (if op.absorbing then none else b) := by
  cases b <;> simp [pw]

theorem pw_eq_none {op : BinOp V} {l2r : Bool} {k : Nat} {a b : Option V} (h : pw op l2r k a b = none) :
    ∃ x y, a = some x ∧ b = some y ∧ app op l2r k x y = .bottom := by
  cases a <;> cases b <;> simp [pw] at h
  rename_i x y
  refine ⟨x, y, rfl, rfl, ?_⟩
  cases hr : app op l2r k x y <;> simp [hr] at h
  rfl

theorem pw_some_some {op : BinOp V} {l2r : Bool} {k : Nat} {a b : Option V} {z : V}
    (h : pw op l2r k a b = some (some z)) : (∃ x, a = some x) ∨ (∃ y, b = some y) := by
  cases a <;> cases b <;> simp [pw] at h
  · rename_i y; exact Or.inr ⟨y, rfl⟩
  · rename_i x; exact Or.inl ⟨x, rfl⟩
  · rename_i x y; exact Or.inl ⟨x, rfl⟩

theorem pw_val {op : BinOp V} (hop : op.Pres P) {l2r : Bool} {k : Nat} {a b : Option V} {z : V}
    (ha : ∀ x, a = some x → P x) (hb : ∀ y, b = some y → P y)
    (h : pw op l2r k a b = some (some z)) : P z := by
  cases a <;> cases b <;> simp [pw] at h
  · rename_i y
    obtain ⟨_, rfl⟩ := h; exact hb _ rfl
  · rename_i x
    obtain ⟨_, rfl⟩ := h; exact ha _ rfl
  · rename_i x y
    cases hr : app op l2r k x y <;> simp [hr] at h
    subst h
    exact hop.app (ha _ rfl) (hb _ rfl) hr

theorem insSpec_eq_pw (op : BinOp V) (l2r : Bool) (k : Nat) (v : V) (o : Option V) :
    insSpec op l2r k v o = pw op l2r k o (some v) := by
  cases o <;> rfl

theorem pw_swap (op : BinOp V) (l2r : Bool) (k : Nat) (a b : Option V) :
    pw op (!l2r) k b a = pw op l2r k a b := by
  cases a <;> cases b <;> simp [pw, app_not]

theorem MergeOK.swap {op : BinOp V} {l2r : Bool} {s t : Tree V} {res : Option (Tree V)}
    (h : MergeOK P op l2r s t res) : MergeOK P op (!l2r) t s res := by
  cases res with
  | none => obtain ⟨k, hk⟩ := h; exact ⟨k, by rw [pw_swap]; exact hk⟩
  | some r => exact ⟨h.1, fun k => by rw [pw_swap]; exact h.2 k⟩

theorem MergeOK.unique {op : BinOp V} {l2r : Bool} {s t : Tree V} {r1 r2 : Option (Tree V)}
    (h1 : MergeOK P op l2r s t r1) (h2 : MergeOK P op l2r s t r2) : r1 = r2 := by
  have clash : ∀ {r : Tree V}, MergeOK P op l2r s t none → MergeOK P op l2r s t (some r) → False := by
    rintro r ⟨k, hk⟩ h
    have := h.2 k; rw [hk] at this; cases this
  cases r1 <;> cases r2
  · rfl
  · exact (clash h1 h2).elim
  · exact (clash h2 h1).elim
  · exact congrArg some (WF.ext h1.1 h2.1 (fun k => Option.some.inj ((h1.2 k).symm.trans (h2.2 k))))

theorem MergeOK.keys {op : BinOp V} {l2r : Bool} {s t r : Tree V} (h : MergeOK P op l2r s t (some r)) :
    ∀ k ∈ r.keys, k ∈ s.keys ∨ k ∈ t.keys := by
  intro k hk
  obtain ⟨z, hz⟩ := (mem_keys_iff_lookup h.1).mp hk
  have := h.2 k
  rw [hz] at this
  rcases pw_some_some this with ⟨x, hx⟩ | ⟨y, hy⟩
  · exact Or.inl (mem_keys_of_lookup hx)
  · exact Or.inr (mem_keys_of_lookup hy)

theorem mergeOK_empty_left (op : BinOp V) (l2r : Bool) {t : Tree V} (ht : WF P t) :
    MergeOK P op l2r .empty t (some (if op.absorbing then .empty else t)) := by
  refine ⟨by split <;> simp [ht], fun k => ?_⟩
  rw [lookup_empty, pw_none_left]; split <;> rfl

theorem mergeOK_empty_right (op : BinOp V) (l2r : Bool) {s : Tree V} (hs : WF P s) :
    MergeOK P op l2r s .empty (some (if op.absorbing then .empty else s)) := by
  refine ⟨by split <;> simp [hs], fun k => ?_⟩
  rw [lookup_empty, pw_none_right]; split <;> rfl

theorem mergeOK_self {op : BinOp V} (hid : op.Idem P) (l2r : Bool) {s : Tree V} (hs : WF P s) :
    MergeOK P op l2r s s (some s) := by
  refine ⟨hs, fun k => ?_⟩
  cases hl : s.lookup k with
  | none => rfl
  | some x =>
    have : app op l2r k x x = .val x := by
      cases l2r <;> exact hid k x (hs.val_of_lookup hl)
    simp [pw, this]

theorem mergeOK_leaf_right {op : BinOp V} {l2r : Bool} {s r : Tree V} {kt : Nat} {vt : V} (hr : WF P r)
    (h1 : pw op l2r kt (s.lookup kt) (some vt) = some (r.lookup kt))
    (h2 : ∀ k, k ≠ kt → r.lookup k = if op.absorbing then none else s.lookup k) :
    MergeOK P op l2r s (.leaf kt vt) (some r) := by
  refine ⟨hr, fun k => ?_⟩
  by_cases e : k = kt
  · subst e; rw [lookup_leaf, if_pos rfl]; exact h1
  · rw [lookup_leaf, if_neg (Ne.symm e), pw_none_right, h2 k e]

theorem mergeLeafR_ok {c : Ctx V} {op : BinOp V} {l2r : Bool} (hc : c.SoundOn P) (hop : op.Pres P)
    {kt : Nat} {vt : V} {s : Tree V} (hs : WF P s) (ht : WF P (.leaf kt vt)) :
    MergeOK P op l2r s (.leaf kt vt) (mergeLeafR c op l2r s kt vt) := by
  unfold mergeLeafR
  cases hab : op.absorbing
  · -- neutral default: this is `insert`
    have h := insert_spec (l2r := l2r) hc hop ht.1 ht.2 hs
    simp only [Bool.false_eq_true, if_false]
    cases hres : insert c op l2r s kt vt with
    | none =>
      rw [hres] at h
      exact ⟨kt, by rw [lookup_leaf, if_pos rfl, ← insSpec_eq_pw]; exact h⟩
    | some r =>
      rw [hres] at h
      exact mergeOK_leaf_right h.1 (by rw [← insSpec_eq_pw]; exact h.2.1) (fun k e => by rw [hab]; exact h.2.2 k e)
  · -- absorbing default: only the key of the leaf can survive
    have none_off : ∀ (r : Tree V) k, k ≠ kt → (∀ k, k ≠ kt → r.lookup k = none) →
        r.lookup k = if op.absorbing then none else s.lookup k := fun r k e h => by rw [hab, h k e]; rfl
    simp only [if_true]
    cases hf : s.lookup kt with
    | none =>
      exact mergeOK_leaf_right trivial (by simp [hf, pw, hab]) (fun k e => none_off .empty k e (fun _ _ => rfl))
    | some value =>
      simp only
      rw [combineLeaf_spec hc ht.2,
        show (if l2r then op.apply kt value vt else op.apply kt vt value) = app op l2r kt value vt from rfl]
      cases hr : app op l2r kt value vt with
      | bottom => exact ⟨kt, by simp [hf, pw, hr]⟩
      | dflt =>
        exact mergeOK_leaf_right trivial (by simp [hf, pw, hr]) (fun k e => none_off .empty k e (fun _ _ => rfl))
      | val nv =>
        exact mergeOK_leaf_right ⟨ht.1, hop.app (hs.val_of_lookup hf) ht.2 hr⟩ (by simp [hf, pw, hr])
          (fun k e => none_off (.leaf kt nv) k e (fun k e => by simp [Ne.symm e]))

theorem mergeLeafL_ok {c : Ctx V} {op : BinOp V} {l2r : Bool} (hc : c.SoundOn P) (hop : op.Pres P)
    {ks : Nat} {vs : V} {t : Tree V} (hs : WF P (.leaf ks vs)) (ht : WF P t) :
    MergeOK P op l2r (.leaf ks vs) t (mergeLeafL c op l2r ks vs t) := by
  have e : mergeLeafL c op l2r ks vs t = mergeLeafR c op (!l2r) t ks vs := by cases l2r <;> rfl
  rw [e]
  simpa using (mergeLeafR_ok (l2r := !l2r) hc hop ht hs).swap

section
variable {op : BinOp V} {l2r : Bool} {i p : Nat} {s t a b c d : Tree V}

theorem mergeOK_split {l r : Tree V} (hw : WF P (.node p (2 ^ i) l r)) (hs : Split i p s a b)
    (ht : Split i p t c d) {nl nr : Tree V} (hl : MergeOK P op l2r a c (some nl))
    (hr : MergeOK P op l2r b d (some nr)) : MergeOK P op l2r s t (some (mkNode p (2 ^ i) nl nr)) := by
  obtain ⟨hi, hp, ha, _⟩ := WF.node_pow.mp hw
  have kl : ∀ k ∈ nl.keys, InL i p k := fun k hk => (hl.keys k hk).elim (hs.left k) (ht.left k)
  have kr : ∀ k ∈ nr.keys, InR i p k := fun k hk => (hr.keys k hk).elim (hs.right k) (ht.right k)
  refine ⟨WF_mkNode hi hp ha hl.1 hr.1 kl kr, fun k => ?_⟩
  rw [hs.lookup, ht.lookup, (Split.mkNode ha kl kr).lookup]
  split
  · exact hl.2 k
  · exact hr.2 k

theorem mergeOK_none_left (ha : Aligned i p) (hs : Split i p s a b) (ht : Split i p t c d)
    (h : MergeOK P op l2r a c none) : MergeOK P op l2r s t none := by
  obtain ⟨k, hk⟩ := h
  obtain ⟨x, y, hx, _, _⟩ := pw_eq_none hk
  have : k ≤ p := le_of_InL ha (hs.left k (mem_keys_of_lookup hx))
  exact ⟨k, by rw [hs.lookup, ht.lookup, if_pos this, if_pos this]; exact hk⟩

theorem mergeOK_none_right (ha : Aligned i p) (hs : Split i p s a b) (ht : Split i p t c d)
    (h : MergeOK P op l2r b d none) : MergeOK P op l2r s t none := by
  obtain ⟨k, hk⟩ := h
  obtain ⟨x, y, hx, _, _⟩ := pw_eq_none hk
  have : ¬ k ≤ p := Nat.not_le.mpr (lt_of_InR ha (hs.right k (mem_keys_of_lookup hx)))
  exact ⟨k, by rw [hs.lookup, ht.lookup, if_neg this, if_neg this]; exact hk⟩

theorem mergeOK_disjoint
    (hdis : ∀ k, k ∈ s.keys → k ∉ t.keys) {r : Tree V} (hr : WF P r)
    (hl : ∀ k, r.lookup k = if op.absorbing then none else (s.lookup k).or (t.lookup k)) :
    MergeOK P op l2r s t (some r) := by
  refine ⟨hr, fun k => ?_⟩
  rw [hl]
  cases h1 : s.lookup k with
  | none => rw [pw_none_left]; simp
  | some x =>
    have : t.lookup k = none := lookup_none_of_not_mem (hdis k (mem_keys_of_lookup h1))
    rw [this, pw_none_right]; simp

end

/-! ### the shortcuts of `merge`: children that come back unchanged -/

section
variable {c : Ctx V} {p m : Nat} {l r nl nr : Tree V}

theorem node_eq_of_peq (hc : c.SoundOn P) (hw : WF P (.node p m l r))
    (h : (c.peq nl l && c.peq nr r) = true) : Tree.node p m l r = mkNode p m nl nr := by
  have n1 := hw.ne_left
  have n2 := hw.ne_right
  rw [Bool.and_eq_true] at h
  rw [hc.peq h.1, hc.peq h.2, mkNode_of_ne n1 n2]

/-- `sameR` can only hold with a neutral default: the right branch of a node is not null -/
theorem node_eq_of_sameR (hc : c.SoundOn P) (hw : WF P (.node p m l r)) {ab : Bool}
    (h : (c.peq nl l && (if ab then r.isEmpty else true)) = true) :
    Tree.node p m l r = mkNode p m nl (if ab then .empty else r) := by
  have n1 := hw.ne_left
  have n2 := hw.ne_right
  rw [Bool.and_eq_true] at h
  cases ab
  · rw [hc.peq h.1]; exact (mkNode_of_ne n1 n2).symm
  · simp [isEmpty_false n2] at h

theorem node_eq_of_sameL (hc : c.SoundOn P) (hw : WF P (.node p m l r)) {ab : Bool}
    (h : ((if ab then l.isEmpty else true) && c.peq nr r) = true) :
    Tree.node p m l r = mkNode p m (if ab then .empty else l) nr := by
  have n1 := hw.ne_left
  have n2 := hw.ne_right
  rw [Bool.and_eq_true] at h
  cases ab
  · rw [hc.peq h.2]; exact (mkNode_of_ne n1 n2).symm
  · simp [isEmpty_false n1] at h

end

/-- **`merge` is the pointwise combination**, for every sound pointer-equality oracle -/
theorem merge_ok {c : Ctx V} {op : BinOp V} (hc : c.SoundOn P) (hop : op.Pres P) (hid : op.Idem P)
    (l2r : Bool) (s t : Tree V) (hs : WF P s) (ht : WF P t) :
    MergeOK P op l2r s t (merge c op l2r s t) := by
  fun_induction merge c op l2r s t with
  | case1 t h | case2 t h => simpa [h] using mergeOK_empty_left op l2r ht
  | case3 _ _ h | case4 _ _ h | case5 _ _ _ _ h | case6 _ _ _ _ h =>
    simpa [h] using mergeOK_empty_right op l2r hs
  | case7 _ _ _ _ h | case9 _ _ _ _ _ _ h | case11 _ _ _ _ _ _ h | case13 _ _ _ _ _ _ _ _ h =>
    rw [← hc.1 _ _ h]; exact mergeOK_self hid l2r hs
  | case8 | case10 => exact mergeLeafL_ok hc hop hs ht
  | case12 => exact mergeLeafR_ok hc hop hs ht
  -- same prefix and branching bit: both trees are cut at their root
  | case14 p m sl sr q n tl tr h hpq hres ih =>
    obtain ⟨rfl, rfl⟩ := hpq
    obtain ⟨i, rfl⟩ := hs.bb_pow
    exact mergeOK_none_left hs.aligned (Split.node hs) (Split.node ht) (hres ▸ ih hs.left ht.left)
  | case15 p m sl sr q n tl tr h hpq nl hresl hresr ih2 ih1 =>
    obtain ⟨rfl, rfl⟩ := hpq
    obtain ⟨i, rfl⟩ := hs.bb_pow
    exact mergeOK_none_right hs.aligned (Split.node hs) (Split.node ht) (hresr ▸ ih1 hs.right ht.right)
  | case16 p m sl sr q n tl tr h hpq nl hresl nr hresr hpeq ih2 ih1 =>
    obtain ⟨rfl, rfl⟩ := hpq
    obtain ⟨i, rfl⟩ := hs.bb_pow
    have := mergeOK_split hs (Split.node hs) (Split.node ht) (hresl ▸ ih2 hs.left ht.left) (hresr ▸ ih1 hs.right ht.right)
    rwa [← node_eq_of_peq hc hs hpeq] at this
  | case17 p m sl sr q n tl tr h hpq nl hresl nr hresr hnpeq hpeq ih2 ih1 =>
    obtain ⟨rfl, rfl⟩ := hpq
    obtain ⟨i, rfl⟩ := hs.bb_pow
    have := mergeOK_split hs (Split.node hs) (Split.node ht) (hresl ▸ ih2 hs.left ht.left) (hresr ▸ ih1 hs.right ht.right)
    rwa [← node_eq_of_peq hc ht hpeq] at this
  | case18 p m sl sr q n tl tr h hpq nl hresl nr hresr hnpeq hnpeq2 ih2 ih1 =>
    obtain ⟨rfl, rfl⟩ := hpq
    obtain ⟨i, rfl⟩ := hs.bb_pow
    exact mergeOK_split hs (Split.node hs) (Split.node ht) (hresl ▸ ih2 hs.left ht.left) (hresr ▸ ih1 hs.right ht.right)
  -- `t` below the left half of `s`
  | case19 p m sl sr q n tl tr h hne hgt hz hres ih =>
    obtain ⟨i, rfl, ha, hsp⟩ := hs.node_inside_left ht hgt hz
    exact mergeOK_none_left ha (Split.node hs) hsp (hres ▸ ih hs.left ht)
  | case20 p m sl sr q n tl tr h hne hgt hz nl hres sameR hpeq ih =>
    obtain ⟨i, rfl, ha, hsp⟩ := hs.node_inside_left ht hgt hz
    have := mergeOK_split hs (Split.node hs) hsp (hres ▸ ih hs.left ht) (mergeOK_empty_right op l2r hs.right)
    rwa [← node_eq_of_sameR hc hs hpeq] at this
  | case21 p m sl sr q n tl tr h hne hgt hz nl hres newRb sameR hnpeq ih =>
    obtain ⟨i, rfl, ha, hsp⟩ := hs.node_inside_left ht hgt hz
    exact mergeOK_split hs (Split.node hs) hsp (hres ▸ ih hs.left ht) (mergeOK_empty_right op l2r hs.right)
  -- `t` below the right half of `s`
  | case22 p m sl sr q n tl tr h hne hgt hz hres ih =>
    obtain ⟨i, rfl, ha, hsp⟩ := hs.node_inside_right ht hgt hz
    exact mergeOK_none_right ha (Split.node hs) hsp (hres ▸ ih hs.right ht)
  | case23 p m sl sr q n tl tr h hne hgt hz sameL nr hres hpeq ih =>
    obtain ⟨i, rfl, ha, hsp⟩ := hs.node_inside_right ht hgt hz
    have := mergeOK_split hs (Split.node hs) hsp (mergeOK_empty_right op l2r hs.left) (hres ▸ ih hs.right ht)
    rwa [← node_eq_of_sameL hc hs hpeq] at this
  | case24 p m sl sr q n tl tr h hne hgt hz newLb sameL nr hres hnpeq ih =>
    obtain ⟨i, rfl, ha, hsp⟩ := hs.node_inside_right ht hgt hz
    exact mergeOK_split hs (Split.node hs) hsp (mergeOK_empty_right op l2r hs.left) (hres ▸ ih hs.right ht)
  -- `s` below the left half of `t`
  | case25 p m sl sr q n tl tr h hne hngt hlt hz hres ih =>
    obtain ⟨j, rfl, ha, hsp⟩ := ht.node_inside_left hs hlt hz
    exact mergeOK_none_left ha hsp (Split.node ht) (hres ▸ ih hs ht.left)
  | case26 p m sl sr q n tl tr h hne hngt hlt hz nl hres sameR hpeq ih =>
    obtain ⟨j, rfl, ha, hsp⟩ := ht.node_inside_left hs hlt hz
    have := mergeOK_split ht hsp (Split.node ht) (hres ▸ ih hs ht.left) (mergeOK_empty_left op l2r ht.right)
    rwa [← node_eq_of_sameR hc ht hpeq] at this
  | case27 p m sl sr q n tl tr h hne hngt hlt hz nl hres newRb sameR hnpeq ih =>
    obtain ⟨j, rfl, ha, hsp⟩ := ht.node_inside_left hs hlt hz
    exact mergeOK_split ht hsp (Split.node ht) (hres ▸ ih hs ht.left) (mergeOK_empty_left op l2r ht.right)
  -- `s` below the right half of `t`
  | case28 p m sl sr q n tl tr h hne hngt hlt hz hres ih =>
    obtain ⟨j, rfl, ha, hsp⟩ := ht.node_inside_right hs hlt hz
    exact mergeOK_none_right ha hsp (Split.node ht) (hres ▸ ih hs ht.right)
  | case29 p m sl sr q n tl tr h hne hngt hlt hz sameL nr hres hpeq ih =>
    obtain ⟨j, rfl, ha, hsp⟩ := ht.node_inside_right hs hlt hz
    have := mergeOK_split ht hsp (Split.node ht) (mergeOK_empty_left op l2r ht.left) (hres ▸ ih hs ht.right)
    rwa [← node_eq_of_sameL hc ht hpeq] at this
  | case30 p m sl sr q n tl tr h hne hngt hlt hz newLb sameL nr hres hnpeq ih =>
    obtain ⟨j, rfl, ha, hsp⟩ := ht.node_inside_right hs hlt hz
    exact mergeOK_split ht hsp (Split.node ht) (mergeOK_empty_left op l2r ht.left) (hres ▸ ih hs ht.right)
  -- neither below the other: disjoint key sets
  | case31 p m sl sr q n tl tr h hne hngt hnlt hab =>
    exact mergeOK_disjoint (hs.node_apart ht hne hngt hnlt).2 (WF_empty P) (fun k => by simp [hab])
  | case32 p m sl sr q n tl tr h hne hngt hnlt hab =>
    obtain ⟨hd, hdis⟩ := hs.node_apart ht hne hngt hnlt
    obtain ⟨hwj, hlj⟩ := join_spec hs ht hd
    exact mergeOK_disjoint hdis hwj (fun k => by simp [hab, hlj])

theorem merge_cases {c : Ctx V} {op : BinOp V} (hc : c.SoundOn P) (hop : op.Pres P) (hid : op.Idem P)
    (l2r : Bool) {s t : Tree V} (hs : WF P s) (ht : WF P t) :
    (merge c op l2r s t = none ∧
      ∃ k x y, s.lookup k = some x ∧ t.lookup k = some y ∧ app op l2r k x y = .bottom) ∨
    (∃ r, merge c op l2r s t = some r ∧ WF P r ∧
      ∀ k, pw op l2r k (s.lookup k) (t.lookup k) = some (r.lookup k)) := by
  have h := merge_ok hc hop hid l2r s t hs ht
  cases hres : merge c op l2r s t with
  | none =>
    rw [hres] at h
    obtain ⟨k, hk⟩ := h
    exact Or.inl ⟨rfl, k, pw_eq_none hk⟩
  | some r => rw [hres] at h; exact Or.inr ⟨r, rfl, h⟩

end Patricia
end Crab
