import CrabModel.Fix.Semantics
import CrabModel.Fix.InterleavedS

/-!
  One-step equations of the four mutually recursive visit functions of the iterator (`run`) and
  of its state-passing variant (`runS`), and the fact that ties the two: `run` is `runS` with the
  stateless block transformer `pureAn c`.
-/
namespace Crab
namespace Fix
variable {A σ : Type}

/-- initial invariant of a cycle head -/
def cyclePre (c : Ctx A) (st : St A) (head : Nat) : A :=
  let cycleNesting := (c.nesting head).getD []
  let pre0 := (c.preds head).foldl
    (fun a p => match c.nesting p with
      | none => a
      | some np => if !(nestingGt np cycleNesting) then c.ops.join a (st.post p) else a) c.ops.bot
  let pre1 := if head == c.entry then c.ops.join pre0 c.init else pre0
  strengthen c head pre1

theorem Sound.upd_same (f : Nat → A) (k : Nat) (v : A) : upd f k v k = v := if_pos rfl

theorem Sound.upd_other (f : Nat → A) (k : Nat) (v : A) (i : Nat) (h : i ≠ k) : upd f k v i = f i :=
  if_neg h

/-- `strengthen` and the filter `asmOk` of the semantics read the assumption map the same way:
    either nothing is attached to the block, or a value `a` that is met, resp. required -/
theorem strengthen_cases (c : Ctx A) (n : Nat) (inv : A) :
    (strengthen c n inv = inv ∧ ∀ {S : Type} (sem : Sem c S) (s : S), asmOk c sem n s) ∨
    ∃ a, strengthen c n inv = c.ops.meet inv a ∧
      ∀ {S : Type} (sem : Sem c S) (s : S), asmOk c sem n s = sem.γ a s := by
  unfold strengthen asmOk
  cases hA : hasAssumptions c with
  | false => exact Or.inl ⟨rfl, fun _ _ => trivial⟩
  | true =>
    cases hm : c.assumptions with
    | none => exact Or.inl ⟨rfl, fun _ _ => trivial⟩
    | some m =>
      cases hl : m.lookup n with
      | none => exact Or.inl ⟨by simp only [hl, if_true], fun _ _ => by simp only [hl, if_true]⟩
      | some a => exact Or.inr ⟨a, by simp only [hl, if_true], fun _ _ => by simp only [hl, if_true]⟩

theorem extrapolate_of_le (c : Ctx A) {it : Nat} (a b : A) (h : it ≤ c.delay) :
    extrapolate c it a b = c.ops.join a b := if_pos h

theorem extrapolate_of_lt (c : Ctx A) {it : Nat} (a b : A) (h : c.delay < it) :
    extrapolate c it a b = c.ops.widen a b := if_neg (Nat.not_le.2 h)

theorem visitComp_zero (c : Ctx A) (st : St A) (x : Comp) : visitComp c 0 st x = none := by
  cases x <;> rfl

theorem visitComp_vertex (c : Ctx A) (f : Nat) (st : St A) (v : Nat) :
    visitComp c (f+1) st (.vertex v) = some (visitVertex c st v) := rfl

theorem visitComp_cycle (c : Ctx A) (f : Nat) (st : St A) (head : Nat) (body : List Comp) :
    visitComp c (f+1) st (.cycle head body) =
      if st.skip && !(st.skip && (Comp.cycle head body).member c.entry) then some st
      else (ascend c f { st with skip := false } head body 1 (cyclePre c st head)).bind fun r =>
        if c.descending = 0 then some r.1 else descend c f r.1 head body 1 r.2 := by
  rw [visitComp, cyclePre]; dsimp only; cases ascend c f _ head body 1 _ <;> rfl

theorem visitList_zero (c : Ctx A) (st : St A) (xs : List Comp) : visitList c 0 st xs = none := by
  cases xs <;> rfl
theorem visitList_nil (c : Ctx A) (f : Nat) (st : St A) : visitList c (f+1) st [] = some st := rfl
theorem visitList_cons (c : Ctx A) (f : Nat) (st : St A) (x : Comp) (xs : List Comp) :
    visitList c (f+1) st (x :: xs) = (visitComp c f st x).bind fun st1 => visitList c f st1 xs := by
  rw [visitList]; cases visitComp c f st x <;> rfl

theorem ascend_zero (c : Ctx A) (st : St A) (h : Nat) (b : List Comp) (i : Nat) (p : A) :
    ascend c 0 st h b i p = none := rfl
theorem ascend_succ (c : Ctx A) (f : Nat) (st : St A) (head : Nat) (body : List Comp) (it : Nat) (pre : A) :
    ascend c (f+1) st head body it pre =
      (visitList c f (computePost c { st with pre := upd st.pre head pre } head pre) body).bind
        fun st' => if c.ops.leq (newPre c st' head) pre then
          some ({ st' with pre := upd st'.pre head (newPre c st' head) }, newPre c st' head)
        else ascend c f st' head body (it + 1) (extrapolate c it pre (newPre c st' head)) := by
  rw [ascend]; cases visitList c f _ body <;> rfl

theorem descend_zero (c : Ctx A) (st : St A) (h : Nat) (b : List Comp) (i : Nat) (p : A) :
    descend c 0 st h b i p = none := rfl
theorem descend_succ (c : Ctx A) (f : Nat) (st : St A) (head : Nat) (body : List Comp) (it : Nat) (pre : A) :
    descend c (f+1) st head body it pre =
      (visitList c f (computePost c st head pre) body).bind fun st' =>
        if c.ops.leq pre (newPre c st' head) then some st'
        else if it > c.descending then some st'
        else descend c f { st' with pre := upd st'.pre head (refine c it pre (newPre c st' head)) }
              head body (it + 1) (refine c it pre (newPre c st' head)) := by
  rw [descend]; cases visitList c f _ body <;> rfl

theorem visitCompS_zero (c : Ctx A) (an : AnS A σ) (st : St A) (x : Comp) (s : σ) :
    visitCompS c an 0 st x s = none := by
  cases x <;> rfl

theorem visitCompS_vertex (c : Ctx A) (an : AnS A σ) (f : Nat) (st : St A) (v : Nat) (s : σ) :
    visitCompS c an (f+1) st (.vertex v) s = visitVertexS c an st v s := rfl

theorem visitCompS_cycle (c : Ctx A) (an : AnS A σ) (f : Nat) (st : St A) (head : Nat)
    (body : List Comp) (s : σ) :
    visitCompS c an (f+1) st (.cycle head body) s =
      if st.skip && !(st.skip && (Comp.cycle head body).member c.entry) then some (st, s)
      else match ascendS c an f { st with skip := false } head body 1 (cyclePre c st head) s with
        | none => none
        | some (st', pre, s') =>
          if c.descending = 0 then some (st', s') else descendS c an f st' head body 1 pre s' := rfl

theorem visitListS_zero (c : Ctx A) (an : AnS A σ) (st : St A) (xs : List Comp) (s : σ) :
    visitListS c an 0 st xs s = none := by
  cases xs <;> rfl
theorem visitListS_nil (c : Ctx A) (an : AnS A σ) (f : Nat) (st : St A) (s : σ) :
    visitListS c an (f+1) st [] s = some (st, s) := rfl
theorem visitListS_cons (c : Ctx A) (an : AnS A σ) (f : Nat) (st : St A) (x : Comp)
    (xs : List Comp) (s : σ) :
    visitListS c an (f+1) st (x :: xs) s =
      match visitCompS c an f st x s with
      | none => none
      | some (st, s) => visitListS c an f st xs s := rfl

theorem ascendS_succ (c : Ctx A) (an : AnS A σ) (f : Nat) (st : St A) (head : Nat)
    (body : List Comp) (it : Nat) (pre : A) (s : σ) :
    ascendS c an (f+1) st head body it pre s =
      match computePostS an { st with pre := upd st.pre head pre } head pre s with
      | none => none
      | some (st, s) =>
        match visitListS c an f st body s with
        | none => none
        | some (st', s') =>
          if c.ops.leq (newPre c st' head) pre then
            some ({ st' with pre := upd st'.pre head (newPre c st' head) }, newPre c st' head, s')
          else ascendS c an f st' head body (it + 1) (extrapolate c it pre (newPre c st' head)) s' :=
  rfl

theorem descendS_succ (c : Ctx A) (an : AnS A σ) (f : Nat) (st : St A) (head : Nat)
    (body : List Comp) (it : Nat) (pre : A) (s : σ) :
    descendS c an (f+1) st head body it pre s =
      match computePostS an st head pre s with
      | none => none
      | some (st, s) =>
        match visitListS c an f st body s with
        | none => none
        | some (st', s') =>
          if c.ops.leq pre (newPre c st' head) then some (st', s')
          else if it > c.descending then some (st', s')
          else descendS c an f { st' with pre := upd st'.pre head (refine c it pre (newPre c st' head)) }
                head body (it + 1) (refine c it pre (newPre c st' head)) s' := rfl

/-- a vertex in front of the start block is skipped; otherwise (skipping is off, or the vertex is
    the start block, which switches it off) the invariant and the post of the vertex are stored -/
theorem visitVertex_eq (c : Ctx A) (st : St A) (v : Nat) :
    visitVertex c st v =
      if st.skip && !(v == c.entry) then st
      else computePost c { st with pre := upd st.pre v (vertexPreS c st v), skip := false } v
        (vertexPreS c st v) := by
  obtain ⟨pre, post, skip⟩ := st
  cases skip <;> cases hv : v == c.entry <;> simp [visitVertex, vertexPreS, hv]

theorem visitVertexS_eq (c : Ctx A) (an : AnS A σ) (st : St A) (v : Nat) (s : σ) :
    visitVertexS c an st v s =
      if st.skip && !(v == c.entry) then some (st, s)
      else computePostS an { st with pre := upd st.pre v (vertexPreS c st v), skip := false } v
        (vertexPreS c st v) s := by
  obtain ⟨pre, post, skip⟩ := st
  cases skip <;> cases hv : v == c.entry <;> simp [visitVertexS, vertexPreS, hv]

/-- the block transformer of `run` as a transformer with a (trivial) state -/
def pureAn (c : Ctx A) : AnS A Unit := fun n a s => some (c.analyze n a, s)

theorem computePostS_pure (c : Ctx A) (st : St A) (n : Nat) (a : A) :
    computePostS (pureAn c) st n a () = some (computePost c st n a, ()) := rfl

theorem visitVertexS_pure (c : Ctx A) (st : St A) (v : Nat) :
    visitVertexS c (pureAn c) st v () = some (visitVertex c st v, ()) := by
  rw [visitVertexS_eq, visitVertex_eq]
  split <;> rfl

/-- with fuel `f`, each of the four visit functions of `run` is the one of `runS` -/
def PureAt (c : Ctx A) (f : Nat) : Prop :=
  (∀ st x, visitCompS c (pureAn c) f st x () = (visitComp c f st x).map (·, ())) ∧
  (∀ st xs, visitListS c (pureAn c) f st xs () = (visitList c f st xs).map (·, ())) ∧
  (∀ st h B it pre, ascendS c (pureAn c) f st h B it pre () =
    (ascend c f st h B it pre).map (fun r => (r.1, r.2, ()))) ∧
  (∀ st h B it pre, descendS c (pureAn c) f st h B it pre () =
    (descend c f st h B it pre).map (·, ()))

variable {c : Ctx A} {f : Nat}

theorem visitCompS_pure_succ (ih : PureAt c f) (st : St A) (x : Comp) :
    visitCompS c (pureAn c) (f+1) st x () = (visitComp c (f+1) st x).map (·, ()) := by
  cases x with
  | vertex v => exact visitVertexS_pure c st v
  | cycle h B =>
    rw [visitCompS_cycle, visitComp_cycle, ih.2.2.1]
    split
    · rfl
    · cases ascend c f { st with skip := false } h B 1 (cyclePre c st h) with
      | none => rfl
      | some r =>
        show (if c.descending = 0 then _ else _) = Option.map _ (if c.descending = 0 then _ else _)
        split
        · rfl
        · exact ih.2.2.2 _ _ _ _ _

theorem visitListS_pure_succ (ih : PureAt c f) (st : St A) (xs : List Comp) :
    visitListS c (pureAn c) (f+1) st xs () = (visitList c (f+1) st xs).map (·, ()) := by
  cases xs with
  | nil => rfl
  | cons x xs =>
    rw [visitListS_cons, visitList_cons, ih.1]
    cases visitComp c f st x with
    | none => rfl
    | some st1 => exact ih.2.1 st1 xs

theorem ascendS_pure_succ (ih : PureAt c f) (st : St A) (h : Nat) (B : List Comp) (it : Nat)
    (pre : A) :
    ascendS c (pureAn c) (f+1) st h B it pre () =
      (ascend c (f+1) st h B it pre).map (fun r => (r.1, r.2, ())) := by
  simp only [ascendS_succ, ascend_succ, computePostS_pure, ih.2.1]
  cases visitList c f (computePost c { st with pre := upd st.pre h pre } h pre) B with
  | none => rfl
  | some st1 =>
    simp only [Option.map_some, Option.bind_some, ih.2.2.1]
    split <;> rfl

theorem descendS_pure_succ (ih : PureAt c f) (st : St A) (h : Nat) (B : List Comp) (it : Nat)
    (pre : A) :
    descendS c (pureAn c) (f+1) st h B it pre () = (descend c (f+1) st h B it pre).map (·, ()) := by
  simp only [descendS_succ, descend_succ, computePostS_pure, ih.2.1]
  cases visitList c f (computePost c st h pre) B with
  | none => rfl
  | some st1 =>
    simp only [Option.map_some, Option.bind_some, ih.2.2.2]
    split
    · rfl
    · split <;> rfl

theorem visitS_pure (c : Ctx A) : ∀ f, PureAt c f
  | 0 => ⟨fun st x => by rw [visitCompS_zero, visitComp_zero]; rfl,
      fun st xs => by rw [visitListS_zero, visitList_zero]; rfl, fun _ _ _ _ _ => rfl,
      fun _ _ _ _ _ => rfl⟩
  | f + 1 =>
    have ih := visitS_pure c f
    ⟨visitCompS_pure_succ ih, visitListS_pure_succ ih, ascendS_pure_succ ih, descendS_pure_succ ih⟩

theorem runS_pure (c : Ctx A) (fuel : Nat) (w : List Comp) :
    runS c (pureAn c) fuel w () = (run c fuel w).map (·, ()) :=
  (visitS_pure c fuel).2.1 _ w

end Fix
end Crab
