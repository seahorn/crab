import CrabProofs.Lemmas.FixEqns

/-!
# Termination of the interleaved fixpoint iterator (C05, engine part)

* fuel monotonicity of the four visit functions (`fuel_mono_aux`): a result obtained with some fuel
  is obtained with more;
* some fuel suffices: the descending sequence is bounded by `descending`, the ascending one joins
  for `delay` rounds and then every round that does not stabilise is a strict widening step
  (`WidenStep`), of which there is no infinite chain by hypothesis; components and lists by
  structural recursion on the ordering term (`visitComp_total`, `visitList_total`, `run_total`).
-/
namespace Crab
namespace Fix
variable {A : Type}

/-- `o.bind k` keeps its result when `o` and `k` are replaced by ones that keep theirs -/
theorem bind_some_mono {α β : Type} {o o' : Option α} {k k' : α → Option β} {r : β}
    (h : o.bind k = some r) (ho : ∀ a, o = some a → o' = some a)
    (hk : ∀ a, k a = some r → k' a = some r) : o'.bind k' = some r := by
  obtain ⟨a, ha, hr⟩ := Option.bind_eq_some_iff.1 h
  exact Option.bind_eq_some_iff.2 ⟨a, ho a ha, hk a hr⟩

theorem ite_some_mono {β : Type} {p : Prop} [Decidable p] {a a' b : Option β} {r : β}
    (h : (if p then b else a) = some r) (ha : a = some r → a' = some r) :
    (if p then b else a') = some r := by
  by_cases hp : p
  · rwa [if_pos hp] at h ⊢
  · rw [if_neg hp] at h ⊢; exact ha h

/-- Each visit function is, after one unit of fuel, a composition by `bind` and `if` of visit
    functions with the rest of the fuel; both constructions keep a result `some r`. -/
theorem fuel_mono_aux (c : Ctx A) : ∀ f,
    (∀ st x r, visitComp c f st x = some r → ∀ f', f ≤ f' → visitComp c f' st x = some r) ∧
    (∀ st xs r, visitList c f st xs = some r → ∀ f', f ≤ f' → visitList c f' st xs = some r) ∧
    (∀ st h b i p r, ascend c f st h b i p = some r →
      ∀ f', f ≤ f' → ascend c f' st h b i p = some r) ∧
    (∀ st h b i p r, descend c f st h b i p = some r →
      ∀ f', f ≤ f' → descend c f' st h b i p = some r)
  | 0 => ⟨fun st x r h => (by rw [visitComp_zero] at h; cases h),
      fun st xs r h => (by rw [visitList_zero] at h; cases h), fun _ _ _ _ _ _ h => (nomatch h),
      fun _ _ _ _ _ _ h => nomatch h⟩
  | f + 1 => by
    obtain ⟨ihC, ihL, ihA, ihD⟩ := fuel_mono_aux c f
    have succ : ∀ {f'}, f + 1 ≤ f' → ∃ g, f' = g + 1 ∧ f ≤ g
      | _ + 1, h => ⟨_, rfl, Nat.le_of_succ_le_succ h⟩
    refine ⟨fun st x r h f' hf => ?_, fun st xs r h f' hf => ?_, fun st hd b i p r h f' hf => ?_,
      fun st hd b i p r h f' hf => ?_⟩ <;> obtain ⟨g, rfl, hg⟩ := succ hf
    · cases x with
      | vertex v => exact h
      | cycle head body =>
        rw [visitComp_cycle] at h ⊢
        exact ite_some_mono h fun h => bind_some_mono h (fun a ha => ihA _ _ _ _ _ _ ha g hg)
          fun a h => ite_some_mono h fun h => ihD _ _ _ _ _ _ h g hg
    · cases xs with
      | nil => exact h
      | cons x xs =>
        rw [visitList_cons] at h ⊢
        exact bind_some_mono h (fun a ha => ihC _ _ _ ha g hg) fun a h => ihL _ _ _ h g hg
    · rw [ascend_succ] at h ⊢
      exact bind_some_mono h (fun a ha => ihL _ _ _ ha g hg) fun a h =>
        ite_some_mono h fun h => ihA _ _ _ _ _ _ h g hg
    · rw [descend_succ] at h ⊢
      exact bind_some_mono h (fun a ha => ihL _ _ _ ha g hg) fun a h =>
        ite_some_mono h fun h => ite_some_mono h fun h => ihD _ _ _ _ _ _ h g hg

theorem visitComp_mono {c : Ctx A} {f f' : Nat} {st : St A} {x : Comp} {r : St A}
    (h : visitComp c f st x = some r) (hf : f ≤ f') : visitComp c f' st x = some r :=
  (fuel_mono_aux c f).1 _ _ _ h _ hf

theorem visitList_mono {c : Ctx A} {f f' : Nat} {st : St A} {xs : List Comp} {r : St A}
    (h : visitList c f st xs = some r) (hf : f ≤ f') : visitList c f' st xs = some r :=
  (fuel_mono_aux c f).2.1 _ _ _ h _ hf

theorem ascend_mono {c : Ctx A} {f f' : Nat} {st : St A} {head : Nat} {body : List Comp}
    {it : Nat} {pre : A} {r : St A × A}
    (h : ascend c f st head body it pre = some r) (hf : f ≤ f') :
    ascend c f' st head body it pre = some r :=
  (fuel_mono_aux c f).2.2.1 _ _ _ _ _ _ h _ hf

theorem descend_mono {c : Ctx A} {f f' : Nat} {st : St A} {head : Nat} {body : List Comp}
    {it : Nat} {pre : A} {r : St A}
    (h : descend c f st head body it pre = some r) (hf : f ≤ f') :
    descend c f' st head body it pre = some r :=
  (fuel_mono_aux c f).2.2.2 _ _ _ _ _ _ h _ hf

theorem run_mono {c : Ctx A} {f f' : Nat} {w : List Comp} {r : St A}
    (h : run c f w = some r) (hf : f ≤ f') : run c f' w = some r :=
  visitList_mono (c := c) h hf

/-- one iteration of the decreasing sequence: it terminates if the body does and the rest of
    the sequence (entered only while `it ≤ descending`) does -/
theorem descend_step (c : Ctx A) (head : Nat) (body : List Comp)
    (H : ∀ st, ∃ f r, visitList c f st body = some r) (it : Nat) (st : St A) (pre : A)
    (K : it ≤ c.descending → ∀ st' pre', ∃ f r, descend c f st' head body (it + 1) pre' = some r) :
    ∃ f r, descend c f st head body it pre = some r := by
  obtain ⟨f1, st1, h1⟩ := H (computePost c st head pre)
  by_cases hl : c.ops.leq pre (newPre c st1 head) = true
  · refine ⟨f1 + 1, st1, ?_⟩
    rw [descend_succ, h1, Option.bind_some, if_pos hl]
  · by_cases hi : it > c.descending
    · refine ⟨f1 + 1, st1, ?_⟩
      rw [descend_succ, h1, Option.bind_some, if_neg hl, if_pos hi]
    · obtain ⟨f2, r, h2⟩ := K (by omega)
        { st1 with pre := upd st1.pre head (refine c it pre (newPre c st1 head)) }
        (refine c it pre (newPre c st1 head))
      refine ⟨max f1 f2 + 1, r, ?_⟩
      rw [descend_succ, visitList_mono h1 (Nat.le_max_left f1 f2), Option.bind_some, if_neg hl,
        if_neg hi]
      exact descend_mono h2 (Nat.le_max_right f1 f2)

theorem descend_total (c : Ctx A) (head : Nat) (body : List Comp)
    (H : ∀ st, ∃ f r, visitList c f st body = some r) :
    ∀ k it st pre, c.descending + 1 - it ≤ k →
      ∃ f r, descend c f st head body it pre = some r := by
  intro k
  induction k with
  | zero =>
    intro it st pre hk
    exact descend_step c head body H it st pre (fun h => by omega)
  | succ k ih =>
    intro it st pre hk
    exact descend_step c head body H it st pre (fun h st' pre' => ih (it + 1) st' pre' (by omega))

theorem ascend_step (c : Ctx A) (head : Nat) (body : List Comp)
    (H : ∀ st, ∃ f r, visitList c f st body = some r) (it : Nat) (st : St A) (pre : A)
    (K : ∀ st' np, c.ops.leq np pre = false →
      ∃ f r, ascend c f st' head body (it + 1) (extrapolate c it pre np) = some r) :
    ∃ f r, ascend c f st head body it pre = some r := by
  obtain ⟨f1, st1, h1⟩ := H (computePost c { st with pre := upd st.pre head pre } head pre)
  by_cases hl : c.ops.leq (newPre c st1 head) pre = true
  · refine ⟨f1 + 1, ({ st1 with pre := upd st1.pre head (newPre c st1 head) }, newPre c st1 head), ?_⟩
    rw [ascend_succ, h1, Option.bind_some, if_pos hl]
  · obtain ⟨f2, r, h2⟩ := K st1 (newPre c st1 head) (by simpa using hl)
    refine ⟨max f1 f2 + 1, r, ?_⟩
    rw [ascend_succ, visitList_mono h1 (Nat.le_max_left f1 f2), Option.bind_some, if_neg hl]
    exact ascend_mono h2 (Nat.le_max_right f1 f2)

/-- beyond the delay every non-converged iteration is a strict widening step -/
theorem ascend_total_widen (c : Ctx A) (wf : WellFounded (WidenStep c)) (head : Nat)
    (body : List Comp) (H : ∀ st, ∃ f r, visitList c f st body = some r) :
    ∀ pre it st, c.delay < it → ∃ f r, ascend c f st head body it pre = some r := by
  intro pre
  induction pre using wf.induction with
  | _ pre ih =>
    intro it st hit
    refine ascend_step c head body H it st pre (fun st' np hnp => ?_)
    rw [extrapolate_of_lt c pre np hit]
    exact ih _ ⟨np, hnp, rfl⟩ (it + 1) st' (by omega)

theorem ascend_total (c : Ctx A) (wf : WellFounded (WidenStep c)) (head : Nat)
    (body : List Comp) (H : ∀ st, ∃ f r, visitList c f st body = some r) :
    ∀ k it st pre, c.delay + 1 - it ≤ k → ∃ f r, ascend c f st head body it pre = some r := by
  intro k
  induction k with
  | zero =>
    intro it st pre hk
    exact ascend_total_widen c wf head body H pre it st (by omega)
  | succ k ih =>
    intro it st pre hk
    exact ascend_step c head body H it st pre (fun st' np _ => ih (it + 1) st' _ (by omega))

theorem visitComp_cycle_total (c : Ctx A) (wf : WellFounded (WidenStep c)) (head : Nat)
    (body : List Comp) (H : ∀ st, ∃ f r, visitList c f st body = some r) (st : St A) :
    ∃ f r, visitComp c f st (.cycle head body) = some r := by
  by_cases hs : (st.skip && !(st.skip && (Comp.cycle head body).member c.entry)) = true
  · exact ⟨1, st, by rw [visitComp_cycle, if_pos hs]⟩
  · obtain ⟨f1, ⟨st1, p1⟩, h1⟩ := ascend_total c wf head body H (c.delay + 1) 1
      { st with skip := false } (cyclePre c st head) (by omega)
    by_cases hd : c.descending = 0
    · refine ⟨f1 + 1, st1, ?_⟩
      rw [visitComp_cycle, if_neg hs, h1, Option.bind_some, if_pos hd]
    · obtain ⟨f2, r, h2⟩ := descend_total c head body H (c.descending + 1) 1 st1 p1 (by omega)
      refine ⟨max f1 f2 + 1, r, ?_⟩
      rw [visitComp_cycle, if_neg hs, ascend_mono h1 (Nat.le_max_left f1 f2), Option.bind_some,
        if_neg hd]
      exact descend_mono h2 (Nat.le_max_right f1 f2)

mutual
theorem visitComp_total (c : Ctx A) (wf : WellFounded (WidenStep c)) :
    ∀ (x : Comp) (st : St A), ∃ f r, visitComp c f st x = some r
  | .vertex v, st => ⟨1, _, visitComp_vertex c 0 st v⟩
  | .cycle head body, st =>
    visitComp_cycle_total c wf head body (fun st => visitList_total c wf body st) st
theorem visitList_total (c : Ctx A) (wf : WellFounded (WidenStep c)) :
    ∀ (xs : List Comp) (st : St A), ∃ f r, visitList c f st xs = some r
  | [], st => ⟨1, st, visitList_nil c 0 st⟩
  | x :: xs, st => by
    obtain ⟨f1, st1, h1⟩ := visitComp_total c wf x st
    obtain ⟨f2, r, h2⟩ := visitList_total c wf xs st1
    refine ⟨max f1 f2 + 1, r, ?_⟩
    rw [visitList_cons, visitComp_mono h1 (Nat.le_max_left f1 f2)]
    exact visitList_mono h2 (Nat.le_max_right f1 f2)
end

theorem run_total (c : Ctx A) (wf : WellFounded (WidenStep c)) (w : List Comp) :
    ∃ f r, run c f w = some r :=
  visitList_total c wf w _

end Fix
end Crab
