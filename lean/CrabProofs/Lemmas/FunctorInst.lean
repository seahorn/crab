import CrabModel.Dom.Functors.Product
import CrabProofs.Lemmas.IntervalArith
import CrabProofs.Lemmas.CongruenceOps

/-!
Lawful instances of `LDom Int` (one-variable domains: a concrete state is the value of the
variable) built from the exact scalar models, used for the non-vacuity examples and the explicit
counterexamples of `Props/C03Functors.lean`, `Props/C04Functors.lean`:

 * `itvDom`: `interval<z_number>` restricted to the intervals the code can build (`Itv.WF`: the
   lower bound is not `+oo`, the upper bound not `-oo`; `is_top()` of `[+oo,+oo]` would otherwise
   be a wrong yes);
 * `congDom`: `congruence<z_number>`.
-/
namespace Crab
namespace Dom
namespace Fct

open Crab.Bound

namespace ItvInst

/-! the well-formedness facts of `Lemmas/Interval`, under the names the instance below uses -/

theorem wf_mk' {l u : Bound} (h1 : l ≠ pinf) (h2 : u ≠ ninf) : (Itv.mk' l u).WF := Itv.wf_mk' h1 h2
theorem wf_bot : Itv.bot.WF := Itv.wf_bot
theorem wf_top : Itv.top.WF := Itv.wf_top
theorem wf_join {a b : Itv} (ha : a.WF) (hb : b.WF) : (Itv.join a b).WF := Itv.wf_join ha hb
theorem wf_meet {a b : Itv} (ha : a.WF) (hb : b.WF) : (Itv.meet a b).WF := Itv.wf_meet ha hb
theorem wf_widen {a b : Itv} (ha : a.WF) (hb : b.WF) : (Itv.widen a b).WF := Itv.wf_widen ha hb
theorem wf_narrow {a b : Itv} (ha : a.WF) (hb : b.WF) : (Itv.narrow a b).WF := Itv.wf_narrow ha hb

theorem mem_of_isTop {i : Itv} (hw : i.WF) (h : i.isTop = true) (k : Int) : Itv.mem k i :=
  Itv.eq_top_of_isTop h hw ▸ Itv.mem_top k

end ItvInst

abbrev WItv := { i : Itv // i.WF }

def WItv.mk (l u : Int) : WItv := ⟨⟨fin l, fin u⟩, by simp [Itv.WF]⟩

open ItvInst in
@[reducible] def itvDom : LDom Int where
  B := WItv
  γ := fun i k => Itv.mem k i.1
  top := ⟨Itv.top, wf_top⟩
  bot := ⟨Itv.bot, wf_bot⟩
  isBot := fun i => i.1.isBottom
  isTop := fun i => i.1.isTop
  leq := fun a b => Itv.leq a.1 b.1
  join := fun a b => ⟨Itv.join a.1 b.1, wf_join a.2 b.2⟩
  meet := fun a b => ⟨Itv.meet a.1 b.1, wf_meet a.2 b.2⟩
  widen := fun a b => ⟨Itv.widen a.1 b.1, wf_widen a.2 b.2⟩
  narrow := fun a b => ⟨Itv.narrow a.1 b.1, wf_narrow a.2 b.2⟩
  top_sound := Itv.mem_top
  bot_sound := Itv.not_mem_bot
  isBot_sound := fun _ _ h => Itv.not_mem_of_isBottom h
  leq_sound := fun _ _ _ h hk => Itv.leq_sound h hk
  join_l := fun _ _ _ h => Itv.join_upper_left h
  join_r := fun _ _ _ h => Itv.join_upper_right h
  widen_l := fun _ _ _ h => Itv.widen_upper_left h
  widen_r := fun _ _ _ h => Itv.widen_upper_right h
  meet_sound := fun _ _ _ ha hb => Itv.meet_sound ha hb
  narrow_sound := fun _ _ _ ha hb => Itv.narrow_sound ha hb

theorem itvDom_topSound : itvDom.TopSound := fun b s h => ItvInst.mem_of_isTop b.2 h s
theorem itvDom_leqRefl : itvDom.LeqRefl := fun a => Itv.leq_refl a.1
theorem itvDom_leqTop : itvDom.LeqTop := fun a => Itv.leq_top a.1
theorem itvDom_topIsTop : itvDom.TopIsTop := by unfold LDom.TopIsTop; decide
theorem itvDom_topNotBot : itvDom.TopNotBot := by unfold LDom.TopNotBot; decide
theorem itvDom_botIsBot : itvDom.BotIsBot := by unfold LDom.BotIsBot; decide
theorem itvDom_meetLower : itvDom.MeetLower := fun _ _ _ h => Itv.meet_exact h
theorem itvDom_narrowLower : itvDom.NarrowLower := fun a _ _ h => Itv.narrow_le_left a.2 h

@[reducible] def congDom : LDom Int where
  B := Cong
  γ := fun c k => Cong.mem k c
  top := Cong.top
  bot := Cong.bot
  isBot := Cong.isBottom
  isTop := Cong.isTop
  leq := Cong.leq
  join := Cong.join
  meet := Cong.meet
  widen := Cong.widen
  narrow := Cong.narrow
  top_sound := Cong.mem_top
  bot_sound := Cong.not_mem_bot
  isBot_sound := fun _ _ h => Cong.not_mem_of_isBot h
  leq_sound := fun _ _ _ h hk => Cong.leq_sound h hk
  join_l := fun _ _ _ h => Cong.join_upper_left h
  join_r := fun _ _ _ h => Cong.join_upper_right h
  widen_l := fun _ _ _ h => Cong.join_upper_left h
  widen_r := fun _ _ _ h => Cong.join_upper_right h
  meet_sound := fun _ _ _ ha hb => Cong.meet_sound ha hb
  narrow_sound := fun _ _ _ ha hb => Cong.narrow_sound ha hb

theorem congDom_leqRefl : congDom.LeqRefl := Cong.leq_refl
theorem congDom_leqTop : congDom.LeqTop := Cong.leq_top
theorem congDom_topNotBot : congDom.TopNotBot := by unfold LDom.TopNotBot; decide
theorem congDom_botIsBot : congDom.BotIsBot := by unfold LDom.BotIsBot; decide
theorem congDom_meetLower : congDom.MeetLower := fun _ _ _ h => Cong.meet_exact h

instance (i : Itv) : Decidable i.WF := by unfold Itv.WF; exact inferInstance

/-- a computed interval as an element of the carrier (top if it were malformed) -/
def WItv.ofItv (r : Itv) : WItv := if h : r.WF then ⟨r, h⟩ else ⟨Itv.top, ItvInst.wf_top⟩

theorem WItv.mem_ofItv {r : Itv} {k : Int} (h : Itv.mem k r) : Itv.mem k (WItv.ofItv r).1 := by
  unfold WItv.ofItv
  by_cases hw : r.WF
  · simp only [dif_pos hw]; exact h
  · simp only [dif_neg hw]; exact Itv.mem_top _

/-- `x := x + k` on one-variable states, as a transformer of the two instances (`interval::
    operator+`; top on the CRAB_ERROR path, which is not reachable) -/
def itvAddK (k : Int) (i : WItv) : WItv :=
  match Itv.add i.1 (Itv.single k) with
  | some r => WItv.ofItv r
  | none => ⟨Itv.top, ItvInst.wf_top⟩

theorem itvAddK_sound (k : Int) : itvDom.TSound (itvAddK k) (fun s s' => s' = s + k) := by
  intro a s s' hg hr
  subst hr
  have hg : Itv.mem s a.1 := hg
  show Itv.mem (s + k) (itvAddK k a).1
  unfold itvAddK
  split
  · rename_i r hr
    exact WItv.mem_ofItv (Itv.add_sound hg ((Itv.mem_single k k).2 rfl) hr)
  · exact Itv.mem_top _

def congAddK (k : Int) : congDom.B → congDom.B := fun c => Cong.add c (Cong.ofInt k)

theorem congAddK_sound (k : Int) : congDom.TSound (congAddK k) (fun s s' => s' = s + k) := by
  intro a s s' hg hr
  subst hr
  exact Cong.add_sound hg ((Cong.mem_ofInt k k).2 rfl)

/-- a reduction hook in the sense of `reduce_variable`: a singleton interval outside the
    congruence makes both components bottom -/
def redIC : Unit → itvDom.B → congDom.B → itvDom.B × congDom.B := fun _ a b =>
  match a.1.singleton? with
  | some k => if b.contains k then (a, b) else (itvDom.bot, congDom.bot)
  | none => (a, b)

theorem redIC_sound : ∀ v a b s, itvDom.γ a s → congDom.γ b s →
    itvDom.γ (redIC v a b).1 s ∧ congDom.γ (redIC v a b).2 s := by
  intro v a b s ha hb
  unfold redIC
  split
  · rename_i k hk
    have : s = k := Itv.mem_of_singleton? hk ha
    subst this
    have : b.contains s = true := (Cong.contains_iff b s).2 hb
    simp [this]; exact ⟨ha, hb⟩
  · exact ⟨ha, hb⟩

end Fct
end Dom
end Crab
