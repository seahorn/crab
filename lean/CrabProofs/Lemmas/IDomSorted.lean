import CrabProofs.Lemmas.IDomFrame

/-!
  The map invariant of `separate_domain` (strictly increasing keys, i.e. at most one binding per
  variable) is preserved by every operation of the interval domain.  Stated for an arbitrary
  predicate on environments that holds of `top`, `bot` and is preserved by `set` / `forget`
  where only those are used (`assign`, `apply`, …; the solver is the case `K` = every key of
  IDomFrame.lean).
-/
namespace Crab
namespace IDom
open Lin

structure EnvInv (P : Env → Prop) : Prop where
  bot : P Env.bot
  top : P Env.top
  set : ∀ e k v, P e → P (e.set k v)
  forget : ∀ e k, P e → P (e.forget k)

section generic
variable {P : Env → Prop} (hP : EnvInv P)
include hP

omit hP in
theorem EnvInv.on (hP : EnvInv P) : EnvInvOn (fun _ => True) P := ⟨hP.bot, fun e k v _ h => hP.set e k v h⟩

theorem solverRun_inv (csts : Sys) (maxCycles : Nat) (env : Env) (h : P env) : P (solverRun csts maxCycles env) :=
  solverRun_on hP.on csts (fun _ _ _ _ => trivial) maxCycles env h

namespace Env
theorem addRaw_inv (e : Env) (csts : Sys) (h : P e) : P (e.addRaw csts) := by
  unfold addRaw; split
  · exact h
  · exact solverRun_inv hP _ _ _ h
theorem add_inv (e : Env) (csts : Sys) (h : P e) : P (e.add csts) :=
  add_on hP.on e csts (fun _ _ _ _ => trivial) h
theorem assign_inv (e : Env) (x : Var) (ex : Expr) (h : P e) : P (e.assign x ex) := by
  rw [assign_eq]; exact hP.set _ _ _ h
theorem applyVar_inv (e : Env) (op : ArithOp) (x y z : Var) (h : P e) : P (e.applyVar op x y z) := hP.set _ _ _ h
theorem applyCst_inv (e : Env) (op : ArithOp) (x y : Var) (k : Int) (h : P e) : P (e.applyCst op x y k) := hP.set _ _ _ h
theorem applyBitVar_inv (e : Env) (op : BitOp) (x y z : Var) (h : P e) : P (e.applyBitVar op x y z) := hP.set _ _ _ h
theorem applyBitCst_inv (e : Env) (op : BitOp) (x y : Var) (k : Int) (h : P e) : P (e.applyBitCst op x y k) := hP.set _ _ _ h
theorem select_inv (e : Env) (lhs : Var) (c : Cst) (e1 e2 : Expr) (h : P e) : P (e.select lhs c e1 e2) :=
  select_ind e lhs c e1 e2 (fun _ => h) (fun _ => assign_inv hP _ _ _ h) (fun _ => assign_inv hP _ _ _ h)
    (hP.set _ _ _ h)
theorem forgetAll_inv (e : Env) (vs : List Var) (h : P e) : P (e.forgetAll vs) := by
  unfold forgetAll; split
  · exact h
  · exact List.foldlRecOn _ _ h fun e he k _ => hP.forget e k he
theorem expand_inv (e : Env) (x nx : Var) (h : P e) : P (e.expand x nx) := by
  unfold expand; split
  · exact h
  · exact hP.set _ _ _ h
theorem project_inv (e : Env) (ks : List Var) (h : P e) : P (e.project ks) :=
  project_ind e ks (fun _ => h) (List.foldlRecOn _ _ hP.top fun _ he _ _ => hP.set _ _ _ he)
    (fun _ => List.foldlRecOn _ _ h fun e he k _ => hP.forget e k he)
theorem intCast_inv (e : Env) (z : Bool) (bw : Nat) (d s : Var) (h : P e) : P (e.intCast z bw d s) := by
  unfold intCast
  simp only []
  split
  · exact add_inv hP _ _ (assign_inv hP _ _ _ h)
  · exact assign_inv hP _ _ _ h
end Env
end generic

namespace Env

theorem sorted_bot : Sorted bot := by simp [Sorted, bot, Map.Sorted]
theorem sorted_top : Sorted top := by simp [Sorted, top, Map.Sorted]

theorem set_sorted (e : Env) (k : Var) (v : Itv) (h : e.Sorted) : (e.set k v).Sorted :=
  set_ind e k v (fun _ => h) (fun _ => sorted_bot) (fun _ _ => Map.store_sorted h k v)

theorem forget_sorted (e : Env) (k : Var) (h : e.Sorted) : (e.forget k).Sorted := set_sorted e k Itv.top h

theorem sortedInv : EnvInv Sorted := ⟨sorted_bot, sorted_top, set_sorted, forget_sorted⟩

theorem joinKey_sorted (e : Env) (k : Var) (v : Itv) (h : e.Sorted) : (e.joinKey k v).Sorted :=
  joinKey_ind e k v (fun _ => h) (fun _ => sorted_bot) (fun _ _ => Map.store_sorted h k _)

theorem weakAssign_sorted (e : Env) (x : Var) (ex : Expr) (h : e.Sorted) : (e.weakAssign x ex).Sorted := by
  rw [weakAssign_eq]; exact joinKey_sorted _ _ _ h

theorem upperWith_sorted (op : Itv → Itv → Itv) {a b : Env} (ha : a.Sorted) (hb : b.Sorted) : (upperWith op a b).Sorted := by
  unfold upperWith
  split
  · exact hb
  · split
    · exact ha
    · exact Map.mergeAbs_sorted op ha b.m

theorem lowerWith_sorted (op : Itv → Itv → Itv) {a : Env} (ha : a.Sorted) (b : Env) : (lowerWith op a b).Sorted := by
  unfold lowerWith
  split
  · exact sorted_bot
  · split
    · exact sorted_bot
    · exact Map.mergeKeep_sorted op ha b.m

theorem renameLoop_sorted (f t : List Var) (m : Map) (h : m.Sorted) : (renameLoop f t m).Sorted :=
  renameLoop_ind (Q := Map.Sorted) (fun m k nk v h _ => Map.remove_sorted (by
    split
    · exact Map.insert_sorted h _ _
    · exact h) k) f t m h

theorem rename_sorted {e e' : Env} {f t : List Var} (hr : e.rename f t = some e') (h : e.Sorted) : e'.Sorted :=
  rename_ind hr (fun _ => h) (fun _ _ => renameLoop_sorted _ _ _ h)

end Env
end IDom
end Crab
