import CrabProofs.Lemmas.CongruenceOps
import CrabProofs.Lemmas.IntervalBits

/-! Soundness lemmas for the bitwise operations and the shifts of `Crab.Cong`. -/
namespace Crab
namespace Cong

theorem eq_zero_of_isZero {x : Cong} {a : Int} (hz : x.isZero = true) (ha : mem a x) : a = 0 := by
  simp [isZero] at hz
  have := eq_of_mem_cst ha hz.1.2
  omega

theorem eq_neg_one_of_allOnes {x : Cong} {a : Int} (hz : x.allOnes = true) (ha : mem a x) : a = -1 := by
  simp [allOnes] at hz
  have := eq_of_mem_cst ha hz.1.2
  omega

theorem and_sound {x o : Cong} {a b : Int} (ha : mem a x) (hb : mem b o) :
    mem (ZNum.land a b) (and x o) := by
  rw [and, if_neg (not_bot_or ha hb)]
  by_cases ht : (x.isTop || o.isTop) = true
  · rw [if_pos ht]; exact mem_top _
  rw [if_neg ht]
  by_cases hz : (x.isZero || o.isZero) = true
  · rw [if_pos hz, mem_ofInt]
    rcases Bool.or_eq_true _ _ |>.mp hz with h | h
    · rw [eq_zero_of_isZero h ha]; exact ZNum.land_zero_left _
    · rw [eq_zero_of_isZero h hb]; exact ZNum.land_zero_right _
  rw [if_neg hz]
  by_cases h1 : x.allOnes = true
  · rw [if_pos h1, eq_neg_one_of_allOnes h1 ha, ZNum.land_neg_one_left]; exact hb
  rw [if_neg h1]
  by_cases h2 : o.allOnes = true
  · rw [if_pos h2, eq_neg_one_of_allOnes h2 hb, ZNum.land_neg_one_right]; exact ha
  rw [if_neg h2]
  by_cases h : x.a = 0 ∧ o.a = 0
  · rw [if_pos h, mem_ofInt, eq_of_mem_cst ha h.1, eq_of_mem_cst hb h.2]
  · rw [if_neg h]; exact mem_top _

theorem or_sound {x o : Cong} {a b : Int} (ha : mem a x) (hb : mem b o) :
    mem (ZNum.lor a b) (or x o) := by
  rw [or, if_neg (not_bot_or ha hb)]
  by_cases ht : (x.isTop || o.isTop) = true
  · rw [if_pos ht]; exact mem_top _
  rw [if_neg ht]
  by_cases hz : (x.allOnes || o.allOnes) = true
  · rw [if_pos hz, mem_ofInt]
    rcases Bool.or_eq_true _ _ |>.mp hz with h | h
    · rw [eq_neg_one_of_allOnes h ha]; exact ZNum.lor_neg_one_left _
    · rw [eq_neg_one_of_allOnes h hb]; exact ZNum.lor_neg_one_right _
  rw [if_neg hz]
  by_cases h1 : x.isZero = true
  · rw [if_pos h1, eq_zero_of_isZero h1 ha, ZNum.lor_zero_left]; exact hb
  rw [if_neg h1]
  by_cases h2 : o.isZero = true
  · rw [if_pos h2, eq_zero_of_isZero h2 hb, ZNum.lor_zero_right]; exact ha
  rw [if_neg h2]
  by_cases h : x.a = 0 ∧ o.a = 0
  · rw [if_pos h, mem_ofInt, eq_of_mem_cst ha h.1, eq_of_mem_cst hb h.2]
  · rw [if_neg h]; exact mem_top _

theorem xor_sound {x o : Cong} {a b : Int} (ha : mem a x) (hb : mem b o) :
    mem (ZNum.lxor a b) (xor x o) := by
  rw [xor, if_neg (not_bot_or ha hb)]
  by_cases ht : (x.isTop || o.isTop) = true
  · rw [if_pos ht]; exact mem_top _
  rw [if_neg ht]
  by_cases h1 : x.isZero = true
  · rw [if_pos h1, eq_zero_of_isZero h1 ha, ZNum.lxor_zero_left]; exact hb
  rw [if_neg h1]
  by_cases h2 : o.isZero = true
  · rw [if_pos h2, eq_zero_of_isZero h2 hb, ZNum.lxor_zero_right]; exact ha
  rw [if_neg h2]
  by_cases h : x.a = 0 ∧ o.a = 0
  · rw [if_pos h, mem_ofInt, eq_of_mem_cst ha h.1, eq_of_mem_cst hb h.2]
  · rw [if_neg h]; exact mem_top _

/-! ### right shifts (constants only; through the interval operations) -/

/-- a constant read back from an interval result is the value the interval operation is sound for -/
theorem mem_ofSingleton {i : Itv} {v : Int} (hv : Itv.mem v i) :
    mem v (match i.singleton? with | some n => ofInt n | none => top) := by
  cases hs : i.singleton? with
  | none => exact mem_top _
  | some n => exact (mem_ofInt _ _).mpr (Itv.mem_of_singleton? hs hv)

theorem ashr_sound {x o : Cong} {a k : Int} (ha : mem a x) (hk : mem k o) (hk0 : 0 ≤ k) :
    mem (a / 2 ^ k.toNat) (ashr x o) := by
  rw [ashr, if_neg (not_bot_or ha hk)]
  by_cases ht : (x.isTop || o.isTop) = true
  · rw [if_pos ht]; exact mem_top _
  rw [if_neg ht]
  by_cases hn : o.a = 0 ∧ o.b < 0
  · have := eq_of_mem_cst hk hn.1
    omega
  rw [if_neg hn]
  by_cases h : x.a = 0 ∧ o.a = 0
  · rw [if_pos h, ← eq_of_mem_cst ha h.1, ← eq_of_mem_cst hk h.2]
    exact mem_ofSingleton
      (Itv.ashr_sound ((Itv.mem_single a a).mpr rfl) ((Itv.mem_single k k).mpr rfl) hk0)
  · rw [if_neg h]; exact mem_top _

theorem lshr_sound {x o : Cong} {a k : Int} (ha : mem a x) (hk : mem k o) (hk0 : 0 ≤ k)
    (hk1 : k < 2 ^ 64) : mem (a / 2 ^ k.toNat) (lshr x o) := by
  rw [lshr, if_neg (not_bot_or ha hk)]
  by_cases ht : (x.isTop || o.isTop) = true
  · rw [if_pos ht]; exact mem_top _
  rw [if_neg ht]
  by_cases hn : o.a = 0 ∧ o.b < 0
  · have := eq_of_mem_cst hk hn.1
    omega
  rw [if_neg hn]
  by_cases h : x.a = 0 ∧ o.a = 0
  · rw [if_pos h, ← eq_of_mem_cst ha h.1, ← eq_of_mem_cst hk h.2]
    exact mem_ofSingleton
      (Itv.lshr_sound ((Itv.mem_single a a).mpr rfl) ((Itv.mem_single k k).mpr rfl) hk0 hk1)
  · rw [if_neg h]; exact mem_top _

theorem getUi_of_natAbs_lt {k : Int} (h : k.natAbs < 2 ^ 64) : ZNum.getUi k = k.natAbs := by
  unfold ZNum.getUi; exact Nat.mod_eq_of_lt h

theorem sub_one_dvd_pow_sub_one (y : Int) (n : Nat) : y - 1 ∣ y ^ n - 1 := by
  induction n with
  | zero => simp
  | succ n ih =>
    have : y ^ (n + 1) - 1 = (y ^ n - 1) * y + (y - 1) := by
      rw [Int.pow_succ, Int.sub_mul]; omega
    rw [this]
    exact Int.dvd_add (Int.dvd_trans ih (Int.dvd_mul_right _ _)) (Int.dvd_refl _)

/-- a non-negative member of a class whose residue `b` is the least non-negative one lies
    `b` plus a natural multiple of the modulus -/
theorem toNat_of_mem_residue {k a b : Int} (hk0 : 0 ≤ k) (hb0 : 0 ≤ b) (hlt : b.natAbs < a.natAbs)
    (h : a ∣ k - b) : ∃ m : Nat, k.toNat = b.natAbs + a.natAbs * m := by
  obtain ⟨q, hq⟩ := Int.natAbs_dvd.mpr h
  have hq0 : 0 ≤ q := by
    apply Classical.byContradiction
    intro hc
    have := Int.mul_le_mul_of_nonneg_left (show q ≤ -1 by omega) (Int.natCast_nonneg a.natAbs)
    omega
  refine ⟨q.toNat, ?_⟩
  have h2 : (q.toNat : Int) = q := Int.toNat_of_nonneg hq0
  have : (k.toNat : Int) = ((b.natAbs + a.natAbs * q.toNat : Nat) : Int) := by
    push_cast; rw [h2, ← hq]; omega
  exact_mod_cast this

/-- the class computed by `Shl` for a non-constant amount contains `a * (p * y^n)`: the factor
    `y^n` changes `x.b * p` by a multiple of `x.b * (y - 1)` -/
theorem shl_class_dvd {g xa xb a p y : Int} (n : Nat) (hg1 : g ∣ xa) (hg2 : g ∣ xb * (y - 1))
    (ha : xa ∣ a - xb) : g * p ∣ a * (p * y ^ n) - xb * p := by
  generalize hY : y ^ n = Y
  have e : a * (p * Y) - xb * p = ((a - xb) * Y + xb * (Y - 1)) * p := by grind
  rw [e]
  apply Int.mul_dvd_mul_right
  apply Int.dvd_add
  · exact Int.dvd_trans (Int.dvd_trans hg1 ha) (Int.dvd_mul_right _ _)
  · obtain ⟨t, ht⟩ := sub_one_dvd_pow_sub_one y n
    rw [← hY, ht, ← Int.mul_assoc]
    exact Int.dvd_trans hg2 (Int.dvd_mul_right _ _)

/-- the part of the domain of `Shl` on which its answer is right: a constant amount that fits
    a machine word, or a class whose residue is its least non-negative member (the code
    takes `2^|b'|` for a negative residue) and whose modulus fits a machine word -/
def shlSafe (o : Cong) : Prop :=
  (o.a = 0 ∧ o.b < 2 ^ 64) ∨ (o.a ≠ 0 ∧ 0 ≤ o.b ∧ o.b.natAbs < o.a.natAbs ∧ o.a.natAbs < 2 ^ 64)
instance (o : Cong) : Decidable (shlSafe o) := by unfold shlSafe; exact inferInstance

/-- a class of amounts in standard form whose modulus fits a machine word, with a member that
    does, is in the safe part -/
theorem shlSafe_of_wf {o : Cong} {k : Int} (hw : WF o) (hoa : o.a < 2 ^ 64) (hk : mem k o)
    (hk1 : k < 2 ^ 64) : shlSafe o := by
  obtain ⟨w1, w2, _⟩ := hw
  by_cases h0 : o.a = 0
  · exact Or.inl ⟨h0, by have := eq_of_mem_cst hk h0; omega⟩
  · obtain ⟨w3, w4⟩ := w2 h0
    exact Or.inr ⟨h0, w3, by omega, by omega⟩

theorem shl_sound_of_safe {x o : Cong} {a k : Int} (ha : mem a x) (hk : mem k o) (hk0 : 0 ≤ k)
    (hs : shlSafe o) : mem (a * 2 ^ k.toNat) (shl x o) := by
  rw [shl, if_neg (not_bot_or ha hk)]
  by_cases ht : (x.isTop || o.isTop) = true
  · rw [if_pos ht]; exact mem_top _
  rw [if_neg ht]
  rcases hs with ⟨hoa, hlt⟩ | ⟨hoa, hb0, hblt, halt⟩
  · have ek := eq_of_mem_cst hk hoa
    rw [if_pos hoa, ← ek, if_neg (by omega), mem_mk', ZNum.shl_eq hk0 (by omega), Int.one_mul,
      ← Int.sub_mul]
    exact Int.mul_dvd_mul_right _ ha.2
  · rw [if_neg hoa, mem_mk']
    simp only [ZNum.shl, getUi_of_natAbs_lt (show o.b.natAbs < 2 ^ 64 by omega),
      getUi_of_natAbs_lt halt, Int.one_mul]
    obtain ⟨m, hm⟩ := toNat_of_mem_residue hk0 hb0 hblt hk.2
    rw [hm, Int.pow_add, Int.pow_mul]
    exact shl_class_dvd m (gcd_dvd_left _ _) (gcd_dvd_right _ _) ha.2

end Cong
end Crab
