import CrabModel.Dom.Functors.Base

/-!
What the lemma files of all functors share: the case analysis of their binary operations
(`binop_cases`) and base operators read as lower / upper bounds (`LDom.LSound`, `LDom.foldl_join_sound`).
-/
namespace Crab
namespace Dom
namespace Fct

variable {A S : Type}

/-- The binary operations of the functors (`|`, `&`, `||`, `&&`, ...) answer one of their operands on
    two early tests and combine the operands otherwise: what holds of the three candidates holds
    of the result. -/
theorem binop_cases (Q : A → Prop) {c1 c2 : Prop} [Decidable c1] [Decidable c2] {x y z : A}
    (hx : c1 → Q x) (hy : ¬ c1 → c2 → Q y) (hz : ¬ c1 → ¬ c2 → Q z) :
    Q (if c1 then x else if c2 then y else z) := by
  by_cases h1 : c1
  · rw [if_pos h1]; exact hx h1
  · rw [if_neg h1]
    by_cases h2 : c2
    · rw [if_pos h2]; exact hy h1 h2
    · rw [if_neg h2]; exact hz h1 h2

/-- a sound lower-bound operator of the base (`&`, `&&`): the sibling of `LDom.USound` -/
def LDom.LSound (D : LDom S) (g : D.B → D.B → D.B) : Prop := ∀ a b s, D.γ a s → D.γ b s → D.γ (g a b) s

theorem LDom.lSound_meet (D : LDom S) : D.LSound D.meet := D.meet_sound
theorem LDom.lSound_narrow (D : LDom S) : D.LSound D.narrow := D.narrow_sound

theorem LDom.foldl_join_sound (D : LDom S) {α : Type} (g : α → D.B) (l : List α) (v : D.B) (s : S)
    (h : D.γ v s ∨ ∃ q ∈ l, D.γ (g q) s) : D.γ (l.foldl (fun acc q => D.join acc (g q)) v) s := by
  induction l generalizing v with
  | nil => exact h.elim id (fun ⟨_, hq, _⟩ => absurd hq List.not_mem_nil)
  | cons x xs ih =>
    refine ih _ (h.elim (fun h => Or.inl (D.join_l _ _ s h)) fun ⟨q, hq, hg⟩ => ?_)
    rcases List.mem_cons.1 hq with rfl | hq
    · exact Or.inl (D.join_r _ _ s hg)
    · exact Or.inr ⟨q, hq, hg⟩

end Fct
end Dom
end Crab
