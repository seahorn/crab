import CrabProofs.Lemmas.WInterval
import CrabModel.Dom.WIntDomain
import CrabProofs.Lemmas.PatriciaSepDomAt

/-!
  The environment of the wrapped interval domain: `separate_domain<variable_t, wrapped_interval>`
  = `SepDom WInt` with the lattice `WDom.wintLattice`.

  * `Inv e`   : the invariant of `separate_domain` (well-formed Patricia tree, no stored bottom or
                top, empty tree when bottom);
  * `Typed wd e` : the value bound to `v` is an interval of the declared width `wd v`;
  * `γ wd e σ` : `e` is not bottom and `σ v` belongs to the value of `v` read at width `wd v`, for
                every `v` (that `σ v < 2^(wd v)` is a separate hypothesis, `C13.StOk`).

  Everything is read through `at` (`CrabProofs/Lemmas/PatriciaSepDomAt.lean`, with the stored
  values "neither bottom nor top"): `γ` is `SepDom.Holds` of "`σ k` is a member at width `wd k`",
  and the typing, which depends on the key, says that every `at k` is `Good (wd k)`.
-/
namespace Crab
namespace WDom
open Patricia SepDom XDom WInt Lin WrapInt

local notation "WL" => wintLattice

/-- what the tree stores: neither bottom nor top -/
def St (x : WInt) : Prop := x.isBottom = false ∧ x.isTop = false
/-- weaker tree predicate used for the meet: not bottom -/
def NB (x : WInt) : Prop := x.isBottom = false

theorem ctx_sound (P : WInt → Prop) : (ctxOf WL).SoundOn P :=
  ⟨fun _ _ h => by simp [ctxOf] at h, fun x y _ h => by simpa [ctxOf, wintLattice] using h⟩

theorem vals : Vals WL St := ⟨top_isTop, rfl, fun _ h => h.2, fun _ h => h.1⟩

def Inv (e : Env) : Prop := SepDom.Inv St e
def Typed (wd : Ty) (e : Env) : Prop := ∀ k v, e.tree.lookup k = some v → Shape (wd k) v
def γ (wd : Ty) (e : Env) (σ : Var → Nat) : Prop := e.isBot = false ∧ ∀ k, mem (wd k) (σ k) (e.get k)

def upd (σ : Var → Nat) (x : Var) (n : Nat) : Var → Nat := fun y => if y = x then n else σ y

theorem inv_top : Inv Env.top := SepDom.inv_top
theorem inv_bot : Inv Env.bot := SepDom.inv_bottom
theorem typed_top (wd : Ty) : Typed wd Env.top := fun _ _ h => by simp [Env.top, XDom.Env.top, SepDom.top] at h
theorem typed_bot (wd : Ty) : Typed wd Env.bot := fun _ _ h => by simp [Env.bot, XDom.Env.bot, SepDom.bottom] at h

theorem get_good {wd : Ty} {e : Env} (ht : Typed wd e) (k : Var) : Good (wd k) (e.get k) := by
  rw [show e.get k = _ from atKey_eq (L := WL) e k]
  split
  · exact good_bottom _
  · cases h : e.tree.lookup k with
    | none => exact good_top _
    | some v => exact good_of_shape (ht k v h)

/-- conversely (top is never stored); it is enough to look at a non-bottom environment -/
theorem typed_of_get {wd : Ty} {e : Env} (he : Inv e) (h : e.isBot = false → ∀ k, Good (wd k) (e.get k)) :
    Typed wd e := fun k v hl => by
  cases nb : e.isBot
  · have := h nb k
    rw [show e.get k = _ from atKey_eq (L := WL) e k, nb, hl] at this
    exact good_shape this (he.1.val_of_lookup hl).2
  · rw [he.2 nb] at hl; cases hl

theorem not_γ_of_bot {wd : Ty} {e : Env} (h : e.isBot = true) (σ : Var → Nat) : ¬ γ wd e σ := by
  intro hg; rw [hg.1] at h; cases h

/-- `is_top()`: a yes answer describes every state -/
theorem γ_of_isTop {wd : Ty} {e : Env} (he : Inv e) (h : XDom.Env.isTop e = true) (σ : Var → Nat) :
    γ wd e σ :=
  ⟨((isTop_iff vals he).mp h).1, fun k => by
    rw [show e.get k = WInt.top from ((isTop_iff vals he).mp h).2 k]; exact mem_top _ _⟩

theorem γ_top (wd : Ty) (σ : Var → Nat) : γ wd Env.top σ := γ_of_isTop inv_top rfl σ

/-- **`_env.set(x, i)`**: the binding of `x` is replaced (a bottom value makes the environment
    bottom, a top value removes the binding); storing a value that contains `n` describes the
    state where `x` holds `n` -/
theorem set_spec {wd : Ty} {e : Env} (he : Inv e) {x : Var} (hx : x < 2 ^ 64) {i : WInt} :
    Inv (e.set x i) ∧ (Typed wd e → Good (wd x) i → Typed wd (e.set x i)) ∧
      ∀ σ n, γ wd e σ → mem (wd x) n i → γ wd (e.set x i) (upd σ x n) := by
  obtain ⟨hi, hb, hat⟩ := set_at (L := WL) (ctx_sound St) he hx (v := i) (fun a b => ⟨a, b⟩)
  refine ⟨hi, fun ht gi => typed_of_get hi fun nb k => ?_, fun σ n hg hn => ?_⟩
  · rw [show (e.set x i).get k = _ from hat nb k]
    split
    · next hk => subst hk; exact ite_elim _ (fun _ => good_top _) fun _ => gi
    · exact get_good ht k
  · have nb : (e.set x i).isBot = false := by
      rw [show (e.set x i).isBot = _ from hb, hg.1]; exact hn.1
    refine ⟨nb, fun k => ?_⟩
    rw [show (e.set x i).get k = _ from hat nb k]
    unfold upd
    split
    · next hk => subst hk; exact ite_elim _ (fun _ => mem_top _ _) fun _ => hn
    · exact hg.2 k

/-- every transformer computes a value (`none` = CRAB_ERROR) and stores it for the target -/
theorem store_eq {e r : Env} {x : Var} {o : Option WInt}
    (h : (match o with | none => none | some xi => some (e.set x xi)) = some r) :
    ∃ xi, o = some xi ∧ r = e.set x xi := by
  cases o with
  | none => cases h
  | some xi => exact ⟨xi, rfl, (Option.some.inj h).symm⟩

/-- `get_variable()` answers only on the expression `1 * v + 0` -/
theorem getVariable_some {ex : Expr} {v : Var} (h : getVariable ex = some v) :
    ex.terms = [(v, 1)] ∧ ex.cst = 0 := by
  unfold getVariable at h
  split at h
  · cases h
  split at h
  · next hc =>
    split at h
    · next v' c hts =>
      split at h
      · next h1 => obtain rfl := Option.some.inj h; exact ⟨h1 ▸ hts, hc.1⟩
      · cases h
    · cases h
  · cases h


theorem leq_self {x : WInt} (h : NB x) : x.leq x = true := by
  unfold WInt.leq
  cases x.isTop <;> simp [show x.isBottom = false from h]

theorem join_nonbot {x y : WInt} (hx : x.isBottom = false) (hy : y.isBottom = false) :
    (x.join y).isBottom = false :=
  join_ind (P := fun z => z.isBottom = false) x y hy hx rfl rfl rfl

theorem join_self {x : WInt} (h : St x) : x.join x = x := by
  unfold WInt.join; rw [if_pos (leq_self h.1)]

theorem widen_nonbot {x y : WInt} (hx : x.isBottom = false) (hy : y.isBottom = false) :
    (x.widen y).isBottom = false :=
  widen_ind (P := fun z => z.isBottom = false) x y hy hx rfl
    (fun _ _ _ _ _ => join_nonbot (join_nonbot hx hy) rfl)
    (fun _ _ _ _ _ => join_nonbot (join_nonbot hx hy) rfl) (fun _ _ _ => join_nonbot hy rfl)

theorem widen_self {x : WInt} (h : St x) : x.widen x = x := by
  unfold WInt.widen; simp [h.1, h.2, leq_self h.1]

section upper
variable {wd : Ty} {f : WInt → WInt → WInt}
  (hnb : ∀ x y, x.isBottom = false → y.isBottom = false → (f x y).isBottom = false)
  (hid : ∀ x, St x → f x x = x) (hw : ∀ k, wd k ≤ 64)
  {a b : Env} (ha : Inv a) (hb : Inv b) (ta : Typed wd a) (tb : Typed wd b)
include hnb hid hw ha hb ta tb

/-- an upper-bound operation of the values gives an upper bound of the environments -/
theorem upper_sound
    (hup : ∀ w, w ≤ 64 → ∀ x y, Shape w x → Shape w y → ∀ v, v < 2 ^ w → mem w v x ∨ mem w v y → mem w v (f x y))
    {σ : Var → Nat} (hσ : ∀ k, σ k < 2 ^ wd k) (hg : γ wd a σ ∨ γ wd b σ) :
    γ wd (SepDom.upper (ctxOf WL) WL f a b) σ :=
  upper_holds (ctx_sound St) (fun x y hx hy ht => ⟨hnb x y hx.1 hy.1, ht⟩) hid (fun _ hx => hx.2) ha hb
    (fun _ => mem_top _ _) (fun k x y l1 l2 => hup (wd k) (hw k) x y (ta k x l1) (tb k y l2) (σ k) (hσ k)) hg

theorem upper_inv (hsh : ∀ w, w ≤ 64 → ∀ x y, Shape w x → Shape w y → Good w (f x y)) :
    Inv (SepDom.upper (ctxOf WL) WL f a b) ∧ Typed wd (SepDom.upper (ctxOf WL) WL f a b) :=
  ⟨SepDom.upper_inv (ctx_sound St) (fun x y hx hy ht => ⟨hnb x y hx.1 hy.1, ht⟩) hid (fun _ hx => hx.2) ha hb,
   upper_stored (ctx_sound St) (fun x y hx hy ht => ⟨hnb x y hx.1 hy.1, ht⟩) hid (fun _ hx => hx.2) ha hb
    (T := fun k v => Shape (wd k) v) ta tb fun k x y hx hy ht => good_shape (hsh _ (hw k) x y hx hy) ht⟩

end upper

theorem widen_good {w : Nat} (hw : w ≤ 64) {x y : WInt} (hx : Shape w x) (hy : Shape w y) :
    Good w (x.widen y) := by
  have jg : ∀ {r q : WInt}, Good w r → Shape w q → Good w (r.join q) :=
    fun hr hq => (join_good hw hr (good_of_shape hq)).1
  refine widen_ind x y (good_of_shape hy) (good_of_shape hx) (good_top w) ?_ ?_ ?_ <;>
    intro hxb hyb <;>
    obtain ⟨s1, e1, h1, h2, rfl⟩ := shape_cases hx hxb <;>
    obtain ⟨s2, e2, h3, h4, rfl⟩ := shape_cases hy hyb
  · exact fun a b ha => jg (join_shape hx hy) (shape_mk2 rfl ha h1 (addT_lt hw a b ha))
  · exact fun a b ha => jg (join_shape hx hy) (shape_mk2 ha rfl (subT_lt hw a b ha) h2)
  · exact fun b => jg (good_of_shape hy) (shape_mk2 rfl rfl h3 (addT_lt hw _ b rfl))

/-- `operator-=(x)` -/
theorem forget_spec' {wd : Ty} {e : Env} (he : Inv e) (ht : Typed wd e) {x : Var} (hx : x < 2 ^ 64) :
    Inv (XDom.Env.forget WL e x) ∧ Typed wd (XDom.Env.forget WL e x) ∧
      ∀ σ, γ wd e σ → ∀ n, γ wd (XDom.Env.forget WL e x) (upd σ x n) := by
  unfold XDom.Env.forget
  cases nb : e.isBot
  · rw [if_neg Bool.false_ne_true]
    obtain ⟨hi, hb, hat⟩ := forget_at (L := WL) (ctx_sound St) he hx
    refine ⟨hi, typed_of_get hi fun _ k => ?_, fun σ hg n => ⟨hb.trans nb, fun k => ?_⟩⟩
    · rw [show Env.get _ k = _ from hat nb k]
      split
      · exact good_top _
      · exact get_good ht k
    · rw [show Env.get _ k = _ from hat nb k]
      unfold upd
      split
      · exact mem_top _ _
      · exact hg.2 k
  · rw [if_pos rfl]
    exact ⟨he, ht, fun σ hg => absurd hg (not_γ_of_bot nb σ)⟩

/-- a yes answer of `operator<=` is an inclusion of concretisations -/
theorem leq_sound {wd : Ty} (hw : ∀ k, wd k ≤ 64) {a b : Env} (ha : Inv a) (hb : Inv b)
    (ta : Typed wd a) (tb : Typed wd b) (h : XDom.Env.leq WL a b = true)
    {σ : Var → Nat} (hσ : ∀ k, σ k < 2 ^ wd k) (hg : γ wd a σ) : γ wd b σ :=
  leq_holds (L := WL) (ctx_sound St) (fun _ hx => leq_self hx.1) ha hb (fun _ => mem_top _ _)
    (fun k x y l1 l2 hl => WInt.leq_sound (hw k) (ta k x l1) (tb k y l2) (hσ k) hl) h hg

theorem meet_self {x : WInt} (h : NB x) : x.meet x = x := by
  unfold WInt.meet; rw [if_pos (leq_self h)]

/-- **`operator&` / `operator&&`** keep every common state.  The tree predicate is "not bottom"
    only: that the meet of two stored values is not top is not proved. -/
theorem meet_sound {wd : Ty} (hw : ∀ k, wd k ≤ 64) {a b : Env} (ha : Inv a) (hb : Inv b)
    (ta : Typed wd a) (tb : Typed wd b) {σ : Var → Nat} (hσ : ∀ k, σ k < 2 ^ wd k)
    (hga : γ wd a σ) (hgb : γ wd b σ) : γ wd (SepDom.lower (ctxOf WL) WL WInt.meet a b) σ :=
  lower_holds (L := WL) (g := WInt.meet) (P := NB) (ctx_sound NB) (fun _ _ _ _ h => h)
    (fun _ hx => meet_self hx) (fun _ hx => hx) ⟨ha.1.mono fun _ hv => hv.1, ha.2⟩ ⟨hb.1.mono fun _ hv => hv.1, hb.2⟩
    (fun _ => mem_top _ _) (fun _ _ h => h.1)
    (fun k x y l1 l2 => WInt.meet_sound (hw k) (ta k x l1) (tb k y l2) (hσ k)) hga hgb

end WDom
end Crab
