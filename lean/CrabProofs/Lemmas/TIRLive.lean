import CrabModel.Transform.Liveness
import CrabProofs.Lemmas.TIRSem

/-!
  Liveness: the specification `LiveAt` is what matters for executions (states that agree on
  the live variables have the same executions); every solution of the specification equations
  contains `LiveAt`; the coded liveness is such a solution when no block contains `unreachable`
  (or with the repair) and the seed reaches the exit block (or with the repair).
-/
namespace Crab
namespace TIR

theorem VarSet.mem_diff {a b : VarSet} {x : Var} : x ∈ VarSet.diff a b ↔ x ∈ a ∧ x ∉ b := by
  simp [VarSet.diff]

theorem VarSet.subset_iff {a b : VarSet} : VarSet.subset a b = true ↔ ∀ x, x ∈ a → x ∈ b := by
  simp [VarSet.subset]

theorem uses_unreachable {s : Stmt} (h : s.isUnreachable = true) : s.uses = [] := by
  cases s <;> simp_all [Stmt.isUnreachable, Stmt.uses]

theorem stepStmt_unreachable {s : Stmt} (σ : State) (hv : Int) (h : s.isUnreachable = true) :
    stepStmt s σ hv = .stop none .blocked := by
  cases s <;> simp_all [Stmt.isUnreachable, stepStmt]

theorem not_unreachable_of_cont {s : Stmt} {σ σ' : State} {hv : Int} {ev : Option Event}
    (h : stepStmt s σ hv = .cont σ' ev) : s.isUnreachable = false := by
  cases hu : s.isUnreachable with
  | false => rfl
  | true => rw [stepStmt_unreachable σ hv hu] at h; cases h

section
variable {P : Prog} {s : Stmt} {rest : List Stmt} {l : Label} {σ σ' : State} {hv : Int} {ev : Option Event}

/-- one statement, from two states that agree on what is live in front of it: the same step, and
    the successor states agree on what is live behind it -/
theorem LiveAt.step_cont {σ1 : State} (hag : ∀ y, LiveAt P (s :: rest) l y → σ y = σ' y)
    (hs : stepStmt s σ hv = .cont σ1 ev) :
    ∃ σ1', stepStmt s σ' hv = .cont σ1' ev ∧ ∀ y, LiveAt P rest l y → σ1 y = σ1' y := by
  obtain ⟨σ1', hs', hst⟩ := stepStmt_cont_agree (fun y hy => hag y (LiveAt.here hy)) hs
  refine ⟨σ1', hs', fun y hy => hst y ?_⟩
  by_cases hd : y ∈ s.defs
  · exact Or.inl hd
  · exact Or.inr (hag y (LiveAt.later (not_unreachable_of_cont hs) hd hy))

theorem LiveAt.step_stop {o : Outcome} (hag : ∀ y, LiveAt P (s :: rest) l y → σ y = σ' y)
    (hs : stepStmt s σ hv = .stop ev o) : stepStmt s σ' hv = .stop ev o :=
  stepStmt_stop_agree (fun y hy => hag y (LiveAt.here hy)) hs

theorem LiveAt.outputs_agree (hex : P.isExit l = true) (hag : ∀ y, LiveAt P [] l y → σ y = σ' y) :
    P.outputs.map σ = P.outputs.map σ' :=
  List.map_congr_left (fun y hy => hag y (LiveAt.out hex hy))

end

theorem exec_agree (P : Prog) {stmts : List Stmt} {l : Label} {σ : State} {t : List Event} {o : Outcome}
    (h : Exec P stmts l σ t o) :
    ∀ σ' : State, (∀ y, LiveAt P stmts l y → σ y = σ' y) → Exec P stmts l σ' t o := by
  induction h with
  | exit hex =>
    intro σ' hag
    rw [LiveAt.outputs_agree hex hag]
    exact Exec.exit hex
  | goto hex hmem _ ih =>
    intro σ' hag
    exact Exec.goto hex hmem (ih σ' (fun y hy => hag y (LiveAt.goto hex hmem hy)))
  | stuck hex hs =>
    intro σ' _
    exact Exec.stuck hex hs
  | cont hv hstep _ ih =>
    intro σ' hag
    obtain ⟨σ1', hs', hag'⟩ := LiveAt.step_cont hag hstep
    exact Exec.cont hv hs' (ih σ1' hag')
  | stop hv hstep =>
    intro σ' hag
    exact Exec.stop hv (LiveAt.step_stop hag hstep)

theorem mem_labels_of_block {P : Prog} {l : Label} {b : Block} (h : P.block? l = some b) :
    l ∈ P.labels :=
  List.mem_map.mpr ⟨b, block?_mem h⟩

theorem mem_labels_of_succ {P : Prog} {l l' : Label} (h : l' ∈ P.succsOf l) : l ∈ P.labels := by
  unfold Prog.succsOf at h
  cases hb : P.block? l with
  | none => rw [hb] at h; simp at h
  | some b => exact mem_labels_of_block hb

def Prog.exitPresent (P : Prog) : Prop := ∀ l, P.isExit l = true → l ∈ P.labels

theorem liveAt_sub_sol (P : Prog) (L : LiveMap) (hsol : isSpecSol P L = true) (hex : P.exitPresent)
    {stmts : List Stmt} {l : Label} {x : Var} (h : LiveAt P stmts l x) : x ∈ specIn stmts (L l) := by
  induction h with
  | @here s rest l x hu =>
    simp only [specIn]
    cases hs : s.isUnreachable with
    | true => rw [uses_unreachable hs] at hu; simp at hu
    | false => simp [hu]
  | later hnu hd _ ih =>
    simp only [specIn, hnu]
    simp only [Bool.false_eq_true, if_false, List.mem_append]
    exact Or.inl (VarSet.mem_diff.mpr ⟨ih, hd⟩)
  | @goto l l' x hne hmem _ ih =>
    simp only [specIn]
    have hl : l ∈ P.labels := mem_labels_of_succ hmem
    simp only [isSpecSol, List.all_eq_true] at hsol
    have h1 := hsol l hl
    simp only [hne, Bool.false_eq_true, if_false, List.all_eq_true] at h1
    exact (VarSet.subset_iff.mp (h1 l' hmem)) x ih
  | @out l x hx hm =>
    simp only [specIn]
    have hl : l ∈ P.labels := hex l hx
    simp only [isSpecSol, List.all_eq_true] at hsol
    have h1 := hsol l hl
    simp only [hx, if_true] at h1
    exact (VarSet.subset_iff.mp h1) x hm

def Prog.noUnreachable (P : Prog) : Bool :=
  P.blocks.all (fun b => b.stmts.all (fun s => !s.isUnreachable))

theorem killGen_spec (stmts : List Stmt) (hnu : stmts.all (fun s => !s.isUnreachable) = true) :
    ∃ kill gen, killGen stmts = some (kill, gen) ∧
      ∀ (out : VarSet) (x : Var), x ∈ specIn stmts out → x ∈ VarSet.diff out kill ++ gen := by
  induction stmts with
  | nil => exact ⟨[], [], rfl, fun out x hx => by simpa [specIn, VarSet.diff] using hx⟩
  | cons s rest ih =>
    simp only [List.all_cons, Bool.and_eq_true, Bool.not_eq_eq_eq_not, Bool.not_true] at hnu
    obtain ⟨kill, gen, hkg, hsp⟩ := ih hnu.2
    refine ⟨kill ++ s.defs, VarSet.diff gen s.defs ++ s.uses, ?_, ?_⟩
    · simp [killGen, hkg, hnu.1]
    · intro out x hx
      simp only [specIn, hnu.1, Bool.false_eq_true, if_false, List.mem_append] at hx
      simp only [List.mem_append]
      rcases hx with hx | hx
      · obtain ⟨h1, h2⟩ := VarSet.mem_diff.mp hx
        have := hsp out x h1
        simp only [List.mem_append] at this
        rcases this with h3 | h3
        · obtain ⟨h4, h5⟩ := VarSet.mem_diff.mp h3
          exact Or.inl (VarSet.mem_diff.mpr ⟨h4, by simp [h5, h2]⟩)
        · exact Or.inr (Or.inl (VarSet.mem_diff.mpr ⟨h3, h2⟩))
      · exact Or.inr (Or.inr hx)

theorem stmts_noUnreachable {P : Prog} (h : P.noUnreachable = true) (l : Label) :
    (P.stmtsOf l).all (fun s => !s.isUnreachable) = true := by
  unfold Prog.stmtsOf
  cases hb : P.block? l with
  | none => simp
  | some b =>
    simp only
    unfold Prog.noUnreachable at h
    rw [List.all_eq_true] at h
    exact h b (block?_mem hb).1

/-- `analyze` contains the specification transfer function when the block has no `unreachable`
    statement, or with the repair -/
theorem specIn_sub_blockIn (v : Variant) (P : Prog) (l : Label) (out : VarSet)
    (h : v.unreachGen = true ∨ P.noUnreachable = true) (x : Var)
    (hx : x ∈ specIn (P.stmtsOf l) out) : x ∈ blockIn v (P.stmtsOf l) out := by
  unfold blockIn
  cases hv : v.unreachGen with
  | true => simpa using hx
  | false =>
    simp only [Bool.false_eq_true, if_false]
    rcases h with h | h
    · rw [hv] at h; cases h
    · obtain ⟨kill, gen, hkg, hsp⟩ := killGen_spec (P.stmtsOf l) (stmts_noUnreachable h l)
      rw [hkg]
      exact hsp out x hx

theorem bwdPass_flag (v : Variant) (P : Prog) (seed : Option Label) :
    ∀ (order : List Label) (m : LiveMap), (bwdPass v P seed order m true).2 = true := by
  intro order
  induction order with
  | nil => intro m; rfl
  | cons n rest ih =>
    intro m
    simp only [bwdPass]
    split
    · exact ih m
    · exact ih _

/-- a round without change: the map is unchanged and every block of the order is stable -/
theorem bwdPass_stable (v : Variant) (P : Prog) (seed : Option Label) :
    ∀ (order : List Label) (m m' : LiveMap), bwdPass v P seed order m false = (m', false) →
      m' = m ∧ ∀ n, n ∈ order →
        VarSet.subset (blockIn v (P.stmtsOf n) (outOf P seed m n)) (m n) = true := by
  intro order
  induction order with
  | nil =>
    intro m m' h
    simp only [bwdPass, Prod.mk.injEq] at h
    exact ⟨h.1.symm, fun n hn => by simp at hn⟩
  | cons n rest ih =>
    intro m m' h
    simp only [bwdPass] at h
    split at h
    · rename_i hsub
      obtain ⟨h1, h2⟩ := ih m m' h
      refine ⟨h1, ?_⟩
      intro n' hn'
      rcases List.mem_cons.mp hn' with rfl | hn'
      · exact hsub
      · exact h2 n' hn'
    · have := bwdPass_flag v P seed rest (m.set n (blockIn v (P.stmtsOf n) (outOf P seed m n) ++ m n))
      rw [h] at this
      cases this

theorem bwdIter_stable (v : Variant) (P : Prog) (seed : Option Label) (order : List Label) :
    ∀ (fuel : Nat) (m r : LiveMap), bwdIter v P seed order fuel m = some r →
      ∀ n, n ∈ order → VarSet.subset (blockIn v (P.stmtsOf n) (outOf P seed r n)) (r n) = true := by
  intro fuel
  induction fuel with
  | zero => intro m r h; simp [bwdIter] at h
  | succ f ih =>
    intro m r h
    simp only [bwdIter] at h
    split at h
    · exact ih _ r h
    · rename_i m' heq
      simp only [Option.some.injEq] at h
      subst h
      obtain ⟨h1, h2⟩ := bwdPass_stable v P seed order m m' heq
      subst h1
      exact h2

/-- the seed reaches the exit block (always true with the repair, or when nothing is live at
    the exit) -/
def seedOk (v : Variant) (P : Prog) (order : List Label) : Prop :=
  ∀ x, P.exit = some x → seedLabel v P order = some x ∨ P.liveAtExit = []

theorem seedOk_cur (P : Prog) (order : List Label) : seedOk Variant.cur P order := by
  intro x hx
  left
  simp [seedLabel, Variant.cur, hx]

/-- the coded liveness is a solution of the specification equations under the stated
    hypotheses -/
theorem coded_isSpecSol (v : Variant) (P : Prog) (order : List Label) (L : LiveMap)
    (h : codedLiveOut v P order = some L)
    (hord : ∀ l, l ∈ P.labels → l ∈ order)
    (hsucc : ∀ l l', l' ∈ P.succsOf l → l' ∈ P.labels)
    (hun : v.unreachGen = true ∨ P.noUnreachable = true)
    (hseed : seedOk v P order) : isSpecSol P L = true := by
  unfold codedLiveOut at h
  simp only at h
  cases hit : bwdIter v P (seedLabel v P order) order ((P.blocks.length + 1) * (P.nvars + 2) + 2) (fun _ => []) with
  | none => rw [hit] at h; cases h
  | some inM =>
    rw [hit] at h
    simp only [Option.some.injEq] at h
    subst h
    have hst := bwdIter_stable v P _ order _ _ inM hit
    simp only [isSpecSol, List.all_eq_true]
    intro l hl
    have hlo : l ∈ order := hord l hl
    have hlo' : order.contains l = true := by simpa using hlo
    split
    · rename_i hx
      apply VarSet.subset_iff.mpr
      intro x hxm
      have hx' : P.exit = some l := isExit_iff.mp hx
      rcases hseed l hx' with hs | hs
      · simp [outOf, hs, hxm]
      · rw [hs] at hxm; simp at hxm
    · simp only [List.all_eq_true]
      intro l' hl'
      have hl'lab : l' ∈ P.labels := hsucc l l' hl'
      have hl'o : l' ∈ order := hord l' hl'lab
      have hl'o' : order.contains l' = true := by simpa using hl'o
      simp only [hl'o', if_true]
      apply VarSet.subset_iff.mpr
      intro x hx
      have h1 := specIn_sub_blockIn v P l' (outOf P (seedLabel v P order) inM l') hun x hx
      have h2 := (VarSet.subset_iff.mp (hst l' hl'o)) x h1
      simp only [outOf, List.mem_append, List.mem_flatMap]
      exact Or.inr ⟨l', hl', h2⟩

/-- a variable live at the end of a block for which the coded map answers the empty set -/
theorem coded_misses {v : Variant} {P : Prog} {order : List Label} {l : Label} {x : Var}
    (hout : (codedLiveOut v P order).map (fun L => L l) = some []) (hlive : LiveAt P [] l x) :
    ¬ ∀ L, codedLiveOut v P order = some L → ∀ l x, LiveAt P [] l x → x ∈ L l := by
  intro hS
  obtain ⟨L, hc, hL⟩ := Option.map_eq_some_iff.mp hout
  have := hS L hc l x hlive
  rw [hL] at this
  cases this

end TIR
end Crab
