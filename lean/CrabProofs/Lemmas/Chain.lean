/-!
  Counting and chains, independent of any domain: a strict gain in a `countP`, the pigeonhole
  behind every "|nodes| rounds of propagation suffice", sums of nonnegative terms, and the two facts on sequences `xₖ₊₁ = xₖ ∇ yₖ` behind every termination statement of C05:
  an infinite strictly descending sequence refutes well-foundedness, and a natural-number measure
  that drops on every uncovered step bounds the position of the first covered `yₖ`.
-/
namespace Crab


theorem countP_lt_of_imp {α : Type} (p q : α → Bool) (l : List α) (himp : ∀ x, p x = true → q x = true)
    (a : α) (ha : a ∈ l) (hq : q a = true) (hp : p a = false) : l.countP p < l.countP q := by
  induction l with
  | nil => cases ha
  | cons b t ih =>
    have hle : t.countP p ≤ t.countP q := List.countP_mono_left (fun x _ => himp x)
    rcases List.mem_cons.1 ha with rfl | hat
    · rw [List.countP_cons_of_neg (by simp [hp]), List.countP_cons_of_pos hq]
      omega
    · have := ih hat
      rw [List.countP_cons, List.countP_cons]
      cases hpb : p b
      · simp; split <;> omega
      · simp [himp b hpb]; omega

open Classical in
/-- Rounds `R 0 ⊆ R 1 ⊆ …` of a propagation whose new members come from a list `l`, and in which a
    round that adds nothing is followed by a round that adds nothing: whatever some round marks is
    marked by round `|l|`.  (While rounds add something the number of marked members of `l` grows,
    and it is at most `|l|`.) -/
theorem rounds_saturate {α : Type} (R : Nat → α → Prop) (l : List α)
    (mono : ∀ k a, R k a → R (k + 1) a)
    (supp : ∀ k a, R (k + 1) a → ¬ R k a → a ∈ l)
    (next : ∀ k, (∀ a, R (k + 1) a → R k a) → ∀ a, R (k + 2) a → R (k + 1) a)
    {k : Nat} {a : α} (h : R k a) : R l.length a := by
  have mono_le : ∀ {i j : Nat}, i ≤ j → ∀ a, R i a → R j a := by
    intro i j hij a ha
    induction hij with
    | refl => exact ha
    | step _ ih => exact mono _ a ih
  -- some round `j ≤ |l|` adds nothing
  have hex : ∃ j, j ≤ l.length ∧ ∀ a, R (j + 1) a → R j a := by
    apply Classical.byContradiction
    intro hno
    have hgrow : ∀ j, j ≤ l.length + 1 → j ≤ l.countP (fun a => decide (R j a)) := by
      intro j
      induction j with
      | zero => exact fun _ => Nat.zero_le _
      | succ j ih =>
        intro hj
        have hns : ¬ ∀ a, R (j + 1) a → R j a := fun hs => hno ⟨j, by omega, hs⟩
        obtain ⟨z, hz⟩ := Classical.not_forall.1 hns
        obtain ⟨hz1, hz2⟩ := Classical.not_imp.1 hz
        have := countP_lt_of_imp (fun a => decide (R j a)) (fun a => decide (R (j + 1) a)) l
          (fun a ha => decide_eq_true (mono j a (of_decide_eq_true ha))) z (supp j z hz1 hz2)
          (decide_eq_true hz1) (decide_eq_false hz2)
        have := ih (by omega)
        omega
    have h1 := hgrow (l.length + 1) (Nat.le_refl _)
    have h2 := List.countP_le_length (p := fun a => decide (R (l.length + 1) a)) (l := l)
    omega
  obtain ⟨j, hj, hst⟩ := hex
  -- and then no later round does
  have hsti : ∀ i a, R (j + i + 1) a → R (j + i) a := by
    intro i
    induction i with
    | zero => exact hst
    | succ i ih => exact next _ ih
  have hall : ∀ i a, R (j + i) a → R j a := by
    intro i
    induction i with
    | zero => exact fun a ha => ha
    | succ i ih => exact fun a ha => ih a (hsti i a ha)
  refine mono_le hj a ?_
  by_cases hkj : k ≤ j
  · exact mono_le hkj a h
  · exact hall (k - j) a (by rwa [show j + (k - j) = k by omega])

theorem sum_map_const {α : Type} (l : List α) (c : Nat) : (l.map fun _ => c).sum = l.length * c := by
  induction l with
  | nil => simp
  | cons a t ih => simp [ih, Nat.succ_mul, Nat.add_comm]

theorem sum_map_nonneg {α : Type} {f : α → Int} (hf : ∀ a, 0 ≤ f a) (l : List α) : 0 ≤ (l.map f).sum := by
  induction l with
  | nil => simp
  | cons b l ih => have := hf b; rw [List.map_cons, List.sum_cons]; omega

theorem le_sum_map {α : Type} {f : α → Int} (hf : ∀ a, 0 ≤ f a) {l : List α} {a : α} (ha : a ∈ l) :
    f a ≤ (l.map f).sum := by
  induction l with
  | nil => cases ha
  | cons b l ih =>
    have hb := hf b
    have hs := sum_map_nonneg hf l
    rw [List.map_cons, List.sum_cons]
    rcases List.mem_cons.1 ha with rfl | ha
    · omega
    · have := ih ha; omega


theorem not_wf_of_chain {A : Type} (r : A → A → Prop) (f : Nat → A) (h : ∀ k, r (f (k + 1)) (f k)) :
    ¬ WellFounded r := by
  intro wf
  have : ∀ a, Acc r a → ∀ k, f k ≠ a := by
    intro a ha
    induction ha with
    | intro a _ ih =>
      intro k hk
      exact ih (f (k + 1)) (hk ▸ h k) (k + 1) rfl
  exact this (f 0) (wf.apply _) 0 rfl

/-- position of the first covered value along `xₖ₊₁ = xₖ ∇ yₖ` when the measure decreases on the
    strict steps from values satisfying an invariant `P` of the widening -/
theorem chain_first_stationary_on {A B : Type} (P : A → Prop) (leq : B → A → Bool) (widen : A → B → A)
    (μ : A → Nat) (hP : ∀ x y, P x → P (widen x y))
    (hdec : ∀ x y, P x → leq y x = false → μ (widen x y) < μ x)
    (xs : Nat → A) (ys : Nat → B) (h0 : P (xs 0)) (hstep : ∀ k, xs (k + 1) = widen (xs k) (ys k)) :
    ∃ k, k ≤ μ (xs 0) ∧ leq (ys k) (xs k) = true := by
  have hPk : ∀ k, P (xs k) := by
    intro k
    induction k with
    | zero => exact h0
    | succ k ih => rw [hstep]; exact hP _ _ ih
  suffices h : ∀ b m, μ (xs m) = b → ∃ k, m ≤ k ∧ k ≤ m + b ∧ leq (ys k) (xs k) = true by
    obtain ⟨k, _, h2, h3⟩ := h _ 0 rfl
    exact ⟨k, by omega, h3⟩
  intro b
  induction b using Nat.strongRecOn with
  | ind b ih =>
    intro m hm
    cases hl : leq (ys m) (xs m)
    · have hlt := hdec (xs m) (ys m) (hPk m) hl
      rw [← hstep m, hm] at hlt
      obtain ⟨k, h1, h2, h3⟩ := ih _ hlt (m + 1) rfl
      exact ⟨k, by omega, by omega, h3⟩
    · exact ⟨m, Nat.le_refl _, by omega, hl⟩

end Crab
