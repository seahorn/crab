import CrabProofs.Lemmas.FunctorUf

/-!
`uf_domain`: `map_leq` and `operator<=` (after repo commit 7d37137: the loop runs over the
variables of the RIGHT operand).  A successful run leaves a functional map `M` from the terms of
the right table to terms of the left table that commutes with constants and applications; a
valuation of the left table then induces one of the right table.
-/
namespace Crab
namespace Dom
namespace Fct
namespace Uf
set_option linter.unusedSectionVars false

variable {V F : Type} [DecidableEq V] [DecidableEq F] (I : F → List Int → Int)

abbrev TMap (F : Type) := List (Term F × Term F)

mutual
/-- `tx` is the image of `ty`, its arguments are mapped by `M` -/
def Rel (M : TMap F) : Term F → Term F → Prop
  | _, .var _ => True
  | tx, .const k => tx = .const k
  | tx, .app g ys => ∃ xs, tx = .app g xs ∧ RelL M xs ys
def RelL (M : TMap F) : List (Term F) → List (Term F) → Prop
  | xs, [] => xs = []
  | xs, y :: ys => ∃ x xs', xs = x :: xs' ∧ look M y = some x ∧ RelL M xs' ys
end

def MOK (M : TMap F) : Prop := ∀ ty tx, look M ty = some tx → Rel M tx ty
def Sub (M M' : TMap F) : Prop := ∀ k v, look M k = some v → look M' k = some v

theorem Sub.refl (M : TMap F) : Sub M M := fun _ _ h => h
theorem Sub.trans {M M' M'' : TMap F} (h1 : Sub M M') (h2 : Sub M' M'') : Sub M M'' :=
  fun k v h => h2 k v (h1 k v h)

theorem sub_cons {M : TMap F} {k v : Term F} (h : look M k = none) : Sub M ((k, v) :: M) := by
  intro k' v' h'
  by_cases he : k = k'
  · subst he; rw [h] at h'; cases h'
  · rw [look_cons_ne _ _ he]; exact h'

theorem rel_mono_both {M M' : TMap F} (h : Sub M M') :
    (∀ ty tx : Term F, Rel M tx ty → Rel M' tx ty) ∧ (∀ ys xs : List (Term F), RelL M xs ys → RelL M' xs ys) := by
  refine Term.ind ?_ ?_ ?_ ?_ ?_
  · intro n tx _; simp [Rel]
  · intro k tx hr; simp only [Rel] at hr ⊢; exact hr
  · intro g ys ih tx hr
    simp only [Rel] at hr ⊢
    obtain ⟨xs, h1, h2⟩ := hr
    exact ⟨xs, h1, ih xs h2⟩
  · intro xs hr; simp only [RelL] at hr ⊢; exact hr
  · intro y ys _ ih xs hr
    simp only [RelL] at hr ⊢
    obtain ⟨x, xs', h1, h2, h3⟩ := hr
    exact ⟨x, xs', h1, h _ _ h2, ih xs' h3⟩

theorem mok_cons {M : TMap F} {k v : Term F} (hm : MOK M) (hn : look M k = none)
    (hr : Rel ((k, v) :: M) v k) : MOK ((k, v) :: M) := by
  intro ty tx hl
  by_cases he : k = ty
  · subst he
    rw [look_cons_self] at hl; cases hl
    exact hr
  · rw [look_cons_ne _ _ he] at hl
    exact (rel_mono_both (sub_cons hn)).1 ty tx (hm ty tx hl)

/-! ### how `map_leq` succeeds -/

/-- on a memo hit the remembered image is `tx` and nothing changes; otherwise `ty ↦ tx` is put on top
    of what the arguments added (nothing for a variable or the constant itself) -/
theorem mapLeq_some {tx ty : Term F} {M M' : TMap F} : mapLeq tx ty M = some M' →
    (look M ty = some tx ∧ M' = M) ∨
    (look M ty = none ∧ ∃ M1, M' = (ty, tx) :: M1 ∧
      match ty with
      | .var _ => M1 = M
      | .const _ => tx = ty ∧ M1 = M
      | .app g ys => ∃ xs, tx = .app g xs ∧ xs.length = ys.length ∧ mapLeqL xs ys M = some M1) := by
  intro h
  cases hl : look M ty with
  | some r =>
    have e : mapLeq tx ty M = if r = tx then some M else none := by
      cases ty <;> (unfold mapLeq; simp only [hl])
    rw [e] at h
    split at h
    · rename_i he; cases h; exact Or.inl ⟨he ▸ rfl, rfl⟩
    · cases h
  | none =>
    refine Or.inr ⟨rfl, ?_⟩
    unfold mapLeq at h
    cases ty with
    | var n => simp only [hl] at h; cases h; exact ⟨M, rfl, rfl⟩
    | const c =>
      simp only [hl] at h
      split at h
      · rename_i he; cases h; exact ⟨M, rfl, he, rfl⟩
      · cases h
    | app g ys =>
      simp only [hl] at h
      cases tx with
      | app f xs =>
        simp only at h
        split at h
        · rename_i hc
          obtain ⟨rfl, hlen⟩ := hc
          split at h
          · rename_i M1 h1; cases h; exact ⟨M1, rfl, xs, rfl, hlen, h1⟩
          · cases h
        · cases h
      | _ => cases h

/-! ### new keys are no larger than the term they come from -/

theorem mapLeq_keys_both :
    (∀ (ty tx : Term F) (M M' : TMap F), mapLeq tx ty M = some M' →
      ∀ k, look M' k ≠ none → look M k ≠ none ∨ k.size ≤ ty.size) ∧
    (∀ (ys xs : List (Term F)) (M M' : TMap F), mapLeqL xs ys M = some M' →
      ∀ k, look M' k ≠ none → look M k ≠ none ∨ k.size ≤ Term.sizeL ys) := by
  have miss : ∀ {tx ty : Term F} {M M1 : TMap F} {k : Term F}, look ((ty, tx) :: M1) k ≠ none →
      (look M1 k ≠ none → look M k ≠ none ∨ k.size < ty.size) →
      look M k ≠ none ∨ k.size ≤ ty.size := by
    intro tx ty M M1 k hk h1
    by_cases he : ty = k
    · exact Or.inr (he ▸ Nat.le_refl _)
    · rw [look_cons_ne _ _ he] at hk
      exact (h1 hk).imp_right Nat.le_of_lt
  refine Term.ind ?_ ?_ ?_ ?_ ?_
  · intro n tx M M' h k hk
    rcases mapLeq_some h with ⟨_, rfl⟩ | ⟨_, M1, rfl, rfl⟩
    · exact Or.inl hk
    · exact miss hk Or.inl
  · intro c tx M M' h k hk
    rcases mapLeq_some h with ⟨_, rfl⟩ | ⟨_, M1, rfl, _, rfl⟩
    · exact Or.inl hk
    · exact miss hk Or.inl
  · intro g ys ih tx M M' h k hk
    rcases mapLeq_some h with ⟨_, rfl⟩ | ⟨_, M1, rfl, xs, _, _, h1⟩
    · exact Or.inl hk
    · exact miss hk fun hk1 => (ih xs M M1 h1 k hk1).imp_right fun h2 => by simp only [Term.size]; omega
  · intro xs M M' h k hk
    cases xs <;> (simp only [mapLeqL] at h; cases h; exact Or.inl hk)
  · intro y ys ih1 ih2 xs M M' h k hk
    cases xs with
    | nil => simp only [mapLeqL] at h; cases h; exact Or.inl hk
    | cons x xs =>
      simp only [mapLeqL] at h
      split at h
      · rename_i M1 h1
        rcases ih2 xs M1 M' h k hk with h2 | h2
        · exact (ih1 x M M1 h1 k h2).imp_right fun h3 => by simp only [Term.sizeL]; omega
        · exact Or.inr (by simp only [Term.sizeL]; omega)
      · cases h

theorem mapLeq_keys : (tx ty : Term F) → (M M' : TMap F) → mapLeq tx ty M = some M' →
    ∀ k, look M' k ≠ none → look M k ≠ none ∨ k.size ≤ ty.size :=
  fun tx ty => mapLeq_keys_both.1 ty tx
/-! ### the specification of `map_leq` -/

theorem mapLeq_spec_both :
    (∀ (ty tx : Term F) (M M' : TMap F), MOK M → mapLeq tx ty M = some M' →
      MOK M' ∧ Sub M M' ∧ look M' ty = some tx) ∧
    (∀ (ys xs : List (Term F)) (M M' : TMap F), MOK M → xs.length = ys.length →
      mapLeqL xs ys M = some M' → MOK M' ∧ Sub M M' ∧ RelL M' xs ys) := by
  refine Term.ind ?_ ?_ ?_ ?_ ?_
  · intro n tx M M' hm h
    rcases mapLeq_some h with ⟨hl, rfl⟩ | ⟨hl, M1, rfl, rfl⟩
    · exact ⟨hm, Sub.refl _, hl⟩
    · exact ⟨mok_cons hm hl (by simp [Rel]), sub_cons hl, look_cons_self _ _ _⟩
  · intro c tx M M' hm h
    rcases mapLeq_some h with ⟨hl, rfl⟩ | ⟨hl, M1, rfl, he, rfl⟩
    · exact ⟨hm, Sub.refl _, hl⟩
    · exact ⟨mok_cons hm hl (by simp only [Rel]; exact he), sub_cons hl, look_cons_self _ _ _⟩
  · intro g ys ih tx M M' hm h
    rcases mapLeq_some h with ⟨hl, rfl⟩ | ⟨hl, M1, rfl, xs, rfl, hlen, h1⟩
    · exact ⟨hm, Sub.refl _, hl⟩
    · obtain ⟨a1, a2, a3⟩ := ih xs M M1 hm hlen h1
      -- the arguments are smaller than `ty`: they did not add `ty` itself
      have hn : look M1 (Term.app g ys) = none := by
        cases hx : look M1 (Term.app g ys) with
        | none => rfl
        | some w =>
          rcases mapLeq_keys_both.2 ys xs M M1 h1 (Term.app g ys) (by rw [hx]; simp) with h2 | h2
          · exact absurd hl h2
          · simp only [Term.size] at h2; omega
      refine ⟨mok_cons a1 hn ?_, Sub.trans a2 (sub_cons hn), look_cons_self _ _ _⟩
      simp only [Rel]
      exact ⟨xs, rfl, (rel_mono_both (sub_cons hn)).2 ys xs a3⟩
  · intro xs M M' hm hlen h
    cases xs with
    | nil => simp only [mapLeqL] at h; cases h; exact ⟨hm, Sub.refl _, by simp [RelL]⟩
    | cons _ _ => simp at hlen
  · intro y ys ih1 ih2 xs M M' hm hlen h
    cases xs with
    | nil => simp at hlen
    | cons x xs =>
      simp only [mapLeqL] at h
      simp only [List.length_cons, Nat.add_right_cancel_iff] at hlen
      split at h
      · rename_i M1 h1
        obtain ⟨a1, a2, a3⟩ := ih1 x M M1 hm h1
        obtain ⟨b1, b2, b3⟩ := ih2 xs M1 M' a1 hlen h
        refine ⟨b1, Sub.trans a2 b2, ?_⟩
        simp only [RelL]
        exact ⟨x, xs, rfl, b2 _ _ a3, b3⟩
      · cases h

theorem mapLeqL_spec : (xs ys : List (Term F)) → (M M' : TMap F) → MOK M → xs.length = ys.length →
    mapLeqL xs ys M = some M' → MOK M' ∧ Sub M M' ∧ RelL M' xs ys :=
  fun xs ys => mapLeq_spec_both.2 ys xs

/-! ### from the map to a valuation of the right table -/

/-- the valuation of the right table induced by `M` and a valuation `ρ` of the left table -/
def pull (M : TMap F) (ρ : Nat → Int) : Nat → Int := fun n =>
  match look M (.var n) with
  | some tx => tx.eval I ρ
  | none => 0

theorem pull_eval_both {M : TMap F} (hm : MOK M) (ρ : Nat → Int) :
    (∀ ty tx : Term F, look M ty = some tx → ty.eval I (pull I M ρ) = tx.eval I ρ) ∧
    (∀ ys xs : List (Term F), RelL M xs ys → Term.evalL I (pull I M ρ) ys = Term.evalL I ρ xs) := by
  refine Term.ind ?_ ?_ ?_ ?_ ?_
  · intro n tx hl; simp [Term.eval, pull, hl]
  · intro k tx hl
    have := hm _ _ hl
    simp only [Rel] at this
    rw [this]; simp [Term.eval]
  · intro g ys ih tx hl
    have := hm _ _ hl
    simp only [Rel] at this
    obtain ⟨xs, rfl, hr⟩ := this
    simp only [Term.eval]
    rw [ih xs hr]
  · intro xs hr; simp only [RelL] at hr; subst hr; rfl
  · intro y ys ih1 ih2 xs hr
    simp only [RelL] at hr
    obtain ⟨x, xs', rfl, h2, h3⟩ := hr
    simp only [Term.evalL]
    rw [ih1 x h2, ih2 xs' h3]

theorem pull_evalL {M : TMap F} (hm : MOK M) (ρ : Nat → Int) :
    (ys xs : List (Term F)) → RelL M xs ys → Term.evalL I (pull I M ρ) ys = Term.evalL I ρ xs :=
  (pull_eval_both I hm ρ).2

/-! ### the loop of `operator<=` -/

theorem leqGo_spec (s : St V) : (rest : List (V × Term F)) → (left : UVal V F) → left.WF → (M : TMap F) →
    MOK M → (ρ : Nat → Int) → Mod I ρ left.map s → leqGo rest left M = true →
    ∃ ρ' M', Ext left.next ρ ρ' ∧ MOK M' ∧ Sub M M' ∧
      ∀ p ∈ rest, ∃ tx, look M' p.2 = some tx ∧ tx.eval I ρ' = s p.1
  | [], left, _, M, hm, ρ, _, _ => ⟨ρ, M, Ext.refl _ _, hm, Sub.refl _, fun p hp => by simp at hp⟩
  | (v, ty) :: rest, left, hw, M, hm, ρ, hmod, h => by
    simp only [leqGo] at h
    split at h
    · rename_i M1 h1
      obtain ⟨ρ1, a1, a2, a3⟩ := termOfVar_spec I v hw hmod
      have w1 := termOfVar_wf v hw
      obtain ⟨m1, m2, m3⟩ := mapLeq_spec_both.1 ty _ M M1 hm h1
      obtain ⟨ρ2, M2, b1, b2, b3, b4⟩ := leqGo_spec s rest (left.termOfVar v).2 w1.1 M1 m1 ρ1 a2 h
      refine ⟨ρ2, M2, Ext.trans a1 b1 (termOfVar_next left v), b2, Sub.trans m2 b3, ?_⟩
      intro p hp
      rcases List.mem_cons.1 hp with rfl | hp
      · refine ⟨(left.termOfVar v).1, b3 _ _ m3, ?_⟩
        rw [Term.eval_ext I b1 _ w1.2, a3]
      · exact b4 p hp
    · cases h

theorem leq_sound {a b : UF V F} (ha : a.WF) (h : UF.leq a b = true) (s : St V) (hg : UF.γ I a s) :
    UF.γ I b s := by
  match a, b with
  | .bot, _ => exact absurd hg id
  | .val ua, .bot => simp [UF.leq] at h
  | .val ua, .val ub =>
    obtain ⟨ρ, hm⟩ := hg
    simp only [UF.leq] at h
    obtain ⟨ρ', M', _, h2, _, h4⟩ := leqGo_spec I s ub.map ua ha [] (fun _ _ hl => by simp [look] at hl) ρ hm h
    refine ⟨pull I M' ρ', ?_⟩
    intro p hp
    obtain ⟨tx, hl, he⟩ := h4 p hp
    rw [(pull_eval_both I h2 ρ').1 p.2 tx hl, he]

/-! ### reflexivity (on maps without duplicate keys: `flat_map`) -/

def IdM (M : TMap F) : Prop := ∀ k v, look M k = some v → v = k

theorem idM_cons {M : TMap F} (h : IdM M) (t : Term F) : IdM ((t, t) :: M) := by
  intro k v hl
  by_cases he : t = k
  · subst he; rw [look_cons_self] at hl; cases hl; rfl
  · rw [look_cons_ne _ _ he] at hl; exact h k v hl

theorem mapLeq_refl_both :
    (∀ (t : Term F) (M : TMap F), IdM M → ∃ M', mapLeq t t M = some M' ∧ IdM M') ∧
    (∀ (ts : List (Term F)) (M : TMap F), IdM M → ∃ M', mapLeqL ts ts M = some M' ∧ IdM M') := by
  -- a memo hit answers yes because the memo is the identity
  have hit : ∀ {t r : Term F} {M : TMap F}, IdM M → look M t = some r →
      (if r = t then some M else none) = some M := fun h hl => by rw [h _ _ hl, if_pos rfl]
  refine Term.ind ?_ ?_ ?_ ?_ ?_
  · intro n M h
    simp only [mapLeq]
    cases hl : look M (Term.var n) with
    | none => exact ⟨_, rfl, idM_cons h _⟩
    | some r => exact ⟨M, hit h hl, h⟩
  · intro k M h
    simp only [mapLeq]
    cases hl : look M (Term.const k) with
    | none => simp only [if_true]; exact ⟨_, rfl, idM_cons h _⟩
    | some r => exact ⟨M, hit h hl, h⟩
  · intro f xs ih M h
    unfold mapLeq
    cases hl : look M (Term.app f xs) with
    | some r => exact ⟨M, hit h hl, h⟩
    | none =>
      obtain ⟨M1, h1, h2⟩ := ih M h
      simp only [and_self, if_true, h1]
      exact ⟨_, rfl, idM_cons h2 _⟩
  · intro M h; exact ⟨M, by simp [mapLeqL], h⟩
  · intro t ts ih1 ih2 M h
    obtain ⟨M1, h1, h2⟩ := ih1 M h
    obtain ⟨M2, h3, h4⟩ := ih2 M1 h2
    exact ⟨M2, by simp only [mapLeqL, h1, h3], h4⟩

theorem mapLeqL_refl : (ts : List (Term F)) → (M : TMap F) → IdM M → ∃ M', mapLeqL ts ts M = some M' ∧ IdM M' :=
  mapLeq_refl_both.2

/-- no variable is tracked twice (`flat_map`) -/
def KeysNodup (m : List (V × Term F)) : Prop := (m.map (·.1)).Nodup

theorem look_of_nodup {m : List (V × Term F)} (hn : KeysNodup m) {p : V × Term F} (hp : p ∈ m) :
    look m p.1 = some p.2 := by
  induction m with
  | nil => simp at hp
  | cons q r ih =>
    obtain ⟨k, t⟩ := q
    simp only [KeysNodup, List.map_cons, List.nodup_cons] at hn
    rcases List.mem_cons.1 hp with rfl | hp
    · simp [look]
    · have hne : k ≠ p.1 := by
        intro he
        apply hn.1
        rw [he]
        exact List.mem_map.2 ⟨p, hp, rfl⟩
      rw [look_cons_ne _ _ hne]
      exact ih hn.2 hp

theorem leqGo_refl (left : UVal V F) (hn : KeysNodup left.map) :
    (rest : List (V × Term F)) → (∀ p ∈ rest, p ∈ left.map) → (M : TMap F) → IdM M → leqGo rest left M = true
  | [], _, _, _ => rfl
  | (v, ty) :: rest, hsub, M, h => by
    have hl : look left.map v = some ty := look_of_nodup hn (hsub (v, ty) List.mem_cons_self)
    obtain ⟨M1, h1, h2⟩ := mapLeq_refl_both.1 ty M h
    simp only [leqGo, UVal.termOfVar, hl, h1]
    exact leqGo_refl left hn rest (fun p hp => hsub p (List.mem_cons_of_mem _ hp)) M1 h2

theorem leq_refl (a : UF V F) (hn : match a with | .bot => True | .val u => KeysNodup u.map) :
    UF.leq a a = true := by
  match a with
  | .bot => rfl
  | .val u => exact leqGo_refl u hn u.map (fun _ hp => hp) [] (fun _ _ hl => by simp [look] at hl)

end Uf
end Fct
end Dom
end Crab
