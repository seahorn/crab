import CrabModel.Dom.Dbm

/-!
  Basic facts about weights `W = Int ∪ {+∞}`, stored matrices and the Floyd–Warshall closure:
  `fw` keeps the set of solutions (`fw_sat`), only lowers entries (`fw_LE`), and when the result
  has no negative diagonal entry it is *closed* (`fw_closed`): zero diagonal and triangle inequality.
-/
namespace Crab
namespace Dbm

namespace W

/-- the order of `Int ∪ {+∞}` as a proposition -/
def LE (a b : W) : Prop := ∀ y, b = some y → ∃ x, a = some x ∧ x ≤ y

theorem le_iff (a b : W) : le a b = true ↔ LE a b := by
  cases a <;> cases b <;> simp [le, LE]

theorem LE_refl (a : W) : LE a a := fun y h => ⟨y, h, Int.le_refl y⟩

theorem LE_trans {a b c : W} (h1 : LE a b) (h2 : LE b c) : LE a c := by
  intro z hz
  obtain ⟨y, hy, hyz⟩ := h2 z hz
  obtain ⟨x, hx, hxy⟩ := h1 y hy
  exact ⟨x, hx, Int.le_trans hxy hyz⟩

theorem LE_none (a : W) : LE a none := fun y h => by cases h

theorem LE_some_some {x y : Int} : LE (some x) (some y) ↔ x ≤ y := by
  simp [LE]

theorem LE_some {a : W} {y : Int} : LE a (some y) ↔ ∃ x, a = some x ∧ x ≤ y := by
  simp [LE]

theorem LE.antisymm {a b : W} (h1 : LE a b) (h2 : LE b a) : a = b := by
  cases b with
  | none =>
    cases a with
    | none => rfl
    | some x => obtain ⟨_, h, _⟩ := h2 x rfl; cases h
  | some y =>
    obtain ⟨x, rfl, hxy⟩ := h1 y rfl
    rw [Int.le_antisymm hxy (LE_some_some.1 h2)]

theorem le_some_iff {a : W} {k : Int} : le a (some k) = true ↔ ∃ x, a = some x ∧ x ≤ k := by
  rw [le_iff]; exact LE_some

theorem le_none (a : W) : le a none = true := by cases a <;> rfl

theorem min_LE_left : ∀ a b : W, LE (min a b) a
  | none, _ => LE_none _
  | some _, none => LE_refl _
  | some x, some y => LE_some_some.2 (by split <;> omega)

theorem min_LE_right : ∀ a b : W, LE (min a b) b
  | none, _ => LE_refl _
  | some _, none => LE_none _
  | some x, some y => LE_some_some.2 (by split <;> omega)

theorem min_eq_or : ∀ a b : W, min a b = a ∨ min a b = b
  | none, _ => Or.inr rfl
  | some _, none => Or.inl rfl
  | some x, some y => by
    by_cases h : x ≤ y
    · exact Or.inl (congrArg some (if_pos h))
    · exact Or.inr (congrArg some (if_neg h))

theorem LE_min {a b c : W} (h1 : LE c a) (h2 : LE c b) : LE c (min a b) := by
  rcases min_eq_or a b with h | h <;> rw [h] <;> assumption

theorem LE_min_iff {a b c : W} : LE c (min a b) ↔ LE c a ∧ LE c b :=
  ⟨fun h => ⟨LE_trans h (min_LE_left a b), LE_trans h (min_LE_right a b)⟩, fun h => LE_min h.1 h.2⟩

theorem min_eq_left {a b : W} (h : LE a b) : min a b = a :=
  (min_LE_left a b).antisymm (LE_min (LE_refl a) h)

theorem add_some_iff {a b : W} {k : Int} : add a b = some k ↔ ∃ x y, a = some x ∧ b = some y ∧ k = x + y := by
  cases a <;> cases b <;> simp [add] <;> omega

theorem add_mono {a b c d : W} (h1 : LE a c) (h2 : LE b d) : LE (add a b) (add c d) := by
  intro z hz
  obtain ⟨x, y, rfl, rfl, rfl⟩ := add_some_iff.1 hz
  obtain ⟨x', rfl, hx⟩ := h1 x rfl
  obtain ⟨y', rfl, hy⟩ := h2 y rfl
  exact ⟨x' + y', rfl, Int.add_le_add hx hy⟩

theorem add_comm (a b : W) : add a b = add b a := by
  cases a <;> cases b <;> simp [add]; omega

theorem add_assoc (a b c : W) : add (add a b) c = add a (add b c) := by
  cases a <;> cases b <;> cases c <;> simp [add]; omega

theorem add_zero (a : W) : add a (some 0) = a := by cases a <;> simp [add]
theorem zero_add (a : W) : add (some 0) a = a := by cases a <;> simp [add]

theorem add_none_left (b : W) : add none b = none := by cases b <;> rfl
theorem add_none_right (a : W) : add a none = none := by cases a <;> rfl
theorem min_some_some (a b : Int) : min (some a) (some b) = some (Min.min a b) := by
  simp only [min, Int.min_def]
theorem min_none_right (a : W) : min a none = a := by cases a <;> rfl
theorem LE_none_some (b : Int) : LE none (some b) ↔ False := by simp [LE]

/-- a bound for a sum of two minima, from the four sums of their arguments -/
theorem LE_add_min {x p q r s : W} (h1 : LE x (add p r)) (h2 : LE x (add p s))
    (h3 : LE x (add q r)) (h4 : LE x (add q s)) : LE x (add (min p q) (min r s)) := by
  rcases min_eq_or p q with e | e <;> rcases min_eq_or r s with f | f <;> rw [e, f] <;> assumption

theorem LE_add_left {c : W} (hc : LE (some 0) c) (b : W) : LE b (add c b) := by
  have := add_mono hc (LE_refl b)
  rwa [zero_add] at this

theorem LE_add_right {c : W} (hc : LE (some 0) c) (a : W) : LE a (add a c) := by
  have := add_mono (LE_refl a) hc
  rwa [add_zero] at this

theorem isNeg_iff (a : W) : isNeg a = true ↔ ∃ x, a = some x ∧ x < 0 := by
  cases a <;> simp [isNeg]

theorem LE_max_left : ∀ a b : W, LE a (max a b)
  | none, _ => LE_none _
  | some _, none => LE_none _
  | some x, some y => LE_some_some.2 (by split <;> omega)

theorem LE_max_right : ∀ a b : W, LE b (max a b)
  | none, _ => LE_none _
  | some _, none => LE_none _
  | some x, some y => LE_some_some.2 (by split <;> omega)

theorem max_LE_iff {a b : W} {k : Int} : LE (max a b) (some k) ↔ LE a (some k) ∧ LE b (some k) := by
  constructor
  · exact fun h => ⟨LE_trans (LE_max_left a b) h, LE_trans (LE_max_right a b) h⟩
  · rintro ⟨h1, h2⟩
    obtain ⟨x, rfl, hx⟩ := LE_some.1 h1
    obtain ⟨y, rfl, hy⟩ := LE_some.1 h2
    exact LE_some_some.2 (by split <;> assumption)

end W

namespace Mat
variable {N : Nat}

@[simp] theorem get_ofFn (f : Fin N → Fin N → W) (i j : Fin N) : (ofFn f).get i j = f i j := by
  simp [get, ofFn, Vector.getElem_ofFn]

theorem ext_get {a b : Mat N} (h : ∀ i j, a.get i j = b.get i j) : a = b := by
  cases a with | mk ra => cases b with | mk rb =>
  congr 1
  apply Vector.ext
  intro i hi
  apply Vector.ext
  intro j hj
  exact h ⟨i, hi⟩ ⟨j, hj⟩

def LE (a b : Mat N) : Prop := ∀ i j, W.LE (a.get i j) (b.get i j)

theorem LE_refl (a : Mat N) : LE a a := fun _ _ => W.LE_refl _
theorem LE_trans {a b c : Mat N} (h1 : LE a b) (h2 : LE b c) : LE a c :=
  fun i j => W.LE_trans (h1 i j) (h2 i j)

theorem sat_of_LE {a b : Mat N} (h : LE a b) {v : Fin N → Int} (hs : a.sat v) : b.sat v := by
  intro i j k hk
  obtain ⟨x, hx, hxk⟩ := h i j k hk
  have := hs i j x hx
  omega

/-- `a.sat v` says exactly that the entries are above the differences of `v` -/
theorem sat_iff (a : Mat N) (v : Fin N → Int) : a.sat v ↔ ∀ i j, W.LE (some (v i - v j)) (a.get i j) := by
  constructor
  · intro h i j y hy; exact ⟨_, rfl, h i j y hy⟩
  · intro h i j k hk
    obtain ⟨x, hx, hxk⟩ := h i j k hk
    cases hx; exact hxk

theorem sat_get {m : Mat N} {v : Fin N → Int} (h : m.sat v) (i j : Fin N) :
    W.LE (some (v i - v j)) (m.get i j) := (sat_iff m v).1 h i j

theorem pmin_sat (a b : Mat N) (v : Fin N → Int) : (pmin a b).sat v ↔ a.sat v ∧ b.sat v := by
  simp only [sat_iff, pmin, get_ofFn, W.LE_min_iff, forall_and]

theorem pmax_sat_left (a b : Mat N) (v : Fin N → Int) (h : a.sat v) : (pmax a b).sat v := by
  rw [sat_iff]
  intro i j
  simp only [pmax, get_ofFn]
  exact W.LE_trans (sat_get h i j) (W.LE_max_left _ _)

theorem pmax_sat_right (a b : Mat N) (v : Fin N → Int) (h : b.sat v) : (pmax a b).sat v := by
  rw [sat_iff]
  intro i j
  simp only [pmax, get_ofFn]
  exact W.LE_trans (sat_get h i j) (W.LE_max_right _ _)

theorem top_sat (v : Fin N → Int) : (top : Mat N).sat v := by
  intro i j k h; simp [top] at h

theorem addEdge_sat (m : Mat N) (i j : Fin N) (k : Int) (v : Fin N → Int) :
    (m.addEdge i j k).sat v ↔ m.sat v ∧ v i - v j ≤ k := by
  simp only [sat_iff, addEdge, get_ofFn]
  constructor
  · intro h
    refine ⟨fun a b => ?_, ?_⟩
    · have := h a b
      split at this
      · exact (W.LE_min_iff.1 this).1
      · exact this
    · have := h i j
      rw [if_pos ⟨rfl, rfl⟩] at this
      exact W.LE_some_some.1 (W.LE_min_iff.1 this).2
  · rintro ⟨h1, h2⟩ a b
    split
    · rename_i hab
      obtain ⟨rfl, rfl⟩ := hab
      exact W.LE_min (h1 a b) (W.LE_some_some.2 h2)
    · exact h1 a b

theorem diag0_LE (m : Mat N) : LE (diag0 m) m := by
  intro i j
  simp only [diag0, get_ofFn]
  split
  · exact W.min_LE_left _ _
  · exact W.LE_refl _

theorem diag0_sat (m : Mat N) (v : Fin N → Int) : (diag0 m).sat v ↔ m.sat v := by
  refine ⟨sat_of_LE (diag0_LE m), fun h => ?_⟩
  rw [sat_iff] at h ⊢
  intro i j
  simp only [diag0, get_ofFn]
  split
  · rename_i hij
    subst hij
    exact W.LE_min (h i i) (W.LE_some_some.2 (by omega))
  · exact h i j

theorem diag0_diag (m : Mat N) (i : Fin N) : W.LE ((diag0 m).get i i) (some 0) := by
  simp only [diag0, get_ofFn, if_true]
  exact W.min_LE_right _ _

theorem fwStep_LE (m : Mat N) (k : Fin N) : LE (fwStep m k) m := by
  intro i j
  simp only [fwStep, get_ofFn]
  exact W.min_LE_left _ _

theorem fwStep_sat (m : Mat N) (k : Fin N) (v : Fin N → Int) : (fwStep m k).sat v ↔ m.sat v := by
  simp only [sat_iff, fwStep, get_ofFn, W.LE_min_iff]
  refine ⟨fun h i j => (h i j).1, fun h i j => ⟨h i j, ?_⟩⟩
  have := W.add_mono (h i k) (h k j)
  rwa [show W.add (some (v i - v k)) (some (v k - v j)) = some (v i - v j) from
    congrArg some (by omega)] at this

theorem foldl_fwStep_LE (ks : List (Fin N)) (m : Mat N) : LE (ks.foldl fwStep m) m := by
  induction ks generalizing m with
  | nil => exact LE_refl m
  | cons k ks ih => exact LE_trans (ih (fwStep m k)) (fwStep_LE m k)

theorem foldl_fwStep_sat (ks : List (Fin N)) (m : Mat N) (v : Fin N → Int) :
    (ks.foldl fwStep m).sat v ↔ m.sat v := by
  induction ks generalizing m with
  | nil => exact Iff.rfl
  | cons k ks ih => rw [List.foldl_cons, ih, fwStep_sat]

theorem fw_LE (m : Mat N) : LE (fw m) m :=
  LE_trans (foldl_fwStep_LE _ _) (diag0_LE m)

theorem fw_sat (m : Mat N) (v : Fin N → Int) : (fw m).sat v ↔ m.sat v := by
  unfold fw
  rw [foldl_fwStep_sat, diag0_sat]

theorem hasNegDiag_iff (m : Mat N) : hasNegDiag m = true ↔ ∃ i x, m.get i i = some x ∧ x < 0 := by
  simp [hasNegDiag, W.isNeg_iff, List.mem_finRange]

theorem not_sat_of_hasNegDiag {m : Mat N} (h : hasNegDiag m = true) (v : Fin N → Int) : ¬ m.sat v := by
  obtain ⟨i, x, hx, hneg⟩ := (hasNegDiag_iff m).1 h
  intro hs
  have := hs i i x hx
  omega

def DiagNonneg (m : Mat N) : Prop := ∀ i x, m.get i i = some x → 0 ≤ x

theorem DiagNonneg_iff (m : Mat N) : DiagNonneg m ↔ hasNegDiag m = false := by
  rw [← Bool.not_eq_true, hasNegDiag_iff]
  constructor
  · rintro h ⟨i, x, hx, hneg⟩
    have := h i x hx; omega
  · intro h i x hx
    apply Decidable.byContradiction
    intro hn
    exact h ⟨i, x, hx, by omega⟩

theorem DiagNonneg_of_LE {a b : Mat N} (h : LE a b) (ha : DiagNonneg a) : DiagNonneg b := by
  intro i y hy
  obtain ⟨x, hx, hxy⟩ := h i i y hy
  have := ha i x hx
  omega

/-- triangle inequality through the intermediate indices in `P` -/
def TriOn (P : Fin N → Prop) (m : Mat N) : Prop :=
  ∀ i j k, P k → W.LE (m.get i j) (W.add (m.get i k) (m.get k j))

/-- one Floyd–Warshall round extends the set of intermediate indices (needs `m k k ≥ 0`).
    Both new entries on the right are a minimum of an old entry and a path through `k`; in each of
    the four combinations the old triangle inequalities bound `m i j` or `m i k + m k j` -/
theorem fwStep_TriOn {P : Fin N → Prop} {m : Mat N} (k : Fin N) (h : TriOn P m)
    (hk : ∀ x, m.get k k = some x → 0 ≤ x) :
    TriOn (fun a => P a ∨ a = k) (fwStep m k) := by
  have hkk : W.LE (some 0) (m.get k k) := fun x hx => ⟨0, rfl, hk x hx⟩
  intro i j k' hk'
  simp only [fwStep, get_ofFn]
  rcases W.min_eq_or (m.get i k') (W.add (m.get i k) (m.get k k')) with e1 | e1 <;>
    rcases W.min_eq_or (m.get k' j) (W.add (m.get k' k) (m.get k j)) with e2 | e2 <;> rw [e1, e2]
  · rcases hk' with hP | rfl
    · exact W.LE_trans (W.min_LE_left _ _) (h i j k' hP)
    · exact W.min_LE_right _ _
  · refine W.LE_trans (W.min_LE_right _ _) ?_
    rw [← W.add_assoc]
    rcases hk' with hP | rfl
    · exact W.add_mono (h i k k' hP) (W.LE_refl _)
    · exact W.add_mono (W.LE_add_right hkk _) (W.LE_refl _)
  · refine W.LE_trans (W.min_LE_right _ _) ?_
    rw [W.add_assoc]
    rcases hk' with hP | rfl
    · exact W.add_mono (W.LE_refl _) (h k j k' hP)
    · exact W.add_mono (W.LE_refl _) (W.LE_add_left hkk _)
  · refine W.LE_trans (W.min_LE_right _ _) ?_
    rw [W.add_assoc, ← W.add_assoc (m.get k k')]
    refine W.add_mono (W.LE_refl _) (W.LE_trans (W.LE_add_left hkk _) (W.add_mono ?_ (W.LE_refl _)))
    rcases hk' with hP | rfl
    · exact h k k k' hP
    · exact W.LE_add_right hkk _

theorem foldl_fwStep_TriOn (ks : List (Fin N)) {P : Fin N → Prop} {m : Mat N} (h : TriOn P m)
    (hd : DiagNonneg (ks.foldl fwStep m)) :
    TriOn (fun a => P a ∨ a ∈ ks) (ks.foldl fwStep m) := by
  induction ks generalizing m P with
  | nil =>
    intro i j k hk
    rcases hk with hk | hk
    · exact h i j k hk
    · cases hk
  | cons k ks ih =>
    rw [List.foldl_cons] at hd ⊢
    have hd0 : DiagNonneg m := DiagNonneg_of_LE (LE_trans (foldl_fwStep_LE ks _) (fwStep_LE m k)) hd
    intro i j k' hk'
    rw [List.mem_cons, ← or_assoc] at hk'
    exact ih (fwStep_TriOn k h (hd0 k)) hd i j k' hk'

structure Closed (m : Mat N) : Prop where
  diag : ∀ i, m.get i i = some 0
  tri : ∀ i j k, W.LE (m.get i j) (W.add (m.get i k) (m.get k j))

theorem fw_closed {m : Mat N} (h : hasNegDiag (fw m) = false) : Closed (fw m) := by
  have hd : DiagNonneg (fw m) := (DiagNonneg_iff _).2 h
  constructor
  · intro i
    have h1 : W.LE ((fw m).get i i) (some 0) :=
      W.LE_trans (foldl_fwStep_LE _ _ i i) (diag0_diag m i)
    obtain ⟨x, hx, hx0⟩ := h1 0 rfl
    have := hd i x hx
    rw [hx]; congr; omega
  · have ht : TriOn (fun _ => False) (diag0 m) := fun _ _ _ hf => hf.elim
    have := foldl_fwStep_TriOn (List.finRange N) ht hd
    intro i j k
    exact this i j k (Or.inr (List.mem_finRange k))

end Mat
end Dbm
end Crab
