import CrabProofs.Lemmas.WIntPoles

/-!
  `Crab.WInt`: `ZExt` and `SExt`.
-/
namespace Crab
namespace WInt
open WrapInt

/-- an interval that contains every point is top: it contains the point before its start -/
theorem all_mem_top {w : Nat} (hw : w ≤ 64) {s e : Nat} (hs : s < 2 ^ w) (he : e < 2 ^ w)
    (h : ∀ v, v < 2 ^ w → mem w v (W w s e false)) : (W w s e false).isTop = true := by
  have hM : 0 < 2 ^ w := Nat.pow_pos (by decide)
  have := (mem_W_le hw hs he (Nat.mod_lt _ hM)).mp (h ((s + (2 ^ w - 1)) % 2 ^ w) (Nat.mod_lt _ hM))
  rw [D_add_right hs, Nat.mod_eq_of_lt (by omega)] at this
  have := D_lt hs he
  rw [isTop_W hw hs he, decide_eq_true_eq]
  omega

theorem part_nontop {w : Nat} (hw : w ≤ 64) {s e a b : Nat} (hs : s < 2 ^ w) (he : e < 2 ^ w)
    (hin : ∀ v, v < 2 ^ w → mem w v (W w a b false) → mem w v (W w s e false))
    (hnt : (W w s e false).isTop = false) : (W w a b false).isTop = false := by
  cases ht : (W w a b false).isTop
  · rfl
  · rw [all_mem_top hw hs he (fun v hv => hin v hv (mem_of_isTop ht))] at hnt; cases hnt

def Proper (w : Nat) (parts : List WInt) : Prop :=
  ∀ p ∈ parts, ∃ a b, p = W w a b false ∧ a < 2 ^ w ∧ b < 2 ^ w ∧ (W w a b false).isTop = false

theorem split_parts_proper {w : Nat} (hw : w ≤ 64) {le : Nat → Nat → Prop} {s e : Nat} (hs : s < 2 ^ w)
    (he : e < 2 ^ w) (hnt : (W w s e false).isTop = false) {parts : List WInt}
    (hle : ∀ a b v, a < 2 ^ w → b < 2 ^ w → v < 2 ^ w → le a b → mem w v (W w a b false) → le a v ∧ le v b)
    (P : ∀ p ∈ parts, ∃ a b, p = W w a b false ∧ a < 2 ^ w ∧ b < 2 ^ w ∧ le a b ∧
      ∀ v, v < 2 ^ w → le a v → le v b → mem w v (W w s e false)) : Proper w parts := by
  intro p hp
  obtain ⟨a, b, rfl, ha, hb, hab, hin⟩ := P p hp
  exact ⟨a, b, rfl, ha, hb, part_nontop hw hs he (fun v hv hm =>
    hin v hv (hle a b v ha hb hv hab hm).1 (hle a b v ha hb hv hab hm).2) hnt⟩


/-- the body of the loops of `ZExt` (`ext = wrapint::zext`) and `SExt` (`ext = wrapint::sext`) -/
def extBody (ext : WrapInt → Nat → Option WrapInt) (k : Nat) (p res : WInt) : Option (ForInStep WInt) :=
  if (p.isBottom || p.isTop) = true then pure (ForInStep.yield res)
  else do
    let a ← ext p.start k
    let b ← ext p.stop k
    pure (ForInStep.yield (res.join (mk2 a b)))

theorem zext_unfold {x : WInt} {k : Nat} (hnt : x.isTop = false) :
    x.zext k = (x.unsignedSplit?).bind (fun parts => forIn parts bottom (extBody WrapInt.zext k)) := by
  unfold zext
  simp only [hnt, Bool.false_eq_true, if_false]
  cases h : x.unsignedSplit? with
  | none => rfl
  | some parts =>
    simp only [Option.bind_eq_bind, Option.bind_some, bind_pure]
    rfl

theorem sext_unfold {x : WInt} {k : Nat} (hnt : x.isTop = false) :
    x.sext k = (x.signedSplit?).bind (fun parts => forIn parts bottom (extBody WrapInt.sext k)) := by
  unfold sext
  simp only [hnt, Bool.false_eq_true, if_false]
  cases h : x.signedSplit? with
  | none => rfl
  | some parts =>
    simp only [Option.bind_eq_bind, Option.bind_some, bind_pure]
    rfl

theorem extBody_step {ext : WrapInt → Nat → Option WrapInt} {k w w' a b a' b' : Nat} (hw' : w' ≤ 64)
    (hnt : (W w a b false).isTop = false)
    (ea : ext ⟨w, a⟩ k = some ⟨w', a'⟩) (eb : ext ⟨w, b⟩ k = some ⟨w', b'⟩)
    (ha' : a' < 2 ^ w') (hb' : b' < 2 ^ w') {r0 : WInt} {s : ForInStep WInt} (hg : Good w' r0)
    (h : extBody ext k (W w a b false) r0 = some s) :
    ∃ r', s = ForInStep.yield r' ∧ Good w' r' ∧ LeW w' r0 r' ∧ LeW w' (W w' a' b' false) r' := by
  unfold extBody at h
  simp only [hnt, Bool.or_self, Bool.false_eq_true, if_false, ea, eb, Option.bind_eq_bind,
    Option.bind_some] at h
  injection h with h
  exact ⟨_, h.symm, join_good hw' hg (good_of_shape (shape_W ha' hb'))⟩

/-- the loop over proper pieces whose end points `c` are extended to `f c`: every extended piece is
    below the result -/
theorem ext_loop {ext : WrapInt → Nat → Option WrapInt} {k w w' : Nat} {f : Nat → Nat} (hw' : w' ≤ 64)
    (hext : ∀ c, c < 2 ^ w → ext ⟨w, c⟩ k = some ⟨w', f c⟩) (hf : ∀ c, c < 2 ^ w → f c < 2 ^ w')
    {parts : List WInt} {r : WInt}
    (hp : Proper w parts)
    (h : forIn parts bottom (extBody ext k) = some r) {a b : Nat} (hab : W w a b false ∈ parts) :
    LeW w' (W w' (f a) (f b) false) r := by
  obtain ⟨_, _, each⟩ := forIn_join_spec (w := w') (extBody ext k)
    (fun p r => ∀ a b, p = W w a b false → LeW w' (W w' (f a) (f b) false) r)
    (fun p r r' hq hle a b hp => LeW_trans (hq a b hp) hle) parts bottom r
    (fun p hp' r0 st hg hst => by
      obtain ⟨a, b, rfl, ha, hb, hnt⟩ := hp p hp'
      obtain ⟨r', e1, g, l1, l2⟩ :=
        extBody_step hw' hnt (hext a ha) (hext b hb) (hf a ha) (hf b hb) hg hst
      refine ⟨r', e1, g, l1, fun a' b' hp' => ?_⟩
      obtain ⟨rfl, rfl⟩ := W_inj hp'
      exact l2)
    (good_bottom _) h
  exact each _ hab a b rfl

/-- if the extension of the end points raises CRAB_ERROR, so does the loop over proper pieces -/
theorem ext_loop_err {ext : WrapInt → Nat → Option WrapInt} {k w : Nat}
    (hext : ∀ c, ext ⟨w, c⟩ k = none) {parts : List WInt} {r : WInt}
    (hp : Proper w parts)
    (hne : parts ≠ []) : forIn parts bottom (extBody ext k) ≠ some r := by
  cases parts with
  | nil => exact absurd rfl hne
  | cons p1 rest =>
    obtain ⟨a, b, rfl, _, _, hnt⟩ := hp p1 (List.mem_cons_self ..)
    intro h
    rw [List.forIn_cons] at h
    simp [extBody, hnt, hext] at h


theorem zext_sound {w : Nat} (h1w : 1 ≤ w) (hw : w ≤ 64) {x r : WInt} {k : Nat} (hx : Good w x)
    (h : x.zext k = some r) {v : Nat} (hv : v < 2 ^ w) (hm : mem w v x) : mem (w + k) v r := by
  rcases good_mem_cases hx hm with ⟨s, e, hs, he, rfl, ht⟩ | ht
  · rw [zext_unfold ht] at h
    cases hsp : unsignedSplit? (W w s e false) with
    | none => rw [hsp] at h; cases h
    | some parts =>
      rw [hsp] at h
      simp only [Option.bind_some] at h
      obtain ⟨pieces, cover⟩ := usplit_cover h1w hw hs he hsp
      obtain ⟨a, b, hmem, hav, hvb⟩ := cover v hv hm
      have hp := split_parts_proper hw (le := (· ≤ ·)) hs he ht
        (fun a b v _ hb hv hab hm => (mem_ord_iff hw hab hb hv).mp hm) fun p hp =>
          let ⟨a, b, e, hab, hb, hin⟩ := pieces p hp
          ⟨a, b, e, Nat.lt_of_le_of_lt hab hb, hb, hab, fun v _ h1 h2 => hin v h1 h2⟩
      by_cases hk : w + k ≤ 64
      · have hpw : 2 ^ w ≤ 2 ^ (w + k) := Nat.pow_le_pow_right (by decide) (by omega)
        obtain ⟨_, _, heq, hab, hb, _⟩ := pieces _ hmem
        obtain ⟨rfl, rfl⟩ := W_inj heq
        apply ext_loop (f := fun c => c) hk (fun c hc => zext_raw h1w hk hc)
          (fun c hc => by omega) hp h hmem v (by omega)
        exact (mem_ord_iff hk hab (by omega) (by omega)).mpr ⟨hav, hvb⟩
      · exact absurd h (ext_loop_err (fun c => zext_raw_none (by omega)) hp (List.ne_nil_of_mem hmem))
  · exact mem_top_unchanged ht (by simp [zext, hm.1, ht]) h


/-- the sign extension of a point of the circle of `2^w` points to `w + k` bits -/
def sextN (w k c : Nat) : Nat := if 2 ^ (w - 1) ≤ c then c + (2 ^ (w + k) - 2 ^ w) else c

theorem sextN_lt {w k c : Nat} (hc : c < 2 ^ w) : sextN w k c < 2 ^ (w + k) := by
  have hpw : 2 ^ w ≤ 2 ^ (w + k) := Nat.pow_le_pow_right (by decide) (by omega)
  unfold sextN; split <;> omega

theorem sg_sextN {w k c : Nat} (h1w : 1 ≤ w) :
    sg (2 ^ (w + k)) (sextN w k c) = sg (2 ^ w) c := by
  have hpw : 2 ^ w ≤ 2 ^ (w + k) := Nat.pow_le_pow_right (by decide) (by omega)
  have hM := pow_succ_pred h1w
  have g1 := sg_spec (2 ^ w) c
  unfold sextN
  by_cases hm : 2 ^ (w - 1) ≤ c
  · rw [if_pos hm]
    have g2 := sg_spec (2 ^ (w + k)) (c + (2 ^ (w + k) - 2 ^ w))
    omega
  · rw [if_neg hm]
    have g2 := sg_spec (2 ^ (w + k)) c
    omega

theorem sextN_bv {w k : Nat} (a : BitVec w) :
    (a.signExtend (w + k)).toNat = sextN w k a.toNat := by
  rw [BitVec.toNat_signExtend, BitVec.msb_eq_decide, BitVec.toNat_setWidth]
  have : a.toNat % 2 ^ (w + k) = a.toNat :=
    Nat.mod_eq_of_lt (Nat.lt_of_lt_of_le a.isLt (Nat.pow_le_pow_right (by decide) (by omega)))
  rw [this]
  unfold sextN
  by_cases hm : 2 ^ (w - 1) ≤ a.toNat <;> simp [hm]

theorem sext_raw {w k c : Nat} (h1w : 1 ≤ w) (hk : w + k ≤ 64) (hc : c < 2 ^ w) :
    WrapInt.sext ⟨w, c⟩ k = some ⟨w + k, sextN w k c⟩ := by
  have := sext_ofBV h1w (BitVec.ofNatLT c hc) k hk
  simp only [ofBV, sextN_bv, BitVec.toNat_ofNatLT] at this
  exact this

theorem sext_sound {w : Nat} (h1w : 1 ≤ w) (hw : w ≤ 64) {x r : WInt} {k : Nat} (hx : Good w x)
    (h : x.sext k = some r) {v : Nat} (hv : v < 2 ^ w) (hm : mem w v x) :
    mem (w + k) (sextN w k v) r := by
  rcases good_mem_cases hx hm with ⟨s, e, hs, he, rfl, ht⟩ | ht
  · rw [sext_unfold ht] at h
    cases hsp : signedSplit? (W w s e false) with
    | none => rw [hsp] at h; cases h
    | some parts =>
      rw [hsp] at h
      simp only [Option.bind_some] at h
      obtain ⟨pieces, cover⟩ := ssplit_cover h1w hw hs he hsp
      obtain ⟨a, b, hmem, hav, hvb⟩ := cover v hv hm
      have hp := split_parts_proper hw hs he ht
        (fun a b v ha hb hv hab hm => (mem_sord_iff h1w hw ha hb hv hab).mp hm) pieces
      by_cases hk : w + k ≤ 64
      · obtain ⟨_, _, heq, ha, hb, hab, _⟩ := pieces _ hmem
        obtain ⟨rfl, rfl⟩ := W_inj heq
        apply ext_loop hk (fun c hc => sext_raw h1w hk hc) (fun c hc => sextN_lt hc) hp h hmem _
          (sextN_lt hv)
        rw [mem_sord_iff (by omega) hk (sextN_lt ha) (sextN_lt hb) (sextN_lt hv)
          (by rw [sg_sextN h1w, sg_sextN h1w]; exact hab)]
        rw [sg_sextN h1w, sg_sextN h1w, sg_sextN h1w]
        exact ⟨hav, hvb⟩
      · exact absurd h (ext_loop_err (fun c => sext_raw_none (by omega)) hp (List.ne_nil_of_mem hmem))
  · exact mem_top_unchanged ht (by simp [sext, hm.1, ht]) h

theorem zext_sound_bv {w k : Nat} (h1w : 1 ≤ w) (hw : w ≤ 64) {x r : WInt} (hx : Good w x)
    (h : x.zext k = some r) {a : BitVec w} (ha : memBV a x) : memBV (a.setWidth (w + k)) r := by
  unfold memBV
  rw [BitVec.toNat_setWidth, Nat.mod_eq_of_lt
    (Nat.lt_of_lt_of_le a.isLt (Nat.pow_le_pow_right (by decide) (by omega)))]
  exact zext_sound h1w hw hx h a.isLt ha

theorem sext_sound_bv {w k : Nat} (h1w : 1 ≤ w) (hw : w ≤ 64) {x r : WInt} (hx : Good w x)
    (h : x.sext k = some r) {a : BitVec w} (ha : memBV a x) : memBV (a.signExtend (w + k)) r := by
  unfold memBV
  rw [sextN_bv]
  exact sext_sound h1w hw hx h a.isLt ha

end WInt
end Crab
