import CrabProofs.Lemmas.IDomOps

/-!
  `to_linear_constraint_system` of the interval domain: the exported system has exactly `γ` as
  its set of solutions.
-/
namespace Crab
namespace IDom
open Lin

namespace Env

/-- the two constraints exported for one binding -/
def lbCst (v : Var) (lb : Int) : Cst := ⟨(Expr.term (-1) v).addNum lb, .leq⟩
def ubCst (v : Var) (ub : Int) : Cst := ⟨(Expr.var v).subNum ub, .leq⟩

theorem sat_lbCst (v : Var) (lb : Int) (σ : State) : (lbCst v lb).sat σ ↔ lb ≤ σ v := by
  simp only [lbCst, Cst.sat, Expr.eval_addNum, Expr.eval_term]; omega

theorem sat_ubCst (v : Var) (ub : Int) (σ : State) : (ubCst v ub).sat σ ↔ σ v ≤ ub := by
  simp only [ubCst, Cst.sat, Expr.eval_subNum, Expr.eval_var]; omega

/-- the body of the loop of `to_linear_constraint_system` -/
def cstStep (s : Sys) (p : Var × Itv) : Sys :=
  let s := match p.2.lb.number? with
    | some lb => Sys.addCst s (lbCst p.1 lb)
    | none => s
  match p.2.ub.number? with
    | some ub => Sys.addCst s (ubCst p.1 ub)
    | none => s

theorem toCsts_eq (e : Env) : e.toCsts = if e.bottom then Sys.addCst [] Cst.getFalse else e.m.foldl cstStep [] := rfl

theorem mem_cstStep {s : Sys} {p : Var × Itv} {c : Cst} :
    c ∈ cstStep s p ↔ c ∈ s ∨ (∃ lb, p.2.lb = .fin lb ∧ c = lbCst p.1 lb) ∨ (∃ ub, p.2.ub = .fin ub ∧ c = ubCst p.1 ub) := by
  unfold cstStep
  obtain ⟨v, ⟨l, u⟩⟩ := p
  cases l <;> cases u <;> simp [Bound.number?, Sys.mem_addCst, or_assoc]

theorem mem_foldCst {c : Cst} : ∀ (m : Map) (s : Sys),
    c ∈ m.foldl cstStep s ↔ c ∈ s ∨ ∃ p ∈ m, (∃ lb, p.2.lb = .fin lb ∧ c = lbCst p.1 lb) ∨ (∃ ub, p.2.ub = .fin ub ∧ c = ubCst p.1 ub) := by
  intro m
  induction m with
  | nil => intro s; simp
  | cons p rest ih =>
    intro s
    simp only [List.foldl_cons, ih, mem_cstStep, List.mem_cons]
    constructor
    · rintro ((h | h) | ⟨q, hq, h⟩)
      · exact Or.inl h
      · exact Or.inr ⟨p, Or.inl rfl, h⟩
      · exact Or.inr ⟨q, Or.inr hq, h⟩
    · rintro (h | ⟨q, hq | hq, h⟩)
      · exact Or.inl (Or.inl h)
      · subst hq; exact Or.inl (Or.inr h)
      · exact Or.inr ⟨q, hq, h⟩

theorem toCsts_sound {e : Env} (hs : e.Sorted) {σ : State} (hg : γ e σ) : Sys.sat e.toCsts σ := by
  rw [toCsts_eq]
  simp only [hg.1, Bool.false_eq_true, if_false]
  intro c hc
  rw [mem_foldCst] at hc
  rcases hc with hc | ⟨p, hp, hc⟩
  · simp at hc
  · have hm : Itv.mem (σ p.1) p.2 :=
      (γ_iff_of_not_bottom hg.1 σ).1 hg p.1 p.2 ((Map.mem_iff_find hs p.1 p.2).1 hp)
    rcases hc with ⟨lb, hl, hc⟩ | ⟨ub, hu, hc⟩
    · subst hc; rw [sat_lbCst]
      have := hm.1; rw [hl] at this; simpa using this
    · subst hc; rw [sat_ubCst]
      have := hm.2; rw [hu] at this; simpa using this

/-- every solution of the exported constraints is a state of `γ` (the stored intervals are
    well formed) -/
theorem toCsts_complete {e : Env} (hw : e.ValWF) {σ : State} (h : Sys.sat e.toCsts σ) : γ e σ := by
  rw [toCsts_eq] at h
  cases hb : e.bottom with
  | true =>
    simp only [hb, if_true] at h
    have := h Cst.getFalse (by simp [Sys.addCst])
    exact absurd this (Cst.not_sat_getFalse σ)
  | false =>
    simp only [hb, Bool.false_eq_true, if_false] at h
    rw [γ_iff_of_not_bottom hb]
    intro x v hv
    have hp := Map.find_some_mem hv
    obtain ⟨hw1, hw2⟩ := hw (x, v) hp
    simp only at hw1 hw2
    constructor
    · cases hl : v.lb with
      | ninf => simp
      | pinf => exact absurd hl hw1
      | fin lb =>
        have := h (lbCst x lb) ((mem_foldCst _ _).2 (Or.inr ⟨(x, v), hp, Or.inl ⟨lb, hl, rfl⟩⟩))
        rw [sat_lbCst] at this; simpa using this
    · cases hu : v.ub with
      | pinf => simp
      | ninf => exact absurd hu hw2
      | fin ub =>
        have := h (ubCst x ub) ((mem_foldCst _ _).2 (Or.inr ⟨(x, v), hp, Or.inr ⟨ub, hu, rfl⟩⟩))
        rw [sat_ubCst] at this; simpa using this

end Env
end IDom
end Crab
