/-!
  Sets of integer states `P : (Fin n → Int) → Prop` under the update of one variable: the
  post-images of a havoc, of an assignment written as "forget, then assume `x = e`", of an
  invertible assignment, and of a `forget` of several variables.  The three canonical models (zones,
  octagons, interval environments) define their transformers in exactly these ways, and the `updS`
  of each of them is `RelDom.upd`.  Their `assume` of a system is a fold of single constraints
  (`foldl_assume_exact`).
-/
namespace Crab

namespace RelDom
variable {n : Nat}

/-- `σ[x ↦ t]`; the `updS` of each model unfolds to this -/
def upd (σ : Fin n → Int) (x : Fin n) (t : Int) : Fin n → Int := fun y => if y = x then t else σ y

theorem upd_same (σ : Fin n → Int) (x : Fin n) (t : Int) : upd σ x t x = t := if_pos rfl

theorem upd_ne (σ : Fin n → Int) {x y : Fin n} (t : Int) (h : y ≠ x) : upd σ x t y = σ y := if_neg h

theorem upd_upd (σ : Fin n → Int) (x : Fin n) (t s : Int) : upd (upd σ x t) x s = upd σ x s := by
  funext y; unfold upd; split <;> rfl

theorem upd_of_agree {σ σ' : Fin n → Int} {x : Fin n} (h : ∀ y, y ≠ x → σ' y = σ y) :
    upd σ x (σ' x) = σ' := by
  funext y; unfold upd; split
  · rename_i e; rw [e]
  · rename_i e; exact (h y e).symm

theorem upd_self (σ : Fin n → Int) (x : Fin n) : upd σ x (σ x) = σ := upd_of_agree fun _ _ => rfl

variable {P : (Fin n → Int) → Prop} {x : Fin n}

/-- existential quantification of `x` is the post-image of the havoc of `x` -/
theorem havoc_post (σ' : Fin n → Int) :
    (∃ t, P (upd σ' x t)) ↔ ∃ σ, P σ ∧ ∀ y, y ≠ x → σ' y = σ y :=
  ⟨fun ⟨t, ht⟩ => ⟨_, ht, fun _ hy => (upd_ne σ' t hy).symm⟩,
   fun ⟨σ, h, e⟩ => ⟨σ x, by rw [upd_of_agree fun y hy => (e y hy).symm]; exact h⟩⟩

/-- "forget `x`, then assume `x = e`" is the post-image of `x := e` when `e` does not read `x` -/
theorem assign_post {e : (Fin n → Int) → Int} (he : ∀ σ t, e (upd σ x t) = e σ) (σ' : Fin n → Int) :
    ((∃ t, P (upd σ' x t)) ∧ σ' x = e σ') ↔ ∃ σ, P σ ∧ σ' = upd σ x (e σ) := by
  constructor
  · rintro ⟨⟨t, ht⟩, hx⟩
    refine ⟨_, ht, ?_⟩
    rw [upd_upd, he, ← hx, upd_self]
  · rintro ⟨σ, h, rfl⟩
    exact ⟨⟨σ x, by rw [upd_upd, upd_self]; exact h⟩, by rw [upd_same, he]⟩

/-- an invertible update of `x` (`x := x + k`, `x := -x + k`): the pre-image under the inverse is
    the post-image -/
theorem bij_post {f g : Int → Int} (hfg : ∀ t, f (g t) = t) (hgf : ∀ t, g (f t) = t)
    (σ' : Fin n → Int) : P (upd σ' x (g (σ' x))) ↔ ∃ σ, P σ ∧ σ' = upd σ x (f (σ x)) := by
  constructor
  · intro h
    refine ⟨_, h, ?_⟩
    rw [upd_upd, upd_same, hfg, upd_self]
  · rintro ⟨σ, h, rfl⟩
    rw [upd_upd, upd_same, hgf, upd_self]; exact h

theorem not_mem_projList (keep : List (Fin n)) (y : Fin n) :
    y ∉ ((List.finRange n).filter fun x => !keep.contains x) ↔ y ∈ keep := by
  simp [List.mem_filter, List.mem_finRange]

section Forget
variable {A : Type} {γ : A → (Fin n → Int) → Prop} {forget : A → Fin n → A}

theorem foldl_forget_sound
    (hs : ∀ a x σ σ', γ a σ → (∀ y, y ≠ x → σ' y = σ y) → γ (forget a x) σ')
    (xs : List (Fin n)) (a : A) (σ σ' : Fin n → Int) (h : γ a σ) (hσ : ∀ y, y ∉ xs → σ' y = σ y) :
    γ (xs.foldl forget a) σ' := by
  induction xs generalizing a σ with
  | nil =>
    have : σ' = σ := funext fun y => hσ y List.not_mem_nil
    rw [this]; exact h
  | cons x xs ih =>
    refine ih (forget a x) (upd σ x (σ' x)) (hs a x σ _ h fun y hy => upd_ne σ _ hy) fun y hy => ?_
    by_cases e : y = x
    · rw [e, upd_same]
    · rw [upd_ne σ _ e]; exact hσ y (by simp [e, hy])

theorem foldl_forget_complete {Inv : A → Prop} (hinv : ∀ a x, Inv a → Inv (forget a x))
    (hc : ∀ a x σ', Inv a → γ (forget a x) σ' → ∃ σ, γ a σ ∧ ∀ y, y ≠ x → σ' y = σ y)
    (xs : List (Fin n)) (a : A) (ha : Inv a) (σ' : Fin n → Int) (h : γ (xs.foldl forget a) σ') :
    ∃ σ, γ a σ ∧ ∀ y, y ∉ xs → σ' y = σ y := by
  induction xs generalizing a with
  | nil => exact ⟨σ', h, fun _ _ => rfl⟩
  | cons x xs ih =>
    obtain ⟨σ1, h1, e1⟩ := ih (forget a x) (hinv a x ha) h
    obtain ⟨σ, hσ, e⟩ := hc a x σ1 ha h1
    refine ⟨σ, hσ, fun y hy => ?_⟩
    have hy' : y ≠ x ∧ y ∉ xs := by simpa using hy
    rw [e1 y hy'.2, e y hy'.1]

end Forget

section Fold
variable {A C S : Type} {f : A → C → A}

/-- a fold of exact `assume` steps is an exact `assume` of the list -/
theorem foldl_assume_exact {γ : A → S → Prop} {sat : C → S → Prop}
    (h : ∀ a c σ, γ (f a c) σ ↔ (γ a σ ∧ sat c σ)) (cs : List C) (a : A) (σ : S) :
    γ (cs.foldl f a) σ ↔ (γ a σ ∧ ∀ c ∈ cs, sat c σ) := by
  induction cs generalizing a with
  | nil => simp
  | cons c cs ih => rw [List.foldl_cons, ih, h, List.forall_mem_cons, and_assoc]

end Fold
end RelDom

end Crab
