import CrabProofs.Lemmas.BwdFail
import CrabProofs.Props.C01Engine

/-!
  The necessary-precondition fixpoint as an instance of the engine theorem `C01.run_sound`.

  The iterator runs on the reversed graph from the exit block.  Its concrete state space is
  `Option State`: `some σ` is a program state, `none` is a *token* that belongs to every abstract
  value (also to bottom).  The token starts at the exit block and flows against the edges, so
  it arrives exactly at the blocks from which the exit block is reachable.  In error mode the
  token entering a block produces
  * the states that fail an assertion of the block (the transformer of `assert` joins `¬c` into
    the precondition even when the postcondition is bottom), and
  * when a successor of the block is in `m_fail_without_exit` (`mayFailB`), every state that
    runs through the block (`analyze` then starts from top).
  `ReachPost` of this system contains `CoReach` at every block that reaches the exit
  (`Setup.reachPost_of_coReach`): this inclusion is all that soundness needs, and the only one
  proved for the current system (the converse is proved for the old one, `BwdRunOld.lean`).
-/
namespace Crab
namespace Bwd

open Fix

structure Setup (A : Type) where
  D : BDom A
  γ : A → State → Prop
  sound : BDomSound D γ
  p : Prog
  /-- `m_good_states` -/
  good : Bool
  /-- `m_invariants` (top where absent) -/
  invAbs : Nat → A
  /-- the value given to `run_backward` -/
  fin : A
  nesting : Nat → Option (List Nat)
  delay : Nat
  descending : Nat

variable {A : Type}

def Setup.ctx (S : Setup A) : Ctx A :=
  bwdCtx S.D S.p S.good S.invAbs S.fin S.nesting S.delay S.descending

/-- the supplied forward invariants, concretely -/
def Setup.inv (S : Setup A) : Nat → State → Prop := fun n σ => S.γ (S.invAbs n) σ

def Setup.γo (S : Setup A) : A → Option State → Prop
  | _, none => True
  | a, some σ => S.γ a σ

/-- a law of `γ` holds of `γo`: the token belongs to every value -/
theorem Setup.γo_mono (S : Setup A) {a b : A} (h : ∀ σ, S.γ a σ → S.γ b σ) :
    ∀ s, S.γo a s → S.γo b s
  | none, _ => trivial
  | some σ, ha => h σ ha

theorem Setup.γo_mono₂ (S : Setup A) {a b d : A} (h : ∀ σ, S.γ a σ → S.γ b σ → S.γ d σ) :
    ∀ s, S.γo a s → S.γo b s → S.γo d s
  | none, _, _ => trivial
  | some σ, ha, hb => h σ ha hb

/-- from a block that cannot reach the exit only a failure is possible -/
theorem coReach_no_exit (p : Prog) (inv : Nat → State → Prop) (err : Bool) (fin : State → Prop)
    (n : Nat) (σ : State) (h : CoReach p inv err fin n σ) (hn : ¬ ReachesExit p n) :
    err = true ∧ CanFail p n := by
  induction h with
  | exit σ σ' _ _ _ => exact absurd ReachesExit.here hn
  | flow n m σ σ' _ hm _ _ ih =>
    have hm' : ¬ ReachesExit p m := fun h => hn (ReachesExit.edge n m hm h)
    exact ⟨(ih hm').1, CanFail.edge n m hm (ih hm').2⟩
  | fail n σ herr _ hfail => exact ⟨herr, CanFail.here n (stmtsFail_has_assert hfail)⟩

/-- the block transformer of the reversed system as a relation: `stepo n s s'` — `s` is a state
    at the END of block `n` (or the token), `s'` a state at its entry -/
def Setup.stepo (S : Setup A) : Nat → Option State → Option State → Prop
  | _, none, none => True
  | n, none, some σ' =>
    S.good = false ∧ S.inv n σ' ∧
      (StmtsFail (S.p.block n).stmts σ' ∨
       ((S.p.block n).succs.any (mayFailB S.p) = true ∧ ∃ σ, StmtsStep (S.p.block n).stmts σ' σ))
  | n, some σ, some σ' => S.inv n σ' ∧ StmtsStep (S.p.block n).stmts σ' σ
  | _, some _, none => False

def Setup.sem (S : Setup A) : Sem S.ctx (Option State) where
  γ := S.γo
  step := S.stepo
  analyze_sound := by
    intro n a s s' hγ hstep
    cases s' with
    | none => trivial
    | some σ' =>
      show S.γ (bwdStmts S.D S.good (S.p.block n).stmts
        (if !S.good && (S.p.block n).succs.any (mayFailB S.p) then S.D.top else a) (S.invAbs n)) σ'
      cases s with
      | none =>
        obtain ⟨hg, hinv, hfail | ⟨hany, σ, hrun⟩⟩ := hstep
        · rw [hg]; exact bwdStmts_fail_sound S.sound _ _ _ σ' hinv hfail
        · rw [hg, hany]
          simp only [Bool.not_false, Bool.and_self, if_true]
          exact bwdStmts_step_sound S.sound false _ _ _ σ' σ hinv hrun (S.sound.top_sound σ)
      | some σ =>
        obtain ⟨hinv, hrun⟩ := hstep
        refine bwdStmts_step_sound S.sound S.good _ _ _ σ' σ hinv hrun ?_
        split
        · exact S.sound.top_sound σ
        · exact hγ
  join_left := fun a b => S.γo_mono (S.sound.join_left a b)
  join_right := fun a b => S.γo_mono (S.sound.join_right a b)
  widen_left := fun a b => S.γo_mono (S.sound.widen_left a b)
  widen_right := fun a b => S.γo_mono (S.sound.widen_right a b)
  meet_sound := fun a b => S.γo_mono₂ (S.sound.meet_sound a b)
  narrow_sound := fun a b => S.γo_mono₂ (S.sound.narrow_sound a b)
  leq_sound := fun a b s h => S.γo_mono (fun σ => S.sound.leq_sound a b σ h) s

theorem Setup.asmOk_true (S : Setup A) (n : Nat) (s : Option State) : asmOk S.ctx S.sem n s :=
  Sound.asmOk_of_noAsm S.sem rfl n s

/-- in a system on the reversed graph whose values all contain the token and whose blocks pass it
    on, the token arrives at every block from which the exit block is reachable -/
theorem token_reach {c : Ctx A} (sem : Sem c (Option State)) (p : Prog) (he : c.entry = p.exit)
    (hp : ∀ n, c.preds n = (p.block n).succs) (ha : hasAssumptions c = false)
    (hγ : sem.γ c.init none) (hs : ∀ n, sem.step n none none) {n : Nat} (h : ReachesExit p n) :
    ReachPre c sem n none := by
  induction h with
  | here => exact he ▸ ReachPre.init none hγ (Sound.asmOk_of_noAsm sem ha _ _)
  | edge n m hm _ ih =>
    exact ReachPre.flow m n none (hp n ▸ hm) (ReachPost.step m none none ih (hs m))
      (Sound.asmOk_of_noAsm sem ha _ _)

theorem Setup.token_pre (S : Setup A) (n : Nat) (h : ReachesExit S.p n) :
    ReachPre S.ctx S.sem n none :=
  token_reach S.sem S.p rfl (fun _ => rfl) rfl trivial (fun _ => trivial) h

/-- every co-reachable state at a block that reaches the exit is in the
    collecting semantics of the reversed system -/
theorem Setup.reachPost_of_coReach (S : Setup A) (n : Nat) (σ : State) (h : CoReach S.p S.inv (!S.good) (S.γ S.fin) n σ) :
    ReachesExit S.p n → ReachPost S.ctx S.sem n (some σ) := by
  induction h with
  | exit σ σ' hinv hrun hfin =>
    intro _
    have hpre : ReachPre S.ctx S.sem S.p.exit (some σ') :=
      ReachPre.init (some σ') hfin (S.asmOk_true _ _)
    exact ReachPost.step S.p.exit (some σ') (some σ) hpre ⟨hinv, hrun⟩
  | flow n m σ σ' hinv hm hrun hco ih =>
    intro hn
    by_cases hmx : ReachesExit S.p m
    · have hpre : ReachPre S.ctx S.sem n (some σ') :=
        ReachPre.flow m n (some σ') hm (ih hmx) (S.asmOk_true _ _)
      exact ReachPost.step n (some σ') (some σ) hpre ⟨hinv, hrun⟩
    · obtain ⟨herr, hcf⟩ := coReach_no_exit S.p S.inv _ _ m σ' hco hmx
      have hg : S.good = false := by cases hgd : S.good <;> simp [hgd] at herr ⊢
      have hany : (S.p.block n).succs.any (mayFailB S.p) = true :=
        List.any_eq_true.2 ⟨m, hm, (mayFailB_iff S.p m).2 ⟨hmx, hcf⟩⟩
      exact ReachPost.step n none (some σ) (S.token_pre n hn)
        ⟨hg, hinv, Or.inr ⟨hany, σ', hrun⟩⟩
  | fail n σ herr hinv hfail =>
    intro hn
    have hg : S.good = false := by cases hgd : S.good <;> simp [hgd] at herr ⊢
    exact ReachPost.step n none (some σ) (S.token_pre n hn) ⟨hg, hinv, Or.inl hfail⟩

end Bwd
end Crab
