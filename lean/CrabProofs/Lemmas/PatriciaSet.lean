import CrabProofs.Lemmas.PatriciaSepDom
import CrabModel.Container.PSet

/-! `patricia_tree_set`: membership after union, intersection, insertion, removal; the subset
    test; iteration.  `discrete_domain` (a top flag + such a set): `contain` after `|`, `&`, and `<=`. -/
namespace Crab
open Patricia Patricia.Tree

namespace PSet

def IsTrue (b : Bool) : Prop := b = true

def Inv (s : T) : Prop := WF IsTrue s

theorem ctx_sound (pe : T → T → Bool) (h : ∀ a b, pe a b = true → a = b) : (ctx pe).SoundOn IsTrue :=
  ⟨h, fun x y _ hxy => by simpa [ctx] using hxy⟩

theorem inv_empty : Inv empty := trivial

theorem member_iff {s : T} (hs : Inv s) {k : Nat} : member s k = true ↔ k ∈ s.keys := by
  unfold member
  rw [mem_keys_iff_lookup hs]
  cases hl : s.lookup k with
  | none => simp
  | some r =>
    have : r = true := hs.val_of_lookup hl
    simp [this]

theorem member_eq_isSome {s : T} (hs : Inv s) (k : Nat) : member s k = (s.lookup k).isSome := by
  unfold member
  cases hl : s.lookup k with
  | none => rfl
  | some r => have : r = true := hs.val_of_lookup hl; simp [this]

theorem add_spec {c : Ctx Bool} (hc : c.SoundOn IsTrue) {s : T} (hs : Inv s) {k : Nat} (hk : k < 2 ^ 64) :
    Inv (add c s k) ∧ ∀ k', member (add c s k) k' = (decide (k' = k) || member s k') := by
  obtain ⟨w, l⟩ := insertKV_spec hc hs hk (rfl : IsTrue true)
  refine ⟨w, fun k' => ?_⟩
  show member (insertKV c s k true) k' = _
  rw [member_eq_isSome w, member_eq_isSome hs, l]
  by_cases e : k' = k <;> simp [e]

theorem remove_spec' {c : Ctx Bool} (hc : c.SoundOn IsTrue) {s : T} (hs : Inv s) {k : Nat} (hk : k < 2 ^ 64) :
    Inv (remove c s k) ∧ ∀ k', member (remove c s k) k' = (!decide (k' = k) && member s k') := by
  obtain ⟨w, l⟩ := Patricia.remove_spec hc hk hs
  refine ⟨w, fun k' => ?_⟩
  show member (Patricia.remove c s k) k' = _
  rw [member_eq_isSome w, member_eq_isSome hs, l]
  by_cases e : k' = k <;> simp [e]

/-- `merge_with` for an operation that answers `true` on two elements, as `union_op` and
    `intersection_op` do: it never raises bottom, and the result holds the common elements when
    the default is absorbing, the elements of both sets otherwise -/
theorem mergeSet_spec {c : Ctx Bool} (hc : c.SoundOn IsTrue) (ab : Bool) {a b : T} (ha : Inv a) (hb : Inv b) :
    ∃ r, mergeWith c ⟨fun _ _ _ => .val true, ab⟩ a b = some r ∧ Inv r ∧
      ∀ k, member r k = if ab then member a k && member b k else member a k || member b k := by
  unfold mergeWith
  rcases merge_cases (op := ⟨fun _ _ _ => .val true, ab⟩) hc (fun _ _ _ _ _ _ h => by cases h; rfl)
    (fun _ x hx => by cases (hx : x = true); rfl) true ha hb with ⟨_, k, x, y, _, _, hbot⟩ | ⟨r, hres, hw, hl⟩
  · cases hbot
  · refine ⟨r, hres, hw, fun k => ?_⟩
    rw [member_eq_isSome hw, member_eq_isSome ha, member_eq_isSome hb]
    have := hl k
    cases h1 : a.lookup k <;> cases h2 : b.lookup k <;> rw [h1, h2] at this <;> cases ab <;>
      simp [pw, app] at this <;> simp [← this]

theorem union_spec {c : Ctx Bool} (hc : c.SoundOn IsTrue) {a b : T} (ha : Inv a) (hb : Inv b) :
    Inv (union c a b) ∧ ∀ k, member (union c a b) k = (member a k || member b k) := by
  obtain ⟨r, e, w, l⟩ := mergeSet_spec hc false ha hb
  rw [union, unionOp, e]
  exact ⟨w, l⟩

theorem inter_spec {c : Ctx Bool} (hc : c.SoundOn IsTrue) {a b : T} (ha : Inv a) (hb : Inv b) :
    Inv (inter c a b) ∧ ∀ k, member (inter c a b) k = (member a k && member b k) := by
  obtain ⟨r, e, w, l⟩ := mergeSet_spec hc true ha hb
  rw [inter, interOp, e]
  exact ⟨w, l⟩

/-- the subset test, for both versions of `compare` (the leaf/leaf defect cannot be reached
    when the default is the bottom of the order) -/
theorem subset_spec (fxd : Bool) {c : Ctx Bool} (hc : c.SoundOn IsTrue) {a b : T} (ha : Inv a) (hb : Inv b) :
    subset fxd c a b = true ↔ ∀ k, member a k = true → member b k = true := by
  have e : subset fxd c a b = Patricia.compare true c subsetPO true a b := by
    unfold subset leqTree
    cases fxd
    · exact compare_eq_of_bot c subsetPO rfl a b
    · rfl
  rw [e, compare_fixed_iff hc subsetPO (fun _ _ => rfl) true a b ha hb]
  refine forall_congr' (fun k => ?_)
  rw [member_eq_isSome ha, member_eq_isSome hb]
  cases a.lookup k <;> cases b.lookup k <;> simp [rel, leO, subsetPO]

theorem eq_spec (fxd : Bool) {c : Ctx Bool} (hc : c.SoundOn IsTrue) {a b : T} (ha : Inv a) (hb : Inv b) :
    eq fxd c a b = true ↔ ∀ k, member a k = member b k := by
  unfold eq
  rw [Bool.and_eq_true, subset_spec fxd hc ha hb, subset_spec fxd hc hb ha]
  constructor
  · intro ⟨h1, h2⟩ k
    cases ha' : member a k <;> cases hb' : member b k
    · rfl
    · have := h2 k hb'; rw [ha'] at this; cases this
    · have := h1 k ha'; rw [hb'] at this; cases this
    · rfl
  · intro h
    exact ⟨fun k hk => by rw [← h k]; exact hk, fun k hk => by rw [h k]; exact hk⟩

/-- iteration lists every element exactly once, in increasing order -/
theorem elems_spec {s : T} (hs : Inv s) :
    (elems s).Pairwise (· < ·) ∧ (elems s).Nodup ∧ (∀ k, k ∈ elems s ↔ member s k = true) ∧
      (elems s).length = size s := by
  have e : elems s = s.keys := by
    simp [elems, elems?, iterate_eq_toList hs.ne, Tree.keys]
  rw [e]
  refine ⟨hs.keys_sorted, hs.keys_nodup, fun k => (member_iff hs).symm, ?_⟩
  simp [Tree.keys, size, size_eq_length]

theorem isEmpty_iff {s : T} (hs : Inv s) : isEmpty s = true ↔ ∀ k, member s k = false := by
  constructor
  · intro h k
    cases s <;> simp_all [isEmpty, Tree.isEmpty, member]
  · intro h
    have : s = .empty := by
      apply Classical.byContradiction
      intro hne
      obtain ⟨k', hk'⟩ := WF.exists_key hs hne
      have := (member_iff hs).mpr hk'
      rw [h k'] at this; cases this
    rw [this]; rfl

end PSet

namespace DD

def Inv (d : DD) : Prop := PSet.Inv d.set ∧ (d.isTop = true → d.set = .empty)

theorem inv_top : Inv top := ⟨trivial, fun _ => rfl⟩
theorem inv_bottom : Inv bottom := ⟨trivial, fun _ => rfl⟩

/-- `contain(e)`: everything when top, membership otherwise -/
theorem contain_eq {d : DD} (hd : Inv d) (k : Nat) : d.contain k = (d.isTop || PSet.member d.set k) := by
  unfold contain isBottom
  cases ht : d.isTop
  · simp only [Bool.not_false, Bool.true_and, Bool.false_or, Bool.false_eq_true, if_false]
    split
    · rename_i he
      exact ((PSet.isEmpty_iff hd.1).mp he k).symm
    · rfl
  · simp

theorem inv_set {s : PSet.T} (w : PSet.Inv s) : Inv ⟨false, s⟩ := ⟨w, fun h => by cases h⟩

theorem contain_set {s : PSet.T} (w : PSet.Inv s) (k : Nat) : (⟨false, s⟩ : DD).contain k = PSet.member s k := by
  rw [contain_eq (inv_set w)]; rfl

theorem join_spec {c : Ctx Bool} (hc : c.SoundOn PSet.IsTrue) {a b : DD} (ha : Inv a) (hb : Inv b) :
    Inv (join c a b) ∧ ∀ k, (join c a b).contain k = (a.contain k || b.contain k) := by
  by_cases h : (a.isTop || b.isTop) = true
  · have e0 : join c a b = top := by unfold join; rw [if_pos h]
    rw [e0]
    refine ⟨inv_top, fun k => ?_⟩
    rw [contain_eq ha, contain_eq hb]
    simp only [contain, isBottom, top]
    cases h1 : a.isTop <;> cases h2 : b.isTop <;> simp_all
  · have e0 : join c a b = ⟨false, PSet.union c a.set b.set⟩ := by unfold join; rw [if_neg h]
    rw [e0]
    obtain ⟨w, l⟩ := PSet.union_spec hc ha.1 hb.1
    refine ⟨inv_set w, fun k => ?_⟩
    rw [contain_set w, contain_eq ha, contain_eq hb, l]
    cases h1 : a.isTop <;> cases h2 : b.isTop <;> simp_all

theorem meet_spec {c : Ctx Bool} (hc : c.SoundOn PSet.IsTrue) {a b : DD} (ha : Inv a) (hb : Inv b) :
    Inv (meet c a b) ∧ ∀ k, (meet c a b).contain k = (a.contain k && b.contain k) := by
  unfold meet
  by_cases h0 : (a.isBottom || b.isBottom) = true
  · rw [if_pos h0]
    refine ⟨inv_bottom, fun k => ?_⟩
    have : (a.contain k && b.contain k) = false := by
      rw [Bool.or_eq_true] at h0
      rcases h0 with h | h
      · simp [contain, h]
      · simp [contain, h]
    rw [this]; simp [contain, isBottom, bottom, Tree.isEmpty]
  · rw [if_neg h0]
    cases h1 : a.isTop
    · cases h2 : b.isTop
      · simp only [Bool.false_eq_true, if_false]
        obtain ⟨w, l⟩ := PSet.inter_spec hc ha.1 hb.1
        refine ⟨inv_set w, fun k => ?_⟩
        rw [contain_set w, contain_eq ha, contain_eq hb, l, h1, h2]; simp
      · simp only [Bool.false_eq_true, if_false, if_true]
        refine ⟨ha, fun k => ?_⟩
        rw [contain_eq hb, h2]; simp
    · simp only [if_true]
      refine ⟨hb, fun k => ?_⟩
      rw [contain_eq ha, h1]; simp

/-- `operator<=`, for both versions of `compare` -/
theorem leq_spec (fxd : Bool) {c : Ctx Bool} (hc : c.SoundOn PSet.IsTrue) {a b : DD} (ha : Inv a) (hb : Inv b) :
    leq fxd c a b = true ↔ ∀ k, a.contain k = true → b.contain k = true := by
  unfold leq
  cases h2 : b.isTop
  · cases h1 : a.isTop
    · simp only [Bool.false_or, Bool.not_false, Bool.true_and]
      rw [PSet.subset_spec fxd hc ha.1 hb.1]
      constructor
      · intro h k hk
        rw [contain_eq ha, h1] at hk
        rw [contain_eq hb, h2]
        simpa using h k (by simpa using hk)
      · intro h k hk
        have := h k (by rw [contain_eq ha, h1]; simpa using hk)
        rw [contain_eq hb, h2] at this
        simpa using this
    · simp only [Bool.false_or, Bool.not_true, Bool.false_and, Bool.false_eq_true, false_iff]
      intro h
      -- 2^64 is not an index: it belongs to top only
      have := h (2 ^ 64) (by rw [contain_eq ha, h1]; rfl)
      rw [contain_eq hb, h2] at this
      simp only [Bool.false_or] at this
      have hk := (PSet.member_iff hb.1).mp this
      have := WF.key_lt hb.1 hk
      omega
  · simp only [Bool.true_or, true_iff]
    intro k _
    rw [contain_eq hb, h2]; rfl

end DD
end Crab
