import CrabProofs.Lemmas.BwdInst
import CrabProofs.Lemmas.XDomEngineInst

/-!
  The non-relational domains of the `XDom` layer (`constant_domain`, `sign_domain`,
  `congruence_domain`: exact models `CDom` / `SDom` / `GDom`, engine records `*.eng`) as domains of
  the backward analysis.

  * `XB.fwd E X`: the forward API, each field one statement of `XDom.Stmt` executed by the domain
    (`E.exec`).  The models are defined for machine-indexed variables (`index_t = uint64_t`, the
    keys of the Patricia tree) and canonical constraints: `E.exec` takes a proof of `E.Adm st`.
    A `bwd` program is over `Nat` indices, so `XB.run` tests `E.Adm st` (decidable) and returns
    top on the statements no real program can contain (`XB.run_adm`: the test succeeds whenever
    the variables of the statement are below `2^64`).
  * `constDom`, `signDom` = `withForgetBwd` of it: `backward_assign` / `backward_apply` of
    constant_domain.hpp / sign_domain.hpp after commit ced0dcf (`operator-=(x)`, `& inv`).
  * `congFwd`: the forward record of `congruence_domain`, whose backward operations are
    `BackwardAssignOps` (`congDom_sound_of`: the contract, GIVEN the contracts of `rename` and of
    the fresh variable for the Patricia-tree environment, which are not discharged here).
-/
namespace Crab
namespace Bwd
open XDom

def xOp : BinOp → XDom.ArithOp
  | .add => .add
  | .sub => .sub
  | .mul => .mul
  | .sdiv => .sdiv

theorem xOp_conc {op : BinOp} {a b v : Int} (h : binSem op a b = some v) :
    (xOp op).conc a b = some v := by
  cases op <;> simpa [binSem, xOp, XDom.ArithOp.conc] using h

instance (ex : Crab.Lin.Expr) : Decidable (VarsLt ex) := by unfold VarsLt; exact inferInstance
instance (c : Crab.Lin.Cst) : Decidable (CstOk c) := by unfold CstOk; exact inferInstance
instance (st : XDom.Stmt) : Decidable st.Ok := by
  cases st <;> unfold XDom.Stmt.Ok <;> exact inferInstance

theorem varsLt_toExpr (e : Lin) (h : ∀ v ∈ e.vars, v < 2 ^ 64) : VarsLt e.toExpr := by
  intro p hp
  unfold Lin.toExpr Crab.Lin.Expr.add at hp
  simp only [] at hp
  have key : ∀ (l acc : List (Crab.Lin.Var × Int)), (∀ q ∈ acc, q.1 < 2 ^ 64) → (∀ q ∈ l, q.1 < 2 ^ 64) →
      ∀ q ∈ l.foldl (fun acc p => Crab.Lin.Expr.addTerm acc p.1 p.2) acc, q.1 < 2 ^ 64 := by
    intro l
    induction l with
    | nil => intro acc ha _ q hq; exact ha q hq
    | cons t l ih =>
      intro acc ha hl q hq
      simp only [List.foldl_cons] at hq
      refine ih _ ?_ (fun r hr => hl r (List.mem_cons_of_mem _ hr)) q hq
      intro r hr
      rcases Crab.Lin.Expr.mem_addTerm hr with h1 | h1
      · exact ha r h1
      · rw [h1.1]; exact hl t List.mem_cons_self
  refine key _ _ (by simp [Crab.Lin.Expr.const]) ?_ p hp
  intro q hq
  simp only [Lin.pairs, List.mem_map] at hq
  obtain ⟨t, ht, rfl⟩ := hq
  exact h t.2 (List.mem_map.2 ⟨t, ht, rfl⟩)

theorem cstOk_toLin (c : Cst) (h : ∀ v ∈ c.e.vars, v < 2 ^ 64) : CstOk c.toLin :=
  ⟨Cst.toLin_canonical c, varsLt_toExpr c.e h⟩

/-- what the engine record lacks: `is_bottom`, top, decidability of the side condition -/
structure XExtra (E : XDom.EngDom) where
  isBottom : E.A → Bool
  isBottom_sound : ∀ a s, isBottom a = true → ¬ E.γ a s
  top_sound : ∀ s, E.γ E.ops.top s
  dec : ∀ st, Decidable (E.Adm st)

namespace XB
variable (E : XDom.EngDom) (X : XExtra E)

/-- one call of the domain; top outside the side condition of the model (not reachable from a
    real program, see `run_adm`) -/
def run (st : XDom.Stmt) (a : E.A) : E.A :=
  match X.dec st with
  | isTrue h => E.exec st h a
  | isFalse _ => E.ops.top

theorem run_adm (st : XDom.Stmt) (h : E.Adm st) (a : E.A) : run E X st a = E.exec st h a := by
  unfold run
  cases X.dec st with
  | isTrue _ => rfl
  | isFalse hn => exact absurd h hn

theorem run_sound (st : XDom.Stmt) (a : E.A) (s s' : XDom.State) (hg : E.γ a s) (hr : st.rel s s') :
    E.γ (run E X st a) s' := by
  unfold run
  cases X.dec st with
  | isTrue h => exact E.exec_sound st h a s s' hg hr
  | isFalse _ => exact X.top_sound s'

def fwd : BDom E.A where
  top := E.ops.top
  bot := E.ops.bot
  isBottom := X.isBottom
  leq := E.ops.leq
  join := E.ops.join
  meet := E.ops.meet
  widen := E.ops.widen
  narrow := E.ops.narrow
  assume := fun c a => run E X (.assume [c.toLin]) a
  forget := fun x a => run E X (.forget x) a
  assign := fun x e a => run E X (.assign x e.toExpr) a
  apply := fun op x y z a =>
    match z with
    | .var w => run E X (.arithVar (xOp op) x y w) a
    | .const k => run E X (.arithCst (xOp op) x y k) a
  select := fun x c e1 e2 a => run E X (.select x c.toLin e1.toExpr e2.toExpr) a
  bwdAssign := fun _ _ _ inv => inv
  bwdApply := fun _ _ _ _ _ inv => inv

theorem fwd_sound : BDomSound (fwd E X) E.γ where
  top_sound := X.top_sound
  isBottom_sound := X.isBottom_sound
  join_left := E.join_left
  join_right := E.join_right
  widen_left := E.widen_left
  widen_right := E.widen_right
  meet_sound := E.meet_sound
  narrow_sound := E.narrow_sound
  leq_sound := E.leq_sound
  assume_sound := by
    intro c a σ hg hc
    refine run_sound E X _ a σ σ hg ⟨?_, rfl⟩
    intro c' hc'; rw [List.mem_singleton.1 hc']; exact (Cst.toLin_sat c σ).2 hc
  forget_sound := fun x a σ v hg => run_sound E X _ a σ _ hg ⟨v, rfl⟩
  assign_sound := by
    intro x e a σ hg
    refine run_sound E X _ a σ _ hg ?_
    show _ = XDom.upd σ x (e.toExpr.eval σ)
    rw [Lin.toExpr_eval]; rfl
  apply_sound := by
    intro op x y z a σ v hg hv
    cases z with
    | var w => exact run_sound E X _ a σ _ hg ⟨v, xOp_conc hv, rfl⟩
    | const k => exact run_sound E X _ a σ _ hg ⟨v, xOp_conc hv, rfl⟩
  select_sound := by
    intro x c e1 e2 a σ hg
    refine run_sound E X _ a σ _ hg ?_
    show _ = XDom.upd σ x (if c.toLin.sat σ then e1.toExpr.eval σ else e2.toExpr.eval σ)
    rw [Lin.toExpr_eval, Lin.toExpr_eval, select_cond]; rfl
  bwdAssign_sound := fun _ _ _ _ _ h _ => h
  bwdApply_sound := fun _ _ _ _ _ _ _ _ h _ _ => h

end XB

def constX : XExtra CDom.eng where
  isBottom := fun a => a.1.isBot
  isBottom_sound := fun _ s h => XDom.Env.not_γ_of_bot h s
  top_sound := fun s => XDom.Env.γ_top CDom.cstLaws s
  dec := fun st => inferInstanceAs (Decidable st.Ok)

/-- `constant_domain` with its backward operations (forget `x`, meet the invariant) -/
def constDom : BDom CDom.SEnv := withForgetBwd (XB.fwd CDom.eng constX)

theorem constDom_sound : BDomSound constDom CDom.SEnv.γ :=
  withForgetBwd_sound (XB.fwd_sound CDom.eng constX)

def signX : XExtra SDom.eng where
  isBottom := fun a => a.1.isBot
  isBottom_sound := fun _ s h => XDom.Env.not_γ_of_bot h s
  top_sound := fun s => XDom.Env.γ_top SDom.signLaws s
  dec := fun st => inferInstanceAs (Decidable st.Ok)

/-- `sign_domain` with its backward operations (forget `x`, meet the invariant) -/
def signDom : BDom SDom.SEnv := withForgetBwd (XB.fwd SDom.eng signX)

theorem signDom_sound : BDomSound signDom SDom.SEnv.γ :=
  withForgetBwd_sound (XB.fwd_sound SDom.eng signX)

instance (st : XDom.Stmt) : Decidable (GDom.Ok' st) := by
  unfold GDom.Ok'
  have : Decidable (∀ x y z, st ≠ .bitVar .shl x y z) := by
    cases st with
    | bitVar op x y z =>
      cases op
      case shl => exact isFalse (fun h => h x y z rfl)
      all_goals exact isTrue (fun _ _ _ h => by cases h)
    | _ => exact isTrue (fun _ _ _ h => by cases h)
  exact inferInstance

def congX : XExtra GDom.eng where
  isBottom := fun a => a.1.isBot
  isBottom_sound := fun _ s h => XDom.Env.not_γ_of_bot h s
  top_sound := fun s => XDom.Env.γ_top GDom.congLaws s
  dec := fun st => inferInstanceAs (Decidable (GDom.Ok' st))

def congFwd : BDom GDom.SEnv := XB.fwd GDom.eng congX

theorem congFwd_sound : BDomSound congFwd GDom.SEnv.γ := XB.fwd_sound GDom.eng congX

/-- `congruence_domain::backward_assign / backward_apply` are `BackwardAssignOps`: the contract
    holds for every model of `rename({y}, {x})` / of the fresh variable that satisfies the two
    side contracts -/
theorem congDom_sound_of (rename : Var → Var → GDom.SEnv → GDom.SEnv)
    (hren : RenameAfterForget congFwd GDom.SEnv.γ rename) (bound : GDom.SEnv → Nat)
    (hb : BoundOk GDom.SEnv.γ bound) :
    BDomSound (withGenBwd congFwd rename bound) GDom.SEnv.γ :=
  withGenBwd_sound congFwd_sound rename hren bound hb

end Bwd
end Crab
