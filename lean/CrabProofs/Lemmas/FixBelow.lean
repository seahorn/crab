/-
  C06, upper half: with an exact value type everything the iterator stores is below the
  collecting semantics (`ReachPre` / `ReachPost`).
-/
import CrabProofs.Lemmas.FixEqns
import CrabProofs.Lemmas.FixSoundStruct

namespace Crab
namespace Fix

variable {A S : Type}

/-- every state of the post table is a reachable exit state -/
def BelowPost (c : Ctx A) (sem : Sem c S) (st : St A) : Prop :=
  ∀ n s, sem.γ (st.post n) s → ReachPost c sem n s

/-- `a` only describes states with which block `n` is reached -/
def BelowPre (c : Ctx A) (sem : Sem c S) (n : Nat) (a : A) : Prop :=
  ∀ s, sem.γ a s → ReachPre c sem n s

/-- what a visit of the blocks `C` keeps, from tables `st` to tables `r`: posts stay below
    `ReachPost`, every `pre` entry that was below `ReachPre` stays so, and the entry of the start
    block is (re)computed, hence below `ReachPre`, when `C` contains it -/
abbrev Below (c : Ctx A) (sem : Sem c S) (C : List Nat) (st r : St A) : Prop :=
  BelowPost c sem r ∧ (∀ n, BelowPre c sem n (st.pre n) → BelowPre c sem n (r.pre n)) ∧
  (c.entry ∈ C → BelowPre c sem c.entry (r.pre c.entry))

section
variable {c : Ctx A} {sem : Sem c S}

theorem strengthen_below (ex : Exact c sem) (n : Nat) (inv : A) (s : S)
    (h : sem.γ (strengthen c n inv) s) : sem.γ inv s ∧ asmOk c sem n s := by
  rcases strengthen_cases c n inv with ⟨e, ha⟩ | ⟨a, e, ha⟩
  · exact ⟨e ▸ h, ha sem s⟩
  · rw [e] at h
    exact ⟨(ex.meet_exact _ _ _ h).1, ha sem s ▸ (ex.meet_exact _ _ _ h).2⟩

theorem foldl_below (post : Nat → A) (s : S) (f : A → Nat → A)
    (hf : ∀ a p, sem.γ (f a p) s → sem.γ a s ∨ sem.γ (post p) s) :
    ∀ (ps : List Nat) (acc : A), sem.γ (ps.foldl f acc) s →
      sem.γ acc s ∨ ∃ p, p ∈ ps ∧ sem.γ (post p) s
  | [], _, h => Or.inl h
  | p :: ps, acc, h => by
    rcases foldl_below post s f hf ps _ h with h1 | ⟨q, hq, hs⟩
    · exact (hf acc p h1).imp_right fun h2 => ⟨p, List.mem_cons_self, h2⟩
    · exact Or.inr ⟨q, List.mem_cons_of_mem _ hq, hs⟩

theorem joinPosts_below (ex : Exact c sem) (post : Nat → A) (s : S) (ps : List Nat) (acc : A)
    (h : sem.γ (joinPosts c post acc ps) s) : sem.γ acc s ∨ ∃ p, p ∈ ps ∧ sem.γ (post p) s :=
  foldl_below post s _ (fun _ _ => ex.join_exact _ _ s) ps acc h

/-- a value made of predecessors' posts (and `init` at the start block), once strengthened, is
    below the collecting semantics -/
theorem good_strengthen (ex : Exact c sem) {st : St A} (hp : BelowPost c sem st) (n : Nat) (a : A)
    (h : ∀ s, sem.γ a s → (n = c.entry ∧ sem.γ c.init s) ∨ ∃ p, p ∈ c.preds n ∧ sem.γ (st.post p) s) :
    BelowPre c sem n (strengthen c n a) := by
  intro s hs
  obtain ⟨h1, h2⟩ := strengthen_below ex n a s hs
  rcases h s h1 with ⟨rfl, hi⟩ | ⟨p, hpm, hps⟩
  · exact ReachPre.init s hi h2
  · exact ReachPre.flow p n s hpm (hp p s hps) h2

/-- the shape of the candidate invariant of a cycle head: a fold over the predecessors started
    at bottom, joined with `init` at the start block -/
theorem good_headJoin (ex : Exact c sem) {st : St A} (hp : BelowPost c sem st) (n : Nat) (a : A)
    (h : ∀ s, sem.γ a s → sem.γ c.ops.bot s ∨ ∃ p, p ∈ c.preds n ∧ sem.γ (st.post p) s) :
    BelowPre c sem n (strengthen c n (if n == c.entry then c.ops.join a c.init else a)) := by
  have h' : ∀ s, sem.γ a s → ∃ p, p ∈ c.preds n ∧ sem.γ (st.post p) s :=
    fun s hs => (h s hs).resolve_left (ex.bot_empty s)
  refine good_strengthen ex hp n _ (fun s hs => ?_)
  by_cases he : (n == c.entry) = true
  · rw [if_pos he] at hs
    exact (ex.join_exact _ _ _ hs).symm.imp (fun h1 => ⟨beq_iff_eq.1 he, h1⟩) (h' s)
  · rw [if_neg he] at hs
    exact Or.inr (h' s hs)

theorem newPre_good (ex : Exact c sem) {st : St A} (hp : BelowPost c sem st) (head : Nat) :
    BelowPre c sem head (newPre c st head) :=
  good_headJoin ex hp head _ (fun s => joinPosts_below ex _ s _ _)

theorem cyclePre_good (ex : Exact c sem) {st : St A} (hp : BelowPost c sem st) (head : Nat) :
    BelowPre c sem head (cyclePre c st head) :=
  good_headJoin ex hp head _ (fun s => foldl_below st.post s _ (fun a p h => by
    cases hn : c.nesting p with
    | none => rw [hn] at h; exact Or.inl h
    | some np =>
      rw [hn] at h
      dsimp only at h
      split at h
      · exact ex.join_exact _ _ _ h
      · exact Or.inl h) _ _)

theorem vertexPre_good (ex : Exact c sem) {st : St A} (hp : BelowPost c sem st) (node : Nat) :
    BelowPre c sem node (vertexPreS c st node) := by
  refine good_strengthen ex hp node _ (fun s hs => ?_)
  by_cases he : (node == c.entry) = true
  · rw [if_pos he] at hs
    exact (joinPosts_below ex _ s _ _ hs).imp_left fun h2 => ⟨beq_iff_eq.1 he, h2⟩
  · rw [if_neg he] at hs
    exact Or.inr ((joinPosts_below ex _ s _ _ hs).resolve_left (ex.bot_empty s))

theorem computePost_ok (ex : Exact c sem) {st : St A} (hp : BelowPost c sem st) (node : Nat) (inv : A)
    (hg : BelowPre c sem node inv) : BelowPost c sem (computePost c st node inv) := by
  intro n s hs
  simp only [computePost, upd] at hs
  split at hs
  · subst n
    obtain ⟨s0, h0, hstep⟩ := ex.analyze_exact _ _ _ hs
    exact ReachPost.step _ s0 s (hg s0 h0) hstep
  · exact hp n s hs

theorem extrapolate_good (ex : Exact c sem) (n it : Nat) (a b : A)
    (ha : BelowPre c sem n a) (hb : BelowPre c sem n b) : BelowPre c sem n (extrapolate c it a b) := by
  intro s hs
  unfold extrapolate at hs
  rw [ex.widen_is_join] at hs
  simp only [ite_self] at hs
  rcases ex.join_exact _ _ _ hs with h | h
  · exact ha s h
  · exact hb s h

theorem refine_good (ex : Exact c sem) (n it : Nat) (a b : A)
    (ha : BelowPre c sem n a) : BelowPre c sem n (refine c it a b) := by
  intro s hs
  unfold refine at hs
  rw [ex.narrow_is_meet] at hs
  simp only [ite_self] at hs
  exact ha s (ex.meet_exact _ _ _ hs).1

theorem good_upd (n k : Nat) (f : Nat → A) (v : A)
    (hv : BelowPre c sem k v) (hf : BelowPre c sem n (f n)) : BelowPre c sem n (upd f k v n) := by
  unfold upd
  split
  · subst n; exact hv
  · exact hf

/-- `visit(wto_vertex_t&)` keeps the tables below the collecting semantics, and the invariant
    of the start block is recomputed when the vertex is the start block -/
theorem visitVertex_below (ex : Exact c sem) (st : St A) (v : Nat) (hp : BelowPost c sem st) :
    BelowPost c sem (visitVertex c st v) ∧
    (∀ n, BelowPre c sem n (st.pre n) → BelowPre c sem n ((visitVertex c st v).pre n)) ∧
    (v = c.entry → BelowPre c sem c.entry ((visitVertex c st v).pre c.entry)) := by
  rw [visitVertex_eq]
  by_cases hsk : (st.skip && !(v == c.entry)) = true
  · rw [if_pos hsk]
    refine ⟨hp, fun n hn => hn, fun hv => ?_⟩
    simp [hv] at hsk
  · rw [if_neg hsk]
    have hg := vertexPre_good ex hp v
    refine ⟨computePost_ok ex (st := { st with pre := _, skip := false }) hp v _ hg,
      fun n hn => good_upd n v _ _ hg hn, fun hv => ?_⟩
    subst hv
    show BelowPre c sem c.entry (upd st.pre c.entry _ c.entry)
    rw [Sound.upd_same]
    exact hg

theorem below_aux (ex : Exact c sem) : ∀ f,
    (∀ st x r, BelowPost c sem st → visitComp c f st x = some r → Below c sem x.nodes st r) ∧
    (∀ st xs r, BelowPost c sem st → visitList c f st xs = some r →
      Below c sem (nodesList xs) st r) ∧
    (∀ st head body it pre r p, BelowPost c sem st → BelowPre c sem head pre →
      ascend c f st head body it pre = some (r, p) →
      BelowPost c sem r ∧ BelowPre c sem head p ∧
      (∀ n, BelowPre c sem n (st.pre n) → BelowPre c sem n (r.pre n)) ∧
      (c.entry ∈ head :: nodesList body → BelowPre c sem c.entry (r.pre c.entry))) ∧
    (∀ st head body it pre r, BelowPost c sem st → BelowPre c sem head pre →
      descend c f st head body it pre = some r →
      BelowPost c sem r ∧ (∀ n, BelowPre c sem n (st.pre n) → BelowPre c sem n (r.pre n))) := by
  intro f
  induction f with
  | zero =>
    refine ⟨?_, ?_, ?_, ?_⟩
    · intro st x r _ h; simp [visitComp_zero] at h
    · intro st xs r _ h; simp [visitList_zero] at h
    · intro st h b i p r q _ _ h; simp [ascend_zero] at h
    · intro st h b i p r _ _ h; simp [descend_zero] at h
  | succ f ih =>
    obtain ⟨ihC, ihL, ihA, ihD⟩ := ih
    refine ⟨?_, ?_, ?_, ?_⟩
    · -- visitComp
      intro st x r hp h
      cases x with
      | vertex v =>
        rw [visitComp_vertex] at h
        cases h
        obtain ⟨h1, h2, h3⟩ := visitVertex_below ex st v hp
        refine ⟨h1, h2, fun hm => h3 ?_⟩
        simp only [Comp.nodes, List.mem_singleton] at hm
        exact hm.symm
      | cycle head body =>
        rw [visitComp_cycle] at h
        by_cases hs : (st.skip && !(st.skip && (Comp.cycle head body).member c.entry)) = true
        · rw [if_pos hs] at h
          cases h
          refine ⟨hp, fun n hn => hn, fun hm => ?_⟩
          have := (Sound.Comp.member_iff _ _).2 hm
          simp [this] at hs
        · rw [if_neg hs] at h
          cases hA : ascend c f { st with skip := false } head body 1 (cyclePre c st head) with
          | none => rw [hA] at h; cases h
          | some q =>
            obtain ⟨st1, p1⟩ := q
            rw [hA, Option.bind_some] at h
            simp only at h
            obtain ⟨a1, a2, a3, a4⟩ := ihA _ _ _ _ _ _ (st := { st with skip := false }) hp
              (cyclePre_good ex hp head) hA
            by_cases hd : c.descending = 0
            · rw [if_pos hd] at h
              cases h
              exact ⟨a1, a3, a4⟩
            · rw [if_neg hd] at h
              obtain ⟨d1, d2⟩ := ihD _ _ _ _ _ _ a1 a2 h
              exact ⟨d1, fun n hn => d2 n (a3 n hn), fun hm => d2 _ (a4 hm)⟩
    · -- visitList
      intro st xs r hp h
      cases xs with
      | nil =>
        rw [visitList_nil] at h
        cases h
        exact ⟨hp, fun n hn => hn, fun hm => by simp [nodesList] at hm⟩
      | cons x xs =>
        rw [visitList_cons] at h
        cases hC : visitComp c f st x with
        | none => rw [hC] at h; cases h
        | some st1 =>
          rw [hC, Option.bind_some] at h
          obtain ⟨c1, c2, c3⟩ := ihC _ _ _ hp hC
          obtain ⟨l1, l2, l3⟩ := ihL _ _ _ c1 h
          refine ⟨l1, fun n hn => l2 n (c2 n hn), fun hm => ?_⟩
          simp only [nodesList, List.mem_append] at hm
          rcases hm with hm | hm
          · exact l2 _ (c3 hm)
          · exact l3 hm
    · -- ascend
      intro st head body it pre r p hp hg h
      rw [ascend_succ] at h
      have hp0 : BelowPost c sem (computePost c { st with pre := upd st.pre head pre } head pre) :=
        computePost_ok ex (st := { st with pre := _ }) hp head pre hg
      cases hL : visitList c f (computePost c { st with pre := upd st.pre head pre } head pre) body with
      | none => rw [hL] at h; cases h
      | some st1 =>
        rw [hL, Option.bind_some] at h
        obtain ⟨l1, l2, l3⟩ := ihL _ _ _ hp0 hL
        have hnp := newPre_good ex l1 head
        have hst1 : ∀ n, BelowPre c sem n (st.pre n) → BelowPre c sem n (st1.pre n) := fun n hn =>
          l2 n (good_upd n head _ _ hg hn)
        have hhead : BelowPre c sem head (st1.pre head) := by
          refine l2 head ?_
          show BelowPre c sem head (upd st.pre head pre head)
          rw [Sound.upd_same]; exact hg
        have hentry : c.entry ∈ head :: nodesList body → BelowPre c sem c.entry (st1.pre c.entry) := by
          intro hm
          rcases List.mem_cons.1 hm with hm | hm
          · rw [hm]; exact hhead
          · exact l3 hm
        by_cases hl : c.ops.leq (newPre c st1 head) pre = true
        · rw [if_pos hl] at h
          cases h
          refine ⟨l1, hnp, fun n hn => good_upd n head _ _ hnp (hst1 n hn), fun hm => ?_⟩
          exact good_upd _ head _ _ hnp (hentry hm)
        · rw [if_neg hl] at h
          obtain ⟨a1, a2, a3, a4⟩ := ihA _ _ _ _ _ _ _ l1
            (extrapolate_good ex head it _ _ hg hnp) h
          exact ⟨a1, a2, fun n hn => a3 n (hst1 n hn), a4⟩
    · -- descend
      intro st head body it pre r hp hg h
      rw [descend_succ] at h
      have hp0 : BelowPost c sem (computePost c st head pre) := computePost_ok ex hp head pre hg
      cases hL : visitList c f (computePost c st head pre) body with
      | none => rw [hL] at h; cases h
      | some st1 =>
        rw [hL, Option.bind_some] at h
        obtain ⟨l1, l2, _⟩ := ihL _ _ _ hp0 hL
        have hst1 : ∀ n, BelowPre c sem n (st.pre n) → BelowPre c sem n (st1.pre n) := fun n hn => l2 n hn
        by_cases hl : c.ops.leq pre (newPre c st1 head) = true
        · rw [if_pos hl] at h
          cases h
          exact ⟨l1, hst1⟩
        · rw [if_neg hl] at h
          by_cases hi : it > c.descending
          · rw [if_pos hi] at h
            cases h
            exact ⟨l1, hst1⟩
          · rw [if_neg hi] at h
            have hr := refine_good ex head it pre (newPre c st1 head) hg
            obtain ⟨d1, d2⟩ := ihD _ _ _ _ _
              (st := { st1 with pre := upd st1.pre head (refine c it pre (newPre c st1 head)) })
              l1 hr h
            exact ⟨d1, fun n hn => d2 n (good_upd n head _ _ hr (hst1 n hn))⟩

/-- C06, upper half -/
theorem run_below (ex : Exact c sem) (w : List Comp) (hw : c.entry ∈ nodesList w)
    (fuel : Nat) (st : St A) (h : run c fuel w = some st) :
    (∀ n s, sem.γ (st.pre n) s → ReachPre c sem n s) ∧
    (∀ n s, sem.γ (st.post n) s → ReachPost c sem n s) := by
  have hp0 : BelowPost c sem
      { pre := upd (fun _ => c.ops.bot) c.entry c.init, post := fun _ => c.ops.bot, skip := true } :=
    fun n s hs => absurd hs (ex.bot_empty s)
  obtain ⟨l1, l2, l3⟩ := (below_aux ex fuel).2.1 _ _ _ hp0 h
  refine ⟨fun n s hs => ?_, l1⟩
  by_cases hn : n = c.entry
  · subst hn; exact l3 hw s hs
  · refine l2 n ?_ s hs
    intro s' hs'
    have hs'' : sem.γ (upd (fun _ => c.ops.bot) c.entry c.init n) s' := hs'
    rw [Sound.upd_other _ _ _ _ hn] at hs''
    exact absurd hs'' (ex.bot_empty s')

end
end Fix
end Crab
