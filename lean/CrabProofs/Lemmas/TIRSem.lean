import CrabModel.Transform.TIR
import CrabProofs.Lemmas.TIRList

/-!
  Basic facts about `CrabModel/Transform/TIR.lean`.  Semantics: expressions only read their
  variables; a statement only reads its uses and only writes its defs (`stepStmt_agree`,
  `stepStmt_of_def`, `stepStmt_frame`), how it can stop (`stepStmt_stop_cases`); the statements
  that cannot stop (`Stmt.total`); the executable `run` only produces executions of the relation
  `Exec`; inversion of `Exec`.
  Lookups: what `block?` finds, also after a label-preserving map over all blocks (`Prog.mapBlocks`),
  `isExit`, the number of labels.
-/
namespace Crab
namespace TIR

theorem State.set_same (σ : State) (x : Var) (v : Int) : (σ.set x v) x = v := by
  simp [State.set]

theorem State.set_other (σ : State) (x y : Var) (v : Int) (h : y ≠ x) : (σ.set x v) y = σ y := by
  simp [State.set, h]

theorem State.agree_set {S : Var → Prop} {x : Var} (hx : ¬ S x) (σ : State) (v : Int) :
    ∀ y, S y → σ y = (σ.set x v) y := by
  intro y hy
  have : y ≠ x := fun h => hx (h ▸ hy)
  simp [State.set, this]

theorem evalTerms_congr (ts : List (Int × Var)) (σ σ' : State)
    (h : ∀ y, y ∈ ts.map (·.2) → σ y = σ' y) : evalTerms ts σ = evalTerms ts σ' := by
  induction ts with
  | nil => rfl
  | cons t r ih =>
    obtain ⟨k, x⟩ := t
    simp only [evalTerms]
    rw [h x (by simp), ih (fun y hy => h y (by simp [hy]))]

theorem Lin.eval_congr (e : Lin) (σ σ' : State) (h : ∀ y, y ∈ e.vars → σ y = σ' y) :
    e.eval σ = e.eval σ' := by
  unfold Lin.eval
  rw [evalTerms_congr e.ts σ σ' h]

theorem Cst.holds_congr (c : Cst) (σ σ' : State) (h : ∀ y, y ∈ c.vars → σ y = σ' y) :
    c.holds σ = c.holds σ' := by
  unfold Cst.holds
  rw [Lin.eval_congr c.e σ σ' h]

theorem Opd.eval_congr (a : Opd) (σ σ' : State) (h : ∀ y, y ∈ a.vars → σ y = σ' y) :
    a.eval σ = a.eval σ' := by
  cases a with
  | var v => exact h v (by simp [Opd.vars])
  | const c => rfl

theorem State.set_agree {σ σ' : State} (x : Var) (v : Int) (y : Var) (h : y ∈ [x] ∨ σ y = σ' y) :
    (σ.set x v) y = (σ'.set x v) y := by
  by_cases hyx : y = x
  · simp [State.set, hyx]
  · simp only [State.set, hyx, if_false]
    exact h.resolve_left (by simpa using hyx)

def StepRes.Rel (R : Var → Prop) : StepRes → StepRes → Prop
  | .cont a e, .cont b e' => e = e' ∧ ∀ y, R y → a y = b y
  | .stop e o, .stop e' o' => e = e' ∧ o = o'
  | _, _ => False

/-- a statement reads only its uses: from states that agree on the uses the results agree on
    the defs and on every variable on which the states agreed -/
theorem stepStmt_agree (s : Stmt) (σ σ' : State) (hv : Int)
    (h : ∀ y, y ∈ s.uses → σ y = σ' y) :
    StepRes.Rel (fun y => y ∈ s.defs ∨ σ y = σ' y) (stepStmt s σ hv) (stepStmt s σ' hv) := by
  cases s with
  | assign x e =>
    have he : e.eval σ = e.eval σ' := Lin.eval_congr e σ σ' h
    simp only [stepStmt, he]
    exact ⟨rfl, State.set_agree x _⟩
  | bin op x a b =>
    have ha : a.eval σ = a.eval σ' := Opd.eval_congr a σ σ' (fun y hy => h y (List.mem_append_left _ hy))
    have hb : b.eval σ = b.eval σ' := Opd.eval_congr b σ σ' (fun y hy => h y (List.mem_append_right _ hy))
    simp only [stepStmt, ha, hb]
    cases op.eval (a.eval σ') (b.eval σ') with
    | none => exact ⟨rfl, rfl⟩
    | some v => exact ⟨rfl, State.set_agree x v⟩
  | havoc x => exact ⟨rfl, State.set_agree x hv⟩
  | assume c =>
    have hc : c.holds σ = c.holds σ' := Cst.holds_congr c σ σ' h
    simp only [stepStmt, hc]
    cases c.holds σ' with
    | true => exact ⟨rfl, fun y hy => hy.resolve_left List.not_mem_nil⟩
    | false => exact ⟨rfl, rfl⟩
  | assert c =>
    have hc : c.holds σ = c.holds σ' := Cst.holds_congr c σ σ' h
    simp only [stepStmt, hc]
    cases c.holds σ' with
    | true => exact ⟨rfl, fun y hy => hy.resolve_left List.not_mem_nil⟩
    | false => exact ⟨rfl, rfl⟩
  | select x c e1 e2 =>
    have hc : c.holds σ = c.holds σ' := Cst.holds_congr c σ σ' (fun y hy => h y (by simp [Stmt.uses, hy]))
    have h1 : e1.eval σ = e1.eval σ' := Lin.eval_congr e1 σ σ' (fun y hy => h y (by simp [Stmt.uses, hy]))
    have h2 : e2.eval σ = e2.eval σ' := Lin.eval_congr e2 σ σ' (fun y hy => h y (by simp [Stmt.uses, hy]))
    simp only [stepStmt, hc, h1, h2]
    exact ⟨rfl, State.set_agree x _⟩
  | unreachable => exact ⟨rfl, rfl⟩

theorem stepStmt_cont_agree {s : Stmt} {σ σ' σ1 : State} {hv : Int} {ev : Option Event}
    (h : ∀ y, y ∈ s.uses → σ y = σ' y) (hs : stepStmt s σ hv = .cont σ1 ev) :
    ∃ σ1', stepStmt s σ' hv = .cont σ1' ev ∧ ∀ y, y ∈ s.defs ∨ σ y = σ' y → σ1 y = σ1' y := by
  have hrel := stepStmt_agree s σ σ' hv h
  rw [hs] at hrel
  cases hs' : stepStmt s σ' hv with
  | stop e o => rw [hs'] at hrel; exact hrel.elim
  | cont σ1' ev' => rw [hs'] at hrel; exact ⟨σ1', by rw [hrel.1], hrel.2⟩

theorem stepStmt_stop_agree {s : Stmt} {σ σ' : State} {hv : Int} {ev : Option Event} {o : Outcome}
    (h : ∀ y, y ∈ s.uses → σ y = σ' y) (hs : stepStmt s σ hv = .stop ev o) : stepStmt s σ' hv = .stop ev o := by
  have hrel := stepStmt_agree s σ σ' hv h
  rw [hs] at hrel
  cases hs' : stepStmt s σ' hv with
  | cont σ1' ev' => rw [hs'] at hrel; exact hrel.elim
  | stop e o' => rw [hs'] at hrel; rw [hrel.1, hrel.2]

/-- a statement with a definition writes that one variable and emits nothing, unless it divides
    by zero -/
theorem stepStmt_of_def {s : Stmt} (hd : s.defs ≠ []) (σ : State) (hv : Int) :
    ∃ x, s.defs = [x] ∧
      ((∃ v, stepStmt s σ hv = .cont (σ.set x v) none) ∨ stepStmt s σ hv = .stop none .divzero) := by
  cases s with
  | assign x e => exact ⟨x, rfl, Or.inl ⟨_, rfl⟩⟩
  | bin op x a b =>
    refine ⟨x, rfl, ?_⟩
    simp only [stepStmt]
    cases op.eval (a.eval σ) (b.eval σ) with
    | none => exact Or.inr rfl
    | some v => exact Or.inl ⟨v, rfl⟩
  | havoc x => exact ⟨x, rfl, Or.inl ⟨_, rfl⟩⟩
  | select x c e1 e2 => exact ⟨x, rfl, Or.inl ⟨_, rfl⟩⟩
  | assume c => exact absurd rfl hd
  | assert c => exact absurd rfl hd
  | unreachable => exact absurd rfl hd

/-- a statement stops in one of three ways: a false assertion, a false assume or `unreachable`, a
    division by zero -/
theorem stepStmt_stop_cases {s : Stmt} {σ : State} {v : Int} {ev : Option Event} {o : Outcome}
    (h : stepStmt s σ v = .stop ev o) :
    (o = .failed ∧ ∃ c, s = .assert c ∧ ev = some ⟨true, c, false⟩) ∨
      (o = .blocked ∧ ∀ e, ev = some e → e.isAssert = false) ∨ (o = .divzero ∧ ev = none) := by
  cases s with
  | assert c =>
    simp only [stepStmt] at h
    split at h <;> cases h
    exact Or.inl ⟨rfl, c, rfl, rfl⟩
  | assume c =>
    simp only [stepStmt] at h
    split at h <;> cases h
    exact Or.inr (Or.inl ⟨rfl, fun e he => by cases he; rfl⟩)
  | bin op x p q =>
    simp only [stepStmt] at h
    split at h <;> cases h
    exact Or.inr (Or.inr ⟨rfl, rfl⟩)
  | unreachable => cases h; exact Or.inr (Or.inl ⟨rfl, fun e he => nomatch he⟩)
  | assign x e => cases h
  | havoc x => cases h
  | select x c e1 e2 => cases h

theorem stepStmt_stop_not_exit {s : Stmt} {σ : State} {hv : Int} {ev : Option Event} {o : Outcome}
    (h : stepStmt s σ hv = .stop ev o) : ∀ outs, o ≠ .exit outs := by
  rcases stepStmt_stop_cases h with ⟨rfl, _⟩ | ⟨rfl, _⟩ | ⟨rfl, _⟩ <;> exact fun _ => nofun

theorem stepStmt_frame (s : Stmt) (σ σ' : State) (hv : Int) (ev : Option Event)
    (h : stepStmt s σ hv = .cont σ' ev) (y : Var) (hy : y ∉ s.defs) : σ' y = σ y := by
  by_cases hd : s.defs = []
  · cases s with
    | assume c => simp only [stepStmt] at h; split at h <;> cases h; rfl
    | assert c => simp only [stepStmt] at h; split at h <;> cases h; rfl
    | unreachable => cases h
    | _ => cases hd
  · obtain ⟨x, hx, ⟨v, hs⟩ | hs⟩ := stepStmt_of_def hd σ hv
    · rw [hs] at h; cases h
      exact State.set_other σ x y v (by rw [hx] at hy; simpa using hy)
    · rw [hs] at h; cases h

theorem stepStmt_def_noevent (s : Stmt) (σ σ' : State) (hv : Int) (ev : Option Event)
    (h : stepStmt s σ hv = .cont σ' ev) (hd : s.defs ≠ []) : ev = none := by
  obtain ⟨x, _, ⟨v, hs⟩ | hs⟩ := stepStmt_of_def hd σ hv <;> rw [hs] at h <;> cases h
  rfl

theorem stepStmt_def_stop (s : Stmt) (σ : State) (hv : Int) (ev : Option Event) (o : Outcome)
    (h : stepStmt s σ hv = .stop ev o) (hd : s.defs ≠ []) : ev = none ∧ o = .divzero := by
  obtain ⟨x, _, ⟨v, hs⟩ | hs⟩ := stepStmt_of_def hd σ hv <;> rw [hs] at h <;> cases h
  exact ⟨rfl, rfl⟩

/-- statements whose execution can never stop (no division that may be by zero) -/
def Stmt.total : Stmt → Bool
  | .assign _ _ => true
  | .bin .sdiv _ _ (.const c) => c != 0
  | .bin .sdiv _ _ (.var _) => false
  | .bin _ _ _ _ => true
  | .havoc _ => true
  | .select _ _ _ _ => true
  | _ => false

theorem stepStmt_total (s : Stmt) (σ : State) (hv : Int) (h : s.total = true) :
    ∃ σ', stepStmt s σ hv = .cont σ' none := by
  cases s with
  | assign x e => exact ⟨_, rfl⟩
  | bin op x a b =>
    cases op with
    | add => exact ⟨_, rfl⟩
    | sub => exact ⟨_, rfl⟩
    | mul => exact ⟨_, rfl⟩
    | sdiv =>
      cases b with
      | var v => simp [Stmt.total] at h
      | const c =>
        simp [Stmt.total] at h
        refine ⟨σ.set x (Int.tdiv (a.eval σ) c), ?_⟩
        simp [stepStmt, BinOp.eval, Opd.eval, h]
  | havoc x => exact ⟨_, rfl⟩
  | assume c => simp [Stmt.total] at h
  | assert c => simp [Stmt.total] at h
  | select x c e1 e2 => exact ⟨_, rfl⟩
  | unreachable => simp [Stmt.total] at h

theorem run_sound (P : Prog) (O : Oracle) (halt : Clk → Label → State → Bool) :
    ∀ (n : Nat) (k : Clk) (stmts : List Stmt) (l : Label) (σ : State) (t : List Event) (o : Outcome),
      run P O halt n k stmts l σ = .done t o → Exec P stmts l σ t o := by
  intro n
  induction n with
  | zero => intro k stmts l σ t o h; simp [run] at h
  | succ n ih =>
    intro k stmts l σ t o h
    cases stmts with
    | nil =>
      simp only [run] at h
      split at h
      · cases h
      · split at h
        · rename_i hex
          simp only [Res.done.injEq] at h
          rw [← h.1, ← h.2]
          exact Exec.exit hex
        · rename_i hex
          have hex' : P.isExit l = false := by simpa using hex
          split at h
          · rename_i hs
            simp only [Res.done.injEq] at h
            rw [← h.1, ← h.2]
            exact Exec.stuck hex' hs
          · split at h
            · rename_i hmem
              exact Exec.goto hex' (by simpa using hmem) (ih _ _ _ _ _ _ h)
            · cases h
    | cons s rest =>
      simp only [run] at h
      split at h
      · rename_i σ' ev hstep
        cases hr : run P O halt n _ rest l σ' with
        | done t' o' =>
          rw [hr] at h
          simp only [Res.prepend, Res.done.injEq] at h
          rw [← h.1, ← h.2]
          exact Exec.cont _ hstep (ih _ _ _ _ _ _ hr)
        | atEnd t' l' σ'' k' => rw [hr] at h; simp [Res.prepend] at h
        | fuel t' => rw [hr] at h; simp [Res.prepend] at h
      · rename_i ev o' hstep
        simp only [Res.done.injEq] at h
        rw [← h.1, ← h.2]
        exact Exec.stop _ hstep

theorem Exec.cons_inv {P : Prog} {s : Stmt} {rest : List Stmt} {l : Label} {σ : State} {t : List Event} {o : Outcome}
    (h : Exec P (s :: rest) l σ t o) :
    ∃ hv, (∃ σ' ev t', stepStmt s σ hv = .cont σ' ev ∧ Exec P rest l σ' t' o ∧ t = evs ev ++ t') ∨
          (∃ ev, stepStmt s σ hv = .stop ev o ∧ t = evs ev) := by
  generalize hc : s :: rest = ss at h
  cases h with
  | exit _ => cases hc
  | goto _ _ _ => cases hc
  | stuck _ _ => cases hc
  | cont hv hstep hrest =>
    simp only [List.cons.injEq] at hc
    obtain ⟨rfl, rfl⟩ := hc
    exact ⟨hv, Or.inl ⟨_, _, _, hstep, hrest, rfl⟩⟩
  | stop hv hstep =>
    simp only [List.cons.injEq] at hc
    obtain ⟨rfl, rfl⟩ := hc
    exact ⟨hv, Or.inr ⟨_, hstep, rfl⟩⟩

theorem Exec.nil_inv {P : Prog} {l : Label} {σ : State} {t : List Event} {o : Outcome}
    (h : Exec P [] l σ t o) :
    (P.isExit l = true ∧ t = [] ∧ o = .exit (P.outputs.map σ)) ∨
    (P.isExit l = false ∧ ∃ l', l' ∈ P.succsOf l ∧ Exec P (P.stmtsOf l') l' σ t o) ∨
    (P.isExit l = false ∧ P.succsOf l = [] ∧ t = [] ∧ o = .blocked) := by
  generalize hc : ([] : List Stmt) = ss at h
  cases h with
  | exit hex => exact Or.inl ⟨hex, rfl, rfl⟩
  | goto hex hmem hrest => exact Or.inr (Or.inl ⟨hex, _, hmem, hrest⟩)
  | stuck hex hs => exact Or.inr (Or.inr ⟨hex, hs, rfl, rfl⟩)
  | cont _ _ _ => cases hc
  | stop _ _ => cases hc

theorem find_map_label (bs : List Block) (f : Block → Block) (hf : ∀ b, (f b).label = b.label) (l : Label) :
    (bs.map f).find? (fun b => b.label == l) = (bs.find? (fun b => b.label == l)).map f := by
  rw [List.find?_map]
  congr 2
  funext b
  simp [hf]

def Prog.mapBlocks (P : Prog) (f : Block → Block) : Prog := { P with blocks := P.blocks.map f }

theorem mapBlocks_block? (P : Prog) (f : Block → Block) (hf : ∀ b, (f b).label = b.label) (l : Label) :
    (P.mapBlocks f).block? l = (P.block? l).map f := by
  unfold Prog.block? Prog.mapBlocks
  exact find_map_label P.blocks f hf l

theorem mapBlocks_labels (P : Prog) (f : Block → Block) (hf : ∀ b, (f b).label = b.label) :
    (P.mapBlocks f).labels = P.labels := by
  simp [Prog.labels, Prog.mapBlocks, hf]

theorem block?_mem {P : Prog} {l : Label} {b : Block} (h : P.block? l = some b) :
    b ∈ P.blocks ∧ b.label = l := by
  unfold Prog.block? at h
  exact ⟨List.mem_of_find?_eq_some h, by simpa using List.find?_some h⟩

theorem isExit_iff {P : Prog} {l : Label} : P.isExit l = true ↔ P.exit = some l := by
  simp [Prog.isExit]

theorem labels_length (P : Prog) : P.labels.length = P.blocks.length := by simp [Prog.labels]

end TIR
end Crab
