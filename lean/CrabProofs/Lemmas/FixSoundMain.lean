import CrabProofs.Lemmas.FixSoundStruct
import CrabProofs.Lemmas.FixSoundSem
import CrabProofs.Lemmas.FixEqns

/-!
# Soundness of the interleaved fixpoint iterator (C01, engine part)

For the state-passing iterator `runS` (the plain `run` is the case of a transformer without state,
`FixEqns.lean`).  `visit_allS` : by induction on the fuel, simultaneously for `visitCompS`,
`visitListS`, `ascendS`, `descendS` : a visit started with `skip = false` changes only the tables
of the blocks of the component, and afterwards the tables contain the least solution of the
component relative to the posts of the blocks outside (`Snd`).  `FixSoundRun.lean` handles the
skipping of the components in front of the start block and concludes for the global collecting
semantics.
-/
namespace Crab
namespace Fix
namespace Sound

variable {A S σ : Type}

/-- only the tables of the blocks of `C` change, and `skip` is (still) off -/
def Frame (C : List Nat) (st st' : St A) : Prop :=
  st'.skip = false ∧ ∀ n, n ∉ C → st'.pre n = st.pre n ∧ st'.post n = st.post n

theorem Frame.trans {C1 C2 C : List Nat} {a b d : St A} (h1 : Frame C1 a b) (h2 : Frame C2 b d)
    (s1 : ∀ n, n ∈ C1 → n ∈ C) (s2 : ∀ n, n ∈ C2 → n ∈ C) : Frame C a d := by
  refine ⟨h2.1, fun n hn => ?_⟩
  have e1 := h1.2 n (fun h => hn (s1 n h))
  have e2 := h2.2 n (fun h => hn (s2 n h))
  exact ⟨e2.1.trans e1.1, e2.2.trans e1.2⟩

theorem Frame.ext_iff {c : Ctx A} (sem : Sem c S) {C : List Nat} {a b : St A} (h : Frame C a b) :
    ∀ p s, p ∉ C → (Ext sem a p s ↔ Ext sem b p s) := by
  intro p s hp
  unfold Ext
  rw [(h.2 p hp).2]

def VisitGood (c : Ctx A) (sem : Sem c S) (C : List Nat) (st st' : St A) : Prop :=
  Frame C st st' ∧ Snd c sem C (Ext sem st) st'

theorem VisitGood.rebase {c : Ctx A} {sem : Sem c S} {C : List Nat} {a b d : St A}
    (hab : Frame C a b) (h : VisitGood c sem C b d) : VisitGood c sem C a d := by
  refine ⟨hab.trans h.1 (fun _ x => x) (fun _ x => x), ?_⟩
  exact h.2.mono (fun p s hp hE => (hab.ext_iff sem p s hp).1 hE)

/-- the contract of a state-passing block transformer: it keeps the invariant `I` of the state,
    the state only grows (`Le`), the returned value is a sound image, and afterwards the state
    *covers* (`Cov`) every concrete state the analysed invariant describes -/
structure AnOK (c : Ctx A) (sem : Sem c S) (an : AnS A σ) (I : σ → Prop) (Le : σ → σ → Prop)
    (Cov : σ → Nat → S → Prop) : Prop where
  le_refl : ∀ s, Le s s
  le_trans : ∀ a b d, Le a b → Le b d → Le a d
  cov_mono : ∀ a b n x, Le a b → Cov a n x → Cov b n x
  call : ∀ n a s1 r s2, I s1 → an n a s1 = some (r, s2) →
    I s2 ∧ Le s1 s2 ∧ PostOf sem n a r ∧ (∀ x, sem.γ a x → Cov s2 n x)

/-- every concrete state described by the stored invariant of a block of `C` is covered -/
def CovC {c : Ctx A} (sem : Sem c S) (Cov : σ → Nat → S → Prop) (C : List Nat) (st : St A) (s : σ) : Prop :=
  ∀ n, n ∈ C → ∀ x, sem.γ (st.pre n) x → Cov s n x

variable {c : Ctx A} {sem : Sem c S} {an : AnS A σ} {I : σ → Prop} {Le : σ → σ → Prop}
  {Cov : σ → Nat → S → Prop}

theorem CovC.mono (ok : AnOK c sem an I Le Cov) {C : List Nat} {st st' : St A} {s s' : σ}
    (h : CovC sem Cov C st s) (hle : Le s s') (hpre : ∀ n, n ∈ C → st'.pre n = st.pre n) :
    CovC sem Cov C st' s' := by
  intro n hn x hx
  rw [hpre n hn] at hx
  exact ok.cov_mono _ _ _ _ hle (h n hn x hx)

theorem computePostS_spec (ok : AnOK c sem an I Le Cov) {st st' : St A} {n : Nat} {a : A} {s s' : σ}
    (h : computePostS an st n a s = some (st', s')) (hI : I s) :
    ∃ r, st' = { st with post := upd st.post n r } ∧ I s' ∧ Le s s' ∧ PostOf sem n a r ∧
      (∀ x, sem.γ a x → Cov s' n x) := by
  unfold computePostS at h
  cases ha : an n a s with
  | none => rw [ha] at h; cases h
  | some rs =>
    obtain ⟨r, s2⟩ := rs
    rw [ha] at h
    simp only [Option.some.injEq, Prod.mk.injEq] at h
    obtain ⟨h1, h2⟩ := h
    subst h1; subst h2
    obtain ⟨k1, k2, k3, k4⟩ := ok.call n a s r s2 hI ha
    exact ⟨r, rfl, k1, k2, k3, k4⟩

def VisitGoodS (c : Ctx A) (sem : Sem c S) (I : σ → Prop) (Le : σ → σ → Prop) (Cov : σ → Nat → S → Prop)
    (C : List Nat) (st : St A) (s : σ) (st' : St A) (s' : σ) : Prop :=
  VisitGood c sem C st st' ∧ I s' ∧ Le s s' ∧ CovC sem Cov C st' s'

theorem visitVertexS_spec (ok : AnOK c sem an I Le Cov) {st st' : St A} {v : Nat} {s s' : σ}
    (h : visitVertexS c an st v s = some (st', s')) (hs : st.skip = false) (hI : I s) :
    ∃ r, st' = { st with pre := upd st.pre v (vertexPreS c st v), post := upd st.post v r } ∧
      I s' ∧ Le s s' ∧ PostOf sem v (vertexPreS c st v) r ∧
      (∀ x, sem.γ (vertexPreS c st v) x → Cov s' v x) := by
  simp only [visitVertexS, hs, Bool.false_and, Bool.false_eq_true, if_false] at h
  obtain ⟨r, h1, h2, h3, h4, h5⟩ := computePostS_spec ok h hI
  refine ⟨r, ?_, h2, h3, h4, h5⟩
  rw [h1]
  cases st
  simp only at hs
  subst hs
  rfl

/-- one round over a cycle whose head `h` has the stored invariant `pre`: the head is analysed,
    then the body visited (`hB`: what is known of that visit).  The tables are sound for the cycle
    as soon as `pre` is known to contain the join over the predecessors of the head (`hH`: in the
    ascending phase by the stabilisation test, in the descending phase because `pre` already
    contains the least solution). -/
theorem round_spec (ok : AnOK c sem an I Le Cov) {st st1 st2 : St A} {h : Nat} {B : List Nat}
    {pre : A} {s s1 s2 : σ} (hnd : (h :: B).Nodup) (hs : st.skip = false) (hI : I s)
    (hpre : st.pre h = pre) (hCP : computePostS an st h pre s = some (st1, s1))
    (hB : st1.skip = false → I s1 → VisitGoodS c sem I Le Cov B st1 s1 st2 s2) :
    Frame (h :: B) st st2 ∧ I s2 ∧ Le s s2 ∧ st2.pre h = pre ∧ CovC sem Cov (h :: B) st2 s2 ∧
    ((∀ x, LPre c sem (h :: B) (Ext sem st) h x → sem.γ (newPre c st2 h) x → sem.γ pre x) →
      Snd c sem (h :: B) (Ext sem st) st2 ∧
      ∀ x, LPre c sem (h :: B) (Ext sem st) h x → sem.γ pre x ∧ sem.γ (newPre c st2 h) x) := by
  have hnd1 := List.nodup_cons.1 hnd
  obtain ⟨r, rfl, hI1, hL1, hpo, hcov⟩ := computePostS_spec ok hCP hI
  obtain ⟨gB, hI2, hL2, hC2⟩ := hB hs hI1
  have hF1 : Frame (h :: B) st { st with post := upd st.post h r } :=
    ⟨hs, fun n hn => ⟨rfl, upd_other _ _ _ _ (List.ne_of_not_mem_cons hn)⟩⟩
  have hF2 : Frame (h :: B) st st2 :=
    hF1.trans gB.1 (fun _ x => x) (fun n hn => List.mem_cons_of_mem _ hn)
  have hpre2 : st2.pre h = pre := (gB.1.2 h hnd1.1).1.trans hpre
  refine ⟨hF2, hI2, ok.le_trans _ _ _ hL1 hL2, hpre2, ?_, fun hH => ?_⟩
  · intro n hn x hx
    rcases List.mem_cons.1 hn with rfl | hnB
    · rw [hpre2] at hx; exact ok.cov_mono _ _ _ _ hL2 (hcov x hx)
    · exact hC2 n hnB x hx
  · have hR := cycle_round (sem := sem) h B st _ st2 pre hnd1.1
      (show PostOf sem h pre (upd st.post h r h) by rw [upd_same]; exact hpo)
      (fun n hn => upd_other _ _ _ _ hn) (fun n hn => (gB.1.2 n hn).2) gB.2 hH
      (fun x _ hp => by rw [hpre2]; exact hp)
    exact ⟨hR.1, fun x hL =>
      ⟨hR.2 x hL, cycle_newPre h B st st2 (fun n hn => (hF2.2 n hn).2) hR.1 x hL⟩⟩

theorem Frame.set_head {C : List Nat} {st st2 : St A} {h : Nat} (hF : Frame (h :: C) st st2) (v : A) :
    Frame (h :: C) st { st2 with pre := upd st2.pre h v } :=
  ⟨hF.1, fun n hn => ⟨(upd_other _ _ _ _ (List.ne_of_not_mem_cons hn)).trans (hF.2 n hn).1,
    (hF.2 n hn).2⟩⟩

/-! What is shown of each of the four functions, for a given fuel.  The predicates take the proof
of the contract only to fix `c sem an I Le Cov`, which their statements mention.

`AscGood` asks nothing of the candidate invariant `pre` it is started with: the ascending phase
hands the extrapolated value on without any fact about it, and what is stored is justified by the
stabilisation test `new_pre <= pre` of the last round alone (`round_spec`, hypothesis `hH`).  So the
soundness of `widen` (and of `join` inside `extrapolate`) is never used. -/

def CompGood (_ : AnOK c sem an I Le Cov) (fuel : Nat) : Prop :=
  ∀ st x s st' s', visitCompS c an fuel st x s = some (st', s') → st.skip = false → I s →
    CompOK c x → x.nodes.Nodup → VisitGoodS c sem I Le Cov x.nodes st s st' s'

def ListGood (_ : AnOK c sem an I Le Cov) (fuel : Nat) : Prop :=
  ∀ st xs s st' s', visitListS c an fuel st xs s = some (st', s') → st.skip = false → I s →
    ListOK c xs → (nodesList xs).Nodup → VisitGoodS c sem I Le Cov (nodesList xs) st s st' s'

def AscGood (_ : AnOK c sem an I Le Cov) (fuel : Nat) : Prop :=
  ∀ st h B it pre s st' p s', ascendS c an fuel st h B it pre s = some (st', p, s') →
    st.skip = false → I s → ListOK c B → (h :: nodesList B).Nodup →
    VisitGoodS c sem I Le Cov (h :: nodesList B) st s st' s' ∧ st'.pre h = p ∧
    ∀ x, LPre c sem (h :: nodesList B) (Ext sem st) h x → sem.γ p x

def DescGood (_ : AnOK c sem an I Le Cov) (fuel : Nat) : Prop :=
  ∀ st h B it pre s st' s', descendS c an fuel st h B it pre s = some (st', s') →
    st.skip = false → I s → ListOK c B → (h :: nodesList B).Nodup → st.pre h = pre →
    (∀ x, LPre c sem (h :: nodesList B) (Ext sem st) h x → sem.γ pre x) →
    VisitGoodS c sem I Le Cov (h :: nodesList B) st s st' s'

variable {fuel : Nat}

theorem CompGood.succ (ok : AnOK c sem an I Le Cov) (ihA : AscGood ok fuel) (ihD : DescGood ok fuel) :
    CompGood ok (fuel + 1) := by
  intro st x s st' s' H hs hI hok hnd
  cases x with
  | vertex v =>
    obtain ⟨r, rfl, h2, h3, h4, h5⟩ := visitVertexS_spec ok H hs hI
    refine ⟨⟨⟨hs, fun n hn => ?_⟩, ?_⟩, h2, h3, ?_⟩
    · have hn' : n ≠ v := fun e => hn (e ▸ List.mem_singleton_self v)
      exact ⟨upd_other _ _ _ _ hn', upd_other _ _ _ _ hn'⟩
    · exact vertex_sound st _ v hok (upd_same _ _ _)
        (show PostOf sem v _ (upd st.post v r v) by rw [upd_same]; exact h4)
    · intro n hn x hx
      obtain rfl : n = v := List.mem_singleton.1 hn
      have hx' : sem.γ (upd st.pre n (vertexPreS c st n) n) x := hx
      rw [upd_same] at hx'
      exact h5 x hx'
  | cycle h B =>
    rw [visitCompS_cycle, hs] at H
    simp only [Bool.false_and, Bool.false_eq_true, if_false] at H
    split at H
    · cases H
    · rename_i st1 p1 s1 hA
      obtain ⟨⟨hG, hI1, hL1, hC1⟩, hpe, hp1⟩ := ihA _ h B 1 _ s st1 p1 s1 hA rfl hI hok hnd
      -- `{st with skip := false}` has the tables of `st`
      have hG' : VisitGood c sem (h :: nodesList B) st st1 := hG
      have hp1' : ∀ x, LPre c sem (h :: nodesList B) (Ext sem st) h x → sem.γ p1 x := hp1
      split at H
      · cases H
        exact ⟨hG', hI1, hL1, hC1⟩
      · obtain ⟨hD, hI2, hL2, hC2⟩ := ihD st1 h B 1 p1 s1 st' s' H hG'.1.1 hI1 hok hnd hpe
          (fun x hL => hp1' x (hL.mono (fun p x hp hE => (hG'.1.ext_iff sem p x hp).2 hE)))
        exact ⟨hD.rebase hG'.1, hI2, ok.le_trans _ _ _ hL1 hL2, hC2⟩

theorem ListGood.succ (ok : AnOK c sem an I Le Cov) (ihC : CompGood ok fuel) (ihL : ListGood ok fuel) :
    ListGood ok (fuel + 1) := by
  intro st xs s st' s' H hs hI hok hnd
  cases xs with
  | nil =>
    cases H
    exact ⟨⟨⟨hs, fun n _ => ⟨rfl, rfl⟩⟩, fun n x hL => nomatch hL.mem⟩, hI, ok.le_refl _,
      fun n hn => nomatch hn⟩
  | cons x xs =>
    rw [visitListS_cons] at H
    split at H
    · cases H
    · rename_i st1 s1 hC
      have hnd' := List.nodup_append.1 hnd
      obtain ⟨g1, hI1, hL1, hC1⟩ := ihC st x s st1 s1 hC hs hI hok.1 hnd'.1
      obtain ⟨g2, hI2, hL2, hC2⟩ := ihL st1 xs s1 st' s' H g1.1.1 hI1 hok.2.1 hnd'.2.1
      have hdisj : ∀ n, n ∈ x.nodes → n ∉ nodesList xs := fun n h1 h2 => hnd'.2.2 n h1 n h2 rfl
      refine ⟨⟨g1.1.trans g2.1 (fun n hn => List.mem_append.2 (Or.inl hn))
        (fun n hn => List.mem_append.2 (Or.inr hn)), ?_⟩, hI2, ok.le_trans _ _ _ hL1 hL2, ?_⟩
      · exact seq_sound x.nodes (nodesList xs) st st1 st' hdisj hok.2.2
          (fun n hn => (g1.1.2 n hn).2) g2.1.2 g1.2 g2.2
      · intro n hn
        rcases List.mem_append.1 hn with hn | hn
        · exact (hC1.mono ok hL2 (fun m hm => (g2.1.2 m (hdisj m hm)).1)) n hn
        · exact hC2 n hn

theorem AscGood.succ (ok : AnOK c sem an I Le Cov) (ihL : ListGood ok fuel) (ihA : AscGood ok fuel) :
    AscGood ok (fuel + 1) := by
  intro st h B it pre s st' p s' H hs hI hok hnd
  rw [ascendS_succ] at H
  split at H
  · cases H
  · rename_i st1 s1 hCP
    split at H
    · cases H
    · rename_i st2 s2 hL
      have hF0 : Frame (h :: nodesList B) st { st with pre := upd st.pre h pre } :=
        ⟨hs, fun n hn => ⟨upd_other _ _ _ _ (List.ne_of_not_mem_cons hn), rfl⟩⟩
      obtain ⟨hF, hI2, hL12, hpre2, hC2, hsnd⟩ := round_spec ok hnd hF0.1 hI (upd_same _ _ _) hCP
        (fun hs1 hI1 => ihL st1 B s1 st2 s2 hL hs1 hI1 hok (List.nodup_cons.1 hnd).2)
      have hF2 : Frame (h :: nodesList B) st st2 := hF0.trans hF (fun _ x => x) (fun _ x => x)
      split at H
      · -- stabilisation test passed
        rename_i hle
        cases H
        obtain ⟨hS, hp⟩ := hsnd (fun x _ hnp => sem.leq_sound _ _ _ hle hnp)
        refine ⟨⟨⟨hF2.set_head _, Snd.set_pre h _ hS (fun x hL => (hp x hL).2)⟩, hI2, hL12, ?_⟩,
          upd_same _ _ _, fun x hL => (hp x hL).2⟩
        intro n hn x hx
        have hx' : sem.γ (upd st2.pre h (newPre c st2 h) n) x := hx
        by_cases hnh : n = h
        · subst hnh
          rw [upd_same] at hx'
          exact hC2 n hn x (by rw [hpre2]; exact sem.leq_sound _ _ _ hle hx')
        · rw [upd_other _ _ _ _ hnh] at hx'
          exact hC2 n hn x hx'
      · -- another ascending round: nothing is claimed of `extrapolate c it pre (newPre c st2 h)`
        obtain ⟨⟨hA1, hI3, hL3, hC3⟩, hpe, hp⟩ :=
          ihA st2 h B (it + 1) _ s2 st' p s' H hF2.1 hI2 hok hnd
        exact ⟨⟨hA1.rebase hF2, hI3, ok.le_trans _ _ _ hL12 hL3, hC3⟩, hpe, fun x hL' =>
          hp x (hL'.mono (fun p x hp hE => (hF2.ext_iff sem p x hp).1 hE))⟩

theorem DescGood.succ (ok : AnOK c sem an I Le Cov) (ihL : ListGood ok fuel) (ihD : DescGood ok fuel) :
    DescGood ok (fuel + 1) := by
  intro st h B it pre s st' s' H hs hI hok hnd hpeq hH
  rw [descendS_succ] at H
  cases hCP : computePostS an st h pre s with
  | none => rw [hCP] at H; cases H
  | some r1 =>
    obtain ⟨st1, s1⟩ := r1
    rw [hCP] at H
    dsimp only at H
    cases hL : visitListS c an fuel st1 B s1 with
    | none => rw [hL] at H; cases H
    | some r2 =>
      obtain ⟨st2, s2⟩ := r2
      rw [hL] at H
      dsimp only at H
      obtain ⟨hF2, hI2, hL12, hpre2, hC2, hsnd⟩ := round_spec ok hnd hs hI hpeq hCP
        (fun hs1 hI1 => ihL st1 B s1 st2 s2 hL hs1 hI1 hok (List.nodup_cons.1 hnd).2)
      obtain ⟨hS, hp⟩ := hsnd (fun x hL' _ => hH x hL')
      have hG2 : VisitGoodS c sem I Le Cov (h :: nodesList B) st s st2 s2 :=
        ⟨⟨hF2, hS⟩, hI2, hL12, hC2⟩
      by_cases hle : c.ops.leq pre (newPre c st2 h) = true
      · rw [if_pos hle] at H; cases H; exact hG2
      · rw [if_neg hle] at H
        by_cases hit : it > c.descending
        · rw [if_pos hit] at H; cases H; exact hG2
        · rw [if_neg hit] at H
          have hRef : ∀ x, LPre c sem (h :: nodesList B) (Ext sem st) h x →
              sem.γ (refine c it pre (newPre c st2 h)) x :=
            fun x hL' => refine_sound it _ _ x (hp x hL').1 (hp x hL').2
          have hF3 := hF2.set_head (refine c it pre (newPre c st2 h))
          obtain ⟨hD, hI3, hL3, hC3⟩ := ihD _ h B (it + 1) _ s2 st' s' H hF3.1 hI2 hok hnd
            (upd_same _ _ _)
            (fun x hL' => hRef x (hL'.mono (fun p x hp hE => (hF3.ext_iff sem p x hp).2 hE)))
          exact ⟨hD.rebase hF3, hI3, ok.le_trans _ _ _ hL12 hL3, hC3⟩

theorem visit_allS (ok : AnOK c sem an I Le Cov) :
    ∀ fuel, CompGood ok fuel ∧ ListGood ok fuel ∧ AscGood ok fuel ∧ DescGood ok fuel
  | 0 => ⟨fun st x s st' s' H => (by rw [visitCompS_zero] at H; cases H),
      fun st xs s st' s' H => (by rw [visitListS_zero] at H; cases H),
      fun _ _ _ _ _ _ _ _ _ H => (nomatch H), fun _ _ _ _ _ _ _ _ H => (nomatch H)⟩
  | fuel + 1 =>
    have ⟨ihC, ihL, ihA, ihD⟩ := visit_allS ok fuel
    ⟨.succ ok ihA ihD, .succ ok ihC ihL, .succ ok ihL ihA, .succ ok ihL ihD⟩

end Sound
end Fix
end Crab
