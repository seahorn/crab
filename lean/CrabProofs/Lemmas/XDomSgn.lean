import CrabProofs.Lemmas.XDomLin
import CrabProofs.Lemmas.XDomStmt
import CrabProofs.Props.C08Fin
import CrabModel.Dom.SignDomain

/-!
  `sign_domain` (model `Crab.SDom`), scalar level: the total wrapper `sop` of the table of
  `sign<z_number>`, and the value lattice satisfies `XDom.Laws`.  What is used of the generated
  tables are evaluated checks (`decide +kernel`; the list is in the header of
  `CrabProofs/Props/C08Fin.lean`), so everything is re-established whenever they are regenerated.
-/
namespace Crab
namespace SDom
open XDom Lin

theorem binop_eq_sop (op : SOp) (x y : Sign) : Sign.binop op x y = some (sop op x y) := by
  obtain ⟨r, h⟩ := Sign.binop_total op x y
  rw [sop, h]; rfl

theorem sop_sound (op : SOp) {x y : Sign} {a b r : Int} (ha : Sign.mem a x) (hb : Sign.mem b y)
    (hc : op.conc a b = some r) : Sign.mem r (sop op x y) :=
  C08.sgn_op_sound op x y _ a b r (binop_eq_sop op x y) ha hb hc

theorem join_upper {x y : Sign} {k : Int} (h : Sign.mem k x ∨ Sign.mem k y) : Sign.mem k (sop .join x y) :=
  C08.sgn_join_upper x y _ k (binop_eq_sop .join x y) h

theorem meet_sound {x y : Sign} {k : Int} (hx : Sign.mem k x) (hy : Sign.mem k y) : Sign.mem k (sop .meet x y) :=
  C08.sgn_meet_sound x y _ k (binop_eq_sop .meet x y) hx hy

theorem join_has (x y : Sign) (c : Cls) : (sop .join x y).has c = (x.has c || y.has c) :=
  Sign.join_has (binop_eq_sop .join x y) c

theorem meet_has (x y : Sign) (c : Cls) : (sop .meet x y).has c = (x.has c && y.has c) :=
  Sign.meet_has (binop_eq_sop .meet x y) c

theorem join_idem (x : Sign) : sop .join x x = x :=
  Sign.has_ext fun c => by rw [join_has, Bool.or_self]

theorem meet_idem (x : Sign) : sop .meet x x = x :=
  Sign.has_ext fun c => by rw [meet_has, Bool.and_self]

theorem join_ne_bot {x : Sign} (hx : x ≠ .bot) (y : Sign) : sop .join x y ≠ .bot := fun h =>
  hx (Sign.has_ext fun c => by
    have := join_has x y c
    rw [h] at this
    exact (Bool.or_eq_false_iff.mp this.symm).1)

theorem meet_ne_top {x : Sign} (hx : x ≠ .top) (y : Sign) : sop .meet x y ≠ .top := fun h =>
  hx (Sign.has_ext fun c => by
    have := meet_has x y c
    rw [h] at this
    exact (Bool.and_eq_true_iff.mp this.symm).1)

theorem meet_lower {x y : Sign} {k : Int} (h : Sign.mem k (sop .meet x y)) : Sign.mem k x ∧ Sign.mem k y := by
  rw [Sign.mem, meet_has, Bool.and_eq_true] at h
  exact h

/-- `operator<=` / `operator==` of the table, through the total wrappers of the lattice -/
theorem beq_eq (x y : Sign) : Sign.beq x y = some (decide (x = y)) := by
  have h := Sign.forall_of_all (Sign.forall_of_all C08.sgn_leq_table_exact x) y
  simp only [Bool.and_eq_true, beq_iff_eq] at h
  exact h.2

/-- `sign<z_number>` has no representation invariant -/
instance : GoodVal Sign := ⟨fun _ => True⟩

theorem stored_iff (v : Sign) : Stored signLattice v ↔ (v ≠ .bot ∧ v ≠ .top) := by
  simp [Stored, signLattice, GoodVal.good]

/-- `sign_domain` widens by the join and narrows by the meet -/
theorem upperLaws : UpperLaws signLattice Sign.mem (sop .join) where
  upper := fun _ _ _ h => join_upper h
  idem := fun x _ => join_idem x
  good := fun _ _ _ _ => trivial
  nonbot := fun x y hx _ => by
    simpa [signLattice] using join_ne_bot ((stored_iff x).mp hx).1 y

theorem lowerLaws : LowerLaws signLattice Sign.mem (sop .meet) where
  sound := fun _ _ _ h1 h2 => meet_sound h1 h2
  idem := fun x _ => meet_idem x
  good := fun _ _ _ _ => trivial
  nontop := fun x y hx _ _ => by
    simpa [signLattice] using meet_ne_top ((stored_iff x).mp hx).2 y

theorem signLaws : Laws signLattice Sign.mem where
  isTop_top := rfl
  isBottom_top := rfl
  isBottom_bottom := rfl
  good_top := trivial
  good_bottom := trivial
  mem_top := fun _ => Sign.mem_top_iff.mpr trivial
  not_mem_bottom := fun v k h => by
    have : v = .bot := by simpa [signLattice] using h
    rw [this]; exact Sign.mem_bot_iff.mp
  beq_sound := fun x y h => by
    simp only [signLattice, beq_eq, Option.getD_some, decide_eq_true_eq] at h
    exact h
  leq_refl := fun x _ => by simp [signLattice, C08.sgn_leq_refl]
  leq_sound := fun x y k h hk => by
    apply C08.sgn_leq_sound x y _ k hk
    simp only [signLattice] at h
    cases hq : Sign.leq x y with
    | none => rw [hq] at h; cases h
    | some b => rw [hq] at h; simp only [Option.getD_some] at h; rw [h]
  nonbot_mem := fun v h => by
    have hv : v ≠ .bot := by simpa [signLattice] using h
    cases v
    · exact absurd rfl hv
    · exact ⟨-1, by decide⟩
    · exact ⟨1, by decide⟩
    · exact ⟨0, by decide⟩
    · exact ⟨1, by decide⟩
    · exact ⟨0, by decide⟩
    · exact ⟨0, by decide⟩
    · exact ⟨0, by decide⟩
  nontop_out := fun v h => by
    obtain ⟨h1, h2⟩ := (stored_iff v).mp h
    cases v
    · exact absurd rfl h1
    · exact ⟨0, by decide⟩
    · exact ⟨0, by decide⟩
    · exact ⟨1, by decide⟩
    · exact ⟨0, by decide⟩
    · exact ⟨-1, by decide⟩
    · exact ⟨1, by decide⟩
    · exact absurd rfl h2
  join := upperLaws
  widen := upperLaws
  meet := lowerLaws
  narrow := lowerLaws

end SDom
end Crab
