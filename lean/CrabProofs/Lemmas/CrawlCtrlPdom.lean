import CrabModel.Transform.Cdg
import CrabProofs.Lemmas.TIRRemoveSem

/-!
  Post-dominance for the control part of C18, by avoiding paths (`Avoid`, `PDom`): reflexive,
  transitive, antisymmetric on the blocks that reach the exit, and the post-dominators of a block
  that reaches the exit form a chain.  The boolean tests of the model (`avoidB`, `pdomB`,
  `coReachable`) decide these notions on well-formed CFGs; the immediate post-dominator of the model
  (`Prog.ipdom`) exists for every block other than the exit that reaches the exit.
-/
namespace Crab
namespace TIR

inductive Avoid (P : Prog) (x : Label) (S : Label → Prop) : Label → Prop
  | here : ¬ S x → Avoid P x S x
  | step {n s : Label} : ¬ S n → s ∈ P.succsOf n → Avoid P x S s → Avoid P x S n

/-- `y` post-dominates `n` (w.r.t. the exit `x`): no path from `n` to `x` avoids `y` -/
def PDom (P : Prog) (x y n : Label) : Prop := ¬ Avoid P x (· = y) n

def CoReach (P : Prog) (x n : Label) : Prop := GPath P.succsOf n x

theorem Avoid.start {P : Prog} {x : Label} {S : Label → Prop} {n : Label} (h : Avoid P x S n) : ¬ S n := by
  cases h with
  | here h => exact h
  | step h _ _ => exact h

theorem Avoid.coReach {P : Prog} {x : Label} {S : Label → Prop} {n : Label} (h : Avoid P x S n) : CoReach P x n := by
  induction h with
  | here _ => exact GPath.refl _
  | step _ hs _ ih => exact GPath.step hs ih

theorem Avoid.mono {P : Prog} {x : Label} {S T : Label → Prop} (hST : ∀ l, T l → S l) {n : Label}
    (h : Avoid P x S n) : Avoid P x T n := by
  induction h with
  | here h => exact Avoid.here (fun ht => h (hST _ ht))
  | step h hs _ ih => exact Avoid.step (fun ht => h (hST _ ht)) hs ih

theorem CoReach.avoid_empty {P : Prog} {x n : Label} (h : CoReach P x n) : Avoid P x (fun _ => False) n :=
  GPath.ind_to (motive := fun n => Avoid P x (fun _ => False) n) (Avoid.here (fun h => h))
    (fun _ _ hs _ ih => Avoid.step (fun h => h) hs ih) h

theorem PDom.refl (P : Prog) (x y : Label) : PDom P x y y := fun h => h.start rfl

theorem PDom.succ {P : Prog} {x y n s : Label} (h : PDom P x y n) (hne : y ≠ n) (hs : s ∈ P.succsOf n) :
    PDom P x y s := fun ha => h (Avoid.step (fun e => hne e.symm) hs ha)

/-- suffix of an avoiding path: a path from `c` that avoids `a` passes through every
    post-dominator `b` of `c`, and goes on from there avoiding `a` -/
theorem Avoid.suffix {P : Prog} {x a b c : Label} (h : Avoid P x (· = a) c) (hb : PDom P x b c) :
    Avoid P x (· = a) b := by
  induction h with
  | here hx =>
    by_cases hbx : x = b
    · subst hbx; exact Avoid.here hx
    · exact absurd (Avoid.here hbx : Avoid P x (· = b) x) hb
  | @step n s hn hs hav ih =>
    by_cases hnb : n = b
    · subst hnb; exact Avoid.step hn hs hav
    · exact ih (PDom.succ hb (fun e => hnb e.symm) hs)

theorem PDom.trans {P : Prog} {x a b c : Label} (h1 : PDom P x a b) (h2 : PDom P x b c) : PDom P x a c :=
  fun hav => h1 (hav.suffix h2)

theorem PDom.reach {P : Prog} {x y n : Label} (hco : CoReach P x n) (h : PDom P x y n) :
    GPath P.succsOf n y ∧ CoReach P x y := by
  revert h
  refine GPath.ind_to (motive := fun n => PDom P x y n → GPath P.succsOf n y ∧ CoReach P x y) ?_ ?_ hco
  · intro h
    by_cases hxy : x = y
    · subst hxy; exact ⟨GPath.refl _, GPath.refl _⟩
    · exact absurd (Avoid.here hxy : Avoid P x (· = y) x) h
  · intro n s hs hp ih h
    by_cases hny : n = y
    · subst hny; exact ⟨GPath.refl _, GPath.step hs hp⟩
    · obtain ⟨h1, h2⟩ := ih (PDom.succ h (fun e => hny e.symm) hs)
      exact ⟨GPath.step hs h1, h2⟩

theorem avoid_two {P : Prog} {x a b n : Label} (hab : a ≠ b) (hco : CoReach P x n) :
    Avoid P x (fun l => l = a ∨ l = b) n ∨ Avoid P x (· = a) b ∨ Avoid P x (· = b) a := by
  refine GPath.ind_to (motive := fun n => Avoid P x (fun l => l = a ∨ l = b) n ∨ Avoid P x (· = a) b ∨ Avoid P x (· = b) a) ?_ ?_ hco
  · by_cases hxa : x = a
    · subst hxa; exact Or.inr (Or.inr (Avoid.here hab))
    · by_cases hxb : x = b
      · subst hxb; exact Or.inr (Or.inl (Avoid.here (fun e => hab e.symm)))
      · exact Or.inl (Avoid.here (fun h => h.elim hxa hxb))
  · intro n s hs _ ih
    rcases ih with h | h | h
    · by_cases hna : n = a
      · subst hna
        exact Or.inr (Or.inr (Avoid.step hab hs (h.mono (fun l hl => Or.inr hl))))
      · by_cases hnb : n = b
        · subst hnb
          exact Or.inr (Or.inl (Avoid.step (fun e => hab e.symm) hs (h.mono (fun l hl => Or.inl hl))))
        · exact Or.inl (Avoid.step (fun h' => h'.elim hna hnb) hs h)
    · exact Or.inr (Or.inl h)
    · exact Or.inr (Or.inr h)

theorem PDom.antisymm {P : Prog} {x a b : Label} (hco : CoReach P x b) (h1 : PDom P x a b) (h2 : PDom P x b a) :
    a = b := by
  apply Classical.byContradiction
  intro hab
  rcases avoid_two hab hco with h | h | h
  · exact h.start (Or.inr rfl)
  · exact h1 h
  · exact h2 h

theorem PDom.chain {P : Prog} {x a b n : Label} (hco : CoReach P x n) (ha : PDom P x a n) (hb : PDom P x b n) :
    PDom P x a b ∨ PDom P x b a := by
  apply Classical.byContradiction
  intro hno
  have hab : Avoid P x (· = a) b := Classical.byContradiction (fun h => hno (Or.inl h))
  have hba : Avoid P x (· = b) a := Classical.byContradiction (fun h => hno (Or.inr h))
  have key : ∀ m, CoReach P x m → Avoid P x (· = a) m ∨ Avoid P x (· = b) m := by
    intro m hm
    refine GPath.ind_to (motive := fun m => Avoid P x (· = a) m ∨ Avoid P x (· = b) m) ?_ ?_ hm
    · by_cases hxa : x = a
      · subst hxa
        right
        exact Avoid.here (fun e => hab.start e.symm)
      · exact Or.inl (Avoid.here hxa)
    · intro m s hs _ ih
      rcases ih with h | h
      · by_cases hma : m = a
        · subst hma; exact Or.inr hba
        · exact Or.inl (Avoid.step hma hs h)
      · by_cases hmb : m = b
        · subst hmb; exact Or.inl hab
        · exact Or.inr (Avoid.step hmb hs h)
  rcases key n hco with h | h
  · exact ha h
  · exact hb h

theorem PDom.of_exit {P : Prog} {x y : Label} (h : PDom P x y x) : y = x := by
  apply Classical.byContradiction
  intro hne
  exact h (Avoid.here (fun e => hne e.symm))

theorem PDom.exit (P : Prog) (x n : Label) : PDom P x x n := by
  intro h
  have : ∀ m, Avoid P x (· = x) m → False := by
    intro m hm
    induction hm with
    | here h => exact h rfl
    | step _ _ _ ih => exact ih
  exact this n h

theorem avoid_iff_path (P : Prog) (x : Label) (S : Label → Prop) (n : Label) :
    Avoid P x S n ↔ ∃ π, isPath P (n :: π) = true ∧ (n :: π).getLast? = some x ∧ ∀ m, m ∈ n :: π → ¬ S m := by
  constructor
  · intro h
    induction h with
    | here hx => exact ⟨[], rfl, rfl, by intro m hm; simp at hm; rw [hm]; exact hx⟩
    | @step n s hn hs _ ih =>
      obtain ⟨π, h1, h2, h3⟩ := ih
      refine ⟨s :: π, ?_, ?_, ?_⟩
      · simp only [isPath, Bool.and_eq_true, List.contains_iff_mem]
        exact ⟨hs, h1⟩
      · rw [List.getLast?_cons_cons]; exact h2
      · intro m hm
        rcases List.mem_cons.mp hm with rfl | hm
        · exact hn
        · exact h3 m hm
  · rintro ⟨π, h1, h2, h3⟩
    induction π generalizing n with
    | nil =>
      simp only [List.getLast?_singleton, Option.some.injEq] at h2
      subst h2
      exact Avoid.here (h3 n List.mem_cons_self)
    | cons s r ih =>
      simp only [isPath, Bool.and_eq_true, List.contains_iff_mem] at h1
      rw [List.getLast?_cons_cons] at h2
      exact Avoid.step (h3 n List.mem_cons_self) h1.1
        (ih s h1.2 h2 (fun m hm => h3 m (List.mem_cons_of_mem _ hm)))

theorem reachFuel_eq (P : Prog) : P.reachFuel = (P.labels.length + 1) * (P.labels.length + 1) + 1 := by
  rw [labels_length]; rfl

theorem wf_next_avoid {P : Prog} (hwf : WFp P) (y : Label) :
    ∀ l, (∀ s, s ∈ succsAvoid P y l → s ∈ P.labels) ∧ (succsAvoid P y l).length ≤ P.labels.length := by
  intro l
  refine ⟨fun s hs => hwf.succ_lab l s (List.mem_filter.mp hs).1, ?_⟩
  exact Nat.le_trans (List.length_filter_le _ _) (wf_next_succs hwf l).2

theorem mem_succsAvoid {P : Prog} {y l s : Label} : s ∈ succsAvoid P y l ↔ s ∈ P.succsOf l ∧ s ≠ y := by
  simp [succsAvoid]

theorem avoid_to_gpath {P : Prog} {x y n : Label} (h : Avoid P x (· = y) n) : GPath (succsAvoid P y) n x := by
  induction h with
  | here _ => exact GPath.refl _
  | step _ hs hav ih => exact GPath.step (mem_succsAvoid.mpr ⟨hs, hav.start⟩) ih

theorem gpath_to_avoid {P : Prog} {x y n : Label} (h : GPath (succsAvoid P y) n x) (hn : n ≠ y) :
    Avoid P x (· = y) n := by
  revert hn
  refine GPath.ind_to (motive := fun n => n ≠ y → Avoid P x (· = y) n) ?_ ?_ h
  · intro hx; exact Avoid.here hx
  · intro n s hs _ ih hn
    have := mem_succsAvoid.mp hs
    exact Avoid.step hn this.1 (ih this.2)

theorem avoidB_iff {P : Prog} (hwf : WFp P) {x y n : Label} (hn : n ∈ P.labels) :
    P.avoidB x y n = true ↔ Avoid P x (· = y) n := by
  unfold Prog.avoidB
  rw [Bool.and_eq_true, bne_iff_ne, List.contains_iff_mem, reachFuel_eq,
    reachFrom_single_iff _ P.labels (wf_next_avoid hwf y) hn]
  exact ⟨fun h => gpath_to_avoid h.2 h.1, fun h => ⟨h.start, avoid_to_gpath h⟩⟩

/-- the blocks reachable from the successors of `d` (the set in `isCdgOK` and in `Prog.cdgEscape`) -/
theorem mem_reach_succs {P : Prog} (hwf : WFp P) {d u : Label} :
    u ∈ reachFrom P.succsOf P.reachFuel (P.succsOf d) [] ↔ ∃ t, t ∈ P.succsOf d ∧ GPath P.succsOf t u := by
  rw [reachFuel_eq]
  exact reachFrom_iff P.succsOf P.labels (wf_next_succs hwf) _ (fun s hs => hwf.succ_lab d s hs) (wf_next_succs hwf d).2

theorem pdomB_iff {P : Prog} (hwf : WFp P) {x y n : Label} (hn : n ∈ P.labels) :
    P.pdomB x y n = true ↔ PDom P x y n := by
  unfold Prog.pdomB PDom
  rw [← avoidB_iff hwf hn]
  cases P.avoidB x y n <;> simp

theorem CoReach.label {P : Prog} (hwf : WFp P) {x n : Label} (hx : x ∈ P.labels) (h : CoReach P x n) :
    n ∈ P.labels := by
  cases h with
  | refl _ => exact hx
  | step hs _ => exact mem_labels_of_succ hs

theorem gpath_label {P : Prog} (hwf : WFp P) {a b : Label} (ha : a ∈ P.labels) (h : GPath P.succsOf a b) :
    b ∈ P.labels :=
  closed_contains (R := P.labels) (fun s _ s' hs => hwf.succ_lab s s' hs) h ha

theorem mem_spdoms {P : Prog} (hwf : WFp P) {x n y : Label} (hn : n ∈ P.labels) :
    y ∈ P.spdoms x n ↔ y ∈ P.labels ∧ y ≠ n ∧ PDom P x y n := by
  simp only [Prog.spdoms, List.mem_filter, Bool.and_eq_true, bne_iff_ne, ne_eq, pdomB_iff hwf hn]

theorem exists_closest {P : Prog} {x n : Label} (hco : CoReach P x n) :
    ∀ (L : List Label), L ≠ [] → (∀ y, y ∈ L → PDom P x y n) → ∃ p, p ∈ L ∧ ∀ y, y ∈ L → PDom P x y p := by
  intro L
  induction L with
  | nil => intro h; exact absurd rfl h
  | cons z r ih =>
    intro _ hall
    cases r with
    | nil =>
      refine ⟨z, List.mem_cons_self, ?_⟩
      intro y hy
      have : y = z := by simpa using hy
      subst this
      exact PDom.refl P x y
    | cons z' r' =>
      obtain ⟨p, hp, hmin⟩ := ih (by simp) (fun y hy => hall y (List.mem_cons_of_mem _ hy))
      rcases PDom.chain hco (hall z List.mem_cons_self) (hall p (List.mem_cons_of_mem _ hp)) with h | h
      · -- z post-dominates p: p stays the closest
        refine ⟨p, List.mem_cons_of_mem _ hp, ?_⟩
        intro y hy
        rcases List.mem_cons.mp hy with rfl | hy
        · exact h
        · exact hmin y hy
      · -- p post-dominates z: z is the closest
        refine ⟨z, List.mem_cons_self, ?_⟩
        intro y hy
        rcases List.mem_cons.mp hy with rfl | hy
        · exact PDom.refl P x y
        · exact PDom.trans (hmin y hy) h

theorem ipdom_some {P : Prog} (hwf : WFp P) {x n p : Label} (hx : x ∈ P.labels) (hn : n ∈ P.labels)
    (h : P.ipdom x (P.coReachable x) n = some p) :
    p ∈ P.labels ∧ p ≠ n ∧ PDom P x p n ∧ CoReach P x n ∧ ∀ y, y ≠ n → PDom P x y n → PDom P x y p := by
  unfold Prog.ipdom at h
  split at h
  · cases h
  · rename_i hc
    simp only [Bool.or_eq_true, beq_iff_eq, Bool.not_eq_eq_eq_not, Bool.not_true, not_or,
      Bool.not_eq_false, List.contains_iff_mem] at hc
    have hco : CoReach P x n := (mem_coReachable hwf hx).mp hc.2
    have hmem := List.mem_of_find?_eq_some h
    have hq := List.find?_some h
    obtain ⟨hpl, hpn, hpd⟩ := (mem_spdoms hwf hn).mp hmem
    refine ⟨hpl, hpn, hpd, hco, ?_⟩
    intro y hyn hyd
    have hyl : y ∈ P.labels := gpath_label hwf hn (PDom.reach hco hyd).1
    have hy : y ∈ P.spdoms x n := (mem_spdoms hwf hn).mpr ⟨hyl, hyn, hyd⟩
    have := (List.all_eq_true.mp hq) y hy
    exact (pdomB_iff hwf hpl).mp this

theorem ipdom_exists {P : Prog} (hwf : WFp P) {x n : Label} (hx : x ∈ P.labels) (hn : n ∈ P.labels)
    (hco : CoReach P x n) (hnx : n ≠ x) : ∃ p, P.ipdom x (P.coReachable x) n = some p := by
  unfold Prog.ipdom
  have hc : (n == x || !(P.coReachable x).contains n) = false := by
    simp only [Bool.or_eq_false_iff, beq_eq_false_iff_ne, ne_eq, Bool.not_eq_eq_eq_not, Bool.not_false,
      List.contains_iff_mem]
    exact ⟨hnx, (mem_coReachable hwf hx).mpr hco⟩
  simp only [hc, Bool.false_eq_true, if_false]
  have hne : P.spdoms x n ≠ [] := by
    have : x ∈ P.spdoms x n := (mem_spdoms hwf hn).mpr ⟨hx, fun e => hnx e.symm, PDom.exit P x n⟩
    exact List.ne_nil_of_mem this
  obtain ⟨p, hp, hmin⟩ := exists_closest hco (P.spdoms x n) hne (fun y hy => ((mem_spdoms hwf hn).mp hy).2.2)
  have hpl := ((mem_spdoms hwf hn).mp hp).1
  cases hf : (P.spdoms x n).find? (fun p => (P.spdoms x n).all (fun y => P.pdomB x y p)) with
  | some q => exact ⟨q, rfl⟩
  | none =>
    have := List.find?_eq_none.mp hf p hp
    exfalso
    apply this
    apply List.all_eq_true.mpr
    intro y hy
    exact (pdomB_iff hwf hpl).mpr (hmin y hy)

theorem ipdom_none_of_exit {P : Prog} (x : Label) (co : List Label) : P.ipdom x co x = none := by
  simp [Prog.ipdom]

theorem tabFn_ipdomTab {P : Prog} (x : Label) (co : List Label) {n : Label} (hn : n ∈ P.labels) :
    tabFn (P.ipdomTab x co) n = P.ipdom x co n := by
  unfold tabFn Prog.ipdomTab
  rw [lookup_graph, if_pos hn]
  rfl

end TIR
end Crab
