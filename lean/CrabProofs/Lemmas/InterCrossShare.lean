import CrabModel.Inter.TopDownRun
import CrabProofs.Lemmas.InterWf

/-!
  The driver's shape tag `[xshare]` (`IProg.crossShare`) covers the excluded finding F29: a program
  without cross-position name sharing at call sites satisfies `callsSeqOK` (C10) and `callsWiringOK` (C09).
-/
namespace Crab.Inter
variable {p : IProg}

theorem seqOKb_of_nocross : ∀ (ins args : List Var),
    (∀ j k, j < ins.length → k < args.length → j ≠ k → ins.getD j 0 ≠ args.getD k 0) → seqOKb ins args = true
  | [], _, _ => by cases ‹List Var› <;> rfl
  | _ :: _, [], _ => rfl
  | x :: xs, y :: ys, h => by
    simp only [seqOKb, Bool.and_eq_true, Bool.or_eq_true, beq_iff_eq, Bool.not_eq_true',
      List.contains_eq_mem, decide_eq_false_iff_not]
    refine ⟨Or.inr ?_, ?_⟩
    · intro hm
      obtain ⟨k, hk, he⟩ := List.mem_iff_getElem.mp hm
      have := h 0 (k + 1) (by simp) (by simpa using hk) (by omega)
      apply this
      simp [List.getD, List.getElem?_eq_getElem hk, he]
    · apply seqOKb_of_nocross xs ys
      intro j k hj hk hne
      have := h (j + 1) (k + 1) (by simpa using hj) (by simpa using hk) (by omega)
      simpa [List.getD] using this

theorem not_crossShare_at (h : p.crossShare = false) {f : IFun} (hf : f ∈ p.funs) {b : IBlock} (hb : b ∈ f.blocks)
    {c : Nat} {lhs args : List Var} (hs : IStmt.call c lhs args ∈ b.stmts) (hc : c < p.funs.size) :
    (∀ i j, i < args.length → j < (p.fn c).ins.length → j ≠ i → (p.fn c).ins.getD j 0 ≠ args.getD i 0) ∧
    (∀ i, i < args.length → args.getD i 0 ∉ (p.fn c).outs) ∧
    (∀ i j, i < lhs.length → j < (p.fn c).outs.length → j ≠ i → (p.fn c).outs.getD j 0 ≠ lhs.getD i 0) ∧
    (∀ i, i < lhs.length → lhs.getD i 0 ∉ (p.fn c).ins) := by
  have hfc := funs_getElem? hc
  have key := Bool.eq_false_iff.mp h
  simp only [IProg.crossShare, ne_eq, Array.any_eq_true', not_exists, not_and] at key
  have key := key f hf b hb _ hs
  simp only [hfc, Bool.or_eq_true, List.any_eq_true, List.mem_range, Bool.and_eq_true, bne_iff_ne, ne_eq,
    beq_iff_eq, List.contains_eq_mem, decide_eq_true_eq, not_or, not_exists, not_and] at key
  exact ⟨fun i j hi hj hne => (key.1 i hi).1 j hj hne, fun i hi => (key.1 i hi).2,
    fun i j hi hj hne => (key.2 i hi).1 j hj hne, fun i hi => (key.2 i hi).2⟩

theorem callsSeqOK_of_not_crossShare (p : IProg) (h : p.crossShare = false) : p.callsSeqOK = true := by
  simp only [IProg.callsSeqOK, Array.all_eq_true_iff_forall_mem]
  intro f hf b hb s hs
  cases s with
  | call c lhs args =>
    simp only
    apply seqOKb_of_nocross
    intro j k hj hk hne
    by_cases hc : c < p.funs.size
    · exact (not_crossShare_at h hf hb hs hc).1 k j hk hj hne
    · -- a callee outside the program has no formals
      have hd : p.fn c = default := by
        simp [IProg.fn, Array.getD_eq_getD_getElem?, Array.getElem?_eq_none (Nat.le_of_not_lt hc)]
      rw [hd] at hj
      exact absurd hj (Nat.not_lt_zero _)
  | _ => rfl

/-- the hypothesis `callsWiringOK` (finding F29 excluded) holds for every well-formed program without
    cross-position name sharing at call sites (`IProg.crossShare`, driver tag `[xshare]`) -/
theorem callsWiringOK_of_not_crossShare (hwf : p.wf = true) (h : p.crossShare = false) :
    p.callsWiringOK = true := by
  simp only [IProg.callsWiringOK, Array.all_eq_true_iff_forall_mem]
  intro f hf b hb s hs
  cases s with
  | call c lhs args =>
    simp only
    -- arities from `wf`
    have hwf' := hwf
    simp only [IProg.wf, Bool.and_eq_true, Array.all_eq_true_iff_forall_mem] at hwf'
    have hfw := hwf'.2 f hf
    simp only [IFun.wf, Bool.and_eq_true, decide_eq_true_eq, Array.all_eq_true_iff_forall_mem] at hfw
    have hst := ((hfw.2 b hb).2 _ hs).2
    simp only at hst
    have hc : c < p.funs.size := by
      by_cases hc : c < p.funs.size
      · exact hc
      · rw [Array.getElem?_eq_none (Nat.le_of_not_lt hc)] at hst; simp at hst
    rw [funs_getElem? hc] at hst
    simp only [Bool.and_eq_true, decide_eq_true_eq, beq_iff_eq] at hst
    obtain ⟨⟨hnd, hll⟩, hla⟩ := hst
    obtain ⟨n1, n2, n3, n4⟩ := not_crossShare_at h hf hb hs hc
    rw [Bool.and_eq_true]
    refine ⟨seqOKb_of_nocross _ _ (fun j k hj hk hne => n1 k j hk hj hne), ?_⟩
    simp only [callOKb, Bool.and_eq_true, decide_eq_true_eq, List.all_eq_true, List.mem_range, Bool.or_eq_true,
      Bool.not_eq_true', List.contains_eq_mem, decide_eq_false_iff_not, beq_iff_eq]
    refine ⟨⟨⟨⟨⟨hla.symm, hll⟩, hnd⟩, ?_⟩, ?_⟩, ?_⟩
    · exact seqOKb_of_nocross _ _ (fun j k hj hk hne he => n3 j k hj hk (fun e => hne e.symm) he.symm)
    · intro i hi
      by_cases hm : (p.fn c).ins.getD i 0 ∈ args
      · right
        obtain ⟨k, hk, hek⟩ := mem_getD_index hm
        by_cases hik : i = k
        · subst hik; exact hek
        · exact absurd hek.symm (n1 k i hk hi hik)
      · exact Or.inl hm
    · intro x hx
      left
      intro hl
      obtain ⟨i, hi, hei⟩ := mem_getD_index hl
      exact n4 i hi (hei ▸ hx)
  | _ => rfl

end Crab.Inter
