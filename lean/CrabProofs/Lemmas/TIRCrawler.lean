import CrabModel.Transform.Crawler
import CrabProofs.Lemmas.TIRLive

/-!
  Assertion crawler: the data-dependence part of the transfer function is sound for the
  state effect of statements (`dataStep_sound`, `bwdData_sound`), it is monotone, and the
  block transfer of the model (`xferFrom`, any variant, any control-dependence graph)
  dominates it (`xferFrom_bwdData`); lookups in `Facts` after `set` and `mapVals`; along any
  path of the CFG a solution of the data inequations determines the condition of an assertion
  (`crawler_path`, the lemma behind `C18.crawler_data_sound`).
-/
namespace Crab
namespace TIR

theorem VarSet.meets_iff {a b : VarSet} : VarSet.meets a b = true ↔ ∃ x, x ∈ a ∧ x ∈ b := by
  simp [VarSet.meets]

theorem meets_nil_right (e : VarSet) : VarSet.meets e [] = false := by simp [VarSet.meets]

theorem addDataDeps_nil_defs (uses d : VarSet) :
    addDataDeps uses [] d = if (!uses.isEmpty && VarSet.meets uses d) = true then d ++ uses else d := by
  simp only [addDataDeps, List.isEmpty_nil, Bool.true_and, meets_nil_right, Bool.false_eq_true, if_false]

theorem addDataDeps_cons_defs (uses d : VarSet) (z : Var) (zs : VarSet) :
    addDataDeps uses (z :: zs) d =
      if VarSet.meets d (z :: zs) = true then VarSet.diff d (z :: zs) ++ uses else d := by
  simp only [addDataDeps, List.isEmpty_cons, Bool.false_and, Bool.false_eq_true, if_false]

theorem mem_addDataDeps {uses defs d : VarSet} {y : Var} :
    y ∈ addDataDeps uses defs d ↔
      (y ∈ d ∧ y ∉ defs) ∨
      (y ∈ uses ∧ ((∃ z, z ∈ d ∧ z ∈ defs) ∨ (defs = [] ∧ ∃ z, z ∈ uses ∧ z ∈ d))) := by
  cases defs with
  | nil =>
    rw [addDataDeps_nil_defs]
    by_cases hm : VarSet.meets uses d = true
    · obtain ⟨z, hz⟩ := VarSet.meets_iff.mp hm
      have hne : uses.isEmpty = false := by cases uses <;> simp_all
      simp only [hm, hne, Bool.not_false, Bool.and_self, if_true, List.mem_append, List.not_mem_nil, not_false_eq_true,
        and_true, and_false, exists_false, false_or, true_and]
      exact or_congr_right (iff_self_and.mpr fun _ => ⟨z, hz⟩)
    · have hno : ¬ ∃ z, z ∈ uses ∧ z ∈ d := fun h => hm (VarSet.meets_iff.mpr h)
      simp [hm, hno]
  | cons z zs =>
    rw [addDataDeps_cons_defs]
    by_cases hm : VarSet.meets d (z :: zs) = true
    · have := VarSet.meets_iff.mp hm
      simp only [hm, if_true, List.mem_append, VarSet.mem_diff, this, and_true, reduceCtorEq, false_and, or_false]
    · have hno : ¬ ∃ w, w ∈ d ∧ w ∈ z :: zs := fun h => hm (VarSet.meets_iff.mpr h)
      simp only [hm, Bool.false_eq_true, if_false, hno, reduceCtorEq, false_and, or_false, and_false]
      exact ⟨fun hy => ⟨hy, fun hd => hno ⟨y, hy, hd⟩⟩, And.left⟩

theorem mem_addDataDeps_of_mem {uses defs d : VarSet} {y : Var} (hy : y ∈ d) (hnd : y ∉ defs) :
    y ∈ addDataDeps uses defs d :=
  mem_addDataDeps.mpr (Or.inl ⟨hy, hnd⟩)

theorem uses_sub_addDataDeps {uses defs d : VarSet} {x : Var} (hx : x ∈ d) (hd : x ∈ defs) :
    ∀ y, y ∈ uses → y ∈ addDataDeps uses defs d :=
  fun _ hy => mem_addDataDeps.mpr (Or.inr ⟨hy, Or.inl ⟨x, hx, hd⟩⟩)

theorem addDataDeps_nil (uses defs : VarSet) : addDataDeps uses defs [] = [] :=
  List.eq_nil_iff_forall_not_mem.mpr fun y hy => by simpa using mem_addDataDeps.mp hy

theorem addDataDeps_mono {uses defs d d' : VarSet} (h : ∀ y, y ∈ d → y ∈ d') :
    ∀ y, y ∈ addDataDeps uses defs d → y ∈ addDataDeps uses defs d' := by
  intro y hy
  rw [mem_addDataDeps] at hy ⊢
  exact hy.imp (fun ⟨h1, h2⟩ => ⟨h y h1, h2⟩)
    (fun ⟨h1, h2⟩ => ⟨h1, h2.imp (fun ⟨z, hz, hd⟩ => ⟨z, h z hz, hd⟩) (fun ⟨e, z, hz, hd⟩ => ⟨e, z, hz, h z hd⟩)⟩)

theorem dataStep_nil (s : Stmt) : dataStep s [] = [] := by
  cases s <;> simp [dataStep, addDataDeps_nil, VarSet.diff]

theorem dataStep_mono (s : Stmt) {d d' : VarSet} (h : ∀ y, y ∈ d → y ∈ d') :
    ∀ y, y ∈ dataStep s d → y ∈ dataStep s d' := by
  cases s with
  | havoc x => exact fun y hy => VarSet.mem_diff.mpr ⟨h y (VarSet.mem_diff.mp hy).1, (VarSet.mem_diff.mp hy).2⟩
  | assert c => exact h
  | unreachable => exact fun y hy => nomatch hy
  | _ => exact addDataDeps_mono h

theorem effect_of_step {s : Stmt} {σ σ' : State} {hv : Int} {ev : Option Event}
    (h : stepStmt s σ hv = .cont σ' ev) : s.effect σ hv = some σ' := by
  cases s with
  | assign x e => simp [stepStmt] at h; simp [Stmt.effect, h]
  | bin op x a b =>
    simp only [stepStmt] at h
    cases hop : op.eval (a.eval σ) (b.eval σ) with
    | none => rw [hop] at h; cases h
    | some v =>
      rw [hop] at h
      simp only [StepRes.cont.injEq] at h
      simp [Stmt.effect, hop, h.1]
  | havoc x => simp [stepStmt] at h; simp [Stmt.effect, h]
  | assume c =>
    simp only [stepStmt] at h
    split at h
    · simp only [StepRes.cont.injEq] at h; simp [Stmt.effect, h.1]
    · cases h
  | assert c =>
    simp only [stepStmt] at h
    split at h
    · simp only [StepRes.cont.injEq] at h; simp [Stmt.effect, h.1]
    · cases h
  | select x c e1 e2 => simp [stepStmt] at h; simp [Stmt.effect, h]
  | unreachable => simp [stepStmt] at h

theorem dataStep_of_def {s : Stmt} {x : Var} (hd : s.defs = [x]) (D : VarSet) :
    (∀ y, y ∈ D → y ≠ x → y ∈ dataStep s D) ∧ (x ∈ D → ∀ z, z ∈ s.uses → z ∈ dataStep s D) := by
  have hadd : ∀ us : VarSet, (∀ y, y ∈ D → y ≠ x → y ∈ addDataDeps us [x] D) ∧
      (x ∈ D → ∀ z, z ∈ us → z ∈ addDataDeps us [x] D) :=
    fun us => ⟨fun y hy hne => mem_addDataDeps_of_mem hy (by simpa using hne),
      fun hx z hz => uses_sub_addDataDeps hx (List.mem_singleton_self _) z hz⟩
  cases s with
  | havoc x' =>
    cases hd
    exact ⟨fun y hy hne => VarSet.mem_diff.mpr ⟨hy, by simpa using hne⟩, fun _ z hz => nomatch hz⟩
  | assign x' e => cases hd; exact hadd _
  | bin op x' p q => cases hd; exact hadd _
  | select x' c e1 e2 => cases hd; exact hadd _
  | assume c => cases hd
  | assert c => cases hd
  | unreachable => cases hd

theorem step_of_effect {s : Stmt} (hd : s.defs ≠ []) {σ τ : State} {hv : Int} (h : s.effect σ hv = some τ) :
    stepStmt s σ hv = .cont τ none := by
  cases s with
  | assign x e => cases h; rfl
  | bin op x p q =>
    simp only [Stmt.effect] at h
    simp only [stepStmt]
    cases hop : op.eval (p.eval σ) (q.eval σ) with
    | none => rw [hop] at h; cases h
    | some v => rw [hop] at h; cases h; rfl
  | havoc x => cases h; rfl
  | select x c e1 e2 => cases h; rfl
  | assume c => exact absurd rfl hd
  | assert c => exact absurd rfl hd
  | unreachable => exact absurd rfl hd

theorem dataStep_sound (s : Stmt) (D : VarSet) (σ σ' τ τ' : State) (hv : Int)
    (hag : agreeOn (dataStep s D) σ σ') (h1 : s.effect σ hv = some τ) (h2 : s.effect σ' hv = some τ') :
    agreeOn D τ τ' := by
  by_cases hd : s.defs = []
  · cases s with
    | assume c => cases h1; cases h2; exact fun y hy => hag y (mem_addDataDeps_of_mem hy List.not_mem_nil)
    | assert c => cases h1; cases h2; exact hag
    | unreachable => cases h1
    | _ => cases hd
  · obtain ⟨x, hx, _⟩ := stepStmt_of_def hd σ hv
    have s1 := step_of_effect hd h1
    have s2 := step_of_effect hd h2
    obtain ⟨hkeep, huses⟩ := dataStep_of_def hx D
    intro y hy
    by_cases hyx : y = x
    · -- the written variable: both sides read the same uses
      subst hyx
      obtain ⟨τ'', hs, hst⟩ := stepStmt_cont_agree (fun z hz => hag z (huses hy z hz)) s1
      rw [s2] at hs
      cases hs
      exact hst y (Or.inl (hx ▸ List.mem_singleton_self _))
    · have hyd : y ∉ s.defs := by rw [hx]; simpa using hyx
      rw [stepStmt_frame s σ τ hv none s1 y hyd, stepStmt_frame s σ' τ' hv none s2 y hyd]
      exact hag y (hkeep y hy hyx)

theorem bwdData_sound (hv : Nat → Int) : ∀ (ss : List Stmt) (i : Nat) (D : VarSet) (σ σ' τ τ' : State),
    agreeOn (bwdData ss D) σ σ' → effects hv i ss σ = some τ → effects hv i ss σ' = some τ' →
    agreeOn D τ τ' := by
  intro ss
  induction ss with
  | nil =>
    intro i D σ σ' τ τ' hag h1 h2
    simp only [effects, Option.some.injEq] at h1 h2
    subst h1; subst h2
    simpa [bwdData] using hag
  | cons s r ih =>
    intro i D σ σ' τ τ' hag h1 h2
    simp only [effects] at h1 h2
    cases e1 : s.effect σ (hv i) with
    | none => rw [e1] at h1; cases h1
    | some σ1 =>
      cases e2 : s.effect σ' (hv i) with
      | none => rw [e2] at h2; cases h2
      | some σ1' =>
        rw [e1] at h1; rw [e2] at h2
        have := dataStep_sound s (bwdData r D) σ σ' σ1 σ1' (hv i) (by simpa [bwdData] using hag) e1 e2
        exact ih (i + 1) D σ1 σ1' τ τ' this h1 h2

theorem bwdData_mono : ∀ (ss : List Stmt) {d d' : VarSet}, (∀ y, y ∈ d → y ∈ d') →
    ∀ y, y ∈ bwdData ss d → y ∈ bwdData ss d' := by
  intro ss
  induction ss with
  | nil => intro d d' h; simpa [bwdData] using h
  | cons s r ih =>
    intro d d' h
    simp only [bwdData]
    exact dataStep_mono s (ih h)

theorem effects_append (hv : Nat → Int) : ∀ (a b : List Stmt) (i : Nat) (σ : State),
    effects hv i (a ++ b) σ =
      match effects hv i a σ with
      | some σ' => effects hv (i + a.length) b σ'
      | none => none := by
  intro a
  induction a with
  | nil => intro b i σ; simp [effects]
  | cons s r ih =>
    intro b i σ
    simp only [List.cons_append, effects, List.length_cons]
    cases s.effect σ (hv i) with
    | none => rfl
    | some σ1 =>
      simp only []
      rw [ih b (i + 1) σ1]
      have : i + 1 + r.length = i + (r.length + 1) := by omega
      rw [this]

theorem Facts.get_of_has_false {F : Facts} {a : AId} (h : F.has a = false) : F.get a = [] := by
  unfold Facts.has at h
  unfold Facts.get
  cases hl : F.lookup a with
  | none => rfl
  | some e => rw [hl] at h; cases h

theorem lookup_map_val (f : AId → VarSet → VarSet) : ∀ (F : Facts) (a : AId),
    (F.map (fun p => (p.1, f p.1 p.2))).lookup a = (F.lookup a).map (f a) := by
  intro F
  induction F with
  | nil => intro a; rfl
  | cons p r ih =>
    intro a
    obtain ⟨k, d⟩ := p
    simp only [List.map_cons, List.lookup_cons]
    by_cases hk : a = k
    · subst hk; simp
    · have : (a == k) = false := by simpa using hk
      simp only [this]
      exact ih a

theorem opt_map_getD (f : VarSet → VarSet) (o : Option VarSet) :
    (o.map f).getD [] = if o.isSome = true then f (o.getD []) else [] := by
  cases o <;> simp

theorem Facts.get_mapVals (F : Facts) (f : AId → VarSet → VarSet) (a : AId) :
    (F.mapVals f).get a = if F.has a then f a (F.get a) else [] := by
  simp only [Facts.mapVals, Facts.get, Facts.has, lookup_map_val]
  exact opt_map_getD _ _

theorem Facts.has_mapVals (F : Facts) (f : AId → VarSet → VarSet) (a : AId) :
    (F.mapVals f).has a = F.has a := by
  simp only [Facts.mapVals, Facts.has, lookup_map_val, Option.isSome_map]

theorem Facts.lookup_set (F : Facts) (b : AId) (d : VarSet) (a : AId) :
    (F.set b d).lookup a = if a = b then some d else F.lookup a := lookup_upsert F b d a

theorem Facts.get_set (F : Facts) (b : AId) (d : VarSet) (a : AId) :
    (F.set b d).get a = if a = b then d else F.get a := by
  simp only [Facts.get, Facts.lookup_set]
  split <;> rfl

theorem Facts.has_set (F : Facts) (a b : AId) (d : VarSet) : (F.set b d).has a = (F.has a || a == b) := by
  simp only [Facts.has, Facts.lookup_set]
  by_cases hab : a = b
  · simp [hab]
  · have hb : (a == b) = false := by simpa using hab
    simp [hab, hb]

/-- the entries are assertions that already have an identifier -/
def XState.regInv (X : XState) : Prop := ∀ b, X.facts.has b = true → b ∈ X.reg

theorem foldl_ctrl_sup (g : Cdg) (test : List Label → Bool) (us : VarSet) :
    ∀ (preds : List Label) (d : VarSet) (y : Var), y ∈ d →
      y ∈ preds.foldl (fun d p =>
        match g.lookup p with
        | some children => if test children then d ++ us else d
        | none => d) d :=
  fun preds _ y hy => List.foldlRecOn preds _ (motive := (y ∈ ·)) hy fun d hd p _ => by
    cases g.lookup p with
    | none => exact hd
    | some ch =>
      simp only []
      split
      · exact List.mem_append.mpr (Or.inl hd)
      · exact hd

theorem assumeStep_sup (v : CrawlVariant) (g : Cdg) (preds : List Label) (l : Label) (c : Cst) (a : AId)
    (d : VarSet) : ∀ y, y ∈ addDataDeps c.vars [] d → y ∈ assumeStep v g preds l c a d := by
  intro y hy
  unfold assumeStep
  simp only []
  split
  · exact hy
  · exact foldl_ctrl_sup g (fun children => (v.ownBlock && children.contains l) || g.reaches children a.1)
      c.vars preds _ y hy

section
variable (v : CrawlVariant) (g : Cdg) (preds : List Label) (l : Label) (k : Nat)

/-- `visit` by statement kind: an `assert` works on its own entry, `unreachable` drops all
    entries, every other statement maps the variable sets of the entries -- to at least what
    `dataStep` asks for -- and leaves the identifiers alone -/
theorem xferStmt_cases (s : Stmt) (X : XState) :
    (∃ c, s = .assert c) ∨ s = .unreachable ∨
    (s.isUnreachable = false ∧ ∃ f : AId → VarSet → VarSet,
      xferStmt v g preds l k s X = ⟨X.facts.mapVals f, X.reg⟩ ∧ ∀ a d y, y ∈ dataStep s d → y ∈ f a d) := by
  cases s with
  | assert c => exact Or.inl ⟨c, rfl⟩
  | unreachable => exact Or.inr (Or.inl rfl)
  | assume c => exact Or.inr (Or.inr ⟨rfl, _, rfl, fun a d y hy => assumeStep_sup v g preds l c a d y hy⟩)
  | assign x e => exact Or.inr (Or.inr ⟨rfl, _, rfl, fun _ _ _ hy => hy⟩)
  | bin op x p q => exact Or.inr (Or.inr ⟨rfl, _, rfl, fun _ _ _ hy => hy⟩)
  | havoc x => exact Or.inr (Or.inr ⟨rfl, _, rfl, fun _ _ _ hy => hy⟩)
  | select x c e1 e2 => exact Or.inr (Or.inr ⟨rfl, _, rfl, fun _ _ _ hy => hy⟩)

/-- `process_assertion` -/
theorem xferStmt_assert (c : Cst) (X : XState) :
    xferStmt v g preds l k (.assert c) X =
      if X.reg.contains (l, k) then
        (if v.stmtFromOut then ⟨X.facts.set (l, k) (c.vars ++ X.facts.get (l, k)), X.reg⟩ else X)
      else ⟨X.facts.set (l, k) c.vars, (l, k) :: X.reg⟩ := rfl

theorem xferStmt_reg (s : Stmt) (X : XState) :
    (xferStmt v g preds l k s X).reg = X.reg ∨
      ((l, k) ∉ X.reg ∧ (xferStmt v g preds l k s X).reg = (l, k) :: X.reg) := by
  rcases xferStmt_cases v g preds l k s X with ⟨c, rfl⟩ | rfl | ⟨_, f, hf, _⟩
  · rw [xferStmt_assert]
    by_cases hr : X.reg.contains (l, k) = true
    · rw [if_pos hr]; left; split <;> rfl
    · rw [if_neg hr]; exact Or.inr ⟨fun hm => hr (List.contains_iff_mem.mpr hm), rfl⟩
  · exact Or.inl rfl
  · rw [hf]; exact Or.inl rfl

theorem xferStmt_reg_sub (s : Stmt) (X : XState) :
    ∀ b, b ∈ (xferStmt v g preds l k s X).reg → b ∈ X.reg ∨ b = (l, k) := by
  intro b hb
  rcases xferStmt_reg v g preds l k s X with h | ⟨_, h⟩ <;> rw [h] at hb
  · exact Or.inl hb
  · exact (List.mem_cons.mp hb).elim Or.inr Or.inl

theorem xferStmt_reg_sup (s : Stmt) (X : XState) : ∀ b, b ∈ X.reg → b ∈ (xferStmt v g preds l k s X).reg := by
  intro b hb
  rcases xferStmt_reg v g preds l k s X with h | ⟨_, h⟩ <;> rw [h]
  · exact hb
  · exact List.mem_cons_of_mem _ hb

theorem xferStmt_regInv (s : Stmt) (X : XState) (h : X.regInv) : (xferStmt v g preds l k s X).regInv := by
  intro b hb
  rcases xferStmt_cases v g preds l k s X with ⟨c, rfl⟩ | rfl | ⟨_, f, hf, _⟩
  · rw [xferStmt_assert] at hb ⊢
    by_cases hreg : X.reg.contains (l, k) = true
    · rw [if_pos hreg] at hb ⊢
      cases hv : v.stmtFromOut with
      | false => rw [hv] at hb; exact h b hb
      | true =>
        rw [hv] at hb
        rw [if_pos rfl] at hb ⊢
        simp only [Facts.has_set, Bool.or_eq_true, beq_iff_eq] at hb
        show b ∈ X.reg
        exact hb.elim (h b) (fun e => by rw [e]; exact List.contains_iff_mem.mp hreg)
    · rw [if_neg hreg] at hb ⊢
      simp only [Facts.has_set, Bool.or_eq_true, beq_iff_eq] at hb
      show b ∈ (l, k) :: X.reg
      exact hb.elim (fun hh => List.mem_cons_of_mem _ (h b hh)) (fun e => by rw [e]; exact List.mem_cons_self)
  · simp [xferStmt, Facts.has] at hb
  · rw [hf] at hb ⊢
    exact h b (by simpa only [Facts.has_mapVals] using hb)

theorem xferFrom_regInv :
    ∀ (ss : List Stmt) (k : Nat) (X : XState), X.regInv → (xferFrom v g preds l k ss X).regInv := by
  intro ss
  induction ss with
  | nil => intro k X h; simpa [xferFrom] using h
  | cons s r ih =>
    intro k X h
    simp only [xferFrom]
    exact xferStmt_regInv v g preds l k s _ (ih (k + 1) X h)

theorem xferStmt_dataStep (s : Stmt) (X : XState) (h : X.regInv) (a : AId) :
    ∀ y, y ∈ dataStep s (X.facts.get a) → y ∈ (xferStmt v g preds l k s X).facts.get a := by
  intro y hy
  rcases xferStmt_cases v g preds l k s X with ⟨c, rfl⟩ | rfl | ⟨_, f, hf, hsup⟩
  · -- `dataStep` leaves the set alone; `set` only touches the entry of the assertion itself
    have hy' : y ∈ X.facts.get a := hy
    rw [xferStmt_assert]
    by_cases hreg : X.reg.contains (l, k) = true
    · rw [if_pos hreg]
      cases hv : v.stmtFromOut with
      | false => exact hy'
      | true =>
        rw [if_pos rfl]
        simp only [Facts.get_set]
        split
        · rename_i hak; exact List.mem_append.mpr (Or.inr (hak ▸ hy'))
        · exact hy'
    · rw [if_neg hreg]
      simp only [Facts.get_set]
      split
      · -- an assertion without identifier has no entry
        rename_i hak
        have hno : X.facts.has a = false := by
          cases hh : X.facts.has a with
          | false => rfl
          | true => exact absurd (List.contains_iff_mem.mpr (hak ▸ h a hh)) hreg
        rw [Facts.get_of_has_false hno] at hy'
        cases hy'
      · exact hy'
  · simp [dataStep] at hy
  · rw [hf]
    simp only [Facts.get_mapVals]
    cases hh : X.facts.has a with
    | true => exact hsup a _ y hy
    | false =>
      rw [Facts.get_of_has_false hh, dataStep_nil] at hy
      cases hy

end

/-- `analyze` of the model (any variant, any control-dependence graph): what it answers for an
    assertion contains the data propagation of what it was given for that assertion -/
theorem xferFrom_bwdData (v : CrawlVariant) (g : Cdg) (preds : List Label) (l : Label) :
    ∀ (ss : List Stmt) (k : Nat) (X : XState), X.regInv → ∀ (a : AId) (y : Var),
      y ∈ bwdData ss (X.facts.get a) → y ∈ (xferFrom v g preds l k ss X).facts.get a := by
  intro ss
  induction ss with
  | nil => intro k X _ a y hy; simpa [xferFrom, bwdData] using hy
  | cons s r ih =>
    intro k X h a y hy
    simp only [xferFrom, bwdData] at hy ⊢
    have hinv := xferFrom_regInv v g preds l r (k + 1) X h
    apply xferStmt_dataStep v g preds l k s _ hinv a y
    exact dataStep_mono s (ih (k + 1) X h a) y hy

theorem xferStmt_gen (v : CrawlVariant) (g : Cdg) (preds : List Label) (l : Label) (k : Nat) (c : Cst)
    (X : XState) (hreg : (l, k) ∉ X.reg ∨ v.stmtFromOut = true) :
    ∀ y, y ∈ c.vars → y ∈ (xferStmt v g preds l k (.assert c) X).facts.get (l, k) := by
  intro y hy
  rw [xferStmt_assert]
  by_cases hr : X.reg.contains (l, k) = true
  · rcases hreg with hreg | hreg
    · exact absurd (List.contains_iff_mem.mp hr) hreg
    · rw [if_pos hr, if_pos hreg]
      simp only [Facts.get_set, if_true]
      exact List.mem_append.mpr (Or.inl hy)
  · rw [if_neg hr]
    simp only [Facts.get_set, if_true]
    exact hy

theorem xferFrom_reg_sub (v : CrawlVariant) (g : Cdg) (preds : List Label) (l : Label) :
    ∀ (ss : List Stmt) (k : Nat) (X : XState) (b : AId), b ∈ (xferFrom v g preds l k ss X).reg →
      b ∈ X.reg ∨ (b.1 = l ∧ k ≤ b.2) := by
  intro ss
  induction ss with
  | nil => intro k X b hb; exact Or.inl (by simpa [xferFrom] using hb)
  | cons s r ih =>
    intro k X b hb
    simp only [xferFrom] at hb
    rcases xferStmt_reg_sub v g preds l k s _ b hb with h | h
    · rcases ih (k + 1) X b h with h | h
      · exact Or.inl h
      · exact Or.inr ⟨h.1, by omega⟩
    · subst h; exact Or.inr ⟨rfl, Nat.le_refl _⟩

/-- generation inequation: statement `j` of the block is `assert c`, visited for the first time
    (or the repaired `process_assertion`): the answer for it contains the variables of the
    condition propagated back through the statements in front of it -/
theorem xferFrom_gen (v : CrawlVariant) (g : Cdg) (preds : List Label) (l : Label) :
    ∀ (ss : List Stmt) (k : Nat) (X : XState) (j : Nat) (c : Cst), X.regInv →
      ((l, k + j) ∉ X.reg ∨ v.stmtFromOut = true) → ss[j]? = some (.assert c) →
      VarSet.subset (bwdData (ss.take j) c.vars) ((xferFrom v g preds l k ss X).facts.get (l, k + j)) = true := by
  intro ss
  induction ss with
  | nil => intro k X j c _ _ h; simp at h
  | cons s r ih =>
    intro k X j c hX hreg hj
    apply VarSet.subset_iff.mpr
    cases j with
    | zero =>
      simp only [List.getElem?_cons_zero, Option.some.injEq] at hj
      subst hj
      simp only [List.take_zero, bwdData, xferFrom, Nat.add_zero]
      apply xferStmt_gen
      rcases hreg with hreg | hreg
      · left
        intro hmem
        rcases xferFrom_reg_sub v g preds l r (k + 1) X (l, k) hmem with h | h
        · exact hreg (by simpa using h)
        · have := h.2; simp only at this; omega
      · exact Or.inr hreg
    | succ j =>
      simp only [List.getElem?_cons_succ] at hj
      have hk : k + (j + 1) = k + 1 + j := by omega
      rw [hk] at hreg ⊢
      have := VarSet.subset_iff.mp (ih (k + 1) X j c hX hreg hj)
      intro y hy
      simp only [List.take_succ_cons, bwdData, xferFrom] at hy ⊢
      have hinv := xferFrom_regInv v g preds l r (k + 1) X hX
      exact xferStmt_dataStep v g preds l k s _ hinv _ y (dataStep_mono s this y hy)

theorem mem_asserts {P : Prog} {l : Label} {k : Nat} {c : Cst}
    (h : (P.stmtsOf l)[k]? = some (.assert c)) : ((l, k), c) ∈ P.asserts := by
  unfold Prog.stmtsOf at h
  cases hb : P.block? l with
  | none => rw [hb] at h; simp at h
  | some b =>
    rw [hb] at h
    simp only at h
    obtain ⟨hmem, hlab⟩ := block?_mem hb
    unfold Prog.asserts
    refine List.mem_flatMap.mpr ⟨b, hmem, ?_⟩
    refine List.mem_filterMap.mpr ⟨(.assert c, k), ?_, ?_⟩
    · exact List.mem_zipIdx_iff_getElem?.mpr h
    · simp [hlab]

theorem isDataSol_gen {P : Prog} {F : Label → Facts} (h : isDataSol P F = true) {a : AId} {c : Cst}
    (hm : (a, c) ∈ P.asserts) :
    ∀ y, y ∈ bwdData ((P.stmtsOf a.1).take a.2) c.vars → y ∈ (F a.1).get a := by
  simp only [isDataSol, Bool.and_eq_true, List.all_eq_true] at h
  exact VarSet.subset_iff.mp (h.1 (a, c) hm)

theorem isDataSol_flow {P : Prog} {F : Label → Facts} (h : isDataSol P F = true) {a : AId} {c : Cst}
    (hm : (a, c) ∈ P.asserts) {l l' : Label} (hs : l' ∈ P.succsOf l) :
    ∀ y, y ∈ bwdData (P.stmtsOf l) ((F l').get a) → y ∈ (F l).get a := by
  simp only [isDataSol, Bool.and_eq_true, List.all_eq_true] at h
  exact VarSet.subset_iff.mp (h.2 l (mem_labels_of_succ hs) l' hs (a, c) hm)

theorem crawler_path (P : Prog) (F : Label → Facts) (hsol : isDataSol P F = true) (a : AId) (c : Cst)
    (hm : (a, c) ∈ P.asserts) (hv : Nat → Int) :
    ∀ (π : List Label) (l0 : Label), isPath P (l0 :: π) = true → (l0 :: π).getLast? = some a.1 →
      ∀ (i : Nat) (σ σ' τ τ' : State), agreeOn ((F l0).get a) σ σ' →
        effects hv i (pathStmts P (l0 :: π) a.2) σ = some τ →
        effects hv i (pathStmts P (l0 :: π) a.2) σ' = some τ' → c.holds τ = c.holds τ' := by
  intro π
  induction π with
  | nil =>
    intro l0 _ hlast i σ σ' τ τ' hag h1 h2
    simp only [List.getLast?_singleton, Option.some.injEq] at hlast
    subst hlast
    simp only [pathStmts] at h1 h2
    have hag' : agreeOn (bwdData ((P.stmtsOf a.1).take a.2) c.vars) σ σ' :=
      fun y hy => hag y (isDataSol_gen hsol hm y hy)
    exact Cst.holds_congr c τ τ' (bwdData_sound hv _ i c.vars σ σ' τ τ' hag' h1 h2)
  | cons l1 r ih =>
    intro l0 hpath hlast i σ σ' τ τ' hag h1 h2
    simp only [isPath, Bool.and_eq_true] at hpath
    have hs : l1 ∈ P.succsOf l0 := List.contains_iff_mem.mp hpath.1
    have hlast' : (l1 :: r).getLast? = some a.1 := by
      simpa [List.getLast?_cons_cons] using hlast
    simp only [pathStmts] at h1 h2
    rw [effects_append] at h1 h2
    cases e1 : effects hv i (P.stmtsOf l0) σ with
    | none => rw [e1] at h1; cases h1
    | some σ1 =>
      cases e2 : effects hv i (P.stmtsOf l0) σ' with
      | none => rw [e2] at h2; cases h2
      | some σ1' =>
        rw [e1] at h1; rw [e2] at h2
        have hag1 : agreeOn ((F l1).get a) σ1 σ1' := by
          apply bwdData_sound hv (P.stmtsOf l0) i ((F l1).get a) σ σ' σ1 σ1' _ e1 e2
          exact fun y hy => hag y (isDataSol_flow hsol hm hs y hy)
        exact ih l1 hpath.2 hlast' _ σ1 σ1' τ τ' hag1 h1 h2


end TIR
end Crab
