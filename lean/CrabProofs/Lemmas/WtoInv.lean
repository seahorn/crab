import CrabProofs.Lemmas.WtoTerm

/-!
  The builder state of `CrabModel/Graph/Wto.lean` (dfn table updates, the pop loop, the free nodes
  `freeList` of a region) and the loop invariant `Inv` of the iterative `visit` (Tarjan / Bourdoncle)
  used to prove `C07.build_wf`, with the region predicate `ClosedK` a call works in and the summary
  `Placed` of a finished call.

  Ghost data: every frame of `visit_stack` is paired with the list `above` of the finished nodes of
  its DFS subtree that are still on the vertex stack, and the list `done` of the successors of its
  node that were already examined.

  Why the invariant decides heads correctly: every lowered `_min` (`FrameOK.min_wit`) and every
  finished node still on the stack (`FrameOK.above_wit`) is justified by a node recorded in
  `loop_nodes` with a smaller dfn on the current stack.  So when a frame is popped with
  `_min = dfn(node)` and its node is not in `loop_nodes`, nothing can be left above it and it has no
  self loop (`Inv.root_not_loop`): it is a plain vertex; otherwise its segment is a cycle with that head.
-/
namespace Crab
namespace Wto

@[simp] theorem size_setDfn (t : Array Dfn) (v : Nat) (d : Dfn) : (setDfn t v d).size = t.size := by
  simp [setDfn]

theorem getDfn_setDfn_ne (t : Array Dfn) (v : Nat) (d : Dfn) (x : Nat) (hx : x ≠ v) :
    getDfn (setDfn t v d) x = getDfn t x := by
  unfold getDfn setDfn
  rw [Array.getD_eq_getD_getElem?, Array.getD_eq_getD_getElem?,
    Array.getElem?_setIfInBounds_ne (fun h : v = x => hx h.symm)]

theorem getDfn_setDfn (t : Array Dfn) (v : Nat) (d : Dfn) (x : Nat) (hv : v < t.size) :
    getDfn (setDfn t v d) x = if x = v then d else getDfn t x := by
  by_cases hx : x = v
  · subst hx
    simp [getDfn, setDfn, Array.getD_eq_getD_getElem?, Array.getElem?_setIfInBounds_self_of_lt hv]
  · rw [if_neg hx, getDfn_setDfn_ne _ _ _ _ hx]

theorem getDfn_discover (st : St) (child x : Nat) (hc : child < st.dfn.size) :
    getDfn (discover st child).dfn x = if x = child then .fin (st.num + 1) else getDfn st.dfn x := by
  simp only [discover]
  exact getDfn_setDfn _ _ _ _ hc

/-- reset to 0 the dfn of every node of a list (what the pop loop does to the popped elements) -/
def resetL : List Nat → Array Dfn → Array Dfn
  | [], t => t
  | a :: as, t => resetL as (setDfn t a (.fin 0))

@[simp] theorem size_resetL : ∀ (l : List Nat) (t : Array Dfn), (resetL l t).size = t.size
  | [], t => rfl
  | a :: as, t => by simp [resetL, size_resetL as]

theorem getDfn_resetL_not_mem : ∀ (l : List Nat) (t : Array Dfn) (x : Nat), x ∉ l →
    getDfn (resetL l t) x = getDfn t x
  | [], _, _, _ => rfl
  | a :: as, t, x, hx => by
    simp only [List.mem_cons, not_or] at hx
    rw [resetL, getDfn_resetL_not_mem as _ x hx.2, getDfn_setDfn_ne _ _ _ _ hx.1]

theorem getDfn_resetL_mem : ∀ (l : List Nat) (t : Array Dfn) (x : Nat), x ∈ l → (∀ y ∈ l, y < t.size) →
    getDfn (resetL l t) x = .fin 0
  | [], _, _, hx, _ => by cases hx
  | a :: as, t, x, hx, hs => by
    rw [resetL]
    by_cases hxa : x ∈ as
    · exact getDfn_resetL_mem as _ x hxa (by intro y hy; simpa using hs y (List.mem_cons_of_mem _ hy))
    · obtain rfl : x = a := (List.mem_cons.1 hx).resolve_right hxa
      rw [getDfn_resetL_not_mem as _ x hxa, getDfn_setDfn _ _ _ _ (hs x (by simp)), if_pos rfl]

theorem popLoop_spec (r : Nat) : ∀ (above : List Nat) (el : Nat) (stk rest : List Nat) (t : Array Dfn),
    el :: stk = above ++ r :: rest → r ∉ above → popLoop r el stk t = some (rest, resetL above t)
  | [], el, stk, rest, t, h, _ => by
    simp only [List.nil_append, List.cons.injEq] at h
    obtain ⟨rfl, rfl⟩ := h
    cases stk <;> simp [popLoop, resetL]
  | a :: as, el, stk, rest, t, h, hr => by
    simp only [List.cons_append, List.cons.injEq] at h
    obtain ⟨rfl, rfl⟩ := h
    simp only [List.mem_cons, not_or] at hr
    have hne : ¬ el = r := fun e => hr.1 e.symm
    cases hs : as ++ r :: rest with
    | nil => simp at hs
    | cons top rest' =>
      rw [popLoop.eq_def]
      simp only [hne, if_false]
      rw [popLoop_spec r as top rest' rest _ hs.symm hr.2, resetL]

open Classical in
/-- the nodes of the region `K` not yet visited (dfn 0), as a list without repetitions -/
noncomputable def freeList (K : Nat → Prop) (st : St) : List Nat :=
  (List.range st.dfn.size).filter (fun x => decide (K x ∧ getDfn st.dfn x = .fin 0))

open Classical in
theorem mem_freeList {K : Nat → Prop} {st : St} {x : Nat} :
    x ∈ freeList K st ↔ x < st.dfn.size ∧ K x ∧ getDfn st.dfn x = .fin 0 := by
  simp [freeList]

theorem nodup_freeList (K : Nat → Prop) (st : St) : (freeList K st).Nodup :=
  List.Nodup.sublist List.filter_sublist List.nodup_range

theorem freeList_subset {K : Nat → Prop} {st st' : St} {l : List Nat}
    (hsize : st'.dfn.size = st.dfn.size) (hl : ∀ x ∈ l, getDfn st'.dfn x ≠ .fin 0)
    (ho : ∀ x, x ∉ l → getDfn st'.dfn x = getDfn st.dfn x) : freeList K st' ⊆ freeList K st := by
  intro x hx
  obtain ⟨h1, h2, h3⟩ := mem_freeList.1 hx
  have hxl : x ∉ l := fun h => hl x h h3
  exact mem_freeList.2 ⟨hsize ▸ h1, h2, ho x hxl ▸ h3⟩

structure GF where
  f : Frame
  above : List Nat
  done : List Nat

/-- the part of the vertex stack that belongs to the frame (top first) -/
def GF.seg (p : GF) : List Nat := p.above ++ [p.f.node]

/-- the part of the vertex stack pushed by the current call of `visit` (top first) -/
def stk (gs : List GF) : List Nat := gs.flatMap GF.seg

/-- the dfn of a node as a number (0 for +oo, never used there) -/
def dn (t : Array Dfn) (x : Nat) : Nat :=
  match getDfn t x with
  | .fin k => k
  | .inf => 0

/-- `K` is a set of nodes that are free or already placed, whose edges stay in `K` or go to placed
    nodes: the region a call of `visit` works in -/
def ClosedK (g : Graph) (K : Nat → Prop) (st0 : St) : Prop :=
  ∀ x, K x → x < st0.dfn.size ∧ (getDfn st0.dfn x = .fin 0 ∨ getDfn st0.dfn x = .inf) ∧
    ∀ y ∈ g.succ x, K y ∨ getDfn st0.dfn y = .inf

/-- per-frame invariant.  Parameters: `num0` = `_num` when the call of `visit` was entered, `dnf` =
    current dfn numbers, `ln` = `loop_nodes`, `DoneNow` = the set of placed nodes (a parameter here;
    `Inv` instantiates it with the predicate `DoneNow st0 W` defined below), `S` = the current
    call's part of the vertex stack. -/
structure FrameOK (g : Graph) (num0 : Nat) (dnf : Nat → Nat) (ln : List Nat) (DoneNow : Nat → Prop)
    (S : List Nat) (p : GF) : Prop where
  succ_eq : g.succ p.f.node = p.done ++ p.f.succs
  min_gt : num0 < p.f.min
  min_le : p.f.min ≤ dnf p.f.node
  /-- examined edges of the node -/
  ex_node : ∀ y ∈ p.done, DoneNow y ∨ (y ∈ S ∧ p.f.min ≤ dnf y)
  /-- edges of the finished nodes of the subtree -/
  ex_above : ∀ x ∈ p.above, ∀ y ∈ g.succ x, DoneNow y ∨ (y ∈ S ∧ p.f.min ≤ dnf y)
  /-- a lowered `_min` is the dfn of a node recorded in `loop_nodes` -/
  min_wit : p.f.min = dnf p.f.node ∨ ∃ z ∈ ln, z ∈ S ∧ dnf z = p.f.min
  /-- every finished node still on the stack has a recorded loop node strictly below it -/
  above_wit : ∀ x ∈ p.above, ∃ z ∈ ln, z ∈ S ∧ p.f.min ≤ dnf z ∧ dnf z < dnf x
  /-- an examined self loop is recorded -/
  self_loop : p.f.node ∈ p.done → p.f.node ∈ ln ∨ p.f.min < dnf p.f.node
  /-- DFS tree parents -/
  parent : ∀ x ∈ p.above, ∃ q ∈ p.seg, dnf q < dnf x ∧ x ∈ g.succ q

/-- consecutive frames are DFS tree edges -/
def ChainOK (g : Graph) : List GF → Prop
  | [] => True
  | [_] => True
  | c :: p :: rest => c.f.node ∈ g.succ p.f.node ∧ ChainOK g (p :: rest)

/-- placed nodes: in the partition built by this call, or placed before the call -/
def DoneNow (st0 : St) (W : List WtoC) (y : Nat) : Prop := y ∈ flattenL W ∨ getDfn st0.dfn y = .inf

/-- invariant of `visitLoop` in a call `visit(g, v, part0)` entered with state `st0`.
    Fixed for the call: `K` = the region (`ClosedK g K st0`), `st0`, `part0` = the partition at entry,
    `v` = the vertex visited.  Current: `gs` = `visit_stack` with ghost data (head = top), `ln` =
    `loop_nodes`, `part` = the partition, `st` = the builder state, and the ghost `W` = the components
    this call has put in front of `part0` so far. -/
structure Inv (g : Graph) (K : Nat → Prop) (st0 : St) (part0 : List WtoC) (v : Nat)
    (gs : List GF) (ln : List Nat) (part : List WtoC) (st : St) (W : List WtoC) : Prop where
  /-- the partition is what this call has placed, in front of what it found -/
  part_eq : part = W ++ part0
  /-- the vertex stack is the segments of the frames on top of the stack at entry -/
  stack_eq : st.stack = stk gs ++ st0.stack
  size_eq : st.dfn.size = st0.dfn.size
  num_ge : st0.num ≤ st.num
  /-- placed by this call: `+oo` -/
  dfn_W : ∀ x ∈ flattenL W, getDfn st.dfn x = .inf
  /-- on the stack: numbered during this call -/
  dfn_stk : ∀ x ∈ stk gs, ∃ k, getDfn st.dfn x = .fin k ∧ st0.num < k ∧ k ≤ st.num
  /-- everything else is as at entry -/
  dfn_other : ∀ x, x ∉ flattenL W → x ∉ stk gs → getDfn st.dfn x = getDfn st0.dfn x
  /-- the stack is in DFS order, top = latest; this is what makes "dfn at least that of the root"
      mean "in the root's segment" -/
  sorted : (stk gs).Pairwise (fun a b => dn st.dfn a > dn st.dfn b)
  W_nodup : (flattenL W).Nodup
  /-- what was placed was a free node of the region at entry -/
  W_K : ∀ x ∈ flattenL W, K x ∧ getDfn st0.dfn x = .fin 0
  /-- and so was what is on the stack -/
  stk_K : ∀ x ∈ stk gs, K x ∧ getDfn st0.dfn x = .fin 0
  /-- a node is placed or on the stack, not both (with `sorted`: no node twice anywhere) -/
  disj : ∀ x ∈ flattenL W, x ∉ stk gs
  /-- the edge condition of `WtoWF` for what was placed, relative to nodes placed before the call -/
  W_edges : ∀ x ∈ flattenL W, ∀ y ∈ g.succ x, getDfn st0.dfn y = .inf ∨ EdgeOK W x y
  frames : ∀ p ∈ gs, FrameOK g st0.num (dn st.dfn) ln (DoneNow st0 W) (stk gs) p
  chain : ChainOK g gs
  /-- the visited vertex is not lost: at the end (`gs = []`) it has been placed -/
  root_in : v ∈ stk gs ∨ v ∈ flattenL W

/-- what a finished call of `visit` (or a sequence of calls) has done: `W` was put in front of the
    partition, its nodes went from free to placed, nothing else changed -/
structure Placed (g : Graph) (K : Nat → Prop) (st0 : St) (W : List WtoC) (st : St) : Prop where
  stack_eq : st.stack = st0.stack
  size_eq : st.dfn.size = st0.dfn.size
  num_ge : st0.num ≤ st.num
  dfn_W : ∀ x ∈ flattenL W, getDfn st.dfn x = .inf
  dfn_other : ∀ x, x ∉ flattenL W → getDfn st.dfn x = getDfn st0.dfn x
  W_nodup : (flattenL W).Nodup
  W_K : ∀ x ∈ flattenL W, K x ∧ getDfn st0.dfn x = .fin 0
  W_edges : ∀ x ∈ flattenL W, ∀ y ∈ g.succ x, getDfn st0.dfn y = .inf ∨ EdgeOK W x y

theorem stk_cons (p : GF) (gs : List GF) : stk (p :: gs) = p.seg ++ stk gs := by
  simp [stk]

theorem stk_nil : stk [] = [] := rfl

theorem mem_stk_of_mem {p : GF} {gs : List GF} {x : Nat} (hp : p ∈ gs) (hx : x ∈ p.seg) : x ∈ stk gs :=
  List.mem_flatMap.2 ⟨p, hp, hx⟩

theorem node_mem_seg (p : GF) : p.f.node ∈ p.seg := by simp [GF.seg]

theorem above_sub_seg {p : GF} {x : Nat} (h : x ∈ p.above) : x ∈ p.seg := by simp [GF.seg, h]

theorem mem_seg {p : GF} {x : Nat} : x ∈ p.seg ↔ x ∈ p.above ∨ x = p.f.node := by simp [GF.seg]

theorem node_mem_stk (p : GF) (gs : List GF) : p.f.node ∈ stk (p :: gs) :=
  mem_stk_of_mem (List.mem_cons_self ..) (node_mem_seg p)

theorem above_mem_stk {p : GF} {gs : List GF} {x : Nat} (hx : x ∈ p.above) : x ∈ stk (p :: gs) :=
  mem_stk_of_mem (List.mem_cons_self ..) (above_sub_seg hx)

theorem mem_stk_top {p : GF} {gs : List GF} {y : Nat} (hy : y ∈ stk (p :: gs)) :
    y ∈ p.above ++ p.f.node :: stk gs := by
  simpa [stk_cons, GF.seg, List.append_assoc] using hy

theorem mem_induction_on_lt {f : Nat → Nat} {A : List Nat} {P : Nat → Prop}
    (step : ∀ x ∈ A, (∀ z ∈ A, f z < f x → P z) → P x) : ∀ x ∈ A, P x := by
  have : ∀ n, ∀ x ∈ A, f x = n → P x := by
    intro n
    induction n using Nat.strongRecOn with
    | _ n ih => exact fun x hx hn => step x hx fun z hz hlt => ih (f z) (hn ▸ hlt) z hz rfl
  exact fun x hx => this _ x hx rfl

theorem dn_of_getDfn {t : Array Dfn} {x k : Nat} (h : getDfn t x = .fin k) : dn t x = k := by
  simp [dn, h]

theorem sorted_above_gt {f : Nat → Nat} {a b : List Nat} {r : Nat}
    (h : (a ++ r :: b).Pairwise (fun x y => f x > f y)) {x : Nat} (hx : x ∈ a) : f r < f x :=
  (List.pairwise_append.1 h).2.2 x hx r (by simp)

theorem sorted_below_lt {f : Nat → Nat} {a b : List Nat} {r : Nat}
    (h : (a ++ r :: b).Pairwise (fun x y => f x > f y)) {x : Nat} (hx : x ∈ b) : f x < f r :=
  (List.pairwise_cons.1 (List.pairwise_append.1 h).2.1).1 x hx

theorem sorted_ge_mem {f : Nat → Nat} {a b : List Nat} {r : Nat}
    (h : (a ++ r :: b).Pairwise (fun x y => f x > f y)) {z : Nat} (hz : z ∈ a ++ r :: b)
    (hge : f r ≤ f z) : z ∈ a ++ [r] := by
  rcases List.mem_append.1 hz with hza | hzb
  · exact List.mem_append_left _ hza
  · rcases List.mem_cons.1 hzb with rfl | hzb
    · simp
    · exact absurd (sorted_below_lt h hzb) (Nat.not_lt.2 hge)

theorem sorted_nodup {f : Nat → Nat} {l : List Nat} (h : l.Pairwise (fun x y => f x > f y)) : l.Nodup := by
  apply List.Pairwise.imp _ h
  intro a b hab e
  subst e
  exact Nat.lt_irrefl _ hab

section
variable {g : Graph} {num0 : Nat} {dnf dnf' : Nat → Nat} {ln ln' : List Nat} {D D' : Nat → Prop}
  {S S' : List Nat} {p q : GF}

theorem DoneNow.mono {st0 : St} {W W' : List WtoC} (hsub : ∀ x ∈ flattenL W, x ∈ flattenL W') {y : Nat}
    (h : DoneNow st0 W y) : DoneNow st0 W' y :=
  h.imp_left (hsub y)

/-- the frame invariant only looks at the dfn of the nodes of `S` and is monotone in the ghost sets;
    it survives when the nodes `top` above it leave the stack and get placed, because all the
    witnesses it refers to are below those on the stack -/
theorem FrameOK.transfer {top : List Nat} (h : FrameOK g num0 dnf ln D (top ++ S) q)
    (hseg : ∀ x ∈ q.seg, x ∈ S) (hgt : ∀ a ∈ top, ∀ b ∈ S, dnf a > dnf b)
    (hdn : ∀ y ∈ S, dnf' y = dnf y) (hln : ∀ z ∈ ln, z ∈ ln') (hD : ∀ y, D y → D' y)
    (htop : ∀ y ∈ top, D' y) (hS : ∀ y ∈ S, y ∈ S') : FrameOK g num0 dnf' ln' D' S' q := by
  have hnodeS : q.f.node ∈ S := hseg _ (node_mem_seg q)
  have hnode : dnf' q.f.node = dnf q.f.node := hdn _ hnodeS
  have habove : ∀ x ∈ q.above, dnf' x = dnf x := fun x hx => hdn x (hseg x (above_sub_seg hx))
  -- a witness with a dfn not above some node of S is in S
  have hwit : ∀ z ∈ top ++ S, ∀ b ∈ S, dnf z ≤ dnf b → z ∈ S := by
    intro z hz b hb hle
    rcases List.mem_append.1 hz with hz | hz
    · exact absurd (hgt z hz b hb) (Nat.not_lt.2 hle)
    · exact hz
  have tgt : ∀ y, D y ∨ (y ∈ top ++ S ∧ q.f.min ≤ dnf y) → D' y ∨ (y ∈ S' ∧ q.f.min ≤ dnf' y) := by
    rintro y (hd | ⟨hyS, hle⟩)
    · exact Or.inl (hD y hd)
    · rcases List.mem_append.1 hyS with hy1 | hy1
      · exact Or.inl (htop y hy1)
      · exact Or.inr ⟨hS y hy1, by rw [hdn y hy1]; exact hle⟩
  refine ⟨h.succ_eq, h.min_gt, by rw [hnode]; exact h.min_le, fun y hy => tgt y (h.ex_node y hy),
    fun x hx y hy => tgt y (h.ex_above x hx y hy), ?_, ?_, ?_, ?_⟩
  · rcases h.min_wit with he | ⟨z, hz, hzS, hzd⟩
    · exact Or.inl (by rw [hnode]; exact he)
    · have hzS' : z ∈ S := hwit z hzS _ hnodeS (by rw [hzd]; exact h.min_le)
      exact Or.inr ⟨z, hln z hz, hS z hzS', by rw [hdn z hzS']; exact hzd⟩
  · intro x hx
    obtain ⟨z, hz, hzS, h1, h2⟩ := h.above_wit x hx
    have hzS' : z ∈ S := hwit z hzS x (hseg x (above_sub_seg hx)) (Nat.le_of_lt h2)
    exact ⟨z, hln z hz, hS z hzS', by rw [hdn z hzS']; exact h1, by rw [hdn z hzS', habove x hx]; exact h2⟩
  · exact fun hd => (h.self_loop hd).imp (hln _) fun h1 => by rw [hnode]; exact h1
  · intro x hx
    obtain ⟨r, hr, h1, h2⟩ := h.parent x hx
    exact ⟨r, hr, by rw [hdn r (hseg r hr), habove x hx]; exact h1, h2⟩

/-- the case where nothing leaves the stack -/
theorem FrameOK.mono (h : FrameOK g num0 dnf ln D S p) (hseg : ∀ x ∈ p.seg, x ∈ S)
    (hdn : ∀ y ∈ S, dnf' y = dnf y) (hln : ∀ z ∈ ln, z ∈ ln') (hD : ∀ y, D y → D' y)
    (hS : ∀ y ∈ S, y ∈ S') : FrameOK g num0 dnf' ln' D' S' p :=
  FrameOK.transfer (top := []) h hseg (fun _ ha => nomatch ha) hdn hln hD (fun _ hy => nomatch hy) hS

/-- the top frame after one successor has been examined (`_min` possibly lowered to `m'`) -/
def GF.examined (p : GF) (child : Nat) (rest : List Nat) (m' : Nat) : GF :=
  { f := { node := p.f.node, succs := rest, min := m' }, above := p.above, done := p.done ++ [child] }

theorem FrameOK.examine {child : Nat} {rest : List Nat} {m' : Nat}
    (h : FrameOK g num0 dnf ln D S p) (hs : p.f.succs = child :: rest)
    (hm : m' ≤ p.f.min) (hm0 : num0 < m') (hln : ∀ z ∈ ln, z ∈ ln')
    (hchild : D child ∨ (child ∈ S ∧ m' ≤ dnf child))
    (hwit : m' = p.f.min ∨ ∃ z ∈ ln', z ∈ S ∧ dnf z = m')
    (hself : child = p.f.node → p.f.node ∈ ln' ∨ m' < dnf p.f.node) :
    FrameOK g num0 dnf ln' D S (p.examined child rest m') := by
  have tgt : ∀ y, D y ∨ (y ∈ S ∧ p.f.min ≤ dnf y) → D y ∨ (y ∈ S ∧ m' ≤ dnf y) :=
    fun y => Or.imp_right (And.imp_right (Nat.le_trans hm))
  refine ⟨?_, hm0, Nat.le_trans hm h.min_le, ?_, fun x hx y hy => tgt y (h.ex_above x hx y hy),
    ?_, ?_, ?_, h.parent⟩
  · simp [GF.examined, h.succ_eq, hs]
  · intro y hy
    rcases List.mem_append.1 hy with hy | hy
    · exact tgt y (h.ex_node y hy)
    · rw [List.mem_singleton.1 hy]; exact hchild
  · rcases hwit with he | hw
    · rcases h.min_wit with h1 | ⟨z, hz, hzS, hzd⟩
      · exact Or.inl (he.trans h1)
      · exact Or.inr ⟨z, hln z hz, hzS, hzd.trans he.symm⟩
    · exact Or.inr hw
  · intro x hx
    obtain ⟨z, hz, hzS, h1, h2⟩ := h.above_wit x hx
    exact ⟨z, hln z hz, hzS, Nat.le_trans hm h1, h2⟩
  · intro hd
    rcases List.mem_append.1 hd with hd | hd
    · exact (h.self_loop hd).imp (hln _) (Nat.lt_of_le_of_lt hm)
    · exact hself (List.mem_singleton.1 hd).symm

/-- the frame pushed for a newly discovered node -/
def GF.fresh (g : Graph) (child : Nat) (num : Nat) : GF :=
  { f := { node := child, succs := g.succ child, min := num }, above := [], done := [] }

theorem FrameOK.fresh (g : Graph) (num0 : Nat) (dnf : Nat → Nat) (ln : List Nat) (D : Nat → Prop)
    (S : List Nat) (child num : Nat) (h0 : num0 < num) (hd : dnf child = num) :
    FrameOK g num0 dnf ln D S (GF.fresh g child num) :=
  ⟨(List.nil_append _).symm, h0, Nat.le_of_eq hd.symm, fun _ hy => absurd hy List.not_mem_nil,
    fun _ hx => absurd hx List.not_mem_nil, Or.inl hd.symm, fun _ hx => absurd hx List.not_mem_nil,
    fun hx => absurd hx List.not_mem_nil, fun _ hx => absurd hx List.not_mem_nil⟩

/-- the parent frame after the child frame `p` has been popped ("propagate min"): it takes over the
    segment of `p` -/
def GF.merged (q p : GF) : GF :=
  { f := { node := q.f.node, succs := q.f.succs, min := if q.f.min > p.f.min then p.f.min else q.f.min },
    above := p.seg ++ q.above, done := q.done }

theorem GF.merged_min_le (q p : GF) : (q.merged p).f.min ≤ q.f.min ∧ (q.merged p).f.min ≤ p.f.min := by
  show (if q.f.min > p.f.min then p.f.min else q.f.min) ≤ _ ∧
    (if q.f.min > p.f.min then p.f.min else q.f.min) ≤ _
  split
  · exact ⟨Nat.le_of_lt ‹_›, Nat.le_refl _⟩
  · exact ⟨Nat.le_refl _, Nat.le_of_not_lt ‹_›⟩

/-- a finished frame `p` whose node is not a root (`_min` was lowered) is absorbed by its parent `q` -/
theorem FrameOK.merge (hp : FrameOK g num0 dnf ln D S p) (hq : FrameOK g num0 dnf ln D S q)
    (hs : p.f.succs = []) (hlt : p.f.min < dnf p.f.node) (hqp : dnf q.f.node < dnf p.f.node)
    (hedge : p.f.node ∈ g.succ q.f.node) : FrameOK g num0 dnf ln D S (q.merged p) := by
  obtain ⟨hmq, hmp⟩ := GF.merged_min_le q p
  have tgt : ∀ {m}, (q.merged p).f.min ≤ m → ∀ y,
      D y ∨ (y ∈ S ∧ m ≤ dnf y) → D y ∨ (y ∈ S ∧ (q.merged p).f.min ≤ dnf y) :=
    fun hm y => Or.imp_right (And.imp_right (Nat.le_trans hm))
  -- the witness of the lowered `_min` of `p`
  obtain ⟨zp, hzp, hzpS, hzpd⟩ : ∃ z ∈ ln, z ∈ S ∧ dnf z = p.f.min :=
    hp.min_wit.resolve_left (Nat.ne_of_lt hlt)
  have hseg : ∀ r, r ∈ p.seg ∨ r ∈ q.seg → r ∈ (q.merged p).seg := by
    intro r hr
    simp only [GF.seg, GF.merged, List.mem_append, List.mem_singleton] at hr ⊢
    rcases hr with (hr | hr) | (hr | hr)
    · exact Or.inl (Or.inl (Or.inl hr))
    · exact Or.inl (Or.inl (Or.inr hr))
    · exact Or.inl (Or.inr hr)
    · exact Or.inr hr
  -- the finished nodes of the merged frame: those of `p`, the node of `p`, those of `q`
  have key : ∀ x ∈ (q.merged p).above,
      (∀ y ∈ g.succ x, D y ∨ (y ∈ S ∧ (q.merged p).f.min ≤ dnf y)) ∧
      (∃ z ∈ ln, z ∈ S ∧ (q.merged p).f.min ≤ dnf z ∧ dnf z < dnf x) ∧
      ∃ r ∈ (q.merged p).seg, dnf r < dnf x ∧ x ∈ g.succ r := by
    intro x hx
    rcases List.mem_append.1 hx with hx | hx
    · rcases mem_seg.1 hx with hx | rfl
      · obtain ⟨z, hz, hzS, h1, h2⟩ := hp.above_wit x hx
        obtain ⟨r, hr, h3⟩ := hp.parent x hx
        exact ⟨fun y hy => tgt hmp y (hp.ex_above x hx y hy), ⟨z, hz, hzS, Nat.le_trans hmp h1, h2⟩,
          r, hseg r (Or.inl hr), h3⟩
      · refine ⟨fun y hy => tgt hmp y (hp.ex_node y ?_), ⟨zp, hzp, hzpS, hzpd ▸ hmp, hzpd ▸ hlt⟩,
          q.f.node, hseg _ (Or.inr (node_mem_seg q)), hqp, hedge⟩
        rw [hp.succ_eq, hs, List.append_nil] at hy; exact hy
    · obtain ⟨z, hz, hzS, h1, h2⟩ := hq.above_wit x hx
      obtain ⟨r, hr, h3⟩ := hq.parent x hx
      exact ⟨fun y hy => tgt hmq y (hq.ex_above x hx y hy), ⟨z, hz, hzS, Nat.le_trans hmq h1, h2⟩,
        r, hseg r (Or.inr hr), h3⟩
  refine ⟨hq.succ_eq, ?_, Nat.le_trans hmq hq.min_le, fun y hy => tgt hmq y (hq.ex_node y hy),
    fun x hx => (key x hx).1, ?_, fun x hx => (key x hx).2.1,
    fun hd => (hq.self_loop hd).imp_right (Nat.lt_of_le_of_lt hmq), fun x hx => (key x hx).2.2⟩
  · show _ < (if q.f.min > p.f.min then p.f.min else q.f.min)
    split
    · exact hp.min_gt
    · exact hq.min_gt
  · show (if q.f.min > p.f.min then p.f.min else q.f.min) = _ ∨
      ∃ z ∈ ln, _ ∧ _ = (if q.f.min > p.f.min then p.f.min else q.f.min)
    split
    · exact Or.inr ⟨zp, hzp, hzpS, hzpd⟩
    · exact hq.min_wit

end

theorem ChainOK.congr_head {g : Graph} {p p' : GF} {gs : List GF} (hn : p'.f.node = p.f.node)
    (h : ChainOK g (p :: gs)) : ChainOK g (p' :: gs) := by
  cases gs with
  | nil => trivial
  | cons q rest =>
    simp only [ChainOK] at h ⊢
    rw [hn]; exact h

theorem ChainOK.tail {g : Graph} {p : GF} {gs : List GF} (h : ChainOK g (p :: gs)) : ChainOK g gs := by
  cases gs with
  | nil => trivial
  | cons q rest => exact h.2

end Wto
end Crab
