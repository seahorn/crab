import CrabProofs.Lemmas.FunctorPackingStmt

/-!
Binary operations of the packing domain (`join_or_widening`, `meet_or_narrowing` and the four lattice
operators): they keep the invariant and are upper / lower bounds w.r.t. `γc` whenever they return a
value (`none` = CRAB_ERROR).

Structural part: what `restrictTo`, `mergeAll` and `combineLoop` do to the partitions (invariant,
coarsening, and the fact that the partition built by `mergeAll` is the FINEST common coarsening: it
is below every disjoint partition that is above both arguments — this is what aligns the two
operands).  Semantic part: `GoodQ Q s p`: the class `p` lies inside a class `q` of the reference
partition `Q` and its value accepts every state that agrees with `s` on `q`.  Merges inside the
classes of `Q` keep goodness; when the final partition is aligned with `Q` (it is: `MergeAllSpec.finest`),
goodness is membership in `γc`.
-/
namespace Crab
namespace Dom
namespace Fct

variable {V : Type} [DecidableEq V]

namespace PK
variable {N : NDom V}

def Coarser (Q l : List (Pack N)) : Prop := ∀ p ∈ l, ∃ q ∈ Q, Sub p q

theorem containsV_iff {l : List (Pack N)} {v : V} : containsV l v = true ↔ ∃ p ∈ l, v ∈ p.vars := by
  unfold containsV
  rw [List.any_eq_true]
  constructor
  · rintro ⟨p, hp, hc⟩; exact ⟨p, hp, List.contains_iff_mem.1 hc⟩
  · rintro ⟨p, hp, hc⟩; exact ⟨p, hp, List.contains_iff_mem.2 hc⟩

theorem sub_unique {Q : List (Pack N)} (hQ : WFl Q) {p q q' : Pack N} (hne : p.vars ≠ []) (hq : q ∈ Q)
    (hq' : q' ∈ Q) (h : Sub p q) (h' : Sub p q') : q = q' := by
  obtain ⟨v, hv⟩ := List.exists_mem_of_ne_nil _ hne
  exact wfl_unique hQ hq hq' (h v hv) (h' v hv)

/-! ### `restrictTo` -/

theorem restrictTo_mem {l other : List (Pack N)} {q : Pack N} (h : q ∈ restrictTo l other) :
    ∃ p ∈ l, q.vars = p.vars.filter (fun v => containsV other v) ∧ q.vars ≠ [] ∧
      q.val = (p.vars.filter (fun v => !containsV other v)).foldl N.forget p.val := by
  unfold restrictTo at h
  rw [List.mem_filterMap] at h
  obtain ⟨p, hp, hf⟩ := h
  simp only at hf
  split at hf
  · simp at hf
  · rename_i hne
    simp only [Option.some.injEq] at hf
    subst hf
    refine ⟨p, hp, rfl, ?_, rfl⟩
    intro he; apply hne; simp only at he; rw [he]; rfl

theorem restrictTo_wfl {l : List (Pack N)} (other : List (Pack N)) (h : WFl l) : WFl (restrictTo l other) := by
  constructor
  · unfold restrictTo
    apply List.Pairwise.filterMap _ _ h.1
    intro a a' hd b hb b' hb'
    simp only at hb hb'
    split at hb
    · simp at hb
    · split at hb'
      · simp at hb'
      · simp only [Option.some.injEq] at hb hb'
        subst hb; subst hb'
        intro v hv hv'
        exact hd v (List.mem_filter.1 hv).1 (List.mem_filter.1 hv').1
  · intro q hq
    obtain ⟨p, _, _, hne, _⟩ := restrictTo_mem hq
    exact hne

theorem restrictTo_vars {l other : List (Pack N)} {q : Pack N} (h : q ∈ restrictTo l other) {v : V}
    (hv : v ∈ q.vars) : containsV other v = true ∧ ∃ p ∈ l, v ∈ p.vars := by
  obtain ⟨p, hp, he, _, _⟩ := restrictTo_mem h
  rw [he] at hv
  have := List.mem_filter.1 hv
  exact ⟨this.2, p, hp, this.1⟩

theorem restrictTo_keeps {l other : List (Pack N)} {p : Pack N} (hp : p ∈ l) {v : V} (hv : v ∈ p.vars)
    (hc : containsV other v = true) : ∃ q ∈ restrictTo l other, v ∈ q.vars := by
  have hk : v ∈ p.vars.filter (fun v => containsV other v) := List.mem_filter.2 ⟨hv, hc⟩
  refine ⟨⟨p.vars.filter (fun v => containsV other v),
    (p.vars.filter (fun v => !containsV other v)).foldl N.forget p.val⟩, ?_, hk⟩
  unfold restrictTo
  rw [List.mem_filterMap]
  refine ⟨p, hp, ?_⟩
  simp only
  split
  · rename_i he
    rw [List.isEmpty_iff] at he
    rw [he] at hk; simp at hk
  · rfl

theorem foldl_forget_sound (xs : List V) (b : N.B) (t t' : St V) (h : N.γ b t') (he : ∀ u, u ∉ xs → t u = t' u) :
    N.γ (xs.foldl N.forget b) t := by
  induction xs generalizing b t' with
  | nil => rwa [show t = t' from funext fun u => he u (by simp)]
  | cons x xs ih =>
    refine ih _ (t'.set x (t x)) (N.forget_sound b x t' (t x) h) fun u hu => ?_
    unfold St.set
    split
    · rename_i hux; rw [hux]
    · rename_i hux
      exact he u (by simp [hux, hu])

theorem restrictTo_γc {l : List (Pack N)} (other : List (Pack N)) {s : St V} (h : ∀ p ∈ l, Pack.γc p s) :
    ∀ q ∈ restrictTo l other, Pack.γc q s := by
  intro q hq t ht
  obtain ⟨p, hp, hvars, _, hval⟩ := restrictTo_mem hq
  rw [hval]
  -- `t` with the values of `s` on the forgotten variables of the class
  let t' : St V := fun u => if u ∈ p.vars.filter (fun v => !containsV other v) then s u else t u
  apply foldl_forget_sound _ _ t t'
  · apply h p hp
    intro v hv
    by_cases hc : containsV other v = true
    · have hk : v ∈ q.vars := by rw [hvars]; exact List.mem_filter.2 ⟨hv, hc⟩
      have hnf : v ∉ p.vars.filter (fun v => !containsV other v) := by
        intro hm; have := (List.mem_filter.1 hm).2; simp [hc] at this
      simp only [t', hnf, if_false]
      exact ht v hk
    · have hf : v ∈ p.vars.filter (fun v => !containsV other v) :=
        List.mem_filter.2 ⟨hv, by simpa using hc⟩
      simp only [t', hf, if_true]
  · intro u hu
    simp only [t', hu, if_false]

/-! ### `mergeAll` -/

theorem mergeAll_cons {fresh : Pack N → N.B} {c : Pack N} {cs l l2 : List (Pack N)}
    (h : mergeAll fresh (c :: cs) l = some l2) :
    ∃ acc r, merge (fresh c) l c.vars = some (acc, r) ∧ mergeAll fresh cs (acc :: r) = some l2 := by
  simp only [mergeAll] at h
  split at h
  · cases h
  · exact ⟨_, _, ‹_›, h⟩

/-- the merged class lies inside the class of `Z` that contains the merged variables, for every
    disjoint `Z` above the current partition -/
theorem merge_within {fresh : N.B} {l : List (Pack N)} {vars : List V} {acc : Pack N} {r : List (Pack N)}
    (hm : merge fresh l vars = some (acc, r)) {Z : List (Pack N)} (hZ : WFl Z) (hl : Coarser Z l)
    {z : Pack N} (hz : z ∈ Z) (hv : ∀ v ∈ vars, v ∈ z.vars) : Sub acc z := by
  have sp := merge_spec hm
  intro u hu
  rcases sp.origin u hu with h | ⟨p, hp, hup, _, v, hvv, hvp⟩
  · exact hv u h
  · obtain ⟨zp, hzp, hsub⟩ := hl p hp
    have : zp = z := wfl_unique hZ hzp hz (hsub v hvp) (hv v hvv)
    rw [← this]; exact hsub u hup

/-- a partition above the classes after a merge is above the partition before, and one of its classes
    contains the merged variables -/
theorem MergeSpec.coarser {fresh : N.B} {l r : List (Pack N)} {vars : List V} {acc : Pack N}
    (sp : MergeSpec fresh l vars acc r) {Z : List (Pack N)} (val : N.B) (h : Coarser Z (⟨acc.vars, val⟩ :: r)) :
    Coarser Z l ∧ ∃ z ∈ Z, ∀ v ∈ vars, v ∈ z.vars := by
  obtain ⟨z, hz, hsz⟩ := h _ List.mem_cons_self
  refine ⟨fun p hp => ?_, z, hz, fun v hv => hsz v (sp.vars_sub v hv)⟩
  rcases sp.coarsens p hp with hr | hs
  · exact h p (List.mem_cons_of_mem _ hr)
  · exact ⟨z, hz, fun v hv => hsz v (hs v hv)⟩

/-- everything a successful `mergeAll fresh cs l = some l2` guarantees -/
structure MergeAllSpec (fresh : Pack N → N.B) (cs l l2 : List (Pack N)) : Prop where
  wfl : WFl l → WFl l2
  above : Coarser l2 l
  above_cs : Coarser l2 cs
  /-- **finest**: every disjoint partition above both is above the result -/
  finest : ∀ {Z}, WFl Z → Coarser Z l → Coarser Z cs → Coarser Z l2
  /-- `γc` is kept when the values given to new classes are those of classes of `γc` -/
  γc : ∀ {s}, (∀ p ∈ l, Pack.γc p s) → (∀ c ∈ cs, Pack.γc ⟨c.vars, fresh c⟩ s) →
    ∀ q ∈ l2, Pack.γc q s

theorem mergeAll_spec (fresh : Pack N → N.B) (cs l l2 : List (Pack N)) (h : mergeAll fresh cs l = some l2) :
    MergeAllSpec fresh cs l l2 := by
  induction cs generalizing l with
  | nil =>
    cases h
    exact ⟨id, fun p hp => ⟨p, hp, Sub.refl p⟩, fun p hp => (by cases hp), fun _ hl _ => hl, fun hl _ => hl⟩
  | cons c cs ih =>
    obtain ⟨acc, r, hm, h⟩ := mergeAll_cons h
    have sp := merge_spec hm
    have ih := ih (acc :: r) h
    obtain ⟨hl2, z, hz, hzc⟩ := sp.coarser acc.val ih.above
    refine ⟨fun hw => ih.wfl (sp.wfl hw), hl2, fun p hp => ?_, fun hZ hl hcs => ?_, fun hl hcs => ?_⟩
    · rcases List.mem_cons.1 hp with rfl | hp
      · exact ⟨z, hz, hzc⟩
      · exact ih.above_cs p hp
    · refine ih.finest hZ (fun p hp => ?_) (fun p hp => hcs p (List.mem_cons_of_mem _ hp))
      rcases List.mem_cons.1 hp with rfl | hp
      · obtain ⟨z', hz', hsub⟩ := hcs c List.mem_cons_self
        exact ⟨z', hz', merge_within hm hZ hl hz' hsub⟩
      · exact hl p (sp.rest_sub p hp)
    · refine ih.γc (fun p hp => ?_) (fun c' hc' => hcs c' (List.mem_cons_of_mem _ hc'))
      rcases List.mem_cons.1 hp with rfl | hp
      · intro t ht
        apply sp.val_sound t (hcs c List.mem_cons_self t (fun v hv => ht v (sp.vars_sub v hv)))
        exact fun p' hp' hsub => hl p' hp' t (fun v hv => ht v (hsub v hv))
      · exact hl p (sp.rest_sub p hp)

/-! ### `combineLoop` -/

/-- one round of the loop: the class of the right operand is found, its variables are merged on the
    left; the loop ends with bottom (failed merge or bottom value, in `meet_or_narrowing`) or goes on -/
theorem combineLoop_cons {g : N.B → N.B → N.B} {uf cb : Bool} {Q Rs left : List (Pack N)} {R : Pack N}
    {res : PK N} (h : combineLoop g uf cb Q (R :: Rs) left = some res) :
    ∃ v q, v ∈ R.vars ∧ packOf Q v = some q ∧
      ((merge (if uf = true then q.val else N.top) left R.vars = none ∧ uf = true ∧ res = .bot) ∨
       ∃ acc r, merge (if uf = true then q.val else N.top) left R.vars = some (acc, r) ∧
         ((cb = true ∧ N.isBot (g acc.val q.val) = true ∧ res = .bot) ∨
          combineLoop g uf cb Q Rs (⟨acc.vars, g acc.val q.val⟩ :: r) = some res)) := by
  simp only [combineLoop] at h
  split at h
  · cases h
  · rename_i v vs hRv
    split at h
    · cases h
    · rename_i q hpq
      refine ⟨v, q, hRv ▸ List.mem_cons_self, hpq, ?_⟩
      split at h
      · rename_i hm
        split at h
        · rename_i hu; cases h; exact Or.inl ⟨hm, hu, rfl⟩
        · cases h
      · rename_i acc r hm
        refine Or.inr ⟨acc, r, hm, ?_⟩
        split at h
        · rename_i hb
          cases h
          exact Or.inl ⟨(Bool.and_eq_true _ _ ▸ hb).1, (Bool.and_eq_true _ _ ▸ hb).2, rfl⟩
        · exact Or.inr h

theorem combineLoop_struct (g : N.B → N.B → N.B) (uf cb : Bool) (right2 Rs left Z : List (Pack N))
    (h : combineLoop g uf cb right2 Rs left = some (.packs Z)) :
    (WFl left → WFl Z) ∧ Coarser Z left ∧ Coarser Z Rs := by
  induction Rs generalizing left with
  | nil =>
    cases h
    exact ⟨id, fun p hp => ⟨p, hp, Sub.refl p⟩, fun p hp => by cases hp⟩
  | cons R Rs ih =>
    obtain ⟨v, q, _, _, ⟨_, _, hb⟩ | ⟨acc, r, hm, ⟨_, _, hb⟩ | h⟩⟩ := combineLoop_cons h
    · cases hb
    · cases hb
    · have sp := merge_spec hm
      obtain ⟨h1, h2, h3⟩ := ih _ h
      obtain ⟨hl, z, hz, hzc⟩ := sp.coarser _ h2
      refine ⟨fun hw => h1 (wfl_setVal _ (sp.wfl hw)), hl, fun p hp => ?_⟩
      rcases List.mem_cons.1 hp with rfl | hp
      · exact ⟨z, hz, hzc⟩
      · exact h3 p hp

/-- the class `p` lies inside a class `q` of the reference partition `Q` and its value accepts every state
    that agrees with `s` on the variables of `q` (not only on its own) -/
def GoodQ (Q : List (Pack N)) (s : St V) (p : Pack N) : Prop :=
  ∃ q ∈ Q, Sub p q ∧ Pack.γc ⟨q.vars, p.val⟩ s

theorem GoodQ.γ_self {Q : List (Pack N)} {s : St V} {p : Pack N} (h : GoodQ Q s p) : N.γ p.val s := by
  obtain ⟨q, _, _, hv⟩ := h
  exact hv s (agree_refl _ _)

theorem agree_of_sub {p q : Pack N} (h : Sub p q) {s t : St V} (ht : agree q.vars s t) : agree p.vars s t :=
  fun v hv => ht v (h v hv)

theorem goodQ_of_γc {Q : List (Pack N)} {s : St V} {p : Pack N} (h : Pack.γc p s) (hq : ∃ q ∈ Q, Sub p q) :
    GoodQ Q s p := by
  obtain ⟨q, hq, hs⟩ := hq
  exact ⟨q, hq, hs, fun t ht => h t (agree_of_sub hs ht)⟩

theorem coarser_of_good {Q l : List (Pack N)} {s : St V} (h : ∀ p ∈ l, GoodQ Q s p) : Coarser Q l :=
  fun p hp => by obtain ⟨q, hq, hs, _⟩ := h p hp; exact ⟨q, hq, hs⟩

theorem merge_good {fresh : N.B} {l : List (Pack N)} {vars : List V} {acc : Pack N} {r : List (Pack N)}
    (hm : merge fresh l vars = some (acc, r)) {Q : List (Pack N)} (hQ : WFl Q) (hl : WFl l) {s : St V}
    (hall : ∀ p ∈ l, GoodQ Q s p) {q : Pack N} (hq : q ∈ Q) (hv : ∀ v ∈ vars, v ∈ q.vars)
    (hfresh : Pack.γc ⟨q.vars, fresh⟩ s) : Sub acc q ∧ Pack.γc ⟨q.vars, acc.val⟩ s := by
  have sp := merge_spec hm
  have hsub : Sub acc q := merge_within hm hQ (coarser_of_good hall) hq hv
  refine ⟨hsub, ?_⟩
  intro t ht
  apply sp.val_sound t (hfresh t ht)
  intro p hp hpa
  obtain ⟨qp, hqp, hs, hval⟩ := hall p hp
  have : qp = q := sub_unique hQ (hl.2 p hp) hqp hq hs (fun v hv => hsub v (hpa v hv))
  subst this
  exact hval t ht

theorem mergeAll_isSome (fresh : Pack N → N.B) {s : St V} (cs l : List (Pack N))
    (hcs : ∀ c ∈ cs, c.vars ≠ [] ∧ N.γ (fresh c) s) (hl : ∀ p ∈ l, N.γ p.val s) :
    ∃ l2, mergeAll fresh cs l = some l2 := by
  induction cs generalizing l with
  | nil => exact ⟨l, rfl⟩
  | cons c cs ih =>
    have hc := hcs c List.mem_cons_self
    obtain ⟨⟨acc, r⟩, hm⟩ := merge_isSome (fresh := fresh c) hc.1 hc.2 hl
    simp only [mergeAll, hm]
    have sp := merge_spec hm
    apply ih (acc :: r) (fun c' hc' => hcs c' (List.mem_cons_of_mem _ hc'))
    intro p hp
    rcases List.mem_cons.1 hp with rfl | hp
    · exact sp.val_sound s hc.2 (fun p' hp' _ => hl p' hp')
    · exact hl p (sp.rest_sub p hp)

theorem sub_of_packOf {Q : List (Pack N)} (hQ : WFl Q) {R q : Pack N} (hR : ∃ q' ∈ Q, Sub R q') {v : V}
    (hv : v ∈ R.vars) (hpq : packOf Q v = some q) : q ∈ Q ∧ Sub R q := by
  obtain ⟨q', hq', hs⟩ := hR
  have hq := packOf_some hpq
  rw [← wfl_unique hQ hq' hq.1 (hs v hv) hq.2]
  exact ⟨hq', hs⟩

/-- the loop of `join_or_widening` / `meet_or_narrowing` on good classes: no bottom, no error
    branch taken for a wrong reason, all classes of the result good -/
theorem combineLoop_good (g : N.B → N.B → N.B) (uf cb : Bool) {Q : List (Pack N)} (hQ : WFl Q) {s : St V}
    (hfr : uf = true → ∀ q ∈ Q, Pack.γc q s)
    (hg : ∀ (a : N.B) (q : Pack N), q ∈ Q → Pack.γc ⟨q.vars, a⟩ s → Pack.γc ⟨q.vars, g a q.val⟩ s)
    (Rs left : List (Pack N)) (res : PK N) (hRs : ∀ R ∈ Rs, ∃ q ∈ Q, Sub R q) (hleft : WFl left)
    (hall : ∀ p ∈ left, GoodQ Q s p) (h : combineLoop g uf cb Q Rs left = some res) :
    ∃ Z, res = .packs Z ∧ ∀ p ∈ Z, GoodQ Q s p := by
  induction Rs generalizing left with
  | nil => cases h; exact ⟨left, rfl, hall⟩
  | cons R Rs ih =>
    obtain ⟨v, q, hv, hpq, hcases⟩ := combineLoop_cons h
    obtain ⟨hq, hRq⟩ := sub_of_packOf hQ (hRs R List.mem_cons_self) hv hpq
    have hfresh : Pack.γc ⟨q.vars, if uf = true then q.val else N.top⟩ s := by
      intro t ht
      split
      · rename_i hu; exact hfr hu q hq t ht
      · exact N.top_sound t
    obtain ⟨res', hres'⟩ := merge_isSome (List.ne_nil_of_mem hv) (hfresh s (agree_refl _ _))
      (fun p hp => (hall p hp).γ_self)
    rcases hcases with ⟨hnone, _⟩ | ⟨acc, r, hm, hcases⟩
    · rw [hnone] at hres'; cases hres'
    · have hgood := merge_good hm hQ hleft hall hq hRq hfresh
      have hm_good := hg acc.val q hq hgood.2
      rcases hcases with ⟨_, hb, _⟩ | h
      · rw [N.isBot_false_of_γ (hm_good s (agree_refl _ _))] at hb; cases hb
      · apply ih _ (fun R' hR' => hRs R' (List.mem_cons_of_mem _ hR'))
          (wfl_setVal _ ((merge_spec hm).wfl hleft)) _ h
        intro p hp
        rcases List.mem_cons.1 hp with rfl | hp
        · exact ⟨q, hq, hgood.1, hm_good⟩
        · exact hall p ((merge_spec hm).rest_sub p hp)

/-- the loop of `join_or_widening` seen from a state of the RIGHT operand: a class of the result is
    good, or it is an old class of the left operand that shares no variable with the processed
    classes of the right operand -/
theorem combineLoop_right (g : N.B → N.B → N.B) {Q : List (Pack N)} (hQ : WFl Q) {s : St V}
    (hQs : ∀ q ∈ Q, Pack.γc q s) (hg : ∀ a b t, N.γ b t → N.γ (g a b) t) (Rs left Z : List (Pack N))
    (hRs : ∀ R ∈ Rs, ∃ q ∈ Q, Sub R q) (hleft : WFl left) (hco : Coarser Q left)
    (h : combineLoop g false false Q Rs left = some (.packs Z)) :
    ∀ p ∈ Z, GoodQ Q s p ∨ (p ∈ left ∧ ∀ R ∈ Rs, ∀ v ∈ R.vars, v ∉ p.vars) := by
  induction Rs generalizing left with
  | nil =>
    cases h
    exact fun p hp => Or.inr ⟨hp, fun R hR => by cases hR⟩
  | cons R Rs ih =>
    obtain ⟨v, q, hv, hpq, ⟨_, hu, _⟩ | ⟨acc, r, hm, ⟨hb, _⟩ | h⟩⟩ := combineLoop_cons h
    · cases hu
    · cases hb
    · obtain ⟨hq, hRq⟩ := sub_of_packOf hQ (hRs R List.mem_cons_self) hv hpq
      have sp := merge_spec hm
      have hsub : Sub acc q := merge_within hm hQ hco hq hRq
      have hw' := sp.wfl hleft
      have ih := ih _ (fun R' hR' => hRs R' (List.mem_cons_of_mem _ hR'))
        (wfl_setVal _ hw') (by
          intro p hp
          rcases List.mem_cons.1 hp with rfl | hp
          · exact ⟨q, hq, hsub⟩
          · exact hco p (sp.rest_sub p hp)) h
      intro p hp
      rcases ih p hp with hgd | ⟨hmem, hun⟩
      · exact Or.inl hgd
      · rcases List.mem_cons.1 hmem with rfl | hmem
        · exact Or.inl ⟨q, hq, hsub, fun t ht => hg _ _ t (hQs q hq t ht)⟩
        · refine Or.inr ⟨sp.rest_sub p hmem, fun R' hR' w hw => ?_⟩
          rcases List.mem_cons.1 hR' with rfl | hR'
          · exact (wfl_cons.1 hw').1 p hmem w (sp.vars_sub w hw)
          · exact hun R' hR' w hw

theorem γc_of_good {Q Z : List (Pack N)} (hZ : WFl Z) (hal : Coarser Z Q) {s : St V} {p : Pack N} (hp : p ∈ Z)
    (h : GoodQ Q s p) : Pack.γc p s := by
  obtain ⟨q, hq, hs, hval⟩ := h
  obtain ⟨z, hz, hqz⟩ := hal q hq
  have : p = z := sub_unique hZ (hZ.2 p hp) hp hz (Sub.refl p) (Sub.trans hs hqz)
  subst this
  exact fun t ht => hval t (agree_of_sub hqz ht)


theorem combineLoop_join_packs (g : N.B → N.B → N.B) (Q Rs left : List (Pack N)) (res : PK N)
    (h : combineLoop g false false Q Rs left = some res) : ∃ Z, res = .packs Z := by
  induction Rs generalizing left with
  | nil => cases h; exact ⟨left, rfl⟩
  | cons R Rs ih =>
    obtain ⟨v, q, _, _, ⟨_, hu, _⟩ | ⟨acc, r, _, ⟨hb, _⟩ | h⟩⟩ := combineLoop_cons h
    · cases hu
    · cases hb
    · exact ih _ h

/-- everything `ufJoin g a b = some res` establishes about its intermediate partitions: `b2` is the right
    operand restricted to the common variables with the classes of the left operand merged in, `Z` the
    classes of the result -/
structure UfJoinSpec (g : N.B → N.B → N.B) (a b : List (Pack N)) (res : PK N) (b2 Z : List (Pack N)) : Prop where
  merged : mergeAll (fun _ => N.top) (restrictTo a b) (restrictTo b a) = some b2
  loop : combineLoop g false false b2 (restrictTo b a) (restrictTo a b) = some (.packs Z)
  res_eq : res = .packs Z
  wfl_b2 : WFl b2
  above_b : Coarser b2 (restrictTo b a)
  above_a : Coarser b2 (restrictTo a b)
  wfl : WFl Z
  aligned : Coarser Z b2

theorem ufJoin_spec {g : N.B → N.B → N.B} {a b : List (Pack N)} (ha : WFl a) (hb : WFl b) {res : PK N}
    (h : ufJoin g a b = some res) : ∃ b2 Z, UfJoinSpec g a b res b2 Z := by
  unfold ufJoin at h
  simp only at h
  split at h
  · simp at h
  · rename_i b2 hb2
    obtain ⟨Z, rfl⟩ := combineLoop_join_packs g b2 _ _ res h
    have m := mergeAll_spec _ _ _ _ hb2
    obtain ⟨c1, c2, c3⟩ := combineLoop_struct g false false b2 _ _ Z h
    have hZ := c1 (restrictTo_wfl b ha)
    exact ⟨b2, Z, hb2, h, rfl, m.wfl (restrictTo_wfl a hb), m.above, m.above_cs, hZ, m.finest hZ c3 c2⟩

theorem ufJoin_wf {g : N.B → N.B → N.B} {a b : List (Pack N)} (ha : WFl a) (hb : WFl b) {res : PK N}
    (h : ufJoin g a b = some res) : WF res := by
  obtain ⟨b2, Z, sp⟩ := ufJoin_spec ha hb h
  rw [sp.res_eq]; exact sp.wfl

theorem ufJoin_sound_left {g : N.B → N.B → N.B} (hg : N.USound g) {a b : List (Pack N)} (ha : WFl a) (hb : WFl b)
    {res : PK N} (h : ufJoin g a b = some res) {s : St V} (hs : ∀ p ∈ a, Pack.γc p s) : γc res s := by
  obtain ⟨b2, Z, sp⟩ := ufJoin_spec ha hb h
  have ha's := restrictTo_γc b hs
  obtain ⟨Z', hZ', hgood⟩ := combineLoop_good g false false sp.wfl_b2 (s := s) (by simp)
    (fun a' q _ ha' t ht => hg a' q.val t (Or.inl (ha' t ht))) _ _ _ sp.above_b (restrictTo_wfl b ha)
    (fun p hp => goodQ_of_γc (ha's p hp) (sp.above_a p hp)) sp.loop
  cases hZ'
  rw [sp.res_eq]
  exact fun p hp => γc_of_good sp.wfl sp.aligned hp (hgood p hp)

theorem ufJoin_sound_right {g : N.B → N.B → N.B} (hg : N.USound g) {a b : List (Pack N)} (ha : WFl a) (hb : WFl b)
    {res : PK N} (h : ufJoin g a b = some res) {s : St V} (hs : ∀ p ∈ b, Pack.γc p s) : γc res s := by
  obtain ⟨b2, Z, sp⟩ := ufJoin_spec ha hb h
  have hb2s := (mergeAll_spec _ _ _ _ sp.merged).γc (restrictTo_γc a hs) (fun _ _ t _ => N.top_sound t)
  have hr := combineLoop_right g sp.wfl_b2 hb2s (fun a' b' t hbt => hg a' b' t (Or.inr hbt)) _ _ Z sp.above_b
    (restrictTo_wfl b ha) sp.above_a sp.loop
  rw [sp.res_eq]
  intro p hp
  rcases hr p hp with hgd | ⟨hmem, hun⟩
  · exact γc_of_good sp.wfl sp.aligned hp hgd
  · -- an untouched class of the left operand would have a variable that the right operand lacks
    exfalso
    obtain ⟨v, hv⟩ := List.exists_mem_of_ne_nil _ ((restrictTo_wfl b ha).2 p hmem)
    obtain ⟨hcb, pa, hpa, hvpa⟩ := restrictTo_vars hmem hv
    obtain ⟨pb, hpb, hvpb⟩ := containsV_iff.1 hcb
    obtain ⟨R, hR, hvR⟩ := restrictTo_keeps (other := a) hpb hvpb (containsV_iff.2 ⟨pa, hpa, hvpa⟩)
    exact hun R hR v hvR hv

theorem ufMeet_wf {g : N.B → N.B → N.B} {a b : List (Pack N)} (ha : WFl a) {res : PK N}
    (h : ufMeet g a b = some res) : WF res := by
  unfold ufMeet at h
  split at h
  · simp only [Option.some.injEq] at h; subst h; trivial
  · rename_i b2 hb2
    cases res with
    | bot => trivial
    | packs Z => exact (combineLoop_struct g true true b2 _ _ Z h).1 ha

theorem ufMeet_sound {g : N.B → N.B → N.B} (hg : ∀ x y t, N.γ x t → N.γ y t → N.γ (g x y) t) {a b : List (Pack N)}
    (ha : WFl a) (hb : WFl b) {res : PK N} (h : ufMeet g a b = some res) {s : St V}
    (hsa : ∀ p ∈ a, Pack.γc p s) (hsb : ∀ p ∈ b, Pack.γc p s) : γc res s := by
  unfold ufMeet at h
  obtain ⟨b2, hb2⟩ := mergeAll_isSome (fun c : Pack N => c.val) (s := s) a b
    (fun c hc => ⟨ha.2 c hc, Pack.γ_of_γc (hsa c hc)⟩) (fun p hp => Pack.γ_of_γc (hsb p hp))
  rw [hb2] at h
  simp only at h
  have m := mergeAll_spec _ _ _ _ hb2
  have hb2s := m.γc hsb hsa
  obtain ⟨Z, rfl, hgood⟩ := combineLoop_good g true true (m.wfl hb) (s := s)
    (fun _ => hb2s)
    (fun x q hq hx t ht => hg x q.val t (hx t ht) (hb2s q hq t ht)) _ _ _ m.above ha
    (fun p hp => goodQ_of_γc (hsa p hp) (m.above_cs p hp)) h
  obtain ⟨c1, c2, c3⟩ := combineLoop_struct g true true b2 _ _ Z h
  exact fun p hp => γc_of_good (c1 ha) (m.finest (c1 ha) c3 c2) hp (hgood p hp)

/-! ### the operators of `numerical_packing_domain` -/

/-- the four operators answer an operand on two early tests and call the union-find otherwise -/
theorem binop_inv {uf : List (Pack N) → List (Pack N) → Option (PK N)} {c1 c2 : Bool} {a b x y res : PK N}
    (h : (if c1 = true then some x else if c2 = true then some y
      else match a, b with
        | .packs la, .packs lb => uf la lb
        | _, _ => none) = some res) :
    (c1 = true ∧ res = x) ∨ (c2 = true ∧ res = y) ∨ ∃ la lb, a = .packs la ∧ b = .packs lb ∧ uf la lb = some res := by
  by_cases h1 : c1 = true
  · rw [if_pos h1] at h; cases h; exact Or.inl ⟨h1, rfl⟩
  · rw [if_neg h1] at h
    by_cases h2 : c2 = true
    · rw [if_pos h2] at h; cases h; exact Or.inr (Or.inl ⟨h2, rfl⟩)
    · rw [if_neg h2] at h
      cases a <;> cases b <;> first | cases h | exact Or.inr (Or.inr ⟨_, _, rfl, rfl, h⟩)

/-- an operand answered on the early tests `is_bottom(other) || is_top(this)` is above the other one -/
theorem γc_of_early (t : N.TopSound) {a b : PK N} (hc : (a.isBottom || b.isTop) = true) {s : St V}
    (hs : γc a s ∨ γc b s) : γc b s :=
  hs.elim (fun hs => (Bool.or_eq_true _ _ ▸ hc).elim (fun hc => absurd hs (not_γc_of_isBottom hc s))
    fun hc => γc_of_isTop t hc s) id

theorem joinWith_wf {g : N.B → N.B → N.B} {a b : PK N} (ha : WF a) (hb : WF b) {res : PK N}
    (h : joinWith g a b = some res) : WF res := by
  obtain ⟨_, rfl⟩ | ⟨_, rfl⟩ | ⟨la, lb, rfl, rfl, hu⟩ := binop_inv h
  · exact hb
  · exact ha
  · exact ufJoin_wf ha hb hu

theorem joinWith_sound (t : N.TopSound) {g : N.B → N.B → N.B} (hg : N.USound g) {a b : PK N} (ha : WF a) (hb : WF b)
    {res : PK N} (h : joinWith g a b = some res) {s : St V} (hs : γc a s ∨ γc b s) : γc res s := by
  obtain ⟨hc, rfl⟩ | ⟨hc, rfl⟩ | ⟨la, lb, rfl, rfl, hu⟩ := binop_inv h
  · exact γc_of_early t hc hs
  · exact γc_of_early t hc hs.symm
  · exact hs.elim (ufJoin_sound_left hg ha hb hu) (ufJoin_sound_right hg ha hb hu)

theorem meetWith_wf {g : N.B → N.B → N.B} {a b : PK N} (ha : WF a) (hb : WF b) {res : PK N}
    (h : meetWith g a b = some res) : WF res := by
  obtain ⟨_, rfl⟩ | ⟨_, rfl⟩ | ⟨la, lb, rfl, rfl, hu⟩ := binop_inv h
  · exact ha
  · exact hb
  · exact ufMeet_wf ha hu

theorem meetWith_sound {g : N.B → N.B → N.B} (hg : ∀ x y t, N.γ x t → N.γ y t → N.γ (g x y) t) {a b : PK N}
    (ha : WF a) (hb : WF b) {res : PK N} (h : meetWith g a b = some res) {s : St V} (hsa : γc a s) (hsb : γc b s) :
    γc res s := by
  obtain ⟨_, rfl⟩ | ⟨_, rfl⟩ | ⟨la, lb, rfl, rfl, hu⟩ := binop_inv h
  · exact hsa
  · exact hsb
  · exact ufMeet_sound hg ha hb hu hsa hsb

end PK
end Fct
end Dom
end Crab
