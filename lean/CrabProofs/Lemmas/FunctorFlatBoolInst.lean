import CrabProofs.Lemmas.FunctorFlatBoolLat

/-!
A small lawful instance of the interface of `flat_boolean_numerical_domain`'s functor model, used for
counterexamples, non-vacuity and the regression examples of `Props/C03FlatBoolCex.lean` and
`Props/C04FlatBool.lean`:

* constraints `C0`: `x ≥ k`, `x < k`, `true`, `false` over variables `Nat`;
* base domain `N0`: a value is the list of the constraints asserted so far (γ = their conjunction),
  join / widening forget everything, meet / narrowing concatenate, `+=` conses.
-/
set_option linter.unusedSectionVars false
set_option linter.unusedSimpArgs false

namespace Crab
namespace Dom
namespace Fct
namespace FBInst

inductive C0 where
  | ge (x : Nat) (k : Int)
  | lt (x : Nat) (k : Int)
  | tru
  | fls
  deriving DecidableEq, Repr

def C0.holds : C0 → (Nat → Int) → Prop
  | .ge x k, s => k ≤ s x
  | .lt x k, s => s x < k
  | .tru, _ => True
  | .fls, _ => False

def C0.vars : C0 → List Nat
  | .ge x _ => [x]
  | .lt x _ => [x]
  | _ => []

def C0.negate : C0 → C0
  | .ge x k => .lt x k
  | .lt x k => .ge x k
  | .tru => .fls
  | .fls => .tru

def K0 : CSig Nat where
  C := C0
  deq := inferInstance
  holds := C0.holds
  vars := C0.vars
  negate := C0.negate
  isTaut := fun c => c == .tru
  isContra := fun c => c == .fls
  frame := by
    intro c s s' h
    cases c <;> simp [C0.holds, C0.vars] at h ⊢ <;> rw [h]
  negate_holds := by
    intro c s
    cases c <;> simp [C0.holds, C0.negate] <;> omega
  negate_vars := by intro c v; cases c <;> simp [C0.vars, C0.negate]
  taut_holds := by intro c s h; cases c <;> simp_all [C0.holds]
  contra_holds := by intro c s h; cases c <;> simp_all [C0.holds]

def γ0 (b : List C0) (s : CSt Nat) : Prop := ∀ c ∈ b, C0.holds c s.num

def N0 : BNDom Nat K0 where
  B := List C0
  γ := γ0
  top := []
  bot := [.fls]
  isBot := fun b => b.contains .fls
  isTop := fun b => b.isEmpty
  leq := fun a b => b.all (fun c => a.contains c)
  join := fun _ _ => []
  meet := fun a b => a ++ b
  widen := fun _ _ => []
  narrow := fun a b => a ++ b
  top_sound := by intro s c hc; cases hc
  bot_sound := by intro s h; exact h .fls (by simp)
  isBot_sound := by
    intro b s h hg
    exact hg .fls (by simpa [List.contains_iff_mem] using h)
  leq_sound := by
    intro a b s h hg c hc
    simp only [List.all_eq_true] at h
    exact hg c (by simpa [List.contains_iff_mem] using h c hc)
  join_l := by intro a b s _ c hc; cases hc
  join_r := by intro a b s _ c hc; cases hc
  widen_l := by intro a b s _ c hc; cases hc
  widen_r := by intro a b s _ c hc; cases hc
  meet_sound := by
    intro a b s ha hb c hc
    rcases List.mem_append.1 hc with h | h
    · exact ha c h
    · exact hb c h
  narrow_sound := by
    intro a b s ha hb c hc
    rcases List.mem_append.1 hc with h | h
    · exact ha c h
    · exact hb c h
  addCst := fun b c => c :: b
  addCst_sound := by
    intro b c s hg hc c' hc'
    rcases List.mem_cons.1 hc' with h | h
    · subst h; exact hc
    · exact hg c' h
  entails := fun b c => b.contains c
  entails_sound := by
    intro b c s h hg
    exact hg c (List.contains_iff_mem.1 h)
  isZero := fun _ _ => false
  isZero_sound := by intro b v s h; cases h
  nonZero := fun _ _ => false
  nonZero_sound := by intro b v s h; cases h
  assignK := fun b x k => .ge x k :: .lt x (k + 1) :: b.filter (fun c => !c.vars.contains x)
  assignK_sound := by
    intro b x k s hg c hc
    simp only [List.mem_cons, List.mem_filter] at hc
    rcases hc with rfl | rfl | ⟨h1, h2⟩
    · simp [C0.holds, CSt.setN]
    · simp only [C0.holds, CSt.setN, if_true]; omega
    · have := hg c h1
      have hx : ∀ v ∈ c.vars, v ≠ x := by
        intro v hv e; subst e
        simp [List.contains_iff_mem, hv] at h2
      exact (K0.frame c _ _ (fun v hv => by simp [CSt.setN, hx v hv])).2 this

/-- the base forgets what it knows about `x` (a sound transformer for every statement that only
    redefines `x`) -/
def fforget (x : Nat) (b : List C0) : List C0 := b.filter (fun c => !c.vars.contains x)

theorem fforget_sound (x : Nat) (r : CSt Nat → CSt Nat → Prop) (hd : FBN.DefinesNum x r) :
    N0.TSound (fforget x) r := by
  intro (b : List C0) s s' hg hr c hc
  obtain ⟨k, rfl⟩ := hd s s' hr
  have hc : c ∈ b ∧ (!c.vars.contains x) = true := by simpa [fforget, List.mem_filter] using hc
  have hx : ∀ v ∈ c.vars, v ≠ x := by
    intro v hv e; subst e
    have := hc.2
    simp [List.contains_iff_mem, hv] at this
  exact (K0.frame c _ _ (fun v hv => by simp [CSt.setN, hx v hv])).2 (hg c hc.1)

/-- the base ignores the Boolean statements (its values only talk about numbers) -/
theorem id_sound_bool (x : Nat) (P : CSt Nat → Bool → Prop) : N0.TSound id (FBN.RelB x P) := by
  rintro b s s' hg ⟨v, _, rfl⟩
  exact hg

theorem id_sound_filter (r : CSt Nat → CSt Nat → Prop) (hr : FBN.Filters r) : N0.TSound id r := by
  intro b s s' hg h
  rw [hr s s' h]; exact hg

theorem ignoresBool (dst : Nat) : FBN.IgnoresBool N0 dst := fun _ _ _ h => h

theorem n0_meetLower : N0.MeetLower := by
  intro (a : List C0) (b : List C0) s h
  exact ⟨fun c hc => h c (List.mem_append.2 (Or.inl hc)), fun c hc => h c (List.mem_append.2 (Or.inr hc))⟩

theorem n0_topSound : N0.TopSound := by
  intro (b : List C0) s h c hc
  have : b = [] := List.isEmpty_iff.1 h
  subst this; cases hc

abbrev St0 := FBN N0

end FBInst
end Fct
end Dom
end Crab
