import CrabProofs.Lemmas.IntervalLattice

/-! Arithmetic of `Crab.Itv` versus concretisation: soundness, definedness (no CRAB_ERROR on
    well-formed operands) and exactness of `+`, `-`, unary `-`.  Soundness and exactness of
    `+` are read off `mem_add`; `-` is `+` after unary `-`. -/
namespace Crab
namespace Itv
open Bound

theorem mem_neg (x : Itv) (k : Int) : mem k (neg x) ↔ mem (-k) x := by
  unfold neg; split
  · rename_i h; exact iff_of_false (not_mem_bot k) (not_mem_of_isBottom h)
  · rw [mem_mk', mem_def, Bound.neg_le_fin, Bound.fin_le_neg, and_comm]

theorem neg_sound {x : Itv} {a : Int} (ha : mem a x) : mem (-a) (neg x) := by
  rw [mem_neg, Int.neg_neg]; exact ha

theorem neg_exact {x : Itv} {k : Int} (h : mem k (neg x)) : mem (-k) x := (mem_neg x k).mp h

theorem neg_of_not_bottom {y : Itv} (h : y.isBottom = false) :
    neg y = ⟨Bound.neg y.ub, Bound.neg y.lb⟩ := by
  rw [neg, if_neg (by simp [h]), mk'_eq_mk]
  rw [Bound.neg_le_neg]; exact (isBottom_false_iff y).mp h

theorem neg_wf {y : Itv} (hy : y.WF) : (neg y).WF := by
  unfold neg; split
  · exact wf_bot
  · exact wf_mk' (Bound.neg_ne_pinf hy.2) (Bound.neg_ne_ninf hy.1)

theorem add_of_isBottom {x y : Itv} (h : (x.isBottom || y.isBottom) = true) : add x y = some bot := by
  simp [add, h]

theorem add_inv {x y r : Itv} (h : add x y = some r) (hx : x.isBottom = false)
    (hy : y.isBottom = false) :
    ∃ l u, Bound.add x.lb y.lb = some l ∧ Bound.add x.ub y.ub = some u ∧ r = mk' l u := by
  unfold add at h
  simp only [hx, hy, Bool.or_self, Bool.false_eq_true, if_false] at h
  split at h
  · rename_i l u hl hu; exact ⟨l, u, hl, hu, (Option.some.inj h).symm⟩
  · cases h

/-- `k ∈ x + y` exactly when `x` and `k - y` overlap -/
theorem mem_add {x y r : Itv} (h : add x y = some r) (hx : x.isBottom = false)
    (hy : y.isBottom = false) (k : Int) :
    mem k r ↔ Bound.le x.lb (rsub k y.lb) = true ∧ Bound.le (rsub k y.ub) x.ub = true := by
  obtain ⟨l, u, hl, hu, rfl⟩ := add_inv h hx hy
  rw [mem_mk', Bound.add_le_fin hl, Bound.fin_le_add hu]

theorem add_sound {x y r : Itv} {a b : Int} (ha : mem a x) (hb : mem b y)
    (h : add x y = some r) : mem (a + b) r := by
  rw [mem_add h (isBottom_false_of_mem ha) (isBottom_false_of_mem hb)]
  constructor
  · refine Bound.le_trans ha.1 ?_
    rw [Bound.fin_le_rsub, show a + b - a = b by omega]; exact hb.1
  · refine Bound.le_trans ?_ ha.2
    rw [Bound.rsub_le_fin, show a + b - a = b by omega]; exact hb.2

/-- `+` is exact: a member `a` of the overlap of `x` and `k - y` gives `k = a + (k - a)` -/
theorem add_exact {x y r : Itv} {k : Int} (hx : x.WF) (hy : y.WF) (h : add x y = some r)
    (hk : mem k r) : ∃ a b, mem a x ∧ mem b y ∧ k = a + b := by
  cases hb : (x.isBottom || y.isBottom)
  · obtain ⟨hbx, hby⟩ := Bool.or_eq_false_iff.mp hb
    obtain ⟨h1, h2⟩ := (mem_add h hbx hby k).mp hk
    have hy' : Bound.le (rsub k y.ub) (rsub k y.lb) = true := by
      rw [Bound.rsub_le_rsub]; exact (isBottom_false_iff y).mp hby
    obtain ⟨a, ha1, ha2⟩ := Bound.exists_between
      (l := Bound.max x.lb (rsub k y.ub)) (u := Bound.min x.ub (rsub k y.lb))
      (by rcases Bound.max_eq_or x.lb (rsub k y.ub) with e | e <;> rw [e]
          · exact hx.1
          · exact Bound.rsub_ne_pinf hy.2)
      (by rcases Bound.min_eq_or x.ub (rsub k y.lb) with e | e <;> rw [e]
          · exact hx.2
          · exact Bound.rsub_ne_ninf hy.1)
      (Bound.max_le (Bound.le_min ((isBottom_false_iff x).mp hbx) h1) (Bound.le_min h2 hy'))
    refine ⟨a, k - a, ⟨Bound.le_trans (Bound.le_max_left _ _) ha1,
      Bound.le_trans ha2 (Bound.min_le_left _ _)⟩, ⟨?_, ?_⟩, by omega⟩
    · rw [← Bound.fin_le_rsub]; exact Bound.le_trans ha2 (Bound.min_le_right _ _)
    · rw [← Bound.rsub_le_fin]; exact Bound.le_trans (Bound.le_max_right _ _) ha1
  · rw [add_of_isBottom hb] at h
    cases h; exact absurd hk (not_mem_bot k)

theorem add_defined {x y : Itv} (hx : x.WF) (hy : y.WF) : (add x y).isSome = true := by
  unfold add
  split
  · rfl
  · obtain ⟨l, hl, _⟩ := Bound.add_of_ne_pinf hx.1 hy.1
    obtain ⟨u, hu, _⟩ := Bound.add_of_ne_ninf hx.2 hy.2
    rw [hl, hu]; rfl

theorem add_wf {x y r : Itv} (hx : x.WF) (hy : y.WF) (h : add x y = some r) : r.WF := by
  cases hb : (x.isBottom || y.isBottom)
  · obtain ⟨hbx, hby⟩ := Bool.or_eq_false_iff.mp hb
    obtain ⟨l, u, hl, hu, rfl⟩ := add_inv h hbx hby
    obtain ⟨l', hl', h1⟩ := Bound.add_of_ne_pinf hx.1 hy.1
    obtain ⟨u', hu', h2⟩ := Bound.add_of_ne_ninf hx.2 hy.2
    cases hl.symm.trans hl'; cases hu.symm.trans hu'
    exact wf_mk' h1 h2
  · rw [add_of_isBottom hb] at h
    cases h; exact wf_bot

theorem sub_eq_add_neg (x y : Itv) : sub x y = add x (neg y) := by
  cases hy : y.isBottom
  · have hn : (⟨Bound.neg y.ub, Bound.neg y.lb⟩ : Itv).isBottom = false := by
      rw [isBottom_false_iff, Bound.neg_le_neg]
      exact (isBottom_false_iff y).mp hy
    simp only [sub, add, hy, hn, neg_of_not_bottom hy, Bound.sub]
  · simp [sub, add, hy, neg, isBottom_bot]

theorem sub_sound {x y r : Itv} {a b : Int} (ha : mem a x) (hb : mem b y)
    (h : sub x y = some r) : mem (a - b) r := by
  rw [sub_eq_add_neg] at h
  exact Int.sub_eq_add_neg ▸ add_sound ha (neg_sound hb) h

theorem sub_defined {x y : Itv} (hx : x.WF) (hy : y.WF) : (sub x y).isSome = true := by
  rw [sub_eq_add_neg]; exact add_defined hx (neg_wf hy)

theorem sub_exact {x y r : Itv} {k : Int} (hx : x.WF) (hy : y.WF) (h : sub x y = some r)
    (hk : mem k r) : ∃ a b, mem a x ∧ mem b y ∧ k = a - b := by
  rw [sub_eq_add_neg] at h
  obtain ⟨a, b, ha, hb, e⟩ := add_exact hx (neg_wf hy) h hk
  exact ⟨a, -b, ha, neg_exact hb, by omega⟩

theorem sub_wf {x y r : Itv} (hx : x.WF) (hy : y.WF) (h : sub x y = some r) : r.WF := by
  rw [sub_eq_add_neg] at h
  exact add_wf hx (neg_wf hy) h

end Itv
end Crab
