import CrabModel.Scalar.IntervalCongruence
import CrabProofs.Lemmas.CongruenceOps
import CrabProofs.Lemmas.IntervalLattice

/-! `interval_congruence::reduce()` keeps exactly the common members of the interval and the
    congruence (Granger's reduction as coded). -/
namespace Crab
namespace IC
open Bound

theorem imod_spec {a m r : Int} (hm : 0 < m) (h : imod? a m = some r) : 0 ≤ r ∧ r < m ∧ m ∣ a - r := by
  unfold imod? at h
  rw [if_neg (Int.ne_of_gt hm)] at h
  exact Cong.tmod_norm hm (Option.some.inj h).symm

theorem imod_isSome {a m : Int} (hm : m ≠ 0) : ∃ r, imod? a m = some r := by
  unfold imod?; simp [hm]

theorem nonneg_of_dvd_of_gt {m d : Int} (hm : 0 < m) (hd : m ∣ d) (hgt : -m < d) : 0 ≤ d := by
  obtain ⟨t, ht⟩ := hd
  apply Classical.byContradiction
  intro hneg
  have ht1 : t ≤ -1 := by
    apply Classical.byContradiction
    intro h
    have : 0 ≤ t := by omega
    have := Int.mul_nonneg (Int.le_of_lt hm) this
    omega
  have := Int.mul_le_mul_of_nonneg_left ht1 (Int.le_of_lt hm)
  omega

/-- `R(c,l)` is a member of the class, at least `l`, and below every member that is `≥ l` -/
theorem R_spec {c : Cong} {l x : Int} (ha : c.a ≠ 0) (h : R? c l = some x) :
    l ≤ x ∧ c.a ∣ x - c.b ∧ ∀ k, c.a ∣ k - c.b → l ≤ k → x ≤ k := by
  unfold R? at h
  obtain ⟨r, hr⟩ := imod_isSome (a := c.b - l) (by have := Cong.iabs_pos ha; omega : Cong.iabs c.a ≠ 0)
  rw [hr] at h; simp only [Option.map_some, Option.some.injEq] at h
  obtain ⟨r0, r1, r2⟩ := imod_spec (Cong.iabs_pos ha) hr
  subst h
  have hdx : c.a ∣ l + r - c.b := by
    have := Cong.iabs_dvd.mp r2
    have e : l + r - c.b = -(c.b - l - r) := by omega
    rw [e]; exact Int.dvd_neg.mpr this
  refine ⟨by omega, hdx, ?_⟩
  intro k hk hlk
  have hd : Cong.iabs c.a ∣ k - (l + r) := by
    apply Cong.iabs_dvd.mpr
    have e : k - (l + r) = (k - c.b) - (l + r - c.b) := by omega
    rw [e]; exact Int.dvd_sub hk hdx
  have := nonneg_of_dvd_of_gt (Cong.iabs_pos ha) hd (by omega)
  omega

/-- `L(c,u)` is a member of the class, at most `u`, and above every member that is `≤ u` -/
theorem L_spec {c : Cong} {u y : Int} (ha : c.a ≠ 0) (h : L? c u = some y) :
    y ≤ u ∧ c.a ∣ y - c.b ∧ ∀ k, c.a ∣ k - c.b → k ≤ u → k ≤ y := by
  unfold L? at h
  obtain ⟨r, hr⟩ := imod_isSome (a := u - c.b) (by have := Cong.iabs_pos ha; omega : Cong.iabs c.a ≠ 0)
  rw [hr] at h; simp only [Option.map_some, Option.some.injEq] at h
  obtain ⟨r0, r1, r2⟩ := imod_spec (Cong.iabs_pos ha) hr
  subst h
  have hdx : c.a ∣ u - r - c.b := by
    have := Cong.iabs_dvd.mp r2
    have e : u - r - c.b = u - c.b - r := by omega
    rw [e]; exact this
  refine ⟨by omega, hdx, ?_⟩
  intro k hk hku
  have hd : Cong.iabs c.a ∣ (u - r) - k := by
    apply Cong.iabs_dvd.mpr
    have e : (u - r) - k = (u - r - c.b) - (k - c.b) := by omega
    rw [e]; exact Int.dvd_sub hdx hk
  have := nonneg_of_dvd_of_gt (Cong.iabs_pos ha) hd (by omega)
  omega

theorem R_isSome {c : Cong} (ha : c.a ≠ 0) (l : Int) : ∃ x, R? c l = some x := by
  obtain ⟨r, hr⟩ := imod_isSome (a := c.b - l) (by have := Cong.iabs_pos ha; omega : Cong.iabs c.a ≠ 0)
  exact ⟨l + r, by simp [R?, hr]⟩
theorem L_isSome {c : Cong} (ha : c.a ≠ 0) (u : Int) : ∃ y, L? c u = some y := by
  obtain ⟨r, hr⟩ := imod_isSome (a := u - c.b) (by have := Cong.iabs_pos ha; omega : Cong.iabs c.a ≠ 0)
  exact ⟨u - r, by simp [L?, hr]⟩

/-- a finite bound pair in the non-constant branch: the tightened bounds `x = R(c,l)`, `y = L(c,u)`
    cut off no member of the class -/
theorem tighten_iff {c : Cong} {l u x y k : Int} (ha : c.a ≠ 0) (hx : R? c l = some x)
    (hy : L? c u = some y) (hc : c.a ∣ k - c.b) : (x ≤ k ∧ k ≤ y) ↔ (l ≤ k ∧ k ≤ u) := by
  obtain ⟨hlx, _, hxk⟩ := R_spec ha hx
  obtain ⟨hyu, _, hyk⟩ := L_spec ha hy
  exact ⟨fun h => ⟨by omega, by omega⟩, fun h => ⟨hxk k hc h.1, hyk k hc h.2⟩⟩

/-- What `reduce()` does, one constructor per path through the method: the tests that lead there (as far as
    they matter for the result) and the pair it leaves.  `keep` stands for the two paths that change
    nothing: a top congruence beside an interval that is no singleton, and an interval without a finite
    bound. -/
inductive Reduces (p : IC) : IC → Prop
  | bottom (hb : p.isBottom = true) : Reduces p ⟨Itv.bot, Cong.bot⟩
  | single {n : Int} (hc : p.c.isBot = false) (ht : p.c.isTop = true) (hn : p.i.singleton? = some n) :
      Reduces p ⟨p.i, Cong.ofInt n⟩
  | keep : Reduces p p
  | cstOut (ha : p.c.a = 0) (hle : Itv.leq (Itv.single p.c.b) p.i = false) : Reduces p ⟨Itv.bot, Cong.bot⟩
  | cstIn (ha : p.c.a = 0) (hle : Itv.leq (Itv.single p.c.b) p.i = true) : Reduces p ⟨Itv.single p.c.b, p.c⟩
  | empty {l u x y : Int} (ha : p.c.a ≠ 0) (hl : p.i.lb = fin l) (hu : p.i.ub = fin u)
      (hx : R? p.c l = some x) (hy : L? p.c u = some y) (hxy : x > y) : Reduces p ⟨Itv.bot, Cong.bot⟩
  | point {l u x y : Int} (hc : p.c.isBot = false) (ha : p.c.a ≠ 0) (hl : p.i.lb = fin l) (hu : p.i.ub = fin u)
      (hx : R? p.c l = some x) (hy : L? p.c u = some y) (hxy : x = y) : Reduces p ⟨Itv.single x, Cong.ofInt x⟩
  | finFin {l u x y : Int} (ha : p.c.a ≠ 0) (hl : p.i.lb = fin l) (hu : p.i.ub = fin u)
      (hx : R? p.c l = some x) (hy : L? p.c u = some y) (hxy : x < y) : Reduces p ⟨Itv.mk' (fin x) (fin y), p.c⟩
  | finInf {l x : Int} (ha : p.c.a ≠ 0) (hl : p.i.lb = fin l) (hu : p.i.ub = pinf) (hx : R? p.c l = some x) :
      Reduces p ⟨Itv.mk' (fin x) pinf, p.c⟩
  | infFin {u y : Int} (ha : p.c.a ≠ 0) (hl : p.i.lb = ninf) (hu : p.i.ub = fin u) (hy : L? p.c u = some y) :
      Reduces p ⟨Itv.mk' ninf (fin y), p.c⟩

/-- `reduce()` never raises CRAB_ERROR (`mod` is only called with a non-zero modulus), and it takes one
    of the paths of `Reduces` -/
theorem reduce_reduces (p : IC) : ∃ q, reduce p = some q ∧ Reduces p q := by
  unfold reduce
  by_cases hb : (p.i.isBottom || p.c.isBottom) = true
  · exact ⟨_, by simp only [hb, if_true]; rfl, .bottom hb⟩
  simp only [hb, Bool.false_eq_true, if_false]
  obtain ⟨hib, hcb⟩ := Bool.or_eq_false_iff.mp (eq_false_of_ne_true hb)
  by_cases htop : p.c.isTop = true
  · rw [if_pos htop]
    cases hn : p.i.singleton? with
    | none => exact ⟨_, rfl, .keep⟩
    | some n => exact ⟨_, rfl, .single hcb htop hn⟩
  rw [if_neg htop]
  by_cases ha0 : p.c.a = 0
  · rw [if_pos ha0]
    cases hle : Itv.leq (Itv.single p.c.b) p.i with
    | false => exact ⟨_, rfl, .cstOut ha0 hle⟩
    | true => exact ⟨_, rfl, .cstIn ha0 hle⟩
  rw [if_neg ha0]
  have hlu := (Itv.isBottom_false_iff _).mp hib
  split
  · rename_i l u hl hu
    obtain ⟨x, hx⟩ := R_isSome ha0 l
    obtain ⟨y, hy⟩ := L_isSome ha0 u
    rw [hx, hy]; simp only []
    by_cases hgt : x > y
    · exact ⟨_, if_pos hgt, .empty ha0 hl hu hx hy hgt⟩
    rw [if_neg hgt]
    by_cases heq : x = y
    · exact ⟨_, if_pos heq, .point hcb ha0 hl hu hx hy heq⟩
    · exact ⟨_, if_neg heq, .finFin ha0 hl hu hx hy (by omega)⟩
  · rename_i l hl hu
    obtain ⟨x, hx⟩ := R_isSome ha0 l
    -- the upper bound is not finite and the interval is not bottom: it is +oo
    have hub : p.i.ub = pinf := by
      cases hub : p.i.ub with
      | fin u => exact absurd hub (hu u)
      | pinf => rfl
      | ninf => rw [hl, hub] at hlu; cases hlu
    rw [hx]; exact ⟨_, rfl, .finInf ha0 hl hub hx⟩
  · rename_i u hu hl
    obtain ⟨y, hy⟩ := L_isSome ha0 u
    have hlb : p.i.lb = ninf := by
      cases hlb : p.i.lb with
      | fin l => exact absurd hlb (hl l)
      | ninf => rfl
      | pinf => rw [hu, hlb] at hlu; cases hlu
    rw [hy]; exact ⟨_, rfl, .infFin ha0 hlb hu hy⟩
  · exact ⟨_, rfl, .keep⟩

theorem reduces_of_eq {p q : IC} (h : reduce p = some q) : Reduces p q := by
  obtain ⟨_, e, hr⟩ := reduce_reduces p
  exact Option.some.inj (e.symm.trans h) ▸ hr

theorem reduce_defined (p : IC) : (reduce p).isSome = true := by
  obtain ⟨_, e, _⟩ := reduce_reduces p
  rw [e]; rfl

/-- `reduce()` keeps exactly the common members of the interval and the congruence -/
theorem mem_reduce {p q : IC} (h : reduce p = some q) (k : Int) : mem k q ↔ mem k p := by
  cases reduces_of_eq h with
  | bottom hb =>
    refine iff_of_false (fun hk => Itv.not_mem_bot k hk.1) (fun hk => ?_)
    rw [show p.isBottom = (p.i.isBottom || p.c.isBot) from rfl, Itv.isBottom_false_of_mem hk.1, hk.2.1] at hb
    cases hb
  | single hc ht hn =>
    exact and_congr_right fun hi =>
      iff_of_true ((Cong.mem_ofInt k _).mpr (Itv.mem_of_singleton? hn hi)) (Cong.mem_of_isTop hc ht)
  | keep => exact Iff.rfl
  | cstOut ha hle =>
    refine iff_of_false (fun hk => Itv.not_mem_bot k hk.1) (fun hk => Bool.eq_false_iff.mp hle ?_)
    rw [← Cong.eq_of_mem_cst hk.2 ha]; exact Itv.leq_single_of_mem hk.1
  | cstIn ha hle =>
    exact ⟨fun ⟨h1, h2⟩ => ⟨Itv.leq_sound hle h1, h2⟩,
      fun ⟨_, h2⟩ => ⟨(Itv.mem_single k _).mpr (Cong.eq_of_mem_cst h2 ha), h2⟩⟩
  | empty ha hl hu hx hy hxy =>
    refine iff_of_false (fun hk => Itv.not_mem_bot k hk.1) (fun hk => ?_)
    have := (tighten_iff ha hx hy hk.2.2).mpr ((Itv.mem_fin_iff hl hu).mp hk.1)
    omega
  | @point _ _ x _ hc ha hl hu hx hy hxy =>
    -- the one member of the class between the bounds is `x = R(c,l) = L(c,u)`
    have hlu := Itv.mem_fin_iff (k := k) hl hu
    constructor
    · rintro ⟨h1, _⟩
      obtain rfl : k = x := (Itv.mem_single k x).mp h1
      have hd := (R_spec ha hx).2.1
      exact ⟨hlu.mpr ((tighten_iff ha hx hy hd).mp (by omega)), hc, hd⟩
    · rintro ⟨h1, h2⟩
      have := (tighten_iff ha hx hy h2.2).mpr (hlu.mp h1)
      have ek : k = x := by omega
      exact ⟨(Itv.mem_single k x).mpr ek, (Cong.mem_ofInt k x).mpr ek⟩
  | finFin ha hl hu hx hy _ =>
    refine and_congr_left fun hc => ?_
    rw [Itv.mem_fin_iff hl hu, Itv.mem_mk', ← tighten_iff ha hx hy hc.2]
    simp only [Bound.le_fin_fin, decide_eq_true_eq]
  | finInf ha hl hu hx =>
    obtain ⟨hlx, _, hxk⟩ := R_spec ha hx
    refine and_congr_left fun hc => ?_
    rw [Itv.mem_mk', Itv.mem_def, hl, hu]
    simp only [Bound.le_fin_fin, Bound.le_pinf, decide_eq_true_eq, and_true]
    exact ⟨fun h => by omega, fun h => hxk k hc.2 h⟩
  | infFin ha hl hu hy =>
    obtain ⟨hyu, _, hyk⟩ := L_spec ha hy
    refine and_congr_left fun hc => ?_
    rw [Itv.mem_mk', Itv.mem_def, hl, hu]
    simp only [Bound.le_fin_fin, Bound.le_ninf, decide_eq_true_eq, true_and]
    exact ⟨fun h => by omega, fun h => hyk k hc.2 h⟩

theorem reduce_sound {p q : IC} {k : Int} (hk : mem k p) (h : reduce p = some q) : mem k q :=
  (mem_reduce h k).mpr hk

theorem reduce_exact {p q : IC} {k : Int} (hk : mem k q) (h : reduce p = some q) : mem k p :=
  (mem_reduce h k).mp hk

end IC
end Crab
