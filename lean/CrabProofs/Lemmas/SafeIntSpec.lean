import CrabModel.Num.SafeInt
import CrabProofs.Lemmas.ZSpecOps

/-! `safe_i64`: the 128-bit intermediate holds the exact result, the stored low 64 bits are the
    exact result whenever the flag is clear: an operation never wraps silently. -/
namespace Crab.SafeInt

theorem inRange_iff (x : Int) : inRange x = true ↔ (-(2 ^ 63) ≤ x ∧ x ≤ 2 ^ 63 - 1) := by
  unfold inRange min max
  rw [Bool.and_eq_true]
  exact ⟨fun h => ⟨of_decide_eq_true h.1, of_decide_eq_true h.2⟩,
    fun h => ⟨decide_eq_true h.1, decide_eq_true h.2⟩⟩

theorem wide_eq {x : Int} (h1 : -(2 ^ 127) ≤ x) (h2 : x < 2 ^ 127) : wide x = x := by
  unfold wide
  apply Int.bmod_eq_of_le <;> omega

theorem narrow_eq {x : Int} (h1 : -(2 ^ 63) ≤ x) (h2 : x ≤ 2 ^ 63 - 1) : narrow x = x := by
  unfold narrow
  apply Int.bmod_eq_of_le <;> omega

theorem flag_eq (x : Int) : flag x = !(inRange x) := by
  have h : flag x = true ↔ ¬ (inRange x = true) := by
    rw [inRange_iff]
    unfold flag max min
    rw [Bool.or_eq_true]
    constructor
    · rintro (h | h)
      · have := of_decide_eq_true h; omega
      · have := of_decide_eq_true h; omega
    · intro h
      by_cases h1 : x > 2 ^ 63 - 1
      · exact Or.inl (decide_eq_true h1)
      · exact Or.inr (decide_eq_true (by omega))
  cases hf : flag x <;> cases hi : inRange x <;> simp_all

/-- the shape shared by the four operators, for an exact result `v` that fits 128 bits: the answer
    `f v` when `v` fits 64 bits, the error `e` otherwise -/
theorem checked_eq {α : Type} (f : Int → α) (e : α) {v : Int} (h1 : -(2 ^ 127) ≤ v) (h2 : v < 2 ^ 127) :
    (if flag (wide v) = true then e else f (narrow (wide v))) = if inRange v = true then f v else e := by
  rw [wide_eq h1 h2, flag_eq]
  by_cases hr : inRange v = true
  · have hr' := (inRange_iff v).1 hr
    rw [if_neg (by rw [hr]; exact Bool.false_ne_true), if_pos hr, narrow_eq hr'.1 hr'.2]
  · rw [if_pos (by rw [eq_false_of_ne_true hr]; rfl), if_neg hr]

/-- an operation of that shape answers `r` iff `r` is the exact result and fits -/
theorem fits_iff {α : Type} {f : Int → α} {e o : α} {v r : Int} (h : o = if inRange v = true then f v else e)
    (hf : ∀ {x y}, f x = f y → x = y) (he : ∀ {x}, f x ≠ e) : o = f r ↔ (r = v ∧ inRange r = true) := by
  by_cases hr : inRange v = true
  · rw [h, if_pos hr]
    exact ⟨fun h => ⟨(hf h).symm, hf h ▸ hr⟩, fun h => h.1 ▸ rfl⟩
  · rw [h, if_neg hr]
    exact ⟨fun h => absurd h.symm he, fun h => absurd (h.1 ▸ h.2) hr⟩

/-- and fails iff the exact result does not fit -/
theorem overflow_iff {α : Type} {f : Int → α} {e o : α} {v : Int} (h : o = if inRange v = true then f v else e)
    (he : ∀ {x}, f x ≠ e) : o = e ↔ inRange v = false := by
  rw [h]; cases inRange v <;> simp [@he]

theorem mul_bound {a b : Int} (ha : inRange a = true) (hb : inRange b = true) :
    -(2 ^ 127) ≤ a * b ∧ a * b < 2 ^ 127 := by
  have ha' := (inRange_iff a).1 ha
  have hb' := (inRange_iff b).1 hb
  have h1 : a.natAbs ≤ 2 ^ 63 := by omega
  have h2 : b.natAbs ≤ 2 ^ 63 := by omega
  have h3 : (a * b).natAbs ≤ 2 ^ 63 * 2 ^ 63 := by
    rw [Int.natAbs_mul]; exact Nat.mul_le_mul h1 h2
  have h4 : (2 : Nat) ^ 63 * 2 ^ 63 = 2 ^ 126 := by decide
  omega

theorem tdiv_bound {a : Int} (b : Int) (ha : inRange a = true) :
    -(2 ^ 127) ≤ a.tdiv b ∧ a.tdiv b < 2 ^ 127 := by
  have ha' := (inRange_iff a).1 ha
  have := Int.natAbs_tdiv_le_natAbs a b
  omega

theorem add_eq {a b : Int} (ha : inRange a = true) (hb : inRange b = true) :
    add a b = if inRange (a + b) = true then some (a + b) else none := by
  have ha' := (inRange_iff a).1 ha
  have hb' := (inRange_iff b).1 hb
  exact checked_eq some none (by omega) (by omega)

theorem sub_eq {a b : Int} (ha : inRange a = true) (hb : inRange b = true) :
    sub a b = if inRange (a - b) = true then some (a - b) else none := by
  have ha' := (inRange_iff a).1 ha
  have hb' := (inRange_iff b).1 hb
  exact checked_eq some none (by omega) (by omega)

theorem mul_eq {a b : Int} (ha : inRange a = true) (hb : inRange b = true) :
    mul a b = if inRange (a * b) = true then some (a * b) else none :=
  checked_eq some none (mul_bound ha hb).1 (mul_bound ha hb).2

theorem neg_eq {a : Int} (ha : inRange a = true) :
    neg a = if inRange (-a) = true then some (-a) else none := by
  rw [neg, sub_eq (by decide) ha, Int.zero_sub]

theorem div_eq {a b : Int} (ha : inRange a = true) (hb0 : b ≠ 0) :
    div a b = if inRange (a.tdiv b) = true then .ok (a.tdiv b) else .err := by
  unfold div
  rw [if_neg hb0]
  exact checked_eq Outcome.ok Outcome.err (tdiv_bound b ha).1 (tdiv_bound b ha).2

/-- construction from a big number: the value itself exactly when it fits -/
theorem ofZ_eq (n : Int) : ofZ n = if inRange n = true then some n else none := by
  rw [ofZ, ZNum.Spec.toInt64?_eq,
    Bool.eq_iff_iff.mpr ((ZNum.Spec.fitsInt64_iff n).trans (inRange_iff n).symm)]

end Crab.SafeInt
