import CrabProofs.Lemmas.DbmPotential
import CrabProofs.Lemmas.DbmWiden

/-!
  The textbook one-edge closure `T(a,b) = min(m(a,b), m(a,i) + c + m(j,b))` of a closed matrix
  (`Mat.addClose`): it is closed when the new edge closes no negative cycle, and it is
  `fw (addEdge ..)`.
-/
namespace Crab
namespace Dbm

attribute [local simp] W.add_none_left W.add_none_right W.min_some_some W.min_none_right
  W.LE_some_some W.LE_none W.LE_none_some

namespace W

@[simp] theorem add_some_some (a b : Int) : add (some a) (some b) = some (a + b) := rfl
@[simp] theorem min_none_left (b : W) : min none b = b := rfl

theorem min_comm (a b : W) : min a b = min b a := by
  cases a <;> cases b <;> simp
  omega

end W

namespace Mat
variable {N : Nat}


def addClose (m : Mat N) (i j : Fin N) (c : Int) : Mat N :=
  ofFn fun a b => W.min (m.get a b) (W.add (W.add (m.get a i) (some c)) (m.get j b))

theorem addClose_LE (m : Mat N) (i j : Fin N) (c : Int) : LE (addClose m i j c) m := by
  intro a b
  simp only [addClose, get_ofFn]
  exact W.min_LE_left _ _

theorem addClose_sat {m : Mat N} (hc : Closed m) (i j : Fin N) (c : Int) (v : Fin N → Int) :
    (addClose m i j c).sat v ↔ (m.sat v ∧ v i - v j ≤ c) := by
  constructor
  · intro h
    refine ⟨sat_of_LE (addClose_LE m i j c) h, ?_⟩
    have h2 := (sat_iff _ _).1 h i j
    simp only [addClose, get_ofFn, hc.diag] at h2
    have h3 := W.LE_trans h2 (W.min_LE_right _ _)
    simpa using h3
  · rintro ⟨h1, h2⟩
    rw [sat_iff]
    intro a b
    simp only [addClose, get_ofFn]
    refine W.LE_min ((sat_iff _ _).1 h1 a b) ?_
    have ha := (sat_iff _ _).1 h1 a i
    have hb := (sat_iff _ _).1 h1 j b
    rcases hx : m.get a i with _ | x <;> rcases hy : m.get j b with _ | y <;> simp
    rw [hx] at ha; rw [hy] at hb
    simp at ha hb
    omega

theorem addClose_closed {m : Mat N} (hc : Closed m) (i j : Fin N) (c : Int)
    (hn : ∀ x, m.get j i = some x → 0 ≤ c + x) : Closed (addClose m i j c) := by
  -- a detour through the new edge and back costs at least nothing
  have back : ∀ k, W.LE (some 0) (W.add (W.add (m.get k i) (some c)) (m.get j k)) := by
    intro k y hy
    obtain ⟨xc, z, h1, hz, rfl⟩ := W.add_some_iff.1 hy
    obtain ⟨x, c', hx, h2, rfl⟩ := W.add_some_iff.1 h1
    cases h2
    obtain ⟨w, hw, hwz⟩ := hc.tri j i k (z + x) (by rw [hz, hx]; rfl)
    exact ⟨0, rfl, by have := hn w hw; omega⟩
  constructor
  · intro a
    simp only [addClose, get_ofFn, hc.diag]
    exact (W.min_LE_left _ _).antisymm (W.LE_min (W.LE_refl _) (back a))
  · intro a b k
    simp only [addClose, get_ofFn]
    apply W.LE_add_min
    · exact W.LE_trans (W.min_LE_left _ _) (hc.tri a b k)
    · rw [← W.add_assoc, ← W.add_assoc]
      exact W.LE_trans (W.min_LE_right _ _)
        (W.add_mono (W.add_mono (hc.tri a i k) (W.LE_refl _)) (W.LE_refl _))
    · rw [W.add_assoc _ (m.get j k)]
      exact W.LE_trans (W.min_LE_right _ _) (W.add_mono (W.LE_refl _) (hc.tri j b k))
    · -- `a → i → j → k → i → j → b`: drop the detour `j → k → i → j`
      have h := W.add_mono (W.add_mono (W.LE_refl (W.add (m.get a i) (some c))) (back k))
        (W.LE_refl (m.get j b))
      rw [W.add_zero] at h
      refine W.LE_trans (W.min_LE_right _ _) ?_
      simpa only [W.add_assoc, W.add_comm (m.get j k)] using h

theorem addClose_eq_fw {m : Mat N} (hc : Closed m) (i j : Fin N) (c : Int)
    (hn : ∀ x, m.get j i = some x → 0 ≤ c + x) : fw (m.addEdge i j c) = addClose m i j c :=
  (addClose_closed hc i j c hn).fw_eq (fun v => by rw [addClose_sat hc, addEdge_sat])

end Mat
end Dbm

/- the evaluation rules of weights are `simp` rules inside `Crab.DbmIncr` only -/
namespace DbmIncr
attribute [scoped simp] Dbm.W.add_none_left Dbm.W.add_none_right Dbm.W.min_some_some
  Dbm.W.min_none_right Dbm.W.LE_some_some Dbm.W.LE_none Dbm.W.LE_none_some
end DbmIncr

end Crab
