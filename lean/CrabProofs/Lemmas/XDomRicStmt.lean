import CrabProofs.Lemmas.XDomRicOps
import CrabProofs.Lemmas.LinSys

/-!
  The "ric" domain (model `Crab.RDom`): every transformer of `numerical_congruence_domain` runs
  the operation in the two components (`both`) and then the reductions of the product; here the
  interval half (`compI`; the congruence half is `GDom.exec`) and the reductions (`post`:
  `reduce()`, `reduce_variable`, the loops of `+=`).
-/
namespace Crab
namespace RDom
open XDom Lin

namespace Env

theorem reduceVars_spec : ∀ (vs : List Var), (∀ v ∈ vs, v < 2 ^ 64) → ∀ e : Env, e.Inv →
    (reduceVars vs e).Inv ∧ ∀ σ : State, e.γ σ → (reduceVars vs e).γ σ := by
  intro vs
  induction vs with
  | nil => intro _ e he; exact ⟨he, fun _ hg => hg⟩
  | cons v rest ih =>
    intro hv e he
    have hv0 := hv v List.mem_cons_self
    have i1 := reduceVar_inv he hv0
    simp only [reduceVars]
    split
    · exact ⟨i1, fun σ hg => reduceVar_sound he hg hv0⟩
    · obtain ⟨i2, s2⟩ := ih (fun w hw => hv w (List.mem_cons_of_mem _ hw)) _ i1
      exact ⟨i2, fun σ hg => s2 σ (reduceVar_sound he hg hv0)⟩

theorem reduceCsts_spec : ∀ (csts : List Lin.Cst), (∀ c ∈ csts, CstOk c) → ∀ e : Env, e.Inv →
    (reduceCsts csts e).Inv ∧ ∀ σ : State, e.γ σ → (reduceCsts csts e).γ σ := by
  intro csts
  induction csts with
  | nil => intro _ e he; exact ⟨he, fun _ hg => hg⟩
  | cons c rest ih =>
    intro hok e he
    have hvars : ∀ v ∈ c.expr.variables, v < 2 ^ 64 := by
      intro v hv
      unfold Expr.variables at hv
      obtain ⟨p, hp, rfl⟩ := List.mem_map.mp hv
      exact (hok c List.mem_cons_self).2 p hp
    obtain ⟨i1, s1⟩ := reduceVars_spec _ hvars e he
    simp only [reduceCsts]
    split
    · exact ⟨i1, s1⟩
    · obtain ⟨i2, s2⟩ := ih (fun c' h => hok c' (List.mem_cons_of_mem _ h)) _ i1
      exact ⟨i2, fun σ hg => s2 σ (s1 σ hg)⟩

theorem iset_bot {f : IDom.Env} (h : f.bottom = true) (k : Var) (v : Itv) : (f.set k v).bottom = true := by
  simp [IDom.Env.set, h]
theorem iassign_bot {f : IDom.Env} (h : f.bottom = true) (x : Var) (ex : Expr) : (f.assign x ex).bottom = true := by
  unfold IDom.Env.assign; split <;> exact iset_bot h _ _
theorem iadd_bot {f : IDom.Env} (h : f.bottom = true) (csts : Sys) : (f.add csts).bottom = true := by
  simp [IDom.Env.add, h]

end Env

/-- what the interval component runs for a statement -/
def compI : Stmt → IDom.Env → IDom.Env
  | .assign x e, f => f.assign x e
  | .weakAssign x e, f => f.weakAssign x e
  | .arithVar op x y z, f => f.applyVar (toIA op) x y z
  | .arithCst op x y k, f => f.applyCst (toIA op) x y k
  | .bitVar op x y z, f => f.applyBitVar (toIB op) x y z
  | .bitCst op x y k, f => f.applyBitCst (toIB op) x y k
  | .assume csts, f => f.add csts
  | .select lhs c e1 e2, f => f.select lhs c e1 e2
  | .forget x, f => f.forget x
  | .havoc vs, f => f.forgetAll vs
  | .project vs, f => f.project vs
  | .expand x nx, f => f.expand x nx
  | .cast z bw d s, f => f.intCast z bw d s

/-- what `reduced_domain_product2` and `numerical_congruence_domain` do after the two component
    calls: nothing, `reduce_variable(x)`, `reduce()` and `reduce_variable(x)`, or (for `+=`)
    `reduce()` and the loop over the variables of the constraints -/
def post : Stmt → Env → Env
  | .assign x _, e => e.reduceVar x
  | .weakAssign x _, e => e.reduceVar x
  | .arithVar _ x _ _, e => (Env.reduceP e).reduceVar x
  | .arithCst _ x _ _, e => (Env.reduceP e).reduceVar x
  | .bitVar _ x _ _, e => (Env.reduceP e).reduceVar x
  | .bitCst _ x _ _, e => (Env.reduceP e).reduceVar x
  | .select x _ _ _, e => (Env.reduceP e).reduceVar x
  | .cast _ _ x _, e => (Env.reduceP e).reduceVar x
  | .assume csts, e => if !(Env.reduceP e).isBottom then Env.reduceCsts csts (Env.reduceP e) else Env.reduceP e
  | _, e => e

theorem compI_sorted (st : Stmt) (f : IDom.Env) (h : f.Sorted) : (compI st f).Sorted := by
  cases st <;> simp only [compI]
  · exact IDom.Env.assign_inv IDom.Env.sortedInv f _ _ h
  · exact IDom.Env.weakAssign_sorted f _ _ h
  · exact IDom.Env.applyVar_inv IDom.Env.sortedInv f _ _ _ _ h
  · exact IDom.Env.applyCst_inv IDom.Env.sortedInv f _ _ _ _ h
  · exact IDom.Env.applyBitVar_inv IDom.Env.sortedInv f _ _ _ _ h
  · exact IDom.Env.applyBitCst_inv IDom.Env.sortedInv f _ _ _ _ h
  · exact IDom.Env.add_inv IDom.Env.sortedInv f _ h
  · exact IDom.Env.select_inv IDom.Env.sortedInv f _ _ _ _ h
  · exact IDom.Env.forget_sorted f _ h
  · exact IDom.Env.forgetAll_inv IDom.Env.sortedInv f _ h
  · exact IDom.Env.project_inv IDom.Env.sortedInv f _ h
  · exact IDom.Env.expand_inv IDom.Env.sortedInv f _ _ h
  · exact IDom.Env.intCast_inv IDom.Env.sortedInv f _ _ _ _ h

/-- every operation of the interval domain leaves bottom bottom (so a raised flag of the product
    keeps meaning "the first component is bottom") -/
theorem compI_bot (st : Stmt) (f : IDom.Env) (h : f.bottom = true) : (compI st f).bottom = true := by
  cases st <;> simp only [compI]
  · exact Env.iassign_bot h _ _
  · unfold IDom.Env.weakAssign; split <;> simp [IDom.Env.joinKey, h]
  · exact Env.iset_bot h _ _
  · exact Env.iset_bot h _ _
  · exact Env.iset_bot h _ _
  · exact Env.iset_bot h _ _
  · exact Env.iadd_bot h _
  · simp [IDom.Env.select, h]
  · simp [IDom.Env.forget, h]
  · simp [IDom.Env.forgetAll, h]
  · simp [IDom.Env.project, h]
  · simp [IDom.Env.expand, h]
  · unfold IDom.Env.intCast
    simp only
    split
    · exact Env.iadd_bot (Env.iassign_bot h _ _) _
    · exact Env.iassign_bot h _ _

theorem compI_sound (st : Stmt) (hok : st.Ok) {f : IDom.Env} {σ σ' : State} (hg : IDom.Env.γ f σ)
    (hr : st.rel σ σ') : IDom.Env.γ (compI st f) σ' := by
  cases st with
  | assign x e => simp only [Stmt.rel] at hr; subst hr; exact IDom.Env.assign_sound hg x e
  | weakAssign x e =>
    rcases hr with hr | hr <;> subst hr
    · exact (IDom.Env.weakAssign_sound hg x e).1
    · exact (IDom.Env.weakAssign_sound hg x e).2
  | arithVar op x y z =>
    obtain ⟨c, hc, hs⟩ := hr; subst hs
    exact IDom.Env.set_sound hg ((toIA op).eval_sound (hg.2 y) (hg.2 z) (toIA_conc hc)) x
  | arithCst op x y k =>
    obtain ⟨c, hc, hs⟩ := hr; subst hs
    exact IDom.Env.set_sound hg ((toIA op).eval_sound (hg.2 y) ((Itv.mem_single k k).2 rfl) (toIA_conc hc)) x
  | bitVar op x y z =>
    obtain ⟨c, hc, hs⟩ := hr; subst hs
    exact IDom.Env.set_sound hg ((toIB op).eval_sound (hg.2 y) (hg.2 z) (toIB_conc hc).1 (toIB_conc hc).2) x
  | bitCst op x y k =>
    obtain ⟨c, hc, hs⟩ := hr; subst hs
    exact IDom.Env.set_sound hg ((toIB op).eval_sound (hg.2 y) ((Itv.mem_single k k).2 rfl) (toIB_conc hc).1
      (toIB_conc hc).2) x
  | assume csts => obtain ⟨hsat, hs⟩ := hr; subst hs; exact IDom.Env.add_sound hg (fun c hc => (hok c hc).1) hsat
  | select lhs c e1 e2 => simp only [Stmt.rel] at hr; subst hr; exact IDom.Env.select_sound hg lhs hok.2.1 e1 e2
  | forget x => obtain ⟨n, hs⟩ := hr; subst hs; exact IDom.Env.forget_sound hg x n
  | havoc vs => exact IDom.Env.forgetAll_sound hg vs hr
  | project vs => exact IDom.Env.project_sound hg vs hr
  | expand x nx => simp only [Stmt.rel] at hr; subst hr; exact IDom.Env.expand_sound hg x nx (hg.2 x)
  | cast z bw d src => obtain ⟨hz, hs⟩ := hr; subst hs; exact IDom.Env.intCast_sound hg z bw d src hz

/-- the reductions keep the invariant and every described state -/
theorem post_spec (st : Stmt) (hok : st.Ok) {e : Env} (he : e.Inv) :
    (post st e).Inv ∧ ∀ {σ : State}, e.γ σ → (post st e).γ σ := by
  have rv : ∀ {e : Env}, e.Inv → ∀ {x : Var}, x < 2 ^ 64 →
      (e.reduceVar x).Inv ∧ ∀ {σ : State}, e.γ σ → (e.reduceVar x).γ σ :=
    fun he _ hx => ⟨Env.reduceVar_inv he hx, fun hg => Env.reduceVar_sound he hg hx⟩
  have rp : ∀ {x : Var}, x < 2 ^ 64 →
      ((Env.reduceP e).reduceVar x).Inv ∧ ∀ {σ : State}, e.γ σ → ((Env.reduceP e).reduceVar x).γ σ :=
    fun hx => ⟨(rv (Env.reduceP_inv he) hx).1, fun hg => (rv (Env.reduceP_inv he) hx).2 (Env.reduceP_sound hg)⟩
  cases st <;> simp only [post]
  · exact rv he hok
  · exact rv he hok
  · exact rp hok
  · exact rp hok
  · exact rp hok
  · exact rp hok
  · split
    · exact ⟨(Env.reduceCsts_spec _ hok _ (Env.reduceP_inv he)).1,
        fun hg => (Env.reduceCsts_spec _ hok _ (Env.reduceP_inv he)).2 _ (Env.reduceP_sound hg)⟩
    · exact ⟨Env.reduceP_inv he, Env.reduceP_sound⟩
  · exact rp hok.1
  · exact ⟨he, id⟩
  · exact ⟨he, id⟩
  · exact ⟨he, id⟩
  · exact ⟨he, id⟩
  · exact rp hok

end RDom
end Crab
