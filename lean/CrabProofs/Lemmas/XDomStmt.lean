import CrabProofs.Lemmas.XDomLin
import CrabModel.Dom.History
import CrabModel.Fix.Semantics

/-!
  The statements an operation history of a non-relational domain is made of (one call of the
  domain each), with their concrete meaning as a relation on integer valuations and the side
  conditions on their arguments (machine-indexed variables, canonical constraints).  The abstract
  execution is defined per domain (`CDom.exec`, `SDom.exec`, `GDom.exec`, `RDom.exec`); `Parts.exec` is
  the common text of the first two.
-/
namespace Crab
namespace XDom
open Lin

inductive Stmt where
  | assign (x : Var) (e : Expr)
  | weakAssign (x : Var) (e : Expr)
  | arithVar (op : ArithOp) (x y z : Var)
  | arithCst (op : ArithOp) (x y : Var) (k : Int)
  | bitVar (op : BitOp) (x y z : Var)
  | bitCst (op : BitOp) (x y : Var) (k : Int)
  | assume (csts : Sys)
  | select (lhs : Var) (cond : Lin.Cst) (e1 e2 : Expr)
  | forget (x : Var)
  | havoc (vs : List Var)
  | project (vs : List Var)
  | expand (x nx : Var)
  | cast (zext : Bool) (bw : Nat) (dst src : Var)

namespace Stmt

def rel : Stmt → State → State → Prop
  | assign x e, s, s' => s' = upd s x (e.eval s)
  | weakAssign x e, s, s' => s' = s ∨ s' = upd s x (e.eval s)
  | arithVar op x y z, s, s' => ∃ c, op.conc (s y) (s z) = some c ∧ s' = upd s x c
  | arithCst op x y k, s, s' => ∃ c, op.conc (s y) k = some c ∧ s' = upd s x c
  | bitVar op x y z, s, s' => ∃ c, op.conc (s y) (s z) = some c ∧ s' = upd s x c
  | bitCst op x y k, s, s' => ∃ c, op.conc (s y) k = some c ∧ s' = upd s x c
  | assume csts, s, s' => Sys.sat csts s ∧ s' = s
  | select lhs c e1 e2, s, s' => s' = upd s lhs (if c.sat s then e1.eval s else e2.eval s)
  | forget x, s, s' => ∃ n, s' = upd s x n
  | havoc vs, s, s' => ∀ y, y ∉ vs → s' y = s y
  | project vs, s, s' => ∀ y, y ∈ vs → s' y = s y
  | expand x nx, s, s' => s' = upd s nx (s x)
  | cast z bw d src, s, s' => (z = true → s src ≤ 2 ^ bw - 1) ∧ s' = upd s d (s src)

/-- the arguments are in the form the classes `variable` / `linear_expression` maintain:
    variable indexes fit `index_t`, constraints are canonical -/
def Ok : Stmt → Prop
  | assign x _ => x < 2 ^ 64
  | weakAssign x _ => x < 2 ^ 64
  | arithVar _ x _ _ => x < 2 ^ 64
  | arithCst _ x _ _ => x < 2 ^ 64
  | bitVar _ x _ _ => x < 2 ^ 64
  | bitCst _ x _ _ => x < 2 ^ 64
  | assume csts => ∀ c ∈ csts, CstOk c
  | select lhs c _ _ => lhs < 2 ^ 64 ∧ CstOk c
  | forget x => x < 2 ^ 64
  | havoc vs => ∀ v ∈ vs, v < 2 ^ 64
  | project vs => ∀ v ∈ vs, v < 2 ^ 64
  | expand _ nx => nx < 2 ^ 64
  | cast _ _ d _ => d < 2 ^ 64

end Stmt

/-! ### the transformers `constant_domain`, `sign_domain` and `congruence_domain` share

The three classes are written alike: `DEFAULT_ENTAILS` and the integer casts in terms of `+=` and
`assign`; in the first two also `assign`, `weak_assign`, `apply` and `select` in terms of the value
class.  `Parts` collects what they are assembled from, the definitions below are the common text,
and each model function is one of them by `rfl`. -/

structure Parts (V : Type) where
  /-- the value class as the parameter of `separate_domain` -/
  L : Lattice V
  /-- the value of a number (`constant(k)`, `sign(k)`, `congruence(k)`) -/
  ofInt : Int → V
  /-- the `switch` of `apply(arith_operation_t, …)` on two values -/
  arith : ArithOp → V → V → V
  /-- the `switch` of `apply(bitwise_operation_t, …)` on two values -/
  bit : BitOp → V → V → V
  /-- the domain's own evaluation of a linear expression -/
  eval : Env V → Expr → V
  /-- the domain's own `operator+=` (its constraint solver) -/
  add : Env V → Sys → Env V
  /-- the domain's own `assign`: `assignG` below for constants and signs, an unguarded `set` for
      congruences -/
  assign : Env V → Var → Expr → Env V

namespace Parts
variable {V : Type} (D : Parts V)

/-- the guarded text of `assign` in `constant_domain` and `sign_domain` (bottom test, then the
    single-variable shortcut); the field `assign` of their `Parts` is this function -/
def assignG (e : Env V) (x : Var) (ex : Expr) : Env V :=
  if e.isBot then e
  else match getVariable ex with
    | some v => Env.set D.L e x (Env.get D.L e v)
    | none => Env.set D.L e x (D.eval e ex)

def weakAssign (e : Env V) (x : Var) (ex : Expr) : Env V :=
  if e.isBot then e
  else match getVariable ex with
    | some v => Env.joinKey D.L e x (Env.get D.L e v)
    | none => Env.joinKey D.L e x (D.eval e ex)

def applyVar (e : Env V) (op : ArithOp) (x y z : Var) : Env V :=
  if e.isBot then e else Env.set D.L e x (D.arith op (Env.get D.L e y) (Env.get D.L e z))
def applyCst (e : Env V) (op : ArithOp) (x y : Var) (k : Int) : Env V :=
  if e.isBot then e else Env.set D.L e x (D.arith op (Env.get D.L e y) (D.ofInt k))
def applyBitVar (e : Env V) (op : BitOp) (x y z : Var) : Env V :=
  if e.isBot then e else Env.set D.L e x (D.bit op (Env.get D.L e y) (Env.get D.L e z))
def applyBitCst (e : Env V) (op : BitOp) (x y : Var) (k : Int) : Env V :=
  if e.isBot then e else Env.set D.L e x (D.bit op (Env.get D.L e y) (D.ofInt k))

def select (e : Env V) (lhs : Var) (cond : Lin.Cst) (e1 e2 : Expr) : Env V :=
  if e.isBot then e
  else if (D.add e [cond]).isBot then D.assign e lhs e2
  else if (D.add e [cond.negate]).isBot then D.assign e lhs e1
  else Env.set D.L e lhs (D.L.join (D.eval e e1) (D.eval e e2))

def intCast (e : Env V) (zext : Bool) (srcBitwidth : Nat) (dst src : Var) : Env V :=
  let e1 := D.assign e dst (Expr.var src)
  if zext then D.add e1 [⟨(Expr.var dst).subNum (2 ^ srcBitwidth - 1), .leq⟩] else e1

def entailFn (e : Env V) (c : Lin.Cst) : Bool := (D.add e [c.negate]).isBot

def entails (e : Env V) (c : Lin.Cst) : Bool :=
  if e.isBot then true
  else if c.isTautology then true
  else if c.isContradiction then false
  else if c.kind = .eq then
    (Sys.addCst (Sys.addCst [] ⟨c.expr, .leq⟩) ⟨c.expr.scale (-1), .leq⟩).all (D.entailFn e)
  else D.entailFn e c

def exec : Stmt → Env V → Env V
  | .assign x e, a => D.assign a x e
  | .weakAssign x e, a => D.weakAssign a x e
  | .arithVar op x y z, a => D.applyVar a op x y z
  | .arithCst op x y k, a => D.applyCst a op x y k
  | .bitVar op x y z, a => D.applyBitVar a op x y z
  | .bitCst op x y k, a => D.applyBitCst a op x y k
  | .assume csts, a => D.add a csts
  | .select lhs c e1 e2, a => D.select a lhs c e1 e2
  | .forget x, a => Env.forget D.L a x
  | .havoc vs, a => Env.forgetAll D.L a vs
  | .project vs, a => Env.project D.L a vs
  | .expand x nx, a => Env.expand D.L a x nx
  | .cast z bw d s, a => D.intCast a z bw d s

variable [GoodVal V] {mem : Int → V → Prop}

/-- what the casts and `DEFAULT_ENTAILS` need: `+=` and `assign` are sound and keep the invariant -/
structure Sound (D : Parts V) (mem : Int → V → Prop) : Prop where
  laws : Laws D.L mem
  add_inv : ∀ {e : Env V}, Env.Inv D.L e → ∀ {csts : Sys}, (∀ c ∈ csts, CstOk c) → Env.Inv D.L (D.add e csts)
  add_sound : ∀ {e : Env V}, Env.Inv D.L e → ∀ {σ : State}, Env.γ D.L mem e σ → ∀ {csts : Sys},
    (∀ c ∈ csts, CstOk c) → Sys.sat csts σ → Env.γ D.L mem (D.add e csts) σ
  assign_inv : ∀ {e : Env V}, Env.Inv D.L e → ∀ {x : Var}, x < 2 ^ 64 → ∀ ex : Expr, Env.Inv D.L (D.assign e x ex)
  assign_sound : ∀ {e : Env V}, Env.Inv D.L e → ∀ {σ : State}, Env.γ D.L mem e σ → ∀ {x : Var}, x < 2 ^ 64 →
    ∀ ex : Expr, Env.γ D.L mem (D.assign e x ex) (upd σ x (ex.eval σ))

/-- what `weak_assign`, `apply` and `select` need in addition: a value class without representation
    invariant whose operations are sound -/
structure Scalar (D : Parts V) (mem : Int → V → Prop) : Prop where
  good : ∀ v : V, GoodVal.good v
  ofInt_sound : ∀ k : Int, mem k (D.ofInt k)
  eval_sound : ∀ {e : Env V} {σ : State}, Env.γ D.L mem e σ → ∀ ex : Expr, mem (ex.eval σ) (D.eval e ex)
  arith_sound : ∀ (op : ArithOp) {y z : V} {a b c : Int}, mem a y → mem b z → op.conc a b = some c →
    mem c (D.arith op y z)
  bit_sound : ∀ (op : BitOp) {y z : V} {a b c : Int}, mem a y → mem b z → op.conc a b = some c →
    mem c (D.bit op y z)

theorem cstOk_single {c : Lin.Cst} (h : CstOk c) : ∀ c' ∈ [c], CstOk c' :=
  List.forall_mem_singleton.mpr h

section scalar
variable {D} (hL : Laws D.L mem) (hS : D.Scalar mem)
include hL hS

theorem assignG_inv {e : Env V} (he : Env.Inv D.L e) {x : Var} (hx : x < 2 ^ 64) (ex : Expr) :
    Env.Inv D.L (D.assignG e x ex) := by
  unfold assignG
  split
  · exact he
  · split <;> exact Env.set_inv hL he hx (hS.good _)

theorem assignG_sound {e : Env V} (he : Env.Inv D.L e) {σ : State} (hg : Env.γ D.L mem e σ) {x : Var}
    (hx : x < 2 ^ 64) (ex : Expr) : Env.γ D.L mem (D.assignG e x ex) (upd σ x (ex.eval σ)) := by
  unfold assignG
  simp only [hg.1, Bool.false_eq_true, if_false]
  split
  · rename_i v hv
    rw [getVariable_spec hv σ]
    exact Env.set_sound hL he hg hx (hS.good _) (hg.2 v)
  · exact Env.set_sound hL he hg hx (hS.good _) (hS.eval_sound hg ex)

theorem weakAssign_inv {e : Env V} (he : Env.Inv D.L e) {x : Var} (hx : x < 2 ^ 64) (ex : Expr) :
    Env.Inv D.L (D.weakAssign e x ex) := by
  unfold weakAssign
  split
  · exact he
  · split <;> exact Env.joinKey_inv hL he hx (hS.good _)

theorem weakAssign_sound {e : Env V} (he : Env.Inv D.L e) {σ : State} (hg : Env.γ D.L mem e σ) {x : Var}
    (hx : x < 2 ^ 64) (ex : Expr) :
    Env.γ D.L mem (D.weakAssign e x ex) σ ∧ Env.γ D.L mem (D.weakAssign e x ex) (upd σ x (ex.eval σ)) := by
  unfold weakAssign
  simp only [hg.1, Bool.false_eq_true, if_false]
  split
  · rename_i v hv
    rw [getVariable_spec hv σ]
    exact Env.joinKey_sound hL he hg hx (hS.good _) (hg.2 v)
  · exact Env.joinKey_sound hL he hg hx (hS.good _) (hS.eval_sound hg ex)

/-- `D.applyVar`, `D.applyCst`, `D.applyBitVar`, `D.applyBitCst` all unfold to this shape (a guarded
    `set` of some value `v`): they keep the invariant … -/
theorem apply_inv {e : Env V} (he : Env.Inv D.L e) {x : Var} (hx : x < 2 ^ 64) (v : V) :
    Env.Inv D.L (if e.isBot then e else Env.set D.L e x v) := by
  split
  · exact he
  · exact Env.set_inv hL he hx (hS.good v)

/-- … and are sound as soon as `v` contains the concrete result -/
theorem apply_sound {e : Env V} (he : Env.Inv D.L e) {σ : State} (hg : Env.γ D.L mem e σ) {x : Var}
    (hx : x < 2 ^ 64) {v : V} {c : Int} (hc : mem c v) :
    Env.γ D.L mem (if e.isBot then e else Env.set D.L e x v) (upd σ x c) := by
  simp only [hg.1, Bool.false_eq_true, if_false]
  exact Env.set_sound hL he hg hx (hS.good v) hc

end scalar

section sound
variable {D} (hD : D.Sound mem)
include hD

theorem intCast_inv {e : Env V} (he : Env.Inv D.L e) (zext : Bool) (bw : Nat) {dst : Var} (hd : dst < 2 ^ 64)
    (src : Var) : Env.Inv D.L (D.intCast e zext bw dst src) := by
  unfold intCast
  split
  · exact hD.add_inv (hD.assign_inv he hd _) (cstOk_single (cstOk_var_subNum hd _ _))
  · exact hD.assign_inv he hd _

theorem intCast_sound {e : Env V} (he : Env.Inv D.L e) {σ : State} (hg : Env.γ D.L mem e σ) (zext : Bool)
    (bw : Nat) {dst : Var} (hd : dst < 2 ^ 64) (src : Var) (hz : zext = true → σ src ≤ 2 ^ bw - 1) :
    Env.γ D.L mem (D.intCast e zext bw dst src) (upd σ dst (σ src)) := by
  unfold intCast
  have h1 : Env.γ D.L mem (D.assign e dst (Expr.var src)) (upd σ dst (σ src)) := by
    have := hD.assign_sound he hg hd (Expr.var src)
    rwa [Expr.eval_var] at this
  split
  · rename_i hzx
    apply hD.add_sound (hD.assign_inv he hd _) h1 (cstOk_single (cstOk_var_subNum hd _ _))
    apply sat_single
    have := hz hzx
    simp only [Lin.Cst.sat]
    rw [Expr.eval_subNum, Expr.eval_var, upd_same]
    omega
  · exact h1

theorem sat_of_add_negate_bot {e : Env V} (he : Env.Inv D.L e) {σ : State} (hg : Env.γ D.L mem e σ)
    {c : Lin.Cst} (hc : CstOk c) (h : (D.add e [c.negate]).isBot = true) : c.sat σ := by
  apply Classical.byContradiction
  intro hn
  exact Env.not_γ_of_bot h σ (hD.add_sound he hg (cstOk_single (cstOk_negate hc))
    (sat_single ((Lin.Cst.sat_negate c σ).2 hn)))

theorem entails_sound {e : Env V} (he : Env.Inv D.L e) {σ : State} (hg : Env.γ D.L mem e σ) {c : Lin.Cst}
    (hc : CstOk c) (h : D.entails e c = true) : c.sat σ := by
  unfold entails at h
  simp only [hg.1, Bool.false_eq_true, if_false] at h
  split at h
  · rename_i ht; exact Lin.Cst.sat_of_isTautology ht σ
  · split at h
    · cases h
    · split at h
      · rename_i hk
        rw [List.all_eq_true] at h
        obtain ⟨m1, m2⟩ := mem_eq_split c
        exact sat_of_eq_split hk (sat_of_add_negate_bot hD he hg (cstOk_leq hc) (h _ m1))
          (sat_of_add_negate_bot hD he hg (cstOk_scale_leq hc (-1)) (h _ m2))
      · exact sat_of_add_negate_bot hD he hg hc h

variable (hS : D.Scalar mem)
include hS

theorem select_inv {e : Env V} (he : Env.Inv D.L e) {lhs : Var} (hx : lhs < 2 ^ 64) (cond : Lin.Cst)
    (e1 e2 : Expr) : Env.Inv D.L (D.select e lhs cond e1 e2) := by
  unfold select
  split
  · exact he
  · split
    · exact hD.assign_inv he hx e2
    · split
      · exact hD.assign_inv he hx e1
      · exact Env.set_inv hD.laws he hx (hS.good _)

theorem select_sound {e : Env V} (he : Env.Inv D.L e) {σ : State} (hg : Env.γ D.L mem e σ) {lhs : Var}
    (hx : lhs < 2 ^ 64) {cond : Lin.Cst} (hc : CstOk cond) (e1 e2 : Expr) :
    Env.γ D.L mem (D.select e lhs cond e1 e2) (upd σ lhs (if cond.sat σ then e1.eval σ else e2.eval σ)) := by
  unfold select
  simp only [hg.1, Bool.false_eq_true, if_false]
  split
  · rename_i hb
    have hn : ¬ cond.sat σ := fun hs =>
      Env.not_γ_of_bot hb σ (hD.add_sound he hg (cstOk_single hc) (sat_single hs))
    simp only [hn, if_false]
    exact hD.assign_sound he hg hx e2
  · split
    · rename_i hb
      simp only [sat_of_add_negate_bot hD he hg hc hb, if_true]
      exact hD.assign_sound he hg hx e1
    · apply Env.set_sound hD.laws he hg hx (hS.good _)
      apply hD.laws.join.upper
      by_cases hs : cond.sat σ
      · simp only [hs, if_true]; exact Or.inl (hS.eval_sound hg e1)
      · simp only [hs, if_false]; exact Or.inr (hS.eval_sound hg e2)

theorem exec_inv (st : Stmt) (hok : st.Ok) {a : Env V} (h : Env.Inv D.L a) : Env.Inv D.L (D.exec st a) := by
  cases st <;> simp only [exec]
  · exact hD.assign_inv h hok _
  · exact weakAssign_inv hD.laws hS h hok _
  · exact apply_inv hD.laws hS h hok _
  · exact apply_inv hD.laws hS h hok _
  · exact apply_inv hD.laws hS h hok _
  · exact apply_inv hD.laws hS h hok _
  · exact hD.add_inv h hok
  · exact select_inv hD hS h hok.1 _ _ _
  · exact Env.forget_inv hD.laws h hok
  · exact Env.forgetAll_inv hD.laws h hok
  · exact Env.project_inv hD.laws h hok
  · exact Env.expand_inv hD.laws h hok
  · exact intCast_inv hD h _ _ hok _

theorem exec_sound (st : Stmt) (hok : st.Ok) {a : Env V} (ha : Env.Inv D.L a) {s s' : State}
    (hg : Env.γ D.L mem a s) (hr : st.rel s s') : Env.γ D.L mem (D.exec st a) s' := by
  cases st with
  | assign x e => simp only [Stmt.rel] at hr; subst hr; exact hD.assign_sound ha hg hok e
  | weakAssign x e =>
    rcases hr with hr | hr <;> subst hr
    · exact (weakAssign_sound hD.laws hS ha hg hok e).1
    · exact (weakAssign_sound hD.laws hS ha hg hok e).2
  | arithVar op x y z =>
    obtain ⟨c, hc, hs⟩ := hr; subst hs
    exact apply_sound hD.laws hS ha hg hok (hS.arith_sound op (hg.2 y) (hg.2 z) hc)
  | arithCst op x y k =>
    obtain ⟨c, hc, hs⟩ := hr; subst hs
    exact apply_sound hD.laws hS ha hg hok (hS.arith_sound op (hg.2 y) (hS.ofInt_sound k) hc)
  | bitVar op x y z =>
    obtain ⟨c, hc, hs⟩ := hr; subst hs
    exact apply_sound hD.laws hS ha hg hok (hS.bit_sound op (hg.2 y) (hg.2 z) hc)
  | bitCst op x y k =>
    obtain ⟨c, hc, hs⟩ := hr; subst hs
    exact apply_sound hD.laws hS ha hg hok (hS.bit_sound op (hg.2 y) (hS.ofInt_sound k) hc)
  | assume csts => obtain ⟨hsat, hs⟩ := hr; subst hs; exact hD.add_sound ha hg hok hsat
  | select lhs c e1 e2 => simp only [Stmt.rel] at hr; subst hr; exact select_sound hD hS ha hg hok.1 hok.2 e1 e2
  | forget x => obtain ⟨n, hs⟩ := hr; subst hs; exact Env.forget_sound hD.laws ha hg hok n
  | havoc vs => exact Env.forgetAll_sound hD.laws ha hg hok hr
  | project vs => exact Env.project_sound hD.laws ha hg hok hr
  | expand x nx => simp only [Stmt.rel] at hr; subst hr; exact Env.expand_sound hD.laws ha hg hok (hg.2 x)
  | cast z bw d src => obtain ⟨hz, hs⟩ := hr; subst hs; exact intCast_sound hD ha hg z bw hok src hz

end sound
end Parts
/-! ### the contract of the fixpoint engine (`Crab.Fix.Sem`)

  for a domain given by its per-operation soundness laws: blocks are lists of admissible statements
  of `XDom.Stmt`, the block transformer is the composition of the abstract executions, the concrete
  step the composition of the relations.  Instances: `CDom.eng`, `SDom.eng`, `GDom.eng`
  (XDomEngineInst.lean, used in `Props/C01XDom.lean`) and `RDom.eng` (XDomRicInst.lean).
-/

structure EngDom where
  A : Type
  γ : A → State → Prop
  ops : Fix.Ops A
  /-- the statements the domain executes (side conditions on their arguments) -/
  Adm : Stmt → Prop
  exec : (st : Stmt) → Adm st → A → A
  exec_sound : ∀ st (h : Adm st) a s s', γ a s → st.rel s s' → γ (exec st h a) s'
  join_left : ∀ a b s, γ a s → γ (ops.join a b) s
  join_right : ∀ a b s, γ b s → γ (ops.join a b) s
  widen_left : ∀ a b s, γ a s → γ (ops.widen a b) s
  widen_right : ∀ a b s, γ b s → γ (ops.widen a b) s
  meet_sound : ∀ a b s, γ a s → γ b s → γ (ops.meet a b) s
  narrow_sound : ∀ a b s, γ a s → γ b s → γ (ops.narrow a b) s
  leq_sound : ∀ a b s, ops.leq a b = true → γ a s → γ b s

namespace EngDom
variable (D : EngDom)

def AStmt := { st : Stmt // D.Adm st }

def execBlock (b : List D.AStmt) (a : D.A) : D.A := b.foldl (fun a st => D.exec st.1 st.2 a) a

def BlockRel : List D.AStmt → State → State → Prop
  | [], s, s' => s' = s
  | st :: rest, s, s' => ∃ t, st.1.rel s t ∧ BlockRel rest t s'

theorem execBlock_sound : ∀ (b : List D.AStmt) (a : D.A) (s s' : State),
    D.γ a s → D.BlockRel b s s' → D.γ (D.execBlock b a) s' := by
  intro b
  induction b with
  | nil => intro a s s' hg hr; simp only [BlockRel] at hr; subst hr; exact hg
  | cons st rest ih =>
    intro a s s' hg hr
    obtain ⟨t, h1, h2⟩ := hr
    simp only [execBlock, List.foldl_cons]
    exact ih _ t s' (D.exec_sound st.1 st.2 a s t hg h1) h2

def mkCtx (prog : Nat → List D.AStmt) (preds : Nat → List Nat) (nesting : Nat → Option (List Nat))
    (entry : Nat) (init : D.A) (assumptions : Option (List (Nat × D.A))) (delay descending : Nat) :
    Fix.Ctx D.A :=
  { ops := D.ops, analyze := fun n a => D.execBlock (prog n) a, preds := preds, nesting := nesting,
    entry := entry, init := init, assumptions := assumptions, delay := delay, descending := descending }

def sem (prog : Nat → List D.AStmt) (preds : Nat → List Nat) (nesting : Nat → Option (List Nat))
    (entry : Nat) (init : D.A) (assumptions : Option (List (Nat × D.A))) (delay descending : Nat) :
    Fix.Sem (D.mkCtx prog preds nesting entry init assumptions delay descending) State where
  γ := D.γ
  step := fun n s s' => D.BlockRel (prog n) s s'
  analyze_sound := fun n a s s' hg hr => D.execBlock_sound (prog n) a s s' hg hr
  join_left := D.join_left
  join_right := D.join_right
  widen_left := D.widen_left
  widen_right := D.widen_right
  meet_sound := D.meet_sound
  narrow_sound := D.narrow_sound
  leq_sound := D.leq_sound

end EngDom
end XDom
end Crab
