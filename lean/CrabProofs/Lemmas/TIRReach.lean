import CrabModel.Transform.Simplify
import CrabProofs.Lemmas.TIRList
import CrabProofs.Lemmas.Chain

/-!
  Paths of a graph given by a successor function (`GPath`), and `mark_alive_blocks` (the worklist
  `reachFrom`): what it computes is reachable from the start nodes, and -- whenever the fuel pays
  for the nodes still to be visited -- contains the start nodes and is closed under `next`; with
  the fuel of the model it is exactly the set of nodes reachable from them (`reachFrom_iff`).
-/
namespace Crab
namespace TIR

inductive GPath (next : Label → List Label) : Label → Label → Prop
  | refl (a : Label) : GPath next a a
  | step {a b c : Label} : b ∈ next a → GPath next b c → GPath next a c

theorem GPath.trans {next : Label → List Label} {a b c : Label} (h1 : GPath next a b) (h2 : GPath next b c) :
    GPath next a c := by
  induction h1 with
  | refl _ => exact h2
  | step hm _ ih => exact GPath.step hm (ih h2)

theorem GPath.snoc {next : Label → List Label} {a b c : Label} (h1 : GPath next a b) (h2 : c ∈ next b) :
    GPath next a c := h1.trans (GPath.step h2 (GPath.refl c))

theorem GPath.mono {n1 n2 : Label → List Label} (hsub : ∀ l l', l' ∈ n1 l → l' ∈ n2 l) {a b : Label}
    (h : GPath n1 a b) : GPath n2 a b := by
  induction h with
  | refl _ => exact GPath.refl _
  | step hm _ ih => exact GPath.step (hsub _ _ hm) ih

theorem GPath.flip {n1 n2 : Label → List Label} (hrev : ∀ a b, b ∈ n1 a → a ∈ n2 b) {a b : Label}
    (h : GPath n1 a b) : GPath n2 b a := by
  induction h with
  | refl _ => exact GPath.refl _
  | step hm _ ih => exact ih.snoc (hrev _ _ hm)

theorem gpath_first {next : Label → List Label} {a b : Label} (h : GPath next a b) (hne : a ≠ b) :
    ∃ t, t ∈ next a ∧ GPath next t b := by
  cases h with
  | refl _ => exact absurd rfl hne
  | step hm hp => exact ⟨_, hm, hp⟩

theorem GPath.ind_to {next : Label → List Label} {x : Label} {motive : Label → Prop} (h0 : motive x)
    (hs : ∀ n s, s ∈ next n → GPath next s x → motive s → motive n) : ∀ {n : Label}, GPath next n x → motive n := by
  have : ∀ n c, GPath next n c → c = x → motive n := by
    intro n c h
    induction h with
    | refl a => intro e; rw [e]; exact h0
    | step hm hp ih => intro e; exact hs _ _ hm (e ▸ hp) (ih e)
  intro n h
  exact this n x h rfl

theorem closed_contains {next : Label → List Label} {R : List Label}
    (hcl : ∀ s, s ∈ R → ∀ s', s' ∈ next s → s' ∈ R) {a b : Label} (h : GPath next a b) (ha : a ∈ R) : b ∈ R := by
  induction h with
  | refl _ => exact ha
  | step hm _ ih => exact ih (hcl _ ha _ hm)

theorem reachFrom_sound (next : Label → List Label) :
    ∀ (fuel : Nat) (work seen : List Label) (s : Label), s ∈ reachFrom next fuel work seen →
      s ∈ seen ∨ ∃ w, w ∈ work ∧ GPath next w s := by
  intro fuel
  induction fuel with
  | zero => intro work seen s h; left; simpa [reachFrom] using h
  | succ f ih =>
    intro work seen s h
    cases work with
    | nil => left; simpa [reachFrom] using h
    | cons l rest =>
      simp only [reachFrom] at h
      split at h
      · rcases ih rest seen s h with h1 | ⟨w, hw, hp⟩
        · exact Or.inl h1
        · exact Or.inr ⟨w, List.mem_cons_of_mem _ hw, hp⟩
      · rcases ih (next l ++ rest) (l :: seen) s h with h1 | ⟨w, hw, hp⟩
        · rcases List.mem_cons.mp h1 with rfl | h1
          · exact Or.inr ⟨s, List.mem_cons_self, GPath.refl _⟩
          · exact Or.inl h1
        · rcases List.mem_append.mp hw with hw | hw
          · exact Or.inr ⟨l, List.mem_cons_self, GPath.step hw hp⟩
          · exact Or.inr ⟨w, List.mem_cons_of_mem _ hw, hp⟩

/-- `Inv` = what is known of the nodes that get on the worklist; `W seen` = a bound on the pushes
    still to come: visiting a new node `l` costs `|next l|` of it.  With fuel for the worklist and
    for `W`, the result contains `seen` and `work` and is closed under `next`. -/
theorem reachFrom_closed (next : Label → List Label) (Inv : Label → Prop) (W : List Label → Nat)
    (hInv : ∀ l, Inv l → ∀ s, s ∈ next l → Inv s)
    (hW : ∀ l seen, Inv l → l ∉ seen → W (l :: seen) + (next l).length ≤ W seen) :
    ∀ (fuel : Nat) (work seen : List Label), (∀ s, s ∈ work → Inv s) →
      (∀ s, s ∈ seen → ∀ s', s' ∈ next s → s' ∈ seen ∨ s' ∈ work) →
      work.length + W seen ≤ fuel →
      (∀ s, s ∈ seen → s ∈ reachFrom next fuel work seen) ∧
      (∀ s, s ∈ work → s ∈ reachFrom next fuel work seen) ∧
      (∀ s, s ∈ reachFrom next fuel work seen → ∀ s', s' ∈ next s → s' ∈ reachFrom next fuel work seen) := by
  -- with an empty worklist `seen` is the result, and the invariant says it is closed
  have hnil : ∀ (seen : List Label), (∀ s, s ∈ seen → ∀ s', s' ∈ next s → s' ∈ seen ∨ s' ∈ []) →
      (∀ s, s ∈ seen → s ∈ seen) ∧ (∀ s, s ∈ [] → s ∈ seen) ∧ (∀ s, s ∈ seen → ∀ s', s' ∈ next s → s' ∈ seen) :=
    fun seen hI => ⟨fun _ hs => hs, fun _ hs => (nomatch hs),
      fun s hs s' hs' => (hI s hs s' hs').elim id (fun h => (nomatch h))⟩
  intro fuel
  induction fuel with
  | zero =>
    intro work seen _ hI hf
    cases work with
    | nil => exact hnil seen hI
    | cons a r => simp at hf
  | succ fuel ih =>
    intro work seen hwI hI hf
    cases work with
    | nil => exact hnil seen hI
    | cons l rest =>
      simp only [reachFrom]
      by_cases hlm : l ∈ seen
      · simp only [List.contains_iff_mem.mpr hlm, if_true]
        obtain ⟨h1, h2, h3⟩ := ih rest seen (fun s hs => hwI s (List.mem_cons_of_mem _ hs))
          (fun s hs s' hs' => (hI s hs s' hs').elim Or.inl
            (fun h => (List.mem_cons.mp h).elim (fun e => Or.inl (e ▸ hlm)) Or.inr))
          (by simp only [List.length_cons] at hf; omega)
        exact ⟨h1, fun s hs => (List.mem_cons.mp hs).elim (fun e => e ▸ h1 _ hlm) (h2 s), h3⟩
      · have hl' : seen.contains l = false := by simpa using hlm
        simp only [hl', Bool.false_eq_true, if_false]
        have hlI : Inv l := hwI l List.mem_cons_self
        obtain ⟨h1, h2, h3⟩ := ih (next l ++ rest) (l :: seen)
          (fun s hs => (List.mem_append.mp hs).elim (hInv l hlI s) (fun h => hwI s (List.mem_cons_of_mem _ h)))
          (by
            intro s hs s' hs'
            rcases List.mem_cons.mp hs with rfl | hs
            · exact Or.inr (List.mem_append_left _ hs')
            · rcases hI s hs s' hs' with h | h
              · exact Or.inl (List.mem_cons_of_mem _ h)
              · rcases List.mem_cons.mp h with rfl | h
                · exact Or.inl List.mem_cons_self
                · exact Or.inr (List.mem_append_right _ h))
          (by
            have := hW l seen hlI hlm
            simp only [List.length_cons, List.length_append] at hf ⊢
            omega)
        exact ⟨fun s hs => h1 s (List.mem_cons_of_mem _ hs),
          fun s hs => (List.mem_cons.mp hs).elim (fun e => e ▸ h1 _ List.mem_cons_self)
            (fun h => h2 s (List.mem_append_right _ h)), h3⟩

/-- the fuel of the model, for a graph on the nodes `U`: the computed set is exactly what is
    reachable from one of the (at most `|U|`) start nodes -/
theorem reachFrom_iff (next : Label → List Label) (U : List Label)
    (hnext : ∀ l, (∀ s, s ∈ next l → s ∈ U) ∧ (next l).length ≤ U.length)
    (start : List Label) (hs : ∀ s, s ∈ start → s ∈ U) (hlen : start.length ≤ U.length) {b : Label} :
    b ∈ reachFrom next ((U.length + 1) * (U.length + 1) + 1) start [] ↔ ∃ a, a ∈ start ∧ GPath next a b := by
  refine ⟨fun h => (reachFrom_sound next _ start [] b h).resolve_left List.not_mem_nil, ?_⟩
  rintro ⟨a, ha, h⟩
  -- every visit of a new node of `U` is paid by `|U| + 1` units
  obtain ⟨_, h2, h3⟩ := reachFrom_closed next (· ∈ U)
    (fun seen => U.countP (fun u => !seen.contains u) * (U.length + 1))
    (fun l _ s hs => (hnext l).1 s hs)
    (by
      intro l seen hl hlm
      have hlt := countP_lt_of_imp (fun u => !(l :: seen).contains u) (fun u => !seen.contains u) U
        (by intro y hy; simp only [List.contains_cons, Bool.not_or, Bool.and_eq_true] at hy; exact hy.2)
        l hl (by simpa using hlm) (by simp)
      have := Nat.mul_le_mul_right (U.length + 1) hlt
      have := (hnext l).2
      simp only [Nat.succ_mul] at *
      omega)
    ((U.length + 1) * (U.length + 1) + 1) start [] hs (fun s hs => nomatch hs)
    (by
      have := Nat.mul_le_mul_right (U.length + 1) (List.countP_le_length (p := fun u => !([] : List Label).contains u) (l := U))
      simp only [Nat.succ_mul] at *
      omega)
  exact closed_contains h3 h (h2 a ha)

theorem reachFrom_single_iff (next : Label → List Label) (U : List Label)
    (hnext : ∀ l, (∀ s, s ∈ next l → s ∈ U) ∧ (next l).length ≤ U.length) {a : Label} (ha : a ∈ U) {b : Label} :
    b ∈ reachFrom next ((U.length + 1) * (U.length + 1) + 1) [a] [] ↔ GPath next a b := by
  rw [reachFrom_iff next U hnext [a] (by simpa using ha) (List.length_pos_of_mem ha)]
  simp

end TIR
end Crab
