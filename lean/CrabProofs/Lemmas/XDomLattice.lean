import CrabProofs.Lemmas.XDomEnv

/-!
  `Crab.XDom.Env`: join / widening, meet / narrowing, `operator<=`, `is_bottom`, `is_top`.
-/
set_option linter.unusedSectionVars false

namespace Crab
namespace XDom
open Patricia Patricia.Tree Lin SepDom

variable {V : Type} [GoodVal V] {L : Lattice V} {mem : Int → V → Prop}

namespace Env

theorem upper_inv (hL : Laws L mem) {f : V → V → V} (hf : UpperLaws L mem f) {a b : Env V}
    (ha : Inv L a) (hb : Inv L b) : Inv L (SepDom.upper (ctxOf L) L f a b) :=
  SepDom.upper_inv (ctx_sound hL) hf.pres hf.idem hL.vals.not_top ha hb

theorem upper_sound (hL : Laws L mem) {f : V → V → V} (hf : UpperLaws L mem f) {a b : Env V}
    (ha : Inv L a) (hb : Inv L b) {σ : State} (h : γ L mem a σ ∨ γ L mem b σ) :
    γ L mem (SepDom.upper (ctxOf L) L f a b) σ :=
  upper_holds (R := fun k v => mem (σ k) v) (ctx_sound hL) hf.pres hf.idem hL.vals.not_top ha hb
    (fun _ => hL.mem_top _) (fun k x y _ _ => hf.upper x y (σ k)) h

theorem lower_inv (hL : Laws L mem) {g : V → V → V} (hg : LowerLaws L mem g) {a b : Env V}
    (ha : Inv L a) (hb : Inv L b) : Inv L (SepDom.lower (ctxOf L) L g a b) :=
  SepDom.lower_inv (ctx_sound hL) hg.pres hg.idem hL.vals.not_bottom ha hb

theorem lower_sound (hL : Laws L mem) {g : V → V → V} (hg : LowerLaws L mem g) {a b : Env V}
    (ha : Inv L a) (hb : Inv L b) {σ : State} (h1 : γ L mem a σ) (h2 : γ L mem b σ) :
    γ L mem (SepDom.lower (ctxOf L) L g a b) σ :=
  lower_holds (R := fun k v => mem (σ k) v) (ctx_sound hL) hg.pres hg.idem hL.vals.not_bottom ha hb
    (fun _ => hL.mem_top _) (fun _ v h => Bool.eq_false_iff.mpr fun hb => hL.not_mem_bottom v _ hb h)
    (fun k x y _ _ => hg.sound x y (σ k)) h1 h2

/-- a lower-bound operation whose scalar operation is below both arguments stays below both
    arguments (meet) -/
theorem lower_below (hL : Laws L mem) {g : V → V → V} (hg : LowerLaws L mem g)
    (hlow : ∀ x y k, mem k (g x y) → mem k x ∧ mem k y) {a b : Env V}
    (ha : Inv L a) (hb : Inv L b) {σ : State} (h : γ L mem (SepDom.lower (ctxOf L) L g a b) σ) :
    γ L mem a σ ∧ γ L mem b σ :=
  SepDom.lower_below (R := fun k v => mem (σ k) v) (ctx_sound hL) hg.pres hg.idem hL.vals.not_bottom ha hb
    (fun _ => hL.mem_top _) (fun k x y _ _ => hlow x y (σ k)) h

theorem leq_eq (a b : Env V) : leq L a b = SepDom.leq true (ctxOf L) L a b := rfl

theorem leq_sound (hL : Laws L mem) {a b : Env V} (ha : Inv L a) (hb : Inv L b) (h : leq L a b = true)
    {σ : State} (hg : γ L mem a σ) : γ L mem b σ :=
  leq_holds (R := fun k v => mem (σ k) v) (ctx_sound hL) hL.leq_refl ha hb (fun _ => hL.mem_top _)
    (fun k x y _ _ => hL.leq_sound x y (σ k)) h hg

theorem leq_refl (hL : Laws L mem) {a : Env V} (ha : Inv L a) : leq L a a = true := by
  rw [leq_eq]
  cases na : a.isBot
  · rw [leq_spec (ctx_sound hL) (fun x hx => hL.leq_refl x hx) ha ha na na]
    intro k
    cases l1 : a.tree.lookup k with
    | none => simp
    | some x => simp only [rel, leO, domainPO, if_true]; exact hL.leq_refl x (ha.1.val_of_lookup l1)
  · exact leq_bottom_left true na

theorem leq_of_bot {a : Env V} (h : a.isBot = true) (b : Env V) : leq L a b = true := by
  rw [leq_eq]; exact leq_bottom_left true h

theorem leq_top (hL : Laws L mem) {a : Env V} (ha : Inv L a) : leq L a (top : Env V) = true := by
  rw [leq_eq]
  cases na : a.isBot
  · rw [leq_spec (ctx_sound hL) (fun x hx => hL.leq_refl x hx) ha inv_top na rfl]
    intro k
    cases l1 : a.tree.lookup k with
    | none => simp [top, SepDom.top]
    | some x => simp [top, SepDom.top, rel, leO, domainPO]
  · exact leq_bottom_left true na

theorem isBottom_iff (hL : Laws L mem) {e : Env V} (he : Inv L e) :
    e.isBottom = true ↔ ∀ σ, ¬ γ L mem e σ := by
  constructor
  · intro h σ; exact not_γ_of_bot h σ
  · intro h
    cases ne : e.isBottom
    · exfalso
      have ne' : e.isBot = false := ne
      have hw : ∀ x, ∃ k, mem k (get L e x) := fun x => hL.nonbot_mem _ (atKey_not_bottom hL.vals he ne' x)
      exact h (fun x => Classical.choose (hw x)) ⟨ne', fun x => Classical.choose_spec (hw x)⟩
    · rfl

theorem isTop_iff (hL : Laws L mem) {e : Env V} (he : Inv L e) :
    e.isTop = true ↔ ∀ σ, γ L mem e σ := by
  constructor
  · intro h σ; exact γ_of_isTop hL he h σ
  · intro h
    have ne : e.isBot = false := (h (fun _ => 0)).1
    refine (SepDom.isTop_iff hL.vals he).mpr ⟨ne, fun k => ?_⟩
    cases ht : L.isTop (atKey L e k)
    · obtain ⟨n, hn⟩ := hL.nontop_out _ (atKey_stored hL.vals he ne ht)
      exact absurd ((h (fun _ => n)).2 k) hn
    · exact atKey_top hL.vals he ne ht

end Env
end XDom
end Crab
