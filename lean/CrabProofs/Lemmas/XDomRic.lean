import CrabProofs.Lemmas.XDomCongStmt
import CrabProofs.Lemmas.IDomInst
import CrabProofs.Lemmas.IDomThresholds
import CrabProofs.Lemmas.IntervalCongruence
import CrabModel.Dom.RicDomain

/-!
  The "ric" domain (model `Crab.RDom`): concretisation, invariant, the lazily canonicalised
  product (`canon`, `both`, `reduceP`) and the per-variable reduction `reduce_variable`.
-/
namespace Crab
namespace RDom
open XDom Lin

theorem ic_not_isBottom {k : Int} {p : IC} (h : IC.mem k p) : p.isBottom = false := by
  unfold IC.isBottom
  rw [Itv.isBottom_false_of_mem h.1]
  have : p.c.isBot = false := h.2.1
  simp [Cong.isBottom, this]

theorem icReduce_sound {i : Itv} {c : Cong} {k : Int} (hi : Itv.mem k i) (hc : Cong.mem k c) :
    IC.mem k (icReduce i c) := by
  obtain ⟨q, e, _⟩ := IC.reduce_reduces ⟨i, c⟩
  rw [icReduce, e]
  exact IC.reduce_sound (p := ⟨i, c⟩) ⟨hi, hc⟩ e

/-- the reduced congruence is bottom, the given one or a number -/
theorem icReduce_wf (i : Itv) {c : Cong} (hw : Cong.WF c) : Cong.WF (icReduce i c).c := by
  obtain ⟨q, e, hr⟩ := IC.reduce_reduces ⟨i, c⟩
  rw [icReduce, e]
  cases hr with
  | bottom | cstOut | empty => exact GDom.wf_bot
  | keep | cstIn | finFin | finInf | infFin => exact hw
  | single | point => exact GDom.wf_ofInt _

namespace Env

def γ (e : Env) (σ : State) : Prop := e.isBot = false ∧ IDom.Env.γ e.f σ ∧ GDom.Env.γ e.s σ

/-- invariant: the map invariants of the two components, and a raised flag means bottom
    components -/
def Inv (e : Env) : Prop := e.f.Sorted ∧ GDom.Env.Inv e.s ∧ (e.isBot = true → e.f.bottom = true)

theorem inv_bot : bot.Inv := ⟨IDom.Env.sorted_bot, GDom.Env.inv_bot, fun _ => rfl⟩
theorem inv_top : top.Inv := ⟨IDom.Env.sorted_top, GDom.Env.inv_top, fun h => by cases h⟩

theorem γ_top (σ : State) : top.γ σ := ⟨rfl, IDom.Env.γ_top σ, XDom.Env.γ_top GDom.congLaws σ⟩

theorem isBottom_false {e : Env} {σ : State} (hg : e.γ σ) : e.isBottom = false := by
  unfold isBottom
  have h2 : e.f.bottom = false := hg.2.1.1
  have h3 : e.s.isBot = false := hg.2.2.1
  simp [hg.1, h2, h3]

theorem not_γ_of_isBottom {e : Env} (h : e.isBottom = true) (σ : State) : ¬ e.γ σ := by
  intro hg; rw [isBottom_false hg] at h; cases h

theorem not_γ_bot (σ : State) : ¬ bot.γ σ := not_γ_of_isBottom rfl σ

theorem isBot_of_not_isBottom {e : Env} (h : e.isBottom = false) :
    e.isBot = false ∧ e.f.bottom = false ∧ e.s.isBot = false := by
  unfold isBottom at h
  cases hb : e.isBot
  · simp only [hb, Bool.false_eq_true, if_false, Bool.or_eq_false_iff] at h
    exact ⟨rfl, h.1, h.2⟩
  · simp [hb] at h

theorem canon_of_γ {e : Env} {σ : State} (hg : e.γ σ) : canon e = e := by
  unfold canon
  have h2 : e.f.bottom = false := hg.2.1.1
  have h3 : e.s.isBot = false := hg.2.2.1
  simp [hg.1, h2, h3]

theorem canon_inv {e : Env} (h : e.Inv) : (canon e).Inv := by
  unfold canon
  split
  · split
    · exact inv_bot
    · exact h
  · exact h

theorem canon_flag {e : Env} (h : e.Inv) : (canon e).isBot = true → (canon e).f.bottom = true := (canon_inv h).2.2

/-- `m_product.first().g1(…); m_product.second().g2(…)` with sound `g1`, `g2` -/
theorem both_sound {g1 : IDom.Env → IDom.Env} {g2 : GDom.Env → GDom.Env} {e : Env} {σ σ' : State}
    (hg : e.γ σ) (h1 : IDom.Env.γ (g1 e.f) σ') (h2 : GDom.Env.γ (g2 e.s) σ') : (both g1 g2 e).γ σ' := by
  unfold both
  rw [canon_of_γ hg]
  have hc : canon ⟨e.isBot, g1 e.f, e.s⟩ = ⟨e.isBot, g1 e.f, e.s⟩ := by
    unfold canon
    have a1 : (g1 e.f).bottom = false := h1.1
    have a2 : e.s.isBot = false := hg.2.2.1
    simp [hg.1, a1, a2]
  simp only [hc]
  exact ⟨hg.1, h1, h2⟩

theorem both_inv {g1 : IDom.Env → IDom.Env} {g2 : GDom.Env → GDom.Env} {e : Env} (he : e.Inv)
    (h1 : ∀ f : IDom.Env, f.Sorted → (g1 f).Sorted) (h1b : ∀ f : IDom.Env, f.bottom = true → (g1 f).bottom = true)
    (h2 : ∀ s : GDom.Env, s.Inv → (g2 s).Inv) : (both g1 g2 e).Inv := by
  unfold both
  have c1 := canon_inv he
  have i2 : (⟨(canon e).isBot, g1 (canon e).f, (canon e).s⟩ : Env).Inv :=
    ⟨h1 _ c1.1, c1.2.1, fun h => h1b _ (c1.2.2 h)⟩
  have c2 := canon_inv i2
  exact ⟨c2.1, h2 _ c2.2.1, c2.2.2⟩

theorem reduceP_sound {e : Env} {σ : State} (hg : e.γ σ) : (reduceP e).γ σ := by
  unfold reduceP
  rw [canon_of_γ hg]
  have h2 : e.f.bottom = false := hg.2.1.1
  have h3 : e.s.isBot = false := hg.2.2.1
  simp only [h2, Bool.false_eq_true, if_false, canon_of_γ hg, h3]
  exact hg

theorem reduceP_inv {e : Env} (he : e.Inv) : (reduceP e).Inv := by
  unfold reduceP
  simp only
  split
  · exact inv_bot
  · split
    · exact inv_bot
    · exact canon_inv (canon_inv he)

theorem reduceVar_inv {e : Env} (he : e.Inv) {v : Var} (hv : v < 2 ^ 64) : (e.reduceVar v).Inv := by
  unfold reduceVar
  split
  · exact he
  · simp only
    split
    · exact inv_bot
    · have c2 := canon_inv (canon_inv he)
      have hw : Cong.WF (icReduce ((canon e).f.get v) ((canon (canon e)).s.get v)).c :=
        icReduce_wf _ (GDom.Env.get_wf c2.2.1 v)
      -- the state after the update of the first component
      have i3 : (if firstChanged (icReduce ((canon e).f.get v) ((canon (canon e)).s.get v)).i ((canon e).f.get v) = true then
          (⟨(canon (canon (canon e))).isBot, (canon (canon (canon e))).f.set v
            (icReduce ((canon e).f.get v) ((canon (canon e)).s.get v)).i, (canon (canon (canon e))).s⟩ : Env)
          else canon (canon e)).Inv := by
        split
        · have c3 := canon_inv c2
          refine ⟨IDom.Env.set_sorted _ _ _ c3.1, c3.2.1, fun h => ?_⟩
          have := c3.2.2 h
          simp [IDom.Env.set, this]
        · exact c2
      split
      · have c4 := canon_inv i3
        exact ⟨c4.1, GDom.Env.set_inv c4.2.1 hv hw, c4.2.2⟩
      · exact i3

theorem reduceVar_sound {e : Env} (he : e.Inv) {σ : State} (hg : e.γ σ) {v : Var} (hv : v < 2 ^ 64) :
    (e.reduceVar v).γ σ := by
  unfold reduceVar
  simp only [isBottom_false hg, Bool.false_eq_true, if_false, canon_of_γ hg]
  have hm := icReduce_sound (hg.2.1.2 v) (GDom.Env.get_mem hg.2.2 v)
  have hw : Cong.WF (icReduce (e.f.get v) (e.s.get v)).c := icReduce_wf _ (GDom.Env.get_wf he.2.1 v)
  simp only [ic_not_isBottom hm, Bool.false_eq_true, if_false]
  -- first component
  have g3 : (if firstChanged (icReduce (e.f.get v) (e.s.get v)).i (e.f.get v) = true then
      (⟨e.isBot, e.f.set v (icReduce (e.f.get v) (e.s.get v)).i, e.s⟩ : Env) else e).γ σ ∧
      (if firstChanged (icReduce (e.f.get v) (e.s.get v)).i (e.f.get v) = true then
      (⟨e.isBot, e.f.set v (icReduce (e.f.get v) (e.s.get v)).i, e.s⟩ : Env) else e).s = e.s := by
    split
    · exact ⟨⟨hg.1, IDom.Env.set_sound_same hg.2.1 hm.1, hg.2.2⟩, rfl⟩
    · exact ⟨hg, rfl⟩
  obtain ⟨g3a, g3b⟩ := g3
  split
  · rw [canon_of_γ g3a]
    refine ⟨g3a.1, g3a.2.1, ?_⟩
    rw [g3b]
    exact GDom.Env.set_sound_same he.2.1 hg.2.2 hv hw hm.2
  · exact g3a

end Env
end RDom
end Crab
