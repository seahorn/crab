import CrabProofs.Lemmas.InterSolve

/-!
  Phase 1 of C10: every summary stored by `buPhase` is *justified* (it is `top`, or the projection
  of the exit invariant of a solver run whose call transformer read a sub-table of the final
  table) — by induction over the order in which the functions are processed — and a justified
  table describes every returned call of the call-stack semantics.
-/
namespace Crab.Inter
open Crab.Fix

variable {p : IProg}

theorem optInsert_keep {α : Type} (T : Nat → Option α) (g : Nat) (v : α) {h : Nat} {s : α}
    (hs : T h = some s) : optInsert T g v h = some s := by
  unfold optInsert
  by_cases hg : h = g
  · subst hg; simp [hs]
  · simp [hg, hs]

theorem optInsert_cases {α : Type} (T : Nat → Option α) (g : Nat) (v : α) {h : Nat} {s : α}
    (hs : optInsert T g v h = some s) : T h = some s ∨ (h = g ∧ T g = none ∧ s = v) := by
  unfold optInsert at hs
  by_cases hg : h = g
  · subst hg
    simp only [if_true] at hs
    cases hT : T h with
    | none => rw [hT] at hs; simp at hs; exact Or.inr ⟨rfl, rfl, hs.symm⟩
    | some x => rw [hT] at hs; exact Or.inl hs
  · simp only [hg, if_false] at hs; exact Or.inl hs

theorem optInsert_other {α : Type} (T : Nat → Option α) (g : Nat) (v : α) {x : Nat} (h : x ≠ g) :
    optInsert T g v x = T x := by simp [optInsert, h]

theorem optInsert_new {α : Type} (T : Nat → Option α) (g : Nat) (v : α) (h : T g = none) :
    optInsert T g v g = some v := by simp [optInsert, h]

/-- the hypothesis on the orderings: well formed for the contexts the solver builds -/
def WtoHyp (D : IDom) (p : IProg) (cfg : FixCfg) : Prop :=
  ∀ (g : Nat), g < p.funs.size → ∀ (analyze : Nat → D.A → D.A) (init : D.A),
    WtoWF (mkCtx D cfg g (p.fn g) analyze init) (cfg.wto g)

structure Justified (D : IDom) (p : IProg) (cfg : FixCfg) (T : SumTable D) (Tg : Nat → SumTable D) : Prop where
  sub : ∀ g h s, Tg g h = some s → T h = some s
  decl : TableDecl p T
  notMain : T p.main = none
  just : ∀ g s, T g = some s → (∀ σ, D.γ s.sum σ) ∨
    ∃ st, solve D cfg g (p.fn g) (buCall D p.nv (Tg g)) D.top = some st ∧
      s.sum = D.project (st.post (p.fn g).exit) ((p.fn g).ins ++ (p.fn g).outs)

theorem Justified.empty (D : IDom) (p : IProg) (cfg : FixCfg) :
    Justified D p cfg (fun _ => none) (fun _ _ => none) :=
  ⟨(fun _ _ _ h => nomatch h), (fun _ _ h => nomatch h), rfl, (fun _ _ h => nomatch h)⟩

/-- inserting a justified summary (computed with the current table) -/
theorem Justified.insert {D : IDom} {cfg : FixCfg} {T : SumTable D} {Tg : Nat → SumTable D}
    (hJ : Justified D p cfg T Tg) (g : Nat) (s : Summary D) (hg : g ≠ p.main)
    (hd : s.ins = (p.fn g).ins ∧ s.outs = (p.fn g).outs)
    (hj : (∀ σ, D.γ s.sum σ) ∨
      ∃ st, solve D cfg g (p.fn g) (buCall D p.nv T) D.top = some st ∧
        s.sum = D.project (st.post (p.fn g).exit) ((p.fn g).ins ++ (p.fn g).outs)) :
    ∃ Tg', Justified D p cfg (optInsert T g s) Tg' := by
  refine ⟨fun i => if i = g ∧ T g = none then T else Tg i, ?_, ?_, ?_, ?_⟩
  · intro i h s' hs'
    by_cases hi : i = g ∧ T g = none
    · simp only [hi, and_self, if_true] at hs'
      exact optInsert_keep T g s hs'
    · simp only [hi, if_false] at hs'
      exact optInsert_keep T g s (hJ.sub i h s' hs')
  · intro h s' hs'
    rcases optInsert_cases T g s hs' with h1 | ⟨rfl, _, rfl⟩
    · exact hJ.decl h s' h1
    · exact hd
  · unfold optInsert
    have : ¬ p.main = g := fun e => hg e.symm
    simp only [this, if_false]
    exact hJ.notMain
  · intro i s' hs'
    rcases optInsert_cases T g s hs' with h1 | ⟨rfl, hn, rfl⟩
    · have hne : ¬ (i = g ∧ T g = none) := by
        rintro ⟨rfl, hn⟩
        rw [hn] at h1; cases h1
      simp only [hne, if_false]
      exact hJ.just i s' h1
    · simp only [hn, and_self, if_true]
      exact hj

theorem Justified.step {D : IDom} {cfg : FixCfg} {T T' : SumTable D} {Tg : Nat → SumTable D}
    (hJ : Justified D p cfg T Tg) (g : Nat) (h : buStep D p cfg T g = some T') :
    ∃ Tg', Justified D p cfg T' Tg' := by
  unfold buStep at h
  by_cases hm : g = p.main
  · simp only [hm, if_true, Option.some.injEq] at h
    subst h; exact ⟨Tg, hJ⟩
  · simp only [hm, if_false] at h
    by_cases ho : (p.fn g).outs.isEmpty = true
    · simp only [ho, if_true, Option.some.injEq] at h
      subst h
      exact hJ.insert g _ hm ⟨rfl, rfl⟩ (Or.inl (fun σ => D.top_sound σ))
    · have ho' : (p.fn g).outs.isEmpty = false := by simpa using ho
      rw [ho'] at h
      simp only [Bool.false_eq_true, if_false] at h
      split at h
      · cases h
      · next st hs =>
        simp only [Option.some.injEq] at h
        subst h
        exact hJ.insert g _ hm ⟨rfl, rfl⟩ (Or.inr ⟨st, hs, rfl⟩)

theorem Justified.phase {D : IDom} {cfg : FixCfg} :
    ∀ (order : List Nat) (T T' : SumTable D) (Tg : Nat → SumTable D), Justified D p cfg T Tg →
      buPhase D p cfg order T = some T' → ∃ Tg', Justified D p cfg T' Tg'
  | [], T, T', Tg, hJ, h => by
    simp only [buPhase, Option.some.injEq] at h
    subst h; exact ⟨Tg, hJ⟩
  | g :: gs, T, T', Tg, hJ, h => by
    simp only [buPhase] at h
    split at h
    · cases h
    · next T1 hs =>
      obtain ⟨Tg1, hJ1⟩ := hJ.step g hs
      exact Justified.phase gs T1 T' Tg1 hJ1 h

/-- the decomposition used for phase 1: covered = has a summary; entered with any frame;
    the calls of `g` are described by the table its summary was computed with -/
def buSpec (p : IProg) {D : IDom} (T : SumTable D) (Tg : Nat → SumTable D) : SimSpec where
  Cov := fun g => ∃ s, T g = some s
  E := fun _ env => env.size = p.nv
  CR := fun g => tableCR (Tg g)

/-- a frame at the end of the exit block of a summarised function is described by its summary -/
theorem sum_holds_of_at (hP : ProgOK p) {D : IDom} (hren : D.toAbsDom.RenameSound) {cfg : FixCfg}
    (hw : WtoHyp D p cfg) {T : SumTable D} {Tg : Nat → SumTable D} (hJ : Justified D p cfg T Tg)
    {g : Nat} {s : Summary D} (hs : T g = some s) (hg : g < p.funs.size) {env : Env} {iv : List Int}
    (hat : (buSpec p T Tg).At p g iv (p.fn g).exit ((p.fn g).blk (p.fn g).exit).stmts.size env)
    (hm : MatchVals (p.fn g).ins iv (toSt env)) :
    SumHolds s iv ((p.fn g).outs.map (fun o => env.getD o 0)) := by
  obtain ⟨hi, ho⟩ := hJ.decl g s hs
  refine ⟨toSt env, by rw [hi]; exact hm, by rw [ho]; exact MatchVals_map _ (toSt env), by simp [ho], ?_⟩
  intro ρ hρ
  rcases hJ.just g s hs with htop | ⟨st, hrun, hsum⟩
  · exact htop ρ
  · have hdecl : TableDecl p (Tg g) := fun h s' hs' => hJ.decl h s' (hJ.sub g h s' hs')
    have hcs := buCall_sound hP D hren (Tg g) hdecl
    have := solve_sound D cfg g (hP g hg) hcs D.top (fun env => env.size = p.nv)
      (fun s hs => ⟨hs, fun σ _ => D.top_sound σ⟩) (hw g hg _ _) st hrun _ _ env hat.local
    have hpost := this.2.2 rfl (toSt env) (Ext_toSt env)
    rw [hsum]
    apply D.project_sound _ hpost
    intro v hv
    rw [hi, ho] at hρ
    exact hρ v hv

theorem bu_entryOK {D : IDom} (T : SumTable D) (Tg : Nat → SumTable D) : EntryOK p (buSpec p T Tg) :=
  EntryOK.of_size fun _ _ h => h

/-- the values a summarised function returns are described by the final table -/
theorem bu_ret_table (hP : ProgOK p) {D : IDom} (hren : D.toAbsDom.RenameSound) {cfg : FixCfg}
    (hw : WtoHyp D p cfg) {T : SumTable D} {Tg : Nat → SumTable D} (hJ : Justified D p cfg T Tg)
    (c : Config) (hc : Inv p (buSpec p T Tg) c) :
    ∀ hfr rest, c.stack = hfr :: rest → ¬ hfr.pc < ((p.fn hfr.fn).blk hfr.blk).stmts.size →
      hfr.blk = (p.fn hfr.fn).exit →
      tableCR T hfr.fn hfr.inVals ((p.fn hfr.fn).outs.map (fun o => hfr.env.getD o 0)) := by
  intro hfr rest hst hpc hex s hs
  have hm : hfr ∈ c.stack := by rw [hst]; exact List.mem_cons_self ..
  have hok := hc.frames hfr hm
  have hat := SimSpec.At.to_end (hc.loc hfr hm ⟨s, hs⟩) hpc
  rw [hex] at hat
  exact sum_holds_of_at hP hren hw hJ hs hok.1 hat hok.2.2.1

/-- hence by the table the caller's summary was computed with, which is a sub-table -/
theorem bu_retOK (hP : ProgOK p) {D : IDom} (hren : D.toAbsDom.RenameSound) {cfg : FixCfg}
    (hw : WtoHyp D p cfg) {T : SumTable D} {Tg : Nat → SumTable D} (hJ : Justified D p cfg T Tg)
    (c : Config) (hc : Inv p (buSpec p T Tg) c) : RetOK p (buSpec p T Tg) c :=
  fun hfr gfr rest hst hpc hex _ s hs =>
    bu_ret_table hP hren hw hJ c hc hfr (gfr :: rest) hst hpc hex s (hJ.sub _ _ s hs)

theorem bu_inv_run (hP : ProgOK p) {D : IDom} (hren : D.toAbsDom.RenameSound) {cfg : FixCfg}
    (hw : WtoHyp D p cfg) {T : SumTable D} {Tg : Nat → SumTable D} (hJ : Justified D p cfg T Tg)
    (ch : Choices) (fuel : Nat) (c : Config) (hc : Inv p (buSpec p T Tg) c) :
    Inv p (buSpec p T Tg) (runFrom p ch fuel c) := by
  exact Inv.runFrom hP (bu_entryOK T Tg) ch (bu_retOK hP hren hw hJ) fuel c hc

/-- every call record of a configuration satisfying the invariant is described by the table -/
theorem bu_recs (hP : ProgOK p) {D : IDom} (hren : D.toAbsDom.RenameSound) {cfg : FixCfg}
    (hw : WtoHyp D p cfg) {T : SumTable D} {Tg : Nat → SumTable D} (hJ : Justified D p cfg T Tg)
    (c : Config) (hc : Inv p (buSpec p T Tg) c) (r : CallRec) (hr : r ∈ c.tr.calls) (s : Summary D)
    (hs : T r.fn = some s) :
    SumHolds s r.ins r.outs ∧ r.ins.length = s.ins.length := by
  obtain ⟨hlt, hlen, hcov⟩ := hc.recs r hr
  obtain ⟨env, hat, hout, hm, _⟩ := hcov ⟨s, hs⟩
  have hl : r.ins.length = s.ins.length := by
    rcases hlen with h | h
    · rw [(hJ.decl _ _ hs).1]; exact h
    · rw [h, hJ.notMain] at hs; cases hs
  rw [hout]
  exact ⟨sum_holds_of_at hP hren hw hJ hs hlt hat hm, hl⟩

end Crab.Inter
