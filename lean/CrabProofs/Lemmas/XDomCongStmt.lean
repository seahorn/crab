import CrabProofs.Lemmas.XDomCongOps
import CrabProofs.Lemmas.CongruenceBits

/-!
  `congruence_domain` (model `Crab.GDom`): `assign`, `weak_assign`, `apply`, `select`
  (`DEFAULT_SELECT`), casts, `entails`, `to_linear_constraint_system`, and the unguarded
  `-=` / `forget` / `project` / `rename` / `expand` of the class (equal to the guarded ones of
  `XDom.Env`: `separate_domain` tests bottom itself); then the congruence domain as an instance of
  the generic history contract: environments with the invariant of `separate_domain` (stored
  congruences in standard form), the lattice operations on them, and the abstract execution of the
  statements of `XDom.Stmt`.

  `Shl` by a *variable* amount is sound only when the modulus of the class of the amount fits a
  machine word (`ShlOk`; `z_number` shifts by `mpz_get_ui`, known finding F22):
  that side condition is about the abstract value, not about the statement, so these statements
  are left out of the histories (`Ok'`).
-/
namespace Crab
namespace GDom
open XDom Lin Cong

theorem arithEval_sound (op : ArithOp) {yi zi : Cong} {a b c : Int} (ha : Cong.mem a yi)
    (hb : Cong.mem b zi) (hc : op.conc a b = some c) : Cong.mem c (arithEval op yi zi) := by
  cases op <;> simp only [ArithOp.conc] at hc <;> simp only [arithEval]
  · cases hc; exact Cong.add_sound ha hb
  · cases hc; exact Cong.sub_sound ha hb
  · cases hc; exact Cong.mul_sound ha hb
  · split at hc
    · cases hc
    · rename_i h0; cases hc; exact Cong.div_sound ha hb h0
  · exact Cong.mem_top _
  · split at hc
    · cases hc
    · rename_i h0; cases hc; exact Cong.srem_sound ha hb h0
  · exact Cong.mem_top _

/-- the `switch` of `apply(bitwise_operation_t, …)`; for `Shl` the class of the amounts must be
    in standard form with a modulus that fits a machine word (`C08.cg_shl_sound`: `1 << m_a` is
    `z_number::operator<<`, which shifts by `mpz_get_ui` of the amount — known finding F22) -/
theorem bitEval_sound (op : BitOp) {yi zi : Cong} {a b c : Int} (ha : Cong.mem a yi)
    (hb : Cong.mem b zi) (hc : op.conc a b = some c) (hz : op = .shl → WF zi ∧ zi.a < 2 ^ 64) :
    Cong.mem c (bitEval op yi zi) := by
  cases op <;> simp only [BitOp.conc] at hc <;> simp only [bitEval]
  · cases hc; exact Cong.and_sound ha hb
  · cases hc; exact Cong.or_sound ha hb
  · cases hc; exact Cong.xor_sound ha hb
  · split at hc
    · rename_i h0; cases hc
      exact C08.cg_shl_sound _ _ _ _ (hz rfl).1 (hz rfl).2 ha hb h0.1 h0.2
    · cases hc
  · split at hc
    · rename_i h0; cases hc; exact Cong.lshr_sound ha hb h0.2.1 h0.2.2
    · cases hc
  · split at hc
    · rename_i h0; cases hc; exact Cong.ashr_sound ha hb h0.1
    · cases hc

namespace Env

theorem forget_eq (e : Env) (x : Var) : e.forget x = XDom.Env.forget congLattice e x := by
  unfold forget XDom.Env.forget SepDom.forget
  split <;> rfl

theorem forgetAll_eq (e : Env) (vs : List Var) : e.forgetAll vs = XDom.Env.forgetAll congLattice e vs := by
  unfold forgetAll XDom.Env.forgetAll
  have : (fun env v => forget env v) = (fun env v => XDom.Env.forget congLattice env v) := by
    funext env v; exact forget_eq env v
  rw [this]; rfl

theorem project_eq (e : Env) (vs : List Var) : e.project vs = XDom.Env.project congLattice e vs := by
  unfold project XDom.Env.project SepDom.project
  cases h : e.isBot <;> simp

theorem rename_eq (e : Env) (f t : List Var) : e.rename f t = XDom.Env.rename congLattice e f t := by
  unfold rename XDom.Env.rename SepDom.rename
  cases h : e.isBot <;> simp

theorem expand_eq (e : Env) (x nx : Var) : e.expand x nx = XDom.Env.expand congLattice e x nx := rfl

theorem assign_inv {e : Env} (he : e.Inv) {x : Var} (hx : x < 2 ^ 64) (ex : Expr) : (e.assign x ex).Inv :=
  set_inv he hx (wf_eval e ex)

theorem assign_sound {e : Env} (he : e.Inv) {σ : State} (hg : e.γ σ) {x : Var} (hx : x < 2 ^ 64) (ex : Expr) :
    (e.assign x ex).γ (upd σ x (ex.eval σ)) := set_sound he hg hx (wf_eval e ex) (eval_sound hg ex)

theorem weakAssign_inv {e : Env} (he : e.Inv) {x : Var} (hx : x < 2 ^ 64) (ex : Expr) : (e.weakAssign x ex).Inv :=
  XDom.Env.joinKey_inv congLaws he hx (wf_eval e ex)

theorem weakAssign_sound {e : Env} (he : e.Inv) {σ : State} (hg : e.γ σ) {x : Var} (hx : x < 2 ^ 64) (ex : Expr) :
    (e.weakAssign x ex).γ σ ∧ (e.weakAssign x ex).γ (upd σ x (ex.eval σ)) :=
  XDom.Env.joinKey_sound congLaws he hg hx (wf_eval e ex) (eval_sound hg ex)

end Env

/-- the congruence domain shares the casts and `DEFAULT_ENTAILS` with the other two -/
def parts : Parts Cong := ⟨congLattice, Cong.ofInt, arithEval, bitEval, Env.eval, Env.add, Env.assign⟩

/-- the two shared model functions are the common text, by unfolding -/
example (e : Env) (x y : Var) (c : Lin.Cst) (zx : Bool) (bw : Nat) :
    e.intCast zx bw x y = parts.intCast e zx bw x y ∧ e.entails c = parts.entails e c := ⟨rfl, rfl⟩

theorem sound : parts.Sound Cong.mem :=
  ⟨congLaws, Env.add_inv, Env.add_sound, Env.assign_inv, Env.assign_sound⟩

namespace Env

theorem select_inv {e : Env} (he : e.Inv) {lhs : Var} (hx : lhs < 2 ^ 64) {cond : Lin.Cst} (hc : CstOk cond)
    (e1 e2 : Expr) : (e.select lhs cond e1 e2).Inv := by
  unfold select
  split
  · exact he
  · simp only
    split
    · exact assign_inv he hx e2
    · split
      · exact assign_inv he hx e1
      · exact XDom.Env.upper_inv congLaws congLaws.join
          (assign_inv (add_inv he (Parts.cstOk_single hc)) hx e1)
          (assign_inv (add_inv he (Parts.cstOk_single (cstOk_negate hc))) hx e2)

theorem select_sound {e : Env} (he : e.Inv) {σ : State} (hg : e.γ σ) {lhs : Var} (hx : lhs < 2 ^ 64)
    {cond : Lin.Cst} (hc : CstOk cond) (e1 e2 : Expr) :
    (e.select lhs cond e1 e2).γ (upd σ lhs (if cond.sat σ then e1.eval σ else e2.eval σ)) := by
  unfold select
  simp only [hg.1, Bool.false_eq_true, if_false]
  split
  · rename_i hb
    have hn : ¬ cond.sat σ := fun hs =>
      not_γ_of_bot hb σ (add_sound he hg (Parts.cstOk_single hc) (sat_single hs))
    simp only [hn, if_false]
    exact assign_sound he hg hx e2
  · split
    · rename_i hb
      simp only [Parts.sat_of_add_negate_bot sound he hg hc hb, if_true]
      exact assign_sound he hg hx e1
    · have i1 := add_inv he (Parts.cstOk_single hc)
      have i2 := add_inv he (Parts.cstOk_single (cstOk_negate hc))
      apply XDom.Env.upper_sound congLaws congLaws.join (assign_inv i1 hx e1) (assign_inv i2 hx e2)
      by_cases hs : cond.sat σ
      · simp only [hs, if_true]
        exact Or.inl (assign_sound i1 (add_sound he hg (Parts.cstOk_single hc) (sat_single hs)) hx e1)
      · simp only [hs, if_false]
        exact Or.inr (assign_sound i2 (add_sound he hg (Parts.cstOk_single (cstOk_negate hc))
          (sat_single ((Lin.Cst.sat_negate cond σ).2 hs))) hx e2)

theorem entails_sound {e : Env} (he : e.Inv) {σ : State} (hg : e.γ σ) {c : Lin.Cst} (hc : CstOk c)
    (h : e.entails c = true) : c.sat σ := Parts.entails_sound sound he hg hc h

theorem bindingCst_sound (k : Var) (v : Cong) (c : Lin.Cst) (h : bindingCst (k, v) = some c) (σ : State)
    (hm : Cong.mem (σ k) v) : c.sat σ := by
  unfold bindingCst at h
  simp only at h
  cases hs : v.singleton? with
  | none => rw [hs] at h; cases h
  | some n =>
    rw [hs] at h
    simp only [Option.some.injEq] at h
    subst h
    unfold Cong.singleton? at hs
    split at hs
    · rename_i hc
      simp only [Option.some.injEq] at hs
      have ha : v.a = 0 := by
        simp only [Bool.and_eq_true, beq_iff_eq] at hc; exact hc.2
      have := Cong.eq_of_mem_cst hm ha
      simp only [Lin.Cst.sat]
      rw [Expr.eval_subNum, Expr.eval_var]
      omega
    · cases hs

theorem toCsts_sound {e : Env} (he : e.Inv) {σ : State} (hg : e.γ σ) : Sys.sat e.toCsts σ :=
  XDom.Env.exportCsts_sound bindingCst bindingCst_sound he hg

end Env
def SEnv := { e : Env // e.Inv }

namespace SEnv

def γ (a : SEnv) (σ : State) : Prop := Env.γ a.1 σ
def bot : SEnv := ⟨Env.bot, Env.inv_bot⟩
def top : SEnv := ⟨Env.top, Env.inv_top⟩
def leq (a b : SEnv) : Bool := XDom.Env.leq congLattice a.1 b.1
def join (a b : SEnv) : SEnv := ⟨XDom.Env.join congLattice a.1 b.1, XDom.Env.upper_inv congLaws congLaws.join a.2 b.2⟩
def widen (a b : SEnv) : SEnv := ⟨XDom.Env.widen congLattice a.1 b.1, XDom.Env.upper_inv congLaws congLaws.widen a.2 b.2⟩
def meet (a b : SEnv) : SEnv := ⟨XDom.Env.meet congLattice a.1 b.1, XDom.Env.lower_inv congLaws congLaws.meet a.2 b.2⟩
def narrow (a b : SEnv) : SEnv := ⟨XDom.Env.narrow congLattice a.1 b.1, XDom.Env.lower_inv congLaws congLaws.narrow a.2 b.2⟩

end SEnv

def exec : Stmt → Env → Env
  | .assign x e, a => a.assign x e
  | .weakAssign x e, a => a.weakAssign x e
  | .arithVar op x y z, a => a.applyVar op x y z
  | .arithCst op x y k, a => a.applyCst op x y k
  | .bitVar op x y z, a => a.applyBitVar op x y z
  | .bitCst op x y k, a => a.applyBitCst op x y k
  | .assume csts, a => a.add csts
  | .select lhs c e1 e2, a => a.select lhs c e1 e2
  | .forget x, a => a.forget x
  | .havoc vs, a => a.forgetAll vs
  | .project vs, a => a.project vs
  | .expand x nx, a => a.expand x nx
  | .cast z bw d s, a => a.intCast z bw d s

/-- the side conditions of `Stmt.Ok`, and no left shift by a variable amount -/
def Ok' (st : Stmt) : Prop := st.Ok ∧ ∀ x y z, st ≠ .bitVar .shl x y z

theorem exec_inv (st : Stmt) (hok : st.Ok) {a : Env} (h : a.Inv) : (exec st a).Inv := by
  cases st <;> simp only [exec]
  · exact Env.assign_inv h hok _
  · exact Env.weakAssign_inv h hok _
  · exact Env.set_inv h hok (wf_arithEval _ (Env.get_wf h _) (Env.get_wf h _))
  · exact Env.set_inv h hok (wf_arithEval _ (Env.get_wf h _) (wf_ofInt _))
  · exact Env.set_inv h hok (wf_bitEval _ (Env.get_wf h _) (Env.get_wf h _))
  · exact Env.set_inv h hok (wf_bitEval _ (Env.get_wf h _) (wf_ofInt _))
  · exact Env.add_inv h hok
  · exact Env.select_inv h hok.1 hok.2 _ _
  · rw [Env.forget_eq]; exact XDom.Env.forget_inv congLaws h hok
  · rw [Env.forgetAll_eq]; exact XDom.Env.forgetAll_inv congLaws h hok
  · rw [Env.project_eq]; exact XDom.Env.project_inv congLaws h hok
  · rw [Env.expand_eq]; exact XDom.Env.expand_inv congLaws h hok
  · exact Parts.intCast_inv sound h _ _ hok _

/-- the side condition of a statement on the abstract value: for `Shl` by a variable amount the
    modulus of the class of the amount fits a machine word (`bitEval_sound`) -/
def ShlOk : Stmt → Env → Prop
  | .bitVar op _ _ z, a => op = .shl → (a.get z).a < 2 ^ 64
  | _, _ => True

theorem exec_sound' (st : Stmt) (hok : st.Ok) {a : Env} (hshl : ShlOk st a) (ha : a.Inv) {s s' : State}
    (hg : a.γ s) (hr : st.rel s s') : (exec st a).γ s' := by
  cases st with
  | assign x e => simp only [Stmt.rel] at hr; subst hr; exact Env.assign_sound ha hg hok e
  | weakAssign x e =>
    rcases hr with hr | hr <;> subst hr
    · exact (Env.weakAssign_sound ha hg hok e).1
    · exact (Env.weakAssign_sound ha hg hok e).2
  | arithVar op x y z =>
    obtain ⟨c, hc, hs⟩ := hr; subst hs
    exact Env.set_sound ha hg hok (wf_arithEval op (Env.get_wf ha y) (Env.get_wf ha z))
      (arithEval_sound op (Env.get_mem hg y) (Env.get_mem hg z) hc)
  | arithCst op x y k =>
    obtain ⟨c, hc, hs⟩ := hr; subst hs
    exact Env.set_sound ha hg hok (wf_arithEval op (Env.get_wf ha y) (wf_ofInt k))
      (arithEval_sound op (Env.get_mem hg y) ((Cong.mem_ofInt k k).2 rfl) hc)
  | bitVar op x y z =>
    obtain ⟨c, hc, hs⟩ := hr; subst hs
    exact Env.set_sound ha hg hok (wf_bitEval op (Env.get_wf ha y) (Env.get_wf ha z))
      (bitEval_sound op (Env.get_mem hg y) (Env.get_mem hg z) hc
        (fun h => ⟨Env.get_wf ha z, hshl h⟩))
  | bitCst op x y k =>
    obtain ⟨c, hc, hs⟩ := hr; subst hs
    exact Env.set_sound ha hg hok (wf_bitEval op (Env.get_wf ha y) (wf_ofInt k))
      (bitEval_sound op (Env.get_mem hg y) ((Cong.mem_ofInt k k).2 rfl) hc
        (fun _ => ⟨wf_ofInt k, by simp [Cong.ofInt]⟩))
  | assume csts => obtain ⟨hsat, hs⟩ := hr; subst hs; exact Env.add_sound ha hg hok hsat
  | select lhs c e1 e2 => simp only [Stmt.rel] at hr; subst hr; exact Env.select_sound ha hg hok.1 hok.2 e1 e2
  | forget x =>
    obtain ⟨n, hs⟩ := hr; subst hs
    simp only [exec]; rw [Env.forget_eq]; exact XDom.Env.forget_sound congLaws ha hg hok n
  | havoc vs => simp only [exec]; rw [Env.forgetAll_eq]; exact XDom.Env.forgetAll_sound congLaws ha hg hok hr
  | project vs => simp only [exec]; rw [Env.project_eq]; exact XDom.Env.project_sound congLaws ha hg hok hr
  | expand x nx =>
    simp only [Stmt.rel] at hr; subst hr
    simp only [exec]; rw [Env.expand_eq]; exact XDom.Env.expand_sound congLaws ha hg hok (hg.2 x)
  | cast z bw d src => obtain ⟨hz, hs⟩ := hr; subst hs; exact Parts.intCast_sound sound ha hg z bw hok src hz

theorem ShlOk.of_ok' {st : Stmt} (hok : Ok' st) (a : Env) : ShlOk st a := by
  cases st <;> first | trivial | (intro e; subst e; exact absurd rfl (hok.2 _ _ _))

theorem exec_sound (st : Stmt) (hok : Ok' st) {a : Env} (ha : a.Inv) {s s' : State} (hg : a.γ s)
    (hr : st.rel s s') : (exec st a).γ s' :=
  exec_sound' st hok.1 (.of_ok' hok a) ha hg hr

def execS (st : Stmt) (hok : st.Ok) (a : SEnv) : SEnv := ⟨exec st a.1, exec_inv st hok a.2⟩

end GDom
end Crab
