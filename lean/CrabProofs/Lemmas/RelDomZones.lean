import CrabProofs.Lemmas.RelDomMat
import CrabProofs.Lemmas.ZonesExact

/-!
  The operations of `CrabModel/Dom/ZonesOps.lean` on the canonical zone model: every statement is
  the EXACT post-image (`Stmt.exec_exact`), hence sound; bottom / top tests; lifting to `ZVal`.
  Everything is derived from `Zones.laws` and `assumeAll_exact` (`Lemmas/ZonesExact.lean`).
-/
namespace Crab
namespace Zones
open Dbm RelDom

variable {n : Nat}


theorem bot_not_γ (σ : State n) : ¬ γ (bot : Zone n) σ := by
  intro h
  have := ((Mat.addEdge_sat _ _ _ _ _).1 h).2
  simp at this

theorem isBottom_bot : isBottom (bot : Zone n) = true :=
  (bottom_iff_unsat _).2 (fun ⟨σ, h⟩ => bot_not_γ σ h)

/-- forget `x`, then assume a system that says `x = e` -/
theorem assume_forget_exact (z : Zone n) (x : Fin n) (cs : List (Cst n)) (e : State n → Int)
    (he : ∀ σ t, e (updS σ x t) = e σ) (hcs : ∀ σ', (∀ c ∈ cs, c.sat σ') ↔ σ' x = e σ')
    (σ' : State n) : γ (assumeAll (forget z x) cs) σ' ↔ ∃ σ, γ z σ ∧ σ' = updS σ x (e σ) := by
  rw [assumeAll_exact, hcs]
  exact (laws n).assign_post trivial x e he σ'

/-- `x := k` is the exact post-image -/
theorem assignCst_exact (z : Zone n) (x : Fin n) (k : Int) (σ' : State n) :
    γ (assignCst z x k) σ' ↔ ∃ σ, γ z σ ∧ σ' = updS σ x k :=
  assume_forget_exact z x _ (fun _ => k) (fun _ _ => rfl) (fun σ' => by simp [Cst.sat]; omega) σ'

theorem ext_shiftVec (σ' : State n) (x : Fin n) (k : Int) :
    (fun i => ext σ' i - shiftVec x k i) = ext (updS σ' x (σ' x - k)) := by
  funext i
  refine Fin.cases ?_ (fun y => ?_) i
  · simp [shiftVec, Fin.succ_ne_zero x |>.symm]
  · by_cases e : y = x
    · subst e; simp [shiftVec, updS]
    · simp [shiftVec, updS, e]

/-- `x := y + k` (including `x := x + k`) is the exact post-image -/
theorem assignVar_exact (z : Zone n) (x y : Fin n) (k : Int) (σ' : State n) :
    γ (assignVar z x y k) σ' ↔ ∃ σ, γ z σ ∧ σ' = updS σ x (σ y + k) := by
  unfold assignVar
  split
  · rename_i e; subst e
    unfold γ
    rw [Mat.shiftBy_sat, ext_shiftVec]
    exact bij_post (P := fun s => z.sat (ext s)) (f := (· + k)) (g := (· - k))
      (fun t => by omega) (fun t => by omega) σ'
  · rename_i hne
    have hyx : y ≠ x := fun e => hne e.symm
    exact assume_forget_exact z x _ (fun σ => σ y + k) (fun σ t => by simp [updS, hyx])
      (fun σ' => by simp [Cst.sat]; omega) σ'


/-- **every statement is the exact post-image** of its concrete relation (best transformer) -/
theorem Stmt.exec_exact (st : Stmt n) (z : Zone n) (σ' : State n) :
    γ (st.exec z) σ' ↔ ∃ σ, γ z σ ∧ st.rel σ σ' := by
  cases st with
  | assume cs =>
    exact (assumeAll_exact z cs σ').trans
      ⟨fun ⟨h, hc⟩ => ⟨σ', h, rfl, hc⟩, fun ⟨_, h, e, hc⟩ => e ▸ ⟨h, hc⟩⟩
  | assignCst x k => exact assignCst_exact z x k σ'
  | assignVar x y k => exact assignVar_exact z x y k σ'
  | havoc x => exact (laws n).forget_post trivial x σ'
  | forget xs => exact (laws n).forgetAll_post xs trivial σ'
  | project keep => exact (laws n).project_post keep trivial σ'

theorem Stmt.exec_sound (st : Stmt n) (z : Zone n) (σ σ' : State n) (h : γ z σ) (hr : st.rel σ σ') :
    γ (st.exec z) σ' := (Stmt.exec_exact st z σ').2 ⟨σ, h, hr⟩

namespace ZVal

theorem exec_exact (st : Stmt n) (v : ZVal n) (σ' : State n) :
    γv (exec st v) σ' ↔ ∃ σ, γv v σ ∧ st.rel σ σ' :=
  match v with
  | none => ⟨False.elim, fun ⟨_, h, _⟩ => h⟩
  | some z => Stmt.exec_exact st z σ'

theorem isBottom_iff (v : ZVal n) : isBottom v = true ↔ ∀ σ, ¬ γv v σ :=
  match v with
  | none => ⟨fun _ _ h => h, fun _ => rfl⟩
  | some _ => (laws n).isBottom_iff trivial

theorem isTop_iff (v : ZVal n) : isTop v = true ↔ ∀ σ, γv v σ :=
  match v with
  | none => ⟨fun h => (nomatch h), fun h => (h fun _ => 0).elim⟩
  | some z => (laws n).top_leq_iff trivial z

theorem leq_iff (a b : ZVal n) : leq a b = true ↔ ∀ σ, γv a σ → γv b σ :=
  match a, b with
  | none, _ => ⟨fun _ _ h => h.elim, fun _ => rfl⟩
  | some _, none => (laws n).isBottom_iff trivial
  | some _, some y => (laws n).leq_iff trivial y

theorem join_upper (a b : ZVal n) (σ : State n) (h : γv a σ ∨ γv b σ) : γv (join a b) σ :=
  match a, b, h with
  | none, _, h => h.resolve_left id
  | some _, none, h => h.resolve_right id
  | some x, some y, h => Zones.join_upper x y σ h

theorem join_least (a b c : ZVal n) (ha : ∀ σ, γv a σ → γv c σ) (hb : ∀ σ, γv b σ → γv c σ)
    (σ : State n) (h : γv (join a b) σ) : γv c σ := by
  cases a with
  | none => exact hb σ h
  | some x =>
    cases b with
    | none => exact ha σ h
    | some y =>
      cases c with
      | some w => exact Zones.join_least x y w ha hb σ h
      | none =>
        -- `x` describes no state, so the join is `y`
        have hx : Zones.isBottom x = true := ((laws n).isBottom_iff trivial).2 ha
        have : join (some x) (some y) = some y := by simp [join, Zones.join, hx]
        rw [this] at h; exact hb σ h

theorem meet_exact (a b : ZVal n) (σ : State n) : γv (meet a b) σ ↔ (γv a σ ∧ γv b σ) :=
  match a, b with
  | none, _ => ⟨False.elim, fun h => h.1⟩
  | some _, none => ⟨False.elim, fun h => h.2⟩
  | some x, some y => Zones.meet_exact x y σ

end ZVal

end Zones
end Crab
