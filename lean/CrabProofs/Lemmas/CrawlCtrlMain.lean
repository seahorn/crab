import CrabProofs.Lemmas.CrawlCtrlRun

/-!
  Executions, control part (the main argument).  `F` solves the data inequations (`isDataSol`)
  and the control inequations (`isCtrlSol`) for a control-dependence graph `g` that passes
  `isCdgOK`.  Two runs under the same scheduler from states that agree on `F l a`:
   * as long as they are in the same block they execute `a` with the same outcomes, and they agree
     on `F l' a` for every successor `l'` (`lockstep`, TIRCrawlerExec.lean);
   * when they part at a deterministic branch `d` (successors `s1 ≠ s2`, each feasible in one run
     only): an entry of `a` at `s_i` together with `add_control_deps` firing for the edge
     `d → s_i` would make the two states agree on the guard of `s_i` -- impossible; one of `s1`,
     `s2` is control dependent on `d`; so `a` has an entry on one side at most (`s1`, the join of
     the branches of `d`), and no block control dependent on `d` reaches the block of `a` in `g`.
     The other run never executes `a`, and it cannot be complete (`dead_side`): to end at the exit
     it would pass through `s1`, and to end in a block without successors it would leave the
     blocks that reach the exit at a block of the region between `d` and `s1`, which makes the
     block of `a` reachable in `g`.
-/
namespace Crab
namespace TIR

theorem ctrlCond_eq (g : Cdg) (d l : Label) (a : AId) :
    ctrlCond g d l a = ((g.kids d).contains l || g.reaches (g.kids d) a.1) := by
  unfold ctrlCond Cdg.kids
  cases hl : g.lookup d with
  | some K => rfl
  | none =>
    simp only [Option.getD_none, List.contains_nil, Bool.false_or]
    unfold Cdg.reaches
    cases (g.fuel + ([] : List Label).length) <;> simp [reachFrom]

/-- the run on the side of the branch where the assertion has no entry is not complete -/
theorem dead_side {P : Prog} {g : Cdg} {F : Label → Facts} {a : AId} (hwf : WFp P) (okp : CdgOKp P g)
    (hs : CtrlSolp P g F a) (hv : Nat → Var → Int) (ch : Chooser) {d s s' : Label} (hd : d ∈ P.labels)
    (hsm : s ∈ P.succsOf d) (hsm' : s' ∈ P.succsOf d) (hne : s ≠ s') (hnk : s ∉ g.kids d)
    (hnr : g.reaches (g.kids d) a.1 = false) (hlive : (F s).has a = true) (hdead : (F s').has a = false)
    (hpath : GPath P.succsOf s a.1) (f step : Nat) (cnt : Counts) (σ : State) (nh : Nat) :
    (runB P hv ch f step cnt s' σ nh).kind a ≠ .complete := by
  intro hk
  have h2 : 2 ≤ (P.succsOf d).length := two_le_of_mem_ne hsm hsm' hne
  obtain ⟨x, hx, hall, hreg⟩ := okp.join d s hd h2 hsm hnk
  obtain ⟨hch, hex, hsk⟩ := run_chain P hv ch f step cnt s' σ nh
  have hthrough : s ∈ (runB P hv ch f step cnt s' σ nh).path → False := by
    intro hin
    have := chain_live hs _ s' s hch (List.mem_cons_of_mem _ hin) hlive
    rw [hdead] at this; cases this
  rcases kind_complete_cases P a hv ch f step cnt s' σ nh hk with h | h | h
  · have hlast : lastOf s' (runB P hv ch f step cnt s' σ nh).path = x := by
      have := isExit_iff.mp (hex h)
      rw [hx] at this
      simp only [Option.some.injEq] at this
      exact this.symm
    have := chain_pdom _ s' hch hlast (hall s' hsm').2
    rcases List.mem_cons.mp this with h' | h'
    · exact hne h'
    · exact hthrough h'
  · rcases sink_reach hwf hx _ s' hch (hsk h).1 (hsk h).2 (GPath.refl s') (hall s' hsm').1
        (fun e => hne e.symm) (hall s' hsm').2 with h' | ⟨w, w', hpw, hcow, hws, hsw, h2w, hw', hw'co⟩
    · exact hthrough h'
    · have hRw := hreg s' w hsm' (fun e => hne e.symm) hpw hcow
      obtain ⟨t, ht, htp⟩ := gpath_first (PDom.reach hcow hsw).1 hws
      have := okp.esc w w' t a.1 (mem_labels_of_succ hw') h2w hw' hw'co ht (htp.trans hpath)
      have := reaches_step g _ hRw this
      rw [hnr] at this; cases this
  · have := (run_live hs hv ch f step cnt s' σ nh h).1
    rw [hdead] at this; cases this

/-- the two runs after a deterministic branch -/
theorem diverge_ok {P : Prog} {g : Cdg} {F : Label → Facts} {a : AId} (hwf : WFp P) (okp : CdgOKp P g)
    (hs : CtrlSolp P g F a) (hv : Nat → Var → Int) (ch : Chooser) {d s1 s2 : Label} (hd : d ∈ P.labels)
    (h1m : s1 ∈ P.succsOf d) (h2m : s2 ∈ P.succsOf d) (hne : s1 ≠ s2) (σ1 σ2 : State)
    (hag : ∀ l', l' ∈ P.succsOf d → agreeOn ((F l').get a) σ1 σ2)
    (hg11 : guardOk P s1 σ1 = true) (hg12 : guardOk P s1 σ2 = false)
    (hg22 : guardOk P s2 σ2 = true) (hg21 : guardOk P s2 σ1 = false)
    (f step : Nat) (cnt : Counts) (nh : Nat) :
    differK ((runB P hv ch f step cnt s1 σ1 nh).kind a) ((runB P hv ch f step cnt s2 σ2 nh).kind a)
      (aSeq a (runB P hv ch f step cnt s1 σ1 nh).evs) (aSeq a (runB P hv ch f step cnt s2 σ2 nh).evs) = false := by
  have hguard : ∀ s, s ∈ P.succsOf d → (F s).has a = true → ctrlCond g d s a = true →
      guardOk P s σ1 = guardOk P s σ2 := by
    intro s hsm hh hc
    apply guardOk_congr
    intro y hy
    exact hag s hsm y (hs.ctrl s d (hwf.succ_lab d s hsm) ((hwf.sym d s).mp hsm) hh hc y hy)
  have hn1 : (F s1).has a = true → ctrlCond g d s1 a = true → False := by
    intro h1 h2
    have := hguard s1 h1m h1 h2
    rw [hg11, hg12] at this; cases this
  have hn2 : (F s2).has a = true → ctrlCond g d s2 a = true → False := by
    intro h1 h2
    have := hguard s2 h2m h1 h2
    rw [hg21, hg22] at this; cases this
  have h2 : 2 ≤ (P.succsOf d).length := two_le_of_mem_ne h1m h2m hne
  have hL0 : s1 ∈ g.kids d ∨ s2 ∈ g.kids d := by
    by_cases hk1 : s1 ∈ g.kids d
    · exact Or.inl hk1
    · by_cases hk2 : s2 ∈ g.kids d
      · exact Or.inr hk2
      · exfalso
        obtain ⟨x, hx, hall, _⟩ := okp.join d s1 hd h2 h1m hk1
        obtain ⟨x', hx', hall', _⟩ := okp.join d s2 hd h2 h2m hk2
        rw [hx] at hx'
        simp only [Option.some.injEq] at hx'
        subst hx'
        exact hne (PDom.antisymm (hall s2 h2m).1 (hall s2 h2m).2 (hall' s1 h1m).2)
  have hkid : ∀ s, s ∈ g.kids d → ctrlCond g d s a = true := by
    intro s hk
    rw [ctrlCond_eq, List.contains_iff_mem.mpr hk]
    rfl
  have hnoA : ∀ s σ, (F s).has a = false → aSeq a (runB P hv ch f step cnt s σ nh).evs = [] := by
    intro s σ hh
    apply Classical.byContradiction
    intro hne'
    have := (run_live hs hv ch f step cnt s σ nh hne').1
    rw [hh] at this; cases this
  -- the side where the assertion has an entry is not control dependent on `d`
  have hlive : ∀ s s', s ∈ P.succsOf d → s' ∈ P.succsOf d → s ≠ s' → (s ∈ g.kids d ∨ s' ∈ g.kids d) →
      ((F s).has a = true → ctrlCond g d s a = true → False) →
      ((F s').has a = true → ctrlCond g d s' a = true → False) → (F s).has a = true →
      ∀ σ σ', aSeq a (runB P hv ch f step cnt s' σ' nh).evs = [] ∧
        (aSeq a (runB P hv ch f step cnt s σ nh).evs ≠ [] → (runB P hv ch f step cnt s' σ' nh).kind a ≠ .complete) := by
    intro s s' hsm hsm' hss hL hns hns' hh σ σ'
    have hc : ctrlCond g d s a = false := by
      cases hcc : ctrlCond g d s a with
      | false => rfl
      | true => exact absurd hcc (fun h => hns hh h)
    rw [ctrlCond_eq] at hc
    simp only [Bool.or_eq_false_iff] at hc
    have hnk : s ∉ g.kids d := by
      intro hk
      rw [List.contains_iff_mem.mpr hk] at hc
      cases hc.1
    have hk' : s' ∈ g.kids d := hL.resolve_left hnk
    have hdead : (F s').has a = false := by
      cases hd' : (F s').has a with
      | false => rfl
      | true => exact absurd (hkid s' hk') (fun h => hns' hd' h)
    refine ⟨hnoA s' σ' hdead, ?_⟩
    intro hq
    exact dead_side hwf okp hs hv ch hd hsm hsm' hss hnk hc.2 hh hdead
      (run_live hs hv ch f step cnt s σ nh hq).2 f step cnt σ' nh
  cases hh1 : (F s1).has a with
  | true =>
    obtain ⟨he, hk⟩ := hlive s1 s2 h1m h2m hne hL0 hn1 hn2 hh1 σ1 σ2
    rw [he]
    by_cases hq : aSeq a (runB P hv ch f step cnt s1 σ1 nh).evs = []
    · rw [hq]; exact differK_same _ _ _
    · exact differK_prefix_r (List.nil_prefix) (hk hq)
  | false =>
    cases hh2 : (F s2).has a with
    | true =>
      obtain ⟨he, hk⟩ := hlive s2 s1 h2m h1m (fun e => hne e.symm) hL0.symm hn2 hn1 hh2 σ2 σ1
      rw [he]
      by_cases hq : aSeq a (runB P hv ch f step cnt s2 σ2 nh).evs = []
      · rw [hq]; exact differK_same _ _ _
      · exact differK_prefix_l (List.nil_prefix) (hk hq)
    | false =>
      rw [hnoA s1 σ1 hh1, hnoA s2 σ2 hh2]
      exact differK_same _ _ _

/-- THE SEMANTIC THEOREM: for an answer `F` that solves the data and the control inequations, with
    a control-dependence graph that passes `isCdgOK`: a variable that is not listed for assertion
    `a` at the entry of block `l` is not relevant there -/
theorem not_relevantCtrl {P : Prog} {g : Cdg} {F : Label → Facts} (hwf : WFp P) (hsol : isDataSol P F = true)
    (hctrl : isCtrlSol P g F = true) (hg : isCdgOK P g = true) {a : AId} {c0 : Cst} (hm : (a, c0) ∈ P.asserts)
    {l : Label} {x : Var} (hx : x ∉ (F l).get a) : ¬ RelevantCtrl P a l 0 x := by
  rintro ⟨σ, v, hv, prio, fuel, h⟩
  simp only [runFrom, List.drop_zero] at h
  have := lockstep hsol hm hv (schedChooser P prio) (schedChooser P prio)
    (fun d σ1 σ2 => (feasibleSuccs P d σ1).length == 1 && (feasibleSuccs P d σ2).length == 1)
    (by
      -- at a deterministic branch the scheduler answers the one feasible successor in each run
      intro d s1 s2 σ1 σ2 step n h1 h2 hne hc1 hc2 hag hdet f step' cnt' nh
      simp only [Bool.and_eq_true, beq_iff_eq] at hdet
      obtain ⟨hg11, hoth1⟩ := sched_det P prio step n d σ1 hdet.1
      obtain ⟨hg22, hoth2⟩ := sched_det P prio step n d σ2 hdet.2
      rw [← hc1] at hg11 hoth1
      rw [← hc2] at hg22 hoth2
      exact diverge_ok hwf (isCdgOK_spec hwf hg) (isCtrlSol_spec hctrl hm) hv _ (mem_labels_of_succ h1) h1 h2 hne
        σ1 σ2 hag hg11 (hoth2 s1 h1 hne) hg22 (hoth1 s2 h2 (fun e => hne e.symm)) f step' cnt' nh)
    fuel 0 [] l 0 (P.stmtsOf l) σ (σ.set x v) 0 (BlockInv_entry hsol hm l σ (σ.set x v) (State.agree_set hx σ v))
  rw [detDivergence_eq, this] at h
  cases h

/-- the same for every identifier (one that is not an assertion of the program is never executed) -/
theorem not_relevantCtrl_any {P : Prog} {g : Cdg} {F : Label → Facts} (hwf : WFp P) (hsol : isDataSol P F = true)
    (hctrl : isCtrlSol P g F = true) (hg : isCdgOK P g = true) (a : AId)
    {l : Label} {x : Var} (hx : x ∉ (F l).get a) : ¬ RelevantCtrl P a l 0 x := by
  by_cases hex : ∃ c, (a, c) ∈ P.asserts
  · obtain ⟨c, hm⟩ := hex
    exact not_relevantCtrl hwf hsol hctrl hg hm hx
  · rintro ⟨σ, v, hv, prio, fuel, h⟩
    simp only [runFrom, List.drop_zero] at h
    have hnil : ∀ σ', aSeq a (runB P hv (schedChooser P prio) fuel 0 [] l σ' 0).evs = [] := by
      intro σ'
      apply Classical.byContradiction
      intro hne
      exact hex (run_assert P a hv _ fuel 0 [] l σ' 0 hne)
    rw [differCtrl_eq] at h
    have h1 := hnil σ
    have h2 := hnil (σ.set x v)
    unfold runB at h1 h2
    rw [h1, h2, differK_same] at h
    simp at h

end TIR
end Crab
