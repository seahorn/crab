import CrabProofs.Lemmas.IntervalArith

/-! Soundness of interval multiplication (`interval::operator*`): the product of any two
    members lies between the minimum and the maximum of the four corner products, where
    corner products follow `bound::operator*` (0 * oo = 0). -/
namespace Crab
namespace Bound

theorem eq_zero_of_n {a : Bound} (h : a.n = 0) : a = fin 0 := by
  cases a with
  | fin k => exact congrArg fin h
  | ninf | pinf => exact absurd h (by decide)

theorem mul_comm (a b : Bound) : mul a b = mul b a := by
  unfold mul
  by_cases ha : a.n = 0
  · by_cases hb : b.n = 0
    · rw [eq_zero_of_n ha, eq_zero_of_n hb]
    · rw [if_pos ha, if_neg hb, if_pos ha]
  · by_cases hb : b.n = 0
    · rw [if_pos hb, if_neg ha, if_pos hb]
    · rw [if_neg ha, if_neg hb, if_neg hb, if_neg ha, Bool.or_comm, Int.mul_comm]

theorem mul_fin_fin (a b : Int) : mul (fin a) (fin b) = fin (a * b) := by
  simp only [mul, n, isInfinite, Bool.or_self, mkRaw, Bool.false_eq_true, if_false]
  split
  · simp_all
  · split <;> simp_all

theorem mul_fin_ninf (a : Int) : mul (fin a) ninf =
    if a = 0 then fin 0 else if a < 0 then pinf else ninf := by
  simp [mul, n, isInfinite, mkRaw]
  split
  · subst_vars; rfl
  · split <;> rfl

theorem mul_fin_pinf (a : Int) : mul (fin a) pinf =
    if a = 0 then fin 0 else if 0 < a then pinf else ninf := by
  simp [mul, n, isInfinite, mkRaw]
  split
  · subst_vars; rfl
  · rfl

/-! `*` commutes with unary minus, so the four monotonicity facts reduce to one. -/

theorem neg_mkRaw (i : Bool) {k : Int} (hk : k ≠ 0) : neg (mkRaw i k) = mkRaw i (-k) := by
  unfold mkRaw; cases i
  · rfl
  · simp only [if_true]
    by_cases h : k > 0
    · rw [if_pos h, if_neg (by omega)]; rfl
    · rw [if_neg h, if_pos (by omega)]; rfl

theorem mul_neg_right (L a : Bound) : mul L (neg a) = neg (mul L a) := by
  have n_neg : (neg a).n = -a.n := by cases a <;> rfl
  have inf_neg : (neg a).isInfinite = a.isInfinite := by cases a <;> rfl
  unfold mul
  rw [n_neg, inf_neg]
  by_cases ha : a.n = 0
  · rw [if_pos (by omega), if_pos ha]
  · rw [if_neg (by omega), if_neg ha]
    by_cases hL : L.n = 0
    · rw [if_pos hL, if_pos hL, eq_zero_of_n hL]; rfl
    · rw [if_neg hL, if_neg hL, Int.mul_neg, neg_mkRaw]
      exact Int.mul_ne_zero hL ha

theorem mul_neg_left (L a : Bound) : mul (neg L) a = neg (mul L a) := by
  rw [mul_comm, mul_neg_right, mul_comm]

theorem mul_le_mul_fin {L : Bound} (hL : le (fin 0) L = true) {a : Bound} {k : Int}
    (h : le a (fin k) = true) : le (mul L a) (mul L (fin k)) = true := by
  cases a with
  | pinf => exact Bool.noConfusion h
  | ninf =>
    cases L with
    | ninf => exact Bool.noConfusion hL
    | pinf => exact le_ninf _
    | fin c =>
      rw [mul_fin_ninf]
      have : 0 ≤ c := by simpa using hL
      split
      · subst_vars; rw [mul_fin_fin, Int.zero_mul]; exact le_refl _
      · rw [if_neg (by omega)]; exact le_ninf _
  | fin y =>
    have hy : y ≤ k := by simpa using h
    cases L with
    | ninf => exact Bool.noConfusion hL
    | pinf =>
      rw [mul_comm pinf, mul_comm pinf]
      by_cases hy0 : y < 0
      · rw [mul_fin_pinf y, if_neg (by omega), if_neg (by omega)]; exact le_ninf _
      · by_cases hk0 : 0 < k
        · rw [mul_fin_pinf k, if_neg (by omega), if_pos hk0]; exact le_pinf _
        · obtain rfl : y = k := by omega
          exact le_refl _
    | fin c =>
      rw [mul_fin_fin, mul_fin_fin]
      simpa using Int.mul_le_mul_of_nonneg_left hy (by simpa using hL)

theorem mul_fin_le_mul {L : Bound} (hL : le (fin 0) L = true) {b : Bound} {k : Int}
    (h : le (fin k) b = true) : le (mul L (fin k)) (mul L b) = true := by
  have := mul_le_mul_fin hL (a := neg b) (k := -k) (by rw [neg_le_fin, Int.neg_neg]; exact h)
  rwa [show fin (-k) = neg (fin k) from rfl, mul_neg_right, mul_neg_right, neg_le_neg] at this

/-- for `l ≤ b ≤ u`, `L * b` lies between `L * l` and `L * u`: in this order when `0 ≤ L`,
    in the other when `L ≤ 0` -/
theorem mul_between (L : Bound) {l u : Bound} {b : Int}
    (h1 : le l (fin b) = true) (h2 : le (fin b) u = true) :
    le (min (mul L l) (mul L u)) (mul L (fin b)) = true ∧
    le (mul L (fin b)) (max (mul L l) (mul L u)) = true := by
  apply minmax_of_between
  rcases le_total (fin 0) L with hL | hL
  · exact Or.inl ⟨mul_le_mul_fin hL h1, mul_fin_le_mul hL h2⟩
  · have hL' : le (fin 0) (neg L) = true := by rw [fin_le_neg]; exact hL
    have e : ∀ x, mul L x = neg (mul (neg L) x) := fun x => by rw [mul_neg_left, neg_neg]
    simp only [e l, e u, e (fin b), neg_le_neg]
    exact Or.inr ⟨mul_fin_le_mul hL' h2, mul_le_mul_fin hL' h1⟩

end Bound

namespace Itv
open Bound

theorem mul_sound {x y : Itv} {a b : Int} (ha : mem a x) (hb : mem b y) : mem (a * b) (mul x y) := by
  unfold mul
  rw [if_neg (not_bottom_or ha hb), mem_mk', ← Bound.mul_fin_fin]
  -- first move `a` to a bound of `x` (with `b` fixed), then `b` to a bound of `y`
  have c1 := Bound.mul_between (fin b) ha.1 ha.2
  rw [Bound.mul_comm _ x.lb, Bound.mul_comm _ x.ub, Bound.mul_comm _ (fin a)] at c1
  exact Bound.corners c1 (Bound.mul_between x.lb hb.1 hb.2) (Bound.mul_between x.ub hb.1 hb.2)

end Itv
end Crab
