import CrabProofs.Lemmas.CrawlCtrlReach

/-!
  The control-dependence graph OF THE DEFINITION (`Prog.cdgSpec`, Crawler.lean: Ferrante /
  Ottenstein / Warren with the iterative post-dominator table `Prog.pdom`), the input of the old
  statement `C18.crawler_ctrl_sound_Statement`: on a well-formed CFG all of whose blocks reach the
  exit, `|blocks| + 2` rounds of the iteration compute exactly the post-dominators, and the graph
  is complete (`cdgSpec_complete`).
-/
namespace Crab
namespace TIR

theorem mem_interAll_cons (y : Label) : ∀ (r : List (List Label)) (s : List Label),
    y ∈ interAll (s :: r) ↔ y ∈ s ∧ ∀ t, t ∈ r → y ∈ t := by
  intro r
  induction r with
  | nil => intro s; simp [interAll]
  | cons t r' ih =>
    intro s
    have h := ih (s.filter (fun x => t.contains x))
    simp only [interAll, List.foldl_cons] at h ⊢
    rw [h]
    simp only [List.mem_filter, List.contains_iff_mem, List.mem_cons]
    constructor
    · rintro ⟨⟨h1, h2⟩, h3⟩
      exact ⟨h1, fun t' ht' => ht'.elim (fun e => e ▸ h2) (h3 t')⟩
    · rintro ⟨h1, h2⟩
      exact ⟨⟨h1, h2 t (Or.inl rfl)⟩, fun t' ht' => h2 t' (Or.inr ht')⟩

theorem mem_interAll {y : Label} : ∀ {L : List (List Label)}, y ∈ interAll L ↔ L ≠ [] ∧ ∀ t, t ∈ L → y ∈ t
  | [] => by simp [interAll]
  | s :: r => by simp [mem_interAll_cons]

theorem mem_pdomRound {P : Prog} {x n y : Label} {m : Label → List Label} :
    y ∈ pdomRound P x m n ↔
      if n = x then y = x else y = n ∨ (P.succsOf n ≠ [] ∧ ∀ s, s ∈ P.succsOf n → y ∈ m s) := by
  unfold pdomRound
  by_cases hnx : n = x
  · simp [hnx]
  · have hb : (n == x) = false := by simpa using hnx
    simp only [hb, Bool.false_eq_true, if_false, hnx, List.mem_cons, List.mem_filter, mem_interAll, ne_eq,
      List.map_eq_nil_iff, List.mem_map, forall_exists_index, and_imp, forall_apply_eq_imp_iff₂, bne_iff_ne]
    by_cases hyn : y = n <;> simp [hyn]

def nextM (P : Prog) (x : Label) (m : Label → List Label) : Label → List Label :=
  fun n => if n ∈ P.labels then pdomRound P x m n else []

def mK (P : Prog) (x : Label) : Nat → Label → List Label
  | 0 => fun _ => P.labels
  | k + 1 => nextM P x (mK P x k)

theorem mK_succ {P : Prog} {x : Label} (k : Nat) {n y : Label} (hn : n ∈ P.labels) :
    y ∈ mK P x (k + 1) n ↔
      if n = x then y = x else y = n ∨ (P.succsOf n ≠ [] ∧ ∀ s, s ∈ P.succsOf n → y ∈ mK P x k s) := by
  show y ∈ nextM P x (mK P x k) n ↔ _
  simp only [nextM, hn, if_true, mem_pdomRound]

theorem pdomIter_succ (P : Prog) (x : Label) (k : Nat) (m : Label → List Label) :
    pdomIter P x (k + 1) m = pdomIter P x k (nextM P x m) := by
  simp only [pdomIter]
  congr 1
  funext n
  rw [lookup_graph]
  unfold nextM
  split <;> rfl

theorem pdomIter_mK (P : Prog) (x : Label) : ∀ (k j : Nat), pdomIter P x k (mK P x j) = mK P x (j + k) := by
  intro k
  induction k with
  | zero => intro j; rfl
  | succ k ih =>
    intro j
    rw [pdomIter_succ]
    have : nextM P x (mK P x j) = mK P x (j + 1) := rfl
    rw [this, ih (j + 1)]
    congr 1
    omega

theorem pdom_eq_mK (P : Prog) (x : Label) : P.pdom x = mK P x (P.blocks.length + 2) := by
  unfold Prog.pdom
  have := pdomIter_mK P x (P.blocks.length + 2) 0
  simp only [Nat.zero_add] at this
  exact this

/-! ### no post-dominator is ever removed -/

theorem mK_complete {P : Prog} (hwf : WFp P) {x : Label} (hall : ∀ l, l ∈ P.labels → CoReach P x l) :
    ∀ (k : Nat) (n y : Label), n ∈ P.labels → y ∈ P.labels → PDom P x y n → y ∈ mK P x k n := by
  intro k
  induction k with
  | zero => intro n y _ hy _; exact hy
  | succ k ih =>
    intro n y hn hy hpd
    rw [mK_succ k hn]
    split
    · rename_i hnx; subst hnx; exact PDom.of_exit hpd
    · rename_i hnx
      by_cases hyn : y = n
      · exact Or.inl hyn
      · obtain ⟨t, ht, _⟩ := gpath_first (hall n hn) hnx
        exact Or.inr ⟨List.ne_nil_of_mem ht, fun s hs => ih s y (hwf.succ_lab n s hs) hy (PDom.succ hpd hyn hs)⟩

/-! ### after `k` rounds the blocks that can avoid `y` within `k` steps have lost `y` -/

/-- some path from `n` to `x` with fewer than `k` edges avoids `y` -/
def AvoidK (P : Prog) (x y : Label) : Nat → Label → Prop
  | 0, _ => False
  | k + 1, n => (n = x ∧ x ≠ y) ∨ (n ≠ y ∧ ∃ s, s ∈ P.succsOf n ∧ AvoidK P x y k s)

theorem mK_sound {P : Prog} (hwf : WFp P) {x y : Label} :
    ∀ (k : Nat) (n : Label), n ∈ P.labels → AvoidK P x y k n → y ∉ mK P x k n := by
  intro k
  induction k with
  | zero => intro n _ h; exact absurd h (by simp [AvoidK])
  | succ k ih =>
    intro n hn hav hy
    rw [mK_succ k hn] at hy
    rcases hav with ⟨hnx, hxy⟩ | ⟨hny, s, hs, havs⟩
    · rw [if_pos hnx] at hy; exact hxy hy.symm
    · split at hy
      · rename_i hnx; subst hnx; exact hny hy.symm
      · exact hy.elim (fun e => hny e.symm) (fun h => ih s (hwf.succ_lab n s hs) havs (h.2 s hs))

theorem AvoidK_mono (P : Prog) (x y : Label) : ∀ (k : Nat) (n : Label), AvoidK P x y k n → AvoidK P x y (k + 1) n := by
  intro k
  induction k with
  | zero => intro n h; exact absurd h (by simp [AvoidK])
  | succ k ih =>
    intro n h
    rcases h with h | ⟨h1, s, hs, h2⟩
    · exact Or.inl h
    · exact Or.inr ⟨h1, s, hs, ih s h2⟩

theorem AvoidK_mono_le (P : Prog) (x y : Label) {k j : Nat} (h : k ≤ j) (n : Label) (hk : AvoidK P x y k n) :
    AvoidK P x y j n := by
  induction h with
  | refl => exact hk
  | step _ ih => exact AvoidK_mono P x y _ n ih

theorem avoid_AvoidK {P : Prog} {x y n : Label} (h : Avoid P x (· = y) n) : ∃ k, AvoidK P x y k n := by
  induction h with
  | here hx => exact ⟨1, Or.inl ⟨rfl, hx⟩⟩
  | step hn hs _ ih =>
    obtain ⟨k, hk⟩ := ih
    exact ⟨k + 1, Or.inr ⟨hn, _, hs, hk⟩⟩

theorem AvoidK_label {P : Prog} {x y : Label} (hx : x ∈ P.labels) :
    ∀ (k : Nat) (n : Label), AvoidK P x y k n → n ∈ P.labels := by
  intro k n h
  cases k with
  | zero => exact absurd h (by simp [AvoidK])
  | succ k =>
    rcases h with ⟨h, _⟩ | ⟨_, s, hs, _⟩
    · rw [h]; exact hx
    · exact mem_labels_of_succ hs

/-- within `|blocks| + 1` rounds nothing new becomes avoidable: the rounds `AvoidK` only add blocks,
    and a round that adds nothing is followed by one that adds nothing -/
theorem AvoidK_bound {P : Prog} {x y : Label} (hx : x ∈ P.labels) {n : Label}
    (h : Avoid P x (· = y) n) : AvoidK P x y (P.labels.length + 1) n := by
  obtain ⟨k, hk⟩ := avoid_AvoidK h
  exact AvoidK_mono P x y _ n (rounds_saturate (AvoidK P x y) P.labels (AvoidK_mono P x y)
    (fun k a h1 _ => AvoidK_label hx (k + 1) a h1)
    (fun k hst a h => h.imp id (fun ⟨h1, s, hs, h2⟩ => ⟨h1, s, hs, hst s h2⟩)) hk)

/-- THE ITERATIVE TABLE COMPUTES THE POST-DOMINATORS (every block reaches the exit) -/
theorem pdom_table_iff {P : Prog} (hwf : WFp P) {x : Label} (hx : x ∈ P.labels)
    (hall : ∀ l, l ∈ P.labels → CoReach P x l) {n y : Label} (hn : n ∈ P.labels) (hy : y ∈ P.labels) :
    (P.pdom x n).contains y = true ↔ PDom P x y n := by
  rw [pdom_eq_mK, List.contains_iff_mem]
  constructor
  · intro hm hav
    have hb := AvoidK_bound hx hav
    have hlen := labels_length P
    exact mK_sound hwf _ n hn (AvoidK_mono_le P x y (by omega) n hb) hm
  · exact mK_complete hwf hall _ n y hn hy

theorem mem_specCdg {P : Prog} {x d u : Label} (hd : d ∈ P.labels) (hu : u ∈ P.labels)
    (hc : ((P.succsOf d).any (fun s => (P.pdom x s).contains u) && !((P.pdom x d).contains u && u != d)) = true) :
    (d, u) ∈ P.specCdg x := by
  unfold Prog.specCdg
  apply List.mem_flatMap.mpr
  refine ⟨d, hd, ?_⟩
  apply List.mem_map.mpr
  exact ⟨u, List.mem_filter.mpr ⟨hu, hc⟩, rfl⟩

theorem kids_cdgSpec {P : Prog} {x d u : Label} (hd : d ∈ P.labels) (h : (d, u) ∈ P.specCdg x) :
    u ∈ (P.cdgSpec x).kids d := by
  have := kids_filterMap_nonempty (fun n => ((P.specCdg x).filter (fun p => p.1 == n)).map (·.2)) P.labels hd
    (List.mem_map.mpr ⟨(d, u), List.mem_filter.mpr ⟨h, by simp⟩, rfl⟩)
  unfold Prog.cdgSpec
  simp only at this ⊢
  exact this

/-- on a CFG all of whose blocks reach the exit, the graph of the definition is complete -/
theorem cdgSpec_complete {P : Prog} (hwf : WFp P) {x : Label} (hx : P.exit = some x)
    (hall : ∀ l, l ∈ P.labels → CoReach P x l) : CdgComplete P (P.cdgSpec x) where
  escape := by
    intro d s t u _ _ hs hesc _ _
    exact absurd (hall s (hwf.succ_lab d s hs)) (hesc x hx)
  fow := by
    intro x' d t u hx' hd ht hco hpd hns
    rw [hx] at hx'
    simp only [Option.some.injEq] at hx'
    subst hx'
    have hxl : x ∈ P.labels := hwf.exit x hx
    have htl : t ∈ P.labels := hwf.succ_lab d t ht
    have hul : u ∈ P.labels := gpath_label hwf htl (PDom.reach hco hpd).1
    apply kids_cdgSpec hd
    apply mem_specCdg hd hul
    simp only [Bool.and_eq_true, List.any_eq_true, Bool.not_eq_eq_eq_not, Bool.not_true, Bool.and_eq_false_iff]
    refine ⟨⟨t, ht, (pdom_table_iff hwf hxl hall htl hul).mpr hpd⟩, ?_⟩
    by_cases hud : u = d
    · right; simpa using hud
    · left
      cases hc : (P.pdom x d).contains u with
      | false => rfl
      | true => exact absurd ⟨hud, (pdom_table_iff hwf hxl hall hd hul).mp hc⟩ hns

end TIR
end Crab
