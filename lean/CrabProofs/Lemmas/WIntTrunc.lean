import CrabProofs.Lemmas.WIntPoles

/-!
  `Crab.WInt`: `Trunc` and `Shl`.
-/
namespace Crab
namespace WInt
open WrapInt

/-- the low `w - k` bits of an arithmetic shift are the logical shift -/
theorem sshr_low {w : Nat} (x : BitVec w) (k : Nat) (hk : k ≤ w) :
    (x.sshiftRight k).toNat % 2 ^ (w - k) = x.toNat / 2 ^ k := by
  apply Nat.eq_of_testBit_eq; intro i
  rw [Nat.testBit_mod_two_pow, Nat.testBit_div_two_pow, BitVec.testBit_toNat, BitVec.testBit_toNat,
    BitVec.getLsbD_sshiftRight]
  by_cases h : i < w - k
  · have a : ¬ (w ≤ i) := by omega
    have b : k + i < w := by omega
    simp [h, a, b, Nat.add_comm]
  · simp [h]
    have : w ≤ i + k := by omega
    exact BitVec.getLsbD_of_ge x _ this

theorem lt_two_pow_self' (w : Nat) : w < 2 ^ w := Nat.lt_two_pow_self


/-- same upper bits, lower bits in order: the interval is shorter than `2^k` -/
theorem trunc_lenA {P M s e : Nat} (h1 : s / P = e / P) (h2 : s % P ≤ e % P)
    (hP : 0 < P) : D M s e < P := by
  have a1 := Nat.div_add_mod s P; have a2 := Nat.div_add_mod e P
  have a3 := Nat.mod_lt s hP; have a4 := Nat.mod_lt e hP
  rw [h1] at a1
  rcases D_spec M s e with ⟨a, b⟩ | ⟨a, b⟩ <;> omega

/-- upper bits one apart (modulo `2^(w-k)`), lower bits out of order: shorter than `2^k` -/
theorem trunc_lenB {P Q M s e : Nat} (hM : M = P * Q) (hQ : 2 ≤ Q) (hs : s < M)
    (h1 : (s / P + 1) % Q = e / P) (h2 : e % P < s % P) (hP : 0 < P) : D M s e < P := by
  have a1 := Nat.div_add_mod s P; have a2 := Nat.div_add_mod e P
  have a3 := Nat.mod_lt s hP; have a4 := Nat.mod_lt e hP
  have hSQ : s / P < Q := Nat.div_lt_of_lt_mul (hM ▸ hs)
  have hle : P * (s / P + 1) ≤ P * Q := Nat.mul_le_mul_left P hSQ
  have e1 : P * (e / P) = (P * (s / P) + P) % M := by
    rw [← h1, hM, ← Nat.mul_mod_mul_left, Nat.mul_add, Nat.mul_one]
  rw [Nat.mul_add, Nat.mul_one, ← hM] at hle
  have h2P : 2 * P ≤ M := by
    rw [hM, Nat.mul_comm 2 P]; exact Nat.mul_le_mul_left P hQ
  rw [e1] at a2
  rcases Nat.lt_or_ge (P * (s / P) + P) M with c | c
  · rw [Nat.mod_eq_of_lt c] at a2
    rcases D_spec M s e with ⟨a, b⟩ | ⟨a, b⟩ <;> omega
  · have : P * (s / P) + P = M := by omega
    rw [this, Nat.mod_self] at a2
    rcases D_spec M s e with ⟨a, b⟩ | ⟨a, b⟩ <;> omega

/-- members of an interval shorter than `P`, reduced modulo `P ∣ M` -/
theorem trunc_mem {w k : Nat} (hw : w ≤ 64) (hkw : k ≤ w) {s e v : Nat} (hs : s < 2 ^ w) (he : e < 2 ^ w)
    (hv : v < 2 ^ w) (hlen : D (2 ^ w) s e < 2 ^ k) (hm : D (2 ^ w) s v ≤ D (2 ^ w) s e) :
    mem k (v % 2 ^ k) (W k (s % 2 ^ k) (e % 2 ^ k) false) := by
  have hdvd : 2 ^ k ∣ 2 ^ w := Nat.pow_dvd_pow 2 hkw
  have e1 : v % 2 ^ k = (s + D (2 ^ w) s v) % 2 ^ k := by
    rw [← Nat.mod_mod_of_dvd (s + _) hdvd, D_add_back hs hv]
  have e2 : e % 2 ^ k = (s + D (2 ^ w) s e) % 2 ^ k := by
    rw [← Nat.mod_mod_of_dvd (s + _) hdvd, D_add_back hs he]
  rw [e1, e2]
  exact mem_of_steps (by omega) hlen hm


theorem trunc_cases {w k : Nat} (h1w : 1 ≤ w) (hw : w ≤ 64) (hk : k < w) {s e : Nat} (hs : s < 2 ^ w)
    (he : e < 2 ^ w) (hnt : (W w s e false).isTop = false) {r : WInt}
    (h : (W w s e false).trunc k = some r) :
    r = top ∨ (r = W k (s % 2 ^ k) (e % 2 ^ k) false ∧ D (2 ^ w) s e < 2 ^ k) := by
  have hk2 : k < 2 ^ w := Nat.lt_trans hk Nat.lt_two_pow_self
  have hP : 0 < 2 ^ k := Nat.pow_pos (by decide)
  have hMPQ : 2 ^ w = 2 ^ k * 2 ^ (w - k) := pow_split (by omega)
  have hQ : 2 ≤ 2 ^ (w - k) := two_le_pow (by omega)
  have hdvd : 2 ^ (w - k) ∣ 2 ^ w := Nat.pow_dvd_pow 2 (by omega)
  unfold trunc at h
  simp only [hnt, Bool.or_self, Bool.false_eq_true, if_false, mk?_raw h1w hw hk2,
    ashr_raw h1w hw hs hk2, ashr_raw h1w hw he hk2, Option.bind_eq_bind, Option.bind_some] at h
  have l1 := sshr_low (BitVec.ofNatLT s hs) k (by omega)
  have l2 := sshr_low (BitVec.ofNatLT e he) k (by omega)
  simp only [BitVec.toNat_ofNatLT] at l1 l2
  have E := @ite_elim _ (fun o : Option WInt => o = some r →
    r = top ∨ (r = W k (s % 2 ^ k) (e % 2 ^ k) false ∧ D (2 ^ w) s e < 2 ^ k))
  have T {G : Prop} : some top = some r → r = top ∨ G := fun h => Or.inl (Option.some.inj h).symm
  by_cases hk0 : k = 0
  · -- `keep_lower(0)` raises CRAB_ERROR: the answer can only be `top()`
    subst hk0
    simp only [keepLower_raw_zero h1w, Option.bind_none] at h
    exact E (fun _ h => by cases h) (fun _ => E (fun _ h => by cases h) (fun _ => T)) h
  · have hk1 : 1 ≤ k := by omega
    simp only [keepLower_raw hw hs hk1 hk, keepLower_raw hw he hk1 hk, Option.bind_some] at h
    refine E (fun c1 => E (fun c2 h => Or.inr ⟨(Option.some.inj h).symm, ?_⟩) (fun _ => T))
      (fun _ => E (fun c1 => E (fun c2 h => Or.inr ⟨(Option.some.inj h).symm, ?_⟩) (fun _ => T))
        (fun _ => T)) h
    · have c1' : ((BitVec.ofNatLT s hs).sshiftRight k).toNat = ((BitVec.ofNatLT e he).sshiftRight k).toNat := by
        simpa using c1
      have hSE : s / 2 ^ k = e / 2 ^ k := by rw [← l1, ← l2, c1']
      exact trunc_lenA hSE (by simpa using c2) hP
    · rw [inc_raw hw] at c1
      have c1' : (((BitVec.ofNatLT s hs).sshiftRight k).toNat + 1) % 2 ^ w =
          ((BitVec.ofNatLT e he).sshiftRight k).toNat := by simpa using c1
      have hSE : (s / 2 ^ k + 1) % 2 ^ (w - k) = e / 2 ^ k := by
        rw [← l1, ← l2, ← c1', Nat.mod_mod_of_dvd _ hdvd, Nat.add_mod, Nat.mod_mod,
          ← Nat.add_mod]
      have c2' : e % 2 ^ k < s % 2 ^ k := by simpa using c2
      exact trunc_lenB hMPQ hQ hs hSE c2' hP

theorem trunc_cases_full {w : Nat} (h1w : 1 ≤ w) (hw : w ≤ 64) {s e : Nat} (hs : s < 2 ^ w)
    (he : e < 2 ^ w) (hnt : (W w s e false).isTop = false) {r : WInt}
    (h : (W w s e false).trunc w = some r) :
    r = top ∨ r = W w s e false := by
  have hk2 : w < 2 ^ w := Nat.lt_two_pow_self
  have k1 : ∀ c, WrapInt.keepLower ⟨w, c⟩ w = some ⟨w, c⟩ := fun c => by simp [keepLower]
  unfold trunc at h
  simp only [hnt, Bool.or_self, Bool.false_eq_true, if_false, mk?_raw h1w hw hk2,
    ashr_raw h1w hw hs hk2, ashr_raw h1w hw he hk2, Option.bind_eq_bind, Option.bind_some, k1] at h
  have E := @ite_elim _ (fun o : Option WInt => o = some r → r = top ∨ r = W w s e false)
  have T : some top = some r → r = top ∨ r = W w s e false :=
    fun h => Or.inl (Option.some.inj h).symm
  have K : some (W w s e false) = some r → r = top ∨ r = W w s e false :=
    fun h => Or.inr (Option.some.inj h).symm
  exact E (fun _ => E (fun _ => K) (fun _ => T))
    (fun _ => E (fun _ => E (fun _ => K) (fun _ => T)) (fun _ => T)) h

/-- `Trunc(k)`, `k ≤ w`, contains the low `k` bits of every member -/
theorem trunc_sound {w k : Nat} (h1w : 1 ≤ w) (hw : w ≤ 64) (hk : k ≤ w) {x r : WInt} (hx : Good w x)
    (h : x.trunc k = some r) {v : Nat} (hv : v < 2 ^ w) (hm : mem w v x) : mem k (v % 2 ^ k) r := by
  rcases good_mem_cases hx hm with ⟨s, e, hs, he, rfl, hnt⟩ | hnt
  · rcases Nat.lt_or_ge k w with hkw | hkw
    · rcases trunc_cases h1w hw hkw hs he hnt h with rfl | ⟨rfl, hlen⟩
      · exact mem_top _ _
      · exact trunc_mem hw hk hs he hv hlen (mem_nontop hw hs he hnt hm)
    · have : k = w := by omega
      subst this
      rw [Nat.mod_eq_of_lt hv]
      rcases trunc_cases_full h1w hw hs he hnt h with rfl | rfl
      · exact mem_top _ _
      · exact hm
  · exact mem_top_unchanged hnt (by simp [trunc, hm.1, hnt]) h


/-- shifting left an interval shorter than `2^(w-j)` -/
theorem shl_mem {w j : Nat} (hw : w ≤ 64) (hj : j ≤ w) {s e v : Nat} (hs : s < 2 ^ w) (he : e < 2 ^ w)
    (hv : v < 2 ^ w) (hlen : D (2 ^ w) s e < 2 ^ (w - j)) (hm : D (2 ^ w) s v ≤ D (2 ^ w) s e) :
    mem w ((v * 2 ^ j) % 2 ^ w) (W w ((s * 2 ^ j) % 2 ^ w) ((e * 2 ^ j) % 2 ^ w) false) := by
  have hMPQ : 2 ^ w = 2 ^ (w - j) * 2 ^ j := by rw [Nat.mul_comm]; exact pow_split hj
  have e1 : (v * 2 ^ j) % 2 ^ w = (s * 2 ^ j + D (2 ^ w) s v * 2 ^ j) % 2 ^ w := by
    rw [← Nat.add_mul, ← Nat.mod_mul_mod (s + _), D_add_back hs hv]
  have e2 : (e * 2 ^ j) % 2 ^ w = (s * 2 ^ j + D (2 ^ w) s e * 2 ^ j) % 2 ^ w := by
    rw [← Nat.add_mul, ← Nat.mod_mul_mod (s + _), D_add_back hs he]
  rw [e1, e2]
  apply mem_of_steps hw
  · have := Nat.mul_lt_mul_of_pos_right hlen (Nat.pow_pos (by decide) : 0 < 2 ^ j)
    rw [← hMPQ] at this; exact this
  · exact Nat.mul_le_mul_right _ hm

/-- `Shl(k)` contains `v * 2^k mod 2^w` for every member `v` -/
theorem shlK_sound {w k : Nat} (h1w : 1 ≤ w) (hw : w ≤ 64) {x r : WInt} (hx : Good w x)
    (h : x.shlK k = some r) {v : Nat} (hv : v < 2 ^ w) (hm : mem w v x) :
    mem w ((v * 2 ^ k) % 2 ^ w) r := by
  rcases good_mem_cases hx hm with ⟨s, e, hs, he, rfl, hnt⟩ | hnt
  · unfold shlK at h
    simp only [hnt, Bool.false_eq_true, if_false] at h
    by_cases hkw : k ≥ w
    · simp only [hkw, if_true] at h
      injection h with h; subst h
      have : (v * 2 ^ k) % 2 ^ w = 0 := by
        apply Nat.mod_eq_zero_of_dvd
        exact Nat.dvd_trans (Nat.pow_dvd_pow 2 hkw) (Nat.dvd_mul_left _ _)
      rw [this, ofNatT_zero]
      show mem w 0 (W w 0 0 false)
      rw [mem_W hw (Nat.pow_pos (by decide)) (Nat.pow_pos (by decide))]
      right; exact Nat.le_refl _
    · simp only [hkw, if_false] at h
      have hkw' : k < w := by omega
      cases hy : (W w s e false).trunc (w - k) with
      | none => rw [hy] at h; cases h
      | some y =>
        rw [hy] at h
        simp only [Option.bind_eq_bind, Option.bind_some, mk?_raw h1w hw (Nat.lt_trans hkw' Nat.lt_two_pow_self),
          shl_raw hw hkw'] at h
        split at h
        · next hyt =>
          injection h with h; subst h
          have hyt' : y.isTop = false := by simpa using hyt
          have hd := mem_nontop hw hs he hnt hm
          by_cases hk0 : k = 0
          · subst hk0
            simp only [Nat.pow_zero, Nat.mul_one, Nat.mod_eq_of_lt hs, Nat.mod_eq_of_lt he,
              Nat.mod_eq_of_lt hv]
            exact hm
          · rcases trunc_cases h1w hw (by omega : w - k < w) hs he hnt hy with rfl | ⟨_, hlen⟩
            · exact absurd hyt' (by decide)
            · exact shl_mem hw (by omega) hs he hv hlen hd
        · injection h with h; subst h; exact mem_top _ _
  · exact mem_top_unchanged hnt (by simp [shlK, hm.1, hnt]) h

end WInt
end Crab
