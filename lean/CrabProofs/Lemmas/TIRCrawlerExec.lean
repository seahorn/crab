import CrabProofs.Lemmas.TIRCrawlerFix

/-!
  Executions.  `F` solves the data-dependence inequations.  Two runs of `runWith` from the same
  point, from states that agree on what `F` lists for assertion `a`, with the same havoc values:
  inside a block they give `a` the same outcomes until one of them stops (`runStmts_rel`); block by
  block, as long as their choosers answer the same successor, they do not differ for `a`
  (`lockstep`; what the runs do after they part is a hypothesis, asked for only at the blocks that
  pass the test `D`).  Data dependences are the case in which the runs never part: the second run
  follows the path of the first (`run_follows`), so a variable that is not listed is not
  `RelevantData` (`not_relevantData`).  CrawlCtrlMain.lean supplies the hypothesis for one scheduler
  and deterministic branches.
-/
namespace Crab
namespace TIR

theorem conflict_append_left : ∀ (s t : List Bool), conflict s (s ++ t) = false
  | [], t => by cases t <;> rfl
  | x :: xs, t => by simp [conflict, conflict_append_left xs t]

theorem conflict_append_right : ∀ (s t : List Bool), conflict (s ++ t) s = false
  | [], t => by cases t <;> rfl
  | x :: xs, t => by simp [conflict, conflict_append_right xs t]

theorem conflict_self (s : List Bool) : conflict s s = false := by
  simpa using conflict_append_left s []

theorem conflict_append_common (p : List Bool) (s1 s2 : List Bool) : conflict (p ++ s1) (p ++ s2) = conflict s1 s2 := by
  induction p with
  | nil => rfl
  | cons x r ih =>
    show (x != x || conflict (r ++ s1) (r ++ s2)) = conflict s1 s2
    rw [ih, bne_self_eq_false, Bool.false_or]

theorem aSeq_append (a : AId) (t r : List TEv) : aSeq a (t ++ r) = aSeq a t ++ aSeq a r := by
  simp [aSeq, List.filterMap_append]

def tracked (a : AId) (l : Label) (i : Nat) : Stmt → Bool
  | .assert _ => l == a.1 && i == a.2
  | _ => false

theorem tracked_iff {a : AId} {l : Label} {i : Nat} {s : Stmt} :
    tracked a l i s = true ↔ ∃ c, s = .assert c ∧ l = a.1 ∧ i = a.2 := by
  cases s <;> simp [tracked]

def StepRes.ev : StepRes → Option Event
  | .cont _ e => e
  | .stop e _ => e

theorem aSeq_tagEv_none (a : AId) (l : Label) (i : Nat) : aSeq a (tagEv l i none) = [] := rfl

theorem aSeq_tagEv_some (a : AId) (l : Label) (i : Nat) (e : Event) (h : (e.isAssert && l == a.1 && i == a.2) = false) :
    aSeq a (tagEv l i (some e)) = [] := by
  simp only [tagEv, aSeq, List.filterMap_cons, h, Bool.false_eq_true, if_false, List.filterMap_nil]

theorem aSeq_tagEv_untracked (a : AId) (l : Label) (i : Nat) (s : Stmt) (σ : State) (v : Int)
    (h : tracked a l i s = false) : aSeq a (tagEv l i (stepStmt s σ v).ev) = [] := by
  cases s with
  | assert c =>
    simp only [tracked] at h
    simp only [stepStmt]
    split <;> exact aSeq_tagEv_some a l i _ (by simpa [Bool.and_assoc] using h)
  | assume c =>
    simp only [stepStmt]
    split <;> exact aSeq_tagEv_some a l i _ rfl
  | bin op x p q =>
    simp only [stepStmt]
    split <;> exact aSeq_tagEv_none a l i
  | _ => exact aSeq_tagEv_none a l i

theorem step_tracked (c : Cst) (σ σ' : State) (v : Int) (h : agreeOn c.vars σ σ') :
    (stepStmt (.assert c) σ v = .cont σ (some ⟨true, c, true⟩) ∧ stepStmt (.assert c) σ' v = .cont σ' (some ⟨true, c, true⟩)) ∨
    (stepStmt (.assert c) σ v = .stop (some ⟨true, c, false⟩) .failed ∧
      stepStmt (.assert c) σ' v = .stop (some ⟨true, c, false⟩) .failed) := by
  have hc : c.holds σ = c.holds σ' := Cst.holds_congr c σ σ' h
  simp only [stepStmt, ← hc]
  cases c.holds σ <;> simp

/-- what the two states have to agree on in front of statement `i` of block `l`
    (`ss` = the statements from `i` on) -/
def BlockInv (P : Prog) (F : Label → Facts) (a : AId) (l : Label) (i : Nat) (ss : List Stmt) (σ σ' : State) : Prop :=
  (∀ j c, ss[j]? = some (.assert c) → l = a.1 → i + j = a.2 → agreeOn (bwdData (ss.take j) c.vars) σ σ') ∧
  (∀ l', l' ∈ P.succsOf l → agreeOn (bwdData ss ((F l').get a)) σ σ')

theorem BlockInv_step {P : Prog} {F : Label → Facts} {a : AId} {l : Label} {i : Nat} {s : Stmt} {r : List Stmt}
    {σ σ' σ1 σ1' : State} {v : Int} {e e' : Option Event}
    (h : BlockInv P F a l i (s :: r) σ σ') (h1 : stepStmt s σ v = .cont σ1 e) (h2 : stepStmt s σ' v = .cont σ1' e') :
    BlockInv P F a l (i + 1) r σ1 σ1' := by
  have e1 := effect_of_step h1
  have e2 := effect_of_step h2
  refine ⟨?_, ?_⟩
  · intro j c hj hl hij
    have := h.1 (j + 1) c (by simpa using hj) hl (by omega)
    simp only [List.take_succ_cons, bwdData] at this
    exact dataStep_sound s _ σ σ' σ1 σ1' v this e1 e2
  · intro l' hl'
    have := h.2 l' hl'
    simp only [bwdData] at this
    exact dataStep_sound s _ σ σ' σ1 σ1' v this e1 e2

theorem BlockInv_entry {P : Prog} {F : Label → Facts} (hsol : isDataSol P F = true) {a : AId} {c0 : Cst}
    (hm : (a, c0) ∈ P.asserts) (l : Label) (σ σ' : State) (hag : agreeOn ((F l).get a) σ σ') :
    BlockInv P F a l 0 (P.stmtsOf l) σ σ' := by
  refine ⟨?_, ?_⟩
  · intro j c hj hl hij
    have hmem : ((l, j), c) ∈ P.asserts := mem_asserts hj
    have ha : a = (l, j) := by
      cases a with
      | mk a1 a2 => simp only at hl hij; subst hl; simp only [Nat.zero_add] at hij; subst hij; rfl
    intro y hy
    apply hag
    rw [ha]
    exact isDataSol_gen hsol hmem y hy
  · intro l' hl' y hy
    exact hag y (isDataSol_flow hsol hm hl' y hy)

theorem runStmts_cons_cont {hv : Nat → Var → Int} {l : Label} {i : Nat} {s : Stmt} {r : List Stmt} {σ σ1 : State}
    {nh : Nat} {ev : Option Event} (h : stepStmt s σ (hvVal hv nh s) = .cont σ1 ev) :
    runStmts hv l i (s :: r) σ nh =
      (tagEv l i ev ++ (runStmts hv l (i + 1) r σ1 (hvNext nh s)).1, (runStmts hv l (i + 1) r σ1 (hvNext nh s)).2) := by
  simp only [runStmts, h]

theorem runStmts_cons_stop {hv : Nat → Var → Int} {l : Label} {i : Nat} {s : Stmt} {r : List Stmt} {σ : State}
    {nh : Nat} {ev : Option Event} {o : Outcome} (h : stepStmt s σ (hvVal hv nh s) = .stop ev o) :
    runStmts hv l i (s :: r) σ nh = (tagEv l i ev, .stop o) := by
  simp only [runStmts, h]

theorem runStmts_stop_failed (hv : Nat → Var → Int) (l : Label) :
    ∀ (ss : List Stmt) (i : Nat) (σ : State) (nh : Nat) (t : List TEv),
      runStmts hv l i ss σ nh = (t, .stop .failed) →
      ∃ t' k c, t = t' ++ [⟨l, k, ⟨true, c, false⟩⟩] := by
  intro ss
  induction ss with
  | nil => intro i σ nh t h; simp [runStmts] at h
  | cons s r ih =>
    intro i σ nh t h
    cases hs : stepStmt s σ (hvVal hv nh s) with
    | cont σ1 ev =>
      rw [runStmts_cons_cont hs] at h
      simp only [Prod.mk.injEq] at h
      have hr : runStmts hv l (i + 1) r σ1 (hvNext nh s) =
          ((runStmts hv l (i + 1) r σ1 (hvNext nh s)).1, .stop .failed) := by rw [← h.2]
      obtain ⟨t', k, c, ht⟩ := ih _ _ _ _ hr
      refine ⟨tagEv l i ev ++ t', k, c, ?_⟩
      rw [← h.1, ht, List.append_assoc]
    | stop ev o =>
      rw [runStmts_cons_stop hs] at h
      simp only [Prod.mk.injEq, BRes.stop.injEq] at h
      obtain ⟨h1, h2⟩ := h
      subst h2
      rcases stepStmt_stop_cases hs with ⟨_, c, _, rfl⟩ | ⟨h', _⟩ | ⟨h', _⟩
      · exact ⟨[], i, c, h1.symm⟩
      · cases h'
      · cases h'

/-- the kind of a run only depends on how it ended -/
def kindOfEnd (a : AId) (e : End) : RunKind := (⟨[], [], [], e⟩ : Trace).kind a

def stopKind (a : AId) (t : List TEv) (o : Outcome) : RunKind := kindOfEnd a (endOfStop t o)

theorem stopKind_prepend (hv : Nat → Var → Int) (l : Label) (a : AId) (ss : List Stmt) (i : Nat) (σ : State)
    (nh : Nat) (t : List TEv) (o : Outcome) (h : runStmts hv l i ss σ nh = (t, .stop o)) (pre : List TEv) :
    stopKind a (pre ++ t) o = stopKind a t o := by
  cases o with
  | failed =>
    obtain ⟨t', k, c, ht⟩ := runStmts_stop_failed hv l ss i σ nh t h
    subst ht
    simp [stopKind, kindOfEnd, endOfStop, ← List.append_assoc, Trace.kind]
  | exit _ => rfl
  | blocked => rfl
  | divzero => rfl

theorem stop_untracked_kind (a : AId) (l : Label) (i : Nat) (s : Stmt) (σ : State) (v : Int) (ev : Option Event)
    (o : Outcome) (htr : tracked a l i s = false) (h : stepStmt s σ v = .stop ev o) :
    stopKind a (tagEv l i ev) o ≠ .complete := by
  rcases stepStmt_stop_cases h with ⟨rfl, c, rfl, rfl⟩ | ⟨rfl, _⟩ | ⟨rfl, _⟩
  · simp only [tracked] at htr
    simp [stopKind, kindOfEnd, endOfStop, tagEv, Trace.kind, htr]
  · simp [stopKind, kindOfEnd, endOfStop, Trace.kind]
  · simp [stopKind, kindOfEnd, endOfStop, Trace.kind]

/-- how the results of a block in the two runs are related: the same outcomes of `a` while both
    go on; a run that stops alone has executed `a` no more often than the other, and did not stop
    at `a` -/
def BRel (P : Prog) (F : Label → Facts) (a : AId) (l : Label) : List TEv × BRes → List TEv × BRes → Prop
  | (t1, .fall σ1 n1), (t2, .fall σ2 n2) =>
    aSeq a t1 = aSeq a t2 ∧ n1 = n2 ∧ ∀ l', l' ∈ P.succsOf l → agreeOn ((F l').get a) σ1 σ2
  | (t1, .stop o1), (t2, .fall _ _) => aSeq a t1 <+: aSeq a t2 ∧ stopKind a t1 o1 ≠ .complete
  | (t1, .fall _ _), (t2, .stop o2) => aSeq a t2 <+: aSeq a t1 ∧ stopKind a t2 o2 ≠ .complete
  | (t1, .stop o1), (t2, .stop o2) =>
    aSeq a t1 = aSeq a t2 ∨ (aSeq a t1 <+: aSeq a t2 ∧ stopKind a t1 o1 ≠ .complete) ∨
      (aSeq a t2 <+: aSeq a t1 ∧ stopKind a t2 o2 ≠ .complete)

theorem BRel_prepend {P : Prog} {F : Label → Facts} {a : AId} {l : Label} (pre1 pre2 : List TEv)
    (hp : aSeq a pre1 = aSeq a pre2) {t1 t2 : List TEv} {b1 b2 : BRes}
    (hk1 : ∀ o, b1 = .stop o → stopKind a (pre1 ++ t1) o = stopKind a t1 o)
    (hk2 : ∀ o, b2 = .stop o → stopKind a (pre2 ++ t2) o = stopKind a t2 o)
    (h : BRel P F a l (t1, b1) (t2, b2)) : BRel P F a l (pre1 ++ t1, b1) (pre2 ++ t2, b2) := by
  cases b1 with
  | fall σ1 n1 =>
    cases b2 with
    | fall σ2 n2 =>
      simp only [BRel, aSeq_append] at h ⊢
      exact ⟨by rw [hp, h.1], h.2⟩
    | stop o2 =>
      simp only [BRel, aSeq_append] at h ⊢
      rw [hk2 o2 rfl, hp]
      exact ⟨(List.prefix_append_right_inj _).mpr h.1, h.2⟩
  | stop o1 =>
    cases b2 with
    | fall σ2 n2 =>
      simp only [BRel, aSeq_append] at h ⊢
      rw [hk1 o1 rfl, hp]
      exact ⟨(List.prefix_append_right_inj _).mpr h.1, h.2⟩
    | stop o2 =>
      simp only [BRel, aSeq_append] at h ⊢
      rw [hk1 o1 rfl, hk2 o2 rfl, hp]
      rcases h with h | h | h
      · exact Or.inl (by rw [h])
      · exact Or.inr (Or.inl ⟨(List.prefix_append_right_inj _).mpr h.1, h.2⟩)
      · exact Or.inr (Or.inr ⟨(List.prefix_append_right_inj _).mpr h.1, h.2⟩)

theorem runStmts_rel (P : Prog) (F : Label → Facts) (a : AId) (hv : Nat → Var → Int) (l : Label) :
    ∀ (ss : List Stmt) (i : Nat) (σ σ' : State) (nh : Nat), BlockInv P F a l i ss σ σ' →
      BRel P F a l (runStmts hv l i ss σ nh) (runStmts hv l i ss σ' nh) := by
  intro ss
  induction ss with
  | nil =>
    intro i σ σ' nh h
    show BRel P F a l ([], .fall σ nh) ([], .fall σ' nh)
    refine ⟨rfl, rfl, ?_⟩
    intro l' hl'
    simpa [bwdData] using h.2 l' hl'
  | cons s r ih =>
    intro i σ σ' nh h
    -- both runs continue after `s`
    have hcont : ∀ σ1 σ1' e1 e2, stepStmt s σ (hvVal hv nh s) = .cont σ1 e1 →
        stepStmt s σ' (hvVal hv nh s) = .cont σ1' e2 → aSeq a (tagEv l i e1) = aSeq a (tagEv l i e2) →
        BRel P F a l (runStmts hv l i (s :: r) σ nh) (runStmts hv l i (s :: r) σ' nh) := by
      intro σ1 σ1' e1 e2 h1 h2 he
      rw [runStmts_cons_cont h1, runStmts_cons_cont h2]
      have := ih (i + 1) σ1 σ1' (hvNext nh s) (BlockInv_step h h1 h2)
      refine BRel_prepend _ _ he ?_ ?_ this
      · intro o ho
        exact stopKind_prepend hv l a r (i + 1) σ1 (hvNext nh s) _ o (by rw [← ho]) _
      · intro o ho
        exact stopKind_prepend hv l a r (i + 1) σ1' (hvNext nh s) _ o (by rw [← ho]) _
    cases htr : tracked a l i s with
    | true =>
      obtain ⟨c, rfl, hl, hi⟩ := tracked_iff.mp htr
      have hag : agreeOn c.vars σ σ' := by simpa [bwdData] using h.1 0 c rfl hl (by simpa using hi)
      rcases step_tracked c σ σ' 0 hag with ⟨h1, h2⟩ | ⟨h1, h2⟩
      · exact hcont σ σ' _ _ h1 h2 rfl
      · rw [runStmts_cons_stop (hv := hv) (nh := nh) h1, runStmts_cons_stop (hv := hv) (nh := nh) h2]
        exact Or.inl rfl
    | false =>
      have hu1 := aSeq_tagEv_untracked a l i s σ (hvVal hv nh s) htr
      have hu2 := aSeq_tagEv_untracked a l i s σ' (hvVal hv nh s) htr
      cases hs1 : stepStmt s σ (hvVal hv nh s) with
      | cont σ1 e1 =>
        rw [hs1] at hu1
        cases hs2 : stepStmt s σ' (hvVal hv nh s) with
        | cont σ1' e2 =>
          rw [hs2] at hu2
          exact hcont σ1 σ1' e1 e2 hs1 hs2 (hu1.trans hu2.symm)
        | stop e2 o2 =>
          rw [hs2] at hu2
          rw [runStmts_cons_cont hs1, runStmts_cons_stop hs2]
          have hk := stop_untracked_kind a l i s σ' _ e2 o2 htr hs2
          have hp : aSeq a (tagEv l i e2) <+: aSeq a (tagEv l i e1 ++ (runStmts hv l (i + 1) r σ1 (hvNext nh s)).1) :=
            hu2 ▸ List.nil_prefix
          cases (runStmts hv l (i + 1) r σ1 (hvNext nh s)).2 with
          | fall _ _ => exact ⟨hp, hk⟩
          | stop _ => exact Or.inr (Or.inr ⟨hp, hk⟩)
      | stop e1 o1 =>
        rw [hs1] at hu1
        have hk := stop_untracked_kind a l i s σ _ e1 o1 htr hs1
        cases hs2 : stepStmt s σ' (hvVal hv nh s) with
        | cont σ1' e2 =>
          rw [runStmts_cons_stop hs1, runStmts_cons_cont hs2]
          have hp : aSeq a (tagEv l i e1) <+: aSeq a (tagEv l i e2 ++ (runStmts hv l (i + 1) r σ1' (hvNext nh s)).1) :=
            hu1 ▸ List.nil_prefix
          cases (runStmts hv l (i + 1) r σ1' (hvNext nh s)).2 with
          | fall _ _ => exact ⟨hp, hk⟩
          | stop _ => exact Or.inr (Or.inl ⟨hp, hk⟩)
        | stop e2 o2 =>
          rw [hs2] at hu2
          rw [runStmts_cons_stop hs1, runStmts_cons_stop hs2]
          exact Or.inl (hu1.trans hu2.symm)

theorem runWith_stop {P : Prog} {hv : Nat → Var → Int} {ch : Chooser} {f step : Nat} {cnt : Counts} {l : Label}
    {i : Nat} {ss : List Stmt} {σ : State} {nh : Nat} {t : List TEv} {o : Outcome}
    (h : runStmts hv l i ss σ nh = (t, .stop o)) :
    runWith P hv ch (f + 1) step cnt l i ss σ nh = ⟨t, [], [], endOfStop t o⟩ := by
  simp only [runWith, h]

theorem runWith_halt {P : Prog} {hv : Nat → Var → Int} {ch : Chooser} {f step : Nat} {cnt : Counts} {l : Label}
    {i : Nat} {ss : List Stmt} {σ σ1 : State} {nh n1 : Nat} {t : List TEv} {e : End}
    (h : runStmts hv l i ss σ nh = (t, .fall σ1 n1)) (hn : nextOf P ch step cnt l σ1 = .halt e) :
    runWith P hv ch (f + 1) step cnt l i ss σ nh = ⟨t, [], [], e⟩ := by
  simp only [runWith, h, hn]

theorem runWith_goto {P : Prog} {hv : Nat → Var → Int} {ch : Chooser} {f step : Nat} {cnt : Counts} {l : Label}
    {i : Nat} {ss : List Stmt} {σ σ1 : State} {nh n1 : Nat} {t : List TEv} {l' : Label}
    (h : runStmts hv l i ss σ nh = (t, .fall σ1 n1)) (hn : nextOf P ch step cnt l σ1 = .goto l') :
    runWith P hv ch (f + 1) step cnt l i ss σ nh =
      ⟨t ++ (runWith P hv ch f (step + 1) (cnt.bump l) l' 0 (P.stmtsOf l') σ1 n1).evs,
       l' :: (runWith P hv ch f (step + 1) (cnt.bump l) l' 0 (P.stmtsOf l') σ1 n1).path,
       ⟨l', σ1, n1, step + 1, cnt.bump l⟩ :: (runWith P hv ch f (step + 1) (cnt.bump l) l' 0 (P.stmtsOf l') σ1 n1).visits,
       (runWith P hv ch f (step + 1) (cnt.bump l) l' 0 (P.stmtsOf l') σ1 n1).fin⟩ := by
  simp only [runWith, h, hn]

/-- induction on a run: out of fuel, stopped inside the block, ended at the end of the block, or
    gone on to a successor -/
theorem runWith_induct (P : Prog) (hv : Nat → Var → Int) (ch : Chooser)
    {motive : Nat → Counts → Label → Nat → List Stmt → State → Nat → Trace → Prop}
    (zero : ∀ step cnt l i ss σ nh, motive step cnt l i ss σ nh ⟨[], [], [], .fuel⟩)
    (stop : ∀ step cnt l i ss σ nh t o, runStmts hv l i ss σ nh = (t, .stop o) →
      motive step cnt l i ss σ nh ⟨t, [], [], endOfStop t o⟩)
    (halt : ∀ step cnt l i ss σ nh t σ1 n1 e, runStmts hv l i ss σ nh = (t, .fall σ1 n1) →
      nextOf P ch step cnt l σ1 = .halt e → motive step cnt l i ss σ nh ⟨t, [], [], e⟩)
    (goto : ∀ step cnt l i ss σ nh t σ1 n1 l' r, runStmts hv l i ss σ nh = (t, .fall σ1 n1) →
      nextOf P ch step cnt l σ1 = .goto l' → motive (step + 1) (cnt.bump l) l' 0 (P.stmtsOf l') σ1 n1 r →
      motive step cnt l i ss σ nh
        ⟨t ++ r.evs, l' :: r.path, ⟨l', σ1, n1, step + 1, cnt.bump l⟩ :: r.visits, r.fin⟩) :
    ∀ f step cnt l i ss σ nh, motive step cnt l i ss σ nh (runWith P hv ch f step cnt l i ss σ nh) := by
  intro f
  induction f with
  | zero => intro step cnt l i ss σ nh; exact zero step cnt l i ss σ nh
  | succ f ih =>
    intro step cnt l i ss σ nh
    cases hr : runStmts hv l i ss σ nh with
    | mk t b =>
      cases b with
      | stop o => rw [runWith_stop hr]; exact stop _ _ _ _ _ _ _ _ _ hr
      | fall σ1 n1 =>
        cases hn : nextOf P ch step cnt l σ1 with
        | halt e => rw [runWith_halt hr hn]; exact halt _ _ _ _ _ _ _ _ _ _ _ hr hn
        | goto l' => rw [runWith_goto hr hn]; exact goto _ _ _ _ _ _ _ _ _ _ _ _ hr hn (ih _ _ _ _ _ _ _)

theorem runWith_evs (P : Prog) (hv : Nat → Var → Int) (ch : Chooser) (f step : Nat) (cnt : Counts) (l : Label)
    (i : Nat) (ss : List Stmt) (σ : State) (nh : Nat) :
    ∃ extra, (runWith P hv ch (f + 1) step cnt l i ss σ nh).evs = (runStmts hv l i ss σ nh).1 ++ extra := by
  cases hr : runStmts hv l i ss σ nh with
  | mk t b =>
    cases b with
    | stop o => rw [runWith_stop hr]; exact ⟨[], by simp⟩
    | fall σ1 n1 =>
      cases hn : nextOf P ch step cnt l σ1 with
      | halt e => rw [runWith_halt hr hn]; exact ⟨[], by simp⟩
      | goto l' => rw [runWith_goto hr hn]; exact ⟨_, rfl⟩

theorem nextOf_goto {P : Prog} {ch : Chooser} {step : Nat} {cnt : Counts} {l l' : Label} {σ : State}
    (h : nextOf P ch step cnt l σ = .goto l') :
    l' ∈ P.succsOf l ∧ P.isExit l = false ∧ l' = ch step (cnt.get l) l σ (P.succsOf l) := by
  unfold nextOf at h
  by_cases hex : P.isExit l = true
  · simp [hex] at h
  · simp only [hex, Bool.false_eq_true, if_false] at h
    by_cases hh : hugeState P.nvars σ = true
    · simp [hh] at h
    · simp only [hh, Bool.false_eq_true, if_false] at h
      cases hsc : P.succsOf l with
      | nil => rw [hsc] at h; simp at h
      | cons x xs =>
        rw [hsc] at h
        simp only at h
        split at h
        · rename_i hc
          simp only [Next.goto.injEq] at h
          rw [h] at hc
          exact ⟨List.contains_iff_mem.mp hc, by simpa using hex, h.symm⟩
        · cases h

theorem nextOf_halt {P : Prog} {ch : Chooser} {step : Nat} {cnt : Counts} {l : Label} {σ : State} {e : End}
    (h : nextOf P ch step cnt l σ = .halt e) :
    (e = .exit ∧ P.isExit l = true) ∨ e = .fuel ∨ (e = .sink ∧ P.isExit l = false ∧ P.succsOf l = []) := by
  unfold nextOf at h
  by_cases hex : P.isExit l = true
  · simp only [hex, if_true, Next.halt.injEq] at h; exact Or.inl ⟨h.symm, hex⟩
  · simp only [hex, Bool.false_eq_true, if_false] at h
    by_cases hh : hugeState P.nvars σ = true
    · simp only [hh, if_true, Next.halt.injEq] at h; exact Or.inr (Or.inl h.symm)
    · simp only [hh, Bool.false_eq_true, if_false] at h
      cases hsc : P.succsOf l with
      | nil =>
        rw [hsc] at h
        simp only [Next.halt.injEq] at h
        exact Or.inr (Or.inr ⟨h.symm, by simpa using hex, rfl⟩)
      | cons x xs =>
        rw [hsc] at h
        simp only at h
        split at h
        · cases h
        · simp only [Next.halt.injEq] at h; exact Or.inr (Or.inl h.symm)

theorem nextOf_halt_goto {P : Prog} {ch1 ch2 : Chooser} {step : Nat} {cnt : Counts} {l l' : Label} {σ1 σ2 : State}
    {e : End} (h1 : nextOf P ch1 step cnt l σ1 = .halt e) (h2 : nextOf P ch2 step cnt l σ2 = .goto l') : e = .fuel := by
  obtain ⟨hm, hex, _⟩ := nextOf_goto h2
  rcases nextOf_halt h1 with ⟨_, hx⟩ | h | ⟨_, _, hs⟩
  · rw [hex] at hx; cases hx
  · exact h
  · rw [hs] at hm; cases hm

/-- the judgement `differCtrl` of the model as a function of the two kinds and the two outcome
    sequences (`differCtrl_eq`) -/
def differK (k1 k2 : RunKind) (s1 s2 : List Bool) : Bool :=
  match k1, k2 with
  | .infeasible, _ => false
  | _, .infeasible => false
  | .complete, .complete => s1 != s2
  | .complete, .cut => conflict s1 s2 || decide (s2.length > s1.length)
  | .cut, .complete => conflict s1 s2 || decide (s1.length > s2.length)
  | .cut, .cut => conflict s1 s2

theorem differCtrl_eq (a : AId) (t1 t2 : Trace) :
    differCtrl a t1 t2 = differK (kindOfEnd a t1.fin) (kindOfEnd a t2.fin) (aSeq a t1.evs) (aSeq a t2.evs) := by
  unfold differCtrl differK
  rfl

theorem differK_same (k1 k2 : RunKind) (s : List Bool) : differK k1 k2 s s = false := by
  cases k1 <;> cases k2 <;> simp [differK, conflict_self]

theorem differK_prefix_l {k1 k2 : RunKind} {s1 s2 : List Bool} (h : s1 <+: s2) (hk : k1 ≠ .complete) :
    differK k1 k2 s1 s2 = false := by
  have hc : conflict s1 s2 = false := by obtain ⟨t, rfl⟩ := h; exact conflict_append_left _ _
  have hl := h.length_le
  cases k1 <;> cases k2 <;> simp [differK, hc] at hk ⊢
  omega

theorem differK_prefix_r {k1 k2 : RunKind} {s1 s2 : List Bool} (h : s2 <+: s1) (hk : k2 ≠ .complete) :
    differK k1 k2 s1 s2 = false := by
  have hc : conflict s1 s2 = false := by obtain ⟨t, rfl⟩ := h; exact conflict_append_right _ _
  have hl := h.length_le
  cases k1 <;> cases k2 <;> simp [differK, hc] at hk ⊢
  omega

theorem differK_append (k1 k2 : RunKind) (p s1 s2 : List Bool) :
    differK k1 k2 (p ++ s1) (p ++ s2) = differK k1 k2 s1 s2 := by
  have hne : (p ++ s1 != p ++ s2) = (s1 != s2) := by
    cases h : (s1 != s2) with
    | true =>
      have : s1 ≠ s2 := by simpa using h
      simpa using this
    | false =>
      have : s1 = s2 := by simpa using h
      simp [this]
  cases k1 <;> cases k2 <;> simp [differK, conflict_append_common, hne]

theorem firstDiff_shift : ∀ (as bs : List Label) (k : Nat), firstDiff as bs (k + 1) = (firstDiff as bs k).map (· + 1)
  | [], _, _ => by simp [firstDiff]
  | _ :: _, [], _ => by simp [firstDiff]
  | a :: as, b :: bs, k => by
    simp only [firstDiff]
    split
    · exact firstDiff_shift as bs (k + 1)
    · rfl

theorem firstDiff_lt : ∀ (as bs : List Label) (k j : Nat), firstDiff as bs k = some j → k ≤ j ∧ j - k < as.length
  | [], _, _, _ => by simp [firstDiff]
  | _ :: _, [], _, _ => by simp [firstDiff]
  | a :: as, b :: bs, k, j => by
    simp only [firstDiff]
    split
    · intro h
      have := firstDiff_lt as bs (k + 1) j h
      simp only [List.length_cons]
      omega
    · intro h
      simp only [Option.some.injEq] at h
      subst h
      simp

/-- `detDivergence` of the model with the test at the block where the two paths part as a
    parameter (`detDivergence_eq`), so that it can be followed along the paths (`partsAt_cons_same`,
    `partsAt_cons_diff`) and instantiated with "never" for runs that follow the same path -/
def partsAt (D : Label → State → State → Bool) (l : Label) (p1 p2 : List Label) (vs1 vs2 : List Visit) : Bool :=
  match firstDiff p1 p2 0 with
  | none => true
  | some j =>
    match vs1[j]?, vs2[j]? with
    | some v1, some v2 => D (if j == 0 then l else p1.getD (j - 1) l) v1.σ v2.σ
    | _, _ => false

theorem detDivergence_eq (P : Prog) (l : Label) (t1 t2 : Trace) :
    detDivergence P l t1 t2 =
      partsAt (fun d σ1 σ2 => (feasibleSuccs P d σ1).length == 1 && (feasibleSuccs P d σ2).length == 1)
        l t1.path t2.path t1.visits t2.visits := rfl

section
variable (D : Label → State → State → Bool)

theorem partsAt_of_none {l : Label} {p1 p2 : List Label} (vs1 vs2 : List Visit) (h : firstDiff p1 p2 0 = none) :
    partsAt D l p1 p2 vs1 vs2 = true := by
  simp [partsAt, h]

theorem partsAt_nil_left (l : Label) (p2 : List Label) (vs1 vs2 : List Visit) : partsAt D l [] p2 vs1 vs2 = true :=
  partsAt_of_none D vs1 vs2 (by simp [firstDiff])

theorem partsAt_nil_right (l : Label) (p1 : List Label) (vs1 vs2 : List Visit) : partsAt D l p1 [] vs1 vs2 = true :=
  partsAt_of_none D vs1 vs2 (by cases p1 <;> simp [firstDiff])

theorem partsAt_cons_same (l l' : Label) (p1 p2 : List Label) (v1 v2 : Visit) (vs1 vs2 : List Visit) :
    partsAt D l (l' :: p1) (l' :: p2) (v1 :: vs1) (v2 :: vs2) = partsAt D l' p1 p2 vs1 vs2 := by
  unfold partsAt
  simp only [firstDiff, beq_self_eq_true, if_true, Nat.zero_add]
  rw [firstDiff_shift p1 p2 0]
  cases hf : firstDiff p1 p2 0 with
  | none => rfl
  | some j =>
    simp only [Option.map_some, Nat.add_eq_zero_iff, Nat.succ_ne_self, and_false, beq_iff_eq,
      if_false, Nat.add_sub_cancel, List.getElem?_cons_succ]
    have hlt := (firstDiff_lt p1 p2 0 j hf).2
    simp only [Nat.sub_zero] at hlt
    have hd : (l' :: p1).getD j l = if j = 0 then l' else p1.getD (j - 1) l' := by
      cases j with
      | zero => simp
      | succ j0 =>
        have hj0 : j0 < p1.length := by omega
        simp [List.getD_eq_getElem?_getD, List.getElem?_eq_getElem hj0]
    rw [hd]

theorem partsAt_cons_diff (l l1 l2 : Label) (hne : l1 ≠ l2) (p1 p2 : List Label) (v1 v2 : Visit)
    (vs1 vs2 : List Visit) :
    partsAt D l (l1 :: p1) (l2 :: p2) (v1 :: vs1) (v2 :: vs2) = D l v1.σ v2.σ := by
  have hb : (l1 == l2) = false := by simpa using hne
  simp [partsAt, firstDiff, hb]

end

abbrev runB (P : Prog) (hv : Nat → Var → Int) (ch : Chooser) (f step : Nat) (cnt : Counts) (l : Label)
    (σ : State) (nh : Nat) : Trace :=
  runWith P hv ch f step cnt l 0 (P.stmtsOf l) σ nh

/-- TWO RUNS IN LOCKSTEP, each with its own chooser, from states related by `BlockInv`.  `hdiv`:
    whenever the choosers answer different successors at the end of a block that passes the test
    `D`, the two continuations do not differ for `a`.  Then two runs that part (if at all) at a block
    that passes `D` do not differ for `a`.  Nothing about the choosers is carried through the
    induction: that a run takes a given path is a fact about that run alone (`run_follows`). -/
theorem lockstep {P : Prog} {F : Label → Facts} {a : AId} {c0 : Cst} (hsol : isDataSol P F = true)
    (hm : (a, c0) ∈ P.asserts) (hv : Nat → Var → Int) (ch1 ch2 : Chooser) (D : Label → State → State → Bool)
    (hdiv : ∀ d s1 s2 σ1 σ2 step n, s1 ∈ P.succsOf d → s2 ∈ P.succsOf d → s1 ≠ s2 →
      s1 = ch1 step n d σ1 (P.succsOf d) → s2 = ch2 step n d σ2 (P.succsOf d) →
      (∀ l', l' ∈ P.succsOf d → agreeOn ((F l').get a) σ1 σ2) → D d σ1 σ2 = true →
      ∀ f step' cnt' nh,
        differK ((runB P hv ch1 f step' cnt' s1 σ1 nh).kind a) ((runB P hv ch2 f step' cnt' s2 σ2 nh).kind a)
          (aSeq a (runB P hv ch1 f step' cnt' s1 σ1 nh).evs) (aSeq a (runB P hv ch2 f step' cnt' s2 σ2 nh).evs) = false) :
    ∀ (f step : Nat) (cnt : Counts) (l : Label) (i : Nat) (ss : List Stmt) (σ1 σ2 : State) (nh : Nat),
      BlockInv P F a l i ss σ1 σ2 →
      (partsAt D l (runWith P hv ch1 f step cnt l i ss σ1 nh).path (runWith P hv ch2 f step cnt l i ss σ2 nh).path
          (runWith P hv ch1 f step cnt l i ss σ1 nh).visits (runWith P hv ch2 f step cnt l i ss σ2 nh).visits &&
        differCtrl a (runWith P hv ch1 f step cnt l i ss σ1 nh) (runWith P hv ch2 f step cnt l i ss σ2 nh)) = false := by
  intro f
  induction f with
  | zero =>
    intro step cnt l i ss σ1 σ2 nh _
    simp [runWith, differCtrl_eq, kindOfEnd, Trace.kind, differK, conflict, aSeq]
  | succ f ih =>
    intro step cnt l i ss σ1 σ2 nh hinv
    have hrel := runStmts_rel P F a hv l ss i σ1 σ2 nh hinv
    obtain ⟨x1, hx1⟩ := runWith_evs P hv ch1 f step cnt l i ss σ1 nh
    obtain ⟨x2, hx2⟩ := runWith_evs P hv ch2 f step cnt l i ss σ2 nh
    rw [differCtrl_eq]
    cases hr1 : runStmts hv l i ss σ1 nh with
    | mk t1 b1 =>
      cases hr2 : runStmts hv l i ss σ2 nh with
      | mk t2 b2 =>
        rw [hr1, hr2] at hrel
        rw [hr1] at hx1
        rw [hr2] at hx2
        simp only at hx1 hx2
        cases b1 with
        | stop o1 =>
          rw [hx2, runWith_stop hr1]
          simp only [partsAt_nil_left, Bool.true_and]
          show differK (stopKind a t1 o1) _ (aSeq a t1) _ = false
          cases b2 with
          | stop o2 =>
            rw [runWith_stop hr2] at hx2 ⊢
            simp only at hx2
            have : x2 = [] := by simpa using hx2.symm
            subst this
            simp only [List.append_nil]
            show differK (stopKind a t1 o1) (stopKind a t2 o2) (aSeq a t1) (aSeq a t2) = false
            rcases hrel with h | h | h
            · rw [h]; exact differK_same _ _ _
            · exact differK_prefix_l h.1 h.2
            · exact differK_prefix_r h.1 h.2
          | fall σ2' n2 =>
            rw [aSeq_append]
            exact differK_prefix_l (List.IsPrefix.trans hrel.1 (List.prefix_append _ _)) hrel.2
        | fall σ1' n1 =>
          cases b2 with
          | stop o2 =>
            rw [hx1, runWith_stop hr2]
            simp only [partsAt_nil_right, Bool.true_and]
            show differK _ (stopKind a t2 o2) _ (aSeq a t2) = false
            rw [aSeq_append]
            exact differK_prefix_r (List.IsPrefix.trans hrel.1 (List.prefix_append _ _)) hrel.2
          | fall σ2' n2 =>
            obtain ⟨hseq, hn, hend⟩ := hrel
            subst hn
            cases hn1 : nextOf P ch1 step cnt l σ1' with
            | halt e1 =>
              rw [runWith_halt hr1 hn1]
              simp only [partsAt_nil_left, Bool.true_and]
              cases hn2 : nextOf P ch2 step cnt l σ2' with
              | halt e2 =>
                rw [runWith_halt hr2 hn2]
                simp only
                rw [hseq]
                exact differK_same _ _ _
              | goto l2 =>
                have he := nextOf_halt_goto hn1 hn2
                subst he
                rw [hx2, aSeq_append, hseq]
                exact differK_prefix_l (List.prefix_append _ _) (by simp [kindOfEnd, Trace.kind])
            | goto l1 =>
              cases hn2 : nextOf P ch2 step cnt l σ2' with
              | halt e2 =>
                have he := nextOf_halt_goto hn2 hn1
                subst he
                rw [runWith_halt hr2 hn2]
                simp only [partsAt_nil_right, Bool.true_and]
                rw [hx1, aSeq_append, hseq]
                exact differK_prefix_r (List.prefix_append _ _) (by simp [kindOfEnd, Trace.kind])
              | goto l2 =>
                rw [runWith_goto hr1 hn1, runWith_goto hr2 hn2]
                simp only [aSeq_append, hseq]
                rw [differK_append]
                obtain ⟨hm1, _, hc1⟩ := nextOf_goto hn1
                obtain ⟨hm2, _, hc2⟩ := nextOf_goto hn2
                by_cases hll : l1 = l2
                · subst hll
                  rw [partsAt_cons_same]
                  have := ih (step + 1) (cnt.bump l) l1 0 (P.stmtsOf l1) σ1' σ2' n1
                    (BlockInv_entry hsol hm l1 σ1' σ2' (hend l1 hm1))
                  rw [differCtrl_eq] at this
                  exact this
                · rw [partsAt_cons_diff D l l1 l2 hll]
                  cases hdet : D l σ1' σ2' with
                  | false => rfl
                  | true => exact hdiv l l1 l2 σ1' σ2' step (cnt.get l) hm1 hm2 hll hc1 hc2 hend hdet f _ _ n1

/-- a run whose chooser answers the blocks of `π` follows `π` -/
theorem run_follows (P : Prog) (hv : Nat → Var → Int) (ch : Chooser) :
    ∀ (f step : Nat) (cnt : Counts) (l : Label) (i : Nat) (ss : List Stmt) (σ : State) (nh : Nat) (π : List Label),
      (∀ k x, π[k]? = some x → ∀ n l'' σ'' sc, ch (step + k) n l'' σ'' sc = x) →
      firstDiff π (runWith P hv ch f step cnt l i ss σ nh).path 0 = none := by
  refine runWith_induct P hv ch (motive := fun step _ _ _ _ _ _ r => ∀ π : List Label,
    (∀ k x, π[k]? = some x → ∀ n l'' σ'' sc, ch (step + k) n l'' σ'' sc = x) → firstDiff π r.path 0 = none) ?_ ?_ ?_ ?_
  · intro _ _ _ _ _ _ _ π _; cases π <;> rfl
  · intro _ _ _ _ _ _ _ _ _ _ π _; cases π <;> rfl
  · intro _ _ _ _ _ _ _ _ _ _ _ _ _ π _; cases π <;> rfl
  · intro step cnt l _ _ _ _ _ σ1 _ l' r _ hn ih π hch
    cases π with
    | nil => rfl
    | cons y rest =>
      obtain rfl : l' = y := (nextOf_goto hn).2.2.trans (hch 0 y rfl _ _ _ _)
      simp only [firstDiff, beq_self_eq_true, if_true, Nat.zero_add]
      rw [firstDiff_shift, ih rest (fun k x hk => by have := hch (k + 1) x hk; rwa [← Nat.add_assoc, Nat.add_right_comm] at this)]
      rfl

theorem pathChooser_spec (step0 : Nat) (path : List Label) (k : Nat) (x : Label) (h : path[k]? = some x) :
    ∀ n l'' σ'' sc, pathChooser step0 path (step0 + k) n l'' σ'' sc = x := by
  intro n l'' σ'' sc
  simp [pathChooser, h]

/-- a difference in the judgement of the data-only mode is one in the judgement with control
    dependences -/
theorem differData_le {a : AId} {t1 t2 : Trace} : differData a t1 t2 = true → differCtrl a t1 t2 = true := by
  unfold differData differCtrl
  cases t1.kind a <;> cases t2.kind a
  case complete.complete => exact fun hc => bne_iff_ne.mpr fun e => by rw [e, conflict_self] at hc; cases hc
  case complete.cut => exact fun hc => (Bool.or_eq_true _ _).mpr (Or.inl hc)
  case cut.complete => exact fun hc => (Bool.or_eq_true _ _).mpr (Or.inl hc)
  all_goals exact id

/-- for every solution of the data-dependence inequations: a variable that is not listed for
    an assertion at the entry of a block is not relevant there through data dependences -/
theorem not_relevantData (P : Prog) (F : Label → Facts) (hsol : isDataSol P F = true) (a : AId) (c0 : Cst)
    (hm : (a, c0) ∈ P.asserts) (l : Label) (x : Var) (hx : x ∉ (F l).get a) : ¬ RelevantData P a l 0 x := by
  rintro ⟨σ, v, hv, prio, fuel, h⟩
  simp only [runFrom, List.drop_zero] at h
  -- the runs never part: `D` = never, and the hypothesis about parting runs is void
  have := lockstep hsol hm hv (schedChooser P prio)
    (pathChooser 0 (runWith P hv (schedChooser P prio) fuel 0 [] l 0 (P.stmtsOf l) σ 0).path) (fun _ _ _ => false)
    (fun _ _ _ _ _ _ _ _ _ _ _ _ _ hD => nomatch hD) fuel 0 [] l 0 (P.stmtsOf l) σ (σ.set x v) 0
    (BlockInv_entry hsol hm l σ (σ.set x v) (State.agree_set hx σ v))
  have hf := run_follows P hv _ fuel 0 [] l 0 (P.stmtsOf l) (σ.set x v) 0 _
    (pathChooser_spec 0 (runWith P hv (schedChooser P prio) fuel 0 [] l 0 (P.stmtsOf l) σ 0).path)
  rw [partsAt_of_none _ _ _ hf, differData_le h] at this
  cases this

end TIR
end Crab
