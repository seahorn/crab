import CrabProofs.Lemmas.FunctorProduct

/-!
Transformers of `reduced_domain_product2` / `reduced_numerical_domain_product2`, the invariant
`Prod2.WF`, the lower-bound properties of meet / narrowing, canonical bottom.
-/
namespace Crab
namespace Dom
namespace Fct

variable {S : Type}

namespace Prod2
variable {D1 D2 : LDom S}

/-- the law of the reduction hook: it keeps every state of the meet of the two components -/
def RedSound {V : Type} (red : V → D1.B → D2.B → D1.B × D2.B) : Prop :=
  ∀ v a b s, D1.γ a s → D2.γ b s → D1.γ (red v a b).1 s ∧ D2.γ (red v a b).2 s

/-- ... and it only removes states (needed for precision statements only) -/
def RedLower {V : Type} (red : V → D1.B → D2.B → D1.B × D2.B) : Prop :=
  ∀ v a b s, D1.γ (red v a b).1 s → D2.γ (red v a b).2 s → D1.γ a s ∧ D2.γ b s

theorem γ_reduce (p : Prod2 D1 D2) (s : S) : p.reduce.γ s ↔ p.γ s := by
  unfold reduce
  simp only
  split
  · rename_i hb
    constructor
    · intro h; exact absurd h (not_γ_setBottom _ s)
    · intro h
      have := (γ_canonicalize p s).2 h
      exact absurd this.2.1 (D1.isBot_sound _ _ hb)
  · split
    · rename_i hb
      constructor
      · intro h; exact absurd h (not_γ_setBottom _ s)
      · intro h
        have := (γ_canonicalize _ s).2 ((γ_canonicalize p s).2 h)
        exact absurd this.2.2 (D2.isBot_sound _ _ hb)
    · rw [γ_canonicalize, γ_canonicalize]

theorem onFirst_γ {f : D1.B → D1.B} {p : Prod2 D1 D2} {s s' : S} (hg : p.γ s)
    (h1 : D1.γ (f p.fst) s') (h2 : D2.γ p.snd s') : (onFirst f p).γ s' := by
  unfold onFirst
  rw [canonicalize_of_γ hg]
  exact ⟨hg.1, h1, h2⟩

theorem onSecond_γ {f : D2.B → D2.B} {p : Prod2 D1 D2} {s s' : S} (hg : p.γ s)
    (h1 : D1.γ p.fst s') (h2 : D2.γ (f p.snd) s') : (onSecond f p).γ s' := by
  unfold onSecond
  rw [canonicalize_of_γ hg]
  exact ⟨hg.1, h1, h2⟩

/-- `op` with pointwise facts about the two component results -/
theorem op_γ (m : Meth) {f1 : D1.B → D1.B} {f2 : D2.B → D2.B} {p : Prod2 D1 D2} {s s' : S} (hg : p.γ s)
    (h1 : D1.γ (f1 p.fst) s') (h2 : D2.γ (f2 p.snd) s') : (op m f1 f2 p).γ s' := by
  -- the state after `first().m(..)` is only an intermediate one: `s'` for the first component, `s` for the second
  have hb : (onSecond f2 (onFirst f1 p)).γ s' := by
    have e1 : onFirst f1 p = { p with fst := f1 p.fst } := by
      unfold onFirst; rw [canonicalize_of_γ hg]
    have e2 : ({ p with fst := f1 p.fst } : Prod2 D1 D2).canonicalize = { p with fst := f1 p.fst } :=
      canonicalize_eq_self hg.1 (D1.isBot_false_of_γ h1) (D2.isBot_false_of_γ hg.2.2)
    rw [e1]; unfold onSecond; rw [e2]
    exact ⟨hg.1, h1, h2⟩
  unfold op
  simp only
  split
  · exact (γ_reduce _ s').2 hb
  · exact hb

theorem op_sound (m : Meth) {f1 : D1.B → D1.B} {f2 : D2.B → D2.B} {r : S → S → Prop}
    (h1 : D1.TSound f1 r) (h2 : D2.TSound f2 r) {p : Prod2 D1 D2} {s s' : S} (hg : p.γ s) (hr : r s s') :
    (op m f1 f2 p).γ s' := op_γ m hg (h1 _ _ _ hg.2.1 hr) (h2 _ _ _ hg.2.2 hr)

variable {V : Type} (P : NParams) (red : V → D1.B → D2.B → D1.B × D2.B)

theorem reduceVariable_sound (hred : RedSound red) (v : V) {p : Prod2 D1 D2} {s : S} (hg : p.γ s) : (reduceVariable P red v p).γ s := by
  unfold reduceVariable
  split
  · simp only
    rw [canonicalize_of_γ hg, canonicalize_of_γ hg]
    exact ⟨hg.1, hred v _ _ s hg.2.1 hg.2.2⟩
  · exact hg

/-- what `reduce_variable` keeps, the loop of `+=` keeps -/
theorem reduceVars_ind (Q : Prod2 D1 D2 → Prop)
    (hv : ∀ v q, Q q → Q (reduceVariable P red v q)) (vs : List V) {p : Prod2 D1 D2} (h : Q p) :
    Q (reduceVars P red vs p) := by
  induction vs generalizing p with
  | nil => exact h
  | cons v vs ih =>
    unfold reduceVars
    simp only
    split
    · exact hv v p h
    · exact ih (hv v p h)

/-- a transformer of `reduced_numerical_domain_product2` is the transformer of
    `reduced_domain_product2` followed by calls of `reduce_variable` -/
theorem nop_ind (Q : Prod2 D1 D2 → Prop)
    (hv : ∀ v q, Q q → Q (reduceVariable P red v q)) (m : NMeth) (f1 : D1.B → D1.B) (f2 : D2.B → D2.B)
    (vs : List V) {p : Prod2 D1 D2} (h : Q (op m.toMeth f1 f2 p)) : Q (nop P red m f1 f2 vs p) := by
  have h1 : Q (if !P.onlyAddConstraint then
      (match vs with | v :: _ => reduceVariable P red v (op m.toMeth f1 f2 p) | [] => op m.toMeth f1 f2 p)
      else op m.toMeth f1 f2 p) := by
    split
    · cases vs with
      | nil => exact h
      | cons v _ => exact hv v _ h
    · exact h
  have h2 : Q (if !(op m.toMeth f1 f2 p).isBottom then reduceVars P red vs (op m.toMeth f1 f2 p)
      else op m.toMeth f1 f2 p) := by
    split
    · exact reduceVars_ind P red Q hv vs h
    · exact h
  cases m with
  | assign | weakAssign | apply | select | cast | bitwise => exact h1
  | addCsts => exact h2
  | _ => exact h

theorem nop_sound (hred : RedSound red)
    (m : NMeth) {f1 : D1.B → D1.B} {f2 : D2.B → D2.B} {r : S → S → Prop}
    (h1 : D1.TSound f1 r) (h2 : D2.TSound f2 r) (vs : List V) {p : Prod2 D1 D2} {s s' : S}
    (hg : p.γ s) (hr : r s s') : (nop P red m f1 f2 vs p).γ s' :=
  nop_ind P red (·.γ s') (fun v _ => reduceVariable_sound P red hred v) m f1 f2 vs (op_sound m.toMeth h1 h2 hg hr)

/-! ### the invariant `WF` -/

theorem wf_of_not_isBot {p : Prod2 D1 D2} (h : p.isBot = false) : p.WF := fun hb => by simp [h] at hb

theorem wf_setBottom (p : Prod2 D1 D2) : p.setBottom.WF := fun _ => ⟨D1.bot_sound, D2.bot_sound⟩
theorem wf_setTop (p : Prod2 D1 D2) : p.setTop.WF := wf_of_not_isBot rfl

theorem wf_canonicalize {p : Prod2 D1 D2} (h : p.WF) : p.canonicalize.WF := by
  unfold canonicalize
  split
  · split
    · exact fun _ => ⟨D1.bot_sound, D2.bot_sound⟩
    · exact h
  · exact h

theorem wf_mk' (a : D1.B) (b : D2.B) (r : Bool) : (mk' a b r : Prod2 D1 D2).WF := by
  unfold mk'
  split
  · exact wf_canonicalize (wf_of_not_isBot rfl)
  · exact wf_of_not_isBot rfl

theorem wf_top : (top : Prod2 D1 D2).WF := wf_mk' _ _ _
theorem wf_bottom : (bottom : Prod2 D1 D2).WF := wf_mk' _ _ _

theorem wf_join {p q : Prod2 D1 D2} (hp : p.WF) (hq : q.WF) : (join p q).WF :=
  binop_cases WF (fun _ => hq) (fun _ _ => hp) fun _ _ => wf_mk' _ _ _

theorem wf_joinEq {p q : Prod2 D1 D2} (hp : p.WF) (hq : q.WF) : (joinEq p q).WF :=
  binop_cases WF (fun _ => hq) (fun _ _ => hp) fun hb _ =>
    wf_of_not_isBot (isBot_false_of_not_isBottom (p := p) hb)

theorem wf_widenWith (w1 : D1.B → D1.B → D1.B) (w2 : D2.B → D2.B → D2.B) (p q : Prod2 D1 D2) :
    (widenWith w1 w2 p q).WF := wf_mk' _ _ _

theorem wf_meet {p q : Prod2 D1 D2} (hp : p.WF) (hq : q.WF) : (meet p q).WF :=
  binop_cases WF (fun _ => hp) (fun _ _ => hq) fun _ _ => wf_mk' _ _ _

theorem wf_narrow {p q : Prod2 D1 D2} (hp : p.WF) (hq : q.WF) : (narrow p q).WF :=
  binop_cases WF (fun _ => hp) (fun _ _ => hq) fun _ _ => wf_mk' _ _ _

theorem wf_meetEq {p q : Prod2 D1 D2} (hp : p.WF) (hq : q.WF) : (meetEq p q).WF :=
  binop_cases WF (fun _ => hp) (fun _ _ => hq) fun hb _ =>
    wf_of_not_isBot (isBot_false_of_not_isBottom (p := p) hb)

theorem wf_onFirst {f : D1.B → D1.B} (hf : D1.Strict f) {p : Prod2 D1 D2} (h : p.WF) : (onFirst f p).WF := by
  unfold onFirst
  intro hb
  have := wf_canonicalize h hb
  exact ⟨hf _ this.1, this.2⟩

theorem wf_onSecond {f : D2.B → D2.B} (hf : D2.Strict f) {p : Prod2 D1 D2} (h : p.WF) : (onSecond f p).WF := by
  unfold onSecond
  intro hb
  have := wf_canonicalize h hb
  exact ⟨this.1, hf _ this.2⟩

theorem wf_reduce {p : Prod2 D1 D2} (h : p.WF) : p.reduce.WF := by
  unfold reduce
  simp only
  split
  · exact wf_setBottom _
  · split
    · exact wf_setBottom _
    · exact wf_canonicalize (wf_canonicalize h)

theorem wf_op (m : Meth) {f1 : D1.B → D1.B} {f2 : D2.B → D2.B} (h1 : D1.Strict f1) (h2 : D2.Strict f2)
    {p : Prod2 D1 D2} (h : p.WF) : (op m f1 f2 p).WF := by
  unfold op
  simp only
  split
  · exact wf_reduce (wf_onSecond h2 (wf_onFirst h1 h))
  · exact wf_onSecond h2 (wf_onFirst h1 h)

theorem wf_reduceVariable (v : V)
    {p : Prod2 D1 D2} (h : p.WF) : (reduceVariable P red v p).WF := by
  unfold reduceVariable
  split
  · rename_i hc
    simp only [Bool.and_eq_true, Bool.not_eq_true'] at hc
    simp only
    rw [canonicalize_of_not_isBottom hc.1, canonicalize_of_not_isBottom hc.1]
    exact wf_of_not_isBot (isBot_false_of_not_isBottom (p := p) (by rw [hc.1]; decide))
  · exact h

theorem wf_nop (m : NMeth)
    {f1 : D1.B → D1.B} {f2 : D2.B → D2.B} (h1 : D1.Strict f1) (h2 : D2.Strict f2) (vs : List V)
    {p : Prod2 D1 D2} (h : p.WF) : (nop P red m f1 f2 vs p).WF :=
  nop_ind P red WF (fun v _ => wf_reduceVariable P red v) m f1 f2 vs (wf_op m.toMeth h1 h2 h)

/-! ### precision: `is_top`, lower-bound property of `&` / `&&` (on well-formed values when the
components have them), canonical bottom -/

/-- `is_top()` does not read `m_is_bottom`: it is right on well-formed values -/
theorem γ_of_isTop (t1 : D1.TopSound) (t2 : D2.TopSound) {p : Prod2 D1 D2} (hw : p.WF)
    (h : p.isTop = true) (s : S) : p.γ s := by
  unfold isTop at h
  simp only [Bool.and_eq_true] at h
  have g1 := t1 _ s h.1
  have g2 := t2 _ s h.2
  refine ⟨?_, g1, g2⟩
  cases hb : p.isBot
  · rfl
  · exact absurd g1 ((hw hb).1 s)

/-- the early answers of `&`, `&&`: an operand is returned when the other one is top -/
theorem γ_of_or_isTop (t1 : D1.TopSound) (t2 : D2.TopSound) {p q : Prod2 D1 D2} (hq : q.WF) {s : S}
    (h : p.γ s) (hc : (p.isBottom || q.isTop) = true) : q.γ s :=
  (Bool.or_eq_true _ _ ▸ hc).elim (fun hc => absurd h (not_γ_of_isBottom hc s)) (fun hc => γ_of_isTop t1 t2 hq hc s)

theorem meet_lower (m1 : D1.MeetLower) (m2 : D2.MeetLower) (t1 : D1.TopSound) (t2 : D2.TopSound)
    {p q : Prod2 D1 D2} (hp : p.WF) (hq : q.WF) {s : S} (h : (meet p q).γ s) : p.γ s ∧ q.γ s := by
  unfold meet at h
  split at h
  · rename_i hc; exact ⟨h, γ_of_or_isTop t1 t2 hq h hc⟩
  · rename_i hc1
    split at h
    · rename_i hc; exact ⟨γ_of_or_isTop t1 t2 hp h hc, h⟩
    · rename_i hc2
      rw [Bool.or_eq_true, not_or] at hc1 hc2
      rw [γ_mk'] at h
      have a := m1 _ _ s h.1
      have b := m2 _ _ s h.2
      exact ⟨⟨isBot_false_of_not_isBottom hc1.1, a.1, b.1⟩, ⟨isBot_false_of_not_isBottom hc2.1, a.2, b.2⟩⟩

theorem narrow_lower (n1 : D1.NarrowLower) (n2 : D2.NarrowLower) (t1 : D1.TopSound) (t2 : D2.TopSound)
    {p q : Prod2 D1 D2} (hp : p.WF) {s : S} (h : (narrow p q).γ s) : p.γ s := by
  unfold narrow at h
  split at h
  · exact h
  · rename_i hc1
    split at h
    · rename_i hc; exact γ_of_or_isTop t1 t2 hp h hc
    · rw [Bool.or_eq_true, not_or] at hc1
      rw [γ_mk'] at h
      exact ⟨isBot_false_of_not_isBottom hc1.1, n1 _ _ s h.1, n2 _ _ s h.2⟩

/-! ### canonical bottom -/

theorem canonicalize_isBot (p : Prod2 D1 D2) :
    p.canonicalize.isBot = (p.isBot || D1.isBot p.fst || D2.isBot p.snd) := by
  unfold canonicalize
  cases h0 : p.isBot <;> cases h1 : D1.isBot p.fst <;> cases h2 : D2.isBot p.snd <;> simp_all

theorem canonicalize_of_component_bottom {p : Prod2 D1 D2} (h0 : p.isBot = false)
    (h : D1.isBot p.fst = true ∨ D2.isBot p.snd = true) : p.canonicalize = ⟨true, D1.bot, D2.bot⟩ := by
  unfold canonicalize
  rcases h with h | h <;> simp [h0, h]

theorem canonicalize_isBottom (p : Prod2 D1 D2) : p.canonicalize.isBot = p.isBottom := by
  rw [canonicalize_isBot]
  unfold isBottom
  cases h0 : p.isBot <;> simp

theorem canonicalize_idem (p : Prod2 D1 D2) : p.canonicalize.canonicalize = p.canonicalize := by
  cases h : p.canonicalize.isBot
  · -- flag clear: nothing was bottom
    have h' := h
    rw [canonicalize_isBot] at h'
    simp only [Bool.or_eq_false_iff] at h'
    have e : p.canonicalize = p := canonicalize_eq_self h'.1.1 h'.1.2 h'.2
    rw [e, e]
  · unfold canonicalize at h ⊢
    simp only [h, Bool.not_true, Bool.false_eq_true, if_false]

end Prod2
end Fct
end Dom
end Crab
