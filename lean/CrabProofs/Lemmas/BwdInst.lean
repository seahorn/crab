import CrabModel.Bwd.BwdInst
import CrabProofs.Lemmas.BwdGeneric
import CrabProofs.Lemmas.LinExpr
import CrabProofs.Lemmas.IDomOps

/-!
  Generic part of the instantiation of C11 on the exact domain models:
  * the `linear_expression` / `linear_constraint` objects of a `bwd` program mean the same and
    are canonical;
  * `freshFor` is fresh;
  * `withGenBwd_sound`: a record whose forward operations are sound and whose backward operations
    are `BackwardAssignOps` over them satisfies the whole contract `BDomSound` (the two backward
    fields by `genBwdAssign_sound` / `genBwdApply_sound`, which ask of `rename` only what
    `BackwardAssignOps` uses: the target has just been forgotten);
  * `withForgetBwd_sound`: the same for "forget x, meet with the invariant".
-/
namespace Crab
namespace Bwd

theorem evalTerms_pairs (ts : List (Int × Var)) (σ : State) :
    Crab.Lin.Expr.evalTerms σ (ts.map (fun t => (t.2, t.1))) = evalTerms ts σ := by
  induction ts with
  | nil => rfl
  | cons t ts ih =>
    obtain ⟨k, v⟩ := t
    simp only [List.map, Crab.Lin.Expr.evalTerms, evalTerms, ih]

theorem Lin.toExpr_eval (e : Lin) (σ : State) : e.toExpr.eval σ = e.eval σ := by
  unfold Lin.toExpr
  rw [Crab.Lin.Expr.eval_add]
  simp only [Crab.Lin.Expr.eval, Crab.Lin.Expr.const, Crab.Lin.Expr.evalTerms, Lin.pairs,
    evalTerms_pairs, Lin.eval]
  omega

theorem Lin.toExpr_canonical (e : Lin) : e.toExpr.Canonical :=
  Crab.Lin.Expr.canonical_add _ (Crab.Lin.Expr.canonical_const e.c)

theorem Cst.toLin_sat (c : Cst) (σ : State) : c.toLin.sat σ ↔ c.holds σ := by
  obtain ⟨k, e⟩ := c
  cases k <;> simp [Cst.toLin, CKind.toLin, Crab.Lin.Cst.sat, Cst.holds, Lin.toExpr_eval]

/-- the condition of a `select` read on the `linear_constraint` object -/
theorem select_cond (c : Cst) (σ : State) (u v : Int) :
    (if c.toLin.sat σ then u else v) = (if c.sat σ then u else v) := by
  by_cases h : c.holds σ
  · rw [if_pos ((Cst.toLin_sat c σ).2 h), if_pos ((Cst.sat_iff c σ).2 h)]
  · rw [if_neg (fun h' => h ((Cst.toLin_sat c σ).1 h')), if_neg (fun h' => h ((Cst.sat_iff c σ).1 h'))]

theorem Cst.toLin_canonical (c : Cst) : c.toLin.expr.Canonical := Lin.toExpr_canonical c.e

/-- the value `apply(op, x, y, z)` assigns, for the two linear operations -/
theorem binLin_eval {op : BinOp} {y : Var} {z : Operand} {e : Lin} (h : binLin op y z = some e)
    (σ : State) : binSem op (σ y) (z.eval σ) = some (e.eval σ) := by
  cases op <;> cases z <;> cases h
  · exact congrArg some (Lin.eval_add_var y _ σ).symm
  · exact congrArg some (Lin.eval_add_const y _ σ).symm
  · exact congrArg some (Lin.eval_sub_var y _ σ).symm
  · exact congrArg some (Lin.eval_sub_const y _ σ).symm

theorem binLin_none {op : BinOp} {y : Var} {z : Operand} (h : binLin op y z = none) :
    op = .mul ∨ op = .sdiv := by
  cases op <;> cases z <;> simp [binLin] at h ⊢

theorem freshFor_ge_aux (vs : List Var) (b : Nat) :
    b ≤ vs.foldl (fun m v => max m (v + 1)) b ∧
    ∀ v ∈ vs, v < vs.foldl (fun m v => max m (v + 1)) b := by
  induction vs generalizing b with
  | nil => exact ⟨Nat.le_refl _, fun v hv => by cases hv⟩
  | cons w ws ih =>
    simp only [List.foldl_cons]
    obtain ⟨h1, h2⟩ := ih (max b (w + 1))
    refine ⟨by omega, fun v hv => ?_⟩
    rcases List.mem_cons.1 hv with rfl | hv
    · exact Nat.lt_of_lt_of_le (Nat.lt_of_lt_of_le (Nat.lt_succ_self v) (Nat.le_max_right b (v + 1))) h1
    · exact h2 v hv

theorem freshFor_ge (b : Nat) (vs : List Var) : b ≤ freshFor b vs := (freshFor_ge_aux vs b).1
theorem freshFor_gt (b : Nat) (vs : List Var) {v : Var} (h : v ∈ vs) : v < freshFor b vs :=
  (freshFor_ge_aux vs b).2 v h
theorem freshFor_ne (b : Nat) (vs : List Var) {v : Var} (h : v ∈ vs) : freshFor b vs ≠ v :=
  Nat.ne_of_gt (freshFor_gt b vs h)
theorem freshFor_not_mem (b : Nat) (vs ws : List Var) (h : ∀ v ∈ ws, v ∈ vs) : freshFor b vs ∉ ws :=
  fun hm => freshFor_ne b vs (h _ hm) rfl

variable {A : Type} {D : BDom A} {γ : A → State → Prop}

/-- `bound a`: the value `a` constrains no variable from that index on -/
def BoundOk (γ : A → State → Prop) (bound : A → Nat) : Prop :=
  ∀ a f τ v, bound a ≤ f → γ a τ → γ a (upd τ f v)

/-- a domain whose backward operations are `BackwardAssignOps` over its own sound forward
    operations satisfies the contract of the backward analysis -/
theorem withGenBwd_sound (hD : BDomSound D γ) (rename : Var → Var → A → A)
    (hren : RenameAfterForget D γ rename) (bound : A → Nat) (hb : BoundOk γ bound) :
    BDomSound (withGenBwd D rename bound) γ :=
  { hD with
    bwdAssign_sound := fun x e post inv σ hinv hpost =>
      genBwdAssign_sound hD rename hren _ x e post inv σ
        (freshFor_ne _ _ List.mem_cons_self)
        (freshFor_not_mem _ _ _ (fun v hv => List.mem_cons_of_mem _ hv))
        (fun τ v hτ => hb post _ τ v (freshFor_ge _ _) hτ) hinv hpost
    bwdApply_sound := fun op x y z post inv σ v hinv hv hpost =>
      genBwdApply_sound hD rename hren _ op x y z post inv σ v
        (freshFor_ne _ _ List.mem_cons_self)
        (freshFor_ne _ _ (List.mem_cons_of_mem _ List.mem_cons_self))
        (fun w hw => freshFor_ne _ _ (by subst hw; simp [Operand.vars]))
        (fun τ u hτ => hb post _ τ u (freshFor_ge _ _) hτ) hinv hv hpost }

/-- "forget `x`, meet with the invariant" (`constant_domain`, `sign_domain`) satisfies it too -/
theorem withForgetBwd_sound (hD : BDomSound D γ) : BDomSound (withForgetBwd D) γ :=
  { hD with
    bwdAssign_sound := fun _ _ _ _ σ hinv hpost =>
      hD.meet_sound _ _ σ (hD.forget_back hpost) hinv
    bwdApply_sound := fun _ _ _ _ _ _ σ _ hinv _ hpost =>
      hD.meet_sound _ _ σ (hD.forget_back hpost) hinv }

end Bwd
end Crab
