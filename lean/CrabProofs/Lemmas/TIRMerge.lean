import CrabModel.Transform.Simplify
import CrabProofs.Lemmas.TIRSem

/-!
  Folding a block `b` into its unique predecessor `a` (which has `b` as unique successor)
  preserves executions.  `MergeRel P T a b` describes the result `T` through its lookups only;
  `Lemmas/TIRSimplify.lean` shows that the fold step of `merge_blocks_rec` produces such a `T`.
-/
namespace Crab
namespace TIR

structure MergeRel (P T : Prog) (a b : Label) : Prop where
  hab : a ≠ b
  outs : T.outputs = P.outputs
  stmts_a : T.stmtsOf a = P.stmtsOf a ++ P.stmtsOf b
  stmts_o : ∀ l, l ≠ a → l ≠ b → T.stmtsOf l = P.stmtsOf l
  succ_a : T.succsOf a = P.succsOf b
  succ_o : ∀ l, l ≠ a → l ≠ b → T.succsOf l = P.succsOf l
  succP_a : P.succsOf a = [b]
  pred_b : ∀ l, b ∈ P.succsOf l → l = a
  exitP_a : P.isExit a = false
  exit_a : T.isExit a = P.isExit b
  exit_o : ∀ l, l ≠ a → l ≠ b → T.isExit l = P.isExit l

/-- the configuration of `T` that corresponds to a configuration of `P` -/
def mergeCfg (P : Prog) (a b : Label) (stmts : List Stmt) (l : Label) : List Stmt × Label :=
  if l = a then (stmts ++ P.stmtsOf b, a) else if l = b then (stmts, a) else (stmts, l)

theorem mergeCfg_cons (P : Prog) (a b : Label) (s : Stmt) (rest : List Stmt) (l : Label) :
    mergeCfg P a b (s :: rest) l = (s :: (mergeCfg P a b rest l).1, (mergeCfg P a b rest l).2) := by
  unfold mergeCfg
  split
  · rfl
  · split <;> rfl

theorem mergeCfg_block (P T : Prog) (a b : Label) (h : MergeRel P T a b) (l : Label) (hl : l ≠ b) :
    mergeCfg P a b (P.stmtsOf l) l = (T.stmtsOf l, l) := by
  unfold mergeCfg
  by_cases hla : l = a
  · subst hla; simp [h.stmts_a]
  · simp [hla, hl, h.stmts_o l hla hl]

section
variable {P T : Prog} {a b : Label} (h : MergeRel P T a b)
include h

theorem mergeCfg_end {l : Label} (hl : l ≠ a) :
    ∃ m, mergeCfg P a b [] l = ([], m) ∧ T.isExit m = P.isExit l ∧ T.succsOf m = P.succsOf l := by
  by_cases hlb : l = b
  · subst hlb
    exact ⟨a, by simp [mergeCfg, hl], h.exit_a, h.succ_a⟩
  · exact ⟨l, by simp [mergeCfg, hl, hlb], h.exit_o l hl hlb, h.succ_o l hl hlb⟩

/-- the end of `a` (from where `P` only goes on to `b`) and the entry of `b` have the same image -/
theorem mergeCfg_skip : mergeCfg P a b [] a = mergeCfg P a b (P.stmtsOf b) b := by
  simp [mergeCfg, h.hab.symm]

omit h in
theorem mergeCfg_nil_inv {stmts : List Stmt} {l lt : Label} (hn : ¬ (l = a ∧ stmts = []))
    (hc : mergeCfg P a b stmts l = ([], lt)) : stmts = [] ∧ l ≠ a := by
  unfold mergeCfg at hc
  by_cases hla : l = a
  · simp only [hla, if_true, Prod.mk.injEq, List.append_eq_nil_iff] at hc
    exact absurd ⟨hla, hc.1.1⟩ hn
  · refine ⟨?_, hla⟩
    simp only [hla, if_false] at hc
    split at hc <;> exact (Prod.mk.inj hc).1

theorem merge_forward {stmts : List Stmt} {l : Label} {σ : State} {t : List Event} {o : Outcome}
    (he : Exec P stmts l σ t o) :
    Exec T (mergeCfg P a b stmts l).1 (mergeCfg P a b stmts l).2 σ t o := by
  induction he with
  | @exit l σ hex =>
    have hla : l ≠ a := fun hc => by rw [hc, h.exitP_a] at hex; cases hex
    obtain ⟨m, hm, hx, _⟩ := mergeCfg_end h hla
    rw [hm, ← h.outs]
    exact Exec.exit (hx.trans hex)
  | @goto l l' σ t o hex hmem _ ih =>
    by_cases hla : l = a
    · subst hla
      have hl' : l' = b := by rw [h.succP_a] at hmem; exact List.mem_singleton.mp hmem
      subst hl'
      rw [mergeCfg_skip h]
      exact ih
    · obtain ⟨m, hm, hx, hs⟩ := mergeCfg_end h hla
      have hl'b : l' ≠ b := fun hc => hla (h.pred_b l (hc ▸ hmem))
      rw [mergeCfg_block P T a b h l' hl'b] at ih
      rw [hm]
      exact Exec.goto (hx.trans hex) (hs ▸ hmem) ih
  | @stuck l σ hex hs =>
    have hla : l ≠ a := fun hc => by rw [hc, h.succP_a] at hs; cases hs
    obtain ⟨m, hm, hx, hsu⟩ := mergeCfg_end h hla
    rw [hm]
    exact Exec.stuck (hx.trans hex) (hsu.trans hs)
  | cont hv hstep _ ih =>
    rw [mergeCfg_cons]
    exact Exec.cont hv hstep ih
  | stop hv hstep =>
    rw [mergeCfg_cons]
    exact Exec.stop hv hstep

/-- going back, it is enough to treat the configurations of `P` other than the end of `a` -/
theorem merge_back_skip {c : List Stmt × Label} {σ : State} {t : List Event} {o : Outcome}
    (main : ∀ stmts l, ¬ (l = a ∧ stmts = []) → mergeCfg P a b stmts l = c → Exec P stmts l σ t o) :
    ∀ stmts l, mergeCfg P a b stmts l = c → Exec P stmts l σ t o := by
  intro stmts l hc
  by_cases hn : l = a ∧ stmts = []
  · rw [hn.1, hn.2, mergeCfg_skip h] at hc
    rw [hn.1, hn.2]
    exact Exec.goto h.exitP_a (by rw [h.succP_a]; exact List.mem_singleton_self _)
      (main _ _ (fun hx => h.hab hx.1.symm) hc)
  · exact main stmts l hn hc

theorem merge_backward {ss : List Stmt} {lt : Label} {σ : State} {t : List Event} {o : Outcome}
    (he : Exec T ss lt σ t o) :
    ∀ (stmts : List Stmt) (l : Label), mergeCfg P a b stmts l = (ss, lt) → Exec P stmts l σ t o := by
  induction he with
  | @exit lt σ hex =>
    refine merge_back_skip h (fun stmts l hn hc => ?_)
    obtain ⟨rfl, hla⟩ := mergeCfg_nil_inv hn hc
    obtain ⟨m, hm, hx, _⟩ := mergeCfg_end h hla
    rw [hm] at hc
    cases hc
    rw [h.outs]
    exact Exec.exit (hx.symm.trans hex)
  | @goto lt lt' σ t o hex hmem _ ih =>
    refine merge_back_skip h (fun stmts l hn hc => ?_)
    obtain ⟨rfl, hla⟩ := mergeCfg_nil_inv hn hc
    obtain ⟨m, hm, hx, hs⟩ := mergeCfg_end h hla
    rw [hm] at hc
    cases hc
    rw [hs] at hmem
    have hl'b : lt' ≠ b := fun e => hla (h.pred_b l (e ▸ hmem))
    exact Exec.goto (hx.symm.trans hex) hmem (ih _ _ (mergeCfg_block P T a b h lt' hl'b))
  | @stuck lt σ hex hs =>
    refine merge_back_skip h (fun stmts l hn hc => ?_)
    obtain ⟨rfl, hla⟩ := mergeCfg_nil_inv hn hc
    obtain ⟨m, hm, hx, hsu⟩ := mergeCfg_end h hla
    rw [hm] at hc
    cases hc
    exact Exec.stuck (hx.symm.trans hex) (hsu.symm.trans hs)
  | @cont s' rest' lt σ σ' ev t o hv hstep _ ih =>
    refine merge_back_skip h (fun stmts l hn hc => ?_)
    cases stmts with
    | nil =>
      obtain ⟨m, hm, _⟩ := mergeCfg_end h (fun e => hn ⟨e, rfl⟩)
      rw [hm] at hc
      cases hc
    | cons s rest =>
      rw [mergeCfg_cons] at hc
      simp only [Prod.mk.injEq, List.cons.injEq] at hc
      obtain ⟨⟨rfl, h1⟩, h2⟩ := hc
      exact Exec.cont hv hstep (ih rest l (by rw [← h1, ← h2]))
  | @stop s' rest' lt σ ev o hv hstep =>
    refine merge_back_skip h (fun stmts l hn hc => ?_)
    cases stmts with
    | nil =>
      obtain ⟨m, hm, _⟩ := mergeCfg_end h (fun e => hn ⟨e, rfl⟩)
      rw [hm] at hc
      cases hc
    | cons s rest =>
      rw [mergeCfg_cons] at hc
      simp only [Prod.mk.injEq, List.cons.injEq] at hc
      obtain ⟨⟨rfl, _⟩, _⟩ := hc
      exact Exec.stop hv hstep

end

/-- behaviours from an entry block other than `b` coincide -/
theorem merge_beh (P T : Prog) (a b : Label) (h : MergeRel P T a b) (hentry : T.entry = P.entry)
    (hb : P.entry ≠ b) (σ : State) (t : List Event) (o : Outcome) : Beh P σ t o ↔ Beh T σ t o := by
  unfold Beh
  rw [hentry]
  constructor
  · intro he
    have := merge_forward h he
    rw [mergeCfg_block P T a b h P.entry hb] at this
    exact this
  · intro he
    exact merge_backward h he _ _ (mergeCfg_block P T a b h P.entry hb)

end TIR
end Crab
