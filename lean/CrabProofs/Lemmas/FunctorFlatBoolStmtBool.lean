import CrabProofs.Lemmas.FunctorFlatBoolLat

/-!
Soundness of the Boolean statements of `flat_boolean_numerical_domain` (`assign_bool_cst`,
`assign_bool_var`, `apply_binary_bool`, `assume_bool` with the reduction from the Booleans to the
numerical value, `select_bool`, the weak Boolean assignments) and of the Boolean part of
`to_linear_constraint_system` w.r.t. `FBN.γ`: the product keeps the states and the invariant of the
auxiliary components is re-established.
-/
set_option linter.unusedSectionVars false

namespace Crab
namespace Dom
namespace Fct

variable {V : Type} [DecidableEq V] {K : CSig V}

namespace FBN
variable {N : BNDom V K} {f2 : N.B → N.B} {a : FBN N} {s s' : CSt V}

/-! ### `assign_bool_cst` -/

theorem evalCst_sound (c : K.C) {q : Prod2 (FB V) N.toLDom} {s : CSt V} (hq : q.γ s) (b : Bool)
    (hb : b = true ↔ K.holds c s.num) : BVal.γ (evalCst c q) b := by
  unfold evalCst
  split
  · rename_i he
    exact hb.2 (N.entails_sound _ _ _ he hq.2.2)
  · split
    · rename_i he
      have := (K.negate_holds c s.num).1 (N.entails_sound _ _ _ he hq.2.2)
      cases b
      · rfl
      · exact absurd (hb.1 rfl) this
    · trivial

theorem reduceNumCstToBool_sound (x : V) (c : K.C) {b : Bool}
    (hb : b = true ↔ K.holds c s.num) (hp : a.prod.γ (s.setB x b)) (hu : a.unch.isBot = false)
    (hL : a.lin.Holds (LinP a.unch s)) (hB : a.bools.Holds (BoolP s)) :
    γ (reduceNumCstToBool x c a) (s.setB x b) := by
  have hB' := bools_setB_del' hB x b
  have hL' := lin_setB_del hL x b
  have hbx : (s.setB x b).bool x = b := CSt.setB_bool_self s x b
  -- the flat value given to `x` describes `b`
  have hfst : ∀ v, BVal.γ v b → (Prod2.onFirst (fun e => FEnv.set e x v) a.prod).γ (s.setB x b) := fun v hv =>
    Prod2.onFirst_γ hp (FEnv.set_same_sound hp.2.1 x (by rw [hbx]; exact hv)) hp.2.2
  unfold reduceNumCstToBool
  by_cases ht : K.isTaut c = true
  · simp only [ht, if_true]
    exact γ_iff.2 ⟨hfst _ (hb.2 (K.taut_holds c _ ht)), hu, hL', hB'⟩
  · by_cases hc : K.isContra c = true
    · simp only [ht, hc, if_true, if_false, Bool.false_eq_true]
      refine γ_iff.2 ⟨hfst _ ?_, hu, hL', hB'⟩
      cases b
      · rfl
      · exact absurd (hb.1 rfl) (K.contra_holds c _ hc)
    · simp only [ht, hc, if_false, Bool.false_eq_true]
      refine γ_iff.2 ⟨?_, (markVars_isBot (K.vars c) (a.lin.del x, a.unch)).2.trans hu, ?_, hB'⟩
      · show (Prod2.onFirst _ a.prod.canonicalize).γ _
        rw [Prod2.canonicalize_of_γ hp]
        exact hfst _ (evalCst_sound c hp b hb)
      · -- after `mark_vars_as_unchanged`, `x` receives `{cst}`
        exact (markVars_holds (K.vars c) (a.lin.del x, a.unch) hL').set_same x (v := .fin [c]) rfl
          fun c' hc' _ => by rw [(DSet.mem_single c c').1 hc', hbx]; exact hb

theorem assignBoolCst_sound {x : V} {c : K.C} (hf2 : N.TSound f2 (relBcst x c))
    (hg : γ a s) (hr : relBcst x c s s') : γ (assignBoolCst f2 x c a) s' := by
  obtain ⟨hp, hu, hL, hB⟩ := γ_iff.1 hg
  have h2 := hf2 _ _ _ hp.2.2 hr
  obtain ⟨b, hb, rfl⟩ := hr
  unfold assignBoolCst
  rw [Prod2.isBottom_false_of_γ hp, if_neg Bool.false_ne_true]
  exact reduceNumCstToBool_sound x c hb
    (Prod2.op_γ .boolOp hp (FEnv.forget1_sound hp.2.1 x fun _ hk => CSt.setB_bool_of_ne s b hk) h2) hu hL hB

/-! ### `assign_bool_var` -/

theorem propagateAssignBoolVar_ok {lin : SEnv V K.C} {u : DSet V} {s : CSt V} (hL : lin.Holds (LinP u s))
    (x y : V) (neg : Bool) : (propagateAssignBoolVar lin x y neg).Holds (LinP u (s.setB x (s.bool y != neg))) := by
  unfold propagateAssignBoolVar
  cases neg with
  | false =>
    simp only [Bool.not_false, if_true, Bool.bne_false]
    exact lin_setB_set hL x _ (SEnv.look_isBot hL.ne y) (hL.all y)
  | true =>
    simp only [Bool.not_true, Bool.false_eq_true, if_false, Bool.bne_true]
    split
    · split
      · rename_i c t he
        apply lin_setB_set hL x _ (v := .fin [K.negate c]) rfl
        intro c' hc' hu'
        rw [(DSet.mem_single _ c').1 hc'] at hu' ⊢
        rw [unchanged_negate] at hu'
        rw [K.negate_holds, ← hL.all y c (DSet.mem_elems (he ▸ List.mem_cons_self)) hu']
        cases s.bool y <;> simp
      · exact lin_setB_del hL x _
    · exact lin_setB_del hL x _

theorem assignBools_ok {bs : SEnv V V} (hB : bs.Holds (BoolP s)) (x y : V) (neg : Bool) :
    (if !neg then (forgetImpliedBool x bs).set x (((forgetImpliedBool x bs).look y).meet (.fin [y]))
      else (forgetImpliedBool x bs).del x).Holds (BoolP (s.setB x (s.bool y != neg))) := by
  cases neg with
  | true => exact bools_setB_del hB x _
  | false =>
    exact bools_setB_set hB x _ (isBot_meet_single (bools_forget hB x).ne y) fun k' hk =>
      bools_of_operand hB x y (by simp) ((DSet.mem_meet _ _ k').1 hk)

theorem assignBoolVar_sound {x y : V} {neg : Bool} (hf2 : N.TSound f2 (relBvar x y neg))
    (hg : γ a s) (hr : relBvar x y neg s s') :
    γ (assignBoolVar f2 x y neg a) s' := by
  obtain ⟨hp, hu, hL, hB⟩ := γ_iff.1 hg
  have h2 := hf2 _ _ _ hp.2.2 hr
  obtain ⟨b, rfl, rfl⟩ := hr
  unfold assignBoolVar
  rw [isBottom_false_of_γ hg, if_neg Bool.false_ne_true]
  exact γ_iff.2 ⟨Prod2.op_γ .boolOp hp (FEnv.assignBoolVar_sound hp.2.1 x y neg) h2, hu,
    propagateAssignBoolVar_ok hL x y neg, assignBools_ok hB x y neg⟩

/-! ### `apply_binary_bool` -/

theorem binaryBools_ok {bs : SEnv V V} (hB : bs.Holds (BoolP s)) (op : BBin) (x y z : V) :
    (if op = .band then
        (forgetImpliedBool x bs).set x (((((forgetImpliedBool x bs).look y).meet
          ((forgetImpliedBool x bs).look z)).meet (.fin [y])).meet (.fin [z]))
      else (forgetImpliedBool x bs).del x).Holds (BoolP (s.setB x (op.eval (s.bool y) (s.bool z)))) := by
  split
  · rename_i hop
    subst hop
    apply bools_setB_set hB x _ (isBot_meet_two (bools_forget hB x).ne y z)
    intro k' hk
    have hy : (s.bool y && s.bool z) = true → s.bool y = true := fun h => (Bool.and_eq_true_iff.1 h).1
    have hz : (s.bool y && s.bool z) = true → s.bool z = true := fun h => (Bool.and_eq_true_iff.1 h).2
    simp only [DSet.mem_meet] at hk
    rcases hk with ((hk | hk) | hk) | hk
    · exact bools_of_operand hB x y hy (Or.inl hk)
    · exact bools_of_operand hB x z hz (Or.inl hk)
    · exact bools_of_operand hB x y hy (Or.inr hk)
    · exact bools_of_operand hB x z hz (Or.inr hk)
  · exact bools_setB_del hB x _

theorem applyBinaryBool_sound {op : BBin} {x y z : V}
    (hf2 : N.TSound f2 (relBbin op x y z)) (hg : γ a s)
    (hr : relBbin op x y z s s') : γ (applyBinaryBool f2 op x y z a) s' := by
  obtain ⟨hp, hu, hL, hB⟩ := γ_iff.1 hg
  have h2 := hf2 _ _ _ hp.2.2 hr
  obtain ⟨b, rfl, rfl⟩ := hr
  unfold applyBinaryBool
  rw [isBottom_false_of_γ hg, if_neg Bool.false_ne_true]
  exact γ_iff.2 ⟨Prod2.op_γ .boolOp hp (FEnv.applyBinaryBool_sound hp.2.1 op x y z) h2, hu, lin_setB_del hL x _,
    binaryBools_ok hB op x y z⟩

/-! ### `assume_bool` -/

theorem addIfUnchanged_sound {c : K.C} (hg : γ a s)
    (hc : unchanged a.unch c = true → K.holds c s.num) : γ (addIfUnchanged c a) s := by
  unfold addIfUnchanged
  split
  · rename_i hu
    exact ⟨Prod2.onSecond_γ hg.1 hg.1.2.1 (N.addCst_sound _ _ _ hg.1.2.2 (hc hu)), hg.2⟩
  · exact hg

theorem addIfUnchanged_unch (c : K.C) (a : FBN N) : (addIfUnchanged c a).unch = a.unch := by
  unfold addIfUnchanged; split <;> rfl

theorem foldl_addIfUnchanged_sound {s : CSt V} (l : List K.C) (hg : γ a s)
    (hl : ∀ c ∈ l, unchanged a.unch c = true → K.holds c s.num) :
    γ (l.foldl (fun a c => addIfUnchanged c a) a) s :=
  (List.foldlRecOn l _ (motive := fun b => γ b s ∧ b.unch = a.unch) ⟨hg, rfl⟩ fun b hb c hc =>
    ⟨addIfUnchanged_sound hb.1 fun hu => hl c hc (hb.2 ▸ hu), (addIfUnchanged_unch c b).trans hb.2⟩).1

/-- both polarities of `bwd_reduction_assume_bool` are sound (the negative one is not reached from
    `assume_bool`: `reduce_bool_to_csts` does nothing when `is_negated`) -/
theorem bwdReductionAssumeBool_sound (x : V) (neg : Bool) (hg : γ a s)
    (hx : s.bool x = !neg) : γ (bwdReductionAssumeBool x neg a) s := by
  have hL := (lin_of_γ hg).all
  unfold bwdReductionAssumeBool
  simp only
  by_cases h0 : ((a.lin.look x).isTop || (a.lin.look x).isBot) = true
  · rw [if_pos h0]; exact hg
  · rw [if_neg h0]
    cases neg with
    | false =>
      rw [if_pos (show (!false) = true from rfl)]
      apply foldl_addIfUnchanged_sound _ hg
      intro c hc hu
      exact (hL x c (DSet.mem_elems hc) hu).1 hx
    | true =>
      rw [if_neg (show ¬ (!true) = true from Bool.false_ne_true)]
      by_cases h1 : (a.lin.look x).size = 1
      · rw [if_pos h1]
        cases he : (a.lin.look x).elems with
        | nil => exact hg
        | cons c t =>
          apply addIfUnchanged_sound hg
          intro hu
          rw [unchanged_negate] at hu
          rw [K.negate_holds]
          intro hh
          have := (hL x c (DSet.mem_elems (he ▸ List.mem_cons_self)) hu).2 hh
          rw [hx] at this; cases this
      · rw [if_neg h1]; exact hg

theorem reduceStep_sound (x v : V) (hg : γ a s) (hx : s.bool x = true)
    (hv : s.bool v = true) : γ (reduceStep x a v) s := by
  obtain ⟨hp, hu, hL, hB⟩ := γ_iff.1 hg
  refine γ_iff.2 ⟨Prod2.onFirst_γ hp (FEnv.assumeBool_sound hp.2.1 v false hv) hp.2.2, hu, ?_, hB⟩
  refine hL.set_same x (by rw [DSet.isBot_meet, SEnv.look_isBot hL.ne, SEnv.look_isBot hL.ne]; rfl) fun c hc hun => ?_
  rcases (DSet.mem_meet _ _ c).1 hc with hc | hc
  · exact hL.all x c hc hun
  · rw [hx]; exact hv ▸ hL.all v c hc hun

theorem reduceBoolToCsts_sound (x : V) (neg : Bool) (hg : γ a s)
    (hx : s.bool x = !neg) : γ (reduceBoolToCsts x neg a) s := by
  unfold reduceBoolToCsts
  cases neg with
  | true => exact hg
  | false =>
    simp only [Bool.not_false, if_true]
    apply bwdReductionAssumeBool_sound x false _ hx
    exact List.foldlRecOn _ _ (motive := (γ · s)) hg fun b hb v hv =>
      reduceStep_sound x v hb hx ((bools_of_γ hg).all x v (DSet.mem_elems hv) hx)

theorem assumeBool_sound {x : V} {neg : Bool} (hf2 : N.TSound f2 (relAssume x neg))
    (hg : γ a s) (hr : relAssume x neg s s') : γ (assumeBool f2 x neg a) s' := by
  have h2 := hf2 _ _ _ hg.1.2.2 hr
  obtain ⟨rfl, hx⟩ := hr
  unfold assumeBool
  rw [isBottom_false_of_γ hg, if_neg Bool.false_ne_true]
  have hg1 : γ ({ a with prod := Prod2.op .boolOp (fun e => FEnv.assumeBool e x neg) f2 a.prod } : FBN N) s' :=
    ⟨Prod2.op_γ .boolOp hg.1 (FEnv.assumeBool_sound hg.1.2.1 x neg hx) h2, hg.2⟩
  exact ite_ind (γ · _) (fun _ => hg1) (fun _ => reduceBoolToCsts_sound x neg hg1 hx)

/-! ### `select_bool` -/

/-- `fwd_reduction_select_bool`: `lhs` takes the entries of the operand it is known to be equal to -/
theorem fwdSelect_ok {lin : SEnv V K.C} {u : DSet V} {bs : SEnv V V} {s : CSt V} (hL : lin.Holds (LinP u s))
    (hB : bs.Holds (BoolP s)) (lhs cond b1 b2 : V) (cv : BVal) (hcv : BVal.γ cv (s.bool cond)) :
    let b := if s.bool cond then s.bool b1 else s.bool b2
    let fw := fwdSelect lhs b1 b2 cv lin (forgetImpliedBool lhs bs)
    fw.1.Holds (LinP u (s.setB lhs b)) ∧ fw.2.Holds (BoolP (s.setB lhs b)) := by
  intro b fw
  have key : ∀ (y : V), b = s.bool y →
      (lin.set lhs (lin.look y)).Holds (LinP u (s.setB lhs b)) ∧
      ((forgetImpliedBool lhs bs).set lhs (((forgetImpliedBool lhs bs).look y).meet (.fin [y]))).Holds
        (BoolP (s.setB lhs b)) := fun y hby =>
    ⟨lin_setB_set hL lhs b (SEnv.look_isBot hL.ne y) (fun c hc hu => by rw [hby]; exact hL.all y c hc hu),
     bools_setB_set hB lhs b (isBot_meet_single (bools_forget hB lhs).ne y) fun k' hk =>
       bools_of_operand hB lhs y (fun h => hby ▸ h) ((DSet.mem_meet _ _ k').1 hk)⟩
  cases cv with
  | tt => exact key b1 (by simp [b, show s.bool cond = true from hcv])
  | ff => exact key b2 (by simp [b, show s.bool cond = false from hcv])
  | top => exact ⟨lin_setB_del hL lhs b, bools_setB_del hB lhs b⟩
  | bot => exact hcv.elim

/-- what `select_bool` records for `lhs` when an operand is known to be false: the other operand
    was selected, so `lhs` implies it (and `cond`, resp. nothing more) -/
theorem selectBools_ok {bs1 : SEnv V V} {lhs cond b1 b2 : V} {v1 v2 : BVal}
    (hv1 : BVal.γ v1 (s.bool b1)) (hv2 : BVal.γ v2 (s.bool b2))
    (f4 : bs1.Holds (BoolP (s.setB lhs (if s.bool cond then s.bool b1 else s.bool b2)))) :
    (if v2 = .ff then
        bs1.set lhs ((((bs1.look b1).meet (bs1.look cond)).meet (.fin [b1])).meet (.fin [cond]))
      else if v1 = .ff then bs1.set lhs ((bs1.look b2).meet (.fin [b2])) else bs1).Holds
      (BoolP (s.setB lhs (if s.bool cond then s.bool b1 else s.bool b2))) := by
  by_cases h2 : v2 = .ff
  · rw [if_pos h2]
    have hs2 : s.bool b2 = false := BVal.eq_ff hv2 h2
    refine f4.set_same lhs (isBot_meet_two f4.ne b1 cond) fun k' hk => ?_
    have hc1 : (if s.bool cond = true then s.bool b1 else s.bool b2) = true → s.bool b1 = true := by
      cases s.bool cond <;> simp [hs2]
    have hcc : (if s.bool cond = true then s.bool b1 else s.bool b2) = true → s.bool cond = true := by
      cases s.bool cond <;> simp [hs2]
    simp only [DSet.mem_meet] at hk
    rcases hk with ((hk | hk) | hk) | hk
    · exact bools_after_operand f4 hc1 (Or.inl hk)
    · exact bools_after_operand f4 hcc (Or.inl hk)
    · exact bools_after_operand f4 hc1 (Or.inr hk)
    · exact bools_after_operand f4 hcc (Or.inr hk)
  · rw [if_neg h2]
    by_cases h1 : v1 = .ff
    · rw [if_pos h1]
      have hs1 : s.bool b1 = false := BVal.eq_ff hv1 h1
      refine f4.set_same lhs (isBot_meet_single f4.ne b2) fun k' hk => ?_
      have hc2 : (if s.bool cond = true then s.bool b1 else s.bool b2) = true → s.bool b2 = true := by
        cases s.bool cond <;> simp [hs1]
      exact bools_after_operand f4 hc2 ((DSet.mem_meet _ _ k').1 hk)
    · rw [if_neg h1]; exact f4

theorem selectBool_sound {f2' : N.B → N.B} {lhs cond b1 b2 : V}
    (hf2 : N.TSound f2 (relBsel lhs cond b1 b2)) (hf2' : b1 = b2 → N.TSound f2' (relBvar lhs b1 false))
    (hg : γ a s) (hr : relBsel lhs cond b1 b2 s s') :
    γ (selectBool f2 f2' lhs cond b1 b2 a) s' := by
  unfold selectBool
  simp only [isBottom_false_of_γ hg, Bool.not_false, if_true]
  by_cases h12 : b1 = b2
  · rw [if_pos h12]
    subst h12
    apply assignBoolVar_sound (hf2' rfl) hg
    obtain ⟨b, rfl, rfl⟩ := hr
    exact ⟨_, by simp, rfl⟩
  · rw [if_neg h12]
    obtain ⟨hp, hu, hL, hB⟩ := γ_iff.1 hg
    have h2 := hf2 _ _ _ hp.2.2 hr
    rw [Prod2.canonicalize_of_γ hp]
    obtain ⟨b, rfl, rfl⟩ := hr
    obtain ⟨f3, f4⟩ := fwdSelect_ok hL hB lhs cond b1 b2 _ (FEnv.get_sound hp.2.1 cond)
    exact γ_iff.2 ⟨Prod2.op_γ .boolOp hp (FEnv.selectBool_sound hp.2.1 lhs cond b1 b2) h2, hu, f3,
      selectBools_ok (FEnv.get_sound hp.2.1 b1) (FEnv.get_sound hp.2.1 b2) f4⟩

/-! ### weak Boolean assignments, `to_linear_constraint_system` -/

/-- `if (!is_bottom()) { other = *this; other.f(..); *this |= other; }` is sound for "the statement is
    executed or not" when `f` is sound for the statement -/
theorem weak_sound {f : FBN N → FBN N} {r : CSt V → CSt V → Prop} (hf : ∀ s', r s s' → γ (f a) s') (hg : γ a s)
    (hr : relWeak r s s') : γ (if !a.isBottom then joinEq a (f a) else a) s' := by
  simp only [isBottom_false_of_γ hg, Bool.not_false, if_true]
  rcases hr with rfl | hr
  · exact joinEq_sound (Or.inl hg)
  · exact joinEq_sound (Or.inr (hf s' hr))

theorem weakAssignBoolCst_sound {x : V} {c : K.C} (hf2 : N.TSound f2 (relBcst x c))
    (hg : γ a s) (hr : relWeak (relBcst x c) s s') : γ (weakAssignBoolCst f2 x c a) s' :=
  weak_sound (fun _ hr => assignBoolCst_sound hf2 hg hr) hg hr

theorem weakAssignBoolVar_sound {x y : V} {neg : Bool} (hf2 : N.TSound f2 (relBvar x y neg))
    (hg : γ a s) (hr : relWeak (relBvar x y neg) s s') : γ (weakAssignBoolVar f2 x y neg a) s' :=
  weak_sound (fun _ hr => assignBoolVar_sound hf2 hg hr) hg hr

/-- the Boolean constraints of `to_linear_constraint_system()` hold in every state of the value -/
theorem boolFacts_sound (hg : γ a s) :
    ∃ l, boolFacts a = some l ∧ ∀ p ∈ l, s.bool p.1 = p.2 := by
  have h1 : FEnv.γ a.prod.fst s := hg.1.2.1
  unfold boolFacts
  cases he : a.prod.fst with
  | bot => rw [he] at h1; exact h1.elim
  | env m =>
    rw [he] at h1
    refine ⟨_, rfl, fun p hp => ?_⟩
    obtain ⟨k, _, hk⟩ := List.mem_filterMap.1 hp
    cases hgk : AL.get m k with
    | none => simp [hgk] at hk
    | some b =>
      simp only [hgk, Option.map_some, Option.some.injEq] at hk
      subst hk
      exact h1 k b hgk

end FBN

end Fct
end Dom
end Crab
