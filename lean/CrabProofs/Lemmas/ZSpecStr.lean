import CrabModel.Num.ZNumExtra

/-! `z_number` text in a base: `z_number(get_str(base), base)` gives the number back. -/
namespace Crab.ZNum.Spec
open Crab.ZNum.X

/-- value of a least-significant-first digit list -/
def valRev (b : Nat) : List Nat → Nat
  | [] => 0
  | d :: ds => d + b * valRev b ds

theorem digitsRev_spec (b : Nat) (hb : 2 ≤ b) (fuel n : Nat) (hpos : 0 < fuel) (h : n < b ^ fuel) :
    valRev b (digitsRev b fuel n) = n ∧ (∀ d ∈ digitsRev b fuel n, d < b) ∧
      digitsRev b fuel n ≠ [] := by
  induction fuel generalizing n with
  | zero => omega
  | succ f ih =>
    simp only [digitsRev]
    split
    · next hlt => simp [valRev, hlt]
    · next hge =>
      have hf : n / b < b ^ f := by
        apply Nat.div_lt_of_lt_mul
        rw [Nat.pow_succ, Nat.mul_comm] at h
        exact h
      have hfpos : 0 < f := by
        cases f with
        | zero =>
          exfalso
          simp only [Nat.pow_zero, Nat.lt_one_iff] at hf
          have := Nat.div_add_mod n b
          have := Nat.mod_lt n (show 0 < b by omega)
          rw [hf] at *
          omega
        | succ g => omega
      obtain ⟨h1, h2, _⟩ := ih (n / b) hfpos hf
      refine ⟨?_, ?_, by simp⟩
      · simp only [valRev, h1]; exact Nat.mod_add_div n b
      · intro d hd
        rcases List.mem_cons.1 hd with hd | hd
        · subst hd; exact Nat.mod_lt _ (by omega)
        · exact h2 d hd

theorem ofDigits?_append (b : Nat) (l : List Nat) (d acc : Nat) :
    ofDigits? b (l ++ [d]) acc =
      match ofDigits? b l acc with
      | some v => if d < b then some (v * b + d) else none
      | none => none := by
  induction l generalizing acc with
  | nil => simp [ofDigits?]
  | cons e rest ih =>
    simp only [List.cons_append, ofDigits?]
    split
    · exact ih _
    · rfl

theorem ofDigits?_reverse (b : Nat) (l : List Nat) (h : ∀ d ∈ l, d < b) :
    ofDigits? b l.reverse 0 = some (valRev b l) := by
  induction l with
  | nil => simp [ofDigits?, valRev]
  | cons d ds ih =>
    rw [List.reverse_cons, ofDigits?_append, ih (fun e he => h e (List.mem_cons_of_mem _ he))]
    simp only [h d (List.mem_cons_self ..), if_true, valRev]
    congr 1
    rw [Nat.mul_comm]; omega

theorem digits_spec (b : Nat) (hb : 2 ≤ b) (n : Nat) :
    ofDigits? b (digits b n) 0 = some n ∧ (∀ d ∈ digits b n, d < b) ∧ digits b n ≠ [] := by
  have hlt : n < b ^ (n + 1) :=
    Nat.lt_of_lt_of_le (Nat.lt_pow_self (show 1 < b by omega))
      (Nat.pow_le_pow_right (by omega) (Nat.le_succ n))
  obtain ⟨h1, h2, h3⟩ := digitsRev_spec b hb (n + 1) n (Nat.succ_pos n) hlt
  unfold digits
  refine ⟨by rw [ofDigits?_reverse b _ h2, h1], fun d hd => h2 d (List.mem_reverse.1 hd), ?_⟩
  simpa using h3

theorem charDigit?_digitChar (d : Nat) (h : d < 36) : charDigit? (digitChar d) = some d := by
  have : ∀ d : Fin 36, charDigit? (digitChar d.1) = some d.1 := by decide
  exact this ⟨d, h⟩

theorem digitChar_ne_minus (d : Nat) (h : d < 36) : digitChar d ≠ '-' := by
  have : ∀ d : Fin 36, digitChar d.1 ≠ '-' := by decide
  exact this ⟨d, h⟩

theorem allSome_map (ds : List Nat) (h : ∀ d ∈ ds, d < 36) :
    allSome ((ds.map digitChar).map charDigit?) = some ds := by
  induction ds with
  | nil => rfl
  | cons d rest ih =>
    simp only [List.map_cons, charDigit?_digitChar d (h d (List.mem_cons_self ..)), allSome,
      ih (fun e he => h e (List.mem_cons_of_mem _ he))]

theorem ofDigitChars?_digits (b : Nat) (hb : 2 ≤ b) (hb' : b ≤ 36) (n : Nat) :
    ofDigitChars? b ((digits b n).map digitChar) = some n := by
  obtain ⟨h1, h2, h3⟩ := digits_spec b hb n
  unfold ofDigitChars?
  cases hd : digits b n with
  | nil => exact absurd hd h3
  | cons d rest =>
    rw [hd] at h1 h2
    simp only [List.map_cons]
    have := allSome_map (d :: rest) (fun e he => Nat.lt_of_lt_of_le (h2 e he) hb')
    simp only [List.map_cons] at this
    rw [this]
    exact h1

theorem ofChars?_toChars (b : Nat) (hb : 2 ≤ b) (hb' : b ≤ 36) (x : Int) :
    ofChars? b (toChars b x) = some x := by
  have key := ofDigitChars?_digits b hb hb' x.natAbs
  obtain ⟨_, h2, h3⟩ := digits_spec b hb x.natAbs
  unfold toChars
  simp only
  split
  · next hneg =>
    simp only [ofChars?, key]
    congr 1
    show -((x.natAbs : Nat) : Int) = x
    omega
  · next hnn =>
    -- the first character is a digit, not '-'
    cases hd : digits b x.natAbs with
    | nil => exact absurd hd h3
    | cons d rest =>
      have hdlt : d < 36 := Nat.lt_of_lt_of_le (h2 d (by rw [hd]; exact List.mem_cons_self ..)) hb'
      rw [hd] at key
      simp only [List.map_cons] at key ⊢
      have hne := digitChar_ne_minus d hdlt
      unfold ofChars?
      split
      · next c rest' heq =>
        simp only [List.cons.injEq] at heq
        exact absurd heq.1 hne
      · simp only [key]
        congr 1
        show ((x.natAbs : Nat) : Int) = x
        omega

theorem ofStr?_toStr (b : Nat) (hb : 2 ≤ b) (hb' : b ≤ 36) (x : Int) :
    ofStr? b (toStr b x) = some x := by
  unfold ofStr? toStr
  rw [String.toList_ofList]
  exact ofChars?_toChars b hb hb' x

end Crab.ZNum.Spec
