import CrabProofs.Lemmas.CrawlCtrlPdom
import CrabProofs.Lemmas.TIRCrawlerFix

/-!
  The model of the repaired `control_dep_graph` (`Prog.cdgModel`) is complete:
   * `CdgComplete.fow` (Ferrante/Ottenstein/Warren): a block `u` that post-dominates a successor
     `t` of `d` (with `t` reaching the exit) without strictly post-dominating `d` is listed under `d`
     -- the walk of `graph_algo_impl::dominance` from `t` up the immediate-post-dominator tree
     meets every post-dominator of `t` before it meets `idom[d]`;
   * `CdgComplete.escape`: under a block with two successors one of which cannot reach the exit,
     every block reachable from its successors is listed.
-/
namespace Crab
namespace TIR

/-- what the soundness proof of the crawler needs from a control-dependence graph -/
structure CdgComplete (P : Prog) (g : Cdg) : Prop where
  escape : ∀ d s t u, d ∈ P.labels → 2 ≤ (P.succsOf d).length → s ∈ P.succsOf d →
    (∀ x, P.exit = some x → ¬ CoReach P x s) → t ∈ P.succsOf d → GPath P.succsOf t u → u ∈ g.kids d
  fow : ∀ x d t u, P.exit = some x → d ∈ P.labels → t ∈ P.succsOf d → CoReach P x t → PDom P x u t →
    ¬ (u ≠ d ∧ PDom P x u d) → u ∈ g.kids d

/-- the measure of the walk up the tree of immediate post-dominators -/
def pdCount (P : Prog) (x s : Label) : Nat := P.labels.countP (fun y => P.pdomB x y s)

theorem pdCount_le (P : Prog) (x s : Label) : pdCount P x s ≤ P.blocks.length :=
  labels_length P ▸ List.countP_le_length

theorem pdCount_pos {P : Prog} (hwf : WFp P) {x s : Label} (hs : s ∈ P.labels) : 0 < pdCount P x s :=
  List.countP_pos_iff.mpr ⟨s, hs, (pdomB_iff hwf hs).mpr (PDom.refl P x s)⟩

theorem pdCount_ipdom {P : Prog} (hwf : WFp P) {x s p : Label} (hx : x ∈ P.labels) (hs : s ∈ P.labels)
    (h : P.ipdom x (P.coReachable x) s = some p) : pdCount P x p < pdCount P x s := by
  obtain ⟨hpl, hps, hpd, hco, _⟩ := ipdom_some hwf hx hs h
  -- every post-dominator of `p` is one of `s`, and `s` itself is none of `p`
  refine countP_lt_of_imp _ _ P.labels
    (fun y hy => (pdomB_iff hwf hs).mpr (PDom.trans ((pdomB_iff hwf hpl).mp hy) hpd)) s hs
    ((pdomB_iff hwf hs).mpr (PDom.refl P x s)) ?_
  cases hb : P.pdomB x s p with
  | false => rfl
  | true => exact absurd (PDom.antisymm hco hpd ((pdomB_iff hwf hpl).mp hb)) hps

/-- the walk from `s` lists every post-dominator `y` of `s` that does not post-dominate the
    stop node -/
theorem pdfWalk_complete {P : Prog} (hwf : WFp P) {x : Label} (hx : x ∈ P.labels)
    (ipd : Label → Option Label) (hipd : ∀ n, n ∈ P.labels → ipd n = P.ipdom x (P.coReachable x) n)
    (stop : Option Label) (y : Label) (hstop : ∀ q, stop = some q → ¬ PDom P x y q) :
    ∀ (f : Nat) (s : Label), s ∈ P.labels → CoReach P x s → pdCount P x s ≤ f → PDom P x y s →
      y ∈ pdfWalk ipd stop f (some s) := by
  intro f
  induction f with
  | zero =>
    intro s hs _ hc _
    have := pdCount_pos hwf (x := x) hs
    omega
  | succ f ih =>
    intro s hs hco hc hy
    unfold pdfWalk
    have hne : (stop == some s) = false := by
      cases hb : stop == some s with
      | false => rfl
      | true => exact absurd hy (hstop s (by simpa using hb))
    simp only [hne, Bool.false_eq_true, if_false]
    by_cases hys : y = s
    · subst hys; exact List.mem_cons_self
    · apply List.mem_cons_of_mem
      have hsx : s ≠ x := by
        intro e
        subst e
        exact hys (PDom.of_exit hy)
      obtain ⟨p, hp⟩ := ipdom_exists hwf hx hs hco hsx
      obtain ⟨hpl, _, hpd, _, hmin⟩ := ipdom_some hwf hx hs hp
      rw [hipd s hs, hp]
      have hlt := pdCount_ipdom hwf hx hs hp
      exact ih p hpl (PDom.reach hco hpd).2 (by omega) (hmin y hys hy)

theorem mem_keys_of_kids {g : Cdg} {d u : Label} (hu : u ∈ g.kids d) : d ∈ g.map (·.1) := by
  unfold Cdg.kids at hu
  cases hl : g.lookup d with
  | none => rw [hl] at hu; cases hu
  | some K => exact List.mem_map.mpr ⟨(d, K), lookup_mem g d K hl, rfl⟩

theorem kids_merge (g h : Cdg) (d u : Label) (hu : u ∈ g.kids d ∨ u ∈ h.kids d) : u ∈ (g.merge h).kids d := by
  have hkey : d ∈ (g.map (·.1) ++ h.map (·.1)).eraseDups :=
    List.mem_eraseDups.mpr (List.mem_append.mpr (hu.imp mem_keys_of_kids mem_keys_of_kids))
  unfold Cdg.merge Cdg.kids
  rw [lookup_graph, if_pos hkey]
  exact List.mem_eraseDups.mpr (List.mem_append.mpr hu)

theorem kids_filterMap_nonempty (K : Label → List Label) (L : List Label) {d u : Label} (hd : d ∈ L) (hu : u ∈ K d) :
    u ∈ Cdg.kids (L.filterMap (fun n => if (K n).isEmpty then none else some (n, K n))) d := by
  have hne : (K d).isEmpty = false := by
    cases hk : K d with
    | nil => rw [hk] at hu; cases hu
    | cons _ _ => rfl
  unfold Cdg.kids
  rw [lookup_filterMap_key _ (by intro m p hp; split at hp <;> cases hp; rfl) L d (d, K d) hd (by simp [hne])]
  exact hu

theorem kids_cdgPdf {P : Prog} {x d u : Label} (hx : P.exit = some x) (hd : d ∈ P.labels)
    (hu : u ∈ pdfKids P (tabFn (P.ipdomTab x (P.coReachable x))) d) : u ∈ P.cdgPdf.kids d := by
  simp only [Prog.cdgPdf, hx]
  exact kids_filterMap_nonempty (pdfKids P (tabFn (P.ipdomTab x (P.coReachable x)))) P.labels hd hu

theorem cdgPdf_fow {P : Prog} (hwf : WFp P) {x d t u : Label} (hx : P.exit = some x) (hd : d ∈ P.labels)
    (ht : t ∈ P.succsOf d) (hco : CoReach P x t) (hpd : PDom P x u t) (hns : ¬ (u ≠ d ∧ PDom P x u d)) :
    u ∈ P.cdgPdf.kids d := by
  have hxl : x ∈ P.labels := hwf.exit x hx
  have htl : t ∈ P.labels := hwf.succ_lab d t ht
  apply kids_cdgPdf hx hd
  unfold pdfKids
  apply List.mem_eraseDups.mpr
  apply List.mem_flatMap.mpr
  refine ⟨t, ht, ?_⟩
  apply pdfWalk_complete hwf hxl _ (fun n hn => tabFn_ipdomTab x _ hn) _ u _ _ t htl hco
    (Nat.le_succ_of_le (pdCount_le P x t)) hpd
  intro q hq hpq
  rw [tabFn_ipdomTab x _ hd] at hq
  obtain ⟨_, hqd, hqpd, hcod, _⟩ := ipdom_some hwf hxl hd hq
  apply hns
  refine ⟨?_, PDom.trans hpq hqpd⟩
  intro e
  subst e
  exact hqd (PDom.antisymm hcod hqpd hpq)

def escFn (P : Prog) (co : List Label) (n : Label) : Option (Label × List Label) :=
  if (P.succsOf n).length ≥ 2 && (P.succsOf n).any (fun s => !co.contains s) then
    some (n, reachFrom P.succsOf ((P.blocks.length + 1) * (P.blocks.length + 1) + 1) (P.succsOf n) [])
  else none

theorem cdgEscape_eq (P : Prog) : P.cdgEscape = P.labels.filterMap (escFn P P.coExit) := rfl

theorem coExit_iff {P : Prog} (hwf : WFp P) {x s : Label} (hx : P.exit = some x) : s ∈ P.coExit ↔ CoReach P x s := by
  unfold Prog.coExit
  rw [hx]
  exact mem_coReachable hwf (hwf.exit x hx)

theorem mem_coExit {P : Prog} (hwf : WFp P) {s : Label} (h : s ∈ P.coExit) : ∃ x, P.exit = some x ∧ CoReach P x s := by
  cases hx : P.exit with
  | none => simp [Prog.coExit, hx] at h
  | some x => exact ⟨x, rfl, (coExit_iff hwf hx).mp h⟩

theorem cdgEscape_kids {P : Prog} (hwf : WFp P) {d s t u : Label} (hd : d ∈ P.labels)
    (h2 : 2 ≤ (P.succsOf d).length) (hs : s ∈ P.succsOf d) (hesc : ∀ x, P.exit = some x → ¬ CoReach P x s)
    (ht : t ∈ P.succsOf d) (hp : GPath P.succsOf t u) : u ∈ P.cdgEscape.kids d := by
  have hsco : s ∉ P.coExit := by
    intro hm
    obtain ⟨x, hx, hco⟩ := mem_coExit hwf hm
    exact hesc x hx hco
  have hF : escFn P P.coExit d =
      some (d, reachFrom P.succsOf ((P.blocks.length + 1) * (P.blocks.length + 1) + 1) (P.succsOf d) []) := by
    unfold escFn
    have : (decide ((P.succsOf d).length ≥ 2) && (P.succsOf d).any (fun s => !P.coExit.contains s)) = true := by
      simp only [Bool.and_eq_true, decide_eq_true_eq, List.any_eq_true, Bool.not_eq_eq_eq_not, Bool.not_true]
      exact ⟨h2, s, hs, by simpa using hsco⟩
    simp only [this, if_true]
  have := lookup_filterMap_key (escFn P P.coExit)
    (by
      intro m p hp
      unfold escFn at hp
      split at hp
      · simp only [Option.some.injEq] at hp; rw [← hp]
      · cases hp)
    P.labels d _ hd hF
  unfold Cdg.kids
  rw [cdgEscape_eq, this]
  exact (mem_reach_succs hwf).mpr ⟨t, ht, hp⟩

/-- THE MODEL OF THE REPAIRED `control_dep_graph` IS COMPLETE -/
theorem cdgModel_complete {P : Prog} (hwf : WFp P) : CdgComplete P P.cdgModel where
  escape := fun d s t u hd h2 hs hesc ht hp =>
    kids_merge _ _ d u (Or.inr (cdgEscape_kids hwf hd h2 hs hesc ht hp))
  fow := fun x d t u hx hd ht hco hpd hns =>
    kids_merge _ _ d u (Or.inl (cdgPdf_fow hwf hx hd ht hco hpd hns))

theorem covers_kids {g h : Cdg} (hc : g.covers h = true) {d u : Label} (hu : u ∈ h.kids d) : u ∈ g.kids d := by
  unfold Cdg.kids at hu
  cases hl : h.lookup d with
  | none => rw [hl] at hu; simp at hu
  | some K =>
    rw [hl] at hu
    simp only [Option.getD_some] at hu
    have hm := lookup_mem h d K hl
    have := (List.all_eq_true.mp hc) (d, K) hm
    have := (List.all_eq_true.mp this) u hu
    simpa using this

theorem CdgComplete.of_covers {P : Prog} {g h : Cdg} (hc : g.covers h = true) (hh : CdgComplete P h) :
    CdgComplete P g where
  escape := fun d s t u hd h2 hs hesc ht hp => covers_kids hc (hh.escape d s t u hd h2 hs hesc ht hp)
  fow := fun x d t u hx hd ht hco hpd hns => covers_kids hc (hh.fow x d t u hx hd ht hco hpd hns)

end TIR
end Crab
