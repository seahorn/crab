import CrabModel.Dom.Zones
import CrabProofs.Lemmas.DbmPotential
import CrabProofs.Lemmas.CanonDbm
import CrabProofs.Lemmas.Interval

/-!
  Exactness of the canonical zone model on its constraint language (property C12): closure keeps
  γ, closed entries are tight and a state of the other variables extends to a forgotten one.  These
  are the laws of a matrix domain with a normal form (`Zones.laws`, `Lemmas/CanonDbm.lean`), hence
  `isBottom`, `entails`, `join`, `forget`, `leq` are exact; so are `meet` and `bounds`.
  For ALL `n` and ALL matrices.
-/
namespace Crab
namespace Zones
open Dbm

variable {n : Nat}

/-- `σ[x ↦ t]`; the projection `forget z x` contains `σ` iff `z` contains some `σ[x ↦ t]` -/
def updS (σ : State n) (x : Fin n) (t : Int) : State n := fun y => if y = x then t else σ y


@[simp] theorem ext_zero (σ : State n) : ext σ 0 = 0 := rfl
@[simp] theorem ext_succ (σ : State n) (x : Fin n) : ext σ x.succ = σ x := rfl

theorem ext_stateOf (v : Fin (n + 1) → Int) (i : Fin (n + 1)) : ext (stateOf v) i = v i - v 0 := by
  refine Fin.cases ?_ (fun x => ?_) i
  · simp
  · simp [stateOf]

theorem ext_stateOf_sub (v : Fin (n + 1) → Int) (i j : Fin (n + 1)) :
    ext (stateOf v) i - ext (stateOf v) j = v i - v j := by
  rw [ext_stateOf, ext_stateOf]; omega

theorem sat_stateOf (m : Mat (n + 1)) (v : Fin (n + 1) → Int) : m.sat (ext (stateOf v)) ↔ m.sat v := by
  constructor <;> intro h i j k hk <;> have := h i j k hk
  · rwa [ext_stateOf_sub] at this
  · rwa [ext_stateOf_sub]

theorem Cst.sat_iff_entry (c : Cst n) (σ : State n) :
    c.sat σ ↔ ext σ c.row - ext σ c.col ≤ c.bound := by
  cases c <;> simp [Cst.sat, Cst.row, Cst.col, Cst.bound]

theorem ext_updS_of_ne (σ : State n) (x : Fin n) (t : Int) (i : Fin (n + 1)) (h : i ≠ x.succ) :
    ext (updS σ x t) i = ext σ i := by
  revert h
  refine Fin.cases ?_ (fun y => ?_) i
  · intro _; rfl
  · intro h
    have : y ≠ x := fun e => h (by rw [e])
    simp [updS, this]

theorem ext_updS_self (σ : State n) (x : Fin n) (t : Int) : ext (updS σ x t) x.succ = t := by
  simp [updS]


theorem close_preserves_γ (z : Zone n) (σ : State n) : γ (close z) σ ↔ γ z σ := Mat.fw_sat z (ext σ)

theorem close_LE (z : Zone n) : Mat.LE (close z) z := Mat.fw_LE z

theorem close_closed {z : Zone n} (h : isBottom z = false) : Mat.Closed (close z) := Mat.fw_closed h

@[simp] theorem isBottomC_close (z : Zone n) : isBottomC (close z) = isBottom z := rfl

/-- a solution of the closure, shifted so that index 0 is 0, is a state of `z` -/
theorem γ_stateOf {z : Zone n} {v : Fin (n + 1) → Int} (hv : (close z).sat v) : γ z (stateOf v) :=
  (close_preserves_γ z _).1 ((sat_stateOf _ v).2 hv)

theorem top_γ (σ : State n) : γ (top : Zone n) σ := Mat.top_sat _

theorem assumeCst_exact (z : Zone n) (c : Cst n) (σ : State n) :
    γ (assumeCst z c) σ ↔ (γ z σ ∧ c.sat σ) := by
  unfold γ assumeCst
  rw [Mat.addEdge_sat, Cst.sat_iff_entry]

theorem assumeAll_exact (z : Zone n) (cs : List (Cst n)) (σ : State n) :
    γ (assumeAll z cs) σ ↔ (γ z σ ∧ ∀ c ∈ cs, c.sat σ) :=
  RelDom.foldl_assume_exact assumeCst_exact cs z σ


/-- tightness on states, from `Mat.Closed.tight` by shifting a solution so that index 0 is 0 -/
theorem close_tight (z : Zone n) (hb : isBottom z = false) (i j : Fin (n + 1)) :
    (∀ σ, γ z σ → ∀ d, (close z).get i j = some d → ext σ i - ext σ j ≤ d) ∧
    (∀ d, (close z).get i j = some d → ∃ σ, γ z σ ∧ ext σ i - ext σ j = d) ∧
    ((close z).get i j = none → ∀ B : Int, ∃ σ, γ z σ ∧ B < ext σ i - ext σ j) := by
  obtain ⟨h1, h2⟩ := (close_closed hb).tight i j
  refine ⟨fun σ hσ d hd => (close_preserves_γ z σ).2 hσ i j d hd, fun d hd => ?_, fun hd B => ?_⟩
  · obtain ⟨v, hv, he⟩ := h1 d hd
    exact ⟨stateOf v, γ_stateOf hv, by rwa [ext_stateOf_sub]⟩
  · obtain ⟨v, hv, he⟩ := h2 hd B
    exact ⟨stateOf v, γ_stateOf hv, by rwa [ext_stateOf_sub]⟩

/-- an in-language consequence of `z` is bounded by the closed entry -/
theorem entry_LE_of_implied (z : Zone n) (hb : isBottom z = false) (i j : Fin (n + 1)) (k : Int)
    (h : ∀ σ, γ z σ → ext σ i - ext σ j ≤ k) : W.LE ((close z).get i j) (some k) :=
  (close_closed hb).entry_LE_of_implied fun v hv => by
    have := h (stateOf v) (γ_stateOf hv)
    rwa [ext_stateOf_sub] at this

/-- the state the driver computes to test tightness is in `γ z`, attains every finite closed entry
    of row `i` and exceeds `B` on the infinite ones -/
theorem witnessEdge_spec (z : Zone n) (hb : isBottom z = false) (i : Fin (n + 1)) (B : Int) :
    γ z (witnessEdge z i B) ∧
    ∀ j, (∀ d, (close z).get i j = some d → ext (witnessEdge z i B) i - ext (witnessEdge z i B) j = d) ∧
         ((close z).get i j = none → B < ext (witnessEdge z i B) i - ext (witnessEdge z i B) j) := by
  have hc := close_closed hb
  have hE := Mat.absSum_nonneg (close z)
  -- `witnessEdge` takes `L = 2E + |B| + 1` with `E = absSum (close z)`; only the two bounds below are used
  obtain ⟨L, hL, hLB, hw⟩ : ∃ L, 2 * (close z).absSum ≤ L ∧ (close z).absSum + B < L ∧
      witnessEdge z i B = stateOf ((close z).witness i L) :=
    ⟨_, by split <;> omega, by split <;> omega, rfl⟩
  rw [hw]
  refine ⟨γ_stateOf (Mat.solution_sat hc _),
    fun j => ⟨fun d hd => ?_, fun hd => ?_⟩⟩
  · rw [ext_stateOf_sub]
    exact Mat.witness_finite hc i j hL hd
  · rw [ext_stateOf_sub]
    have := Mat.witness_infinite hc i j hL hd
    omega


/-- a state of the closed constraints between the indices other than `x` extends to a value of `x`
    compatible with all of them: each lower bound is below each upper bound by the triangle
    inequality through `x` -/
theorem extend (z : Zone n) (hb : isBottom z = false) (x : Fin n) (σ : State n)
    (hrest : ∀ i j k, i ≠ x.succ → j ≠ x.succ → (close z).get i j = some k → ext σ i - ext σ j ≤ k) :
    ∃ t, γ z (updS σ x t) := by
  have hc := close_closed hb
  let X := x.succ
  -- upper constraints  t ≤ c X j + v j, lower constraints  -t ≤ c i X - v i
  let up : Fin (n + 1) → W := fun j => if j = X then none else W.add ((close z).get X j) (some (ext σ j))
  let lo : Fin (n + 1) → W := fun i => if i = X then none else W.add ((close z).get i X) (some (-ext σ i))
  obtain ⟨t, hup, hlo⟩ := Mat.exists_between up lo (by
    intro i j a b hi hj
    have hj0 : j ≠ X := by
      intro e; simp only [up, e, if_true] at hj; cases hj
    have hi0 : i ≠ X := by
      intro e; simp only [lo, e, if_true] at hi; cases hi
    simp only [up, hj0, if_false] at hj
    simp only [lo, hi0, if_false] at hi
    obtain ⟨p, q, hp, hq, rfl⟩ := W.add_some_iff.1 hj
    obtain ⟨r, s, hr, hs, rfl⟩ := W.add_some_iff.1 hi
    cases hq; cases hs
    -- triangle: c i j ≤ c i X + c X j
    have htri := hc.tri i j X
    rw [hr, hp] at htri
    obtain ⟨w, hw, hwl⟩ := htri _ rfl
    have := hrest i j w hi0 hj0 hw
    omega)
  refine ⟨t, ?_⟩
  rw [← close_preserves_γ]
  intro i j k hk
  by_cases hi : i = X
  · by_cases hj : j = X
    · subst hi; subst hj
      rw [hc.diag] at hk; cases hk; omega
    · subst hi
      rw [ext_updS_self, ext_updS_of_ne _ _ _ _ hj]
      have := hup j (k + ext σ j) (by simp only [up, hj, if_false, hk, W.add])
      omega
  · by_cases hj : j = X
    · subst hj
      rw [ext_updS_self, ext_updS_of_ne _ _ _ _ hi]
      have := hlo i (k + -ext σ i) (by simp only [lo, hi, if_false, hk, W.add])
      omega
    · rw [ext_updS_of_ne _ _ _ _ hi, ext_updS_of_ne _ _ _ _ hj]
      exact hrest i j k hi hj hk


/-- zones are a matrix domain whose normal form is the shortest-path closure -/
theorem laws (n : Nat) : Canon.Laws (@ext n) close (fun x i => decide (i = x.succ)) fun _ => True where
  close_LE := Mat.fw_LE
  close_γ := fun z σ => Mat.fw_sat z (ext σ)
  ext_upd := fun σ x t i h => ext_updS_of_ne σ x t i (of_decide_eq_false h)
  point := fun _ _ hb => (Mat.closed_sat (close_closed hb)).elim fun _ hv => ⟨_, γ_stateOf hv⟩
  tight := fun z _ hb i j k h => entry_LE_of_implied z hb i j k h
  extend := fun z _ hb x σ h =>
    extend z hb x σ fun i j k hi hj => h i j k (decide_eq_false hi) (decide_eq_false hj)
  inv_forget := fun _ _ _ => trivial

theorem bottom_sound {z : Zone n} (h : isBottom z = true) (σ : State n) : ¬ γ z σ :=
  (laws n).bottom_sound h σ

theorem bottom_iff_unsat (z : Zone n) : isBottom z = true ↔ ¬ ∃ σ, γ z σ :=
  (laws n).bottom_iff_unsat trivial

theorem entails_iff_implied (z : Zone n) (c : Cst n) :
    entails z c = true ↔ ∀ σ, γ z σ → c.sat σ :=
  ((laws n).entailsAt_iff trivial c.row c.col c.bound).trans
    (forall_congr' fun σ => imp_congr_right fun _ => (Cst.sat_iff_entry c σ).symm)

theorem meet_exact (a b : Zone n) (σ : State n) : γ (meet a b) σ ↔ (γ a σ ∧ γ b σ) := Mat.pmin_sat a b _

theorem join_upper (a b : Zone n) (σ : State n) (h : γ a σ ∨ γ b σ) : γ (join a b) σ :=
  (laws n).join_upper a b σ h

theorem join_least (a b c : Zone n) (ha : ∀ σ, γ a σ → γ c σ) (hb : ∀ σ, γ b σ → γ c σ)
    (σ : State n) (h : γ (join a b) σ) : γ c σ :=
  (laws n).join_least trivial trivial c ha hb σ h

theorem forget_exact (z : Zone n) (x : Fin n) (σ : State n) :
    γ (forget z x) σ ↔ ∃ t, γ z (updS σ x t) :=
  (laws n).forget_exact trivial x σ


theorem bounds_of_not_bottom {z : Zone n} (hb : isBottom z = false) (x : Fin n) :
    bounds z x = ⟨toLb ((close z).get 0 x.succ), toUb ((close z).get x.succ 0)⟩ := by
  unfold bounds boundsC
  rw [isBottomC_close, hb]
  simp

theorem toUb_eq_fin {w : W} {k : Int} : toUb w = .fin k ↔ w = some k := by cases w <;> simp [toUb]
theorem toUb_eq_pinf {w : W} : toUb w = .pinf ↔ w = none := by cases w <;> simp [toUb]
theorem toLb_eq_fin {w : W} {k : Int} : toLb w = .fin k ↔ w = some (-k) := by
  cases w <;> simp [toLb]; omega
theorem toLb_eq_ninf {w : W} : toLb w = .ninf ↔ w = none := by cases w <;> simp [toLb]

theorem bounds_sound (z : Zone n) (σ : State n) (h : γ z σ) (x : Fin n) : Itv.mem (σ x) (bounds z x) := by
  rw [bounds_of_not_bottom ((laws n).isBottom_false_of_γ h)]
  have hc := (close_preserves_γ z σ).2 h
  constructor
  · cases hd : (close z).get 0 x.succ with
    | none => rfl
    | some d =>
      have := hc 0 x.succ d hd
      simp only [ext_zero, ext_succ] at this
      simp only [toLb, Bound.le, decide_eq_true_eq]
      omega
  · cases hd : (close z).get x.succ 0 with
    | none => rfl
    | some d =>
      have := hc x.succ 0 d hd
      simp only [ext_zero, ext_succ] at this
      simp only [toUb, Bound.le, decide_eq_true_eq]
      omega

theorem bounds_tight_ub (z : Zone n) (hb : isBottom z = false) (x : Fin n) (k : Int)
    (h : (bounds z x).ub = .fin k) : ∃ σ, γ z σ ∧ σ x = k := by
  -- `simp only` also reduces the projection; unifying `{..}.ub` with `toUb _` would evaluate the closure
  simp only [bounds_of_not_bottom hb, toUb_eq_fin] at h
  obtain ⟨σ, hσ, he⟩ := (close_tight z hb x.succ 0).2.1 k h
  simp only [ext_zero, ext_succ] at he
  exact ⟨σ, hσ, by omega⟩

theorem bounds_tight_lb (z : Zone n) (hb : isBottom z = false) (x : Fin n) (k : Int)
    (h : (bounds z x).lb = .fin k) : ∃ σ, γ z σ ∧ σ x = k := by
  simp only [bounds_of_not_bottom hb, toLb_eq_fin] at h
  obtain ⟨σ, hσ, he⟩ := (close_tight z hb 0 x.succ).2.1 (-k) h
  simp only [ext_zero, ext_succ] at he
  exact ⟨σ, hσ, by omega⟩

theorem bounds_unbounded_ub (z : Zone n) (hb : isBottom z = false) (x : Fin n)
    (h : (bounds z x).ub = .pinf) (B : Int) : ∃ σ, γ z σ ∧ B < σ x := by
  simp only [bounds_of_not_bottom hb, toUb_eq_pinf] at h
  obtain ⟨σ, hσ, he⟩ := (close_tight z hb x.succ 0).2.2 h B
  simp only [ext_zero, ext_succ] at he
  exact ⟨σ, hσ, by omega⟩

theorem bounds_unbounded_lb (z : Zone n) (hb : isBottom z = false) (x : Fin n)
    (h : (bounds z x).lb = .ninf) (B : Int) : ∃ σ, γ z σ ∧ σ x < B := by
  simp only [bounds_of_not_bottom hb, toLb_eq_ninf] at h
  obtain ⟨σ, hσ, he⟩ := (close_tight z hb 0 x.succ).2.2 h (-B)
  simp only [ext_zero, ext_succ] at he
  exact ⟨σ, hσ, by omega⟩

theorem bounds_bottom {z : Zone n} (hb : isBottom z = true) (x : Fin n) : bounds z x = Itv.bot := by
  unfold bounds boundsC
  rw [isBottomC_close, hb]
  simp


end Zones
end Crab
