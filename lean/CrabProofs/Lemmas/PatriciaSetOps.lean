import CrabProofs.Lemmas.PatriciaSet

/-!
  `discrete_domain`: `operator+=(Element)`, `operator-=(Element)`, `operator-(Range)` (difference),
  `rename`, iteration, `size()`, `is_bottom()`, `is_top()`, stated through `contain`
  (`|`, `&`, `<=` are in `PatriciaSet.lean`).
-/
namespace Crab
open Patricia Patricia.Tree

namespace PSet

/-- removing a list of keys one after the other (the loop of `discrete_domain::operator-(Range)`) -/
theorem removeAll_spec {c : Ctx Bool} (hc : c.SoundOn IsTrue) (es : List Nat) (hes : ∀ k ∈ es, k < 2 ^ 64) :
    ∀ {s : T}, Inv s →
      Inv (es.foldl (fun s k => PSet.remove c s k) s) ∧
        ∀ k', member (es.foldl (fun s k => PSet.remove c s k) s) k' = (!decide (k' ∈ es) && member s k') := by
  induction es with
  | nil => intro s hs; exact ⟨hs, fun k' => by simp⟩
  | cons e es ih =>
    intro s hs
    obtain ⟨w, l⟩ := remove_spec' hc hs (hes e (by simp))
    obtain ⟨w2, l2⟩ := ih (fun k hk => hes k (by simp [hk])) w
    refine ⟨by simpa [List.foldl] using w2, fun k' => ?_⟩
    simp only [List.foldl]
    rw [l2, l]
    by_cases h1 : k' = e <;> by_cases h2 : k' ∈ es <;> simp [h1, h2]

end PSet

namespace DD

theorem add_spec {c : Ctx Bool} (hc : c.SoundOn PSet.IsTrue) {a : DD} (ha : Inv a) {k : Nat} (hk : k < 2 ^ 64) :
    Inv (add c a k) ∧ ∀ k', (add c a k).contain k' = (decide (k' = k) || a.contain k') := by
  unfold add
  cases h1 : a.isTop
  · simp only [Bool.false_eq_true, if_false]
    obtain ⟨w, l⟩ := PSet.add_spec hc ha.1 hk
    refine ⟨inv_set w, fun k' => ?_⟩
    rw [contain_set w, contain_eq ha, l, h1]; simp
  · simp only [if_true]
    refine ⟨ha, fun k' => ?_⟩
    rw [contain_eq ha, h1]; simp

theorem remove_spec {c : Ctx Bool} (hc : c.SoundOn PSet.IsTrue) {a : DD} (ha : Inv a) {k : Nat} (hk : k < 2 ^ 64) :
    Inv (remove c a k) ∧
      (a.isTop = false → ∀ k', (remove c a k).contain k' = (!decide (k' = k) && a.contain k')) ∧
      (a.isTop = true → remove c a k = a) := by
  unfold remove
  cases h1 : a.isTop
  · simp only [Bool.false_eq_true, if_false]
    obtain ⟨w, l⟩ := PSet.remove_spec' hc ha.1 hk
    refine ⟨inv_set w, (fun _ k' => ?_), fun h => by cases h⟩
    rw [contain_set w, contain_eq ha, l, h1]; simp
  · simp only [if_true]
    exact ⟨ha, (fun h => by cases h), fun _ => trivial⟩

/-- `a - b` for a non-top `b`: defined, and it contains exactly the elements of `a` not in `b`
    when `a` is not top; a top `a` is returned unchanged (the code cannot represent co-finite sets) -/
theorem diff_spec {c : Ctx Bool} (hc : c.SoundOn PSet.IsTrue) {a b : DD} (ha : Inv a) (hb : Inv b)
    (hbt : b.isTop = false) :
    ∃ r, diff c a b = some r ∧ Inv r ∧
      (a.isTop = false → ∀ k, r.contain k = (a.contain k && !b.contain k)) ∧
      (a.isTop = true → r = a) := by
  unfold diff
  cases h1 : a.isTop
  · simp only [Bool.false_eq_true, if_false, elems, hbt]
    have hmem := (PSet.elems_spec hb.1).2.2.1
    have hes : ∀ k ∈ PSet.elems b.set, k < 2 ^ 64 := fun k hk =>
      WF.key_lt hb.1 ((PSet.member_iff hb.1).mp ((hmem k).mp hk))
    obtain ⟨w, l⟩ := PSet.removeAll_spec hc (PSet.elems b.set) hes ha.1
    refine ⟨_, rfl, inv_set w, (fun _ k => ?_), fun h => by cases h⟩
    have e : decide (k ∈ PSet.elems b.set) = PSet.member b.set k := Bool.eq_iff_iff.mpr (by simpa using hmem k)
    rw [contain_set w, contain_eq ha, contain_eq hb, l, h1, hbt, e]; simp [Bool.and_comm]
  · simp only [if_true]
    exact ⟨a, rfl, ha, (fun h => by cases h), fun _ => rfl⟩

/-- `a - b` with `b` top and `a` not top is the CRAB_ERROR of iterating a top set -/
theorem diff_top_error (c : Ctx Bool) {a b : DD} (hat : a.isTop = false) (hbt : b.isTop = true) :
    diff c a b = none := by
  simp [diff, hat, elems, hbt]

/-- one pair of `discrete_domain::rename` on sets-as-predicates -/
def renameStepSpec (m : Nat → Bool) (p : Nat × Nat) : Nat → Bool :=
  if p.1 = p.2 then m
  else if m p.1 then fun k => if k = p.2 then true else if k = p.1 then false else m k
  else m

theorem add_isTop_false (c : Ctx Bool) {a : DD} (h : a.isTop = false) (k : Nat) : (add c a k).isTop = false := by
  simp [add, h]
theorem remove_isTop_false (c : Ctx Bool) {a : DD} (h : a.isTop = false) (k : Nat) : (remove c a k).isTop = false := by
  simp [remove, h]

theorem renameFold_spec {c : Ctx Bool} (hc : c.SoundOn PSet.IsTrue) (ps : List (Nat × Nat))
    (hps : ∀ p ∈ ps, p.1 < 2 ^ 64 ∧ p.2 < 2 ^ 64) {d : DD} {m : Nat → Bool}
    (hd : Inv d) (ht : d.isTop = false) (hm : ∀ k, d.contain k = m k) :
      let r := ps.foldl (fun d p =>
        if p.1 = p.2 then d
        else if d.contain p.1 then add c (remove c d p.1) p.2 else d) d
      Inv r ∧ r.isTop = false ∧ ∀ k, r.contain k = (ps.foldl renameStepSpec m) k := by
  -- the two folds run in step: it is enough to look at one pair
  refine List.foldl_rel (r := fun (d : DD) (m : Nat → Bool) => Inv d ∧ d.isTop = false ∧ ∀ k, d.contain k = m k)
    ⟨hd, ht, hm⟩ (fun p hp d m ⟨hd, ht, hm⟩ => ?_)
  have hp := hps p hp
  unfold renameStepSpec
  rw [← hm p.1]
  by_cases e : p.1 = p.2
  · rw [if_pos e, if_pos e]; exact ⟨hd, ht, hm⟩
  · rw [if_neg e, if_neg e]
    cases hcnt : d.contain p.1 <;> simp only [if_true, Bool.false_eq_true, if_false]
    · exact ⟨hd, ht, hm⟩
    · obtain ⟨w1, l1, _⟩ := remove_spec hc hd hp.1
      obtain ⟨w2, l2⟩ := add_spec hc w1 hp.2
      refine ⟨w2, add_isTop_false c (remove_isTop_false c ht p.1) p.2, fun k => ?_⟩
      rw [l2, l1 ht, hm]
      by_cases h1 : k = p.2
      · simp [h1]
      · by_cases h2 : k = p.1 <;> simp [h1, h2]

/-- `rename(from, to)` of a value that is neither top nor bottom: defined when the vectors have
    the same length, and the result is the left fold of the per-pair specification -/
theorem rename_spec {c : Ctx Bool} (hc : c.SoundOn PSet.IsTrue) {a : DD} (ha : Inv a)
    (hat : a.isTop = false) (hab : a.isBottom = false) (frm to : List Nat) (hlen : frm.length = to.length)
    (hf : ∀ k ∈ frm, k < 2 ^ 64) (ht : ∀ k ∈ to, k < 2 ^ 64) :
    ∃ r, rename c a frm to = some r ∧ Inv r ∧ r.isTop = false ∧
      ∀ k, r.contain k = ((frm.zip to).foldl renameStepSpec a.contain) k := by
  have hps : ∀ p ∈ frm.zip to, p.1 < 2 ^ 64 ∧ p.2 < 2 ^ 64 := by
    intro p hp
    have := List.of_mem_zip hp
    exact ⟨hf _ this.1, ht _ this.2⟩
  obtain ⟨w, t, l⟩ := renameFold_spec hc (frm.zip to) hps (d := a) (m := a.contain) ha hat (fun _ => rfl)
  refine ⟨_, ?_, w, t, l⟩
  simp [rename, hat, hab, hlen]

theorem rename_top_bottom (c : Ctx Bool) {a : DD} (h : a.isTop = true ∨ a.isBottom = true) (frm to : List Nat) :
    rename c a frm to = some a := by
  rcases h with h | h <;> simp [rename, h]

theorem elems_spec {a : DD} (ha : Inv a) (hat : a.isTop = false) :
    ∃ l, a.elems = some l ∧ l.Pairwise (· < ·) ∧ l.Nodup ∧ (∀ k, k ∈ l ↔ a.contain k = true) ∧
      a.size = some l.length := by
  obtain ⟨h1, h2, h3, h4⟩ := PSet.elems_spec ha.1
  refine ⟨PSet.elems a.set, by simp [elems, hat], h1, h2, fun k => ?_, by simp [size, hat, h4, PSet.size]⟩
  rw [h3, contain_eq ha, hat]; simp

theorem elems_top {a : DD} (hat : a.isTop = true) : a.elems = none ∧ a.size = none := by
  simp [elems, size, hat]

theorem isBottom_iff {a : DD} (ha : Inv a) : a.isBottom = true ↔ ∀ k, a.contain k = false := by
  constructor
  · intro h k; simp [contain, h]
  · intro h
    cases hat : a.isTop
    · have : PSet.isEmpty a.set = true := (PSet.isEmpty_iff ha.1).mpr (fun k => by
        have := h k; rw [contain_eq ha, hat] at this; simpa using this)
      simp [isBottom, hat]; exact this
    · have := h 0
      rw [contain_eq ha, hat] at this; simp at this

theorem contain_of_isTop {a : DD} (ha : Inv a) : a.isTop = true → ∀ k, a.contain k = true := by
  intro h k; rw [contain_eq ha, h]; simp

end DD
end Crab
