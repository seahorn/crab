import CrabModel.Analysis.AbsTransformer
import CrabModel.Fix.Semantics

/-!
  Soundness of the model of `intra_abs_transformer::exec` / `fwd_analyzer::analyze`
  (`CrabModel/Analysis/AbsTransformer.lean`) w.r.t. the executable semantics of CrabIR
  (`CrabModel/IR/Semantics.lean`), from one soundness law per domain method (`NDom.Laws`).
  `exec` with its flags is the total transformer `execStmt` followed by the sanity check
  (`execStmtE_eq`), so soundness is proved of `execStmt` and carried over by `execStmtE_some`.
-/
namespace Crab
namespace Analysis
open Crab.IR

variable {A : Type}

/-- One law per method of the domain the transformer calls (what C03 proves of a domain).
    A law about a method that writes a variable is only required when that variable is declared
    in the state (`x < σ.iv.size`, `b < σ.bv.size`): the semantics ignores writes outside.
    No law is needed for `set_to_bottom`, `is_bottom`, `is_top`. -/
structure NDom.Laws (D : NDom A) : Prop where
  applyArithVar_sound : ∀ a op x y z σ v, D.γ a σ → x < σ.iv.size →
    evalBin op.toBin (σ.geti y) (σ.geti z) = .val v → D.γ (D.applyArithVar a op x y z) (σ.seti x v)
  applyArithCst_sound : ∀ a op x y k σ v, D.γ a σ → x < σ.iv.size →
    evalBin op.toBin (σ.geti y) k = .val v → D.γ (D.applyArithCst a op x y k) (σ.seti x v)
  applyBitVar_sound : ∀ a op x y z σ v, D.γ a σ → x < σ.iv.size →
    evalBin op.toBin (σ.geti y) (σ.geti z) = .val v → D.γ (D.applyBitVar a op x y z) (σ.seti x v)
  applyBitCst_sound : ∀ a op x y k σ v, D.γ a σ → x < σ.iv.size →
    evalBin op.toBin (σ.geti y) k = .val v → D.γ (D.applyBitCst a op x y k) (σ.seti x v)
  assign_sound : ∀ a x e σ, D.γ a σ → x < σ.iv.size → D.γ (D.assign a x e) (σ.seti x (e.eval σ))
  addCst_sound : ∀ a c σ, D.γ a σ → c.holds σ = true → D.γ (D.addCst a c) σ
  select_sound : ∀ a x c e1 e2 σ, D.γ a σ → x < σ.iv.size →
    D.γ (D.select a x c e1 e2) (σ.seti x (if c.holds σ then e1.eval σ else e2.eval σ))
  forget_int_sound : ∀ a x σ v, D.γ a σ → x < σ.iv.size → D.γ (D.forget a (.int x)) (σ.seti x v)
  forget_bool_sound : ∀ a b σ v, D.γ a σ → b < σ.bv.size → D.γ (D.forget a (.bool b)) (σ.setb b v)
  forgetAll_sound : ∀ a vs σ, D.γ a σ → D.γ (D.forgetAll a vs) σ
  assignBoolCst_sound : ∀ a b c σ, D.γ a σ → b < σ.bv.size →
    D.γ (D.assignBoolCst a b c) (σ.setb b (c.holds σ))
  assignBoolVar_sound : ∀ a b c neg σ, D.γ a σ → b < σ.bv.size →
    D.γ (D.assignBoolVar a b c neg) (σ.setb b (if neg then !(σ.getb c) else σ.getb c))
  applyBinaryBool_sound : ∀ a op b c d σ, D.γ a σ → b < σ.bv.size →
    D.γ (D.applyBinaryBool a op b c d) (σ.setb b (evalBool op.toBool (σ.getb c) (σ.getb d)))
  assumeBool_sound : ∀ a b neg σ, D.γ a σ → (σ.getb b != neg) = true → D.γ (D.assumeBool a b neg) σ
  selectBool_sound : ∀ a b c d e σ, D.γ a σ → b < σ.bv.size →
    D.γ (D.selectBool a b c d e) (σ.setb b (if σ.getb c then σ.getb d else σ.getb e))

/-- the laws of the lattice operations the iterator calls (the fields of `Fix.Sem` other than
    `analyze_sound`) -/
structure LatLaws (ops : Fix.Ops A) (γ : A → State → Prop) : Prop where
  join_left : ∀ a b s, γ a s → γ (ops.join a b) s
  join_right : ∀ a b s, γ b s → γ (ops.join a b) s
  widen_left : ∀ a b s, γ a s → γ (ops.widen a b) s
  widen_right : ∀ a b s, γ b s → γ (ops.widen a b) s
  meet_sound : ∀ a b s, γ a s → γ b s → γ (ops.meet a b) s
  narrow_sound : ∀ a b s, γ a s → γ b s → γ (ops.narrow a b) s
  leq_sound : ∀ a b s, ops.leq a b = true → γ a s → γ b s

theorem convArith_toBin {op : BinOp} {aop : ArithOp} (h : convArith op = some aop) : aop.toBin = op := by
  cases op <;> simp [convArith] at h <;> subst h <;> rfl

theorem convBitwise_toBin {op : BinOp} {bop : BitwiseOp} (h : convBitwise op = some bop) :
    bop.toBin = op := by
  cases op <;> simp [convBitwise] at h <;> subst h <;> rfl

theorem convBool_toBool (op : BoolOp) : (convBool op).toBool = op := by cases op <;> rfl

/-- every `binary_operation_t` is in one of the two tables: `CRAB_ERROR("unsupported binary
    operator")` is unreachable -/
theorem applyBin_isSome (D : NDom A) (inv : A) (op : BinOp) (x y : Nat) (z : Operand) :
    (applyBin D inv op x y z).isSome = true := by
  cases op <;> simp [applyBin, convArith, convBitwise]

theorem sanityGuard_some {D : NDom A} {sanity : Bool} {pre post r : A}
    (h : sanityGuard D sanity pre post = some r) : r = post := by
  unfold sanityGuard at h
  split at h
  · cases h
  · exact (Option.some.inj h).symm

theorem sanityGuard_off (D : NDom A) (pre post : A) : sanityGuard D false pre post = some post := rfl

/-- the statements whose `exec` ends with the check behind `CrabSanityCheckFlag` -/
def guarded : Stmt → Bool
  | .binop op _ _ _ => !isDivRem op
  | .assume _ | .assert _ | .bassume _ _ | .bassert _ | .unreachable => false
  | _ => true

theorem execStmt_binop {D : NDom A} {inv r : A} {op : BinOp} {x y : Nat} {z : Operand}
    (hr : applyBin D inv op x y z = some r) (ia : Bool) : execStmt D ia (.binop op x y z) inv = r := by
  simp only [execStmt, execStmtE, hr, sanityGuard_off, ite_self, Option.getD_some]

/-- `exec` is the total transformer `execStmt`, followed on the guarded statements by the sanity
    check: the flag decides whether a result comes back, never which -/
theorem execStmtE_eq (D : NDom A) (cfg : TrCfg) (s : Stmt) (inv : A) :
    execStmtE D cfg s inv =
      if guarded s then sanityGuard D cfg.sanity inv (execStmt D cfg.ignoreAssert s inv)
      else some (execStmt D cfg.ignoreAssert s inv) := by
  cases s <;> try rfl
  case binop op x y z =>
    obtain ⟨r, hr⟩ := Option.isSome_iff_exists.1 (applyBin_isSome D inv op x y z)
    rw [execStmt_binop hr]
    cases h : isDivRem op <;> simp only [execStmtE, hr, guarded, h] <;> rfl
  case assert c => simp only [execStmtE, execStmt, guarded]; cases cfg.ignoreAssert <;> rfl
  case bassert b => simp only [execStmtE, execStmt, guarded]; cases cfg.ignoreAssert <;> rfl

theorem execStmtE_some {D : NDom A} {cfg : TrCfg} {s : Stmt} {inv inv' : A}
    (he : execStmtE D cfg s inv = some inv') : inv' = execStmt D cfg.ignoreAssert s inv := by
  rw [execStmtE_eq] at he
  split at he
  · exact sanityGuard_some he
  · exact (Option.some.inj he).symm

/-- with the flag off `exec` never raises CRAB_ERROR -/
theorem execStmtE_sanity_off (D : NDom A) (ia : Bool) (s : Stmt) (inv : A) :
    execStmtE D ⟨ia, false⟩ s inv = some (execStmt D ia s inv) := by
  rw [execStmtE_eq, sanityGuard_off, ite_self]

theorem shape_seti {nI nB : Nat} {σ : State} (h : Shape nI nB σ) (x : Nat) (v : Int) :
    Shape nI nB (σ.seti x v) := by
  obtain ⟨h1, h2⟩ := h
  exact ⟨by simp [State.seti, h1], by simp [State.seti, h2]⟩

theorem shape_setb {nI nB : Nat} {σ : State} (h : Shape nI nB σ) (b : Nat) (v : Bool) :
    Shape nI nB (σ.setb b v) := by
  obtain ⟨h1, h2⟩ := h
  exact ⟨by simp [State.setb, h1], by simp [State.setb, h2]⟩

theorem stepStmt_shape {nI nB : Nat} {s : Stmt} {σ σ' : State} {ch : Int} (h : Shape nI nB σ)
    (hs : stepStmt s σ ch = .next σ') : Shape nI nB σ' := by
  cases s <;> dsimp only [stepStmt] at hs
  case assign x e => cases hs; exact shape_seti h _ _
  case binop op x y z =>
    split at hs
    · cases hs; exact shape_seti h _ _
    · cases hs
    · cases hs
  case assume c => split at hs <;> cases hs; exact h
  case assert c => split at hs <;> cases hs; exact h
  case havoc x => cases hs; exact shape_seti h _ _
  case havocB b => cases hs; exact shape_setb h _ _
  case select x c e1 e2 => cases hs; exact shape_seti h _ _
  case unreachable => cases hs
  case bassign b c => cases hs; exact shape_setb h _ _
  case bcopy b c neg => cases hs; exact shape_setb h _ _
  case bbin op b c d => cases hs; exact shape_setb h _ _
  case bassume b neg => split at hs <;> cases hs; exact h
  case bassert b => split at hs <;> cases hs; exact h
  case bselect b c d e => cases hs; exact shape_setb h _ _

theorem applyBin_sound (D : NDom A) (L : D.Laws) (inv r : A) (op : BinOp) (x y : Nat) (z : Operand)
    (σ : State) (v : Int) (hg : D.γ inv σ) (hx : x < σ.iv.size)
    (hv : evalBin op (σ.geti y) (z.eval σ) = .val v) (hr : applyBin D inv op x y z = some r) :
    D.γ r (σ.seti x v) := by
  unfold applyBin at hr
  split at hr
  · rename_i aop ha
    have hop := convArith_toBin ha
    cases Option.some.inj hr
    cases z with
    | var w => exact L.applyArithVar_sound inv aop x y w σ v hg hx (by rw [hop]; exact hv)
    | const k => exact L.applyArithCst_sound inv aop x y k σ v hg hx (by rw [hop]; exact hv)
  · split at hr
    · rename_i bop hb
      have hop := convBitwise_toBin hb
      cases Option.some.inj hr
      cases z with
      | var w => exact L.applyBitVar_sound inv bop x y w σ v hg hx (by rw [hop]; exact hv)
      | const k => exact L.applyBitCst_sound inv bop x y k σ v hg hx (by rw [hop]; exact hv)
    · cases hr

/-- **one statement**: the result of the total transformer describes every concrete successor
    state -/
theorem execStmt_sound (D : NDom A) (L : D.Laws) (ia : Bool) (nI nB : Nat) (s : Stmt) (inv : A)
    (σ σ' : State) (ch : Int) (hd : s.defOk nI nB = true) (hsh : Shape nI nB σ) (hg : D.γ inv σ)
    (hs : stepStmt s σ ch = .next σ') : D.γ (execStmt D ia s inv) σ' := by
  obtain ⟨hI, hB⟩ := hsh
  cases s <;> dsimp only [stepStmt] at hs <;> simp only [Stmt.defOk, decide_eq_true_eq] at hd
  case assign x e => cases hs; exact L.assign_sound inv x e σ hg (hI ▸ hd)
  case binop op x y z =>
    obtain ⟨r, hr⟩ := Option.isSome_iff_exists.1 (applyBin_isSome D inv op x y z)
    rw [execStmt_binop hr]
    split at hs
    · rename_i v hv
      cases hs
      exact applyBin_sound D L inv r op x y z σ v hg (hI ▸ hd) hv hr
    · cases hs
    · cases hs
  case assume c =>
    split at hs
    · rename_i hc; cases hs; exact L.addCst_sound inv c σ hg hc
    · cases hs
  case assert c =>
    split at hs
    · rename_i hc
      cases hs
      cases ia
      · exact L.addCst_sound inv c σ hg hc
      · exact hg
    · cases hs
  case havoc x => cases hs; exact L.forget_int_sound inv x σ ch hg (hI ▸ hd)
  case havocB b => cases hs; exact L.forget_bool_sound inv b σ _ hg (hB ▸ hd)
  case select x c e1 e2 => cases hs; exact L.select_sound inv x c e1 e2 σ hg (hI ▸ hd)
  case unreachable => cases hs
  case bassign b c => cases hs; exact L.assignBoolCst_sound inv b c σ hg (hB ▸ hd)
  case bcopy b c neg => cases hs; exact L.assignBoolVar_sound inv b c neg σ hg (hB ▸ hd)
  case bbin op b c d =>
    cases hs
    have := L.applyBinaryBool_sound inv (convBool op) b c d σ hg (hB ▸ hd)
    rwa [convBool_toBool] at this
  case bassume b neg =>
    split at hs
    · rename_i hc; cases hs; exact L.assumeBool_sound inv b neg σ hg hc
    · cases hs
  case bassert b =>
    split at hs
    · rename_i hc
      cases hs
      cases ia
      · exact L.assumeBool_sound inv b false σ hg (by simp [hc])
      · exact hg
    · cases hs
  case bselect b c d e => cases hs; exact L.selectBool_sound inv b c d e σ hg (hB ▸ hd)

end Analysis
end Crab
