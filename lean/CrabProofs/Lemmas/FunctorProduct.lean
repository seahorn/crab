import CrabModel.Dom.Functors.Product
import CrabProofs.Lemmas.FunctorBase

/-!
Lemmas about the product combinators (`Crab.Dom.Fct.Prod2`): soundness of every operation w.r.t.
`Prod2.γ` from the laws of `LDom` only, and the order facts of C04.
-/
namespace Crab
namespace Dom
namespace Fct

variable {S : Type}

namespace Prod2
variable {D1 D2 : LDom S}

theorem canonicalize_eq_self {p : Prod2 D1 D2} (h0 : p.isBot = false) (h1 : D1.isBot p.fst = false)
    (h2 : D2.isBot p.snd = false) : p.canonicalize = p := by
  simp [canonicalize, h0, h1, h2]

theorem canonicalize_of_γ {p : Prod2 D1 D2} {s : S} (h : p.γ s) : p.canonicalize = p :=
  canonicalize_eq_self h.1 (D1.isBot_false_of_γ h.2.1) (D2.isBot_false_of_γ h.2.2)

theorem not_γ_of_isBottom {p : Prod2 D1 D2} (h : p.isBottom = true) (s : S) : ¬ p.γ s := by
  intro hg
  unfold isBottom at h
  rw [hg.1] at h
  simp only [Bool.false_eq_true, if_false, Bool.or_eq_true] at h
  rcases h with h | h
  · exact D1.isBot_sound _ _ h hg.2.1
  · exact D2.isBot_sound _ _ h hg.2.2

theorem isBottom_false_of_γ {p : Prod2 D1 D2} {s : S} (hg : p.γ s) : p.isBottom = false := by
  cases h : p.isBottom
  · rfl
  · exact absurd hg (not_γ_of_isBottom h s)

theorem canonicalize_of_not_isBottom {p : Prod2 D1 D2} (h : p.isBottom = false) : p.canonicalize = p := by
  unfold isBottom at h
  cases h0 : p.isBot
  · rw [h0] at h
    simp only [Bool.false_eq_true, if_false, Bool.or_eq_false_iff] at h
    exact canonicalize_eq_self h0 h.1 h.2
  · rw [h0] at h; cases h

theorem γ_canonicalize (p : Prod2 D1 D2) (s : S) : p.canonicalize.γ s ↔ p.γ s := by
  refine ⟨fun h => ?_, fun h => by rw [canonicalize_of_γ h]; exact h⟩
  unfold canonicalize at h
  split at h
  · split at h
    · exact absurd h.1 (by simp)
    · exact h
  · exact h

theorem γ_mk' (a : D1.B) (b : D2.B) (r : Bool) (s : S) :
    (mk' a b r : Prod2 D1 D2).γ s ↔ D1.γ a s ∧ D2.γ b s := by
  unfold mk'
  cases r
  · simp [γ]
  · simp only [if_true]
    rw [γ_canonicalize]; simp [γ]

theorem isBot_false_of_not_isBottom {p : Prod2 D1 D2} (h : ¬ p.isBottom = true) : p.isBot = false := by
  cases hb : p.isBot
  · rfl
  · exact absurd (by simp [isBottom, hb]) h

theorem γ_top (s : S) : (top : Prod2 D1 D2).γ s :=
  (γ_mk' _ _ _ s).2 ⟨D1.top_sound s, D2.top_sound s⟩

theorem not_γ_bottom (s : S) : ¬ (bottom : Prod2 D1 D2).γ s := fun h =>
  D1.bot_sound s ((γ_mk' _ _ _ s).1 h).1

theorem γ_setTop (p : Prod2 D1 D2) (s : S) : p.setTop.γ s := ⟨rfl, D1.top_sound s, D2.top_sound s⟩
theorem not_γ_setBottom (p : Prod2 D1 D2) (s : S) : ¬ p.setBottom.γ s := fun h => by simp [setBottom, γ] at h

/-! ### `operator<=` -/

theorem leq_sound {p q : Prod2 D1 D2} {s : S} (h : leq p q = true) (hg : p.γ s) : q.γ s := by
  unfold leq at h
  rw [isBottom_false_of_γ hg, if_neg Bool.false_ne_true] at h
  split at h
  · cases h
  · rename_i hq
    simp only [Bool.and_eq_true] at h
    exact ⟨isBot_false_of_not_isBottom hq, D1.leq_sound _ _ s h.1 hg.2.1, D2.leq_sound _ _ s h.2 hg.2.2⟩

theorem leq_of_isBottom {p : Prod2 D1 D2} (h : p.isBottom = true) (q : Prod2 D1 D2) : leq p q = true := by
  simp [leq, h]

theorem leq_refl (h1 : D1.LeqRefl) (h2 : D2.LeqRefl) (p : Prod2 D1 D2) : leq p p = true := by
  unfold leq
  cases hb : p.isBottom
  · simp [h1 p.fst, h2 p.snd]
  · simp

theorem top_eq (h1 : D1.TopNotBot) (h2 : D2.TopNotBot) : (top : Prod2 D1 D2) = ⟨false, D1.top, D2.top⟩ := by
  unfold top mk'
  simp only [if_true]
  exact canonicalize_eq_self rfl h1 h2

theorem leq_top (h1 : D1.TopNotBot) (h2 : D2.TopNotBot) (l1 : D1.LeqTop) (l2 : D2.LeqTop)
    (p : Prod2 D1 D2) : leq p top = true := by
  rw [top_eq h1 h2]
  unfold leq
  cases hb : p.isBottom
  · have h1' : D1.isBot D1.top = false := h1
    have h2' : D2.isBot D2.top = false := h2
    simp [isBottom, h1', h2', l1 p.fst, l2 p.snd]
  · simp

theorem isBottom_bottom (h : D1.BotIsBot ∨ D2.BotIsBot) : (bottom : Prod2 D1 D2).isBottom = true := by
  have : (D1.isBot D1.bot || D2.isBot D2.bot) = true := by
    rcases h with h | h
    · rw [show D1.isBot D1.bot = true from h]; rfl
    · rw [show D2.isBot D2.bot = true from h]; exact Bool.or_true _
  simp [bottom, mk', canonicalize, isBottom, this]

theorem top_isTop_not_isBottom (h1 : D1.TopNotBot) (h2 : D2.TopNotBot) (t1 : D1.TopIsTop) (t2 : D2.TopIsTop) :
    (top : Prod2 D1 D2).isTop = true ∧ (top : Prod2 D1 D2).isBottom = false := by
  rw [top_eq h1 h2]
  have a1 : D1.isTop D1.top = true := t1
  have a2 : D2.isTop D2.top = true := t2
  have b1 : D1.isBot D1.top = false := h1
  have b2 : D2.isBot D2.top = false := h2
  simp [isTop, isBottom, a1, a2, b1, b2]

/-! ### upper bounds -/

/-- the two early answers of `|`, `|=`: the other operand is bottom -/
theorem γ_or_of_isBottom {p q : Prod2 D1 D2} {s : S} (h : p.γ s ∨ q.γ s) :
    (p.isBottom = true → q.γ s) ∧ (q.isBottom = true → p.γ s) :=
  ⟨fun hb => h.resolve_left (not_γ_of_isBottom hb s), fun hb => h.resolve_right (not_γ_of_isBottom hb s)⟩

theorem join_sound {p q : Prod2 D1 D2} {s : S} (h : p.γ s ∨ q.γ s) : (join p q).γ s :=
  binop_cases (γ · s) (γ_or_of_isBottom h).1 (fun _ => (γ_or_of_isBottom h).2) fun _ _ =>
    (γ_mk' _ _ _ s).2 (h.elim (fun h => ⟨D1.join_l _ _ s h.2.1, D2.join_l _ _ s h.2.2⟩)
      (fun h => ⟨D1.join_r _ _ s h.2.1, D2.join_r _ _ s h.2.2⟩))

theorem joinEq_sound {p q : Prod2 D1 D2} {s : S} (h : p.γ s ∨ q.γ s) : (joinEq p q).γ s :=
  binop_cases (γ · s) (γ_or_of_isBottom h).1 (fun _ => (γ_or_of_isBottom h).2) fun hp _ =>
    ⟨isBot_false_of_not_isBottom (p := p) hp, h.elim (fun h => ⟨D1.join_l _ _ s h.2.1, D2.join_l _ _ s h.2.2⟩)
      (fun h => ⟨D1.join_r _ _ s h.2.1, D2.join_r _ _ s h.2.2⟩)⟩

theorem widenWith_sound {w1 : D1.B → D1.B → D1.B} {w2 : D2.B → D2.B → D2.B} (h1 : D1.USound w1)
    (h2 : D2.USound w2) {p q : Prod2 D1 D2} {s : S} (h : p.γ s ∨ q.γ s) : (widenWith w1 w2 p q).γ s :=
  (γ_mk' _ _ _ s).2 ⟨h1 _ _ s (h.imp (·.2.1) (·.2.1)), h2 _ _ s (h.imp (·.2.2) (·.2.2))⟩

/-! ### lower bounds -/

theorem meet_sound {p q : Prod2 D1 D2} {s : S} (hp : p.γ s) (hq : q.γ s) : (meet p q).γ s :=
  binop_cases (γ · s) (fun _ => hp) (fun _ _ => hq) fun _ _ =>
    (γ_mk' _ _ _ s).2 ⟨D1.meet_sound _ _ s hp.2.1 hq.2.1, D2.meet_sound _ _ s hp.2.2 hq.2.2⟩

theorem narrow_sound {p q : Prod2 D1 D2} {s : S} (hp : p.γ s) (hq : q.γ s) : (narrow p q).γ s :=
  binop_cases (γ · s) (fun _ => hp) (fun _ _ => hq) fun _ _ =>
    (γ_mk' _ _ _ s).2 ⟨D1.narrow_sound _ _ s hp.2.1 hq.2.1, D2.narrow_sound _ _ s hp.2.2 hq.2.2⟩

theorem meetEq_sound {p q : Prod2 D1 D2} {s : S} (hp : p.γ s) (hq : q.γ s) : (meetEq p q).γ s :=
  binop_cases (γ · s) (fun _ => hp) (fun _ _ => hq) fun _ _ =>
    ⟨hp.1, D1.meet_sound _ _ s hp.2.1 hq.2.1, D2.meet_sound _ _ s hp.2.2 hq.2.2⟩

end Prod2
end Fct
end Dom
end Crab
