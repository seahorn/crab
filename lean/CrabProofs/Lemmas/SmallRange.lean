import CrabModel.Scalar.SmallRange

/-!
  Soundness of the operations of `crab::domains::small_range` (small_range.hpp; model
  `CrabModel/Scalar/SmallRange.lean`), the reference counter of `region_domain` (property C15:
  `Props/C15.lean`, `Lemmas/RegionSmash.lean`), w.r.t. the two readings of the abstract counter:
    `γ  : SmallRange → Nat → Prop`          the value of the counter,
    `γV : SmallRange → (Nat → Prop) → Prop` the set of counted variables.

  The join is an upper bound for `operator<=` of the class (`join_leq`), so it is sound for both
  readings because the order is.  The other proofs sweep the 36 pairs of kinds.  With bottom, top or zero on one side the answer is an
  argument or fixed; the pairs with content are those where both sides name a variable (`1(v)` /
  `[0,1](v)` against `1(w)` / `[0,1](w)`): the answer depends on `v = w` (the `split` in the
  scripts).  They are also why the meet is a lower bound for the counter reading only when both
  operands name the same variable (`sameVar`): `1(v) & 1(w)` with `v ≠ w` is bottom, although both
  stand for the counter value 1; for the set reading `{v} = {w}` is impossible and bottom is exact.
-/
namespace Crab
namespace SmallRange

/-- `operator<=` never reaches CRAB_ERROR -/
theorem leq_isSome (a b : SmallRange) : (leq a b).isSome = true := by
  cases a <;> cases b <;> simp [leq, isBottom, isTop] <;> (try split) <;> rfl

theorem leq_sound {a b : SmallRange} {n : Nat} (h : leq a b = some true) (ha : γ a n) : γ b n := by
  cases a <;> cases b <;> simp [leq, isBottom, isTop] at h ⊢ <;> simp [γ] at ha ⊢ <;> omega

theorem leqV_sound {a b : SmallRange} {S : Nat → Prop} (h : leq a b = some true) (ha : γV a S) : γV b S := by
  cases a <;> cases b <;> simp [leq, isBottom, isTop] at h ⊢ <;> simp [γV] at ha ⊢
  all_goals first
    | exact ha
    | (subst h; exact ha)
    | (subst h; intro x hx; exact (ha x).1 hx)
    | (intro x hx; exact absurd hx (ha x))
    | exact ⟨_, (ha _).2 rfl⟩
    | grind

theorem join_isSome (a b : SmallRange) : (join a b).isSome = true := by
  cases a <;> cases b <;> simp [join, isBottom, isTop, isZero, joinZeroWith, joinOneWith,
    joinZeroOrOneWith, joinOneOrMoreWith] <;> split <;> rfl

theorem meet_isSome (a b : SmallRange) : (meet a b).isSome = true := by
  cases a <;> cases b <;> simp [meet, isBottom, isTop, isZero, meetZeroWith, meetOneWith,
    meetZeroOrOneWith, meetOneOrMoreWith] <;> split <;> rfl

/-- the join is an upper bound for the order test of the class itself -/
theorem join_leq {a b r : SmallRange} (hj : join a b = some r) : leq a r = some true ∧ leq b r = some true := by
  cases a <;> cases b <;>
    simp [join, isBottom, isTop, isZero, joinZeroWith, joinOneWith, joinZeroOrOneWith,
      joinOneOrMoreWith] at hj <;>
    (try (split at hj)) <;> (try (simp at hj)) <;> subst hj <;> simp_all [leq, isBottom, isTop]

theorem join_sound {a b r : SmallRange} {n : Nat} (h : γ a n ∨ γ b n) (hj : join a b = some r) : γ r n :=
  h.elim (leq_sound (join_leq hj).1) (leq_sound (join_leq hj).2)

theorem joinV_sound {a b r : SmallRange} {S : Nat → Prop} (h : γV a S ∨ γV b S) (hj : join a b = some r) : γV r S :=
  h.elim (leqV_sound (join_leq hj).1) (leqV_sound (join_leq hj).2)

theorem meetV_sound {a b r : SmallRange} {S : Nat → Prop} (ha : γV a S) (hb : γV b S) (hm : meet a b = some r) : γV r S := by
  cases a <;> cases b <;>
    simp [meet, isBottom, isTop, isZero, meetZeroWith, meetOneWith, meetZeroOrOneWith,
      meetOneOrMoreWith] at hm <;>
    (try (split at hm)) <;> (try (simp at hm)) <;> (try subst hm) <;> simp [γV] at ha hb ⊢
  all_goals first
    | exact ha
    | exact hb
    | exact absurd ((hb _).2 rfl) (ha _)
    | exact absurd ((ha _).2 rfl) (hb _)
    | (rename_i h; first
        | exact h ((hb _).1 ((ha _).2 rfl))
        | exact h (hb _ ((ha _).2 rfl))
        | exact h (ha _ ((hb _).2 rfl)))
    | grind

/-- the two operands speak about the same variable (whenever both name one) -/
def sameVar : SmallRange → SmallRange → Bool
  | one v, one w => v == w
  | one v, zeroOrOne w => v == w
  | zeroOrOne v, one w => v == w
  | zeroOrOne v, zeroOrOne w => v == w
  | _, _ => true

/-- meet is a lower bound for the counter reading when the operands name the same variable -/
theorem meet_sound_partial {a b r : SmallRange} {n : Nat} (hv : sameVar a b = true)
    (ha : γ a n) (hb : γ b n) (hm : meet a b = some r) : γ r n := by
  cases a <;> cases b <;>
    simp [meet, isBottom, isTop, isZero, meetZeroWith, meetOneWith, meetZeroOrOneWith,
      meetOneOrMoreWith, sameVar] at hm hv <;>
    (try (split at hm)) <;> (try (simp at hm)) <;> (try subst hm) <;> simp [γ] at ha hb ⊢ <;>
    (first | omega | (rename_i h; exact absurd hv h) | (rename_i h; exact absurd hv.symm h))

theorem increment_sound {a : SmallRange} {n v : Nat} (h : γ a n) : γ (increment a v) (n + 1) := by
  cases a <;> simp [increment, γ] at h ⊢ <;> omega

/-- an increment that does not add a new object (the counter is already at least one) -/
theorem increment_same {a : SmallRange} {n v : Nat} (h : γ a n) (hn : 1 ≤ n) : γ (increment a v) n := by
  cases a <;> simp [increment, γ] at h ⊢ <;> omega

theorem incrementV_sound {a : SmallRange} {S : Nat → Prop} {v : Nat} (h : γV a S) :
    γV (increment a v) (fun x => S x ∨ x = v) := by
  cases a with
  | bottom => exact h
  | zero =>
    simp only [increment, γV] at h ⊢
    intro x; constructor
    · rintro (hx | hx)
      · exact absurd hx (h x)
      · exact hx
    · intro hx; exact Or.inr hx
  | one w => exact ⟨v, Or.inr rfl⟩
  | zeroOrOne w => exact ⟨v, Or.inr rfl⟩
  | zeroOrMore => exact ⟨v, Or.inr rfl⟩
  | oneOrMore => exact ⟨v, Or.inr rfl⟩

/-- the old `increment` agrees with the fixed one except on `1(v)` incremented with `v` -/
theorem incrementOld_eq {a : SmallRange} {v : Nat} (hne : a ≠ one v) : incrementOld a v = increment a v := by
  cases a with
  | one w =>
    by_cases hw : w = v
    · subst hw; exact absurd rfl hne
    · simp [incrementOld, increment, hw]
  | _ => rfl

end SmallRange
end Crab
