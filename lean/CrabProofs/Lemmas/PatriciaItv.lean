import CrabProofs.Lemmas.PatriciaSepDom
import CrabProofs.Lemmas.IntervalLattice

/-! The value lattice `ikos::interval<z_number>` satisfies what the environment theorems need:
    stored values (neither bottom nor top, proper bounds) are kept by the four lattice
    operations, the operations are idempotent, top is absorbing / neutral. -/
set_option linter.unusedSimpArgs false

namespace Crab
open Bound

/-- the values an interval environment stores -/
def StoredItv (i : Itv) : Prop := i.isTop = false ∧ i.isBottom = false ∧ i.WF

theorem StoredItv.lb_ub {x : Itv} (h : StoredItv x) : ¬ (x.lb = ninf ∧ x.ub = pinf) := by
  intro ⟨h1, h2⟩
  have := h.1
  simp [Itv.isTop, h1, h2, Bound.isInfinite] at this

namespace Itv

theorem join_wf {x y : Itv} (hx : x.isBottom = false) (hy : y.isBottom = false) (wx : x.WF) (wy : y.WF) :
    (join x y).WF := by
  rw [join_eq hx hy]
  exact wf_of_bounds wx wy ((Bound.min_eq_or _ _).imp_right Or.inl) ((Bound.max_eq_or _ _).imp_right Or.inl)

theorem join_pres {x y : Itv} (hx : StoredItv x) (hy : StoredItv y) (h : (join x y).isTop = false) :
    StoredItv (join x y) :=
  ⟨h, join_not_bottom hx.2.1 hy.2.1, join_wf hx.2.1 hy.2.1 hx.2.2 hy.2.2⟩

theorem join_idem {x : Itv} (hx : StoredItv x) : join x x = x := by
  rw [join_eq hx.2.1 hx.2.1, Bound.min_self, Bound.max_self]

theorem join_top_left {y : Itv} (hy : y.isBottom = false) : join top y = top := by
  rw [join_eq isBottom_top hy]
  simp [top, Bound.min_ninf_left, Bound.max_pinf_left]

theorem join_top_right {x : Itv} (hx : x.isBottom = false) : join x top = top := by
  rw [join_eq hx isBottom_top]
  simp [top, Bound.min_ninf_right, Bound.max_pinf_right]

theorem widen_eq {x y : Itv} (hx : x.isBottom = false) (hy : y.isBottom = false) :
    widen x y = ⟨if Bound.lt y.lb x.lb then ninf else x.lb, if Bound.lt x.ub y.ub then pinf else x.ub⟩ := by
  unfold widen
  simp only [hx, hy, Bool.false_eq_true, if_false]
  apply mk'_eq_mk
  have h := le_of_not_isBottom hx
  split <;> split <;> simp [h]

theorem widen_WF {x y : Itv} (hx : StoredItv x) (hy : StoredItv y) : (widen x y).WF := by
  rw [widen_eq hx.2.1 hy.2.1]
  exact wf_of_bounds hx.2.2 hy.2.2 (by split <;> simp) (by split <;> simp)

theorem widen_pres {x y : Itv} (hx : StoredItv x) (hy : StoredItv y) (h : (widen x y).isTop = false) :
    StoredItv (widen x y) := by
  refine ⟨h, ?_, widen_WF hx hy⟩
  rw [widen_eq hx.2.1 hy.2.1]
  have h := le_of_not_isBottom hx.2.1
  simp only [isBottom, Bound.gt, Bool.not_eq_false']
  split <;> split <;> simp [h]

theorem widen_idem {x : Itv} (hx : StoredItv x) : widen x x = x := by
  rw [widen_eq hx.2.1 hx.2.1, Bound.lt_irrefl, Bound.lt_irrefl]; rfl

theorem widen_top_left {y : Itv} (hy : y.isBottom = false) : widen top y = top := by
  rw [widen_eq isBottom_top hy]
  simp only [top, Itv.mk.injEq]
  exact ⟨ite_self _, ite_self _⟩

theorem widen_top_right {x : Itv} (hx : x.isBottom = false) (hw : x.WF) : widen x top = top := by
  rw [widen_eq hx isBottom_top]
  obtain ⟨l, u⟩ := x
  obtain ⟨h1, h2⟩ := hw
  cases l <;> cases u <;> simp_all [top, Bound.lt, Bound.ge]

theorem meet_eq {x y : Itv} (hx : x.isBottom = false) (hy : y.isBottom = false)
    (h : (meet x y).isBottom = false) : meet x y = ⟨Bound.max x.lb y.lb, Bound.min x.ub y.ub⟩ := by
  unfold meet at h ⊢
  simp only [hx, hy, Bool.or_self, Bool.false_eq_true, if_false] at h ⊢
  rw [isBottom_mk'] at h
  exact mk'_eq_mk (by simpa using h)

theorem meet_pres {x y : Itv} (hx : StoredItv x) (hy : StoredItv y) (h : (meet x y).isBottom = false) :
    StoredItv (meet x y) := by
  have e := meet_eq hx.2.1 hy.2.1 h
  have hwf : (meet x y).WF := by
    rw [e]
    exact wf_of_bounds hx.2.2 hy.2.2 ((Bound.max_eq_or _ _).imp_right Or.inl) ((Bound.min_eq_or _ _).imp_right Or.inl)
  refine ⟨?_, h, hwf⟩
  cases ht : (meet x y).isTop
  · rfl
  · exfalso
    have := eq_top_of_isTop ht hwf
    rw [e] at this
    simp only [top, Itv.mk.injEq] at this
    obtain ⟨h1, h2⟩ := this
    -- max of the lower bounds is -oo, min of the upper bounds is +oo: x itself is top
    have a1 : x.lb = ninf := Bound.le_ninf_iff.mp (h1 ▸ Bound.le_max_left x.lb y.lb)
    have a2 : x.ub = pinf := Bound.pinf_le_iff.mp (h2 ▸ Bound.min_le_left x.ub y.ub)
    exact hx.lb_ub ⟨a1, a2⟩

theorem meet_idem {x : Itv} (hx : StoredItv x) : meet x x = x := by
  unfold meet
  simp only [hx.2.1, Bool.or_self, Bool.false_eq_true, if_false, Bound.max_self, Bound.min_self]
  exact mk'_self hx.2.1

theorem meet_top_left {y : Itv} (hy : y.isBottom = false) : meet top y = y := by
  unfold meet
  simp only [isBottom_top, hy, Bool.or_self, Bool.false_eq_true, if_false, top, Bound.max_ninf_left,
    Bound.min_pinf_left]
  exact mk'_self hy

theorem meet_top_right {x : Itv} (hx : x.isBottom = false) : meet x top = x := by
  unfold meet
  simp only [isBottom_top, hx, Bool.or_self, Bool.false_eq_true, if_false, top, Bound.max_ninf_right,
    Bound.min_pinf_right]
  exact mk'_self hx

theorem narrow_eq {x y : Itv} (hx : x.isBottom = false) (hy : y.isBottom = false)
    (h : (narrow x y).isBottom = false) :
    narrow x y = ⟨if x.lb.isInfinite && y.lb.isFinite then y.lb else x.lb,
                  if x.ub.isInfinite && y.ub.isFinite then y.ub else x.ub⟩ := by
  unfold narrow at h ⊢
  simp only [hx, hy, Bool.or_self, Bool.false_eq_true, if_false] at h ⊢
  rw [isBottom_mk'] at h
  exact mk'_eq_mk (by simpa using h)

theorem narrowBound_infinite {a b : Bound}
    (h : (if a.isInfinite && b.isFinite then b else a).isInfinite = true) : a.isInfinite = true := by
  split at h
  · rename_i hc
    simp only [Bool.and_eq_true, Bound.isFinite, Bool.not_eq_true'] at hc
    rw [hc.2] at h; cases h
  · exact h

theorem narrow_pres {x y : Itv} (hx : StoredItv x) (hy : StoredItv y) (h : (narrow x y).isBottom = false) :
    StoredItv (narrow x y) := by
  have e := narrow_eq hx.2.1 hy.2.1 h
  refine ⟨?_, h, ?_⟩
  · cases ht : (narrow x y).isTop
    · rfl
    · -- a top result would need both bounds of `x` infinite
      rw [e] at ht
      obtain ⟨h1, h2⟩ := Bool.and_eq_true_iff.mp ht
      have := hx.1
      simp [isTop, narrowBound_infinite h1, narrowBound_infinite h2] at this
  · rw [e]
    exact wf_of_bounds hx.2.2 hy.2.2 (by split <;> simp) (by split <;> simp)

theorem narrow_idem {x : Itv} (hx : StoredItv x) : narrow x x = x := by
  unfold narrow
  simp only [hx.2.1, Bool.or_self, Bool.false_eq_true, if_false]
  have e1 : (x.lb.isInfinite && x.lb.isFinite) = false := by cases x.lb <;> rfl
  have e2 : (x.ub.isInfinite && x.ub.isFinite) = false := by cases x.ub <;> rfl
  simp only [e1, e2, Bool.false_eq_true, if_false]
  exact mk'_self hx.2.1

theorem narrow_top_left {y : Itv} (hy : StoredItv y) : narrow top y = y := by
  unfold narrow
  simp only [isBottom_top, hy.2.1, Bool.or_self, Bool.false_eq_true, if_false]
  obtain ⟨yl, yu⟩ := y
  obtain ⟨_, hb, h1, h2⟩ := hy
  have : mk' yl yu = ⟨yl, yu⟩ := mk'_self (x := ⟨yl, yu⟩) hb
  cases yl <;> cases yu <;> simp_all [top, Bound.isInfinite, Bound.isFinite]

theorem narrow_top_right {x : Itv} (hx : x.isBottom = false) : narrow x top = x := by
  unfold narrow
  simp only [isBottom_top, hx, Bool.or_self, Bool.false_eq_true, if_false, top, Bound.isFinite,
    Bound.isInfinite, Bool.not_true, Bool.and_false, Bool.false_eq_true, if_false]
  exact mk'_self hx

theorem leq_top_left {y : Itv} (hy : StoredItv y) : leq top y = false := by
  unfold leq
  simp only [isBottom_top, hy.2.1, Bool.false_eq_true, if_false, top]
  cases h : (Bound.le y.lb ninf && Bound.le pinf y.ub)
  · rfl
  · exfalso
    simp only [Bool.and_eq_true] at h
    exact hy.lb_ub ⟨Bound.le_ninf_iff.mp h.1, Bound.pinf_le_iff.mp h.2⟩

theorem beq_sound {x y : Itv} (hy : y.isBottom = false) (h : beq x y = true) : x = y := by
  unfold beq at h
  split at h
  · rw [hy] at h; cases h
  · obtain ⟨xl, xu⟩ := x
    obtain ⟨yl, yu⟩ := y
    simp only [Bool.and_eq_true, beq_iff_eq] at h
    simp [h.1, h.2]

theorem isTop_false_of_stored {x : Itv} (h : StoredItv x) : itvLattice.isTop x = false := h.1
theorem isBottom_false_of_stored {x : Itv} (h : StoredItv x) : itvLattice.isBottom x = false := h.2.1

end Itv
end Crab
