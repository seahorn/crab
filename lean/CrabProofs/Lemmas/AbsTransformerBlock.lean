import CrabProofs.Lemmas.AbsTransformer

/-!
  From one statement to blocks and to the contract `Crab.Fix.Sem` of the fixpoint engine:
  the fold over a block (the sanity flag only removes results: `execStmtsE_some`),
  `prune_dead_variables`, `fwd_analyzer::analyze`, and the `Sem` instance of the iterator context
  `Analysis.mkCtx`.
-/
namespace Crab
namespace Analysis
open Crab.IR Crab.Fix

variable {A : Type}

theorem execStmtsE_sanity_off (D : NDom A) (ia : Bool) (ss : List Stmt) (inv : A) :
    execStmtsE D ⟨ia, false⟩ ss inv = some (execStmts D ia ss inv) := by
  induction ss generalizing inv with
  | nil => rfl
  | cons s ss ih =>
    simp only [execStmtsE, execStmtE_sanity_off, execStmts, List.foldl_cons]
    exact ih _

/-- the sanity flag decides whether the loop returns, never what -/
theorem execStmtsE_some {D : NDom A} {cfg : TrCfg} {ss : List Stmt} {inv r : A}
    (h : execStmtsE D cfg ss inv = some r) : r = execStmts D cfg.ignoreAssert ss inv := by
  induction ss generalizing inv with
  | nil => exact (Option.some.inj h).symm
  | cons s ss ih =>
    simp only [execStmtsE] at h
    split at h
    · cases h
    · rename_i r' hr
      rw [execStmtE_some hr] at h
      exact ih h

theorem runStmts_cons_next (b i : Nat) (s : Stmt) (ss : List Stmt) (σ σ' : State) (ch : List Int)
    (h : (runStmts b i (s :: ss) σ ch).res = .next σ') :
    ∃ σ1 c ch1, stepStmt s σ c = .next σ1 ∧ (runStmts b (i + 1) ss σ1 ch1).res = .next σ' := by
  unfold runStmts at h
  simp only at h
  split at h
  · rename_i σ1 hs
    exact ⟨σ1, _, _, hs, h⟩
  · rename_i r hne
    simp only at h
    exact absurd h (fun hh => hne σ' hh)

/-- **the fold over a block**: the state an execution leaves the statement list with is described
    by the result of the transformer loop, and it still has the declared variables -/
theorem execStmts_sound (D : NDom A) (L : D.Laws) (ia : Bool) (nI nB b : Nat) :
    ∀ (ss : List Stmt) (i : Nat) (inv : A) (σ σ' : State) (ch : List Int),
      (∀ s ∈ ss, s.defOk nI nB = true) → Shape nI nB σ → D.γ inv σ →
      (runStmts b i ss σ ch).res = .next σ' → Shape nI nB σ' ∧ D.γ (execStmts D ia ss inv) σ' := by
  intro ss
  induction ss with
  | nil =>
    intro i inv σ σ' ch _ hsh hg hr
    simp only [runStmts] at hr
    cases hr
    exact ⟨hsh, hg⟩
  | cons s ss ih =>
    intro i inv σ σ' ch hd hsh hg hr
    obtain ⟨σ1, c, ch1, hs, hr1⟩ := runStmts_cons_next b i s ss σ σ' ch hr
    exact ih (i + 1) _ σ1 σ' ch1 (fun t ht => hd t (List.mem_cons_of_mem _ ht)) (stepStmt_shape hsh hs)
      (execStmt_sound D L ia nI nB s inv σ σ1 c (hd s List.mem_cons_self) hsh hg hs) hr1

theorem defsOk_block (p : Program) (h : p.defsOk = true) (n : Nat) :
    ∀ s ∈ (p.block n).stmts, s.defOk p.nI p.nB = true := by
  intro s hs
  unfold Program.defsOk at h
  rw [List.all_eq_true] at h
  unfold Program.block at hs
  by_cases hn : n < p.blocks.size
  · have hm : p.blocks[n] ∈ p.blocks.toList := by simp
    have := h _ hm
    rw [List.all_eq_true] at this
    apply this
    simpa [Array.getD, hn] using hs
  · simp [Array.getD, hn] at hs

/-- forgetting variables only enlarges the concretisation: whatever set the liveness object
    reports, the pruned invariant still describes the state -/
theorem pruneDead_sound (D : NDom A) (L : D.Laws) (live : Option (Nat → List AVar))
    (formals : List AVar) (node : Nat) (inv : A) (σ : State) (hg : D.γ inv σ) :
    D.γ (pruneDead D live formals node inv) σ := by
  unfold pruneDead
  split
  · exact hg
  · split
    · exact hg
    · exact L.forgetAll_sound _ _ _ hg

/-- `analyzeE` is `analyze` when it returns, for both values of the sanity flag -/
theorem analyzeE_eq (D : NDom A) (cfg : FwdCfg) (sanity : Bool) (p : Program) (node : Nat)
    (inv r : A) (h : analyzeE D cfg sanity p node inv = some r) : r = analyze D cfg p node inv := by
  unfold analyzeE at h
  split at h
  · cases h
  · rename_i r' hr
    cases Option.some.inj h
    rw [execStmtsE_some hr]
    rfl

theorem analyzeE_sanity_off (D : NDom A) (cfg : FwdCfg) (p : Program) (node : Nat) (inv : A) :
    analyzeE D cfg false p node inv = some (analyze D cfg p node inv) := by
  simp only [analyzeE, execStmtsE_sanity_off, analyze]

/-- **the block transformer**: `fwd_analyzer::analyze` is sound w.r.t. the executable block
    semantics `BlockStep` -/
theorem analyze_sound (D : NDom A) (L : D.Laws) (cfg : FwdCfg) (p : Program)
    (hp : p.defsOk = true) (node : Nat) (inv : A) (σ σ' : State) (hsh : Shape p.nI p.nB σ)
    (hg : D.γ inv σ) (hst : BlockStep p node σ σ') :
    Shape p.nI p.nB σ' ∧ D.γ (analyze D cfg p node inv) σ' := by
  obtain ⟨ch, hr⟩ := hst
  have h := execStmts_sound D L cfg.ignoreAssert p.nI p.nB node (p.block node).stmts 0 inv σ σ' ch
    (defsOk_block p hp node) hsh hg hr
  exact ⟨h.1, pruneDead_sound D L cfg.live cfg.formals node _ σ' h.2⟩

/-- the `Sem` instance of the analyzer's iterator context: states with the declared variables
    described by the domain value; block relation = the executable block semantics -/
def analyzerSem (D : NDom A) (L : D.Laws) (ops : Fix.Ops A) (LL : LatLaws ops D.γ) (cfg : FwdCfg)
    (p : Program) (hp : p.defsOk = true) (preds : Nat → List Nat)
    (nesting : Nat → Option (List Nat)) (init : A) (assumptions : Option (List (Nat × A)))
    (delay descending : Nat) :
    Sem (mkCtx D ops cfg p preds nesting init assumptions delay descending) State where
  γ := fun a σ => Shape p.nI p.nB σ ∧ D.γ a σ
  step := fun n σ σ' => BlockStep p n σ σ'
  analyze_sound := fun n a s s' hg hst => analyze_sound D L cfg p hp n a s s' hg.1 hg.2 hst
  join_left := fun a b s h => ⟨h.1, LL.join_left a b s h.2⟩
  join_right := fun a b s h => ⟨h.1, LL.join_right a b s h.2⟩
  widen_left := fun a b s h => ⟨h.1, LL.widen_left a b s h.2⟩
  widen_right := fun a b s h => ⟨h.1, LL.widen_right a b s h.2⟩
  meet_sound := fun a b s h1 h2 => ⟨h1.1, LL.meet_sound a b s h1.2 h2.2⟩
  narrow_sound := fun a b s h1 h2 => ⟨h1.1, LL.narrow_sound a b s h1.2 h2.2⟩
  leq_sound := fun a b s h hg => ⟨hg.1, LL.leq_sound a b s h hg.2⟩

theorem predsOf_covers (p : Program) (b n : Nat) (h : n ∈ (p.block b).succs) : b ∈ predsOf p n := by
  unfold predsOf
  rw [List.mem_filter]
  refine ⟨?_, by simpa using h⟩
  rw [List.mem_range]
  apply Classical.byContradiction
  intro hb
  simp [Program.block, Array.getD, hb] at h

end Analysis
end Crab
