import CrabProofs.Lemmas.XDomLattice

/-!
  `Crab.XDom.Env.rename`: soundness for distinct sources and distinct, fresh targets.
-/
set_option linter.unusedSectionVars false

namespace Crab
namespace XDom
open Patricia Patricia.Tree Lin SepDom

variable {V : Type} [GoodVal V] {L : Lattice V} {mem : Int → V → Prop}

/-- a binding function (binding or default top) describes a state -/
def SatMap (L : Lattice V) (mem : Int → V → Prop) (m : Nat → Option V) (σ : State) : Prop :=
  ∀ x, mem (σ x) ((m x).getD L.top)

theorem satMap_rename (hL : Laws L mem) : ∀ (ps : List (Nat × Nat)) (m : Nat → Option V) (σ σ' : State),
    SatMap L mem m σ → (ps.map Prod.fst).Nodup → (ps.map Prod.snd).Nodup →
    (∀ y ∈ ps.map Prod.snd, y ∉ ps.map Prod.fst) → (∀ y ∈ ps.map Prod.snd, m y = none) →
    (∀ p ∈ ps, σ' p.2 = σ p.1) → (∀ y, y ∉ ps.map Prod.fst → y ∉ ps.map Prod.snd → σ' y = σ y) →
    SatMap L mem (ps.foldl (fun m p => rename1Spec m p.1 p.2) m) σ' := by
  intro ps
  induction ps with
  | nil =>
    intro m σ σ' hs _ _ _ _ _ hout
    have : σ' = σ := funext (fun y => hout y (by simp) (by simp))
    rw [this]; exact hs
  | cons p rest ih =>
    intro m σ σ' hs hnf hnt hdis hfresh hrel hout
    obtain ⟨k, nk⟩ := p
    simp only [List.foldl_cons]
    simp only [List.map_cons, List.nodup_cons] at hnf hnt
    have hkn : k ≠ nk := by
      intro h; exact hdis nk (by simp) (by simp [h])
    have hnkfresh : m nk = none := hfresh nk (by simp)
    -- the intermediate state
    let σ1 : State := fun x => if x = k then σ' k else if x = nk then σ k else σ x
    have hs1 : SatMap L mem (rename1Spec m k nk) σ1 := by
      intro x
      unfold rename1Spec
      simp only [hkn, if_false]
      cases hmk : m k with
      | none =>
        simp only
        by_cases e1 : x = k
        · subst e1; rw [hmk]; exact hL.mem_top _
        · by_cases e2 : x = nk
          · subst e2; rw [hnkfresh]; exact hL.mem_top _
          · have : σ1 x = σ x := by simp [σ1, e1, e2]
            rw [this]; exact hs x
      | some v =>
        simp only
        by_cases e1 : x = k
        · simp only [e1, if_true]; exact hL.mem_top _
        · by_cases e2 : x = nk
          · subst e2
            simp only [e1, if_false, if_true, Option.getD_some]
            have : σ1 x = σ k := by simp [σ1, e1]
            rw [this]
            have := hs k; rw [hmk] at this; exact this
          · simp only [e1, e2, if_false]
            have : σ1 x = σ x := by simp [σ1, e1, e2]
            rw [this]; exact hs x
    apply ih (rename1Spec m k nk) σ1 σ' hs1 hnf.2 hnt.2
    · intro y hy hy2
      exact hdis y (by simp [hy]) (by simp [hy2])
    · intro y hy
      have hyk : y ≠ k := by
        intro h; exact hdis y (by simp [hy]) (by simp [h])
      have hynk : y ≠ nk := by
        intro h; rw [h] at hy; exact hnt.1 hy
      unfold rename1Spec
      simp only [hkn, if_false]
      cases hmk : m k with
      | none => exact hfresh y (by simp [hy])
      | some v => simp only [hyk, hynk, if_false]; exact hfresh y (by simp [hy])
    · intro q hq
      have h1 : q.1 ≠ k := by
        intro h; exact hnf.1 (by rw [← h]; exact List.mem_map_of_mem hq)
      have h2 : q.1 ≠ nk := by
        intro h
        exact hdis nk (by simp) (by simp only [List.map_cons, List.mem_cons]; right; rw [← h]; exact List.mem_map_of_mem hq)
      have : σ1 q.1 = σ q.1 := by simp [σ1, h1, h2]
      rw [this]; exact hrel q (by simp [hq])
    · intro y hy1 hy2
      by_cases e1 : y = k
      · subst e1; simp [σ1]
      · by_cases e2 : y = nk
        · subst e2
          have : σ1 y = σ k := by simp [σ1, e1]
          rw [this]; exact hrel (k, y) (by simp)
        · have : σ1 y = σ y := by simp [σ1, e1, e2]
          rw [this]
          exact hout y (by simp [e1, hy1]) (by simp [e2, hy2])

namespace Env

/-- the guard of the domain classes is the one of `separate_domain::rename` again -/
theorem rename_eq (L : Lattice V) (e : Env V) (frm to : List Var) :
    rename L e frm to = SepDom.rename (ctxOf L) L e frm to := by
  unfold rename SepDom.rename
  cases e.isBot <;> simp

/-- `rename` raises CRAB_ERROR exactly on vectors of different lengths (unless nothing is to do) -/
theorem rename_isSome (L : Lattice V) (e : Env V) (frm to : List Var) :
    (rename L e frm to).isSome = (e.isBot || SepDom.isTop e || decide (frm.length = to.length)) := by
  unfold rename SepDom.rename
  cases hb : e.isBot
  · simp only [Bool.false_eq_true, if_false, Bool.false_or, Bool.or_false]
    split
    · rename_i h; simp [h]
    · rename_i h
      split
      · rename_i h2; simp at h2; simp [h, h2]
      · rename_i h2; simp at h2; simp [h2]
  · simp

/-- what a successful `rename` returns: the bindings of the sequential map-level renaming, on
    vectors of equal lengths (nothing changes when nothing is bound) -/
theorem rename_some (hL : Laws L mem) {e e' : Env V} (he : Inv L e) {frm to : List Var}
    (hr : rename L e frm to = some e') (hf : ∀ v ∈ frm, v < 2 ^ 64) (ht : ∀ v ∈ to, v < 2 ^ 64) :
    Inv L e' ∧ e'.isBot = e.isBot ∧ ∀ k', e'.tree.lookup k' =
      if (SepDom.isTop e || e.isBot) = true then e.tree.lookup k'
      else (frm.zip to).foldl (fun m p => rename1Spec m p.1 p.2) e.tree.lookup k' := by
  have h := rename_spec (L := L) (ctx_sound hL) hL.vals.not_top he frm to
    (fun _ hp => ⟨hf _ (List.of_mem_zip hp).1, ht _ (List.of_mem_zip hp).2⟩)
  rwa [← rename_eq, hr] at h

theorem rename_inv (hL : Laws L mem) {e e' : Env V} (he : Inv L e) {frm to : List Var}
    (hr : rename L e frm to = some e') (hf : ∀ v ∈ frm, v < 2 ^ 64) (ht : ∀ v ∈ to, v < 2 ^ 64) : Inv L e' :=
  (rename_some hL he hr hf ht).1

theorem rename_sound (hL : Laws L mem) {e e' : Env V} (he : Inv L e) {σ σ' : State} (hg : γ L mem e σ)
    {frm to : List Var} (hr : rename L e frm to = some e')
    (hf : ∀ v ∈ frm, v < 2 ^ 64) (ht : ∀ v ∈ to, v < 2 ^ 64)
    (hnf : frm.Nodup) (hnt : to.Nodup) (hdis : ∀ y ∈ to, y ∉ frm)
    (hfresh : ∀ y ∈ to, e.tree.lookup y = none)
    (hrel : ∀ p ∈ frm.zip to, σ' p.2 = σ p.1) (hout : ∀ y, y ∉ frm → y ∉ to → σ' y = σ y) :
    γ L mem e' σ' := by
  have ne := hg.1
  obtain ⟨_, hb, hl⟩ := rename_some hL he hr hf ht
  have hs : SatMap L mem e.tree.lookup σ := fun x => by
    have := hg.2 x
    rwa [get_eq, ne] at this
  refine ⟨hb.trans ne, fun x => ?_⟩
  rw [get_eq, hb, ne, hl, if_neg Bool.false_ne_true]
  by_cases hT : (SepDom.isTop e || e.isBot) = true
  · -- nothing is bound: every state is described
    rw [if_pos hT]
    have := (γ_of_isTop hL he (show SepDom.isTop e = true by simpa [ne] using hT) σ').2 x
    rwa [get_eq, ne, if_neg Bool.false_ne_true] at this
  · rw [if_neg hT]
    have hlen : frm.length = to.length := by
      have := rename_isSome L e frm to
      rw [hr] at this
      simpa [ne, show SepDom.isTop e = false by simpa [ne] using hT] using this
    have h1 : (frm.zip to).map Prod.fst = frm := by
      rw [List.map_fst_zip]; omega
    have h2 : (frm.zip to).map Prod.snd = to := by
      rw [List.map_snd_zip]; omega
    exact satMap_rename hL (frm.zip to) e.tree.lookup σ σ' hs (by rw [h1]; exact hnf) (by rw [h2]; exact hnt)
      (by rw [h1, h2]; exact hdis) (by rw [h2]; exact hfresh) hrel (by rw [h1, h2]; exact hout) x

end Env
end XDom
end Crab
