import CrabProofs.Lemmas.IntervalMul

/-! Tightness ("smallest interval") of the operations of `Crab.Itv`: any interval that contains
    every concrete result contains the computed interval.  For `+`, `-`, unary `-`, join and meet
    this follows from exactness; for `*` every corner product is attained or unbounded. -/
namespace Crab
namespace Itv
open Bound

theorem lb_mem {x : Itv} (hb : x.isBottom = false) {l : Int} (h : x.lb = fin l) : mem l x := by
  simp [isBottom, Bound.gt] at hb
  refine ⟨by rw [h]; simp, ?_⟩
  rw [← h]; exact hb

theorem ub_mem {x : Itv} (hb : x.isBottom = false) {u : Int} (h : x.ub = fin u) : mem u x := by
  simp [isBottom, Bound.gt] at hb
  refine ⟨?_, by rw [h]; simp⟩
  rw [← h]; exact hb

theorem unbounded_below {x : Itv} (hw : x.WF) (h : x.lb = ninf) (N : Int) :
    ∃ k, k ≤ N ∧ mem k x := by
  obtain ⟨_, w2⟩ := hw
  cases hu : x.ub with
  | ninf => exact absurd hu w2
  | pinf => exact ⟨N, Int.le_refl _, by simp [mem, h, hu]⟩
  | fin u =>
    by_cases hc : N ≤ u
    · exact ⟨N, Int.le_refl _, by simp [mem, h, hu]; exact hc⟩
    · exact ⟨u, by omega, by simp [mem, h, hu]⟩

theorem unbounded_above {x : Itv} (hw : x.WF) (h : x.ub = pinf) (N : Int) :
    ∃ k, N ≤ k ∧ mem k x := by
  obtain ⟨w1, _⟩ := hw
  cases hl : x.lb with
  | pinf => exact absurd hl w1
  | ninf => exact ⟨N, Int.le_refl _, by simp [mem, h, hl]⟩
  | fin l =>
    by_cases hc : l ≤ N
    · exact ⟨N, Int.le_refl _, by simp [mem, h, hl]; exact hc⟩
    · exact ⟨l, by omega, by simp [mem, h, hl]⟩

/-- `Attains S c`: the bound `c` is attained by the set `S` (finite) or `S` is unbounded in the
    direction of `c` (infinite) -/
def Attains (S : Int → Prop) : Bound → Prop
  | fin v => S v
  | ninf => ∀ N : Int, ∃ k, k ≤ N ∧ S k
  | pinf => ∀ N : Int, ∃ k, N ≤ k ∧ S k

theorem attains_inside {S : Int → Prop} {c : Bound} {r' : Itv} (hc : Attains S c)
    (h : ∀ k, S k → mem k r') : Bound.le r'.lb c = true ∧ Bound.le c r'.ub = true := by
  cases c with
  | fin v => exact h v hc
  | ninf =>
    refine ⟨?_, by simp⟩
    cases hl : r'.lb with
    | ninf => simp
    | fin l =>
      obtain ⟨k, hk, hs⟩ := hc (l - 1)
      have := (h k hs).1
      rw [hl] at this; simp at this; omega
    | pinf =>
      obtain ⟨k, _, hs⟩ := hc 0
      have := (h k hs).1
      rw [hl] at this; simp at this
  | pinf =>
    refine ⟨by simp, ?_⟩
    cases hu : r'.ub with
    | pinf => simp
    | fin u =>
      obtain ⟨k, hk, hs⟩ := hc (u + 1)
      have := (h k hs).2
      rw [hu] at this; simp at this; omega
    | ninf =>
      obtain ⟨k, _, hs⟩ := hc 0
      have := (h k hs).2
      rw [hu] at this; simp at this

theorem attains_lb {x : Itv} (hw : x.WF) (hb : x.isBottom = false) : Attains (fun k => mem k x) x.lb := by
  cases hl : x.lb with
  | fin l => exact lb_mem hb hl
  | ninf => exact unbounded_below hw hl
  | pinf => exact absurd hl hw.1

theorem attains_ub {x : Itv} (hw : x.WF) (hb : x.isBottom = false) : Attains (fun k => mem k x) x.ub := by
  cases hu : x.ub with
  | fin u => exact ub_mem hb hu
  | pinf => exact unbounded_above hw hu
  | ninf => exact absurd hu hw.2

theorem leq_of_attains {S : Int → Prop} {r r' : Itv} (hl : Attains S r.lb) (hu : Attains S r.ub)
    (hne : ∃ k, S k) (h : ∀ k, S k → mem k r') : leq r r' = true := by
  unfold leq
  split
  · rfl
  · obtain ⟨k, hk⟩ := hne
    simp [isBottom_false_of_mem (h k hk)]
    exact ⟨(attains_inside hl h).1, (attains_inside hu h).2⟩

theorem leq_of_subset {r r' : Itv} (hw : r.WF) (h : ∀ k, mem k r → mem k r') : leq r r' = true := by
  cases hb : r.isBottom
  · exact leq_of_attains (S := fun k => mem k r) (attains_lb hw hb) (attains_ub hw hb) (exists_mem hw hb) h
  · exact leq_of_isBottom hb r'

/-- `+` returns the smallest interval containing all sums -/
theorem add_tight {x y r r' : Itv} (hx : x.WF) (hy : y.WF) (h : add x y = some r)
    (hr : ∀ a b, mem a x → mem b y → mem (a + b) r') : leq r r' = true := by
  apply leq_of_subset (add_wf hx hy h)
  intro k hk
  obtain ⟨a, b, ha, hb, e⟩ := add_exact hx hy h hk
  subst e; exact hr a b ha hb

/-- `-` returns the smallest interval containing all differences -/
theorem sub_tight {x y r r' : Itv} (hx : x.WF) (hy : y.WF) (h : sub x y = some r)
    (hr : ∀ a b, mem a x → mem b y → mem (a - b) r') : leq r r' = true := by
  apply leq_of_subset (sub_wf hx hy h)
  intro k hk
  obtain ⟨a, b, ha, hb, e⟩ := sub_exact hx hy h hk
  subst e; exact hr a b ha hb

/-- unary `-` returns the smallest interval containing all opposites -/
theorem neg_tight {x r' : Itv} (hx : x.WF) (hr : ∀ a, mem a x → mem (-a) r') :
    leq (neg x) r' = true := by
  apply leq_of_subset (neg_wf hx)
  intro k hk
  have := hr (-k) (neg_exact hk)
  simpa using this

/-- join returns the smallest interval containing both operands -/
theorem join_tight {x y r' : Itv} (hx : x.WF) (hy : y.WF)
    (hr : ∀ k, mem k x ∨ mem k y → mem k r') : leq (join x y) r' = true :=
  join_least (leq_of_subset hx (fun k hk => hr k (Or.inl hk)))
    (leq_of_subset hy (fun k hk => hr k (Or.inr hk)))

/-- meet returns the smallest interval containing the common members (it is exact) -/
theorem meet_tight {x y r' : Itv} (hx : x.WF) (hy : y.WF)
    (hr : ∀ k, mem k x → mem k y → mem k r') : leq (meet x y) r' = true := by
  apply leq_of_subset (wf_meet hx hy)
  intro k hk
  obtain ⟨h1, h2⟩ := meet_exact hk
  exact hr k h1 h2

def Products (P Q : Int → Prop) (k : Int) : Prop := ∃ a b, P a ∧ Q b ∧ k = a * b

theorem attains_mono {S S' : Int → Prop} (h : ∀ k, S k → S' k) {c : Bound} (hc : Attains S c) :
    Attains S' c := by
  cases c with
  | fin v => exact h v hc
  | ninf => intro N; obtain ⟨k, h1, h2⟩ := hc N; exact ⟨k, h1, h k h2⟩
  | pinf => intro N; obtain ⟨k, h1, h2⟩ := hc N; exact ⟨k, h1, h k h2⟩

theorem products_swap {P Q : Int → Prop} (k : Int) (h : Products Q P k) : Products P Q k := by
  obtain ⟨a, b, ha, hb, e⟩ := h
  exact ⟨b, a, hb, ha, by rw [e, Int.mul_comm]⟩

theorem products_up_pos {P Q : Int → Prop} {a : Int} (ha : P a) (h1 : 1 ≤ a) (hQ : Attains Q pinf) :
    Attains (Products P Q) pinf := by
  intro N
  obtain ⟨b, hb, hq⟩ := hQ (if N ≤ 0 then 0 else N)
  refine ⟨a * b, ?_, a, b, ha, hq, rfl⟩
  have hb0 : 0 ≤ b := by split at hb <;> omega
  have := Int.mul_le_mul_of_nonneg_right h1 hb0
  split at hb <;> omega

theorem products_down_pos {P Q : Int → Prop} {a : Int} (ha : P a) (h1 : 1 ≤ a) (hQ : Attains Q ninf) :
    Attains (Products P Q) ninf := by
  intro N
  obtain ⟨b, hb, hq⟩ := hQ (if 0 ≤ N then 0 else N)
  refine ⟨a * b, ?_, a, b, ha, hq, rfl⟩
  have hb0 : b ≤ 0 := by split at hb <;> omega
  have := Int.mul_le_mul_of_nonpos_right h1 hb0
  split at hb <;> omega

theorem products_down_neg {P Q : Int → Prop} {a : Int} (ha : P a) (h1 : a ≤ -1) (hQ : Attains Q pinf) :
    Attains (Products P Q) ninf := by
  intro N
  obtain ⟨b, hb, hq⟩ := hQ (if 0 ≤ N then 0 else -N)
  refine ⟨a * b, ?_, a, b, ha, hq, rfl⟩
  have hb0 : 0 ≤ b := by split at hb <;> omega
  have := Int.mul_le_mul_of_nonneg_right h1 hb0
  split at hb <;> omega

theorem products_up_neg {P Q : Int → Prop} {a : Int} (ha : P a) (h1 : a ≤ -1) (hQ : Attains Q ninf) :
    Attains (Products P Q) pinf := by
  intro N
  obtain ⟨b, hb, hq⟩ := hQ (if N ≤ 0 then 0 else -N)
  refine ⟨a * b, ?_, a, b, ha, hq, rfl⟩
  have hb0 : b ≤ 0 := by split at hb <;> omega
  have := Int.mul_le_mul_of_nonpos_right h1 hb0
  split at hb <;> omega

theorem mul_attains_aux {P Q : Int → Prop} {A B : Bound} (hA : Attains P A) (hB : Attains Q B)
    (hq : ∃ b, Q b) (hfin : A.isFinite = true ∨ B.isInfinite = true) :
    Attains (Products P Q) (Bound.mul A B) := by
  cases A with
  | fin a =>
    cases B with
    | fin b => rw [mul_fin_fin]; exact ⟨a, b, hA, hB, rfl⟩
    | ninf =>
      rw [mul_fin_ninf]
      split
      · rename_i h0; subst h0
        obtain ⟨b, hb⟩ := hq
        exact ⟨0, b, hA, hb, by simp⟩
      · split
        · exact products_up_neg hA (by omega) hB
        · exact products_down_pos hA (by omega) hB
    | pinf =>
      rw [mul_fin_pinf]
      split
      · rename_i h0; subst h0
        obtain ⟨b, hb⟩ := hq
        exact ⟨0, b, hA, hb, by simp⟩
      · split
        · exact products_up_pos hA (by omega) hB
        · exact products_down_neg hA (by omega) hB
  | ninf =>
    obtain ⟨a, ha1, ha⟩ := hA (-1)
    cases B with
    | fin b => simp [Bound.isFinite, Bound.isInfinite] at hfin
    | ninf => exact products_up_neg ha ha1 hB
    | pinf => exact products_down_neg ha ha1 hB
  | pinf =>
    obtain ⟨a, ha1, ha⟩ := hA 1
    cases B with
    | fin b => simp [Bound.isFinite, Bound.isInfinite] at hfin
    | ninf => exact products_down_pos ha ha1 hB
    | pinf => exact products_up_pos ha ha1 hB

theorem mul_attains {P Q : Int → Prop} {A B : Bound} (hA : Attains P A) (hB : Attains Q B)
    (hp : ∃ a, P a) (hq : ∃ b, Q b) : Attains (Products P Q) (Bound.mul A B) := by
  by_cases h : A.isFinite = true ∨ B.isInfinite = true
  · exact mul_attains_aux hA hB hq h
  · rw [Bound.mul_comm]
    refine attains_mono products_swap (mul_attains_aux hB hA hp ?_)
    cases A <;> cases B <;> simp_all [Bound.isFinite, Bound.isInfinite]

theorem attains_min {S : Int → Prop} {a b : Bound} (ha : Attains S a) (hb : Attains S b) :
    Attains S (Bound.min a b) := by
  rcases Bound.min_eq_or a b with e | e <;> rw [e] <;> assumption

theorem attains_max {S : Int → Prop} {a b : Bound} (ha : Attains S a) (hb : Attains S b) :
    Attains S (Bound.max a b) := by
  rcases Bound.max_eq_or a b with e | e <;> rw [e] <;> assumption

/-- `*` returns the smallest interval containing all products -/
theorem mul_tight {x y r' : Itv} (hx : x.WF) (hy : y.WF)
    (hr : ∀ a b, mem a x → mem b y → mem (a * b) r') : leq (mul x y) r' = true := by
  unfold mul
  split
  · exact bot_leq r'
  · rename_i hbot
    simp at hbot
    obtain ⟨hbx, hby⟩ := hbot
    have hxl := attains_lb hx hbx
    have hxu := attains_ub hx hbx
    have hyl := attains_lb hy hby
    have hyu := attains_ub hy hby
    have ex := exists_mem hx hbx
    have ey := exists_mem hy hby
    have hS : ∀ k, Products (fun k => mem k x) (fun k => mem k y) k → mem k r' := by
      intro k ⟨a, b, ha, hb, e⟩; subst e; exact hr a b ha hb
    have hne : ∃ k, Products (fun k => mem k x) (fun k => mem k y) k := by
      obtain ⟨a, ha⟩ := ex; obtain ⟨b, hb⟩ := ey
      exact ⟨a * b, a, b, ha, hb, rfl⟩
    have cll := mul_attains hxl hyl ex ey
    have clu := mul_attains hxl hyu ex ey
    have cul := mul_attains hxu hyl ex ey
    have cuu := mul_attains hxu hyu ex ey
    simp only []
    unfold mk'
    split
    · exact bot_leq r'
    · refine leq_of_attains (S := Products (fun k => mem k x) (fun k => mem k y)) ?_ ?_ hne hS
      · exact attains_min cll (attains_min clu (attains_min cul cuu))
      · exact attains_max cll (attains_max clu (attains_max cul cuu))

end Itv
end Crab
