import CrabProofs.Lemmas.FunctorVPartLat

/-!
`value_partitioning_domain` over an arbitrary base: every transformer (per-partition statements,
`operator+=` with its split of disequalities, `-=`/`forget`/`project`, `rename`, the two
intrinsics, `select`) keeps the invariant (`*_inv`); soundness of `operator+=` (`addOp_sound`) and of
the per-partition application (`mapParts_sound`).  Soundness of the other transformers is proved
under its statement `C03.vpart_map_sound` … `C03.vpart_select_sound` (`Props/C03Functors2.lean`).
-/
namespace Crab
namespace Dom
namespace Fct
namespace VP
set_option linter.unusedSectionVars false

variable {V S : Type} [DecidableEq V] {D : VDom V S}

variable {f : D.B → D.B} {r : S → S → Prop}

theorem mapParts_sound (hf : D.TSound f r) (a : VP D) (s s' : S)
    (hg : γ a s) (hr : r s s') : γ (mapParts f a) s' := by
  obtain ⟨p, hp, hx⟩ := hg
  exact ⟨Part.app f p, List.mem_map.2 ⟨p, hp, rfl⟩, hf _ _ _ hx hr⟩

theorem mapParts_inv (f : D.B → D.B) {a : VP D} (h : Inv a) : Inv (mapParts f a) := by
  refine ⟨?_, fun hv => ?_⟩
  · show a.parts.map _ ≠ []
    intro he; exact h.1 (List.map_eq_nil_iff.1 he)
  · show (a.parts.map _).length = 1
    rw [List.length_map]; exact h.2 hv

theorem mapOp_inv (f : D.B → D.B) {a : VP D} (h : Inv a) : Inv (mapOp f a) := by
  unfold mapOp; split
  · exact mapParts_inv f h
  · exact h

theorem assignOp_inv (x : V) (f : D.B → D.B) {a : VP D} (h : Inv a) : Inv (assignOp x f a) := by
  unfold assignOp; split
  · split
    · exact updateParts_inv (mapParts_inv f h)
    · exact mapParts_inv f h
  · exact h

/-! ### `operator+=` -/

/-- `add_constraints` answers canonical bottom or the surviving partitions, possibly after
    `update_partitions()` -/
theorem addCsts_cases (Q : VP D → Prop) (hupd : ∀ b : VP D, Q b → Q (updateParts b)) (f : D.B → D.B)
    (cx : V → Bool) (a : VP D) (vec : List (Part D))
    (hvec : (a.parts.map (Part.app f)).filter (fun p => !D.isBot p.val) = vec)
    (h0 : vec = [] → Q (setBottom a)) (h1 : vec ≠ [] → Q ⟨a.var, vec⟩) : Q (addCsts f cx a) := by
  unfold addCsts
  simp only [hvec]
  split
  · exact h0 (List.isEmpty_iff.1 ‹_›)
  · have := h1 (fun h0 => ‹¬ vec.isEmpty = true› (h0 ▸ rfl))
    split
    · split
      · exact hupd _ this
      · exact this
    · exact this

theorem addCsts_sound_mem (f : D.B → D.B) (cx : V → Bool) (a : VP D) (s : S) {p : Part D}
    (hp : p ∈ a.parts) (hx' : D.γ (f p.val) s) : γ (addCsts f cx a) s := by
  have hmem : Part.app f p ∈ (a.parts.map (Part.app f)).filter (fun p => !D.isBot p.val) :=
    List.mem_filter.2 ⟨List.mem_map.2 ⟨p, hp, rfl⟩, by
      show (!D.isBot (f p.val)) = true
      rw [D.isBot_false_of_γ hx']; rfl⟩
  exact addCsts_cases (γ · s) (fun b => updateParts_sound b s) f cx a _ rfl
    (fun h0 => absurd (h0 ▸ hmem) List.not_mem_nil) (fun _ => ⟨_, hmem, hx'⟩)

theorem addCsts_sound {f : D.B → D.B} {P : S → Prop} (hf : ∀ b s, D.γ b s → P s → D.γ (f b) s)
    (cx : V → Bool) (a : VP D) (s : S) (hg : γ a s) (hP : P s) : γ (addCsts f cx a) s := by
  obtain ⟨p, hp, hx⟩ := hg
  exact addCsts_sound_mem f cx a s hp (hf _ _ hx hP)

theorem addCsts_inv (f : D.B → D.B) (cx : V → Bool) {a : VP D} (h : Inv a) : Inv (addCsts f cx a) := by
  refine addCsts_cases Inv (fun _ => updateParts_inv) f cx a _ rfl (fun _ => inv_single _ _) fun hne => ⟨hne, fun hv => ?_⟩
  have := List.length_filter_le (fun p : Part D => !D.isBot p.val) (a.parts.map (Part.app f))
  rw [List.length_map, h.2 hv] at this
  have := List.length_pos_iff.2 hne
  show ((a.parts.map (Part.app f)).filter (fun p => !D.isBot p.val)).length = 1
  omega

theorem splitDiseq_inv {acc : VP D} (d : Diseq D) (h : Inv acc) : Inv (splitDiseq acc d) :=
  join_inv (addCsts_inv _ _ h) (addCsts_inv _ _ h)

theorem foldl_splitDiseq_sound {P : S → Prop} (ds : List (Diseq D))
    (hd : ∀ d ∈ ds, ∀ b s, D.γ b s → P s → D.γ (d.lt b) s ∨ D.γ (d.gt b) s)
    {acc : VP D} (h : Inv acc) (s : S) (hg : γ acc s) (hP : P s) : γ (ds.foldl splitDiseq acc) s :=
  (List.foldlRecOn ds splitDiseq (motive := fun a => Inv a ∧ γ a s) ⟨h, hg⟩ fun a ha d hm => by
    obtain ⟨ha, p, hp, hx⟩ := ha
    exact ⟨splitDiseq_inv d ha, join_sound (addCsts_inv _ _ ha) (addCsts_inv _ _ ha) s <|
      (hd d hm p.val s hx hP).imp (addCsts_sound_mem _ _ _ s hp) (addCsts_sound_mem _ _ _ s hp)⟩).2

theorem addOp_sound {c : Csts D} {P : S → Prop} (hc : c.Sound P) {a : VP D} (h : Inv a) (s : S)
    (hg : γ a s) (hP : P s) : γ (addOp c a) s := by
  unfold addOp
  split
  · exact hg
  · split
    · rename_i hf; exact absurd hP (hc.1 hf s)
    · split
      · rename_i x hv
        exact foldl_splitDiseq_sound (c.dq x) (hc.2.2.2 x) (addCsts_inv _ _ h) s
          (addCsts_sound (hc.2.2.1 x) _ a s hg hP) hP
      · exact addCsts_sound hc.2.1 _ a s hg hP

theorem addOp_inv (c : Csts D) {a : VP D} (h : Inv a) : Inv (addOp c a) := by
  unfold addOp
  split
  · exact h
  · split
    · exact inv_single _ _
    · split
      · exact List.foldlRecOn _ _ (motive := Inv) (addCsts_inv _ _ h) fun _ hb d _ => splitDiseq_inv d hb
      · exact addCsts_inv _ _ h

/-- no state of `a` passes the filter when `+=` answers bottom -/
theorem addOp_bottom {c : Csts D} {P : S → Prop} (hc : c.Sound P) {a : VP D} (h : Inv a)
    (hb : isBottom (addOp c a) = true) (s : S) (hg : γ a s) : ¬ P s :=
  fun hP => not_γ_of_isBottom hb s (addOp_sound hc h s hg hP)

/-! ### `-=`, `forget`, `project`, `rename`, the intrinsics, `set_to_top/bottom` -/

theorem dropOp_inv (hit : V → Bool) (f : D.B → D.B) {a : VP D} (h : Inv a) : Inv (dropOp hit f a) := by
  unfold dropOp; split
  · split
    · split
      · exact mapParts_inv f (removeParts_inv h)
      · exact mapParts_inv f h
    · exact mapParts_inv f h
  · exact h

theorem renameOp_inv (ren : V → V) (f : D.B → D.B) {a : VP D} (h : Inv a) : Inv (renameOp ren f a) := by
  unfold renameOp; split
  · apply mapParts_inv
    refine ⟨h.1, fun hv => h.2 ?_⟩
    cases ha : a.var with
    | none => rfl
    | some x => have hv' : a.var.map ren = none := hv; rw [ha] at hv'; cases hv'
  · exact h

theorem vpStart_inv (x : V) {a : VP D} (h : Inv a) : Inv (vpStart x a) := by
  unfold vpStart
  split
  · exact h
  · split
    · exact h
    · exact updateParts_inv (inv_of_some (a := ⟨some x, a.parts⟩) rfl h.1)

theorem vpEnd_inv (x : V) {a : VP D} (h : Inv a) : Inv (vpEnd x a) := by
  unfold vpEnd
  split
  · exact h
  · split
    · exact removeParts_inv h
    · exact h

theorem setTop_sound (a : VP D) (s : S) : γ (setTop a) s :=
  ⟨Part.top, List.mem_singleton.2 rfl, D.top_sound s⟩

/-! ### `select` -/

theorem selectOp_inv (x : V) (cnd cneg : Csts D) (f1 f2 : D.B → D.B) {a : VP D} (h : Inv a) :
    Inv (selectOp x cnd cneg f1 f2 a) := by
  unfold selectOp
  split
  · simp only
    split
    · exact assignOp_inv _ _ h
    · split
      · exact assignOp_inv _ _ h
      · exact join_inv (assignOp_inv _ _ (addOp_inv _ h)) (assignOp_inv _ _ (addOp_inv _ h))
  · exact h

/-! ### queries -/

theorem entails_sound (e : D.B → Bool) (C : S → Prop) (he : ∀ b s, e b = true → D.γ b s → C s)
    (a : VP D) (h : entails e a = true) (s : S) (hg : γ a s) : C s := by
  unfold entails at h
  rw [isBottom_false_of_γ hg] at h
  simp only [Bool.not_false, if_true] at h
  obtain ⟨p, hp, hx⟩ := hg
  exact he _ _ (List.all_eq_true.1 h p hp) hx

end VP
end Fct
end Dom
end Crab
