import CrabProofs.Lemmas.IDomSolver
import CrabProofs.Lemmas.IDomLattice
import CrabProofs.Lemmas.LinCst
import CrabProofs.Lemmas.IDomSem

/-!
  Soundness of the transformers of the interval domain: `+=` (with the lowering of disequations),
  `entails`, `assign`, `weak_assign`, `apply`, `select`, `forget`, `project`, `expand`, integer
  casts (`rename` is in IDomRename.lean).
-/
namespace Crab
namespace IDom
open Lin

theorem ArithOp.eval_sound (op : ArithOp) {yi zi : Itv} {a b c : Int} (ha : Itv.mem a yi) (hb : Itv.mem b zi)
    (h : op.conc a b = some c) : Itv.mem c (op.eval yi zi) := by
  cases op <;> dsimp only [ArithOp.conc, ArithOp.eval] at h ⊢
  · exact Option.some.inj h ▸ addT_sound ha hb
  · exact Option.some.inj h ▸ subT_sound ha hb
  · exact Option.some.inj h ▸ Itv.mul_sound ha hb
  · by_cases hb0 : b = 0
    · rw [if_pos hb0] at h; cases h
    · rw [if_neg hb0] at h; exact Option.some.inj h ▸ divT_sound ha hb hb0
  · exact Itv.udiv_sound ha hb c
  · by_cases hb0 : b = 0
    · rw [if_pos hb0] at h; cases h
    · rw [if_neg hb0] at h; exact Option.some.inj h ▸ Itv.srem_sound ha hb hb0
  · by_cases hh : 0 ≤ a ∧ 0 < b
    · rw [if_pos hh] at h; exact Option.some.inj h ▸ Itv.urem_sound ha hb hh.1 hh.2
    · rw [if_neg hh] at h; cases h

/-- every bitwise operation except `LShr` by an amount `≥ 2^64` -/
theorem BitOp.eval_sound (op : BitOp) {yi zi : Itv} {a b c : Int} (ha : Itv.mem a yi) (hb : Itv.mem b zi)
    (h : op.conc a b = some c) (h64 : op = .lshr → b < 2 ^ 64) : Itv.mem c (op.eval yi zi) := by
  cases op <;> dsimp only [BitOp.conc, BitOp.eval] at h ⊢
  · exact Option.some.inj h ▸ Itv.and_sound ha hb
  · exact Option.some.inj h ▸ Itv.or_sound ha hb
  · exact Option.some.inj h ▸ Itv.xor_sound ha hb
  · by_cases h0 : 0 ≤ b
    · rw [if_pos h0] at h; exact Option.some.inj h ▸ Itv.shl_sound ha hb h0
    · rw [if_neg h0] at h; cases h
  · by_cases h0 : 0 ≤ b
    · rw [if_pos h0] at h; exact Option.some.inj h ▸ Itv.lshr_sound ha hb h0 (h64 rfl)
    · rw [if_neg h0] at h; cases h
  · by_cases h0 : 0 ≤ b
    · rw [if_pos h0] at h; exact Option.some.inj h ▸ Itv.ashr_sound ha hb h0
    · rw [if_neg h0] at h; cases h

namespace Env

theorem addRaw_sound {e : Env} {σ : State} (hg : γ e σ) {csts : Sys} (hc : ∀ c ∈ csts, c.expr.Canonical)
    (hsat : Sys.sat csts σ) : γ (e.addRaw csts) σ := by
  unfold addRaw
  simp only [hg.1, Bool.false_eq_true, if_false]
  exact solverRun_sound hc hsat _ hg

/-- copying bindings of `e` into an environment (`entails`, `project`): the state may differ from
    the one of `e` outside the copied variables -/
theorem γ_copy {e : Env} {σ σ' : State} (hg : γ e σ) : ∀ (vs : List Var), (∀ y ∈ vs, σ' y = σ y) →
    ∀ val : Env, γ val σ' → γ (vs.foldl (fun val v => val.set v (e.get v)) val) σ' :=
  fun vs hv _ h => List.foldlRecOn vs _ (motive := (γ · σ')) h fun _ h v hm =>
    set_sound_same h (hv v hm ▸ hg.2 v)

theorem entailFn_sound {val : Env} {σ : State} (hg : γ val σ) {c : Cst} (hc : c.expr.Canonical)
    (h : entailFn val c = true) : c.sat σ := by
  apply Classical.byContradiction
  intro hn
  have hs : Sys.sat [c.negate] σ := by
    intro c' hc'
    simp only [List.mem_cons, List.not_mem_nil, or_false] at hc'
    subst hc'
    exact (Cst.sat_negate c σ).2 hn
  have := addRaw_sound hg (csts := [c.negate])
    (by intro c' hc'; simp only [List.mem_cons, List.not_mem_nil, or_false] at hc'; subst hc'; exact Cst.canonical_negate hc) hs
  unfold entailFn at h
  exact not_γ_bottom h σ this

theorem entails_sound {e : Env} {σ : State} (hg : γ e σ) {c : Cst} (hc : c.expr.Canonical)
    (h : e.entails c = true) : c.sat σ := by
  unfold entails at h
  rw [if_neg (ne_true_of_eq_false hg.1)] at h
  by_cases ht : c.isTautology = true
  · exact Cst.sat_of_isTautology ht σ
  · rw [if_neg ht] at h
    by_cases hcon : c.isContradiction = true
    · rw [if_pos hcon] at h; cases h
    · rw [if_neg hcon] at h
      dsimp only at h
      have hval := γ_copy hg c.expr.variables (fun _ _ => rfl) top (γ_top σ)
      by_cases hk : c.kind = .eq
      · -- an equality is entailed when both inequalities are
        rw [if_pos hk] at h
        by_cases h1 : (!entailFn (c.expr.variables.foldl (fun val v => val.set v (e.get v)) top) ⟨c.expr, .leq⟩) = true
        · rw [if_pos h1] at h; cases h
        · rw [if_neg h1] at h
          have s1 := entailFn_sound hval (c := ⟨c.expr, .leq⟩) hc (by simpa using h1)
          have s2 := entailFn_sound hval (c := ⟨c.expr.scale (-1), .leq⟩) (Expr.canonical_scale _ hc.1) h
          simp only [Cst.sat, Expr.eval_scale] at s1 s2
          simp only [Cst.sat, hk]
          omega
      · rw [if_neg hk] at h; exact entailFn_sound hval hc h

theorem binaryOperands_spec {c : Cst} {x y : Var} (h : binaryOperands c = some (x, y)) (σ : State) :
    c.kind = .neq ∧ ∃ n : Int, c.expr.eval σ = n * (σ x - σ y) := by
  obtain ⟨hk, h0, ny, hts⟩ := binaryOperands_some h
  refine ⟨hk, ny * -1, ?_⟩
  have hc0 : c.expr.cst = 0 := by simp only [Cst.constant, Expr.constant] at h0; omega
  simp only [Expr.eval, hts, Expr.evalTerms, hc0]
  rw [Int.mul_sub]
  have : ny * -1 * σ y = -(ny * σ y) := by rw [Int.mul_neg, Int.mul_one, Int.neg_mul]
  omega

theorem canonical_var_sub_var (x y : Var) : ((Expr.var x).subVar y).Canonical :=
  Expr.canonical_subVar y (Expr.canonical_var x)
theorem canonical_sub_var_var (x y : Var) : (Expr.sub (Expr.var x) (Expr.var y)).Canonical :=
  Expr.canonical_sub _ (Expr.canonical_var x)

/-- `x <= y` entailed and `x != y`: the constraint `x < y` that `lower_disequality` adds holds -/
theorem lt_of_entails_le {e : Env} {σ : State} (hg : γ e σ) {x y : Var} (hne : σ x ≠ σ y)
    (h : e.entails ⟨(Expr.var x).subVar y, .leq⟩ = true) :
    (⟨Expr.sub (Expr.var x) (Expr.var y), .lt⟩ : Cst).sat σ ∧ (Expr.sub (Expr.var x) (Expr.var y)).Canonical := by
  have s1 := entails_sound hg (canonical_var_sub_var x y) h
  simp only [Cst.sat, Expr.eval_subVar, Expr.eval_var] at s1
  refine ⟨?_, canonical_sub_var_var x y⟩
  simp only [Cst.sat, Expr.eval_sub, Expr.eval_var]
  omega

theorem lowerDisequality_sound {e : Env} {σ : State} (hg : γ e σ) {c : Cst} (hsat : c.sat σ)
    {out : Sys} (ho : ∀ c' ∈ out, c'.sat σ ∧ c'.expr.Canonical) :
    ∀ c' ∈ e.lowerDisequality c out, c'.sat σ ∧ c'.expr.Canonical := by
  have hadd : ∀ {c0 : Cst}, c0.sat σ ∧ c0.expr.Canonical → ∀ c' ∈ Sys.addCst out c0, c'.sat σ ∧ c'.expr.Canonical :=
    fun h0 c' hc' => (Sys.mem_addCst.1 hc').elim (ho c') (fun e => e ▸ h0)
  unfold lowerDisequality
  split
  · rename_i x y hb
    obtain ⟨hk, n, hn⟩ := binaryOperands_spec hb σ
    have hne : σ x ≠ σ y := fun he => by
      have h0 : c.expr.eval σ = 0 := by rw [hn, he, Int.sub_self, Int.mul_zero]
      rw [Cst.sat, hk] at hsat; exact hsat h0
    dsimp only
    by_cases h1 : e.entails ⟨(Expr.var x).subVar y, .leq⟩ = true
    · rw [if_pos h1]; exact hadd (lt_of_entails_le hg hne h1)
    · rw [if_neg h1]
      by_cases h2 : e.entails ⟨(Expr.var y).subVar x, .leq⟩ = true
      · rw [if_pos h2]; exact hadd (lt_of_entails_le hg hne.symm h2)
      · rw [if_neg h2]; exact ho
  · exact ho

theorem preprocess_sound {e : Env} {σ : State} (hg : γ e σ) :
    ∀ (csts : List Cst) (pp : Sys), (∀ c ∈ csts, c.sat σ ∧ c.expr.Canonical) →
      (∀ c ∈ pp, c.sat σ ∧ c.expr.Canonical) →
      ∀ c ∈ e.preprocess csts pp, c.sat σ ∧ c.expr.Canonical := by
  intro csts
  induction csts with
  | nil => intro pp _ hp; exact hp
  | cons c rest ih =>
    intro pp hc hp
    unfold preprocess
    apply ih _ (fun q hq => hc q (List.mem_cons_of_mem _ hq))
    have hc0 := hc c List.mem_cons_self
    intro c' hc'
    rcases Sys.mem_addCst.1 hc' with hc' | hc'
    · split at hc'
      · exact lowerDisequality_sound hg hc0.1 hp c' hc'
      · exact hp c' hc'
    · subst hc'; exact hc0

theorem add_sound {e : Env} {σ : State} (hg : γ e σ) {csts : Sys} (hc : ∀ c ∈ csts, c.expr.Canonical)
    (hsat : Sys.sat csts σ) : γ (e.add csts) σ := by
  unfold add
  simp only [hg.1, Bool.false_eq_true, if_false]
  have hp := preprocess_sound hg csts [] (fun c h => ⟨hsat c h, hc c h⟩) (by simp)
  exact solverRun_sound (fun c h => (hp c h).2) (fun c h => (hp c h).1) _ hg

/-- on a single constraint that is not a disequation `+=` does no lowering: this is the form in
    which `entails` uses it -/
theorem add_single_eq_addRaw (e : Env) {c : Cst} (h : c.kind ≠ .neq) : e.add [c] = e.addRaw [c] := by
  unfold add addRaw preprocess preprocess
  simp [h, Sys.addCst]

theorem evalFold_sound {e : Env} {σ : State} (hg : γ e σ) :
    ∀ (ts : List (Var × Int)) (r : Itv) (a : Int), Itv.mem a r →
      Itv.mem (a + Expr.evalTerms σ ts)
        (ts.foldl (fun r p => addT r (Itv.mul (Itv.single p.2) (e.get p.1))) r) := by
  intro ts
  induction ts with
  | nil => intro r a h; simpa [Expr.evalTerms] using h
  | cons p rest ih =>
    obtain ⟨v, c⟩ := p
    intro r a h
    simp only [List.foldl_cons, Expr.evalTerms]
    have := ih _ _ (addT_sound h (Itv.mul_sound ((Itv.mem_single c c).2 rfl) (hg.2 v)))
    have e' : a + (c * σ v + Expr.evalTerms σ rest) = a + c * σ v + Expr.evalTerms σ rest := by omega
    rw [e']; exact this

theorem evalExpr_sound {e : Env} {σ : State} (hg : γ e σ) (ex : Expr) : Itv.mem (ex.eval σ) (e.evalExpr ex) := by
  unfold evalExpr Expr.eval
  have := evalFold_sound hg ex.terms (Itv.single ex.cst) ex.cst ((Itv.mem_single _ _).2 rfl)
  rw [Int.add_comm]; exact this

theorem getVariable_spec {ex : Expr} {v : Var} (h : getVariable ex = some v) (σ : State) : ex.eval σ = σ v := by
  unfold getVariable at h
  by_cases h0 : ex.isConstant = true
  · rw [if_pos h0] at h; cases h
  · rw [if_neg h0] at h
    by_cases hc : ex.cst = 0 ∧ ex.size = 1
    · rw [if_pos hc] at h
      split at h
      · rename_i v' c hts
        by_cases h1 : c = 1
        · rw [if_pos h1] at h
          cases h
          rw [Expr.eval, hts, hc.1, h1]
          simp [Expr.evalTerms]
        · rw [if_neg h1] at h; cases h
      · cases h
    · rw [if_neg hc] at h; cases h

theorem rhsVal_sound {e : Env} {σ : State} (hg : γ e σ) (ex : Expr) : Itv.mem (ex.eval σ) (e.rhsVal ex) := by
  unfold rhsVal
  cases h : getVariable ex with
  | some v => rw [getVariable_spec h σ]; exact hg.2 v
  | none => exact evalExpr_sound hg ex

theorem assign_sound {e : Env} {σ : State} (hg : γ e σ) (x : Var) (ex : Expr) :
    γ (e.assign x ex) (upd σ x (ex.eval σ)) := by
  rw [assign_eq]; exact set_sound hg (rhsVal_sound hg ex) x

theorem joinVal_upper {e : Env} {σ : State} (hg : γ e σ) (k : Var) {v : Itv} {n : Int}
    (hn : n = σ k ∨ Itv.mem n v) : Itv.mem n (e.joinVal k v) := by
  unfold joinVal
  split
  · exact Itv.mem_top n
  · cases hf : e.m.find k with
    | none => exact Itv.mem_top n
    | some old => exact hn.elim (fun h => h ▸ Itv.join_upper_left (γ_find hg hf)) Itv.join_upper_right

theorem joinKey_sound_old {e : Env} {σ : State} (hg : γ e σ) (k : Var) {v : Itv} (hv : v.isBottom = false) :
    γ (e.joinKey k v) σ :=
  joinKey_ind (P := fun e' => γ e' σ) e k v (fun h => absurd h (ne_true_of_eq_false hg.1))
    (fun h => absurd h (ne_true_of_eq_false hv))
    (fun _ _ => by have := γ_store hg (joinVal_upper hg k (v := v) (Or.inl rfl)) k; rwa [upd_self] at this)

theorem joinKey_sound_new {e : Env} {σ : State} (hg : γ e σ) (k : Var) {v : Itv} {n : Int} (hn : Itv.mem n v) :
    γ (e.joinKey k v) (upd σ k n) :=
  joinKey_ind (P := fun e' => γ e' (upd σ k n)) e k v (fun h => absurd h (ne_true_of_eq_false hg.1))
    (fun h => absurd h (ne_true_of_eq_false (Itv.isBottom_false_of_mem hn)))
    (fun _ _ => γ_store hg (joinVal_upper hg k (Or.inr hn)) k)

theorem weakAssign_sound {e : Env} {σ : State} (hg : γ e σ) (x : Var) (ex : Expr) :
    γ (e.weakAssign x ex) σ ∧ γ (e.weakAssign x ex) (upd σ x (ex.eval σ)) := by
  have := rhsVal_sound hg ex
  rw [weakAssign_eq]
  exact ⟨joinKey_sound_old hg x (Itv.isBottom_false_of_mem this), joinKey_sound_new hg x this⟩

theorem γ_of_isTop {e : Env} (h : e.isTop = true) (σ : State) : γ e σ := by
  unfold isTop at h
  simp only [Bool.and_eq_true, Bool.not_eq_eq_eq_not, Bool.not_true, List.isEmpty_iff] at h
  rw [γ_iff_of_not_bottom h.1]
  intro x v hv
  rw [h.2] at hv; simp [Map.find] at hv

theorem not_sat_of_add_bottom {e : Env} {σ : State} (hg : γ e σ) {c : Cst} (hc : c.expr.Canonical)
    (hb : (e.add [c]).bottom = true) : ¬ c.sat σ := fun hs =>
  not_γ_bottom hb σ (add_sound hg (fun _ h => List.mem_singleton.1 h ▸ hc) (fun _ h => List.mem_singleton.1 h ▸ hs))

theorem select_sound {e : Env} {σ : State} (hg : γ e σ) (lhs : Var) {cond : Cst} (hc : cond.expr.Canonical)
    (e1 e2 : Expr) :
    γ (e.select lhs cond e1 e2) (upd σ lhs (if cond.sat σ then e1.eval σ else e2.eval σ)) := by
  refine select_ind (P := fun e' => γ e' _) e lhs cond e1 e2 (fun h => absurd h (ne_true_of_eq_false hg.1)) (fun hb => ?_) (fun hb => ?_) ?_
  · rw [if_neg (not_sat_of_add_bottom hg hc hb)]; exact assign_sound hg lhs e2
  · have hs : cond.sat σ := Classical.byContradiction fun hn =>
      not_sat_of_add_bottom hg (Cst.canonical_negate hc) hb ((Cst.sat_negate cond σ).2 hn)
    rw [if_pos hs]; exact assign_sound hg lhs e1
  · apply set_sound hg
    split
    · exact Itv.join_upper_left (evalExpr_sound hg e1)
    · exact Itv.join_upper_right (evalExpr_sound hg e2)

theorem forgetFold_spec : ∀ (vs : List Var) (e : Env), e.bottom = false →
    (vs.foldl (fun env v => env.forget v) e).bottom = false ∧
    ∀ x, Map.find (vs.foldl (fun env v => env.forget v) e).m x = if x ∈ vs then none else Map.find e.m x := by
  intro vs
  induction vs with
  | nil => intro e h; exact ⟨h, fun x => by simp⟩
  | cons v rest ih =>
    intro e h
    simp only [List.foldl_cons]
    have h1 : (e.forget v).bottom = false := by simp [forget, h]
    obtain ⟨hb, hf⟩ := ih (e.forget v) h1
    refine ⟨hb, fun x => ?_⟩
    rw [hf x]
    simp only [forget, h, Bool.false_eq_true, if_false, Map.find_remove, List.mem_cons]
    by_cases hx : x ∈ rest
    · simp [hx]
    · by_cases hxv : x = v <;> simp [hx, hxv]

theorem forgetAll_sound {e : Env} {σ σ' : State} (hg : γ e σ) (vs : List Var)
    (h : ∀ y, y ∉ vs → σ' y = σ y) : γ (e.forgetAll vs) σ' := by
  unfold forgetAll
  split
  · rename_i hbt
    simp only [hg.1, Bool.false_or] at hbt
    exact γ_of_isTop hbt σ'
  · obtain ⟨hb, hf⟩ := forgetFold_spec vs e hg.1
    rw [γ_iff_of_not_bottom hb]
    intro x v hv
    rw [hf x] at hv
    split at hv
    · simp at hv
    · rename_i hx
      rw [h x hx]
      exact (γ_iff_of_not_bottom hg.1 σ).1 hg x v hv

theorem project_sound {e : Env} {σ σ' : State} (hg : γ e σ) (keys : List Var)
    (h : ∀ y ∈ keys, σ' y = σ y) : γ (e.project keys) σ' := by
  refine project_ind (P := fun e' => γ e' σ') e keys (fun hbt => ?_) (γ_copy hg keys h top (γ_top σ')) (fun _ => ?_)
  · rw [hg.1, Bool.false_or] at hbt
    exact γ_of_isTop hbt σ'
  · -- the removed keys are the bound ones outside `keys`
    obtain ⟨hb, hf⟩ := forgetFold_spec ((e.m.keys).filter (fun key => !keys.contains key)) e hg.1
    refine (γ_iff_of_not_bottom hb σ').2 fun x v hv => ?_
    rw [hf x] at hv
    split at hv
    · cases hv
    · rename_i hx
      have hxk : x ∈ e.m.keys := List.mem_map.2 ⟨(x, v), Map.find_some_mem hv, rfl⟩
      have : x ∈ keys := Classical.byContradiction fun hn =>
        hx (List.mem_filter.2 ⟨hxk, by simpa using hn⟩)
      rw [h x this]
      exact γ_find hg hv

theorem expand_sound {e : Env} {σ : State} (hg : γ e σ) (x nx : Var) {n : Int} (hn : Itv.mem n (e.get x)) :
    γ (e.expand x nx) (upd σ nx n) := by
  unfold expand
  split
  · rename_i hbt
    simp only [hg.1, Bool.false_or] at hbt
    exact γ_of_isTop hbt _
  · exact set_sound hg hn nx

theorem intCast_sound {e : Env} {σ : State} (hg : γ e σ) (zext : Bool) (bw : Nat) (dst src : Var)
    (hz : zext = true → σ src ≤ 2 ^ bw - 1) : γ (e.intCast zext bw dst src) (upd σ dst (σ src)) := by
  unfold intCast
  have h1 := assign_sound hg dst (Expr.var src)
  rw [Expr.eval_var] at h1
  simp only []
  split
  · rename_i hzt
    apply add_sound h1
    · intro c hc
      simp only [List.mem_cons, List.not_mem_nil, or_false] at hc
      subst hc
      exact Expr.canonical_subNum _ (Expr.canonical_var dst)
    · intro c hc
      simp only [List.mem_cons, List.not_mem_nil, or_false] at hc
      subst hc
      have := hz hzt
      simp only [Cst.sat, Expr.eval_subNum, Expr.eval_var, upd_same]
      omega
  · exact h1

end Env
end IDom
end Crab
