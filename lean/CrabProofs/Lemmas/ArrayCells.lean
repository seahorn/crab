import CrabModel.Dom.ArrayCells

/-! Lemmas on the cell algebra of `array_adaptive` (`Crab.Dom.Cells`). -/
namespace Crab
namespace Dom
namespace Cells

theorem mem_live {om : OMap} {c : Cell} : c ∈ live om ↔ c ∈ om ∧ c.removed = false := by
  simp [live]

theorem eq_of_hasKey {c : Cell} {o : Int} {sz : Nat} (hk : c.hasKey o sz = true) (hr : c.removed = false) :
    c = ⟨o, sz, false⟩ := by
  cases c with
  | mk off size removed =>
    simp only [Cell.hasKey, Bool.and_eq_true, beq_iff_eq] at hk
    simp only at hr
    obtain ⟨h1, h2⟩ := hk
    subst h1; subst h2; subst hr
    rfl

/-- what survives `kill` un-removed was there, un-removed, and was not to be killed -/
theorem mem_kill_live {sm : Bool} {om : OMap} {o : Int} {sz : Nat} {c : Cell}
    (h : c ∈ kill sm om o sz) (hr : c.removed = false) : c ∈ om ∧ shouldKill o sz c = false := by
  unfold kill at h
  cases sm with
  | true =>
    simp only [if_true, List.mem_map] at h
    obtain ⟨c', hc', heq⟩ := h
    by_cases hk : shouldKill o sz c' = true
    · simp only [hk, if_true] at heq
      rw [← heq] at hr
      simp at hr
    · simp only [hk] at heq
      have : c' = c := by simpa using heq
      subst this
      exact ⟨hc', by simpa using hk⟩
  | false =>
    simp only [Bool.false_eq_true, if_false, List.mem_filter] at h
    exact ⟨h.1, by simpa using h.2⟩

/-- `kill` never touches the cell with the key of the store -/
theorem mem_kill_key {sm : Bool} {om : OMap} {o : Int} {sz : Nat} {c : Cell}
    (h : c ∈ kill sm om o sz) (hk : c.hasKey o sz = true) : c ∈ om := by
  unfold kill at h
  cases sm with
  | true =>
    simp only [if_true, List.mem_map] at h
    obtain ⟨c', hc', heq⟩ := h
    by_cases hs : shouldKill o sz c' = true
    · simp only [hs, if_true] at heq
      have hk' : c'.hasKey o sz = true := by
        rw [← heq] at hk
        simpa [Cell.hasKey] using hk
      simp [shouldKill, hk'] at hs
    · simp only [hs] at heq
      have : c' = c := by simpa using heq
      subst this
      exact hc'
  | false =>
    simp only [Bool.false_eq_true, if_false, List.mem_filter] at h
    exact h.1

theorem getCell_some {om : OMap} {o : Int} {sz : Nat} {c : Cell} (h : getCell om o sz = some c) :
    c ∈ om ∧ c.hasKey o sz = true := by
  unfold getCell at h
  exact ⟨List.mem_of_find?_eq_some h, by simpa using List.find?_some h⟩

theorem getCell_none {om : OMap} {o : Int} {sz : Nat} (h : getCell om o sz = none) :
    ∀ c ∈ om, c.hasKey o sz = false := by
  unfold getCell at h
  intro c hc
  have := List.find?_eq_none.1 h c hc
  simpa using this

/-- every live cell after a store is the written cell or a live cell that the store does not meet -/
theorem live_storeConst {sm : Bool} {om : OMap} {o : Int} {sz : Nat} {c : Cell}
    (h : c ∈ live (storeConst sm om o sz)) :
    c = ⟨o, sz, false⟩ ∨ (c ∈ live om ∧ rangesMeet c.off c.size o sz = false) := by
  have hr := (mem_live.1 h).2
  have hmem := (mem_live.1 h).1
  -- c is the new cell or a cell of the killed map
  have hcases : c = ⟨o, sz, false⟩ ∨ c ∈ kill sm om o sz := by
    unfold storeConst mkCell at hmem
    split at hmem
    · rcases List.mem_cons.1 hmem with h1 | h1
      · exact Or.inl h1
      · exact Or.inr h1
    · split at hmem
      · rcases List.mem_cons.1 hmem with h1 | h1
        · exact Or.inl h1
        · exact Or.inr (List.mem_filter.1 h1).1
      · exact Or.inr hmem
  rcases hcases with h1 | h1
  · exact Or.inl h1
  · obtain ⟨hom, hsk⟩ := mem_kill_live h1 hr
    by_cases hk : c.hasKey o sz = true
    · exact Or.inl (eq_of_hasKey hk hr)
    · right
      refine ⟨mem_live.2 ⟨hom, hr⟩, ?_⟩
      simp only [shouldKill, Cell.overlap, hr, Bool.not_false, Bool.true_and] at hsk
      have hk' : c.hasKey o sz = false := by simpa using hk
      simpa [hk'] using hsk

theorem written_live {sm : Bool} {om : OMap} {o : Int} {sz : Nat} :
    (⟨o, sz, false⟩ : Cell) ∈ live (storeConst sm om o sz) := by
  apply mem_live.2
  refine ⟨?_, rfl⟩
  unfold storeConst mkCell
  split
  · exact List.mem_cons_self
  · rename_i c0 hc0
    obtain ⟨hmem, hkey⟩ := getCell_some hc0
    split
    · exact List.mem_cons_self
    · rename_i hcond
      have hrem : c0.removed = false := by simpa using hcond
      have := eq_of_hasKey hkey hrem
      rw [← this]; exact hmem

end Cells
end Dom
end Crab
