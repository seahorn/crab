import CrabProofs.Lemmas.DisIntervalWiden
import CrabProofs.Lemmas.IntervalWiden

/-! Chain condition of `dis_interval::operator||` (`Crab.Dis.widen`) on normalised values: a
    natural-number measure that strictly decreases on every widening step `x ↦ x ∇ y` with `y ⋢ x`.
    The widening extrapolates the two extreme intervals only; the measure counts the sides on
    which the value is bounded and whether more than one interval is left. -/
namespace Crab
namespace Dis
open Bound

def BoundedBelow (x : Dis) : Prop := ∃ N : Int, ∀ k, mem k x → N ≤ k
def BoundedAbove (x : Dis) : Prop := ∃ N : Int, ∀ k, mem k x → k ≤ N

open Classical in
noncomputable def rank (x : Dis) : Nat :=
  (if BoundedBelow x then 1 else 0) + (if BoundedAbove x then 1 else 0)

noncomputable def wmeasure (x : Dis) : Nat :=
  match x.st with
  | .bot => 7
  | .top => 0
  | .fin => 1 + 2 * rank x + (if 2 ≤ x.l.length then 1 else 0)

theorem rank_le_two (x : Dis) : rank x ≤ 2 := by
  unfold rank; split <;> split <;> omega

theorem wmeasure_le (x : Dis) : wmeasure x ≤ 7 := by
  have := rank_le_two x
  unfold wmeasure; split <;> (try split) <;> omega

theorem BoundedBelow.mono {S x : Dis} (hsub : ∀ k, mem k x → mem k S) : BoundedBelow S → BoundedBelow x :=
  fun ⟨N, h⟩ => ⟨N, fun k hk => h k (hsub k hk)⟩

theorem BoundedAbove.mono {S x : Dis} (hsub : ∀ k, mem k x → mem k S) : BoundedAbove S → BoundedAbove x :=
  fun ⟨N, h⟩ => ⟨N, fun k hk => h k (hsub k hk)⟩

theorem rank_mono {S x : Dis} (hsub : ∀ k, mem k x → mem k S) : rank S ≤ rank x := by
  have h1 := BoundedBelow.mono hsub
  have h2 := BoundedAbove.mono hsub
  unfold rank
  by_cases a : BoundedBelow S <;> by_cases b : BoundedAbove S <;> simp [a, b, h1, h2] <;>
    (try split) <;> (try split) <;> omega

theorem rank_drop_below {S x : Dis} (hsub : ∀ k, mem k x → mem k S) (hS : ¬ BoundedBelow S)
    (hx : BoundedBelow x) : rank S < rank x := by
  have h2 := BoundedAbove.mono hsub
  unfold rank
  by_cases b : BoundedAbove S <;> simp [hS, hx, b, h2] <;> omega

theorem rank_drop_above {S x : Dis} (hsub : ∀ k, mem k x → mem k S) (hS : ¬ BoundedAbove S)
    (hx : BoundedAbove x) : rank S < rank x := by
  have h1 := BoundedBelow.mono hsub
  unfold rank
  by_cases a : BoundedBelow S <;> simp [hS, hx, a, h1] <;> omega

theorem not_boundedBelow {S : Dis} {w : Itv} (hw : w.WF) (hl : w.lb = .ninf)
    (hwS : ∀ k, Itv.mem k w → mem k S) : ¬ BoundedBelow S := by
  rintro ⟨N, hN⟩
  obtain ⟨k, hk, hkw⟩ := Itv.unbounded_below hw hl (N - 1)
  have := hN k (hwS k hkw)
  omega

theorem not_boundedAbove {S : Dis} {w : Itv} (hw : w.WF) (hu : w.ub = .pinf)
    (hwS : ∀ k, Itv.mem k w → mem k S) : ¬ BoundedAbove S := by
  rintro ⟨N, hN⟩
  obtain ⟨k, hk, hkw⟩ := Itv.unbounded_above hw hu (N + 1)
  have := hN k (hwS k hkw)
  omega

theorem boundedBelow_of_first {a : Itv} {as : List Itv} (h : WFList (a :: as)) {l : Int}
    (hl : a.lb = .fin l) : BoundedBelow ⟨.fin, a :: as⟩ := by
  refine ⟨l, ?_⟩
  rintro k ⟨i, hi, hki⟩
  have := Bound.le_trans (first_lb_le h hi) hki.1
  rw [hl] at this
  simpa using this

theorem boundedAbove_of_last {l : List Itv} (h : WFList l) (hne : l ≠ []) {u : Int}
    (hu : (l.getLast hne).ub = .fin u) : BoundedAbove ⟨.fin, l⟩ := by
  refine ⟨u, ?_⟩
  rintro k ⟨i, hi, hki⟩
  have := Bound.le_trans hki.2 (le_last_ub h hne hi)
  rw [hu] at this
  simpa using this

/-- a normalised value that denotes an interval has one interval -/
theorem single_of_convex {S : Dis} (hS : WF S) {w : Itv} (hw : w.WF) (h : ∀ k, mem k S ↔ Itv.mem k w)
    (hf : S.st = .fin) : S.l.length = 1 := by
  obtain ⟨s, v⟩ := S
  cases hf
  obtain ⟨k, hk⟩ := exists_not_mem hS.2.2 hS.1
  obtain ⟨c, cs, rfl⟩ := List.exists_cons_of_ne_nil hS.1
  obtain ⟨j, hj⟩ := exists_mem_of_proper (hS.2.2.1 c (by simp))
  have hp : proper w = true := (proper_iff w).mpr
    ⟨Itv.isBottom_false_of_mem ((h j).mp ⟨c, by simp, hj⟩),
     by cases ht : w.isTop
        · rfl
        · exact absurd ((h k).mpr (Itv.mem_of_isTop ht hw k)) hk, hw⟩
  rw [wfList_unique hS.2.2 (l' := [w]) ⟨by simpa using hp, by simp⟩ (fun k => (h k).trans (by simp [memL]))]
  rfl

theorem wmeasure_lt_of_single {S x : Dis} (hsub : ∀ k, mem k x → mem k S) (hxm : ∃ k, mem k x)
    (hx : x.st = .fin) (hx2 : 2 ≤ x.l.length) (hS1 : S.st = .fin → S.l.length = 1) :
    wmeasure S < wmeasure x := by
  obtain ⟨k, hk⟩ := hxm
  have hr := rank_mono hsub
  obtain ⟨ss, sl⟩ := S
  obtain ⟨xs, xl⟩ := x
  simp only at hx hx2 hS1; subst hx
  cases ss
  · exact absurd (hsub k hk) (by simp [mem])
  · have := hS1 rfl
    simp [wmeasure, this, hx2]; omega
  · simp only [wmeasure]; omega

theorem wmeasure_lt_of_rank {S x : Dis} (hsub : ∀ k, mem k x → mem k S) (hxm : ∃ k, mem k x)
    (hx : x.st = .fin) (hr : rank S < rank x) : wmeasure S < wmeasure x := by
  obtain ⟨k, hk⟩ := hxm
  obtain ⟨ss, sl⟩ := S
  obtain ⟨xs, xl⟩ := x
  simp only at hx; subst hx
  cases ss
  · exact absurd (hsub k hk) (by simp [mem])
  · simp only [wmeasure]; split <;> split <;> omega
  · simp only [wmeasure]; omega

theorem lt_right_fin {p q : Bound} (h : Bound.lt p q = true) (hq : q ≠ .pinf) : ∃ l, q = .fin l := by
  cases p <;> cases q <;> simp_all [Bound.lt, Bound.ge]

theorem lt_left_fin {p q : Bound} (h : Bound.lt p q = true) (hp : p ≠ .ninf) : ∃ u, p = .fin u := by
  cases p <;> cases q <;> simp_all [Bound.lt, Bound.ge]

theorem exists_mem_of_wf {a : Itv} {as : List Itv} (h : WFList (a :: as)) :
    ∃ k, mem k (⟨.fin, a :: as⟩ : Dis) :=
  let ⟨k, hk⟩ := exists_mem_of_proper (h.1 a (by simp))
  ⟨k, a, by simp, hk⟩

theorem leqLoop_single {l : List Itv} {a : Itv} (h : ∀ i ∈ l, Itv.leq i a = true) :
    leqLoop l [a] = true := by
  induction l with
  | nil => rfl
  | cons i is ih =>
    have hs : seek i [a] = [a] := by simp [seek, h i (by simp)]
    rw [leqLoop_cons, hs]
    exact ih (fun j hj => h j (List.mem_cons_of_mem _ hj))

theorem widen_measure_single {a b : Itv} (ha : proper a = true) (hbw : b.WF)
    (hle : Itv.leq b a = false) : wmeasure (ofItv (Itv.widen a b)) < wmeasure ⟨.fin, [a]⟩ := by
  have hpa := (proper_iff a).mp ha
  have hbb : b.isBottom = false := by
    cases hb : b.isBottom
    · rfl
    · rw [Itv.leq_of_isBottom hb] at hle; cases hle
  rw [Itv.leq_eq_of_not_bottom hbb hpa.1] at hle
  have hww : (Itv.widen a b).WF := Itv.wf_widen hpa.2.2 hbw
  have hwl : WFList [a] := ⟨by simpa using ha, by simp⟩
  have hsub : ∀ k, mem k (⟨.fin, [a]⟩ : Dis) → mem k (ofItv (Itv.widen a b)) := by
    intro k hk
    rw [mem_ofItv hww]
    simp [mem] at hk
    exact Itv.widen_upper_left hk
  have hwS : ∀ k, Itv.mem k (Itv.widen a b) → mem k (ofItv (Itv.widen a b)) :=
    fun _ hk => (mem_ofItv hww _).mpr hk
  apply wmeasure_lt_of_rank hsub (exists_mem_of_wf hwl) rfl
  -- a bound of `b` lies outside `a`
  rcases Bool.and_eq_false_iff.mp hle with hc | hc
  · have hc : Bound.lt b.lb a.lb = true := by simp [Bound.lt, Bound.ge, hc]
    obtain ⟨l, hl⟩ := lt_right_fin hc hpa.2.2.1
    refine rank_drop_below hsub (not_boundedBelow hww ?_ hwS) (boundedBelow_of_first hwl hl)
    rw [Itv.widen_of_not_bottom hpa.1 hbb]; simp [hc]
  · have hc : Bound.lt a.ub b.ub = true := by simp [Bound.lt, Bound.ge, hc]
    obtain ⟨u, hu⟩ := lt_left_fin hc hpa.2.2.2
    refine rank_drop_above hsub (not_boundedAbove hww ?_ hwS)
      (boundedAbove_of_last hwl (by simp) (by simpa using hu))
    rw [Itv.widen_of_not_bottom hpa.1 hbb]; simp [hc]

theorem leq_approxNE {a : Itv} {as : List Itv} (h : WFList (a :: as)) {i : Itv} (hi : i ∈ a :: as) :
    Itv.leq i (approxNE a as) = true :=
  Itv.leq_of_subset ((proper_iff i).mp (h.1 i hi)).2.2 (fun _ hk => approxNE_mem h ⟨i, hi, hk⟩)

theorem widen_measure_hull {x : Dis} (hx : WF x) (hst : x.st = .fin) (h2 : 2 ≤ x.l.length)
    {w : Itv} (hw : w.WF) (hsub : ∀ k, mem k x → Itv.mem k w) : wmeasure (ofItv w) < wmeasure x := by
  have hxm : ∃ k, mem k x := by
    obtain ⟨s, l⟩ := x
    simp only at hst; subst hst
    obtain ⟨a, as, rfl⟩ := List.exists_cons_of_ne_nil hx.1
    exact exists_mem_of_wf hx.2.2
  refine wmeasure_lt_of_single (fun k hk => (mem_ofItv hw k).mpr (hsub k hk)) hxm hst h2 ?_
  intro hf
  unfold ofItv at hf ⊢
  split
  · rename_i ht; simp [ht] at hf
  · split
    · rename_i _ hb; simp [*] at hf
    · rfl

theorem widen_measure_stable {a a' : Itv} {as : List Itv} {b b' : Itv} {bs : List Itv}
    (hx : WF ⟨.fin, a :: a' :: as⟩) (hy : WF ⟨.fin, b :: b' :: bs⟩)
    (hle : leq ⟨.fin, b :: b' :: bs⟩ ⟨.fin, a :: a' :: as⟩ = false)
    (hc : ((mkList (stableVec Itv.widen a a' as b b' bs)).isTop ||
           leq ⟨.fin, b :: b' :: bs⟩ (mkList (stableVec Itv.widen a a' as b b' bs))) = true) :
    wmeasure (mkList (stableVec Itv.widen a a' as b b' bs)) < wmeasure ⟨.fin, a :: a' :: as⟩ := by
  have hVwf := stableVec_wf wop_widen (wfList_wf hx.2.2) (wfList_wf hy.2.2)
  have hVlen := stableVec_length Itv.widen a a' as b b' bs
  have hSwf := mkList_stableVec_wf wop_widen hx hy
  have hup : ∀ k, memL k (stableVec Itv.widen a a' as b b' bs) →
      mem k (mkList (stableVec Itv.widen a a' as b b' bs)) := fun k hk => mkList_mem_upper hVwf hk
  have hsub : ∀ k, mem k (⟨.fin, a :: a' :: as⟩ : Dis) →
      mem k (mkList (stableVec Itv.widen a a' as b b' bs)) :=
    fun k hk => hup k (stableVec_upper wop_widen hk)
  have hxm := exists_mem_of_wf hx.2.2
  -- the two extrapolated intervals `e1`, `eL` of the vector, and the extreme intervals of the arguments
  obtain ⟨aL, haL⟩ : ∃ aL, (a' :: as).getLast (by simp) = aL := ⟨_, rfl⟩
  obtain ⟨bL, hbL⟩ : ∃ bL, (b' :: bs).getLast (by simp) = bL := ⟨_, rfl⟩
  have hlast : (a :: a' :: as).getLast (by simp) = aL := (List.getLast_cons (by simp)).trans haL
  have hal_in : aL ∈ a :: a' :: as := haL ▸ List.mem_cons_of_mem _ (List.getLast_mem _)
  have hpa := (proper_iff a).mp (hx.2.2.1 a (by simp))
  have hpb := (proper_iff b).mp (hy.2.2.1 b (by simp))
  have hpal := (proper_iff _).mp (hx.2.2.1 _ hal_in)
  have hpbl := (proper_iff bL).mp (hy.2.2.1 _ (hbL ▸ List.mem_cons_of_mem b (List.getLast_mem _)))
  have hV : stableVec Itv.widen a a' as b b' bs =
      Itv.widen a b :: ((a' :: as).dropLast ++ [Itv.widen aL bL]) := by rw [stableVec, haL, hbL]
  have h1V : ∀ k, Itv.mem k (Itv.widen a b) → mem k (mkList (stableVec Itv.widen a a' as b b' bs)) :=
    fun k hk => hup k ⟨_, by simp [hV], hk⟩
  have hLV : ∀ k, Itv.mem k (Itv.widen aL bL) → mem k (mkList (stableVec Itv.widen a a' as b b' bs)) :=
    fun k hk => hup k ⟨_, by simp [hV], hk⟩
  have e1 := Itv.widen_of_not_bottom hpa.1 hpb.1
  have eL := Itv.widen_of_not_bottom hpal.1 hpbl.1
  by_cases c1 : Bound.lt b.lb a.lb = true
  · -- the lower extreme is extrapolated to -oo
    obtain ⟨l, hl⟩ := lt_right_fin c1 hpa.2.2.1
    exact wmeasure_lt_of_rank hsub hxm rfl (rank_drop_below hsub
      (not_boundedBelow (Itv.wf_widen hpa.2.2 hpb.2.2) (by rw [e1]; simp [c1]) h1V)
      (boundedBelow_of_first hx.2.2 hl))
  by_cases c4 : Bound.lt aL.ub bL.ub = true
  · obtain ⟨u, hu⟩ := lt_left_fin c4 hpal.2.2.2
    exact wmeasure_lt_of_rank hsub hxm rfl (rank_drop_above hsub
      (not_boundedAbove (Itv.wf_widen hpal.2.2 hpbl.2.2) (by rw [eL]; simp [c4]) hLV)
      (boundedAbove_of_last hx.2.2 (by simp) (hlast ▸ hu)))
  by_cases hn : Bound.lt a.ub b.ub = false ∧ Bound.lt bL.lb aL.lb = false
  · -- nothing is extrapolated: the vector is the left argument, which does not cover `y`
    exfalso
    rw [hV, e1, eL] at hc
    simp only [c1, hn.1, hn.2, c4, Bool.false_eq_true, if_false] at hc
    rw [← haL, List.dropLast_concat_getLast, mkList_of_wf hx rfl, hle] at hc
    simp [isTop] at hc
  -- an inner end is extrapolated: `e1` and `eL` overlap and all the vector lies in their join
  have hanb := (Itv.isBottom_false_iff a).mp hpa.1
  have ha_al : Bound.le a.lb aL.lb = true := first_lb_le hx.2.2 hal_in
  have ha_al' : Bound.le a.ub aL.ub = true :=
    hlast ▸ le_last_ub hx.2.2 (by simp) (show a ∈ a :: a' :: as by simp)
  obtain ⟨ja, hja⟩ := exists_mem_of_proper (hx.2.2.1 a (by simp))
  obtain ⟨jL, hjL⟩ := exists_mem_of_proper (hx.2.2.1 aL hal_in)
  have hne1 := Itv.isBottom_false_of_mem (Itv.widen_upper_left (b := b) hja)
  have hneL := Itv.isBottom_false_of_mem (Itv.widen_upper_left (b := bL) hjL)
  have hov : overlap (Itv.widen a b) (Itv.widen aL bL) = true := by
    refine (overlap_iff hne1 hneL).mpr ?_
    rw [e1, eL]
    refine ⟨Bound.le_trans (Itv.widen_lb_le_left _ _) (Bound.le_trans hanb
      (Bound.le_trans ha_al' (Itv.le_widen_ub_left _ _))), ?_⟩
    cases h2 : Bound.lt a.ub b.ub
    · cases h3 : Bound.lt bL.lb aL.lb
      · exact absurd ⟨h2, h3⟩ hn
      · simp
    · simp
  refine wmeasure_lt_of_single hsub hxm rfl (by simp) (single_of_convex hSwf
    (w := Itv.join (Itv.widen a b) (Itv.widen aL bL))
    (Itv.wf_join (Itv.wf_widen hpa.2.2 hpb.2.2) (Itv.wf_widen hpal.2.2 hpbl.2.2))
    fun k => ⟨fun hk => ?_, fun hk => (join_exact_of_merge (Or.inl hov) hk).elim (h1V k) (hLV k)⟩)
  obtain ⟨i, hi, hki⟩ := mkList_mem_exact hVwf (by simp [stableVec]) (hVlen ▸ hx.2.1) hk
  simp only [hV, List.mem_cons, List.mem_append, List.not_mem_nil, or_false] at hi
  rcases hi with rfl | hi | rfl
  · exact Itv.join_upper_left hki
  · have hi' : i ∈ a :: a' :: as := List.mem_cons_of_mem _ (List.dropLast_subset _ hi)
    rw [Itv.join_eq hne1 hneL, e1, eL]
    exact ⟨Bound.le_trans (Bound.min_le_left _ _) (Bound.le_trans (Itv.widen_lb_le_left _ _)
        (Bound.le_trans (first_lb_le hx.2.2 hi') hki.1)),
      Bound.le_trans hki.2 (Bound.le_trans (hlast ▸ le_last_ub hx.2.2 (by simp) hi')
        (Bound.le_trans (Itv.le_widen_ub_left _ _) (Bound.le_max_right _ _)))⟩
  · exact Itv.join_upper_right hki

theorem widen_measure {x y : Dis} (hx : WF x) (hy : WF y) (h : leq y x = false) :
    wmeasure (widen x y) < wmeasure x := by
  obtain ⟨sx, lx⟩ := x
  obtain ⟨sy, ly⟩ := y
  -- `y ⋢ x` rules out `y` BOT and `x` TOP; BOT ∇ FINITE, BOT ∇ TOP, FINITE ∇ FINITE, FINITE ∇ TOP remain
  cases sx <;> cases sy <;> try (simp [leq, isBottom, isTop] at h; done)
  · -- BOT ∇ FINITE
    show wmeasure ⟨.fin, ly⟩ < 7
    have := rank_le_two ⟨.fin, ly⟩
    simp only [wmeasure]
    split <;> omega
  · -- BOT ∇ TOP
    exact Nat.succ_pos 6
  · -- FINITE ∇ FINITE
    obtain ⟨a, as, rfl⟩ := List.exists_cons_of_ne_nil hx.1
    obtain ⟨b, bs, rfl⟩ := List.exists_cons_of_ne_nil hy.1
    have hwx := wfList_wf hx.2.2
    have hwy := wfList_wf hy.2.2
    refine widenWith_cases (motive := fun S => wmeasure S < wmeasure ⟨.fin, a :: as⟩) Itv.widen
      (fun a' as' b' bs' ea eb hc => ?_) ?_
    · subst ea eb
      exact widen_measure_stable hx hy h hc
    · cases as with
      | nil =>
        refine widen_measure_single (hx.2.2.1 a (by simp)) (approxNE_wf hwy) ?_
        cases hb : Itv.leq (approxNE b bs) a
        · exact hb
        · -- the hull of `y` inside `a`: every interval of `y` is
          have : leqLoop (b :: bs) [a] = true := leqLoop_single fun i hi =>
            Itv.leq_of_subset (hwy i hi) (fun k hk => Itv.leq_sound hb (approxNE_mem hy.2.2 ⟨i, hi, hk⟩))
          simp [leq, isBottom, isTop, this] at h
      | cons a' as' =>
        exact widen_measure_hull hx rfl (by simp) (Itv.wf_widen (approxNE_wf hwx) (approxNE_wf hwy))
          (fun k hk => Itv.widen_upper_left (approxNE_mem hx.2.2 hk))
  · -- FINITE ∇ TOP
    show 0 < wmeasure ⟨.fin, lx⟩
    simp only [wmeasure]
    omega

end Dis
end Crab
