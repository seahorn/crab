import CrabProofs.Lemmas.FunctorFlatBoolStmtNum

/-!
A representation invariant of the model of `flat_boolean_numerical_domain` that every operation
preserves (`FBN.WF`): the product is well formed (`Prod2.WF`: a set bottom flag means empty
components) and `m_unchanged_vars` is the bottom of its lattice only on values whose flat Boolean
environment is bottom.  It is what `is_top()` relies on (it reads neither `m_is_bottom` nor
`m_unchanged_vars`).  Preservation needs the base transformers to map empty values to empty values
(`LDom.Strict`), as for the products (`C04.product_wf_step`).

Almost every transformer has the same reason (`FBN.Keeps`): it applies strict functions to the
product, which keep it well formed and keep a bottom flat part bottom, and it changes
`m_unchanged_vars` without changing whether it is bottom.
-/
set_option linter.unusedSectionVars false

namespace Crab
namespace Dom
namespace Fct

variable {V : Type} [DecidableEq V] {K : CSig V}

namespace Prod2
variable {D2 : LDom (CSt V)}

/-- `q` comes from `p` by strict transformers: well-formedness and a bottom flat part carry over -/
def Keeps (p q : Prod2 (FB V) D2) : Prop := (p.WF → q.WF) ∧ (p.fst = FEnv.bot → q.fst = FEnv.bot)

theorem Keeps.refl (p : Prod2 (FB V) D2) : Keeps p p := ⟨id, id⟩

theorem Keeps.trans {p q r : Prod2 (FB V) D2} (h1 : Keeps p q) (h2 : Keeps q r) : Keeps p r :=
  ⟨h2.1 ∘ h1.1, h2.2 ∘ h1.2⟩

theorem keeps_canonicalize (p : Prod2 (FB V) D2) : Keeps p p.canonicalize := by
  refine ⟨wf_canonicalize, fun h => ?_⟩
  unfold canonicalize
  split
  · split
    · rfl
    · exact h
  · exact h

theorem keeps_onFirst {f : FEnv V → FEnv V} (hf : f .bot = .bot) (p : Prod2 (FB V) D2) :
    Keeps p (onFirst f p) :=
  ⟨wf_onFirst (fb_strict hf), fun h => show f p.canonicalize.fst = FEnv.bot by
    rw [(keeps_canonicalize p).2 h]; exact hf⟩

theorem keeps_onSecond {f : D2.B → D2.B} (hf : D2.Strict f) (p : Prod2 (FB V) D2) : Keeps p (onSecond f p) :=
  ⟨wf_onSecond hf, (keeps_canonicalize p).2⟩

theorem keeps_reduce (p : Prod2 (FB V) D2) : Keeps p p.reduce := by
  refine ⟨wf_reduce, fun h => ?_⟩
  unfold reduce
  simp only
  split
  · rfl
  · split
    · rfl
    · exact (keeps_canonicalize _).2 ((keeps_canonicalize _).2 h)

theorem keeps_op (m : Meth) {f1 : FEnv V → FEnv V} (hf : f1 .bot = .bot) {f2 : D2.B → D2.B} (h2 : D2.Strict f2)
    (p : Prod2 (FB V) D2) : Keeps p (op m f1 f2 p) := by
  have h := (keeps_onFirst hf p).trans (keeps_onSecond h2 _)
  unfold op
  simp only
  split
  · exact h.trans (keeps_reduce _)
  · exact h

theorem isBottom_of_fst_bot {p : Prod2 (FB V) D2} (h : p.fst = FEnv.bot) : p.isBottom = true := by
  unfold isBottom
  split
  · rfl
  · rw [h]; rfl
end Prod2

namespace FBN
variable {N : BNDom V K}

/-- the invariant: well-formed product; `m_unchanged_vars` bottom only under a bottom flat part -/
def WF (a : FBN N) : Prop := a.prod.WF ∧ (a.unch.isBot = true → a.prod.fst = FEnv.bot)

/-- the strictness of what the reduction calls on the base itself -/
def StrictRed (N : BNDom V K) : Prop :=
  (∀ c, N.Strict (fun b => N.addCst b c)) ∧ (∀ x k, N.Strict (fun b => N.assignK b x k))

/-- `b` comes from `a` by strict transformers of the product and by changes of `m_unchanged_vars`
    that keep its bottomness -/
def Keeps (a b : FBN N) : Prop := Prod2.Keeps a.prod b.prod ∧ b.unch.isBot = a.unch.isBot

theorem Keeps.wf {a b : FBN N} (hk : Keeps a b) (h : a.WF) : b.WF :=
  ⟨hk.1.1 h.1, fun hb => hk.1.2 (h.2 (hk.2 ▸ hb))⟩

theorem Keeps.refl (a : FBN N) : Keeps a a := ⟨Prod2.Keeps.refl _, rfl⟩

theorem Keeps.trans {a b c : FBN N} (h1 : Keeps a b) (h2 : Keeps b c) : Keeps a c :=
  ⟨h1.1.trans h2.1, h2.2.trans h1.2⟩

theorem Keeps.foldl {α : Type} {f : FBN N → α → FBN N} (hf : ∀ a x, Keeps a (f a x)) (l : List α) (a : FBN N) :
    Keeps a (l.foldl f a) :=
  List.foldlRecOn l f (motive := Keeps a) (Keeps.refl a) fun b hb x _ => hb.trans (hf b x)

theorem wf_of_unch {a : FBN N} (hp : a.prod.WF) (hu : a.unch.isBot = false) : a.WF :=
  ⟨hp, fun h => by rw [hu] at h; cases h⟩

theorem wf_top : (top : FBN N).WF := wf_of_unch (Prod2.wf_setTop Prod2.top) rfl
theorem wf_bottom : (bottom : FBN N).WF := ⟨Prod2.wf_setBottom Prod2.top, fun _ => rfl⟩

/-! ### Boolean operations -/

theorem keeps_reduceNumCstToBool (x : V) (c : K.C) (a : FBN N) : Keeps a (reduceNumCstToBool x c a) := by
  unfold reduceNumCstToBool
  by_cases ht : K.isTaut c = true
  · simp only [ht, if_true]
    exact ⟨Prod2.keeps_onFirst rfl _, rfl⟩
  · by_cases hc : K.isContra c = true
    · simp only [ht, hc, if_true, if_false, Bool.false_eq_true]
      exact ⟨Prod2.keeps_onFirst rfl _, rfl⟩
    · simp only [ht, hc, if_false, Bool.false_eq_true]
      exact ⟨(Prod2.keeps_canonicalize _).trans (Prod2.keeps_onFirst rfl _), (markVars_isBot _ _).2⟩

theorem keeps_assignBoolCst {f2 : N.B → N.B} (h2 : N.Strict f2) (x : V) (c : K.C) (a : FBN N) :
    Keeps a (assignBoolCst f2 x c a) :=
  ite_ind (Keeps a) (fun _ => Keeps.refl a) fun _ =>
    Keeps.trans (b := { a with prod := Prod2.op .boolOp (fun e => e.forget1 x) f2 a.prod })
      ⟨Prod2.keeps_op _ rfl h2 _, rfl⟩ (keeps_reduceNumCstToBool x c _)

theorem keeps_assignBoolVar {f2 : N.B → N.B} (h2 : N.Strict f2) (x y : V) (neg : Bool) (a : FBN N) :
    Keeps a (assignBoolVar f2 x y neg a) :=
  ite_ind (Keeps a) (fun _ => Keeps.refl a) fun _ => ⟨Prod2.keeps_op _ rfl h2 _, rfl⟩

theorem keeps_applyBinaryBool {f2 : N.B → N.B} (h2 : N.Strict f2) (op : BBin) (x y z : V) (a : FBN N) :
    Keeps a (applyBinaryBool f2 op x y z a) :=
  ite_ind (Keeps a) (fun _ => Keeps.refl a) fun _ => ⟨Prod2.keeps_op _ rfl h2 _, rfl⟩

theorem keeps_addIfUnchanged (hN : StrictRed N) (a : FBN N) (c : K.C) : Keeps a (addIfUnchanged c a) :=
  ite_ind (Keeps a) (fun _ => ⟨Prod2.keeps_onSecond (hN.1 c) _, rfl⟩) fun _ => Keeps.refl a

theorem keeps_bwdReductionAssumeBool (hN : StrictRed N) (x : V) (neg : Bool) (a : FBN N) :
    Keeps a (bwdReductionAssumeBool x neg a) := by
  unfold bwdReductionAssumeBool
  simp only
  refine ite_ind (Keeps a) (fun _ => Keeps.refl a) fun _ => ite_ind (Keeps a) (fun _ => Keeps.foldl (keeps_addIfUnchanged hN) _ a)
    fun _ => ite_ind (Keeps a) (fun _ => ?_) fun _ => Keeps.refl a
  cases (a.lin.look x).elems with
  | nil => exact Keeps.refl a
  | cons c _ => exact keeps_addIfUnchanged hN a _

theorem keeps_reduceBoolToCsts (hN : StrictRed N) (x : V) (neg : Bool) (a : FBN N) :
    Keeps a (reduceBoolToCsts x neg a) :=
  ite_ind (Keeps a) (fun _ => (Keeps.foldl (fun a v => (⟨Prod2.keeps_onFirst rfl _, rfl⟩ : Keeps a (reduceStep x a v)))
    _ a).trans (keeps_bwdReductionAssumeBool hN x false _)) fun _ => Keeps.refl a

theorem keeps_assumeBool (hN : StrictRed N) {f2 : N.B → N.B} (h2 : N.Strict f2) (x : V) (neg : Bool)
    (a : FBN N) : Keeps a (assumeBool f2 x neg a) := by
  have k1 : Keeps a { a with prod := Prod2.op .boolOp (fun e => e.assumeBool x neg) f2 a.prod } :=
    ⟨Prod2.keeps_op _ rfl h2 _, rfl⟩
  exact ite_ind (Keeps a) (fun _ => Keeps.refl a) fun _ =>
    ite_ind (Keeps a) (fun _ => k1) fun _ => k1.trans (keeps_reduceBoolToCsts hN x neg _)

theorem keeps_selectBool {f2 f2' : N.B → N.B} (h2 : N.Strict f2) (h2' : N.Strict f2') (lhs cond b1 b2 : V)
    (a : FBN N) : Keeps a (selectBool f2 f2' lhs cond b1 b2 a) :=
  ite_ind (Keeps a) (fun _ => ite_ind (Keeps a) (fun _ => keeps_assignBoolVar h2' lhs b1 false a) fun _ =>
    ⟨(Prod2.keeps_canonicalize _).trans (Prod2.keeps_op _ rfl h2 _), rfl⟩) fun _ => Keeps.refl a

/-! ### numerical operations, `+=`, `-=`, `forget`, `project`, casts -/

theorem keeps_numDef (m : Prod2.Meth) {f2 : N.B → N.B} (h2 : N.Strict f2) (x : V) (a : FBN N) :
    Keeps a (numDef m f2 x a) := ⟨Prod2.keeps_op m (f1 := id) rfl h2 _, DSet.isBot_remove _ _⟩

theorem keeps_castOther {f2 : N.B → N.B} (h2 : N.Strict f2) (dst : V) (a : FBN N) :
    Keeps a (castOther f2 dst a) := ⟨Prod2.keeps_op _ rfl h2 _, DSet.isBot_remove _ _⟩

theorem keeps_addCsts (isTrue allNonBool : Bool) (lits : List (V × Bool)) {f2 : N.B → N.B} (h2 : N.Strict f2)
    (a : FBN N) : Keeps a (addCsts isTrue allNonBool lits f2 a) := by
  -- the loop over the literals, on the product
  have loop := List.foldlRecOn lits (fun p l => Prod2.onFirst (fun (e : FEnv V) => e.assumeBool l.1 l.2) p)
    (motive := Prod2.Keeps a.prod) (Prod2.Keeps.refl _) fun p hp _ _ => hp.trans (Prod2.keeps_onFirst rfl p)
  exact ite_ind (Keeps a) (fun _ => Keeps.refl a) fun _ =>
    ite_ind (Keeps a) (fun _ => ⟨Prod2.keeps_onSecond h2 _, rfl⟩) fun _ =>
      ⟨loop.trans (Prod2.keeps_onSecond h2 _), rfl⟩

theorem keeps_forget1 (isBool : V → Bool) {f2 : N.B → N.B} (h2 : N.Strict f2) (v : V) (a : FBN N) :
    Keeps a (forget1 isBool f2 v a) := by
  unfold forget1
  cases isBool v
  · exact ⟨Prod2.keeps_op _ rfl h2 _, DSet.isBot_remove _ _⟩
  · exact ⟨Prod2.keeps_op _ rfl h2 _, rfl⟩

theorem keeps_forget (isBool : V → Bool) {f2 : N.B → N.B} (h2 : N.Strict f2) (vs : List V) (a : FBN N) :
    Keeps a (forget isBool f2 vs a) := by
  have hf : FEnv.forget (.bot : FEnv V) vs = .bot := by simp [FEnv.forget, FEnv.isBot]
  unfold forget
  simp only [forgetMaps_eq]
  exact ite_ind (Keeps a) (fun _ => Keeps.refl a) fun _ => ⟨Prod2.keeps_op _ hf h2 _, DSet.isBot_foldl_remove _ _⟩

theorem wf_project {f2 : N.B → N.B} (h2 : N.Strict f2) (vs : List V) {a : FBN N} (h : a.WF) :
    (project f2 vs a).WF := by
  have hf : FEnv.project (.bot : FEnv V) vs = .bot := by simp [FEnv.project, FEnv.isBot]
  exact ite_ind WF (fun _ => h) fun _ => ite_ind WF (fun _ => wf_top) fun _ =>
    wf_of_unch ((Prod2.keeps_op .project hf h2 _).1 h.1) rfl

theorem keeps_castTrunc (dst src : V) (a : FBN N) : Keeps a (castTrunc dst src a) :=
  ⟨(Prod2.keeps_canonicalize _).trans (Prod2.keeps_onFirst rfl _), rfl⟩

theorem keeps_castExt (hN : StrictRed N) {funk : N.B → N.B} (hk : N.Strict funk) (dst src : V) (a : FBN N) :
    Keeps a (castExt funk dst src a) := by
  refine ⟨(Prod2.keeps_canonicalize _).trans ?_, DSet.isBot_remove _ _⟩
  show Prod2.Keeps _ (match a.prod.canonicalize.fst.get src with
    | .tt => _ | .ff => _ | _ => _ : Prod2 (FB V) N.toLDom)
  split
  · exact Prod2.keeps_onSecond (hN.2 dst 1) _
  · exact Prod2.keeps_onSecond (hN.2 dst 0) _
  · exact Prod2.keeps_onSecond hk _

/-! ### lattice operations -/

/-- the result of a binary operation whose flat part is bottom as soon as both operands' are -/
theorem wf_binary {a b : FBN N} {p : Prod2 (FB V) N.toLDom} (ha : a.WF) (hb : b.WF) (hp : p.WF)
    (hf : a.prod.fst = FEnv.bot → b.prod.fst = FEnv.bot → p.fst = FEnv.bot)
    (l : SEnv V K.C) (bs : SEnv V V) : (⟨p, l, bs, a.unch.join b.unch⟩ : FBN N).WF := by
  refine ⟨hp, fun hu => ?_⟩
  have : (a.unch.join b.unch).isBot = true := hu
  rw [DSet.isBot_join, Bool.and_eq_true] at this
  exact hf (ha.2 this.1) (hb.2 this.2)

theorem wf_join {a b : FBN N} (ha : a.WF) (hb : b.WF) : (join a b).WF :=
  wf_binary ha hb (Prod2.wf_join ha.1 hb.1) (fun h1 h2 => by
    unfold Prod2.join; rw [Prod2.isBottom_of_fst_bot h1]; exact h2) _ _

theorem wf_joinEq {a b : FBN N} (ha : a.WF) (hb : b.WF) : (joinEq a b).WF :=
  wf_binary ha hb (Prod2.wf_joinEq ha.1 hb.1) (fun h1 h2 => by
    unfold Prod2.joinEq; rw [Prod2.isBottom_of_fst_bot h1]; exact h2) _ _

theorem wf_widenWith (w2 : N.B → N.B → N.B) {a b : FBN N} (ha : a.WF) (hb : b.WF) : (widenWith w2 a b).WF :=
  wf_binary ha hb (Prod2.wf_widenWith _ _ _ _) (fun h1 h2 => by
    show FEnv.join a.prod.fst b.prod.fst = FEnv.bot
    rw [h1, h2]; rfl) _ _

theorem wf_meet {a b : FBN N} (ha : a.WF) (hb : b.WF) : (meet a b).WF :=
  wf_binary ha hb (Prod2.wf_meet ha.1 hb.1) (fun h1 _ => by
    unfold Prod2.meet; rw [Prod2.isBottom_of_fst_bot h1]; exact h1) _ _

theorem wf_meetEq {a b : FBN N} (ha : a.WF) (hb : b.WF) : (meetEq a b).WF :=
  wf_binary ha hb (Prod2.wf_meetEq ha.1 hb.1) (fun h1 _ => by
    unfold Prod2.meetEq; rw [Prod2.isBottom_of_fst_bot h1]; exact h1) _ _

theorem wf_narrow {a b : FBN N} (ha : a.WF) (hb : b.WF) : (narrow a b).WF :=
  wf_binary ha hb (Prod2.wf_narrow ha.1 hb.1) (fun h1 _ => by
    unfold Prod2.narrow; rw [Prod2.isBottom_of_fst_bot h1]; exact h1) _ _

theorem wf_weakAssignBoolCst {f2 : N.B → N.B} (h2 : N.Strict f2) (x : V) (c : K.C) {a : FBN N} (h : a.WF) :
    (weakAssignBoolCst f2 x c a).WF :=
  ite_ind WF (fun _ => wf_joinEq h ((keeps_assignBoolCst h2 x c a).wf h)) (fun _ => h)

theorem wf_weakAssignBoolVar {f2 : N.B → N.B} (h2 : N.Strict f2) (x y : V) (neg : Bool) {a : FBN N}
    (h : a.WF) : (weakAssignBoolVar f2 x y neg a).WF :=
  ite_ind WF (fun _ => wf_joinEq h ((keeps_assignBoolVar h2 x y neg a).wf h)) (fun _ => h)

/-- `is_top()` is right on every well-formed value -/
theorem γ_of_isTop_wf (t2 : N.TopSound) {a : FBN N} (hw : a.WF) (h : a.isTop = true) (s : CSt V) : γ a s := by
  apply γ_of_isTop t2 hw.1 _ h s
  cases hu : a.unch.isBot
  · rfl
  · -- a bottom flat part is not top
    unfold isTop Prod2.isTop at h
    simp only [Bool.and_eq_true] at h
    have : (FB V).isTop a.prod.fst = true := h.1.1.1
    rw [hw.2 hu] at this; cases this

/-- what `FBN.WF` asks of the base functions of an operation: empty values go to empty values -/
def Op.BaseStrict : Op N → Prop
  | .bcst _ f2 _ _ => N.Strict f2
  | .bvar _ f2 _ _ _ => N.Strict f2
  | .bbin _ f2 _ _ _ _ => N.Strict f2
  | .bassume _ f2 _ _ => N.Strict f2
  | .bsel _ f2 f2' _ _ _ _ => N.Strict f2 ∧ N.Strict f2'
  | .numDef _ _ f2 _ _ => N.Strict f2
  | .addCsts _ _ _ _ f2 _ => N.Strict f2
  | .forget1 _ f2 _ => N.Strict f2
  | .forget _ f2 _ => N.Strict f2
  | .project _ f2 _ => N.Strict f2
  | .wbcst _ f2 _ _ => N.Strict f2
  | .wbvar _ f2 _ _ _ => N.Strict f2
  | .ext _ funk _ _ => N.Strict funk
  | .castOther _ f2 _ _ => N.Strict f2
  | _ => True

end FBN

end Fct
end Dom
end Crab
