import CrabProofs.Lemmas.IDomLattice

/-!
  Widening with thresholds: `get_prev(v) <= v <= get_next(v)` for a threshold vector that starts
  with `-oo` and ends with `+oo` (what the constructor builds and `add` preserves), hence
  `interval::widening_thresholds` and the environment-level operation are upper bounds.
-/
namespace Crab
namespace IDom
open Lin

namespace Thresholds

/-- what the constructor establishes and `add` preserves -/
def WF (ts : Thresholds) : Prop := ts.head? = some .ninf ∧ ts.getLast? = some .pinf

theorem init_wf : init.WF := by simp [WF, init]

theorem getD_takeWhile_true (p : Bound → Bool) (d : Bound) : ∀ (l : List Bound) (i : Nat),
    i < (l.takeWhile p).length → p (l.getD i d) = true := by
  intro l
  induction l with
  | nil => intro i h; simp at h
  | cons a rest ih =>
    intro i h
    simp only [List.takeWhile] at h
    cases hp : p a with
    | false => simp [hp] at h
    | true =>
      simp only [hp, List.length_cons] at h
      cases i with
      | zero => simpa using hp
      | succ j => simpa using ih j (by omega)

theorem getD_takeWhile_false (p : Bound → Bool) (d : Bound) : ∀ (l : List Bound),
    (l.takeWhile p).length < l.length → p (l.getD (l.takeWhile p).length d) = false := by
  intro l
  induction l with
  | nil => intro h; simp at h
  | cons a rest ih =>
    intro h
    simp only [List.takeWhile] at h ⊢
    cases hp : p a with
    | false => simpa using hp
    | true =>
      simp only [hp, List.length_cons] at h ⊢
      simpa using ih (by omega)

theorem takeWhile_length_le (p : Bound → Bool) (l : List Bound) : (l.takeWhile p).length ≤ l.length := by
  induction l with
  | nil => simp
  | cons a rest ih => simp only [List.takeWhile]; split <;> simp <;> omega

theorem getD_last {l : List Bound} {x : Bound} (h : l.getLast? = some x) (d : Bound) :
    l.getD (l.length - 1) d = x := by
  induction l with
  | nil => simp at h
  | cons a rest ih =>
    cases rest with
    | nil => simp at h; simp [h]
    | cons b rs =>
      have : (b :: rs).getLast? = some x := by simpa [List.getLast?_cons_cons] using h
      have := ih this
      simpa using this

theorem getPrev_le {ts : Thresholds} (hw : ts.WF) (v : Bound) : Bound.le (ts.getPrev v) v = true := by
  unfold getPrev
  split
  · exact Bound.le_refl v
  · simp only []
    split
    · rename_i h
      have := getD_takeWhile_true (fun t => Bound.lt t v) .ninf ts (lowerBound ts v - 1)
        (by unfold lowerBound at h ⊢; omega)
      simp only [Bound.lt_iff] at this
      exact Bound.not_le this
    · obtain ⟨hh, _⟩ := hw
      cases ts with
      | nil => simp
      | cons a rest => simp at hh; subst hh; simp

theorem le_getNext {ts : Thresholds} (hw : ts.WF) (v : Bound) : Bound.le v (ts.getNext v) = true := by
  unfold getNext
  split
  · exact Bound.le_refl v
  · simp only []
    split
    · rename_i h
      have := getD_takeWhile_false (fun t => !(Bound.lt v t)) .pinf ts (by unfold upperBound at h; exact h)
      simp only [Bool.not_eq_false', Bound.lt_iff] at this
      exact Bound.not_le this
    · rw [getD_last hw.2]; simp

theorem head?_set {l : List Bound} {i : Nat} (hi : i ≠ 0) (x : Bound) : (l.set i x).head? = l.head? := by
  cases l with
  | nil => rfl
  | cons a rest => cases i with
    | zero => exact absurd rfl hi
    | succ j => rfl

theorem getLast?_set {l : List Bound} {i : Nat} (hi : i + 1 < l.length) (x : Bound) :
    (l.set i x).getLast? = l.getLast? := by
  induction l generalizing i with
  | nil => rfl
  | cons a rest ih =>
    cases i with
    | zero =>
      cases rest with
      | nil => simp at hi
      | cons b rs => simp [List.getLast?_cons_cons]
    | succ j =>
      cases rest with
      | nil => simp at hi
      | cons b rs =>
        have := ih (i := j) (by simp at hi ⊢; omega)
        simp only [List.set_cons_succ]
        cases j with
        | zero => simp [List.getLast?_cons_cons] at this ⊢; exact this
        | succ k => simp [List.getLast?_cons_cons] at this ⊢; exact this

theorem upperBound_pos {ts : Thresholds} (hw : ts.WF) (v : Int) : 0 < upperBound ts (.fin v) := by
  obtain ⟨hh, _⟩ := hw
  cases ts with
  | nil => simp at hh
  | cons a rest =>
    simp at hh; subst hh
    simp [upperBound, List.takeWhile, Bound.lt, Bound.ge]

theorem takeWhile_lt_of_last (v : Int) : ∀ (ts : List Bound), ts.getLast? = some .pinf →
    (ts.takeWhile (fun t => !(Bound.lt (.fin v) t))).length < ts.length := by
  intro ts
  induction ts with
  | nil => intro hl; simp at hl
  | cons a rest ih =>
    intro hl
    cases rest with
    | nil =>
      simp at hl; subst hl
      simp [List.takeWhile, Bound.lt, Bound.ge]
    | cons b rs =>
      have := ih (by simpa [List.getLast?_cons_cons] using hl)
      rw [List.takeWhile_cons]
      split
      · simp only [List.length_cons] at this ⊢; omega
      · simp

theorem upperBound_lt {ts : Thresholds} (hw : ts.WF) (v : Int) : upperBound ts (.fin v) < ts.length :=
  takeWhile_lt_of_last v ts hw.2

theorem insert_wf {ts : Thresholds} (hw : ts.WF) (v : Int) :
    WF ((ts.take (upperBound ts (.fin v))) ++ [.fin v] ++ (ts.drop (upperBound ts (.fin v)))) := by
  have h1 := upperBound_pos hw v
  have h2 := upperBound_lt hw v
  obtain ⟨hh, hl⟩ := hw
  generalize upperBound ts (.fin v) = ub at h1 h2
  constructor
  · cases ts with
    | nil => simp at hh
    | cons a rest =>
      cases ub with
      | zero => omega
      | succ n => simpa using hh
  · rw [List.getLast?_append, List.getLast?_drop]
    have : ¬ ts.length ≤ ub := by omega
    simp [this, hl]

theorem set_wf {ts : Thresholds} (hw : ts.WF) {i : Nat} (hi : i ≠ 0) {w : Int} (hv : ts.getD i .pinf = .fin w)
    (x : Bound) : WF (ts.set i x) := by
  refine ⟨by rw [head?_set hi]; exact hw.1, ?_⟩
  rw [getLast?_set]; exact hw.2
  -- position `i` holds a finite bound, the last one holds `+oo`, positions beyond give the default `+oo`
  apply Classical.byContradiction
  intro hn
  by_cases hlt : i < ts.length
  · have : i = ts.length - 1 := by omega
    rw [this, getD_last hw.2] at hv; cases hv
  · rw [List.getD_eq_getElem?_getD, List.getElem?_eq_none (by omega)] at hv; cases hv

theorem add_wf {ts : Thresholds} (hw : ts.WF) (cap : Nat) (v : Int) : (ts.add cap v).WF := by
  have hpos := upperBound_pos hw v
  unfold add
  by_cases hc : ts.length < cap
  · rw [if_pos hc]
    by_cases hm : ts.contains (.fin v) = true
    · rw [if_pos hm]; exact hw
    · rw [if_neg hm]
      simp only []
      by_cases h1 : v > 0
      · rw [if_pos h1]
        by_cases h2 : upperBound ts (.fin v) - 1 ≠ 0 ∧ ts.getD (upperBound ts (.fin v) - 1) .pinf = .fin (v - 1)
        · rw [if_pos h2]; exact set_wf hw h2.1 h2.2 _
        · rw [if_neg h2]; exact insert_wf hw v
      · rw [if_neg h1]
        by_cases h3 : v < 0
        · rw [if_pos h3]
          by_cases h4 : ts.getD (upperBound ts (.fin v)) .pinf = .fin (v + 1)
          · rw [if_pos h4]; exact set_wf hw (by omega) h4 _
          · rw [if_neg h4]; exact insert_wf hw v
        · rw [if_neg h3]; exact insert_wf hw v
  · rw [if_neg hc]; exact hw
end Thresholds

theorem widenTh_lb_le {ts : Thresholds} (hw : ts.WF) (a b : Itv) :
    Bound.le (if Bound.lt b.lb a.lb then ts.getPrev b.lb else a.lb) a.lb = true ∧
    Bound.le (if Bound.lt b.lb a.lb then ts.getPrev b.lb else a.lb) b.lb = true := by
  by_cases h : Bound.lt b.lb a.lb = true
  · rw [if_pos h]
    have := Thresholds.getPrev_le hw b.lb
    exact ⟨Bound.le_trans this (Bound.not_le ((Bound.lt_iff _ _).1 h)), this⟩
  · rw [if_neg h]; exact ⟨Bound.le_refl _, Bound.le_of_not_lt h⟩

theorem widenTh_ub_ge {ts : Thresholds} (hw : ts.WF) (a b : Itv) :
    Bound.le a.ub (if Bound.lt a.ub b.ub then ts.getNext b.ub else a.ub) = true ∧
    Bound.le b.ub (if Bound.lt a.ub b.ub then ts.getNext b.ub else a.ub) = true := by
  by_cases h : Bound.lt a.ub b.ub = true
  · rw [if_pos h]
    have := Thresholds.le_getNext hw b.ub
    exact ⟨Bound.le_trans (Bound.not_le ((Bound.lt_iff _ _).1 h)) this, this⟩
  · rw [if_neg h]; exact ⟨Bound.le_refl _, Bound.le_of_not_lt h⟩

theorem widenTh_upper_left {ts : Thresholds} (hw : ts.WF) {a b : Itv} {k : Int} (hk : Itv.mem k a) :
    Itv.mem k (widenTh ts a b) := by
  unfold widenTh
  rw [if_neg (ne_true_of_eq_false (Itv.isBottom_false_of_mem hk))]
  by_cases hb : b.isBottom = true
  · rw [if_pos hb]; exact hk
  · rw [if_neg hb, Itv.mem_mk']
    exact ⟨Bound.le_trans (widenTh_lb_le hw a b).1 hk.1, Bound.le_trans hk.2 (widenTh_ub_ge hw a b).1⟩

theorem widenTh_upper_right {ts : Thresholds} (hw : ts.WF) {a b : Itv} {k : Int} (hk : Itv.mem k b) :
    Itv.mem k (widenTh ts a b) := by
  unfold widenTh
  by_cases ha : a.isBottom = true
  · rw [if_pos ha]; exact hk
  · rw [if_neg ha, if_neg (ne_true_of_eq_false (Itv.isBottom_false_of_mem hk)), Itv.mem_mk']
    exact ⟨Bound.le_trans (widenTh_lb_le hw a b).2 hk.1, Bound.le_trans hk.2 (widenTh_ub_ge hw a b).2⟩

namespace Env
theorem widenTh_upper_left {ts : Thresholds} (hw : ts.WF) {a : Env} (hs : a.Sorted) (b : Env) {σ : State}
    (hg : γ a σ) : γ (Env.widenTh ts a b) σ :=
  upperWith_left (fun _ _ _ h => IDom.widenTh_upper_left hw h) hs b hg
theorem widenTh_upper_right {ts : Thresholds} (hw : ts.WF) {a : Env} (hs : a.Sorted) {b : Env} {σ : State}
    (hg : γ b σ) : γ (Env.widenTh ts a b) σ :=
  upperWith_right (fun _ _ _ h => IDom.widenTh_upper_right hw h) hs hg
end Env

end IDom
end Crab
