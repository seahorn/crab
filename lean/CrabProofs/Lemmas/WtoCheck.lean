import CrabProofs.Lemmas.WtoTerm

/-!
  The executable checker (`CrabModel/Graph/WtoCheck.lean`) and the nesting builder against the
  declarative notions of `WtoSpec`: `checkWto` decides `WtoWF` (soundness for every graph,
  completeness for graphs whose edges stay inside `0..n-1`), and the table built by
  `nesting_builder` (`nestC` / `nestL`, insert-if-absent) equals the first-occurrence search
  `nestFindC` / `nestFindL`, which computes the heads of the enclosing cycles (`Encl`).
-/
namespace Crab
namespace Wto

theorem Reach.trans {g : Graph} {a b c : Nat} (h1 : Reach g a b) (h2 : Reach g b c) : Reach g a c := by
  induction h2 with
  | refl => exact h1
  | step _ hs ih => exact Reach.step ih hs

theorem mem_addNew {x : Nat} : ∀ {l S : List Nat}, x ∈ addNew S l ↔ x ∈ S ∨ x ∈ l
  | [], S => by simp [addNew]
  | v :: l, S => by
    by_cases hv : v ∈ S
    · simp only [addNew, List.contains_iff_mem, hv, if_true, mem_addNew, List.mem_cons]
      exact ⟨Or.imp_right Or.inr, fun h => h.elim Or.inl fun h => h.elim (fun e => Or.inl (e ▸ hv)) Or.inr⟩
    · simp [addNew, hv, mem_addNew, or_assoc]

theorem nodup_addNew : ∀ {l S : List Nat}, S.Nodup → (addNew S l).Nodup
  | [], S, h => by simpa [addNew] using h
  | v :: l, S, h => by
    by_cases hv : v ∈ S
    · simpa [addNew, hv] using nodup_addNew h
    · have : (S ++ [v]).Nodup := List.nodup_append.2 ⟨h, by simp, fun a ha b hb hab => by
        rw [List.mem_singleton.1 hb] at hab; exact hv (hab ▸ ha)⟩
      simpa [addNew, hv] using nodup_addNew this

theorem addNew_eq_append : ∀ (l S : List Nat), ∃ t, addNew S l = S ++ t
  | [], S => ⟨[], by simp [addNew]⟩
  | v :: l, S => by
    simp only [addNew]
    split
    · exact addNew_eq_append l S
    · obtain ⟨t, ht⟩ := addNew_eq_append l (S ++ [v])
      exact ⟨v :: t, by simp [ht]⟩

theorem addNew_length_eq {l S : List Nat} (h : (addNew S l).length = S.length) : ∀ x ∈ l, x ∈ S := by
  obtain ⟨t, ht⟩ := addNew_eq_append l S
  have ht0 : t = [] := List.eq_nil_of_length_eq_zero (by simpa [ht] using h)
  intro x hx
  have hm : x ∈ addNew S l := mem_addNew.2 (Or.inr hx)
  rwa [ht, ht0, List.append_nil] at hm

theorem reachIter_sound {g : Graph} {e : Nat} : ∀ (k : Nat) (S : List Nat),
    (∀ s ∈ S, Reach g e s) → ∀ x ∈ reachIter g k S, Reach g e x
  | 0, S, hS, x, hx => hS x (by simpa [reachIter] using hx)
  | k + 1, S, hS, x, hx => by
    simp only [reachIter] at hx
    split at hx
    · exact hS x hx
    · refine reachIter_sound k _ ?_ x hx
      intro s hs
      rcases mem_addNew.1 hs with h | h
      · exact hS s h
      · obtain ⟨u, hu, hus⟩ := List.mem_flatMap.1 h
        exact Reach.step (hS u hu) hus

theorem reachList_sound {g : Graph} {e x : Nat} (h : x ∈ reachList g e) : Reach g e x :=
  reachIter_sound g.n [e] (by intro s hs; simp at hs; subst hs; exact Reach.refl) x h

theorem reachIter_closed {g : Graph} (hg : g.WF) : ∀ (k : Nat) (S : List Nat),
    S.Nodup → (∀ s ∈ S, s < g.n) → g.n ≤ k + S.length →
    (∀ s ∈ S, s ∈ reachIter g k S) ∧
    (∀ u ∈ reachIter g k S, ∀ v ∈ g.succ u, v ∈ reachIter g k S)
  | 0, S, hn, hb, hk => by
    simp only [reachIter]
    refine ⟨fun s hs => hs, fun u _ v hv => ?_⟩
    -- S has no duplicates, stays below n and has at least n elements: it contains every node
    apply Classical.byContradiction
    intro hvS
    have := List.Nodup.length_le_of_subset (List.nodup_cons.2 ⟨hvS, hn⟩) (l₂ := List.range g.n)
      (fun y hy => List.mem_range.2 ((List.mem_cons.1 hy).elim (fun e => e ▸ hg u v hv) (hb y)))
    simp at this hk
    omega
  | k + 1, S, hn, hb, hk => by
    simp only [reachIter]
    split
    · rename_i heq
      exact ⟨fun s hs => hs, fun u hu v hv => addNew_length_eq heq v (List.mem_flatMap.2 ⟨u, hu, hv⟩)⟩
    · rename_i hne
      have hge : S.length ≤ (addNew S (S.flatMap g.succ)).length := by
        obtain ⟨t, ht⟩ := addNew_eq_append (S.flatMap g.succ) S
        simp [ht]
      have hb' : ∀ s ∈ addNew S (S.flatMap g.succ), s < g.n := by
        intro s hs
        rcases mem_addNew.1 hs with h | h
        · exact hb s h
        · obtain ⟨u, _, hus⟩ := List.mem_flatMap.1 h
          exact hg u s hus
      have ih := reachIter_closed hg k (addNew S (S.flatMap g.succ)) (nodup_addNew hn) hb'
        (by omega)
      exact ⟨fun s hs => ih.1 s (mem_addNew.2 (Or.inl hs)), ih.2⟩

theorem reachList_complete {g : Graph} (hg : g.WF) {e : Nat} (he : e < g.n) {x : Nat}
    (h : Reach g e x) : x ∈ reachList g e := by
  have hc := reachIter_closed hg g.n [e] (by simp) (by intro s hs; simp at hs; subst hs; exact he) (by simp)
  induction h with
  | refl => exact hc.1 e (by simp)
  | step _ hs ih => exact hc.2 _ ih _ hs

mutual
theorem headContainsC_sound (h u : Nat) : ∀ (c : WtoC), headContainsC h u c = true →
    ∃ body, Sub (.cycle h body) [c] ∧ u ∈ flattenC (.cycle h body)
  | .vertex _, hc => by simp [headContainsC] at hc
  | .cycle h' body, hc => by
    simp only [headContainsC, Bool.or_eq_true, Bool.and_eq_true, beq_iff_eq] at hc
    rcases hc with ⟨rfl, hu⟩ | hc
    · exact ⟨body, Sub.here (by simp), by simpa [flattenC] using hu⟩
    · obtain ⟨b, hs, hu⟩ := headContainsL_sound h u body hc
      exact ⟨b, Sub.inside (List.mem_singleton.2 rfl) hs, hu⟩
theorem headContainsL_sound (h u : Nat) : ∀ (l : List WtoC), headContainsL h u l = true → HeadIn l h u
  | [], hc => by simp [headContainsL] at hc
  | c :: cs, hc => by
    simp only [headContainsL, Bool.or_eq_true] at hc
    rcases hc with hc | hc
    · obtain ⟨b, hs, hu⟩ := headContainsC_sound h u c hc
      exact ⟨b, hs.mono (by simp), hu⟩
    · obtain ⟨b, hs, hu⟩ := headContainsL_sound h u cs hc
      exact ⟨b, hs.mono fun _ => List.mem_cons_of_mem _, hu⟩
end

theorem headContainsL_of_mem {h u : Nat} {c : WtoC} : ∀ {l : List WtoC}, c ∈ l →
    headContainsC h u c = true → headContainsL h u l = true
  | [], hm, _ => by cases hm
  | d :: ds, hm, hc => by
    simp only [headContainsL, Bool.or_eq_true]
    rcases List.mem_cons.1 hm with rfl | hm
    · exact Or.inl hc
    · exact Or.inr (headContainsL_of_mem hm hc)

theorem headContainsL_complete {h u : Nat} {c : WtoC} {l : List WtoC} (hs : Sub c l) :
    ∀ body, c = .cycle h body → u ∈ flattenC (.cycle h body) → headContainsL h u l = true := by
  induction hs with
  | here hm =>
    rintro body rfl hu
    apply headContainsL_of_mem hm
    simp only [headContainsC, Bool.or_eq_true, Bool.and_eq_true]
    exact Or.inl ⟨by simp, by simpa [flattenC] using hu⟩
  | inside hm _ ih =>
    intro body hc hu
    apply headContainsL_of_mem hm
    simp only [headContainsC, Bool.or_eq_true]
    exact Or.inr (ih body hc hu)

theorem headContainsL_iff {h u : Nat} {l : List WtoC} : headContainsL h u l = true ↔ HeadIn l h u :=
  ⟨headContainsL_sound h u l, fun ⟨body, hs, hu⟩ => headContainsL_complete hs body rfl hu⟩

theorem before_of_idxOf_lt {u v : Nat} : ∀ {l : List Nat}, l.idxOf u < l.idxOf v → v ∈ l → Before u v l
  | [], _, hv => by cases hv
  | a :: t, hlt, hv => by
    -- `v` is not the first element, so it occurs in the tail
    have hav : a ≠ v := by rintro rfl; simp at hlt
    have hvt : v ∈ t := (List.mem_cons.1 hv).resolve_left (Ne.symm hav)
    by_cases hau : a = u
    · obtain ⟨l2, l3, rfl⟩ := List.append_of_mem hvt
      exact ⟨[], l2, l3, by rw [hau]; rfl⟩
    · simp only [List.idxOf_cons, beq_eq_false_iff_ne.2 hau, beq_eq_false_iff_ne.2 hav, cond_false] at hlt
      obtain ⟨l1, l2, l3, rfl⟩ := before_of_idxOf_lt (Nat.lt_of_add_lt_add_right hlt) hvt
      exact ⟨a :: l1, l2, l3, rfl⟩

theorem idxOf_lt_of_before {u v : Nat} {l : List Nat} (hn : l.Nodup) (hb : Before u v l) :
    l.idxOf u < l.idxOf v := by
  obtain ⟨l1, l2, l3, rfl⟩ := hb
  induction l1 with
  | nil =>
    have huv : u ≠ v := by
      rintro rfl
      simp [List.nodup_cons] at hn
    simp [List.idxOf_cons, beq_eq_false_iff_ne.2 huv]
  | cons a l1 ih =>
    simp only [List.cons_append, List.nodup_cons, List.mem_append, List.mem_cons, not_or] at hn
    have hau : a ≠ u := fun h => hn.1.2.1 h
    have hav : a ≠ v := fun h => hn.1.2.2.2.1 h
    simp only [List.cons_append, List.idxOf_cons, beq_eq_false_iff_ne.2 hau, beq_eq_false_iff_ne.2 hav,
      cond_false]
    exact Nat.add_lt_add_right (ih hn.2) 1

mutual
/-- nesting of the first occurrence of `v` in pre-order (`cur` = heads already entered) -/
def nestFindC (cur : List Nat) (v : Nat) : WtoC → Option (List Nat)
  | .vertex u => if u = v then some cur else none
  | .cycle h body => if h = v then some cur else nestFindL (cur ++ [h]) v body
def nestFindL (cur : List Nat) (v : Nat) : List WtoC → Option (List Nat)
  | [] => none
  | c :: cs =>
    match nestFindC cur v c with
    | some x => some x
    | none => nestFindL cur v cs
end

theorem lookup_tblInsert (t : List (Nat × List Nat)) (u v : Nat) (cur : List Nat) :
    List.lookup v (tblInsert t u cur) =
      match List.lookup v t with
      | some x => some x
      | none => if u = v then some cur else none := by
  unfold tblInsert
  by_cases huv : u = v
  · subst huv
    cases hl : List.lookup u t with
    | some x => simp [hl]
    | none => simp [List.lookup_append, hl, List.lookup]
  · have hb : (v == u) = false := by simpa using fun h : v = u => huv h.symm
    cases hu : List.lookup u t with
    | some y => cases hl : List.lookup v t <;> simp [huv]
    | none =>
      cases hl : List.lookup v t with
      | some x => simp [List.lookup_append, hl]
      | none => simp [List.lookup_append, hl, List.lookup, hb, huv]

mutual
theorem lookup_nestC (cur : List Nat) (v : Nat) : ∀ (c : WtoC) (t : List (Nat × List Nat)),
    List.lookup v (nestC cur t c) =
      match List.lookup v t with
      | some x => some x
      | none => nestFindC cur v c
  | .vertex u, t => by
    simp only [nestC, nestFindC, lookup_tblInsert]
  | .cycle h body, t => by
    simp only [nestC, nestFindC, lookup_nestL (cur ++ [h]) v body, lookup_tblInsert]
    cases List.lookup v t with
    | some x => rfl
    | none => by_cases hh : h = v <;> simp [hh]
theorem lookup_nestL (cur : List Nat) (v : Nat) : ∀ (l : List WtoC) (t : List (Nat × List Nat)),
    List.lookup v (nestL cur t l) =
      match List.lookup v t with
      | some x => some x
      | none => nestFindL cur v l
  | [], t => by
    simp only [nestL, nestFindL]
    cases List.lookup v t <;> rfl
  | c :: cs, t => by
    simp only [nestL, nestFindL, lookup_nestL cur v cs, lookup_nestC cur v c]
    cases List.lookup v t with
    | some x => rfl
    | none => cases nestFindC cur v c <;> rfl
end

theorem nesting_eq_nestFind (w : List WtoC) (v : Nat) : nesting w v = nestFindL [] v w := by
  simp [nesting, nestingTable, lookup_nestL, List.lookup]

mutual
theorem nestFindC_none (cur : List Nat) (v : Nat) : ∀ (c : WtoC), nestFindC cur v c = none ↔ v ∉ flattenC c
  | .vertex u => by
    simp only [nestFindC, flattenC, List.mem_singleton]
    by_cases h : u = v
    · simp [h]
    · simp [h]; exact fun h' => h h'.symm
  | .cycle h body => by
    simp only [nestFindC, flattenC, List.mem_cons, not_or]
    by_cases hh : h = v
    · simp [hh]
    · simp only [hh, if_false, nestFindL_none (cur ++ [h]) v body]
      exact ⟨fun h1 => ⟨fun e => hh e.symm, h1⟩, fun h1 => h1.2⟩
theorem nestFindL_none (cur : List Nat) (v : Nat) : ∀ (l : List WtoC), nestFindL cur v l = none ↔ v ∉ flattenL l
  | [] => by simp [nestFindL, flattenL]
  | c :: cs => by
    simp only [nestFindL, flattenL, List.mem_append, not_or, ← nestFindC_none cur v c,
      ← nestFindL_none cur v cs]
    cases nestFindC cur v c <;> simp
end

theorem nestFindL_of_mem (cur : List Nat) (v : Nat) {c : WtoC} : ∀ {l : List WtoC},
    (flattenL l).Nodup → c ∈ l → v ∈ flattenC c → nestFindL cur v l = nestFindC cur v c
  | [], _, hm, _ => by cases hm
  | d :: ds, hn, hm, hv => by
    simp only [flattenL, List.nodup_append] at hn
    simp only [nestFindL]
    rcases List.mem_cons.1 hm with rfl | hm
    · cases hc : nestFindC cur v c with
      | some x => rfl
      | none => exact absurd hv ((nestFindC_none cur v c).1 hc)
    · have hvd : v ∉ flattenC d := fun hvd => hn.2.2 v hvd v (mem_flattenL.2 ⟨c, hm, hv⟩) rfl
      rw [(nestFindC_none cur v d).2 hvd]
      exact nestFindL_of_mem cur v hn.2.1 hm hv

theorem nestFindL_of_encl {l : List WtoC} {v : Nat} {hs : List Nat} (h : Encl l v hs) :
    ∀ cur, (flattenL l).Nodup → nestFindL cur v l = some (cur ++ hs) := by
  induction h with
  | vertex hm =>
    intro cur hn
    rw [nestFindL_of_mem cur _ hn hm (by simp [flattenC])]
    simp [nestFindC]
  | head hm =>
    intro cur hn
    rw [nestFindL_of_mem cur _ hn hm (by simp [flattenC])]
    simp [nestFindC]
  | @inner l h body v hs hm he ih =>
    intro cur hn
    have hvb := mem_flattenL_of_encl he
    rw [nestFindL_of_mem cur v hn hm (by simp [flattenC, hvb])]
    have hnc := nodup_flattenC_of_mem hn hm
    simp only [flattenC, List.nodup_cons] at hnc
    have hhv : h ≠ v := fun e => hnc.1 (e ▸ hvb)
    simp only [nestFindC, hhv, if_false]
    rw [ih (cur ++ [h]) hnc.2]
    simp

mutual
theorem encl_of_nestFindC (v : Nat) : ∀ (c : WtoC) (cur x : List Nat), nestFindC cur v c = some x →
    ∃ hs, x = cur ++ hs ∧ Encl [c] v hs
  | .vertex u, cur, x, h => by
    simp only [nestFindC] at h
    split at h
    · rename_i huv; subst huv
      exact ⟨[], by simpa using (Option.some.inj h).symm, Encl.vertex (by simp)⟩
    · cases h
  | .cycle hd body, cur, x, h => by
    simp only [nestFindC] at h
    split at h
    · rename_i huv; subst huv
      exact ⟨[], by simpa using (Option.some.inj h).symm, Encl.head (body := body) (List.mem_singleton.2 rfl)⟩
    · obtain ⟨hs, hx, he⟩ := encl_of_nestFindL v body (cur ++ [hd]) x h
      exact ⟨hd :: hs, by simp [hx], Encl.inner (List.mem_singleton.2 rfl) he⟩
theorem encl_of_nestFindL (v : Nat) : ∀ (l : List WtoC) (cur x : List Nat), nestFindL cur v l = some x →
    ∃ hs, x = cur ++ hs ∧ Encl l v hs
  | [], cur, x, h => by simp [nestFindL] at h
  | c :: cs, cur, x, h => by
    simp only [nestFindL] at h
    cases hc : nestFindC cur v c with
    | some y =>
      rw [hc] at h
      obtain ⟨hs, hx, he⟩ := encl_of_nestFindC v c cur y hc
      exact ⟨hs, by rw [← Option.some.inj h]; exact hx, he.mono (by simp)⟩
    | none =>
      rw [hc] at h
      obtain ⟨hs, hx, he⟩ := encl_of_nestFindL v cs cur x h
      exact ⟨hs, hx, he.mono fun _ => List.mem_cons_of_mem _⟩
end

theorem nesting_of_encl {w : List WtoC} (hn : (flattenL w).Nodup) {v : Nat} {hs : List Nat}
    (h : Encl w v hs) : nesting w v = some hs := by
  rw [nesting_eq_nestFind, nestFindL_of_encl h [] hn]; rfl

theorem encl_of_nesting {w : List WtoC} {v : Nat} {hs : List Nat} (h : nesting w v = some hs) :
    Encl w v hs := by
  rw [nesting_eq_nestFind] at h
  obtain ⟨hs', hx, he⟩ := encl_of_nestFindL v w [] hs h
  rw [hx]; exact he

theorem nesting_eq_none {w : List WtoC} {v : Nat} : nesting w v = none ↔ v ∉ flattenL w := by
  rw [nesting_eq_nestFind]; exact nestFindL_none [] v w

/-- the graph part of `WtoWF` suffices: the nesting computed from the term is the right one -/
theorem WtoWF.of_graph {g : Graph} {e : Nat} {w : List WtoC}
    (hnodes : ∀ v, v ∈ flattenL w ↔ Reach g e v) (hnodup : (flattenL w).Nodup)
    (hedges : ∀ u v, Reach g e u → v ∈ g.succ u → EdgeOK w u v) : WtoWF g e w (nesting w) :=
  ⟨hnodes, hnodup, hedges, fun _ _ he => nesting_of_encl hnodup he, fun _ hv => nesting_eq_none.2 hv⟩

theorem idxOf_lt_iff_before {u v : Nat} {l : List Nat} (hn : l.Nodup) (hv : v ∈ l) :
    l.idxOf u < l.idxOf v ↔ Before u v l :=
  ⟨fun h => before_of_idxOf_lt h hv, idxOf_lt_of_before hn⟩

/-- (a): the nodes are the reachable ones, each once — and they are in the computed closure -/
theorem checkNodes_iff {g : Graph} {e : Nat} {fl : List Nat} : checkNodes g e fl = true ↔
    ((∀ v, v ∈ fl ↔ Reach g e v) ∧ fl.Nodup) ∧ ∀ u ∈ fl, u ∈ reachList g e := by
  simp only [checkNodes, Bool.and_eq_true, List.all_eq_true, decide_eq_true_eq, List.contains_iff_mem]
  constructor
  · rintro ⟨⟨⟨he, hcl⟩, hr⟩, hn⟩
    refine ⟨⟨fun v => ⟨fun hv => reachList_sound (hr v hv), fun hv => ?_⟩, hn⟩, hr⟩
    induction hv with
    | refl => exact he
    | step _ hs ih => exact hcl _ ih _ hs
  · rintro ⟨⟨h1, h2⟩, hr⟩
    exact ⟨⟨⟨(h1 e).2 Reach.refl, fun u hu v hv => (h1 v).2 (Reach.step ((h1 u).1 hu) hv)⟩, hr⟩, h2⟩

/-- (b): every edge between nodes of the ordering is allowed -/
theorem checkEdges_iff {g : Graph} {w : List WtoC} (hn : (flattenL w).Nodup)
    (hcl : ∀ u ∈ flattenL w, ∀ v ∈ g.succ u, v ∈ flattenL w) :
    checkEdges g w (flattenL w) = true ↔ ∀ u ∈ flattenL w, ∀ v ∈ g.succ u, EdgeOK w u v := by
  simp only [checkEdges, checkEdge, List.all_eq_true, Bool.or_eq_true, decide_eq_true_eq]
  exact forall₂_congr fun u hu => forall₂_congr fun v hv =>
    or_congr (idxOf_lt_iff_before hn (hcl u hu v hv)) headContainsL_iff

/-- (c): the table is the nesting function of the term: defined on the nodes, with the enclosing
    heads -/
theorem checkNest_iff {w : List WtoC} {tbl : List (Nat × List Nat)} (hn : (flattenL w).Nodup) :
    checkNest w (flattenL w) tbl = true ↔
      (∀ v hs, Encl w v hs → tbl.lookup v = some hs) ∧ ∀ v, v ∉ flattenL w → tbl.lookup v = none := by
  simp only [checkNest, Bool.and_eq_true, List.all_eq_true, beq_iff_eq, List.contains_iff_mem]
  constructor
  · rintro ⟨hnest, hkeys⟩
    refine ⟨fun v hs he => ?_, fun v hv => ?_⟩
    · rw [hnest v (mem_flattenL_of_encl he)]; exact nesting_of_encl hn he
    · -- a key of the table occurs in the ordering
      refine List.lookup_eq_none_iff.2 fun p hp => bne_iff_ne.2 fun e => hv ?_
      rw [e]; exact hkeys p hp
  · rintro ⟨hsome, hnone⟩
    refine ⟨fun v hv => ?_, fun p hp => ?_⟩
    · cases hf : nesting w v with
      | none => exact absurd hv (nesting_eq_none.1 hf)
      | some hs => exact hsome v hs (encl_of_nesting hf)
    · apply Classical.byContradiction
      intro hp'
      exact bne_iff_ne.1 (List.lookup_eq_none_iff.1 (hnone p.1 hp') p hp) rfl

/-- `checkWto` tests exactly `WtoWF` and that the nodes of the ordering are in the computed closure
    (which every reachable node is when the edges stay inside `0..n-1`) -/
theorem checkWto_iff {g : Graph} {e : Nat} {w : List WtoC} {tbl : List (Nat × List Nat)} :
    checkWto g e w tbl = true ↔
      WtoWF g e w (fun v => tbl.lookup v) ∧ ∀ u ∈ flattenL w, u ∈ reachList g e := by
  have hcl : (∀ v, v ∈ flattenL w ↔ Reach g e v) → ∀ u ∈ flattenL w, ∀ v ∈ g.succ u, v ∈ flattenL w :=
    fun h u hu v hv => (h v).2 (Reach.step ((h u).1 hu) hv)
  simp only [checkWto, Bool.and_eq_true]
  constructor
  · rintro ⟨⟨hN, hE⟩, hT⟩
    obtain ⟨⟨hmem, hn⟩, hr⟩ := checkNodes_iff.1 hN
    obtain ⟨hsome, hnone⟩ := (checkNest_iff hn).1 hT
    exact ⟨⟨hmem, hn, fun u v hu huv => (checkEdges_iff hn (hcl hmem)).1 hE u ((hmem u).2 hu) v huv,
      hsome, hnone⟩, hr⟩
  · rintro ⟨h, hr⟩
    exact ⟨⟨checkNodes_iff.2 ⟨⟨h.nodes, h.nodup⟩, hr⟩,
      (checkEdges_iff h.nodup (hcl h.nodes)).2 fun u hu v huv => h.edges u v ((h.nodes u).1 hu) huv⟩,
      (checkNest_iff h.nodup).2 ⟨h.nest_some, h.nest_none⟩⟩

theorem checkWto_sound {g : Graph} {e : Nat} {w : List WtoC} {tbl : List (Nat × List Nat)}
    (h : checkWto g e w tbl = true) : WtoWF g e w (fun v => tbl.lookup v) :=
  (checkWto_iff.1 h).1

theorem checkWto_complete {g : Graph} (hg : g.WF) {e : Nat} (he : e < g.n) {w : List WtoC}
    {tbl : List (Nat × List Nat)} (h : WtoWF g e w (fun v => tbl.lookup v)) :
    checkWto g e w tbl = true :=
  checkWto_iff.2 ⟨h, fun u hu => reachList_complete hg he ((h.nodes u).1 hu)⟩

end Wto
end Crab
