import CrabProofs.Lemmas.DbmIncrExact

/-!
  `GraphOps::close_after_assign_fwd`: when the graph without `v` is closed, the two-hop search
  computes, for EVERY expansion order, values `D x` such that `D x` is the weight of a path
  `v → x` or `v → d → x`, `D x ≤ (v → x)` and `D x ≤ (v → d) + (d → x)` for every `d`
  (`cafFwd_spec`).

  `close_after_assign(g, potential, 0, delta); apply_delta(g, delta)` (the re-closure of the bounds
  at the end of `add_linear_leq` when `close_bounds_inline` is off, and the last step of
  `normalize()`): from a graph whose edges among the variables are closed (`VarNF`) it restores the
  split normal form, keeps the solutions and does not touch the edges among variables
  (`closeAfterAssign_exact`).
-/
namespace Crab
namespace DbmIncr
open Dbm Zones

variable {n : Nat}


section
variable (succ : Fin (n + 1) → Fin (n + 1) → W) (v : Fin (n + 1))

/-- `k` is at least the weight of a path `v → x` or `v → d → x` -/
def Low (x : Fin (n + 1)) (k : Int) : Prop :=
  (∃ a, succ v x = some a ∧ a ≤ k) ∨
    ∃ d a b, d ≠ v ∧ succ v d = some a ∧ succ d x = some b ∧ a + b ≤ k

/-- hypotheses: the graph without `v` is closed, has no negative 2-cycle, no self loop -/
structure ClosedWithout : Prop where
  tri : ∀ a k b, a ≠ v → k ≠ v → b ≠ v → a ≠ b → W.LE (succ a b) (W.add (succ a k) (succ k b))
  cyc : ∀ a b x y, a ≠ v → b ≠ v → succ a b = some x → succ b a = some y → 0 ≤ x + y
  noLoop : ∀ a, succ a a = none

structure CafInv (ds : Fin (n + 1) → W) : Prop where
  low : ∀ x k, x ≠ v → ds x = some k → Low succ v x k
  up1 : ∀ x, x ≠ v → W.LE (ds x) (succ v x)

def LeF (ds' ds : Fin (n + 1) → W) : Prop := ∀ x, W.LE (ds' x) (ds x)
end

variable {succ : Fin (n + 1) → Fin (n + 1) → W} {v : Fin (n + 1)}

theorem LeF.refl (ds : Fin (n + 1) → W) : LeF ds ds := fun _ => W.LE_refl _
theorem LeF.trans (a b c : Fin (n + 1) → W) (h1 : LeF a b) (h2 : LeF b c) : LeF a c :=
  fun x => W.LE_trans (h1 x) (h2 x)

theorem cafInner_eq (d : Fin (n + 1)) (dwt : Int) (ds : Fin (n + 1) → W) (e u : Fin (n + 1)) :
    cafInner succ d dwt ds e u =
      if u = e then W.min (ds e) (W.add (some dwt) (succ d e)) else ds u := by
  unfold cafInner
  rcases hs : succ d e with _ | ev
  · simp only [W.add_none_right, W.min_none_right]
    split
    · rename_i h; rw [h]
    · rfl
  · simp only
    rcases hd : ds e with _ | old
    · simp
    · simp only [W.add_some_some, W.min_some_some]
      by_cases hu : u = e
      · simp only [hu, if_true]; congr 1; omega
      · simp [hu]

theorem cafInner_step (hc : ClosedWithout succ v) {d : Fin (n + 1)} {dwt : Int} (hd : d ≠ v)
    (hlow : Low succ v d dwt) (ds : Fin (n + 1) → W) (e : Fin (n + 1)) (h : CafInv succ v ds) :
    CafInv succ v (cafInner succ d dwt ds e) ∧ LeF (cafInner succ d dwt ds e) ds ∧
      W.LE (cafInner succ d dwt ds e e) (W.add (some dwt) (succ d e)) := by
  have hle : LeF (cafInner succ d dwt ds e) ds := by
    intro x; rw [cafInner_eq]
    split
    · rename_i hx; rw [hx]; exact W.min_LE_left _ _
    · exact W.LE_refl _
  refine ⟨⟨?_, fun x hx => W.LE_trans (hle x) (h.up1 x hx)⟩, hle, ?_⟩
  · intro x k hx hk
    rw [cafInner_eq] at hk
    by_cases hxe : x = e
    · subst hxe
      simp only [if_true] at hk
      rcases W.min_eq_or (ds x) (W.add (some dwt) (succ d x)) with he | he
      · rw [he] at hk; exact h.low x k hx hk
      · rw [he] at hk
        rcases hev : succ d x with _ | ev
        · rw [hev] at hk; simp at hk
        rw [hev] at hk; simp at hk; subst hk
        rcases hlow with ⟨a, ha, hak⟩ | ⟨d', a, b, hd', ha, hb, hab⟩
        · exact Or.inr ⟨d, a, ev, hd, ha, hev, by omega⟩
        · by_cases hdx : d' = x
          · subst hdx
            have := hc.cyc d' d b ev hd' hd hb hev
            exact Or.inl ⟨a, ha, by omega⟩
          · have t := hc.tri d' d x hd' hd hx hdx
            rw [hb, hev] at t
            rcases hz : succ d' x with _ | z
            · rw [hz] at t; simp at t
            · rw [hz] at t; simp at t
              exact Or.inr ⟨d', a, z, hd', ha, hz, by omega⟩
    · simp only [hxe, if_false] at hk
      exact h.low x k hx hk
  · rw [cafInner_eq]; simp only [if_true]; exact W.min_LE_right _ _

theorem cafOuter_step (hc : ClosedWithout succ v) (vs : List (Fin (n + 1))) (hvs : ∀ x, x ∈ vs)
    (ds : Fin (n + 1) → W) (d : Fin (n + 1)) (hd : d ≠ v) (h : CafInv succ v ds) :
    CafInv succ v (cafOuter succ vs v ds d) ∧ LeF (cafOuter succ vs v ds d) ds ∧
      ∀ e, W.LE (cafOuter succ vs v ds d e) (W.add (succ v d) (succ d e)) := by
  unfold cafOuter
  rcases hsd : succ v d with _ | a
  · exact ⟨h, LeF.refl _, fun e => by simp⟩
  simp only
  rcases hdd : ds d with _ | dwt
  · have := h.up1 d hd; rw [hdd, hsd] at this; simp at this
  simp only
  have hlow := h.low d dwt hd hdd
  have hup : dwt ≤ a := by have := h.up1 d hd; rw [hdd, hsd] at this; simpa using this
  obtain ⟨i1, l1, p1⟩ := foldl_post (cafInner succ d dwt) (CafInv succ v) LeF
    (fun e ds' => W.LE (ds' e) (W.add (some dwt) (succ d e))) LeF.refl LeF.trans
    (fun s e hs => cafInner_step hc hd hlow s e hs)
    (fun e s s' hp hle => W.LE_trans (hle e) hp) vs ds h
  refine ⟨i1, l1, fun e => ?_⟩
  refine W.LE_trans (p1 e (hvs e)) ?_
  rcases succ d e with _ | ev
  · simp
  · simp; omega

theorem cafFwd_spec (hc : ClosedWithout succ v) (adj vs : List (Fin (n + 1)))
    (hadj : ∀ x, x ∈ adj) (hvs : ∀ x, x ∈ vs) :
    let D := cafFwd succ adj vs v
    (∀ x k, x ≠ v → D x = some k → Low succ v x k) ∧
    (∀ x, x ≠ v → W.LE (D x) (succ v x)) ∧
    (∀ d e, d ≠ v → W.LE (D e) (W.add (succ v d) (succ d e))) := by
  intro D
  have i0 : CafInv succ v (fun u => if u = v then some 0 else succ v u) := by
    constructor
    · intro x k hx hk
      simp only [hx, if_false] at hk
      exact Or.inl ⟨k, hk, Int.le_refl _⟩
    · intro x hx
      simp only [hx, if_false]; exact W.LE_refl _
  -- vertices equal to `v` in `adj` are skipped by `cafOuter` (no self loop)
  have hstep : ∀ s d, CafInv succ v s →
      CafInv succ v (cafOuter succ vs v s d) ∧ LeF (cafOuter succ vs v s d) s ∧
        (d ≠ v → ∀ e, W.LE (cafOuter succ vs v s d e) (W.add (succ v d) (succ d e))) := by
    intro s d hs
    by_cases hd : d = v
    · subst hd
      have : cafOuter succ vs d s d = s := by
        unfold cafOuter; rw [hc.noLoop d]
      rw [this]
      exact ⟨hs, LeF.refl _, fun h => absurd rfl h⟩
    · obtain ⟨a, b, c⟩ := cafOuter_step hc vs hvs s d hd hs
      exact ⟨a, b, fun _ => c⟩
  obtain ⟨i1, _, p1⟩ := foldl_post (cafOuter succ vs v) (CafInv succ v) LeF
    (fun d ds' => d ≠ v → ∀ e, W.LE (ds' e) (W.add (succ v d) (succ d e))) LeF.refl LeF.trans
    hstep (fun d s s' hp hle hd e => W.LE_trans (hle e) (hp hd e)) adj _ i0
  exact ⟨i1.low, i1.up1, fun d e hd => p1 d (hadj d) hd e⟩


theorem closedWithout_fwd {g : Zone n} (hv : VarNF g) :
    ClosedWithout (fun s d => edge g s d) (0 : Fin (n + 1)) :=
  ⟨fun _ _ _ ha hk hb hab => hv.tri_edge ha hk hb hab,
   fun _ _ _ _ ha hb hx hy => hv.cyc_edge ha hb hx hy, fun a => hv.noLoop a⟩

theorem closedWithout_bwd {g : Zone n} (hv : VarNF g) :
    ClosedWithout (fun s d => edge g d s) (0 : Fin (n + 1)) := by
  refine ⟨?_, ?_, fun a => hv.noLoop a⟩
  · intro a k b ha hk hb hab
    have := hv.tri_edge (k := k) hb hk ha (fun e => hab e.symm)
    rw [W.add_comm] at this
    exact this
  · intro a b x y ha hb hx hy
    exact hv.cyc_edge hb ha hx hy

theorem caf_tri {succ : Fin (n + 1) → Fin (n + 1) → W} {v : Fin (n + 1)} {D : Fin (n + 1) → W}
    (hc : ClosedWithout succ v)
    (hlow : ∀ x k, x ≠ v → D x = some k → Low succ v x k)
    (hup1 : ∀ x, x ≠ v → W.LE (D x) (succ v x))
    (hup2 : ∀ d e, d ≠ v → W.LE (D e) (W.add (succ v d) (succ d e)))
    {d e : Fin (n + 1)} (hd : d ≠ v) (he : e ≠ v) (hde : d ≠ e) :
    W.LE (D e) (W.add (D d) (succ d e)) := by
  rcases hk : D d with _ | k
  · simp
  rcases hev : succ d e with _ | ev
  · simp
  rcases hlow d k hd hk with ⟨a, ha, hak⟩ | ⟨d', a, b, hd', ha, hb, hab⟩
  · have := hup2 d e hd
    rw [ha, hev] at this
    exact W.LE_trans this (by simp; omega)
  · by_cases hd'e : d' = e
    · subst hd'e
      have h1 := hup1 d' he
      rw [ha] at h1
      have := hc.cyc d' d b ev hd' hd hb hev
      exact W.LE_trans h1 (by simp; omega)
    · have t := hc.tri d' d e hd' hd he hd'e
      rw [hb, hev] at t
      have h2 := hup2 d' e hd'
      rw [ha] at h2
      rcases hz : succ d' e with _ | z
      · rw [hz] at t; simp at t
      · rw [hz] at t h2; simp at t h2
        exact W.LE_trans h2 (by simp; omega)

/-- the search is sound: an assignment that respects the edges respects its values -/
theorem Low.sound {succ : Fin (n + 1) → Fin (n + 1) → W} {v x : Fin (n + 1)} {k : Int}
    (h : Low succ v x k) {f : Fin (n + 1) → Int} (hf : ∀ a b w, succ a b = some w → f b - f a ≤ w) :
    f x - f v ≤ k := by
  rcases h with ⟨a, ha, hak⟩ | ⟨d, a, b, _, ha, hb, hab⟩
  · have := hf _ _ _ ha; omega
  · have := hf _ _ _ ha; have := hf _ _ _ hb; omega

/-- `apply_delta` of a list that enumerates a partial function `F` on the edges -/
theorem edge_applyDelta_fun (δ : List (Fin (n + 1) × Fin (n + 1) × Int)) (g : Zone n)
    (F : Fin (n + 1) → Fin (n + 1) → W) (hF : ∀ a b k, (a, b, k) ∈ δ ↔ F a b = some k)
    (a b : Fin (n + 1)) :
    edge (applyDelta g δ) a b = match F a b with | some k => some k | none => edge g a b := by
  rcases hk : F a b with _ | k
  · refine edge_applyDelta_none δ g a b (fun e he h => ?_)
    have := (hF e.1 e.2.1 e.2.2).1 he
    rw [h.1, h.2, hk] at this; cases this
  · rw [edge_applyDelta δ g a b k (fun e he h1 h2 => by
      have := (hF e.1 e.2.1 e.2.2).1 he
      rw [h1, h2, hk] at this; exact (Option.some.inj this).symm)]
    exact if_pos ⟨(a, b, k), (hF a b k).2 hk, rfl, rfl⟩

/-- the edges of `closeAfterAssign .. g 0`: the marked vertices get their distances as bounds -/
theorem closeAfterAssign_edges (adjF adjB vs : List (Fin (n + 1))) (hvs : ∀ x, x ∈ vs) (g : Zone n)
    (a b : Fin (n + 1)) :
    edge (closeAfterAssign adjF adjB vs g 0) a b =
      match (if a = 0 then (if b = 0 then none else cafFwd (fun s d => edge g s d) adjF vs 0 b)
             else if b = 0 then cafFwd (fun s d => edge g d s) adjB vs 0 a else none) with
      | some k => some k
      | none => edge g a b := by
  unfold closeAfterAssign
  dsimp only
  generalize cafFwd (fun s d => edge g s d) adjF vs 0 = df
  generalize cafFwd (fun s d => edge g d s) adjB vs 0 = db
  refine edge_applyDelta_fun _ g (fun a b => if a = 0 then (if b = 0 then none else df b)
    else if b = 0 then db a else none) (fun a b k => ?_) a b
  simp only [List.mem_append, List.mem_filterMap]
  constructor
  · rintro (⟨x, _, hx⟩ | ⟨x, _, hx⟩) <;> by_cases h0 : x = 0 <;>
      simp only [h0, if_true, if_false, Option.map_eq_some_iff, reduceCtorEq] at hx <;>
      obtain ⟨k', hk', he⟩ := hx <;> cases he <;> simp [h0, hk']
  · intro h
    by_cases ha : a = 0
    · by_cases hb : b = 0
      · simp [ha, hb] at h
      · simp only [ha, hb, if_true, if_false] at h
        exact Or.inl ⟨b, hvs b, by simp [hb, h, ha]⟩
    · by_cases hb : b = 0
      · simp only [ha, hb, if_true, if_false] at h
        exact Or.inr ⟨a, hvs a, by simp [ha, h, hb]⟩
      · simp [ha, hb] at h

theorem closeAfterAssign_exact (adjF adjB vs : List (Fin (n + 1))) (hF : ∀ x, x ∈ adjF)
    (hB : ∀ x, x ∈ adjB) (hvs : ∀ x, x ∈ vs) {g : Zone n} (hv : VarNF g) (hb : isBottom g = false) :
    let r := closeAfterAssign adjF adjB vs g 0
    SplitNF r ∧ (∀ v, r.sat v ↔ g.sat v) ∧ ∀ s d, s ≠ 0 → d ≠ 0 → edge r s d = edge g s d := by
  intro r
  have E : ∀ a b, edge r a b = _ := closeAfterAssign_edges adjF adjB vs hvs g
  have cF := closedWithout_fwd hv
  have cB := closedWithout_bwd hv
  obtain ⟨lowF, up1F, up2F⟩ := cafFwd_spec cF adjF vs hF hvs
  obtain ⟨lowB, up1B, up2B⟩ := cafFwd_spec cB adjB vs hB hvs
  generalize cafFwd (fun s d => edge g s d) adjF vs 0 = df at *
  generalize cafFwd (fun s d => edge g d s) adjB vs 0 = db at *
  -- an unmarked vertex has no edge from (to) the zero vertex
  have rF : ∀ x, x ≠ 0 → edge r 0 x = df x := by
    intro x hx
    rw [E, if_pos rfl, if_neg hx]
    rcases hk : df x with _ | k
    · have := up1F x hx; rw [hk] at this
      rcases hg : edge g 0 x with _ | y
      · rfl
      · rw [hg] at this; simp at this
    · rfl
  have rB : ∀ x, x ≠ 0 → edge r x 0 = db x := by
    intro x hx
    rw [E, if_neg hx, if_pos rfl]
    rcases hk : db x with _ | k
    · have := up1B x hx; rw [hk] at this
      rcases hg : edge g x 0 with _ | y
      · rfl
      · rw [hg] at this; simp at this
    · rfl
  have eV : ∀ s d, s ≠ 0 → d ≠ 0 → edge r s d = edge g s d := by
    intro s d hs hd; rw [E, if_neg hs, if_neg hd]
  have e00 : edge r 0 0 = none := by rw [E, if_pos rfl, if_pos rfl]; exact hv.noLoop 0
  have hdec : Dec r g := by
    intro a b
    by_cases ha : a = 0
    · subst ha
      by_cases hb' : b = 0
      · subst hb'; rw [e00]; rw [show edge g 0 0 = none from hv.noLoop 0]; exact W.LE_refl _
      · rw [rF b hb']; exact up1F b hb'
    · by_cases hb' : b = 0
      · subst hb'; rw [rB a ha]; exact up1B a ha
      · rw [eV a b ha hb']; exact W.LE_refl _
  have hbtw : Btw g r := by
    refine ⟨hdec, fun x hx b a k hk => ?_⟩
    change edge r a b = some k at hk
    by_cases ha : a = 0
    · subst ha
      by_cases hb' : b = 0
      · subst hb'; rw [e00] at hk; cases hk
      · rw [rF b hb'] at hk
        exact (lowF b k hb' hk).sound (fun _ _ _ h => sat_edge hx h)
    · by_cases hb' : b = 0
      · subst hb'; rw [rB a ha] at hk
        have := (lowB a k ha hk).sound (f := fun u => - x u) (fun _ _ _ h => by
          have := sat_edge hx h; omega)
        omega
      · rw [eV a b ha hb'] at hk; exact sat_edge hx hk
  have hloop : NoSelfLoop r := by
    intro a
    by_cases ha : a = 0
    · subst ha; exact e00
    · show edge r a a = none
      rw [eV a a ha ha]; exact hv.noLoop a
  obtain ⟨x, hx⟩ := exists_sat_of_not_bottom hb
  refine ⟨splitNF_of_tri (hbtw.sol x hx) hloop (fun i j k hk hik hkj hij => ?_), hbtw.sat_iff, eV⟩
  by_cases hj0 : j = 0
  · -- the edge `0 → i` against `0 → k → i`
    subst hj0
    have hi0 : i ≠ 0 := hij
    show W.LE (edge r 0 i) (W.add (edge r k i) (edge r 0 k))
    rw [rF i hi0, rF k hk, eV k i hk hi0, W.add_comm]
    exact caf_tri cF lowF up1F up2F hk hi0 (fun e => hik e.symm)
  by_cases hi0 : i = 0
  · -- the edge `j → 0` against `j → k → 0`
    subst hi0
    show W.LE (edge r j 0) (W.add (edge r k 0) (edge r j k))
    rw [rB j hj0, rB k hk, eV j k hj0 hk]
    exact caf_tri cB lowB up1B up2B hk hj0 hkj
  · show W.LE (edge r j i) (W.add (edge r k i) (edge r j k))
    rw [eV j i hj0 hi0, eV k i hk hi0, eV j k hj0 hk, W.add_comm]
    exact hv.tri_edge hj0 hk hi0 (fun e => hij e.symm)

end DbmIncr
end Crab
