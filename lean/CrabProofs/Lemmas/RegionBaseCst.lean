import CrabModel.Dom.RegionSmash
import CrabProofs.Lemmas.Interval
import CrabProofs.Lemmas.CstMap

/-!
  A non-trivial instance of the base-domain interface `Rgn.Base`: constant propagation over the
  ghost variables (`GVar → Option Int`, `none` = unknown).  It shows that the laws the
  `RegionSmash` theorems assume are satisfiable by a real (non-relational) domain and serves as
  the base of the `ref_make` counterexample about the address of the assigned reference.
-/
namespace Crab
namespace Rgn

abbrev CB := CstMap GVar

def cstBase : Base CB where
  γ := CstMap.γ
  assign := fun x y b => b.set x (b y)
  assignC := fun x k b => b.set x (some k)
  assignAdd := fun x y k b => b.set x ((b y).map (· + k))
  weakAssign := fun x y b => CstMap.join b (b.set x (b y))
  weakAssignC := fun x k b => CstMap.join b (b.set x (some k))
  forget := fun x b => b.set x none
  expand := fun x y b => b.set y (b x)
  join := CstMap.join
  widen := CstMap.join
  toItv := fun b x => match b x with | some k => Itv.single k | none => Itv.top
  assign_sound := by
    intro b ρ x y h
    exact CstMap.γ_set x (b y) (ρ y) h (fun k' hk => h y k' hk)
  assignC_sound := by
    intro b ρ x k h
    exact CstMap.γ_set x (some k) k h (fun k' hk => by cases hk; rfl)
  assignAdd_sound := by
    intro b ρ x y k h
    refine CstMap.γ_set x _ _ h ?_
    intro k' hk
    cases hy : b y with
    | none => rw [hy] at hk; cases hk
    | some ky => rw [hy] at hk; simp at hk; rw [h y ky hy]; exact hk
  weakAssign_keep := fun _ _ h => CstMap.γ_join_left h
  weakAssign_sound := by
    intro b ρ x y h
    exact CstMap.γ_join_right (CstMap.γ_set x (b y) (ρ y) h (fun k' hk => h y k' hk))
  weakAssignC_keep := fun _ _ h => CstMap.γ_join_left h
  weakAssignC_sound := by
    intro b ρ x k h
    exact CstMap.γ_join_right (CstMap.γ_set x (some k) k h (fun k' hk => by cases hk; rfl))
  forget_sound := by
    intro b ρ x k h
    exact CstMap.γ_set x none k h (fun k' hk => by cases hk)
  expand_sound := by
    intro b ρ x y k h1 h2
    refine CstMap.γ_set y (b x) k h1 ?_
    intro k' hk
    have := h2 x k' hk
    simp only [Val.set, if_true] at this
    exact this
  join_left := CstMap.γ_join_left
  join_right := CstMap.γ_join_right
  widen_left := CstMap.γ_join_left
  widen_right := CstMap.γ_join_right
  toItv_sound := by
    intro b ρ x h
    cases hx : b x with
    | none => exact Itv.mem_top _
    | some k => simp only []; rw [h x k hx]; exact (Itv.mem_single k k).2 rfl

end Rgn
end Crab
