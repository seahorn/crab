import CrabModel.Dom.ZonesOps
import CrabProofs.Lemmas.DbmWiden

/-!
  Matrix-level facts behind the relational instances of C03 / C04 / C01
  (`CrabModel/Dom/ZonesOps.lean`): translation and renaming of indices, for every dimension `N`.
  (The textbook widening is in `Lemmas/DbmWiden.lean`.)
-/
namespace Crab

namespace Dbm
namespace Mat
variable {N : Nat}

theorem shiftBy_sat (m : Mat N) (d : Fin N → Int) (v : Fin N → Int) :
    (m.shiftBy d).sat v ↔ m.sat (fun i => v i - d i) := by
  constructor
  · intro h i j k hk
    have := h i j (k + (d i - d j)) (by simp [shiftBy, hk, W.add])
    simp only
    omega
  · intro h i j k hk
    simp only [shiftBy, get_ofFn] at hk
    obtain ⟨a, b, ha, hb, rfl⟩ := W.add_some_iff.1 hk
    cases hb
    have := h i j a ha
    simp only at this
    omega

theorem permute_sat (m : Mat N) (π : Fin N → Fin N) (hπ : ∀ i, π (π i) = i) (v : Fin N → Int) :
    (m.permute π).sat v ↔ m.sat (fun i => v (π i)) := by
  constructor
  · intro h i j k hk
    have := h (π i) (π j) k (by simp [permute, hπ, hk])
    simpa using this
  · intro h i j k hk
    simp only [permute, get_ofFn] at hk
    have := h (π i) (π j) k hk
    simpa [hπ] using this

end Mat
end Dbm
end Crab
