import CrabProofs.Lemmas.FunctorVPart

/-!
`value_partitioning_domain` over an arbitrary base: `operator|=` (the merging loop),
`apply_binary_op` as an upper bound (widenings) and as a lower bound (`&`, `&&`), `operator<=`, and
the invariant of their results.

After their early answers all of them look at how the operands are paired (`pairing_cases`): no
partitioning variable on either side, different variables, the same variable.  In the first two
cases the left operand is (made) a single partition and the right operand is smashed.
-/
namespace Crab
namespace Dom
namespace Fct
namespace VP
set_option linter.unusedSectionVars false

variable {V S : Type} [DecidableEq V] {D : VDom V S}

theorem pairing_cases {α : Type} (Q : α → Prop) (a b : VP D) {x y z : α}
    (hx : a.var = none → b.var = none → Q x) (hy : a.var ≠ b.var → Q y)
    (hz : a.var = b.var → a.var ≠ none → Q z) :
    Q (if a.var.isNone && b.var.isNone then x else if a.var ≠ b.var then y else z) := by
  refine binop_cases Q (fun h => ?_) (fun _ h => hy h) (fun h1 h2 => ?_)
  · simp only [Bool.and_eq_true, Option.isNone_iff_eq_none] at h; exact hx h.1 h.2
  · have he : a.var = b.var := Decidable.of_not_not h2
    refine hz he (fun hn => h1 ?_)
    rw [← he, hn]; rfl

/-! ### a value without partitioning variable is its one base value -/

theorem γ_single {a : VP D} (ha : Inv a) (hv : a.var = none) (s : S) : γ a s ↔ D.γ (firstVal a.parts) s := by
  obtain ⟨p, hp⟩ := ha.single hv
  rw [γ_iff, hp]; simp [γl, firstVal]

/-- `m_partitions[0].get_dom() = op(m_partitions[0].get_dom(), d)` on such a value -/
theorem γ_onFirst {a : VP D} (ha : Inv a) (hv : a.var = none) (f : D.B → D.B) (v : Option V) (s : S) :
    γ ⟨v, onFirst f a.parts⟩ s ↔ D.γ (f (firstVal a.parts)) s := by
  obtain ⟨p, hp⟩ := ha.single hv
  rw [γ_iff, hp]; simp [γl, onFirst, firstVal, Part.app]

theorem inv_onFirst {a : VP D} (ha : Inv a) (hv : a.var = none) (f : D.B → D.B) (v : Option V) :
    Inv (⟨v, onFirst f a.parts⟩ : VP D) := by
  obtain ⟨p, hp⟩ := ha.single hv
  rw [hp]; exact inv_single _ _

/-- ... and `remove_partitions()` yields such a value, which contains everything -/
theorem removeParts_val {a : VP D} (ha : Inv a) {s : S} (h : γ a s) : D.γ (firstVal (removeParts a).parts) s :=
  (γ_single (removeParts_inv ha) (removeParts_var a) s).1 (removeParts_sound ha h)

/-! ### `operator|=` -/

theorem joinOne_sound (r : Part D) (k : List (Part D) → List (Part D)) (R : Prop) (s : S)
    (hk : ∀ l, (γl l s ∨ R) → γl (k l) s) (l : List (Part D))
    (h : γl l s ∨ D.γ r.val s ∨ R) : γl (joinOne r k l) s := by
  induction l with
  | nil =>
    simp only [joinOne]
    rcases h with h | h | h
    · exact absurd h (γl_nil s)
    · exact γl_head h
    · exact γl_tail (hk [] (Or.inr h))
  | cons p ps ih =>
    simp only [joinOne]
    split
    · rcases h with h | h
      · rcases γl_cons.1 h with h1 | h1
        · exact γl_head h1
        · exact γl_tail (ih (Or.inl h1))
      · exact γl_tail (ih (Or.inr h))
    · split
      · rcases h with h | h | h
        · exact γl_tail (hk _ (Or.inl h))
        · exact γl_head h
        · exact γl_tail (hk _ (Or.inr h))
      · apply hk
        rcases h with h | h | h
        · have h1 : D.γ (Part.joinKey p r).val s ∨ γl ps s := (γl_cons (p := p)).1 h
          rcases absorb_sound (Part.joinKey p r) ps s h1 with h2 | h2
          · exact Or.inl (γl_head (D.join_l _ _ _ h2))
          · exact Or.inl (γl_tail h2)
        · exact Or.inl (γl_head (D.join_r _ _ _ h))
        · exact Or.inr h

theorem joinSame_sound (rs l : List (Part D)) (s : S) (h : γl l s ∨ γl rs s) : γl (joinSame rs l) s := by
  induction rs generalizing l with
  | nil =>
    rcases h with h | h
    · exact h
    · exact absurd h (γl_nil s)
  | cons r rs ih =>
    simp only [joinSame]
    apply joinOne_sound r (joinSame rs) (γl rs s) s (fun l' h' => ih l' h') l
    rcases h with h | h
    · exact Or.inl h
    · exact Or.inr (γl_cons.1 h)

theorem joinOne_ne_nil (r : Part D) (k : List (Part D) → List (Part D))
    (hk : ∀ l, l ≠ [] → k l ≠ []) (l : List (Part D)) : joinOne r k l ≠ [] := by
  induction l with
  | nil => simp [joinOne]
  | cons p ps ih =>
    simp only [joinOne]
    split
    · simp
    · split
      · simp
      · exact hk _ (by simp)

theorem joinSame_ne_nil (rs l : List (Part D)) (h : l ≠ []) : joinSame rs l ≠ [] := by
  induction rs generalizing l with
  | nil => exact h
  | cons r rs ih => exact joinOne_ne_nil r _ (fun l' h' => ih l' h') l

theorem join_sound {a b : VP D} (ha : Inv a) (hb : Inv b) (s : S) (h : γ a s ∨ γ b s) : γ (join a b) s := by
  refine binop_cases (γ · s) (fun hc => h.resolve_left (not_γ_of_isBottom hc s))
    (fun _ hc => h.resolve_right (not_γ_of_isBottom hc s)) fun _ _ => ?_
  refine pairing_cases (γ · s) a b (fun hva hvb => ?_) (fun _ => ?_)
    (fun _ _ => joinSame_sound b.parts a.parts s h)
  · exact (γ_onFirst ha hva _ _ s).2 (h.elim (fun h => D.join_l _ _ _ ((γ_single ha hva s).1 h))
      (fun h => D.join_r _ _ _ ((γ_single hb hvb s).1 h)))
  · exact (γ_onFirst (removeParts_inv ha) (removeParts_var a) _ _ s).2
      (D.foldl_join_sound _ _ _ s (h.imp_left (removeParts_val ha)))

theorem join_inv {a b : VP D} (ha : Inv a) (hb : Inv b) : Inv (join a b) :=
  binop_cases Inv (fun _ => hb) (fun _ _ => ha) fun _ _ =>
    pairing_cases Inv a b (fun hva _ => inv_onFirst ha hva _ _)
      (fun _ => inv_onFirst (removeParts_inv ha) (removeParts_var a) _ _)
      (fun _ hn => ⟨joinSame_ne_nil _ _ ha.1, fun hv => absurd hv hn⟩)

/-! ### `apply_binary_op` -/

/-- induction over two vectors with the same partitions (`has_same_partitions`) -/
theorem sameKeys_ind {P : List (Part D) → List (Part D) → Prop} (nil : P [] [])
    (cons : ∀ p q ps qs, Itv.beq p.key q.key = true → sameKeys ps qs = true → P ps qs → P (p :: ps) (q :: qs)) :
    ∀ l1 l2, sameKeys l1 l2 = true → P l1 l2
  | [], [], _ => nil
  | p :: ps, q :: qs, h => by
    simp only [sameKeys, Bool.and_eq_true] at h
    exact cons p q ps qs h.1 h.2 (sameKeys_ind nil cons ps qs h.2)
  | [], _ :: _, h => by cases h
  | _ :: _, [], h => by cases h

theorem zipOp_upper (w : D.B → D.B → D.B) (hw : D.USound w) (l1 l2 : List (Part D)) (s : S)
    (hs : sameKeys l1 l2 = true) : (γl l1 s ∨ γl l2 s) → γl (zipOp w l1 l2) s := by
  refine sameKeys_ind (P := fun l1 l2 => (γl l1 s ∨ γl l2 s) → γl (zipOp w l1 l2) s) ?_ ?_ l1 l2 hs
  · exact fun h => h.elim id id
  · intro p q ps qs _ _ ih h
    rcases h.imp γl_cons.1 γl_cons.1 with (h1 | h1) | (h1 | h1)
    · exact γl_head (hw _ _ _ (Or.inl h1))
    · exact γl_tail (ih (Or.inl h1))
    · exact γl_head (hw _ _ _ (Or.inr h1))
    · exact γl_tail (ih (Or.inr h1))

theorem zipOp_ne_nil (w : D.B → D.B → D.B) {l1 l2 : List (Part D)} (hs : sameKeys l1 l2 = true)
    (h : l1 ≠ []) : zipOp w l1 l2 ≠ [] :=
  sameKeys_ind (P := fun l1 l2 => l1 ≠ [] → zipOp w l1 l2 ≠ []) id (fun _ _ _ _ _ _ _ _ => List.cons_ne_nil _ _)
    l1 l2 hs h

theorem sameKeys_length {l1 l2 : List (Part D)} (hs : sameKeys l1 l2 = true) : l1.length = l2.length :=
  sameKeys_ind (P := fun l1 l2 => l1.length = l2.length) rfl (fun _ _ _ _ _ _ ih => congrArg (· + 1) ih) l1 l2 hs

/-- what the element-wise branch needs to be a lower bound on the operands `a`, `b` -/
def ZipLower (dop : D.B → D.B → D.B) (a b : VP D) : Prop :=
  a.var = b.var → hasSame a b = true → ∀ s, γl a.parts s → γl b.parts s → γl (zipOp dop a.parts b.parts) s

theorem applyBin_upper (iop : Itv → Itv → Itv) {w : D.B → D.B → D.B} (hw : D.USound w) {a b : VP D}
    (ha : Inv a) (hb : Inv b) (s : S) (h : γ a s ∨ γ b s) : γ (applyBin iop w a b) s := by
  refine pairing_cases (γ · s) a b (fun hva hvb => ?_) (fun _ => ?_) (fun _ _ => ?_)
  · exact (γ_onFirst ha hva _ _ s).2 (hw _ _ s (h.imp (γ_single ha hva s).1 (γ_single hb hvb s).1))
  · exact (γ_onFirst (removeParts_inv ha) (removeParts_var a) _ _ s).2
      (hw _ _ s (h.imp (removeParts_val ha) mergeParts_sound))
  · split
    · rename_i hs
      simp only [hasSame, Bool.and_eq_true] at hs
      exact zipOp_upper w hw _ _ s hs.2 h
    · exact ⟨_, List.mem_singleton.2 rfl, hw _ _ s (h.imp mergeParts_sound mergeParts_sound)⟩

theorem applyBin_lower (iop : Itv → Itv → Itv) {g : D.B → D.B → D.B} (hg : D.LSound g) {a b : VP D}
    (ha : Inv a) (hb : Inv b) (hz : ZipLower g a b) (s : S) (h1 : γ a s) (h2 : γ b s) :
    γ (applyBin iop g a b) s := by
  refine pairing_cases (γ · s) a b (fun hva hvb => ?_) (fun _ => ?_) (fun he _ => ?_)
  · exact (γ_onFirst ha hva _ _ s).2 (hg _ _ s ((γ_single ha hva s).1 h1) ((γ_single hb hvb s).1 h2))
  · exact (γ_onFirst (removeParts_inv ha) (removeParts_var a) _ _ s).2
      (hg _ _ s (removeParts_val ha h1) (mergeParts_sound h2))
  · split
    · rename_i hs; exact hz he hs s h1 h2
    · exact ⟨_, List.mem_singleton.2 rfl, hg _ _ s (mergeParts_sound h1) (mergeParts_sound h2)⟩

theorem applyBin_inv (iop : Itv → Itv → Itv) (g : D.B → D.B → D.B) {a b : VP D} (ha : Inv a) (_hb : Inv b) :
    Inv (applyBin iop g a b) := by
  refine pairing_cases Inv a b (fun hva _ => inv_onFirst ha hva _ _)
    (fun _ => inv_onFirst (removeParts_inv ha) (removeParts_var a) _ _) (fun _ hn => ?_)
  split
  · rename_i hs
    simp only [hasSame, Bool.and_eq_true] at hs
    exact ⟨zipOp_ne_nil g hs.2 ha.1, fun hv => absurd hv hn⟩
  · exact inv_single _ _

/-- the element-wise branch is harmless on a single partition -/
theorem zipLower_of_short {g : D.B → D.B → D.B} (hg : D.LSound g) {a b : VP D}
    (h : a.parts.length ≤ 1) : ZipLower g a b := by
  intro _ hs s h1 h2
  simp only [hasSame, Bool.and_eq_true] at hs
  have hl := sameKeys_length hs.2
  match hp : a.parts, hq : b.parts with
  | [], _ => rw [hp] at h1; exact absurd h1 (γl_nil s)
  | [p], [q] =>
    rw [hp] at h1; rw [hq] at h2
    simp only [zipOp]
    refine ⟨_, List.mem_singleton.2 rfl, hg _ _ _ ?_ ?_⟩
    · obtain ⟨p', hp', hx⟩ := h1
      rw [List.mem_singleton] at hp'; subst hp'; exact hx
    · obtain ⟨q', hq', hx⟩ := h2
      rw [List.mem_singleton] at hq'; subst hq'; exact hx
  | [p], [] => rw [hp, hq] at hl; simp at hl
  | [p], _ :: _ :: _ => rw [hp, hq] at hl; simp at hl
  | _ :: _ :: _, _ => rw [hp] at h; simp at h

/-! ### `&`, `&&`, `||` -/

/-- `&` and `&&` are the same code over (`Itv.meet`, `D.meet`) and (`Itv.narrow`, `D.narrow`) -/
theorem lowerWith_sound (iop : Itv → Itv → Itv) {g : D.B → D.B → D.B} (hg : D.LSound g) {a b : VP D}
    (ha : Inv a) (hb : Inv b)
    (hz : ¬ (isBottom a || isTop b) = true → ¬ (isTop a || isBottom b) = true → ZipLower g a b) (s : S)
    (h1 : γ a s) (h2 : γ b s) :
    γ (if isBottom a || isTop b then a else if isTop a || isBottom b then b else applyBin iop g a b) s :=
  binop_cases (γ · s) (fun _ => h1) (fun _ _ => h2) fun c1 c2 => applyBin_lower _ hg ha hb (hz c1 c2) s h1 h2

theorem lowerWith_inv (iop : Itv → Itv → Itv) (g : D.B → D.B → D.B) {a b : VP D} (ha : Inv a) (hb : Inv b) :
    Inv (if isBottom a || isTop b then a else if isTop a || isBottom b then b else applyBin iop g a b) :=
  binop_cases Inv (fun _ => ha) (fun _ _ => hb) fun _ _ => applyBin_inv _ _ ha hb

theorem meet_inv {a b : VP D} (ha : Inv a) (hb : Inv b) : Inv (meet a b) := lowerWith_inv _ _ ha hb
theorem narrow_inv {a b : VP D} (ha : Inv a) (hb : Inv b) : Inv (narrow a b) := lowerWith_inv _ _ ha hb

/-- the early answers of `||`: one operand is bottom or the other one top -/
theorem γ_of_early (t : D.TopSound) {a b : VP D} (hb : Inv b) {s : S} (h : γ a s ∨ γ b s)
    (hc : (isBottom a || isTop b) = true) : γ b s :=
  (Bool.or_eq_true_iff.1 hc).elim (fun hc => h.resolve_left (not_γ_of_isBottom hc s))
    (fun hc => γ_of_isTop t hb.1 hc s)

theorem widenWith_inv (iw : Itv → Itv → Itv) (w : D.B → D.B → D.B) {a b : VP D} (ha : Inv a) (hb : Inv b) :
    Inv (widenWith iw w a b) :=
  binop_cases Inv (fun _ => hb) (fun _ _ => ha) fun _ _ => applyBin_inv _ _ ha hb

/-! ### `operator<=` -/

theorem leqReach_sound (p : Part D) (qs : List (Part D)) (h : leqReach p qs = true) :
    ∃ q ∈ qs, D.leq p.val q.val = true := by
  induction qs with
  | nil => simp [leqReach] at h
  | cons q qs ih =>
    simp only [leqReach] at h
    split at h
    · simp only [Bool.or_eq_true] at h
      rcases h with h | h
      · exact ⟨q, List.mem_cons_self, h⟩
      · obtain ⟨q', hq', hl⟩ := ih h
        exact ⟨q', List.mem_cons_of_mem _ hq', hl⟩
    · cases h

/-- `if (!c) return false; ...`: the run continues only on a yes -/
theorem of_guard {c x : Bool} (h : (if !c then false else x) = true) : c = true ∧ x = true := by
  cases c
  · cases h
  · exact ⟨rfl, h⟩

theorem leqOne_sound (p : Part D) (k : List (Part D) → Bool) (r : List (Part D))
    (h : leqOne p k r = true) :
    (∀ s, D.γ p.val s → γl r s) ∧ ∃ r', (∀ q, q ∈ r' → q ∈ r) ∧ k r' = true := by
  have hbot : ∀ {r r' : List (Part D)}, D.isBot p.val = true → k r' = true → (∀ q, q ∈ r' → q ∈ r) →
      (∀ s, D.γ p.val s → γl r s) ∧ ∃ r', (∀ q, q ∈ r' → q ∈ r) ∧ k r' = true :=
    fun hb hk hr => ⟨fun s hg => absurd hg (D.isBot_sound _ s hb), _, hr, hk⟩
  induction r with
  | nil => exact hbot (of_guard h).1 (of_guard h).2 (fun _ hq => hq)
  | cons q qs ih =>
    unfold leqOne at h
    by_cases c1 : Bound.lt p.key.ub q.key.lb = true
    · rw [if_pos c1] at h
      exact hbot (of_guard h).1 (of_guard h).2 (fun _ hq => hq)
    · rw [if_neg c1] at h
      by_cases c2 : Bound.lt q.key.ub p.key.lb = true
      · rw [if_pos c2] at h
        obtain ⟨h1, r', hr', hk⟩ := ih h
        exact ⟨fun s hg => γl_mono (fun _ hx => List.mem_cons_of_mem _ hx) (h1 s hg), r',
          fun x hx => List.mem_cons_of_mem _ (hr' x hx), hk⟩
      · rw [if_neg c2] at h
        by_cases c3 : Bound.le p.key.ub q.key.ub = true
        · rw [if_pos c3] at h
          exact ⟨fun s hg => ⟨q, List.mem_cons_self, D.leq_sound _ _ s (of_guard h).1 hg⟩, q :: qs,
            fun _ hq => hq, (of_guard h).2⟩
        · rw [if_neg c3] at h
          refine ⟨fun s hg => ?_, qs, fun x hx => List.mem_cons_of_mem _ hx, (of_guard h).2⟩
          rcases Bool.or_eq_true_iff.1 (of_guard h).1 with hl | hl
          · exact ⟨q, List.mem_cons_self, D.leq_sound _ _ s hl hg⟩
          · obtain ⟨q', hq', hl'⟩ := leqReach_sound p qs hl
            exact ⟨q', List.mem_cons_of_mem _ hq', D.leq_sound _ _ s hl' hg⟩

theorem leqSame_sound (l r : List (Part D)) (h : leqSame l r = true) (s : S) (hg : γl l s) : γl r s := by
  induction l generalizing r with
  | nil => exact absurd hg (γl_nil s)
  | cons p ps ih =>
    simp only [leqSame] at h
    obtain ⟨h1, r', hr', hk⟩ := leqOne_sound p (leqSame ps) r h
    rcases γl_cons.1 hg with h2 | h2
    · exact h1 s h2
    · exact γl_mono hr' (ih r' hk h2)

theorem leq_sound (t : D.TopSound) {a b : VP D} (ha : Inv a) (hb : Inv b) (h : leq a b = true) (s : S)
    (hg : γ a s) : γ b s := by
  revert h
  refine binop_cases (· = true → γ b s) (fun hc _ => absurd hg (not_γ_of_isBottom hc s))
    (fun _ hc _ => γ_of_isTop t hb.1 hc s) fun _ _ => ?_
  refine pairing_cases (· = true → γ b s) a b (fun hva hvb h => ?_) (fun _ h => ?_)
    (fun _ _ h => leqSame_sound _ _ h s hg)
  · exact (γ_single hb hvb s).2 (D.leq_sound _ _ s h ((γ_single ha hva s).1 hg))
  · obtain ⟨p, hp, hx⟩ := hg
    have := List.all_eq_true.1 h p hp
    simp only [Bool.or_eq_true, List.any_eq_true] at this
    rcases this with hb' | ⟨q, hq, hl⟩
    · exact absurd hx (D.isBot_sound _ s hb')
    · exact ⟨q, hq, D.leq_sound _ _ s hl hx⟩

end VP
end Fct
end Dom
end Crab
