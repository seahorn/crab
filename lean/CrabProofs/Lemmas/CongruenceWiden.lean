import CrabProofs.Lemmas.Congruence

/-! The widening of `Crab.Cong` (`congruence::operator||`, "equivalent to join, domain is flat"):
    every strict step lowers (rank, |modulus|) lexicographically, where the rank separates
    bottom, the constants (modulus 0) and the proper congruences. -/
namespace Crab
namespace Cong

/-- rank of a congruence value: bottom above the constants above the proper congruences -/
def wrank (c : Cong) : Nat := if c.isBot then 2 else if c.a = 0 then 1 else 0

/-- (rank, |modulus|): decreases lexicographically on strict widening steps -/
def wmeas (c : Cong) : Nat × Nat := (wrank c, c.a.natAbs)

theorem mk'_a_natAbs (a b : Int) : (mk' a b).a.natAbs = a.natAbs := by
  unfold mk'
  simp only
  split <;> simp

theorem mk'_isBot (a b : Int) : (mk' a b).isBot = false := rfl

theorem mk'_a_eq_zero_iff (a b : Int) : (mk' a b).a = 0 ↔ a = 0 := by
  unfold mk'
  simp only
  split <;> omega

/-- on non-bottom operands the join is the normalised gcd class in every case: where the code
    answers `top` directly the gcd is 1 -/
theorem join_eq_mk' {x o : Cong} (hx : x.isBot = false) (ho : o.isBot = false) :
    join x o = mk' (gcd3 x.a o.a (iabs (x.b - o.b))) (imin x.b o.b) := by
  rw [join, if_neg (by simp [hx]), if_neg (by simp [ho])]
  by_cases ht : (x.isTop || o.isTop) = true
  · have h1 : gcd3 x.a o.a (iabs (x.b - o.b)) ∣ 1 := by
      simp only [isTop, Bool.or_eq_true, beq_iff_eq] at ht
      rcases ht with e | e
      · exact e ▸ gcd3_dvd_1 ..
      · exact e ▸ gcd3_dvd_2 ..
    rw [if_pos ht, Int.eq_one_of_dvd_one (show 0 ≤ gcd3 x.a o.a (iabs (x.b - o.b)) from gcd_nonneg _ _) h1]
    simp [mk', top, Int.tmod_one]
  · rw [if_neg ht]

theorem widen_wmeas_lt {x o : Cong} (h : leq o x = false) :
    Prod.Lex (· < ·) (· < ·) (wmeas (widen x o)) (wmeas x) := by
  have hob : o.isBot = false := by
    cases hb : o.isBot
    · rfl
    · rw [leq_of_isBot hb] at h; cases h
  show Prod.Lex _ _ (wmeas (join x o)) _
  cases hxb : x.isBot
  · -- the new modulus `g` divides `x.a`, and `x.a` does not divide it (else `o` is below `x`):
    -- a constant becomes a proper class, a proper class gets a strictly smaller modulus
    rw [join_eq_mk' hxb hob]
    have hd1 := gcd3_dvd_1 x.a o.a (iabs (x.b - o.b))
    have hd2 := gcd3_dvd_2 x.a o.a (iabs (x.b - o.b))
    have hd3 := dvd_iabs.mp (gcd3_dvd_3 x.a o.a (iabs (x.b - o.b)))
    generalize gcd3 x.a o.a (iabs (x.b - o.b)) = g at hd1 hd2 hd3
    have hnd : ¬ x.a ∣ g := fun hxg => by
      have h2 : x.a ∣ o.b - x.b := by
        rw [← Int.neg_sub]; exact Int.dvd_neg.mpr (Int.dvd_trans hxg hd3)
      rw [(leq_iff_dvd hob hxb).mpr ⟨Int.dvd_trans hxg hd2, h2⟩] at h; cases h
    have hg0 : g ≠ 0 := fun h0 => hnd (h0 ▸ Int.dvd_zero _)
    simp only [wmeas, wrank, mk'_isBot, hxb, mk'_a_natAbs, mk'_a_eq_zero_iff, hg0,
      Bool.false_eq_true, if_false]
    by_cases hxa : x.a = 0
    · rw [if_pos hxa]; exact Prod.Lex.left _ _ Nat.zero_lt_one
    · rw [if_neg hxa]
      have hle := Nat.le_of_dvd (Int.natAbs_pos.mpr hxa) (Int.natAbs_dvd_natAbs.mpr hd1)
      have hne : g.natAbs ≠ x.a.natAbs := fun e =>
        hnd (Int.natAbs_dvd_natAbs.mp (e ▸ Nat.dvd_refl _))
      exact Prod.Lex.right 0 (by omega)
  · -- x is bottom: the result is the (non-bottom) right argument
    rw [join, if_pos hxb]
    refine Prod.Lex.left _ _ ?_
    simp only [wrank, hxb, hob, if_true, Bool.false_eq_true, if_false]
    split <;> omega

end Cong
end Crab
