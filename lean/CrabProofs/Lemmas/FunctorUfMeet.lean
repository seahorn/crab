import CrabProofs.Lemmas.FunctorUf

/-!
`uf_domain`: the union-find of `congruence_closure_solver` only ever relates terms with the same
value, and `build_dag_term` returns, for the class of `t`, a term with the value of `t` (fresh
term variables get the value of the class they stand for).

The proofs are done once for an abstract value `val` of the terms of the solver that is constant
on classes and commutes with applications.  It is instantiated with the value under a valuation
(soundness) and with the constant 0 under the interpretation "every symbol is 0" (which has no
premise to meet and so yields the bounds of the rebuilt terms for every input).
-/
namespace Crab
namespace Dom
namespace Fct
namespace Uf
set_option linter.unusedSectionVars false

variable {V F : Type} [DecidableEq V] [DecidableEq F] (I : F → List Int → Int)

/-- `choose_non_var` returns one of the candidates -/
def ChooseOK (choose : List (Term F) → Option (Term F)) : Prop := ∀ l t, choose l = some t → t ∈ l

/-- every parent link relates terms with the same value -/
def PV (val : Term F → Int) (pm : PMap F) : Prop := ∀ e ∈ pm, val e.1 = val e.2

section classes
variable {val : Term F → Int} {pm : PMap F}

theorem pfind_val (h : PV val pm) (fuel : Nat) (t : Term F) :
    val (pfind fuel pm t) = val t := by
  induction fuel generalizing t with
  | zero => rfl
  | succ n ih =>
    simp only [pfind]
    split
    · rfl
    · rename_i p hl
      split
      · rfl
      · rw [ih p]; exact (h _ (look_mem hl)).symm

theorem pmerge_pv (h : PV val pm) (e : Term F × Term F)
    (he : val e.1 = val e.2) : PV val (pmerge pm e) := by
  unfold pmerge
  split
  · exact h
  · refine List.forall_mem_cons.2 ⟨he.trans ?_, fun q hq => h q (List.mem_filter.1 hq).1⟩
    cases hl : look pm e.2 with
    | none => rfl
    | some p => exact h _ (look_mem hl)

theorem closure_pv (eqs : List (Term F × Term F)) (he : ∀ e ∈ eqs, val e.1 = val e.2) :
    PV val (closure eqs) :=
  List.foldlRecOn eqs pmerge (motive := PV val) (fun _ h => nomatch h) fun _ h e hm => pmerge_pv h e (he e hm)

theorem members_val (h : PV val pm) {terms : List (Term F)} {t x : Term F}
    (hx : x ∈ members pm terms t) : val x = val t := by
  simp only [members, List.mem_filter, decide_eq_true_eq] at hx
  rw [← pfind_val h (pm.length + 1) x, ← pfind_val h (pm.length + 1) t]
  exact congrArg val hx.2

end classes


theorem evalL_append (ρ : Nat → Int) : (xs ys : List (Term F)) →
    Term.evalL I ρ (xs ++ ys) = Term.evalL I ρ xs ++ Term.evalL I ρ ys
  | [], ys => rfl
  | x :: xs, ys => by simp [Term.evalL, evalL_append ρ xs ys]

theorem boundedL_append (n : Nat) : (xs ys : List (Term F)) →
    Term.boundedL n (xs ++ ys) = (Term.boundedL n xs && Term.boundedL n ys)
  | [], ys => by simp [Term.boundedL]
  | x :: xs, ys => by simp [Term.boundedL, boundedL_append n xs ys, Bool.and_assoc]

theorem boundedL_mem {n : Nat} : (xs : List (Term F)) → Term.boundedL n xs = true → ∀ x ∈ xs, x.bounded n = true
  | [], _, x, hx => by simp at hx
  | y :: ys, h, x, hx => by
    simp only [Term.boundedL, Bool.and_eq_true] at h
    rcases List.mem_cons.1 hx with rfl | hx
    · exact h.1
    · exact boundedL_mem ys h.2 x hx

/-! ### `build_dag_term` -/

/-- the invariant of `build_dag_term`: the cache sends classes to bounded terms with their value -/
abbrev CacheOK (val : Term F → Int) (st : BSt F) (ρ : Nat → Int) : Prop := MemoOK I val st.next st.cache ρ

section rebuild
variable {val : Term F → Int} {choose : List (Term F) → Option (Term F)} (hch : ChooseOK choose)
  {pm : PMap F} (hpv : PV val pm) (happ : ∀ f args, val (.app f args) = I f (args.map val))
include hch hpv happ

theorem dag_spec (terms : List (Term F)) :
    (fuel : Nat) → (stack : List (Term F)) → (t : Term F) → (st : BSt F) → (ρ : Nat → Int) →
    CacheOK I val st ρ → Yields I (CacheOK I val) BSt.next st ρ (dag choose pm terms fuel stack t st) (val t)
  | 0, _, t, st, ρ, hc => .fresh _ _ rfl (hc.ext (upd_ext _ _ _) (Nat.le_succ _))
  | fuel + 1, stack, t, st, ρ, hc => by
    simp only [dag]
    split
    · rename_i r hl
      exact .ret st (Nat.le_refl _) hc (hc _ (look_mem hl)).1 (hc _ (look_mem hl)).2
    · split
      · exact .fresh _ _ rfl (hc.ext (upd_ext _ _ _) (Nat.le_succ _))
      · split
        · rename_i f args hsel
          -- the chosen member has the value of the class, its arguments are rebuilt in turn
          rw [foldl_thread, List.nil_append, ← members_val hpv (List.mem_filter.1 (hch _ _ hsel)).1, happ]
          exact (YieldsL.thread (val := val) (fun c st ρ hc => pfind_val hpv _ c ▸
              dag_spec terms fuel (t :: stack) (pfindF pm c) st ρ hc) args st ρ hc).app f _ rfl
            fun ρ' h' hb hv => h'.cons hb (hv.trans ((happ f args).symm.trans
              (members_val hpv (List.mem_filter.1 (hch _ _ hsel)).1)))
        · exact .fresh _ _ rfl (MemoOK.fresh hc t)

/-! ### the loop "new map from variable to an acyclic term" -/

/-- the rebuilt map is bounded; it explains the state when the old map does and `val` gives every
    term the value of its variable -/
theorem rebuildGo_spec (terms : List (Term F)) (fuel : Nat) (skip : V → Bool) (s : St V) {n : Nat} :
    (m : List (V × Term F)) → (st : BSt F) → (ρ : Nat → Int) → CacheOK I val st ρ → MapB n m → n ≤ st.next →
    ∃ ρ', Ext st.next ρ ρ' ∧
      (Mod I ρ m s → (∀ p ∈ m, s p.1 = val p.2) → Mod I ρ' (rebuildGo choose pm terms fuel skip m st).1 s) ∧
      MapB (rebuildGo choose pm terms fuel skip m st).2.next (rebuildGo choose pm terms fuel skip m st).1 ∧
      st.next ≤ (rebuildGo choose pm terms fuel skip m st).2.next
  | [], st, ρ, _, _, _ => by
    simp only [rebuildGo]
    exact ⟨ρ, Ext.refl _ _, fun _ _ p hp => by simp at hp, fun p hp => by simp at hp, Nat.le_refl _⟩
  | (v, t) :: rest, st, ρ, hc, hb, hn => by
    obtain ⟨hbt, hbr⟩ := List.forall_mem_cons.1 hb
    have hbt : t.bounded st.next = true := Term.bounded_mono hn _ hbt
    simp only [rebuildGo]
    split
    · obtain ⟨ρ', b1, b2, b3, b4⟩ := rebuildGo_spec terms fuel skip s rest st ρ hc hbr hn
      refine ⟨ρ', b1, fun hm hv => ?_, List.forall_mem_cons.2 ⟨Term.bounded_mono b4 _ hbt, b3⟩, b4⟩
      obtain ⟨⟨hm0, hm⟩, _, hv⟩ := List.forall_mem_cons.1 hm, List.forall_mem_cons.1 hv
      refine List.forall_mem_cons.2 ⟨?_, b2 hm hv⟩
      show s v = _
      rw [Term.eval_ext I b1 _ hbt]; exact hm0
    · obtain ⟨ρ1, a1, a2, a3, a4, a5⟩ := dag_spec I hch hpv happ terms fuel [] (pfindF pm t) st ρ hc
      obtain ⟨ρ', b1, b2, b3, b4⟩ := rebuildGo_spec terms fuel skip s rest _ ρ1 a2 hbr
        (Nat.le_trans hn a5)
      refine ⟨ρ', Ext.trans a1 b1 a5, fun hm hv => ?_, List.forall_mem_cons.2 ⟨Term.bounded_mono b4 _ a3, b3⟩,
        Nat.le_trans a5 b4⟩
      obtain ⟨⟨_, hm⟩, hv0, hv⟩ := List.forall_mem_cons.1 hm, List.forall_mem_cons.1 hv
      refine List.forall_mem_cons.2 ⟨?_, b2 (mod_ext a1 (mapB_mono hn hbr) hm) hv⟩
      show s v = _
      rw [Term.eval_ext I b1 _ a3, a4, show val (pfindF pm t) = val t from pfind_val hpv _ t]
      exact hv0

end rebuild

/-- the value under a valuation commutes with applications (the reading of `val` used for soundness;
    the other one, 0 when every symbol means 0, does so by `rfl`) -/
theorem happ_eval (ρ : Nat → Int) (f : F) (args : List (Term F)) :
    Term.eval I ρ (.app f args) = I f (args.map (Term.eval I ρ)) := by
  simp only [Term.eval]; rw [evalL_eq_map]

/-! ### `copy_term` -/

/-- the fresh variables of the copy carry the values of the variables they stand for -/
def RenOK (ρb : Nat → Int) (st : CSt) (ρ : Nat → Int) : Prop :=
  ∀ e ∈ st.ren, e.2 < st.next ∧ ρ e.2 = ρb e.1

theorem copyT_spec_both (ρb : Nat → Int) :
    (∀ (t : Term F) (st : CSt) (ρ : Nat → Int), RenOK ρb st ρ →
      Yields I (RenOK ρb) CSt.next st ρ (copyT t st) (t.eval I ρb)) ∧
    (∀ (xs : List (Term F)) (st : CSt) (ρ : Nat → Int), RenOK ρb st ρ →
      YieldsL I (RenOK ρb) CSt.next st ρ (copyL xs st) (Term.evalL I ρb xs)) := by
  refine Term.ind ?_ ?_ ?_ ?_ ?_
  · intro n st ρ h
    simp only [copyT]
    split
    · rename_i m hl
      exact .ret st (Nat.le_refl _) h (by simp only [Term.bounded, decide_eq_true_eq]; exact (h _ (look_mem hl)).1)
        (h _ (look_mem hl)).2
    · exact .fresh _ _ rfl (List.forall_mem_cons.2 ⟨⟨Nat.lt_succ_self _, by simp [upd_self, Term.eval]⟩,
        fun e he => ⟨Nat.lt_succ_of_lt (h e he).1, (upd_ext ρ st.next (ρb n) e.2 (h e he).1).trans (h e he).2⟩⟩)
  · intro k st ρ h
    simp only [copyT]; exact .ret st (Nat.le_refl _) h rfl rfl
  · intro f xs ih st ρ h
    simp only [copyT]; exact (ih st ρ h).app f _ rfl fun _ h' _ _ => h'
  · intro st ρ h; simp only [copyL]; exact .nil h
  · intro x xs ih1 ih2 st ρ h
    simp only [copyL]; exact .cons (ih1 st ρ h) fun ρ1 h1 => ih2 _ ρ1 h1

theorem copyL_spec (ρb : Nat → Int) : (xs : List (Term F)) → (st : CSt) → (ρ : Nat → Int) → RenOK ρb st ρ →
    ∃ ρ', Ext st.next ρ ρ' ∧ RenOK ρb (copyL xs st).2 ρ' ∧
      Term.boundedL (copyL xs st).2.next (copyL xs st).1 = true ∧
      Term.evalL I ρ' (copyL xs st).1 = Term.evalL I ρb xs ∧ st.next ≤ (copyL xs st).2.next :=
  (copyT_spec_both I ρb).2

theorem copyMap_spec (ρb : Nat → Int) (s : St V) : (m : List (V × Term F)) → (st : CSt) → (ρ : Nat → Int) →
    RenOK ρb st ρ →
    ∃ ρ', Ext st.next ρ ρ' ∧ (Mod I ρb m s → Mod I ρ' (copyMap m st).1 s) ∧
      MapB (copyMap m st).2.next (copyMap m st).1 ∧ st.next ≤ (copyMap m st).2.next ∧
      (∀ v, look (copyMap m st).1 v = none ↔ look m v = none)
  | [], st, ρ, _ => by
    simp only [copyMap]
    exact ⟨ρ, Ext.refl _ _, fun _ p hp => by simp at hp, fun p hp => by simp at hp, Nat.le_refl _,
      fun _ => by trivial⟩
  | (v, t) :: rest, st, ρ, h => by
    simp only [copyMap]
    obtain ⟨ρ1, a1, a2, a3, a4, a5⟩ := (copyT_spec_both I ρb).1 t st ρ h
    obtain ⟨ρ2, b1, b2, b3, b4, b5⟩ := copyMap_spec ρb s rest (copyT t st).2 ρ1 a2
    refine ⟨ρ2, Ext.trans a1 b1 a5, fun hm => ?_, List.forall_mem_cons.2 ⟨Term.bounded_mono b4 _ a3, b3⟩,
      Nat.le_trans a5 b4, ?_⟩
    · refine List.forall_mem_cons.2 ⟨?_, b2 (List.forall_mem_cons.1 hm).2⟩
      show s v = _
      rw [Term.eval_ext I b1 _ a3, a4]; exact (List.forall_mem_cons.1 hm).1
    · intro w
      by_cases he : v = w
      · subst he; simp [look]
      · rw [look_cons_ne _ _ he, look_cons_ne _ _ he]; exact b5 w

/-! ### `operator&` -/

theorem meetEqs_mem {am bm : List (V × Term F)} {e : Term F × Term F} (h : e ∈ meetEqs am bm) :
    ∃ v, (v, e.1) ∈ am ∧ (v, e.2) ∈ bm := by
  simp only [meetEqs, List.mem_filterMap] at h
  obtain ⟨p, hp, hq⟩ := h
  split at hq
  · rename_i ty hl
    cases hq
    exact ⟨p.1, hp, look_mem hl⟩
  · cases hq

section ops
variable {choose : List (Term F) → Option (Term F)} (hch : ChooseOK choose)
include hch

/-- the common core of `operator&` and of `x == y`: the map `m` rebuilt over the classes of the equations
    `eqs`, next to entries `extra` that are kept.  Sound at `I` when the equations hold; the bounds come
    from the reading where every symbol and every class is 0.  The result `r` and the output `out`
    are variables tied by equations so that a caller can leave the long `rebuildGo` term to
    unification and read `r.1 ++ []` as `r.1`. -/
theorem rebuild_core (eqs : List (Term F × Term F)) (m extra : List (V × Term F)) {n : Nat} (hm : MapB n m)
    (he : MapB n extra) (fuel : Nat) (skip : V → Bool) (s : St V) (r : List (V × Term F) × BSt F)
    (hr : rebuildGo choose (closure eqs) (eqTerms eqs) fuel skip m ⟨n, []⟩ = r) (out : List (V × Term F))
    (hout : r.1 ++ extra = out) :
    MapB r.2.next out ∧
    ∀ ρ, Mod I ρ m s → Mod I ρ extra s → (∀ e ∈ eqs, e.1.eval I ρ = e.2.eval I ρ) → ∃ ρ', Mod I ρ' out s := by
  subst hr hout
  constructor
  · obtain ⟨_, _, _, b1, b2⟩ := rebuildGo_spec (fun (_ : F) _ => 0) (val := fun _ => 0) hch
      (closure_pv eqs (fun _ _ => rfl)) (fun _ _ => rfl) (eqTerms eqs) fuel skip s m
      ⟨n, []⟩ (fun _ => 0) (fun e he => by simp at he) hm (Nat.le_refl _)
    exact fun p hp => (List.mem_append.1 hp).elim (b1 p) (fun hp => Term.bounded_mono b2 _ (he p hp))
  · intro ρ hmm hme heq
    obtain ⟨ρ', d1, d2, _, _⟩ := rebuildGo_spec I hch (closure_pv eqs heq) (happ_eval I ρ) (eqTerms eqs) fuel skip s m
      ⟨n, []⟩ ρ (fun e he => by simp at he) hm (Nat.le_refl _)
    exact ⟨ρ', fun p hp => (List.mem_append.1 hp).elim (d2 hmm hmm p) (mod_ext d1 he hme p)⟩

theorem meet_wf {a b : UF V F}
    (ha : a.WF) (hb : b.WF) : (UF.meet choose a b).WF := by
  refine binop_cases UF.WF (fun _ => ha) (fun _ _ => hb) fun _ _ => ?_
  match a, b with
  | .bot, _ => trivial
  | .val ua, .bot => exact ha
  | .val ua, .val ub =>
    obtain ⟨_, _, _, c3, c4, _⟩ := copyMap_spec (fun (_ : F) _ => 0) (fun _ => 0) (fun _ => 0) ub.map
      ⟨ua.next, []⟩ (fun _ => 0) (fun e he => by simp at he)
    exact (rebuild_core (fun (_ : F) _ => 0) hch _ ua.map _ (mapB_mono c4 ha)
      (fun p hp => c3 p (List.mem_filter.1 hp).1) _ _ (fun _ => 0) _ rfl _ rfl).1

/-! ### `operator+=` -/

theorem addCst_sound (c : UF.Cst V)
    {a : UF V F} (ha : a.WF) (s : St V) (hg : UF.γ I a s) (hc : c.holds s) :
    UF.γ I (UF.addCst choose c a) s := by
  match a with
  | .bot => exact absurd hg id
  | .val u =>
    obtain ⟨ρ, hm⟩ := hg
    match c with
    | .other => exact ⟨ρ, hm⟩
    | .ne x y =>
      simp only [UF.addCst]
      obtain ⟨ρ1, a1, a2, a3⟩ := termOfVar_spec I x ha hm
      have w1 := termOfVar_wf x ha
      obtain ⟨ρ2, b1, b2, b3⟩ := termOfVar_spec I y w1.1 a2
      split
      · rename_i he
        exfalso
        apply hc
        show s x = s y
        rw [← b3, ← he, Term.eval_ext I b1 _ w1.2, a3]
      · exact ⟨ρ2, b2⟩
    | .eq x y =>
      simp only [UF.addCst]
      obtain ⟨ρ1, a1, a2, a3⟩ := termOfVar_spec I x ha hm
      have w1 := termOfVar_wf x ha
      obtain ⟨ρ2, b1, b2, b3⟩ := termOfVar_spec I y w1.1 a2
      split
      · exact ⟨ρ2, b2⟩
      · exact (rebuild_core I hch [_] _ [] (termOfVar_wf y w1.1).1 (fun _ h => nomatch h) _ _ s _ rfl _
          (List.append_nil _)).2 ρ2 b2 (fun _ h => nomatch h) fun e he => by
            rw [List.mem_singleton.1 he, Term.eval_ext I b1 _ w1.2, a3, b3]; exact hc

theorem addCst_wf (c : UF.Cst V) {a : UF V F}
    (ha : a.WF) : (UF.addCst choose c a).WF := by
  match a with
  | .bot => trivial
  | .val u =>
    match c with
    | .other => exact ha
    | .ne x y =>
      simp only [UF.addCst]
      split
      · trivial
      · exact (termOfVar_wf y (termOfVar_wf x ha).1).1
    | .eq x y =>
      simp only [UF.addCst]
      have w2 := termOfVar_wf y (termOfVar_wf x ha).1
      split
      · exact w2.1
      · exact (rebuild_core (fun (_ : F) _ => 0) hch [_] _ [] w2.1 (fun _ h => nomatch h) _ _ (fun _ => 0) _ rfl _
          (List.append_nil _)).1

theorem addCsts_wf (cs : List (UF.Cst V))
    {a : UF V F} (ha : a.WF) : (UF.addCsts choose cs a).WF :=
  List.foldlRecOn cs _ (motive := UF.WF) ha fun _ hb c _ => addCst_wf hch c hb

end ops

theorem meet_sound {choose : List (Term F) → Option (Term F)} (hch : ChooseOK choose) {a b : UF V F}
    (ha : a.WF) (s : St V) (h1 : UF.γ I a s) (h2 : UF.γ I b s) : UF.γ I (UF.meet choose a b) s := by
  refine binop_cases (UF.γ I · s) (fun _ => h1) (fun _ _ => h2) fun _ _ => ?_
  match a, b with
  | .bot, _ => exact absurd h1 id
  | .val ua, .bot => exact absurd h2 id
  | .val ua, .val ub =>
    obtain ⟨ρa, hma⟩ := h1
    obtain ⟨ρb, hmb⟩ := h2
    obtain ⟨ρ1, c1, c2, c3, c4, _⟩ := copyMap_spec I ρb s ub.map ⟨ua.next, []⟩ ρa (fun e he => by simp at he)
    exact (rebuild_core I hch _ ua.map _ (mapB_mono c4 ha) (fun p hp => c3 p (List.mem_filter.1 hp).1) _ _ s _ rfl _ rfl).2 ρ1
      (mod_ext c1 ha hma) (fun p hp => c2 hmb p (List.mem_filter.1 hp).1) fun e he => by
        obtain ⟨v, h1, h2⟩ := meetEqs_mem he
        rw [← mod_ext c1 ha hma _ h1, ← c2 hmb _ h2]

end Uf
end Fct
end Dom
end Crab
