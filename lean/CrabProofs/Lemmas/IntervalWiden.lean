import CrabProofs.Lemmas.IntervalLattice

/-! The widening of `Crab.Itv` (`interval::operator||`): stationarity on covered arguments and
    the chain condition (every strict widening step lowers a natural-number measure). -/
namespace Crab
namespace Itv
open Bound

/-- the widened bounds keep `x` inside, so `mk'` does not normalise them -/
theorem widen_bounds_le {x : Itv} (hx : x.isBottom = false) (y : Itv) :
    Bound.le (if Bound.lt y.lb x.lb then ninf else x.lb)
      (if Bound.lt x.ub y.ub then pinf else x.ub) = true :=
  Bound.le_trans (widen_lb_le_left _ _)
    (Bound.le_trans ((isBottom_false_iff x).mp hx) (le_widen_ub_left _ _))

theorem widen_of_not_bottom {x y : Itv} (hx : x.isBottom = false) (hy : y.isBottom = false) :
    widen x y = ⟨if Bound.lt y.lb x.lb then ninf else x.lb,
                 if Bound.lt x.ub y.ub then pinf else x.ub⟩ := by
  rw [widen, if_neg (by simp [hx]), if_neg (by simp [hy]), mk'_eq_mk (widen_bounds_le hx y)]

theorem widen_stationary {x y : Itv} (h : leq y x = true) : leq (widen x y) x = true := by
  cases hx : x.isBottom
  · cases hy : y.isBottom
    · rw [leq_eq_of_not_bottom hy hx, Bool.and_eq_true] at h
      rw [widen_of_not_bottom hx hy]
      simp only [Bound.lt, Bound.ge, h.1, h.2, Bool.not_true, Bool.false_eq_true, if_false]
      exact leq_refl x
    · rw [widen, if_neg (by simp [hx]), if_pos hy]; exact leq_refl x
  · rw [widen, if_pos hx]; exact h

/-- 3 for bottom, otherwise the number of bounds that are not yet at their infinite limit -/
def wmeasure (x : Itv) : Nat :=
  if x.isBottom then 3
  else (if x.lb = ninf then 0 else 1) + (if x.ub = pinf then 0 else 1)

theorem wmeasure_le_two {x : Itv} (h : x.isBottom = false) : wmeasure x ≤ 2 := by
  unfold wmeasure; simp [h]; split <;> split <;> omega

theorem wmeasure_le_three (x : Itv) : wmeasure x ≤ 3 := by
  cases h : x.isBottom with
  | true => unfold wmeasure; rw [h]; exact Nat.le_refl 3
  | false => exact Nat.le_trans (wmeasure_le_two h) (by decide)

/-- a lower bound that moves jumps to `-oo`, where it was not before, and stops counting -/
theorem widen_lb_count (xl yl : Bound) :
    (if (if Bound.lt yl xl then ninf else xl) = ninf then 0 else 1) +
      (if Bound.lt yl xl then 1 else 0) ≤ (if xl = ninf then 0 else 1) := by
  cases h : Bound.lt yl xl
  · simp
  · have : xl ≠ ninf := by rintro rfl; simp [Bound.lt, Bound.ge] at h
    simp [this]

theorem widen_ub_count (xu yu : Bound) :
    (if (if Bound.lt xu yu then pinf else xu) = pinf then 0 else 1) +
      (if Bound.lt xu yu then 1 else 0) ≤ (if xu = pinf then 0 else 1) := by
  cases h : Bound.lt xu yu
  · simp
  · have : xu ≠ pinf := by rintro rfl; simp [Bound.lt, Bound.ge] at h
    simp [this]

theorem widen_measure {x y : Itv} (h : leq y x = false) : wmeasure (widen x y) < wmeasure x := by
  have hy : y.isBottom = false := by
    cases hb : y.isBottom
    · rfl
    · rw [leq_of_isBottom hb] at h; exact absurd h (by decide)
  cases hx : x.isBottom
  · rw [leq_eq_of_not_bottom hy hx] at h
    have hd : (if Bound.lt y.lb x.lb then 1 else 0) + (if Bound.lt x.ub y.ub then 1 else 0) ≥ 1 := by
      rcases (Bool.and_eq_false_iff).mp h with h | h <;>
        simp only [Bound.lt, Bound.ge, h, Bool.not_false, if_true] <;> omega
    have hl := widen_lb_count x.lb y.lb
    have hu := widen_ub_count x.ub y.ub
    have hb : (Itv.mk (if Bound.lt y.lb x.lb then ninf else x.lb)
        (if Bound.lt x.ub y.ub then pinf else x.ub)).isBottom = false :=
      (isBottom_false_iff _).mpr (widen_bounds_le hx y)
    rw [widen_of_not_bottom hx hy]
    simp only [wmeasure, hx, hb, Bool.false_eq_true, if_false]
    omega
  · rw [widen, if_pos hx]
    have := wmeasure_le_two hy
    have e : wmeasure x = 3 := by simp [wmeasure, hx]
    omega

/-- the strict widening steps form a well-founded relation: no infinite sequence
    `x₀, x₁ = x₀ ∇ y₀, x₂ = x₁ ∇ y₁, …` with every `yᵢ` not below `xᵢ` -/
theorem widen_wf : WellFounded (fun x' x : Itv => ∃ y, leq y x = false ∧ x' = widen x y) := by
  apply Subrelation.wf (r := InvImage (· < ·) wmeasure)
  · intro x' x ⟨y, hy, e⟩
    subst e
    exact widen_measure hy
  · exact InvImage.wf wmeasure Nat.lt_wfRel.wf

end Itv
end Crab
