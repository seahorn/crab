import CrabProofs.Lemmas.IntervalMul

/-! Soundness and definedness of interval division (`z_interval::operator/`) and of the
    remainder operations (`SRem`, `URem`, `UDiv`) of `Crab.Itv`. -/
namespace Crab

namespace TDiv

theorem tdiv_eq_natAbs_div {a b : Int} (ha : 0 ≤ a) (hb : 0 < b) :
    Int.tdiv a b = ((a.natAbs / b.natAbs : Nat) : Int) := by
  have h1 : a = (a.natAbs : Int) := by omega
  have h2 : b = (b.natAbs : Int) := by omega
  conv => lhs; rw [h1, h2]
  exact (Int.ofNat_tdiv _ _).symm

theorem mono_pos {a a' b : Int} (h : a ≤ a') (hb : 0 < b) : Int.tdiv a b ≤ Int.tdiv a' b :=
  Int.tdiv_le_tdiv hb h

theorem anti_neg {a a' b : Int} (h : a ≤ a') (hb : b < 0) : Int.tdiv a' b ≤ Int.tdiv a b := by
  have e1 : Int.tdiv a b = -Int.tdiv a (-b) := by rw [Int.tdiv_neg]; omega
  have e2 : Int.tdiv a' b = -Int.tdiv a' (-b) := by rw [Int.tdiv_neg]; omega
  have := mono_pos h (b := -b) (by omega)
  omega

theorem tdiv_le_tdiv_left_of_nonneg {A b b' : Int} (hA : 0 ≤ A) (hb : 0 < b) (h : b ≤ b') :
    Int.tdiv A b' ≤ Int.tdiv A b := by
  rw [tdiv_eq_natAbs_div hA hb, tdiv_eq_natAbs_div hA (by omega)]
  have h1 : b.natAbs ≤ b'.natAbs := by omega
  have h2 : 0 < b.natAbs := by omega
  have := Nat.div_le_div_left (a := A.natAbs) h1 h2
  omega

end TDiv

namespace Bound

/-- `bound::operator/` without its zero check -/
def divT : Bound → Bound → Bound
  | fin x, fin y => fin (Int.tdiv x y)
  | fin _, _ => fin 0
  | x, fin y => if y > 0 then x else neg x
  | x, y => mkRaw true (x.n * y.n)

theorem div_eq_divT (a b : Bound) (h : b.n ≠ 0) : Bound.div a b = some (divT a b) := by
  unfold Bound.div; rw [if_neg h]
  cases b with
  | ninf | pinf => cases a <;> rfl
  | fin y =>
    cases a with
    | fin x => rfl
    | ninf | pinf => simp only [divT]; split <;> rfl

theorem div_isSome_iff (a b : Bound) : (Bound.div a b).isSome = true ↔ b ≠ fin 0 := by
  by_cases h : b.n = 0
  · rw [eq_zero_of_n h]; unfold Bound.div; rw [if_pos (show (fin 0).n = 0 from rfl)]; simp
  · rw [div_eq_divT a b h]
    exact iff_of_true rfl (fun e => h (e ▸ rfl))

/-! `divT` commutes with unary minus on either side (a zero divisor apart), so the four sign
    cases of the divisor lemma reduce to one. -/

theorem divT_neg_left (a b : Bound) : divT (neg a) b = neg (divT a b) := by
  cases b with
  | ninf | pinf => cases a <;> rfl
  | fin y =>
    cases a with
    | fin x => simp only [divT, neg, Int.neg_tdiv]
    | ninf | pinf => simp only [divT, neg]; split <;> rfl

theorem divT_neg_right (a : Bound) {b : Bound} (hb : b.n ≠ 0) : divT a (neg b) = neg (divT a b) := by
  cases b with
  | ninf | pinf => cases a <;> rfl
  | fin y =>
    have hy : y ≠ 0 := hb
    cases a with
    | fin x => simp only [divT, neg, Int.tdiv_neg]
    | ninf | pinf =>
      simp only [divT, neg]
      by_cases h : y > 0
      · rw [if_neg (by omega), if_pos h]
      · rw [if_pos (by omega), if_neg h]

theorem divT_between_pos {l u : Bound} {a : Int} {b : Int} (hb : 0 < b)
    (h1 : le l (fin a) = true) (h2 : le (fin a) u = true) :
    le (divT l (fin b)) (fin (Int.tdiv a b)) = true ∧
    le (fin (Int.tdiv a b)) (divT u (fin b)) = true := by
  constructor
  · cases l with
    | pinf => simp at h1
    | ninf => simp [divT, hb]
    | fin v => simp at h1; simp [divT]; exact TDiv.mono_pos h1 hb
  · cases u with
    | ninf => simp at h2
    | pinf => simp [divT, hb]
    | fin v => simp at h2; simp [divT]; exact TDiv.mono_pos h2 hb

theorem divT_between_neg {l u : Bound} {a : Int} {b : Int} (hb : b < 0)
    (h1 : le l (fin a) = true) (h2 : le (fin a) u = true) :
    le (divT u (fin b)) (fin (Int.tdiv a b)) = true ∧
    le (fin (Int.tdiv a b)) (divT l (fin b)) = true := by
  have hn : (fin b).n ≠ 0 := Int.ne_of_lt hb
  have := divT_between_pos (b := -b) (by omega) h1 h2
  rw [Int.tdiv_neg, show fin (-b) = neg (fin b) from rfl,
    show fin (-(a.tdiv b)) = neg (fin (a.tdiv b)) from rfl, divT_neg_right l hn,
    divT_neg_right u hn, neg_le_neg, neg_le_neg] at this
  exact this.symm

theorem divT_between {l u : Bound} {a : Int} (b : Int) (hb : b ≠ 0)
    (h1 : le l (fin a) = true) (h2 : le (fin a) u = true) :
    le (min (divT l (fin b)) (divT u (fin b))) (fin (Int.tdiv a b)) = true ∧
    le (fin (Int.tdiv a b)) (max (divT l (fin b)) (divT u (fin b))) = true :=
  minmax_of_between <| (Int.lt_or_gt_of_ne hb).elim
    (fun hb => Or.inr (divT_between_neg hb h1 h2)) (fun hb => Or.inl (divT_between_pos hb h1 h2))

/-- non-negative dividend, positive divisors `l ≤ b ≤ u`: the quotient falls as the divisor grows
    (finite / infinite = 0) -/
theorem divT_divisor_anti {L l u : Bound} {b : Int} (hL : le (fin 0) L = true)
    (hl : lt (fin 0) l = true) (h1 : le l (fin b) = true) (h2 : le (fin b) u = true) :
    le (divT L u) (divT L (fin b)) = true ∧ le (divT L (fin b)) (divT L l) = true := by
  cases l with
  | ninf => exact Bool.noConfusion hl
  | pinf => exact Bool.noConfusion h1
  | fin v =>
    have hv : 0 < v := by simpa [lt, ge] using hl
    have hvb : v ≤ b := by simpa using h1
    have hb : 0 < b := by omega
    cases L with
    | ninf => exact Bool.noConfusion hL
    | pinf =>
      have e : ∀ y : Int, 0 < y → divT pinf (fin y) = pinf := fun y hy => if_pos hy
      rw [e b hb, e v hv]
      refine ⟨?_, rfl⟩
      cases u with
      | ninf => exact Bool.noConfusion h2
      | pinf => rfl
      | fin w => rw [e w (by have : b ≤ w := by simpa using h2
                             omega)]; rfl
    | fin A =>
      have hA : 0 ≤ A := by simpa using hL
      refine ⟨?_, by simpa [divT] using TDiv.tdiv_le_tdiv_left_of_nonneg hA hv hvb⟩
      cases u with
      | ninf => exact Bool.noConfusion h2
      | pinf => simpa [divT] using Int.tdiv_nonneg hA (Int.le_of_lt hb)
      | fin w => simpa [divT] using TDiv.tdiv_le_tdiv_left_of_nonneg hA hb (by simpa using h2)

theorem divT_divisor_between (L : Bound) {l2 u2 : Bound} {b : Int}
    (h1 : le l2 (fin b) = true) (h2 : le (fin b) u2 = true)
    (hz : lt (fin 0) l2 = true ∨ lt u2 (fin 0) = true) :
    le (min (divT L l2) (divT L u2)) (divT L (fin b)) = true ∧
    le (divT L (fin b)) (max (divT L l2) (divT L u2)) = true := by
  -- positive divisors, any dividend: a non-positive dividend is the negation of a non-negative one
  have pos : ∀ {l u : Bound} {c : Int}, lt (fin 0) l = true → le l (fin c) = true →
      le (fin c) u = true →
      (le (divT L l) (divT L (fin c)) = true ∧ le (divT L (fin c)) (divT L u) = true) ∨
      (le (divT L u) (divT L (fin c)) = true ∧ le (divT L (fin c)) (divT L l) = true) := by
    intro l u c hl hlc hcu
    rcases le_total (fin 0) L with hL | hL
    · exact Or.inr (divT_divisor_anti hL hl hlc hcu)
    · have := divT_divisor_anti (L := neg L) (by rw [fin_le_neg]; exact hL) hl hlc hcu
      rw [divT_neg_left, divT_neg_left, divT_neg_left, neg_le_neg, neg_le_neg] at this
      exact Or.inl ⟨this.2, this.1⟩
  apply minmax_of_between
  rcases hz with hz | hz
  · exact pos hz h1 h2
  · -- negative divisors are the negations of positive ones
    have hn : ∀ {x : Bound}, le x u2 = true → x.n ≠ 0 := fun hx e => by
      rw [eq_zero_of_n e] at hx
      rw [lt, ge, hx] at hz; cases hz
    have := pos (l := neg u2) (u := neg l2) (c := -b) (by rw [lt, ge, neg_le_fin]; exact hz)
      (by rw [neg_le_fin, Int.neg_neg]; exact h2) (by rw [fin_le_neg, Int.neg_neg]; exact h1)
    rw [show fin (-b) = neg (fin b) from rfl, divT_neg_right L (hn (le_refl _)),
      divT_neg_right L (hn h2), divT_neg_right L (hn (le_trans h1 h2)),
      neg_le_neg, neg_le_neg, neg_le_neg, neg_le_neg] at this
    exact this.imp And.symm And.symm

end Bound

namespace Itv
open Bound

theorem nz_of_not_mem0 {x : Itv} (hb : x.isBottom = false) (h0 : ¬ mem 0 x) :
    x.lb.n ≠ 0 ∧ x.ub.n ≠ 0 := by
  have hle := (isBottom_false_iff x).mp hb
  constructor
  · intro h
    have e := Bound.eq_zero_of_n h
    exact h0 ⟨by rw [e]; rfl, by rw [← e]; exact hle⟩
  · intro h
    have e := Bound.eq_zero_of_n h
    exact h0 ⟨by rw [← e]; exact hle, by rw [e]; rfl⟩

theorem side_of_not_mem0 {x : Itv} (h0 : ¬ mem 0 x) :
    Bound.lt (fin 0) x.lb = true ∨ Bound.lt x.ub (fin 0) = true := by
  simp only [mem] at h0
  simp only [Bound.lt, Bound.ge]
  cases h1 : Bound.le x.lb (fin 0) <;> cases h2 : Bound.le (fin 0) x.ub <;> simp_all

theorem divCorners_eq (a x : Itv) (h1 : x.lb.n ≠ 0) (h2 : x.ub.n ≠ 0) :
    divCorners a x = some (mk'
      (min4 (divT a.lb x.lb) (divT a.lb x.ub) (divT a.ub x.lb) (divT a.ub x.ub))
      (max4 (divT a.lb x.lb) (divT a.lb x.ub) (divT a.ub x.lb) (divT a.ub x.ub))) := by
  simp [divCorners, div_eq_divT _ _ h1, div_eq_divT _ _ h2]

theorem divSingleton_of_ne_zero (x : Itv) {c : Int} (hc : c ≠ 0) :
    divSingleton x c = some (some (
      if c = 1 then x
      else if c > 0 then mk' (divT x.lb (fin c)) (divT x.ub (fin c))
      else mk' (divT x.ub (fin c)) (divT x.lb (fin c)))) := by
  have hn : (fin c).n ≠ 0 := hc
  unfold divSingleton
  by_cases h1 : c = 1
  · rw [if_pos h1, if_pos h1]
  · rw [if_neg h1, if_neg h1]
    by_cases hp : c > 0
    · rw [if_pos hp, if_pos hp, div_eq_divT _ _ hn, div_eq_divT _ _ hn]; rfl
    · rw [if_neg hp, if_neg hp, if_pos (by omega), div_eq_divT _ _ hn, div_eq_divT _ _ hn]; rfl

theorem divSingleton_inv {x y : Itv} {o : Option Itv}
    (h : (y.singleton?).bind (divSingleton x) = some o) :
    ∃ c, y.singleton? = some c ∧ c ≠ 0 ∧ divSingleton x c = some o := by
  cases hs : y.singleton? with
  | none => rw [hs] at h; cases h
  | some c =>
    rw [hs] at h
    refine ⟨c, rfl, ?_, h⟩
    rintro rfl
    cases h

/-- What each level of the unrolled recursion of `operator/` returns for the dividend `x` and the
    divisor `y`: an interval (no CRAB_ERROR) that contains every truncated quotient by a non-zero
    member of `y`. -/
def DivOk (x y : Itv) (o : Option Itv) : Prop :=
  ∃ r, o = some r ∧ ∀ a b, mem a x → mem b y → b ≠ 0 → mem (Int.tdiv a b) r

theorem DivOk.of_bottom {x y : Itv} (h : (x.isBottom || y.isBottom) = true) : DivOk x y (some bot) :=
  ⟨bot, rfl, fun _ _ ha hb _ => absurd h (not_bottom_or ha hb)⟩

/-- two pieces, combined by an `f` whose result contains what the results for the pieces contain -/
theorem DivOk.bind2 {x y x1 y1 x2 y2 : Itv} {A B : Option Itv} {f : Itv → Itv → Itv}
    (hA : DivOk x1 y1 A) (hB : DivOk x2 y2 B)
    (hf : ∀ p q a b, mem a x → mem b y → b ≠ 0 →
      (mem a x1 → mem b y1 → mem (Int.tdiv a b) p) →
      (mem a x2 → mem b y2 → mem (Int.tdiv a b) q) → mem (Int.tdiv a b) (f p q)) :
    DivOk x y (do let p ← A; let q ← B; pure (f p q)) := by
  obtain ⟨p, rfl, hp⟩ := hA
  obtain ⟨q, rfl, hq⟩ := hB
  exact ⟨f p q, rfl, fun a b ha hb hb0 => hf p q a b ha hb hb0
    (fun h1 h2 => hp a b h1 h2 hb0) (fun h1 h2 => hq a b h1 h2 hb0)⟩

theorem divOk_corners (x : Itv) {y : Itv} (hy : y.isBottom = false) (h0 : ¬ mem 0 y) :
    DivOk x y (divCorners x y) := by
  obtain ⟨n1, n2⟩ := nz_of_not_mem0 hy h0
  refine ⟨_, divCorners_eq x y n1 n2, fun a b ha hb hb0 => ?_⟩
  have hz := side_of_not_mem0 h0
  rw [mem_mk']
  -- first move `a` to a bound of `x` (with `b` fixed), then `b` to a bound of `y`
  exact Bound.corners (Bound.divT_between b hb0 ha.1 ha.2)
    (Bound.divT_divisor_between x.lb hb.1 hb.2 hz) (Bound.divT_divisor_between x.ub hb.1 hb.2 hz)

theorem divOk_singleton {x y : Itv} {o : Option Itv}
    (h : (y.singleton?).bind (divSingleton x) = some o) : DivOk x y o := by
  obtain ⟨c, hs, hc, hd⟩ := divSingleton_inv h
  rw [divSingleton_of_ne_zero x hc] at hd
  cases hd
  refine ⟨_, rfl, fun a b ha hb _ => ?_⟩
  obtain rfl := mem_of_singleton? hs hb
  split
  · rename_i h1; rw [h1, Int.tdiv_one]; exact ha
  · split
    · rename_i hpos; rw [mem_mk']; exact Bound.divT_between_pos hpos ha.1 ha.2
    · rw [mem_mk']; exact Bound.divT_between_neg (by omega) ha.1 ha.2

theorem divOk_leaf (x : Itv) {y : Itv} (h0 : ¬ mem 0 y) : DivOk x y (divNZ.divLeaf true x y) := by
  unfold divNZ.divLeaf
  split
  · rename_i hb; exact .of_bottom hb
  · rename_i hb
    split
    · rename_i o ho; exact divOk_singleton ho
    · exact divOk_corners x (Bool.or_eq_false_iff.mp (eq_false_of_ne_true hb)).2 h0

theorem mem_lower_piece {x : Itv} {a : Int} (ha : mem a x) (hneg : a < 0) :
    mem a (mk' x.lb (fin (-1))) := by
  rw [mem_mk']; refine ⟨ha.1, ?_⟩; simp; omega

theorem mem_upper_piece {x : Itv} {a : Int} (ha : mem a x) (hpos : 0 < a) :
    mem a (mk' (fin 1) x.ub) := by
  rw [mem_mk']; refine ⟨?_, ha.2⟩; simp; omega

theorem not_mem0_lower (l : Bound) : ¬ mem 0 (mk' l (fin (-1))) := by
  rw [mem_mk']; simp

theorem not_mem0_upper (u : Bound) : ¬ mem 0 (mk' (fin 1) u) := by
  rw [mem_mk']; simp

theorem divOk_NZ (x : Itv) {y : Itv} (hy : y.isBottom = false) (h0 : ¬ mem 0 y) :
    DivOk x y (divNZ true x y) := by
  unfold divNZ
  split
  · rename_i o ho; exact divOk_singleton ho
  · split
    · -- the dividend contains 0: its negative part, its positive part, and 0 itself
      refine DivOk.bind2 (f := fun p q => join (join p q) (single 0))
        (divOk_leaf _ h0) (divOk_leaf _ h0) fun p q a b ha hb _ hp hq => ?_
      rcases Int.lt_trichotomy a 0 with hlt | rfl | hgt
      · exact join_upper_left (join_upper_left (hp (mem_lower_piece ha hlt) hb))
      · rw [Int.zero_tdiv]; exact join_upper_right ((mem_single 0 0).mpr rfl)
      · exact join_upper_left (join_upper_right (hq (mem_upper_piece ha hgt) hb))
    · exact divOk_corners x hy h0

theorem divOk_piece (x : Itv) {p : Itv} (h0 : ¬ mem 0 p) :
    DivOk x p (if p.isBottom = true then some bot else divNZ true x p) := by
  split
  · rename_i hb; exact .of_bottom (by rw [hb, Bool.or_true])
  · rename_i hb; exact divOk_NZ x (eq_false_of_ne_true hb) h0

/-- `z_interval::operator/` never raises CRAB_ERROR and over-approximates the truncating division
    (no hypothesis on the operands) -/
theorem div_ok (x y : Itv) : DivOk x y (div x y) := by
  unfold div divGen
  split
  · rename_i hb; exact .of_bottom hb
  · rename_i hbot
    split
    · rename_i o ho; exact divOk_singleton ho
    · split
      · -- the divisor contains 0: its negative part and its positive part
        refine DivOk.bind2 (f := join) (divOk_piece x (not_mem0_lower _))
          (divOk_piece x (not_mem0_upper _)) fun p q a b ha hb hb0 hp hq => ?_
        rcases Int.lt_or_gt_of_ne hb0 with hlt | hgt
        · exact join_upper_left (hp ha (mem_lower_piece hb hlt))
        · exact join_upper_right (hq ha (mem_upper_piece hb hgt))
      · rename_i hc
        exact divOk_NZ x (Bool.or_eq_false_iff.mp (eq_false_of_ne_true hbot)).2
          (by rw [← contains_iff]; exact hc)

theorem div_sound {x y r : Itv} {a b : Int} (ha : mem a x) (hb : mem b y) (hb0 : b ≠ 0)
    (h : div x y = some r) : mem (Int.tdiv a b) r := by
  obtain ⟨_, e, hr⟩ := div_ok x y
  cases h.symm.trans e
  exact hr a b ha hb hb0

theorem div_defined (x y : Itv) : (div x y).isSome = true := by
  obtain ⟨_, e, _⟩ := div_ok x y
  rw [e]; rfl

theorem tmod_bounds_pos (a : Int) {b : Int} (hb : 0 < b) :
    (0 ≤ a → 0 ≤ Int.tmod a b ∧ Int.tmod a b < b) ∧
    (a ≤ 0 → -b < Int.tmod a b ∧ Int.tmod a b ≤ 0) := by
  constructor
  · intro ha; exact ⟨Int.tmod_nonneg b ha, Int.tmod_lt_of_pos a hb⟩
  · intro ha
    have e : Int.tmod a b = -Int.tmod (-a) b := by rw [Int.neg_tmod]; omega
    have h1 := Int.tmod_nonneg (a := -a) b (by omega)
    have h2 := Int.tmod_lt_of_pos (-a) hb
    omega

theorem tmod_bounds (a : Int) {b : Int} (hb : b ≠ 0) :
    (0 ≤ a → 0 ≤ Int.tmod a b ∧ Int.tmod a b < iabs b) ∧
    (a ≤ 0 → -(iabs b) < Int.tmod a b ∧ Int.tmod a b ≤ 0) := by
  unfold iabs
  split
  · rename_i hneg
    have := tmod_bounds_pos a (b := -b) (by omega)
    rw [Int.tmod_neg] at this
    exact this
  · exact tmod_bounds_pos a (by omega)

theorem iabs_le_imax {l b u : Int} (h1 : l ≤ b) (h2 : b ≤ u) : iabs b ≤ imax (iabs l) (iabs u) := by
  have hl : -l ≤ iabs l := by unfold iabs; split <;> omega
  have hu : u ≤ iabs u := by unfold iabs; split <;> omega
  have hb : iabs b ≤ -l ∨ iabs b ≤ u := by unfold iabs; split <;> omega
  unfold imax; split <;> omega

theorem srem_sound {x y : Itv} {a b : Int} (ha : mem a x) (hb : mem b y) (hb0 : b ≠ 0) :
    mem (Int.tmod a b) (srem x y) := by
  unfold srem
  rw [if_neg (not_bottom_or ha hb)]
  split
  · rename_i l r h1 h2
    rw [if_neg (mem_of_singleton? h2 hb ▸ hb0)]
    exact mem_single_of_singleton? Int.tmod h1 h2 ha hb
  · split
    · rename_i xl xu hl hu
      have hb1 : xl ≤ b := by simpa [hl] using hb.1
      have hb2 : b ≤ xu := by simpa [hu] using hb.2
      have hT := tmod_bounds a hb0
      have hm := iabs_le_imax hb1 hb2
      have hbpos : 0 < iabs b := by unfold iabs; split <;> omega
      generalize imax (iabs xl) (iabs xu) = m at hm ⊢
      generalize iabs b = B at hT hm hbpos
      generalize Int.tmod a b = t at hT
      -- the three sign cases of the dividend interval
      have hm0 : ¬ m = 0 := by omega
      rw [if_neg hm0]
      by_cases hlt : Bound.lt x.lb (fin 0) = true
      · rw [if_pos hlt]
        by_cases hgt : Bound.gt x.ub (fin 0) = true
        · rw [if_pos hgt, mem_mk']; simp only [Bound.le_fin_fin, decide_eq_true_eq]
          rcases Int.le_total 0 a with h | h
          · have := hT.1 h; omega
          · have := hT.2 h; omega
        · have h0 : a ≤ 0 := by simpa using Bound.le_trans ha.2 (Bound.le_of_not_gt hgt)
          have := hT.2 h0
          rw [if_neg hgt, mem_mk']; simp only [Bound.le_fin_fin, decide_eq_true_eq]; omega
      · have h0 : 0 ≤ a := by simpa using Bound.le_trans (Bound.le_of_not_lt hlt) ha.1
        have := hT.1 h0
        rw [if_neg hlt, mem_mk']; simp only [Bound.le_fin_fin, decide_eq_true_eq]; omega
    · exact mem_top _

theorem urem_sound {x y : Itv} {a b : Int} (ha : mem a x) (hb : mem b y) (ha0 : 0 ≤ a)
    (hb0 : 0 < b) : mem (a % b) (urem x y) := by
  unfold urem
  rw [if_neg (not_bottom_or ha hb)]
  split
  · rename_i dividend divisor h1 h2
    have e1 := mem_of_singleton? h1 ha
    have e2 := mem_of_singleton? h2 hb
    subst e1; subst e2
    have n1 : ¬ b < 0 := by omega
    have n2 : ¬ b = 0 := by omega
    have n3 : ¬ a < 0 := by omega
    simp only [n1, n2, n3, if_false]
    rw [Int.tmod_eq_emod_of_nonneg ha0]
    exact (mem_single _ _).mpr rfl
  · split
    · rename_i xl xu hl hu
      have hb2 := hb.2
      rw [hu] at hb2
      simp at hb2
      split
      · exact mem_top _
      · split
        · omega
        · rw [mem_mk']; simp
          have := Int.emod_nonneg a (show b ≠ 0 by omega)
          have := Int.emod_lt_of_pos a hb0
          omega
    · exact mem_top _

theorem udiv_sound {x y : Itv} {a b : Int} (ha : mem a x) (hb : mem b y) (k : Int) :
    mem k (udiv x y) := by
  unfold udiv
  simp [isBottom_false_of_mem ha, isBottom_false_of_mem hb, mem_top]

end Itv
end Crab
