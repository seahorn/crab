import CrabModel.Dom.IntervalDomain
import CrabProofs.Lemmas.IntervalLattice
import CrabProofs.Lemmas.IntervalArith

/-!
  The environment of the interval domain (`Crab.IDom.Env`, model of `separate_domain`):
  lookup after insert / remove / merges, concretisation `γ`, soundness of `set`, `forget` and of
  `<=`.  `set` and `join(k, v)` are reduced, once, to the case that stores a binding
  (`set_ind`, `joinKey_ind`, `Map.store`), and the operations built on them to their cases
  (`assign_eq`, `select_ind`, `project_ind`, `rename_ind`): soundness, the map invariant, the
  well-formedness of the stored values and the frame property are read off these.
-/
namespace Crab
namespace IDom
open Lin

namespace Map

theorem find_cons (k' : Var) (v' : Itv) (rest : Map) (x : Var) :
    find ((k', v') :: rest) x = if x = k' then some v' else find rest x := rfl

theorem find_insert (m : Map) (k : Var) (v : Itv) (x : Var) :
    find (insert m k v) x = if x = k then some v else find m x := by
  induction m with
  | nil => rfl
  | cons p rest ih =>
    obtain ⟨k', v'⟩ := p
    unfold insert
    by_cases h1 : k = k'
    · subst h1
      rw [if_pos rfl, find_cons, find_cons]
      by_cases hx : x = k
      · rw [if_pos hx, if_pos hx]
      · rw [if_neg hx, if_neg hx, if_neg hx]
    · rw [if_neg h1]
      by_cases h2 : k < k'
      · rw [if_pos h2]; rfl
      · rw [if_neg h2, find_cons, find_cons, ih]
        by_cases hx : x = k'
        · rw [if_pos hx, if_pos hx, if_neg (fun h => h1 (h.symm.trans hx))]
        · rw [if_neg hx, if_neg hx]

theorem find_remove (m : Map) (k x : Var) :
    find (remove m k) x = if x = k then none else find m x := by
  induction m with
  | nil => simp [remove, find]
  | cons p rest ih =>
    obtain ⟨k', v'⟩ := p
    unfold remove at ih ⊢
    simp only [List.filter]
    by_cases h1 : k' = k
    · subst h1
      simp only [bne_self_eq_false, ih, find]
      by_cases hx : x = k' <;> simp [hx]
    · have : (k' != k) = true := by simp [h1]
      simp only [this, find, ih]
      by_cases hx : x = k'
      · subst hx; simp [h1]
      · simp [hx]

theorem find_some_mem {m : Map} {k : Var} {v : Itv} (h : find m k = some v) : (k, v) ∈ m := by
  induction m with
  | nil => simp [find] at h
  | cons p rest ih =>
    obtain ⟨k', v'⟩ := p
    simp only [find] at h
    by_cases hk : k = k'
    · simp only [hk, if_true, Option.some.injEq] at h; subst hk; subst h; exact List.mem_cons_self
    · simp only [hk, if_false] at h; exact List.mem_cons_of_mem _ (ih h)

theorem find_none_of_not_key {m : Map} {k : Var} (h : ∀ p ∈ m, p.1 ≠ k) : find m k = none := by
  induction m with
  | nil => rfl
  | cons p rest ih =>
    obtain ⟨k', v'⟩ := p
    simp only [find]
    have h1 : k ≠ k' := fun e => h (k', v') List.mem_cons_self e.symm
    simp only [h1, if_false]
    exact ih (fun q hq => h q (List.mem_cons_of_mem _ hq))

theorem find_isSome_of_mem {m : Map} {k : Var} {v : Itv} (h : (k, v) ∈ m) : (find m k).isSome = true := by
  induction m with
  | nil => simp at h
  | cons p rest ih =>
    obtain ⟨k', v'⟩ := p
    simp only [find]
    by_cases hk : k = k'
    · simp [hk]
    · simp only [hk, if_false]
      rcases List.mem_cons.1 h with h | h
      · exact absurd (congrArg Prod.fst h) hk
      · exact ih h

/-- how `set` and `join` end: the binding of `k` becomes `v`, and top is not stored -/
def store (m : Map) (k : Var) (v : Itv) : Map := if v.isTop then m.remove k else m.insert k v

theorem find_store (m : Map) (k : Var) (v : Itv) (x : Var) :
    find (store m k v) x = if x = k then (if v.isTop then none else some v) else find m x := by
  unfold store
  by_cases ht : v.isTop = true
  · rw [if_pos ht, if_pos ht, find_remove]
  · rw [if_neg ht, if_neg ht, find_insert]

/-- lookup in the result of a non-absorbing merge (meet, narrowing) -/
theorem find_mergeKeep (op : Itv → Itv → Itv) (a b : Map) (x : Var) :
    find (mergeKeep op a b) x =
      match find a x, find b x with
      | some u, some w => some (op u w)
      | some u, none => some u
      | none, some w => some w
      | none, none => none := by
  induction b with
  | nil => simp [mergeKeep, find]; cases find a x <;> rfl
  | cons p rest ih =>
    obtain ⟨k, w⟩ := p
    unfold mergeKeep at ih ⊢
    simp only [List.foldr_cons, find]
    by_cases hx : x = k
    · subst hx
      simp only [if_true]
      cases ha : find a x with
      | none => simp [find_insert]
      | some u => simp [find_insert]
    · simp only [hx, if_false]
      cases ha : find a k with
      | none => simp only [find_insert, hx, if_false]; exact ih
      | some u => simp only [find_insert, hx, if_false]; exact ih

def Sorted (m : Map) : Prop := m.Pairwise (fun p q => p.1 < q.1)

theorem mem_iff_find {m : Map} (hs : Sorted m) (k : Var) (v : Itv) : (k, v) ∈ m ↔ find m k = some v := by
  induction m with
  | nil => simp [find]
  | cons p rest ih =>
    obtain ⟨k', v'⟩ := p
    have hs' := List.pairwise_cons.1 hs
    simp only [find, List.mem_cons]
    by_cases hk : k = k'
    · subst hk
      simp only [if_true, Option.some.injEq, Prod.mk.injEq, true_and]
      constructor
      · rintro (h | h)
        · exact h.symm
        · have := hs'.1 _ h; simp at this
      · intro h; exact Or.inl h.symm
    · simp only [hk, if_false, Prod.mk.injEq, false_and, false_or]
      exact ih hs'.2

/-- a binding of an absorbing merge (join, widenings) comes from a binding on each side -/
theorem find_mergeAbs_some {op : Itv → Itv → Itv} {a : Map} (hs : Sorted a) {b : Map} {x : Var} {v : Itv}
    (h : find (mergeAbs op a b) x = some v) :
    ∃ u w, find a x = some u ∧ find b x = some w ∧ v = op u w := by
  obtain ⟨p, hp, hf⟩ := List.mem_filterMap.1 (find_some_mem h)
  cases hb : find b p.1 with
  | none => rw [hb] at hf; cases hf
  | some w =>
    rw [hb] at hf
    by_cases ht : (op p.2 w).isTop = true
    · simp only [ht, if_true] at hf; cases hf
    · simp only [ht] at hf
      cases hf
      exact ⟨p.2, w, (mem_iff_find hs p.1 p.2).1 hp, hb, rfl⟩

theorem mem_insert {m : Map} {k : Var} {v : Itv} {p : Var × Itv} (h : p ∈ insert m k v) :
    p = (k, v) ∨ p ∈ m := by
  induction m with
  | nil => simp [insert] at h; exact Or.inl h
  | cons q rest ih =>
    obtain ⟨k', v'⟩ := q
    unfold insert at h
    split at h
    · rcases List.mem_cons.1 h with h | h
      · exact Or.inl h
      · exact Or.inr (List.mem_cons_of_mem _ h)
    · split at h
      · rcases List.mem_cons.1 h with h | h
        · exact Or.inl h
        · exact Or.inr h
      · rcases List.mem_cons.1 h with h | h
        · exact Or.inr (h ▸ List.mem_cons_self)
        · rcases ih h with h | h
          · exact Or.inl h
          · exact Or.inr (List.mem_cons_of_mem _ h)

theorem insert_sorted {m : Map} (hs : Sorted m) (k : Var) (v : Itv) : Sorted (insert m k v) := by
  induction m with
  | nil => simp [insert, Sorted]
  | cons q rest ih =>
    obtain ⟨k', v'⟩ := q
    have hs' := List.pairwise_cons.1 hs
    unfold insert
    split
    · rename_i h1; subst h1
      exact List.pairwise_cons.2 ⟨hs'.1, hs'.2⟩
    · split
      · rename_i h1 h2
        refine List.pairwise_cons.2 ⟨?_, hs⟩
        intro p hp
        rcases List.mem_cons.1 hp with hp | hp
        · subst hp; exact h2
        · exact Nat.lt_trans h2 (hs'.1 p hp)
      · rename_i h1 h2
        refine List.pairwise_cons.2 ⟨?_, ih hs'.2⟩
        intro p hp
        rcases mem_insert hp with hp | hp
        · subst hp; exact Nat.lt_of_le_of_ne (Nat.le_of_not_lt h2) (fun e => h1 e.symm)
        · exact hs'.1 p hp

theorem remove_sorted {m : Map} (hs : Sorted m) (k : Var) : Sorted (remove m k) :=
  List.Pairwise.filter _ hs

theorem mem_store {m : Map} {k : Var} {v : Itv} {p : Var × Itv} (h : p ∈ store m k v) : p = (k, v) ∨ p ∈ m := by
  unfold store at h
  by_cases ht : v.isTop = true
  · rw [if_pos ht] at h; exact Or.inr (List.mem_filter.1 h).1
  · rw [if_neg ht] at h; exact mem_insert h

theorem store_sorted {m : Map} (hs : Sorted m) (k : Var) (v : Itv) : Sorted (store m k v) := by
  unfold store
  by_cases ht : v.isTop = true
  · rw [if_pos ht]; exact remove_sorted hs k
  · rw [if_neg ht]; exact insert_sorted hs k v

theorem mergeAbs_sorted (op : Itv → Itv → Itv) {a : Map} (hs : Sorted a) (b : Map) : Sorted (mergeAbs op a b) := by
  unfold mergeAbs Sorted
  rw [List.pairwise_filterMap]
  refine List.Pairwise.imp ?_ hs
  intro p q hpq p' hp' q' hq'
  have e1 : p'.1 = p.1 := by
    revert hp'; cases find b p.1 <;> simp; intro _ h; rw [← h]
  have e2 : q'.1 = q.1 := by
    revert hq'; cases find b q.1 <;> simp; intro _ h; rw [← h]
  rw [e1, e2]; exact hpq

theorem mergeKeep_sorted (op : Itv → Itv → Itv) {a : Map} (hs : Sorted a) (b : Map) : Sorted (mergeKeep op a b) := by
  unfold mergeKeep
  induction b with
  | nil => exact hs
  | cons p rest ih =>
    simp only [List.foldr_cons]
    split <;> exact insert_sorted ih _ _


theorem mergeBot_false {op : Itv → Itv → Itv} {a b : Map} (h : mergeBot op a b = false)
    {x : Var} {u w : Itv} (ha : find a x = some u) (hb : find b x = some w) :
    (op u w).isBottom = false := by
  unfold mergeBot at h
  rw [List.any_eq_false] at h
  have := h (x, u) (find_some_mem ha)
  simp only [hb] at this
  simpa using this

theorem leq_iff (a b : Map) : leq a b = true ↔
    ∀ p ∈ b, ∃ u, find a p.1 = some u ∧ Itv.leq u p.2 = true := by
  unfold leq
  rw [List.all_eq_true]
  constructor
  · intro h p hp
    have := h p hp
    cases hf : find a p.1 with
    | none => simp [hf] at this
    | some u => simp only [hf] at this; exact ⟨u, rfl, this⟩
  · intro h p hp
    obtain ⟨u, hu, hl⟩ := h p hp
    simp [hu, hl]

end Map

abbrev State := Var → Int

def upd (σ : State) (x : Var) (n : Int) : State := fun y => if y = x then n else σ y

@[simp] theorem upd_same (σ : State) (x : Var) (n : Int) : upd σ x n x = n := by simp [upd]
theorem upd_other (σ : State) {x y : Var} (n : Int) (h : y ≠ x) : upd σ x n y = σ y := by simp [upd, h]

theorem upd_self (σ : State) (k : Var) : upd σ k (σ k) = σ := by
  funext y; unfold upd; by_cases h : y = k
  · rw [if_pos h, h]
  · rw [if_neg h]

namespace Env

def Sorted (e : Env) : Prop := e.m.Sorted

def ValWF (e : Env) : Prop := ∀ p ∈ e.m, p.2.WF

def γ (e : Env) (σ : State) : Prop := e.bottom = false ∧ ∀ x, Itv.mem (σ x) (e.get x)

theorem not_γ_bottom {e : Env} (h : e.bottom = true) (σ : State) : ¬ γ e σ := by
  intro hg; rw [hg.1] at h; exact absurd h (by decide)

theorem not_γ_bot (σ : State) : ¬ γ bot σ := not_γ_bottom rfl σ

theorem γ_top (σ : State) : γ top σ := ⟨rfl, fun x => by simp [get, top, Map.find, Itv.mem_top]⟩

theorem get_of_not_bottom {e : Env} (h : e.bottom = false) (x : Var) :
    e.get x = match e.m.find x with | some v => v | none => Itv.top := by
  unfold get; rw [if_neg (by simp [h])]; cases e.m.find x <;> rfl

theorem γ_iff_of_not_bottom {e : Env} (h : e.bottom = false) (σ : State) :
    γ e σ ↔ ∀ x v, e.m.find x = some v → Itv.mem (σ x) v := by
  constructor
  · intro hg x v hv
    have := hg.2 x
    rw [get_of_not_bottom h, hv] at this
    exact this
  · intro hh
    refine ⟨h, fun x => ?_⟩
    rw [get_of_not_bottom h]
    cases hv : e.m.find x with
    | none => exact Itv.mem_top _
    | some v => exact hh x v hv

theorem γ_find {e : Env} {σ : State} (hg : γ e σ) {x : Var} {v : Itv} (h : e.m.find x = some v) :
    Itv.mem (σ x) v :=
  (γ_iff_of_not_bottom hg.1 σ).1 hg x v h

/-- `set`, case by case: only the case that stores the value says anything -/
theorem set_ind {P : Env → Prop} (e : Env) (k : Var) (v : Itv) (he : e.bottom = true → P e)
    (hb : v.isBottom = true → P bot) (hs : e.bottom = false → v.isBottom = false → P ⟨false, e.m.store k v⟩) :
    P (e.set k v) := by
  unfold set
  by_cases h1 : e.bottom = true
  · rw [if_pos h1]; exact he h1
  · rw [if_neg h1]
    by_cases h2 : v.isBottom = true
    · rw [if_pos h2]; exact hb h2
    · rw [if_neg h2]
      rw [← apply_ite (Env.mk false)]
      exact hs (Bool.eq_false_iff.2 h1) (Bool.eq_false_iff.2 h2)

/-- the value `join(k, v)` stores for a `v` that is not bottom -/
def joinVal (e : Env) (k : Var) (v : Itv) : Itv :=
  if v.isTop then Itv.top else match e.m.find k with | none => Itv.top | some old => Itv.join old v

theorem joinKey_ind {P : Env → Prop} (e : Env) (k : Var) (v : Itv) (he : e.bottom = true → P e)
    (hb : v.isBottom = true → P bot)
    (hs : e.bottom = false → v.isBottom = false → P ⟨false, e.m.store k (e.joinVal k v)⟩) :
    P (e.joinKey k v) := by
  unfold joinKey
  by_cases h1 : e.bottom = true
  · rw [if_pos h1]; exact he h1
  · rw [if_neg h1]
    by_cases h2 : v.isBottom = true
    · rw [if_pos h2]; exact hb h2
    · rw [if_neg h2]
      have := hs (Bool.eq_false_iff.2 h1) (Bool.eq_false_iff.2 h2)
      unfold joinVal at this
      by_cases ht : v.isTop = true
      · rw [if_pos ht]; rw [if_pos ht] at this; exact this
      · rw [if_neg ht]; rw [if_neg ht] at this
        cases hf : e.m.find k with
        | none => rw [hf] at this; exact this
        | some old => rw [hf] at this; dsimp only; rw [← apply_ite (Env.mk false)]; exact this

theorem γ_store {e : Env} {σ : State} (hg : γ e σ) {v : Itv} {n : Int} (hn : Itv.mem n v) (k : Var) :
    γ ⟨false, e.m.store k v⟩ (upd σ k n) := by
  refine (γ_iff_of_not_bottom rfl _).2 fun x w hw => ?_
  rw [Map.find_store] at hw
  by_cases hx : x = k
  · rw [if_pos hx] at hw
    by_cases ht : v.isTop = true
    · rw [if_pos ht] at hw; cases hw
    · rw [if_neg ht] at hw; cases hw; rw [hx, upd_same]; exact hn
  · rw [if_neg hx] at hw; rw [upd_other _ _ hx]; exact γ_find hg hw

theorem set_sound {e : Env} {σ : State} (hg : γ e σ) {v : Itv} {n : Int} (hn : Itv.mem n v) (k : Var) :
    γ (e.set k v) (upd σ k n) :=
  set_ind (P := fun e' => γ e' (upd σ k n)) e k v (fun h => absurd h (ne_true_of_eq_false hg.1))
    (fun h => absurd h (ne_true_of_eq_false (Itv.isBottom_false_of_mem hn))) (fun _ _ => γ_store hg hn k)

theorem set_sound_same {e : Env} {σ : State} (hg : γ e σ) {v : Itv} {k : Var} (hn : Itv.mem (σ k) v) :
    γ (e.set k v) σ := by
  have := set_sound hg hn k
  rwa [upd_self] at this

/-- `operator-=` is `set` of top: what holds of `set` holds of `forget` -/
theorem forget_eq_set (e : Env) (k : Var) : e.forget k = e.set k Itv.top := rfl

theorem forget_sound {e : Env} {σ : State} (hg : γ e σ) (k : Var) (n : Int) :
    γ (e.forget k) (upd σ k n) := set_sound hg (Itv.mem_top n) k

theorem forget_sound_same {e : Env} {σ : State} (hg : γ e σ) (k : Var) : γ (e.forget k) σ := by
  have := forget_sound hg k (σ k)
  rwa [upd_self] at this

/-- the value `assign` / `weak_assign` compute for the right-hand side -/
def rhsVal (e : Env) (ex : Expr) : Itv :=
  match getVariable ex with | some v => e.get v | none => e.evalExpr ex

theorem assign_eq (e : Env) (x : Var) (ex : Expr) : e.assign x ex = e.set x (e.rhsVal ex) := by
  unfold assign rhsVal; cases getVariable ex <;> rfl

theorem weakAssign_eq (e : Env) (x : Var) (ex : Expr) : e.weakAssign x ex = e.joinKey x (e.rhsVal ex) := by
  unfold weakAssign rhsVal; cases getVariable ex <;> rfl

/-- `get_binary_operands` answers for `n * x - n * y != 0` only -/
theorem binaryOperands_some {c : Cst} {x y : Var} (h : binaryOperands c = some (x, y)) :
    c.kind = .neq ∧ c.constant = 0 ∧ ∃ ny, c.expr.terms = [(x, ny * -1), (y, ny)] := by
  unfold binaryOperands at h
  by_cases hk : c.kind = .neq
  · rw [if_pos hk] at h
    by_cases hsz : c.expr.size = 2 ∧ c.constant = 0
    · rw [if_pos hsz] at h
      split at h
      · rename_i vx nx vy ny hts
        by_cases hn : nx = ny * -1
        · rw [if_pos hn] at h; cases h; exact ⟨hk, hsz.2, ny, hn ▸ hts⟩
        · rw [if_neg hn] at h; cases h
      · cases h
    · rw [if_neg hsz] at h; cases h
  · rw [if_neg hk] at h; cases h

theorem select_ind {P : Env → Prop} (e : Env) (lhs : Var) (c : Cst) (e1 e2 : Expr) (he : e.bottom = true → P e)
    (h2 : (e.add [c]).bottom = true → P (e.assign lhs e2))
    (h1 : (e.add [c.negate]).bottom = true → P (e.assign lhs e1))
    (hj : P (e.set lhs (Itv.join (e.evalExpr e1) (e.evalExpr e2)))) : P (e.select lhs c e1 e2) := by
  unfold select
  by_cases hb : e.bottom = true
  · rw [if_pos hb]; exact he hb
  · rw [if_neg hb]
    by_cases hc : (e.add [c]).bottom = true
    · rw [if_pos hc]; exact h2 hc
    · rw [if_neg hc]
      by_cases hn : (e.add [c.negate]).bottom = true
      · rw [if_pos hn]; exact h1 hn
      · rw [if_neg hn]; exact hj

theorem project_ind {P : Env → Prop} (e : Env) (keys : List Var) (he : (e.bottom || e.isTop) = true → P e)
    (hcopy : P (keys.foldl (fun env key => env.set key (e.get key)) top))
    (hdrop : e.bottom = false →
      P (((e.m.keys).filter (fun key => !keys.contains key)).foldl (fun env key => env.forget key) e)) :
    P (e.project keys) := by
  unfold project
  by_cases hb : (e.bottom || e.isTop) = true
  · rw [if_pos hb]; exact he hb
  · rw [if_neg hb]
    simp only []
    by_cases hk : (decide (e.m.length ≤ 5) || decide (keys.length < e.m.length * 60 / 100)) = true
    · rw [if_pos hk]; exact hcopy
    · rw [if_neg hk]
      exact hdrop (Bool.eq_false_iff.2 fun h => hb (by rw [h]; rfl))

/-- the loop of `rename` moves one binding at a time -/
theorem renameLoop_ind {Q : Map → Prop}
    (hstep : ∀ m k nk v, Q m → m.find k = some v → Q ((if !v.isTop then m.insert nk v else m).remove k)) :
    ∀ (f t : List Var) (m : Map), Q m → Q (renameLoop f t m) := by
  intro f
  induction f with
  | nil => intro t m h; unfold renameLoop; exact h
  | cons k rest ih =>
    intro t m h
    cases t with
    | nil => unfold renameLoop; exact h
    | cons nk rest' =>
      unfold renameLoop
      split
      · exact ih _ _ h
      · split
        · rename_i v hv; exact ih _ _ (hstep m k nk v h hv)
        · exact ih _ _ h

theorem rename_ind {P : Env → Prop} {e e' : Env} {f t : List Var} (hr : e.rename f t = some e')
    (he : (e.isTop || e.bottom) = true → P e)
    (hl : e.bottom = false → f.length = t.length → P ⟨false, renameLoop f t e.m⟩) : P e' := by
  unfold rename at hr
  by_cases hb : (e.isTop || e.bottom) = true
  · rw [if_pos hb] at hr; cases hr; exact he hb
  · rw [if_neg hb] at hr
    by_cases hlen : f.length ≠ t.length
    · rw [if_pos hlen] at hr; cases hr
    · rw [if_neg hlen] at hr; cases hr
      exact hl (Bool.eq_false_iff.2 fun h => hb (by rw [h, Bool.or_true])) (Classical.not_not.1 hlen)

theorem leq_sound {a b : Env} (h : leq a b = true) {σ : State} (hg : γ a σ) : γ b σ := by
  unfold leq at h
  simp only [hg.1, Bool.false_eq_true, if_false] at h
  cases hb : b.bottom with
  | true => simp [hb] at h
  | false =>
    simp only [hb, Bool.false_eq_true, if_false] at h
    rw [Map.leq_iff] at h
    rw [γ_iff_of_not_bottom hb]
    intro x v hv
    obtain ⟨u, hu, hl⟩ := h (x, v) (Map.find_some_mem hv)
    exact Itv.leq_sound hl ((γ_iff_of_not_bottom hg.1 σ).1 hg x u hu)

theorem bot_leq (b : Env) : leq bot b = true := by simp [leq, bot]
theorem leq_of_bottom {a : Env} (h : a.bottom = true) (b : Env) : leq a b = true := by simp [leq, h]
theorem leq_top (a : Env) : leq a top = true := by
  unfold leq; split
  · rfl
  · simp [top, Map.leq]

end Env

end IDom
end Crab
