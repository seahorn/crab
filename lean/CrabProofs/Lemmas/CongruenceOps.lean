import CrabProofs.Lemmas.Congruence

/-! The remaining operations of `Crab.Cong`: the meet is exactly the intersection; signed division
    and remainder are sound for every non-zero divisor. -/
namespace Crab
namespace Cong

theorem lcm_eq (x y : Int) : lcm x y = (Int.lcm x y : Int) := by
  unfold lcm
  rw [iabs_eq_natAbs, gcd_eq, Int.natAbs_mul, Int.tdiv_eq_ediv_of_nonneg (Int.natCast_nonneg _)]
  rw [← Int.natCast_ediv]
  rfl

theorem lcm_dvd {x y m : Int} (hx : x ∣ m) (hy : y ∣ m) : lcm x y ∣ m := by
  rw [lcm_eq]
  have h1 : x ∣ (m.natAbs : Int) := Int.dvd_natAbs.mpr hx
  have h2 : y ∣ (m.natAbs : Int) := Int.dvd_natAbs.mpr hy
  have := Int.lcm_dvd h1 h2
  have h3 : ((Int.lcm x y : Nat) : Int) ∣ (m.natAbs : Int) := Int.ofNat_dvd.mpr this
  exact Int.dvd_natAbs.mp h3

theorem dvd_lcm_left (x y : Int) : x ∣ lcm x y := by rw [lcm_eq]; exact Int.dvd_lcm_left x y
theorem dvd_lcm_right (x y : Int) : y ∣ lcm x y := by rw [lcm_eq]; exact Int.dvd_lcm_right x y

theorem bezoutLoop_spec (x y : Int) : ∀ (fuel : Nat) (r0 r1 s0 s1 g u : Int), r1.natAbs < fuel →
    bezoutLoop fuel r0 r1 s0 s1 = (g, u) →
    (g ∣ r0 ∧ g ∣ r1) ∧ (y ∣ x * s0 - r0 → y ∣ x * s1 - r1 → y ∣ x * u - g) := by
  intro fuel
  induction fuel with
  | zero => intro r0 r1 s0 s1 g u h; omega
  | succ n ih =>
    intro r0 r1 s0 s1 g u hlt h
    unfold bezoutLoop at h
    by_cases h0 : r1 = 0
    · rw [if_pos h0] at h
      cases h
      exact ⟨⟨Int.dvd_refl _, h0 ▸ Int.dvd_zero _⟩, fun h _ => h⟩
    · rw [if_neg h0] at h
      generalize hq : r0.tdiv r1 = q at h
      have hr2 : r0 - q * r1 = Int.tmod r0 r1 := by
        rw [← hq, Int.tmod_def, Int.mul_comm]
      have hlt2 : (r0 - q * r1).natAbs < n := by
        rw [hr2, Int.natAbs_tmod]
        have : r0.natAbs % r1.natAbs < r1.natAbs := Nat.mod_lt _ (by omega)
        omega
      obtain ⟨⟨g1, g2⟩, hu⟩ := ih r1 (r0 - q * r1) s1 (s0 - q * s1) g u hlt2 h
      refine ⟨⟨?_, g1⟩, ?_⟩
      · have hdv := Int.dvd_add g2 (Int.dvd_trans g1 (Int.dvd_mul_left q r1))
        rwa [Int.sub_add_cancel] at hdv
      · intro h1 h2
        apply hu h2
        have e : x * (s0 - q * s1) - (r0 - q * r1) = (x * s0 - r0) - q * (x * s1 - r1) := by
          rw [Int.mul_sub, Int.mul_sub, Int.mul_left_comm x q s1]; omega
        rw [e]
        exact Int.dvd_sub h1 (Int.dvd_trans h2 (Int.dvd_mul_left _ _))

/-- `bezout(x, y)` returns a common divisor `g` and `u` with `x*u ≡ g (mod y)` -/
theorem bezout_spec (x y : Int) :
    (bezout x y).1 ∣ x ∧ (bezout x y).1 ∣ y ∧ y ∣ x * (bezout x y).2 - (bezout x y).1 := by
  have := bezoutLoop_spec x y (y.natAbs + 1) x y 1 0 _ _ (by omega) rfl
  exact ⟨this.1.1, this.1.2, this.2 (by simp) (by simp)⟩

/-- the common element computed by the general case of `operator&` -/
theorem crt_elem {a a' b b' g u : Int} (hu : a' ∣ a * u - g) (hd : g ∣ b' - b) (hg0 : g ≠ 0) :
    a ∣ (b + a * (u * Int.tdiv (b' - b) g)) - b ∧ a' ∣ (b + a * (u * Int.tdiv (b' - b) g)) - b' := by
  obtain ⟨t, ht⟩ := hd
  have hq : Int.tdiv (b' - b) g = t := by rw [ht]; exact Int.mul_tdiv_cancel_left _ hg0
  rw [hq]
  constructor
  · have : b + a * (u * t) - b = a * (u * t) := by omega
    rw [this]; exact Int.dvd_mul_right _ _
  · have : b + a * (u * t) - b' = (a * u - g) * t := by
      have : b' = b + g * t := by omega
      rw [this, Int.sub_mul, Int.mul_assoc]; omega
    rw [this]; exact Int.dvd_trans hu (Int.dvd_mul_right _ _)

theorem mem_ite_bot {c : Prop} [Decidable c] {x : Cong} {k : Int} :
    mem k (if c then x else bot) ↔ c ∧ mem k x := by
  by_cases h : c
  · rw [if_pos h]; exact (and_iff_right h).symm
  · rw [if_neg h]; exact iff_of_false (not_mem_bot k) (fun h' => h h'.1)

/-- meeting a constant `x` with `o`: the three branches of `operator&` with a zero modulus all
    test whether the constant lies in the other class -/
theorem mem_meet_cst {x o : Cong} {k : Int} (hxa : x.a = 0) (hob : o.isBot = false) {c : Prop}
    (hc : c ↔ o.a ∣ x.b - o.b) : c ∧ mem k x ↔ mem k x ∧ mem k o := by
  constructor
  · rintro ⟨h, hx⟩
    exact ⟨hx, hob, by rw [eq_of_mem_cst hx hxa]; exact hc.mp h⟩
  · rintro ⟨hx, ho⟩
    exact ⟨hc.mpr (by rw [← eq_of_mem_cst hx hxa]; exact ho.2), hx⟩

/-- `operator&` is exactly the intersection -/
theorem mem_meet {x o : Cong} {k : Int} : mem k (meet x o) ↔ mem k x ∧ mem k o := by
  unfold meet
  by_cases hb : (x.isBot || o.isBot) = true
  · rw [if_pos hb]
    exact iff_of_false (not_mem_bot k) (fun h => not_bot_or h.1 h.2 hb)
  obtain ⟨hxb, hob⟩ := Bool.or_eq_false_iff.mp (eq_false_of_ne_true hb)
  rw [if_neg hb]
  by_cases h0 : x.a = 0 ∧ o.a = 0
  · rw [if_pos h0, mem_ite_bot]
    refine mem_meet_cst h0.1 hob ?_
    rw [h0.2, Int.zero_dvd]; exact ⟨fun h => by omega, fun h => by omega⟩
  rw [if_neg h0]
  by_cases hxa : x.a = 0
  · rw [if_pos hxa, mem_ite_bot]
    exact mem_meet_cst hxa hob Int.dvd_iff_tmod_eq_zero.symm
  rw [if_neg hxa]
  by_cases hoa : o.a = 0
  · rw [if_pos hoa, mem_ite_bot, and_comm (a := mem k x)]
    exact mem_meet_cst hoa hxb Int.dvd_iff_tmod_eq_zero.symm
  rw [if_neg hoa]
  -- general case: `g = gcd`, `x.a * u ≡ g (mod o.a)`; the classes meet iff `g ∣ o.b - x.b`, and
  -- then `crt_elem` is a common member, so the intersection is its class modulo the lcm
  obtain ⟨hg1, hg2, hu⟩ := bezout_spec x.a o.a
  have hg0 : (bezout x.a o.a).1 ≠ 0 := by
    intro h0; rw [h0] at hg1; exact hxa (Int.zero_dvd.mp hg1)
  simp only []
  rw [mem_ite_bot, mem_mk', ← Int.dvd_iff_tmod_eq_zero]
  constructor
  · rintro ⟨hd, hk⟩
    obtain ⟨c1, c2⟩ := crt_elem hu hd hg0
    have h1 := Int.dvd_trans (dvd_lcm_left x.a o.a) hk
    have h2 := Int.dvd_trans (dvd_lcm_right x.a o.a) hk
    constructor
    · refine ⟨hxb, ?_⟩
      have e : ∀ z, k - x.b = (k - z) + (z - x.b) := by intro z; omega
      rw [e]; exact Int.dvd_add h1 c1
    · refine ⟨hob, ?_⟩
      have e : ∀ z, k - o.b = (k - z) + (z - o.b) := by intro z; omega
      rw [e]; exact Int.dvd_add h2 c2
  · rintro ⟨hx, ho⟩
    have hd : (bezout x.a o.a).1 ∣ o.b - x.b := by
      have e : o.b - x.b = (k - x.b) - (k - o.b) := by omega
      rw [e]; exact Int.dvd_sub (Int.dvd_trans hg1 hx.2) (Int.dvd_trans hg2 ho.2)
    obtain ⟨c1, c2⟩ := crt_elem hu hd hg0
    refine ⟨hd, lcm_dvd ?_ ?_⟩
    · have e : ∀ z, k - z = (k - x.b) - (z - x.b) := by intro z; omega
      rw [e]; exact Int.dvd_sub hx.2 c1
    · have e : ∀ z, k - z = (k - o.b) - (z - o.b) := by intro z; omega
      rw [e]; exact Int.dvd_sub ho.2 c2

theorem meet_sound {x o : Cong} {k : Int} (hx : mem k x) (ho : mem k o) : mem k (meet x o) :=
  mem_meet.mpr ⟨hx, ho⟩

theorem meet_exact {x o : Cong} {k : Int} (h : mem k (meet x o)) : mem k x ∧ mem k o :=
  mem_meet.mp h

theorem not_cst_zero {o : Cong} {b : Int} (hb : mem b o) (hb0 : b ≠ 0) : ¬ (o.a = 0 ∧ o.b = 0) :=
  fun hz => hb0 ((eq_of_mem_cst hb hz.1).trans hz.2)

theorem div_sound {x o : Cong} {a b : Int} (ha : mem a x) (hb : mem b o) (hb0 : b ≠ 0) :
    mem (Int.tdiv a b) (div x o) := by
  rw [div, if_neg (not_bot_or ha hb), if_neg (not_cst_zero hb hb0)]
  by_cases ht : (x.isTop || o.isTop) = true
  · rw [if_pos ht]; exact mem_top _
  rw [if_neg ht]
  by_cases hoa : o.a = 0
  · rw [if_pos hoa, ← eq_of_mem_cst hb hoa]
    by_cases hxa : x.a = 0
    · rw [if_pos hxa, mem_ofInt, eq_of_mem_cst ha hxa]
    rw [if_neg hxa]
    by_cases hdiv : Int.tmod x.a b = 0 ∧ Int.tmod x.b b = 0
    · -- `b` divides modulus and residue, hence `a`; the quotients form the quotient class
      rw [if_pos hdiv, mem_mk']
      obtain ⟨q, hq⟩ := Int.dvd_of_tmod_eq_zero hdiv.1
      obtain ⟨r, hr⟩ := Int.dvd_of_tmod_eq_zero hdiv.2
      obtain ⟨i, hi⟩ := ha.2
      have ea : a = b * (q * i + r) := by
        have : a = x.a * i + x.b := by omega
        rw [this, hq, hr, Int.mul_add, Int.mul_assoc]
      rw [ea, hq, hr, Int.mul_tdiv_cancel_left _ hb0, Int.mul_tdiv_cancel_left _ hb0,
          Int.mul_tdiv_cancel_left _ hb0]
      exact ⟨i, by omega⟩
    · rw [if_neg hdiv]; exact mem_top _
  rw [if_neg hoa]
  by_cases hz : x.isZero = true
  · rw [if_pos hz]
    have hz' := hz
    simp only [isZero, Bool.and_eq_true, beq_iff_eq] at hz'
    rw [eq_of_mem_cst ha hz'.1.2, hz'.2, Int.zero_tdiv]
    exact ⟨ha.1, by rw [hz'.1.2, hz'.2]; exact Int.dvd_refl _⟩
  · rw [if_neg hz]; exact mem_top _

theorem tmod_sub_dvd (k d g : Int) (hg : g ∣ d) : g ∣ Int.tmod k d - k := by
  rw [Int.tmod_def]
  have : k - d * k.tdiv d - k = -(d * k.tdiv d) := by omega
  rw [this]
  exact Int.dvd_neg.mpr (Int.dvd_trans hg (Int.dvd_mul_right _ _))

theorem srem_sound {x o : Cong} {a b : Int} (ha : mem a x) (hb : mem b o) (hb0 : b ≠ 0) :
    mem (Int.tmod a b) (srem x o) := by
  rw [srem, if_neg (not_bot_or ha hb), if_neg (not_cst_zero hb hb0)]
  by_cases ht : (x.isTop || o.isTop) = true
  · rw [if_pos ht]; exact mem_top _
  rw [if_neg ht]
  by_cases h0 : x.a = 0 ∧ o.a = 0
  · rw [if_pos h0, mem_ofInt, eq_of_mem_cst ha h0.1, eq_of_mem_cst hb h0.2]
  rw [if_neg h0]
  by_cases hz : o.a = 0 ∧ Int.tmod x.a o.b = 0 ∧ Int.tmod x.b o.b = 0
  · rw [if_pos hz, mem_ofInt]
    rw [← eq_of_mem_cst hb hz.1] at hz
    obtain ⟨i, hi⟩ := ha.2
    have hba : b ∣ a := by
      have : a = x.a * i + x.b := by omega
      rw [this]
      exact Int.dvd_add (Int.dvd_trans (Int.dvd_of_tmod_eq_zero hz.2.1) (Int.dvd_mul_right _ _))
        (Int.dvd_of_tmod_eq_zero hz.2.2)
    exact Int.tmod_eq_zero_of_dvd hba
  · rw [if_neg hz, mem_mk']
    obtain ⟨j, hj⟩ := hb.2
    have hgb : gcd3 x.a o.a o.b ∣ b := by
      have : b = o.a * j + o.b := by omega
      rw [this]
      exact Int.dvd_add (Int.dvd_trans (gcd3_dvd_2 _ _ _) (Int.dvd_mul_right _ _)) (gcd3_dvd_3 _ _ _)
    have h1 := tmod_sub_dvd a b _ hgb
    have h2 := Int.dvd_trans (gcd3_dvd_1 x.a o.a o.b) ha.2
    have : a.tmod b - x.b = (a.tmod b - a) + (a - x.b) := by omega
    rw [this]; exact Int.dvd_add h1 h2

end Cong
end Crab
