import CrabProofs.Lemmas.InterTDRSpec
import CrabProofs.Lemmas.InterCtxTable
import CrabProofs.Lemmas.InterTDSound

/-!
  C09, whole top-down analysis — the invariant of the state of the analysis (`StOK`): no pending
  recursion fixpoint, every stored context that is not stale is a valid summary backed by a recorded
  run, every recorded run is sound, is below the context-insensitive invariants and has its call
  sites covered; the call stack is a simple call path satisfying `pathsOK`.
-/
namespace Crab.Inter
open Crab.Fix (upd)
variable {p : IProg}

section Inv
variable (D : IDom) (p : IProg) (P : TDParams)

/-- the frame `env'` of a call of `h` is covered: a recorded run of `h` was started with a value
    describing it, or `h` is a widening point whose analysis (from `top`) is in progress -/
def Covd (s : TDSt D) (h : Nat) (env' : Env) : Prop :=
  (∃ ρ, ρ ∈ s.runs ∧ ρ.fn = h ∧ EnvIn D.toAbsDom ρ.entry env') ∨
  (P.wset.contains h = true ∧ h ∈ s.stack)

/-- a call of `h` with the input values `iv` is covered: every frame it can create is -/
def SiteCov (s : TDSt D) (h : Nat) (iv : List Int) : Prop :=
  ∀ env' : Env, env'.size = p.nv → MatchVals (p.fn h).ins iv (toSt env') → Covd D P s h env'

/-- the call sites of block `b` are covered for the executions of the block from the frame `x` -/
def BlockCov (s : TDSt D) (f : IFun) (b : Nat) (x : Env) : Prop :=
  ∀ k env h lhs args, Pref (TrueCR p) (f.blk b) k x env → k < (f.blk b).stmts.size →
    (f.blk b).stmts.getD k default = .call h lhs args → SiteCov D p P s h (args.map (fun a => env.getD a 0))

/-- a stored context of `h`: `h` is called by some function (so it is not an entry: `main` has no stored
    context), and unless stale it is a valid summary whose pre is below the entry of a recorded run -/
def CtxOK (s : TDSt D) (h : Nat) (c : FCtx D.toLat) : Prop :=
  p.isCalled h = true ∧
  (c.stale = false → FactValid D p h c.pre c.post ∧ ∃ ρ, ρ ∈ s.runs ∧ ρ.fn = h ∧ SubG D c.pre ρ.entry)

structure StOK (s : TDSt D) : Prop where
  /-- no recursion fixpoint is pending (`simpleRec`) -/
  nofix : s.fix = fun _ => none
  ctxs : ∀ h c, c ∈ s.cc h → CtxOK D p s h c
  runs : ∀ ρ, ρ ∈ s.runs → ρ.fn < p.funs.size ∧ RunSound D p ρ
  /-- every recorded run is below the context-insensitive invariants -/
  glob : ∀ ρ, ρ ∈ s.runs → ∃ tp tq, s.gpre ρ.fn = some tp ∧ s.gpost ρ.fn = some tq ∧
    ∀ b, SubG D (ρ.pre b) (tp b) ∧ SubG D (ρ.post b) (tq b)
  /-- the call sites of every recorded run are covered -/
  cov : ∀ ρ, ρ ∈ s.runs → ∀ b x, LPre (TrueCR p) (p.fn ρ.fn) (RunEntry D p ρ) b x →
    BlockCov D p P s (p.fn ρ.fn) b x
  /-- the call stack is a simple call path the hypothesis `pathsOK` speaks about -/
  nodup : s.stack.Nodup
  paths : ∃ k, pathsOK p P.wset k s.stack = true

/-- the state only grows and the call stack is back where it was -/
def LeSt (s s' : TDSt D) : Prop := s'.stack = s.stack ∧ ∃ l, s'.runs = s.runs ++ l

/-- the contract of `analyze_function` on a state satisfying the invariant, for the function on top
    of the call stack: the invariant is kept, the run is recorded with the entry value it was given -/
def AFOK (rec : AF D) : Prop :=
  ∀ g e it (s : TDSt D) nn st s', StOK D p P s → s.stack.head? = some g → g < p.funs.size →
    rec g e it s = some (nn, st, s') →
    StOK D p P s' ∧ LeSt D s s' ∧ nn = true ∧ (⟨g, e, st.pre, st.post⟩ : RunRec D) ∈ s'.runs

end Inv

variable {D : IDom} {P : TDParams}

theorem LeSt.refl (s : TDSt D) : LeSt D s s := ⟨rfl, [], by simp⟩

theorem LeSt.trans {a b c : TDSt D} (h1 : LeSt D a b) (h2 : LeSt D b c) : LeSt D a c := by
  obtain ⟨e1, l1, r1⟩ := h1
  obtain ⟨e2, l2, r2⟩ := h2
  exact ⟨e2.trans e1, l1 ++ l2, by rw [r2, r1, List.append_assoc]⟩

theorem LeSt.mem_runs {a b : TDSt D} (h : LeSt D a b) {ρ : RunRec D} (hρ : ρ ∈ a.runs) : ρ ∈ b.runs := by
  obtain ⟨_, l, r⟩ := h
  rw [r]; exact List.mem_append.mpr (Or.inl hρ)

theorem Covd.mono {a b : TDSt D} (h : LeSt D a b) {x : Nat} {env : Env} (hc : Covd D P a x env) :
    Covd D P b x env := by
  rcases hc with ⟨ρ, h1, h2, h3⟩ | ⟨h1, h2⟩
  · exact Or.inl ⟨ρ, h.mem_runs h1, h2, h3⟩
  · exact Or.inr ⟨h1, by rw [h.1]; exact h2⟩

theorem BlockCov.mono {a b : TDSt D} (h : LeSt D a b) {f : IFun} {n : Nat} {x : Env}
    (hc : BlockCov D p P a f n x) : BlockCov D p P b f n x :=
  fun k env hh lhs args h1 h2 h3 env' h4 h5 => (hc k env hh lhs args h1 h2 h3 env' h4 h5).mono h

end Crab.Inter
