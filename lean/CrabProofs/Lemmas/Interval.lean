import CrabProofs.Lemmas.Bound

/-! Helper lemmas about `Crab.Itv`: membership through the normalising constructor,
    bottom, and the building blocks of the soundness proofs. -/
namespace Crab
namespace Itv
open Bound

theorem mem_def (k : Int) (i : Itv) : mem k i ↔ (Bound.le i.lb (fin k) = true ∧ Bound.le (fin k) i.ub = true) := Iff.rfl

theorem not_mem_bot (k : Int) : ¬ mem k bot := by
  simp [mem, bot]; omega

theorem mem_mk' (k : Int) (l u : Bound) :
    mem k (mk' l u) ↔ (Bound.le l (fin k) = true ∧ Bound.le (fin k) u = true) := by
  unfold mk'
  split
  · rename_i h
    constructor
    · intro hm; exact absurd hm (not_mem_bot k)
    · intro ⟨h1, h2⟩
      have := Bound.le_trans h1 h2
      simp [Bound.gt] at h; simp [h] at this
  · rfl

theorem not_mem_of_isBottom {k : Int} {i : Itv} (h : i.isBottom = true) : ¬ mem k i := by
  intro ⟨h1, h2⟩
  have := Bound.le_trans h1 h2
  simp [isBottom, Bound.gt] at h; simp [h] at this

theorem isBottom_false_of_mem {k : Int} {i : Itv} (h : mem k i) : i.isBottom = false := by
  cases hb : i.isBottom
  · rfl
  · exact absurd h (not_mem_of_isBottom hb)

theorem isBottom_bot : bot.isBottom = true := by decide

theorem isBottom_false_iff (i : Itv) : i.isBottom = false ↔ Bound.le i.lb i.ub = true := by
  simp [isBottom, Bound.gt]

theorem mk'_eq_mk {l u : Bound} (h : Bound.le l u = true) : mk' l u = ⟨l, u⟩ := by
  simp [mk', Bound.gt, h]

theorem mem_top (k : Int) : mem k top := by simp [mem, top]

theorem mem_single (k j : Int) : mem k (single j) ↔ k = j := by
  simp [mem, single]; omega

theorem contains_iff (i : Itv) (k : Int) : i.contains k = true ↔ mem k i := by
  unfold contains
  split
  · rename_i h; simp; exact not_mem_of_isBottom h
  · simp [mem]

theorem singleton?_some {a : Itv} {c : Int} (h : a.singleton? = some c) :
    a.lb = fin c ∧ a.ub = fin c := by
  unfold singleton? at h
  split at h
  · rename_i hc
    simp at hc
    obtain ⟨_, he⟩ := hc
    cases hl : a.lb <;> simp [hl, number?] at h
    subst h
    exact ⟨rfl, by rw [← he, hl]⟩
  · simp at h

theorem mem_of_singleton? {a : Itv} {c k : Int} (h : a.singleton? = some c) (hk : mem k a) : k = c := by
  obtain ⟨h1, h2⟩ := singleton?_some h
  simp [mem, h1, h2] at hk; omega

theorem mk'_self {x : Itv} (h : x.isBottom = false) : mk' x.lb x.ub = x := by
  rw [mk'_eq_mk ((isBottom_false_iff x).mp h)]

theorem isBottom_mk' (l u : Bound) : (mk' l u).isBottom = !(Bound.le l u) := by
  unfold mk'
  cases h : Bound.le l u
  · simp [Bound.gt, h, isBottom_bot]
  · simp [Bound.gt, h, isBottom]

theorem eq_top_of_isTop {z : Itv} (h : z.isTop = true) (hw : z.WF) : z = top := by
  obtain ⟨l, u⟩ := z
  obtain ⟨h1, h2⟩ := hw
  cases l <;> cases u <;> simp_all [isTop, Bound.isInfinite, top]

theorem isTop_top : top.isTop = true := by decide
theorem isBottom_top : top.isBottom = false := by decide

theorem wf_of_bounds {x y : Itv} (hx : x.WF) (hy : y.WF) {l u : Bound}
    (hl : l = x.lb ∨ l = y.lb ∨ l = ninf) (hu : u = x.ub ∨ u = y.ub ∨ u = pinf) : (⟨l, u⟩ : Itv).WF := by
  constructor
  · rcases hl with rfl | rfl | rfl
    · exact hx.1
    · exact hy.1
    · simp
  · rcases hu with rfl | rfl | rfl
    · exact hx.2
    · exact hy.2
    · simp

theorem wf_bot : bot.WF := by simp [WF, bot]

theorem wf_mk' {l u : Bound} (h1 : l ≠ pinf) (h2 : u ≠ ninf) : (mk' l u).WF := by
  unfold mk'; split
  · exact wf_bot
  · exact ⟨h1, h2⟩

theorem exists_mem {x : Itv} (hw : x.WF) (hb : x.isBottom = false) : ∃ k, mem k x :=
  Bound.exists_between hw.1 hw.2 ((isBottom_false_iff x).mp hb)

theorem wf_top : top.WF := by simp [WF, top]
theorem wf_single (k : Int) : (single k).WF := by simp [WF, single]

theorem wf_of_mem {i : Itv} {k : Int} (h : mem k i) : i.WF := by
  obtain ⟨l, u⟩ := i
  obtain ⟨h1, h2⟩ := h
  constructor
  · intro e; simp only at e h1; subst e; simp at h1
  · intro e; simp only at e h2; subst e; simp at h2

theorem max_ne_pinf {a b : Bound} (ha : a ≠ pinf) (hb : b ≠ pinf) : Bound.max a b ≠ pinf := by
  rcases Bound.max_eq_or a b with h | h <;> rw [h] <;> assumption
theorem min_ne_pinf {a b : Bound} (ha : a ≠ pinf) (hb : b ≠ pinf) : Bound.min a b ≠ pinf := by
  rcases Bound.min_eq_or a b with h | h <;> rw [h] <;> assumption
theorem max_ne_ninf {a b : Bound} (ha : a ≠ ninf) (hb : b ≠ ninf) : Bound.max a b ≠ ninf := by
  rcases Bound.max_eq_or a b with h | h <;> rw [h] <;> assumption
theorem min_ne_ninf {a b : Bound} (ha : a ≠ ninf) (hb : b ≠ ninf) : Bound.min a b ≠ ninf := by
  rcases Bound.min_eq_or a b with h | h <;> rw [h] <;> assumption

theorem wf_ite {c : Prop} [Decidable c] {a b : Itv} (ha : a.WF) (hb : b.WF) : (if c then a else b).WF := by
  split <;> assumption

theorem wf_fin (a b : Int) : (mk' (fin a) (fin b)).WF := wf_mk' (by simp) (by simp)

theorem wf_meet {x y : Itv} (hx : x.WF) (hy : y.WF) : (meet x y).WF :=
  wf_ite wf_bot (wf_mk' (max_ne_pinf hx.1 hy.1) (min_ne_ninf hx.2 hy.2))

theorem wf_join {x y : Itv} (hx : x.WF) (hy : y.WF) : (join x y).WF :=
  wf_ite hy (wf_ite hx (wf_mk' (min_ne_pinf hx.1 hy.1) (max_ne_ninf hx.2 hy.2)))

theorem wf_widen {x y : Itv} (hx : x.WF) (hy : y.WF) : (widen x y).WF := by
  refine wf_ite hy (wf_ite hx (wf_mk' ?_ ?_))
  · split
    · simp
    · exact hx.1
  · split
    · simp
    · exact hx.2

theorem wf_narrow {x y : Itv} (hx : x.WF) (hy : y.WF) : (narrow x y).WF := by
  refine wf_ite wf_bot (wf_mk' ?_ ?_)
  · split
    · exact hy.1
    · exact hx.1
  · split
    · exact hy.2
    · exact hx.2

/-- the first test of every binary operation fails on operands that have members -/
theorem not_bottom_or {x y : Itv} {a b : Int} (ha : mem a x) (hb : mem b y) :
    ¬ (x.isBottom || y.isBottom) = true := by
  rw [isBottom_false_of_mem ha, isBottom_false_of_mem hb]; exact Bool.false_ne_true

/-- the singleton shortcut of the pointwise operations: both operands are their members -/
theorem mem_single_of_singleton? {x y : Itv} {a b l r : Int} (f : Int → Int → Int)
    (h1 : x.singleton? = some l) (h2 : y.singleton? = some r) (ha : mem a x) (hb : mem b y) :
    mem (f a b) (single (f l r)) := by
  rw [mem_of_singleton? h1 ha, mem_of_singleton? h2 hb]; exact (mem_single _ _).mpr rfl

end Itv
end Crab
