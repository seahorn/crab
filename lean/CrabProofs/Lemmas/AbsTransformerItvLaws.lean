import CrabProofs.Lemmas.AbsTransformerItv
import CrabModel.Analysis.Checker

/-!
  The method laws `NDom.Laws` and the lattice laws `LatLaws` for the interval domain
  `ItvN.dom`, from the soundness theorems of the exact model (`IDom.Stmt.exec_sound`,
  `Env.forget_sound`, `Env.join_upper_left`, …: the content of Props/C03Itv.lean).
-/
namespace Crab
namespace Analysis
namespace ItvN
open Crab.IDom

theorem forget_sound_int {a : SEnv} {σ : IR.State} (hg : dom.γ a σ) (x : Nat) (v : Int)
    (hx : x < σ.iv.size) : dom.γ (forget a (2 * x)) (σ.seti x v) := by
  show Env.γ (a.1.forget (2 * x)) (view (σ.seti x v))
  rw [view_seti σ x v hx]
  exact Env.forget_sound hg _ _

theorem forget_sound_bool {a : SEnv} {σ : IR.State} (hg : dom.γ a σ) (b : Nat) (v : Bool)
    (hb : b < σ.bv.size) : dom.γ (forget a (2 * b + 1)) (σ.setb b v) := by
  show Env.γ (a.1.forget (2 * b + 1)) (view (σ.setb b v))
  rw [view_setb σ b v hb]
  exact Env.forget_sound hg _ _

theorem select_cond (c : IR.Cst) (σ : IR.State) (u v : Int) :
    (if (cstLin c).sat (view σ) then u else v) = (if c.holds σ = true then u else v) := by
  by_cases h : c.holds σ = true
  · rw [if_pos ((cstLin_sat c σ).2 h), if_pos h]
  · rw [if_neg (fun h' => h ((cstLin_sat c σ).1 h')), if_neg h]

/-- a method that is one statement of the model writing the integer variable `x` -/
theorem exec_seti (st : IDom.Stmt) (hok : st.Ok) {a : SEnv} {σ : IR.State} (hg : dom.γ a σ) {x : Nat} {v : Int}
    (hx : x < σ.iv.size) (hr : st.rel (view σ) (upd (view σ) (2 * x) v)) :
    Env.γ (st.exec a.1) (view (σ.seti x v)) := by
  rw [view_seti σ x v hx]; exact st.exec_sound hok hg hr

theorem laws : dom.Laws where
  applyArithVar_sound := fun _ op x y z σ v hg hx hv =>
    exec_seti (.arithVar (arithOp op) (2 * x) (2 * y) (2 * z)) trivial hg hx
      ⟨v, by rw [view_int, view_int]; exact arith_conc hv, rfl⟩
  applyArithCst_sound := fun _ op x y k σ v hg hx hv =>
    exec_seti (.arithCst (arithOp op) (2 * x) (2 * y) k) trivial hg hx ⟨v, by rw [view_int]; exact arith_conc hv, rfl⟩
  applyBitVar_sound := fun _ op x y z σ v hg hx hv =>
    exec_seti (.bitVar (bitOp op) (2 * x) (2 * y) (2 * z)) trivial hg hx
      ⟨v, by rw [view_int, view_int]; exact bit_conc hv, rfl⟩
  applyBitCst_sound := fun _ op x y k σ v hg hx hv =>
    exec_seti (.bitCst (bitOp op) (2 * x) (2 * y) k) trivial hg hx ⟨v, by rw [view_int]; exact bit_conc hv, rfl⟩
  assign_sound := fun _ x e σ hg hx =>
    exec_seti (.assign (2 * x) (linExpr e)) trivial hg hx (by rw [← linExpr_eval]; rfl)
  addCst_sound := fun _ c σ hg hc =>
    IDom.Stmt.exec_sound (.assume [cstLin c]) (fun _ h => List.mem_singleton.1 h ▸ cstLin_canonical c) hg
      ⟨fun _ h => List.mem_singleton.1 h ▸ (cstLin_sat c σ).2 hc, rfl⟩
  select_sound := fun _ x c e1 e2 σ hg hx =>
    exec_seti (.select (2 * x) (cstLin c) (linExpr e1) (linExpr e2)) (cstLin_canonical c) hg hx
      (by rw [← select_cond, ← linExpr_eval, ← linExpr_eval]; rfl)
  forget_int_sound := fun a x σ v hg hx => forget_sound_int hg x v hx
  forget_bool_sound := fun a b σ v hg hb => forget_sound_bool hg b v hb
  forgetAll_sound := fun _ vs _ hg => IDom.Stmt.exec_sound (.havoc (vs.map enc)) trivial hg (fun _ _ => rfl)
  assignBoolCst_sound := fun a b c σ hg hb => forget_sound_bool hg b _ hb
  assignBoolVar_sound := fun a b c neg σ hg hb => forget_sound_bool hg b _ hb
  applyBinaryBool_sound := fun a op b c d σ hg hb => forget_sound_bool hg b _ hb
  assumeBool_sound := fun a b neg σ hg _ => hg
  selectBool_sound := fun a b c d e σ hg hb => forget_sound_bool hg b _ hb

/-- `apply(int_conv_operation_t, dst, src)` of the interval domain (integer operands) -/
theorem intCast_sound (a : SEnv) (op : IntConvOp) (dst src bw : Nat) (σ : IR.State)
    (hg : dom.γ a σ) (hd : dst < σ.iv.size) (hz : op = .zext → σ.geti src ≤ 2 ^ bw - 1) :
    dom.γ (dom.intCast a op dst src bw) (σ.seti dst (σ.geti src)) := by
  refine exec_seti (.cast (decide (op = .zext)) bw (2 * dst) (2 * src)) trivial hg hd ⟨fun h => ?_, ?_⟩
  · rw [view_int]
    exact hz (by simpa using h)
  · rw [view_int]

theorem latLaws : LatLaws SEnv.ops dom.γ where
  join_left := fun a b _ h => Env.join_upper_left a.2 b.1 h
  join_right := fun a _ _ h => Env.join_upper_right a.2 h
  widen_left := fun a b _ h => Env.widen_upper_left a.2 b.1 h
  widen_right := fun a _ _ h => Env.widen_upper_right a.2 h
  meet_sound := fun a _ _ h1 h2 => Env.meet_sound a.2 h1 h2
  narrow_sound := fun a _ _ h1 h2 => Env.narrow_sound a.2 h1 h2
  leq_sound := fun _ _ _ h hg => Env.leq_sound h hg

theorem isBottom_sound (a : SEnv) (σ : IR.State) (h : dom.isBottom a = true) : ¬ dom.γ a σ :=
  Env.not_γ_bottom h _

theorem γ_top (σ : IR.State) : dom.γ SEnv.top σ := Env.γ_top _

/-- what the assertion checker uses of the interval domain: `is_bottom`, `entails`
    (`Env.entails`, C04), `assume_bool` (no-op of `BOOL_OPERATIONS_NOT_IMPLEMENTED`) -/
def checkDom : CheckDom SEnv where
  γ := dom.γ
  isBottom := dom.isBottom
  entails := fun a c => a.1.entails (cstLin c)
  assumeBool := dom.assumeBool
  isBottom_sound := fun a σ h => isBottom_sound a σ h
  entails_sound := fun _ c σ h hg => (cstLin_sat c σ).1 (Env.entails_sound hg (cstLin_canonical c) h)
  assumeBool_sound := fun _ _ _ _ hg _ => hg

end ItvN
end Analysis
end Crab
