import CrabProofs.Lemmas.IntervalTight
import CrabProofs.Lemmas.IntervalDiv
import CrabProofs.Lemmas.IntervalBits
import CrabProofs.Lemmas.IDomThresholds

/-!
  Every scalar operation the interval domain uses maps well-formed intervals (`lb ≠ +oo`,
  `ub ≠ -oo`) to well-formed intervals.  This is what makes the CRAB_ERROR of
  `interval::operator+` / `operator-` (`-oo + +oo`) unreachable from the domain.
-/
namespace Crab
namespace Itv
open Bound

theorem wf_lowerHalfLine {x : Itv} (hx : x.WF) : x.lowerHalfLine.WF := wf_mk' (by simp) hx.2
theorem wf_upperHalfLine {x : Itv} (hx : x.WF) : x.upperHalfLine.WF := wf_mk' hx.1 (by simp)

theorem wf_trim {i : Itv} (hi : i.WF) (j : Itv) : (trim i j).WF := by
  unfold trim
  split
  · exact wf_ite (wf_mk' (by simp) hi.2) (wf_ite (wf_mk' hi.1 (by simp)) hi)
  · exact hi

/-- a non-bottom result of a sound operation applied to non-empty operands is well formed -/
theorem wf_mul {x y : Itv} (hx : x.WF) (hy : y.WF) : (mul x y).WF := by
  by_cases hb : (x.isBottom || y.isBottom) = true
  · unfold mul; simp only [hb, if_true]; exact wf_bot
  · simp only [Bool.or_eq_true, not_or, Bool.not_eq_true] at hb
    obtain ⟨a, ha⟩ := exists_mem hx hb.1
    obtain ⟨b, hb'⟩ := exists_mem hy hb.2
    exact wf_of_mem (mul_sound ha hb')

theorem wf_udiv (x y : Itv) : (udiv x y).WF := wf_ite wf_bot wf_top

theorem wf_srem (x y : Itv) : (srem x y).WF := by
  unfold srem
  refine wf_ite wf_bot ?_
  split
  · exact wf_ite wf_bot (wf_single _)
  · split
    · exact wf_ite wf_bot (wf_ite (wf_ite (wf_fin _ _) (wf_fin _ _)) (wf_fin _ _))
    · exact wf_top

theorem wf_urem (x y : Itv) : (urem x y).WF := by
  unfold urem
  refine wf_ite wf_bot ?_
  split
  · exact wf_ite wf_top (wf_ite wf_bot (wf_ite (wf_fin _ _) (wf_single _)))
  · split
    · exact wf_ite wf_top (wf_ite wf_bot (wf_fin _ _))
    · exact wf_top

theorem wf_and {x y : Itv} (hx : x.WF) (hy : y.WF) : (Itv.and x y).WF := by
  unfold Itv.and
  refine wf_ite wf_bot ?_
  split
  · exact wf_single _
  · exact wf_ite (wf_mk' (by simp) (min_ne_ninf hx.2 hy.2)) wf_top

theorem wf_or (x y : Itv) : (Itv.or x y).WF := by
  unfold Itv.or
  refine wf_ite wf_bot ?_
  split
  · exact wf_single _
  · refine wf_ite ?_ wf_top
    split
    · exact wf_fin _ _
    · exact wf_mk' (by simp) (by simp)

theorem wf_xor (x y : Itv) : (Itv.xor x y).WF := by
  unfold Itv.xor
  refine wf_ite wf_bot ?_
  split
  · exact wf_single _
  · exact wf_or x y

theorem wf_shl {x : Itv} (hx : x.WF) (y : Itv) : (shl x y).WF := by
  unfold shl
  refine wf_ite wf_bot ?_
  split
  · exact wf_ite wf_top (wf_ite (wf_mul hx (wf_single _)) wf_top)
  · exact wf_top

theorem shrBound_ne_pinf {b : Bound} (h : b ≠ pinf) (k : Int) : shrBound b k ≠ pinf := by
  cases b <;> simp_all [shrBound]
theorem shrBound_ne_ninf {b : Bound} (h : b ≠ ninf) (k : Int) : shrBound b k ≠ ninf := by
  cases b <;> simp_all [shrBound]

theorem wf_ashr {x : Itv} (hx : x.WF) (y : Itv) : (ashr x y).WF := by
  unfold ashr
  refine wf_ite wf_bot ?_
  split
  · exact wf_ite wf_top (wf_ite (wf_mk' (shrBound_ne_pinf hx.1 _) (shrBound_ne_ninf hx.2 _)) wf_top)
  · exact wf_top

theorem wf_lshr (x y : Itv) : (lshr x y).WF := by
  unfold lshr
  refine wf_ite wf_bot ?_
  split
  · refine wf_ite wf_top (wf_ite ?_ wf_top)
    split
    · exact wf_fin _ _
    · exact wf_top
  · exact wf_top

theorem eq_zero_of_no_nonzero {y : Itv} (hy : y.WF) (hb : y.isBottom = false)
    (h : ∀ b, mem b y → b = 0) : y = single 0 := by
  obtain ⟨l, u⟩ := y
  have hl : l = fin 0 := by
    cases hl : l with
    | pinf => exact absurd hl hy.1
    | ninf =>
      obtain ⟨k, hk, hm⟩ := unbounded_below hy (by simpa using hl) (-1)
      have := h k hm; omega
    | fin a => have := h a (lb_mem hb (by simpa using hl)); rw [this]
  have hu : u = fin 0 := by
    cases hu : u with
    | ninf => exact absurd hu hy.2
    | pinf =>
      obtain ⟨k, hk, hm⟩ := unbounded_above hy (by simpa using hu) 1
      have := h k hm; omega
    | fin a => have := h a (ub_mem hb (by simpa using hu)); rw [this]
  subst hl; subst hu; rfl

theorem div_single_zero {x : Itv} (hx : x.isBottom = false) : div x (single 0) = some bot := by
  have e1 : (single 0).isBottom = false := by decide
  have e2 : (single 0).singleton? = some 0 := by decide
  have e3 : (single 0).contains 0 = true := by decide
  have e4 : divSingleton x 0 = none := by simp [divSingleton]
  unfold div divGen
  simp only [hx, e1, Bool.or_self, Bool.false_eq_true, if_false, e2, Option.bind, e4, e3, if_true]
  have l1 : (mk' (single 0).lb (fin (-1))).isBottom = true := by decide
  have l2 : (mk' (fin 1) (single 0).ub).isBottom = true := by decide
  simp only [l1, l2, if_true]
  rfl

theorem wf_div {x y r : Itv} (hx : x.WF) (hy : y.WF) (h : div x y = some r) : r.WF := by
  by_cases hb : (x.isBottom || y.isBottom) = true
  · unfold div divGen at h; simp only [hb, if_true, Option.some.injEq] at h; subst h; exact wf_bot
  · simp only [Bool.or_eq_true, not_or, Bool.not_eq_true] at hb
    obtain ⟨a, ha⟩ := exists_mem hx hb.1
    by_cases hz : ∃ b, mem b y ∧ b ≠ 0
    · obtain ⟨b, hb', hb0⟩ := hz
      exact wf_of_mem (div_sound ha hb' hb0 h)
    · have hy0 := eq_zero_of_no_nonzero hy hb.2 (fun b hb' => by
        apply Classical.byContradiction; intro hn; exact hz ⟨b, hb', hn⟩)
      rw [hy0, div_single_zero hb.1] at h
      simp only [Option.some.injEq] at h; subst h; exact wf_bot

end Itv

namespace IDom

theorem wf_addT {x y : Itv} (hx : x.WF) (hy : y.WF) : (addT x y).WF := by
  unfold addT
  cases h : Itv.add x y with
  | none => exact Itv.wf_top
  | some r => exact Itv.add_wf hx hy h

theorem wf_subT {x y : Itv} (hx : x.WF) (hy : y.WF) : (subT x y).WF := by
  unfold subT
  cases h : Itv.sub x y with
  | none => exact Itv.wf_top
  | some r => exact Itv.sub_wf hx hy h

theorem wf_divT {x y : Itv} (hx : x.WF) (hy : y.WF) : (divT x y).WF := by
  unfold divT
  cases h : Itv.div x y with
  | none => exact Itv.wf_top
  | some r => exact Itv.wf_div hx hy h

/-- on well-formed operands the wrappers are the operations themselves: no CRAB_ERROR -/
theorem add_eq_addT {x y : Itv} (hx : x.WF) (hy : y.WF) : Itv.add x y = some (addT x y) := by
  have := Itv.add_defined hx hy
  unfold addT
  cases h : Itv.add x y with
  | none => rw [h] at this; simp at this
  | some r => rfl

theorem sub_eq_subT {x y : Itv} (hx : x.WF) (hy : y.WF) : Itv.sub x y = some (subT x y) := by
  have := Itv.sub_defined hx hy
  unfold subT
  cases h : Itv.sub x y with
  | none => rw [h] at this; simp at this
  | some r => rfl

theorem div_eq_divT (x y : Itv) : Itv.div x y = some (divT x y) := by
  have := Itv.div_defined x y
  unfold divT
  cases h : Itv.div x y with
  | none => rw [h] at this; simp at this
  | some r => rfl

theorem ArithOp.eval_wf (op : ArithOp) {x y : Itv} (hx : x.WF) (hy : y.WF) : (op.eval x y).WF := by
  cases op <;> simp only [ArithOp.eval]
  · exact wf_addT hx hy
  · exact wf_subT hx hy
  · exact Itv.wf_mul hx hy
  · exact wf_divT hx hy
  · exact Itv.wf_udiv x y
  · exact Itv.wf_srem x y
  · exact Itv.wf_urem x y

theorem BitOp.eval_wf (op : BitOp) {x y : Itv} (hx : x.WF) (hy : y.WF) : (op.eval x y).WF := by
  cases op <;> simp only [BitOp.eval]
  · exact Itv.wf_and hx hy
  · exact Itv.wf_or x y
  · exact Itv.wf_xor x y
  · exact Itv.wf_shl hx y
  · exact Itv.wf_lshr x y
  · exact Itv.wf_ashr hx y

theorem ne_pinf_of_le {a b : Bound} (h : Bound.le a b = true) (hb : b ≠ .pinf) : a ≠ .pinf := by
  rintro rfl; cases b <;> simp_all
theorem ne_ninf_of_le {a b : Bound} (h : Bound.le a b = true) (ha : a ≠ .ninf) : b ≠ .ninf := by
  rintro rfl; cases a <;> simp_all

/-- thresholds between `-oo` and `+oo`: `get_prev` is never `+oo`, `get_next` never `-oo` on the
    bounds of well-formed intervals -/
theorem wf_widenTh {ts : Thresholds} (hw : ts.WF) {x y : Itv} (hx : x.WF) (hy : y.WF) : (widenTh ts x y).WF := by
  unfold widenTh
  by_cases h1 : x.isBottom = true
  · rw [if_pos h1]; exact hy
  · rw [if_neg h1]
    by_cases h2 : y.isBottom = true
    · rw [if_pos h2]; exact hx
    · rw [if_neg h2]
      exact Itv.wf_mk' (ne_pinf_of_le (widenTh_lb_le hw x y).1 hx.1) (ne_ninf_of_le (widenTh_ub_ge hw x y).1 hx.2)

end IDom
end Crab
