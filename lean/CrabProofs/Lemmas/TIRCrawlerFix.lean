import CrabProofs.Lemmas.TIRCrawler
import CrabProofs.Lemmas.TIRWf

/-!
  The fixpoint of the model of the assertion crawler (`crawl`, round robin as in
  `run_bwd_fixpo`, any variant, any control-dependence graph, any block order that covers the
  blocks) is a solution of the data-dependence inequations `isDataSol`.
-/
namespace Crab
namespace TIR

theorem InMap.get_set (m : InMap) (l : Label) (f : Facts) (l' : Label) :
    (m.set l f).get l' = if l' = l then f else m.get l' := by
  have : (m.set l f).lookup l' = if l' = l then some f else m.lookup l' := lookup_upsert m l f l'
  simp only [InMap.get, this]
  split <;> rfl

theorem Facts.lookup_join (a b : Facts) (k : AId) :
    (a.join b).lookup k =
      match a.lookup k with
      | some d => some (d ++ b.get k)
      | none => b.lookup k := by
  unfold Facts.join
  rw [List.lookup_append, lookup_map_val (fun k d => d ++ b.get k) a k]
  cases hl : a.lookup k with
  | some d => rfl
  | none =>
    simp only [Option.map_none, Option.none_or]
    apply lookup_filter_key
    intro p _ hp
    subst hp
    simp [Facts.has, hl]

theorem Facts.mem_get_join (a b : Facts) (k : AId) (y : Var) :
    y ∈ (a.join b).get k ↔ y ∈ a.get k ∨ y ∈ b.get k := by
  simp only [Facts.get, Facts.lookup_join]
  cases a.lookup k with
  | some d => exact List.mem_append
  | none => simp

theorem Facts.has_join (a b : Facts) (k : AId) : (a.join b).has k = true ↔ a.has k = true ∨ b.has k = true := by
  simp only [Facts.has, Facts.lookup_join]
  cases a.lookup k <;> simp

theorem Facts.leq_get {a b : Facts} (h : a.leq b = true) (k : AId) : ∀ y, y ∈ a.get k → y ∈ b.get k := by
  intro y hy
  simp only [Facts.get] at hy
  cases hl : a.lookup k with
  | none => rw [hl] at hy; simp at hy
  | some d =>
    rw [hl] at hy
    simp only [Option.getD_some] at hy
    have hm := lookup_mem a k d hl
    simp only [Facts.leq, List.all_eq_true, Bool.and_eq_true] at h
    exact VarSet.subset_iff.mp (h (k, d) hm).2 y hy

theorem Facts.leq_has {a b : Facts} (h : a.leq b = true) (k : AId) (hk : a.has k = true) : b.has k = true := by
  simp only [Facts.has] at hk
  cases hl : a.lookup k with
  | none => rw [hl] at hk; cases hk
  | some d =>
    have hm := lookup_mem a k d hl
    simp only [Facts.leq, List.all_eq_true, Bool.and_eq_true] at h
    exact (h (k, d) hm).1

/-- a property of facts that a join has iff one side has it: the facts at the end of a block have
    it iff the in-facts of some successor have it -/
theorem outFacts_iff (P : Prog) (m : InMap) (n : Label) (Q : Facts → Prop) (h0 : ¬ Q [])
    (hQ : ∀ a b, Q (a.join b) ↔ Q a ∨ Q b) : Q (outFacts P m n) ↔ ∃ l', l' ∈ P.succsOf n ∧ Q (m.get l') := by
  have : ∀ (ls : List Label) (acc : Facts),
      Q (ls.foldl (fun acc p => acc.join (m.get p)) acc) ↔ Q acc ∨ ∃ l', l' ∈ ls ∧ Q (m.get l') := by
    intro ls
    induction ls with
    | nil => intro acc; simp
    | cons p r ih => intro acc; simp only [List.foldl_cons, ih, hQ, List.mem_cons, exists_eq_or_imp, or_assoc]
  exact (this _ []).trans (or_iff_right h0)

theorem outFacts_get (P : Prog) (m : InMap) (n : Label) (a : AId) (y : Var) :
    y ∈ (outFacts P m n).get a ↔ ∃ l', l' ∈ P.succsOf n ∧ y ∈ (m.get l').get a :=
  outFacts_iff P m n (fun F => y ∈ F.get a) (fun h => nomatch h) (fun F G => Facts.mem_get_join F G a y)

theorem outFacts_has (P : Prog) (m : InMap) (n : Label) (a : AId) :
    (outFacts P m n).has a = true ↔ ∃ l', l' ∈ P.succsOf n ∧ (m.get l').has a = true :=
  outFacts_iff P m n (fun F => F.has a = true) (fun h => nomatch h) (fun F G => Facts.has_join F G a)

theorem xferFrom_reg_sup (v : CrawlVariant) (g : Cdg) (preds : List Label) (l : Label) :
    ∀ (ss : List Stmt) (k : Nat) (X : XState) (b : AId), b ∈ X.reg → b ∈ (xferFrom v g preds l k ss X).reg := by
  intro ss
  induction ss with
  | nil => intro k X b hb; simpa [xferFrom] using hb
  | cons s r ih =>
    intro k X b hb
    simp only [xferFrom]
    exact xferStmt_reg_sup v g preds l k s _ b (ih (k + 1) X b hb)

/-- the variables that the condition of an assertion needs at the entry of its block -/
def genSet (P : Prog) (ac : AId × Cst) : VarSet := bwdData ((P.stmtsOf ac.1.1).take ac.1.2) ac.2.vars

structure CrawlInv (P : Prog) (m : InMap) (reg : List AId) : Prop where
  keys : ∀ l b, (m.get l).has b = true → b ∈ reg
  gen : ∀ ac, ac ∈ P.asserts → ac.1 ∈ reg → ∀ y, y ∈ genSet P ac → y ∈ (m.get ac.1.1).get ac.1

theorem asserts_stmt {P : Prog} (hnd : P.labels.Nodup) {ac : AId × Cst} (h : ac ∈ P.asserts) :
    (P.stmtsOf ac.1.1)[ac.1.2]? = some (.assert ac.2) := by
  unfold Prog.asserts at h
  obtain ⟨b, hb, hin⟩ := List.mem_flatMap.mp h
  obtain ⟨p, hp, hf⟩ := List.mem_filterMap.mp hin
  obtain ⟨s, k⟩ := p
  have hget := List.mem_zipIdx_iff_getElem?.mp hp
  simp only at hget hf
  cases s with
  | assert c =>
    simp only [Option.some.injEq] at hf
    subst hf
    simp only [Prog.stmtsOf, block?_of_mem hnd hb]
    exact hget
  | assign _ _ => cases hf
  | bin _ _ _ _ => cases hf
  | havoc _ => cases hf
  | assume _ => cases hf
  | select _ _ _ _ => cases hf
  | unreachable => cases hf

theorem asserts_label {P : Prog} {ac : AId × Cst} (h : ac ∈ P.asserts) : ac.1.1 ∈ P.labels := by
  unfold Prog.asserts at h
  obtain ⟨b, hb, hin⟩ := List.mem_flatMap.mp h
  obtain ⟨p, _, hf⟩ := List.mem_filterMap.mp hin
  have : ac.1.1 = b.label := by
    cases hs : p.1 <;> rw [hs] at hf <;> simp at hf
    rw [← hf]
  rw [this]
  exact List.mem_map.mpr ⟨b, hb, rfl⟩

def stepMap (m : InMap) (n : Label) (F : Facts) : InMap :=
  if F.leq (m.get n) then m else m.set n (F.join (m.get n))

/-- `analyze` of block `n` in a round, from the in-map and the identifiers so far -/
def blockX (v : CrawlVariant) (P : Prog) (g : Cdg) (m : InMap) (reg : List AId) (n : Label) : XState :=
  xferFrom v g (P.predsOf n) n 0 (P.stmtsOf n) ⟨outFacts P m n, reg⟩

/-- one block of a round: flow through the block; the condition of every assertion of the block is
    covered by the answer or by the in-map; and the invariant -/
theorem crawl_block_inv (v : CrawlVariant) (P : Prog) (g : Cdg) (hnd : P.labels.Nodup) (n : Label)
    (m : InMap) (reg : List AId) (hI : CrawlInv P m reg) :
    (∀ a y, y ∈ bwdData (P.stmtsOf n) ((outFacts P m n).get a) → y ∈ (blockX v P g m reg n).facts.get a) ∧
    (∀ ac, ac ∈ P.asserts → ac.1.1 = n → ∀ y, y ∈ genSet P ac →
        y ∈ (blockX v P g m reg n).facts.get ac.1 ∨ y ∈ (m.get n).get ac.1) ∧
    CrawlInv P (stepMap m n (blockX v P g m reg n).facts) (blockX v P g m reg n).reg := by
  obtain ⟨X, hXdef⟩ : ∃ X, X = blockX v P g m reg n := ⟨_, rfl⟩
  rw [← hXdef]
  unfold blockX at hXdef
  have hX0 : (⟨outFacts P m n, reg⟩ : XState).regInv := by
    intro b hb
    obtain ⟨l', _, h⟩ := (outFacts_has P m n b).mp hb
    exact hI.keys l' b h
  have hXinv : X.regInv := by rw [hXdef]; exact xferFrom_regInv v g (P.predsOf n) n (P.stmtsOf n) 0 _ hX0
  have hsup : ∀ b, b ∈ reg → b ∈ X.reg := by
    intro b hb
    rw [hXdef]
    exact xferFrom_reg_sup v g (P.predsOf n) n (P.stmtsOf n) 0 ⟨outFacts P m n, reg⟩ b hb
  -- the generated part of a newly registered assertion
  have hnew : ∀ ac, ac ∈ P.asserts → ac.1.1 = n → ac.1 ∉ reg → ∀ y, y ∈ genSet P ac → y ∈ X.facts.get ac.1 := by
    intro ac hac hn hnot y hy
    have hs := asserts_stmt hnd hac
    rw [hn] at hs
    have he : ac.1 = (n, 0 + ac.1.2) := by rw [← hn]; simp
    have := VarSet.subset_iff.mp
      (xferFrom_gen v g (P.predsOf n) n (P.stmtsOf n) 0 ⟨outFacts P m n, reg⟩ ac.1.2 ac.2 hX0
        (Or.inl (by rw [← he]; exact hnot)) hs)
    rw [he, hXdef]
    apply this
    simpa [genSet, hn] using hy
  have hblk : ∀ ac, ac ∈ P.asserts → ac.1 ∈ X.reg → ac.1 ∉ reg → ac.1.1 = n := by
    intro ac _ hin hnot
    rw [hXdef] at hin
    exact (xferFrom_reg_sub v g (P.predsOf n) n (P.stmtsOf n) 0 _ ac.1 hin).elim (fun h => absurd h hnot) (·.1)
  refine ⟨fun a y hy => by rw [hXdef]; exact xferFrom_bwdData v g (P.predsOf n) n (P.stmtsOf n) 0 _ hX0 a y hy, ?_, ?_⟩
  · intro ac hac hn y hy
    by_cases hold : ac.1 ∈ reg
    · exact Or.inr (hn ▸ hI.gen ac hac hold y hy)
    · exact Or.inl (hnew ac hac hn hold y hy)
  unfold stepMap
  by_cases hleq : X.facts.leq (m.get n) = true
  · simp only [hleq, if_true]
    refine ⟨fun l b hb => hsup b (hI.keys l b hb), ?_⟩
    intro ac hac hin y hy
    by_cases hold : ac.1 ∈ reg
    · exact hI.gen ac hac hold y hy
    · have hn := hblk ac hac hin hold
      rw [hn]
      exact Facts.leq_get hleq ac.1 y (hnew ac hac hn hold y hy)
  · simp only [hleq, Bool.false_eq_true, if_false]
    refine ⟨?_, ?_⟩
    · intro l b hb
      rw [InMap.get_set] at hb
      split at hb
      · exact ((Facts.has_join _ _ b).mp hb).elim (hXinv b) (fun h => hsup b (hI.keys _ b h))
      · exact hsup b (hI.keys l b hb)
    · intro ac hac hin y hy
      rw [InMap.get_set]
      by_cases hold : ac.1 ∈ reg
      · have := hI.gen ac hac hold y hy
        split
        · rename_i hl; exact (Facts.mem_get_join _ _ ac.1 y).mpr (Or.inr (hl ▸ this))
        · exact this
      · have hn := hblk ac hac hin hold
        rw [if_pos hn]
        exact (Facts.mem_get_join _ _ ac.1 y).mpr (Or.inl (hnew ac hac hn hold y hy))

section
variable (v : CrawlVariant) (P : Prog) (g : Cdg)

theorem crawlRound_eq (n : Label) (rest : List Label) (m : InMap) (reg : List AId) (ch : Bool) :
    crawlRound v P g (n :: rest) m reg ch =
      crawlRound v P g rest (stepMap m n (blockX v P g m reg n).facts) (blockX v P g m reg n).reg
        (ch || !(blockX v P g m reg n).facts.leq (m.get n)) := by
  simp only [crawlRound, stepMap, blockX]
  split <;> simp_all

theorem crawlRound_ch_true :
    ∀ (ns : List Label) (m : InMap) (reg : List AId), (crawlRound v P g ns m reg true).2.2 = true := by
  intro ns
  induction ns with
  | nil => intro m reg; rfl
  | cons n rest ih =>
    intro m reg
    rw [crawlRound_eq]
    simp only [Bool.true_or]
    exact ih _ _

variable (I : InMap → List AId → Prop)
  (hstep : ∀ m reg n, I m reg → I (stepMap m n (blockX v P g m reg n).facts) (blockX v P g m reg n).reg)
include hstep

theorem crawlRound_invariant : ∀ (ns : List Label) (m : InMap) (reg : List AId) (ch : Bool), I m reg →
    I (crawlRound v P g ns m reg ch).1 (crawlRound v P g ns m reg ch).2.1 := by
  intro ns
  induction ns with
  | nil => intro m reg ch h; exact h
  | cons n rest ih =>
    intro m reg ch h
    rw [crawlRound_eq]
    exact ih _ _ _ (hstep m reg n h)

/-- a round that reports no change left the in-map alone, and the answer of every block of the
    round (for identifiers that satisfy the invariant) was below the in-map -/
theorem crawlRound_stable : ∀ (ns : List Label) (m : InMap) (reg : List AId) (ch : Bool), I m reg →
    (crawlRound v P g ns m reg ch).2.2 = false →
      (crawlRound v P g ns m reg ch).1 = m ∧
      ∀ n, n ∈ ns → ∃ reg', I m reg' ∧ (blockX v P g m reg' n).facts.leq (m.get n) = true := by
  intro ns
  induction ns with
  | nil => intro m reg ch _ _; exact ⟨rfl, fun n h => nomatch h⟩
  | cons n rest ih =>
    intro m reg ch hI hch
    rw [crawlRound_eq] at hch ⊢
    have hleq : (blockX v P g m reg n).facts.leq (m.get n) = true := by
      cases hl : (blockX v P g m reg n).facts.leq (m.get n) with
      | true => rfl
      | false =>
        rw [hl, Bool.not_false, Bool.or_true, crawlRound_ch_true] at hch
        cases hch
    have hI' := hstep m reg n hI
    have hm : stepMap m n (blockX v P g m reg n).facts = m := by simp [stepMap, hleq]
    rw [hm] at hch hI' ⊢
    obtain ⟨h1, h2⟩ := ih _ _ _ hI' hch
    exact ⟨h1, fun n' hn' => (List.mem_cons.mp hn').elim (fun e => e ▸ ⟨reg, hI, hleq⟩) (h2 n')⟩

theorem crawlIter_fix (order : List Label) : ∀ (fuel : Nat) (m : InMap) (reg : List AId) (M : InMap), I m reg →
    crawlIter v P g order fuel m reg = some M →
      (∃ reg', I M reg') ∧
      ∀ n, n ∈ order → ∃ reg', I M reg' ∧ (blockX v P g M reg' n).facts.leq (M.get n) = true := by
  intro fuel
  induction fuel with
  | zero => intro m reg M _ h; simp [crawlIter] at h
  | succ f ih =>
    intro m reg M hI h
    simp only [crawlIter] at h
    have h1 := crawlRound_invariant v P g I hstep order m reg false hI
    have h2 := crawlRound_stable v P g I hstep order m reg false hI
    cases hr : crawlRound v P g order m reg false with
    | mk m' rest =>
      obtain ⟨reg', ch⟩ := rest
      rw [hr] at h h1 h2
      cases ch with
      | true => exact ih m' reg' M h1 h
      | false =>
        simp only [Bool.false_eq_true, if_false, Option.some.injEq] at h
        obtain ⟨hm, hst⟩ := h2 rfl
        rw [← h, show m' = m from hm]
        exact ⟨⟨reg, hI⟩, hst⟩

end

/-- THE FIXPOINT IS A SOLUTION of the data-dependence inequations -/
theorem crawl_isDataSol (v : CrawlVariant) (P : Prog) (g : Cdg) (order : List Label) (M : InMap)
    (hnd : P.labels.Nodup) (hord : ∀ l, l ∈ P.labels → l ∈ order) (h : crawl v P g order = some M) :
    isDataSol P M.get = true := by
  have hI0 : CrawlInv P [] [] :=
    ⟨fun l b hb => by simp [InMap.get, Facts.has, List.lookup] at hb, fun ac _ h => nomatch h⟩
  obtain ⟨_, hst⟩ := crawlIter_fix v P g (CrawlInv P)
    (fun m reg n hI => (crawl_block_inv v P g hnd n m reg hI).2.2) order (crawlFuel P) [] [] M hI0 h
  simp only [isDataSol, Bool.and_eq_true, List.all_eq_true]
  refine ⟨?_, ?_⟩
  · intro ac hac
    apply VarSet.subset_iff.mpr
    intro y hy
    obtain ⟨reg', hI, hleq⟩ := hst ac.1.1 (hord _ (asserts_label hac))
    exact ((crawl_block_inv v P g hnd _ M reg' hI).2.1 ac hac rfl y hy).elim (Facts.leq_get hleq ac.1 y) id
  · intro l hl l' hl' ac _
    apply VarSet.subset_iff.mpr
    intro y hy
    obtain ⟨reg', hI, hleq⟩ := hst l (hord l hl)
    exact Facts.leq_get hleq ac.1 y ((crawl_block_inv v P g hnd l M reg' hI).1 ac.1 y
      (bwdData_mono (P.stmtsOf l) (fun z hz => (outFacts_get P M l ac.1 z).mpr ⟨l', hl', hz⟩) y hy))

end TIR
end Crab
