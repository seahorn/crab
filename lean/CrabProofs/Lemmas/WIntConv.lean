import CrabProofs.Lemmas.WIntPoles
import CrabProofs.Lemmas.Interval

/-!
  `Crab.WInt`: integers read modulo `2^w`, and the conversions `mk_winterval`, `to_interval`,
  `trim_interval`.
-/
namespace Crab
namespace WInt
open WrapInt


def resN (w : Nat) (z : Int) : Nat := (z % ((2 ^ w : Nat) : Int)).toNat

theorem resN_cast (w : Nat) (z : Int) : ((resN w z : Nat) : Int) = z % ((2 ^ w : Nat) : Int) := by
  have hM : 0 < 2 ^ w := Nat.pow_pos (by decide)
  exact Int.toNat_of_nonneg (Int.emod_nonneg _ (by omega))

theorem resN_lt (w : Nat) (z : Int) : resN w z < 2 ^ w := by
  have hM : 0 < 2 ^ w := Nat.pow_pos (by decide)
  have h1 : z % ((2 ^ w : Nat) : Int) < ((2 ^ w : Nat) : Int) := Int.emod_lt_of_pos _ (by omega)
  have := resN_cast w z
  omega

theorem resN_add_nat (w : Nat) (z : Int) (t : Nat) : resN w (z + (t : Int)) = (resN w z + t) % 2 ^ w := by
  apply Int.ofNat_inj.mp
  rw [resN_cast, Int.natCast_emod, Int.natCast_add, resN_cast, Int.emod_add_emod]

/-- the interval `[lo, hi]` of integers, shorter than the circle, read modulo `2^w` -/
theorem mem_int_range {w : Nat} (hw : w ≤ 64) {lo hi p : Int} (h1 : lo ≤ p) (h2 : p ≤ hi)
    (hlen : hi - lo < ((2 ^ w : Nat) : Int) - 1) :
    mem w (resN w p) (W w (resN w lo) (resN w hi) false) := by
  have e1 : p = lo + ((p - lo).toNat : Int) := by omega
  have e2 : hi = lo + ((hi - lo).toNat : Int) := by omega
  rw [e1, e2, resN_add_nat, resN_add_nat]
  have := mem_of_steps (x := resN w lo) (t := (p - lo).toNat) (l := (hi - lo).toNat) hw (by omega) (by omega)
  rwa [Nat.mod_eq_of_lt (resN_lt w lo)] at this


theorem ofZ?_raw {w : Nat} (h1w : 1 ≤ w) (hw : w ≤ 64) {z : Int} (hz : ZNum.fitsInt64 z = true) :
    WrapInt.ofZ? z w = some ⟨w, resN w z⟩ := by
  rw [ofZ?_eq h1w hw z hz]
  simp only [ofBV, BitVec.toNat_ofInt]
  rfl

theorem fitsWrapint_iff {w : Nat} (hw : w ≤ 64) (z : Int) :
    WrapInt.fitsWrapint z w = ZNum.fitsInt64 z := by
  have : ¬ (w > 64) := by omega
  simp [fitsWrapint, this]

/-- `mk_winterval(n, w)` is `top()` or the singleton of the residue of `n` -/
theorem ofZ_cases {w : Nat} (h1w : 1 ≤ w) (hw : w ≤ 64) {z : Int} {r : WInt}
    (h : WInt.ofZ z w = some r) : r = top ∨ r = W w (resN w z) (resN w z) false := by
  unfold WInt.ofZ at h
  rw [fitsWrapint_iff hw] at h
  cases hz : ZNum.fitsInt64 z
  · rw [hz, if_neg Bool.false_ne_true] at h
    exact Or.inl (Option.some.inj h).symm
  · rw [hz, if_pos rfl, ofZ?_raw h1w hw hz] at h
    exact Or.inr (Option.some.inj h).symm

theorem ofZ_sound {w : Nat} (h1w : 1 ≤ w) (hw : w ≤ 64) {z : Int} {r : WInt}
    (h : WInt.ofZ z w = some r) : mem w (resN w z) r := by
  rcases ofZ_cases h1w hw h with rfl | rfl
  · exact mem_top _ _
  · exact (mem_W hw (resN_lt _ _) (resN_lt _ _)).mpr (Or.inr (Nat.le_refl _))

/-- `mk_winterval(lb, ub, w)` contains the residues of `[lb, ub]` (a range that covers the whole
    circle gives top) -/
theorem ofZ2_sound {w : Nat} (h1w : 1 ≤ w) (hw : w ≤ 64) {lb ub z : Int} {r : WInt}
    (h : WInt.ofZ2 lb ub w = some r) (h1 : lb ≤ z) (h2 : z ≤ ub) : mem w (resN w z) r := by
  unfold WInt.ofZ2 at h
  rw [fitsWrapint_iff hw, fitsWrapint_iff hw] at h
  split at h
  · exact Option.some.inj h ▸ mem_top _ _
  split at h
  · exact Option.some.inj h ▸ mem_top _ _
  split at h
  · exact Option.some.inj h ▸ mem_top _ _
  · next f1 f2 hlen =>
    rw [ofZ?_raw h1w hw (by simpa using f1), ofZ?_raw h1w hw (by simpa using f2)] at h
    exact Option.some.inj h ▸ mem_int_range hw h1 h2 (by omega)


theorem toSigned_raw {w a : Nat} (h1w : 1 ≤ w) (hw : w ≤ 64) (ha : a < 2 ^ w) :
    WrapInt.toSigned ⟨w, a⟩ = some (sg (2 ^ w) a) := by
  have := toSigned_ofBV h1w hw (BitVec.ofNatLT a ha)
  simp only [ofBV, BitVec.toNat_ofNatLT] at this
  rw [this, ← sg_toInt, BitVec.toNat_ofNatLT]

/-- `to_interval()` contains the signed reading of every member -/
theorem toInterval_sound {w : Nat} (h1w : 1 ≤ w) (hw : w ≤ 64) {x : WInt} (hx : Good w x) {i : Itv}
    (h : x.toInterval = some i) {v : Nat} (hv : v < 2 ^ w) (hm : mem w v x) :
    Itv.mem (sg (2 ^ w) v) i := by
  rcases good_mem_cases hx hm with ⟨s, e, hs, he, rfl, hnt⟩ | hnt
  · unfold toInterval at h
    simp only [hnt, Bool.false_eq_true, if_false, crossS_val hnt] at h
    cases hc : (signedLimit w).leq (W w s e false)
    · rw [hc] at h
      simp only [toSigned_raw h1w hw hs, toSigned_raw h1w hw he] at h
      injection h with h; subst h
      have hc' : ¬ (signedLimit w).leq (W w s e false) = true := by simp [hc]
      have hse : sg (2 ^ w) s ≤ sg (2 ^ w) e := by
        have := mt (crossS_iff h1w hw hs he hnt).mpr hc'
        omega
      have hm' := (mem_sord_iff h1w hw hs he hv hse).mp hm
      rw [Itv.mem_mk']
      simp only [Bound.le_fin_fin, decide_eq_true_eq]
      exact hm'
    · rw [hc] at h
      injection h with h; subst h; exact Itv.mem_top _
  · have : x.toInterval = some Itv.top := by simp [toInterval, hm.1, hnt]
    rw [this] at h; injection h with h; subst h; exact Itv.mem_top _

theorem toInterval_sound_bv {w : Nat} (h1w : 1 ≤ w) (hw : w ≤ 64) {x : WInt} (hx : Good w x) {i : Itv}
    (h : x.toInterval = some i) {a : BitVec w} (ha : memBV a x) : Itv.mem a.toInt i := by
  rw [← sg_toInt]
  exact toInterval_sound h1w hw hx h a.isLt ha


/-- the predecessor on the circle is the distance from `1` -/
theorem dec_raw {w n : Nat} (h1w : 1 ≤ w) (hw : w ≤ 64) (hn : n < 2 ^ w) :
    (WrapInt.dec ⟨w, n⟩).n = D (2 ^ w) 1 n := by
  have := congrArg WrapInt.n (dec_ofBV h1w hw (BitVec.ofNatLT n hn))
  have e1 : (1 : BitVec w).toNat = 1 := BitVec.toNat_one (by omega)
  rw [ofBV_n, bv_sub_toNat_D, BitVec.toNat_ofNatLT, e1] at this
  exact this

/-- `trim_interval(i, j)` keeps every member of `i` that is not the value of the singleton `j` -/
theorem trim_sound {w : Nat} (h1w : 1 ≤ w) (hw : w ≤ 64) {i j : WInt} (hi : Shape w i) (hj : Shape w j)
    {a : Nat} (ha : a < 2 ^ w) (hm : mem w a i) (hne : ∀ b, b < 2 ^ w → mem w b j → a ≠ b) :
    mem w a (trim i j) := by
  obtain ⟨s, e, hs, he, rfl⟩ := shape_cases hi hm.1
  have h1M := two_le_pow h1w
  unfold trim
  refine mem_ite (fun _ => hm) fun _ => mem_ite (fun _ => hm) fun hnt => mem_ite (fun _ => hm) fun hsing => ?_
  have hd := mem_nontop hw hs he (by simpa using hnt) hm
  -- `j` is the singleton of some `k ≠ a`
  have hsing' : j.isSingleton = true := by simpa using hsing
  unfold isSingleton at hsing'
  simp only [Bool.and_eq_true, Bool.not_eq_true', beq_iff_eq] at hsing'
  obtain ⟨k, k', hk, hk', rfl⟩ := shape_cases hj hsing'.1.1
  obtain rfl : k = k' := hsing'.2
  have hak : a ≠ k := hne k hk ((mem_W hw hk hk).mpr (Or.inr (Nat.le_refl _)))
  -- a singleton `[s, s]` has no other member
  have single : (W w s e false).isSingleton = true → s = e ∧ a = s := fun h =>
    ⟨(by simpa [isSingleton] using h : _ ∧ s = e).2, (singleton_mem hw (good_of_shape (shape_W hs he)) h ha hm).symm⟩
  have nsingle : ¬ (W w s e false).isSingleton = true → s ≠ e := fun h hse => h (by
    simp only [isSingleton, Bool.not_false, Bool.true_and, Bool.and_eq_true, Bool.not_eq_true', beq_iff_eq]
    exact ⟨by simpa using hnt, hse⟩)
  simp only [beq_iff_eq]
  refine mem_ite (fun hsk => ?_) fun hsk => mem_ite (fun hek => ?_) fun _ => hm
  · obtain rfl : s = k := hsk
    refine mem_ite (fun h => absurd (single h).2 hak) fun h => ?_
    have hs' : (s + 1) % 2 ^ w < 2 ^ w := Nat.mod_lt _ (by omega)
    have hd1 : D (2 ^ w) s ((s + 1) % 2 ^ w) = 1 := by
      rw [D_add_right hs, Nat.mod_eq_of_lt (by omega)]
    show mem w a (W w (WrapInt.inc ⟨w, s⟩).n e false)
    rw [inc_raw hw, mem_W_le hw hs' he ha]
    have := D_succ_start hs hs' ha hd1 hak
    have := D_succ_start hs hs' he hd1 (Ne.symm (nsingle h))
    omega
  · obtain rfl : e = k := hek
    refine mem_ite (fun h => absurd (single h).1 hsk) fun _ => ?_
    show mem w a (W w s (WrapInt.dec ⟨w, e⟩).n false)
    have hp := D_lt (by omega : 1 < 2 ^ w) he
    have hd1 : D (2 ^ w) (D (2 ^ w) 1 e) e = 1 := by
      have := D_add_right hp 1
      rwa [Nat.add_comm, D_add_back (by omega) he, Nat.mod_eq_of_lt (by omega)] at this
    rw [dec_raw h1w hw he, mem_W_le hw hs hp ha]
    have := D_pred_end hs hp he hd1 hsk
    have := mt (D_inj hs ha he) hak
    omega

end WInt
end Crab
