import CrabProofs.Lemmas.BwdInst
import CrabProofs.Lemmas.IDomInst

/-!
  `ikos::interval_domain` (exact model `IDom.Env`, values with the map invariant `IDom.SEnv`) as a
  domain of the backward analysis:
  * `ItvB.fwd`: the forward API the transformer calls, each field ONE call of the model
    (`operator+=(linear_constraint)` = `Env.add` of the singleton system, `operator-=` =
    `Env.forget`, `assign`, `apply` = `Env.applyVar / applyCst`, `select`, the lattice operations,
    `is_bottom`);
  * `ItvB.rename y x` = `rename({y}, {x})` (`separate_domain::rename` on one pair);
  * `ItvB.dom = withGenBwd fwd rename bound`: `interval_domain::backward_assign / backward_apply`
    are `BackwardAssignOps<interval_domain_t>::assign / apply(*this, ..., inv)`
    (include/crab/domains/intervals.hpp);
  * `ItvB.dom_sound`: the whole contract `BDomSound`.
-/
namespace Crab
namespace Bwd
open IDom

/-- `arith_operation_t` of a `bin_op` statement -/
def itvOp : BinOp → IDom.ArithOp
  | .add => .add
  | .sub => .sub
  | .mul => .mul
  | .sdiv => .sdiv

theorem itvOp_conc {op : BinOp} {a b v : Int} (h : binSem op a b = some v) :
    (itvOp op).conc a b = some v := by
  cases op <;> simpa [binSem, itvOp, IDom.ArithOp.conc] using h

namespace ItvB

/-- `separate_domain::rename({y}, {x})` (the vectors have the same length: no CRAB_ERROR) -/
def rename1 (e : Env) (y x : Var) : Env :=
  if e.isTop || e.bottom then e else ⟨false, Env.renameLoop [y] [x] e.m⟩

theorem rename1_eq (e : Env) (y x : Var) : e.rename [y] [x] = some (rename1 e y x) := by
  unfold Env.rename rename1
  split
  · rfl
  · simp

def assume (c : Cst) (a : SEnv) : SEnv := ⟨a.1.add [c.toLin], Env.add_inv Env.sortedInv _ _ a.2⟩
def forget (x : Var) (a : SEnv) : SEnv := ⟨a.1.forget x, Env.forget_sorted _ _ a.2⟩
def assign (x : Var) (e : Lin) (a : SEnv) : SEnv :=
  ⟨a.1.assign x e.toExpr, Env.assign_inv Env.sortedInv _ _ _ a.2⟩
def apply (op : BinOp) (x y : Var) (z : Operand) (a : SEnv) : SEnv :=
  match z with
  | .var w => ⟨a.1.applyVar (itvOp op) x y w, Env.applyVar_inv Env.sortedInv _ _ _ _ _ a.2⟩
  | .const k => ⟨a.1.applyCst (itvOp op) x y k, Env.applyCst_inv Env.sortedInv _ _ _ _ _ a.2⟩
def select (x : Var) (c : Cst) (e1 e2 : Lin) (a : SEnv) : SEnv :=
  ⟨a.1.select x c.toLin e1.toExpr e2.toExpr, Env.select_inv Env.sortedInv _ _ _ _ _ a.2⟩
def rename (y x : Var) (a : SEnv) : SEnv :=
  ⟨rename1 a.1 y x, Env.rename_sorted (rename1_eq a.1 y x) a.2⟩

/-- an index above every bound variable -/
def bound (a : SEnv) : Nat := freshFor 0 a.1.m.keys

/-- the forward operations (the backward fields are placeholders, replaced in `dom`) -/
def fwd : BDom SEnv where
  top := SEnv.top
  bot := SEnv.bot
  isBottom := fun a => a.1.isBottom
  leq := SEnv.leq
  join := SEnv.join
  meet := SEnv.meet
  widen := SEnv.widen
  narrow := SEnv.narrow
  assume := assume
  forget := forget
  assign := assign
  apply := apply
  select := select
  bwdAssign := fun _ _ _ inv => inv
  bwdApply := fun _ _ _ _ _ inv => inv

/-- `interval_domain` with its backward operations -/
def dom : BDom SEnv := withGenBwd fwd rename bound

theorem fwd_sound : BDomSound fwd SEnv.γ where
  top_sound := fun σ => Env.γ_top σ
  isBottom_sound := fun _ σ h => Env.not_γ_bottom h σ
  join_left := fun a b _ h => Env.join_upper_left a.2 b.1 h
  join_right := fun a _ _ h => Env.join_upper_right a.2 h
  widen_left := fun a b _ h => Env.widen_upper_left a.2 b.1 h
  widen_right := fun a _ _ h => Env.widen_upper_right a.2 h
  meet_sound := fun a _ _ h1 h2 => Env.meet_sound a.2 h1 h2
  narrow_sound := fun a _ _ h1 h2 => Env.narrow_sound a.2 h1 h2
  leq_sound := fun _ _ _ h hg => Env.leq_sound h hg
  assume_sound := by
    intro c a σ hg hc
    refine Env.add_sound hg ?_ ?_
    · intro c' hc'; rw [List.mem_singleton.1 hc']; exact Cst.toLin_canonical c
    · intro c' hc'; rw [List.mem_singleton.1 hc']; exact (Cst.toLin_sat c σ).2 hc
  forget_sound := fun x _ _ v hg => Env.forget_sound hg x v
  assign_sound := by
    intro x e a σ hg
    have := Env.assign_sound hg x e.toExpr
    rw [Lin.toExpr_eval] at this
    exact this
  apply_sound := by
    intro op x y z a σ v hg hv
    cases z with
    | var w => exact (IDom.Stmt.arithVar (itvOp op) x y w).exec_sound trivial hg ⟨v, itvOp_conc hv, rfl⟩
    | const k => exact (IDom.Stmt.arithCst (itvOp op) x y k).exec_sound trivial hg ⟨v, itvOp_conc hv, rfl⟩
  select_sound := by
    intro x c e1 e2 a σ hg
    have := Env.select_sound hg x (Cst.toLin_canonical c) e1.toExpr e2.toExpr
    rw [Lin.toExpr_eval, Lin.toExpr_eval, select_cond] at this
    exact this
  bwdAssign_sound := fun _ _ _ _ _ h _ => h
  bwdApply_sound := fun _ _ _ _ _ _ _ _ h _ _ => h

/-- `rename({y}, {x})` right after `-= x` gives `x` the value of `y` -/
theorem rename_after_forget : RenameAfterForget fwd SEnv.γ rename := by
  intro y x a τ w hyx hg
  have hg1 : Env.γ (a.1.forget x) τ := Env.forget_sound_same hg x
  refine Env.rename_sound hg1 (rename1_eq _ y x) (by simp) (by simp) ?_ ?_ ?_ ?_
  · intro z hz hz'
    rw [List.mem_singleton] at hz hz'
    exact hyx (hz'.symm.trans hz)
  · intro z hz
    rw [List.mem_singleton.1 hz]
    unfold Env.forget
    simp only [hg.1, Bool.false_eq_true, if_false, Map.find_remove, if_true]
  · refine ⟨?_, trivial⟩
    show upd (upd τ x (τ y)) y w x = τ y
    rw [upd_other _ y x w (fun h => hyx h.symm), upd_same]
  · intro z hz1 hz2
    rw [List.mem_singleton] at hz1 hz2
    show upd (upd τ x (τ y)) y w z = τ z
    rw [upd_other _ y z w hz1, upd_other _ x z _ hz2]

theorem bound_ok : BoundOk SEnv.γ bound := by
  intro a f τ v hf hg
  refine ⟨hg.1, fun x => ?_⟩
  by_cases hx : x = f
  · subst hx
    have hnone : Map.find a.1.m x = none := by
      apply Map.find_none_of_not_key
      intro p hp he
      have : p.1 < bound a := freshFor_gt 0 _ (List.mem_map.2 ⟨p, hp, rfl⟩)
      rw [he] at this
      exact Nat.lt_irrefl _ (Nat.lt_of_lt_of_le this hf)
    rw [Env.get_of_not_bottom hg.1, hnone]
    exact Itv.mem_top _
  · have := hg.2 x
    show Itv.mem (upd τ f v x) _
    rw [upd_other τ f x v hx]
    exact this

theorem dom_sound : BDomSound dom SEnv.γ :=
  withGenBwd_sound fwd_sound rename rename_after_forget bound bound_ok

end ItvB
end Bwd
end Crab
