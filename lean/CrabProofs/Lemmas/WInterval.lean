import CrabProofs.Lemmas.WrapInt
import CrabModel.Scalar.WInterval

/-!
  Lemmas about the model `Crab.WInt` of `wrapped_interval<z_number>`: circular distance,
  membership, soundness of the order, join, meet, widening, `+`, `-`, unary `-`.

  Everything about the circle goes through the clockwise distance `D M s v` = `(v - s) mod M`.
  The proofs live on a few of its lemmas: `D_rot` (rotation), `D_split` (a point of an arc splits
  its length), `D_add_add` / `D_sub_sub` (distances between sums / differences), and `arc_iff`:
  membership in an arc, `D M s v ≤ D M s e`, is a linear fact about the distances from any one base
  point.  The lattice operations are compared in the frame of one start point (`meet_ext` is the
  pattern: one `rw [arc_iff …] at`, then `omega`), the arithmetic operations by computing the
  distances.
-/
namespace Crab
namespace WInt
open WrapInt


theorem add_eq_addT {a b : WrapInt} (h : a.width = b.width) : WrapInt.add a b = some (addT a b) := by
  simp only [WrapInt.add, addT, h, if_true]

theorem sub_eq_subT {a b : WrapInt} (h : a.width = b.width) : WrapInt.sub a b = some (subT a b) := by
  simp only [WrapInt.sub, subT, h, if_true]

theorem mul_eq_mulT {a b : WrapInt} (h : a.width = b.width) : WrapInt.mul a b = some (mulT a b) := by
  simp only [WrapInt.mul, mulT, h, if_true]


/-- clockwise distance from `s` to `v` on the circle of `M` points: `(v - s) mod M` (so the
    difference `a - b` of two points is `D M b a`) -/
def D (M s v : Nat) : Nat := if s ≤ v then v - s else v + M - s

theorem D_spec (M s v : Nat) : (s ≤ v ∧ D M s v = v - s) ∨ (v < s ∧ D M s v = v + M - s) := by
  unfold D; split
  · left; exact ⟨by assumption, rfl⟩
  · right; exact ⟨by omega, rfl⟩

theorem mod_small_or (x M : Nat) (_hM : 0 < M) (h : x < 2 * M) :
    (x < M ∧ x % M = x) ∨ (M ≤ x ∧ x % M = x - M) := by
  by_cases hx : x < M
  · left; exact ⟨hx, Nat.mod_eq_of_lt hx⟩
  · right
    refine ⟨by omega, ?_⟩
    rw [Nat.mod_eq_sub_mod (by omega)]
    exact Nat.mod_eq_of_lt (by omega)

theorem D_lt {M s v : Nat} (hs : s < M) (hv : v < M) : D M s v < M := by
  rcases D_spec M s v with ⟨a, b⟩ | ⟨a, b⟩ <;> omega

theorem D_self (M s : Nat) : D M s s = 0 := by simp [D]

theorem D_zero (M v : Nat) : D M 0 v = v := by simp [D]

theorem D_eq_mod {M s v : Nat} (hs : s < M) (hv : v < M) : D M s v = (v + M - s) % M := by
  rcases D_spec M s v with ⟨a, b⟩ | ⟨a, b⟩
  · rw [b, show v + M - s = v - s + M by omega, Nat.add_mod_right, Nat.mod_eq_of_lt (by omega)]
  · rw [b, Nat.mod_eq_of_lt (by omega)]

theorem D_add_back {M s v : Nat} (hs : s < M) (hv : v < M) : (s + D M s v) % M = v := by
  rcases D_spec M s v with ⟨a, b⟩ | ⟨a, b⟩
  · rw [b, Nat.add_sub_cancel' a]; exact Nat.mod_eq_of_lt hv
  · rw [b, show s + (v + M - s) = v + M by omega, Nat.add_mod_right]; exact Nat.mod_eq_of_lt hv

theorem D_inj {M s a b : Nat} (hs : s < M) (ha : a < M) (hb : b < M) (h : D M s a = D M s b) :
    a = b := by
  rw [← D_add_back hs ha, h, D_add_back hs hb]

theorem D_add_right {M s : Nat} (hs : s < M) (t : Nat) : D M s ((s + t) % M) = t % M := by
  have ht : t % M < M := Nat.mod_lt _ (by omega)
  rw [← Nat.add_mod_mod]
  rcases mod_small_or (s + t % M) M (by omega) (by omega) with ⟨a, b⟩ | ⟨a, b⟩ <;>
  rcases D_spec M s ((s + t % M) % M) with ⟨c, d⟩ | ⟨c, d⟩ <;> omega

theorem D_trans {M s v e : Nat} (hs : s < M) (hv : v < M) (he : e < M) :
    D M s e = (D M s v + D M v e) % M := by
  rw [← D_add_right hs, ← Nat.add_assoc, ← Nat.mod_add_mod (s + D M s v), D_add_back hs hv,
    D_add_back hv he]

theorem D_rot {M a s v : Nat} (ha : a < M) (hs : s < M) (hv : v < M) :
    D M s v = D M (D M a s) (D M a v) := by
  rw [D_trans ha hs hv, D_add_right (D_lt ha hs), Nat.mod_eq_of_lt (D_lt hs hv)]

theorem D_add_add {M s1 s2 a b : Nat} (h1 : s1 < M) (h2 : s2 < M) (ha : a < M) (hb : b < M) :
    D M ((s1 + s2) % M) ((a + b) % M) = (D M s1 a + D M s2 b) % M := by
  have : (a + b) % M = ((s1 + s2) % M + (D M s1 a + D M s2 b)) % M := by
    rw [Nat.mod_add_mod, Nat.add_add_add_comm, Nat.add_mod (s1 + _), D_add_back h1 ha,
      D_add_back h2 hb]
  rw [this, D_add_right (Nat.mod_lt _ (by omega))]

theorem D_sub_sub {M s1 e2 a b : Nat} (h1 : s1 < M) (h2 : e2 < M) (ha : a < M) (hb : b < M) :
    D M (D M e2 s1) (D M b a) = (D M s1 a + D M b e2) % M := by
  have : D M b a = (D M e2 s1 + (D M s1 a + D M b e2)) % M := by
    rw [D_trans hb h2 ha, D_trans h2 h1 ha, Nat.add_mod_mod, Nat.add_left_comm,
      Nat.add_comm (D M b e2)]
  rw [this, D_add_right (D_lt h2 h1)]

theorem D_split {M s v e : Nat} (hs : s < M) (hv : v < M) (he : e < M) (h : D M s v ≤ D M s e) :
    D M s v + D M v e = D M s e := by
  have a1 := D_spec M s v; have a2 := D_spec M s e; have a3 := D_spec M v e
  omega

theorem D_swap {M s v : Nat} (hs : s < M) (hv : v < M) (h : D M s v ≠ 0) : D M s v + D M v s = M := by
  have a1 := D_spec M s v; have a2 := D_spec M v s
  omega

theorem D_le_iff {M a b p : Nat} (ha : a < M) (hb : b < M) (hp : p < M) :
    D M a p ≤ D M a b ↔ (a ≤ p ∧ p ≤ b) ∨ (b < a ∧ (a ≤ p ∨ p ≤ b)) := by
  have a1 := D_spec M a p; have a2 := D_spec M a b
  omega

theorem arc_iff {M c s e v : Nat} (hc : c < M) (hs : s < M) (he : e < M) (hv : v < M) :
    D M s v ≤ D M s e ↔ (D M c s ≤ D M c v ∧ D M c v ≤ D M c e) ∨
      (D M c e < D M c s ∧ (D M c s ≤ D M c v ∨ D M c v ≤ D M c e)) := by
  rw [D_rot hc hs hv, D_rot hc hs he]
  exact D_le_iff (D_lt hc hs) (D_lt hc he) (D_lt hc hv)

/-- a full circle contains every point: the `is_top()` test of `at` is redundant -/
theorem D_le_of_full {M s e v : Nat} (hs : s < M) (hv : v < M) (h : D M s e = M - 1) :
    D M s v ≤ D M s e := by
  have := D_lt hs hv; omega

theorem D_succ_start {M c c' a : Nat} (hc : c < M) (hc' : c' < M) (ha : a < M) (hd : D M c c' = 1)
    (hac : a ≠ c) : D M c' a + 1 = D M c a := by
  have h0 : D M c a ≠ 0 := fun h => hac (D_inj hc ha hc (by rw [h, D_self]))
  have := D_split hc hc' ha (by omega)
  omega

theorem D_pred_end {M c c' s : Nat} (hs : s < M) (hc : c < M) (hc' : c' < M) (hd : D M c c' = 1)
    (hsc : s ≠ c') : D M s c + 1 = D M s c' := by
  have h0 : D M s c' ≠ 0 := fun h => hsc (D_inj hs hs hc' (by rw [h, D_self]))
  have h1 := D_trans hs hc hc'
  have h2 := D_lt hs hc
  rw [hd] at h1
  rcases Nat.lt_or_ge (D M s c + 1) M with h | h
  · rw [Nat.mod_eq_of_lt h] at h1; exact h1.symm
  · rw [show D M s c + 1 = M by omega, Nat.mod_self] at h1; exact absurd h1 h0

theorem bv_sub_toNat_D {w : Nat} (a b : BitVec w) : (a - b).toNat = D (2 ^ w) b.toNat a.toNat := by
  rw [BitVec.toNat_sub, D_eq_mod b.isLt a.isLt]
  congr 1; have := b.isLt; omega

theorem bv_neg_toNat_D {w : Nat} (a : BitVec w) : (-a).toNat = D (2 ^ w) a.toNat 0 := by
  rw [BitVec.toNat_neg, D_eq_mod a.isLt (Nat.pow_pos (by decide))]
  congr 1; omega


theorem red_sub_eq {w : Nat} (hw : w ≤ 64) {a b : Nat} (ha : a < 2 ^ w) (hb : b < 2 ^ w) :
    red w ((a + 2 ^ 64 - b % 2 ^ 64) % 2 ^ 64) = D (2 ^ w) b a := by
  have hb64 : b < 2 ^ 64 := Nat.lt_of_lt_of_le hb (pow_le_64 hw)
  rw [red_mod hw, Nat.mod_eq_of_lt hb64, pow64_split hw,
    sub_mod_lemma _ _ _ _ (Nat.pow_pos (by decide)) (Nat.le_of_lt hb), D_eq_mod hb ha]
  congr 1; omega

theorem red_add_eq {w : Nat} (hw : w ≤ 64) (a b : Nat) :
    red w ((a + b) % 2 ^ 64) = (a + b) % 2 ^ w := red_mod hw _

theorem red_neg_eq {w : Nat} (hw : w ≤ 64) {a : Nat} (ha : a < 2 ^ w) :
    red w ((2 ^ 64 - a % 2 ^ 64) % 2 ^ 64) = D (2 ^ w) a 0 := by
  have := red_sub_eq hw (Nat.pow_pos (by decide) : 0 < 2 ^ w) ha
  simpa using this

theorem one_n {w : Nat} (h1 : 1 ≤ w) : (if w < 64 then 1 % 2 ^ w else 1) = 1 := by
  split
  · exact Nat.mod_eq_of_lt (Nat.one_lt_two_pow (by omega))
  · rfl

theorem two_le_pow {w : Nat} (h1 : 1 ≤ w) : 2 ≤ 2 ^ w := by
  have := Nat.pow_le_pow_right (by decide : 0 < 2) h1
  simpa using this

theorem ofNatT_zero (w : Nat) : ofNatT 0 w = ⟨w, 0⟩ := by
  unfold ofNatT; split <;> simp

theorem ofNatT_zero_n (w : Nat) : (ofNatT 0 w).n = 0 := by rw [ofNatT_zero]

theorem ofNatT_one {w : Nat} (h1 : 1 ≤ w) : ofNatT 1 w = ⟨w, 1⟩ := by
  unfold ofNatT; rw [one_n h1]

theorem ofNatT_one_n {w : Nat} (h1 : 1 ≤ w) : (ofNatT 1 w).n = 1 := one_n h1

theorem addT_lt {w : Nat} (hw : w ≤ 64) (a b : WrapInt) (ha : a.width = w) : (addT a b).n < 2 ^ w := by
  subst ha; exact red_mod_lt hw _

theorem subT_lt {w : Nat} (hw : w ≤ 64) (a b : WrapInt) (ha : a.width = w) : (subT a b).n < 2 ^ w := by
  subst ha; exact red_mod_lt hw _

abbrev W (w s e : Nat) (b : Bool) : WInt := ⟨⟨w, s⟩, ⟨w, e⟩, b⟩

theorem isTop_W {w : Nat} (hw : w ≤ 64) {s e : Nat} (hs : s < 2 ^ w) (he : e < 2 ^ w) :
    (W w s e false).isTop = decide (D (2 ^ w) s e = 2 ^ w - 1) := by
  simp only [isTop, subT, umaxT, Bool.not_false, Bool.true_and, red_sub_eq hw he hs]
  rw [Bool.eq_iff_iff]; simp

theorem isTop_W_false {w : Nat} (hw : w ≤ 64) {s e : Nat} (hs : s < 2 ^ w) (he : e < 2 ^ w)
    (h : (W w s e false).isTop = false) : ¬ D (2 ^ w) s e = 2 ^ w - 1 := by
  rw [isTop_W hw hs he] at h; simpa using h

theorem at_W {w : Nat} (hw : w ≤ 64) {s e v : Nat} (hs : s < 2 ^ w) (he : e < 2 ^ w) (hv : v < 2 ^ w) :
    (W w s e false).at ⟨w, v⟩ = decide (D (2 ^ w) s v ≤ D (2 ^ w) s e) := by
  unfold WInt.at
  rw [isTop_W hw hs he]
  simp only [Bool.false_eq_true, if_false, subT, red_sub_eq hw hv hs, red_sub_eq hw he hs]
  split
  · next h => exact (decide_eq_true (D_le_of_full hs hv (of_decide_eq_true h))).symm
  · rfl

/-- mathematical membership of a value of width `w` -/
def mem (w v : Nat) (x : WInt) : Prop :=
  x.isBottom = false ∧
    (x.isTop = true ∨
      (x.start.width = w ∧ D (2 ^ w) (x.start.n) v ≤ D (2 ^ w) (x.start.n) (x.stop.n)))

theorem mem_W {w : Nat} (hw : w ≤ 64) {s e v : Nat} (hs : s < 2 ^ w) (he : e < 2 ^ w) :
    mem w v (W w s e false) ↔
      (D (2 ^ w) s e = 2 ^ w - 1 ∨ D (2 ^ w) s v ≤ D (2 ^ w) s e) := by
  simp [mem, isTop_W hw hs he]

theorem mem_W_le {w : Nat} (hw : w ≤ 64) {s e v : Nat} (hs : s < 2 ^ w) (he : e < 2 ^ w)
    (hv : v < 2 ^ w) : mem w v (W w s e false) ↔ D (2 ^ w) s v ≤ D (2 ^ w) s e := by
  rw [mem_W hw hs he]
  exact ⟨fun h => h.elim (D_le_of_full hs hv) id, Or.inr⟩

theorem mem_nontop {w : Nat} (hw : w ≤ 64) {s e v : Nat} (hs : s < 2 ^ w) (he : e < 2 ^ w)
    (hnt : (W w s e false).isTop = false) (hm : mem w v (W w s e false)) :
    D (2 ^ w) s v ≤ D (2 ^ w) s e := by
  rw [mem_W hw hs he] at hm
  exact hm.resolve_left (isTop_W_false hw hs he hnt)

theorem at_iff_mem {w : Nat} (hw : w ≤ 64) {s e v : Nat} (hs : s < 2 ^ w) (he : e < 2 ^ w) (hv : v < 2 ^ w) :
    (W w s e false).at ⟨w, v⟩ = true ↔ mem w v (W w s e false) := by
  rw [at_W hw hs he hv, decide_eq_true_eq, mem_W_le hw hs he hv]

theorem mem_top (w v : Nat) : mem w v top := by
  refine ⟨rfl, Or.inl ?_⟩; decide

theorem mem_ite {w v : Nat} {c : Prop} [Decidable c] {a b : WInt}
    (ha : c → mem w v a) (hb : ¬ c → mem w v b) : mem w v (if c then a else b) :=
  ite_elim (mem w v) ha hb

def Shape (w : Nat) (x : WInt) : Prop :=
  x.isBottom = true ∨
    (x.start.width = w ∧ x.stop.width = w ∧ x.start.n < 2 ^ w ∧ x.stop.n < 2 ^ w)

instance (w : Nat) (x : WInt) : Decidable (Shape w x) := by unfold Shape; exact inferInstance

instance (w v : Nat) (x : WInt) : Decidable (mem w v x) := by unfold mem; exact inferInstance

def memBV {w : Nat} (v : BitVec w) (x : WInt) : Prop := mem w v.toNat x

instance {w : Nat} (v : BitVec w) (x : WInt) : Decidable (memBV v x) := by unfold memBV; exact inferInstance

/-- the object `top()` or a value of width `w`: what the domain reads from its environment, the
    hypothesis on every operand of every `_spec`, and the invariant of the accumulators of the loops -/
def Good (w : Nat) (x : WInt) : Prop := x = top ∨ Shape w x

theorem shape_cases {w : Nat} {x : WInt} (hx : Shape w x) (hb : x.isBottom = false) :
    ∃ s e, s < 2 ^ w ∧ e < 2 ^ w ∧ x = W w s e false := by
  rcases hx with h | ⟨a, b, c, d⟩
  · rw [hb] at h; cases h
  · obtain ⟨⟨w1, s⟩, ⟨w2, e⟩, bt⟩ := x
    simp only at a b c d hb
    subst a b hb
    exact ⟨s, e, c, d, rfl⟩

theorem shape_W {w s e : Nat} (hs : s < 2 ^ w) (he : e < 2 ^ w) : Shape w (W w s e false) :=
  Or.inr ⟨rfl, rfl, hs, he⟩

theorem shape_mk2 {w : Nat} {a b : WrapInt} (ha : a.width = w) (hb : b.width = w)
    (han : a.n < 2 ^ w) (hbn : b.n < 2 ^ w) : Shape w (mk2 a b) :=
  Or.inr ⟨ha, hb, han, hbn⟩

theorem mem_bottom_false {w v : Nat} {x : WInt} (h : x.isBottom = true) : ¬ mem w v x := by
  intro hm; rw [hm.1] at h; cases h

theorem isTop_not_bottom {x : WInt} (h : x.isTop = true) : x.isBottom = false := by
  unfold isTop at h
  cases hb : x.isBottom
  · rfl
  · simp [hb] at h

theorem mem_of_isTop {w v : Nat} {x : WInt} (h : x.isTop = true) : mem w v x :=
  ⟨isTop_not_bottom h, Or.inl h⟩

/-- an operation that returns a full circle unchanged -/
theorem mem_top_unchanged {w v : Nat} {x r : WInt} {o : Option WInt} (ht : x.isTop = true)
    (ho : o = some x) (h : o = some r) : mem w v r := by
  obtain rfl := Option.some.inj (ho.symm.trans h)
  exact mem_of_isTop ht

theorem top_isTop : top.isTop = true := by decide

theorem good_top (w : Nat) : Good w top := Or.inl rfl

theorem good_bottom (w : Nat) : Good w bottom := Or.inr (Or.inl rfl)

theorem good_of_shape {w : Nat} {x : WInt} (h : Shape w x) : Good w x := Or.inr h

theorem good_shape {w : Nat} {x : WInt} (h : Good w x) (ht : x.isTop = false) : Shape w x := by
  rcases h with rfl | h
  · rw [top_isTop] at ht; cases ht
  · exact h

theorem good_cases {w : Nat} {x : WInt} (hx : Good w x) (hb : x.isBottom = false) (ht : x.isTop = false) :
    ∃ s e, s < 2 ^ w ∧ e < 2 ^ w ∧ x = W w s e false :=
  shape_cases (good_shape hx ht) hb

theorem good_mem_cases {w v : Nat} {x : WInt} (hx : Good w x) (hm : mem w v x) :
    (∃ s e, s < 2 ^ w ∧ e < 2 ^ w ∧ x = W w s e false ∧ x.isTop = false) ∨ x.isTop = true := by
  by_cases ht : x.isTop = true
  · exact Or.inr ht
  · have ht := (Bool.not_eq_true _).mp ht
    obtain ⟨s, e, hs, he, rfl⟩ := good_cases hx hm.1 ht
    exact Or.inl ⟨s, e, hs, he, rfl, ht⟩


theorem leq_W_iff {w : Nat} (hw : w ≤ 64) {s1 e1 s2 e2 : Nat}
    (h1 : s1 < 2 ^ w) (h2 : e1 < 2 ^ w) (h3 : s2 < 2 ^ w) (h4 : e2 < 2 ^ w) :
    (W w s1 e1 false).leq (W w s2 e2 false) = true ↔
      (D (2 ^ w) s2 e2 = 2 ^ w - 1 ∨ (¬ D (2 ^ w) s1 e1 = 2 ^ w - 1 ∧ ((s1 = s2 ∧ e1 = e2) ∨
        (D (2 ^ w) s2 s1 ≤ D (2 ^ w) s2 e2 ∧ D (2 ^ w) s2 e1 ≤ D (2 ^ w) s2 e2 ∧
          ¬ (D (2 ^ w) s1 s2 ≤ D (2 ^ w) s1 e1 ∧ D (2 ^ w) s1 e2 ≤ D (2 ^ w) s1 e1))))) := by
  unfold leq
  rw [isTop_W hw h1 h2, isTop_W hw h3 h4, at_W hw h3 h4 h1, at_W hw h3 h4 h2, at_W hw h1 h2 h3,
    at_W hw h1 h2 h4]
  by_cases t2 : D (2 ^ w) s2 e2 = 2 ^ w - 1
  · simp [t2]
  · by_cases t1 : D (2 ^ w) s1 e1 = 2 ^ w - 1
    · simp [t1, t2]
    · by_cases hs : s1 = s2 ∧ e1 = e2
      · simp [t2, hs]
      · simp [t1, t2, hs]
        omega

/-- `x ⊆ y` when both ends of `x` are in `y` and `x` does not hold both ends of `y`: seen from
    the start of `y`, either `x` does not wrap and lies below the end of `y`, or it wraps and
    then holds the start of `y` and everything from its own start on, so the end of `y` too -/
theorem leq_core {M s1 e1 s2 e2 v : Nat} (h1 : s1 < M) (h2 : e1 < M) (h3 : s2 < M) (h4 : e2 < M)
    (hv : v < M) (a1 : D M s2 s1 ≤ D M s2 e2) (a2 : D M s2 e1 ≤ D M s2 e2)
    (hn : ¬ (D M s1 s2 ≤ D M s1 e1 ∧ D M s1 e2 ≤ D M s1 e1)) (hm : D M s1 v ≤ D M s1 e1) :
    D M s2 v ≤ D M s2 e2 := by
  rw [arc_iff h3 h1 h2 h3, arc_iff h3 h1 h2 h4, D_self] at hn
  rw [arc_iff h3 h1 h2 hv] at hm
  omega

theorem leq_W_sound {w : Nat} (hw : w ≤ 64) {s1 e1 s2 e2 v : Nat}
    (h1 : s1 < 2 ^ w) (h2 : e1 < 2 ^ w) (h3 : s2 < 2 ^ w) (h4 : e2 < 2 ^ w) (hv : v < 2 ^ w)
    (hl : (W w s1 e1 false).leq (W w s2 e2 false) = true) (hm : mem w v (W w s1 e1 false)) :
    mem w v (W w s2 e2 false) := by
  rw [mem_W_le hw h1 h2 hv] at hm
  rw [mem_W_le hw h3 h4 hv]
  rcases (leq_W_iff hw h1 h2 h3 h4).mp hl with t | ⟨_, ⟨rfl, rfl⟩ | ⟨a1, a2, hn⟩⟩
  · exact D_le_of_full h3 hv t
  · exact hm
  · exact leq_core h1 h2 h3 h4 hv a1 a2 hn hm

theorem leq_sound {w : Nat} (hw : w ≤ 64) {x y : WInt} (hx : Shape w x) (hy : Shape w y)
    {v : Nat} (hv : v < 2 ^ w) (hl : x.leq y = true) (hm : mem w v x) : mem w v y := by
  obtain ⟨s1, e1, h1, h2, rfl⟩ := shape_cases hx hm.1
  cases hyb : y.isBottom
  · obtain ⟨s2, e2, h3, h4, rfl⟩ := shape_cases hy hyb
    exact leq_W_sound hw h1 h2 h3 h4 hv hl hm
  · unfold leq at hl
    have : y.isTop = false := by simp [isTop, hyb]
    simp [hyb, this] at hl

/-! ### join and meet: each case is stated once, for one order of the operands -/

/-- `y` holds the end of `x`, `x` the start of `y`, and they do not cover the circle together:
    the arc from the start of `x` to the end of `y` holds both -/
theorem join_ext {M s1 e1 s2 e2 v : Nat} (h1 : s1 < M) (h2 : e1 < M) (h3 : s2 < M) (h4 : e2 < M)
    (hv : v < M) (b1 : D M s1 s2 ≤ D M s1 e1) (a2 : D M s2 e1 ≤ D M s2 e2)
    (hn : ¬ (D M s2 s1 ≤ D M s2 e2 ∧ D M s1 e2 ≤ D M s1 e1))
    (hm : D M s1 v ≤ D M s1 e1 ∨ D M s2 v ≤ D M s2 e2) : D M s1 v ≤ D M s1 e2 := by
  rw [arc_iff h1 h3 h4 h2] at a2
  rw [arc_iff h1 h3 h4 h1, D_self] at hn
  rw [arc_iff h1 h3 h4 hv] at hm
  omega

/-- neither operand is below the other nor holds an end of the other next to its own end: they are
    disjoint, and the arc from the start of `x` to the end of `y` holds both -/
theorem join_gap {M s1 e1 s2 e2 v : Nat} (h1 : s1 < M) (h2 : e1 < M) (h3 : s2 < M) (h4 : e2 < M)
    (hv : v < M)
    (n1 : ¬ (D M s2 e1 ≤ D M s2 e2 ∧ D M s1 s2 ≤ D M s1 e1))
    (n2 : ¬ (D M s1 e2 ≤ D M s1 e1 ∧ D M s2 s1 ≤ D M s2 e2))
    (n3 : ¬ (D M s2 s1 ≤ D M s2 e2 ∧ D M s2 e1 ≤ D M s2 e2 ∧
      ¬ (D M s1 s2 ≤ D M s1 e1 ∧ D M s1 e2 ≤ D M s1 e1)))
    (n4 : ¬ (D M s1 s2 ≤ D M s1 e1 ∧ D M s1 e2 ≤ D M s1 e1 ∧
      ¬ (D M s2 s1 ≤ D M s2 e2 ∧ D M s2 e1 ≤ D M s2 e2)))
    (hm : D M s1 v ≤ D M s1 e1 ∨ D M s2 v ≤ D M s2 e2) : D M s1 v ≤ D M s1 e2 := by
  simp only [arc_iff h1 h3 h4 h2, arc_iff h1 h3 h4 h1, D_self] at n1 n2 n3 n4
  rw [arc_iff h1 h3 h4 hv] at hm
  omega

theorem join_W_upper {w : Nat} (hw : w ≤ 64) {s1 e1 s2 e2 v : Nat}
    (h1 : s1 < 2 ^ w) (h2 : e1 < 2 ^ w) (h3 : s2 < 2 ^ w) (h4 : e2 < 2 ^ w) (hv : v < 2 ^ w)
    (hm : mem w v (W w s1 e1 false) ∨ mem w v (W w s2 e2 false)) :
    mem w v ((W w s1 e1 false).join (W w s2 e2 false)) := by
  unfold join
  refine mem_ite (fun hL1 => hm.elim (leq_W_sound hw h1 h2 h3 h4 hv hL1) id) fun hL1 => ?_
  refine mem_ite (fun hL2 => hm.elim id (leq_W_sound hw h3 h4 h1 h2 hv hL2)) fun hL2 => ?_
  rw [leq_W_iff hw h1 h2 h3 h4] at hL1
  rw [leq_W_iff hw h3 h4 h1 h2] at hL2
  rw [mem_W_le hw h1 h2 hv, mem_W_le hw h3 h4 hv] at hm
  rw [at_W hw h3 h4 h1, at_W hw h3 h4 h2, at_W hw h1 h2 h3, at_W hw h1 h2 h4]
  simp only [Bool.and_eq_true, decide_eq_true_eq]
  have r1 := mem_W_le hw h1 h4 hv
  have r2 := mem_W_le hw h3 h2 hv
  refine mem_ite (fun _ => mem_top w v) fun c1 => mem_ite (fun c2 => ?_) fun c2 =>
    mem_ite (fun c3 => ?_) fun c3 => ?_
  · exact r1.mpr (join_ext h1 h2 h3 h4 hv c2.2 c2.1 (fun h => c1 ⟨⟨⟨h.1, c2.1⟩, c2.2⟩, h.2⟩) hm)
  · exact r2.mpr (join_ext h3 h4 h1 h2 hv c3.2 c3.1 (fun h => c1 ⟨⟨⟨c3.2, h.2⟩, h.1⟩, c3.1⟩)
      hm.symm)
  · have n3 := fun h => hL1 (Or.inr ⟨fun t => hL2 (Or.inl t), Or.inr h⟩)
    have n4 := fun h => hL2 (Or.inr ⟨fun t => hL1 (Or.inl t), Or.inr h⟩)
    exact mem_ite (fun _ => r1.mpr (join_gap h1 h2 h3 h4 hv c2 c3 n3 n4 hm))
      (fun _ => r2.mpr (join_gap h3 h4 h1 h2 hv c3 c2 n4 n3 hm.symm))

theorem join_bottom_left {x y : WInt} (hx : x.isBottom = true) : x.join y = y := by
  have l1 : x.leq y = true := by simp [leq, hx]
  simp [join, l1]

theorem join_bottom_right {x y : WInt} (hx : x.isBottom = false) (hy : y.isBottom = true) :
    x.join y = x := by
  have yt : y.isTop = false := by simp [isTop, hy]
  have l1 : x.leq y = false := by simp [leq, hx, hy, yt]
  have l2 : y.leq x = true := by simp [leq, hy]
  simp [join, l1, l2]

theorem join_upper {w : Nat} (hw : w ≤ 64) {x y : WInt} (hx : Shape w x) (hy : Shape w y)
    {v : Nat} (hv : v < 2 ^ w) (hm : mem w v x ∨ mem w v y) : mem w v (x.join y) := by
  cases hxb : x.isBottom
  · cases hyb : y.isBottom
    · obtain ⟨s1, e1, h1, h2, rfl⟩ := shape_cases hx hxb
      obtain ⟨s2, e2, h3, h4, rfl⟩ := shape_cases hy hyb
      exact join_W_upper hw h1 h2 h3 h4 hv hm
    · rw [join_bottom_right hxb hyb]; exact hm.resolve_right (mem_bottom_false hyb)
  · rw [join_bottom_left hxb]; exact hm.resolve_left (mem_bottom_false hxb)

/-- `x` does not hold the start of `y`: what they share lies between the start of `x` and the
    end of `y` -/
theorem meet_ext {M s1 e1 s2 e2 v : Nat} (h1 : s1 < M) (h3 : s2 < M) (h4 : e2 < M) (hv : v < M)
    (nb1 : ¬ D M s1 s2 ≤ D M s1 e1) (hx : D M s1 v ≤ D M s1 e1) (hy : D M s2 v ≤ D M s2 e2) :
    D M s1 v ≤ D M s1 e2 := by
  rw [arc_iff h1 h3 h4 hv] at hy
  omega

theorem meet_starts {M s1 e1 s2 e2 v : Nat} (h1 : s1 < M) (h3 : s2 < M) (h4 : e2 < M)
    (hv : v < M) (hx : D M s1 v ≤ D M s1 e1) (hy : D M s2 v ≤ D M s2 e2) :
    D M s2 s1 ≤ D M s2 e2 ∨ D M s1 s2 ≤ D M s1 e1 := by
  rw [arc_iff h1 h3 h4 h1, D_self]
  rw [arc_iff h1 h3 h4 hv] at hy
  omega

theorem meet_sound {w : Nat} (hw : w ≤ 64) {x y : WInt} (hx : Shape w x) (hy : Shape w y)
    {v : Nat} (hv : v < 2 ^ w) (h1 : mem w v x) (h2 : mem w v y) : mem w v (x.meet y) := by
  obtain ⟨s1, e1, a1, a2, rfl⟩ := shape_cases hx h1.1
  obtain ⟨s2, e2, a3, a4, rfl⟩ := shape_cases hy h2.1
  have h1' := (mem_W_le hw a1 a2 hv).mp h1
  have h2' := (mem_W_le hw a3 a4 hv).mp h2
  unfold meet
  rw [at_W hw a3 a4 a1, at_W hw a3 a4 a2, at_W hw a1 a2 a3, at_W hw a1 a2 a4]
  simp only [decide_eq_true_eq]
  refine mem_ite (fun _ => h1) fun _ => mem_ite (fun _ => h2) fun _ =>
    mem_ite (fun c1 => ?_) (fun c1 => ?_)
  · refine mem_ite (fun _ => mem_ite (fun _ => h1) (fun _ => h2)) fun c2 =>
      mem_ite (fun _ => h1) fun _ => ?_
    exact (mem_W_le hw a1 a4 hv).mpr (meet_ext a1 a3 a4 hv c2 h1' h2')
  · refine mem_ite (fun _ => mem_ite (fun _ => h2) fun _ => ?_) fun c2 => ?_
    · exact (mem_W_le hw a3 a2 hv).mpr (meet_ext a3 a1 a2 hv c1 h2' h1')
    · exact absurd (meet_starts a1 a3 a4 hv h1' h2') (by simp [c1, c2])


/-- what `operator|` can answer -/
theorem join_ind {P : WInt → Prop} (x y : WInt) (hy : P y) (hx : P x) (ht : P top)
    (h1 : P (mk2 x.start y.stop)) (h2 : P (mk2 y.start x.stop)) : P (x.join y) :=
  ite_elim _ (fun _ => hy) fun _ => ite_elim _ (fun _ => hx) fun _ => ite_elim _ (fun _ => ht) fun _ =>
    ite_elim _ (fun _ => h1) fun _ => ite_elim _ (fun _ => h2) fun _ => ite_elim _ (fun _ => h1) fun _ => h2

/-- what `operator||` can answer: an operand, `top()`, or a join with an interval that keeps one
    end point of an operand and moves the other by a sum or difference of that width -/
theorem widen_ind {P : WInt → Prop} (x y : WInt) (hy : P y) (hx : P x) (ht : P top)
    (h1 : x.isBottom = false → y.isBottom = false → ∀ a b, a.width = x.stop.width →
      P ((x.join y).join (mk2 x.start (addT a b))))
    (h2 : x.isBottom = false → y.isBottom = false → ∀ a b, a.width = x.start.width →
      P ((x.join y).join (mk2 (subT a b) x.stop)))
    (h3 : x.isBottom = false → y.isBottom = false → ∀ b,
      P (y.join (mk2 y.start (addT y.start b)))) : P (x.widen y) :=
  ite_elim _ (fun _ => hy) fun nx => ite_elim _ (fun _ => hx) fun ny =>
    have nx := (Bool.not_eq_true _).mp nx
    have ny := (Bool.not_eq_true _).mp ny
    ite_elim _ (fun _ => ht) fun _ => ite_elim _ (fun _ => hx) fun _ => ite_elim _ (fun _ => ht) fun _ =>
      ite_elim _ (fun _ => h1 nx ny _ _ rfl) fun _ => ite_elim _ (fun _ => h2 nx ny _ _ rfl) fun _ =>
        ite_elim _ (fun _ => h3 nx ny _) fun _ => ht

theorem join_shape {w : Nat} {x y : WInt} (hx : Shape w x) (hy : Shape w y) :
    x.join y = top ∨ Shape w (x.join y) := by
  cases hxb : x.isBottom
  · cases hyb : y.isBottom
    · obtain ⟨s1, e1, h1, h2, rfl⟩ := shape_cases hx hxb
      obtain ⟨s2, e2, h3, h4, rfl⟩ := shape_cases hy hyb
      exact join_ind (P := fun r => r = top ∨ Shape w r) _ _ (Or.inr hy) (Or.inr hx) (Or.inl rfl)
        (Or.inr (shape_W h1 h4)) (Or.inr (shape_W h3 h2))
    · rw [join_bottom_right hxb hyb]; exact Or.inr hx
  · rw [join_bottom_left hxb]; exact Or.inr hy

theorem top_join (z : WInt) : (top.join z = z ∧ z.isTop = true) ∨ top.join z = top := by
  have tt : top.isTop = true := by decide
  unfold join
  by_cases hz : z.isTop = true
  · have l1 : top.leq z = true := by simp [leq, hz]
    simp [l1, hz]
  · have hz' : z.isTop = false := by simpa using hz
    have l1 : top.leq z = false := by simp [leq, hz', tt, show top.isBottom = false from rfl]
    have l2 : z.leq top = true := by simp [leq, tt]
    simp [l1, l2]

theorem join_top_right (x : WInt) : x.join top = top := by
  have : x.leq top = true := by simp [leq, top_isTop]
  simp [join, this]

def LeW (w : Nat) (r r' : WInt) : Prop := ∀ v, v < 2 ^ w → mem w v r → mem w v r'

theorem LeW_refl (w : Nat) (r : WInt) : LeW w r r := fun _ _ h => h
theorem LeW_trans {w : Nat} {a b c : WInt} (h1 : LeW w a b) (h2 : LeW w b c) : LeW w a c :=
  fun v hv h => h2 v hv (h1 v hv h)

/-- `operator|` on operands either of which may be the object `top()` (the accumulators of the
    loops are such): the answer is of that kind again and holds both -/
theorem join_good {w : Nat} (hw : w ≤ 64) {res q : WInt} (hr : Good w res) (hq : Good w q) :
    Good w (res.join q) ∧ LeW w res (res.join q) ∧ LeW w q (res.join q) := by
  rcases hq with rfl | hq
  · rw [join_top_right]
    exact ⟨good_top w, fun v _ _ => mem_top w v, LeW_refl w _⟩
  rcases hr with rfl | hr
  · rcases top_join q with ⟨h, ht⟩ | h <;> rw [h]
    · exact ⟨Or.inr hq, fun _ _ _ => mem_of_isTop ht, LeW_refl w _⟩
    · exact ⟨good_top w, LeW_refl w _, fun v _ _ => mem_top w v⟩
  · exact ⟨join_shape hr hq, fun _ hv hm => join_upper hw hr hq hv (Or.inl hm),
      fun _ hv hm => join_upper hw hr hq hv (Or.inr hm)⟩

theorem widen_sound {w : Nat} (hw : w ≤ 64) {x y : WInt} (hx : Shape w x) (hy : Shape w y)
    {v : Nat} (hv : v < 2 ^ w) (hm : mem w v x ∨ mem w v y) : mem w v (x.widen y) := by
  unfold widen
  refine mem_ite (fun hxb => hm.resolve_left (mem_bottom_false hxb)) fun hxb =>
    mem_ite (fun hyb => hm.resolve_right (mem_bottom_false hyb)) fun hyb =>
    mem_ite (fun _ => mem_top w v) fun _ =>
    mem_ite (fun hl => hm.elim id (leq_sound hw hy hx hv hl)) fun _ =>
    mem_ite (fun _ => mem_top w v) fun _ => ?_
  obtain ⟨s1, e1, h1, h2, rfl⟩ := shape_cases hx (by simpa using hxb)
  obtain ⟨s2, e2, h3, h4, rfl⟩ := shape_cases hy (by simpa using hyb)
  have hj : mem w v ((W w s1 e1 false).join (W w s2 e2 false)) := join_upper hw hx hy hv hm
  have sj := join_shape hx hy
  refine mem_ite (fun _ => ?_) fun _ => mem_ite (fun _ => ?_) fun _ =>
    mem_ite (fun hl => ?_) fun _ => mem_top w v
  · exact (join_good hw sj (good_of_shape (shape_mk2 rfl rfl h1 (addT_lt hw _ _ rfl)))).2.1 v hv hj
  · exact (join_good hw sj (good_of_shape (shape_mk2 rfl rfl (subT_lt hw _ _ rfl) h2))).2.1 v hv hj
  · exact join_upper hw hy (shape_mk2 rfl rfl h3 (addT_lt hw _ _ rfl)) hv
      (Or.inl (hm.elim (leq_sound hw hx hy hv hl) id))

/-! ### `+`, `-`, unary `-`: cores on the circle of `M` points, then the model on values that are
    `top()` or of width `w` -/

theorem notop_core (M sz ysz : Nat) (hM : 2 ≤ M) (h1 : sz < M) (h2 : ysz < M)
    (hn : ¬ (((ysz + sz) % M + 1) % M ≤ ysz)) : sz + ysz + 1 < M := by
  have a := mod_small_or (ysz + sz) M (by omega) (by omega)
  have b := mod_small_or ((ysz + sz) % M + 1) M (by omega)
    (by have := Nat.mod_lt (ysz + sz) (show 0 < M by omega); omega)
  omega

theorem add_core (M s1 e1 s2 e2 a b : Nat) (h1 : s1 < M) (h2 : e1 < M) (h3 : s2 < M) (h4 : e2 < M)
    (ha : a < M) (hb : b < M)
    (hx : D M s1 a ≤ D M s1 e1) (hy : D M s2 b ≤ D M s2 e2)
    (hn : D M s1 e1 + D M s2 e2 + 1 < M) :
    D M ((s1 + s2) % M) ((a + b) % M) ≤ D M ((s1 + s2) % M) ((e1 + e2) % M) := by
  rw [D_add_add h1 h3 ha hb, D_add_add h1 h3 h2 h4, Nat.mod_eq_of_lt (by omega),
    Nat.mod_eq_of_lt (by omega)]
  exact Nat.add_le_add hx hy

theorem sub_core (M s1 e1 s2 e2 a b : Nat) (h1 : s1 < M) (h2 : e1 < M) (h3 : s2 < M) (h4 : e2 < M)
    (ha : a < M) (hb : b < M)
    (hx : D M s1 a ≤ D M s1 e1) (hy : D M s2 b ≤ D M s2 e2)
    (hn : D M s1 e1 + D M s2 e2 + 1 < M) :
    D M (D M e2 s1) (D M b a) ≤ D M (D M e2 s1) (D M s2 e1) := by
  have := D_split h3 hb h4 hy
  rw [D_sub_sub h1 h4 ha hb, D_sub_sub h1 h4 h2 h3, Nat.mod_eq_of_lt (by omega),
    Nat.mod_eq_of_lt (by omega)]
  omega

theorem neg_core (M s e v : Nat) (hs : s < M) (he : e < M) (hv : v < M)
    (h : D M s v ≤ D M s e) :
    D M (D M e 0) (D M v 0) ≤ D M (D M e 0) (D M s 0) := by
  have hM : 0 < M := by omega
  have := D_split hs hv he h
  have d1 := D_lt hv he; have d2 := D_lt hs he
  rw [D_sub_sub hM he hM hv, D_sub_sub hM he hM hs, D_self, Nat.zero_add, Nat.zero_add,
    Nat.mod_eq_of_lt d1, Nat.mod_eq_of_lt d2]
  omega

/-- the frame of the binary operations: bottom operands are answered by bottom, top operands by
    `top()`, and proper operands by `g` -/
theorem frame_ind {w : Nat} {P : WInt → Prop} {x y g : WInt} (hx : Good w x) (hy : Good w y)
    (hbot : (x.isBottom || y.isBottom) = true → P bottom) (htop : P top)
    (hg : ∀ s1 e1 s2 e2, s1 < 2 ^ w → e1 < 2 ^ w → s2 < 2 ^ w → e2 < 2 ^ w →
      x = W w s1 e1 false → y = W w s2 e2 false → P g) :
    P (if (x.isBottom || y.isBottom) = true then bottom else if (x.isTop || y.isTop) = true then top else g) :=
  ite_elim _ hbot fun hb => ite_elim _ (fun _ => htop) fun ht => by
    simp only [Bool.or_eq_true, not_or, Bool.not_eq_true] at hb ht
    obtain ⟨s1, e1, h1, h2, rfl⟩ := good_cases hx hb.1 ht.1
    obtain ⟨s2, e2, h3, h4, rfl⟩ := good_cases hy hb.2 ht.2
    exact hg s1 e1 s2 e2 h1 h2 h3 h4 rfl rfl

/-- what `+` and `-` have in common: after the frame, `top()` unless the lengths of the operands add
    up to less than the circle, else an interval `g` of width `w` that holds `f a b` for any two
    members `a`, `b` -/
theorem addsub_spec {w : Nat} (h1w : 1 ≤ w) (hw : w ≤ 64) {x y : WInt} (hx : Good w x) (hy : Good w y)
    {f : Nat → Nat → Nat} {g : WInt → WInt → WInt}
    (hg : ∀ s1 e1 s2 e2 a b, s1 < 2 ^ w → e1 < 2 ^ w → s2 < 2 ^ w → e2 < 2 ^ w → a < 2 ^ w → b < 2 ^ w →
      Shape w (g (W w s1 e1 false) (W w s2 e2 false)) ∧
      (D (2 ^ w) s1 a ≤ D (2 ^ w) s1 e1 → D (2 ^ w) s2 b ≤ D (2 ^ w) s2 e2 →
        D (2 ^ w) s1 e1 + D (2 ^ w) s2 e2 + 1 < 2 ^ w →
        mem w (f a b) (g (W w s1 e1 false) (W w s2 e2 false)))) {r : WInt}
    (hr : r = if (x.isBottom || y.isBottom) = true then bottom else if (x.isTop || y.isTop) = true then top
      else if decide ((addT (addT (subT y.stop y.start) (subT x.stop x.start))
        (ofNatT 1 (subT y.stop y.start).width)).n ≤ (subT y.stop y.start).n) = true then top else g x y) :
    Good w r ∧ ∀ a b, a < 2 ^ w → b < 2 ^ w → mem w a x → mem w b y → mem w (f a b) r := by
  subst hr
  refine frame_ind (P := fun r => Good w r ∧ ∀ a b, a < 2 ^ w → b < 2 ^ w → mem w a x → mem w b y →
    mem w (f a b) r) hx hy (fun hb => ⟨Or.inr (Or.inl rfl), fun a b _ _ ha hb' => ?_⟩)
    ⟨good_top w, fun _ _ _ _ _ _ => mem_top _ _⟩ fun s1 e1 s2 e2 h1 h2 h3 h4 ex ey => ?_
  · rw [ha.1, hb'.1] at hb; cases hb
  · subst ex ey
    simp only [subT, addT, ofNatT, red_sub_eq hw h2 h1, red_sub_eq hw h4 h3, red_mod hw, one_n h1w,
      decide_eq_true_eq]
    refine ite_elim (fun r => Good w r ∧ ∀ a b, a < 2 ^ w → b < 2 ^ w → mem w a _ → mem w b _ →
      mem w (f a b) r) (fun _ => ⟨good_top w, fun _ _ _ _ _ _ => mem_top _ _⟩) fun hn => ?_
    have hn' := notop_core (2 ^ w) _ _ (two_le_pow h1w) (D_lt h1 h2) (D_lt h3 h4) hn
    exact ⟨Or.inr (hg s1 e1 s2 e2 0 0 h1 h2 h3 h4 (by omega) (by omega)).1, fun a b ha hb hma hmb =>
      (hg s1 e1 s2 e2 a b h1 h2 h3 h4 ha hb).2 ((mem_W_le hw h1 h2 ha).mp hma)
        ((mem_W_le hw h3 h4 hb).mp hmb) hn'⟩

theorem add_spec {w : Nat} (h1w : 1 ≤ w) (hw : w ≤ 64) {x y : WInt} (hx : Good w x) (hy : Good w y) :
    Good w (x.add y) ∧ ∀ a b, a < 2 ^ w → b < 2 ^ w → mem w a x → mem w b y →
      mem w ((a + b) % 2 ^ w) (x.add y) := by
  have hM : 0 < 2 ^ w := Nat.pow_pos (by decide)
  refine addsub_spec h1w hw hx hy (g := fun x y => mk2 (addT x.start y.start) (addT x.stop y.stop))
    (fun s1 e1 s2 e2 a b h1 h2 h3 h4 ha hb => ?_) rfl
  simp only [addT, red_mod hw]
  exact ⟨shape_W (Nat.mod_lt _ hM) (Nat.mod_lt _ hM), fun hma hmb hn =>
    (mem_W_le hw (Nat.mod_lt _ hM) (Nat.mod_lt _ hM) (Nat.mod_lt _ hM)).mpr
      (add_core (2 ^ w) s1 e1 s2 e2 a b h1 h2 h3 h4 ha hb hma hmb hn)⟩

theorem sub_spec {w : Nat} (h1w : 1 ≤ w) (hw : w ≤ 64) {x y : WInt} (hx : Good w x) (hy : Good w y) :
    Good w (x.sub y) ∧ ∀ a b, a < 2 ^ w → b < 2 ^ w → mem w a x → mem w b y →
      mem w (D (2 ^ w) b a) (x.sub y) := by
  refine addsub_spec h1w hw hx hy (f := fun a b => D (2 ^ w) b a)
    (g := fun x y => mk2 (subT x.start y.stop) (subT x.stop y.start))
    (fun s1 e1 s2 e2 a b h1 h2 h3 h4 ha hb => ?_) rfl
  simp only [subT, red_sub_eq hw h1 h4, red_sub_eq hw h2 h3]
  exact ⟨shape_W (D_lt h4 h1) (D_lt h3 h2), fun hma hmb hn =>
    (mem_W_le hw (D_lt h4 h1) (D_lt h3 h2) (D_lt hb ha)).mpr
      (sub_core (2 ^ w) s1 e1 s2 e2 a b h1 h2 h3 h4 ha hb hma hmb hn)⟩

theorem neg_sound {w : Nat} (hw : w ≤ 64) {x : WInt} (hx : Shape w x) {v : Nat} (hv : v < 2 ^ w)
    (hm : mem w v x) : mem w (D (2 ^ w) v 0) x.neg := by
  obtain ⟨s, e, hs, he, rfl⟩ := shape_cases hx hm.1
  have hM : 0 < 2 ^ w := Nat.pow_pos (by decide)
  unfold neg
  simp only [Bool.false_eq_true, if_false]
  refine mem_ite (fun _ => mem_top w _) fun _ => ?_
  simp only [WrapInt.neg, red_neg_eq hw hs, red_neg_eq hw he]
  exact (mem_W_le hw (D_lt he hM) (D_lt hs hM) (D_lt hv hM)).mpr
    (neg_core (2 ^ w) s e v hs he hv ((mem_W_le hw hs he hv).mp hm))


theorem bv_pos {w : Nat} {b : BitVec w} (h : b ≠ 0) : 1 ≤ b.toNat :=
  Nat.pos_of_ne_zero fun h0 => h (BitVec.eq_of_toNat_eq (by simpa using h0))

theorem add_sound_bv {w : Nat} (h1w : 1 ≤ w) (hw : w ≤ 64) {x y : WInt} (hx : Good w x) (hy : Good w y)
    {a b : BitVec w} (ha : memBV a x) (hb : memBV b y) : memBV (a + b) (x.add y) := by
  unfold memBV
  rw [BitVec.toNat_add]
  exact (add_spec h1w hw hx hy).2 _ _ a.isLt b.isLt ha hb

theorem sub_sound_bv {w : Nat} (h1w : 1 ≤ w) (hw : w ≤ 64) {x y : WInt} (hx : Good w x) (hy : Good w y)
    {a b : BitVec w} (ha : memBV a x) (hb : memBV b y) : memBV (a - b) (x.sub y) := by
  unfold memBV
  rw [bv_sub_toNat_D]
  exact (sub_spec h1w hw hx hy).2 _ _ a.isLt b.isLt ha hb

end WInt
end Crab
