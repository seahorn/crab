import CrabProofs.Lemmas.InterTDRCall
import CrabProofs.Lemmas.FixSoundRun

/-!
  C09, whole top-down analysis — the block transformer with state (`stmtsS`, `blockS`) satisfies
  the contract `AnOK` of the state-passing iterator; `analyze_function` (`afBody`) keeps the
  invariant and records a sound run (`afBody_ok`, `tdAF_ok`).
-/
namespace Crab.Inter
open Crab.Fix
variable {p : IProg} {D : IDom} {P : TDParams}

def ProgWireOK (p : IProg) : Prop :=
  ∀ g b k h lhs args, g < p.funs.size → k < ((p.fn g).blk b).stmts.size →
    ((p.fn g).blk b).stmts.getD k default = .call h lhs args → SiteWireOK p h lhs args

theorem Pref.inv_succ {CR : CallRel} {b : IBlock} {k : Nat} {x e' : Env} (h : Pref CR b (k + 1) x e') :
    ∃ e, Pref CR b k x e ∧ k < b.stmts.size ∧ LStep CR (b.stmts.getD k default) e e' := by
  cases h with
  | snoc hp hk hst => exact ⟨_, hp, hk, hst⟩

theorem drop_eq_cons (b : IBlock) (k : Nat) (hk : k < b.stmts.size) :
    b.stmts.toList.drop k = b.stmts.getD k default :: b.stmts.toList.drop (k + 1) := by
  rw [List.drop_eq_getElem_cons (by simpa using hk)]
  congr 1
  simp [Array.getD_eq_getD_getElem?, hk]

theorem stmtS_noncall (rec : AF D) (a : D.A) (s : TDSt D) {st : IStmt} (hnc : ∀ c l r, st ≠ .call c l r) :
    stmtS D p P rec a s st = some (D.stmt a st, s) := by
  cases st with
  | call c l r => exact absurd rfl (hnc c l r)
  | _ => rfl

/-- coverage of the call sites before position `k` -/
def CovUpTo (D : IDom) (p : IProg) (P : TDParams) (s : TDSt D) (f : IFun) (b k : Nat) (x : Env) : Prop :=
  ∀ j env h lhs args, j < k → Pref (TrueCR p) (f.blk b) j x env → j < (f.blk b).stmts.size →
    (f.blk b).stmts.getD j default = .call h lhs args → SiteCov D p P s h (args.map (fun a => env.getD a 0))

theorem CovUpTo.blockCov {s : TDSt D} {f : IFun} {b : Nat} {x : Env}
    (h : CovUpTo D p P s f b (f.blk b).stmts.size x) : BlockCov D p P s f b x :=
  fun k env c lhs args hp hk hs => h k env c lhs args hk hp hk hs

/-- coverage one statement further: the earlier call sites stay covered in a larger state, the
    statement at `k`, if it is a call site, is covered by `hk` -/
theorem CovUpTo.succ {s s1 : TDSt D} {f : IFun} {b k : Nat} {x : Env} (hle : LeSt D s s1)
    (hC : CovUpTo D p P s f b k x)
    (hk : ∀ env h lhs args, Pref (TrueCR p) (f.blk b) k x env → (f.blk b).stmts.getD k default = .call h lhs args →
      SiteCov D p P s1 h (args.map (fun a => env.getD a 0))) :
    CovUpTo D p P s1 f b (k + 1) x := by
  intro j env h lhs args hj hp hjs hcs env' hsz hm
  by_cases hjk : j = k
  · subst hjk; exact hk env h lhs args hp hcs env' hsz hm
  · exact (hC j env h lhs args (by omega) hp hjs hcs env' hsz hm).mono hle

/-- the transformer at position `k` of block `b` of `g`, having started in the state `s` on the frames in
    `X`: its state `s1` and its value `a1` -/
structure BlockAt (D : IDom) (p : IProg) (P : TDParams) (g b : Nat) (X : Env → Prop) (s s1 : TDSt D)
    (k : Nat) (a1 : D.A) : Prop where
  inv : StOK D p P s1
  head : s1.stack.head? = some g
  le : LeSt D s s1
  /-- `a1` describes the frames the executions of the block reach at position `k` -/
  sound : ∀ x env, X x → Pref (TrueCR p) ((p.fn g).blk b) k x env → env.size = p.nv ∧ EnvIn D.toAbsDom a1 env
  /-- the call sites before `k` are covered in `s1` -/
  cov : ∀ x, X x → CovUpTo D p P s1 (p.fn g) b k x

/-- one statement of block `b` of `g`, executed on the frames that the executions of the block from
    the frames in `X` reach at position `k` -/
theorem stmtS_ok (hP : ProgOK p) (hmain : p.main < p.funs.size) (hmode : P.simpleRec = true)
    (hwire : ProgWireOK p) {rec : AF D} (hrec : AFOK D p P rec) {g : Nat} (hg : g < p.funs.size) (b : Nat)
    (X : Env → Prop) {k : Nat} (hklt : k < ((p.fn g).blk b).stmts.size) {a a1 : D.A} {s s1 : TDSt D}
    (hI : StOK D p P s) (hhd : s.stack.head? = some g)
    (hst : stmtS D p P rec a s (((p.fn g).blk b).stmts.getD k default) = some (a1, s1))
    (hA : ∀ x env, X x → Pref (TrueCR p) ((p.fn g).blk b) k x env → env.size = p.nv ∧ EnvIn D.toAbsDom a env)
    (hC : ∀ x, X x → CovUpTo D p P s (p.fn g) b k x) :
    BlockAt D p P g b X s s1 (k + 1) a1 := by
  have hSt := (hP g hg).stmts b k hklt
  by_cases hisc : ∃ c lhs args, ((p.fn g).blk b).stmts.getD k default = .call c lhs args
  · obtain ⟨c, lhs, args, hs⟩ := hisc
    rw [hs] at hst hSt
    simp only [stmtS] at hst
    by_cases hbot : D.isBot a = true
    · -- nothing happens on bottom: no frame reaches the statement
      simp only [hbot, if_true, Option.some.injEq, Prod.mk.injEq] at hst
      obtain ⟨e1, e2⟩ := hst
      subst e1; subst e2
      have hvac : ∀ x env, X x → Pref (TrueCR p) ((p.fn g).blk b) k x env → False := fun x env hx hp =>
        D.isBot_sound hbot ((hA x env hx hp).2 (toSt env) (Ext_toSt env))
      refine ⟨hI, hhd, LeSt.refl _, ?_, fun x hx => (hC x hx).succ (LeSt.refl _) ?_⟩
      · intro x env hx hp
        obtain ⟨e, hp', _, _⟩ := hp.inv_succ
        exact (hvac x e hx hp').elim
      · exact fun env _ _ _ hp => (hvac x env hx hp).elim
    · simp only [hbot] at hst
      obtain ⟨k1, k2, k3⟩ := callBody_ok hP hmain hmode hrec hg hSt (hwire g b k c lhs args hg hklt hs)
        (mem_callees hklt hs) hI hhd hst
      refine ⟨k1, by rw [k2.1]; exact hhd, k2, ?_, fun x hx => (hC x hx).succ k2 ?_⟩
      · intro x env' hx hp
        obtain ⟨e, hp', _, hls⟩ := hp.inv_succ
        rw [hs] at hls
        obtain ⟨ov, hcr, he⟩ := hls
        obtain ⟨hsz, ha⟩ := hA x e hx hp'
        subst he
        exact ⟨by rw [setMany_size]; exact hsz, (k3 e hsz ha).1 ov hcr⟩
      · intro env h lhs' args' hp hcs env' hsz hm
        rw [hs] at hcs
        cases hcs
        obtain ⟨hsz0, ha⟩ := hA x env hx hp
        exact (k3 env hsz0 ha).2 env' hsz hm
  · have hnc : ∀ c l r, ((p.fn g).blk b).stmts.getD k default ≠ .call c l r :=
      fun c l r e => hisc ⟨c, l, r, e⟩
    rw [stmtS_noncall rec a s hnc] at hst
    simp only [Option.some.injEq, Prod.mk.injEq] at hst
    obtain ⟨e1, e2⟩ := hst
    subst e1; subst e2
    refine ⟨hI, hhd, LeSt.refl _, ?_, fun x hx => (hC x hx).succ (LeSt.refl _)
      (fun _ h lhs' args' _ hcs => absurd hcs (hnc h lhs' args'))⟩
    intro x env' hx hp
    obtain ⟨e, hp', _, hls⟩ := hp.inv_succ
    obtain ⟨hsz, ha⟩ := hA x e hx hp'
    exact ⟨by rw [LStep.size hls]; exact hsz,
      EnvIn.stmt D (TrueCR p) ha (fun v hv => by rw [hsz]; exact hSt.2.1 v hv) hnc hls⟩

theorem stmtsS_ok (hP : ProgOK p) (hmain : p.main < p.funs.size) (hmode : P.simpleRec = true)
    (hwire : ProgWireOK p) {rec : AF D} (hrec : AFOK D p P rec) {g : Nat} (hg : g < p.funs.size) (b : Nat)
    (X : Env → Prop) :
    ∀ (m k : Nat), k + m = ((p.fn g).blk b).stmts.size → ∀ (a r : D.A) (s s' : TDSt D),
      StOK D p P s → s.stack.head? = some g →
      stmtsS D p P rec (((p.fn g).blk b).stmts.toList.drop k) a s = some (r, s') →
      (∀ x env, X x → Pref (TrueCR p) ((p.fn g).blk b) k x env → env.size = p.nv ∧ EnvIn D.toAbsDom a env) →
      (∀ x, X x → CovUpTo D p P s (p.fn g) b k x) →
      BlockAt D p P g b X s s' ((p.fn g).blk b).stmts.size r
  | 0, k, hk, a, r, s, s', hI, hhd, hrun, hA, hC => by
    have hk' : k = ((p.fn g).blk b).stmts.size := by omega
    subst hk'
    rw [List.drop_of_length_le (by simp)] at hrun
    simp only [stmtsS, Option.some.injEq, Prod.mk.injEq] at hrun
    obtain ⟨e1, e2⟩ := hrun
    subst e1; subst e2
    exact ⟨hI, hhd, LeSt.refl _, hA, hC⟩
  | m + 1, k, hk, a, r, s, s', hI, hhd, hrun, hA, hC => by
    have hklt : k < ((p.fn g).blk b).stmts.size := by omega
    rw [drop_eq_cons _ k hklt] at hrun
    simp only [stmtsS] at hrun
    split at hrun
    · cases hrun
    · next a1 s1 hst =>
      have h1 := stmtS_ok hP hmain hmode hwire hrec hg b X hklt hI hhd hst hA hC
      have h2 := stmtsS_ok hP hmain hmode hwire hrec hg b X m (k + 1) (by omega) a1 r s1 s'
        h1.inv h1.head hrun h1.sound h1.cov
      exact ⟨h2.inv, h2.head, h1.le.trans h2.le, h2.sound, h2.cov⟩

/-- `frameSem` for the iterator context of the top-down analysis (its own `analyze` field, not used by
    `runS`, answers `top`) -/
def tdSem (D : IDom) (p : IProg) (cfg : FixCfg) (g : Nat) (f : IFun) (init : D.A) :
    Sem (mkCtx D cfg g f (fun _ _ => D.top) init) Env :=
  frameSem (p := p) D cfg g f _ init (TrueCR p)
    (fun _ _ _ s' hγ hst => ⟨by rw [Pref.size hst]; exact hγ.1, envIn_top D s'⟩)

theorem blockS_anOK (hP : ProgOK p) (hmain : p.main < p.funs.size) (hmode : P.simpleRec = true)
    (hwire : ProgWireOK p) {rec : AF D} (hrec : AFOK D p P rec) (cfg : FixCfg) {g : Nat} (hg : g < p.funs.size)
    (init : D.A) :
    Sound.AnOK (mkCtx D cfg g (p.fn g) (fun _ _ => D.top) init) (tdSem D p cfg g (p.fn g) init)
      (blockS D p P rec (p.fn g))
      (fun s => StOK D p P s ∧ s.stack.head? = some g) (LeSt D)
      (fun s n x => BlockCov D p P s (p.fn g) n x) where
  le_refl := LeSt.refl
  le_trans := fun _ _ _ h1 h2 => h1.trans h2
  cov_mono := fun _ _ _ _ hle hc => hc.mono hle
  call := by
    intro n a s1 r s2 hI hrun
    unfold blockS at hrun
    have hrun' : stmtsS D p P rec (((p.fn g).blk n).stmts.toList.drop 0) a s1 = some (r, s2) := hrun
    have hB := stmtsS_ok hP hmain hmode hwire hrec hg n
      (fun x => x.size = p.nv ∧ EnvIn D.toAbsDom a x) ((p.fn g).blk n).stmts.size 0 (Nat.zero_add _) a r s1 s2 hI.1 hI.2 hrun'
      (fun x env hx hp => by cases hp; exact hx)
      (fun x _ j _ _ _ _ hj => absurd hj (Nat.not_lt_zero j))
    exact ⟨⟨hB.inv, hB.head⟩, hB.le, hB.sound, fun x hx => (hB.cov x hx).blockCov⟩

theorem joinTable_sub (D : IDom) (g : Option (Nat → D.A)) (t : Nat → D.A) :
    ∃ tj, joinTable D g t = some tj ∧ (∀ b, SubG D (t b) (tj b)) ∧
      (∀ old, g = some old → ∀ b, SubG D (old b) (tj b)) := by
  cases g with
  | none => exact ⟨t, rfl, fun b => SubG.refl D _, fun _ h => by cases h⟩
  | some old =>
    refine ⟨_, rfl, fun b σ h => D.join_right h, ?_⟩
    intro o ho b σ h
    cases ho
    exact D.join_left h

theorem StOK.recordRun {s : TDSt D} (h : StOK D p P s) (g : Nat) (e : D.A) (st : Fix.St D.A)
    (hg : g < p.funs.size) (hsound : RunSound D p ⟨g, e, st.pre, st.post⟩)
    (hcov : ∀ b x, LPre (TrueCR p) (p.fn g) (RunEntry D p ⟨g, e, st.pre, st.post⟩) b x →
      BlockCov D p P s (p.fn g) b x) :
    StOK D p P (joinInv D s g e st) ∧ LeSt D s (joinInv D s g e st) := by
  have hle : LeSt D s (joinInv D s g e st) := ⟨rfl, [_], rfl⟩
  refine ⟨?_, hle⟩
  obtain ⟨tp, htp, htp1, htp2⟩ := joinTable_sub D (s.gpre g) st.pre
  obtain ⟨tq, htq, htq1, htq2⟩ := joinTable_sub D (s.gpost g) st.post
  have hmem : ∀ ρ, ρ ∈ (joinInv D s g e st).runs → ρ ∈ s.runs ∨ ρ = ⟨g, e, st.pre, st.post⟩ := by
    intro ρ hρ
    have : ρ ∈ s.runs ++ [⟨g, e, st.pre, st.post⟩] := hρ
    rcases List.mem_append.mp this with h1 | h1
    · exact Or.inl h1
    · exact Or.inr (by simpa using h1)
  refine { nofix := h.nofix, ctxs := ?_, runs := ?_, glob := ?_, cov := ?_, nodup := h.nodup, paths := h.paths }
  · intro x c hc
    refine ⟨(h.ctxs x c hc).1, fun hst => ?_⟩
    obtain ⟨h1, ρ, h2, h3, h4⟩ := (h.ctxs x c hc).2 hst
    exact ⟨h1, ρ, hle.mem_runs h2, h3, h4⟩
  · intro ρ hρ
    rcases hmem ρ hρ with h1 | h1
    · exact h.runs ρ h1
    · subst h1; exact ⟨hg, hsound⟩
  · intro ρ hρ
    by_cases hfn : ρ.fn = g
    · refine ⟨tp, tq, ?_, ?_, ?_⟩
      · show upd s.gpre g (joinTable D (s.gpre g) st.pre) ρ.fn = some tp
        rw [hfn, Sound.upd_same, htp]
      · show upd s.gpost g (joinTable D (s.gpost g) st.post) ρ.fn = some tq
        rw [hfn, Sound.upd_same, htq]
      · intro b
        rcases hmem ρ hρ with h1 | h1
        · obtain ⟨op, oq, k1, k2, k3⟩ := h.glob ρ h1
          rw [hfn] at k1 k2
          exact ⟨(k3 b).1.trans (htp2 op k1 b), (k3 b).2.trans (htq2 oq k2 b)⟩
        · subst h1; exact ⟨htp1 b, htq1 b⟩
    · rcases hmem ρ hρ with h1 | h1
      · obtain ⟨op, oq, k1, k2, k3⟩ := h.glob ρ h1
        refine ⟨op, oq, ?_, ?_, k3⟩
        · show upd s.gpre g _ ρ.fn = some op
          rw [Sound.upd_other _ _ _ _ hfn]; exact k1
        · show upd s.gpost g _ ρ.fn = some oq
          rw [Sound.upd_other _ _ _ _ hfn]; exact k2
      · subst h1; exact absurd rfl hfn
  · intro ρ hρ b x hx
    rcases hmem ρ hρ with h1 | h1
    · exact (h.cov ρ h1 b x hx).mono hle
    · subst h1; exact (hcov b x hx).mono hle

theorem afBody_ok (hP : ProgOK p) (hmain : p.main < p.funs.size) (hmode : P.simpleRec = true)
    (hwire : ProgWireOK p) (cfg : FixCfg) (hw : WtoHyp D p cfg) {rec : AF D} (hrec : AFOK D p P rec) :
    AFOK D p P (afBody D p cfg P rec) := by
  intro g e it s nn st s' hI hhd hg hrun
  unfold afBody at hrun
  simp only [recW_false hmode g, Bool.false_eq_true, if_false] at hrun
  split at hrun
  · cases hrun
  · next st1 s2 hr =>
    have ok := blockS_anOK hP hmain hmode hwire hrec cfg hg e
    obtain ⟨hI2, hLe2, hpre, hpost⟩ := Sound.runS_sound ok (cfg.wto g) cfg.fuel st1 s s2
      (hw g hg _ _) ⟨hI, hhd⟩ hr
    have hfix : s2.fix g = none := by rw [hI2.1.nofix]
    simp only [hfix, Option.some.injEq, Prod.mk.injEq] at hrun
    obtain ⟨e1, e2, e3⟩ := hrun
    subst e1; subst e2; subst e3
    have hreach : ∀ {n : Nat} {x : Env}, LPre (TrueCR p) (p.fn g) (RunEntry D p ⟨g, e, st1.pre, st1.post⟩) n x →
        ReachPre _ (tdSem D p cfg g (p.fn g) e) n x :=
      fun h => LPre.reach D cfg g e _ _ (fun _ hs => hs) h
    have hsound : RunSound D p ⟨g, e, st1.pre, st1.post⟩ := by
      intro b k env ⟨s0, h1, h2⟩
      have hr0 := hreach h1
      constructor
      · intro hk
        subst hk
        cases h2
        exact (hpre b _ hr0).1.2
      · intro hk
        subst hk
        exact (hpost b env (ReachPost.step _ _ _ hr0 h2)).2
    have hcov : ∀ b x, LPre (TrueCR p) (p.fn g) (RunEntry D p ⟨g, e, st1.pre, st1.post⟩) b x →
        BlockCov D p P s2 (p.fn g) b x := fun b x hx => (hpre b x (hreach hx)).2
    obtain ⟨k1, k2⟩ := hI2.1.recordRun g e st1 hg hsound hcov
    refine ⟨k1, hLe2.trans k2, rfl, ?_⟩
    show _ ∈ s2.runs ++ [_]
    exact List.mem_append.mpr (Or.inr (by simp))

theorem tdAF_ok (hP : ProgOK p) (hmain : p.main < p.funs.size) (hmode : P.simpleRec = true)
    (hwire : ProgWireOK p) (cfg : FixCfg) (hw : WtoHyp D p cfg) : ∀ k, AFOK D p P (tdAF D p cfg P k)
  | 0 => by intro g e it s nn st s' _ _ _ h; simp [tdAF] at h
  | k + 1 => afBody_ok hP hmain hmode hwire cfg hw (tdAF_ok hP hmain hmode hwire cfg hw k)

end Crab.Inter
