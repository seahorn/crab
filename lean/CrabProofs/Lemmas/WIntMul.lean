import CrabProofs.Lemmas.WIntConv

/-!
  `Crab.WInt`: `operator*`.  `unsigned_mul` and `signed_mul` on pieces that lie in one hemisphere
  and do not cross the south pole, `exact_meet`, `reduced_signed_unsigned_mul`.
-/
namespace Crab
namespace WInt
open WrapInt

theorem mem_ite_cases {α : Type} {c : Prop} [Decidable c] {a : α} {l₁ l₂ : List α}
    (h : a ∈ if c then l₁ else l₂) : a ∈ l₁ ∨ a ∈ l₂ :=
  ite_elim (fun l => a ∈ l → a ∈ l₁ ∨ a ∈ l₂) (fun _ => Or.inl) (fun _ => Or.inr) h


theorem emod_sub_left (a b M : Int) : ((a - M) * b) % M = (a * b) % M := by
  have : (a - M) * b = a * b + M * (-b) := by grind
  rw [this, Int.add_mul_emod_self_left]

theorem emod_sub_right (a b M : Int) : (a * (b - M)) % M = (a * b) % M := by
  have : a * (b - M) = a * b + M * (-a) := by grind
  rw [this, Int.add_mul_emod_self_left]

/-- the product modulo `2^w` can be computed on the signed readings -/
theorem mul_mod_sg (w p q : Nat) : (p * q) % 2 ^ w = resN w (sg (2 ^ w) p * sg (2 ^ w) q) := by
  apply Int.ofNat_inj.mp
  rw [resN_cast, Int.natCast_emod, Int.natCast_mul]
  rcases sg_spec (2 ^ w) p with ⟨_, b1⟩ | ⟨_, b1⟩ <;> rcases sg_spec (2 ^ w) q with ⟨_, b2⟩ | ⟨_, b2⟩ <;>
    rw [b1, b2]
  · rw [emod_sub_right]
  · rw [emod_sub_left]
  · rw [emod_sub_left, emod_sub_right]

theorem mulT_raw {w : Nat} (hw : w ≤ 64) (a b : Nat) :
    mulT ⟨w, a⟩ ⟨w, b⟩ = ⟨w, (a * b) % 2 ^ w⟩ := by
  simp only [mulT, red_mod hw]

theorem umaxT_cast {w : Nat} : (((umaxT w).n : Nat) : Int) = ((2 ^ w : Nat) : Int) - 1 := by
  have : 0 < 2 ^ w := Nat.pow_pos (by decide)
  simp only [umaxT]; omega

theorem mulT_good {w : Nat} (hw : w ≤ 64) (p r : Nat) (q s : WrapInt) :
    Good w (mk2 (mulT ⟨w, p⟩ q) (mulT ⟨w, r⟩ s)) :=
  Or.inr (shape_mk2 rfl rfl (red_mod_lt hw _) (red_mod_lt hw _))


theorem unsignedMul_sound {w : Nat} (hw : w ≤ 64) {a b c d u v : Nat}
    (hau : a ≤ u) (hub : u ≤ b) (hcv : c ≤ v) (hvd : v ≤ d) :
    mem w ((u * v) % 2 ^ w) (unsignedMul (W w a b false) (W w c d false)) := by
  unfold unsignedMul
  simp only [umaxT_cast]
  split
  · next hc =>
    simp only [mulT_raw hw]
    show mem w ((u * v) % 2 ^ w) (W w ((a * c) % 2 ^ w) ((b * d) % 2 ^ w) false)
    have h1 : a * c ≤ u * v := Nat.mul_le_mul hau hcv
    have h2 : u * v ≤ b * d := Nat.mul_le_mul hub hvd
    have e1 : u * v = a * c + (u * v - a * c) := by omega
    have e2 : b * d = a * c + (b * d - a * c) := by omega
    have c1 := Int.natCast_mul b d; have c2 := Int.natCast_mul a c
    rw [e1, e2]
    apply mem_of_steps hw
    · have hM : 0 < 2 ^ w := Nat.pow_pos (by decide)
      omega
    · omega
  · exact mem_top _ _

theorem unsignedMul_good {w : Nat} (hw : w ≤ 64) (a b : Nat) (y : WInt) :
    Good w (unsignedMul (W w a b false) y) :=
  ite_elim _ (fun _ => mulT_good hw _ _ _ _) (fun _ => good_top w)


theorem sgnT_raw {w a : Nat} (h1w : 1 ≤ w) (hw : w ≤ 64) (ha : a < 2 ^ w) :
    sgnT ⟨w, a⟩ = sg (2 ^ w) a := by
  have hM := pow_succ_pred h1w
  unfold sgnT
  rw [msb_raw h1w hw ha]
  have hx : a ^^^ (umaxT w).n = 2 ^ w - 1 - a := by
    have h1 : (BitVec.ofNatLT a ha ^^^ BitVec.allOnes w).toNat = 2 ^ w - 1 - a := by
      rw [BitVec.xor_allOnes, BitVec.toNat_not, BitVec.toNat_ofNatLT]
    rw [BitVec.toNat_xor, BitVec.toNat_ofNatLT, BitVec.toNat_allOnes] at h1
    exact h1
  simp only [hx]
  rcases sg_spec (2 ^ w) a with ⟨c, d⟩ | ⟨c, d⟩
  · have : ¬ 2 ^ (w - 1) ≤ a := by omega
    simp only [this, decide_false, Bool.false_eq_true, if_false, d]
  · have : 2 ^ (w - 1) ≤ a := by omega
    simp only [this, decide_true, if_true, d]
    omega

/-- the integer products of the members of two boxes of signed numbers, all negative -/
theorem prod_nn {a b c d u v : Int} (h1 : a ≤ u) (h2 : u ≤ b) (h3 : b ≤ -1) (h4 : c ≤ v) (h5 : v ≤ d)
    (h6 : d ≤ -1) : b * d ≤ u * v ∧ u * v ≤ a * c := by
  have x1 := Int.mul_le_mul_of_nonpos_right h1 (by omega : v ≤ 0)
  have x2 := Int.mul_le_mul_of_nonpos_left (by omega : a ≤ 0) h4
  have x3 := Int.mul_le_mul_of_nonpos_right h2 (by omega : d ≤ 0)
  have x4 := Int.mul_le_mul_of_nonpos_left (by omega : u ≤ 0) h5
  omega

/-- first box negative, second box non-negative -/
theorem prod_np {a b c d u v : Int} (h1 : a ≤ u) (h2 : u ≤ b) (h3 : b ≤ -1) (h0 : 0 ≤ c) (h4 : c ≤ v)
    (h5 : v ≤ d) : a * d ≤ u * v ∧ u * v ≤ b * c := by
  have x1 := Int.mul_le_mul_of_nonneg_right h1 (by omega : 0 ≤ d)
  have x2 := Int.mul_le_mul_of_nonpos_left (by omega : u ≤ 0) h5
  have x3 := Int.mul_le_mul_of_nonneg_right h2 (by omega : 0 ≤ v)
  have x4 := Int.mul_le_mul_of_nonpos_left (by omega : b ≤ 0) h4
  omega

theorem prod_pn {a b c d u v : Int} (h0 : 0 ≤ a) (h1 : a ≤ u) (h2 : u ≤ b) (h4 : c ≤ v) (h5 : v ≤ d)
    (h6 : d ≤ -1) : b * c ≤ u * v ∧ u * v ≤ a * d := by
  have := prod_np h4 h5 h6 h0 h1 h2
  rw [Int.mul_comm c b, Int.mul_comm v u, Int.mul_comm d a] at this
  exact this

theorem tbf : (true == false) = false := rfl
theorem fbt : (false == true) = false := rfl
theorem tnf : (true != false) = true := rfl
theorem fnt : (false != true) = true := rfl


theorem signedMul_pp (x y : WInt) (h1 : x.start.msb = false) (h2 : x.stop.msb = false)
    (h3 : y.start.msb = false) (h4 : y.stop.msb = false) : signedMul x y = unsignedMul x y := by
  unfold signedMul; rw [h1, h2, h3, h4]; rfl

theorem signedMul_nn (x y : WInt) (h1 : x.start.msb = true) (h2 : x.stop.msb = true)
    (h3 : y.start.msb = true) (h4 : y.stop.msb = true) :
    signedMul x y =
      if (sgnT x.start * sgnT y.start - sgnT x.stop * sgnT y.stop) < ((umaxT x.start.width).n : Int) then
        mk2 (mulT x.stop y.stop) (mulT x.start y.start)
      else top := by
  unfold signedMul; rw [h1, h2, h3, h4]; rfl

theorem signedMul_np (x y : WInt) (h1 : x.start.msb = true) (h2 : x.stop.msb = true)
    (h3 : y.start.msb = false) (h4 : y.stop.msb = false) :
    signedMul x y =
      if (sgnT x.stop * sgnT y.start - sgnT x.start * sgnT y.stop) < ((umaxT x.start.width).n : Int) then
        mk2 (mulT x.start y.stop) (mulT x.stop y.start)
      else top := by
  unfold signedMul; rw [h1, h2, h3, h4]; rfl

theorem signedMul_pn (x y : WInt) (h1 : x.start.msb = false) (h2 : x.stop.msb = false)
    (h3 : y.start.msb = true) (h4 : y.stop.msb = true) :
    signedMul x y =
      if (sgnT x.start * sgnT y.stop - sgnT x.stop * sgnT y.start) < ((umaxT x.start.width).n : Int) then
        mk2 (mulT x.stop y.start) (mulT x.start y.stop)
      else top := by
  unfold signedMul; rw [h1, h2, h3, h4]; rfl

/-- the answer of `signed_mul` from the corner products `p1 * q1` (lowest) and `p2 * q2` (highest):
    the interval between them if the overflow test passes, else `top()` -/
theorem signedMul_corner {w : Nat} (h1w : 1 ≤ w) (hw : w ≤ 64) {p1 q1 p2 q2 u v : Nat}
    (hp1 : p1 < 2 ^ w) (hq1 : q1 < 2 ^ w) (hp2 : p2 < 2 ^ w) (hq2 : q2 < 2 ^ w)
    (hb : sg (2 ^ w) p1 * sg (2 ^ w) q1 ≤ sg (2 ^ w) u * sg (2 ^ w) v ∧
      sg (2 ^ w) u * sg (2 ^ w) v ≤ sg (2 ^ w) p2 * sg (2 ^ w) q2) :
    mem w ((u * v) % 2 ^ w)
      (if sgnT ⟨w, p2⟩ * sgnT ⟨w, q2⟩ - sgnT ⟨w, p1⟩ * sgnT ⟨w, q1⟩ < ((umaxT w).n : Int) then
        mk2 (mulT ⟨w, p1⟩ ⟨w, q1⟩) (mulT ⟨w, p2⟩ ⟨w, q2⟩) else top) := by
  simp only [sgnT_raw h1w hw hp1, sgnT_raw h1w hw hq1, sgnT_raw h1w hw hp2, sgnT_raw h1w hw hq2,
    umaxT_cast, mulT_raw hw, mk2]
  split
  · next hc =>
    rw [mul_mod_sg, mul_mod_sg, mul_mod_sg]
    exact mem_int_range hw hb.1 hb.2 hc
  · exact mem_top _ _

theorem signedMul_sound {w : Nat} (h1w : 1 ≤ w) (hw : w ≤ 64) {a b c d u v : Nat}
    (h1 : Hemi w a b) (h2 : Hemi w c d)
    (hau : a ≤ u) (hub : u ≤ b) (hcv : c ≤ v) (hvd : v ≤ d) :
    mem w ((u * v) % 2 ^ w) (signedMul (W w a b false) (W w c d false)) := by
  have hb := h1.2.1
  have hd := h2.2.1
  have ha : a < 2 ^ w := Nat.lt_of_le_of_lt h1.1 hb
  have hc : c < 2 ^ w := Nat.lt_of_le_of_lt h2.1 hd
  obtain ⟨x1, x2, ⟨ma, mb, px, -⟩ | ⟨ma, mb, nx, -⟩⟩ := hemi_sg h1w hw h1 hau hub <;>
  obtain ⟨y1, y2, ⟨mc, md, py, -⟩ | ⟨mc, md, ny, -⟩⟩ := hemi_sg h1w hw h2 hcv hvd
  · rw [signedMul_pp (W w a b false) (W w c d false) ma mb mc md]
    exact unsignedMul_sound hw hau hub hcv hvd
  · rw [signedMul_pn (W w a b false) (W w c d false) ma mb mc md]
    exact signedMul_corner h1w hw hb hc ha hd (prod_pn (by omega) x1 x2 y1 y2 ny)
  · rw [signedMul_np (W w a b false) (W w c d false) ma mb mc md]
    exact signedMul_corner h1w hw ha hd hb hc (prod_np x1 x2 nx (by omega) y1 y2)
  · rw [signedMul_nn (W w a b false) (W w c d false) ma mb mc md]
    exact signedMul_corner h1w hw hb hd ha hc (prod_nn x1 x2 nx y1 y2 ny)

theorem signedMul_good {w : Nat} (hw : w ≤ 64) (a b : Nat) (y : WInt) :
    Good w (signedMul (W w a b false) y) :=
  have sh := fun (p r : Nat) (q s : WrapInt) (c : Prop) [Decidable c] =>
    ite_elim (c := c) _ (fun _ => mulT_good hw p r q s) (fun _ => good_top w)
  ite_elim _ (fun _ => ite_elim _ (fun _ => unsignedMul_good hw a b y) fun _ => sh _ _ _ _ _)
    fun _ => ite_elim _ (fun _ => ite_elim _ (fun _ => sh _ _ _ _ _) fun _ =>
      ite_elim _ (fun _ => sh _ _ _ _ _) fun _ => good_top w) fun _ => good_top w


/-- an element of `exact_meet` is one of the operands or, for two proper operands, runs from the
    start of one to the end of the other -/
theorem exactMeet_cases {x y r : WInt} (hr : r ∈ exactMeet x y) :
    r = x ∨ r = y ∨ ((x.isBottom = false ∧ x.isTop = false) ∧ (y.isBottom = false ∧ y.isTop = false) ∧
      (r = mk2 x.start y.stop ∨ r = mk2 y.start x.stop)) := by
  unfold exactMeet at hr
  by_cases hb : (x.isBottom || y.isBottom) = true
  · rw [if_pos hb] at hr; cases hr
  rw [if_neg hb] at hr
  by_cases h1 : (x.eq y || x.isTop) = true
  · rw [if_pos h1, List.mem_singleton] at hr; exact Or.inr (Or.inl hr)
  rw [if_neg h1] at hr
  by_cases h2 : y.isTop = true
  · rw [if_pos h2, List.mem_singleton] at hr; exact Or.inl hr
  rw [if_neg h2] at hr
  simp only [Bool.or_eq_true, not_or, Bool.not_eq_true] at hb h1 h2
  have px := And.intro hb.1 h1.2
  have py := And.intro hb.2 h2
  rcases mem_ite_cases hr with hr | hr
  · simp only [List.mem_cons, List.mem_nil_iff, or_false] at hr
    exact Or.inr (Or.inr ⟨px, py, hr⟩)
  rcases mem_ite_cases hr with hr | hr
  · exact Or.inl (List.mem_singleton.mp hr)
  rcases mem_ite_cases hr with hr | hr
  · exact Or.inr (Or.inl (List.mem_singleton.mp hr))
  rcases mem_ite_cases hr with hr | hr
  · exact Or.inr (Or.inr ⟨px, py, Or.inl (List.mem_singleton.mp hr)⟩)
  rcases mem_ite_cases hr with hr | hr
  · exact Or.inr (Or.inr ⟨px, py, Or.inr (List.mem_singleton.mp hr)⟩)
  · cases hr

theorem exactMeet_good {w : Nat} {x y : WInt} (hx : Good w x) (hy : Good w y) :
    ∀ r ∈ exactMeet x y, Good w r := by
  intro r hr
  rcases exactMeet_cases hr with rfl | rfl | ⟨px, py, hr⟩
  · exact hx
  · exact hy
  · obtain ⟨s1, e1, h1, h2, rfl⟩ := good_cases hx px.1 px.2
    obtain ⟨s2, e2, h3, h4, rfl⟩ := good_cases hy py.1 py.2
    rcases hr with rfl | rfl
    · exact Or.inr (shape_W h1 h4)
    · exact Or.inr (shape_W h3 h2)

/-- positions relative to `start₁`: `o l q p` stand for `start₂ end₁ end₂ v` -/
theorem exact4_rel (M o l q p : Nat) (a3 : o ≤ l) (m1 : p ≤ l) (m2 : D M o p ≤ D M o q) :
    p ≤ q ∨ D M o p ≤ D M o l := by
  have b1 := D_spec M o p; have b2 := D_spec M o q; have b3 := D_spec M o l
  omega

/-- `[start₁, end₁]` contains `start₂`: its common members with `[start₂, end₂]` are in
    `[start₁, end₂]` or in `[start₂, end₁]` -/
theorem exact4_core (M s1 e1 s2 e2 v : Nat) (h1 : s1 < M) (h2 : e1 < M) (h3 : s2 < M) (h4 : e2 < M)
    (hv : v < M) (a3 : D M s1 s2 ≤ D M s1 e1) (m1 : D M s1 v ≤ D M s1 e1) (m2 : D M s2 v ≤ D M s2 e2) :
    D M s1 v ≤ D M s1 e2 ∨ D M s2 v ≤ D M s2 e1 := by
  rw [D_rot h1 h3 hv, D_rot h1 h3 h4] at m2
  rw [D_rot h1 h3 hv, D_rot h1 h3 h2]
  exact exact4_rel M _ _ _ _ a3 m1 m2

/-- `exact_meet` keeps the common members, provided the first operand contains the end points of
    the second (which is how `reduced_signed_unsigned_mul` calls it) -/
theorem exactMeet_sound {w : Nat} (hw : w ≤ 64) {x y : WInt} (hx : Good w x) (hy : Good w y) {v : Nat}
    (hv : v < 2 ^ w) (hvx : mem w v x) (hvy : mem w v y)
    (hends : y.isTop = false → ∀ s e, y = W w s e false → mem w s x ∧ mem w e x) :
    ∃ r ∈ exactMeet x y, mem w v r := by
  unfold exactMeet
  rw [if_neg (by simp [hvx.1, hvy.1])]
  by_cases n1 : (x.eq y || x.isTop) = true
  · rw [if_pos n1]; exact ⟨y, List.mem_singleton.mpr rfl, hvy⟩
  rw [if_neg n1]
  by_cases n2 : y.isTop = true
  · rw [if_pos n2]; exact ⟨x, List.mem_singleton.mpr rfl, hvx⟩
  rw [if_neg n2]
  simp only [Bool.or_eq_true, not_or, Bool.not_eq_true] at n1 n2
  obtain ⟨s1, e1, h1, h2, rfl⟩ := good_cases hx hvx.1 n1.2
  obtain ⟨s2, e2, h3, h4, rfl⟩ := good_cases hy hvy.1 n2
  obtain ⟨me1, me2⟩ := hends n2 s2 e2 rfl
  -- `x` contains both end points of `y`: only the first three answers are possible
  rw [(at_iff_mem hw h1 h2 h3).mpr me1, (at_iff_mem hw h1 h2 h4).mpr me2]
  by_cases c : ((W w s2 e2 false).at ⟨w, s1⟩ && (W w s2 e2 false).at ⟨w, e1⟩) = true
  · rw [if_pos (by rw [c]; rfl)]
    rcases exact4_core _ s1 e1 s2 e2 v h1 h2 h3 h4 hv (mem_nontop hw h1 h2 n1.2 me1)
      (mem_nontop hw h1 h2 n1.2 hvx) (mem_nontop hw h3 h4 n2 hvy) with r | r
    · exact ⟨W w s1 e2 false, List.mem_cons_self .., (mem_W hw h1 h4).mpr (Or.inr r)⟩
    · exact ⟨W w s2 e1 false, List.mem_cons_of_mem _ (List.mem_cons_self ..), (mem_W hw h3 h2).mpr (Or.inr r)⟩
  · rw [if_neg (by rw [Bool.and_true, Bool.and_true]; exact c), if_neg c, if_pos (Bool.and_self true)]
    exact ⟨_, List.mem_singleton.mpr rfl, hvy⟩


theorem reducedMul_W (w a b c d : Nat) :
    reducedMul (W w a b false) (W w c d false) =
      exactMeet (signedMul (W w a b false) (W w c d false)) (unsignedMul (W w a b false) (W w c d false)) :=
  if_neg Bool.false_ne_true

theorem reducedMul_good {w : Nat} (hw : w ≤ 64) (a b c d : Nat) :
    ∀ q ∈ reducedMul (W w a b false) (W w c d false), Good w q := by
  rw [reducedMul_W]
  exact exactMeet_good (signedMul_good hw a b _) (unsignedMul_good hw a b _)

theorem reducedMul_sound {w : Nat} (h1w : 1 ≤ w) (hw : w ≤ 64) {a b c d u v : Nat}
    (h1 : Hemi w a b) (h2 : Hemi w c d)
    (hau : a ≤ u) (hub : u ≤ b) (hcv : c ≤ v) (hvd : v ≤ d) :
    ∃ q ∈ reducedMul (W w a b false) (W w c d false), mem w ((u * v) % 2 ^ w) q := by
  have hM : 0 < 2 ^ w := Nat.pow_pos (by decide)
  rw [reducedMul_W]
  apply exactMeet_sound hw (signedMul_good hw a b _) (unsignedMul_good hw a b _) (Nat.mod_lt _ hM)
    (signedMul_sound h1w hw h1 h2 hau hub hcv hvd) (unsignedMul_sound hw hau hub hcv hvd)
  intro hnt s e hse
  -- the end points of the unsigned answer are products of end points
  unfold unsignedMul at hse hnt
  dsimp only at hse hnt
  split at hse
  · simp only [mulT_raw hw] at hse
    obtain ⟨rfl, rfl⟩ := W_inj hse.symm
    exact ⟨signedMul_sound h1w hw h1 h2 (Nat.le_refl a) h1.1 (Nat.le_refl c) h2.1,
      signedMul_sound h1w hw h1 h2 h1.1 (Nat.le_refl b) h2.1 (Nat.le_refl d)⟩
  · next hc =>
    rw [if_neg hc, top_isTop] at hnt; cases hnt


/-- the bodies of the two inner loops of `operator*`: for every interval of
    `reduced_signed_unsigned_mul` of a pair of pieces, join it -/
def mulInner (q res : WInt) : Option (ForInStep WInt) := pure (ForInStep.yield (res.join q))
def mulMid (ci cj res : WInt) : Option (ForInStep WInt) :=
  (forIn (ci.reducedMul cj) res mulInner).bind fun r => pure (ForInStep.yield r)

theorem mul_eq (x y : WInt) :
    x.mul y = if (x.isBottom || y.isBottom) = true then some bottom
      else if (x.isTop || y.isTop) = true then some top
      else (x.cut?).bind fun cuts => (y.cut?).bind fun ycuts => cutLoop mulMid cuts ycuts := by
  unfold mul
  refine ite_congr rfl (fun _ => rfl) fun _ => ite_congr rfl (fun _ => rfl) fun _ => ?_
  cases x.cut? with
  | none => rfl
  | some cuts =>
    cases y.cut? with
    | none => rfl
    | some ycuts =>
      simp only [Option.bind_eq_bind, Option.bind_some, bind_pure]
      rfl

/-- `operator*` answers `top()` or an interval of width `w` that contains the product modulo `2^w` of
    every pair of members -/
theorem mul_spec {w : Nat} (h1w : 1 ≤ w) (hw : w ≤ 64) {x y r : WInt} (hx : Good w x) (hy : Good w y)
    (h : x.mul y = some r) :
    Good w r ∧ ∀ u v, u < 2 ^ w → v < 2 ^ w → mem w u x → mem w v y → mem w ((u * v) % 2 ^ w) r := by
  rw [mul_eq] at h
  obtain ⟨g, hm⟩ := splitOp_spec (splits_cut h1w hw) (fun ci cj r => ∀ q ∈ reducedMul ci cj, LeW w q r)
    (fun ci cj r r' hq hl q hqm => LeW_trans (hq q hqm) hl)
    (fun a b c d _ _ r0 s hg hs => by
      obtain ⟨r1, hin, rfl⟩ := bind_yield hs
      refine ⟨r1, rfl, forIn_join_spec (w := w) mulInner (fun q r => LeW w q r)
        (fun q r r' h1 h2 => LeW_trans h1 h2) _ r0 r1 ?_ hg hin⟩
      intro q hq r2 s hg2 hs
      obtain ⟨g, l1, l2⟩ := join_good hw hg2 (reducedMul_good hw a b c d q hq)
      exact ⟨_, (Option.some.inj hs).symm, g, l1, l2⟩) hx hy h
  refine ⟨g, fun u v hu hv hmu hmv => ?_⟩
  rcases hm u v hu hv hmu hmv with rfl | ⟨a, b, c, d, hemi1, hemi2, ⟨hau, hub⟩, ⟨hcv, hvd⟩, hq⟩
  · exact mem_top _ _
  · obtain ⟨q, hq', hmq⟩ := reducedMul_sound h1w hw hemi1 hemi2 hau hub hcv hvd
    exact hq q hq' _ (Nat.mod_lt _ (Nat.pow_pos (by decide))) hmq

theorem mul_sound_bv {w : Nat} (h1w : 1 ≤ w) (hw : w ≤ 64) {x y r : WInt} (hx : Good w x) (hy : Good w y)
    (h : x.mul y = some r) {a b : BitVec w} (ha : memBV a x) (hb : memBV b y) : memBV (a * b) r := by
  unfold memBV
  rw [BitVec.toNat_mul]
  exact (mul_spec h1w hw hx hy h).2 _ _ a.isLt b.isLt ha hb

end WInt
end Crab
