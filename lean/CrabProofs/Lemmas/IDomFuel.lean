import CrabProofs.Lemmas.IDomSolverLoops

/-!
  The `do … while (!m_refined_variables.empty() && m_op_count <= m_max_op)` loop of
  `solve_large_system` is modelled with fuel `m_max_op + 1`.  This file proves that this fuel is
  never exhausted: every iteration that goes on has inserted a variable in the (freshly cleared)
  set of refined variables, which only happens together with `++m_op_count`, so the counter
  passes `m_max_op` after at most `m_max_op + 1` iterations; the result is the same with any
  larger fuel.
-/
namespace Crab
namespace IDom
open Lin

def Progress (a b : SolverSt) : Prop := a.ops ≤ b.ops ∧ (b.refined = a.refined ∨ a.ops < b.ops)

theorem Progress.refl (a : SolverSt) : Progress a a := ⟨Nat.le_refl _, Or.inl rfl⟩

theorem Progress.trans {a b c : SolverSt} (h1 : Progress a b) (h2 : Progress b c) : Progress a c := by
  refine ⟨Nat.le_trans h1.1 h2.1, ?_⟩
  rcases h1.2 with e1 | l1
  · rcases h2.2 with e2 | l2
    · exact Or.inl (e2.trans e1)
    · exact Or.inr (Nat.lt_of_le_of_lt h1.1 l2)
  · exact Or.inr (Nat.lt_of_lt_of_le l1 h2.1)

theorem propagateTerm_progress (c : Cst) (st : SolverSt) (pivot : Var) (coef : Int) :
    Progress st (propagateTerm c st pivot coef).2 :=
  propagateTerm_ind (M := fun r => Progress st r.2) c st pivot coef (fun _ h => ⟨h, Or.inl rfl⟩)
    (fun _ _ h _ _ => ⟨h, Or.inl rfl⟩) (fun _ _ h _ => ⟨Nat.le_succ_of_le h, Or.inr (Nat.lt_succ_of_le h)⟩)

theorem propagateAll_progress (tbl : List Cst) (st : SolverSt) : Progress st (propagateAll tbl st).2 :=
  propagateAll_ind (M := fun r => Progress st r.2) tbl
    (fun c _ p _ st' h => h.trans (propagateTerm_progress c st' p.1 p.2)) st (Progress.refl st)

theorem solveLargeLoop_succ (tbl : List Cst) (maxOp : Nat) : ∀ (fuel : Nat) (st : SolverSt),
    maxOp + 1 ≤ fuel + st.ops → solveLargeLoop tbl maxOp (fuel + 1) st = solveLargeLoop tbl maxOp fuel st := by
  intro fuel
  induction fuel with
  | zero =>
    intro st h
    have hp := propagateAll_progress (st.refined.flatMap (trigger tbl)) ⟨st.env, [], st.ops⟩
    unfold solveLargeLoop
    simp only []
    generalize propagateAll (st.refined.flatMap (trigger tbl)) ⟨st.env, [], st.ops⟩ = r at hp
    obtain ⟨b, st'⟩ := r
    cases b
    · simp only []
      have : ¬ st'.ops ≤ maxOp := by have := hp.1; simp only at this; omega
      simp [this]
    · rfl
  | succ n ih =>
    intro st h
    have hp := propagateAll_progress (st.refined.flatMap (trigger tbl)) ⟨st.env, [], st.ops⟩
    rw [solveLargeLoop.eq_def tbl maxOp (n + 1 + 1), solveLargeLoop.eq_def tbl maxOp (n + 1)]
    simp only []
    generalize propagateAll (st.refined.flatMap (trigger tbl)) ⟨st.env, [], st.ops⟩ = r at hp
    obtain ⟨b, st'⟩ := r
    cases b
    · simp only []
      by_cases hc : (!st'.refined.isEmpty && decide (st'.ops ≤ maxOp)) = true
      · simp only [hc, if_true]
        apply ih
        -- the set of refined variables was cleared and is not empty: the counter has increased
        have hne : st'.refined ≠ [] := by
          intro e; rw [e] at hc; simp at hc
        rcases hp.2 with e | l
        · exact absurd e hne
        · simp only at l; omega
      · simp only [hc]; rfl
    · rfl

theorem solveLargeLoop_fuel (tbl : List Cst) (maxOp : Nat) (st : SolverSt) (k : Nat) :
    solveLargeLoop tbl maxOp (maxOp + 1 + k) st = solveLargeLoop tbl maxOp (maxOp + 1) st := by
  induction k with
  | zero => rfl
  | succ j ih =>
    rw [← ih]
    exact solveLargeLoop_succ tbl maxOp (maxOp + 1 + j) st (by omega)

end IDom
end Crab
