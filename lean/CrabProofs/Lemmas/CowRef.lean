import CrabModel.Dom.CowRef

/-!
# The copy-on-write store: invariant and simulation by plain values

* `PInv st extra` is the invariant of the store with possibly one wrapper `extra` in flight: counted
  in the use_counts but not (yet) stored in a client variable, the temporary every constructing
  operation builds before it assigns.  `Inv st = PInv st none` holds between client operations.
* Every primitive of the wrapper level has a `_spec`: the invariant afterwards (with the new
  in-flight wrapper) and `view` afterwards — `alloc_spec`, `acquire_spec`, `moveOut_spec` produce a
  temporary, `place_spec` consumes it, `detach_spec` / `write_spec` are the two halves of a mutator.
* `PInv.transfer` is the one place where the four fields are re-established: a store whose counts
  are exact again and whose counted cells kept their values satisfies the invariant.
* `Sim o p`: an outcome on the shared store is, through `view`, the outcome `p` on plain values and
  satisfies `Inv`; `step_sim`, `run_sim` are the simulation, `pstep_frame` the frame property of the
  plain semantics.
-/
namespace Crab
namespace Dom
namespace Cow

variable {A : Type}


theorem hcnt_none (c : Nat) : hcnt c none = 0 := rfl

theorem hcnt_some (c : Nat) (h : Handle) :
    hcnt c (some h) = (if h.norm = c then 1 else 0) + (if h.base = some c then 1 else 0) := by
  obtain ⟨b, n⟩ := h
  cases b with
  | none => simp [hcnt, hrefs, List.count_cons]
  | some b => simp [hcnt, hrefs, List.count_cons]; omega

theorem cnt_cons (c : Nat) (a : Option Handle) (t : List (Option Handle)) :
    cnt c (a :: t) = hcnt c a + cnt c t := by
  simp [cnt, refs, hcnt, List.count_append]

theorem cnt_set (c : Nat) : ∀ (pool : List (Option Handle)) (d : Nat) (o x : Option Handle),
    pool[d]? = some o → cnt c (pool.set d x) + hcnt c o = cnt c pool + hcnt c x := by
  intro pool
  induction pool with
  | nil => intro d o x h; simp at h
  | cons a t ih =>
    intro d o x h
    cases d with
    | zero =>
      simp at h
      subst h
      simp [cnt_cons]; omega
    | succ d =>
      simp at h
      have := ih d o x h
      simp [cnt_cons]; omega

theorem hcnt_le_cnt (c : Nat) : ∀ (pool : List (Option Handle)) (o : Option Handle),
    o ∈ pool → hcnt c o ≤ cnt c pool := by
  intro pool
  induction pool with
  | nil => intro o h; simp at h
  | cons a t ih =>
    intro o h
    rw [cnt_cons]
    rcases List.mem_cons.mp h with h | h
    · subst h; omega
    · have := ih o h; omega

theorem cnt_pos_iff (c : Nat) (pool : List (Option Handle)) :
    0 < cnt c pool ↔ ∃ o ∈ pool, 0 < hcnt c o := by
  simp [cnt, hcnt, refs, List.count_pos_iff, List.mem_flatMap]

theorem cnt_replicate_none (c n : Nat) : cnt c (List.replicate n none) = 0 := by
  induction n with
  | zero => rfl
  | succ n ih => rw [List.replicate_succ, cnt_cons, ih, hcnt_none]

/-! ### primitives: effect on `rcOf`, `valOf` -/

theorem rcOf_zero_of_valOf_none (st : State A) (c : Nat) (h : valOf st c = none) : rcOf st c = 0 := by
  unfold valOf at h; unfold rcOf
  cases hc : st.cells c <;> simp_all

theorem rcOf_incr (st : State A) (c x : Nat) (hc : valOf st c ≠ none) :
    rcOf (incr st c) x = rcOf st x + (if x = c then 1 else 0) := by
  unfold valOf at hc
  unfold rcOf incr
  by_cases hx : x = c
  · subst hx; cases h : st.cells x <;> simp_all
  · simp [hx]

theorem valOf_incr (st : State A) (c x : Nat) : valOf (incr st c) x = valOf st x := by
  unfold valOf incr
  by_cases hx : x = c
  · subst hx; cases h : st.cells x <;> simp_all
  · simp [hx]

theorem rcOf_decr (st : State A) (c x : Nat) :
    rcOf (decr st c) x = rcOf st x - (if x = c then 1 else 0) := by
  unfold rcOf decr
  by_cases hx : x = c
  · subst hx
    cases h : st.cells x with
    | none => simp
    | some y =>
      by_cases hy : y.rc ≤ 1
      · simp [hy]
      · simp [hy]
  · simp [hx]

theorem valOf_decr (st : State A) (c x : Nat) :
    valOf (decr st c) x = if x = c ∧ rcOf st c ≤ 1 then none else valOf st x := by
  unfold valOf rcOf decr
  by_cases hx : x = c
  · subst hx
    cases h : st.cells x with
    | none => simp
    | some y =>
      by_cases hy : y.rc ≤ 1
      · simp [hy]
      · simp [hy]
  · simp [hx]

theorem decr_incr {st : State A} {c : Nat} (h : rcOf st c ≠ 0) : decr (incr st c) c = st := by
  obtain ⟨cells, next, pool⟩ := st
  unfold rcOf at h
  simp only [decr, incr, if_true]
  congr
  funext i
  by_cases hi : i = c
  · subst hi
    cases hc : cells i with
    | none => simp [hc] at h
    | some x => simp [hc] at h; simp [h]
  · simp [hi]

theorem rcOf_alloc (st : State A) (v : A) (x : Nat) :
    rcOf (alloc st v).1 x = if x = st.next then 1 else rcOf st x := by
  unfold rcOf alloc
  by_cases hx : x = st.next <;> simp [hx]

theorem valOf_alloc (st : State A) (v : A) (x : Nat) :
    valOf (alloc st v).1 x = if x = st.next then some v else valOf st x := by
  unfold valOf alloc
  by_cases hx : x = st.next <;> simp [hx]

theorem rcOf_write (st : State A) (c : Nat) (f : A → A) (x : Nat) :
    rcOf (write st c f) x = rcOf st x := by
  unfold rcOf write
  by_cases hx : x = c
  · subst hx; cases h : st.cells x <;> simp
  · simp [hx]

theorem valOf_write (st : State A) (c : Nat) (f : A → A) (x : Nat) :
    valOf (write st c f) x = if x = c then (valOf st c).map f else valOf st x := by
  unfold valOf write
  by_cases hx : x = c
  · subst hx; cases h : st.cells x <;> simp
  · simp [hx]

@[simp] theorem rcOf_setSlot (st : State A) (d : Nat) (o : Option Handle) (x : Nat) :
    rcOf (setSlot st d o) x = rcOf st x := rfl
@[simp] theorem valOf_setSlot (st : State A) (d : Nat) (o : Option Handle) (x : Nat) :
    valOf (setSlot st d o) x = valOf st x := rfl
@[simp] theorem pool_setSlot (st : State A) (d : Nat) (o : Option Handle) :
    (setSlot st d o).pool = st.pool.set d o := rfl
@[simp] theorem next_setSlot (st : State A) (d : Nat) (o : Option Handle) :
    (setSlot st d o).next = st.next := rfl
@[simp] theorem pool_incr (st : State A) (c : Nat) : (incr st c).pool = st.pool := rfl
@[simp] theorem pool_decr (st : State A) (c : Nat) : (decr st c).pool = st.pool := rfl
@[simp] theorem pool_alloc (st : State A) (v : A) : (alloc st v).1.pool = st.pool := rfl
@[simp] theorem pool_write (st : State A) (c : Nat) (f : A → A) : (write st c f).pool = st.pool := rfl
@[simp] theorem next_incr (st : State A) (c : Nat) : (incr st c).next = st.next := rfl
@[simp] theorem next_decr (st : State A) (c : Nat) : (decr st c).next = st.next := rfl
@[simp] theorem next_alloc (st : State A) (v : A) : (alloc st v).1.next = st.next + 1 := rfl
@[simp] theorem snd_alloc (st : State A) (v : A) : (alloc st v).2 = st.next := rfl
@[simp] theorem next_write (st : State A) (c : Nat) (f : A → A) : (write st c f).next = st.next := rfl

@[simp] theorem pool_decrO (st : State A) (o : Option Nat) : (decrO st o).pool = st.pool := by
  cases o <;> rfl
@[simp] theorem next_decrO (st : State A) (o : Option Nat) : (decrO st o).next = st.next := by
  cases o <;> rfl
@[simp] theorem pool_incrO (st : State A) (o : Option Nat) : (incrO st o).pool = st.pool := by
  cases o <;> rfl
@[simp] theorem next_incrO (st : State A) (o : Option Nat) : (incrO st o).next = st.next := by
  cases o <;> rfl
@[simp] theorem pool_release (st : State A) (h : Handle) : (release st h).pool = st.pool := by
  simp [release]
@[simp] theorem next_release (st : State A) (h : Handle) : (release st h).next = st.next := by
  simp [release]
@[simp] theorem pool_acquire (st : State A) (h : Handle) : (acquire st h).pool = st.pool := by
  simp [acquire]
@[simp] theorem next_acquire (st : State A) (h : Handle) : (acquire st h).next = st.next := by
  simp [acquire]

theorem rcOf_decrO (st : State A) (o : Option Nat) (x : Nat) :
    rcOf (decrO st o) x = rcOf st x - (if o = some x then 1 else 0) := by
  cases o with
  | none => simp [decrO]
  | some c =>
    simp only [decrO, rcOf_decr, Option.some.injEq]
    by_cases h : x = c
    · subst h; simp
    · have : ¬ c = x := fun e => h e.symm
      simp [h, this]

theorem rcOf_release (st : State A) (h : Handle) (x : Nat) :
    rcOf (release st h) x = rcOf st x - hcnt x (some h) := by
  rw [release, rcOf_decrO, rcOf_decr, hcnt_some]
  by_cases h1 : x = h.norm
  · have : h.norm = x := h1.symm
    simp [h1]; omega
  · have : ¬ h.norm = x := fun e => h1 e.symm
    simp [h1, this]

theorem valOf_decr_live (st : State A) (c x : Nat) (h : rcOf (decr st c) x ≠ 0) :
    valOf (decr st c) x = valOf st x := by
  rw [valOf_decr]
  rw [rcOf_decr] at h
  by_cases hx : x = c
  · subst hx
    have : ¬ rcOf st x ≤ 1 := by simp at h; omega
    simp [this]
  · simp [hx]

theorem valOf_decrO_live (st : State A) (o : Option Nat) (x : Nat) (h : rcOf (decrO st o) x ≠ 0) :
    valOf (decrO st o) x = valOf st x := by
  cases o with
  | none => rfl
  | some c => exact valOf_decr_live st c x h

theorem valOf_release_live (st : State A) (h : Handle) (x : Nat) (hl : rcOf (release st h) x ≠ 0) :
    valOf (release st h) x = valOf st x := by
  unfold release at *
  rw [valOf_decrO_live _ _ _ hl]
  apply valOf_decr_live
  rw [rcOf_decrO] at hl
  omega

theorem valOf_decr_none (st : State A) (c x : Nat) (h : valOf st x = none) :
    valOf (decr st c) x = none := by
  rw [valOf_decr]; split <;> simp [h]

theorem valOf_release_none (st : State A) (h : Handle) (x : Nat) (hv : valOf st x = none) :
    valOf (release st h) x = none := by
  unfold release
  cases hb : h.base with
  | none => exact valOf_decr_none _ _ _ hv
  | some b => exact valOf_decr_none _ _ _ (valOf_decr_none _ _ _ hv)

/-- "no zombie": a cell whose count is 0 does not exist -/
def NoZ (st : State A) : Prop := ∀ c, rcOf st c = 0 → valOf st c = none

theorem NoZ_decr (st : State A) (c : Nat) (h : NoZ st) : NoZ (decr st c) := by
  intro x hx
  rw [valOf_decr]
  rw [rcOf_decr] at hx
  by_cases hxc : x = c
  · subst hxc
    by_cases h1 : rcOf st x ≤ 1
    · simp [h1]
    · simp at hx; omega
  · simp [hxc] at hx
    simp [hxc, h x hx]

theorem NoZ_decrO (st : State A) (o : Option Nat) (h : NoZ st) : NoZ (decrO st o) := by
  cases o with
  | none => exact h
  | some c => exact NoZ_decr st c h

theorem NoZ_release (st : State A) (hd : Handle) (h : NoZ st) : NoZ (release st hd) :=
  NoZ_decrO _ _ (NoZ_decr _ _ h)

/-! ### the invariant, with one wrapper possibly "in flight" (counted, not yet in a slot) -/

/-- `extra` is a wrapper whose pointers are already counted in the store but which is not (yet)
    stored in a client variable: a temporary / the right-hand side of an assignment. -/
structure PInv (st : State A) (extra : Option Handle) : Prop where
  /-- cell ids from `next` on are unused -/
  fresh : ∀ c, st.next ≤ c → valOf st c = none
  /-- an object whose use_count is 0 has been deleted -/
  nozombie : NoZ st
  /-- use_count = number of shared_ptrs that point to the object -/
  count : ∀ c, rcOf st c = cnt c st.pool + hcnt c extra
  /-- `*m_base_ref` (when not null) and `*m_norm_ref` hold the same value -/
  base : ∀ h b, (extra = some h ∨ some h ∈ st.pool) → h.base = some b → valOf st b = valOf st h.norm

abbrev Inv (st : State A) : Prop := PInv st none

theorem hcnt_norm_pos (h : Handle) : 0 < hcnt h.norm (some h) := by
  rw [hcnt_some]; simp; omega

theorem hcnt_base_pos (h : Handle) (b : Nat) (hb : h.base = some b) : 0 < hcnt b (some h) := by
  rw [hcnt_some]; simp [hb]

theorem PInv.live {st : State A} {extra : Option Handle} (hi : PInv st extra) (c : Nat)
    (h : 0 < cnt c st.pool + hcnt c extra) : valOf st c ≠ none ∧ c < st.next := by
  have hc := hi.count c
  have hv : valOf st c ≠ none := by
    intro hn
    have := rcOf_zero_of_valOf_none st c hn
    omega
  refine ⟨hv, ?_⟩
  apply Nat.lt_of_not_le
  intro hle
  exact hv (hi.fresh c hle)

theorem PInv.live_pool {st : State A} {extra : Option Handle} (hi : PInv st extra) (o : Option Handle)
    (ho : o ∈ st.pool) (c : Nat) (hc : 0 < hcnt c o) : valOf st c ≠ none ∧ c < st.next := by
  apply hi.live
  have := hcnt_le_cnt c st.pool o ho
  omega

theorem PInv.live_extra {st : State A} {extra : Option Handle} (hi : PInv st extra) (c : Nat)
    (hc : 0 < hcnt c extra) : valOf st c ≠ none ∧ c < st.next := by
  apply hi.live
  omega

theorem getH_eq_some {st : State A} {d : Nat} {h : Handle} :
    getH st d = some h ↔ st.pool[d]? = some (some h) := by
  unfold getH
  split <;> simp_all

theorem getH_eq_none {st : State A} {d : Nat} :
    getH st d = none ↔ (st.pool[d]? = none ∨ st.pool[d]? = some none) := by
  unfold getH
  split
  · simp_all
  · rename_i h
    cases hp : st.pool[d]? with
    | none => simp
    | some o =>
      cases o with
      | none => simp
      | some x => exact absurd hp (h x)

theorem getH_mem {st : State A} {d : Nat} {h : Handle} (hg : getH st d = some h) :
    some h ∈ st.pool := List.mem_of_getElem? (getH_eq_some.mp hg)

/-! ### `releaseSlot`, `place` -/

@[simp] theorem pool_releaseSlot (st : State A) (d : Nat) : (releaseSlot st d).pool = st.pool := by
  unfold releaseSlot; split <;> simp
@[simp] theorem next_releaseSlot (st : State A) (d : Nat) : (releaseSlot st d).next = st.next := by
  unfold releaseSlot; split <;> simp

theorem releaseSlot_some {st : State A} {d : Nat} {h : Handle} (hp : st.pool[d]? = some (some h)) :
    releaseSlot st d = release st h := by
  unfold releaseSlot; rw [getH_eq_some.mpr hp]

theorem releaseSlot_none {st : State A} {d : Nat} (hp : st.pool[d]? = some none) :
    releaseSlot st d = st := by
  unfold releaseSlot; rw [getH_eq_none.mpr (Or.inr hp)]

theorem rcOf_releaseSlot {st : State A} {d : Nat} {old : Option Handle} (hp : st.pool[d]? = some old)
    (x : Nat) : rcOf (releaseSlot st d) x = rcOf st x - hcnt x old := by
  cases old with
  | none => rw [releaseSlot_none hp, hcnt_none]; rfl
  | some h => rw [releaseSlot_some hp, rcOf_release]

theorem valOf_releaseSlot_live {st : State A} {d : Nat} {old : Option Handle}
    (hp : st.pool[d]? = some old) (x : Nat) (hl : rcOf (releaseSlot st d) x ≠ 0) :
    valOf (releaseSlot st d) x = valOf st x := by
  cases old with
  | none => rw [releaseSlot_none hp]
  | some h => rw [releaseSlot_some hp] at *; exact valOf_release_live st h x hl

theorem valOf_releaseSlot_none {st : State A} {d : Nat} {old : Option Handle}
    (hp : st.pool[d]? = some old) (x : Nat) (hv : valOf st x = none) :
    valOf (releaseSlot st d) x = none := by
  cases old with
  | none => rw [releaseSlot_none hp]; exact hv
  | some h => rw [releaseSlot_some hp]; exact valOf_release_none st h x hv

theorem NoZ_releaseSlot {st : State A} {d : Nat} {old : Option Handle}
    (hp : st.pool[d]? = some old) (hz : NoZ st) : NoZ (releaseSlot st d) := by
  cases old with
  | none => rw [releaseSlot_none hp]; exact hz
  | some h => rw [releaseSlot_some hp]; exact NoZ_release st h hz

theorem view_congr {st st' : State A} {pool : List (Option Handle)} (hp : st'.pool = pool)
    (hv : ∀ h, some h ∈ pool → valOf st' h.norm = valOf st h.norm) :
    view st' = pool.map (slotVal st) := by
  unfold view
  rw [hp]
  apply List.map_congr_left
  intro o ho
  cases o with
  | none => rfl
  | some h => exact hv h ho

/-- The invariant passes to a store `st'` in which the counts are exact again and every cell
    still counted has the value it had in `st`, provided `st'` holds no wrapper with a base
    pointer that `st` did not hold; the pool of `st'` then shows values of `st`. -/
theorem PInv.transfer {st st' : State A} {extra extra' : Option Handle} (hi : PInv st extra)
    (hfresh : ∀ c, st'.next ≤ c → valOf st' c = none)
    (hnz : NoZ st')
    (hcount : ∀ c, rcOf st' c = cnt c st'.pool + hcnt c extra')
    (hkeep : ∀ c, rcOf st' c ≠ 0 → valOf st' c = valOf st c)
    (hold : ∀ h, (extra' = some h ∨ some h ∈ st'.pool) → h.base = none ∨ extra = some h ∨ some h ∈ st.pool) :
    PInv st' extra' ∧ view st' = st'.pool.map (slotVal st) := by
  have hlive : ∀ o, (extra' = o ∨ o ∈ st'.pool) → ∀ c, 0 < hcnt c o → valOf st' c = valOf st c := by
    intro o ho c hc
    apply hkeep
    have := hcount c
    rcases ho with rfl | ho
    · omega
    · have := hcnt_le_cnt c _ o ho; omega
  refine ⟨⟨hfresh, hnz, hcount, ?_⟩, view_congr rfl fun h hh => hlive _ (Or.inr hh) _ (hcnt_norm_pos h)⟩
  intro h b hh hb
  rw [hlive _ hh b (hcnt_base_pos h b hb), hlive _ hh _ (hcnt_norm_pos h)]
  rcases hold h hh with h0 | h0
  · rw [hb] at h0; cases h0
  · exact hi.base h b h0 hb

theorem rcOf_place {st : State A} {d : Nat} {old : Option Handle} (hp : st.pool[d]? = some old)
    (o : Option Handle) (x : Nat) : rcOf (place st d o) x = rcOf st x - hcnt x old := by
  simp [place, rcOf_releaseSlot hp]

theorem valOf_place_live {st : State A} {d : Nat} {old : Option Handle} (hp : st.pool[d]? = some old)
    (o : Option Handle) (x : Nat) (hl : rcOf (place st d o) x ≠ 0) :
    valOf (place st d o) x = valOf st x :=
  valOf_releaseSlot_live hp x hl

theorem mem_set_old {pool : List (Option Handle)} {d : Nat} {o : Option Handle} {h : Handle} {extra : Option Handle}
    (hh : some h ∈ pool.set d o) (ho : o = some h → extra = some h) :
    h.base = none ∨ extra = some h ∨ some h ∈ pool := by
  rcases List.mem_or_eq_of_mem_set hh with h1 | h1
  · exact Or.inr (Or.inr h1)
  · exact Or.inr (Or.inl (ho h1.symm))

/-- assignment: the in-flight wrapper lands in slot `d`, the old content is destroyed -/
theorem place_spec {st : State A} {d : Nat} {o : Option Handle} (hi : PInv st o)
    (hd : d < st.pool.length) :
    Inv (place st d o) ∧ view (place st d o) = (view st).set d (slotVal st o) := by
  obtain ⟨old, hold⟩ : ∃ old, st.pool[d]? = some old := ⟨st.pool[d], by simp [hd]⟩
  have hpool : (place st d o).pool = st.pool.set d o := by simp [place]
  obtain ⟨h1, h2⟩ := hi.transfer (st' := place st d o) (extra' := none)
    (fun c hc => valOf_releaseSlot_none hold c (hi.fresh c (by simpa [place] using hc)))
    (NoZ_releaseSlot hold hi.nozombie)
    (fun x => by
      have h1 := rcOf_place hold o x
      have h2 := hi.count x
      have h3 := cnt_set x st.pool d old o hold
      rw [hpool, hcnt_none]; omega)
    (fun c hc => valOf_place_live hold o c hc)
    (fun h hh => by
      rcases hh with hh | hh
      · cases hh
      · rw [hpool] at hh; exact mem_set_old hh id)
  exact ⟨h1, by rw [h2, hpool, List.map_set]; rfl⟩

theorem length_view (st : State A) : (view st).length = st.pool.length := by simp [view]

theorem set_same {α : Type} (l : List α) (d : Nat) (a : α) (h : l[d]? = some a) : l.set d a = l := by
  obtain ⟨hd, rfl⟩ := List.getElem?_eq_some_iff.mp h
  exact List.set_getElem_self hd

theorem view_getElem? (st : State A) (e : Nat) : (view st)[e]? = (st.pool[e]?).map (slotVal st) := by
  simp [view]

/-! ### `alloc`, `acquire`, emptying a slot -/

/-- `make_shared` of a temporary.  With `base = none` it is the plain wrapper `⟨null, fresh⟩`;
    with `base = some c0` (second allocation of `create_base`) the in-flight wrapper `⟨null, c0⟩`
    becomes `⟨c0, fresh⟩`, and `c0` must hold the allocated value. -/
theorem alloc_spec {st : State A} (v : A) (base : Option Nat) (hi : PInv st (base.map (⟨none, ·⟩)))
    (hv : ∀ c0, base = some c0 → valOf st c0 = some v) :
    PInv (alloc st v).1 (some ⟨base, st.next⟩) ∧ view (alloc st v).1 = view st ∧
    valOf (alloc st v).1 st.next = some v := by
  have hnext0 : rcOf st st.next = 0 :=
    rcOf_zero_of_valOf_none st _ (hi.fresh _ (Nat.le_refl _))
  have hold : ∀ x, x < st.next → valOf (alloc st v).1 x = valOf st x := by
    intro x hx
    rw [valOf_alloc]; simp [Nat.ne_of_lt hx]
  have hlive : ∀ h, some h ∈ st.pool → ∀ c, 0 < hcnt c (some h) → c < st.next :=
    fun h hh c hc => (hi.live_pool _ hh c hc).2
  have hextra : ∀ x, hcnt x (base.map (⟨none, ·⟩)) = if base = some x then 1 else 0 := by
    intro x; cases base <;> simp [hcnt_none, hcnt_some]
  have hnew : valOf (alloc st v).1 st.next = some v := by rw [valOf_alloc]; simp
  refine ⟨⟨?_, ?_, ?_, ?_⟩, ?_, hnew⟩
  · intro c hc
    simp at hc
    rw [valOf_alloc]
    have : c ≠ st.next := by omega
    simp [this]
    exact hi.fresh c (by omega)
  · intro x hx
    rw [rcOf_alloc] at hx
    rw [valOf_alloc]
    by_cases hxn : x = st.next
    · simp [hxn] at hx
    · simp [hxn] at hx ⊢
      exact hi.nozombie x hx
  · intro x
    have := hi.count x
    rw [hextra] at this
    rw [rcOf_alloc, hcnt_some, pool_alloc]
    by_cases hxn : x = st.next
    · subst hxn; simp only [if_true]; omega
    · have h2 : ¬ st.next = x := fun e => hxn e.symm
      simp only [hxn, h2, if_false]; omega
  · intro h b hh hb
    rcases hh with hh | hh
    · cases hh
      have hb0 : b < st.next := by
        apply (hi.live_extra b _).2
        rw [hextra, if_pos hb]; exact Nat.one_pos
      rw [hold _ hb0, hv b hb, hnew]
    · simp at hh
      rw [hold _ (hlive h hh b (hcnt_base_pos h b hb)), hold _ (hlive h hh _ (hcnt_norm_pos h))]
      exact hi.base h b (Or.inr hh) hb
  · rw [view_congr (st := st) (pool := st.pool) (by simp)]
    · rfl
    · intro h hh
      exact hold _ (hlive h hh _ (hcnt_norm_pos h))

theorem valOf_incrO (st : State A) (o : Option Nat) (x : Nat) : valOf (incrO st o) x = valOf st x := by
  cases o with
  | none => rfl
  | some c => exact valOf_incr st c x

theorem valOf_acquire (st : State A) (h : Handle) (x : Nat) : valOf (acquire st h) x = valOf st x := by
  rw [acquire, valOf_incrO, valOf_incr]

theorem rcOf_acquire (st : State A) (h : Handle) (x : Nat) (hn : valOf st h.norm ≠ none)
    (hb : ∀ b, h.base = some b → valOf st b ≠ none) :
    rcOf (acquire st h) x = rcOf st x + hcnt x (some h) := by
  rw [acquire, hcnt_some]
  cases hbase : h.base with
  | none =>
    simp only [incrO]
    rw [rcOf_incr _ _ _ hn]
    by_cases h1 : x = h.norm
    · have : h.norm = x := h1.symm
      simp [h1]
    · have : ¬ h.norm = x := fun e => h1 e.symm
      simp [h1, this]
  | some b =>
    simp only [incrO]
    rw [rcOf_incr _ _ _ (by rw [valOf_incr]; exact hb b hbase), rcOf_incr _ _ _ hn]
    -- one `+1` per pointer on both sides; `rcOf_incr` tests `x = c` where `hcnt_some` tests `c = x`
    simp only [eq_comm (a := x), Option.some.injEq]; omega

/-- copy construction of a temporary from a wrapper whose pointers are live and which is stored in
    some variable or has no base pointer -/
theorem acquire_spec' {st : State A} (hi : Inv st) {h : Handle} (hn : valOf st h.norm ≠ none)
    (hb : ∀ b, h.base = some b → valOf st b ≠ none) (hold : h.base = none ∨ some h ∈ st.pool) :
    PInv (acquire st h) (some h) ∧ view (acquire st h) = view st := by
  have hrc : ∀ x, rcOf (acquire st h) x = rcOf st x + hcnt x (some h) := fun x => rcOf_acquire st h x hn hb
  obtain ⟨h1, h2⟩ := hi.transfer (st' := acquire st h) (extra' := some h)
    (fun c hc => by rw [valOf_acquire]; exact hi.fresh c (by simpa using hc))
    (fun x hx => by rw [valOf_acquire]; rw [hrc] at hx; exact hi.nozombie x (by omega))
    (fun x => by have := hi.count x; rw [hcnt_none] at this; rw [hrc, pool_acquire]; omega)
    (fun c _ => valOf_acquire st h c)
    (fun h' hh' => by
      rcases hh' with hh' | hh'
      · cases hh'; exact hold.imp id Or.inr
      · exact Or.inr (Or.inr (by simpa using hh')))
  exact ⟨h1, by rw [h2, pool_acquire]; rfl⟩

/-- ... from the wrapper `h` stored in some variable -/
theorem acquire_spec {st : State A} (hi : Inv st) {h : Handle} (hh : some h ∈ st.pool) :
    PInv (acquire st h) (some h) ∧ view (acquire st h) = view st :=
  acquire_spec' hi (hi.live_pool _ hh _ (hcnt_norm_pos h)).1
    (fun b hb => (hi.live_pool _ hh _ (hcnt_base_pos h b hb)).1) (Or.inr hh)

/-- moving out of a variable: its wrapper is in flight, the variable is empty -/
theorem moveOut_spec {st : State A} (hi : Inv st) {s : Nat} {h : Handle}
    (hp : st.pool[s]? = some (some h)) :
    PInv (setSlot st s none) (some h) ∧ view (setSlot st s none) = (view st).set s none := by
  obtain ⟨h1, h2⟩ := hi.transfer (st' := setSlot st s none) (extra' := some h)
    hi.fresh hi.nozombie
    (fun x => by
      have h1 := hi.count x
      have h2 := cnt_set x st.pool s (some h) none hp
      rw [hcnt_none] at h1 h2
      rw [pool_setSlot, rcOf_setSlot]; omega)
    (fun c _ => rfl)
    (fun h' hh' => by
      rcases hh' with hh' | hh'
      · cases hh'; exact Or.inr (Or.inr (List.mem_of_getElem? hp))
      · exact mem_set_old (extra := none) (by simpa using hh') (fun e => by cases e))
  exact ⟨h1, by rw [h2, pool_setSlot, List.map_set]; rfl⟩

/-! ### `detach` and the in-place update -/

theorem cells_of_valOf {st : State A} {c : Nat} {v : A} (h : valOf st c = some v) :
    ∃ x, st.cells c = some x ∧ x.val = v ∧ rcOf st c = x.rc := by
  unfold valOf at h; unfold rcOf
  cases hc : st.cells c with
  | none => simp [hc] at h
  | some x => simp [hc] at h; exact ⟨x, rfl, h, rfl⟩

theorem detach_none {st : State A} {d : Nat} (hg : getH st d = none) : detach st d = none := by
  unfold detach; rw [hg]

/-- the state `st1` after `detach()` on slot `d` of `st`, which held the value `v`: the variable
    owns the cell `n` alone (use_count 1, no base pointer) and no variable describes anything else
    than before -/
structure Detached (st : State A) (d : Nat) (v : A) (st1 : State A) (n : Nat) : Prop where
  inv : Inv st1
  slot : st1.pool[d]? = some (some ⟨none, n⟩)
  unique : rcOf st1 n = 1
  val : valOf st1 n = some v
  sameView : view st1 = view st

/-- `detach()` on a live wrapper succeeds.  Both branches put a wrapper `⟨null, n⟩` that owns a cell
    holding the old value in flight and assign it to the variable (`place`): a fresh clone if the
    cell is shared; if it is unique, the cell itself with one more count, since
    `m_base_ref.reset()` is then `place` after `incr` (`decr_incr`). -/
theorem detach_spec {st : State A} (hi : Inv st) {d : Nat} {h : Handle} (hg : getH st d = some h) :
    ∃ st1 n v, detach st d = some (st1, n) ∧ valOf st h.norm = some v ∧ Detached st d v st1 n := by
  have hp : st.pool[d]? = some (some h) := getH_eq_some.mp hg
  have hh : some h ∈ st.pool := List.mem_of_getElem? hp
  have hdlt : d < st.pool.length := (List.getElem?_eq_some_iff.mp hp).1
  have hlive := (hi.live_pool _ hh _ (hcnt_norm_pos h)).1
  obtain ⟨v, hv⟩ : ∃ v, valOf st h.norm = some v := Option.ne_none_iff_exists'.mp hlive
  obtain ⟨x, hx, hxv, hxrc⟩ := cells_of_valOf hv
  have hviewd : (view st)[d]? = some (some v) := by
    rw [view_getElem?, hp]; simp [slotVal, readNorm, hv]
  have key : ∀ (st0 : State A) (n : Nat), st0.pool = st.pool → PInv st0 (some ⟨none, n⟩) → view st0 = view st →
      valOf st0 n = some v → rcOf st0 n = hcnt n (some h) + 1 → Detached st d v (place st0 d (some ⟨none, n⟩)) n := by
    intro st0 n hpool ha hva hvn hrc
    have hp' : st0.pool[d]? = some (some h) := by rw [hpool]; exact hp
    obtain ⟨hinv1, hview1⟩ := place_spec ha (by rw [hpool]; exact hdlt)
    have hrc1 : rcOf (place st0 d (some ⟨none, n⟩)) n = 1 := by rw [rcOf_place hp', hrc]; omega
    refine ⟨hinv1, by simp [place, hpool, hdlt], hrc1, ?_, ?_⟩
    · rw [valOf_place_live hp' _ _ (by omega), hvn]
    · rw [hview1, hva]
      exact set_same _ _ _ (by simpa [slotVal, readNorm, hvn] using hviewd)
  by_cases hu : x.rc = 1
  · have hdet : detach st d = some (place (acquire st ⟨none, h.norm⟩) d (some ⟨none, h.norm⟩), h.norm) := by
      have : releaseSlot (incr st h.norm) d = release (incr st h.norm) h := releaseSlot_some (by simpa using hp)
      unfold detach; rw [hg]; simp only [hx]
      simp only [hu, if_true, place, acquire, incrO, this, release, decr_incr (hxrc ▸ hu ▸ Nat.one_ne_zero)]
    obtain ⟨ha, hva⟩ := acquire_spec' (h := ⟨none, h.norm⟩) hi hlive (fun _ e => by cases e) (Or.inl rfl)
    refine ⟨_, _, v, hdet, hv, key _ _ (pool_acquire _ _) ha hva (by rw [valOf_acquire]; exact hv) ?_⟩
    have h1 := hi.count h.norm
    have h2 := hcnt_le_cnt h.norm st.pool _ hh
    have h3 := hcnt_norm_pos h
    rw [rcOf_acquire st ⟨none, h.norm⟩ h.norm hlive (fun _ e => nomatch e), hcnt_some h.norm ⟨none, h.norm⟩]
    rw [hcnt_none] at h1
    simp; omega
  · have hdet : detach st d = some (place (alloc st x.val).1 d (some ⟨none, st.next⟩), st.next) := by
      have : releaseSlot (alloc st x.val).1 d = release (alloc st x.val).1 h := releaseSlot_some (by simpa using hp)
      unfold detach; rw [hg]; simp only [hx]; simp only [hu, if_false, snd_alloc, place, this]
    obtain ⟨ha, hva, hvn⟩ := alloc_spec x.val none hi (fun _ e => by cases e)
    refine ⟨_, _, v, hdet, hv, key _ _ (pool_alloc _ _) ha hva (by rw [hvn, hxv]) ?_⟩
    have hcz : hcnt st.next (some h) = 0 := by
      cases hz : hcnt st.next (some h) with
      | zero => rfl
      | succ k => have := (hi.live_pool _ hh st.next (by omega)).2; omega
    rw [rcOf_alloc, hcz]; simp

/-- in-place update through a variable that owns its cell alone -/
theorem write_spec {st : State A} (hi : Inv st) {d n : Nat}
    (hp : st.pool[d]? = some (some ⟨none, n⟩)) (hrc : rcOf st n = 1) (f : A → A) :
    Inv (write st n f) ∧ view (write st n f) = (view st).set d ((valOf st n).map f) := by
  have hdlt : d < st.pool.length := (List.getElem?_eq_some_iff.mp hp).1
  -- no other variable points to `n`
  have hother : ∀ e o', e ≠ d → st.pool[e]? = some o' → hcnt n o' = 0 := by
    intro e o' hed he
    have h1 := hi.count n
    have h2 := cnt_set n st.pool d (some ⟨none, n⟩) none hp
    rw [hcnt_none] at h1 h2
    have h3 := hcnt_norm_pos ⟨none, n⟩
    have hmem : o' ∈ st.pool.set d none := by
      apply List.mem_of_getElem? (i := e)
      rw [List.getElem?_set, if_neg (fun h : d = e => hed h.symm)]
      exact he
    have := hcnt_le_cnt n _ o' hmem
    simp only at h3
    omega
  have hnot : ∀ h', some h' ∈ st.pool → h' ≠ ⟨none, n⟩ → h'.norm ≠ n ∧ h'.base ≠ some n := by
    intro h' hh' hne
    obtain ⟨e, he⟩ := List.mem_iff_getElem?.mp hh'
    have hed : e ≠ d := by
      intro hed; subst hed
      rw [hp] at he; cases he; exact hne rfl
    have := hother e _ hed he
    rw [hcnt_some] at this
    constructor
    · intro h1; simp [h1] at this
    · intro h1; simp [h1] at this
  refine ⟨⟨?_, ?_, ?_, ?_⟩, ?_⟩
  · intro c hc
    rw [valOf_write]
    have := hi.fresh c (by simpa using hc)
    split
    · rename_i h1; subst h1; simp [this]
    · exact this
  · intro y hy
    rw [rcOf_write] at hy
    rw [valOf_write]
    have := hi.nozombie y hy
    split
    · rename_i h1; subst h1; simp [this]
    · exact this
  · intro y; rw [rcOf_write]; exact hi.count y
  · intro h' b hh' hb'
    rcases hh' with hh' | hh'
    · cases hh'
    · simp only [pool_write] at hh'
      have hne : h' ≠ ⟨none, n⟩ := by
        intro e; rw [e] at hb'; cases hb'
      obtain ⟨h1, h2⟩ := hnot h' hh' hne
      rw [valOf_write, valOf_write]
      have : ¬ b = n := by
        intro e; subst e; exact h2 hb'
      simp [this, h1]
      exact hi.base h' b (Or.inr hh') hb'
  · apply List.ext_getElem?
    intro i
    rw [view_getElem?, List.getElem?_set, length_view, view_getElem?]
    simp only [pool_write]
    by_cases hdi : d = i
    · subst hdi
      rw [hp]
      simp [hdlt, slotVal, readNorm, valOf_write]
    · simp only [hdi, if_false]
      cases hpi : st.pool[i]? with
      | none => rfl
      | some o' =>
        cases o' with
        | none => rfl
        | some h' =>
          have := hother i _ (fun e => hdi e.symm) hpi
          rw [hcnt_some] at this
          have hn : ¬ h'.norm = n := by
            intro h1; simp [h1] at this
          simp [slotVal, readNorm, valOf_write, hn]

/-! ### one operation: the shared store simulates plain values -/

theorem pget_view (st : State A) (e : Nat) : pget (view st) e = observe st e := by
  unfold pget observe getH
  rw [view_getElem?]
  cases hp : st.pool[e]? with
  | none => rfl
  | some o =>
    cases o with
    | none => rfl
    | some h =>
      simp only [Option.map, slotVal]
      cases readNorm st h <;> rfl

theorem observe_live {st : State A} (hi : Inv st) {e : Nat} {h : Handle} (hg : getH st e = some h) :
    ∃ v, observe st e = some v ∧ valOf st h.norm = some v := by
  have := (hi.live_pool _ (getH_mem hg) _ (hcnt_norm_pos h)).1
  unfold observe; rw [hg]
  cases hv : valOf st h.norm with
  | none => exact absurd hv this
  | some v => exact ⟨v, hv, rfl⟩

theorem observe_dead {st : State A} {e : Nat} (hg : getH st e = none) : observe st e = none := by
  unfold observe; rw [hg]

/-- the outcome of an operation on the shared store, seen through `view`, is the outcome `p` on
    plain values (failure included), and the invariant holds again -/
structure Sim (o : Option (State A)) (p : Option (List (Option A))) : Prop where
  eq : o.map view = p
  inv : ∀ st', o = some st' → Inv st'

theorem Sim.some {st' : State A} {p : List (Option A)} (hi : Inv st') (hv : view st' = p) :
    Sim (some st') (some p) := ⟨by rw [Option.map_some, hv], fun _ h => by cases h; exact hi⟩

theorem Sim.none : Sim (none : Option (State A)) none := ⟨rfl, fun _ h => by cases h⟩

/-- reading a variable: both semantics fail, or both see the value of the cell behind `norm` -/
theorem read_sim {st : State A} (hi : Inv st) (e : Nat) :
    (getH st e = none ∧ pget (view st) e = none) ∨
    ∃ h v, getH st e = some h ∧ pget (view st) e = some v ∧ valOf st h.norm = some v := by
  rw [pget_view]
  cases hg : getH st e with
  | none => exact Or.inl ⟨rfl, observe_dead hg⟩
  | some h =>
    obtain ⟨v, hov, hv⟩ := observe_live hi hg
    exact Or.inr ⟨h, v, rfl, hov, hv⟩

theorem assign_sim {st : State A} {h : Handle} (hi : PInv st (some h)) (d : Nat) {v : A}
    (hv : valOf st h.norm = some v) : Sim (assign st d h) (passign (view st) d v) := by
  unfold assign passign
  rw [length_view]
  by_cases hd : d < st.pool.length
  · obtain ⟨h1, h2⟩ := place_spec hi hd
    rw [if_pos hd, if_pos hd]
    exact Sim.some h1 (by rw [h2]; simp [slotVal, readNorm, hv])
  · rw [if_neg hd, if_neg hd]; exact Sim.none

/-- a mutating method = `detach()`, then an in-place update: no other variable sees it -/
theorem detach_write {st : State A} (hi : Inv st) {d : Nat} {h : Handle} {v : A} (hg : getH st d = some h)
    (hv : valOf st h.norm = some v) :
    ∃ st1 n, detach st d = some (st1, n) ∧ Inv st1 ∧ view st1 = view st ∧
      ∀ f : A → A, Sim (some (write st1 n f)) (some ((view st).set d (some (f v)))) := by
  obtain ⟨st1, n, v', hdet, hv', hd⟩ := detach_spec hi hg
  cases hv.symm.trans hv'
  refine ⟨st1, n, hdet, hd.inv, hd.sameView, fun f => ?_⟩
  obtain ⟨hw1, hw2⟩ := write_spec hd.inv hd.slot hd.unique f
  exact Sim.some hw1 (by rw [hw2, hd.sameView, hd.val]; rfl)

theorem step_sim {st : State A} (hi : Inv st) (op : Op A) : Sim (step st op) (pstep (view st) op) := by
  cases op with
  | mk d v =>
    obtain ⟨ha, hva, hvn⟩ := alloc_spec v none hi (fun _ e => by cases e)
    simp only [step, pstep, snd_alloc]
    rw [← hva]; exact assign_sim ha d hvn
  | copy d s =>
    rcases read_sim hi s with ⟨hg, hp⟩ | ⟨h, v, hg, hp, hv⟩
    · simp only [step, pstep, hg, hp]; exact Sim.none
    · obtain ⟨ha, hva⟩ := acquire_spec hi (getH_mem hg)
      simp only [step, pstep, hg, hp]
      rw [← hva]; exact assign_sim ha d (by rw [valOf_acquire]; exact hv)
  | move d s =>
    rcases read_sim hi s with ⟨hg, hp⟩ | ⟨h, v, hg, hp, hv⟩
    · simp only [step, pstep, hg, hp]; exact Sim.none
    · simp only [step, pstep, hg, hp]
      by_cases hds : d = s
      · rw [if_pos hds, if_pos hds]; exact Sim.some hi rfl
      · obtain ⟨ha, hva⟩ := moveOut_spec hi (getH_eq_some.mp hg)
        rw [if_neg hds, if_neg hds, ← hva]; exact assign_sim ha d (by simpa using hv)
  | destroy d =>
    simp only [step, pstep, length_view]
    by_cases hd : d < st.pool.length
    · obtain ⟨h1, h2⟩ := place_spec (o := none) hi hd
      rw [if_pos hd, if_pos hd]; exact Sim.some h1 (by rw [h2]; rfl)
    · rw [if_neg hd, if_neg hd]; exact Sim.none
  | mutate d f =>
    rcases read_sim hi d with ⟨hg, hp⟩ | ⟨h, v, hg, hp, hv⟩
    · simp only [step, pstep, detach_none hg, hp]; exact Sim.none
    · obtain ⟨st1, n, hdet, _, _, hw⟩ := detach_write hi hg hv
      simp only [step, pstep, hdet, hp]; exact hw f
  | mutate2 d s f =>
    rcases read_sim hi d with ⟨hg, hp⟩ | ⟨h, v, hg, hp, hv⟩
    · simp only [step, pstep, detach_none hg, hp]; exact Sim.none
    · obtain ⟨st1, n, hdet, hi1, hview1, hw⟩ := detach_write hi hg hv
      -- the argument is read after `detach()`, which changed no variable's value
      rcases read_sim hi1 s with ⟨hgs, hps⟩ | ⟨hs, w, hgs, hps, hws⟩
      · rw [hview1] at hps; simp only [step, pstep, hdet, hp, hgs, hps]; exact Sim.none
      · rw [hview1] at hps; simp only [step, pstep, hdet, hp, hgs, hps, readNorm, hws]; exact hw _
  | query d =>
    rcases read_sim hi d with ⟨hg, hp⟩ | ⟨h, v, hg, hp, hv⟩
    · simp only [step, pstep, hg, hp]; exact Sim.none
    · simp only [step, pstep, hg, hp]; exact Sim.some hi rfl
  | binary d a b g =>
    rcases read_sim hi a with ⟨hga, hpa⟩ | ⟨ha, va, hga, hpa, hva⟩
    · simp only [step, pstep, hga, hpa]; exact Sim.none
    · rcases read_sim hi b with ⟨hgb, hpb⟩ | ⟨hb, vb, hgb, hpb, hvb⟩
      · simp only [step, pstep, hga, hpa, hgb, hpb]; exact Sim.none
      · obtain ⟨hal, hview, hvn⟩ := alloc_spec (g va vb) none hi (fun _ e => by cases e)
        simp only [step, pstep, hga, hpa, hgb, hpb, readNorm, hva, hvb, snd_alloc]
        rw [← hview]; exact assign_sim hal d hvn
  | binaryBase d a b g =>
    rcases read_sim hi a with ⟨hga, hpa⟩ | ⟨ha, va, hga, hpa, hva⟩
    · simp only [step, pstep, hga, hpa]; exact Sim.none
    · rcases read_sim hi b with ⟨hgb, hpb⟩ | ⟨hb, vb, hgb, hpb, hvb⟩
      · simp only [step, pstep, hga, hpa, hgb, hpb]; exact Sim.none
      · -- `base()` reads the same value as `norm()`
        have hrb : readBase st ha = some va := by
          unfold readBase
          cases hbase : ha.base with
          | none => exact hva
          | some bb =>
            simp only
            rw [hi.base ha bb (Or.inr (getH_mem hga)) hbase]; exact hva
        obtain ⟨hal, hview, hvn⟩ := alloc_spec (g va vb) none hi (fun _ e => by cases e)
        obtain ⟨hal2, hview2, hvn2⟩ := alloc_spec (g va vb) (some st.next) hal (fun _ e => by cases e; exact hvn)
        simp only [step, pstep, hga, hpa, hgb, hpb, hrb, readNorm, hvb, snd_alloc]
        rw [← hview, ← hview2]; exact assign_sim hal2 d hvn2

/-! ### histories -/

theorem init_inv (n : Nat) : Inv (init n : State A) := by
  refine ⟨?_, ?_, ?_, ?_⟩
  · intro c _; rfl
  · intro c _; rfl
  · intro c
    show 0 = cnt c (List.replicate n none) + hcnt c none
    rw [cnt_replicate_none, hcnt_none]
  · intro h b hh hb
    rcases hh with hh | hh
    · cases hh
    · simp [init] at hh

theorem view_init (n : Nat) : view (init n : State A) = List.replicate n none := by
  simp [view, init, slotVal]

theorem run_sim {st : State A} (hi : Inv st) (ops : List (Op A)) : Sim (run st ops) (prun (view st) ops) := by
  induction ops generalizing st with
  | nil => exact Sim.some hi rfl
  | cons op ops ih =>
    obtain ⟨h1, h2⟩ := step_sim hi op
    simp only [run, prun]
    cases hs : step st op with
    | none => rw [hs] at h1; rw [← h1]; exact Sim.none
    | some st' => rw [hs] at h1; rw [← h1]; exact ih (h2 st' hs)

/-! ### plain values: frame lemmas -/

theorem pget_set_ne (p : List (Option A)) (d e : Nat) (x : Option A) (h : e ≠ d) :
    pget (p.set d x) e = pget p e := by
  unfold pget
  rw [List.getElem?_set, if_neg (fun h' : d = e => h h'.symm)]

theorem pget_set_eq (p : List (Option A)) (d : Nat) (x : Option A) (h : d < p.length) :
    pget (p.set d x) d = x := by
  unfold pget
  rw [List.getElem?_set]
  simp only [if_true, h]
  cases x <;> rfl

theorem pget_lt {p : List (Option A)} {d : Nat} {v : A} (h : pget p d = some v) : d < p.length := by
  apply Nat.lt_of_not_le; intro hle
  unfold pget at h
  rw [List.getElem?_eq_none hle] at h; cases h

theorem passign_frame {p p' : List (Option A)} {d : Nat} {v : A} (h : passign p d v = some p')
    (e : Nat) (he : e ≠ d) : pget p' e = pget p e := by
  unfold passign at h
  split at h
  · cases h; exact pget_set_ne p d e _ he
  · cases h

theorem pstep_frame {p p' : List (Option A)} {op : Op A} (h : pstep p op = some p') (e : Nat)
    (he : e ∉ op.targets) : pget p' e = pget p e := by
  cases op with
  | mk d v =>
    simp [Op.targets] at he
    exact passign_frame h e he
  | copy d s =>
    simp [Op.targets] at he
    simp only [pstep] at h
    split at h
    · cases h
    · exact passign_frame h e he
  | move d s =>
    simp [Op.targets] at he
    simp only [pstep] at h
    split at h
    · cases h
    · split at h
      · cases h; rfl
      · rw [passign_frame h e he.1, pget_set_ne _ _ _ _ he.2]
  | destroy d =>
    simp [Op.targets] at he
    simp only [pstep] at h
    split at h
    · cases h; exact pget_set_ne p d e _ he
    · cases h
  | mutate d f =>
    simp [Op.targets] at he
    simp only [pstep] at h
    split at h
    · cases h
    · cases h; exact pget_set_ne p d e _ he
  | mutate2 d s f =>
    simp [Op.targets] at he
    simp only [pstep] at h
    split at h
    · cases h; exact pget_set_ne p d e _ he
    · cases h
  | query d =>
    simp only [pstep] at h
    split at h
    · cases h
    · cases h; rfl
  | binary d a b g =>
    simp [Op.targets] at he
    simp only [pstep] at h
    split at h
    · exact passign_frame h e he
    · cases h
  | binaryBase d a b g =>
    simp [Op.targets] at he
    simp only [pstep] at h
    split at h
    · exact passign_frame h e he
    · cases h

/-- `d = s` followed by a mutation of one of the two, on plain values: the mutated variable holds
    `f` of the old value of `s`, the other one that old value -/
theorem prun_copy_mutate {p p' : List (Option A)} {d s t : Nat} {f : A → A} (hds : d ≠ s) (ht : t = s ∨ t = d)
    (h : prun p [.copy d s, .mutate t f] = some p') :
    pget p' t = (pget p s).map f ∧ ∀ e, e ≠ t → e = d ∨ e = s → pget p' e = pget p s := by
  simp only [prun, pstep] at h
  cases hv : pget p s with
  | none => simp [hv] at h
  | some v =>
    simp only [hv, passign] at h
    by_cases hd : d < p.length
    · have hs : s < (p.set d (some v)).length := by simpa using pget_lt hv
      have hvd : pget (p.set d (some v)) d = some v := pget_set_eq _ _ _ hd
      have hvs : pget (p.set d (some v)) s = some v := by rw [pget_set_ne _ _ _ _ (fun e => hds e.symm), hv]
      have hdl : d < (p.set d (some v)).length := by simpa using hd
      have hvt : pget (p.set d (some v)) t = some v := ht.elim (fun e => e ▸ hvs) (fun e => e ▸ hvd)
      have htl : t < (p.set d (some v)).length := ht.elim (fun e => e ▸ hs) (fun e => e ▸ hdl)
      simp only [hd, if_true, hvt, Option.some.injEq] at h
      subst h
      refine ⟨pget_set_eq _ _ _ htl, fun e het he => ?_⟩
      rw [pget_set_ne _ _ _ _ het]
      exact he.elim (fun e => e ▸ hvd) (fun e => e ▸ hvs)
    · simp [hd] at h

end Cow
end Dom
end Crab
