import CrabProofs.Lemmas.BwdRun

/-!
  The fixpoint problem BEFORE commit 111ab80 (`bwdCtxOld`: `analyze` never starts from top):
  its collecting semantics is `CoReachX` — co-reachability with assertion failures only in
  blocks from which the exit block is reachable.  Kept for the counterexample of the old
  behaviour (DESIGN.md §4 #8).
-/
namespace Crab
namespace Bwd

open Fix

variable {A : Type}

def Setup.ctxOld (S : Setup A) : Ctx A :=
  bwdCtxOld S.D S.p S.good S.invAbs S.fin S.nesting S.delay S.descending

/-- `Setup.stepo` without the disjunct for the successors in `m_fail_without_exit` -/
def Setup.stepoOld (S : Setup A) : Nat → Option State → Option State → Prop
  | _, none, none => True
  | n, none, some σ' => S.good = false ∧ S.inv n σ' ∧ StmtsFail (S.p.block n).stmts σ'
  | n, some σ, some σ' => S.inv n σ' ∧ StmtsStep (S.p.block n).stmts σ' σ
  | _, some _, none => False

def Setup.semOld (S : Setup A) : Sem S.ctxOld (Option State) where
  γ := S.γo
  step := S.stepoOld
  analyze_sound := by
    intro n a s s' hγ hstep
    cases s' with
    | none => trivial
    | some σ' =>
      cases s with
      | none =>
        obtain ⟨hg, hinv, hfail⟩ := hstep
        show S.γ (bwdStmts S.D S.good (S.p.block n).stmts a (S.invAbs n)) σ'
        rw [hg]
        exact bwdStmts_fail_sound S.sound _ a _ σ' hinv hfail
      | some σ =>
        obtain ⟨hinv, hrun⟩ := hstep
        exact bwdStmts_step_sound S.sound S.good _ a _ σ' σ hinv hrun hγ
  join_left := by
    intro a b s h; cases s with
    | none => trivial
    | some σ => exact S.sound.join_left a b σ h
  join_right := by
    intro a b s h; cases s with
    | none => trivial
    | some σ => exact S.sound.join_right a b σ h
  widen_left := by
    intro a b s h; cases s with
    | none => trivial
    | some σ => exact S.sound.widen_left a b σ h
  widen_right := by
    intro a b s h; cases s with
    | none => trivial
    | some σ => exact S.sound.widen_right a b σ h
  meet_sound := by
    intro a b s h1 h2; cases s with
    | none => trivial
    | some σ => exact S.sound.meet_sound a b σ h1 h2
  narrow_sound := by
    intro a b s h1 h2; cases s with
    | none => trivial
    | some σ => exact S.sound.narrow_sound a b σ h1 h2
  leq_sound := by
    intro a b s h1 h2; cases s with
    | none => trivial
    | some σ => exact S.sound.leq_sound a b σ h1 h2

theorem Setup.asmOk_trueOld (S : Setup A) (n : Nat) (s : Option State) : asmOk S.ctxOld S.semOld n s :=
  Sound.asmOk_of_noAsm S.semOld rfl n s

theorem Setup.token_preOld (S : Setup A) (n : Nat) (h : ReachesExit S.p n) :
    ReachPre S.ctxOld S.semOld n none :=
  token_reach S.semOld S.p rfl (fun _ => rfl) rfl trivial (fun _ => trivial) h

/-- co-reachable states (failures only in blocks that reach the exit) are in the collecting
    semantics of the reversed system -/
theorem Setup.reachPostOld_of_coReachX (S : Setup A) (n : Nat) (σ : State)
    (h : CoReachX S.p S.inv (!S.good) (S.γ S.fin) n σ) : ReachPost S.ctxOld S.semOld n (some σ) := by
  induction h with
  | exit σ σ' hinv hrun hfin =>
    have hpre : ReachPre S.ctxOld S.semOld S.p.exit (some σ') :=
      ReachPre.init (some σ') hfin (S.asmOk_trueOld _ _)
    exact ReachPost.step S.p.exit (some σ') (some σ) hpre ⟨hinv, hrun⟩
  | flow n m σ σ' hinv hm hrun _ ih =>
    have hpre : ReachPre S.ctxOld S.semOld n (some σ') :=
      ReachPre.flow m n (some σ') hm ih (S.asmOk_trueOld _ _)
    exact ReachPost.step n (some σ') (some σ) hpre ⟨hinv, hrun⟩
  | fail n σ herr hx hinv hfail =>
    have hg : S.good = false := by cases hgd : S.good <;> simp [hgd] at herr ⊢
    exact ReachPost.step n none (some σ) (S.token_preOld n hx) ⟨hg, hinv, hfail⟩

/-- if every block with an assertion can reach the exit, nothing is lost -/
theorem coReachX_of_coReach (p : Prog) (inv : Nat → State → Prop) (err : Bool) (fin : State → Prop)
    (hx : ∀ n, (∃ s ∈ (p.block n).stmts, s.isAssert = true) → ReachesExit p n)
    (n : Nat) (σ : State) (h : CoReach p inv err fin n σ) : CoReachX p inv err fin n σ := by
  induction h with
  | exit σ σ' hinv hrun hfin => exact CoReachX.exit σ σ' hinv hrun hfin
  | flow n m σ σ' hinv hm hrun _ ih => exact CoReachX.flow n m σ σ' hinv hm hrun ih
  | fail n σ herr hinv hfail =>
    exact CoReachX.fail n σ herr (hx n (stmtsFail_has_assert hfail)) hinv hfail

theorem coReach_of_coReachX (p : Prog) (inv : Nat → State → Prop) (err : Bool) (fin : State → Prop)
    (n : Nat) (σ : State) (h : CoReachX p inv err fin n σ) : CoReach p inv err fin n σ := by
  induction h with
  | exit σ σ' hinv hrun hfin => exact CoReach.exit σ σ' hinv hrun hfin
  | flow n m σ σ' hinv hm hrun _ ih => exact CoReach.flow n m σ σ' hinv hm hrun ih
  | fail n σ herr _ hinv hfail => exact CoReach.fail n σ herr hinv hfail

/-- what a state of the reversed system at the END of block `n` stands for -/
def Setup.PreCharOld (S : Setup A) (n : Nat) : Option State → Prop
  | none => ReachesExit S.p n
  | some σ => (n = S.p.exit ∧ S.γ S.fin σ) ∨
      ∃ m, m ∈ (S.p.block n).succs ∧ CoReachX S.p S.inv (!S.good) (S.γ S.fin) m σ

def Setup.PostCharOld (S : Setup A) (n : Nat) : Option State → Prop
  | none => ReachesExit S.p n
  | some σ => CoReachX S.p S.inv (!S.good) (S.γ S.fin) n σ

theorem Setup.charOld (S : Setup A) :
    (∀ n s, ReachPre S.ctxOld S.semOld n s → S.PreCharOld n s) ∧
    (∀ n s, ReachPost S.ctxOld S.semOld n s → S.PostCharOld n s) := by
  refine reach_ind ?_ ?_ ?_
  · intro s hinit _
    cases s with
    | none => exact ReachesExit.here
    | some σ => exact Or.inl ⟨rfl, hinit⟩
  · intro m n s hm h _
    cases s with
    | none => exact ReachesExit.edge n m hm h
    | some σ => exact Or.inr ⟨m, hm, h⟩
  · intro n s s' h hstep
    cases s' with
    | none =>
      cases s with
      | none => exact h
      | some σ => exact hstep.elim
    | some σ' =>
      cases s with
      | none =>
        obtain ⟨hg, hinv, hfail⟩ := hstep
        exact CoReachX.fail n σ' (by simp [hg]) h hinv hfail
      | some σ =>
        obtain ⟨hinv, hrun⟩ := hstep
        rcases h with ⟨rfl, hfin⟩ | ⟨m, hm, hco⟩
        · exact CoReachX.exit σ' σ hinv hrun hfin
        · exact CoReachX.flow n m σ' σ hinv hm hrun hco

theorem Setup.pre_charOld (S : Setup A) : ∀ (n : Nat) (s : Option State),
    ReachPre S.ctxOld S.semOld n s → S.PreCharOld n s :=
  S.charOld.1

theorem Setup.post_charOld (S : Setup A) : ∀ (n : Nat) (s : Option State),
    ReachPost S.ctxOld S.semOld n s → S.PostCharOld n s :=
  S.charOld.2

end Bwd
end Crab
