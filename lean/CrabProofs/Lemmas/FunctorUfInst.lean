import CrabProofs.Lemmas.FunctorUfJoin
import CrabProofs.Lemmas.FunctorUfLeq
import CrabProofs.Lemmas.FunctorUfMeet

/-!
The instance of the non-vacuity examples of `uf_domain` in `Props/C03Functors2.lean`: variables and
symbols are natural numbers.
-/
namespace Crab
namespace Dom
namespace Fct
open Uf

namespace C03UfEx

/-- symbol 0 = `+`, symbol 1 = `*`, every other symbol = 7 (an arbitrary fixed meaning) -/
def I0 : Nat → List Int → Int
  | 0, [a, b] => a + b
  | 1, [a, b] => a * b
  | _, _ => 7

def ch : List (Term Nat) → Option (Term Nat) := List.head?

theorem ch_ok : ChooseOK ch := fun l t h => List.mem_of_mem_head? h

/-- the tracked variables with their terms (`none` = bottom) -/
def terms : UF Nat Nat → Option (List (Nat × Term Nat))
  | .bot => none
  | .val u => some u.map

/-- `v0 := 5; v1 := v0 + v2; v3 := v0 + v2` -/
def ops : List (UF.Op Nat Nat) :=
  [.assign 0 0 (.const 5), .assign 0 1 (.app 0 [.var 0, .var 2]), .assign 0 3 (.app 0 [.var 0, .var 2])]

/-- the pool after the history `l`, every slot starting from top -/
def run (l : List (UF.Op Nat Nat)) : Pool (UF Nat Nat) := runHist (fun _ => UF.top) (UF.toHist I0 ch l)

/-- the state the run of `ops` ends in when it starts with `v2 = 2`: `(5, 7, 2, 7)` -/
def sfin : St Nat := fun v => if v = 0 then 5 else if v = 2 then 2 else if v = 1 ∨ v = 3 then 7 else 0

end C03UfEx

end Fct
end Dom
end Crab
