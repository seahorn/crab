import CrabProofs.Lemmas.Dbm
import CrabProofs.Lemmas.Chain

/-!
  The potential (shortest-path) argument: every closed matrix has integer solutions, each finite
  entry is attained by a solution and infinite entries are unbounded.

  `potential m c v = min_u (c u + m u v)` (distance from a virtual source that reaches `u` at
  cost `c u`).  For a closed `m` it is finite and satisfies `pot b ≤ pot a + m a b`, so
  `v ↦ -pot v` is a solution.  With `c i = 0` and `c u = L` (large) elsewhere, the solution has
  `v i - v j = m i j` for every finite entry of row `i` and `v i - v j ≥ L - absSum m` otherwise.

  Consequences: the entries of a closed matrix are exactly the bounds valid on its solutions
  (`Closed.tight`, `Closed.entry_LE_of_implied`), so a closed matrix is determined by its solutions
  (`Closed.eq_of_sat_iff`) and `fw m` is identified by exhibiting a closed matrix with the solutions
  of `m` (`Closed.fw_eq`).  `exists_between` picks the value of a projected variable.
-/
namespace Crab
namespace Dbm
namespace Mat
variable {N : Nat}


theorem foldl_min_LE_init (l : List (Fin N)) (f : Fin N → W) (a : W) :
    W.LE (l.foldl (fun acc u => W.min acc (f u)) a) a := by
  induction l generalizing a with
  | nil => exact W.LE_refl a
  | cons u l ih => exact W.LE_trans (ih _) (W.min_LE_left _ _)

theorem foldl_min_LE_mem (l : List (Fin N)) (f : Fin N → W) (a : W) {u : Fin N} (hu : u ∈ l) :
    W.LE (l.foldl (fun acc u => W.min acc (f u)) a) (f u) := by
  induction l generalizing a with
  | nil => cases hu
  | cons w l ih =>
    rw [List.foldl_cons]
    rcases List.mem_cons.1 hu with rfl | hu
    · exact W.LE_trans (foldl_min_LE_init l f _) (W.min_LE_right _ _)
    · exact ih _ hu

theorem foldl_min_eq (l : List (Fin N)) (f : Fin N → W) (a : W) :
    l.foldl (fun acc u => W.min acc (f u)) a = a ∨ ∃ u, l.foldl (fun acc u => W.min acc (f u)) a = f u := by
  induction l generalizing a with
  | nil => exact Or.inl rfl
  | cons w l ih =>
    rw [List.foldl_cons]
    rcases ih (W.min a (f w)) with h | ⟨u, h⟩
    · rcases W.min_eq_or a (f w) with h2 | h2
      · left; rw [h, h2]
      · right; exact ⟨w, by rw [h, h2]⟩
    · exact Or.inr ⟨u, h⟩

theorem minOver_LE (f : Fin N → W) (u : Fin N) : W.LE (minOver f) (f u) :=
  foldl_min_LE_mem _ f none (List.mem_finRange u)

theorem minOver_eq (f : Fin N → W) : minOver f = none ∨ ∃ u, minOver f = f u :=
  foldl_min_eq _ f none

theorem minOver_none {f : Fin N → W} (h : minOver f = none) (u : Fin N) : f u = none := by
  have := minOver_LE f u
  rw [h] at this
  cases hf : f u with
  | none => rfl
  | some b =>
    obtain ⟨_, hx, _⟩ := this b hf
    cases hx

theorem minOver_some {f : Fin N → W} {b0 : Int} (h : minOver f = some b0) :
    (∃ u, f u = some b0) ∧ ∀ u b, f u = some b → b0 ≤ b := by
  constructor
  · rcases minOver_eq f with h' | ⟨u, h'⟩
    · rw [h] at h'; cases h'
    · exact ⟨u, by rw [← h', h]⟩
  · intro u b hu
    have := minOver_LE f u
    rw [h, hu] at this
    exact W.LE_some_some.1 this


/-- an integer below finitely many upper bounds `up j` and above the lower bounds `-lo i`, when
    each lower bound is below each upper bound -/
theorem exists_between (up lo : Fin N → W)
    (h : ∀ i j a b, lo i = some a → up j = some b → -a ≤ b) :
    ∃ t : Int, (∀ j b, up j = some b → t ≤ b) ∧ (∀ i a, lo i = some a → -t ≤ a) := by
  cases hB : minOver up with
  | some b0 =>
    obtain ⟨⟨j0, hj0⟩, hmin⟩ := minOver_some hB
    exact ⟨b0, hmin, fun i a hi => by have := h i j0 a b0 hi hj0; omega⟩
  | none =>
    have hup : ∀ j b, up j = some b → False := fun j b hj => by rw [minOver_none hB j] at hj; cases hj
    cases hA : minOver lo with
    | none => exact ⟨0, fun j b hj => (hup j b hj).elim, fun i a hi => by rw [minOver_none hA i] at hi; cases hi⟩
    | some a0 =>
      exact ⟨-a0, fun j b hj => (hup j b hj).elim, fun i a hi => by have := (minOver_some hA).2 i a hi; omega⟩


theorem wabs_nonneg (w : W) : 0 ≤ wabs w := by
  cases w <;> simp [wabs]; split <;> omega

theorem rowSum_nonneg (m : Mat N) (i : Fin N) : 0 ≤ ((List.finRange N).map fun j => wabs (m.get i j)).sum :=
  sum_map_nonneg (fun _ => wabs_nonneg _) _

theorem absSum_nonneg (m : Mat N) : 0 ≤ absSum m := sum_map_nonneg (rowSum_nonneg m) _

theorem wabs_le_absSum (m : Mat N) (i j : Fin N) : wabs (m.get i j) ≤ absSum m :=
  Int.le_trans (le_sum_map (f := fun j => wabs (m.get i j)) (fun _ => wabs_nonneg _) (List.mem_finRange j))
    (le_sum_map (rowSum_nonneg m) (List.mem_finRange i))

theorem abs_le_absSum {m : Mat N} {i j : Fin N} {k : Int} (h : m.get i j = some k) :
    -absSum m ≤ k ∧ k ≤ absSum m := by
  have := wabs_le_absSum m i j
  rw [h] at this
  simp only [wabs] at this
  split at this <;> omega


theorem potential_le_source {m : Mat N} (c : Fin N → Int) (u v : Fin N) :
    W.LE (potential m c v) (W.add (some (c u)) (m.get u v)) :=
  minOver_LE (fun u => W.add (some (c u)) (m.get u v)) u

theorem potential_le_self {m : Mat N} (hc : Closed m) (c : Fin N → Int) (v : Fin N) :
    W.LE (potential m c v) (some (c v)) := by
  have := potential_le_source (m := m) c v v
  rwa [hc.diag v, W.add_zero] at this

theorem potential_finite {m : Mat N} (hc : Closed m) (c : Fin N → Int) (v : Fin N) :
    ∃ p, potential m c v = some p := by
  obtain ⟨p, hp, _⟩ := potential_le_self hc c v _ rfl
  exact ⟨p, hp⟩

theorem potential_attained {m : Mat N} (hc : Closed m) (c : Fin N → Int) (v : Fin N) :
    ∃ u k, m.get u v = some k ∧ potential m c v = some (c u + k) := by
  obtain ⟨p, hp⟩ := potential_finite hc c v
  rcases minOver_eq (fun u => W.add (some (c u)) (m.get u v)) with h | ⟨u, h⟩
  · rw [potential, h] at hp; cases hp
  · rw [potential, h]
    rw [potential, h] at hp
    obtain ⟨x, y, hx, hy, rfl⟩ := W.add_some_iff.1 hp
    cases hx
    exact ⟨u, y, hy, by rw [hy]; rfl⟩

theorem potential_tri {m : Mat N} (hc : Closed m) (c : Fin N → Int) (a b : Fin N) :
    W.LE (potential m c b) (W.add (potential m c a) (m.get a b)) := by
  obtain ⟨u, k, hk, hp⟩ := potential_attained hc c a
  rw [hp]
  have h1 := potential_le_source (m := m) c u b
  have h2 : W.LE (W.add (some (c u)) (m.get u b)) (W.add (some (c u)) (W.add (m.get u a) (m.get a b))) :=
    W.add_mono (W.LE_refl _) (hc.tri u b a)
  have h3 := W.LE_trans h1 h2
  rw [hk, ← W.add_assoc] at h3
  exact h3

theorem solution_sat {m : Mat N} (hc : Closed m) (c : Fin N → Int) : m.sat (solution m c) := by
  intro a b k hk
  have h := potential_tri hc c a b
  obtain ⟨pa, hpa⟩ := potential_finite hc c a
  obtain ⟨pb, hpb⟩ := potential_finite hc c b
  rw [hpa, hpb, hk] at h
  have := W.LE_some_some.1 (by simpa [W.add] using h)
  simp only [solution, hpa, hpb, Option.getD_some]
  omega

theorem closed_sat {m : Mat N} (hc : Closed m) : ∃ v, m.sat v := ⟨_, solution_sat hc (fun _ => 0)⟩


/-- with cost `0` at `i` and a large `L` elsewhere, the potential of `j` is the entry `(i, j)` when
    that is finite and at least `L - absSum m` otherwise: a path from another source costs `L` -/
theorem witness_pot {m : Mat N} (hc : Closed m) (i j : Fin N) {L : Int} (hL : 2 * absSum m ≤ L) :
    ∃ p, potential m (fun u => if u = i then 0 else L) j = some p ∧
      (∀ d, m.get i j = some d → p = d) ∧ (m.get i j = none → L - absSum m ≤ p) := by
  have hE := absSum_nonneg m
  obtain ⟨u, k, hk, hp⟩ := potential_attained hc (fun u => if u = i then 0 else L) j
  have hbk := abs_le_absSum hk
  refine ⟨_, hp, fun d hd => ?_, fun hd => ?_⟩
  · have hle := potential_le_source (m := m) (fun u => if u = i then 0 else L) i j
    rw [hp, hd] at hle
    have h1 := W.LE_some_some.1 hle
    have hbd := abs_le_absSum hd
    by_cases hu : u = i
    · subst hu; rw [hd] at hk; cases hk; simp
    · simp only [hu, if_false, if_true] at h1 ⊢; omega
  · by_cases hu : u = i
    · subst hu; rw [hd] at hk; cases hk
    · simp only [hu, if_false]; omega

theorem witness_finite {m : Mat N} (hc : Closed m) (i j : Fin N) {L d : Int}
    (hL : 2 * absSum m ≤ L) (hd : m.get i j = some d) :
    witness m i L i - witness m i L j = d := by
  obtain ⟨p0, h0, e0, _⟩ := witness_pot hc i i hL
  obtain ⟨p, hp, e, _⟩ := witness_pot hc i j hL
  have := e0 0 (hc.diag i)
  have := e d hd
  simp only [witness, solution, h0, hp, Option.getD_some]
  omega

theorem witness_infinite {m : Mat N} (hc : Closed m) (i j : Fin N) {L : Int}
    (hL : 2 * absSum m ≤ L) (hd : m.get i j = none) :
    L - absSum m ≤ witness m i L i - witness m i L j := by
  obtain ⟨p0, h0, e0, _⟩ := witness_pot hc i i hL
  obtain ⟨p, hp, _, e⟩ := witness_pot hc i j hL
  have := e0 0 (hc.diag i)
  have := e hd
  simp only [witness, solution, h0, hp, Option.getD_some]
  omega

/-- **tightness of closed matrices**: every finite entry is attained by a solution, every
    infinite entry is unbounded over the solutions -/
theorem Closed.tight {m : Mat N} (hc : Closed m) (i j : Fin N) :
    (∀ d, m.get i j = some d → ∃ v, m.sat v ∧ v i - v j = d) ∧
    (m.get i j = none → ∀ B : Int, ∃ v, m.sat v ∧ B < v i - v j) := by
  have hE := absSum_nonneg m
  constructor
  · intro d hd
    exact ⟨witness m i (2 * absSum m), solution_sat hc _, witness_finite hc i j (Int.le_refl _) hd⟩
  · intro hd B
    refine ⟨witness m i (2 * absSum m + max B 0 + 1), solution_sat hc _, ?_⟩
    have := witness_infinite hc i j (L := 2 * absSum m + max B 0 + 1) (by omega) hd
    omega


/-- an entry of a closed matrix is below every bound that all solutions respect -/
theorem Closed.entry_LE_of_implied {m : Mat N} (hc : Closed m) {i j : Fin N} {k : Int}
    (h : ∀ v, m.sat v → v i - v j ≤ k) : W.LE (m.get i j) (some k) := by
  obtain ⟨h1, h2⟩ := hc.tight i j
  cases hd : m.get i j with
  | none =>
    obtain ⟨v, hv, hlt⟩ := h2 hd k
    have := h v hv
    omega
  | some d =>
    obtain ⟨v, hv, he⟩ := h1 d hd
    have := h v hv
    exact W.LE_some_some.2 (by omega)

theorem Closed.LE_of_sat_imp {a b : Mat N} (ha : Closed a) (h : ∀ v, a.sat v → b.sat v) : LE a b :=
  fun i j k hk => ha.entry_LE_of_implied (fun v hv => h v hv i j k hk) k rfl

theorem Closed.eq_of_sat_iff {a b : Mat N} (ha : Closed a) (hb : Closed b)
    (h : ∀ v, a.sat v ↔ b.sat v) : a = b :=
  ext_get fun i j => (ha.LE_of_sat_imp (fun v => (h v).1) i j).antisymm
    (hb.LE_of_sat_imp (fun v => (h v).2) i j)

/-- Floyd–Warshall computes the closed matrix with the same solutions: to identify `fw m` it is
    enough to exhibit a closed matrix equivalent to `m` -/
theorem Closed.fw_eq {m c : Mat N} (hc : Closed c) (h : ∀ v, c.sat v ↔ m.sat v) : fw m = c := by
  obtain ⟨v, hv⟩ := closed_sat hc
  have hn : hasNegDiag (fw m) = false := by
    cases hd : hasNegDiag (fw m)
    · rfl
    · exact absurd ((fw_sat m v).2 ((h v).1 hv)) (not_sat_of_hasNegDiag hd v)
  exact (fw_closed hn).eq_of_sat_iff hc fun v => (fw_sat m v).trans (h v).symm

end Mat
end Dbm
end Crab
