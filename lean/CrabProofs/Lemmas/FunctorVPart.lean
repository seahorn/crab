import CrabModel.Dom.Functors.ValuePartitioning
import CrabProofs.Lemmas.FunctorBase

/-!
`value_partitioning_domain` over an arbitrary base (`CrabModel/Dom/Functors/ValuePartitioning.lean`):
concretisation and invariant lemmas for the primitives (`merge_partitions`, `remove_partitions`,
the three loops of `update_partitions`).
-/
namespace Crab
namespace Dom
namespace Fct
namespace VP
set_option linter.unusedSectionVars false

variable {V S : Type} [DecidableEq V] {D : VDom V S}

def γl (l : List (Part D)) (s : S) : Prop := ∃ p ∈ l, D.γ p.val s

theorem γ_iff (a : VP D) (s : S) : γ a s ↔ γl a.parts s := Iff.rfl

theorem γl_nil (s : S) : ¬ γl ([] : List (Part D)) s := by
  rintro ⟨p, hp, _⟩; simp at hp

theorem γl_cons {p : Part D} {l : List (Part D)} {s : S} : γl (p :: l) s ↔ D.γ p.val s ∨ γl l s := by
  simp [γl]

theorem γl_head {p : Part D} {l : List (Part D)} {s : S} (h : D.γ p.val s) : γl (p :: l) s := γl_cons.2 (Or.inl h)
theorem γl_tail {p : Part D} {l : List (Part D)} {s : S} (h : γl l s) : γl (p :: l) s := γl_cons.2 (Or.inr h)

theorem γl_mono {l l' : List (Part D)} (h : ∀ q, q ∈ l → q ∈ l') {s : S} (hg : γl l s) : γl l' s := by
  obtain ⟨q, hq, hg⟩ := hg
  exact ⟨q, h q hq, hg⟩

theorem inv_single (v : Option V) (p : Part D) : Inv (⟨v, [p]⟩ : VP D) := ⟨by simp, fun _ => rfl⟩

theorem Inv.single {a : VP D} (h : Inv a) (hv : a.var = none) : ∃ p, a.parts = [p] := by
  have := h.2 hv
  match hp : a.parts, this with
  | [p], _ => exact ⟨p, rfl⟩

theorem Inv.cons {a : VP D} (h : Inv a) : ∃ p ps, a.parts = p :: ps := by
  match hp : a.parts with
  | [] => exact absurd hp h.1
  | p :: ps => exact ⟨p, ps, rfl⟩

/-! ### is_bottom / is_top -/

theorem not_γ_of_isBottom {a : VP D} (h : isBottom a = true) (s : S) : ¬ γ a s := by
  rintro ⟨p, hp, hg⟩
  have := List.all_eq_true.1 h p hp
  exact D.isBot_sound p.val s this hg

theorem isBottom_false_of_γ {a : VP D} {s : S} (h : γ a s) : isBottom a = false := by
  cases hb : isBottom a
  · rfl
  · exact absurd h (not_γ_of_isBottom hb s)

theorem γ_of_isTop (t : D.TopSound) {a : VP D} (hi : a.parts ≠ []) (h : isTop a = true) (s : S) : γ a s := by
  match hp : a.parts with
  | [] => exact absurd hp hi
  | p :: ps =>
    refine ⟨p, by rw [hp]; exact List.mem_cons_self, t p.val s ?_⟩
    exact List.all_eq_true.1 h p (by rw [hp]; exact List.mem_cons_self)

/-! ### merge_partitions / remove_partitions -/

theorem foldl_join_val (ps : List (Part D)) (acc : Part D) :
    (ps.foldl Part.join acc).val = ps.foldl (fun v q => D.join v q.val) acc.val :=
  (List.foldl_hom Part.val fun _ _ => rfl).symm

theorem mergeParts_sound {l : List (Part D)} {s : S} (h : γl l s) : D.γ (mergeParts l).val s := by
  match l with
  | [] => exact absurd h (γl_nil s)
  | p :: ps => rw [mergeParts, foldl_join_val]; exact D.foldl_join_sound _ ps _ s (γl_cons.1 h)

theorem removeParts_var_some {a : VP D} {x : V} (h : a.var = some x) :
    removeParts a = ⟨none, [⟨Itv.top, (mergeParts a.parts).val⟩]⟩ := by
  unfold removeParts; rw [h]

theorem removeParts_var_none {a : VP D} (h : a.var = none) : removeParts a = a := by
  unfold removeParts; rw [h]

theorem removeParts_var (a : VP D) : (removeParts a).var = none := by
  unfold removeParts
  split
  · assumption
  · rfl

theorem removeParts_single {a : VP D} (h : Inv a) :
    ∃ p0, (removeParts a).parts = [p0] ∧ ∀ s, γ a s → D.γ p0.val s := by
  cases hv : a.var with
  | none =>
    obtain ⟨p, hp⟩ := h.single hv
    refine ⟨p, by rw [removeParts_var_none hv, hp], ?_⟩
    rintro s ⟨q, hq, hg⟩
    rw [hp] at hq
    simp only [List.mem_singleton] at hq
    exact hq ▸ hg
  | some x =>
    exact ⟨⟨Itv.top, (mergeParts a.parts).val⟩, by rw [removeParts_var_some hv], fun s hg => mergeParts_sound hg⟩

theorem removeParts_inv {a : VP D} (h : Inv a) : Inv (removeParts a) := by
  obtain ⟨p0, hp, _⟩ := removeParts_single h
  exact ⟨by rw [hp]; simp, fun _ => by rw [hp]; rfl⟩

theorem removeParts_sound {a : VP D} (h : Inv a) {s : S} (hg : γ a s) : γ (removeParts a) s := by
  obtain ⟨p0, hp, h0⟩ := removeParts_single h
  exact ⟨p0, by rw [hp]; exact List.mem_singleton.2 rfl, h0 s hg⟩

/-! ### update_partitions -/

theorem refreshGo_sound (x : V) (n : Nat) (l : List (Part D)) (s : S) (h : γl l s) :
    γl (refreshGo x n l).1 s := by
  induction l generalizing n with
  | nil => exact absurd h (γl_nil s)
  | cons p ps ih =>
    simp only [refreshGo]
    rcases γl_cons.1 h with h1 | h1
    · have hb : (D.itvOf p.val x).isBottom = false := by
        cases hb : (D.itvOf p.val x).isBottom
        · rfl
        · exact absurd h1 (D.itvOf_bot _ _ _ hb)
      simp only [hb, Bool.false_eq_true, if_false]
      exact γl_head h1
    · have h2 := ih (n + 1) h1
      split
      · split
        · exact h2
        · rename_i hlen
          obtain ⟨q, hq, _⟩ := h2
          have : 0 < (refreshGo x (n + 1) ps).1.length := List.length_pos_of_mem hq
          omega
      · exact γl_tail h2

theorem refreshGo_length (x : V) (n : Nat) (l : List (Part D)) (h : l ≠ []) :
    1 ≤ n + (refreshGo x n l).1.length := by
  match l with
  | [] => exact absurd rfl h
  | p :: ps =>
    simp only [refreshGo]
    split
    · split
      · rename_i h1; simp only; omega
      · simp
    · simp only [List.length_cons]; omega

theorem mem_insertPart (p q : Part D) (l : List (Part D)) : q ∈ insertPart p l ↔ q = p ∨ q ∈ l := by
  induction l with
  | nil => simp [insertPart]
  | cons r rs ih =>
    simp only [insertPart]
    split
    · simp only [List.mem_cons, ih]
      constructor
      · rintro (h | h | h)
        · exact Or.inr (Or.inl h)
        · exact Or.inl h
        · exact Or.inr (Or.inr h)
      · rintro (h | h | h)
        · exact Or.inr (Or.inl h)
        · exact Or.inl h
        · exact Or.inr (Or.inr h)
    · simp only [List.mem_cons]

theorem mem_sortParts (q : Part D) (l : List (Part D)) : q ∈ sortParts l ↔ q ∈ l := by
  induction l with
  | nil => simp [sortParts]
  | cons r rs ih => simp only [sortParts, mem_insertPart, ih, List.mem_cons]

theorem sortParts_ne_nil {l : List (Part D)} (h : l ≠ []) : sortParts l ≠ [] := by
  match l with
  | [] => exact absurd rfl h
  | p :: ps =>
    intro he
    have : p ∈ sortParts (p :: ps) := (mem_sortParts p _).2 List.mem_cons_self
    rw [he] at this
    simp at this

theorem absorb_sound (p : Part D) (ps : List (Part D)) (s : S) (h : D.γ p.val s ∨ γl ps s) :
    D.γ (absorb p ps).1.val s ∨ γl (absorb p ps).2 s := by
  induction ps generalizing p with
  | nil => exact h
  | cons q qs ih =>
    simp only [absorb]
    split
    · apply ih
      rcases h with h | h
      · exact Or.inl (D.join_l _ _ _ h)
      · rcases γl_cons.1 h with h1 | h1
        · exact Or.inl (D.join_r _ _ _ h1)
        · exact Or.inr h1
    · exact h

theorem absorb_ne (p : Part D) (ps : List (Part D)) : (absorb p ps).1 :: (absorb p ps).2 ≠ [] := by simp

theorem mergeAdj_sound (l : List (Part D)) (s : S) (h : γl l s) : γl (mergeAdj l) s := by
  induction l with
  | nil => exact absurd h (γl_nil s)
  | cons p ps ih =>
    simp only [mergeAdj]
    apply γl_cons.2
    apply absorb_sound
    rcases γl_cons.1 h with h1 | h1
    · exact Or.inl h1
    · exact Or.inr (ih h1)

theorem mergeAdj_ne_nil {l : List (Part D)} (h : l ≠ []) : mergeAdj l ≠ [] := by
  match l with
  | [] => exact absurd rfl h
  | p :: ps => simp [mergeAdj]

theorem updateParts_none {a : VP D} (hv : a.var = none) : updateParts a = a := by
  unfold updateParts; rw [hv]

theorem updateParts_some {a : VP D} {x : V} (hv : a.var = some x) :
    updateParts a = if (refreshGo x 0 a.parts).2 then ⟨a.var, (refreshGo x 0 a.parts).1⟩
      else ⟨a.var, mergeAdj (sortParts (refreshGo x 0 a.parts).1)⟩ := by
  unfold updateParts; rw [hv]

theorem updateParts_var (a : VP D) : (updateParts a).var = a.var := by
  cases hv : a.var with
  | none => rw [updateParts_none hv, hv]
  | some x => rw [updateParts_some hv]; split <;> exact hv

theorem updateParts_sound (a : VP D) (s : S) (h : γ a s) : γ (updateParts a) s := by
  cases hv : a.var with
  | none => rw [updateParts_none hv]; exact h
  | some x =>
    rw [updateParts_some hv]
    have h1 := refreshGo_sound x 0 a.parts s h
    split
    · exact h1
    · refine mergeAdj_sound _ s ?_
      exact γl_mono (fun q hq => (mem_sortParts q _).2 hq) h1

theorem updateParts_ne_nil {a : VP D} (h : a.parts ≠ []) : (updateParts a).parts ≠ [] := by
  cases hv : a.var with
  | none => rw [updateParts_none hv]; exact h
  | some x =>
    rw [updateParts_some hv]
    have h1 := refreshGo_length x 0 a.parts h
    have h2 : (refreshGo x 0 a.parts).1 ≠ [] := by
      intro he; rw [he] at h1; simp at h1
    split
    · exact h2
    · exact mergeAdj_ne_nil (sortParts_ne_nil h2)

theorem updateParts_inv {a : VP D} (h : Inv a) : Inv (updateParts a) := by
  refine ⟨updateParts_ne_nil h.1, fun hv => ?_⟩
  rw [updateParts_var] at hv
  rw [updateParts_none hv]; exact h.2 hv

/-- with a partitioning variable every non-empty vector is fine -/
theorem inv_of_some {a : VP D} {x : V} (hv : a.var = some x) (h : a.parts ≠ []) : Inv a :=
  ⟨h, fun hn => by rw [hv] at hn; cases hn⟩

end VP
end Fct
end Dom
end Crab
