import CrabProofs.Lemmas.IDomOps

/-!
  Soundness of `rename(from, to)` of the interval domain: the loop moves one binding at a time
  (`renameStep_sound`), and the concrete state follows it (`Env.RenameRel`).
-/
namespace Crab
namespace IDom
open Lin

namespace Env

theorem renameStep_sound {m : Map} {τ : State} (hg : γ ⟨false, m⟩ τ) {k nk : Var} (hne : k ≠ nk)
    (hfresh : Map.find m nk = none) (n : Int) :
    γ ⟨false, match Map.find m k with
        | some v => (if !v.isTop then m.insert nk v else m).remove k
        | none => m⟩ (upd (upd τ nk (τ k)) k n) := by
  have hm := (γ_iff_of_not_bottom rfl τ).1 hg
  simp only [] at hm
  rw [γ_iff_of_not_bottom rfl]
  intro x w hw
  simp only [] at hw
  cases hk : Map.find m k with
  | none =>
    rw [hk] at hw
    simp only [] at hw
    have hxk : x ≠ k := fun h => by rw [h, hk] at hw; simp at hw
    have hxn : x ≠ nk := fun h => by rw [h, hfresh] at hw; simp at hw
    rw [upd_other _ _ hxk, upd_other _ _ hxn]
    exact hm x w hw
  | some v =>
    rw [hk] at hw
    simp only [] at hw
    rw [Map.find_remove] at hw
    split at hw
    · simp at hw
    · rename_i hxk
      rw [upd_other _ _ hxk]
      by_cases ht : v.isTop = true
      · simp only [ht, Bool.not_true, Bool.false_eq_true, if_false] at hw
        have hxn : x ≠ nk := fun h => by rw [h, hfresh] at hw; simp at hw
        rw [upd_other _ _ hxn]
        exact hm x w hw
      · simp only [ht, Bool.not_false, if_true, Map.find_insert] at hw
        split at hw
        · rename_i hxn
          simp only [Option.some.injEq] at hw
          subst hw; subst hxn
          rw [upd_same]; exact hm k v hk
        · rename_i hxn
          rw [upd_other _ _ hxn]
          exact hm x w hw

/-- `RenameRel f t τ σ'` reads `τ` on the sources `f` only -/
theorem RenameRel.congr {τ τ1 σ' : State} : ∀ (f t : List Var), (∀ y ∈ f, τ1 y = τ y) →
    RenameRel f t τ σ' → RenameRel f t τ1 σ' := by
  intro f
  induction f with
  | nil => intro t _ _; cases t <;> trivial
  | cons a f' ih =>
    intro t ha hr
    cases t with
    | nil => trivial
    | cons b t' =>
      exact ⟨by rw [ha a List.mem_cons_self]; exact hr.1,
        ih t' (fun y hy => ha y (List.mem_cons_of_mem _ hy)) hr.2⟩

/-- The loop of `rename`, by induction on the pairs.  After the first pair `(k, nk)` the map
    describes the state `τ1 = τ[nk ↦ τ k][k ↦ σ' k]` (`renameStep_sound`: `nk` has received the
    value of `k`, and `k`, now unbound, may already take its final value); `τ1` and the final
    state `σ'` satisfy the hypotheses for the remaining pairs because the sources are distinct,
    the targets are distinct, and no target is a source. -/
theorem renameLoop_sound : ∀ (from' to' : List Var) (m : Map) (τ σ' : State),
    from'.length = to'.length → from'.Nodup → to'.Nodup → (∀ y ∈ to', y ∉ from') →
    (∀ y ∈ to', Map.find m y = none) →
    γ ⟨false, m⟩ τ → RenameRel from' to' τ σ' → (∀ y, y ∉ from' → y ∉ to' → σ' y = τ y) →
    γ ⟨false, renameLoop from' to' m⟩ σ' := by
  intro from'
  induction from' with
  | nil =>
    intro to' m τ σ' hlen _ _ _ _ hg _ hout
    cases to' with
    | nil =>
      simp only [renameLoop]
      have : σ' = τ := by funext y; exact hout y (by simp) (by simp)
      rw [this]; exact hg
    | cons _ _ => simp at hlen
  | cons k rest ih =>
    intro to' m τ σ' hlen hnf hnt hdis hfresh hg hrel hout
    cases to' with
    | nil => simp at hlen
    | cons nk rest' =>
      simp only [List.length_cons, Nat.add_right_cancel_iff] at hlen
      have hnf' := List.nodup_cons.1 hnf
      have hnt' := List.nodup_cons.1 hnt
      have hne : k ≠ nk := fun h => hdis nk List.mem_cons_self (h ▸ List.mem_cons_self)
      obtain ⟨hrel1, hrel2⟩ := hrel
      have hstep := renameStep_sound hg hne (hfresh nk List.mem_cons_self) (σ' k)
      let τ1 := upd (upd τ nk (τ k)) k (σ' k)
      have hτ1 : ∀ y, y ≠ k → y ≠ nk → τ1 y = τ y := fun y h1 h2 => by
        simp only [τ1]; rw [upd_other _ _ h1, upd_other _ _ h2]
      unfold renameLoop
      simp only [hne, if_false]
      have key : γ ⟨false, renameLoop rest rest' (match Map.find m k with
          | some v => (if !v.isTop then m.insert nk v else m).remove k
          | none => m)⟩ σ' := by
        apply ih rest' _ τ1 σ' hlen hnf'.2 hnt'.2
        · intro y hy hyf; exact hdis y (List.mem_cons_of_mem _ hy) (List.mem_cons_of_mem _ hyf)
        · intro y hy
          have hynk : y ≠ nk := fun h => hnt'.1 (h ▸ hy)
          have hyk : y ≠ k := fun h => hdis y (List.mem_cons_of_mem _ hy) (h ▸ List.mem_cons_self)
          have hf := hfresh y (List.mem_cons_of_mem _ hy)
          cases hk : Map.find m k with
          | none => simpa using hf
          | some v =>
            simp only []
            rw [Map.find_remove]
            simp only [hyk, if_false]
            split
            · rw [Map.find_insert]; simp [hynk, hf]
            · exact hf
        · exact hstep
        · exact RenameRel.congr rest rest' (fun y hy => hτ1 y (fun h => hnf'.1 (h ▸ hy))
            (fun h => hdis nk List.mem_cons_self (h ▸ List.mem_cons_of_mem _ hy))) hrel2
        · intro y hy1 hy2
          by_cases hyk : y = k
          · subst hyk; simp [τ1]
          · by_cases hyn : y = nk
            · subst hyn
              simp only [τ1]; rw [upd_other _ _ hyk, upd_same]; exact hrel1
            · rw [hτ1 y hyk hyn]
              apply hout y
              · simp only [List.mem_cons, not_or]; exact ⟨hyk, hy1⟩
              · simp only [List.mem_cons, not_or]; exact ⟨hyn, hy2⟩
      cases hk : Map.find m k with
      | none => rw [hk] at key; exact key
      | some v => rw [hk] at key; exact key

theorem rename_sound {e e' : Env} {σ σ' : State} (hg : γ e σ) {from' to' : List Var}
    (hr : e.rename from' to' = some e')
    (hnf : from'.Nodup) (hnt : to'.Nodup) (hdis : ∀ y ∈ to', y ∉ from')
    (hfresh : ∀ y ∈ to', Map.find e.m y = none)
    (hrel : RenameRel from' to' σ σ') (hout : ∀ y, y ∉ from' → y ∉ to' → σ' y = σ y) :
    γ e' σ' :=
  rename_ind (P := fun e' => γ e' σ') hr
    (fun hbt => γ_of_isTop (by rw [hg.1, Bool.or_false] at hbt; exact hbt) σ')
    (fun _ hlen => renameLoop_sound from' to' e.m σ σ' hlen hnf hnt hdis hfresh
      ((γ_iff_of_not_bottom rfl σ).2 fun _ _ => γ_find hg) hrel hout)

end Env
end IDom
end Crab
