import CrabProofs.Lemmas.PatriciaWF

/-! The explicit-stack iterator of `tree` delivers exactly the in-order list of bindings. -/
namespace Crab
namespace Patricia
open Tree

variable {V : Type}

/-- no empty child anywhere (part of well-formedness) -/
def NE : Tree V → Prop
  | .empty => True
  | .leaf _ _ => True
  | .node _ _ l r => l ≠ .empty ∧ r ≠ .empty ∧ NE l ∧ NE r

theorem WF.ne {P : V → Prop} {t : Tree V} (h : WF P t) : NE t := by
  induction t with
  | empty => trivial
  | leaf k v => trivial
  | node p m l r ihl ihr =>
    exact ⟨h.ne_left, h.ne_right, ihl h.left, ihr h.right⟩

/-- the stack only holds nodes entered through their left branch, of height at most `F`.
    `F` is fixed for a whole iteration (the height of the tree iterated over), so that every later
    `increment` can be run with fuel `F + 1`; `fuel` below is what one call of
    `look_for_next_leaf` still has. -/
def StackOK (F : Nat) (st : List (Tree V × Nat)) : Prop :=
  ∀ e ∈ st, e.2 = 0 ∧ NE e.1 ∧ e.1.height ≤ F ∧ ∃ p m l r, e.1 = .node p m l r

/-- the bindings still to be delivered after the current leaf -/
def pending (st : List (Tree V × Nat)) : List (Nat × V) := st.flatMap (fun e => e.1.rightB.toList)

theorem pending_cons (t : Tree V) (b : Nat) (st : List (Tree V × Nat)) :
    pending ((t, b) :: st) = t.rightB.toList ++ pending st := by
  simp [pending]

/-- `look_for_next_leaf` on a non-empty tree `t` of height `≤ fuel` stops at the leftmost leaf of
    `t`; what it pushed makes the pending bindings those of `t` followed by the old ones -/
theorem descend (F : Nat) :
    ∀ (fuel : Nat) (t : Tree V) (c : Tree V) (st : List (Tree V × Nat)), NE t → t ≠ .empty →
      t.height ≤ fuel → t.height ≤ F → StackOK F st →
      ∃ k v st', lookForNextLeaf fuel t ⟨c, st⟩ = ⟨.leaf k v, st'⟩ ∧ StackOK F st' ∧
        (k, v) :: pending st' = t.toList ++ pending st := by
  intro fuel
  induction fuel with
  | zero =>
    intro t c st _ hne hh _ _
    cases t <;> simp [Tree.height] at hh
    exact absurd rfl hne
  | succ fuel ih =>
    intro t c st hn hne hh hF hst
    cases t with
    | empty => exact absurd rfl hne
    | leaf k v => exact ⟨k, v, st, rfl, hst, rfl⟩
    | node p m l r =>
      obtain ⟨n1, n2, w1, w2⟩ := hn
      simp only [Tree.height] at hh hF
      have hl : l.height ≤ fuel := by omega
      have hlF : l.height ≤ F := by omega
      have hst' : StackOK F ((Tree.node p m l r, 0) :: st) := by
        intro e he
        rcases List.mem_cons.mp he with rfl | he
        · exact ⟨rfl, ⟨n1, n2, w1, w2⟩, hF, p, m, l, r, rfl⟩
        · exact hst e he
      obtain ⟨k, v, st', e1, e2, e3⟩ := ih l c ((Tree.node p m l r, 0) :: st) w1 n1 hl hlF hst'
      refine ⟨k, v, st', ?_, e2, ?_⟩
      · simp only [lookForNextLeaf]; exact e1
      · rw [e3, pending_cons, toList_node, List.append_assoc]; rfl

/-- `increment` from a leaf: the end of the iteration when the stack is empty, otherwise the
    first pending binding becomes the current leaf -/
theorem increment_spec (F : Nat) {k : Nat} {v : V} {st : List (Tree V × Nat)} (hst : StackOK F st) :
    (st = [] ∧ (⟨.leaf k v, st⟩ : Iter V).increment (F + 1) = some ⟨.empty, []⟩) ∨
    (∃ k' v' st', (⟨.leaf k v, st⟩ : Iter V).increment (F + 1) = some ⟨.leaf k' v', st'⟩ ∧ StackOK F st' ∧
      (k', v') :: pending st' = pending st) := by
  cases st with
  | nil => exact Or.inl ⟨rfl, rfl⟩
  | cons e rest =>
    right
    obtain ⟨h0, hn, hh, p, m, l, r, he⟩ := hst e (by simp)
    obtain ⟨e1, e2⟩ := e
    simp only at h0 he
    subst h0 he
    have hrest : StackOK F rest := fun x hx => hst x (by simp [hx])
    obtain ⟨_, n2, _, w2⟩ := hn
    have hr : r.height ≤ F := by
      simp only [Tree.height] at hh
      omega
    obtain ⟨k', v', st', a1, a2, a3⟩ := descend F (F + 1) r .empty rest w2 n2 (by omega) hr hrest
    refine ⟨k', v', st', ?_, a2, ?_⟩
    · simp only [Iter.increment, Tree.isEmpty, popLoop, Bool.false_eq_true, if_false]
      simp [Tree.rightB, a1]
    · rw [a3, pending_cons]; rfl

/-- the loop from a current leaf, with enough rounds, delivers that leaf and then the pending
    bindings -/
theorem collect_spec (F : Nat) :
    ∀ (n : Nat) (k : Nat) (v : V) (st : List (Tree V × Nat)), StackOK F st → (pending st).length < n →
      iterCollect (F + 1) n ⟨.leaf k v, st⟩ = some ((k, v) :: pending st) := by
  intro n
  induction n with
  | zero => intro k v st _ h; omega
  | succ n ih =>
    intro k v st hst hlen
    simp only [iterCollect]
    rcases increment_spec F (k := k) (v := v) hst with ⟨rfl, h⟩ | ⟨k', v', st', h, hst', hp⟩
    · rw [h]
      cases n with
      | zero => simp [iterCollect, pending]
      | succ n => simp [iterCollect, pending]
    · rw [h]
      have hl : (pending st').length < n := by
        have := congrArg List.length hp
        simp at this; omega
      simp only [ih k' v' st' hst' hl, hp]

/-- **the iterator delivers the in-order list of bindings** and never raises CRAB_ERROR -/
theorem iterate_eq_toList {t : Tree V} (hn : NE t) : iterate t = some t.toList := by
  unfold iterate Iter.begin
  by_cases he : t = .empty
  · subst he
    simp [lookForNextLeaf, popLoop, iterCollect]
  · obtain ⟨k, v, st', e1, e2, e3⟩ := descend t.height (t.height + 1) t .empty [] hn he (by omega)
      (Nat.le_refl _) (fun _ h => by cases h)
    rw [e1]
    have e3' : (k, v) :: pending st' = t.toList := by simpa [pending] using e3
    have hl : (pending st').length < t.size + 1 := by
      have := congrArg List.length e3'
      rw [size_eq_length]
      simp at this; omega
    rw [collect_spec t.height (t.size + 1) k v st' e2 hl, e3']

end Patricia
end Crab
