import CrabModel.Transform.Dce
import CrabProofs.Lemmas.TIRLive

/-!
  One round of dead-code elimination with a live-out map that contains the specification
  liveness preserves executions:
    * `dce_forward`  : every execution of the original that does not end in a division by zero
                       is an execution of the result (same events, same outcome);
    * `dce_backward` : every execution of the result is an execution of the original, provided
                       the deleted statements cannot stop (`scanTotal`: no deleted division by
                       a variable or by the constant 0).
  Lowering: replacing assertions by assumes (in either direction) does not change the exit-reaching
  executions, up to the kind recorded in the events: a false assertion ends the execution
  (`failed`), a false assume blocks it -- neither reaches the exit.
-/
namespace Crab
namespace TIR

theorem mapBlocks_succsOf (P : Prog) (f : Block → Block) (hf : ∀ b, (f b).label = b.label)
    (hs : ∀ b, (f b).succ = b.succ) (l : Label) : (P.mapBlocks f).succsOf l = P.succsOf l := by
  unfold Prog.succsOf
  rw [mapBlocks_block? P f hf l]
  cases P.block? l with
  | none => rfl
  | some b => simp [hs]

theorem mapBlocks_stmtsOf (P : Prog) (f : Block → Block) (hf : ∀ b, (f b).label = b.label)
    (g : Label → List Stmt → List Stmt) (hg : ∀ b, (f b).stmts = g b.label b.stmts) (hnil : ∀ l, g l [] = [])
    (l : Label) : (P.mapBlocks f).stmtsOf l = g l (P.stmtsOf l) := by
  unfold Prog.stmtsOf
  rw [mapBlocks_block? P f hf l]
  cases hb : P.block? l with
  | none => simp [hnil]
  | some b =>
    simp [hg, (block?_mem hb).2]

theorem mapBlocks_isExit (P : Prog) (f : Block → Block) (l : Label) :
    (P.mapBlocks f).isExit l = P.isExit l := rfl

theorem mapBlocks_outputs (P : Prog) (f : Block → Block) : (P.mapBlocks f).outputs = P.outputs := rfl

def dceF (L : LiveMap) (b : Block) : Block := { b with stmts := (dceScan b.stmts (L b.label)).1 }

theorem dceRound_eq (P : Prog) (L : LiveMap) : dceRound P L = P.mapBlocks (dceF L) := rfl

theorem dceRound_succsOf (P : Prog) (L : LiveMap) (l : Label) : (dceRound P L).succsOf l = P.succsOf l := by
  rw [dceRound_eq]; exact mapBlocks_succsOf P (dceF L) (fun _ => rfl) (fun _ => rfl) l

theorem dceRound_stmtsOf (P : Prog) (L : LiveMap) (l : Label) :
    (dceRound P L).stmtsOf l = (dceScan (P.stmtsOf l) (L l)).1 := by
  rw [dceRound_eq]
  exact mapBlocks_stmtsOf P (dceF L) (fun _ => rfl) (fun l s => (dceScan s (L l)).1) (fun _ => rfl) (fun _ => rfl) l

theorem dceScan_snd_cons (s : Stmt) (rest : List Stmt) (S : VarSet) :
    (dceScan (s :: rest) S).2 = VarSet.diff (dceScan rest S).2 s.defs ++ s.uses := by
  simp only [dceScan]; split <;> rfl

theorem dceScan_fst_dead (s : Stmt) (rest : List Stmt) (S : VarSet)
    (h : s.isDeadFor (dceScan rest S).2 = true) : (dceScan (s :: rest) S).1 = (dceScan rest S).1 := by
  simp [dceScan, h]

theorem dceScan_fst_kept (s : Stmt) (rest : List Stmt) (S : VarSet)
    (h : s.isDeadFor (dceScan rest S).2 = false) : (dceScan (s :: rest) S).1 = s :: (dceScan rest S).1 := by
  simp [dceScan, h]

theorem defs_single (s : Stmt) : s.defs = [] ∨ ∃ d, s.defs = [d] := by
  cases s <;> simp [Stmt.defs]

theorem isDeadFor_spec {s : Stmt} {S : VarSet} (h : s.isDeadFor S = true) :
    ∃ d, s.defs = [d] ∧ d ∉ S := by
  simp only [Stmt.isDeadFor, includedDefs, Bool.and_eq_true, Bool.not_eq_eq_eq_not, Bool.not_true] at h
  rcases defs_single s with h0 | ⟨d, hd⟩
  · rw [h0] at h; simp at h
  · refine ⟨d, hd, ?_⟩
    rw [hd] at h
    simpa using h.2

section
variable (P : Prog) (L : LiveMap) (hL : ∀ l x, LiveAt P [] l x → x ∈ L l)
include hL

theorem liveAt_sub_scan {stmts : List Stmt} {l : Label} {x : Var} (h : LiveAt P stmts l x) :
    x ∈ (dceScan stmts (L l)).2 := by
  induction h with
  | @here s rest l x hu => rw [dceScan_snd_cons]; simp [hu]
  | @later s rest l x _ hd _ ih =>
    rw [dceScan_snd_cons]
    exact List.mem_append.mpr (Or.inl (VarSet.mem_diff.mpr ⟨ih, hd⟩))
  | @goto l l' x hne hmem h' _ => exact hL l x (LiveAt.goto hne hmem h')
  | @out l x hx hm => exact hL l x (LiveAt.out hx hm)

theorem agree_after_dead {s : Stmt} {rest : List Stmt} {l : Label} {σ σ1 σ' : State} {hv : Int} {ev : Option Event}
    (hdead : s.isDeadFor (dceScan rest (L l)).2 = true)
    (hstep : stepStmt s σ hv = .cont σ1 ev)
    (hag : ∀ y, LiveAt P (s :: rest) l y → σ y = σ' y) :
    ∀ y, LiveAt P rest l y → σ1 y = σ' y := by
  intro y hy
  obtain ⟨d, hd, hdn⟩ := isDeadFor_spec hdead
  have hyS := liveAt_sub_scan P L hL hy
  have hyd : y ∉ s.defs := by
    rw [hd]; intro hc
    simp only [List.mem_singleton] at hc
    subst hc
    exact hdn hyS
  rw [stepStmt_frame s σ σ1 hv ev hstep y hyd]
  exact hag y (LiveAt.later (not_unreachable_of_cont hstep) hyd hy)

theorem dce_forward {stmts : List Stmt} {l : Label} {σ : State} {t : List Event} {o : Outcome}
    (h : Exec P stmts l σ t o) (ho : o ≠ .divzero) :
    ∀ σ' : State, (∀ y, LiveAt P stmts l y → σ y = σ' y) →
      Exec (dceRound P L) (dceScan stmts (L l)).1 l σ' t o := by
  induction h with
  | exit hex =>
    intro σ' hag
    rw [LiveAt.outputs_agree hex hag]
    exact Exec.exit (P := dceRound P L) hex
  | @goto l l' σ t o hex hmem _ ih =>
    intro σ' hag
    have h1 := ih ho σ' (fun y hy => hag y (LiveAt.goto hex hmem hy))
    rw [← dceRound_stmtsOf] at h1
    exact Exec.goto (P := dceRound P L) hex (by rw [dceRound_succsOf]; exact hmem) h1
  | stuck hex hs =>
    intro σ' _
    exact Exec.stuck (P := dceRound P L) hex (by rw [dceRound_succsOf]; exact hs)
  | @cont s rest l σ σ1 ev t o hv hstep _ ih =>
    intro σ' hag
    cases hdead : s.isDeadFor (dceScan rest (L l)).2 with
    | true =>
      rw [dceScan_fst_dead s rest (L l) hdead]
      obtain ⟨d, hd, _⟩ := isDeadFor_spec hdead
      have hev : ev = none := stepStmt_def_noevent s σ σ1 hv ev hstep (by rw [hd]; simp)
      subst hev
      simpa [evs] using ih ho σ' (agree_after_dead P L hL hdead hstep hag)
    | false =>
      rw [dceScan_fst_kept s rest (L l) hdead]
      obtain ⟨σ1', hs', hag'⟩ := LiveAt.step_cont hag hstep
      exact Exec.cont hv hs' (ih ho σ1' hag')
  | @stop s rest l σ ev o hv hstep =>
    intro σ' hag
    cases hdead : s.isDeadFor (dceScan rest (L l)).2 with
    | true =>
      obtain ⟨d, hd, _⟩ := isDeadFor_spec hdead
      exact absurd (stepStmt_def_stop s σ hv ev o hstep (by rw [hd]; simp)).2 ho
    | false =>
      rw [dceScan_fst_kept s rest (L l) hdead]
      exact Exec.stop hv (LiveAt.step_stop hag hstep)

end

/-- every statement the scan deletes is total (cannot stop) -/
def scanTotal : List Stmt → VarSet → Bool
  | [], _ => true
  | s :: rest, S => scanTotal rest S && (!s.isDeadFor (dceScan rest S).2 || s.total)

def dceTotal (P : Prog) (L : LiveMap) : Bool := P.blocks.all (fun b => scanTotal b.stmts (L b.label))

theorem dceTotal_stmtsOf {P : Prog} {L : LiveMap} (h : dceTotal P L = true) (l : Label) :
    scanTotal (P.stmtsOf l) (L l) = true := by
  unfold Prog.stmtsOf
  cases hb : P.block? l with
  | none => rfl
  | some b =>
    simp only
    unfold dceTotal at h
    rw [List.all_eq_true] at h
    exact (block?_mem hb).2 ▸ h b (block?_mem hb).1

section
variable (P : Prog) (L : LiveMap) (hL : ∀ l x, LiveAt P [] l x → x ∈ L l)
include hL

def KeptFirst (l : Label) (stmts : List Stmt) : Prop :=
  stmts = [] ∨ ∃ s r, stmts = s :: r ∧ s.isDeadFor (dceScan r (L l)).2 = false

omit hL in
theorem KeptFirst.of_nil {l : Label} {stmts : List Stmt} (h : KeptFirst L l stmts)
    (hss : [] = (dceScan stmts (L l)).1) : stmts = [] := by
  rcases h with rfl | ⟨s, r, rfl, hk⟩
  · rfl
  · rw [dceScan_fst_kept s r (L l) hk] at hss; cases hss

omit hL in
theorem KeptFirst.of_cons {l : Label} {stmts : List Stmt} {s' : Stmt} {rest' : List Stmt} (h : KeptFirst L l stmts)
    (hss : s' :: rest' = (dceScan stmts (L l)).1) : ∃ r, stmts = s' :: r ∧ rest' = (dceScan r (L l)).1 := by
  rcases h with rfl | ⟨s, r, rfl, hk⟩
  · cases hss
  · rw [dceScan_fst_kept s r (L l) hk] at hss
    cases hss
    exact ⟨r, rfl, rfl⟩

/-- run the original silently through the deleted statements in front of the next kept one -/
theorem advance (l : Label) (σ' : State) :
    ∀ (stmts : List Stmt) (σ : State), (∀ y, LiveAt P stmts l y → σ y = σ' y) →
      scanTotal stmts (L l) = true →
      ∃ (stmts2 : List Stmt) (σ2 : State),
        (∀ t o, Exec P stmts2 l σ2 t o → Exec P stmts l σ t o) ∧
        (dceScan stmts2 (L l)).1 = (dceScan stmts (L l)).1 ∧
        (∀ y, LiveAt P stmts2 l y → σ2 y = σ' y) ∧
        scanTotal stmts2 (L l) = true ∧ KeptFirst L l stmts2 := by
  intro stmts
  induction stmts with
  | nil => intro σ hag ht; exact ⟨[], σ, fun _ _ h => h, rfl, hag, ht, Or.inl rfl⟩
  | cons s rest ih =>
    intro σ hag ht
    simp only [scanTotal, Bool.and_eq_true, Bool.or_eq_true, Bool.not_eq_eq_eq_not, Bool.not_true] at ht
    cases hdead : s.isDeadFor (dceScan rest (L l)).2 with
    | false =>
      refine ⟨s :: rest, σ, fun _ _ h => h, rfl, hag, ?_, Or.inr ⟨s, rest, rfl, hdead⟩⟩
      simp [scanTotal, ht.1, hdead]
    | true =>
      have htot : s.total = true := by
        rcases ht.2 with h | h
        · rw [hdead] at h; cases h
        · exact h
      obtain ⟨σ1, hstep⟩ := stepStmt_total s σ 0 htot
      have hag1 := agree_after_dead P L hL hdead hstep hag
      obtain ⟨stmts2, σ2, h1, h2, h3, h4, h5⟩ := ih σ1 hag1 ht.1
      refine ⟨stmts2, σ2, ?_, ?_, h3, h4, h5⟩
      · intro t o he
        have := Exec.cont (P := P) (l := l) 0 hstep (h1 t o he)
        simpa [evs] using this
      · rw [h2, dceScan_fst_dead s rest (L l) hdead]

/-- going back from the result, it is enough to treat the configurations of the original whose
    first statement is kept: the original runs silently through the deleted ones in front -/
theorem dce_back_skip {ss : List Stmt} {l : Label} {σ' : State} {t : List Event} {o : Outcome}
    (main : ∀ (stmts : List Stmt) (σ : State), KeptFirst L l stmts → ss = (dceScan stmts (L l)).1 →
      (∀ y, LiveAt P stmts l y → σ y = σ' y) → scanTotal stmts (L l) = true → Exec P stmts l σ t o) :
    ∀ (stmts : List Stmt) (σ : State), ss = (dceScan stmts (L l)).1 →
      (∀ y, LiveAt P stmts l y → σ y = σ' y) → scanTotal stmts (L l) = true → Exec P stmts l σ t o := by
  intro stmts σ hss hag ht
  obtain ⟨stmts2, σ2, h1, h2, h3, h4, h5⟩ := advance P L hL l σ' stmts σ hag ht
  exact h1 t o (main stmts2 σ2 h5 (h2 ▸ hss) h3 h4)

theorem dce_backward (htot : dceTotal P L = true)
    {ss : List Stmt} {l : Label} {σ' : State} {t : List Event} {o : Outcome}
    (h : Exec (dceRound P L) ss l σ' t o) :
    ∀ (stmts : List Stmt) (σ : State), ss = (dceScan stmts (L l)).1 →
      (∀ y, LiveAt P stmts l y → σ y = σ' y) → scanTotal stmts (L l) = true →
      Exec P stmts l σ t o := by
  induction h with
  | @exit l σ' hex =>
    refine dce_back_skip P L hL (fun stmts σ hk hss hag _ => ?_)
    obtain rfl := hk.of_nil L hss
    show Exec P [] l σ [] (Outcome.exit (P.outputs.map σ'))
    rw [← LiveAt.outputs_agree (P := P) hex hag]
    exact Exec.exit hex
  | @goto l l' σ' t o hex hmem _ ih =>
    refine dce_back_skip P L hL (fun stmts σ hk hss hag _ => ?_)
    obtain rfl := hk.of_nil L hss
    rw [dceRound_succsOf] at hmem
    exact Exec.goto hex hmem (ih (P.stmtsOf l') σ (dceRound_stmtsOf P L l')
      (fun y hy => hag y (LiveAt.goto hex hmem hy)) (dceTotal_stmtsOf htot l'))
  | @stuck l σ' hex hs =>
    refine dce_back_skip P L hL (fun stmts σ hk hss _ _ => ?_)
    obtain rfl := hk.of_nil L hss
    rw [dceRound_succsOf] at hs
    exact Exec.stuck hex hs
  | @cont s' rest' l σ' σ1' ev t o hv hstep _ ih =>
    refine dce_back_skip P L hL (fun stmts σ hk hss hag ht => ?_)
    obtain ⟨r, rfl, hrest⟩ := hk.of_cons L hss
    -- the step of the result, taken back to the original (agreement is symmetric)
    obtain ⟨σ3, hs2, hag3⟩ := LiveAt.step_cont (fun y hy => (hag y hy).symm) hstep
    have ht' : scanTotal r (L l) = true := by
      simp only [scanTotal, Bool.and_eq_true] at ht; exact ht.1
    exact Exec.cont hv hs2 (ih r σ3 hrest (fun y hy => (hag3 y hy).symm) ht')
  | @stop s' rest' l σ' ev o hv hstep =>
    refine dce_back_skip P L hL (fun stmts σ hk hss hag _ => ?_)
    obtain ⟨r, rfl, _⟩ := hk.of_cons L hss
    exact Exec.stop hv (LiveAt.step_stop (fun y hy => (hag y hy).symm) hstep)

end

theorem dceScan_subset (stmts : List Stmt) (S : VarSet) : ∀ s, s ∈ (dceScan stmts S).1 → s ∈ stmts := by
  induction stmts with
  | nil => intro s h; simp [dceScan] at h
  | cons a rest ih =>
    intro s h
    cases hd : a.isDeadFor (dceScan rest S).2 with
    | true => rw [dceScan_fst_dead a rest S hd] at h; exact List.mem_cons_of_mem _ (ih s h)
    | false =>
      rw [dceScan_fst_kept a rest S hd] at h
      rcases List.mem_cons.mp h with rfl | h
      · exact List.mem_cons_self
      · exact List.mem_cons_of_mem _ (ih s h)

theorem dceRound_labels (P : Prog) (L : LiveMap) : (dceRound P L).labels = P.labels :=
  mapBlocks_labels P (dceF L) (fun _ => rfl)

/-- every statement that defines a variable is total (no division by a variable or by 0) -/
def Prog.defsTotal (P : Prog) : Bool :=
  P.blocks.all (fun b => b.stmts.all (fun s => s.defs.isEmpty || s.total))

theorem scanTotal_of_all (stmts : List Stmt) (S : VarSet)
    (h : stmts.all (fun s => s.defs.isEmpty || s.total) = true) : scanTotal stmts S = true := by
  induction stmts with
  | nil => rfl
  | cons s rest ih =>
    simp only [List.all_cons, Bool.and_eq_true, Bool.or_eq_true] at h
    simp only [scanTotal, Bool.and_eq_true, Bool.or_eq_true, Bool.not_eq_eq_eq_not, Bool.not_true]
    refine ⟨ih (by simpa using h.2), ?_⟩
    cases hd : s.isDeadFor (dceScan rest S).2 with
    | false => exact Or.inl rfl
    | true =>
      right
      rcases h.1 with h1 | h1
      · obtain ⟨d, hdd, _⟩ := isDeadFor_spec hd
        rw [hdd] at h1; simp at h1
      · exact h1

theorem dceTotal_of_defsTotal (P : Prog) (L : LiveMap) (h : P.defsTotal = true) : dceTotal P L = true := by
  unfold dceTotal
  unfold Prog.defsTotal at h
  rw [List.all_eq_true] at h ⊢
  intro b hb
  exact scanTotal_of_all b.stmts (L b.label) (h b hb)

theorem dceRound_defsTotal (P : Prog) (L : LiveMap) (h : P.defsTotal = true) :
    (dceRound P L).defsTotal = true := by
  unfold Prog.defsTotal at h ⊢
  simp only [dceRound, List.all_map, List.all_eq_true, Function.comp_def] at h ⊢
  intro b hb s hs
  exact h b hb s (dceScan_subset b.stmts (L b.label) s hs)

theorem dceRound_noUnreachable (P : Prog) (L : LiveMap) (h : P.noUnreachable = true) :
    (dceRound P L).noUnreachable = true := by
  unfold Prog.noUnreachable at h ⊢
  simp only [dceRound, List.all_map, List.all_eq_true, Function.comp_def] at h ⊢
  intro b hb s hs
  exact h b hb s (dceScan_subset b.stmts (L b.label) s hs)

/-- what the pass needs of the CFG and of the variant of the liveness code -/
structure DceInv (v : Variant) (order : List Label) (P : Prog) : Prop where
  ord : ∀ l, l ∈ P.labels → l ∈ order
  succ : ∀ l l', l' ∈ P.succsOf l → l' ∈ P.labels
  exitP : P.exitPresent
  unr : v.unreachGen = true ∨ P.noUnreachable = true
  seed : seedOk v P order

theorem DceInv.round {v : Variant} {order : List Label} {P : Prog} (L : LiveMap) (h : DceInv v order P) :
    DceInv v order (dceRound P L) where
  ord := by rw [dceRound_labels]; exact h.ord
  succ := by intro l l' hl; rw [dceRound_succsOf] at hl; rw [dceRound_labels]; exact h.succ l l' hl
  exitP := by intro l hl; rw [dceRound_labels]; exact h.exitP l hl
  unr := by
    rcases h.unr with h1 | h1
    · exact Or.inl h1
    · exact Or.inr (dceRound_noUnreachable P L h1)
  seed := h.seed

theorem coded_sound {v : Variant} {order : List Label} {P : Prog} (h : DceInv v order P) {L : LiveMap}
    (hc : codedLiveOut v P order = some L) : ∀ l x, LiveAt P [] l x → x ∈ L l := by
  intro l x hx
  have hsol := coded_isSpecSol v P order L hc h.ord h.succ h.unr h.seed
  simpa [specIn] using liveAt_sub_sol P L hsol h.exitP hx

theorem dceRound_exitBeh {v : Variant} {order : List Label} {P : Prog} (h : DceInv v order P) {L : LiveMap}
    (hc : codedLiveOut v P order = some L) (htot : P.defsTotal = true) (σ : State) (t : List Event) (outs : List Int) :
    ExitBeh P σ t outs ↔ ExitBeh (dceRound P L) σ t outs := by
  have hL := coded_sound h hc
  constructor
  · intro he
    have := dce_forward P L hL he (by simp) σ (fun _ _ => rfl)
    rw [← dceRound_stmtsOf] at this
    exact this
  · intro he
    exact dce_backward P L hL (dceTotal_of_defsTotal P L htot) he (P.stmtsOf P.entry) σ
      (dceRound_stmtsOf P L P.entry) (fun _ _ => rfl) (dceTotal_stmtsOf (dceTotal_of_defsTotal P L htot) P.entry)

theorem dce_exitBeh (v : Variant) (order : List Label) :
    ∀ (n : Nat) (P T : Prog), dce v order n P = some T → DceInv v order P → P.defsTotal = true →
      ∀ σ t outs, ExitBeh P σ t outs ↔ ExitBeh T σ t outs := by
  intro n
  induction n with
  | zero =>
    intro P T h _ _ σ t outs
    simp only [dce, Option.some.injEq] at h
    subst h; exact Iff.rfl
  | succ n ih =>
    intro P T h hinv htot σ t outs
    simp only [dce] at h
    cases hc : codedLiveOut v P order with
    | none => rw [hc] at h; cases h
    | some L =>
      rw [hc] at h
      simp only at h
      have h1 := dceRound_exitBeh hinv hc htot σ t outs
      split at h
      · exact h1.trans (ih _ T h (hinv.round L) (dceRound_defsTotal P L htot) σ t outs)
      · simp only [Option.some.injEq] at h
        subst h; exact h1

def KindRel (s s' : Stmt) : Prop :=
  s = s' ∨ ∃ c, (s = .assert c ∧ s' = .assume c) ∨ (s = .assume c ∧ s' = .assert c)

inductive KindList : List Stmt → List Stmt → Prop
  | nil : KindList [] []
  | cons {s s' r r'} : KindRel s s' → KindList r r' → KindList (s :: r) (s' :: r')

/-- `T` is `P` with some asserts / assumes exchanged -/
structure KindProg (P T : Prog) : Prop where
  stmts : ∀ l, KindList (P.stmtsOf l) (T.stmtsOf l)
  succ : ∀ l, T.succsOf l = P.succsOf l
  exit : ∀ l, T.isExit l = P.isExit l
  outs : T.outputs = P.outputs

theorem eraseKinds_append (a b : List Event) : eraseKinds (a ++ b) = eraseKinds a ++ eraseKinds b := by
  simp [eraseKinds]

theorem kind_forward (P T : Prog) (h : KindProg P T)
    {stmts : List Stmt} {l : Label} {σ : State} {t : List Event} {o : Outcome}
    (he : Exec P stmts l σ t o) :
    ∀ outs, o = .exit outs → ∀ stmts', KindList stmts stmts' →
      ∃ t', Exec T stmts' l σ t' (.exit outs) ∧ eraseKinds t' = eraseKinds t := by
  induction he with
  | @exit l σ hex =>
    intro outs ho stmts' hr
    cases hr
    simp only [Outcome.exit.injEq] at ho
    subst ho
    refine ⟨[], ?_, rfl⟩
    rw [← h.outs]
    exact Exec.exit (by rw [h.exit]; exact hex)
  | @goto l l' σ t o hex hmem _ ih =>
    intro outs ho stmts' hr
    cases hr
    obtain ⟨t', h1, h2⟩ := ih outs ho _ (h.stmts l')
    exact ⟨t', Exec.goto (by rw [h.exit]; exact hex) (by rw [h.succ]; exact hmem) h1, h2⟩
  | @stuck l σ hex hs => intro outs ho; cases ho
  | @cont s rest l σ σ' ev t o hv hstep _ ih =>
    intro outs ho stmts' hr
    cases hr with
    | cons hs hrest =>
      rename_i s' rest'
      obtain ⟨t', h1, h2⟩ := ih outs ho rest' hrest
      rcases hs with rfl | ⟨c, ⟨rfl, rfl⟩ | ⟨rfl, rfl⟩⟩
      · exact ⟨evs ev ++ t', Exec.cont hv hstep h1, by rw [eraseKinds_append, eraseKinds_append, h2]⟩
      · simp only [stepStmt] at hstep
        split at hstep
        · rename_i hc
          simp only [StepRes.cont.injEq] at hstep
          obtain ⟨rfl, rfl⟩ := hstep
          refine ⟨evs (some ⟨false, c, true⟩) ++ t', Exec.cont hv (by simp [stepStmt, hc]) h1, ?_⟩
          rw [eraseKinds_append, eraseKinds_append, h2]; rfl
        · cases hstep
      · simp only [stepStmt] at hstep
        split at hstep
        · rename_i hc
          simp only [StepRes.cont.injEq] at hstep
          obtain ⟨rfl, rfl⟩ := hstep
          refine ⟨evs (some ⟨true, c, true⟩) ++ t', Exec.cont hv (by simp [stepStmt, hc]) h1, ?_⟩
          rw [eraseKinds_append, eraseKinds_append, h2]; rfl
        · cases hstep
  | @stop s rest l σ ev o hv hstep =>
    intro outs ho
    exact absurd ho (stepStmt_stop_not_exit hstep outs)

theorem KindRel.symm {s s' : Stmt} (h : KindRel s s') : KindRel s' s := by
  rcases h with rfl | ⟨c, ⟨rfl, rfl⟩ | ⟨rfl, rfl⟩⟩
  · exact Or.inl rfl
  · exact Or.inr ⟨c, Or.inr ⟨rfl, rfl⟩⟩
  · exact Or.inr ⟨c, Or.inl ⟨rfl, rfl⟩⟩

theorem KindList.symm : ∀ {a b : List Stmt}, KindList a b → KindList b a
  | _, _, .nil => .nil
  | _, _, .cons h r => .cons h.symm (KindList.symm r)

theorem KindProg.symm {P T : Prog} (h : KindProg P T) : KindProg T P where
  stmts := fun l => KindList.symm (h.stmts l)
  succ := fun l => (h.succ l).symm
  exit := fun l => (h.exit l).symm
  outs := h.outs.symm

theorem lowerBlock_rel (safe : List Nat) : ∀ (stmts : List Stmt) (i : Nat),
    KindList stmts (lowerBlock safe stmts i) := by
  intro stmts
  induction stmts with
  | nil => intro i; exact .nil
  | cons s rest ih =>
    intro i
    simp only [lowerBlock]
    refine .cons ?_ (ih (i + 1))
    cases s with
    | assert c =>
      simp only
      split
      · exact Or.inr ⟨c, Or.inl ⟨rfl, rfl⟩⟩
      · exact Or.inl rfl
    | _ => exact Or.inl rfl

def lowerF (safe : List (Label × Nat)) (b : Block) : Block :=
  { b with stmts := lowerBlock ((safe.filter (fun p => p.1 == b.label)).map (·.2)) b.stmts 0 }

theorem lower_eq (P : Prog) (safe : List (Label × Nat)) : lower P safe = P.mapBlocks (lowerF safe) := rfl

theorem lower_kindProg (P : Prog) (safe : List (Label × Nat)) : KindProg P (lower P safe) where
  stmts := by
    intro l
    rw [lower_eq, mapBlocks_stmtsOf P (lowerF safe) (fun _ => rfl)
      (fun l s => lowerBlock ((safe.filter (fun p => p.1 == l)).map (·.2)) s 0) (fun _ => rfl) (fun _ => rfl) l]
    exact lowerBlock_rel _ _ 0
  succ := fun l => by rw [lower_eq]; exact mapBlocks_succsOf P (lowerF safe) (fun _ => rfl) (fun _ => rfl) l
  exit := fun _ => rfl
  outs := rfl

end TIR
end Crab
