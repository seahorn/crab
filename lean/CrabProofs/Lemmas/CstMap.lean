/-!
  Constant propagation over any type of keys (`none` = unknown): the test domain the examples and
  counterexamples instantiate.  `γ` says that every known key has its value; binding a key and the
  flat join are the only operations.
-/
namespace Crab

abbrev CstMap (K : Type) := K → Option Int

namespace CstMap
variable {K : Type} [DecidableEq K]

def set (b : CstMap K) (x : K) (v : Option Int) : CstMap K := fun y => if y = x then v else b y
def γ (b : CstMap K) (ρ : K → Int) : Prop := ∀ x k, b x = some k → ρ x = k
def join (a b : CstMap K) : CstMap K := fun x => if a x = b x then a x else none

theorem γ_set {b : CstMap K} {ρ : K → Int} (x : K) (v : Option Int) (k : Int) (h : γ b ρ)
    (hv : ∀ k', v = some k' → k = k') : γ (b.set x v) (fun y => if y = x then k else ρ y) := by
  intro y k' hy
  simp only [set] at hy ⊢
  by_cases hyx : y = x
  · simp only [hyx, if_true] at hy ⊢; exact hv k' hy
  · simp only [hyx, if_false] at hy ⊢; exact h y k' hy

theorem γ_join_left {a b : CstMap K} {ρ : K → Int} (h : γ a ρ) : γ (join a b) ρ := by
  intro x k hx
  simp only [join] at hx
  split at hx
  · exact h x k hx
  · cases hx

theorem γ_join_right {a b : CstMap K} {ρ : K → Int} (h : γ b ρ) : γ (join a b) ρ := by
  intro x k hx
  simp only [join] at hx
  split at hx
  · rename_i he; rw [he] at hx; exact h x k hx
  · cases hx

end CstMap
end Crab
