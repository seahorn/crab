import CrabProofs.Lemmas.FunctorVPartHist
import CrabProofs.Lemmas.Bound

/-!
`update_partitions()` after repo commit 8f4c9c7: the intervals of the result are non-empty, sorted
and strictly separated (`VP.keysSep`), hence pairwise disjoint.
-/
namespace Crab
namespace Dom
namespace Fct
namespace VP
set_option linter.unusedSectionVars false

variable {V S : Type} [DecidableEq V] {D : VDom V S}

def NonBot (p : Part D) : Prop := Bound.le p.key.lb p.key.ub = true

theorem refreshGo_nonBot (x : V) (n : Nat) (l : List (Part D)) : ∀ p ∈ (refreshGo x n l).1, NonBot p := by
  induction l generalizing n with
  | nil => intro p hp; simp [refreshGo] at hp
  | cons q qs ih =>
    intro p hp
    simp only [refreshGo] at hp
    split at hp
    · split at hp
      · exact ih (n + 1) p hp
      · simp only [List.mem_singleton] at hp; subst hp; simp [NonBot, Itv.top, Bound.le]
    · rename_i hb
      rcases List.mem_cons.1 hp with rfl | hp
      · exact (Itv.isBottom_false_iff _).1 (by simpa using hb)
      · exact ih (n + 1) p hp

def SortedLb (l : List (Part D)) : Prop := l.Pairwise (fun p q => Bound.le p.key.lb q.key.lb = true)

theorem sorted_insertPart (p : Part D) {l : List (Part D)} (h : SortedLb l) : SortedLb (insertPart p l) := by
  induction l with
  | nil => simp [insertPart, SortedLb]
  | cons q qs ih =>
    have hq := List.pairwise_cons.1 h
    simp only [insertPart]
    split
    · rename_i hlt
      have hqp : Bound.le q.key.lb p.key.lb = true := Bound.not_le ((Bound.lt_iff _ _).1 hlt)
      refine List.pairwise_cons.2 ⟨?_, ih hq.2⟩
      intro r hr
      rcases (mem_insertPart p r qs).1 hr with rfl | hr
      · exact hqp
      · exact hq.1 r hr
    · rename_i hlt
      have hpq : Bound.le p.key.lb q.key.lb = true := by
        cases hx : Bound.le p.key.lb q.key.lb
        · exact absurd ((Bound.lt_iff _ _).2 hx) hlt
        · rfl
      refine List.pairwise_cons.2 ⟨?_, h⟩
      intro r hr
      rcases List.mem_cons.1 hr with rfl | hr
      · exact hpq
      · exact Bound.le_trans hpq (hq.1 r hr)

theorem sorted_sortParts (l : List (Part D)) : SortedLb (sortParts l) := by
  induction l with
  | nil => exact List.Pairwise.nil
  | cons p ps ih => exact sorted_insertPart p ih

theorem keysSep_tail {p : Part D} {l : List (Part D)} (h : keysSep (p :: l) = true) : keysSep l = true := by
  match l with
  | [] => rfl
  | q :: r => simp only [keysSep, Bool.and_eq_true] at h; exact h.2

theorem keysSep_head {p : Part D} {l : List (Part D)} (h : keysSep (p :: l) = true) : NonBot p := by
  match l with
  | [] => exact h
  | q :: r => simp only [keysSep, Bool.and_eq_true] at h; exact h.1.1

theorem _root_.Crab.Itv.join_of_lb_le {a b : Itv} (ha : Bound.le a.lb a.ub = true) (hb : Bound.le b.lb b.ub = true)
    (hab : Bound.le a.lb b.lb = true) :
    (Itv.join a b).lb = a.lb ∧ Bound.le (Itv.join a b).lb (Itv.join a b).ub = true ∧
      Bound.le a.ub (Itv.join a b).ub = true := by
  have h1 := (Itv.isBottom_false_iff a).2 ha
  have h2 := (Itv.isBottom_false_iff b).2 hb
  have h3 : Bound.min a.lb b.lb = a.lb := by simp [Bound.min, hab]
  have h4 : Bound.le a.lb (Bound.max a.ub b.ub) = true := Bound.le_trans ha (Bound.le_max_left _ _)
  have h5 : Bound.gt a.lb (Bound.max a.ub b.ub) = false := by simp [Bound.gt, h4]
  simp only [Itv.join, h1, h2, Bool.false_eq_true, if_false, h3, Itv.mk', h5]
  exact ⟨trivial, h4, Bound.le_max_left _ _⟩

theorem absorb_sep (p : Part D) (l : List (Part D)) (hp : NonBot p) (hs : keysSep l = true)
    (hl : ∀ q ∈ l, Bound.le p.key.lb q.key.lb = true) :
    keysSep ((absorb p l).1 :: (absorb p l).2) = true ∧ (absorb p l).1.key.lb = p.key.lb ∧
      ∀ r ∈ (absorb p l).2, r ∈ l := by
  induction l generalizing p with
  | nil => exact ⟨hp, rfl, fun r hr => hr⟩
  | cons q qs ih =>
    have hq : NonBot q := keysSep_head hs
    simp only [absorb]
    split
    · have hj := Itv.join_of_lb_le hp hq (hl q List.mem_cons_self)
      obtain ⟨a1, a2, a3⟩ := ih (Part.join p q) hj.2.1 (keysSep_tail hs) (fun r hr => by
        show Bound.le (Itv.join p.key q.key).lb r.key.lb = true
        rw [hj.1]; exact hl r (List.mem_cons_of_mem _ hr))
      exact ⟨a1, by rw [a2]; exact hj.1, fun r hr => List.mem_cons_of_mem _ (a3 r hr)⟩
    · rename_i hge
      refine ⟨?_, rfl, fun r hr => hr⟩
      have hlt : Bound.lt p.key.ub q.key.lb = true := by
        simp only [Bound.lt]; simpa using hge
      match qs, hs with
      | [], hs => simp only [keysSep, Bool.and_eq_true]; exact ⟨⟨hp, hlt⟩, hs⟩
      | r :: rs, hs => simp only [keysSep, Bool.and_eq_true] at hs ⊢; exact ⟨⟨hp, hlt⟩, hs⟩

theorem mergeAdj_sep (l : List (Part D)) (hs : SortedLb l) (hn : ∀ p ∈ l, NonBot p) :
    keysSep (mergeAdj l) = true ∧ ∀ q ∈ mergeAdj l, ∃ r ∈ l, q.key.lb = r.key.lb := by
  induction l with
  | nil => exact ⟨rfl, fun q hq => by simp [mergeAdj] at hq⟩
  | cons p ps ih =>
    have hp := List.pairwise_cons.1 hs
    obtain ⟨i1, i2⟩ := ih hp.2 (fun q hq => hn q (List.mem_cons_of_mem _ hq))
    have hl : ∀ q ∈ mergeAdj ps, Bound.le p.key.lb q.key.lb = true := by
      intro q hq
      obtain ⟨r, hr, he⟩ := i2 q hq
      rw [he]; exact hp.1 r hr
    obtain ⟨a1, a2, a3⟩ := absorb_sep p (mergeAdj ps) (hn p List.mem_cons_self) i1 hl
    simp only [mergeAdj]
    refine ⟨a1, ?_⟩
    intro q hq
    rcases List.mem_cons.1 hq with rfl | hq
    · exact ⟨p, List.mem_cons_self, a2⟩
    · obtain ⟨r, hr, he⟩ := i2 q (a3 q hq)
      exact ⟨r, List.mem_cons_of_mem _ hr, he⟩

theorem updateParts_sep {a : VP D} (hv : a.var ≠ none) : keysSep (updateParts a).parts = true := by
  cases hx : a.var with
  | none => exact absurd hx hv
  | some x =>
    rw [updateParts_some hx]
    split
    · rename_i hstop
      obtain ⟨p, hp⟩ := refreshGo_stop x a.parts hstop
      show keysSep (refreshGo x 0 a.parts).1 = true
      have := refreshGo_nonBot x 0 a.parts p (by rw [hp]; exact List.mem_singleton.2 rfl)
      rw [hp]; exact this
    · exact (mergeAdj_sep _ (sorted_sortParts _) (fun p hp =>
        refreshGo_nonBot x 0 a.parts p ((mem_sortParts p _).1 hp))).1

/-! ### separated intervals are pairwise disjoint -/

theorem sep_lt_all {p : Part D} {l : List (Part D)} (h : keysSep (p :: l) = true) :
    ∀ r ∈ l, Bound.le r.key.lb p.key.ub = false := by
  induction l generalizing p with
  | nil => intro r hr; simp at hr
  | cons q qs ih =>
    have hh := h
    simp only [keysSep, Bool.and_eq_true] at hh
    have hpq : Bound.le q.key.lb p.key.ub = false := (Bound.lt_iff _ _).1 hh.1.2
    intro r hr
    rcases List.mem_cons.1 hr with rfl | hr
    · exact hpq
    · have hqr := ih hh.2 r hr
      cases hx : Bound.le r.key.lb p.key.ub
      · rfl
      · exfalso
        have h1 : Bound.le p.key.ub q.key.lb = true := Bound.not_le hpq
        have h2 : Bound.le r.key.lb q.key.ub = true :=
          Bound.le_trans hx (Bound.le_trans h1 (keysSep_head hh.2))
        rw [h2] at hqr; cases hqr

theorem keysDisjoint_of_sep (l : List (Part D)) (h : keysSep l = true) : KeysDisjoint l := by
  induction l with
  | nil => exact List.Pairwise.nil
  | cons p ps ih =>
    refine List.pairwise_cons.2 ⟨?_, ih (keysSep_tail h)⟩
    intro r hr k hk
    have := sep_lt_all h r hr
    have h2 : Bound.le r.key.lb p.key.ub = true := Bound.le_trans hk.2.1 hk.1.2
    rw [h2] at this; cases this

end VP
end Fct
end Dom
end Crab
