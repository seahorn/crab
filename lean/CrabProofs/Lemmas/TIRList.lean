import CrabModel.Transform.TIR

/-!
  Generic facts about lists and association lists (`List.lookup`) used by the TIR and crawler
  proofs: counting, the update of the association lists of the model, lists that tabulate a
  function.
-/
namespace Crab
namespace TIR

theorem two_le_of_mem_ne {α : Type} {L : List α} {a b : α} (ha : a ∈ L) (hb : b ∈ L) (hne : a ≠ b) : 2 ≤ L.length := by
  cases L with
  | nil => cases ha
  | cons x r =>
    cases r with
    | nil =>
      have h1 : a = x := by simpa using ha
      have h2 : b = x := by simpa using hb
      exact absurd (h1.trans h2.symm) hne
    | cons _ _ => simp

theorem mem_filter_ne {xs : List Label} {x l : Label} (h : x ∈ xs) (hne : x ≠ l) :
    x ∈ xs.filter (fun y => y != l) := List.mem_filter.mpr ⟨h, by simpa using hne⟩

theorem lookup_mem {α β : Type} [BEq α] [LawfulBEq α] (F : List (α × β)) (k : α) (d : β)
    (h : F.lookup k = some d) : (k, d) ∈ F := by
  obtain ⟨l₁, l₂, rfl, _⟩ := List.lookup_eq_some_iff.mp h
  simp

theorem lookup_filter_key {α β : Type} [BEq α] [LawfulBEq α] (q : α × β → Bool) (k : α) :
    ∀ (F : List (α × β)), (∀ p, p ∈ F → p.1 = k → q p = true) → (F.filter q).lookup k = F.lookup k := by
  intro F
  induction F with
  | nil => intro _; rfl
  | cons p r ih =>
    intro h
    obtain ⟨k', d'⟩ := p
    have ih' := ih (fun p hp => h p (List.mem_cons_of_mem _ hp))
    by_cases hk : k = k'
    · subst hk
      have : q (k, d') = true := h (k, d') List.mem_cons_self rfl
      simp [this]
    · have hb : (k == k') = false := by simpa using hk
      simp only [List.filter_cons]
      split
      · simp only [List.lookup_cons, hb]; exact ih'
      · simp only [List.lookup_cons, hb]; exact ih'

theorem lookup_replace {α β : Type} [BEq α] [LawfulBEq α] [DecidableEq α] (b : α) (d : β) :
    ∀ (F : List (α × β)) (a : α),
    (F.map (fun p => if p.1 == b then (b, d) else p)).lookup a =
      if a = b then (F.lookup a).map (fun _ => d) else F.lookup a := by
  intro F
  induction F with
  | nil => intro a; simp [List.lookup]
  | cons p r ih =>
    intro a
    obtain ⟨k, e⟩ := p
    simp only [List.map_cons, List.lookup_cons]
    by_cases hkb : k = b
    · subst hkb
      simp only [beq_self_eq_true, if_true, List.lookup_cons]
      by_cases hak : a = k
      · subst hak; simp
      · have : (a == k) = false := by simpa using hak
        simp only [this, hak, if_false]
        simpa [hak] using ih a
    · have hkb' : (k == b) = false := by simpa using hkb
      simp only [hkb', Bool.false_eq_true, if_false, List.lookup_cons]
      by_cases hak : a = k
      · subst hak
        have : ¬ a = b := hkb
        simp [this]
      · have : (a == k) = false := by simpa using hak
        simp only [this]
        exact ih a

/-- the update of the association lists of the model (`Facts.set`, `InMap.set`): the entry of
    `b` is replaced if there is one, appended otherwise -/
theorem lookup_upsert {α β : Type} [BEq α] [LawfulBEq α] [DecidableEq α] (F : List (α × β)) (b : α) (d : β) (a : α) :
    (if (F.lookup b).isSome then F.map (fun p => if p.1 == b then (b, d) else p) else F ++ [(b, d)]).lookup a =
      if a = b then some d else F.lookup a := by
  split
  · rename_i hh
    rw [lookup_replace]
    by_cases hab : a = b
    · subst hab
      obtain ⟨e, he⟩ := Option.isSome_iff_exists.mp hh
      simp [he]
    · simp [hab]
  · rename_i hh
    have hn : F.lookup b = none := Option.not_isSome_iff_eq_none.mp hh
    rw [List.lookup_append]
    by_cases hab : a = b
    · subst hab; simp [hn, List.lookup]
    · have : (a == b) = false := by simpa using hab
      simp [hab, List.lookup, this]

theorem lookup_graph {β : Type} (f : Label → β) (n : Label) : ∀ (L : List Label),
    (L.map (fun l => (l, f l))).lookup n = if n ∈ L then some (f n) else none := by
  intro L
  induction L with
  | nil => rfl
  | cons a r ih =>
    simp only [List.map_cons, List.lookup_cons]
    by_cases hna : n = a
    · subst hna; simp
    · have hb : (n == a) = false := by simpa using hna
      simp only [hb, ih, List.mem_cons, hna, false_or]

theorem lookup_filterMap_key (F : Label → Option (Label × List Label)) (hF : ∀ m p, F m = some p → p.1 = m) :
    ∀ (L : List Label) (n : Label) (p : Label × List Label), n ∈ L → F n = some p →
      (L.filterMap F).lookup n = some p.2 := by
  intro L
  induction L with
  | nil => intro n p h; cases h
  | cons a r ih =>
    intro n p hn hp
    by_cases hna : n = a
    · subst hna
      have h1 := hF n p hp
      simp only [List.filterMap_cons, hp]
      obtain ⟨p1, p2⟩ := p
      simp only at h1
      subst h1
      simp [List.lookup_cons]
    · have hn' := (List.mem_cons.mp hn).resolve_left hna
      simp only [List.filterMap_cons]
      cases hfa : F a with
      | none => exact ih n p hn' hp
      | some q =>
        have hq := hF a q hfa
        obtain ⟨q1, q2⟩ := q
        simp only at hq
        subst hq
        have hb : (n == q1) = false := by simpa using hna
        simp only [List.lookup_cons, hb]
        exact ih n p hn' hp

end TIR
end Crab
