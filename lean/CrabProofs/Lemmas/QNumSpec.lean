import CrabModel.Num.QNum

/-! `q_number`: `round_to_lower` / `round_to_upper` are floor and ceiling on pairs with a positive
    denominator; the arithmetic operators return canonical pairs denoting the exact result. -/
namespace Crab.QNum

theorem roundToLower_pos (q : QNum) (hd : 0 < q.den) : roundToLower q = some (q.num / q.den) := by
  obtain ⟨n, d⟩ := q
  have hd0 : d ≠ 0 := Int.ne_of_gt hd
  -- for `d > 0` the truncating quotient is the floor, plus one when `n < 0` and `d ∤ n`
  have T := @Int.tdiv_eq_ediv n d
  rw [Int.sign_eq_one_of_pos hd] at T
  unfold roundToLower ZNum.div? ZNum.rem?
  rw [if_neg hd0, if_neg hd0]
  show (if n.tmod d = 0 ∨ gtZero ⟨n, d⟩ = true then some (n.tdiv d) else some (n.tdiv d - 1)) = _
  by_cases hc : n.tmod d = 0 ∨ gtZero ⟨n, d⟩ = true
  · have : 0 ≤ n ∨ d ∣ n := by
      rcases hc with h | h
      · exact Or.inr (Int.dvd_of_tmod_eq_zero h)
      · exact Or.inl (Int.le_of_lt (of_decide_eq_true h))
    rw [if_pos hc, T, if_pos this, Int.add_zero]
  · have : ¬ (0 ≤ n ∨ d ∣ n) := by
      rintro (h | h)
      · rcases Int.lt_or_eq_of_le h with h | h
        · exact hc (Or.inr (decide_eq_true h))
        · exact hc (Or.inl (h ▸ Int.zero_tmod d))
      · exact hc (Or.inl (Int.tmod_eq_zero_of_dvd h))
    rw [if_neg hc, T, if_neg this, Int.add_sub_cancel]

/-- rounding up is rounding down mirrored at 0 -/
theorem roundToUpper_eq_neg (n d : Int) :
    roundToUpper ⟨n, d⟩ = (roundToLower ⟨-n, d⟩).map (- ·) := by
  have hg : gtZero ⟨-n, d⟩ = ltZero ⟨n, d⟩ := by simp [gtZero, ltZero]
  by_cases hd : d = 0
  · simp only [roundToUpper, roundToLower, ZNum.div?, ZNum.rem?, hd, if_true]; rfl
  · simp only [roundToUpper, roundToLower, ZNum.div?, ZNum.rem?, hd, if_false, Int.neg_tdiv,
      Int.neg_tmod, Int.neg_eq_zero, hg]
    split
    · rw [Option.map_some, Int.neg_neg]
    · rw [Option.map_some, Int.neg_sub, Int.sub_neg, Int.add_comm]

theorem roundToUpper_pos (q : QNum) (hd : 0 < q.den) :
    roundToUpper q = some (-((-q.num) / q.den)) := by
  rw [roundToUpper_eq_neg, roundToLower_pos ⟨-q.num, q.den⟩ hd]; rfl

theorem roundToLower_none_iff (q : QNum) : roundToLower q = none ↔ q.den = 0 := by
  unfold roundToLower ZNum.div? ZNum.rem?
  by_cases h : q.den = 0
  · simp [h]
  · simp only [h, if_false, iff_false]
    split <;> simp

theorem roundToUpper_none_iff (q : QNum) : roundToUpper q = none ↔ q.den = 0 := by
  unfold roundToUpper ZNum.div? ZNum.rem?
  by_cases h : q.den = 0
  · simp [h]
  · simp only [h, if_false, iff_false]
    split <;> simp

theorem intCast_le_divInt (x n d : Int) (hd : 0 < d) : (x : Rat) ≤ Rat.divInt n d ↔ x * d ≤ n := by
  rw [Rat.le_iff_sub_nonneg]
  have hx : (x : Rat) = Rat.divInt x 1 := by
    have := Rat.num_divInt_den (x : Rat)
    simpa using this.symm
  rw [hx, Rat.divInt_sub_divInt _ _ (by omega) (by decide),
    Rat.divInt_nonneg_iff_of_pos_right (by omega)]
  simp only [Int.mul_one]
  omega

theorem floor_divInt (n d : Int) (hd : 0 < d) : (Rat.divInt n d).floor = n / d := by
  apply Int.le_antisymm
  · have h : ((Rat.divInt n d).floor : Rat) ≤ Rat.divInt n d := Rat.floor_le _
    rw [intCast_le_divInt _ _ _ hd] at h
    exact Int.le_ediv_of_mul_le hd h
  · rw [Rat.le_floor_iff, intCast_le_divInt _ _ _ hd]
    exact Int.ediv_mul_le n (by omega)

theorem ceil_divInt (n d : Int) (hd : 0 < d) : (Rat.divInt n d).ceil = -((-n) / d) := by
  rw [Rat.ceil_eq_neg_floor_neg, Rat.neg_divInt, floor_divInt _ _ hd]

theorem roundToLower_floor (q : QNum) (hd : 0 < q.den) : roundToLower q = some q.toRat.floor := by
  rw [roundToLower_pos q hd, toRat, floor_divInt _ _ hd]

theorem roundToUpper_ceil (q : QNum) (hd : 0 < q.den) : roundToUpper q = some q.toRat.ceil := by
  rw [roundToUpper_pos q hd, toRat, ceil_divInt _ _ hd]

theorem toRat_ofRat (r : Rat) : toRat (ofRat r) = r := by
  simp [toRat, ofRat]

theorem canonical_ofRat (r : Rat) : (ofRat r).Canonical := by
  refine ⟨by simp [ofRat]; exact Nat.pos_of_ne_zero r.den_nz, ?_⟩
  simpa [ofRat] using r.reduced

theorem canon_ok {q : QNum} (h : q.den ≠ 0) :
    ∃ c, canon q = .ok c ∧ c.Canonical ∧ c.toRat = q.toRat := by
  refine ⟨ofRat q.toRat, by simp [canon, h], canonical_ofRat _, toRat_ofRat _⟩

theorem mk?_none_iff (n d : Int) : mk? n d = none ↔ d = 0 := by
  unfold mk?; split <;> simp_all

/-- on a non-zero denominator (of either sign) the constructor stores the canonical pair that
    denotes `n / d` -/
theorem mk?_spec (n d : Int) (h : d ≠ 0) :
    ∃ q, mk? n d = some q ∧ q.Canonical ∧ q.toRat = Rat.divInt n d :=
  ⟨ofRat (Rat.divInt n d), by simp [mk?, h, toRat], canonical_ofRat _, toRat_ofRat _⟩

theorem roundToLower_mk (n d : Int) (h : d ≠ 0) :
    ∃ q, mk? n d = some q ∧ roundToLower q = some (Rat.divInt n d).floor := by
  obtain ⟨q, h1, h2, h3⟩ := mk?_spec n d h
  exact ⟨q, h1, by rw [roundToLower_floor q h2.1, h3]⟩

theorem roundToUpper_mk (n d : Int) (h : d ≠ 0) :
    ∃ q, mk? n d = some q ∧ roundToUpper q = some (Rat.divInt n d).ceil := by
  obtain ⟨q, h1, h2, h3⟩ := mk?_spec n d h
  exact ⟨q, h1, by rw [roundToUpper_ceil q h2.1, h3]⟩

/-- `operator+`, `-`, `*` on operands GMP accepts: a canonical pair denoting the exact result -/
theorem bin_spec (f : Rat → Rat → Rat) (a b : QNum) (ha : 0 < a.den) (hb : b.den ≠ 0) :
    ∃ r, bin f a b = .ok r ∧ r.Canonical ∧ r.toRat = f a.toRat b.toRat := by
  have ha0 : a.den ≠ 0 := by omega
  have hna : ¬ a.den ≤ 0 := by omega
  refine ⟨ofRat (f a.toRat b.toRat), ?_, canonical_ofRat _, toRat_ofRat _⟩
  simp [bin, copyThis, canon, hna, ha0, hb, toRat_ofRat]

theorem binAssign_spec (f : Rat → Rat → Rat) (a b : QNum) (ha : a.den ≠ 0) (hb : b.den ≠ 0) :
    ∃ r, binAssign f a b = .ok r ∧ r.Canonical ∧ r.toRat = f a.toRat b.toRat := by
  refine ⟨ofRat (f a.toRat b.toRat), ?_, canonical_ofRat _, toRat_ofRat _⟩
  simp [binAssign, canon, ha, hb, toRat_ofRat]

theorem num_ofRat_eq_zero (r : Rat) : (ofRat r).num = 0 ↔ r = 0 := by
  simp [ofRat, Rat.num_eq_zero]

/-- `operator/`: CRAB_ERROR exactly on a zero divisor, otherwise the exact quotient -/
theorem div_spec (a b : QNum) (ha : 0 < a.den) (hb : b.den ≠ 0) :
    (b.toRat = 0 → div a b = .err) ∧
    (b.toRat ≠ 0 → ∃ r, div a b = .ok r ∧ r.Canonical ∧ r.toRat = a.toRat / b.toRat) := by
  have ha0 : a.den ≠ 0 := by omega
  have hna : ¬ a.den ≤ 0 := by omega
  constructor
  · intro hz
    simp [div, copyThis, canon, hna, ha0, hb, eqZero, num_ofRat_eq_zero, hz]
  · intro hnz
    refine ⟨ofRat (a.toRat / b.toRat), ?_, canonical_ofRat _, toRat_ofRat _⟩
    simp [div, copyThis, canon, hna, ha0, hb, eqZero, num_ofRat_eq_zero, hnz, toRat_ofRat]

end Crab.QNum
