import CrabProofs.Lemmas.DisIntervalLattice

/-! `apply_bin_op` / `apply_unary_op` of `dis_interval` (`Crab.Dis.applyBin`, `applyUn`, `scan`,
    `finish`) for an arbitrary interval operation: soundness, invariant, absence of CRAB_ERROR;
    then the interval operations of the class as instances. -/
namespace Crab
namespace Dis
open Bound

theorem scan_spec (rs : List (Option Itv)) (acc res : List Itv) (h : scan rs acc = some (some res)) :
    none ∉ rs ∧ res = acc.reverse ++ (rs.filterMap id).filter (fun i => !i.isBottom) ∧
    ∀ i, some i ∈ rs → i.isBottom = false → i.isTop = false := by
  fun_induction scan rs acc with
  | case1 acc => cases h; simp
  | case2 | case4 => cases h
  | case3 i more acc hb ih =>
    obtain ⟨h1, h2, h3⟩ := ih h
    refine ⟨by simp [h1], by simp [h2, hb], fun j hj hjb => ?_⟩
    rcases List.mem_cons.mp hj with e | hj
    · cases e; rw [hb] at hjb; cases hjb
    · exact h3 j hj hjb
  | case5 i more acc hb ht ih =>
    obtain ⟨h1, h2, h3⟩ := ih h
    refine ⟨by simp [h1], by simp [h2, hb], fun j hj hjb => ?_⟩
    rcases List.mem_cons.mp hj with e | hj
    · cases e; simpa using ht
    · exact h3 j hj hjb

theorem mem_scan {rs : List (Option Itv)} {res : List Itv} (h : scan rs [] = some (some res)) {i : Itv} :
    i ∈ res ↔ some i ∈ rs ∧ i.isBottom = false := by
  rw [(scan_spec rs [] res h).2.1]
  simp [List.mem_filter, List.mem_filterMap]

theorem scan_none (rs : List (Option Itv)) (acc : List Itv) (h : scan rs acc = none) : none ∈ rs := by
  fun_induction scan rs acc with
  | case1 | case4 => cases h
  | case2 => exact List.mem_cons_self
  | case3 _ _ _ _ ih | case5 _ _ _ _ _ ih => exact List.mem_cons_of_mem _ (ih h)

/-- `finish (scan rs [])`: every interval result is covered by the value; when one of the
    results is CRAB_ERROR and there is a value nevertheless, the scan stopped before (top) -/
theorem finish_sound {rs : List (Option Itv)} {r : Dis} (hw : ∀ i, some i ∈ rs → i.WF)
    (h : finish (scan rs []) = some r) {o : Option Itv} (ho : o ∈ rs) {c : Int}
    (hc : ∀ v, o = some v → Itv.mem c v) : mem c r := by
  generalize hs : scan rs [] = s at h
  match s, hs, h with
  | some none, _, h => cases h; exact mem_top c
  | some (some res), hs, h =>
    cases o with
    | none => exact absurd ho (scan_spec rs [] res hs).1
    | some v =>
      have hin : v ∈ res := (mem_scan hs).mpr ⟨ho, Itv.isBottom_false_of_mem (hc v rfl)⟩
      match res, h, hin with
      | a :: as, h, hin =>
        cases h
        exact mkList_mem_upper (fun j hj => hw j ((mem_scan hs).mp hj).1) ⟨v, hin, hc v rfl⟩

theorem finish_wf {rs : List (Option Itv)} {r : Dis} (hw : ∀ i, some i ∈ rs → i.WF)
    (hlen : rs.length < maxDisjunctions) (h : finish (scan rs []) = some r) : WF r := by
  generalize hs : scan rs [] = s at h
  match s, hs, h with
  | some none, _, h => cases h; exact rfl
  | some (some []), _, h => cases h; exact rfl
  | some (some (a :: as)), hs, h =>
    cases h
    obtain ⟨_, h2, h3⟩ := scan_spec rs [] _ hs
    have hall : ∀ j ∈ a :: as, j.isBottom = false ∧ j.isTop = false ∧ j.WF := fun j hj =>
      have := (mem_scan hs).mp hj
      ⟨this.2, h3 j this.1 this.2, hw j this.1⟩
    refine mkList_wf (fun j hj => (hall j hj).2.2) (fun b hb => (proper_iff b).mpr (hall b (by simp [hb])))
      (Nat.lt_of_le_of_lt ?_ hlen)
    rw [h2]
    exact Nat.le_trans (List.length_filter_le _ _) (List.length_filterMap_le _ _)

theorem finish_defined {rs : List (Option Itv)} (h : none ∉ rs) : (finish (scan rs [])).isSome = true := by
  match hs : scan rs [] with
  | none => exact absurd (scan_none rs [] hs) h
  | some none | some (some []) | some (some (_ :: _)) => rfl

def OpSound (op : Itv → Itv → Option Itv) (R : Int → Int → Int → Prop) : Prop :=
  ∀ a b r, a.WF → b.WF → op a b = some r →
    r.WF ∧ ∀ i j c, Itv.mem i a → Itv.mem j b → R i j c → Itv.mem c r

def pairs (op : Itv → Itv → Option Itv) (lx ly : List Itv) : List (Option Itv) :=
  lx.flatMap (fun a => ly.map (fun b => op a b))

theorem mem_pairs {op : Itv → Itv → Option Itv} {lx ly : List Itv} {o : Option Itv} :
    o ∈ pairs op lx ly ↔ ∃ a ∈ lx, ∃ b ∈ ly, op a b = o := by
  simp [pairs, List.mem_flatMap, List.mem_map]

/-- the intervals an operand contributes to `apply_bin_op`: where TOP is not answered at once,
    it is treated as the vector `[top]` -/
def ivs (x : Dis) : List Itv := if x.isTop then [Itv.top] else x.l

theorem binOp_eq (op : Itv → Itv → Option Itv) (sc : Bool) (x y : Dis) : binOp op sc x y =
    if x.isBottom || y.isBottom then some bot
    else if (x.isTop && y.isTop) || (sc && (x.isTop || y.isTop)) then some top
    else finish (scan (pairs op (ivs x) (ivs y)) []) := by
  obtain ⟨sx, lx⟩ := x
  obtain ⟨sy, ly⟩ := y
  cases sx <;> cases sy <;> cases sc <;>
    simp [binOp, applyBin, isBottom, isTop, isFinite, ivs, pairs, ← List.map_eq_flatMap]

theorem mem_ivs {x : Dis} {k : Int} (h : mem k x) : memL k (ivs x) := by
  obtain ⟨s, l⟩ := x
  cases s
  · cases h
  · exact h
  · exact ⟨_, List.mem_singleton.mpr rfl, Itv.mem_top k⟩

theorem ivs_wf {x : Dis} (h : EWF x) : ∀ a ∈ ivs x, a.WF := by
  unfold ivs
  split
  · exact fun a ha => List.mem_singleton.mp ha ▸ Itv.wf_top
  · exact h

theorem length_ivs {x : Dis} (h : WF x) :
    ((ivs x).length = x.l.length ∨ (ivs x).length = 1) ∧ (ivs x).length < maxDisjunctions := by
  obtain ⟨s, l⟩ := x
  cases s
  · exact ⟨Or.inl rfl, by rw [show l = [] from h]; decide⟩
  · exact ⟨Or.inl rfl, h.2.1⟩
  · exact ⟨Or.inr rfl, (by decide : 1 < maxDisjunctions)⟩

theorem binOp_sound {op : Itv → Itv → Option Itv} {R : Int → Int → Int → Prop} (hop : OpSound op R)
    (sc : Bool) {x y r : Dis} (hx : EWF x) (hy : EWF y) (h : binOp op sc x y = some r)
    {i j c : Int} (hi : mem i x) (hj : mem j y) (hR : R i j c) : mem c r := by
  rw [binOp_eq] at h
  split at h
  · rename_i hb
    rcases Bool.or_eq_true _ _ |>.mp hb with hb | hb
    · exact absurd hi (not_mem_of_isBottom hb i)
    · exact absurd hj (not_mem_of_isBottom hb j)
  split at h
  · cases h; exact mem_top c
  obtain ⟨a, ha, hia⟩ := mem_ivs hi
  obtain ⟨b, hb, hjb⟩ := mem_ivs hj
  refine finish_sound (fun w hw => ?_) h (mem_pairs.mpr ⟨a, ha, b, hb, rfl⟩)
    (fun v hv => (hop a b v (ivs_wf hx a ha) (ivs_wf hy b hb) hv).2 i j c hia hjb hR)
  obtain ⟨a', ha', b', hb', hw'⟩ := mem_pairs.mp hw
  exact (hop a' b' w (ivs_wf hx a' ha') (ivs_wf hy b' hb') hw').1

theorem binOp_wf {op : Itv → Itv → Option Itv}
    (hop : ∀ a b r, a.WF → b.WF → op a b = some r → r.WF) (sc : Bool) {x y r : Dis}
    (hx : WF x) (hy : WF y) (hsmall : x.l.length * y.l.length < maxDisjunctions)
    (h : binOp op sc x y = some r) : WF r := by
  rw [binOp_eq] at h
  split at h
  · cases h; exact rfl
  split at h
  · cases h; exact rfl
  refine finish_wf (fun w hw => ?_) ?_ h
  · obtain ⟨a', ha', b', hb', hw'⟩ := mem_pairs.mp hw
    exact hop a' b' w (ivs_wf (ewf_of_wf hx) a' ha') (ivs_wf (ewf_of_wf hy) b' hb') hw'
  · -- a TOP operand counts for one interval, and the other one has fewer than 50
    obtain ⟨hx1, hx2⟩ := length_ivs hx
    obtain ⟨hy1, hy2⟩ := length_ivs hy
    rw [pairs, length_pairs]
    rcases hx1 with e1 | e1 <;> rcases hy1 with e2 | e2
    · rw [e1, e2]; exact hsmall
    · rw [e2, Nat.mul_one]; exact hx2
    · rw [e1, Nat.one_mul]; exact hy2
    · rw [e1, e2]; decide

theorem binOp_defined {op : Itv → Itv → Option Itv}
    (hd : ∀ a b, a.WF → b.WF → (op a b).isSome = true) (sc : Bool) {x y : Dis}
    (hx : EWF x) (hy : EWF y) : (binOp op sc x y).isSome = true := by
  rw [binOp_eq]
  split
  · rfl
  split
  · rfl
  refine finish_defined fun hn => ?_
  obtain ⟨a, ha, b, hb, hab⟩ := mem_pairs.mp hn
  have := hd a b (ivs_wf hx a ha) (ivs_wf hy b hb)
  rw [hab] at this
  cases this

/-- wherever it answers, `apply_unary_op(x, op)` is `apply_bin_op(x, TOP, (a, _) ↦ op a)` without
    the shortcut (they differ on a FINITE value without intervals: CRAB_ERROR against BOT) -/
theorem unOp_eq_binOp (op : Itv → Itv) {x r : Dis} (h : unOp op x = some r) :
    binOp (fun a _ => some (op a)) false x top = some r := by
  obtain ⟨s, l⟩ := x
  cases s
  · exact h
  · cases l with
    | nil => cases h
    | cons a as => exact h
  · exact h

theorem unOp_sound {op : Itv → Itv} {R : Int → Int → Prop}
    (hop : ∀ a, a.WF → (op a).WF ∧ ∀ i c, Itv.mem i a → R i c → Itv.mem c (op a))
    {x r : Dis} (hx : EWF x) (h : unOp op x = some r) {i c : Int} (hi : mem i x) (hR : R i c) :
    mem c r :=
  binOp_sound (R := fun i _ c => R i c)
    (fun a _ _ ha _ e => Option.some.inj e ▸ ⟨(hop a ha).1, fun i _ c hi _ => (hop a ha).2 i c hi⟩)
    false hx (y := top) (by simp [EWF, top]) (unOp_eq_binOp op h) hi (mem_top 0) hR

theorem unOp_wf {op : Itv → Itv} (hop : ∀ a, a.WF → (op a).WF) {x r : Dis} (hx : WF x)
    (h : unOp op x = some r) : WF r :=
  binOp_wf (fun a _ _ ha _ e => Option.some.inj e ▸ hop a ha) false hx (y := top) rfl
    (by simp [top, maxDisjunctions]) (unOp_eq_binOp op h)

theorem unOp_defined (op : Itv → Itv) {x : Dis} (hx : WF x) : (unOp op x).isSome = true := by
  obtain ⟨s, l⟩ := x
  cases s
  · rfl
  · obtain ⟨a, as, rfl⟩ := List.exists_cons_of_ne_nil hx.1
    exact finish_defined (by simp)
  · rfl

theorem opSound_total {f : Itv → Itv → Itv} {R : Int → Int → Int → Prop}
    (hw : ∀ a b, a.WF → b.WF → (f a b).WF)
    (hs : ∀ a b i j c, Itv.mem i a → Itv.mem j b → R i j c → Itv.mem c (f a b)) :
    OpSound (fun a b => some (f a b)) R :=
  fun a b _ ha hb h => Option.some.inj h ▸ ⟨hw a b ha hb, fun i j c hi hj hR => hs a b i j c hi hj hR⟩

theorem opSound_add : OpSound Itv.add (fun i j c => c = i + j) :=
  fun _ _ _ ha hb h => ⟨Itv.add_wf ha hb h, fun _ _ _ hi hj hc => hc ▸ Itv.add_sound hi hj h⟩

theorem opSound_sub : OpSound Itv.sub (fun i j c => c = i - j) :=
  fun _ _ _ ha hb h => ⟨Itv.sub_wf ha hb h, fun _ _ _ hi hj hc => hc ▸ Itv.sub_sound hi hj h⟩

theorem opSound_mul : OpSound (fun a b => some (Itv.mul a b)) (fun i j c => c = i * j) :=
  opSound_total (fun _ _ => Itv.wf_mul) (fun _ _ _ _ _ hi hj hc => hc ▸ Itv.mul_sound hi hj)

theorem opSound_div : OpSound Itv.div (fun i j c => j ≠ 0 ∧ c = Int.tdiv i j) :=
  fun _ _ _ ha hb h => ⟨Itv.wf_div ha hb h, fun _ _ _ hi hj hc => hc.2 ▸ Itv.div_sound hi hj hc.1 h⟩

/-- `UDiv` (coded with the signed division) on non-negative dividends and positive divisors -/
theorem opSound_udiv : OpSound Itv.div (fun i j c => 0 ≤ i ∧ 0 < j ∧ c = i / j) := by
  intro a b r ha hb h
  refine ⟨Itv.wf_div ha hb h, ?_⟩
  intro i j c hi hj ⟨h0, h1, hc⟩
  rw [hc, ← Int.tdiv_eq_ediv_of_nonneg h0]
  exact Itv.div_sound hi hj (by omega) h

theorem opSound_srem : OpSound (fun a b => some (Itv.srem a b)) (fun i j c => j ≠ 0 ∧ c = Int.tmod i j) :=
  opSound_total (fun a b _ _ => Itv.wf_srem a b) (fun _ _ _ _ _ hi hj hc => hc.2 ▸ Itv.srem_sound hi hj hc.1)

theorem opSound_urem : OpSound (fun a b => some (Itv.urem a b)) (fun i j c => 0 ≤ i ∧ 0 < j ∧ c = i % j) :=
  opSound_total (fun a b _ _ => Itv.wf_urem a b)
    (fun _ _ _ _ _ hi hj hc => hc.2.2 ▸ Itv.urem_sound hi hj hc.1 hc.2.1)

theorem opSound_and : OpSound (fun a b => some (Itv.and a b)) (fun i j c => c = ZNum.land i j) :=
  opSound_total (fun _ _ => Itv.wf_and) (fun _ _ _ _ _ hi hj hc => hc ▸ Itv.and_sound hi hj)

theorem opSound_or : OpSound (fun a b => some (Itv.or a b)) (fun i j c => c = ZNum.lor i j) :=
  opSound_total (fun a b _ _ => Itv.wf_or a b) (fun _ _ _ _ _ hi hj hc => hc ▸ Itv.or_sound hi hj)

theorem opSound_xor : OpSound (fun a b => some (Itv.xor a b)) (fun i j c => c = ZNum.lxor i j) :=
  opSound_total (fun a b _ _ => Itv.wf_xor a b) (fun _ _ _ _ _ hi hj hc => hc ▸ Itv.xor_sound hi hj)

theorem opSound_shl : OpSound (fun a b => some (Itv.shl a b)) (fun i j c => 0 ≤ j ∧ c = i * 2 ^ j.toNat) :=
  opSound_total (fun _ b ha _ => Itv.wf_shl ha b) (fun _ _ _ _ _ hi hj hc => hc.2 ▸ Itv.shl_sound hi hj hc.1)

theorem opSound_ashr : OpSound (fun a b => some (Itv.ashr a b)) (fun i j c => 0 ≤ j ∧ c = i / 2 ^ j.toNat) :=
  opSound_total (fun _ b ha _ => Itv.wf_ashr ha b) (fun _ _ _ _ _ hi hj hc => hc.2 ▸ Itv.ashr_sound hi hj hc.1)

/-- `LShr` for shift amounts below `2^64` (the interval operation is wrong beyond: see
    `C08.itv_lshr_sound_counterexample`) -/
theorem opSound_lshr : OpSound (fun a b => some (Itv.lshr a b))
    (fun i j c => 0 ≤ j ∧ j < 2 ^ 64 ∧ 0 ≤ i ∧ c = i / 2 ^ j.toNat) :=
  opSound_total (fun a b _ _ => Itv.wf_lshr a b)
    (fun _ _ _ _ _ hi hj hc => hc.2.2.2 ▸ Itv.lshr_sound hi hj hc.1 hc.2.1)

theorem lowerHalfLine_sound {a : Itv} {i c : Int} (hi : Itv.mem i a) (hc : c ≤ i) :
    Itv.mem c a.lowerHalfLine :=
  (Itv.mem_mk' ..).mpr ⟨by simp, Bound.le_trans (by simpa using hc) hi.2⟩

theorem upperHalfLine_sound {a : Itv} {i c : Int} (hi : Itv.mem i a) (hc : i ≤ c) :
    Itv.mem c a.upperHalfLine :=
  (Itv.mem_mk' ..).mpr ⟨Bound.le_trans hi.1 (by simpa using hc), by simp⟩

end Dis
end Crab
