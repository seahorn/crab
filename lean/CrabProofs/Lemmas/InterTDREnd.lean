import CrabProofs.Lemmas.InterTDRFun

/-!
  C09, whole top-down analysis — the loop over the call-graph entries, and the decomposition of
  the executions from `main` for the final state of the analysis (`finalSpec`, `final_inv`).
-/
namespace Crab.Inter
open Crab.Fix
variable {p : IProg} {D : IDom} {P : TDParams}

theorem progWireOK_of_bool (h : p.callsWiringOK = true) : ProgWireOK p := by
  intro g b k c lhs args hg hk hs
  unfold IProg.callsWiringOK at h
  have := all_stmts_at h hg hk
  rw [hs] at this
  simp only [Bool.and_eq_true] at this
  exact ⟨SeqOK.of_bool this.1, CallOK.of_bool this.2⟩

theorem StOK.empty (D : IDom) (p : IProg) (P : TDParams) : StOK D p P (TDSt.empty D) :=
  { nofix := rfl, ctxs := (fun _ _ h => nomatch h), runs := (fun _ h => nomatch h),
    glob := (fun _ h => nomatch h), cov := (fun _ h => nomatch h), nodup := List.nodup_nil, paths := ⟨1, rfl⟩ }

theorem tdEntryLoop_ok (hP : ProgOK p) (hmain : p.main < p.funs.size) (hmode : P.simpleRec = true)
    (hwire : ProgWireOK p) (cfg : FixCfg) (hw : WtoHyp D p cfg) (lvl : Nat) (init : D.A) :
    ∀ (es : List Nat) (s s' : TDSt D), StOK D p P s → s.stack = [] →
      (∀ e, e ∈ es → p.isCalled e = false ∧ e < p.funs.size ∧ pathsOK p P.wset (p.funs.size + 1) [e] = true) →
      tdEntryLoop D p cfg P lvl init es s = some s' →
      StOK D p P s' ∧ s'.stack = [] ∧ (∀ ρ, ρ ∈ s.runs → ρ ∈ s'.runs) ∧
      (∀ e, e ∈ es → ∃ pre post, (⟨e, init, pre, post⟩ : RunRec D) ∈ s'.runs)
  | [], s, s', hI, hstk, _, h => by
    simp only [tdEntryLoop, Option.some.injEq] at h
    subst h
    exact ⟨hI, hstk, fun _ h => h, fun _ h => nomatch h⟩
  | e :: es, s, s', hI, hstk, hes, h => by
    simp only [tdEntryLoop] at h
    obtain ⟨hnc, helt, hpath⟩ := hes e (List.mem_cons_self ..)
    split at h
    · cases h
    · next nn st s1 hr =>
      have hI0 : StOK D p P { s with stack := [e] } := by
        apply hI.restack
        · intro x env _ hc
          rcases hc with hc | ⟨_, h2⟩
          · exact Or.inl hc
          · rw [hstk] at h2; nomatch h2
        · simp
        · exact ⟨_, hpath⟩
      obtain ⟨hI1, hLe1, _, hrun⟩ := tdAF_ok hP hmain hmode hwire cfg hw lvl e init 0 _ nn st s1 hI0 rfl helt hr
      have hstk1 : s1.stack = [e] := hLe1.1
      have hI2 : StOK D p P { s1 with stack := s1.stack.tail } := by
        apply hI1.restack
        · intro x env hx hc
          rcases hc with hc | ⟨_, h2⟩
          · exact Or.inl hc
          · rw [hstk1] at h2
            have : x = e := by simpa using h2
            rw [this, hnc] at hx; cases hx
        · rw [hstk1]; simp
        · rw [hstk1]; exact ⟨1, rfl⟩
      obtain ⟨k1, k2, k3, k4⟩ := tdEntryLoop_ok hP hmain hmode hwire cfg hw lvl init es _ s' hI2
        (by show s1.stack.tail = []; rw [hstk1]; rfl)
        (fun e' he' => hes e' (List.mem_cons_of_mem _ he')) h
      refine ⟨k1, k2, fun ρ hρ => k3 ρ (hLe1.mem_runs hρ), ?_⟩
      intro e' he'
      rcases List.mem_cons.mp he' with rfl | he''
      · exact ⟨st.pre, st.post, k3 _ hrun⟩
      · exact k4 e' he''

/-- the decomposition for the final state: every function, entered with a frame some recorded run
    was started for; calls = the true ones -/
def finalSpec (p : IProg) {D : IDom} (s : TDSt D) : SimSpec where
  Cov := fun _ => True
  E := fun g env => env.size = p.nv ∧ ∃ ρ, ρ ∈ s.runs ∧ ρ.fn = g ∧ EnvIn D.toAbsDom ρ.entry env
  CR := fun _ => TrueCR p

/-- a locally reachable frame of the final decomposition lies in the local semantics of a recorded run -/
theorem final_at_run {s : TDSt D} {g b k : Nat} {env : Env} {iv : List Int}
    (hat : (finalSpec p s).At p g iv b k env) :
    ∃ ρ, ρ ∈ s.runs ∧ ρ.fn = g ∧ LocalAt (TrueCR p) (p.fn g) (RunEntry D p ρ) b k env := by
  obtain ⟨s0, ⟨hsz, ρ, hρ, hfn, he⟩, _, hat0⟩ := hat
  exact ⟨ρ, hρ, hfn, hat0.mono (fun x hx => by rw [hx]; exact ⟨hsz, he⟩)⟩

theorem final_entryOK {s : TDSt D} (hI : StOK D p P s) (hstk : s.stack = []) : EntryOK p (finalSpec p s) := by
  intro g h b k env lhs args env' _ hg _ hat hk hs hsz hsz' hm
  refine ⟨hsz', ?_⟩
  obtain ⟨ρ, hρ, hfn, sb, h1, h2⟩ := final_at_run (hat trivial)
  have hc := hI.cov ρ hρ b sb (by rw [hfn]; exact h1) k env h lhs args (by rw [hfn]; exact h2)
    (by rw [hfn]; exact hk) (by rw [hfn]; exact hs) env' hsz' hm
  rcases hc with hc | ⟨_, h2'⟩
  · exact hc
  · rw [hstk] at h2'; nomatch h2'

theorem final_inv (hP : ProgOK p) (hmain : p.main < p.funs.size) {s : TDSt D} (hI : StOK D p P s)
    (hstk : s.stack = []) (ch : Choices)
    (h0 : ∃ ρ, ρ ∈ s.runs ∧ ρ.fn = p.main ∧ EnvIn D.toAbsDom ρ.entry (mkFrame p ch 0 p.main []).env) :
    ∀ c, Reach p ch c → Inv p (finalSpec p s) c := by
  apply Inv.of_reach hP (fun _ => rfl) (final_entryOK hI hstk) ch
  exact Inv.init hP hmain ch (fun _ => ⟨mkFrame_env_size p ch 0 p.main [], h0⟩)

theorem tdAnalyze_ok (hP : ProgOK p) (hmain : p.main < p.funs.size) (hmode : P.simpleRec = true)
    (hwire : ProgWireOK p) (hent : entriesOK p P = true) (cfg : FixCfg) (hw : WtoHyp D p cfg) (lvl : Nat)
    (init : D.A) (s : TDSt D) (hrun : tdAnalyze D p cfg P lvl init = some s) :
    StOK D p P s ∧ s.stack = [] ∧ ∃ pre post, (⟨p.main, init, pre, post⟩ : RunRec D) ∈ s.runs := by
  simp only [entriesOK, Bool.and_eq_true, List.contains_eq_mem, decide_eq_true_eq, List.all_eq_true,
    Bool.not_eq_true'] at hent
  obtain ⟨k1, k2, _, k4⟩ := tdEntryLoop_ok hP hmain hmode hwire cfg hw lvl init (tdEntries p P) _ s
    (StOK.empty D p P) rfl (fun e he => ⟨(hent.2 e he).1.1, (hent.2 e he).1.2, (hent.2 e he).2⟩) hrun
  exact ⟨k1, k2, k4 p.main hent.1⟩

end Crab.Inter
