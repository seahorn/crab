import CrabModel.Lin.System
import CrabProofs.Lemmas.LinCst

/-! Lemmas on the model of `ikos::linear_constraint_system`: `operator+=` keeps the solutions,
    `normalize()` preserves the solution set. -/
namespace Crab.Lin.Sys
open Crab.Lin.Expr Crab.Lin.Cst

theorem mem_addCst {s : Sys} {c c' : Cst} : c' ∈ addCst s c ↔ c' ∈ s ∨ c' = c := by
  unfold addCst
  split
  · next h =>
    obtain ⟨c1, h1, h2⟩ := List.any_eq_true.1 h
    have : c1 = c := (Cst.equal_iff c1 c).1 h2
    subst this
    constructor
    · exact Or.inl
    · rintro (h | h)
      · exact h
      · subst h; exact h1
  · simp

theorem sat_iff_of_mem {a b c : Sys} (h : ∀ x, x ∈ a ↔ x ∈ b ∨ x ∈ c) (σ : Var → Int) :
    sat a σ ↔ sat b σ ∧ sat c σ :=
  ⟨fun H => ⟨fun x hx => H x ((h x).2 (Or.inl hx)), fun x hx => H x ((h x).2 (Or.inr hx))⟩,
   fun H x hx => ((h x).1 hx).elim (H.1 x) (H.2 x)⟩

theorem sat_addCst (s : Sys) (c : Cst) (σ : Var → Int) :
    sat (addCst s c) σ ↔ (sat s σ ∧ c.sat σ) := by
  rw [sat_iff_of_mem (b := s) (c := [c]) (fun x => by rw [mem_addCst, List.mem_singleton])]
  simp [sat]

theorem mem_addSys {s t : Sys} {c : Cst} : c ∈ addSys s t ↔ c ∈ s ∨ c ∈ t := by
  unfold addSys
  induction t generalizing s with
  | nil => simp
  | cons d rest ih => simp only [List.foldl_cons, ih, mem_addCst, List.mem_cons, or_assoc]

theorem sat_addSys (s t : Sys) (σ : Var → Int) : sat (addSys s t) σ ↔ (sat s σ ∧ sat t σ) :=
  sat_iff_of_mem (fun _ => mem_addSys) σ

theorem sat_union (a b : Sys) (σ : Var → Int) : sat (union a b) σ ↔ (sat a σ ∧ sat b σ) := by
  unfold union
  rw [sat_addSys, sat_addSys]
  constructor
  · rintro ⟨⟨_, h2⟩, h3⟩; exact ⟨h3, h2⟩
  · rintro ⟨h1, h2⟩; exact ⟨⟨by intro c hc; simp at hc, h2⟩, h1⟩

theorem lookup_some {seen : List (Expr × Nat)} {e : Expr} {j : Nat}
    (h : lookup seen e = some j) : (e, j) ∈ seen := by
  induction seen with
  | nil => simp [lookup] at h
  | cons p rest ih =>
    obtain ⟨k, i⟩ := p
    simp only [lookup] at h
    split at h
    · next hk =>
      have : k = e := (Expr.equal_iff k e).1 hk
      simp only [Option.some.injEq] at h
      subst this h
      exact List.mem_cons_self ..
    · exact List.mem_cons_of_mem _ (ih h)

/-- what the first loop of `normalize()` maintains -/
structure Inv (S : Sys) (st : NormState) : Prop where
  seen : ∀ p ∈ st.seen, S[p.2]? = some ⟨p.1, .leq⟩
  out : ∀ c ∈ st.out, ∀ σ, sat S σ → c.sat σ
  rem : ∀ k ∈ st.removed, ∃ c, S[k]? = some c ∧ ∀ σ, sat st.out σ → c.sat σ

theorem sat_getElem {S : Sys} {σ : Var → Int} (h : sat S σ) {i : Nat} {c : Cst}
    (hi : S[i]? = some c) : c.sat σ := h c (List.mem_of_getElem? hi)

theorem sat_pairEquality (e : Expr) (σ : Var → Int) : (pairEquality e).sat σ ↔ e.eval σ = 0 := by
  unfold pairEquality
  split <;> simp only [Cst.sat, eval_neg] <;> omega

theorem inv_normStep {S : Sys} {st : NormState} (hinv : Inv S st) {i : Nat} {c : Cst}
    (hi : S[i]? = some c) : Inv S (normStep st i c) := by
  unfold normStep
  split
  · next hk =>
    have hc : c = ⟨c.expr, .leq⟩ := by cases c; simp_all
    split
    · -- `-exp` not seen
      split
      · refine ⟨?_, hinv.out, hinv.rem⟩
        intro p hp
        rcases List.mem_append.1 hp with hp | hp
        · exact hinv.seen p hp
        · simp only [List.mem_singleton] at hp
          subst hp
          simpa [← hc] using hi
      · exact hinv
    · next j hj =>
      -- pair found: S[j] is `-exp <= 0`
      have hj' := hinv.seen _ (lookup_some hj)
      simp only at hj'
      have key : ∀ σ, sat S σ → c.expr.eval σ = 0 := by
        intro σ hσ
        have h1 : c.sat σ := sat_getElem hσ hi
        have h2 : (⟨c.expr.neg, .leq⟩ : Cst).sat σ := sat_getElem hσ hj'
        rw [hc] at h1
        simp only [Cst.sat, eval_neg] at h1 h2
        omega
      refine ⟨hinv.seen, ?_, ?_⟩
      · intro d hd σ hσ
        rcases mem_addCst.1 hd with hd | hd
        · exact hinv.out d hd σ hσ
        · subst hd
          exact (sat_pairEquality _ σ).2 (key σ hσ)
      · intro k hk'
        simp only [List.mem_cons] at hk'
        have hout : ∀ σ, sat (addCst st.out (pairEquality c.expr)) σ → c.expr.eval σ = 0 :=
          fun σ hσ => (sat_pairEquality _ σ).1 ((sat_addCst _ _ σ).1 hσ).2
        rcases hk' with hk' | hk' | hk'
        · subst hk'
          refine ⟨c, hi, fun σ hσ => ?_⟩
          have := hout σ hσ
          rw [hc]; simp only [Cst.sat]; omega
        · subst hk'
          refine ⟨_, hj', fun σ hσ => ?_⟩
          have := hout σ hσ
          simp only [Cst.sat, eval_neg]; omega
        · obtain ⟨d, hd1, hd2⟩ := hinv.rem k hk'
          exact ⟨d, hd1, fun σ hσ => hd2 σ ((sat_addCst _ _ σ).1 hσ).1⟩
  · exact hinv

theorem inv_normLoop {S : Sys} (l : List Cst) (st : NormState) (i : Nat) (hinv : Inv S st)
    (hl : ∀ k c, l[k]? = some c → S[i + k]? = some c) : Inv S (normLoop st i l) := by
  induction l generalizing st i with
  | nil => exact hinv
  | cons c rest ih =>
    simp only [normLoop]
    apply ih
    · exact inv_normStep hinv (by simpa using hl 0 c (by simp))
    · intro k d hk
      have := hl (k + 1) d (by simpa using hk)
      rw [show i + 1 + k = i + (k + 1) by omega]
      exact this

theorem mem_keepLoop {removed : List Nat} {l : List Cst} {out : Sys} {i : Nat} {c : Cst} :
    c ∈ keepLoop removed out i l ↔
      c ∈ out ∨ ∃ k, l[k]? = some c ∧ (i + k) ∉ removed := by
  induction l generalizing out i with
  | nil => simp [keepLoop]
  | cons d rest ih =>
    simp only [keepLoop, ih]
    constructor
    · rintro (h | ⟨k, hk1, hk2⟩)
      · split at h
        · exact Or.inl h
        · next hr =>
          rcases mem_addCst.1 h with h | h
          · exact Or.inl h
          · subst h
            refine Or.inr ⟨0, by simp, ?_⟩
            simpa using hr
      · refine Or.inr ⟨k + 1, by simpa using hk1, ?_⟩
        rw [show i + (k + 1) = i + 1 + k by omega]; exact hk2
    · rintro (h | ⟨k, hk1, hk2⟩)
      · left
        split
        · exact h
        · exact mem_addCst.2 (Or.inl h)
      · cases k with
        | zero =>
          left
          have hd : d = c := by simpa using hk1
          subst hd
          have : removed.contains i = false := by simpa using hk2
          simp only [this]
          exact mem_addCst.2 (Or.inr rfl)
        | succ k =>
          right
          refine ⟨k, by simpa using hk1, ?_⟩
          rw [show i + 1 + k = i + (k + 1) by omega]; exact hk2

/-- `normalize()` preserves the solution set -/
theorem sat_normalize (S : Sys) (σ : Var → Int) : sat (normalize S) σ ↔ sat S σ := by
  have hinv : Inv S (normLoop ⟨[], [], []⟩ 0 S) := by
    apply inv_normLoop
    · exact ⟨by simp, by simp, by simp⟩
    · intro k c hk; simpa using hk
  unfold normalize
  simp only
  generalize normLoop ⟨[], [], []⟩ 0 S = st at hinv
  constructor
  · intro h c hc
    obtain ⟨k, hk⟩ := List.getElem?_of_mem hc
    have hout : sat st.out σ := fun d hd => h d (mem_keepLoop.2 (Or.inl hd))
    by_cases hr : k ∈ st.removed
    · obtain ⟨d, hd1, hd2⟩ := hinv.rem k hr
      rw [hk] at hd1
      simp only [Option.some.injEq] at hd1
      subst hd1
      exact hd2 σ hout
    · exact h c (mem_keepLoop.2 (Or.inr ⟨k, hk, by simpa using hr⟩))
  · intro h c hc
    rcases mem_keepLoop.1 hc with hc | ⟨k, hk, _⟩
    · exact hinv.out c hc σ h
    · exact h c (List.mem_of_getElem? hk)

end Crab.Lin.Sys
