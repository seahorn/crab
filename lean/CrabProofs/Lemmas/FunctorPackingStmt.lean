import CrabProofs.Lemmas.FunctorPackingUF

/-!
The transformers of the packing domain (`union_find_domain::forget`, `-=`, `forget`; `stmt`: assign,
weak_assign, apply, select, expand; `addCsts`: `+=`), `is_top`, `operator<=`: invariant and soundness
w.r.t. `γc`.
-/
namespace Crab
namespace Dom
namespace Fct

variable {V : Type} [DecidableEq V]

theorem St.set_self (s : St V) (x : V) : s.set x (s x) = s := by
  funext y; unfold St.set; split
  · rename_i h; rw [h]
  · rfl

theorem St.set_set (s : St V) (x : V) (a b : Int) : (s.set x a).set x b = s.set x b := by
  funext y; unfold St.set; split <;> rfl

namespace PK
variable {N : NDom V}

/-! ### `union_find_domain::forget` -/

theorem Pack.γc_set_of_not_mem {p : Pack N} {s : St V} {x : V} (k : Int) (hx : x ∉ p.vars) (h : Pack.γc p s) :
    Pack.γc p (s.set x k) := by
  intro t ht
  apply h
  intro v hv
  rw [ht v hv]
  unfold St.set
  split
  · rename_i he; subst he; exact absurd hv hx
  · rfl

/-- the value of the class of `x` after `-= x`, on the class without `x` or with it -/
theorem Pack.γc_forget {p : Pack N} {s : St V} {x : V} (k : Int) (h : Pack.γc p s) (vs : List V)
    (hvs : ∀ v ∈ p.vars, v = x ∨ v ∈ vs) : Pack.γc (⟨vs, N.forget p.val x⟩ : Pack N) (s.set x k) := by
  intro t ht
  have h0 : N.γ p.val (t.set x (s x)) := by
    apply h
    intro v hv
    unfold St.set
    split
    · rename_i he; rw [he]
    · rename_i hne
      rcases hvs v hv with he | hm
      · exact absurd he hne
      · have := ht v hm
        rw [this]; unfold St.set; simp [hne]
  have := N.forget_sound p.val x _ (t x) h0
  rwa [St.set_set, St.set_self] at this

theorem ufForget_sub {l : List (Pack N)} {x : V} {q : Pack N} (h : q ∈ ufForget l x) :
    ∃ p ∈ l, ∀ v ∈ q.vars, v ∈ p.vars := by
  induction l with
  | nil => cases h
  | cons a l ih =>
    unfold ufForget at h
    split at h
    · simp only at h
      split at h
      · exact ⟨q, List.mem_cons_of_mem _ h, fun v hv => hv⟩
      · rcases List.mem_cons.1 h with rfl | h
        · exact ⟨a, List.mem_cons_self, fun v hv => (List.mem_filter.1 hv).1⟩
        · exact ⟨q, List.mem_cons_of_mem _ h, fun v hv => hv⟩
    · rcases List.mem_cons.1 h with rfl | h
      · exact ⟨q, List.mem_cons_self, fun v hv => hv⟩
      · obtain ⟨p, hp, hs⟩ := ih h
        exact ⟨p, List.mem_cons_of_mem _ hp, hs⟩

theorem ufForget_wfl {l : List (Pack N)} (x : V) (h : WFl l) : WFl (ufForget l x) := by
  induction l with
  | nil => exact h
  | cons a l ih =>
    rw [wfl_cons] at h
    unfold ufForget
    split
    · simp only
      split
      · exact h.2.2
      · rename_i hne
        rw [wfl_cons]
        refine ⟨fun q hq v hv => h.1 q hq v (List.mem_filter.1 hv).1, ?_, h.2.2⟩
        intro he; apply hne; simp only at he; rw [he]; rfl
    · rw [wfl_cons]
      refine ⟨?_, h.2.1, ih h.2.2⟩
      intro q hq v hv hvq
      obtain ⟨p, hp, hs⟩ := ufForget_sub hq
      exact h.1 p hp v hv (hs v hvq)

/-- `union_find_domain::forget(x)` is sound for "x becomes anything" -/
theorem ufForget_γc {l : List (Pack N)} {s : St V} (x : V) (k : Int) (hw : WFl l) (h : ∀ p ∈ l, Pack.γc p s) :
    ∀ q ∈ ufForget l x, Pack.γc q (s.set x k) := by
  induction l with
  | nil => exact fun q hq => by cases hq
  | cons a l ih =>
    intro q hq
    rw [wfl_cons] at hw
    unfold ufForget at hq
    split at hq
    · rename_i hc
      have hxa : x ∈ a.vars := List.contains_iff_mem.1 hc
      have hrest : ∀ q ∈ l, Pack.γc q (s.set x k) := fun q hq =>
        Pack.γc_set_of_not_mem k (hw.1 q hq x hxa) (h q (List.mem_cons_of_mem _ hq))
      simp only at hq
      split at hq
      · exact hrest q hq
      · rcases List.mem_cons.1 hq with rfl | hq
        · apply Pack.γc_forget k (h a List.mem_cons_self)
          intro v hv
          by_cases he : v = x
          · exact Or.inl he
          · exact Or.inr (List.mem_filter.2 ⟨hv, by simpa using he⟩)
        · exact hrest q hq
    · rename_i hc
      rcases List.mem_cons.1 hq with rfl | hq
      · exact Pack.γc_set_of_not_mem k (fun hx => hc (List.contains_iff_mem.2 hx)) (h q List.mem_cons_self)
      · exact ih hw.2.2 (fun p hp => h p (List.mem_cons_of_mem _ hp)) q hq

theorem onPackOf_vars (g : N.B → N.B) {l : List (Pack N)} {x : V} {q : Pack N} (h : q ∈ onPackOf g l x) :
    ∃ p ∈ l, q.vars = p.vars := by
  induction l with
  | nil => cases h
  | cons a l ih =>
    unfold onPackOf at h
    split at h
    · rcases List.mem_cons.1 h with rfl | h
      · exact ⟨a, List.mem_cons_self, rfl⟩
      · exact ⟨q, List.mem_cons_of_mem _ h, rfl⟩
    · rcases List.mem_cons.1 h with rfl | h
      · exact ⟨q, List.mem_cons_self, rfl⟩
      · obtain ⟨p, hp, he⟩ := ih h
        exact ⟨p, List.mem_cons_of_mem _ hp, he⟩

theorem onPackOf_wfl (g : N.B → N.B) {l : List (Pack N)} (x : V) (h : WFl l) : WFl (onPackOf g l x) := by
  induction l with
  | nil => exact h
  | cons a l ih =>
    unfold onPackOf
    split
    · exact wfl_setVal _ h
    · rw [wfl_cons] at h ⊢
      refine ⟨?_, h.2.1, ih h.2.2⟩
      intro q hq v hv hvq
      obtain ⟨p, hp, he⟩ := onPackOf_vars g hq
      exact h.1 p hp v hv (he ▸ hvq)

/-- `pack(x).val -= x` is sound for "x becomes anything" -/
theorem onPackOf_forget_γc {l : List (Pack N)} {s : St V} (x : V) (k : Int) (hw : WFl l)
    (h : ∀ p ∈ l, Pack.γc p s) : ∀ q ∈ onPackOf (fun b => N.forget b x) l x, Pack.γc q (s.set x k) := by
  induction l with
  | nil => exact fun q hq => by cases hq
  | cons a l ih =>
    intro q hq
    rw [wfl_cons] at hw
    unfold onPackOf at hq
    split at hq
    · rename_i hc
      have hxa : x ∈ a.vars := List.contains_iff_mem.1 hc
      rcases List.mem_cons.1 hq with rfl | hq
      · exact Pack.γc_forget k (h a List.mem_cons_self) a.vars (fun v hv => Or.inr hv)
      · exact Pack.γc_set_of_not_mem k (hw.1 q hq x hxa) (h q (List.mem_cons_of_mem _ hq))
    · rename_i hc
      rcases List.mem_cons.1 hq with rfl | hq
      · exact Pack.γc_set_of_not_mem k (fun hx => hc (List.contains_iff_mem.2 hx)) (h q List.mem_cons_self)
      · exact ih hw.2.2 (fun p hp => h p (List.mem_cons_of_mem _ hp)) q hq

/-! ### `operator-=`, `forget` -/

theorem forget1_wf (x : V) {a : PK N} (h : WF a) : WF (forget1 x a) := by
  cases a with
  | bot => trivial
  | packs l => exact ufForget_wfl x (onPackOf_wfl _ x h)

theorem forget1_sound (x : V) (k : Int) {a : PK N} (hw : WF a) {s : St V} (h : γc a s) :
    γc (forget1 x a) (s.set x k) := by
  cases a with
  | bot => exact h
  | packs l =>
    have h1 := onPackOf_forget_γc x k hw h
    have h2 := ufForget_γc x k (onPackOf_wfl _ x hw) h1
    intro q hq
    have := h2 q hq
    rwa [St.set_set] at this

theorem forgetAll_wf (xs : List V) {a : PK N} (h : WF a) : WF (forgetAll xs a) :=
  List.foldlRecOn xs _ (motive := WF) h fun _ hb x _ => forget1_wf x hb

theorem forgetAll_sound (xs : List V) {a : PK N} (hw : WF a) {s s' : St V} (h : γc a s) (hr : forgetRel xs s s') :
    γc (forgetAll xs a) s' := by
  induction xs generalizing a s with
  | nil => cases hr; exact h
  | cons x xs ih =>
    obtain ⟨k, hr⟩ := hr
    exact ih (forget1_wf x hw) (forget1_sound x k hw h) hr


theorem ufForget_extensive {l : List (Pack N)} {s : St V} (x : V) (hw : WFl l) (h : ∀ p ∈ l, Pack.γc p s) :
    ∀ q ∈ ufForget l x, Pack.γc q s := by
  intro q hq
  have := ufForget_γc x (s x) hw h q hq
  rwa [St.set_self] at this

/-- the merged class after the base transformer, and the untouched classes, accept the successor -/
theorem merged_sound {l : List (Pack N)} {vars : List V} {acc : Pack N} {rest : List (Pack N)}
    (hm : merge N.top l vars = some (acc, rest)) (hw : WFl l) {f : N.B → N.B} {r : St V → St V → Prop}
    (hf : N.TSound f r) (hloc : Local r vars) {s s' : St V} (h : ∀ p ∈ l, Pack.γc p s) (hr : r s s') :
    ∀ q ∈ (⟨acc.vars, f acc.val⟩ : Pack N) :: rest, Pack.γc q s' := by
  have sp := merge_spec hm
  have hw' := sp.wfl hw
  rw [wfl_cons] at hw'
  intro q hq
  rcases List.mem_cons.1 hq with rfl | hq
  · intro t' ht'
    simp only at ht'
    -- the state before, replayed on the variables outside the merged class as `t'` has them
    let t : St V := fun v => if v ∈ acc.vars then s v else t' v
    have hagree : agree acc.vars s t := fun v hv => by simp [t, hv]
    have hacc : N.γ acc.val t := by
      apply sp.val_sound t (N.top_sound t)
      intro p hp hsub
      exact h p hp t (fun v hv => hagree v (hsub v hv))
    have hrt := hloc.2 s s' hr t (fun v hv => hagree v (sp.vars_sub v hv))
    have heq : (fun v => if v ∈ vars then s' v else t v) = t' := by
      funext v
      by_cases hv : v ∈ vars
      · simp only [hv, if_true]; exact (ht' v (sp.vars_sub v hv)).symm
      · simp only [hv, if_false, t]
        by_cases ha : v ∈ acc.vars
        · simp only [ha, if_true]; rw [ht' v ha, hloc.1 s s' hr v hv]
        · simp only [ha, if_false]
    rw [heq] at hrt
    exact hf _ _ _ hacc hrt
  · have hq0 := h q (sp.rest_sub q hq)
    intro t ht
    apply hq0
    intro v hv
    rw [ht v hv]
    apply hloc.1 s s' hr
    intro hvv
    exact hw'.1 q hq v (sp.vars_sub v hvv) hv

theorem stmtOn_wf (vars : List V) (f : N.B → N.B) (nb en : Bool) {l : List (Pack N)} (h : WFl l) :
    ∀ b, stmtOn vars f nb en l = some b → WF b := by
  intro b hb
  unfold stmtOn at hb
  split at hb
  · split at hb
    · cases hb
    · cases hb; trivial
  · rename_i acc rest hm
    simp only at hb
    split at hb
    · cases hb; trivial
    · cases hb; exact wfl_setVal _ ((merge_spec hm).wfl h)

theorem stmt_wf (fx : Option V) (vars : List V) (f : N.B → N.B) (nb en : Bool) {a : PK N} (h : WF a) :
    ∀ b, stmt fx vars f nb en a = some b → WF b := by
  intro b hb
  cases a with
  | bot => simp only [stmt, Option.some.injEq] at hb; subst hb; trivial
  | packs l =>
    simp only [stmt] at hb
    cases fx with
    | none => exact stmtOn_wf vars f nb en h b hb
    | some x => exact stmtOn_wf vars f nb en (ufForget_wfl x h) b hb

theorem stmtOn_sound {vars : List V} (hv : vars ≠ []) {f : N.B → N.B} (nb en : Bool)
    {r : St V → St V → Prop} (hf : N.TSound f r) (hloc : Local r vars) {l : List (Pack N)} (hw : WFl l)
    {s s' : St V} (h : ∀ p ∈ l, Pack.γc p s) (hr : r s s') : ∃ b, stmtOn vars f nb en l = some b ∧ γc b s' := by
  obtain ⟨⟨acc, rest⟩, hm⟩ := merge_isSome (fresh := N.top) hv (N.top_sound s)
    (fun p hp => Pack.γ_of_γc (h p hp))
  unfold stmtOn
  rw [hm]
  simp only
  have hres := merged_sound hm hw hf hloc h hr
  have hnb : N.isBot (f acc.val) = false :=
    N.isBot_false_of_γ (Pack.γ_of_γc (hres _ List.mem_cons_self))
  simp only [hnb, Bool.and_false, Bool.false_eq_true, if_false]
  exact ⟨_, rfl, hres⟩

/-- **soundness of a statement**: it is defined (no CRAB_ERROR) on every value that has a state, and
    the result accepts every successor -/
theorem stmt_sound (fx : Option V) {vars : List V} (hv : vars ≠ []) {f : N.B → N.B} (nb en : Bool)
    {r : St V → St V → Prop} (hf : N.TSound f r) (hloc : Local r vars) {a : PK N} (hw : WF a)
    {s s' : St V} (h : γc a s) (hr : r s s') : ∃ b, stmt fx vars f nb en a = some b ∧ γc b s' := by
  cases a with
  | bot => exact absurd h id
  | packs l =>
    simp only [stmt]
    cases fx with
    | none => exact stmtOn_sound hv nb en hf hloc hw h hr
    | some x => exact stmtOn_sound hv nb en hf hloc (ufForget_wfl x hw) (ufForget_extensive x hw h) hr

/-! ### `operator+=` -/

theorem addCsts_bot (cs : List (CstInfo N)) : addCsts cs (.bot : PK N) = .bot := by cases cs <;> rfl

/-- one round of the loop of `+=`: nothing, bottom, or the statement `*absval += cst` on the merged
    class -/
def addCst (c : CstInfo N) (l : List (Pack N)) : PK N :=
  if c.contra then .bot
  else if c.taut || c.vars.isEmpty then .packs l
  else (stmtOn c.vars c.f true false l).getD .bot

theorem addCsts_cons (c : CstInfo N) (cs : List (CstInfo N)) (l : List (Pack N)) :
    addCsts (c :: cs) (.packs l) = addCsts cs (addCst c l) := by
  simp only [addCsts, addCst, stmtOn]
  cases c.contra with
  | true => exact (addCsts_bot cs).symm
  | false =>
    cases c.taut with
    | true => rfl
    | false =>
      cases c.vars.isEmpty with
      | true => rfl
      | false =>
        simp only [Bool.false_eq_true, if_false, Bool.or_self]
        cases merge N.top l c.vars with
        | none => exact (addCsts_bot cs).symm
        | some res =>
          simp only [Bool.true_and, Option.getD_some]
          split
          · exact (addCsts_bot cs).symm
          · rfl

theorem addCst_wf (c : CstInfo N) {l : List (Pack N)} (h : WFl l) : WF (addCst c l) := by
  unfold addCst
  split
  · trivial
  · split
    · exact h
    · cases hs : stmtOn c.vars c.f true false l with
      | none => trivial
      | some b => exact stmtOn_wf _ _ _ _ h b hs

/-- what `+=` asks of one constraint (`Op.BaseSound` of `.add`): a constraint flagged as contradiction has
    no model, its base transformer abstracts the filter, and it only reads its variables -/
def CstInfo.Sound (c : CstInfo N) : Prop :=
  (c.contra = true → ∀ s, ¬ c.sat s) ∧
    N.TSound c.f (fun s s' => c.sat s ∧ s' = s) ∧ (∀ s t, agree c.vars s t → c.sat s → c.sat t)

theorem addCst_sound {c : CstInfo N} (hc : c.Sound)
    {l : List (Pack N)} (hw : WFl l) {s : St V} (h : ∀ p ∈ l, Pack.γc p s) (hs : c.sat s) :
    γc (addCst c l) s := by
  unfold addCst
  split
  · rename_i hcon; exact absurd hs (hc.1 hcon s)
  · split
    · exact h
    · rename_i hne
      -- a filter is local to the variables of its constraint
      have hloc : Local (fun s s' => c.sat s ∧ s' = s) c.vars :=
        ⟨fun s1 s2 h12 v _ => by rw [h12.2], fun s1 s2 h12 t ht => ⟨hc.2.2 s1 t ht h12.1, by
          funext v
          rw [h12.2]
          split
          · rename_i hv; exact (ht v hv).symm
          · rfl⟩⟩
      obtain ⟨b, hb, hg⟩ := stmtOn_sound (fun he => hne (by rw [he]; exact Bool.or_true _)) true false hc.2.1 hloc
        hw h ⟨hs, rfl⟩
      rw [hb]; exact hg

theorem addCsts_wf (cs : List (CstInfo N)) {a : PK N} (h : WF a) : WF (addCsts cs a) := by
  induction cs generalizing a with
  | nil => cases a <;> exact h
  | cons c cs ih =>
    cases a with
    | bot => trivial
    | packs l => rw [addCsts_cons]; exact ih (addCst_wf c h)

theorem addCsts_sound (cs : List (CstInfo N)) (hcs : ∀ c ∈ cs, c.Sound)
    {a : PK N} (hw : WF a) {s : St V} (h : γc a s) (hsat : ∀ c ∈ cs, c.sat s) : γc (addCsts cs a) s := by
  induction cs generalizing a with
  | nil => cases a <;> exact h
  | cons c cs ih =>
    cases a with
    | bot => exact absurd h id
    | packs l =>
      rw [addCsts_cons]
      exact ih (fun c' hc' => hcs c' (List.mem_cons_of_mem _ hc')) (addCst_wf c hw)
        (addCst_sound (hcs c List.mem_cons_self) hw h (hsat c List.mem_cons_self))
        (fun c' hc' => hsat c' (List.mem_cons_of_mem _ hc'))

/-! ### `is_bottom`, `is_top`, `operator<=` -/

theorem not_γc_of_isBottom {a : PK N} (h : isBottom a = true) (s : St V) : ¬ γc a s := by
  cases a with
  | bot => exact id
  | packs l => simp [isBottom] at h

theorem γc_of_isTop (t : N.TopSound) {a : PK N} (h : isTop a = true) (s : St V) : γc a s := by
  cases a with
  | bot => simp [isTop] at h
  | packs l =>
    intro p hp u _
    exact t _ u (List.all_eq_true.1 h p hp)

theorem γc_top (s : St V) : γc (top : PK N) s := by intro p hp; simp at hp

theorem wf_top : WF (top : PK N) := ⟨List.Pairwise.nil, fun p hp => by cases hp⟩

theorem ufLeq_sound {a b : List (Pack N)} (hb : WFl b) (h : ufLeq a b = true) {s : St V}
    (hg : ∀ p ∈ a, Pack.γc p s) : ∀ R ∈ b, Pack.γc R s := by
  intro R hR t ht
  have hall := List.all_eq_true.1 h R hR
  obtain ⟨v, hv⟩ := List.exists_mem_of_ne_nil _ (hb.2 R hR)
  have := List.all_eq_true.1 hall v hv
  split at this
  · simp at this
  · rename_i L hL
    simp only [Bool.and_eq_true] at this
    have hLm := packOf_some hL
    apply N.leq_sound _ _ t this.2
    apply hg L hLm.1
    intro u hu
    exact ht u (List.contains_iff_mem.1 (List.all_eq_true.1 this.1 u hu))

theorem leq_sound (t : N.TopSound) {a b : PK N} (hb : WF b) (h : leq a b = true) {s : St V} (hg : γc a s) :
    γc b s := by
  unfold leq at h
  split at h
  · rename_i hc
    rcases Bool.or_eq_true _ _ ▸ hc with hc | hc
    · exact absurd hg (not_γc_of_isBottom hc s)
    · exact γc_of_isTop t hc s
  · split at h
    · simp at h
    · split at h
      · rename_i la lb
        exact ufLeq_sound hb h hg
      · simp at h

theorem ufLeq_refl (hr : N.LeqRefl) {a : List (Pack N)} (hw : WFl a) : ufLeq a a = true := by
  unfold ufLeq
  apply List.all_eq_true.2
  intro R hR
  apply List.all_eq_true.2
  intro v hv
  rw [packOf_eq hw hR hv]
  simp only [Bool.and_eq_true]
  exact ⟨List.all_eq_true.2 (fun u hu => List.contains_iff_mem.2 hu), hr R.val⟩

theorem leq_refl (hr : N.LeqRefl) {a : PK N} (hw : WF a) : leq a a = true := by
  unfold leq
  cases hb : a.isBottom
  · cases ht : a.isTop
    · simp only [Bool.or_self, Bool.false_eq_true, if_false]
      cases a with
      | bot => simp [isBottom] at hb
      | packs l => exact ufLeq_refl hr hw
    · simp
  · simp

theorem leq_of_isBottom {a : PK N} (h : isBottom a = true) (b : PK N) : leq a b = true := by
  simp [leq, h]

theorem leq_top (a : PK N) : leq a top = true := by
  have : isTop (top : PK N) = true := by simp [isTop, top]
  simp [leq, this]

end PK
end Fct
end Dom
end Crab
