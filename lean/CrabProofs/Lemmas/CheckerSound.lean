import CrabModel.Analysis.Checker
import CrabModel.Analysis.FwdBwd
import CrabProofs.Lemmas.IRTrace

/-!
  Soundness of the model of the assertion checker (`CrabModel/Analysis/Checker.lean`) w.r.t. the
  executable semantics: decision rules, then the statement loop of a block, with a set of
  discharged assertions (`checkStmtsFB`, the loop of the forward+backward checker) and for a
  transformer that is sound on the statements of a set `P` in the states of an invariant `I`
  (`checkStmtsFB_sound_on`; nothing discharged: `checkStmts_sound_on`; `P`, `I` trivial:
  `checkStmtsFB_sound`, `checkStmts_sound`).
-/
namespace Crab
namespace Analysis
open Crab.IR

variable {A : Type}

theorem checkAssert_safe (D : CheckDom A) (inv : A) (c : Cst) (σ : State)
    (h : checkAssert D inv c = .safe) (hγ : D.γ inv σ) : c.holds σ = true := by
  have hb : ¬ D.isBottom inv = true := fun hb => D.isBottom_sound inv σ hb hγ
  unfold checkAssert at h
  rw [if_neg hb, if_neg hb] at h
  by_cases hc : isContradiction c = true
  · rw [if_pos hc] at h; cases h
  · rw [if_neg hc] at h
    by_cases he : D.entails inv c = true
    · exact D.entails_sound inv c σ he hγ
    · rw [if_neg he] at h; cases h

theorem checkAssert_unreachable (D : CheckDom A) (inv : A) (c : Cst) (σ : State)
    (h : checkAssert D inv c = .unreachable) : ¬ D.γ inv σ := by
  intro hγ
  have hb : ¬ D.isBottom inv = true := fun hb => D.isBottom_sound inv σ hb hγ
  unfold checkAssert at h
  rw [if_neg hb, if_neg hb] at h
  by_cases hc : isContradiction c = true
  · rw [if_pos hc] at h; cases h
  · rw [if_neg hc] at h
    by_cases he : D.entails inv c = true
    · rw [if_pos he] at h; cases h
    · rw [if_neg he] at h; cases h

theorem checkBoolAssert_safe (D : CheckDom A) (inv : A) (b : Nat) (σ : State)
    (h : checkBoolAssert D inv b = .safe) (hγ : D.γ inv σ) : σ.getb b = true := by
  have hb : ¬ D.isBottom inv = true := fun hb => D.isBottom_sound inv σ hb hγ
  unfold checkBoolAssert at h
  rw [if_neg hb] at h
  by_cases hn : D.isBottom (D.assumeBool inv b true) = true
  · -- the negation is refuted: were `b` false, the state would be in `γ` of a bottom value
    cases hv : σ.getb b with
    | true => rfl
    | false => exact absurd (D.assumeBool_sound inv b true σ hγ (by rw [hv]; rfl)) (D.isBottom_sound _ σ hn)
  · rw [if_neg hn] at h; cases h

theorem checkBoolAssert_unreachable (D : CheckDom A) (inv : A) (b : Nat) (σ : State)
    (h : checkBoolAssert D inv b = .unreachable) : ¬ D.γ inv σ := by
  intro hγ
  have hb : ¬ D.isBottom inv = true := fun hb => D.isBottom_sound inv σ hb hγ
  unfold checkBoolAssert at h
  rw [if_neg hb] at h
  by_cases hn : D.isBottom (D.assumeBool inv b true) = true
  · rw [if_pos hn] at h; cases h
  · rw [if_neg hn] at h; cases h

/-! ### the statement loop

Stated for the loop of the forward+backward checker (`checkStmtsFB`: the statements whose index
is in the discharged set `safe` get the verdict `safe` without a look at the invariant); the plain
loop `checkStmts` is the case of an empty set. -/

/-- verdict attached to the statement at the head of the loop -/
def headVerdictFB (D : CheckDom A) (safe : Nat → Bool) (s : Stmt) (a : A) (i : Nat) : List (Nat × CheckKind) :=
  match s with
  | .assert c => [(i, if safe i then CheckKind.safe else checkAssert D a c)]
  | .bassert b => [(i, if safe i then CheckKind.safe else checkBoolAssert D a b)]
  | _ => []

/-- invariant the loop continues with -/
def nextInvFB (D : CheckDom A) (tr : Stmt → A → A) (safe : Nat → Bool) (s : Stmt) (a : A) (i : Nat) : A :=
  match s with
  | .assert c =>
    if (if safe i then CheckKind.safe else checkAssert D a c) == .unreachable then a else tr s a
  | .bassert b =>
    if (if safe i then CheckKind.safe else checkBoolAssert D a b) == .unreachable then a else tr s a
  | _ => tr s a

theorem checkStmtsFB_cons (D : CheckDom A) (tr : Stmt → A → A) (safe : Nat → Bool) (i : Nat) (s : Stmt)
    (ss : List Stmt) (a : A) :
    checkStmtsFB D tr safe i (s :: ss) a =
      headVerdictFB D safe s a i ++ checkStmtsFB D tr safe (i + 1) ss (nextInvFB D tr safe s a i) := by
  cases s <;> rfl

theorem checkStmtsFB_index_ge (D : CheckDom A) (tr : Stmt → A → A) (safe : Nat → Bool) :
    ∀ (ss : List Stmt) (i : Nat) (a : A) (j : Nat) (v : CheckKind),
      (j, v) ∈ checkStmtsFB D tr safe i ss a → i ≤ j := by
  intro ss
  induction ss with
  | nil => intro i a j v h; simp [checkStmtsFB] at h
  | cons s ss ih =>
    intro i a j v h
    rw [checkStmtsFB_cons] at h
    simp only [List.mem_append] at h
    rcases h with h | h
    · cases s <;> simp [headVerdictFB] at h <;> omega
    · have := ih _ _ _ _ h; omega

theorem headVerdictFB_sound (D : CheckDom A) (safe : Nat → Bool) (s : Stmt) (a : A) (i j : Nat)
    (v : CheckKind) (σ : State) (ch : Int) (hγ : D.γ a σ) (h : (j, v) ∈ headVerdictFB D safe s a i) :
    j = i ∧ v ≠ .unreachable ∧ (v = .safe → safe j = true ∨ stepStmt s σ ch ≠ .fail) := by
  cases s <;> simp [headVerdictFB] at h
  case assert c =>
    obtain ⟨hj, hv⟩ := h
    subst hj
    cases hs : safe j with
    | true => rw [hs] at hv; simp at hv; subst hv; exact ⟨rfl, by decide, fun _ => Or.inl rfl⟩
    | false =>
      rw [hs] at hv
      simp at hv
      refine ⟨rfl, ?_, ?_⟩
      · intro hu; exact checkAssert_unreachable D a c σ (hv ▸ hu) hγ
      · intro hsf
        have := checkAssert_safe D a c σ (hv ▸ hsf) hγ
        right
        simp [stepStmt, this]
  case bassert b =>
    obtain ⟨hj, hv⟩ := h
    subst hj
    cases hs : safe j with
    | true => rw [hs] at hv; simp at hv; subst hv; exact ⟨rfl, by decide, fun _ => Or.inl rfl⟩
    | false =>
      rw [hs] at hv
      simp at hv
      refine ⟨rfl, ?_, ?_⟩
      · intro hu; exact checkBoolAssert_unreachable D a b σ (hv ▸ hu) hγ
      · intro hsf
        have := checkBoolAssert_safe D a b σ (hv ▸ hsf) hγ
        right
        simp [stepStmt, this]

theorem runStmts_cons_mem (b i : Nat) (s : Stmt) (ss : List Stmt) (σ : State) (ch : List Int) (e : Event)
    (h : e ∈ (runStmts b i (s :: ss) σ ch).events) :
    (e = Event.check b i σ
        (match stepStmt s σ (if s.usesChoice then popChoice ch else (0, ch)).1 with
         | .fail => false | _ => true)) ∨
    (∃ σ1, stepStmt s σ (if s.usesChoice then popChoice ch else (0, ch)).1 = .next σ1 ∧
        e ∈ (runStmts b (i + 1) ss σ1 (if s.usesChoice then popChoice ch else (0, ch)).2).events) := by
  unfold runStmts at h
  simp only at h
  split at h
  · rename_i σ1 hs
    simp only [List.mem_append] at h
    rcases h with h | h
    · split at h
      · simp only [List.mem_singleton] at h; exact Or.inl h
      · simp at h
    · exact Or.inr ⟨σ1, hs, h⟩
  · split at h
    · simp only [List.mem_singleton] at h; exact Or.inl h
    · simp at h

theorem nextInvFB_sound_on (D : CheckDom A) (tr : Stmt → A → A) (safe : Nat → Bool) (s : Stmt) (a : A)
    (i : Nat) (σ σ1 : State) (hγ : D.γ a σ) (ht : D.γ (tr s a) σ1) :
    D.γ (nextInvFB D tr safe s a i) σ1 := by
  cases s <;> try exact ht
  case assert c =>
    simp only [nextInvFB]
    cases hsf : safe i with
    | true => simpa using ht
    | false =>
      simp only [Bool.false_eq_true, if_false]
      split
      · rename_i hu
        exact absurd hγ (checkAssert_unreachable D a c σ (by simpa using hu))
      · exact ht
  case bassert b =>
    simp only [nextInvFB]
    cases hsf : safe i with
    | true => simpa using ht
    | false =>
      simp only [Bool.false_eq_true, if_false]
      split
      · rename_i hu
        exact absurd hγ (checkBoolAssert_unreachable D a b σ (by simpa using hu))
      · exact ht

/-- the statement loop, for a transformer sound on the statements of `P` in the states of `I`:
    for an execution of the block from a state of `γ a`, no assert event has the verdict
    `unreachable`, and an assert with verdict `safe` that is not in the discharged set does not
    fail -/
theorem checkStmtsFB_sound_on (D : CheckDom A) (tr : Stmt → A → A) (safe : Nat → Bool)
    (P : Stmt → Prop) (I : State → Prop)
    (hI : ∀ s σ ch σ', I σ → stepStmt s σ ch = .next σ' → I σ')
    (htr : ∀ s a σ ch σ', P s → I σ → D.γ a σ → stepStmt s σ ch = .next σ' → D.γ (tr s a) σ')
    (b : Nat) :
    ∀ (ss : List Stmt) (i : Nat) (a : A) (σ : State) (ch : List Int), (∀ s ∈ ss, P s) → I σ →
      D.γ a σ → ∀ (j : Nat) (σ' : State) (ok : Bool) (v : CheckKind),
        Event.check b j σ' ok ∈ (runStmts b i ss σ ch).events →
        (j, v) ∈ checkStmtsFB D tr safe i ss a →
        v ≠ .unreachable ∧ (v = .safe → safe j = true ∨ ok = true) := by
  intro ss
  induction ss with
  | nil => intro i a σ ch _ _ _ j σ' ok v h; simp [runStmts] at h
  | cons s ss ih =>
    intro i a σ ch hP hIσ hγ j σ' ok v hev hv
    rw [checkStmtsFB_cons] at hv
    simp only [List.mem_append] at hv
    rcases runStmts_cons_mem b i s ss σ ch _ hev with he | ⟨σ1, hs, htail⟩
    · injection he with _ hj _ hok
      rcases hv with hv | hv
      · obtain ⟨_, hnu, hsafe⟩ := headVerdictFB_sound D safe s a i j v σ
          (if s.usesChoice then popChoice ch else (0, ch)).1 hγ hv
        refine ⟨hnu, fun hvs => ?_⟩
        rcases hsafe hvs with h1 | h1
        · exact Or.inl h1
        · right
          rw [hok]
          split
          · rename_i hf; exact absurd hf h1
          · rfl
      · have := checkStmtsFB_index_ge D tr safe _ _ _ _ _ hv; omega
    · rcases hv with hv | hv
      · obtain ⟨hj, _, _⟩ := headVerdictFB_sound D safe s a i j v σ 0 hγ hv
        obtain ⟨_, _, _, he, hle⟩ := runStmts_events_check b ss (i + 1) σ1 _ _ htail
        injection he with _ hj' _ _
        omega
      · have ht := htr s a σ _ σ1 (hP s List.mem_cons_self) hIσ hγ hs
        exact ih (i + 1) _ σ1 _ (fun t h => hP t (List.mem_cons_of_mem _ h)) (hI s σ _ σ1 hIσ hs)
          (nextInvFB_sound_on D tr safe s a i σ σ1 hγ ht) j σ' ok v htail hv

theorem checkStmtsFB_sound (D : CheckDom A) (tr : Stmt → A → A) (htr : TrSound D tr) (safe : Nat → Bool)
    (b : Nat) (ss : List Stmt) (i : Nat) (a : A) (σ : State) (ch : List Int) (hγ : D.γ a σ) :
      ∀ (j : Nat) (σ' : State) (ok : Bool) (v : CheckKind),
        Event.check b j σ' ok ∈ (runStmts b i ss σ ch).events →
        (j, v) ∈ checkStmtsFB D tr safe i ss a →
        v ≠ .unreachable ∧ (v = .safe → safe j = true ∨ ok = true) :=
  checkStmtsFB_sound_on D tr safe (fun _ => True) (fun _ => True) (fun _ _ _ _ _ _ => trivial)
    (fun s a σ ch σ' _ _ => htr s a σ ch σ') b ss i a σ ch (fun _ _ => trivial) trivial hγ

/-- the plain loop is the loop with nothing discharged -/
theorem checkStmts_eq_FB (D : CheckDom A) (tr : Stmt → A → A) : ∀ (ss : List Stmt) (i : Nat) (a : A),
    checkStmts D tr i ss a = checkStmtsFB D tr (fun _ => false) i ss a
  | [], _, _ => rfl
  | s :: ss, i, a => by
    cases s <;> simp only [checkStmts, checkStmtsFB, Bool.false_eq_true, if_false,
      checkStmts_eq_FB D tr ss]

theorem checkStmts_sound_on (D : CheckDom A) (tr : Stmt → A → A) (P : Stmt → Prop)
    (I : State → Prop)
    (hI : ∀ s σ ch σ', I σ → stepStmt s σ ch = .next σ' → I σ')
    (htr : ∀ s a σ ch σ', P s → I σ → D.γ a σ → stepStmt s σ ch = .next σ' → D.γ (tr s a) σ')
    (b : Nat) (ss : List Stmt) (i : Nat) (a : A) (σ : State) (ch : List Int) (hP : ∀ s ∈ ss, P s)
    (hIσ : I σ) (hγ : D.γ a σ) (j : Nat) (σ' : State) (ok : Bool) (v : CheckKind)
    (hev : Event.check b j σ' ok ∈ (runStmts b i ss σ ch).events)
    (hv : (j, v) ∈ checkStmts D tr i ss a) :
    v ≠ .unreachable ∧ (v = .safe → ok = true) := by
  rw [checkStmts_eq_FB] at hv
  have h := checkStmtsFB_sound_on D tr (fun _ => false) P I hI htr b ss i a σ ch hP hIσ hγ j σ' ok v
    hev hv
  exact ⟨h.1, fun hs => (h.2 hs).resolve_left Bool.false_ne_true⟩

/-- the statement loop: every assert event of an execution of the block from a state of
    `γ a` is consistent with its verdict -/
theorem checkStmts_sound (D : CheckDom A) (tr : Stmt → A → A) (htr : TrSound D tr) (b : Nat)
    (ss : List Stmt) (i : Nat) (a : A) (σ : State) (ch : List Int) (hγ : D.γ a σ) :
      ∀ (j : Nat) (σ' : State) (ok : Bool) (v : CheckKind),
        Event.check b j σ' ok ∈ (runStmts b i ss σ ch).events →
        (j, v) ∈ checkStmts D tr i ss a →
        v ≠ .unreachable ∧ (v = .safe → ok = true) :=
  checkStmts_sound_on D tr (fun _ => True) (fun _ => True) (fun _ _ _ _ _ _ => trivial)
    (fun s a σ ch σ' _ _ => htr s a σ ch σ') b ss i a σ ch (fun _ _ => trivial) trivial hγ

end Analysis
end Crab
