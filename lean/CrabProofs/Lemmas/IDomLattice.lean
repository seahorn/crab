import CrabProofs.Lemmas.IDomEnv

/-!
  Lattice operations of the interval domain: soundness of the pointwise merges of
  `separate_domain` (join, widenings: only common keys survive; meet, narrowing: all keys).
-/
namespace Crab
namespace IDom
open Lin

namespace Env

theorem upperWith_left {op : Itv → Itv → Itv} (hop : ∀ u w k, Itv.mem k u → Itv.mem k (op u w))
    {a : Env} (hs : a.Sorted) (b : Env) {σ : State} (hg : γ a σ) : γ (upperWith op a b) σ := by
  unfold upperWith
  rw [if_neg (ne_true_of_eq_false hg.1)]
  by_cases hb : b.bottom = true
  · rw [if_pos hb]; exact hg
  · rw [if_neg hb]
    refine (γ_iff_of_not_bottom rfl σ).2 fun x v hv => ?_
    obtain ⟨u, w, hu, -, rfl⟩ := Map.find_mergeAbs_some hs hv
    exact hop u w _ (γ_find hg hu)

theorem upperWith_right {op : Itv → Itv → Itv} (hop : ∀ u w k, Itv.mem k w → Itv.mem k (op u w))
    {a : Env} (hs : a.Sorted) {b : Env} {σ : State} (hg : γ b σ) : γ (upperWith op a b) σ := by
  unfold upperWith
  by_cases ha : a.bottom = true
  · rw [if_pos ha]; exact hg
  · rw [if_neg ha, if_neg (ne_true_of_eq_false hg.1)]
    refine (γ_iff_of_not_bottom rfl σ).2 fun x v hv => ?_
    obtain ⟨u, w, -, hw, rfl⟩ := Map.find_mergeAbs_some hs hv
    exact hop u w _ (γ_find hg hw)

theorem lowerWith_sound {op : Itv → Itv → Itv}
    (hop : ∀ u w k, Itv.mem k u → Itv.mem k w → Itv.mem k (op u w))
    {a b : Env} (hs : a.Sorted) {σ : State} (ha : γ a σ) (hb : γ b σ) : γ (lowerWith op a b) σ := by
  have hnb : Map.mergeBot op a.m b.m = false := by
    refine List.any_eq_false.2 fun p hp => ?_
    cases hf : Map.find b.m p.1 with
    | none => exact Bool.false_ne_true
    | some w =>
      exact ne_true_of_eq_false (Itv.isBottom_false_of_mem
        (hop p.2 w _ (γ_find ha ((Map.mem_iff_find hs p.1 p.2).1 hp)) (γ_find hb hf)))
  unfold lowerWith
  simp only [ha.1, hb.1, hnb, Bool.or_self, Bool.false_eq_true, if_false]
  refine (γ_iff_of_not_bottom rfl σ).2 fun x v hv => ?_
  rw [Map.find_mergeKeep] at hv
  cases hu : Map.find a.m x with
  | none =>
    cases hw : Map.find b.m x with
    | none => rw [hu, hw] at hv; cases hv
    | some w => rw [hu, hw] at hv; cases hv; exact γ_find hb hw
  | some u =>
    cases hw : Map.find b.m x with
    | none => rw [hu, hw] at hv; cases hv; exact γ_find ha hu
    | some w => rw [hu, hw] at hv; cases hv; exact hop u w _ (γ_find ha hu) (γ_find hb hw)

theorem lowerWith_exact {op : Itv → Itv → Itv}
    (hop : ∀ u w k, Itv.mem k (op u w) → Itv.mem k u ∧ Itv.mem k w)
    {a b : Env} {σ : State} (hg : γ (lowerWith op a b) σ) : γ a σ ∧ γ b σ := by
  unfold lowerWith at hg
  by_cases hab : (a.bottom || b.bottom) = true
  · rw [if_pos hab] at hg; exact absurd hg (not_γ_bot σ)
  · rw [if_neg hab] at hg
    by_cases hmb : Map.mergeBot op a.m b.m = true
    · rw [if_pos hmb] at hg; exact absurd hg (not_γ_bot σ)
    · rw [if_neg hmb] at hg
      simp only [Bool.or_eq_true, not_or, Bool.not_eq_true] at hab
      have h : ∀ x v, Map.find (Map.mergeKeep op a.m b.m) x = some v → Itv.mem (σ x) v := fun x v => γ_find hg
      constructor
      · refine (γ_iff_of_not_bottom hab.1 σ).2 fun x u hu => ?_
        have := h x
        rw [Map.find_mergeKeep, hu] at this
        cases hw : Map.find b.m x with
        | none => rw [hw] at this; exact this u rfl
        | some w => rw [hw] at this; exact (hop u w _ (this _ rfl)).1
      · refine (γ_iff_of_not_bottom hab.2 σ).2 fun x w hw => ?_
        have := h x
        rw [Map.find_mergeKeep, hw] at this
        cases hu : Map.find a.m x with
        | none => rw [hu] at this; exact this w rfl
        | some u => rw [hu] at this; exact (hop u w _ (this _ rfl)).2

theorem join_upper_left {a : Env} (hs : a.Sorted) (b : Env) {σ : State} (hg : γ a σ) : γ (join a b) σ :=
  upperWith_left (fun _ _ _ h => Itv.join_upper_left h) hs b hg
theorem join_upper_right {a : Env} (hs : a.Sorted) {b : Env} {σ : State} (hg : γ b σ) : γ (join a b) σ :=
  upperWith_right (fun _ _ _ h => Itv.join_upper_right h) hs hg
theorem widen_upper_left {a : Env} (hs : a.Sorted) (b : Env) {σ : State} (hg : γ a σ) : γ (widen a b) σ :=
  upperWith_left (fun _ _ _ h => Itv.widen_upper_left h) hs b hg
theorem widen_upper_right {a : Env} (hs : a.Sorted) {b : Env} {σ : State} (hg : γ b σ) : γ (widen a b) σ :=
  upperWith_right (fun _ _ _ h => Itv.widen_upper_right h) hs hg
theorem meet_sound {a b : Env} (hs : a.m.Sorted) {σ : State} (ha : γ a σ) (hb : γ b σ) : γ (meet a b) σ :=
  lowerWith_sound (fun _ _ _ h1 h2 => Itv.meet_sound h1 h2) hs ha hb
theorem meet_exact {a b : Env} {σ : State} (hg : γ (meet a b) σ) : γ a σ ∧ γ b σ :=
  lowerWith_exact (fun _ _ _ h => Itv.meet_exact h) hg
theorem narrow_sound {a b : Env} (hs : a.m.Sorted) {σ : State} (ha : γ a σ) (hb : γ b σ) : γ (narrow a b) σ :=
  lowerWith_sound (fun _ _ _ h1 h2 => Itv.narrow_sound h1 h2) hs ha hb

theorem leq_refl {a : Env} (hs : a.m.Sorted) : leq a a = true := by
  unfold leq
  cases h : a.bottom
  · simp only [Bool.false_eq_true, if_false]
    rw [Map.leq_iff]
    intro p hp
    exact ⟨p.2, (Map.mem_iff_find hs p.1 p.2).1 hp, Itv.leq_refl _⟩
  · simp

end Env

end IDom
end Crab
