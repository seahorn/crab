import CrabProofs.Lemmas.ArraySmashItvRefine
import CrabProofs.Lemmas.IDomFrame

/-!
  `operator&` of `array_smashing<interval_domain>` and the whole operation language.

  The meet is sound under the invariant `Inv2` = `Inv`, `SizesOk` (every recorded size of an array
  is the element size of that array: holds when `array_assign` is only used between arrays of the
  same element size) and `ND` (no dangling summary: the summary of an array whose size is not
  recorded, and every temporary `a.smashed.copy`, is unbound in the base environment; the join
  before the repair 9186671 broke this invariant, the repaired join keeps it), for concrete states
  in which every array whose size is recorded has a written cell (`NE`, true when `array_init` is
  only used over non-empty ranges).  Every operation preserves these (`xop_soundInv2`, for the
  steps `XOp.toStepC` whose relation of `array_init` contains "the range is not empty", and
  operations that respect `XOp.SizeOk`).  `SizesOk` and `NE` are `Smash.SizesOk` and `Smash.NE` of
  the generic functor at `absSz st.sizes`; an operation inherits them, like `Inv`, from the generic
  operation it commutes with (`trans_soundInv2`, `upper_soundInv2`).  `ND` speaks of the bindings
  of the interval environment and is proved operation by operation (`nd_*`).
-/
namespace Crab
namespace Dom
namespace SmashItv
open Crab.Dom.Arr Crab.IDom

def SizesOk (esz : Nat → Nat) (st : St) : Prop := ∀ a k, st.sizes.constSize a = some k → k = esz a

def ND (st : St) : Prop :=
  ∀ a, (st.sizes.constSize a = none → st.base.Unbound (enc (.smashed a))) ∧ st.base.Unbound (enc (.copy a))

def Inv2 (esz : Nat → Nat) (st : St) : Prop := Inv st ∧ SizesOk esz st ∧ ND st

theorem enc_ne {v w : Smash.Var} (h : v ≠ w) : enc v ≠ enc w := fun e => h (enc_inj e)

theorem sm_ne_prog (a x : Nat) : enc (.smashed a) ≠ enc (.prog x) := enc_ne (by intro h; cases h)
theorem cp_ne_prog (a x : Nat) : enc (.copy a) ≠ enc (.prog x) := enc_ne (by intro h; cases h)
theorem sm_ne_cp (a b : Nat) : enc (.smashed a) ≠ enc (.copy b) := enc_ne (by intro h; cases h)
theorem cp_ne_sm (a b : Nat) : enc (.copy a) ≠ enc (.smashed b) := enc_ne (by intro h; cases h)
theorem sm_ne_sm {a b : Nat} (h : a ≠ b) : enc (.smashed a) ≠ enc (.smashed b) :=
  enc_ne (fun e => h (Smash.Var.smashed.inj e))
theorem cp_ne_cp {a b : Nat} (h : a ≠ b) : enc (.copy a) ≠ enc (.copy b) :=
  enc_ne (fun e => h (Smash.Var.copy.inj e))

/-! ### recorded sizes after each operation of the size environment -/

theorem cs_set {z : SzEnv} (hz : z.bottom = false) (a k b : Nat) :
    (z.set a k).constSize b = if b = a then some k else z.constSize b :=
  congrFun (absSz_set hz a k) b

theorem cs_remove {z : SzEnv} (hz : z.bottom = false) (a b : Nat) :
    (z.remove a).constSize b = if b = a then none else z.constSize b :=
  congrFun (absSz_remove hz a) b

theorem cs_join {a b : SzEnv} (ha : a.bottom = false) (hb : b.bottom = false) (x : Nat) :
    (SzEnv.join a b).constSize x = if a.constSize x = b.constSize x then a.constSize x else none :=
  congrFun (absSz_join ha hb) x

theorem meet_sizes {a b : SzEnv} (ha : a.bottom = false) (hb : b.bottom = false)
    (hok : ∀ x v1 v2, a.m.find x = some v1 → b.m.find x = some v2 → v1 = v2) :
    (SzEnv.meet a b).bottom = false ∧
    ∀ x, (SzEnv.meet a b).constSize x = (match a.m.find x with | some v => some v | none => b.m.find x) := by
  have e : SzEnv.meet a b = ⟨false, SzMap.build (SzMap.keys a.m ++ SzMap.keys b.m) (fun k =>
      match a.m.find k with
      | some v => some v
      | none => b.m.find k)⟩ := by
    unfold SzEnv.meet
    simp only [ha, hb, Bool.or_self, Bool.false_eq_true, if_false]
    split
    · rename_i hc
      exfalso
      rw [List.any_eq_true] at hc
      obtain ⟨k, _, hk⟩ := hc
      cases h1 : a.m.find k with
      | none => simp [h1] at hk
      | some v1 =>
        cases h2 : b.m.find k with
        | none => simp [h1, h2] at hk
        | some v2 => simp [h1, h2, hok k v1 v2 h1 h2] at hk
    · rfl
  rw [e]
  refine ⟨rfl, fun x => ?_⟩
  simp only [SzEnv.constSize, Bool.false_eq_true, if_false, find_build, List.mem_append, mem_keys_iff]
  cases h1 : a.m.find x with
  | some v => simp
  | none =>
    cases h2 : b.m.find x with
    | none => simp
    | some w => simp

/-! ### `SizesOk` -/

variable {esz : Nat → Nat}

theorem sizesOk_top : SizesOk esz St.top := by
  intro a k h; simp [St.top, SzEnv.top, SzEnv.constSize, SzMap.find] at h

theorem sizes_agree {a b : St} (ha : Inv a) (hb : Inv b) (h1 : SizesOk esz a) (h2 : SizesOk esz b) :
    ∀ x v1 v2, a.sizes.m.find x = some v1 → b.sizes.m.find x = some v2 → v1 = v2 := by
  intro x v1 v2 e1 e2
  rw [h1 x v1 ((absSz_of_not_bottom ha.1 x).trans e1), h2 x v2 ((absSz_of_not_bottom hb.1 x).trans e2)]

/-- recorded sizes of a meet (under `SizesOk` no two sizes of one array differ) -/
theorem cs_meet {a b : St} (ha : Inv a) (hb : Inv b) (h1 : SizesOk esz a) (h2 : SizesOk esz b) (x : Nat) :
    (St.meet a b).sizes.constSize x =
      (match a.sizes.constSize x with | some v => some v | none => b.sizes.constSize x) := by
  rw [show a.sizes.constSize x = a.sizes.m.find x from absSz_of_not_bottom ha.1 x,
    show b.sizes.constSize x = b.sizes.m.find x from absSz_of_not_bottom hb.1 x]
  exact (meet_sizes ha.1 hb.1 (sizes_agree ha hb h1 h2)).2 x

theorem inv_meet {a b : St} (ha : Inv a) (hb : Inv b) (h1 : SizesOk esz a) (h2 : SizesOk esz b) :
    Inv (St.meet a b) :=
  ⟨(meet_sizes ha.1 hb.1 (sizes_agree ha hb h1 h2)).1, Env.lowerWith_sorted _ ha.2 b.base⟩

theorem sizesOk_meet {a b : St} (ha : Inv a) (hb : Inv b) (h1 : SizesOk esz a) (h2 : SizesOk esz b) :
    SizesOk esz (St.meet a b) := by
  intro x k hx
  rw [cs_meet ha hb h1 h2] at hx
  cases hc : a.sizes.constSize x with
  | some v => rw [hc] at hx; exact h1 x k (by rw [hc]; exact hx)
  | none => rw [hc] at hx; exact h2 x k hx

def IsProg (k : Crab.Lin.Var) : Prop := ∃ x, k = enc (.prog x)

theorem sm_not_prog (a : Nat) : ¬ IsProg (enc (.smashed a)) := fun ⟨x, h⟩ => sm_ne_prog a x h
theorem cp_not_prog (a : Nat) : ¬ IsProg (enc (.copy a)) := fun ⟨x, h⟩ => cp_ne_prog a x h

theorem mkExpr_vars (l : SLin) : ∀ p ∈ (mkExpr l).terms, IsProg p.1 := by
  refine List.foldlRecOn l.ts _ (motive := fun e : Crab.Lin.Expr => ∀ p ∈ e.terms, IsProg p.1) (by simp [Crab.Lin.Expr.const]) ?_
  intro acc h t _ p hp
  simp only [Crab.Lin.Expr.add, Crab.Lin.Expr.term] at hp
  split at hp
  · exact h p hp
  · simp only [List.foldl_cons, List.foldl_nil] at hp
    rcases Crab.Lin.Expr.mem_addTerm hp with h1 | h1
    · exact h p h1
    · exact ⟨t.2, h1.1⟩

theorem mkSys_in (cs : List XCst) : CstsIn IsProg (mkSys cs) := by
  intro c hc
  obtain ⟨c2, _, rfl⟩ := mem_mkSys hc
  exact mkExpr_vars _

theorem nd_top : ND St.top := fun _ => ⟨fun _ => Env.unbound_top _, Env.unbound_top _⟩

theorem nd_assign {st : St} (h : ND st) (x : Nat) (e : SLin) : ND (st.assign x e) := fun a =>
  ⟨fun hc => Env.unbound_assign_ne _ (sm_ne_prog a x) ((h a).1 hc), Env.unbound_assign_ne _ (cp_ne_prog a x) (h a).2⟩

theorem nd_forget {st : St} (h : ND st) (x : Nat) : ND (st.forget x) := fun a =>
  ⟨fun hc => Env.unbound_forget_ne (sm_ne_prog a x) ((h a).1 hc), Env.unbound_forget_ne (cp_ne_prog a x) (h a).2⟩

theorem nd_assume {st : St} (h : ND st) (cs : List XCst) : ND (st.assume cs) := fun a =>
  ⟨fun hc => Env.add_unbound IsProg _ _ (mkSys_in cs) _ (sm_not_prog a) ((h a).1 hc),
   Env.add_unbound IsProg _ _ (mkSys_in cs) _ (cp_not_prog a) (h a).2⟩

/-- the base environment is updated on the summary of `a` only, and `a` is recorded afterwards -/
theorem nd_update_summary {st : St} (h : ND st) (a : Nat) (sizes' : SzEnv) (base' : IDom.Env)
    (hs : ∀ b, b ≠ a → sizes'.constSize b = st.sizes.constSize b) (ha : sizes'.constSize a ≠ none)
    (hb : ∀ k, k ≠ enc (.smashed a) → st.base.Unbound k → base'.Unbound k) : ND ⟨sizes', base'⟩ := by
  intro b
  refine ⟨fun hc => ?_, hb _ (cp_ne_sm b a) (h b).2⟩
  by_cases hba : b = a
  · subst hba; exact absurd hc ha
  · exact hb _ (sm_ne_sm hba) ((h b).1 (by rw [← hs b hba]; exact hc))

theorem nd_set_summary {st : St} (hI : Inv st) (h : ND st) (a k : Nat) (base' : IDom.Env)
    (hb : ∀ k', k' ≠ enc (.smashed a) → st.base.Unbound k' → base'.Unbound k') : ND ⟨st.sizes.set a k, base'⟩ :=
  nd_update_summary h a _ _ (fun b hb => by rw [cs_set hI.1]; simp [hb]) (by rw [cs_set hI.1]; simp) hb

theorem nd_arrayInit {st : St} (hI : Inv st) (h : ND st) (k a : Nat) (val : SLin) : ND (st.arrayInit k a val) :=
  nd_set_summary hI h a k _ fun _ hk hu => Env.unbound_assign_ne _ hk hu

theorem nd_arrayStore {st : St} (hI : Inv st) (h : ND st) (k a : Nat) (val : SLin) (strong : Bool) :
    ND (st.arrayStore k a val strong) := by
  unfold St.arrayStore
  cases strong with
  | true =>
    simp only [if_true]
    split
    · exact nd_set_summary hI h a k _ fun _ hk hu => Env.unbound_assign_ne _ hk hu
    · exact nd_set_summary hI h a k _ fun _ _ hu => hu
  | false =>
    simp only [Bool.false_eq_true, if_false]
    split
    · rename_i ht
      apply nd_update_summary h a
      · intro b _; rfl
      · exact fun e => nomatch e.symm.trans ((equalSize_iff hI.1 _ _).1 ht)
      · intro k' hk hu; exact Env.unbound_weakAssign_ne _ hk hu
    · exact h

theorem nd_arrayStoreRange {st : St} (hI : Inv st) (h : ND st) (k a : Nat) (val : SLin) :
    ND (st.arrayStoreRange k a val) := by
  unfold St.arrayStoreRange
  split
  · rename_i ht
    apply nd_update_summary h a
    · intro b _; rfl
    · exact fun e => nomatch e.symm.trans ((equalSize_iff hI.1 _ _).1 ht)
    · intro k' hk hu; exact Env.unbound_weakAssign_ne _ hk hu
  · exact h

theorem nd_arrayLoad {st : St} (h : ND st) (k x a : Nat) : ND (st.arrayLoad k x a) := by
  unfold St.arrayLoad
  split
  · intro b
    refine ⟨fun hc => ?_, ?_⟩
    · exact Env.unbound_forget_ne (sm_ne_cp b a) (Env.unbound_assign_ne _ (sm_ne_prog b x)
        (Env.unbound_expand_ne (sm_ne_cp b a) ((h b).1 hc)))
    · by_cases hba : b = a
      · subst hba; exact Env.unbound_forget_same _ _
      · exact Env.unbound_forget_ne (cp_ne_cp hba) (Env.unbound_assign_ne _ (cp_ne_prog b x)
          (Env.unbound_expand_ne (cp_ne_cp hba) (h b).2))
  · exact fun b => ⟨fun hc => Env.unbound_forget_ne (sm_ne_prog b x) ((h b).1 hc),
      Env.unbound_forget_ne (cp_ne_prog b x) (h b).2⟩

theorem nd_arrayAssign {st : St} (hI : Inv st) (h : ND st) (lhs rhs : Nat) : ND (st.arrayAssign lhs rhs) := by
  unfold St.arrayAssign
  split
  · exact h
  · split
    · exact nd_set_summary hI h lhs _ _ fun _ hk hu => Env.unbound_expand_ne hk (Env.unbound_forget_ne hk hu)
    · split
      · intro b
        refine ⟨fun hc => ?_, Env.unbound_forget_ne (cp_ne_sm b lhs) (h b).2⟩
        by_cases hbl : b = lhs
        · subst hbl; exact Env.unbound_forget_same _ _
        · rw [cs_remove hI.1] at hc
          simp only [hbl, if_false] at hc
          exact Env.unbound_forget_ne (sm_ne_sm hbl) ((h b).1 hc)
      · exact h

theorem nd_upper (esz : Nat → Nat) (op : Itv → Itv → Itv) {a b : St} (ha : Inv a) (hb : Inv b)
    (s1 : SizesOk esz a) (s2 : SizesOk esz b) (h1 : ND a) (h2 : ND b) : ND (St.upper op a b) := by
  unfold St.upper; split
  · exact h2
  · rename_i na; split
    · exact h1
    · rename_i nb
      have na : a.base.bottom = false := by simpa [St.isBottom, Env.isBottom] using na
      have nb : b.base.bottom = false := by simpa [St.isBottom, Env.isBottom] using nb
      intro x
      refine ⟨fun hc => ?_, Env.unbound_upperWith op ha.2 na nb (Or.inl (h1 x).2)⟩
      apply Env.unbound_upperWith op ha.2 na nb
      rw [cs_join ha.1 hb.1] at hc
      cases e1 : a.sizes.constSize x with
      | none => exact Or.inl ((h1 x).1 e1)
      | some v1 =>
        cases e2 : b.sizes.constSize x with
        | none => exact Or.inr ((h2 x).1 e2)
        | some v2 =>
          have : v1 = v2 := by rw [s1 x v1 e1, s2 x v2 e2]
          subst this
          simp [e1, e2] at hc

theorem nd_meet (esz : Nat → Nat) {a b : St} (ha : Inv a) (hb : Inv b) (s1 : SizesOk esz a) (s2 : SizesOk esz b)
    (h1 : ND a) (h2 : ND b) : ND (St.meet a b) := by
  intro x
  refine ⟨fun hc => ?_, Env.unbound_lowerWith _ (h1 x).2 (h2 x).2⟩
  rw [cs_meet ha hb s1 s2] at hc
  cases e1 : a.sizes.constSize x with
  | some v => rw [e1] at hc; simp at hc
  | none =>
    rw [e1] at hc
    exact Env.unbound_lowerWith _ ((h1 x).1 e1) ((h2 x).1 hc)

/-- every array whose size is recorded has a written cell -/
def NE (esz : Nat → Nat) (st : St) (s : CState) : Prop :=
  ∀ a, st.sizes.constSize a = some (esz a) → ∃ o v, s.ar a o = some v

/-- the concretisation used for histories with meet -/
def γ2 (esz : Nat → Nat) (st : St) (s : CState) : Prop := γx esz st s ∧ NE esz st s

open Classical in
/-- offset of some written cell of array `x` (0 if there is none) -/
noncomputable def wo (s : CState) (x : Nat) : Nat :=
  if h : ∃ o w, s.ar x o = some w then Classical.choose h else 0

open Classical in
theorem wo_spec {s : CState} {x : Nat} (h : ∃ o w, s.ar x o = some w) : ∃ w, s.ar x (wo s x) = some w := by
  unfold wo; rw [dif_pos h]; exact Classical.choose_spec h

/-- the values given to the ghosts: the summary of an array stands for one of its written cells -/
noncomputable def gW (s : CState) : Smash.Env
  | .smashed x => (s.ar x (wo s x)).getD 0
  | _ => 0

theorem untracked_none {st : St} (hk : SizesOk esz st) {x : Nat} (h : ¬ st.sizes.constSize x = some (esz x)) :
    st.sizes.constSize x = none := by
  cases hc : st.sizes.constSize x with
  | none => rfl
  | some k => exact absurd (by rw [hc, hk x k hc]) h

/-- a state of `γ2 st`, seen with MORE arrays tracked (all those `st` tracks) and the ghosts `gW`,
    is accepted by the base environment of `st` -/
theorem meet_operand_sound {st : St} {s : CState} (hI : Inv2 esz st) (hg : γ2 esz st s) (envM : Nat → Option Nat)
    (hM : ∀ x, st.sizes.constSize x = some (esz x) → envM x = some (esz x)) (c : Nat → Nat) :
    Env.γ st.base (dec (Smash.mkEnv esz s envM (gW s) c)) := by
  obtain ⟨⟨hs, g, hg1⟩, hne⟩ := hg
  have nb : st.base.bottom = false := (hg1 (fun _ => 0)).1
  refine ⟨nb, fun n => ?_⟩
  show Itv.mem (Smash.mkEnv esz s envM (gW s) c (decVar n)) (st.base.get n)
  cases hdv : decVar n with
  | prog x =>
    have := (hg1 (fun _ => 0)).2 n
    simp only [dec, hdv] at this
    exact this
  | copy x =>
    have hn : n = enc (.copy x) := by rw [← hdv, enc_dec]
    rw [hn, Env.get_of_unbound (hI.2.2 x).2 nb]
    exact Itv.mem_top _
  | smashed x =>
    have hn : n = enc (.smashed x) := by rw [← hdv, enc_dec]
    by_cases ht : st.sizes.constSize x = some (esz x)
    · obtain ⟨w', hw'⟩ := wo_spec (hne x ht)
      have hA : absSz st.sizes x = some (esz x) := ht
      cases hc : s.ar x (c x) with
      | some v =>
        have := (hg1 c).2 n
        simp only [dec, hdv, absS, Smash.mkEnv, hA, if_true, hc] at this
        simp only [Smash.mkEnv, hM x ht, if_true, hc]
        exact this
      | none =>
        have := (hg1 (fun y => if y = x then wo s x else 0)).2 n
        simp only [dec, hdv, absS, Smash.mkEnv, hA, if_true, hw'] at this
        simp only [Smash.mkEnv, hM x ht, if_true, hc, gW, hw', Option.getD_some]
        exact this
    · rw [hn, Env.get_of_unbound ((hI.2.2 x).1 (untracked_none hI.2.1 ht)) nb]
      exact Itv.mem_top _

/-- **meet is sound** on values that satisfy the invariants, for states whose tracked arrays are not empty -/
theorem meet_sound {a b : St} {s : CState} (ha : Inv2 esz a) (hb : Inv2 esz b) (ga : γ2 esz a s) (gb : γ2 esz b s) :
    γx esz (St.meet a b) s := by
  refine ⟨(inv_meet ha.1 hb.1 ha.2.1 hb.2.1).2, gW s, fun c => ?_⟩
  show Env.γ (Env.meet a.base b.base) (dec (Smash.mkEnv esz s (absSz (St.meet a b).sizes) (gW s) c))
  apply Env.meet_sound ha.1.2
  · apply meet_operand_sound ha ga
    intro x hx
    show (St.meet a b).sizes.constSize x = some (esz x)
    rw [cs_meet ha.1 hb.1 ha.2.1 hb.2.1, hx]
  · apply meet_operand_sound hb gb
    intro x hx
    show (St.meet a b).sizes.constSize x = some (esz x)
    rw [cs_meet ha.1 hb.1 ha.2.1 hb.2.1]
    cases hc : a.sizes.constSize x with
    | some v => simp only []; rw [ha.2.1 x v hc]
    | none => exact hx

theorem ne_meet {a b : St} {s : CState} (ha : Inv2 esz a) (hb : Inv2 esz b) (ga : NE esz a s) (gb : NE esz b s) :
    NE esz (St.meet a b) s := by
  intro x hx
  rw [cs_meet ha.1 hb.1 ha.2.1 hb.2.1] at hx
  cases hc : a.sizes.constSize x with
  | some v => rw [hc] at hx; exact ga x (by rw [hc]; exact hx)
  | none => rw [hc] at hx; exact gb x hx

theorem inv2_meet {a b : St} (ha : Inv2 esz a) (hb : Inv2 esz b) : Inv2 esz (St.meet a b) :=
  ⟨inv_meet ha.1 hb.1 ha.2.1 hb.2.1, sizesOk_meet ha.1 hb.1 ha.2.1 hb.2.1,
   nd_meet esz ha.1 hb.1 ha.2.1 hb.2.1 ha.2.2 hb.2.2⟩

/-- `array_assign` only between arrays of the same element size -/
def XOp.SizeOk (esz : Nat → Nat) : XOp → Prop
  | .aAssign _ lhs rhs => esz lhs = esz rhs
  | _ => True

instance (esz : Nat → Nat) (o : XOp) : Decidable (o.SizeOk esz) := by
  cases o <;> simp only [XOp.SizeOk] <;> exact inferInstance

/-- the steps of `XOp.toStep` with the client contract of `array_init` (at least one cell is
    initialised: `lb ≤ ub`) in its concrete relation -/
def XOp.toStepC (esz : Nat → Nat) : XOp → Step St CState
  | .aInit d a lb ub val =>
    .trans d ⟨fun st => st.arrayInit (esz a) a val,
              fun s s' => cInit (esz a) a lb.eval ub.eval val.eval s = some s' ∧ lb.eval s.iv ≤ ub.eval s.iv⟩
  | o => o.toStep esz

def toHistC (esz : Nat → Nat) (ops : List XOp) : List (Step St CState) := ops.map (XOp.toStepC esz)

theorem inv2_top : Inv2 esz St.top := ⟨inv_top, sizesOk_top, nd_top⟩

theorem γ2_top (s : CState) : γ2 esz St.top s :=
  ⟨γx_top s, fun a h => by simp [St.top, SzEnv.top, SzEnv.constSize, SzMap.find] at h⟩

/-- join and widening under `Inv2`: `Inv` and `γx` as under `Inv`, the sizes from the upper bound of
    the generic model they stand for, `ND` on its own -/
theorem upper_soundInv2 (op : Itv → Itv → Itv) {x y : St}
    (h0 : ∀ s, (γx esz x s ∨ γx esz y s) → γx esz (St.upper op x y) s) (hx : Inv2 esz x) (hy : Inv2 esz y) :
    Inv2 esz (St.upper op x y) ∧ ∀ s, (γ2 esz x s ∨ γ2 esz y s) → γ2 esz (St.upper op x y) s := by
  obtain ⟨h', e⟩ := comm_upper op x _ y _ ⟨hx.1, rfl⟩ ⟨hy.1, rfl⟩
  have h := Smash.upperC_sizes (esz := esz) (op := upperG op) (fun _ _ => rfl) (a := absS x hx.1.2)
    (b := absS y hy.1.2) hx.2.1 hy.2.1
  rw [← e] at h
  exact ⟨⟨h', h.1, nd_upper esz op hx.1 hy.1 hx.2.1 hy.2.1 hx.2.2 hy.2.2⟩, fun s hg =>
    ⟨h0 s (hg.imp (·.1) (·.1)), h.2 s (hg.imp (fun ⟨⟨_, g⟩, n⟩ => ⟨g, n⟩) (fun ⟨⟨_, g⟩, n⟩ => ⟨g, n⟩))⟩⟩

/-- a transformer under `Inv2`: `Inv` and the sizes from the generic transformer it commutes with,
    `γx` as under `Inv`, `ND` on its own -/
theorem trans_soundInv2 {f : St → St} {fg : Smash.St itvBase → Smash.St itvBase} {r : CState → CState → Prop}
    {st : St} (hI : Inv2 esz st) (hc : Comm f fg) (h0 : ∀ s s', γx esz st s → r s s' → γx esz (f st) s')
    (hg : Smash.KeepsSizes esz fg r) (hnd : ND (f st)) :
    Inv2 esz (f st) ∧ ∀ s s', γ2 esz st s → r s s' → γ2 esz (f st) s' := by
  obtain ⟨h', e⟩ := hc st _ ⟨hI.1, rfl⟩
  have h := hg (absS st hI.1.2) hI.2.1
  rw [← e] at h
  exact ⟨⟨h', h.1, hnd⟩, fun s s' hg hr => ⟨h0 s s' hg.1 hr, h.2 s s' hg.2 hr⟩⟩

/-- every operation, meet included -/
theorem xop_soundInv2 (esz : Nat → Nat) (o : XOp) (hs : o.SizeOk esz) :
    (o.toStepC esz).SoundInv (Inv2 esz) (γ2 esz) := by
  cases o with
  | top d => exact fun a _ => ⟨inv2_top, fun _ s' _ _ => γ2_top s'⟩
  | copy d s => trivial
  | meet d a b =>
    intro x y hx hy
    exact ⟨inv2_meet hx hy, fun s g1 g2 => ⟨meet_sound hx hy g1 g2, ne_meet hx hy g1.2 g2.2⟩⟩
  | join d a b =>
    exact fun x y hx hy => upper_soundInv2 Itv.join (xop_soundInv esz (XOp.join d a b) rfl x y hx.1 hy.1).2 hx hy
  | widen d a b =>
    exact fun x y hx hy => upper_soundInv2 Itv.widen (xop_soundInv esz (XOp.widen d a b) rfl x y hx.1 hy.1).2 hx hy
  | assume d cs =>
    exact fun st hI => ⟨⟨inv_assume hI.1 cs, hI.2.1, nd_assume hI.2.2 cs⟩, fun s s' hg ⟨hc, e⟩ =>
      e ▸ ⟨assume_sound hI.1 cs hg.1 hc, hg.2⟩⟩
  | assign d x e =>
    exact fun st hI => trans_soundInv2 hI (comm_assign x e) (xop_soundInv esz (.assign d x e) rfl st hI.1).2
      (.same (fun _ => rfl) fun _ _ h => h ▸ rfl) (nd_assign hI.2.2 x e)
  | forget d x =>
    exact fun st hI => trans_soundInv2 hI (comm_forget x) (xop_soundInv esz (.forget d x) rfl st hI.1).2
      (.same (fun _ => rfl) fun _ _ ⟨_, h⟩ => h ▸ rfl) (nd_forget hI.2.2 x)
  | aLoad d x a i =>
    exact fun st hI => trans_soundInv2 hI (comm_arrayLoad esz x a) (xop_soundInv esz (.aLoad d x a i) rfl st hI.1).2
      (.same (fun g => Smash.aLoad_env g x a) fun _ _ h => by obtain ⟨_, _, _, rfl⟩ := cLoad_some h; rfl)
      (nd_arrayLoad hI.2.2 _ x a)
  | aInit d a lb ub val =>
    exact fun st hI => trans_soundInv2 hI (comm_arrayInit esz a val)
      (fun s s' hg hr => (xop_soundInv esz (.aInit d a lb ub val) rfl st hI.1).2 s s' hg hr.1)
      (Smash.aInit_sizes a lb ub val) (nd_arrayInit hI.1 hI.2.2 _ a val)
  | aStore d a i val strong =>
    exact fun st hI => trans_soundInv2 hI (comm_arrayStore esz a val strong)
      (xop_soundInv esz (.aStore d a i val strong) rfl st hI.1).2
      (Smash.aStore_sizes a i val strong _) (nd_arrayStore hI.1 hI.2.2 _ a val strong)
  | aStoreRange d a lb ub val =>
    exact fun st hI => trans_soundInv2 hI (comm_arrayStoreRange esz a val)
      (xop_soundInv esz (.aStoreRange d a lb ub val) rfl st hI.1).2
      (Smash.aStoreRange_sizes a lb ub val) (nd_arrayStoreRange hI.1 hI.2.2 _ a val)
  | aAssign d lhs rhs =>
    exact fun st hI => trans_soundInv2 hI (comm_arrayAssign lhs rhs)
      (xop_soundInv esz (.aAssign d lhs rhs) rfl st hI.1).2
      (Smash.aAssignC_sizes lhs rhs hs) (nd_arrayAssign hI.1 hI.2.2 lhs rhs)

end SmashItv
end Dom
end Crab
