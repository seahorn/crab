import CrabProofs.Lemmas.WtoInv

/-!
  The transitions of `visitLoop` preserve the invariant `Inv`: examining a successor
  (`step_skip`, `step_lower`), discovering a vertex (`step_discover`), popping a frame whose node
  is not the root of a component (`step_merge`) or is one (`step_vertex`, `step_cycle`, both through
  `pop_root`); entering and leaving a call of `visit` (`Inv.init`, `Inv.final`) and sequencing
  calls, the loop of `component` (`Placed.trans`).
-/
namespace Crab
namespace Wto

variable {g : Graph} {K : Nat → Prop} {st0 : St} {part0 : List WtoC} {v : Nat}
  {p : GF} {gs : List GF} {ln : List Nat} {part : List WtoC} {st : St} {W : List WtoC}

/-- where a node of the region is, according to its current dfn -/
theorem Inv.classify (h : Inv g K st0 part0 v gs ln part st W) (hK : ClosedK g K st0) {y : Nat}
    (hy : K y ∨ getDfn st0.dfn y = .inf) :
    (getDfn st.dfn y = .inf → DoneNow st0 W y) ∧
    (getDfn st.dfn y = .fin 0 → K y ∧ getDfn st0.dfn y = .fin 0 ∧ y ∉ flattenL W ∧ y ∉ stk gs) ∧
    (∀ k, k ≠ 0 → getDfn st.dfn y = .fin k → y ∈ stk gs) := by
  by_cases hW : y ∈ flattenL W
  · rw [h.dfn_W y hW]
    exact ⟨fun _ => Or.inl hW, fun h0 => (by cases h0), fun _ _ hk => (by cases hk)⟩
  · by_cases hS : y ∈ stk gs
    · obtain ⟨k, hk, hk0, _⟩ := h.dfn_stk y hS
      rw [hk]
      refine ⟨fun hi => (by cases hi), fun h0 => ?_, fun _ _ _ => hS⟩
      cases h0; exact absurd hk0 (Nat.not_lt_zero _)
    · rw [h.dfn_other y hW hS]
      refine ⟨fun hi => Or.inr hi, fun h0 => ?_, fun k hk0 hk => ?_⟩
      · rcases hy with hy | hy
        · exact ⟨hy, h0, hW, hS⟩
        · rw [hy] at h0; cases h0
      · have h01 : getDfn st0.dfn y = .fin 0 ∨ getDfn st0.dfn y = .inf :=
          hy.elim (fun hy => (hK y hy).2.1) Or.inr
        rw [hk] at h01
        rcases h01 with h1 | h1
        · cases h1; exact absurd rfl hk0
        · cases h1

theorem Inv.top_frame (h : Inv g K st0 part0 v (p :: gs) ln part st W) :
    FrameOK g st0.num (dn st.dfn) ln (DoneNow st0 W) (stk (p :: gs)) p :=
  h.frames p (by simp)

theorem Inv.lt_size (h : Inv g K st0 part0 v gs ln part st W) (hK : ClosedK g K st0) {x : Nat}
    (hx : x ∈ stk gs) : x < st.dfn.size := by
  rw [h.size_eq]; exact (hK x (h.stk_K x hx).1).1

theorem Inv.node_lt_size (h : Inv g K st0 part0 v (p :: gs) ln part st W) (hK : ClosedK g K st0) :
    p.f.node < st.dfn.size :=
  h.lt_size hK (node_mem_stk p gs)

theorem Inv.node_dfn (h : Inv g K st0 part0 v (p :: gs) ln part st W) :
    getDfn st.dfn p.f.node = .fin (dn st.dfn p.f.node) := by
  obtain ⟨k, hk, _, _⟩ := h.dfn_stk _ (node_mem_stk p gs)
  rw [dn_of_getDfn hk, hk]

theorem Inv.dn_le_num (h : Inv g K st0 part0 v gs ln part st W) {y : Nat} (hy : y ∈ stk gs) :
    dn st.dfn y ≤ st.num := by
  obtain ⟨k, hk, _, hk2⟩ := h.dfn_stk y hy
  rw [dn_of_getDfn hk]; exact hk2

theorem Inv.child_region (h : Inv g K st0 part0 v (p :: gs) ln part st W) (hK : ClosedK g K st0)
    {child : Nat} {rest : List Nat} (hs : p.f.succs = child :: rest) :
    K child ∨ getDfn st0.dfn child = .inf := by
  apply (hK _ (h.stk_K _ (node_mem_stk p gs)).1).2.2
  rw [h.top_frame.succ_eq, hs]; simp

theorem Inv.sorted_top (h : Inv g K st0 part0 v (p :: gs) ln part st W) :
    (p.above ++ p.f.node :: stk gs).Pairwise (fun a b => dn st.dfn a > dn st.dfn b) := by
  have := h.sorted
  simpa [stk_cons, GF.seg, List.append_assoc] using this

theorem Inv.node_not_above (h : Inv g K st0 part0 v (p :: gs) ln part st W) : p.f.node ∉ p.above :=
  fun hx => Nat.lt_irrefl _ (sorted_above_gt h.sorted_top hx)

theorem Inv.stack_cons (h : Inv g K st0 part0 v (p :: gs) ln part st W) :
    ∃ el stack1, st.stack = el :: stack1 :=
  List.exists_cons_of_ne_nil (by rw [h.stack_eq, stk_cons, GF.seg]; simp)

theorem Inv.below_node_lt {q : GF} (h : Inv g K st0 part0 v (p :: q :: gs) ln part st W) :
    dn st.dfn q.f.node < dn st.dfn p.f.node :=
  sorted_below_lt h.sorted_top (by simp [stk_cons, GF.seg])

theorem Inv.of_same_stk {gs' : List GF} {ln' : List Nat}
    (h : Inv g K st0 part0 v gs ln part st W) (hstk : stk gs' = stk gs)
    (hf : ∀ p ∈ gs', FrameOK g st0.num (dn st.dfn) ln' (DoneNow st0 W) (stk gs) p)
    (hc : ChainOK g gs') : Inv g K st0 part0 v gs' ln' part st W :=
  { h with
    stack_eq := by rw [hstk]; exact h.stack_eq
    dfn_stk := by rw [hstk]; exact h.dfn_stk
    dfn_other := by rw [hstk]; exact h.dfn_other
    sorted := by rw [hstk]; exact h.sorted
    stk_K := by rw [hstk]; exact h.stk_K
    disj := by rw [hstk]; exact h.disj
    frames := by rw [hstk]; exact hf
    chain := hc
    root_in := by rw [hstk]; exact h.root_in }

theorem Inv.update_top {p' : GF} {ln' : List Nat}
    (h : Inv g K st0 part0 v (p :: gs) ln part st W)
    (hn : p'.f.node = p.f.node) (ha : p'.above = p.above) (hln : ∀ z ∈ ln, z ∈ ln')
    (hp' : FrameOK g st0.num (dn st.dfn) ln' (DoneNow st0 W) (stk (p :: gs)) p') :
    Inv g K st0 part0 v (p' :: gs) ln' part st W := by
  refine h.of_same_stk (by simp [stk_cons, GF.seg, hn, ha]) (fun q hq => ?_) (h.chain.congr_head hn)
  rcases List.mem_cons.1 hq with rfl | hq
  · exact hp'
  · exact (h.frames q (List.mem_cons_of_mem _ hq)).mono
      (fun x hx => mem_stk_of_mem (List.mem_cons_of_mem _ hq) hx)
      (fun _ _ => rfl) hln (fun _ hd => hd) (fun _ hy => hy)

/-- the examined successor is placed (`+oo`), or active with a dfn above `_min` -/
theorem Inv.step_skip (h : Inv g K st0 part0 v (p :: gs) ln part st W) (hK : ClosedK g K st0)
    {child : Nat} {rest : List Nat} (hs : p.f.succs = child :: rest)
    (hc : getDfn st.dfn child = .inf ∨ ∃ k, getDfn st.dfn child = .fin k ∧ k ≠ 0 ∧ ¬ k ≤ p.f.min) :
    Inv g K st0 part0 v (p.examined child rest p.f.min :: gs) ln part st W := by
  have hcl := h.classify hK (h.child_region hK hs)
  refine h.update_top (p' := p.examined child rest p.f.min) rfl rfl (fun _ hz => hz) ?_
  apply h.top_frame.examine hs (Nat.le_refl _) h.top_frame.min_gt (fun _ hz => hz)
  · rcases hc with hi | ⟨k, hk, hk0, hkm⟩
    · exact Or.inl (hcl.1 hi)
    · exact Or.inr ⟨hcl.2.2 k hk0 hk, by rw [dn_of_getDfn hk]; exact Nat.le_of_not_le hkm⟩
  · exact Or.inl rfl
  · rintro rfl
    right
    rcases hc with hi | ⟨k, hk, _, hkm⟩
    · rw [h.node_dfn] at hi; cases hi
    · rw [dn_of_getDfn hk]; exact Nat.lt_of_not_le hkm

/-- "loop found": the examined successor is active with a dfn not above `_min` -/
theorem Inv.step_lower (h : Inv g K st0 part0 v (p :: gs) ln part st W) (hK : ClosedK g K st0)
    {child : Nat} {rest : List Nat} (hs : p.f.succs = child :: rest) {k : Nat}
    (hk : getDfn st.dfn child = .fin k) (hk0 : k ≠ 0) (hkm : k ≤ p.f.min) :
    Inv g K st0 part0 v (p.examined child rest k :: gs) (child :: ln) part st W := by
  have hcS : child ∈ stk (p :: gs) := (h.classify hK (h.child_region hK hs)).2.2 k hk0 hk
  have hdn : dn st.dfn child = k := dn_of_getDfn hk
  have hk1 : st0.num < k := by
    obtain ⟨k', hk', hk'0, _⟩ := h.dfn_stk child hcS
    rw [hk] at hk'; cases hk'; exact hk'0
  refine h.update_top (p' := p.examined child rest k) (ln' := child :: ln) rfl rfl
    (fun _ hz => List.mem_cons_of_mem _ hz) ?_
  apply h.top_frame.examine hs hkm hk1 (fun _ hz => List.mem_cons_of_mem _ hz)
  · exact Or.inr ⟨hcS, Nat.le_of_eq hdn.symm⟩
  · exact Or.inr ⟨child, List.mem_cons_self .., hcS, hdn⟩
  · rintro rfl
    exact Or.inl (List.mem_cons_self ..)

theorem dn_discover_ne (st : St) (child x : Nat) (hx : x ≠ child) :
    dn (discover st child).dfn x = dn st.dfn x := by
  simp only [dn, discover, getDfn_setDfn_ne _ _ _ _ hx]

theorem Inv.step_discover (h : Inv g K st0 part0 v (p :: gs) ln part st W) (hK : ClosedK g K st0)
    {child : Nat} {rest : List Nat} (hs : p.f.succs = child :: rest)
    (hc : getDfn st.dfn child = .fin 0) :
    Inv g K st0 part0 v (GF.fresh g child (st.num + 1) :: p.examined child rest p.f.min :: gs) ln part
      (discover st child) W := by
  obtain ⟨hKc, h0c, hcW, hcS⟩ := (h.classify hK (h.child_region hK hs)).2.1 hc
  have hsz : child < st.dfn.size := by rw [h.size_eq]; exact (hK child hKc).1
  have hstk : stk (GF.fresh g child (st.num + 1) :: p.examined child rest p.f.min :: gs)
      = child :: stk (p :: gs) := rfl
  have hne : ∀ y ∈ stk (p :: gs), y ≠ child := fun y hy e => hcS (e ▸ hy)
  have hdn : ∀ y ∈ stk (p :: gs), dn (discover st child).dfn y = dn st.dfn y :=
    fun y hy => dn_discover_ne st child y (hne y hy)
  have hdnc : dn (discover st child).dfn child = st.num + 1 :=
    dn_of_getDfn (by rw [getDfn_discover st child child hsz, if_pos rfl])
  have hnum := h.num_ge
  have hsub : ∀ y ∈ stk (p :: gs), y ∈ child :: stk (p :: gs) := fun _ hy => List.mem_cons_of_mem _ hy
  refine {
    part_eq := h.part_eq, W_nodup := h.W_nodup, W_K := h.W_K, W_edges := h.W_edges
    num_ge := Nat.le_succ_of_le hnum
    stack_eq := by rw [hstk]; simp [discover, h.stack_eq]
    size_eq := by simp [discover, h.size_eq]
    dfn_W := ?dfn_W, dfn_stk := ?dfn_stk, dfn_other := ?dfn_other, sorted := ?sorted
    stk_K := ?stk_K, disj := ?disj, frames := ?frames, chain := ?chain, root_in := ?root_in }
  case dfn_W =>
    intro x hx
    rw [getDfn_discover st child x hsz, if_neg (fun e : x = child => hcW (e ▸ hx))]
    exact h.dfn_W x hx
  case dfn_stk =>
    intro x hx
    rw [hstk] at hx
    rw [getDfn_discover st child x hsz]
    rcases List.mem_cons.1 hx with rfl | hx
    · exact ⟨st.num + 1, if_pos rfl, Nat.lt_succ_of_le hnum, Nat.le_refl _⟩
    · obtain ⟨k, hk, hk1, hk2⟩ := h.dfn_stk x hx
      exact ⟨k, by rw [if_neg (hne x hx)]; exact hk, hk1, Nat.le_succ_of_le hk2⟩
  case dfn_other =>
    intro x hxW hxS
    rw [hstk, List.mem_cons, not_or] at hxS
    rw [getDfn_discover st child x hsz, if_neg hxS.1]
    exact h.dfn_other x hxW hxS.2
  case sorted =>
    rw [hstk, List.pairwise_cons]
    refine ⟨fun y hy => ?_, h.sorted.imp_of_mem fun ha hb hab => by rw [hdn _ ha, hdn _ hb]; exact hab⟩
    rw [hdnc, hdn y hy]
    exact Nat.lt_succ_of_le (h.dn_le_num hy)
  case stk_K =>
    intro x hx
    rw [hstk] at hx
    rcases List.mem_cons.1 hx with rfl | hx
    · exact ⟨hKc, h0c⟩
    · exact h.stk_K x hx
  case disj =>
    intro x hx
    rw [hstk, List.mem_cons, not_or]
    exact ⟨fun e => hcW (e ▸ hx), h.disj x hx⟩
  case frames =>
    intro q hq
    rw [hstk]
    rcases List.mem_cons.1 hq with rfl | hq
    · exact FrameOK.fresh g _ _ _ _ _ child (st.num + 1) (Nat.lt_succ_of_le hnum) hdnc
    · have hq' : q ∈ p :: gs ∨ q = p.examined child rest p.f.min := by
        rcases List.mem_cons.1 hq with rfl | hq
        · exact Or.inr rfl
        · exact Or.inl (List.mem_cons_of_mem _ hq)
      have old : ∀ r ∈ p :: gs, FrameOK g st0.num (dn (discover st child).dfn) ln (DoneNow st0 W)
          (child :: stk (p :: gs)) r := fun r hr =>
        (h.frames r hr).mono (fun x hx => mem_stk_of_mem hr hx) hdn (fun _ hz => hz) (fun _ hd => hd) hsub
      rcases hq' with hq' | rfl
      · exact old q hq'
      · have h1 := old p (List.mem_cons_self ..)
        have hmin : p.f.min ≤ st.num := Nat.le_trans h.top_frame.min_le (h.dn_le_num (node_mem_stk p gs))
        exact h1.examine hs (Nat.le_refl _) h1.min_gt (fun _ hz => hz)
          (Or.inr ⟨List.mem_cons_self .., by rw [hdnc]; exact Nat.le_succ_of_le hmin⟩) (Or.inl rfl)
          (fun he => absurd (he ▸ (node_mem_stk p gs)) hcS)
  case chain =>
    refine ⟨?_, ChainOK.congr_head (p := p) (p' := p.examined child rest p.f.min) rfl h.chain⟩
    show child ∈ g.succ p.f.node
    rw [h.top_frame.succ_eq, hs]; simp
  case root_in =>
    rw [hstk]
    exact h.root_in.imp_left (List.mem_cons_of_mem _)

theorem Inv.nonroot_has_parent (h : Inv g K st0 part0 v (p :: gs) ln part st W)
    (hlt : p.f.min < dn st.dfn p.f.node) : ∃ q gs', gs = q :: gs' := by
  cases gs with
  | cons q gs' => exact ⟨q, gs', rfl⟩
  | nil =>
    exfalso
    rcases h.top_frame.min_wit with he | ⟨z, _, hzS, hzd⟩
    · exact Nat.lt_irrefl _ (he ▸ hlt)
    · -- the witness is in the segment of `p`, where nothing has a dfn below the node's
      rcases List.mem_append.1 (mem_stk_top hzS) with hz | hz
      · have := sorted_above_gt h.sorted_top hz
        omega
      · rw [stk_nil, List.mem_singleton] at hz
        subst hz; omega

theorem Inv.step_merge {q : GF} (h : Inv g K st0 part0 v (p :: q :: gs) ln part st W)
    (hs : p.f.succs = []) (hlt : p.f.min < dn st.dfn p.f.node) :
    Inv g K st0 part0 v (q.merged p :: gs) ln part st W := by
  apply h.of_same_stk (by simp [stk_cons, GF.seg, GF.merged])
  · intro r hr
    rcases List.mem_cons.1 hr with rfl | hr
    · exact h.top_frame.merge (h.frames q (by simp)) hs hlt h.below_node_lt h.chain.1
    · exact h.frames r (List.mem_cons_of_mem _ (List.mem_cons_of_mem _ hr))
  · exact ChainOK.congr_head (p := q) (p' := q.merged p) rfl h.chain.tail

/-- generic root pop: the segment of the top frame leaves the stack and is placed as the component
    `C`, whose edges lead to placed nodes or are allowed inside `C`; no node becomes free -/
theorem Inv.pop_root {C : WtoC} {st' : St}
    (h : Inv g K st0 part0 v (p :: gs) ln part st W)
    (hstack : st'.stack = stk gs ++ st0.stack)
    (hsize : st'.dfn.size = st.dfn.size) (hnum : st.num ≤ st'.num)
    (hmem : ∀ x, x ∈ flattenC C ↔ x ∈ p.seg)
    (hnodup : (flattenC C).Nodup)
    (hdC : ∀ x ∈ flattenC C, getDfn st'.dfn x = .inf)
    (hdO : ∀ x, x ∉ flattenC C → getDfn st'.dfn x = getDfn st.dfn x)
    (hedges : ∀ x ∈ flattenC C, ∀ y ∈ g.succ x, DoneNow st0 W y ∨ EdgeOK [C] x y) :
    Inv g K st0 part0 v gs ln (C :: part) st' (C :: W) ∧ freeList K st' ⊆ freeList K st := by
  refine ⟨?_, freeList_subset hsize (fun x hx => by rw [hdC x hx]; exact fun e => nomatch e) hdO⟩
  have hsorted := h.sorted
  rw [stk_cons] at hsorted
  have hin : ∀ x ∈ stk gs, x ∈ stk (p :: gs) := fun x hx => by
    rw [stk_cons]; exact List.mem_append_right _ hx
  have hsegS : ∀ x ∈ p.seg, x ∈ stk (p :: gs) := fun x hx => mem_stk_of_mem (List.mem_cons_self ..) hx
  have hCW : ∀ x ∈ flattenC C, x ∉ flattenL W := fun x hx hw => h.disj x hw (hsegS x ((hmem x).1 hx))
  have hmem' : ∀ x, x ∈ flattenL (C :: W) ↔ (x ∈ p.seg ∨ x ∈ flattenL W) := fun x => by
    rw [← hmem x]; exact List.mem_append
  have hnotW' : ∀ x ∈ stk gs, x ∉ flattenL (C :: W) := by
    intro x hx hxW
    rcases (hmem' x).1 hxW with h1 | h1
    · exact (List.nodup_append.1 (sorted_nodup hsorted)).2.2 x h1 x hx rfl
    · exact h.disj x h1 (hin x hx)
  have hdO' : ∀ x, x ∉ flattenL (C :: W) → getDfn st'.dfn x = getDfn st.dfn x :=
    fun x hx => hdO x fun hc => hx (List.mem_append_left _ hc)
  have hdn : ∀ y ∈ stk gs, dn st'.dfn y = dn st.dfn y := by
    intro y hy
    simp only [dn, hdO' y (hnotW' y hy)]
  refine {
    part_eq := by rw [h.part_eq]; rfl
    stack_eq := hstack
    size_eq := by rw [hsize]; exact h.size_eq
    num_ge := Nat.le_trans h.num_ge hnum
    stk_K := fun x hx => h.stk_K x (hin x hx)
    disj := fun x hx hxS => hnotW' x hxS hx
    chain := h.chain.tail
    dfn_W := ?dfn_W, dfn_stk := ?dfn_stk, dfn_other := ?dfn_other, sorted := ?sorted
    W_nodup := ?W_nodup, W_K := ?W_K, W_edges := ?W_edges, frames := ?frames, root_in := ?root_in }
  case dfn_W =>
    intro x hx
    rcases List.mem_append.1 hx with hx | hx
    · exact hdC x hx
    · rw [hdO x fun hc => hCW x hc hx]; exact h.dfn_W x hx
  case dfn_stk =>
    intro x hx
    obtain ⟨k, hk, hk1, hk2⟩ := h.dfn_stk x (hin x hx)
    exact ⟨k, by rw [hdO' x (hnotW' x hx)]; exact hk, hk1, Nat.le_trans hk2 hnum⟩
  case dfn_other =>
    intro x hxW hxS
    rw [hdO' x hxW]
    apply h.dfn_other x (fun hw => hxW ((hmem' x).2 (Or.inr hw)))
    rw [stk_cons, List.mem_append]
    exact fun hx => hx.elim (fun h1 => hxW ((hmem' x).2 (Or.inl h1))) hxS
  case sorted =>
    exact (List.pairwise_append.1 hsorted).2.1.imp_of_mem fun ha hb hab => by
      rw [hdn _ ha, hdn _ hb]; exact hab
  case W_nodup =>
    exact List.nodup_append.2 ⟨hnodup, h.W_nodup, fun a ha b hb e => hCW a ha (e ▸ hb)⟩
  case W_K =>
    intro x hx
    rcases (hmem' x).1 hx with h1 | h1
    · exact h.stk_K x (hsegS x h1)
    · exact h.W_K x h1
  case W_edges =>
    intro x hx y hy
    rcases List.mem_append.1 hx with hx | hx
    · rcases hedges x hx y hy with (hd | hd) | hd
      · exact Or.inr (EdgeOK.cross (W2 := [C]) (by rw [flattenL_singleton]; exact hx) hd)
      · exact Or.inl hd
      · exact Or.inr (hd.append_right W)
    · exact (h.W_edges x hx y hy).imp_right fun hd => hd.append_left [C]
  case frames =>
    intro q hq
    have hqf := h.frames q (List.mem_cons_of_mem _ hq)
    rw [stk_cons] at hqf
    exact hqf.transfer (fun x hx => mem_stk_of_mem hq hx) (List.pairwise_append.1 hsorted).2.2 hdn
      (fun _ hz => hz) (fun y hd => DoneNow.mono (fun x hx => (hmem' x).2 (Or.inr hx)) hd)
      (fun y hy => Or.inl ((hmem' y).2 (Or.inl hy))) (fun _ hy => hy)
  case root_in =>
    rcases h.root_in with hv | hv
    · rw [stk_cons] at hv
      rcases List.mem_append.1 hv with h1 | h1
      · exact Or.inr ((hmem' v).2 (Or.inl h1))
      · exact Or.inl h1
    · exact Or.inr ((hmem' v).2 (Or.inr hv))

/-- Tarjan's key fact: no edge leaves the segment of a root except to placed nodes -/
theorem Inv.root_closed (h : Inv g K st0 part0 v (p :: gs) ln part st W) (hs : p.f.succs = [])
    (hroot : p.f.min = dn st.dfn p.f.node) :
    ∀ x ∈ p.seg, ∀ y ∈ g.succ x, DoneNow st0 W y ∨ y ∈ p.seg := by
  have hp := h.top_frame
  have key : ∀ y, DoneNow st0 W y ∨ (y ∈ stk (p :: gs) ∧ p.f.min ≤ dn st.dfn y) →
      DoneNow st0 W y ∨ y ∈ p.seg :=
    fun y => Or.imp_right fun ⟨hy, hle⟩ => sorted_ge_mem h.sorted_top (mem_stk_top hy) (hroot ▸ hle)
  intro x hx y hy
  rcases mem_seg.1 hx with hx | rfl
  · exact key y (hp.ex_above x hx y hy)
  · rw [hp.succ_eq, hs, List.append_nil] at hy
    exact key y (hp.ex_node y hy)

/-- a root that is not in `loop_nodes` is alone in its segment and has no self loop -/
theorem Inv.root_not_loop (h : Inv g K st0 part0 v (p :: gs) ln part st W) (hs : p.f.succs = [])
    (hroot : p.f.min = dn st.dfn p.f.node) (hln : p.f.node ∉ ln) :
    p.above = [] ∧ ∀ y ∈ g.succ p.f.node, DoneNow st0 W y := by
  have hp := h.top_frame
  -- the loop node recorded for a finished node is a finished node with a smaller dfn, or the root
  have hnone : ∀ x ∈ p.above, False := by
    refine mem_induction_on_lt (f := dn st.dfn) fun x hx ih => ?_
    obtain ⟨z, hz, hzS, h1, h2⟩ := hp.above_wit x hx
    rcases mem_seg.1 (sorted_ge_mem h.sorted_top (mem_stk_top hzS) (hroot ▸ h1)) with hza | rfl
    · exact ih z hza h2
    · exact hln hz
  have habove : p.above = [] := List.eq_nil_iff_forall_not_mem.2 hnone
  refine ⟨habove, fun y hy => ?_⟩
  rcases h.root_closed hs hroot _ (node_mem_seg p) y hy with hd | hyseg
  · exact hd
  · exfalso
    rw [mem_seg, habove] at hyseg
    obtain rfl : y = p.f.node := hyseg.resolve_left List.not_mem_nil
    rw [hp.succ_eq, hs, List.append_nil] at hy
    rcases hp.self_loop hy with h1 | h1
    · exact hln h1
    · exact Nat.lt_irrefl _ (hroot ▸ h1)

theorem Inv.step_vertex (h : Inv g K st0 part0 v (p :: gs) ln part st W) (hK : ClosedK g K st0)
    (hs : p.f.succs = []) (hroot : p.f.min = dn st.dfn p.f.node) (hln : p.f.node ∉ ln)
    {el : Nat} {stack1 : List Nat} (hst : st.stack = el :: stack1) :
    Inv g K st0 part0 v gs ln (.vertex p.f.node :: part)
      { st with dfn := setDfn st.dfn p.f.node .inf, stack := stack1 } (.vertex p.f.node :: W) ∧
    freeList K { st with dfn := setDfn st.dfn p.f.node .inf, stack := stack1 } ⊆ freeList K st := by
  obtain ⟨habove, hsucc⟩ := h.root_not_loop hs hroot hln
  have hseg : p.seg = [p.f.node] := by simp [GF.seg, habove]
  apply h.pop_root (C := .vertex p.f.node)
  · have := h.stack_eq
    rw [stk_cons, hseg, hst] at this
    exact (List.cons.inj this).2
  · simp
  · exact Nat.le_refl _
  · intro x; rw [hseg]; rfl
  · exact List.nodup_cons.2 ⟨List.not_mem_nil, List.nodup_nil⟩
  · intro x hx
    rw [List.mem_singleton.1 hx]
    show getDfn (setDfn st.dfn p.f.node .inf) _ = .inf
    rw [getDfn_setDfn _ _ _ _ (h.node_lt_size hK), if_pos rfl]
  · exact fun x hx => getDfn_setDfn_ne _ _ _ _ fun e => hx (e ▸ List.mem_singleton_self _)
  · intro x hx y hy
    rw [List.mem_singleton.1 hx] at hy
    exact Or.inl (hsucc y hy)

theorem Inv.popLoop_root (h : Inv g K st0 part0 v (p :: gs) ln part st W)
    {el : Nat} {stack1 : List Nat} (hst : st.stack = el :: stack1) (t : Array Dfn) :
    popLoop p.f.node el stack1 t = some (stk gs ++ st0.stack, resetL p.above t) := by
  apply popLoop_spec
  · rw [← hst, h.stack_eq, stk_cons, GF.seg]; simp [List.append_assoc]
  · exact h.node_not_above

/-- the state in which `component(g, node)` is entered -/
def rootState (st : St) (p : GF) (stack2 : List Nat) : St :=
  { st with dfn := resetL p.above (setDfn st.dfn p.f.node .inf), stack := stack2 }

theorem getDfn_rootState (h : Inv g K st0 part0 v (p :: gs) ln part st W) (hK : ClosedK g K st0)
    (stack2 : List Nat) (x : Nat) :
    getDfn (rootState st p stack2).dfn x =
      if x ∈ p.above then .fin 0 else if x = p.f.node then .inf else getDfn st.dfn x := by
  simp only [rootState]
  by_cases hx : x ∈ p.above
  · rw [if_pos hx]
    apply getDfn_resetL_mem _ _ _ hx
    intro y hy
    rw [size_setDfn]
    exact h.lt_size hK (above_mem_stk hy)
  · rw [if_neg hx, getDfn_resetL_not_mem _ _ _ hx, getDfn_setDfn _ _ _ _ (h.node_lt_size hK)]

theorem Inv.above_closedK (h : Inv g K st0 part0 v (p :: gs) ln part st W) (hK : ClosedK g K st0)
    (hs : p.f.succs = []) (hroot : p.f.min = dn st.dfn p.f.node) (stack2 : List Nat) :
    ClosedK g (fun x => x ∈ p.above) (rootState st p stack2) ∧
    ∀ s ∈ g.succ p.f.node, s ∈ p.above ∨ getDfn (rootState st p stack2).dfn s = .inf := by
  have hcl := h.root_closed hs hroot
  -- a successor of a node of the segment is in `above`, or placed in the new state
  have key : ∀ x ∈ p.seg, ∀ y ∈ g.succ x, y ∈ p.above ∨ getDfn (rootState st p stack2).dfn y = .inf := by
    intro x hx y hy
    by_cases hya : y ∈ p.above
    · exact Or.inl hya
    · right
      rw [getDfn_rootState h hK, if_neg hya]
      by_cases hyn : y = p.f.node
      · rw [if_pos hyn]
      · rw [if_neg hyn]
        rcases hcl x hx y hy with (hd | hd) | hyseg
        · exact h.dfn_W y hd
        · by_cases hyW : y ∈ flattenL W
          · exact h.dfn_W y hyW
          · rw [h.dfn_other y hyW fun hyS => by have := (h.stk_K y hyS).2; rw [hd] at this; cases this]
            exact hd
        · exact absurd (mem_seg.1 hyseg) (not_or.2 ⟨hya, hyn⟩)
  refine ⟨fun x hx => ⟨?_, Or.inl ?_, key x (above_sub_seg hx)⟩, key _ (node_mem_seg p)⟩
  · simp only [rootState, size_resetL, size_setDfn]
    exact h.lt_size hK (above_mem_stk hx)
  · rw [getDfn_rootState h hK, if_pos hx]

theorem Inv.above_sub_body (h : Inv g K st0 part0 v (p :: gs) ln part st W) (hK : ClosedK g K st0)
    {stack2 : List Nat} {body : List WtoC} {st3 : St}
    (hP : Placed g (fun x => x ∈ p.above) (rootState st p stack2) body st3)
    (hsucc : ∀ s ∈ g.succ p.f.node, getDfn (rootState st p stack2).dfn s = .fin 0 → s ∈ flattenL body) :
    ∀ x ∈ p.above, x ∈ flattenL body := by
  have hfree : ∀ x ∈ p.above, getDfn (rootState st p stack2).dfn x = .fin 0 := by
    intro x hx; rw [getDfn_rootState h hK, if_pos hx]
  -- along the DFS tree: the parent is a finished node with a smaller dfn, or the root
  refine mem_induction_on_lt (f := dn st.dfn) fun x hx ih => ?_
  obtain ⟨q, hq, hlt, hxq⟩ := h.top_frame.parent x hx
  rcases mem_seg.1 hq with hq | rfl
  · rcases hP.W_edges q (ih q hq hlt) x hxq with hd | hd
    · rw [hfree x hx] at hd; cases hd
    · exact hd.mem_right
  · exact hsucc x hxq (hfree x hx)

theorem Inv.step_cycle (h : Inv g K st0 part0 v (p :: gs) ln part st W) (hK : ClosedK g K st0)
    (hs : p.f.succs = []) (hroot : p.f.min = dn st.dfn p.f.node)
    {body : List WtoC} {st3 : St}
    (hP : Placed g (fun x => x ∈ p.above) (rootState st p (stk gs ++ st0.stack)) body st3)
    (hsucc : ∀ s ∈ g.succ p.f.node,
      getDfn (rootState st p (stk gs ++ st0.stack)).dfn s = .fin 0 → s ∈ flattenL body) :
    Inv g K st0 part0 v gs ln (.cycle p.f.node body :: part) st3 (.cycle p.f.node body :: W) ∧
    freeList K st3 ⊆ freeList K st := by
  have hab := h.above_sub_body hK hP hsucc
  have hba : ∀ x ∈ flattenL body, x ∈ p.above := fun x hx => (hP.W_K x hx).1
  have hnb : p.f.node ∉ flattenL body := fun hx => h.node_not_above (hba _ hx)
  have hr := getDfn_rootState h hK (stk gs ++ st0.stack)
  have hcl := h.root_closed hs hroot
  -- an edge from the cycle stays in the cycle unless it leads to a placed node
  have hedge : ∀ x, x ∈ p.f.node :: flattenL body → ∀ y, (DoneNow st0 W y ∨ y ∈ p.seg) →
      (y ∈ p.above → EdgeOK [WtoC.cycle p.f.node body] x y) →
      DoneNow st0 W y ∨ EdgeOK [WtoC.cycle p.f.node body] x y := by
    intro x hx y hy hin
    refine hy.imp_right fun hd => ?_
    rcases mem_seg.1 hd with hd | rfl
    · exact hin hd
    · exact EdgeOK.to_head hx
  apply h.pop_root (C := .cycle p.f.node body)
  · rw [hP.stack_eq]; rfl
  · rw [hP.size_eq]; simp [rootState]
  · exact hP.num_ge
  · intro x
    show x ∈ p.f.node :: flattenL body ↔ _
    rw [List.mem_cons, mem_seg]
    exact ⟨fun hx => hx.elim Or.inr fun h1 => Or.inl (hba x h1),
      fun hx => hx.elim (fun h1 => Or.inr (hab x h1)) Or.inl⟩
  · exact List.nodup_cons.2 ⟨hnb, hP.W_nodup⟩
  · intro x hx
    by_cases hxb : x ∈ flattenL body
    · exact hP.dfn_W x hxb
    · rw [hP.dfn_other x hxb, hr, if_neg fun hxa => hxb (hab x hxa),
        if_pos ((List.mem_cons.1 hx).resolve_right hxb)]
  · intro x hx
    have hx' := not_or.1 fun hc => hx (List.mem_cons.2 hc)
    rw [hP.dfn_other x hx'.2, hr, if_neg (fun hxa => hx'.2 (hab x hxa)), if_neg hx'.1]
  · intro x hx y hy
    rcases List.mem_cons.1 hx with rfl | hxb
    · exact hedge _ hx y (hcl _ (node_mem_seg p) y hy) fun hya => EdgeOK.from_head (hab y hya)
    · refine hedge x hx y (hcl x (above_sub_seg (hba x hxb)) y hy) fun hya => ?_
      rcases hP.W_edges x hxb y hy with hd | hd
      · rw [hr, if_pos hya] at hd; cases hd
      · exact hd.in_cycle p.f.node

theorem Inv.init (part0 : List WtoC) (hK : ClosedK g K st0) (hv : K v) (hfree : getDfn st0.dfn v = .fin 0) :
    Inv g K st0 part0 v [GF.fresh g v (st0.num + 1)] [] part0 (discover st0 v) [] := by
  have hsz : v < st0.dfn.size := (hK v hv).1
  have hstk : stk [GF.fresh g v (st0.num + 1)] = [v] := rfl
  have hdv : getDfn (discover st0 v).dfn v = .fin (st0.num + 1) := by
    rw [getDfn_discover st0 v v hsz, if_pos rfl]
  have hnil : ∀ x, x ∉ flattenL ([] : List WtoC) := fun x => List.not_mem_nil
  refine {
    part_eq := rfl
    stack_eq := by rw [hstk]; rfl
    size_eq := by simp [discover]
    num_ge := Nat.le_succ _
    dfn_W := fun x hx => absurd hx (hnil x)
    sorted := by rw [hstk]; simp
    W_nodup := List.nodup_nil
    W_K := fun x hx => absurd hx (hnil x)
    disj := fun x hx => absurd hx (hnil x)
    W_edges := fun x hx => absurd hx (hnil x)
    chain := trivial
    root_in := by rw [hstk]; simp
    dfn_stk := ?dfn_stk, dfn_other := ?dfn_other, stk_K := ?stk_K, frames := ?frames }
  case dfn_stk =>
    intro x hx
    rw [hstk, List.mem_singleton] at hx
    subst hx
    exact ⟨st0.num + 1, hdv, Nat.lt_succ_self _, Nat.le_refl _⟩
  case dfn_other =>
    intro x _ hx
    rw [hstk, List.mem_singleton] at hx
    rw [getDfn_discover st0 v x hsz, if_neg hx]
  case stk_K =>
    intro x hx
    rw [hstk, List.mem_singleton] at hx
    subst hx
    exact ⟨hv, hfree⟩
  case frames =>
    intro q hq
    rw [List.mem_singleton] at hq
    subst hq
    exact FrameOK.fresh g _ _ _ _ _ v (st0.num + 1) (Nat.lt_succ_self _) (dn_of_getDfn hdv)

theorem Inv.final (h : Inv g K st0 part0 v [] ln part st W) :
    part = W ++ part0 ∧ Placed g K st0 W st ∧ v ∈ flattenL W :=
  ⟨h.part_eq, ⟨by simpa [stk_nil] using h.stack_eq, h.size_eq, h.num_ge, h.dfn_W,
    fun x hx => h.dfn_other x hx List.not_mem_nil, h.W_nodup, h.W_K, h.W_edges⟩,
    h.root_in.resolve_left List.not_mem_nil⟩

theorem Placed.refl (g : Graph) (K : Nat → Prop) (st0 : St) : Placed g K st0 [] st0 :=
  ⟨rfl, rfl, Nat.le_refl _, fun _ hx => absurd hx List.not_mem_nil, fun _ _ => rfl, List.nodup_nil,
    fun _ hx => absurd hx List.not_mem_nil, fun _ hx => absurd hx List.not_mem_nil⟩

theorem Placed.dfn_eq_or_inf {st1 : St} (hP : Placed g K st0 W st1) (y : Nat) :
    getDfn st1.dfn y = getDfn st0.dfn y ∨ getDfn st1.dfn y = .inf := by
  by_cases hy : y ∈ flattenL W
  · exact Or.inr (hP.dfn_W y hy)
  · exact Or.inl (hP.dfn_other y hy)

theorem ClosedK.placed {st1 : St} (hK : ClosedK g K st0) (hP : Placed g K st0 W st1) : ClosedK g K st1 := by
  intro x hx
  obtain ⟨h1, h2, h3⟩ := hK x hx
  refine ⟨by rw [hP.size_eq]; exact h1, ?_, fun y hy => (h3 y hy).imp_right fun hk => ?_⟩
  · rcases hP.dfn_eq_or_inf x with he | he
    · rw [he]; exact h2
    · exact Or.inr he
  · rcases hP.dfn_eq_or_inf y with he | he
    · rw [he]; exact hk
    · exact he

/-- two consecutive placements compose (the later one goes in front) -/
theorem Placed.trans {st1 st2 : St} {W1 W2 : List WtoC}
    (h1 : Placed g K st0 W1 st1) (h2 : Placed g K st1 W2 st2) : Placed g K st0 (W2 ++ W1) st2 := by
  have hdisj : ∀ x ∈ flattenL W2, x ∉ flattenL W1 := by
    intro x hx hx1
    have := (h2.W_K x hx).2
    rw [h1.dfn_W x hx1] at this; cases this
  refine ⟨by rw [h2.stack_eq, h1.stack_eq], by rw [h2.size_eq, h1.size_eq],
    Nat.le_trans h1.num_ge h2.num_ge, ?_, ?_, ?_, ?_, ?_⟩
  · intro x hx
    rw [flattenL_append, List.mem_append] at hx
    by_cases hx2 : x ∈ flattenL W2
    · exact h2.dfn_W x hx2
    · rw [h2.dfn_other x hx2]
      exact h1.dfn_W x (hx.resolve_left hx2)
  · intro x hx
    rw [flattenL_append, List.mem_append, not_or] at hx
    rw [h2.dfn_other x hx.1, h1.dfn_other x hx.2]
  · rw [flattenL_append, List.nodup_append]
    exact ⟨h2.W_nodup, h1.W_nodup, fun a ha b hb e => hdisj a ha (e ▸ hb)⟩
  · intro x hx
    rw [flattenL_append, List.mem_append] at hx
    rcases hx with hx | hx
    · have := h2.W_K x hx
      exact ⟨this.1, by rw [← h1.dfn_other x (hdisj x hx)]; exact this.2⟩
    · exact h1.W_K x hx
  · intro x hx y hy
    rw [flattenL_append, List.mem_append] at hx
    rcases hx with hx | hx
    · rcases h2.W_edges x hx y hy with hd | hd
      · by_cases hy1 : y ∈ flattenL W1
        · exact Or.inr (EdgeOK.cross hx hy1)
        · left; rw [← h1.dfn_other y hy1]; exact hd
      · exact Or.inr (hd.append_right W1)
    · exact (h1.W_edges x hx y hy).imp_right fun hd => hd.append_left W2

end Wto
end Crab
