import CrabModel.Dom.Functors.Powerset
import CrabProofs.Lemmas.FunctorBase

/-!
`powerset_domain` (`Crab.Dom.Fct.PSet`) w.r.t. `γ` = union of the disjuncts, from the laws of `LDom`
and `TopSound` (a yes of the base `is_top` means every state: the early returns of `|`, `|=`, `<=`
trust it).  Here: `is_bottom` / `is_top`, the building blocks (`normalize_if_top`, `smash`, `insert`,
`append`, `γ_of_early`), `&`, `&&`, `<=`, the pieces of the transformers (`map_sound`,
`filter_sound`, the `forget` loop as one equation) and the lower-bound property of the meet of
pairs.  Soundness of `|`, `|=`, the widenings and the four shapes of transformers is proved under
its statement `C03.powerset_join_sound`, `_widen_sound`, `_trans_sound` (`Props/C03Functors.lean`).
-/
namespace Crab
namespace Dom
namespace Fct

variable {S : Type}

namespace PSet
variable {D : LDom S}

theorem not_γ_of_isBottom {ps : PSet D} (h : isBottom ps = true) (s : S) : ¬ γ ps s := by
  rintro ⟨d, hd, hg⟩
  exact D.isBot_sound d s (List.all_eq_true.1 h d hd) hg

theorem isBottom_false_of_γ {ps : PSet D} {s : S} (h : γ ps s) : isBottom ps = false := by
  cases hb : isBottom ps
  · rfl
  · exact absurd h (not_γ_of_isBottom hb s)

theorem γ_of_isTop (t : D.TopSound) {ps : PSet D} (h : isTop ps = true) (s : S) : γ ps s := by
  obtain ⟨d, hd, ht⟩ := List.any_eq_true.1 h
  exact ⟨d, hd, t d s ht⟩

theorem γ_top (s : S) : γ (top : PSet D) s := ⟨D.top, by simp [top], D.top_sound s⟩

theorem not_γ_bottom (s : S) : ¬ γ (bottom : PSet D) s := by
  rintro ⟨d, hd, hg⟩
  simp only [bottom, List.mem_singleton] at hd
  subst hd
  exact D.bot_sound s hg

theorem not_γ_nil (s : S) : ¬ γ ([] : PSet D) s := by rintro ⟨d, hd, _⟩; simp at hd

theorem γ_singleton (d : D.B) (s : S) : γ ([d] : PSet D) s ↔ D.γ d s := by
  constructor
  · rintro ⟨x, hx, hg⟩; simp only [List.mem_singleton] at hx; subst hx; exact hg
  · intro h; exact ⟨d, by simp, h⟩

theorem γ_append (a b : List D.B) (s : S) : γ (a ++ b : PSet D) s ↔ γ (a : PSet D) s ∨ γ (b : PSet D) s := by
  constructor
  · rintro ⟨d, hd, hg⟩
    rcases List.mem_append.1 hd with h | h
    · exact Or.inl ⟨d, h, hg⟩
    · exact Or.inr ⟨d, h, hg⟩
  · rintro (⟨d, hd, hg⟩ | ⟨d, hd, hg⟩)
    · exact ⟨d, List.mem_append_left _ hd, hg⟩
    · exact ⟨d, List.mem_append_right _ hd, hg⟩

theorem γ_cons (d : D.B) (ds : List D.B) (s : S) : γ (d :: ds : PSet D) s ↔ D.γ d s ∨ γ (ds : PSet D) s := by
  have := γ_append [d] ds s
  simp only [List.singleton_append] at this
  rw [this, γ_singleton]

theorem normalizeIfTop_sound {ps : PSet D} {s : S} (h : γ ps s) : γ (normalizeIfTop ps) s := by
  unfold normalizeIfTop; split
  · exact γ_top s
  · exact h

theorem normalizeIfTop_lower (t : D.TopSound) {ps : PSet D} {s : S} (h : γ (normalizeIfTop ps) s) : γ ps s := by
  unfold normalizeIfTop at h; split at h
  · rename_i ht; exact γ_of_isTop t ht s
  · exact h

theorem smash_sound {ps : PSet D} {s : S} (h : γ ps s) : D.γ (smash ps) s := by
  unfold smash
  rw [isBottom_false_of_γ h]
  simp only [Bool.false_eq_true, if_false]
  split
  · exact D.top_sound s
  · cases ps with
    | nil => exact absurd h (not_γ_nil s)
    | cons d ds => exact D.foldl_join_sound id ds d s ((γ_cons d ds s).1 h)

theorem smashInPlace_sound {ps : PSet D} {s : S} (h : γ ps s) : γ (smashInPlace ps) s := by
  unfold smashInPlace
  rw [isBottom_false_of_γ h]
  simp only [Bool.false_eq_true, if_false]
  by_cases ht : isTop ps = true
  · simp only [ht, if_true, top, List.foldl_nil]
    exact (γ_singleton _ s).2 (D.top_sound s)
  · simp only [ht]
    cases ps with
    | nil => exact absurd h (not_γ_nil s)
    | cons d ds =>
      simp only [Bool.false_eq_true, if_false]
      rw [γ_singleton]
      exact D.foldl_join_sound id ds d s ((γ_cons d ds s).1 h)

theorem ofVec_sound (P : PParams) {ps : PSet D} {s : S} (h : γ ps s) : γ (ofVec P ps) s := by
  unfold ofVec
  simp only
  split
  · exact smashInPlace_sound (normalizeIfTop_sound h)
  · exact normalizeIfTop_sound h

theorem ofDom_sound {d : D.B} {s : S} (h : D.γ d s) : γ (ofDom d) s :=
  normalizeIfTop_sound ((γ_singleton d s).2 h)

theorem insert_sound {vec : PSet D} {d : D.B} {s : S} (h : γ vec s ∨ D.γ d s) : γ (insert vec d) s := by
  unfold insert
  split
  · rename_i hin
    rcases h with h | h
    · exact h
    · obtain ⟨v, hv, hl⟩ := List.any_eq_true.1 hin
      exact ⟨v, hv, D.leq_sound _ _ s hl h⟩
  · rw [γ_append, γ_singleton]; exact h

theorem append_sound (v2 : List D.B) {v1 : PSet D} {s : S} (h : γ v1 s ∨ γ (v2 : PSet D) s) : γ (append v1 v2) s := by
  unfold append
  induction v2 generalizing v1 with
  | nil => exact h.elim id (fun h => absurd h (not_γ_nil s))
  | cons x xs ih =>
    simp only [List.foldl_cons]
    apply ih
    rcases h with h | h
    · exact Or.inl (insert_sound (Or.inl h))
    · rcases (γ_cons x xs s).1 h with h | h
      · exact Or.inl (insert_sound (Or.inr h))
      · exact Or.inr h

/-! ### upper bounds -/

/-- the early answers of `|`, `|=`, `<=`: one operand is bottom or the other one top -/
theorem γ_of_early (t : D.TopSound) {a b : PSet D} {s : S} (h : γ a s ∨ γ b s)
    (hc : isBottom a = true ∨ isTop b = true) : γ b s :=
  hc.elim (fun hb => h.resolve_left (not_γ_of_isBottom hb s)) (fun ht => γ_of_isTop t ht s)

/-! ### lower bounds -/

theorem meetPairs_sound {a b : PSet D} {s : S} (ha : γ a s) (hb : γ b s) : γ (meetPairs a b) s := by
  obtain ⟨x, hx, gx⟩ := ha
  obtain ⟨y, hy, gy⟩ := hb
  have gm := D.meet_sound x y s gx gy
  refine ⟨D.meet x y, ?_, gm⟩
  unfold meetPairs
  rw [List.mem_flatMap]
  refine ⟨x, hx, ?_⟩
  rw [List.mem_filter]
  exact ⟨List.mem_map.2 ⟨y, hy, rfl⟩, by simp [D.isBot_false_of_γ gm]⟩

theorem meet_sound (P : PParams) {a b : PSet D} {s : S} (ha : γ a s) (hb : γ b s) : γ (meet P a b) s := by
  unfold meet
  split
  · unfold meetWith
    rw [isBottom_false_of_γ ha, isBottom_false_of_γ hb]
    simp only [Bool.or_self, Bool.false_eq_true, if_false]
    split
    · exact hb
    · split
      · exact ha
      · exact ofVec_sound P (meetPairs_sound ha hb)
  · exact ofDom_sound (D.meet_sound _ _ s (smash_sound ha) (smash_sound hb))

theorem narrow_sound {a b : PSet D} {s : S} (ha : γ a s) (hb : γ b s) : γ (narrow a b) s :=
  ofDom_sound (D.narrow_sound _ _ s (smash_sound ha) (smash_sound hb))

/-! ### `operator<=` -/

theorem leq_sound (t : D.TopSound) {a b : PSet D} {s : S} (h : leq a b = true) (hg : γ a s) : γ b s := by
  unfold leq at h
  split at h
  · rename_i hc
    exact γ_of_early t (Or.inl hg) (Bool.or_eq_true_iff.1 hc)
  · obtain ⟨x, hx, gx⟩ := hg
    have := List.all_eq_true.1 h x hx
    simp only [Bool.or_eq_true] at this
    rcases this with hb | hb
    · exact absurd gx (D.isBot_sound x s hb)
    · obtain ⟨y, hy, hl⟩ := List.any_eq_true.1 hb
      exact ⟨y, hy, D.leq_sound x y s hl gx⟩

theorem leq_of_isBottom {a : PSet D} (h : isBottom a = true) (b : PSet D) : leq a b = true := by
  simp [leq, h]

theorem leq_refl (hr : D.LeqRefl) (a : PSet D) : leq a a = true := by
  unfold leq
  split
  · rfl
  · apply List.all_eq_true.2
    intro x hx
    simp only [Bool.or_eq_true]
    exact Or.inr (List.any_eq_true.2 ⟨x, hx, hr x⟩)

theorem leq_top (ht : D.TopIsTop) (a : PSet D) : leq a top = true := by
  have : isTop (top : PSet D) = true := by
    have h' : D.isTop D.top = true := ht
    simp [isTop, top, h']
  simp [leq, this]

/-! ### transformers -/

variable {f : D.B → D.B} {r : S → S → Prop}

theorem map_sound (hf : D.TSound f r) {ps : List D.B} {s s' : S}
    (hg : γ (ps : PSet D) s) (hr : r s s') : γ (ps.map f : PSet D) s' := by
  obtain ⟨d, hd, gd⟩ := hg
  exact ⟨f d, List.mem_map.2 ⟨d, hd, rfl⟩, hf d s s' gd hr⟩

theorem filter_sound {ps : List D.B} {s : S} (hg : γ (ps : PSet D) s) :
    γ (ps.filter (fun d => !D.isBot d) : PSet D) s := by
  obtain ⟨d, hd, gd⟩ := hg
  exact ⟨d, List.mem_filter.2 ⟨hd, by simp [D.isBot_false_of_γ gd]⟩, gd⟩

/-- the loop of `forget` stops at the first transformed disjunct that is recognised as top -/
theorem forgetGo_eq (f : D.B → D.B) : ∀ ps : List D.B,
    forgetGo (D := D) f ps = if ps.any (fun d => D.isTop (f d)) then none else some (ps.map f)
  | [] => rfl
  | d :: ds => by
    unfold forgetGo
    rw [forgetGo_eq f ds, List.any_cons, List.map_cons]
    cases D.isTop (f d) <;> cases ds.any (fun d => D.isTop (f d)) <;> rfl

/-- when the loop stops early some transformed disjunct was recognised as top -/
theorem forgetGo_none {f : D.B → D.B} : ∀ {ps : List D.B}, forgetGo (D := D) f ps = none →
    ∃ d ∈ ps, D.isTop (f d) = true := by
  intro ps h
  rw [forgetGo_eq] at h
  split at h
  · rename_i ht; exact List.any_eq_true.1 ht
  · cases h

/-! ### lower bound of the meet of pairs -/

theorem meetPairs_lower (m : D.MeetLower) {a b : PSet D} {s : S} (h : γ (meetPairs a b) s) : γ a s ∧ γ b s := by
  obtain ⟨d, hd, gd⟩ := h
  unfold meetPairs at hd
  rw [List.mem_flatMap] at hd
  obtain ⟨x, hx, hd⟩ := hd
  rw [List.mem_filter] at hd
  obtain ⟨y, hy, rfl⟩ := List.mem_map.1 hd.1
  have := m x y s gd
  exact ⟨⟨x, hx, this.1⟩, ⟨y, hy, this.2⟩⟩

end PSet
end Fct
end Dom
end Crab
