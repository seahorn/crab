import CrabProofs.Lemmas.TIRGraph

/-!
  `cfg::remove(bb)` on a well-formed CFG: effect on the lookups (`RemoveSpec`) and preservation
  of well-formedness.
-/
namespace Crab
namespace TIR

theorem foldl_removeEdge_in (l : Label) : ∀ (ps : List Label) (P : Prog),
    (ps.foldl (fun Q p => Q.removeEdge p l) P).labels = P.labels ∧
    (ps.foldl (fun Q p => Q.removeEdge p l) P).entry = P.entry ∧
    (ps.foldl (fun Q p => Q.removeEdge p l) P).exit = P.exit ∧
    (ps.foldl (fun Q p => Q.removeEdge p l) P).outputs = P.outputs ∧
    (∀ l', (ps.foldl (fun Q p => Q.removeEdge p l) P).stmtsOf l' = P.stmtsOf l') ∧
    (∀ l', (ps.foldl (fun Q p => Q.removeEdge p l) P).succsOf l' =
        if l' ∈ ps then removeAdj (P.succsOf l') l else P.succsOf l') ∧
    (∀ l', l' ≠ l → (ps.foldl (fun Q p => Q.removeEdge p l) P).predsOf l' = P.predsOf l') := by
  intro ps
  induction ps with
  | nil => intro P; simp
  | cons p r ih =>
    intro P
    simp only [List.foldl_cons]
    obtain ⟨h1, h2, h3, h4, h5, h6, h7⟩ := ih (P.removeEdge p l)
    refine ⟨by rw [h1, labels_removeEdge], by rw [h2]; rfl, by rw [h3]; rfl, by rw [h4]; rfl, ?_, ?_, ?_⟩
    · intro l'; rw [h5, stmtsOf_removeEdge]
    · intro l'
      rw [h6, succsOf_removeEdge]
      by_cases hp : l' = p
      · subst hp
        simp only [if_true, List.mem_cons, true_or]
        split
        · simp [removeAdj, List.filter_filter]
        · rfl
      · simp only [hp, if_false, List.mem_cons, false_or]
    · intro l' hl'
      rw [h7 l' hl', predsOf_removeEdge]
      simp [hl']

theorem foldl_removeEdge_out (l : Label) : ∀ (ss : List Label) (P : Prog),
    (ss.foldl (fun Q s => Q.removeEdge l s) P).labels = P.labels ∧
    (ss.foldl (fun Q s => Q.removeEdge l s) P).entry = P.entry ∧
    (ss.foldl (fun Q s => Q.removeEdge l s) P).exit = P.exit ∧
    (ss.foldl (fun Q s => Q.removeEdge l s) P).outputs = P.outputs ∧
    (∀ l', (ss.foldl (fun Q s => Q.removeEdge l s) P).stmtsOf l' = P.stmtsOf l') ∧
    (∀ l', (ss.foldl (fun Q s => Q.removeEdge l s) P).predsOf l' =
        if l' ∈ ss then removeAdj (P.predsOf l') l else P.predsOf l') ∧
    (∀ l', l' ≠ l → (ss.foldl (fun Q s => Q.removeEdge l s) P).succsOf l' = P.succsOf l') := by
  intro ss
  induction ss with
  | nil => intro P; simp
  | cons p r ih =>
    intro P
    simp only [List.foldl_cons]
    obtain ⟨h1, h2, h3, h4, h5, h6, h7⟩ := ih (P.removeEdge l p)
    refine ⟨by rw [h1, labels_removeEdge], by rw [h2]; rfl, by rw [h3]; rfl, by rw [h4]; rfl, ?_, ?_, ?_⟩
    · intro l'; rw [h5, stmtsOf_removeEdge]
    · intro l'
      rw [h6, predsOf_removeEdge]
      by_cases hp : l' = p
      · subst hp
        simp only [if_true, List.mem_cons, true_or]
        split
        · simp [removeAdj, List.filter_filter]
        · rfl
      · simp only [hp, if_false, List.mem_cons, false_or]
    · intro l' hl'
      rw [h7 l' hl', succsOf_removeEdge]
      simp [hl']

structure RemoveSpec (P T : Prog) (l : Label) : Prop where
  labels : T.labels = P.labels.filter (fun x => x != l)
  entry : T.entry = P.entry
  exit : T.exit = P.exit
  outs : T.outputs = P.outputs
  ne_entry : l ≠ P.entry
  ne_exit : P.exit ≠ some l
  succ : ∀ l', T.succsOf l' = if l' = l then [] else removeAdj (P.succsOf l') l
  pred : ∀ l', T.predsOf l' = if l' = l then [] else removeAdj (P.predsOf l') l
  stmts : ∀ l', T.stmtsOf l' = if l' = l then [] else P.stmtsOf l'

theorem remove_spec {P T : Prog} {l : Label} (hwf : WFp P) (h : P.remove l = some T) : RemoveSpec P T l := by
  unfold Prog.remove at h
  split at h
  · cases h
  · rename_i hne
    split at h
    · cases h
    · rename_i hnx
      cases hb : P.block? l with
      | none => rw [hb] at h; cases h
      | some B =>
        rw [hb] at h
        simp only [Option.some.injEq] at h
        subst h
        have hBs : P.succsOf l = B.succ := by simp [Prog.succsOf, hb]
        have hBp : P.predsOf l = B.pred := by simp [Prog.predsOf, hb]
        obtain ⟨a1, a2, a3, a4, a5, a6, a7⟩ := foldl_removeEdge_in l (B.pred.filter (fun p => p != l)) P
        obtain ⟨b1, b2, b3, b4, b5, b6, b7⟩ := foldl_removeEdge_out l (B.succ.filter (fun s => s != l))
          ((B.pred.filter (fun p => p != l)).foldl (fun Q p => Q.removeEdge p l) P)
        refine ⟨?_, ?_, ?_, ?_, ?_, ?_, ?_, ?_, ?_⟩
        · rw [labels_eraseBlock, b1, a1]
        · show Prog.entry (List.foldl _ _ _) = _; rw [b2, a2]
        · show Prog.exit (List.foldl _ _ _) = _; rw [b3, a3]
        · show Prog.outputs (List.foldl _ _ _) = _; rw [b4, a4]
        · intro hc; exact hne (by simp [hc])
        · intro hc; exact hnx (by simp [hc])
        · intro l'
          rw [succsOf_eraseBlock]
          by_cases hl' : l' = l
          · simp [hl']
          · simp only [hl', if_false]
            rw [b7 l' hl', a6]
            split
            · rfl
            · rename_i hnm
              have : l ∉ P.succsOf l' := by
                intro hc
                have := (hwf.sym l' l).mp hc
                rw [hBp] at this
                exact hnm (List.mem_filter.mpr ⟨this, by simpa using hl'⟩)
              rw [removeAdj_of_not_mem this]
        · intro l'
          rw [predsOf_eraseBlock]
          by_cases hl' : l' = l
          · simp [hl']
          · simp only [hl', if_false]
            rw [b6, a7 l' hl']
            split
            · rfl
            · rename_i hnm
              have : l ∉ P.predsOf l' := by
                intro hc
                have := (hwf.sym l l').mpr hc
                rw [hBs] at this
                exact hnm (List.mem_filter.mpr ⟨this, by simpa using hl'⟩)
              rw [removeAdj_of_not_mem this]
        · intro l'
          rw [stmtsOf_eraseBlock, b5, a5]

theorem RemoveSpec.wfp {P T : Prog} {l : Label} (hwf : WFp P) (h : RemoveSpec P T l) : WFp T where
  nodup := by rw [h.labels]; exact hwf.nodup.filter _
  entry := by
    rw [h.labels, h.entry]
    exact List.mem_filter.mpr ⟨hwf.entry, by simpa using fun hc => h.ne_entry hc.symm⟩
  exit := by
    intro x hx
    rw [h.exit] at hx
    rw [h.labels]
    refine List.mem_filter.mpr ⟨hwf.exit x hx, ?_⟩
    have : x ≠ l := by intro hc; subst hc; exact h.ne_exit hx
    simpa using this
  sym := by
    intro l1 l2
    rw [h.succ, h.pred]
    by_cases h1 : l1 = l
    · subst h1
      simp only [if_true, List.not_mem_nil, false_iff]
      split
      · simp
      · intro hc; exact (mem_removeAdj.mp hc).2 rfl
    · by_cases h2 : l2 = l
      · subst h2
        simp only [h1, if_false, if_true, List.not_mem_nil, iff_false]
        intro hc; exact (mem_removeAdj.mp hc).2 rfl
      · simp only [h1, h2, if_false, mem_removeAdj]
        constructor
        · rintro ⟨a, _⟩; exact ⟨(hwf.sym l1 l2).mp a, h1⟩
        · rintro ⟨a, _⟩; exact ⟨(hwf.sym l1 l2).mpr a, h2⟩
  succ_lab := by
    intro l1 l2 hl
    rw [h.succ] at hl
    split at hl
    · simp at hl
    · obtain ⟨a, b⟩ := mem_removeAdj.mp hl
      rw [h.labels]
      exact List.mem_filter.mpr ⟨hwf.succ_lab l1 l2 a, by simpa using b⟩
  nd_succ := by
    intro l1
    rw [h.succ]
    split
    · simp
    · exact nodup_removeAdj _ (hwf.nd_succ l1)
  nd_pred := by
    intro l1
    rw [h.pred]
    split
    · simp
    · exact nodup_removeAdj _ (hwf.nd_pred l1)

end TIR
end Crab
