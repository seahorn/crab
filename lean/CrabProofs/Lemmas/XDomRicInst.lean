import CrabProofs.Lemmas.XDomRicStmt
import CrabProofs.Lemmas.XDomStmt
import CrabProofs.Lemmas.IDomCsts

/-!
  The "ric" domain (model `Crab.RDom`): `rename`, `set`, `entails`, `at`, exported constraints; the
  abstract execution of the statements of `XDom.Stmt` as the two component executions followed by
  the reductions, and the instance of the engine contract.
-/
namespace Crab
namespace RDom
open XDom Lin

namespace Env

theorem set_sound {e : Env} (he : e.Inv) {σ : State} (hg : e.γ σ) {x : Var} (hx : x < 2 ^ 64) {v : IC}
    (hw : Cong.WF v.c) {n : Int} (hn : IC.mem n v) : (e.set x v).γ (upd σ x n) :=
  both_sound hg (IDom.Env.set_sound hg.2.1 hn.1 x) (GDom.Env.set_sound he.2.1 hg.2.2 hx hw hn.2)

theorem set_inv {e : Env} (he : e.Inv) {x : Var} (hx : x < 2 ^ 64) {v : IC} (hw : Cong.WF v.c) : (e.set x v).Inv :=
  both_inv he (fun f h => IDom.Env.set_sorted f x v.i h) (fun _ h => iset_bot h _ _)
    (fun _ h => GDom.Env.set_inv h hx hw)

theorem renameRel_of_zip : ∀ (frm to : List Var) (σ σ' : State), (∀ p ∈ frm.zip to, σ' p.2 = σ p.1) →
    IDom.Env.RenameRel frm to σ σ' := by
  intro frm
  induction frm with
  | nil => intro to σ σ' _; cases to <;> trivial
  | cons k rest ih =>
    intro to σ σ' h
    cases to with
    | nil => trivial
    | cons nk rest' =>
      simp only [IDom.Env.RenameRel]
      exact ⟨h (k, nk) (by simp), ih rest' σ σ' (fun p hp => h p (by simp [hp]))⟩

theorem rename_sound {e e' : Env} (he : e.Inv) {σ σ' : State} (hg : e.γ σ) {frm to : List Var}
    (hr : e.rename frm to = some e') (hf : ∀ v ∈ frm, v < 2 ^ 64) (ht : ∀ v ∈ to, v < 2 ^ 64)
    (hnf : frm.Nodup) (hnt : to.Nodup) (hdis : ∀ y ∈ to, y ∉ frm)
    (hfresh : ∀ y ∈ to, IDom.Map.find e.f.m y = none ∧ e.s.tree.lookup y = none)
    (hrel : ∀ p ∈ frm.zip to, σ' p.2 = σ p.1) (hout : ∀ y, y ∉ frm → y ∉ to → σ' y = σ y) : e'.γ σ' := by
  unfold rename at hr
  rw [canon_of_γ hg] at hr
  simp only at hr
  cases h1 : e.f.rename frm to with
  | none => rw [h1] at hr; cases hr
  | some f' =>
    rw [h1] at hr
    simp only at hr
    have g1 : IDom.Env.γ f' σ' := IDom.Env.rename_sound hg.2.1 h1 hnf hnt hdis (fun y hy => (hfresh y hy).1)
      (renameRel_of_zip frm to σ σ' hrel) hout
    have hc : canon ⟨e.isBot, f', e.s⟩ = ⟨e.isBot, f', e.s⟩ := by
      unfold canon
      have a1 : f'.bottom = false := g1.1
      have a2 : e.s.isBot = false := hg.2.2.1
      simp [hg.1, a1, a2]
    rw [hc] at hr
    simp only at hr
    cases h2 : e.s.rename frm to with
    | none => rw [h2] at hr; cases hr
    | some s' =>
      rw [h2] at hr
      simp only [Option.some.injEq] at hr
      subst hr
      rw [GDom.Env.rename_eq] at h2
      exact ⟨hg.1, g1, XDom.Env.rename_sound GDom.congLaws he.2.1 hg.2.2 h2 hf ht hnf hnt hdis
        (fun y hy => (hfresh y hy).2) hrel hout⟩

theorem entails_sound {e : Env} (he : e.Inv) {σ : State} (hg : e.γ σ) {c : Lin.Cst} (hc : CstOk c)
    (h : e.entails c = true) : c.sat σ := by
  unfold entails at h
  simp only [Bool.or_eq_true] at h
  rcases h with h | h
  · exact IDom.Env.entails_sound hg.2.1 hc.1 h
  · exact GDom.Env.entails_sound he.2.1 hg.2.2 hc h

theorem atItv_sound {e : Env} {σ : State} (hg : e.γ σ) (x : Var) : Itv.mem (σ x) (e.atItv x) := hg.2.1.2 x

theorem toCsts_sound {e : Env} (he : e.Inv) {σ : State} (hg : e.γ σ) : Sys.sat e.toCsts σ := by
  unfold toCsts
  rw [Sys.sat_addSys, Sys.sat_addSys]
  refine ⟨⟨(fun c hc => by simp at hc), IDom.Env.toCsts_sound he.1 hg.2.1⟩, GDom.Env.toCsts_sound he.2.1 hg.2.2⟩

end Env

def SEnv := { e : Env // e.Inv }

namespace SEnv
def γ (a : SEnv) (σ : State) : Prop := Env.γ a.1 σ
def bot : SEnv := ⟨Env.bot, Env.inv_bot⟩
def top : SEnv := ⟨Env.top, Env.inv_top⟩
def leq (a b : SEnv) : Bool := Env.leq a.1 b.1
def join (a b : SEnv) : SEnv := ⟨Env.join a.1 b.1, Env.join_inv a.2 b.2⟩
def joinEq (a b : SEnv) : SEnv := ⟨Env.joinEq a.1 b.1, Env.joinEq_inv a.2 b.2⟩
def widen (a b : SEnv) : SEnv := ⟨Env.widen a.1 b.1, Env.widen_inv a.2 b.2⟩
def widenTh (ts : IDom.Thresholds) (a b : SEnv) : SEnv := ⟨Env.widenTh ts a.1 b.1, Env.widenTh_inv ts a.2 b.2⟩
def meet (a b : SEnv) : SEnv := ⟨Env.meet a.1 b.1, Env.meet_inv a.2 b.2⟩
def meetEq (a b : SEnv) : SEnv := ⟨Env.meetEq a.1 b.1, Env.meetEq_inv a.2 b.2⟩
def narrow (a b : SEnv) : SEnv := ⟨Env.narrow a.1 b.1, Env.narrow_inv a.2 b.2⟩
def ops : Fix.Ops SEnv := ⟨bot, top, leq, join, meet, widen, narrow⟩
end SEnv

def exec : Stmt → Env → Env
  | .assign x e, a => a.assign x e
  | .weakAssign x e, a => a.weakAssign x e
  | .arithVar op x y z, a => a.applyVar op x y z
  | .arithCst op x y k, a => a.applyCst op x y k
  | .bitVar op x y z, a => a.applyBitVar op x y z
  | .bitCst op x y k, a => a.applyBitCst op x y k
  | .assume csts, a => a.add csts
  | .select lhs c e1 e2, a => a.select lhs c e1 e2
  | .forget x, a => a.forget x
  | .havoc vs, a => a.forgetAll vs
  | .project vs, a => a.project vs
  | .expand x nx, a => a.expand x nx
  | .cast z bw d s, a => a.intCast z bw d s

theorem exec_eq (st : Stmt) (a : Env) : exec st a = post st (Env.both (compI st) (GDom.exec st) a) := by
  cases st <;> rfl

theorem both_exec_inv (st : Stmt) (hok : st.Ok) {a : Env} (h : a.Inv) :
    (Env.both (compI st) (GDom.exec st) a).Inv :=
  Env.both_inv h (compI_sorted st) (compI_bot st) (fun _ hs => GDom.exec_inv st hok hs)

theorem exec_inv (st : Stmt) (hok : st.Ok) {a : Env} (h : a.Inv) : (exec st a).Inv :=
  exec_eq st a ▸ (post_spec st hok (both_exec_inv st hok h)).1

/-- **every statement is sound**: the two components are (`compI_sound`, `GDom.exec_sound'`) and the
    reductions lose no state (`post_spec`); the side condition of `Shl` by a variable amount is the
    one of the congruence component -/
theorem exec_sound' (st : Stmt) (hok : st.Ok) {a : Env} (hshl : GDom.ShlOk st a.s) (ha : a.Inv) {s s' : State}
    (hg : a.γ s) (hr : st.rel s s') : (exec st a).γ s' :=
  exec_eq st a ▸ (post_spec st hok (both_exec_inv st hok ha)).2
    (Env.both_sound hg (compI_sound st hok hg.2.1 hr) (GDom.exec_sound' st hok hshl ha.2.1 hg.2.2 hr))

theorem Env.assign_sound {e : Env} (he : e.Inv) {σ : State} (hg : e.γ σ) {x : Var} (hx : x < 2 ^ 64) (ex : Expr) :
    (e.assign x ex).γ (upd σ x (ex.eval σ)) :=
  exec_sound' (.assign x ex) hx trivial he hg rfl

/-- statements: `GDom.Ok'`, the side conditions of the congruence component -/
theorem exec_sound (st : Stmt) (hok : GDom.Ok' st) {a : Env} (ha : a.Inv) {s s' : State} (hg : a.γ s)
    (hr : st.rel s s') : (exec st a).γ s' :=
  exec_sound' st hok.1 (.of_ok' hok a.s) ha hg hr

def execS (st : Stmt) (hok : st.Ok) (a : SEnv) : SEnv := ⟨exec st a.1, exec_inv st hok a.2⟩

def eng : EngDom where
  A := SEnv
  γ := SEnv.γ
  ops := SEnv.ops
  Adm := GDom.Ok'
  exec := fun st h => execS st h.1
  exec_sound := fun st h a _ _ hg hr => exec_sound st h a.2 hg hr
  join_left := fun a b _ h => Env.join_upper a.2 b.2 (Or.inl h)
  join_right := fun a b _ h => Env.join_upper a.2 b.2 (Or.inr h)
  widen_left := fun a b _ h => Env.widen_upper a.2 b.2 (Or.inl h)
  widen_right := fun a b _ h => Env.widen_upper a.2 b.2 (Or.inr h)
  meet_sound := fun a b _ h1 h2 => Env.meet_sound a.2 b.2 h1 h2
  narrow_sound := fun a b _ h1 h2 => Env.narrow_sound a.2 b.2 h1 h2
  leq_sound := fun a b _ h hg => Env.leq_sound a.2 b.2 h hg

end RDom
end Crab
