import CrabProofs.Lemmas.IDomEnv
import CrabProofs.Lemmas.IDomSolverLoops
import CrabProofs.Lemmas.LinSys

/-!
  Frame property of `operator+=` of the interval domain: the constraint solver updates (`set`)
  only variables that occur in the constraints.  Stated for a predicate on environments preserved
  by `set` on the keys of a set `K` only (`EnvInvOn`; `K` everything: `EnvInv` of IDomSorted.lean);
  `Env.add_on` is the result for a system whose variables are all in `K`.

  The instance other files use is `Env.Unbound e k` (the key has no binding): the `unbound_*`
  lemmas say which operation keeps a key unbound — `set`, `forget`, `join(k, v)`, `assign`,
  `weak_assign`, `expand` on another key, `+=` of a system that does not mention it
  (`add_unbound`), the two kinds of merge.
-/
namespace Crab
namespace IDom
open Lin

structure EnvInvOn (K : Var → Prop) (P : Env → Prop) : Prop where
  bot : P Env.bot
  set : ∀ e k v, K k → P e → P (e.set k v)

def CstsIn (K : Var → Prop) (tbl : List Cst) : Prop := ∀ c ∈ tbl, ∀ p ∈ c.expr.terms, K p.1

section generic
variable {K : Var → Prop} {P : Env → Prop} (hP : EnvInvOn K P)
include hP

theorem solverRun_on (csts : Sys) (hk : CstsIn K csts) (maxCycles : Nat) (env : Env) (h : P env) :
    P (solverRun csts maxCycles env) :=
  solverRun_ind (T := fun c => ∀ p ∈ c.expr.terms, K p.1) (fun _ _ _ => hP.bot) (fun _ h _ => ⟨h, h⟩)
    (fun c hc p hp st h => passEnv_of hP.bot <| propagateTerm_ind (M := fun r => P r.2.env) c st p.1 p.2
      (fun _ _ => h) (fun _ _ _ _ _ => h) (fun v _ _ _ => hP.set _ _ v (hc p hp) h))
    hk maxCycles h

omit hP in
theorem addCst_in {s : Sys} {c : Cst} (hs : CstsIn K s) (hc : ∀ p ∈ c.expr.terms, K p.1) :
    CstsIn K (Sys.addCst s c) := by
  intro c' hc'
  rcases Sys.mem_addCst.1 hc' with h | h
  · exact hs c' h
  · subst h; exact hc

omit hP in
theorem sub_var_var_in {x y : Var} (hx : K x) (hy : K y) :
    ∀ p ∈ (Expr.sub (Expr.var x) (Expr.var y)).terms, K p.1 := by
  intro p hp
  simp only [Expr.sub, Expr.var, List.foldl_cons, List.foldl_nil] at hp
  rcases Expr.mem_addTerm hp with h | h
  · simp only [List.mem_singleton] at h; subst h; exact hx
  · rw [h.1]; exact hy

omit hP in
theorem var_subVar_in {x y : Var} (hx : K x) (hy : K y) :
    ∀ p ∈ ((Expr.var x).subVar y).terms, K p.1 := by
  intro p hp
  simp only [Expr.subVar, Expr.var] at hp
  rcases Expr.mem_addTerm hp with h | h
  · simp only [List.mem_singleton] at h; subst h; exact hx
  · rw [h.1]; exact hy

omit hP in
theorem lowerDisequality_in (e : Env) (c : Cst) (out : Sys) (hc : ∀ p ∈ c.expr.terms, K p.1)
    (ho : CstsIn K out) : CstsIn K (Env.lowerDisequality e c out) := by
  unfold Env.lowerDisequality
  split
  · rename_i x y hb
    obtain ⟨-, -, ny, hts⟩ := Env.binaryOperands_some hb
    have hx : K x := hc (x, ny * -1) (by rw [hts]; simp)
    have hy : K y := hc (y, ny) (by rw [hts]; simp)
    dsimp only
    by_cases h1 : e.entails ⟨(Expr.var x).subVar y, .leq⟩ = true
    · rw [if_pos h1]; exact addCst_in ho (sub_var_var_in hx hy)
    · rw [if_neg h1]
      by_cases h2 : e.entails ⟨(Expr.var y).subVar x, .leq⟩ = true
      · rw [if_pos h2]; exact addCst_in ho (sub_var_var_in hy hx)
      · rw [if_neg h2]; exact ho
  · exact ho

omit hP in
theorem preprocess_in (e : Env) : ∀ (cs : List Cst) (pp : Sys), CstsIn K cs → CstsIn K pp →
    CstsIn K (Env.preprocess e cs pp) := by
  intro cs
  induction cs with
  | nil => intro pp _ h; exact h
  | cons c rest ih =>
    intro pp hc hp
    have hcc := hc c List.mem_cons_self
    unfold Env.preprocess
    apply ih _ (fun c' hc' => hc c' (List.mem_cons_of_mem _ hc'))
    apply addCst_in _ hcc
    split
    · exact lowerDisequality_in e c pp hcc hp
    · exact hp

theorem Env.add_on (e : Env) (csts : Sys) (hk : CstsIn K csts) (h : P e) : P (e.add csts) := by
  unfold Env.add
  split
  · exact h
  · exact solverRun_on hP _ (preprocess_in e csts [] hk (fun _ hc => absurd hc (by simp))) _ _ h

end generic

/-- a key is not bound in the environment (vacuous for bottom) -/
def Env.Unbound (e : Env) (k : Var) : Prop := e.bottom = true ∨ e.m.find k = none

theorem Env.unbound_bot (k : Var) : Env.bot.Unbound k := Or.inl rfl
theorem Env.unbound_top (k : Var) : Env.top.Unbound k := Or.inr rfl

theorem Env.get_of_unbound {e : Env} {k : Var} (h : e.Unbound k) (hb : e.bottom = false) : e.get k = Itv.top := by
  rcases h with h | h
  · rw [hb] at h; exact absurd h (by simp)
  · simp [Env.get, hb, h]

theorem Env.unbound_store_ne {e : Env} {k k' : Var} (v : Itv) (hne : k ≠ k') (hb : e.bottom = false)
    (h : e.Unbound k) : Env.Unbound ⟨false, e.m.store k' v⟩ k := by
  refine Or.inr ?_
  show Map.find (e.m.store k' v) k = none
  rw [Map.find_store, if_neg hne]
  exact h.elim (fun h' => absurd h' (ne_true_of_eq_false hb)) id

theorem Env.unbound_set_ne {e : Env} {k k' : Var} (v : Itv) (hne : k ≠ k') (h : e.Unbound k) :
    (e.set k' v).Unbound k :=
  Env.set_ind (P := fun e' => e'.Unbound k) e k' v (fun _ => h) (fun _ => Env.unbound_bot k) (fun hb _ => Env.unbound_store_ne v hne hb h)

theorem unbound_invOn (K : Var → Prop) (k : Var) (hk : ¬ K k) : EnvInvOn K (fun e => e.Unbound k) where
  bot := Env.unbound_bot k
  set := fun _ _ v hk' h => Env.unbound_set_ne v (fun e' => hk (e' ▸ hk')) h

theorem Env.add_unbound (K : Var → Prop) (e : Env) (csts : Sys) (hin : CstsIn K csts) (k : Var) (hk : ¬ K k)
    (h : e.Unbound k) : (e.add csts).Unbound k :=
  Env.add_on (unbound_invOn K k hk) e csts hin h

theorem Env.unbound_forget_ne {e : Env} {k k' : Var} (hne : k ≠ k') (h : e.Unbound k) : (e.forget k').Unbound k :=
  Env.unbound_set_ne Itv.top hne h

theorem Env.unbound_forget_same (e : Env) (k : Var) : (e.forget k).Unbound k := by
  unfold Env.forget
  by_cases hb : e.bottom = true
  · rw [if_pos hb]; exact Or.inl hb
  · rw [if_neg hb]
    refine Or.inr ?_
    show Map.find (Map.remove e.m k) k = none
    rw [Map.find_remove, if_pos rfl]

theorem Env.unbound_joinKey_ne {e : Env} {k k' : Var} (v : Itv) (hne : k ≠ k') (h : e.Unbound k) :
    (e.joinKey k' v).Unbound k :=
  Env.joinKey_ind (P := fun e' => e'.Unbound k) e k' v (fun _ => h) (fun _ => Env.unbound_bot k) (fun hb _ => Env.unbound_store_ne _ hne hb h)

theorem Env.unbound_assign_ne {e : Env} {k x : Var} (ex : Expr) (hne : k ≠ x) (h : e.Unbound k) :
    (e.assign x ex).Unbound k := by
  rw [Env.assign_eq]; exact Env.unbound_set_ne _ hne h

theorem Env.unbound_weakAssign_ne {e : Env} {k x : Var} (ex : Expr) (hne : k ≠ x) (h : e.Unbound k) :
    (e.weakAssign x ex).Unbound k := by
  rw [Env.weakAssign_eq]; exact Env.unbound_joinKey_ne _ hne h

theorem Env.unbound_expand_ne {e : Env} {k x nx : Var} (hne : k ≠ nx) (h : e.Unbound k) :
    (e.expand x nx).Unbound k := by
  unfold Env.expand; split
  · exact h
  · exact Env.unbound_set_ne _ hne h

theorem Env.unbound_upperWith (op : Itv → Itv → Itv) {a b : Env} (hs : a.Sorted) (ha : a.bottom = false)
    (hb : b.bottom = false) {k : Var} (h : a.Unbound k ∨ b.Unbound k) : (Env.upperWith op a b).Unbound k := by
  refine Or.inr ?_
  simp only [Env.upperWith, ha, hb, Bool.false_eq_true, if_false]
  cases hf : Map.find (Map.mergeAbs op a.m b.m) k with
  | none => rfl
  | some v =>
    obtain ⟨u, w, hu, hw, -⟩ := Map.find_mergeAbs_some hs hf
    rcases h with h | h
    · have := h.resolve_left (ne_true_of_eq_false ha); rw [hu] at this; cases this
    · have := h.resolve_left (ne_true_of_eq_false hb); rw [hw] at this; cases this

theorem Env.unbound_lowerWith (op : Itv → Itv → Itv) {a b : Env} {k : Var} (ha : a.Unbound k) (hb : b.Unbound k) :
    (Env.lowerWith op a b).Unbound k := by
  unfold Env.lowerWith
  split
  · exact Env.unbound_bot k
  · rename_i hbb
    simp only [Bool.or_eq_true, not_or, Bool.not_eq_true] at hbb
    split
    · exact Env.unbound_bot k
    · right
      show Map.find (Map.mergeKeep op a.m b.m) k = none
      have h1 : a.m.find k = none := ha.elim (fun h' => absurd h' (by simp [hbb.1])) id
      have h2 : b.m.find k = none := hb.elim (fun h' => absurd h' (by simp [hbb.2])) id
      rw [Map.find_mergeKeep, h1, h2]

end IDom
end Crab
