import CrabModel.Dom.Functors.FlatBool

/-!
Container lemmas for the model of `flat_boolean_numerical_domain` (`DSet`, `SEnv`: what `look`
returns after each update), soundness of the operations of the flat Boolean domain `FB V` and the
optional laws of `LDom` that it satisfies.
-/
set_option linter.unusedSectionVars false

namespace Crab
namespace Dom
namespace Fct

variable {V : Type} [DecidableEq V]

theorem ite_ind {α : Sort _} (Q : α → Prop) {c : Prop} [Decidable c] {x y : α} (hx : c → Q x) (hy : ¬ c → Q y) :
    Q (if c then x else y) := by
  split
  · exact hx ‹_›
  · exact hy ‹_›

namespace CSt

theorem setB_self (s : CSt V) (x : V) : s.setB x (s.bool x) = s := by
  cases s with
  | mk n b =>
    simp only [setB, mk.injEq, true_and]
    funext v; by_cases hv : v = x <;> simp [hv]

theorem setB_bool_of_ne (s : CSt V) {x k : V} (b : Bool) (h : k ≠ x) : (s.setB x b).bool k = s.bool k := by
  simp [setB, h]

theorem setB_bool_self (s : CSt V) (x : V) (b : Bool) : (s.setB x b).bool x = b := by simp [setB]

theorem setB_setB_bool_of_ne (s : CSt V) {x y j : V} (c b : Bool) (h1 : j ≠ x) (h2 : j ≠ y) :
    ((s.setB y c).setB x b).bool j = s.bool j := by
  rw [setB_bool_of_ne _ _ h1, setB_bool_of_ne _ _ h2]

theorem setB_setB_bool_fst (s : CSt V) {x y : V} (c b : Bool) (h : x ≠ y) : ((s.setB y c).setB x b).bool y = c := by
  rw [setB_bool_of_ne _ _ (Ne.symm h), setB_bool_self]
end CSt

namespace AL
variable {α : Type}

theorem get_rename1 (m : List (V × α)) (k k' j : V) (h : k ≠ k') :
    get (rename1 m k k') j =
      match get m k with
      | some v => if j = k then none else if j = k' then some v else get m j
      | none => get m j := by
  unfold rename1
  rw [if_neg h]
  cases hg : get m k with
  | none => rfl
  | some v => simp only [get_del, get_put]

theorem get_build_keys (g : V → Option α) (m : List (V × α)) (k : V) (h : get m k = none → g k = none) :
    get (build g (keys m)) k = g k :=
  get_build_of g _ k fun hne => Decidable.byContradiction fun hk =>
    hne (h (get_none_of_not_mem_keys m k hk))

theorem get_build_keys₂ (g : V → Option α) (a b : List (V × α)) (k : V)
    (h : get a k = none → get b k = none → g k = none) : get (build g (keys a ++ keys b)) k = g k :=
  get_build_of g _ k fun hne => Decidable.byContradiction fun hk => by
    rw [List.mem_append, not_or] at hk
    exact hne (h (get_none_of_not_mem_keys a k hk.1) (get_none_of_not_mem_keys b k hk.2))

theorem get_rename1_some (m : List (V × α)) {k k' j : V} (h : k ≠ k') {v : α}
    (hj : get (rename1 m k k') j = some v) :
    (j ≠ k ∧ j ≠ k' ∧ get m j = some v) ∨ (j = k' ∧ get m k = some v) ∨ (j = k' ∧ get m k' = some v) := by
  rw [get_rename1 m k k' j h] at hj
  by_cases hjk' : j = k'
  · subst hjk'
    cases hg : get m k with
    | some w => simp only [hg, if_neg (Ne.symm h), if_true] at hj; exact Or.inr (Or.inl ⟨rfl, hj⟩)
    | none => simp only [hg] at hj; exact Or.inr (Or.inr ⟨rfl, hj⟩)
  · have hjk : j ≠ k := by
      rintro rfl
      cases hg : get m j with
      | some w => simp only [hg, if_true] at hj; cases hj
      | none => simp only [hg] at hj; cases hj
    refine Or.inl ⟨hjk, hjk', ?_⟩
    cases hg : get m k with
    | some w => simpa only [hg, if_neg hjk, if_neg hjk'] using hj
    | none => simpa only [hg] using hj

theorem rename_single (m : List (V × α)) (k k' : V) : rename m [k] [k'] = rename1 m k k' := rfl
end AL

namespace DSet
variable {α : Type} [DecidableEq α]

theorem mem_join (a b : DSet α) (x : α) : (join a b).mem x = true ↔ a.mem x = true ∧ b.mem x = true := by
  cases a <;> cases b <;> simp [join, mem]

theorem mem_meet (a b : DSet α) (x : α) : (meet a b).mem x = true ↔ a.mem x = true ∨ b.mem x = true := by
  cases a <;> cases b <;> simp [meet, mem]
  rename_i l1 l2
  by_cases h : x ∈ l1 <;> simp [h]

theorem mem_single (y x : α) : (DSet.fin [y]).mem x = true ↔ x = y := by simp [mem]

theorem isBot_join (a b : DSet α) : (join a b).isBot = (a.isBot && b.isBot) := by
  cases a <;> cases b <;> rfl

theorem isBot_meet (a b : DSet α) : (meet a b).isBot = (a.isBot || b.isBot) := by
  cases a <;> cases b <;> rfl

theorem leq_fin_iff (u : DSet α) (l : List α) : leq u (.fin l) = true ↔ ∀ v ∈ l, u.mem v = true := by
  cases u with
  | all => simp [leq, mem]
  | fin l1 => simp [leq, mem, List.all_eq_true]

theorem mem_of_leq {a b : DSet α} (h : leq a b = true) (x : α) (hx : b.mem x = true) : a.mem x = true := by
  cases b with
  | all => cases a with
    | all => rfl
    | fin l => cases h
  | fin l => exact (leq_fin_iff a l).1 h x (by simpa [mem] using hx)

theorem isBot_of_leq {a b : DSet α} (h : leq a b = true) (ha : a.isBot = false) : b.isBot = false := by
  cases a with
  | all => cases ha
  | fin l => cases b with
    | all => cases h
    | fin l' => rfl

theorem mem_remove (u : DSet α) (h : u.isBot = false) (x v : α) :
    (u.remove x).mem v = true ↔ v ≠ x ∧ u.mem v = true := by
  cases u with
  | all => cases h
  | fin l =>
    simp only [remove, mem, List.contains_iff_mem, List.mem_filter, decide_eq_true_eq]
    exact And.comm

theorem mem_remove_self (u : DSet α) (h : u.isBot = false) (x : α) : (u.remove x).mem x = false := by
  cases hm : (u.remove x).mem x
  · rfl
  · exact absurd rfl ((mem_remove u h x x).1 hm).1

theorem isBot_remove (u : DSet α) (x : α) : (u.remove x).isBot = u.isBot := by
  cases u <;> rfl

theorem mem_insert (u : DSet α) (x v : α) : (u.insert x).mem v = true ↔ v = x ∨ u.mem v = true := by
  cases u with
  | all => simp [insert, mem]
  | fin l =>
    simp only [insert, mem, List.contains_iff_mem]
    split
    · rename_i h
      exact ⟨Or.inr, fun e => e.elim (fun e => e ▸ h) id⟩
    · simp

theorem isBot_insert (u : DSet α) (x : α) : (u.insert x).isBot = u.isBot := by
  cases u <;> rfl

theorem isBot_foldl_remove (l : List α) (u : DSet α) : (l.foldl remove u).isBot = u.isBot :=
  List.foldlRecOn l remove (motive := fun b => b.isBot = u.isBot) rfl fun b hb x _ => (isBot_remove b x).trans hb

theorem mem_foldl_remove (l : List α) (u : DSet α) (h : u.isBot = false) (v : α) :
    (l.foldl remove u).mem v = true ↔ v ∉ l ∧ u.mem v = true := by
  induction l generalizing u with
  | nil => simp
  | cons x r ih =>
    rw [List.foldl_cons, ih _ ((isBot_remove u x).trans h), mem_remove u h, List.mem_cons, not_or]
    exact ⟨fun ⟨a, b, c⟩ => ⟨⟨b, a⟩, c⟩, fun ⟨⟨b, a⟩, c⟩ => ⟨a, b, c⟩⟩

theorem exists_fin (u : DSet α) (h : u.isBot = false) : ∃ l, u = .fin l := by
  cases u with
  | all => cases h
  | fin l => exact ⟨l, rfl⟩

theorem mem_elems {v : DSet α} {c : α} (h : c ∈ v.elems) : v.mem c = true := by
  cases v with
  | all => rfl
  | fin l => simpa [mem, elems] using h
end DSet

theorem DSet.leq_refl {α : Type} [DecidableEq α] (a : DSet α) : DSet.leq a a = true := by
  cases a with
  | all => rfl
  | fin l => simp [DSet.leq, List.all_eq_true]

theorem DSet.leq_top {α : Type} [DecidableEq α] (a : DSet α) : DSet.leq a (.fin []) = true := by
  cases a <;> simp [DSet.leq]

namespace SEnv
variable {α : Type} [DecidableEq α]

theorem nz_getD (l : List α) : (nz l).getD [] = l := by
  unfold nz
  split
  · rename_i h; exact (List.isEmpty_iff.1 h).symm
  · rfl

theorem exists_env {e : SEnv V α} (h : e.isBot = false) : ∃ m, e = env m := by
  cases e with
  | bot => cases h
  | env m => exact ⟨m, rfl⟩

theorem isBot_del (e : SEnv V α) (k : V) : (e.del k).isBot = e.isBot := by cases e <;> rfl

theorem isBot_transformIf (p : List α → Bool) (f : List α → List α) (e : SEnv V α) :
    (e.transformIf p f).isBot = e.isBot := by cases e <;> rfl

theorem isBot_join (a b : SEnv V α) : (join a b).isBot = (a.isBot && b.isBot) := by
  cases a <;> cases b <;> rfl

theorem isBot_meet (a b : SEnv V α) : (meet a b).isBot = (a.isBot || b.isBot) := by
  cases a <;> cases b <;> rfl

theorem isBot_set {e : SEnv V α} (h : e.isBot = false) (k : V) {v : DSet α} (hv : v.isBot = false) :
    (e.set k v).isBot = false := by
  obtain ⟨m, rfl⟩ := exists_env h
  obtain ⟨l, rfl⟩ := DSet.exists_fin v hv
  simp only [set]; split <;> rfl

theorem look_fin_of {e : SEnv V α} (h : e.isBot = false) (k : V) : ∃ l, e.look k = .fin l := by
  obtain ⟨m, rfl⟩ := exists_env h
  exact ⟨_, rfl⟩

theorem look_isBot {e : SEnv V α} (h : e.isBot = false) (k : V) : (e.look k).isBot = false := by
  obtain ⟨l, hl⟩ := look_fin_of h k
  rw [hl]; rfl

theorem mem_look_set {e : SEnv V α} (h : e.isBot = false) (k k' : V) {v : DSet α} (hv : v.isBot = false)
    (c : α) : ((e.set k v).look k').mem c = true ↔ if k' = k then v.mem c = true else (e.look k').mem c = true := by
  obtain ⟨m, rfl⟩ := exists_env h
  obtain ⟨l, rfl⟩ := DSet.exists_fin v hv
  simp only [set]
  split
  · rename_i he
    have hl : l = [] := List.isEmpty_iff.1 he
    by_cases hk : k' = k <;> simp [look, AL.get_del, DSet.mem, hk, hl]
  · by_cases hk : k' = k <;> simp [look, AL.get_put, DSet.mem, hk]

theorem mem_look_del {e : SEnv V α} (h : e.isBot = false) (k k' : V) (c : α) :
    ((e.del k).look k').mem c = true ↔ k' ≠ k ∧ (e.look k').mem c = true := by
  obtain ⟨m, rfl⟩ := exists_env h
  by_cases hk : k' = k <;> simp [del, look, AL.get_del, DSet.mem, hk]

theorem mem_look_del_self {e : SEnv V α} (h : e.isBot = false) (k : V) (c : α) :
    ((e.del k).look k).mem c = false := by
  cases hm : ((e.del k).look k).mem c
  · rfl
  · exact absurd rfl ((mem_look_del h k k c).1 hm).1

theorem isBot_foldl_del (l : List V) (e : SEnv V α) : (l.foldl del e).isBot = e.isBot :=
  List.foldlRecOn l del (motive := fun b : SEnv V α => b.isBot = e.isBot) rfl fun b hb x _ => (isBot_del b x).trans hb

theorem mem_look_foldl_del (l : List V) {e : SEnv V α} (h : e.isBot = false) (k : V) (c : α) :
    ((l.foldl del e).look k).mem c = true ↔ k ∉ l ∧ (e.look k).mem c = true := by
  induction l generalizing e with
  | nil => simp
  | cons x r ih =>
    rw [List.foldl_cons, ih ((isBot_del e x).trans h), mem_look_del h, List.mem_cons, not_or]
    exact ⟨fun ⟨a, b, c⟩ => ⟨⟨b, a⟩, c⟩, fun ⟨⟨b, a⟩, c⟩ => ⟨a, b, c⟩⟩

theorem look_transformIf (p : List α → Bool) (f : List α → List α) (hp : p [] = false)
    (m : List (V × List α)) (k : V) :
    ((env m).transformIf p f).look k =
      .fin (if p ((AL.get m k).getD []) then f ((AL.get m k).getD []) else (AL.get m k).getD []) := by
  simp only [transformIf, look]
  rw [AL.get_build_keys _ _ _ fun h => by rw [transG, h]]
  unfold transG
  cases hg : AL.get m k with
  | none => simp [hp]
  | some l => simp [nz_getD]

theorem mem_look_transformIf (p : List α → Bool) (f : List α → List α) (hp : p [] = false)
    {e : SEnv V α} (h : e.isBot = false) (k : V) (c : α) :
    ((e.transformIf p f).look k).mem c = true ↔
      ∃ l, e.look k = .fin l ∧ c ∈ (if p l then f l else l) := by
  obtain ⟨m, rfl⟩ := exists_env h
  rw [look_transformIf p f hp]
  simp only [DSet.mem, List.contains_iff_mem, look]
  constructor
  · intro hc; exact ⟨_, rfl, hc⟩
  · rintro ⟨l, hl, hc⟩
    cases hl; exact hc

/-- `transform_if` with a filter that is only skipped on sets it would not change: the members left are
    the old members that pass the filter -/
theorem mem_look_filterIf (p : List α → Bool) (q : α → Bool) (hp : p [] = false)
    (hpq : ∀ l, p l = false → ∀ y ∈ l, q y = true) {e : SEnv V α} (h : e.isBot = false) (k : V) (c : α) :
    ((e.transformIf p (fun l => l.filter q)).look k).mem c = true ↔ q c = true ∧ (e.look k).mem c = true := by
  rw [mem_look_transformIf _ _ hp h]
  obtain ⟨l, hl⟩ := look_fin_of h k
  rw [hl]
  simp only [DSet.fin.injEq, DSet.mem, List.contains_iff_mem]
  constructor
  · rintro ⟨l', rfl, hc⟩
    split at hc
    · rw [List.mem_filter] at hc; exact ⟨hc.2, hc.1⟩
    · rename_i hx
      exact ⟨hpq l (Bool.eq_false_iff.2 hx) c hc, hc⟩
  · rintro ⟨hq, hm⟩
    refine ⟨l, rfl, ?_⟩
    split
    · exact List.mem_filter.2 ⟨hm, hq⟩
    · exact hm

theorem look_join (a b : SEnv V α) (k : V) : (join a b).look k = DSet.join (a.look k) (b.look k) := by
  cases a with
  | bot => cases b <;> rfl
  | env ma =>
    cases b with
    | bot => rfl
    | env mb =>
      simp only [join, look, DSet.join]
      rw [AL.get_build_keys _ _ _ fun h => by rw [joinG, h]]
      unfold joinG
      cases h1 : AL.get ma k <;> cases h2 : AL.get mb k <;> simp [nz_getD]

theorem look_meet (a b : SEnv V α) (k : V) : (meet a b).look k = DSet.meet (a.look k) (b.look k) := by
  cases a with
  | bot => cases b <;> rfl
  | env ma =>
    cases b with
    | bot => rfl
    | env mb =>
      simp only [meet, look, DSet.meet]
      rw [AL.get_build_keys₂ _ _ _ _ fun h1 h2 => by simp [meetG, h1, h2, nz]]
      unfold meetG; simp [nz_getD]

theorem mem_of_leq {a b : SEnv V α} (h : leq a b = true) (ha : a.isBot = false) :
    b.isBot = false ∧ ∀ k x, (b.look k).mem x = true → (a.look k).mem x = true := by
  obtain ⟨ma, rfl⟩ := exists_env ha
  cases b with
  | bot => cases h
  | env mb =>
    refine ⟨rfl, ?_⟩
    intro k x hx
    simp only [leq, List.all_eq_true] at h
    simp only [look, DSet.mem, List.contains_iff_mem] at hx ⊢
    by_cases hk : k ∈ AL.keys mb
    · simpa [List.contains_iff_mem] using h k hk x hx
    · rw [AL.get_none_of_not_mem_keys mb k hk] at hx; cases hx

theorem isBot_rename (e : SEnv V α) (fr to : List V) : (e.rename fr to).isBot = e.isBot := by cases e <;> rfl

theorem mem_look_rename1 {e : SEnv V α} (he : e.isBot = false) {x y : V} (j : V) (hxy : x ≠ y)
    (hy : ∀ c, (e.look y).mem c = false) (c : α) (hc : ((e.rename [x] [y]).look j).mem c = true) :
    (j ≠ x ∧ j ≠ y ∧ (e.look j).mem c = true) ∨ (j = y ∧ (e.look x).mem c = true) := by
  obtain ⟨m, rfl⟩ := exists_env he
  simp only [rename, AL.rename_single, look, DSet.mem] at hc hy ⊢
  cases hg : AL.get (AL.rename1 m x y) j with
  | none => rw [hg] at hc; cases hc
  | some l =>
    rw [hg] at hc
    rcases AL.get_rename1_some m hxy hg with ⟨h1, h2, h3⟩ | ⟨rfl, h3⟩ | ⟨rfl, h3⟩
    · exact Or.inl ⟨h1, h2, by rw [h3]; exact hc⟩
    · exact Or.inr ⟨rfl, by rw [h3]; exact hc⟩
    · have := hy c; rw [h3, hc] at this; cases this

theorem rename_nil (e : SEnv V α) : e.rename [] [] = e := by cases e <;> rfl

theorem eq_top_of_isTop {e : SEnv V α} (h : e.isTop = true) : e = top := by
  cases e with
  | bot => cases h
  | env m => rw [List.isEmpty_iff.1 h]; rfl

/-- The map is not bottom and every stored pair (key, member) satisfies `P`.  An invariant of the form
    "whatever is recorded means .." is `Holds` of what one pair means; the lemmas below say which pairs
    each container operation leaves, whatever they mean. -/
structure Holds (m : SEnv V α) (P : V → α → Prop) : Prop where
  ne : m.isBot = false
  all : ∀ k c, (m.look k).mem c = true → P k c

variable {m a b : SEnv V α} {P Q : V → α → Prop}

theorem Holds.imp (h : m.Holds P) (hq : ∀ {k c}, P k c → Q k c) : m.Holds Q :=
  ⟨h.ne, fun k c hc => hq (h.all k c hc)⟩

theorem holds_top : (top : SEnv V α).Holds P := ⟨rfl, fun _ _ hc => by cases hc⟩

theorem Holds.del (h : m.Holds P) (x : V) : (m.del x).Holds fun k c => k ≠ x ∧ P k c :=
  ⟨(isBot_del m x).trans h.ne, fun k c hc => by
    rw [mem_look_del h.ne] at hc; exact ⟨hc.1, h.all k c hc.2⟩⟩

theorem Holds.foldl_del (h : m.Holds P) (l : List V) : (l.foldl SEnv.del m).Holds fun k c => k ∉ l ∧ P k c :=
  ⟨(isBot_foldl_del l m).trans h.ne, fun k c hc => by
    rw [mem_look_foldl_del l h.ne] at hc; exact ⟨hc.1, h.all k c hc.2⟩⟩

/-- the pairs of the new entry are given, the others are the old ones under the other keys -/
theorem Holds.set (h : m.Holds P) (x : V) {v : DSet α} (hv : v.isBot = false)
    (hx : ∀ c, v.mem c = true → Q x c) (ho : ∀ {k c}, k ≠ x → P k c → Q k c) : (m.set x v).Holds Q :=
  ⟨isBot_set h.ne x hv, fun k c hc => by
    rw [mem_look_set h.ne _ _ hv] at hc
    by_cases hk : k = x
    · rw [if_pos hk] at hc; exact hk ▸ hx c hc
    · rw [if_neg hk] at hc; exact ho hk (h.all k c hc)⟩

theorem Holds.set_same (h : m.Holds P) (x : V) {v : DSet α} (hv : v.isBot = false)
    (hx : ∀ c, v.mem c = true → P x c) : (m.set x v).Holds P := h.set x hv hx fun _ hP => hP

theorem Holds.filterIf (h : m.Holds P) (p : List α → Bool) (q : α → Bool) (hp : p [] = false)
    (hpq : ∀ l, p l = false → ∀ y ∈ l, q y = true) :
    (m.transformIf p (fun l => l.filter q)).Holds fun k c => q c = true ∧ P k c :=
  ⟨(isBot_transformIf _ _ m).trans h.ne, fun k c hc => by
    rw [mem_look_filterIf p q hp hpq h.ne] at hc; exact ⟨hc.1, h.all k c hc.2⟩⟩

/-- `transform_if` in general: every member of a transformed set is related by `R` to a member of the
    set it comes from -/
theorem Holds.transformIf (h : m.Holds P) (p : List α → Bool) (f : List α → List α) (hp : p [] = false)
    {R : α → α → Prop} (hR : ∀ l c, c ∈ (if p l then f l else l) → ∃ c0 ∈ l, R c0 c) :
    (m.transformIf p f).Holds fun k c => ∃ c0, R c0 c ∧ P k c0 :=
  ⟨(isBot_transformIf _ _ m).trans h.ne, fun k c hc => by
    obtain ⟨l, hl, hm⟩ := (mem_look_transformIf p f hp h.ne k c).1 hc
    obtain ⟨c0, h0, hr⟩ := hR l c hm
    exact ⟨c0, hr, h.all k c0 (by rw [hl]; simpa [DSet.mem, List.contains_iff_mem] using h0)⟩⟩

theorem Holds.rename1 (h : m.Holds P) {x y : V} (hxy : x ≠ y) (hy : ∀ c, (m.look y).mem c = false) :
    (m.rename [x] [y]).Holds fun j c => (j ≠ x ∧ j ≠ y ∧ P j c) ∨ (j = y ∧ P x c) :=
  ⟨(isBot_rename m _ _).trans h.ne, fun j c hc =>
    (mem_look_rename1 h.ne j hxy hy c hc).imp (fun ⟨h1, h2, h3⟩ => ⟨h1, h2, h.all j c h3⟩)
      fun ⟨h1, h3⟩ => ⟨h1, h.all x c h3⟩⟩

theorem Holds.join (h : a.Holds P ∨ b.Holds P) : (a.join b).Holds P := by
  refine ⟨?_, fun k c hc => ?_⟩
  · rw [isBot_join]; rcases h with h | h <;> simp [h.ne]
  · rw [look_join, DSet.mem_join] at hc
    exact h.elim (·.all k c hc.1) (·.all k c hc.2)

theorem holds_meet : (a.meet b).Holds P ↔ a.Holds P ∧ b.Holds P := by
  have hm : ∀ k c, ((a.meet b).look k).mem c = true ↔ (a.look k).mem c = true ∨ (b.look k).mem c = true :=
    fun k c => by rw [look_meet, DSet.mem_meet]
  have hn : (a.meet b).isBot = false ↔ a.isBot = false ∧ b.isBot = false := by
    rw [isBot_meet, Bool.or_eq_false_iff]
  exact ⟨fun h => ⟨⟨(hn.1 h.ne).1, fun k c hc => h.all k c ((hm k c).2 (.inl hc))⟩,
      ⟨(hn.1 h.ne).2, fun k c hc => h.all k c ((hm k c).2 (.inr hc))⟩⟩,
    fun ⟨ha, hb⟩ => ⟨hn.2 ⟨ha.ne, hb.ne⟩, fun k c hc => ((hm k c).1 hc).elim (ha.all k c) (hb.all k c)⟩⟩

theorem Holds.of_leq (h : leq a b = true) (ha : a.Holds P) : b.Holds P :=
  ⟨(mem_of_leq h ha.ne).1, fun k c hc => ha.all k c ((mem_of_leq h ha.ne).2 k c hc)⟩
end SEnv

theorem SEnv.leq_refl {α : Type} [DecidableEq α] (e : SEnv V α) : SEnv.leq e e = true := by
  cases e with
  | bot => rfl
  | env m => simp [SEnv.leq, List.all_eq_true]

theorem SEnv.leq_top {α : Type} [DecidableEq α] (e : SEnv V α) : SEnv.leq e SEnv.top = true := by
  cases e <;> simp [SEnv.leq, SEnv.top, AL.keys]

/-! ### `boolean_value` -/
namespace BVal
theorem γ_ofBool (b : Bool) : γ (ofBool b) b := by cases b <;> rfl
theorem join_l {x : BVal} {b : Bool} (y : BVal) (h : γ x b) : γ (join x y) b := by
  cases x <;> cases y <;> first | exact h | exact h.elim | trivial
theorem join_r {y : BVal} {b : Bool} (x : BVal) (h : γ y b) : γ (join x y) b := by
  cases x <;> cases y <;> first | exact h | exact h.elim | trivial
theorem meet_sound {x y : BVal} {b : Bool} (hx : γ x b) (hy : γ y b) : γ (meet x y) b := by
  cases x <;> cases y <;> simp_all [γ, meet]
theorem neg_sound {x : BVal} {b : Bool} (h : γ x b) : γ (neg x) (!b) := by
  cases x <;> simp_all [γ, neg]
theorem and_sound {x y : BVal} {a b : Bool} (hx : γ x a) (hy : γ y b) : γ (and x y) (a && b) := by
  cases x <;> cases y <;> simp_all [γ, BVal.and]
theorem or_sound {x y : BVal} {a b : Bool} (hx : γ x a) (hy : γ y b) : γ (or x y) (a || b) := by
  cases x <;> cases y <;> simp_all [γ, BVal.or]
theorem xor_sound {x y : BVal} {a b : Bool} (hx : γ x a) (hy : γ y b) : γ (xor x y) (Bool.xor a b) := by
  cases x <;> cases y <;> simp_all [γ, BVal.xor]
theorem abs_sound (op : BBin) {x y : BVal} {a b : Bool} (hx : γ x a) (hy : γ y b) :
    γ (op.abs x y) (op.eval a b) := by
  cases op
  · exact and_sound hx hy
  · exact or_sound hx hy
  · exact xor_sound hx hy
theorem eq_tt {x : BVal} {b : Bool} (h : γ x b) (hx : x = tt) : b = true := by subst hx; exact h
theorem eq_ff {x : BVal} {b : Bool} (h : γ x b) (hx : x = ff) : b = false := by subst hx; exact h
end BVal

namespace FEnv

theorem isBot_false_of_γ {e : FEnv V} {s : CSt V} (h : γ e s) : e.isBot = false := (FB V).isBot_false_of_γ h

theorem not_γ_of_isBot {e : FEnv V} (h : e.isBot = true) (s : CSt V) : ¬ γ e s := (FB V).isBot_sound e s h

theorem γ_of_isTop {e : FEnv V} (h : e.isTop = true) (s : CSt V) : γ e s := by
  cases e with
  | bot => cases h
  | env m =>
    rw [List.isEmpty_iff.1 h]
    exact (FB V).top_sound s

/-- `forget`, `project`, `expand` return the value itself when it is bottom or top: a value that has a
    state and passes that test is top -/
theorem γ_of_early {e : FEnv V} {s : CSt V} (h : γ e s) (hc : (e.isBot || e.isTop) = true) (s' : CSt V) : γ e s' := by
  rw [isBot_false_of_γ h, Bool.false_or] at hc
  exact γ_of_isTop hc s'

theorem get_sound {e : FEnv V} {s : CSt V} (h : γ e s) (x : V) : BVal.γ (e.get x) (s.bool x) := by
  cases e with
  | bot => exact h.elim
  | env m =>
    simp only [get]
    cases hg : AL.get m x with
    | none => trivial
    | some b => rw [h x b hg]; exact BVal.γ_ofBool b

theorem γ_congr {e : FEnv V} {s s' : CSt V} (h : γ e s) (hb : s'.bool = s.bool) : γ e s' := by
  cases e with
  | bot => exact h.elim
  | env m => intro x b hx; rw [hb]; exact h x b hx

theorem set_sound_of {e : FEnv V} {s s' : CSt V} (h : γ e s) {x : V} {v : BVal} (hv : BVal.γ v (s'.bool x))
    (hs : ∀ k, k ≠ x → s'.bool k = s.bool k) : γ (e.set x v) s' := by
  cases e with
  | bot => exact h.elim
  | env m =>
    have old : ∀ y c, y ≠ x → AL.get m y = some c → s'.bool y = c := fun y c hy hg => by
      rw [hs y hy]; exact h y c hg
    have put : ∀ b0 : Bool, s'.bool x = b0 → γ (env (AL.put m x b0)) s' := by
      intro b0 hb y c hy
      rw [AL.get_put] at hy
      by_cases hyx : y = x
      · rw [if_pos hyx] at hy; cases hy; rw [hyx]; exact hb
      · rw [if_neg hyx] at hy; exact old y c hyx hy
    cases v with
    | bot => exact hv.elim
    | top =>
      intro y c hy
      rw [AL.get_del] at hy
      by_cases hyx : y = x
      · rw [if_pos hyx] at hy; cases hy
      · rw [if_neg hyx] at hy; exact old y c hyx hy
    | tt => exact put true hv
    | ff => exact put false hv

theorem set_sound {e : FEnv V} {s : CSt V} (h : γ e s) (x : V) {v : BVal} {b : Bool} (hv : BVal.γ v b) :
    γ (e.set x v) (s.setB x b) :=
  set_sound_of h (by rw [CSt.setB_bool_self]; exact hv) (fun _ hk => CSt.setB_bool_of_ne s b hk)

theorem set_same_sound {e : FEnv V} {s : CSt V} (h : γ e s) (x : V) {v : BVal}
    (hv : BVal.γ v (s.bool x)) : γ (e.set x v) s :=
  set_sound_of h hv (fun _ _ => rfl)

theorem forget1_sound {e : FEnv V} {s s' : CSt V} (h : γ e s) (v : V)
    (hs : ∀ k, k ≠ v → s'.bool k = s.bool k) : γ (e.forget1 v) s' := by
  have := set_sound_of h (v := .top) trivial hs
  cases e <;> exact this

theorem assumeBool_sound {e : FEnv V} {s : CSt V} (h : γ e s) (x : V) (neg : Bool)
    (hx : s.bool x = !neg) : γ (e.assumeBool x neg) s := by
  apply set_same_sound h
  apply BVal.meet_sound (get_sound h x)
  cases neg <;> exact hx

theorem assignBoolVar_sound {e : FEnv V} {s : CSt V} (h : γ e s) (x y : V) (neg : Bool) :
    γ (e.assignBoolVar x y neg) (s.setB x (s.bool y != neg)) := by
  apply set_sound h
  cases neg
  · simpa using get_sound h y
  · simpa using BVal.neg_sound (get_sound h y)

theorem applyBinaryBool_sound {e : FEnv V} {s : CSt V} (h : γ e s) (op : BBin) (x y z : V) :
    γ (applyBinaryBool op e x y z) (s.setB x (op.eval (s.bool y) (s.bool z))) :=
  set_sound h x (BVal.abs_sound op (get_sound h y) (get_sound h z))

theorem selectBool_sound {e : FEnv V} {s : CSt V} (h : γ e s) (lhs cond b1 b2 : V) :
    γ (e.selectBool lhs cond b1 b2) (s.setB lhs (if s.bool cond then s.bool b1 else s.bool b2)) := by
  -- an `assume(cond)` / `assume(not cond)` that is bottom fixes the value of `cond`
  have hcond : ∀ neg, (e.assumeBool cond neg).isBot = true → s.bool cond = neg := fun neg hb => by
    cases hc : s.bool cond <;> cases neg <;>
      first | rfl | exact absurd (assumeBool_sound h cond _ (by simpa using hc)) (not_γ_of_isBot hb s)
  unfold selectBool
  rw [isBot_false_of_γ h, if_pos (show (!false) = true from rfl)]
  by_cases hb : b1 = b2
  · rw [if_pos hb]; subst hb
    simpa using assignBoolVar_sound h lhs b1 false
  · rw [if_neg hb]
    by_cases h1 : (e.assumeBool cond false).isBot = true
    · rw [if_pos h1, hcond false h1]; exact set_sound h lhs (get_sound h b2)
    · rw [if_neg h1]
      by_cases h2 : (e.assumeBool cond true).isBot = true
      · rw [if_pos h2, hcond true h2]; exact set_sound h lhs (get_sound h b1)
      · rw [if_neg h2]
        apply set_sound h
        cases s.bool cond
        · exact BVal.join_r _ (get_sound h b2)
        · exact BVal.join_l _ (get_sound h b1)

theorem foldl_forget1_sound (vs : List V) {s' : CSt V} :
    ∀ (e : FEnv V) (s : CSt V), γ e s → (∀ k, k ∉ vs → s'.bool k = s.bool k) → γ (vs.foldl forget1 e) s' := by
  induction vs with
  | nil => exact fun e s h hs => γ_congr h (funext fun k => hs k (by simp))
  | cons v r ih =>
    intro e s h hs
    apply ih _ (s.setB v (s'.bool v)) (forget1_sound h v (fun k hk => CSt.setB_bool_of_ne s _ hk))
    intro k hk
    by_cases hkv : k = v
    · rw [hkv, CSt.setB_bool_self]
    · rw [CSt.setB_bool_of_ne s _ hkv]; exact hs k (by simp [hkv, hk])

theorem forget_sound {e : FEnv V} {s s' : CSt V} (h : γ e s) (vs : List V)
    (hs : ∀ k, k ∉ vs → s'.bool k = s.bool k) : γ (e.forget vs) s' := by
  unfold forget
  split
  · exact γ_of_early h ‹_› s'
  · exact foldl_forget1_sound vs e s h hs

theorem project_sound {e : FEnv V} {s s' : CSt V} (h : γ e s) (vs : List V)
    (hs : ∀ k ∈ vs, s'.bool k = s.bool k) : γ (e.project vs) s' := by
  unfold project
  split
  · exact γ_of_early h ‹_› s'
  · -- every round of the loop sets a key of `vs` to a value that describes `s'` there
    exact List.foldlRecOn vs _ (motive := (γ · s')) ((FB V).top_sound s') fun acc hacc v hv =>
      set_same_sound hacc v (by rw [hs v hv]; exact get_sound h v)

theorem expand_sound_bool {e : FEnv V} {s : CSt V} (h : γ e s) (x nx : V) :
    γ (e.expand x nx) (s.setB nx (s.bool x)) := by
  unfold expand
  split
  · exact γ_of_early h ‹_› _
  · exact set_sound h nx (get_sound h x)

theorem expand_sound_num {e : FEnv V} {s s' : CSt V} (h : γ e s) (x nx : V) (hs : s'.bool = s.bool)
    (hx : e.get x = .top) : γ (e.expand x nx) s' := by
  apply γ_congr _ hs
  unfold expand
  split
  · exact h
  · rw [hx]; exact set_same_sound h nx trivial

theorem get_eq_top {m : List (V × Bool)} {x : V} (h : (env m).get x = .top) : AL.get m x = none := by
  simp only [get] at h
  cases hg : AL.get m x with
  | none => rfl
  | some v => rw [hg] at h; cases v <;> cases h

theorem rename1_sound_bool {e : FEnv V} {s : CSt V} (h : γ e s) (x y : V) (hxy : x ≠ y)
    (hy : e.get y = .top) (b : Bool) : γ (e.rename [x] [y]) ((s.setB y (s.bool x)).setB x b) := by
  cases e with
  | bot => exact h.elim
  | env m =>
    intro j v hj
    rcases AL.get_rename1_some m hxy hj with ⟨h1, h2, h3⟩ | ⟨rfl, h3⟩ | ⟨rfl, h3⟩
    · rw [CSt.setB_setB_bool_of_ne s _ b h1 h2]; exact h j v h3
    · rw [CSt.setB_setB_bool_fst s _ b hxy]; exact h x v h3
    · rw [get_eq_top hy] at h3; cases h3

theorem rename1_sound_num {e : FEnv V} {s s' : CSt V} (h : γ e s) (x y : V) (hxy : x ≠ y)
    (hx : e.get x = .top) (hs : s'.bool = s.bool) : γ (e.rename [x] [y]) s' := by
  cases e with
  | bot => exact h.elim
  | env m =>
    intro j v hj
    simp only [AL.rename_single, AL.get_rename1 m x y j hxy, get_eq_top hx] at hj
    rw [hs]; exact h j v hj

theorem eq_bot_of_empty {e : FEnv V} (h : ∀ s, ¬ γ e s) : e = .bot := by
  cases e with
  | bot => rfl
  | env m =>
    exfalso
    apply h ⟨fun _ => 0, fun x => (AL.get m x).getD false⟩
    intro x b hx
    simp [hx]
end FEnv

theorem fb_strict {f : FEnv V → FEnv V} (h : f .bot = .bot) : (FB V).Strict f := by
  intro e he s
  rw [FEnv.eq_bot_of_empty he, h]
  exact fun h => h

theorem fb_topSound : (FB V).TopSound := fun _ s h => FEnv.γ_of_isTop h s

theorem fb_leqRefl : (FB V).LeqRefl := by
  intro e
  cases e with
  | bot => rfl
  | env m =>
    show FEnv.leq (.env m) (.env m) = true
    simp only [FEnv.leq, List.all_eq_true]
    intro k _
    cases AL.get m k <;> simp

theorem fb_leqTop : (FB V).LeqTop := by
  intro e
  cases e <;> rfl

theorem fb_topNotBot : (FB V).TopNotBot := rfl
theorem fb_topIsTop : (FB V).TopIsTop := rfl
theorem fb_botIsBot : (FB V).BotIsBot := rfl

theorem fb_meetLower : (FB V).MeetLower := by
  intro a b s h
  cases a with
  | bot => exact h.elim
  | env ma =>
    cases b with
    | bot => exact h.elim
    | env mb =>
      have h' : FEnv.γ (FEnv.meet (.env ma) (.env mb)) s := h
      simp only [FEnv.meet] at h'
      split at h'
      · exact h'.elim
      · rename_i hc
        have key : ∀ x v, FEnv.meetG ma mb x = some v → s.bool x = v := by
          intro x v hx
          apply h' x v
          rw [AL.get_build_keys₂ _ _ _ _ fun h1 h2 => by rw [FEnv.meetG, h1, h2]]
          exact hx
        constructor
        · intro x v hx
          exact key x v (by simp [FEnv.meetG, hx])
        · intro x v hx
          cases h1 : AL.get ma x with
          | none => exact key x v (by simp [FEnv.meetG, h1, hx])
          | some w =>
            have hnc : FEnv.conflict ma mb x = false := by
              have hk := AL.mem_keys_of_get h1
              cases hcf : FEnv.conflict ma mb x
              · rfl
              · exact absurd (List.any_eq_true.2 ⟨x, hk, hcf⟩) hc
            have : w = v := by
              simp only [FEnv.conflict, h1, hx] at hnc
              simpa using hnc
            subst this
            exact key x w (by simp [FEnv.meetG, h1])

end Fct
end Dom
end Crab
