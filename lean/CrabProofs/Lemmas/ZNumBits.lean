import CrabModel.Num.ZNum

/-! Facts about `Crab.ZNum` used by the scalar abstractions: the signed range of `width` bits, and
    the shifts (`shr`, `shl`) as multiplication / floor division by a power of two.  The bitwise
    operations are in `ZSpecBits`. -/
namespace Crab
namespace ZNum

theorem two_pow_pos (n : Nat) : (0 : Int) < 2 ^ n := Int.pow_pos (by decide)

/-- a number fits (signed) in `width` bits -/
theorem width_bounds (x : Int) : -(2 ^ (width x - 1) : Int) ≤ x ∧ x < 2 ^ (width x - 1) := by
  unfold width
  have hp := two_pow_pos
  have e : ∀ n : Nat, n + 2 - 1 = n + 1 := by omega
  split
  · rename_i h
    have := @Nat.lt_log2_self (-x - 1).toNat
    have h2 : ((-x - 1).toNat : Int) < 2 ^ ((-x - 1).toNat.log2 + 1) := by exact_mod_cast this
    simp only [e]
    have h3 : ((-x - 1).toNat : Int) = -x - 1 := Int.toNat_of_nonneg (by omega)
    constructor <;> omega
  · rename_i h
    have := @Nat.lt_log2_self x.toNat
    have h2 : (x.toNat : Int) < 2 ^ (x.toNat.log2 + 1) := by exact_mod_cast this
    simp only [e]
    have h3 : (x.toNat : Int) = x := Int.toNat_of_nonneg (by omega)
    have := hp (x.toNat.log2 + 1)
    constructor <;> omega

theorem width_pos (x : Int) : 1 ≤ width x := by unfold width; omega

theorem getUi_of_nonneg {k : Int} (h0 : 0 ≤ k) (h1 : k < 2 ^ 64) : getUi k = k.toNat := by
  unfold getUi
  have : k.natAbs = k.toNat := by omega
  rw [this]
  apply Nat.mod_eq_of_lt
  have : (k.toNat : Int) < 2 ^ 64 := by rw [Int.toNat_of_nonneg h0]; exact h1
  exact_mod_cast this

/-- `z_number::operator<<` by a shift amount that fits a machine word multiplies by `2^k` -/
theorem shl_eq {a k : Int} (h0 : 0 ≤ k) (h1 : k < 2 ^ 64) : shl a k = a * 2 ^ k.toNat := by
  simp [shl, getUi_of_nonneg h0 h1]

theorem ediv_of_abs_lt {a p : Int} (hp : 0 < p) (h : (a.natAbs : Int) < p) :
    a / p = if a < 0 then -1 else 0 := by
  split
  · next hneg =>
    have := (Int.ediv_emod_unique (a := a) (q := -1) (r := a + p) hp).2 ⟨by omega, by omega, by omega⟩
    exact this.1
  · next hnn =>
    exact Int.ediv_eq_zero_of_lt (by omega) (by omega)

/-- `operator>>` is the floor quotient by `2^s`, `s` the amount read by `mpz_get_ui` (the shortcut
    beyond the bit length gives the same number) -/
theorem shr_eq_getUi (a k : Int) : shr a k = a / 2 ^ (getUi k) := by
  unfold shr
  simp only
  split
  · next h =>
    have h1 : a.natAbs < 2 ^ (a.natAbs.log2 + 1) := Nat.lt_log2_self
    have h2 : 2 ^ (a.natAbs.log2 + 1) ≤ 2 ^ getUi k := Nat.pow_le_pow_right (by decide) (by omega)
    have h3 : (a.natAbs : Int) < ((2 ^ getUi k : Nat) : Int) := by
      have : a.natAbs < 2 ^ getUi k := Nat.lt_of_lt_of_le h1 h2
      exact_mod_cast this
    rw [Int.natCast_pow] at h3
    exact (ediv_of_abs_lt (two_pow_pos _) h3).symm
  · rfl

/-- `z_number::operator>>` by a shift amount that fits a machine word is the floor division by `2^k` -/
theorem shr_eq {a k : Int} (h0 : 0 ≤ k) (h1 : k < 2 ^ 64) : shr a k = a / 2 ^ k.toNat := by
  rw [shr_eq_getUi, getUi_of_nonneg h0 h1]

end ZNum
end Crab
