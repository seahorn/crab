import CrabProofs.Lemmas.InterEnv

/-!
  The call-stack semantics (`ISemantics.step`) decomposed function by function: every frame of a
  *covered* function stays inside the local collecting semantics `LocalAt` of that function, as
  long as (i) frames created by calls from covered callers satisfy the entry predicate of the
  callee and (ii) the values returned to covered callers are allowed by their call relation.
  No abstract domain occurs here.  Four specs are used: for C10 `buSpec` (entry = any frame, calls
  described by the summary table) and `tdSpec` (entry = the joined calling context); for C09 `trueSpec`
  (the calls that happen) and `finalSpec` (entry = a frame some recorded run was started for).
  `Inv.step`: the decomposition invariant is preserved by every step of the call-stack machine;
  `Inv.runFrom`; it holds in the start configurations.
-/
namespace Crab.Inter

structure SimSpec where
  /-- the functions the decomposition speaks about (summarised / analysed / all) -/
  Cov : Nat → Prop
  /-- the frames a covered function may be entered with -/
  E : Nat → Env → Prop
  /-- `CR g`: how the calls made by `g` are described -/
  CR : Nat → CallRel

def StmtOK (p : IProg) (f : IFun) (s : IStmt) : Prop :=
  (∀ v, v ∈ s.defs → v ∉ f.ins) ∧ (∀ v, v ∈ s.vars → v < p.nv) ∧
  (match s with
   | .call c lhs args => c < p.funs.size ∧ lhs.Nodup ∧ lhs.length = (p.fn c).outs.length ∧
                          args.length = (p.fn c).ins.length
   | _ => True)

structure FunOK (p : IProg) (f : IFun) : Prop where
  ins_nodup : f.ins.Nodup
  outs_nodup : f.outs.Nodup
  disj : ∀ v, v ∈ f.ins → v ∉ f.outs
  ins_lt : ∀ v, v ∈ f.ins → v < p.nv
  outs_lt : ∀ v, v ∈ f.outs → v < p.nv
  stmts : ∀ b k, k < (f.blk b).stmts.size → StmtOK p f ((f.blk b).stmts.getD k default)

/-- what the proofs use of `IProg.wf` and `IProg.scoped` -/
def ProgOK (p : IProg) : Prop := ∀ g, g < p.funs.size → FunOK p (p.fn g)

theorem LPre.mono {CR : CallRel} {f : IFun} {E E' : Env → Prop} (hE : ∀ x, E x → E' x) {n : Nat} {s : Env}
    (h : LPre CR f E n s) : LPre CR f E' n s := by
  induction h with
  | init hs => exact .init (hE _ hs)
  | flow _ hp hn ih => exact .flow ih hp hn

theorem LocalAt.mono {CR : CallRel} {f : IFun} {E E' : Env → Prop} (hE : ∀ x, E x → E' x) {b k : Nat} {env : Env}
    (h : LocalAt CR f E b k env) : LocalAt CR f E' b k env := by
  obtain ⟨s0, h1, h2⟩ := h
  exact ⟨s0, h1.mono hE, h2⟩

/-- The frame `env` of an activation of `g` called with the input values `iv` is at statement `k` of block `b`
    in the local semantics of `g` started from the frame `s0` the call created: `S.E g` allows `s0` and its
    inputs are `iv`.  The frame `s0` is kept, so that what is known of it at the call still holds at the return. -/
def SimSpec.At (S : SimSpec) (p : IProg) (g : Nat) (iv : List Int) (b k : Nat) (env : Env) : Prop :=
  ∃ s0, S.E g s0 ∧ MatchVals (p.fn g).ins iv (toSt s0) ∧ LocalAt (S.CR g) (p.fn g) (· = s0) b k env

theorem SimSpec.At.local {S : SimSpec} {p : IProg} {g b k : Nat} {iv : List Int} {env : Env}
    (h : S.At p g iv b k env) : LocalAt (S.CR g) (p.fn g) (S.E g) b k env :=
  let ⟨_, h0, _, h1⟩ := h
  h1.mono fun _ hx => hx ▸ h0

/-- a move inside the local semantics, whatever the entry frames are, is a move of `At` -/
theorem SimSpec.At.imp {S : SimSpec} {p : IProg} {g b k b' k' : Nat} {iv : List Int} {env env' : Env}
    (h : S.At p g iv b k env)
    (f : ∀ {E : Env → Prop}, LocalAt (S.CR g) (p.fn g) E b k env → LocalAt (S.CR g) (p.fn g) E b' k' env') :
    S.At p g iv b' k' env' :=
  let ⟨s0, h0, hm, h1⟩ := h
  ⟨s0, h0, hm, f h1⟩

/-- the last disjunct: `main` is started with `inVals = []` whatever its formals are (`initConfig`) -/
def FrameOK (p : IProg) (fr : Frame) : Prop :=
  fr.fn < p.funs.size ∧ fr.env.size = p.nv ∧ MatchVals (p.fn fr.fn).ins fr.inVals (toSt fr.env) ∧
  (fr.inVals.length = (p.fn fr.fn).ins.length ∨ fr.fn = p.main)

/-- the caller waits at the call site that created the callee's frame -/
def Link (p : IProg) (calleeFn : Nat) (calleeIn : List Int) (caller : Frame) : Prop :=
  ∃ lhs args, ((p.fn caller.fn).blk caller.blk).stmts.getD caller.pc default = .call calleeFn lhs args ∧
    caller.pc < ((p.fn caller.fn).blk caller.blk).stmts.size ∧
    calleeIn = args.map (fun a => caller.env.getD a 0)

def Chain (p : IProg) : List Frame → Prop
  | callee :: caller :: rest => Link p callee.fn callee.inVals caller ∧ Chain p (caller :: rest)
  | _ => True

def EvOK (p : IProg) (S : SimSpec) (e : Event) : Prop :=
  e.fn < p.funs.size ∧
  (S.Cov e.fn → ∃ iv, S.At p e.fn iv e.blk (if e.atExit then ((p.fn e.fn).blk e.blk).stmts.size else 0) e.env)

def RecOK (p : IProg) (S : SimSpec) (r : CallRec) : Prop :=
  r.fn < p.funs.size ∧ (r.ins.length = (p.fn r.fn).ins.length ∨ r.fn = p.main) ∧
  (S.Cov r.fn → ∃ env : Env,
     S.At p r.fn r.ins (p.fn r.fn).exit ((p.fn r.fn).blk (p.fn r.fn).exit).stmts.size env ∧
     r.outs = (p.fn r.fn).outs.map (fun o => env.getD o 0) ∧
     MatchVals (p.fn r.fn).ins r.ins (toSt env) ∧ env.size = p.nv)

structure Inv (p : IProg) (S : SimSpec) (c : Config) : Prop where
  frames : ∀ fr, fr ∈ c.stack → FrameOK p fr
  chain : Chain p c.stack
  loc : ∀ fr, fr ∈ c.stack → S.Cov fr.fn → S.At p fr.fn fr.inVals fr.blk fr.pc fr.env
  evs : ∀ e, e ∈ c.tr.events → EvOK p S e
  recs : ∀ r, r ∈ c.tr.calls → RecOK p S r

/-- frames created by a call satisfy the entry predicate of a covered callee (when the caller is
    covered, its frame at the call site is known to be locally reachable) -/
def EntryOK (p : IProg) (S : SimSpec) : Prop :=
  ∀ g h b k env lhs args env' iv, g < p.funs.size → S.Cov h → (S.Cov g → S.At p g iv b k env) →
    k < ((p.fn g).blk b).stmts.size → ((p.fn g).blk b).stmts.getD k default = .call h lhs args →
    env.size = p.nv → env'.size = p.nv →
    MatchVals (p.fn h).ins (args.map (fun a => env.getD a 0)) (toSt env') → S.E h env'

/-- if the next step is a return to a covered caller, the returned values are allowed by the
    caller's call relation -/
def RetOK (p : IProg) (S : SimSpec) (c : Config) : Prop :=
  ∀ hfr gfr rest, c.stack = hfr :: gfr :: rest →
    ¬ hfr.pc < ((p.fn hfr.fn).blk hfr.blk).stmts.size → hfr.blk = (p.fn hfr.fn).exit → S.Cov gfr.fn →
    S.CR gfr.fn hfr.fn hfr.inVals ((p.fn hfr.fn).outs.map (fun o => hfr.env.getD o 0))

theorem EntryOK.of_size {p : IProg} {S : SimSpec} (hE : ∀ g env, env.size = p.nv → S.E g env) : EntryOK p S :=
  fun _ h _ _ _ _ _ env' _ _ _ _ _ _ _ hsz _ => hE h env' hsz

theorem Pref.le_size {CR : CallRel} {b : IBlock} {k : Nat} {s e : Env} (h : Pref CR b k s e) :
    k ≤ b.stmts.size := by
  cases h with
  | nil => exact Nat.zero_le _
  | snoc _ hk _ => exact hk

theorem LocalAt.entry {CR : CallRel} {f : IFun} {E : Env → Prop} {env : Env} (h : E env) :
    LocalAt CR f E 0 0 env := ⟨env, .init h, .nil env⟩

theorem LocalAt.next {CR : CallRel} {f : IFun} {E : Env → Prop} {b k : Nat} {e e' : Env}
    (h : LocalAt CR f E b k e) (hk : k < (f.blk b).stmts.size)
    (hs : LStep CR ((f.blk b).stmts.getD k default) e e') : LocalAt CR f E b (k + 1) e' := by
  obtain ⟨s0, h1, h2⟩ := h
  exact ⟨s0, h1, .snoc h2 hk hs⟩

theorem LocalAt.goto {CR : CallRel} {f : IFun} {E : Env → Prop} {b n : Nat} {e : Env}
    (h : LocalAt CR f E b (f.blk b).stmts.size e) (hn : n ∈ (f.blk b).succs.toList) :
    LocalAt CR f E n 0 e := by
  obtain ⟨s0, h1, h2⟩ := h
  exact ⟨e, .flow h1 h2 hn, .nil e⟩

theorem Chain.tail {p : IProg} {fr : Frame} {rest : List Frame} (h : Chain p (fr :: rest)) :
    Chain p rest := by
  cases rest with
  | nil => trivial
  | cons _ _ => exact h.2

theorem Chain.replaceTop {p : IProg} {fr fr' : Frame} {rest : List Frame}
    (h : Chain p (fr :: rest)) (h1 : fr'.fn = fr.fn) (h2 : fr'.inVals = fr.inVals) :
    Chain p (fr' :: rest) := by
  cases rest with
  | nil => trivial
  | cons c r => exact ⟨by rw [h1, h2]; exact h.1, h.2⟩

section StepEq
variable {p : IProg} {ch : Choices} {c : Config} {fr : Frame} {rest : List Frame}

theorem step_nil (hst : c.stack = []) : step p ch c = { c with status := .done } := by
  unfold step; rw [hst]

theorem step_assign {x : Var} {e : ILin}
    (hst : c.stack = fr :: rest) (hpc : fr.pc < ((p.fn fr.fn).blk fr.blk).stmts.size)
    (hs : ((p.fn fr.fn).blk fr.blk).stmts.getD fr.pc default = .assign x e) :
    step p ch c = { c with stack := { fr with env := fr.env.setIfInBounds x (e.eval fr.env), pc := fr.pc + 1 } :: rest } := by
  unfold step; rw [hst]; simp only [hpc, if_true, hs]

theorem step_bin {op : IOp} {x y : Var} {z : IArg}
    (hst : c.stack = fr :: rest) (hpc : fr.pc < ((p.fn fr.fn).blk fr.blk).stmts.size)
    (hs : ((p.fn fr.fn).blk fr.blk).stmts.getD fr.pc default = .bin op x y z) :
    step p ch c = { c with stack :=
      { fr with env := fr.env.setIfInBounds x (op.eval (fr.env.getD y 0) (z.eval fr.env)), pc := fr.pc + 1 } :: rest } := by
  unfold step; rw [hst]; simp only [hpc, if_true, hs]

theorem step_havoc {x : Var}
    (hst : c.stack = fr :: rest) (hpc : fr.pc < ((p.fn fr.fn).blk fr.blk).stmts.size)
    (hs : ((p.fn fr.fn).blk fr.blk).stmts.getD fr.pc default = .havoc x) :
    step p ch c = { c with stack := { fr with env := fr.env.setIfInBounds x (ch c.ci), pc := fr.pc + 1 } :: rest,
                           ci := c.ci + 1 } := by
  unfold step; rw [hst]; simp only [hpc, if_true, hs]

theorem step_assume {cst : ICst}
    (hst : c.stack = fr :: rest) (hpc : fr.pc < ((p.fn fr.fn).blk fr.blk).stmts.size)
    (hs : ((p.fn fr.fn).blk fr.blk).stmts.getD fr.pc default = .assume cst) :
    step p ch c = if cst.sat fr.env then { c with stack := { fr with pc := fr.pc + 1 } :: rest }
                  else { c with status := .blocked } := by
  unfold step; rw [hst]; simp only [hpc, if_true, hs]

theorem step_assert {id : Nat} {cst : ICst}
    (hst : c.stack = fr :: rest) (hpc : fr.pc < ((p.fn fr.fn).blk fr.blk).stmts.size)
    (hs : ((p.fn fr.fn).blk fr.blk).stmts.getD fr.pc default = .assert id cst) :
    step p ch c =
      if cst.sat fr.env then
        { c with stack := { fr with pc := fr.pc + 1 } :: rest,
                 tr := { c.tr with asserts := c.tr.asserts.push (id, cst.sat fr.env) } }
      else { c with tr := { c.tr with asserts := c.tr.asserts.push (id, cst.sat fr.env) }, status := .failed id } := by
  unfold step; rw [hst]; simp only [hpc, if_true, hs]

theorem step_call {h : Nat} {lhs args : List Var}
    (hst : c.stack = fr :: rest) (hpc : fr.pc < ((p.fn fr.fn).blk fr.blk).stmts.size)
    (hs : ((p.fn fr.fn).blk fr.blk).stmts.getD fr.pc default = .call h lhs args) (hh : h < p.funs.size) :
    step p ch c =
      { c with stack := mkFrame p ch c.ci h (args.map (fun a => fr.env.getD a 0)) :: fr :: rest, ci := c.ci + p.nv,
               tr := c.tr.event (mkFrame p ch c.ci h (args.map (fun a => fr.env.getD a 0))) false } := by
  unfold step; rw [hst]; simp only [hpc, if_true, hs, hh]

theorem step_call_stuck {h : Nat} {lhs args : List Var}
    (hst : c.stack = fr :: rest) (hpc : fr.pc < ((p.fn fr.fn).blk fr.blk).stmts.size)
    (hs : ((p.fn fr.fn).blk fr.blk).stmts.getD fr.pc default = .call h lhs args) (hh : ¬ h < p.funs.size) :
    step p ch c = { c with status := .stuck } := by
  unfold step; rw [hst]; simp only [hpc, if_true, hs, hh, if_false]

/-- the record pushed when the top frame returns -/
def retRec (p : IProg) (fr : Frame) : CallRec :=
  ⟨fr.fn, fr.inVals, (p.fn fr.fn).outs.map (fun o => fr.env.getD o 0)⟩

def retTrace (p : IProg) (c : Config) (fr : Frame) : Trace :=
  { c.tr.event fr true with calls := (c.tr.event fr true).calls.push (retRec p fr) }

theorem step_ret_last (hst : c.stack = [fr]) (hpc : ¬ fr.pc < ((p.fn fr.fn).blk fr.blk).stmts.size)
    (hex : fr.blk = (p.fn fr.fn).exit) :
    step p ch c = { c with stack := [], tr := retTrace p c fr, status := .done } := by
  have hb : (fr.blk == (p.fn fr.fn).exit) = true := by simp [hex]
  unfold step; rw [hst]; simp only [hpc, if_false, hb, if_true]; rfl

theorem step_ret {caller : Frame} {h : Nat} {lhs args : List Var}
    (hst : c.stack = fr :: caller :: rest) (hpc : ¬ fr.pc < ((p.fn fr.fn).blk fr.blk).stmts.size)
    (hex : fr.blk = (p.fn fr.fn).exit)
    (hs : ((p.fn caller.fn).blk caller.blk).stmts.getD caller.pc default = .call h lhs args) :
    step p ch c =
      { c with stack := { caller with env := setMany caller.env lhs ((p.fn fr.fn).outs.map (fun o => fr.env.getD o 0)),
                                      pc := caller.pc + 1 } :: rest,
               tr := retTrace p c fr } := by
  have hb : (fr.blk == (p.fn fr.fn).exit) = true := by simp [hex]
  unfold step; rw [hst]; simp only [hpc, if_false, hb, if_true, hs]; rfl

theorem step_dead (hst : c.stack = fr :: rest) (hpc : ¬ fr.pc < ((p.fn fr.fn).blk fr.blk).stmts.size)
    (hex : fr.blk ≠ (p.fn fr.fn).exit) (hsz : ((p.fn fr.fn).blk fr.blk).succs.size = 0) :
    step p ch c = { c with tr := c.tr.event fr true, status := .blocked } := by
  have : (fr.blk == (p.fn fr.fn).exit) = false := by simpa using hex
  unfold step; rw [hst]; simp only [hpc, if_false, this, hsz, beq_self_eq_true, if_true]; rfl

/-- the top frame moves to some successor of its block (which one is read off the choice stream) -/
theorem step_goto (hst : c.stack = fr :: rest) (hpc : ¬ fr.pc < ((p.fn fr.fn).blk fr.blk).stmts.size)
    (hex : fr.blk ≠ (p.fn fr.fn).exit) (hsz : ((p.fn fr.fn).blk fr.blk).succs.size ≠ 0) :
    ∃ n ∈ ((p.fn fr.fn).blk fr.blk).succs.toList, step p ch c =
      { c with stack := { fr with blk := n, pc := 0 } :: rest, ci := c.ci + 1,
               tr := (c.tr.event fr true).event { fr with blk := n, pc := 0 } false } := by
  have : (fr.blk == (p.fn fr.fn).exit) = false := by simpa using hex
  have h2 : (((p.fn fr.fn).blk fr.blk).succs.size == 0) = false := by simpa using hsz
  refine ⟨_, ?_, by unfold step; rw [hst]; simp only [hpc, if_false, this, h2]; rfl⟩
  rw [Array.mem_toList_iff, Array.getD_eq_getD_getElem?,
    Array.getElem?_eq_getElem (Nat.mod_lt _ (Nat.pos_of_ne_zero hsz))]
  simp

end StepEq

section Step
variable {p : IProg} {S : SimSpec}

theorem Inv.same {c c' : Config} (hc : Inv p S c) (h1 : c'.stack = c.stack)
    (h2 : c'.tr.events = c.tr.events) (h3 : c'.tr.calls = c.tr.calls) : Inv p S c' :=
  ⟨by rw [h1]; exact hc.frames, by rw [h1]; exact hc.chain, by rw [h1]; exact hc.loc,
   by rw [h2]; exact hc.evs, by rw [h3]; exact hc.recs⟩

theorem FrameOK.update {fr fr' : Frame} (h : FrameOK p fr) (hfn : fr'.fn = fr.fn)
    (hin : fr'.inVals = fr.inVals) (hsz : fr'.env.size = fr.env.size)
    (hkeep : ∀ v, v ∈ (p.fn fr.fn).ins → fr'.env.getD v 0 = fr.env.getD v 0) : FrameOK p fr' := by
  obtain ⟨h1, h2, h3, h4⟩ := h
  refine ⟨by rw [hfn]; exact h1, by rw [hsz]; exact h2, ?_, by rw [hfn, hin]; exact h4⟩
  rw [hfn, hin]
  exact MatchVals.of_getD_eq hkeep h3

/-- the top frame is replaced by a frame of the same activation; the trace keeps its events
    and call records -/
theorem Inv.topUpdate {c c' : Config} {fr fr' : Frame} {rest : List Frame}
    (hc : Inv p S c) (hst : c.stack = fr :: rest) (hst' : c'.stack = fr' :: rest)
    (hfn : fr'.fn = fr.fn) (hin : fr'.inVals = fr.inVals) (hok : FrameOK p fr')
    (hloc : S.Cov fr.fn → S.At p fr.fn fr.inVals fr'.blk fr'.pc fr'.env)
    (hev : ∀ e, e ∈ c'.tr.events → e ∈ c.tr.events ∨ EvOK p S e)
    (hcalls : ∀ r, r ∈ c'.tr.calls → r ∈ c.tr.calls ∨ RecOK p S r) : Inv p S c' := by
  refine ⟨?_, ?_, ?_, ?_, fun r hr => (hcalls r hr).elim (hc.recs r) id⟩
  · intro f hf
    rw [hst'] at hf
    rcases List.mem_cons.mp hf with rfl | hf
    · exact hok
    · exact hc.frames f (by rw [hst]; exact List.mem_cons_of_mem _ hf)
  · rw [hst']
    exact Chain.replaceTop (by rw [← hst]; exact hc.chain) hfn hin
  · intro f hf hcov
    rw [hst'] at hf
    rcases List.mem_cons.mp hf with rfl | hf
    · rw [hfn] at hcov ⊢; rw [hin]; exact hloc hcov
    · exact hc.loc f (by rw [hst]; exact List.mem_cons_of_mem _ hf) hcov
  · intro e he
    rcases hev e he with h | h
    · exact hc.evs e h
    · exact h

theorem mkFrame_env_size (p : IProg) (ch : Choices) (ci g : Nat) (iv : List Int) :
    (mkFrame p ch ci g iv).env.size = p.nv := by
  simp [mkFrame, setMany_size]

theorem mkFrame_match (p : IProg) (ch : Choices) (ci g : Nat) (iv : List Int)
    (hnd : (p.fn g).ins.Nodup) (hlt : ∀ v, v ∈ (p.fn g).ins → v < p.nv) :
    MatchVals (p.fn g).ins iv (toSt (mkFrame p ch ci g iv).env) := by
  simp only [mkFrame]
  apply setMany_match _ _ _ hnd
  intro x hx
  simpa using hlt x hx

theorem mkFrame_ok (hP : ProgOK p) (ch : Choices) (ci g : Nat) (iv : List Int) (hg : g < p.funs.size)
    (hlen : iv.length = (p.fn g).ins.length ∨ g = p.main) : FrameOK p (mkFrame p ch ci g iv) :=
  ⟨hg, mkFrame_env_size p ch ci g iv, mkFrame_match p ch ci g iv (hP g hg).ins_nodup (hP g hg).ins_lt, hlen⟩

theorem SimSpec.At.to_end {fr : Frame} {iv : List Int} (hloc : S.At p fr.fn iv fr.blk fr.pc fr.env)
    (hpc : ¬ fr.pc < ((p.fn fr.fn).blk fr.blk).stmts.size) :
    S.At p fr.fn iv fr.blk ((p.fn fr.fn).blk fr.blk).stmts.size fr.env := by
  refine hloc.imp fun ⟨s0, h1, h2⟩ => ?_
  have : fr.pc = ((p.fn fr.fn).blk fr.blk).stmts.size := Nat.le_antisymm h2.le_size (Nat.le_of_not_lt hpc)
  exact ⟨s0, h1, this ▸ h2⟩

theorem evOK_end {fr : Frame} (hok : FrameOK p fr) (hloc : S.Cov fr.fn → S.At p fr.fn fr.inVals fr.blk fr.pc fr.env)
    (hpc : ¬ fr.pc < ((p.fn fr.fn).blk fr.blk).stmts.size) :
    EvOK p S ⟨fr.fn, fr.blk, true, fr.env⟩ := by
  refine ⟨hok.1, fun hcov => ⟨fr.inVals, ?_⟩⟩
  simpa using SimSpec.At.to_end (hloc hcov) hpc

theorem recOK_ret {fr : Frame} (hok : FrameOK p fr) (hloc : S.Cov fr.fn → S.At p fr.fn fr.inVals fr.blk fr.pc fr.env)
    (hpc : ¬ fr.pc < ((p.fn fr.fn).blk fr.blk).stmts.size) (hex : fr.blk = (p.fn fr.fn).exit) :
    RecOK p S (retRec p fr) := by
  refine ⟨hok.1, hok.2.2.2, fun hcov => ?_⟩
  have := SimSpec.At.to_end (hloc hcov) hpc
  rw [hex] at this
  exact ⟨fr.env, this, rfl, hok.2.2.1, hok.2.1⟩

theorem Inv.local {c c' : Config} {fr : Frame} {rest : List Frame} {env' : Env} (hP : ProgOK p) (hc : Inv p S c)
    (hst : c.stack = fr :: rest) (hpc : fr.pc < ((p.fn fr.fn).blk fr.blk).stmts.size)
    -- a statement other than a call steps the same way for every call relation; `S.CR` is used for the
    -- local semantics, an arbitrary one for the size and the frame condition
    (hstep : ∀ CR, LStep CR (((p.fn fr.fn).blk fr.blk).stmts.getD fr.pc default) fr.env env')
    (hst' : c'.stack = { fr with env := env', pc := fr.pc + 1 } :: rest)
    (hev : c'.tr.events = c.tr.events) (hcalls : c'.tr.calls = c.tr.calls) : Inv p S c' := by
  have hfrm : fr ∈ c.stack := by rw [hst]; exact List.mem_cons_self ..
  have hok := hc.frames fr hfrm
  have h0 := hstep (fun _ _ _ => True)
  refine Inv.topUpdate hc hst hst' rfl rfl ?_ (fun hcov => (hc.loc fr hfrm hcov).imp fun h => h.next hpc (hstep _))
    (fun e he => Or.inl (hev ▸ he)) (fun r hr => Or.inl (hcalls ▸ hr))
  exact FrameOK.update hok rfl rfl h0.size
    (fun y hy => h0.frame fun hd => ((hP fr.fn hok.1).stmts fr.blk fr.pc hpc).1 y hd hy)

theorem Inv.call {c : Config} {fr : Frame} {rest : List Frame} {h : Nat} {lhs args : List Var}
    (hP : ProgOK p) (hentry : EntryOK p S) (ch : Choices) (hc : Inv p S c)
    (hst : c.stack = fr :: rest) (hpc : fr.pc < ((p.fn fr.fn).blk fr.blk).stmts.size)
    (hs : ((p.fn fr.fn).blk fr.blk).stmts.getD fr.pc default = .call h lhs args) (hh : h < p.funs.size) :
    Inv p S { c with stack := mkFrame p ch c.ci h (args.map (fun a => fr.env.getD a 0)) :: fr :: rest,
                     ci := c.ci + p.nv,
                     tr := c.tr.event (mkFrame p ch c.ci h (args.map (fun a => fr.env.getD a 0))) false } := by
  have hfrm : fr ∈ c.stack := by rw [hst]; exact List.mem_cons_self ..
  have hok := hc.frames fr hfrm
  have hS := (hP fr.fn hok.1).stmts fr.blk fr.pc hpc
  rw [hs] at hS
  have hlen : args.length = (p.fn h).ins.length := hS.2.2.2.2.2
  have hnf : FrameOK p (mkFrame p ch c.ci h (args.map (fun a => fr.env.getD a 0))) :=
    mkFrame_ok hP ch c.ci h _ hh (Or.inl (by simpa using hlen))
  have hnloc : S.Cov h → S.At p h (args.map (fun a => fr.env.getD a 0)) 0 0
      (mkFrame p ch c.ci h (args.map (fun a => fr.env.getD a 0))).env := fun hcovh =>
    ⟨_, hentry fr.fn h fr.blk fr.pc fr.env lhs args _ _ hok.1 hcovh (hc.loc fr hfrm) hpc hs hok.2.1 hnf.2.1 hnf.2.2.1,
      hnf.2.2.1, LocalAt.entry rfl⟩
  refine ⟨?_, ?_, ?_, ?_, hc.recs⟩
  · intro f hf
    rcases List.mem_cons.mp hf with rfl | hf
    · exact hnf
    · exact hc.frames f (by rw [hst]; exact hf)
  · refine ⟨⟨lhs, args, hs, hpc, rfl⟩, ?_⟩
    rw [← hst]; exact hc.chain
  · intro f hf hcov
    rcases List.mem_cons.mp hf with rfl | hf
    · exact hnloc hcov
    · exact hc.loc f (by rw [hst]; exact hf) hcov
  · intro e he
    rcases Array.mem_push.mp he with he | rfl
    · exact hc.evs e he
    · exact ⟨hh, fun hcov => ⟨_, hnloc hcov⟩⟩

theorem Inv.ret {c : Config} {fr caller : Frame} {rest : List Frame} {h : Nat} {lhs args : List Var}
    (hP : ProgOK p) (hc : Inv p S c) (hret : RetOK p S c)
    (hst : c.stack = fr :: caller :: rest) (hpc : ¬ fr.pc < ((p.fn fr.fn).blk fr.blk).stmts.size)
    (hex : fr.blk = (p.fn fr.fn).exit)
    (hs : ((p.fn caller.fn).blk caller.blk).stmts.getD caller.pc default = .call h lhs args)
    (hcpc : caller.pc < ((p.fn caller.fn).blk caller.blk).stmts.size)
    (hh : h = fr.fn) (hin : fr.inVals = args.map (fun a => caller.env.getD a 0)) :
    Inv p S { c with stack := { caller with env := setMany caller.env lhs ((p.fn fr.fn).outs.map (fun o => fr.env.getD o 0)),
                                            pc := caller.pc + 1 } :: rest,
                     tr := retTrace p c fr } := by
  subst hh
  have hfrm : fr ∈ c.stack := by rw [hst]; exact List.mem_cons_self ..
  have hcm : caller ∈ c.stack := by rw [hst]; exact List.mem_cons_of_mem _ (List.mem_cons_self ..)
  have hok := hc.frames fr hfrm
  have hcok := hc.frames caller hcm
  have hS := (hP caller.fn hcok.1).stmts caller.blk caller.pc hcpc
  rw [hs] at hS
  have hc' : Inv p S { c with stack := caller :: rest } :=
    ⟨fun f hf => hc.frames f (by rw [hst]; exact List.mem_cons_of_mem _ hf),
     (by have := hc.chain; rw [hst] at this; exact this.2),
     fun f hf => hc.loc f (by rw [hst]; exact List.mem_cons_of_mem _ hf), hc.evs, hc.recs⟩
  refine Inv.topUpdate hc' rfl rfl rfl rfl ?_ ?_ ?_ ?_
  · refine FrameOK.update hcok rfl rfl (setMany_size ..) ?_
    intro y hy
    apply setMany_other
    intro hyl
    exact hS.1 y hyl hy
  · intro hcov
    have hcr := hret fr caller rest hst hpc hex hcov
    rw [hin] at hcr
    exact (hc.loc caller hcm hcov).imp fun h => h.next hcpc (by rw [hs]; exact ⟨_, hcr, rfl⟩)
  · intro e he
    rcases Array.mem_push.mp he with he | rfl
    · exact Or.inl he
    · exact Or.inr (evOK_end (hc.frames fr hfrm) (hc.loc fr hfrm) hpc)
  · intro r hr
    rcases Array.mem_push.mp hr with hr | rfl
    · exact Or.inl hr
    · exact Or.inr (recOK_ret hok (hc.loc fr hfrm) hpc hex)

theorem Inv.retLast {c : Config} {fr : Frame} (hc : Inv p S c)
    (hst : c.stack = [fr]) (hpc : ¬ fr.pc < ((p.fn fr.fn).blk fr.blk).stmts.size)
    (hex : fr.blk = (p.fn fr.fn).exit) :
    Inv p S { c with stack := [], tr := retTrace p c fr, status := .done } := by
  have hfrm : fr ∈ c.stack := by rw [hst]; exact List.mem_cons_self ..
  have hok := hc.frames fr hfrm
  refine ⟨(fun f hf => nomatch hf), trivial, (fun f hf => nomatch hf), ?_, ?_⟩
  · intro e he
    rcases Array.mem_push.mp he with he | rfl
    · exact hc.evs e he
    · exact evOK_end (hc.frames fr hfrm) (hc.loc fr hfrm) hpc
  · intro r hr
    rcases Array.mem_push.mp hr with hr | rfl
    · exact hc.recs r hr
    · exact recOK_ret hok (hc.loc fr hfrm) hpc hex

theorem Inv.step (hP : ProgOK p) (hentry : EntryOK p S) (ch : Choices) {c : Config}
    (hc : Inv p S c) (hret : RetOK p S c) : Inv p S (step p ch c) := by
  cases hst : c.stack with
  | nil => rw [step_nil hst]; exact Inv.same hc rfl rfl rfl
  | cons fr rest =>
    have hfrm : fr ∈ c.stack := by rw [hst]; exact List.mem_cons_self ..
    by_cases hpc : fr.pc < ((p.fn fr.fn).blk fr.blk).stmts.size
    · cases hs : ((p.fn fr.fn).blk fr.blk).stmts.getD fr.pc default with
      | assign x e =>
        rw [step_assign hst hpc hs]
        exact Inv.local hP hc hst hpc (fun CR => by rw [hs]; exact rfl) rfl rfl rfl
      | bin op x y z =>
        rw [step_bin hst hpc hs]
        exact Inv.local hP hc hst hpc (fun CR => by rw [hs]; exact rfl) rfl rfl rfl
      | havoc x =>
        rw [step_havoc hst hpc hs]
        exact Inv.local hP hc hst hpc (fun CR => by rw [hs]; exact ⟨_, rfl⟩) rfl rfl rfl
      | assume cst =>
        rw [step_assume hst hpc hs]
        by_cases hsat : cst.sat fr.env = true
        · simp only [hsat, if_true]
          exact Inv.local hP hc hst hpc (fun CR => by rw [hs]; exact ⟨hsat, rfl⟩) rfl rfl rfl
        · simp only [hsat]
          exact Inv.same hc rfl rfl rfl
      | assert id cst =>
        rw [step_assert hst hpc hs]
        by_cases hsat : cst.sat fr.env = true
        · simp only [hsat, if_true]
          exact Inv.local hP hc hst hpc (fun CR => by rw [hs]; exact ⟨hsat, rfl⟩) rfl rfl rfl
        · simp only [hsat]
          exact Inv.same hc rfl rfl rfl
      | call h lhs args =>
        by_cases hh : h < p.funs.size
        · rw [step_call hst hpc hs hh]
          exact Inv.call hP hentry ch hc hst hpc hs hh
        · rw [step_call_stuck hst hpc hs hh]
          exact Inv.same hc rfl rfl rfl
    · by_cases hex : fr.blk = (p.fn fr.fn).exit
      · cases rest with
        | nil => rw [step_ret_last hst hpc hex]; exact Inv.retLast hc hst hpc hex
        | cons caller rest' =>
          have hch := hc.chain
          rw [hst] at hch
          obtain ⟨lhs, args, hs, hcpc, hin⟩ := hch.1
          rw [step_ret hst hpc hex hs]
          exact Inv.ret hP hc hret hst hpc hex hs hcpc rfl hin
      · by_cases hsz : ((p.fn fr.fn).blk fr.blk).succs.size = 0
        · rw [step_dead hst hpc hex hsz]
          refine ⟨hc.frames, hc.chain, hc.loc, ?_, hc.recs⟩
          intro e he
          rcases Array.mem_push.mp he with he | rfl
          · exact hc.evs e he
          · exact evOK_end (hc.frames fr hfrm) (hc.loc fr hfrm) hpc
        · obtain ⟨n, hmem, heq⟩ := step_goto (ch := ch) hst hpc hex hsz
          rw [heq]
          have hnew : S.Cov fr.fn → S.At p fr.fn fr.inVals n 0 fr.env := fun hcov =>
            ((hc.loc fr hfrm hcov).to_end hpc).imp fun h => h.goto hmem
          refine Inv.topUpdate hc hst rfl rfl rfl ?_ hnew ?_ (fun r hr => Or.inl hr)
          · exact FrameOK.update (hc.frames fr hfrm) rfl rfl rfl (fun _ _ => rfl)
          · intro e he
            rcases Array.mem_push.mp he with he | rfl
            · rcases Array.mem_push.mp he with he | rfl
              · exact Or.inl he
              · exact Or.inr (evOK_end (hc.frames fr hfrm) (hc.loc fr hfrm) hpc)
            · exact Or.inr ⟨(hc.frames fr hfrm).1, fun hcov => ⟨_, hnew hcov⟩⟩

theorem Inv.runFrom (hP : ProgOK p) (hentry : EntryOK p S) (ch : Choices)
    (hret : ∀ c, Inv p S c → RetOK p S c) :
    ∀ (fuel : Nat) (c : Config), Inv p S c → Inv p S (runFrom p ch fuel c)
  | 0, c, hc => hc
  | fuel + 1, c, hc => by
    unfold Crab.Inter.runFrom
    split
    · exact Inv.runFrom hP hentry ch hret fuel _ (Inv.step hP hentry ch hc (hret c hc))
    · exact hc

theorem initConfig_eq (p : IProg) (ch : Choices) : initConfig p ch = callConfig p ch p.main [] := rfl

/-- the invariant holds when a function is started in isolation (and at `initConfig`) -/
theorem Inv.start (hP : ProgOK p) (ch : Choices) (g : Nat) (iv : List Int) (hg : g < p.funs.size)
    (hlen : iv.length = (p.fn g).ins.length ∨ g = p.main)
    (hE : S.Cov g → S.E g (mkFrame p ch 0 g iv).env) : Inv p S (callConfig p ch g iv) := by
  have hok := mkFrame_ok hP ch 0 g iv hg hlen
  have hloc : S.Cov g → S.At p g iv 0 0 (mkFrame p ch 0 g iv).env := fun hcov =>
    ⟨_, hE hcov, hok.2.2.1, LocalAt.entry rfl⟩
  refine ⟨?_, trivial, ?_, ?_, ?_⟩
  · intro f hf
    rcases List.mem_cons.mp hf with rfl | hf
    · exact hok
    · nomatch hf
  · intro f hf hcov
    rcases List.mem_cons.mp hf with rfl | hf
    · exact hloc hcov
    · nomatch hf
  · intro e he
    rcases Array.mem_push.mp he with he | rfl
    · simp at he
    · exact ⟨hg, fun hcov => ⟨_, hloc hcov⟩⟩
  · intro r hr
    simp [callConfig, Trace.event] at hr

theorem Inv.init (hP : ProgOK p) (hmain : p.main < p.funs.size) (ch : Choices)
    (hE : S.Cov p.main → S.E p.main (mkFrame p ch 0 p.main []).env) : Inv p S (initConfig p ch) :=
  Inv.start hP ch p.main [] hmain (Or.inr rfl) hE

end Step
end Crab.Inter
