import CrabProofs.Lemmas.DisIntervalArith
import CrabProofs.Lemmas.DisIntervalWiden

/-! Remaining operations of `dis_interval` (`Crab.Dis`): public `normalize()`, `approx()`,
    `check_well_formed`, `trim_interval`. -/
namespace Crab
namespace Dis
open Bound

theorem normalize_of_wf {x : Dis} (hx : WF x) : normalize x = x := by
  obtain ⟨s, l⟩ := x
  cases s <;> simp [normalize, isBottom, isTop]
  rw [normalizeList_of_wf hx.2.2]
  cases l with
  | nil => exact absurd rfl hx.1
  | cons a as => rfl

theorem normalize_fin (l : List Itv) : normalize ⟨.fin, l⟩ =
    match normalizeList l with
    | (_, true) => ⟨.bot, l⟩
    | ([], false) => ⟨.top, l⟩
    | (r, false) => ⟨.fin, r⟩ := rfl

theorem normalize_mem_upper {x : Dis} (hx : EWF x) {k : Int} (h : mem k x) : mem k (normalize x) := by
  obtain ⟨s, l⟩ := x
  cases s
  case fin =>
    have hs := normalizeList_spec hx
    rw [normalize_fin]
    generalize normalizeList l = p at hs
    obtain ⟨r, isBot⟩ := p
    cases isBot with
    | true =>
      obtain ⟨i, hi, hki⟩ := h
      exact absurd hki (Itv.not_mem_of_isBottom (hs.bot rfl i hi))
    | false =>
      cases r with
      | nil => trivial
      | cons a as => exact ((hs.coarsens (by simp)).mem k).mpr h
  all_goals exact h

theorem normalize_mem_exact {x : Dis} (hx : EWF x) (hne : x.l ≠ []) {k : Int}
    (h : mem k (normalize x)) : mem k x := by
  obtain ⟨s, l⟩ := x
  cases s
  case fin =>
    have hs := normalizeList_spec hx
    rw [normalize_fin] at h
    generalize normalizeList l = p at hs h
    obtain ⟨r, isBot⟩ := p
    cases isBot with
    | true => cases h
    | false =>
      cases r with
      | nil => exact hs.top rfl rfl hne k
      | cons a as => exact ((hs.coarsens (by simp)).mem k).mp h
  all_goals exact h

theorem approx_sound {x : Dis} (hx : WF x) : ∃ i, approx x = some i ∧ ∀ k, mem k x → Itv.mem k i := by
  obtain ⟨s, l⟩ := x
  cases s
  · exact ⟨Itv.bot, rfl, fun k h => absurd h (by simp [mem])⟩
  · obtain ⟨a, as, rfl⟩ := List.exists_cons_of_ne_nil hx.1
    exact ⟨approxNE a as, rfl, fun k h => approxNE_mem hx.2.2 h⟩
  · exact ⟨Itv.top, rfl, fun k _ => Itv.mem_top k⟩

theorem isOnTheLeft_of_gapOk {a b : Itv} (h : gapOk a b = true) : isOnTheLeft a b = true := by
  obtain ⟨al, au⟩ := a
  obtain ⟨bl, bu⟩ := b
  cases au <;> cases bl <;> simp_all [gapOk, isOnTheLeft]
  omega

theorem checkGo_of_wf (l : List Itv) (p : Itv) (h : WFList (p :: l)) :
    checkWellFormed.go p l = some true := by
  induction l generalizing p with
  | nil => rfl
  | cons c cs ih =>
    unfold checkWellFormed.go
    rw [if_pos (isOnTheLeft_of_gapOk ((List.pairwise_cons.mp h.2).1 c (by simp)))]
    exact ih c h.tail

theorem checkWellFormed_of_wf {x : Dis} (hx : WF x) : checkWellFormed x = some true := by
  obtain ⟨s, l⟩ := x
  cases s
  case fin =>
    match l, hx with
    | [], hx => exact absurd rfl hx.1
    | [a], hx =>
      have := (proper_iff a).mp (hx.2.2.1 a (by simp))
      simp [checkWellFormed, isTop, isBottom, isFinite, this.1, this.2.1]
    | a :: b :: more, hx => exact checkGo_of_wf (b :: more) a hx.2.2
  all_goals rfl

/-- `res | dis_interval(w)`, the step by which `trim_interval` collects its pieces -/
theorem join_ofItv {r : Dis} {w : Itv} (hr : EWF r) (hw : w.WF) :
    EWF (join r (ofItv w)) ∧ ∀ k, mem k r ∨ Itv.mem k w → mem k (join r (ofItv w)) :=
  ⟨join_ewf hr (ofItv_ewf hw),
   fun k h => join_mem_upper hr (ofItv_ewf hw) (h.imp_right (mem_ofItv hw k).mpr)⟩

theorem trimStep_spec (c : Int) {res : Dis} {i : Itv} (hr : EWF res) (hi : i.WF) :
    EWF (trimStep c res i) ∧
    ∀ k, (mem k res ∨ (Itv.mem k i ∧ k ≠ c)) → mem k (trimStep c res i) := by
  -- the part of `i` below `c`, the part above `c`
  obtain ⟨elo, mlo⟩ := join_ofItv (w := Itv.mk' i.lb (.fin (c - 1))) hr (Itv.wf_mk' hi.1 (by simp))
  obtain ⟨eup, mup⟩ := join_ofItv (w := Itv.mk' (.fin (c + 1)) i.ub) hr (Itv.wf_mk' (by simp) hi.2)
  have lo : ∀ {k}, Itv.mem k i → k < c → Itv.mem k (Itv.mk' i.lb (.fin (c - 1))) :=
    fun hk hlt => (Itv.mem_mk' ..).mpr ⟨hk.1, by simp; omega⟩
  have up : ∀ {k}, Itv.mem k i → c < k → Itv.mem k (Itv.mk' (.fin (c + 1)) i.ub) :=
    fun hk hlt => (Itv.mem_mk' ..).mpr ⟨by simp; omega, hk.2⟩
  unfold trimStep
  by_cases h1 : (!(Itv.leq (Itv.single c) i)) = true
  · rw [if_pos h1]
    exact ⟨(join_ofItv hr hi).1, fun k hk => (join_ofItv hr hi).2 k (hk.imp_right And.left)⟩
  rw [if_neg h1]
  by_cases hl : (i.lb == .fin c) = true
  · rw [if_pos hl]
    refine ⟨eup, fun k hk => mup k (hk.imp_right fun ⟨hk, hne⟩ => up hk ?_)⟩
    have := hk.1
    rw [show i.lb = .fin c by simpa using hl] at this
    simp at this; omega
  rw [if_neg hl]
  by_cases hu : (i.ub == .fin c) = true
  · rw [if_pos hu]
    refine ⟨elo, fun k hk => mlo k (hk.imp_right fun ⟨hk, hne⟩ => lo hk ?_)⟩
    have := hk.2
    rw [show i.ub = .fin c by simpa using hu] at this
    simp at this; omega
  · rw [if_neg hu]
    obtain ⟨e2, m2⟩ := join_ofItv (w := Itv.mk' (.fin (c + 1)) i.ub) elo (Itv.wf_mk' (by simp) hi.2)
    refine ⟨e2, fun k hk => m2 k ?_⟩
    rcases hk with hk | ⟨hk, hne⟩
    · exact Or.inl (mlo k (Or.inl hk))
    · rcases Int.lt_or_gt_of_ne hne with hlt | hgt
      · exact Or.inl (mlo k (Or.inr (lo hk hlt)))
      · exact Or.inr (up hk hgt)

theorem foldl_trim_spec (c : Int) (l : List Itv) (res : Dis) (hl : ∀ i ∈ l, i.WF) (hr : EWF res)
    (k : Int) (hk : mem k res ∨ (memL k l ∧ k ≠ c)) : mem k (l.foldl (trimStep c) res) := by
  induction l generalizing res with
  | nil => exact hk.elim id fun h => absurd h.1 (memL_nil k)
  | cons i more ih =>
    obtain ⟨h1, h2⟩ := trimStep_spec c hr (hl i (by simp))
    refine ih _ (fun j hj => hl j (List.mem_cons_of_mem _ hj)) h1 ?_
    rcases hk with hk | ⟨hk, hne⟩
    · exact Or.inl (h2 k (Or.inl hk))
    · exact (memL_cons.mp hk).imp (fun hk => h2 k (Or.inr ⟨hk, hne⟩)) (fun hk => ⟨hk, hne⟩)

theorem trim_sound {x y r : Dis} (hx : EWF x) (h : trim x y = some r) {k : Int} (hk : mem k x)
    (hne : singleton? y ≠ some (some k)) : mem k r := by
  have hb : EWF bot := fun a ha => absurd ha (by simp [bot])
  unfold trim at h
  by_cases hxb : x.isBottom = true
  · rw [if_pos hxb] at h; cases h; exact hk
  rw [if_neg hxb] at h
  generalize hs : singleton? y = s at h hne
  match s, h with
  | some none, h => cases h; exact hk
  | some (some c), h =>
    have hkc : k ≠ c := fun e => hne (e ▸ rfl)
    dsimp only at h
    by_cases hxt : x.isTop = true
    · rw [if_pos hxt] at h
      obtain rfl := Option.some.inj h
      obtain ⟨e1, m1⟩ := join_ofItv hb (Itv.wf_lowerHalfLine (Itv.wf_single (c - 1)))
      refine (join_ofItv e1 (Itv.wf_upperHalfLine (Itv.wf_single (c + 1)))).2 k ?_
      rcases Int.lt_or_gt_of_ne hkc with hlt | hgt
      · exact Or.inl (m1 k (Or.inr (lowerHalfLine_sound ((Itv.mem_single ..).mpr rfl) (by omega))))
      · exact Or.inr (upperHalfLine_sound ((Itv.mem_single ..).mpr rfl) (by omega))
    · rw [if_neg hxt] at h
      obtain rfl := Option.some.inj h
      refine foldl_trim_spec c x.l bot hx hb k (Or.inr ⟨?_, hkc⟩)
      have := mem_ivs hk
      rwa [ivs, if_neg hxt] at this

end Dis
end Crab
