import CrabModel.Fix.Semantics
import CrabModel.Fix.InterleavedS
import CrabProofs.Lemmas.FixEqns

/-!
# Local collecting semantics of a region of the control-flow graph (C01 soundness proof)

`LPre c sem C E n s` : the least solution of the flow equations *restricted to the blocks of
`C`*, where the states leaving a block `p ∉ C` are given by `E p` ("external posts").
The soundness proof of the iterator never argues with abstract post-fixpoints (transformers
need not be monotone, and the descending phase destroys post-fixpoint-ness); it shows that the
least solution of each component is contained in the concretisation of the tables.

The lemmas of this file speak of table states and of the values the iterator computes from
them (`joinPosts`, `strengthen`, `newPre`, `vertexPreS`, `refine`), not of the four visit functions.
-/
namespace Crab
namespace Fix

variable {A S : Type}

/-- the collecting semantics is the least pair of families closed under its three rules
    (`ReachPre` / `ReachPost` are mutually inductive, on which the `induction` tactic does not
    work: this is their recursor with both conclusions at once) -/
theorem reach_ind {c : Ctx A} {sem : Sem c S} {P Q : Nat → S → Prop}
    (init : ∀ s, sem.γ c.init s → asmOk c sem c.entry s → P c.entry s)
    (flow : ∀ p n s, p ∈ c.preds n → Q p s → asmOk c sem n s → P n s)
    (step : ∀ n s s', P n s → sem.step n s s' → Q n s') :
    (∀ n s, ReachPre c sem n s → P n s) ∧ (∀ n s, ReachPost c sem n s → Q n s) :=
  ⟨fun _ _ t => ReachPre.rec (motive_1 := fun n s _ => P n s) (motive_2 := fun n s _ => Q n s)
      (fun s h1 h2 => init s h1 h2) (fun p n s hp _ ha ih => flow p n s hp ih ha)
      (fun n s s' _ hs ih => step n s s' ih hs) t,
   fun _ _ t => ReachPost.rec (motive_1 := fun n s _ => P n s) (motive_2 := fun n s _ => Q n s)
      (fun s h1 h2 => init s h1 h2) (fun p n s hp _ ha ih => flow p n s hp ih ha)
      (fun n s s' _ hs ih => step n s s' ih hs) t⟩

namespace Sound

/-- least solution of the region `C` with externals `E` (states arriving at `n`) -/
inductive LPre (c : Ctx A) (sem : Sem c S) (C : List Nat) (E : Nat → S → Prop) : Nat → S → Prop
  | init (s : S) : c.entry ∈ C → sem.γ c.init s → asmOk c sem c.entry s →
      LPre c sem C E c.entry s
  | inj (p n : Nat) (s : S) : n ∈ C → p ∉ C → p ∈ c.preds n → E p s → asmOk c sem n s →
      LPre c sem C E n s
  | flow (p n : Nat) (s0 s : S) : n ∈ C → p ∈ C → p ∈ c.preds n → LPre c sem C E p s0 →
      sem.step p s0 s → asmOk c sem n s → LPre c sem C E n s

/-- the externals read off the post table of a state -/
def Ext {c : Ctx A} (sem : Sem c S) (st : St A) : Nat → S → Prop := fun p s => sem.γ (st.post p) s

/-- the tables of `st'` contain the least solution of region `C` with externals `E` -/
def Snd (c : Ctx A) (sem : Sem c S) (C : List Nat) (E : Nat → S → Prop) (st' : St A) : Prop :=
  ∀ n s, LPre c sem C E n s →
    sem.γ (st'.pre n) s ∧ ∀ s', sem.step n s s' → sem.γ (st'.post n) s'

variable {c : Ctx A} {sem : Sem c S}

theorem LPre.mem {C : List Nat} {E : Nat → S → Prop} {n : Nat} {s : S}
    (h : LPre c sem C E n s) : n ∈ C := by
  cases h <;> assumption

theorem LPre.mono {C : List Nat} {E E' : Nat → S → Prop}
    (hE : ∀ p s, p ∉ C → E p s → E' p s) {n : Nat} {s : S}
    (h : LPre c sem C E n s) : LPre c sem C E' n s := by
  induction h with
  | init s h1 h2 h3 => exact .init s h1 h2 h3
  | inj p n s h1 h2 h3 h4 h5 => exact .inj p n s h1 h2 h3 (hE p s h2 h4) h5
  | flow p n s0 s h1 h2 h3 _ h5 h6 ih => exact .flow p n s0 s h1 h2 h3 ih h5 h6

theorem Snd.mono {C : List Nat} {E E' : Nat → S → Prop} {st' : St A}
    (hE : ∀ p s, p ∉ C → E' p s → E p s) (h : Snd c sem C E st') : Snd c sem C E' st' :=
  fun n s hL => h n s (hL.mono hE)

theorem asmOk_of_noAsm (sem : Sem c S) (h : hasAssumptions c = false) (n : Nat) (s : S) :
    asmOk c sem n s := by
  unfold asmOk
  rw [h]
  trivial

theorem strengthen_sound (n : Nat) (inv : A) (s : S) (h1 : sem.γ inv s) (h2 : asmOk c sem n s) :
    sem.γ (strengthen c n inv) s := by
  rcases strengthen_cases c n inv with ⟨e, _⟩ | ⟨a, e, ha⟩
  · rw [e]; exact h1
  · rw [e]; exact sem.meet_sound _ _ _ h1 (ha sem s ▸ h2)

theorem joinPosts_acc (post : Nat → A) (s : S) : ∀ (ps : List Nat) (acc : A),
    sem.γ acc s → sem.γ (joinPosts c post acc ps) s
  | [], acc, h => by simpa [joinPosts] using h
  | p :: ps, acc, h => by
      have := joinPosts_acc post s ps (c.ops.join acc (post p)) (sem.join_left _ _ _ h)
      simpa [joinPosts] using this

theorem joinPosts_mem (post : Nat → A) (s : S) (q : Nat) : ∀ (ps : List Nat) (acc : A),
    q ∈ ps → sem.γ (post q) s → sem.γ (joinPosts c post acc ps) s
  | [], _, h, _ => by simp at h
  | p :: ps, acc, h, hq => by
      rcases List.mem_cons.1 h with h | h
      · subst h
        have := joinPosts_acc (sem := sem) post s ps (c.ops.join acc (post q))
          (sem.join_right _ _ _ hq)
        simpa [joinPosts] using this
      · have := joinPosts_mem post s q ps (c.ops.join acc (post p)) h hq
        simpa [joinPosts] using this

theorem newPre_of_pred (st : St A) (h p : Nat) (s : S) (hp : p ∈ c.preds h)
    (hq : sem.γ (st.post p) s) (ha : asmOk c sem h s) : sem.γ (newPre c st h) s := by
  unfold newPre
  apply strengthen_sound _ _ _ _ ha
  have := joinPosts_mem (sem := sem) st.post s p (c.preds h) c.ops.bot hp hq
  split
  · exact sem.join_left _ _ _ this
  · exact this

theorem newPre_of_init (st : St A) (h : Nat) (s : S) (he : h = c.entry)
    (hq : sem.γ c.init s) (ha : asmOk c sem h s) : sem.γ (newPre c st h) s := by
  unfold newPre
  apply strengthen_sound _ _ _ _ ha
  simp only [he, beq_self_eq_true, if_true]
  exact sem.join_right _ _ _ hq

theorem vertexPre_of_pred (st : St A) (v p : Nat) (s : S) (hp : p ∈ c.preds v)
    (hq : sem.γ (st.post p) s) (ha : asmOk c sem v s) : sem.γ (vertexPreS c st v) s := by
  unfold vertexPreS
  apply strengthen_sound _ _ _ _ ha
  split
  · exact joinPosts_mem st.post s p _ _ hp hq
  · exact joinPosts_mem st.post s p _ _ hp hq

theorem vertexPre_of_init (st : St A) (v : Nat) (s : S) (he : v = c.entry)
    (hq : sem.γ c.init s) (ha : asmOk c sem v s) : sem.γ (vertexPreS c st v) s := by
  unfold vertexPreS
  apply strengthen_sound _ _ _ _ ha
  simp only [he, beq_self_eq_true, if_true]
  exact joinPosts_acc st.post s _ _ hq

/-- `r` is a sound image of `a` under block `n` -/
def PostOf (sem : Sem c S) (n : Nat) (a r : A) : Prop :=
  ∀ s s', sem.γ a s → sem.step n s s' → sem.γ r s'

theorem PostOf.analyze (n : Nat) (a : A) : PostOf sem n a (c.analyze n a) :=
  fun s s' => sem.analyze_sound n a s s'

theorem vertex_sound (st st' : St A) (v : Nat) (hself : v ∉ c.preds v)
    (hpre : st'.pre v = vertexPreS c st v) (hpost : PostOf sem v (vertexPreS c st v) (st'.post v)) :
    Snd c sem [v] (Ext sem st) st' := by
  intro n s hL
  have hn : n = v := by simpa using hL.mem
  subst hn
  have hγ : sem.γ (vertexPreS c st n) s := by
    cases hL with
    | init s h1 h2 h3 => exact vertexPre_of_init st _ s rfl h2 h3
    | inj p n s h1 h2 h3 h4 h5 => exact vertexPre_of_pred st n p s h3 h4 h5
    | flow p n s0 s h1 h2 h3 h4 h5 h6 =>
        have : p = n := by simpa using h2
        subst this
        exact absurd h3 hself
  exact ⟨hpre ▸ hγ, fun s' hs => hpost s s' hγ hs⟩

theorem head_newPre_sound {C : List Nat} {E : Nat → S → Prop} (st : St A) (h : Nat)
    (hS : ∀ p s0 s, LPre c sem C E p s0 → sem.step p s0 s → sem.γ (st.post p) s)
    (hE : ∀ p s, p ∉ C → E p s → sem.γ (st.post p) s) (s : S)
    (hL : LPre c sem C E h s) : sem.γ (newPre c st h) s := by
  cases hL with
  | init s h1 h2 h3 => exact newPre_of_init st _ s rfl h2 h3
  | inj p n s h1 h2 h3 h4 h5 => exact newPre_of_pred st h p s h3 (hE p s h2 h4) h5
  | flow p n s0 s h1 h2 h3 h4 h5 h6 => exact newPre_of_pred st h p s h3 (hS p s0 s h4 h5) h6

/-- overwriting the stored invariant of a block by any value containing the least solution -/
theorem Snd.set_pre {C : List Nat} {E : Nat → S → Prop} {st : St A} (h : Nat) (v : A)
    (hS : Snd c sem C E st) (hv : ∀ s, LPre c sem C E h s → sem.γ v s) :
    Snd c sem C E { st with pre := upd st.pre h v } := by
  intro n s hL
  refine ⟨?_, (hS n s hL).2⟩
  by_cases hn : n = h
  · subst hn
    simpa [upd] using hv s hL
  · simpa [upd, hn] using (hS n s hL).1

theorem seq_sound (Cx Cxs : List Nat) (st st1 st2 : St A)
    (hdisj : ∀ n, n ∈ Cx → n ∉ Cxs)
    (hback : ∀ p n, p ∈ c.preds n → n ∈ Cx → p ∈ Cxs → False)
    (hf1 : ∀ n, n ∉ Cx → st1.post n = st.post n)
    (hf2 : ∀ n, n ∉ Cxs → st2.pre n = st1.pre n ∧ st2.post n = st1.post n)
    (h1 : Snd c sem Cx (Ext sem st) st1) (h2 : Snd c sem Cxs (Ext sem st1) st2) :
    Snd c sem (Cx ++ Cxs) (Ext sem st) st2 := by
  have key : ∀ n s, LPre c sem (Cx ++ Cxs) (Ext sem st) n s →
      (n ∈ Cx → LPre c sem Cx (Ext sem st) n s) ∧ (n ∈ Cxs → LPre c sem Cxs (Ext sem st1) n s) := by
    intro n s hL
    induction hL with
    | init s h1 h2 h3 => exact ⟨fun h => .init s h h2 h3, fun h => .init s h h2 h3⟩
    | inj p n s hn hp hpn hE ha =>
        have hp1 : p ∉ Cx := fun h => hp (List.mem_append.2 (Or.inl h))
        have hp2 : p ∉ Cxs := fun h => hp (List.mem_append.2 (Or.inr h))
        refine ⟨fun h => .inj p n s h hp1 hpn hE ha, fun h => .inj p n s h hp2 hpn ?_ ha⟩
        show sem.γ (st1.post p) s
        rw [hf1 p hp1]; exact hE
    | flow p n s0 s hn hp hpn hL hs ha ih =>
        constructor
        · intro hnx
          rcases List.mem_append.1 hp with hp | hp
          · exact .flow p n s0 s hnx hp hpn (ih.1 hp) hs ha
          · exact (hback p n hpn hnx hp).elim
        · intro hnx
          rcases List.mem_append.1 hp with hp | hp
          · refine .inj p n s hnx (hdisj p hp) hpn ?_ ha
            exact (h1 p s0 (ih.1 hp)).2 s hs
          · exact .flow p n s0 s hnx hp hpn (ih.2 hp) hs ha
  intro n s hL
  rcases List.mem_append.1 hL.mem with hn | hn
  · have := h1 n s ((key n s hL).1 hn)
    have hf := hf2 n (hdisj n hn)
    rw [hf.1, hf.2]; exact this
  · exact h2 n s ((key n s hL).2 hn)

/-- `st` : tables before the round, `st1` : after `post h := analyze h pre`, `st2` : after the
    body.  `hH` is how the caller knows that the stored invariant `pre` of the head is large
    enough: in the ascending phase by the stabilisation test `new_pre <= pre`, in the descending
    phase because `pre` already contains the least solution. -/
theorem cycle_core (h : Nat) (B : List Nat) (st st1 st2 : St A) (pre : A)
    (hhB : h ∉ B)
    (hp1 : PostOf sem h pre (st1.post h))
    (hf1 : ∀ n, n ≠ h → st1.post n = st.post n)
    (hf2 : ∀ n, n ∉ B → st2.post n = st1.post n)
    (hB : Snd c sem B (Ext sem st1) st2)
    (hH : ∀ s, LPre c sem (h :: B) (Ext sem st) h s → sem.γ (newPre c st2 h) s → sem.γ pre s) :
    (∀ s, LPre c sem (h :: B) (Ext sem st) h s → sem.γ pre s) ∧
    (∀ n s, LPre c sem (h :: B) (Ext sem st) n s → n ∈ B → LPre c sem B (Ext sem st1) n s) := by
  have hpost_h : ∀ s0 s, sem.γ pre s0 → sem.step h s0 s → sem.γ (st2.post h) s := by
    intro s0 s h0 hs
    rw [hf2 h hhB]; exact hp1 s0 s h0 hs
  have key : ∀ n s, LPre c sem (h :: B) (Ext sem st) n s →
      (n = h → sem.γ pre s) ∧ (n ∈ B → LPre c sem B (Ext sem st1) n s) := by
    intro n s hL
    induction hL with
    | init s h1 h2 h3 =>
        refine ⟨fun he => ?_, fun hb => .init s hb h2 h3⟩
        subst he
        exact hH s (.init s h1 h2 h3) (newPre_of_init st2 _ s rfl h2 h3)
    | inj p n s hn hp hpn hE ha =>
        have hp' : p ≠ h ∧ p ∉ B := by simpa using hp
        have hE1 : sem.γ (st1.post p) s := by rw [hf1 p hp'.1]; exact hE
        refine ⟨fun he => ?_, fun hb => .inj p n s hb hp'.2 hpn hE1 ha⟩
        subst he
        refine hH s (.inj p n s hn hp hpn hE ha) (newPre_of_pred st2 n p s hpn ?_ ha)
        rw [hf2 p hp'.2]; exact hE1
    | flow p n s0 s hn hp hpn hL hs ha ih =>
        have hq2 : sem.γ (st2.post p) s := by
          rcases List.mem_cons.1 hp with hp | hp
          · subst hp; exact hpost_h s0 s (ih.1 rfl) hs
          · exact (hB p s0 (ih.2 hp)).2 s hs
        constructor
        · intro he
          subst he
          exact hH s (.flow p n s0 s hn hp hpn hL hs ha) (newPre_of_pred st2 n p s hpn hq2 ha)
        · intro hb
          rcases List.mem_cons.1 hp with hp | hp
          · subst hp
            refine .inj p n s hb hhB hpn ?_ ha
            show sem.γ (st1.post p) s
            exact hp1 s0 s (ih.1 rfl) hs
          · exact .flow p n s0 s hb hp hpn (ih.2 hp) hs ha
  exact ⟨fun s hL => (key h s hL).1 rfl, fun n s hL hb => (key n s hL).2 hb⟩

theorem cycle_round (h : Nat) (B : List Nat) (st st1 st2 : St A) (pre : A)
    (hhB : h ∉ B)
    (hp1 : PostOf sem h pre (st1.post h))
    (hf1 : ∀ n, n ≠ h → st1.post n = st.post n)
    (hf2 : ∀ n, n ∉ B → st2.post n = st1.post n)
    (hB : Snd c sem B (Ext sem st1) st2)
    (hH : ∀ s, LPre c sem (h :: B) (Ext sem st) h s → sem.γ (newPre c st2 h) s → sem.γ pre s)
    (hpre : ∀ s, LPre c sem (h :: B) (Ext sem st) h s → sem.γ pre s → sem.γ (st2.pre h) s) :
    Snd c sem (h :: B) (Ext sem st) st2 ∧
    (∀ s, LPre c sem (h :: B) (Ext sem st) h s → sem.γ pre s) := by
  obtain ⟨k1, k2⟩ := cycle_core h B st st1 st2 pre hhB hp1 hf1 hf2 hB hH
  refine ⟨?_, k1⟩
  intro n s hL
  rcases List.mem_cons.1 hL.mem with hn | hn
  · subst hn
    refine ⟨hpre s hL (k1 s hL), fun s' hs => ?_⟩
    rw [hf2 n hhB]; exact hp1 s s' (k1 s hL) hs
  · exact hB n s (k2 n s hL hn)

/-- the join over all predecessors of the head contains the least solution at the head, once the
    tables are sound for the cycle -/
theorem cycle_newPre (h : Nat) (B : List Nat) (st st2 : St A)
    (hf : ∀ n, n ∉ h :: B → st2.post n = st.post n)
    (hS : Snd c sem (h :: B) (Ext sem st) st2) (s : S)
    (hL : LPre c sem (h :: B) (Ext sem st) h s) : sem.γ (newPre c st2 h) s := by
  refine head_newPre_sound st2 h (fun p s0 s hp hs => (hS p s0 hp).2 s hs) ?_ s hL
  intro p s hp hE
  rw [hf p hp]; exact hE

theorem refine_sound (it : Nat) (a b : A) (s : S) (ha : sem.γ a s) (hb : sem.γ b s) :
    sem.γ (refine c it a b) s := by
  unfold refine
  split
  · exact sem.meet_sound _ _ _ ha hb
  · exact sem.narrow_sound _ _ _ ha hb

end Sound
end Fix
end Crab
