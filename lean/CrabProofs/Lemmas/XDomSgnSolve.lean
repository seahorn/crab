import CrabProofs.Lemmas.XDomSgn

/-!
  `sign_domain` (model `Crab.SDom`): soundness of `eval_expr`, `compute_residual`,
  `extract_sign_constraints` and of the two lambdas of `solve_constraints`.

  The facts `pivot OP res` extracted from a constraint `e ⋈ 0` with pivot term `coef * pivot` are
  read as follows (`Fact`): `|coef| * σ pivot = q ± e(σ)` (`+` for a positive coefficient), where
  `q` is the residual, negated for a negative coefficient, so that it has the sign of the rational
  quotient residual / coef; `res` contains `q` and is not `!= 0`.  Since `|coef| * σ pivot` has the
  sign of the pivot, what remains to be shown of the lambdas and loops is linear.  That `res`
  contains `q` is a check on the extracted division table (`divCheck`): with a truncating division
  the quotient of two non-zero numbers can be zero, so `x / s` for a non-zero sign `s` is never
  `!= 0`, `< 0` or `> 0`, and the branch "`v != rhs` with `rhs.not_equal_zero()`" of
  `solve_constraints` (which would be unsound: it concludes `v == 0`) is dead code.

  Each lambda and loop is shown to preserve an arbitrary property of environments that the
  refinements `set(v, at(v) & s)` it performs preserve; the invariant alone and the invariant
  together with `γ σ` are the two instances.
-/
namespace Crab
namespace SDom
open XDom Lin

/-- class of a product with a number of sign `s` (`s` is `< 0` or `> 0`) -/
def mulCls (c : Cls) (s : Sign) : Cls :=
  match s, c with
  | .ltz, .neg => .pos
  | .ltz, .pos => .neg
  | _, c => c

/-- the division table, divisor `< 0` or `> 0`: the result is never `!= 0` and contains the
    sign of the rational quotient for every class of the dividend -/
def divCheck : Bool :=
  [Sign.ltz, Sign.gtz].all (fun s => Sign.all.all (fun r =>
    sop .div r s != .nez && Cls.all.all (fun c => !r.has c || (sop .div r s).has (mulCls c s))))

theorem divCheck_ok : divCheck = true := by decide +kernel

theorem ofInt_cases {k : Int} (hk : k ≠ 0) : (k < 0 ∧ Sign.ofInt k = .ltz) ∨ (0 < k ∧ Sign.ofInt k = .gtz) := by
  unfold Sign.ofInt
  by_cases h : k < 0
  · left; simp [hk, h]
  · right; exact ⟨by omega, by simp [hk, h]⟩

theorem mem_congr {a b : Int} (h : Cls.of a = Cls.of b) (s : Sign) : Sign.mem a s ↔ Sign.mem b s := by
  rw [Sign.mem, Sign.mem, h]

/-- `ρ`, negated for a negative coefficient, has the class of the rational quotient `ρ / coef` -/
theorem cls_quot (ρ : Int) {coef : Int} (hk : coef ≠ 0) :
    Cls.of (if 0 < coef then ρ else -ρ) = mulCls (Cls.of ρ) (Sign.ofInt coef) := by
  rcases ofInt_cases hk with ⟨hc, e⟩ | ⟨hc, e⟩ <;> rw [e]
  · rw [if_neg (by omega)]
    rcases Cls.of_cases ρ with ⟨hr, e2⟩ | ⟨hr, e2⟩ | ⟨hr, e2⟩ <;> rw [e2]
    · exact Cls.of_pos (by omega)
    · rw [hr]; rfl
    · exact Cls.of_neg (by omega)
  · rw [if_pos hc]; cases Cls.of ρ <;> rfl

/-- `|coef| * v` has the class of `v` -/
theorem cls_abs_mul {coef : Int} (hk : coef ≠ 0) (v : Int) :
    Cls.of (if 0 < coef then coef * v else -(coef * v)) = Cls.of v := by
  rcases Cls.of_cases v with ⟨hv, e⟩ | ⟨hv, e⟩ | ⟨hv, e⟩ <;> rw [e] <;> split
  · exact Cls.of_neg (Int.mul_neg_of_pos_of_neg ‹_› hv)
  · exact Cls.of_neg (by have := Int.mul_pos_of_neg_of_neg (a := coef) (by omega) hv; omega)
  · rw [hv, Int.mul_zero]; rfl
  · rw [hv, Int.mul_zero]; rfl
  · exact Cls.of_pos (Int.mul_pos ‹_› hv)
  · exact Cls.of_pos (by have := Int.mul_neg_of_neg_of_pos (a := coef) (by omega) hv; omega)

theorem divCheck_row (r : Sign) {coef : Int} (hk : coef ≠ 0) :
    sop .div r (Sign.ofInt coef) ≠ .nez ∧ ∀ c, r.has c = true →
      (sop .div r (Sign.ofInt coef)).has (mulCls c (Sign.ofInt coef)) = true := by
  have hs : Sign.ofInt coef ∈ [Sign.ltz, Sign.gtz] := by
    rcases ofInt_cases hk with ⟨_, e⟩ | ⟨_, e⟩ <;> rw [e] <;> simp
  have h := Sign.forall_of_all (List.all_eq_true.mp divCheck_ok _ hs) r
  simp only [Bool.and_eq_true, bne_iff_ne, ne_eq] at h
  refine ⟨h.1, fun c hc => ?_⟩
  have := Cls.forall_of_all h.2 c
  rwa [hc, Bool.not_true, Bool.false_or] at this

theorem div_ne_nez (r : Sign) {coef : Int} (hk : coef ≠ 0) : sop .div r (Sign.ofInt coef) ≠ .nez :=
  (divCheck_row r hk).1

theorem div_fact {r : Sign} {ρ coef : Int} (hρ : Sign.mem ρ r) (hk : coef ≠ 0) :
    Sign.mem (if 0 < coef then ρ else -ρ) (sop .div r (Sign.ofInt coef)) := by
  rw [Sign.mem, cls_quot ρ hk]; exact (divCheck_row r hk).2 _ hρ

namespace Env

def Inv (e : Env) : Prop := XDom.Env.Inv signLattice e
def γ (e : Env) (σ : State) : Prop := XDom.Env.γ signLattice Sign.mem e σ

theorem inv_bot : (bot : Env).Inv := XDom.Env.inv_bot
theorem inv_top : (top : Env).Inv := XDom.Env.inv_top
theorem not_γ_of_bot {e : Env} (h : e.isBot = true) (σ : State) : ¬ e.γ σ := XDom.Env.not_γ_of_bot h σ
theorem get_mem {e : Env} {σ : State} (hg : e.γ σ) (x : Var) : Sign.mem (σ x) (e.get x) := hg.2 x

theorem set_inv {e : Env} (he : e.Inv) {x : Var} (hx : x < 2 ^ 64) (v : Sign) : (e.set x v).Inv :=
  XDom.Env.set_inv signLaws he hx (v := v) trivial
theorem set_sound {e : Env} (he : e.Inv) {σ : State} (hg : e.γ σ) {x : Var} (hx : x < 2 ^ 64)
    {v : Sign} {n : Int} (hn : Sign.mem n v) : (e.set x v).γ (upd σ x n) :=
  XDom.Env.set_sound signLaws he hg hx trivial hn
theorem set_sound_same {e : Env} (he : e.Inv) {σ : State} (hg : e.γ σ) {x : Var} (hx : x < 2 ^ 64)
    {v : Sign} (hn : Sign.mem (σ x) v) : (e.set x v).γ σ :=
  XDom.Env.set_sound_same signLaws he hg hx trivial hn

theorem mul_ofInt_mem {e : Env} {σ : State} (hg : e.γ σ) (k : Int) (v : Var) :
    Sign.mem (k * σ v) (sop .mul (Sign.ofInt k) (e.get v)) :=
  sop_sound .mul (C08.sgn_ofInt_sound k) (get_mem hg v) rfl

theorem eval_sound {e : Env} {σ : State} (hg : e.γ σ) (ex : Expr) : Sign.mem (ex.eval σ) (e.eval ex) := by
  unfold eval
  simp only [hg.1, Bool.false_eq_true, if_false]
  have := XDom.evalFold_sound (fun ha hb => sop_sound .add ha hb rfl) (mul_ofInt_mem hg) ex.terms _ ex.cst
    (C08.sgn_ofInt_sound _)
  unfold Expr.eval
  have e1 : Expr.evalTerms σ ex.terms + ex.cst = ex.cst + Expr.evalTerms σ ex.terms := by omega
  rw [e1]; exact this

theorem computeResidual_sound {e : Env} {σ : State} (hg : e.γ σ) (ex : Expr) (pivot : Var) :
    Sign.mem (-ex.cst - IDom.restSum σ pivot ex.terms) (e.computeResidual ex pivot) :=
by
  have := XDom.residualFold_sound (fun ha hb => sop_sound .sub ha hb rfl) (mul_ofInt_mem hg) pivot ex.terms _ _
    (C08.sgn_ofInt_sound (-ex.cst))
  simpa only [computeResidual, ne_eq, ite_not] using this

/-- meaning of an extracted fact `(pivot, coef, res)` for the constraint expression `ex` in the
    state `σ`: `u` stands for `|coef| * σ pivot`, `q` for the residual with the sign of the
    quotient -/
def Fact (σ : State) (ex : Expr) (t : Var × Int × Sign) : Prop :=
  t.2.1 ≠ 0 ∧ t.1 < 2 ^ 64 ∧ t.2.2 ≠ .nez ∧
    ∃ u q : Int, Cls.of u = Cls.of (σ t.1) ∧ Sign.mem q t.2.2 ∧
      u = q + (if 0 < t.2.1 then ex.eval σ else -ex.eval σ)

theorem extract_facts {e : Env} {σ : State} (hg : e.γ σ) {ex : Expr} (hc : ex.Canonical) (hv : VarsLt ex) :
    ∀ t ∈ e.extract ex, Fact σ ex t := by
  intro t ht
  unfold extract at ht
  rw [List.mem_filterMap] at ht
  obtain ⟨p, hp, hpt⟩ := ht
  obtain ⟨pivot, coef⟩ := p
  simp only at hpt
  split at hpt
  · cases hpt
  · split at hpt
    · simp only [Option.some.injEq] at hpt
      subst hpt
      have hne : coef ≠ 0 := hc.2 _ hp
      refine ⟨hne, hv _ hp, div_ne_nez _ hne, _, _, cls_abs_mul hne (σ pivot),
        div_fact (computeResidual_sound hg ex pivot) hne, ?_⟩
      simp only
      unfold Expr.eval
      rw [IDom.evalTerms_split σ hc.1 hp]
      split <;> omega
    · cases hpt

theorem nonneg_of_mem {k : Int} {s : Sign} (h : Sign.mem k s) (hs : s = .gtz ∨ s = .gez) : 0 ≤ k := by
  rcases hs with rfl | rfl
  · exact Int.le_of_lt (Sign.mem_gtz.mp h)
  · exact Sign.mem_gez.mp h

theorem nonpos_of_mem {k : Int} {s : Sign} (h : Sign.mem k s) (hs : s = .ltz ∨ s = .lez) : k ≤ 0 := by
  rcases hs with rfl | rfl
  · exact Int.le_of_lt (Sign.mem_ltz.mp h)
  · exact Sign.mem_lez.mp h

/-- the refinement all lambdas and loops perform: `set(v, at(v) & s)` for a sign `s` that
    contains the value of `v` -/
theorem refine_spec {e : Env} (h : e.Inv ∧ e.γ σ) {v : Var} (hv : v < 2 ^ 64) {s : Sign}
    (hs : Sign.mem (σ v) s) :
    (e.set v (sop .meet (e.get v) s)).Inv ∧ (e.set v (sop .meet (e.get v) s)).γ σ :=
  ⟨set_inv h.1 hv _, set_sound_same h.1 h.2 hv (meet_sound (get_mem h.2 v) hs)⟩

theorem solveStrict_inv {e : Env} (he : e.Inv) {v : Var} (hv : v < 2 ^ 64) (rhs : Sign) (b : Bool) :
    (e.solveStrict v rhs b).Inv := by
  unfold solveStrict
  cases b <;> simp only [if_true, Bool.false_eq_true, if_false] <;> split
  · exact set_inv he hv _
  · split
    · exact inv_bot
    · exact he
  · exact set_inv he hv _
  · split
    · exact inv_bot
    · exact he

theorem solveIneq_inv {e : Env} (he : e.Inv) {v : Var} (hv : v < 2 ^ 64) (rhs : Sign) (b : Bool) :
    (e.solveIneq v rhs b).Inv := by
  unfold solveIneq
  cases b <;> simp only [if_true, Bool.false_eq_true, if_false] <;> split
  · exact set_inv he hv _
  · split
    · exact inv_bot
    · split
      · exact inv_bot
      · exact he
  · exact set_inv he hv _
  · split
    · exact inv_bot
    · split
      · exact inv_bot
      · exact he

/-- numbers `a < b` of `l` and `r` refute the test of `solve_strict_inequality` -/
theorem strict_test {a b : Int} {l r : Sign} (ha : Sign.mem a l) (hb : Sign.mem b r) (hab : a < b) :
    ¬((l = .gtz ∨ l = .gez) ∧ (r = .ltz ∨ r = .lez)) := fun hc => by
  have := nonneg_of_mem ha hc.1
  have := nonpos_of_mem hb hc.2
  omega

/-- numbers `a ≤ b` of `l` and `r` refute the two tests of `solve_inequality` -/
theorem weak_test {a b : Int} {l r : Sign} (ha : Sign.mem a l) (hb : Sign.mem b r) (hab : a ≤ b) :
    ¬(l = .gez ∧ r = .ltz) ∧ ¬(l = .gtz ∧ (r = .ltz ∨ r = .lez)) := by
  refine ⟨fun hc => ?_, fun hc => ?_⟩
  · rw [hc.1] at ha; rw [hc.2] at hb
    have := Sign.mem_gez.mp ha
    have := Sign.mem_ltz.mp hb
    omega
  · rw [hc.1] at ha
    have := Sign.mem_gtz.mp ha
    have := nonpos_of_mem hb hc.2
    omega

/-- the lambda `solve_strict_inequality` applied to a fact of a constraint `e < 0`: the pivot
    (left operand for a positive coefficient, right operand otherwise) is beyond the quotient -/
theorem solveStrict_sound {e : Env} (he : e.Inv) {σ : State} (hg : e.γ σ) {ex : Expr}
    {t : Var × Int × Sign} (hf : Fact σ ex t) (hlt : ex.eval σ < 0) {isLess : Bool}
    (hs : (isLess = true ∧ 0 < t.2.1) ∨ (isLess = false ∧ t.2.1 < 0)) :
    (e.solveStrict t.1 t.2.2 isLess).γ σ := by
  obtain ⟨v, coef, res⟩ := t
  obtain ⟨_, hv, _, u, q, hu, hq, huq⟩ := hf
  simp only at hv hu hq huq hs
  have hm : Sign.mem u (e.get v) := (mem_congr hu _).mpr (get_mem hg v)
  unfold solveStrict
  rcases hs with ⟨rfl, hc⟩ | ⟨rfl, hc⟩
  · rw [if_pos hc] at huq
    simp only [if_true]
    split
    · rename_i hz
      rw [hz] at hq
      have := Sign.mem_eqz.mp hq
      exact (refine_spec ⟨he, hg⟩ hv ((mem_congr hu _).mp (Sign.mem_ltz.mpr (by omega)))).2
    · rw [if_neg (strict_test hm hq (by omega))]; exact hg
  · rw [if_neg (by omega)] at huq
    simp only [Bool.false_eq_true, if_false]
    split
    · rename_i hz
      rw [hz] at hq
      have := Sign.mem_eqz.mp hq
      exact (refine_spec ⟨he, hg⟩ hv ((mem_congr hu _).mp (Sign.mem_gtz.mpr (by omega)))).2
    · rw [if_neg (strict_test hq hm (by omega))]; exact hg

theorem solveIneq_sound {e : Env} (he : e.Inv) {σ : State} (hg : e.γ σ) {ex : Expr}
    {t : Var × Int × Sign} (hf : Fact σ ex t) (hle : ex.eval σ ≤ 0) {isLessEq : Bool}
    (hs : (isLessEq = true ∧ 0 < t.2.1) ∨ (isLessEq = false ∧ t.2.1 < 0)) :
    (e.solveIneq t.1 t.2.2 isLessEq).γ σ := by
  obtain ⟨v, coef, res⟩ := t
  obtain ⟨_, hv, _, u, q, hu, hq, huq⟩ := hf
  simp only at hv hu hq huq hs
  have hm : Sign.mem u (e.get v) := (mem_congr hu _).mpr (get_mem hg v)
  unfold solveIneq
  rcases hs with ⟨rfl, hc⟩ | ⟨rfl, hc⟩
  · rw [if_pos hc] at huq
    simp only [if_true]
    split
    · rename_i hz
      rw [hz] at hq
      have := Sign.mem_eqz.mp hq
      exact (refine_spec ⟨he, hg⟩ hv ((mem_congr hu _).mp (Sign.mem_lez.mpr (by omega)))).2
    · have ht := weak_test hm hq (by omega)
      rw [if_neg ht.1, if_neg ht.2]; exact hg
  · rw [if_neg (by omega)] at huq
    simp only [Bool.false_eq_true, if_false]
    split
    · rename_i hz
      rw [hz] at hq
      have := Sign.mem_eqz.mp hq
      exact (refine_spec ⟨he, hg⟩ hv ((mem_congr hu _).mp (Sign.mem_gez.mpr (by omega)))).2
    · have ht := weak_test hq hm (by omega)
      rw [if_neg ht.1, if_neg ht.2]; exact hg

theorem eqLoop_preserves {I : Env → Prop} {P : Var × Int × Sign → Prop}
    (hstep : ∀ (e : Env) t, P t → I e → I (e.set t.1 (sop .meet (e.get t.1) t.2.2))) :
    ∀ (ts : List (Var × Int × Sign)) (e : Env), (∀ t ∈ ts, P t) → I e → I (eqLoop ts e).2
  | [], _, _, he => he
  | (v, coef, res) :: rest, e, hP, he => by
    have h1 := hstep e _ (hP _ List.mem_cons_self) he
    simp only [eqLoop]
    split
    · exact h1
    · exact eqLoop_preserves hstep rest _ (fun q hq => hP q (List.mem_cons_of_mem _ hq)) h1

theorem neqLoop_preserves {I : Env → Prop} {P : Var × Int × Sign → Prop}
    (hstep : ∀ (e : Env) t s, P t → (t.2.2 = .eqz ∧ s = .nez) ∨ (t.2.2 = .nez ∧ s = .eqz) → I e →
      I (e.set t.1 (sop .meet (e.get t.1) s))) :
    ∀ (ts : List (Var × Int × Sign)) (e : Env), (∀ t ∈ ts, P t) → I e → I (neqLoop ts e).2
  | [], _, _, he => he
  | (v, coef, res) :: rest, e, hP, he => by
    have hrest := fun q hq => hP q (List.mem_cons_of_mem _ hq)
    simp only [neqLoop]
    split
    · rename_i hz
      have h1 := hstep e (v, coef, res) .nez (hP _ List.mem_cons_self) (Or.inl ⟨hz, rfl⟩) he
      split
      · exact h1
      · exact neqLoop_preserves hstep rest _ hrest h1
    · split
      · rename_i hz
        have h1 := hstep e (v, coef, res) .eqz (hP _ List.mem_cons_self) (Or.inr ⟨hz, rfl⟩) he
        split
        · exact h1
        · exact neqLoop_preserves hstep rest _ hrest h1
      · exact neqLoop_preserves hstep rest _ hrest he

/-- for a constraint `e == 0` the pivot is the exact quotient: it has the sign of `q` -/
theorem eq_step {σ : State} {ex : Expr} (h0 : ex.eval σ = 0) (e : Env) (t : Var × Int × Sign)
    (hf : Fact σ ex t) (h : e.Inv ∧ e.γ σ) :
    (e.set t.1 (sop .meet (e.get t.1) t.2.2)).Inv ∧ (e.set t.1 (sop .meet (e.get t.1) t.2.2)).γ σ := by
  obtain ⟨_, hv, _, u, q, hu, hq, huq⟩ := hf
  rw [h0, Int.neg_zero, ite_self, Int.add_zero] at huq
  exact refine_spec h hv ((mem_congr hu _).mp (huq ▸ hq))

/-- for a constraint `e != 0`, a quotient `0` excludes the value `0` of the pivot (the other
    branch is never taken: an extracted fact is not `!= 0`) -/
theorem neq_step {σ : State} {ex : Expr} (h0 : ex.eval σ ≠ 0) (e : Env) (t : Var × Int × Sign) (s : Sign)
    (hf : Fact σ ex t) (hs : (t.2.2 = .eqz ∧ s = .nez) ∨ (t.2.2 = .nez ∧ s = .eqz)) (h : e.Inv ∧ e.γ σ) :
    (e.set t.1 (sop .meet (e.get t.1) s)).Inv ∧ (e.set t.1 (sop .meet (e.get t.1) s)).γ σ := by
  obtain ⟨_, hv, hnez, u, q, hu, hq, huq⟩ := hf
  rcases hs with ⟨hz, rfl⟩ | ⟨hz, _⟩
  · rw [hz] at hq
    have := Sign.mem_eqz.mp hq
    exact refine_spec h hv ((mem_congr hu _).mp (Sign.mem_nez.mpr (by split at huq <;> omega)))
  · exact absurd hz hnez

end Env
end SDom
end Crab
