import CrabProofs.Lemmas.DbmIncrRepair
import CrabProofs.Lemmas.DbmIncrAssign

/-!
  The loops of `add_linear_leq` (`addLb`, `addUb`, `addDiffEdge`, `closeBoundsEnd`), for both
  settings of `zones.close_bounds_inline`: every step either answers bottom, and then the
  constraints have no common solution, or yields a graph with exactly the solutions of the old
  graph that satisfy the new constraint, with a valid potential.  Inside `add_linear_leq` the
  graph is kept in the form `Inside inl`: the split normal form under `close_bounds_inline`,
  otherwise only the edges among variables closed (`closeBoundsEnd` re-closes the bounds).
-/
namespace Crab
namespace DbmIncr
open Dbm Zones

variable {n : Nat}

/-- `Mid` = in the middle of `add_linear_leq`: edges among variables closed, potential valid -/
def Mid (s : SG n) : Prop := VarNF s.g ∧ s.g.sat s.pot

/-- `Good` = between operations: split normal form, potential valid -/
def Good (s : SG n) : Prop := SplitNF s.g ∧ s.g.sat s.pot

/-- `Inside inl` = what the loops inside `add_linear_leq` maintain: `Good` under
    `close_bounds_inline`, else `Mid` -/
def Inside (inl : Bool) (s : SG n) : Prop := if inl then Good s else Mid s

theorem Good.mid {s : SG n} (h : Good s) : Mid s := ⟨h.1.varNF, h.2⟩

theorem Inside.mid {inl : Bool} {s : SG n} (h : Inside inl s) : Mid s := by
  cases inl
  · exact h
  · exact Good.mid h

theorem Good.inside {s : SG n} (h : Good s) (inl : Bool) : Inside inl s := by
  cases inl
  · exact h.mid
  · exact h

/-- a step adding the constraint `P` from `s`: bottom only if no solution of `s` satisfies `P`,
    otherwise a value satisfying `I` with exactly the solutions of `s` that satisfy `P` -/
def StepTo (I : SG n → Prop) (P : (Fin (n + 1) → Int) → Prop) (s : SG n) (r : Option (SG n)) : Prop :=
  match r with
  | none => ∀ v, s.g.sat v → ¬ P v
  | some s' => I s' ∧ ∀ v, s'.g.sat v ↔ (s.g.sat v ∧ P v)

def StepOK (P : (Fin (n + 1) → Int) → Prop) (s : SG n) (r : Option (SG n)) : Prop :=
  match r with
  | none => ∀ v, s.g.sat v → ¬ P v
  | some s' => Mid s' ∧ ∀ v, s'.g.sat v ↔ (s.g.sat v ∧ P v)

def StepGood (P : (Fin (n + 1) → Int) → Prop) (s : SG n) (r : Option (SG n)) : Prop :=
  match r with
  | none => ∀ v, s.g.sat v → ¬ P v
  | some s' => Good s' ∧ ∀ v, s'.g.sat v ↔ (s.g.sat v ∧ P v)

/-- the "already implied" exits: nothing changes -/
theorem StepTo.skip {I : SG n → Prop} {P : (Fin (n + 1) → Int) → Prop} {s : SG n} (hI : I s)
    (h : ∀ v, s.g.sat v → P v) : StepTo I P s (some s) :=
  ⟨hI, fun v => ⟨fun hv => ⟨hv, h v hv⟩, fun hv => hv.1⟩⟩

theorem sat_of_le_edge {g : Zone n} {v : Fin (n + 1) → Int} (h : g.sat v) {a b : Fin (n + 1)} {k : Int}
    (hk : W.le (edge g a b) (some k) = true) : v b - v a ≤ k := by
  obtain ⟨w, hw, hwk⟩ := (W.le_iff _ _).1 hk k rfl
  have := sat_edge h hw
  omega

theorem lt_of_not_le_edge {g : Zone n} {a b : Fin (n + 1)} {k : Int}
    (hk : ¬ W.le (edge g a b) (some k) = true) (w : Int) (hw : edge g a b = some w) : k ≤ w := by
  rw [hw] at hk; simp only [W.le, decide_eq_true_eq] at hk; omega

/-- a change of a bound edge does not change the variable subgraph -/
theorem varNF_of_bound_change {g g1 : Zone n} (hv : VarNF g)
    (h : ∀ a b, a ≠ 0 → b ≠ 0 → edge g1 a b = edge g a b) (h0 : edge g1 0 0 = none) : VarNF g1 := by
  have hl : NoSelfLoop g1 := by
    intro a
    by_cases ha : a = 0
    · subst ha; exact h0
    · show edge g1 a a = none
      rw [h a a ha ha]; exact hv.noLoop a
  refine ⟨hl, ?_⟩
  have : varPart g1 = varPart g := by
    apply Mat.ext_get
    intro i j
    simp only [varPart_get]
    by_cases hij : i = j
    · simp [hij]
    · simp only [hij, if_false]
      by_cases h0' : i = 0 ∨ j = 0
      · simp [h0']
      · simp only [h0', if_false]
        exact h j i (fun e => h0' (Or.inr e)) (fun e => h0' (Or.inl e))
  rw [this]; exact hv.vars

/-- common part of `addLb` / `addUb`: `set_edge` of a strictly better bound edge `a → b`, then
    `repair_potential` -/
theorem setBound_spec (vs : List (Fin (n + 1))) (hvs : ∀ v, v ∈ vs) (s : SG n) (hm : Mid s)
    (a b : Fin (n + 1)) (hab : a ≠ b) (h0 : a = 0 ∨ b = 0) (k : Int)
    (hk : ∀ w, edge s.g a b = some w → k ≤ w) :
    StepTo Mid (fun x => x b - x a ≤ k) s
      (match repairPotential vs (setEdge s.g a k b) s.pot a b with
       | none => none
       | some p1 => some ⟨setEdge s.g a k b, p1⟩) := by
  have hrel : setEdge s.g a k b = relax s.g a k b := setEdge_eq_relax hk
  have hsat : ∀ v, (setEdge s.g a k b).sat v ↔ (s.g.sat v ∧ v b - v a ≤ k) := by
    intro v; rw [hrel]; exact relax_sat _ _ _ _ _
  have hpv : PotValidExcept (setEdge s.g a k b) s.pot a b := by
    intro s' d' kk hkk hne
    rw [edge_setEdge] at hkk
    simp only [hne, if_false] at hkk
    exact (sat_iff_pot _ _).1 hm.2 s' d' kk hkk
  have hw : edge (setEdge s.g a k b) a b = some k := by rw [edge_setEdge]; simp
  obtain ⟨r1, r2⟩ := repairPotential_spec vs hvs _ s.pot a b k hw hpv
  rcases hrp : repairPotential vs (setEdge s.g a k b) s.pot a b with _ | p1
  · intro v hv hP
    exact r2 hrp v ((hsat v).2 ⟨hv, hP⟩)
  · refine ⟨⟨?_, r1 p1 hrp⟩, hsat⟩
    apply varNF_of_bound_change hm.1
    · intro x y hx hy
      rw [edge_setEdge]
      have : ¬ (x = a ∧ y = b) := by
        rintro ⟨rfl, rfl⟩
        rcases h0 with h0 | h0
        · exact hx h0
        · exact hy h0
      simp [this]
    · rw [edge_setEdge]
      have : ¬ ((0 : Fin (n + 1)) = a ∧ (0 : Fin (n + 1)) = b) := fun h => hab (h.1.symm.trans h.2)
      simp only [this, if_false]
      exact hm.1.noLoop 0


/-- `OLe` = order on optional states: a result comes from a state it is below -/
def OLe (a b : Option (SG n)) : Prop := ∀ sa, a = some sa → ∃ sb, b = some sb ∧ Dec sa.g sb.g

theorem OLe.refl (a : Option (SG n)) : OLe a a := fun sa h => ⟨sa, h, Dec.refl _⟩
theorem OLe.trans (a b c : Option (SG n)) (h1 : OLe a b) (h2 : OLe b c) : OLe a c := by
  intro sa ha
  obtain ⟨sb, hb, d1⟩ := h1 sa ha
  obtain ⟨sc, hc, d2⟩ := h2 sb hb
  exact ⟨sc, hc, Dec.trans d1 d2⟩

/-- `PropJ` = invariant of a propagation loop after the bound edge was set (graph `g1`); `into`
    says which edges may change (`true`: the edges INTO the zero vertex, `false`: the edges OUT OF it) -/
structure PropJ (g1 : Zone n) (into : Bool) (s' : SG n) : Prop where
  /-- the potential is valid -/
  pot : s'.g.sat s'.pot
  /-- only sound relaxations of `g1` were written -/
  btw : Btw g1 s'.g
  /-- the other edges are those of `g1` -/
  frame : ∀ a b, (if into then b ≠ 0 else a ≠ 0) → edge s'.g a b = edge g1 a b
  loop0 : edge s'.g 0 0 = none

/-- `PropI` = `PropJ` of an optional state that is not bottom -/
def PropI (g1 : Zone n) (into : Bool) (acc : Option (SG n)) : Prop :=
  ∃ s', acc = some s' ∧ PropJ g1 into s'

variable {g1 : Zone n}

/-- a relaxation by an implied value keeps the potential valid, so `repair_potential` succeeds -/
theorem repair_of_sat (vs : List (Fin (n + 1))) (hvs : ∀ v, v ∈ vs) (g : Zone n)
    (p : Fin (n + 1) → Int) (a b : Fin (n + 1)) (w : Int) (hsat : (updEdge g a w b).sat p) :
    ∃ p2, repairPotential vs (updEdge g a w b) p a b = some p2 ∧ (updEdge g a w b).sat p2 := by
  obtain ⟨c, hc, _, _⟩ := edge_upd_new g a b w
  have hpv : PotValidExcept (updEdge g a w b) p a b :=
    fun s d k hk _ => (sat_iff_pot _ _).1 hsat s d k hk
  obtain ⟨r1, r2⟩ := repairPotential_spec vs hvs _ p a b c hc hpv
  rcases hrp : repairPotential vs (updEdge g a w b) p a b with _ | p2
  · exact absurd hsat (r2 hrp p)
  · exact ⟨p2, rfl, r1 p2 hrp⟩

/-- one update of a propagation loop: the bound edge `a → b` gets a value `w` implied by the current
    graph; the potential stays valid, so `repair_potential` answers `true` -/
theorem PropJ.update (vs : List (Fin (n + 1))) (hvs : ∀ v, v ∈ vs) {into : Bool} {s' : SG n}
    (j : PropJ g1 into s') {a b : Fin (n + 1)} {w : Int} (hab : a ≠ b)
    (h0 : if into then b = 0 else a = 0) (hw : ∀ x, s'.g.sat x → x b - x a ≤ w) :
    ∃ p2, repairPotential vs (updEdge s'.g a w b) s'.pot a b = some p2 ∧
      PropJ g1 into ⟨updEdge s'.g a w b, p2⟩ := by
  have hsat : (updEdge s'.g a w b).sat s'.pot := by
    rw [updEdge_eq_relax, relax_sat]; exact ⟨j.pot, hw _ j.pot⟩
  obtain ⟨p2, hp2, hs2⟩ := repair_of_sat vs hvs s'.g s'.pot a b w hsat
  refine ⟨p2, hp2, hs2, ?_, fun x y hxy => ?_, ?_⟩
  · rw [updEdge_eq_relax]
    exact j.btw.relax (fun x hx => hw x (j.btw.sol x hx))
  · rw [edge_upd_old]
    · exact j.frame x y hxy
    · rintro ⟨rfl, rfl⟩
      cases into
      · exact hxy h0
      · exact hxy h0
  · rw [edge_upd_old _ _ _ _ (fun h => hab (h.1.symm.trans h.2))]
    exact j.loop0

/-- a propagation loop (`lbPropStep`, `ubPropStep`): every vertex `e ≠ 0` with an edge `p e → q e`
    of weight `ev` gets its bound edge `a e → b e` relaxed to `ev + k`, a value implied by the
    current graph (`hw`); all updates succeed -/
theorem prop_fold (vs : List (Fin (n + 1))) (hvs : ∀ x, x ∈ vs) {into : Bool} {k : Int}
    {step : Option (SG n) → Fin (n + 1) → Option (SG n)} {p q a b : Fin (n + 1) → Fin (n + 1)}
    (hstep : ∀ s' e, step (some s') e = if e = 0 then some s' else
      (edge s'.g (p e) (q e)).elim (some s') fun ev =>
        (repairPotential vs (updEdge s'.g (a e) (ev + k) (b e)) s'.pot (a e) (b e)).map
          (SG.mk (updEdge s'.g (a e) (ev + k) (b e))))
    (hab : ∀ e, e ≠ 0 → a e ≠ b e) (h0 : ∀ e, if into then b e = 0 else a e = 0)
    (hfr : ∀ e, if into then q e ≠ 0 else p e ≠ 0)
    (hw : ∀ e s', e ≠ 0 → PropJ g1 into s' → ∀ ev, edge s'.g (p e) (q e) = some ev →
      ∀ x, s'.g.sat x → x (b e) - x (a e) ≤ ev + k)
    (s0 : SG n) (hj : PropJ g1 into s0) :
    ∃ s', vs.foldl step (some s0) = some s' ∧ PropJ g1 into s' ∧
      ∀ e, e ≠ 0 → ∀ ev, edge g1 (p e) (q e) = some ev →
        W.LE (edge s'.g (a e) (b e)) (some (ev + k)) := by
  suffices hs : ∀ acc e, PropI g1 into acc → PropI g1 into (step acc e) ∧ OLe (step acc e) acc ∧
      ∀ s', step acc e = some s' → e ≠ 0 → ∀ ev, edge g1 (p e) (q e) = some ev →
        W.LE (edge s'.g (a e) (b e)) (some (ev + k)) by
    obtain ⟨⟨s', hs', j⟩, _, post⟩ := foldl_post step (PropI g1 into) OLe
      (fun e acc => ∀ s', acc = some s' → e ≠ 0 → ∀ ev, edge g1 (p e) (q e) = some ev →
        W.LE (edge s'.g (a e) (b e)) (some (ev + k))) OLe.refl OLe.trans hs
      (fun e s s' hp hle sa hsa he ev hev => by
        obtain ⟨sb, hsb, d⟩ := hle sa hsa
        exact W.LE_trans (d _ _) (hp sb hsb he ev hev))
      vs (some s0) ⟨s0, rfl, hj⟩
    exact ⟨s', hs', j, fun e he ev hev => post e (hvs e) s' hs' he ev hev⟩
  rintro _ e ⟨s', rfl, j⟩
  rw [hstep]
  by_cases he : e = 0
  · rw [if_pos he]
    exact ⟨⟨s', rfl, j⟩, OLe.refl _, fun _ _ h0 => absurd he h0⟩
  rw [if_neg he]
  have hfr' : edge s'.g (p e) (q e) = edge g1 (p e) (q e) := j.frame _ _ (hfr e)
  rcases hev : edge s'.g (p e) (q e) with _ | ev
  · refine ⟨⟨s', rfl, j⟩, OLe.refl _, fun s'' _ _ ev' hev' => ?_⟩
    rw [← hfr', hev] at hev'; cases hev'
  obtain ⟨p2, hp2, j2⟩ := j.update vs hvs (hab e he) (h0 e) (hw e s' he j ev hev)
  simp only [Option.elim, hp2, Option.map]
  refine ⟨⟨_, rfl, j2⟩, fun sa hsa => ?_, fun s'' hs'' _ ev' hev' => ?_⟩
  · cases hsa; exact ⟨s', rfl, upd_dec _ _ _ _⟩
  · cases hs''
    rw [← hfr', hev] at hev'; cases hev'
    rw [updEdge_eq_relax]; exact relax_le_val _ _ _ _

/-- the propagation after a new lower bound `v → 0` restores the split normal form -/
theorem lbProp_spec (vs : List (Fin (n + 1))) (hvs : ∀ x, x ∈ vs) {s : SG n} (hg : Good s)
    {v : Fin (n + 1)} (hv : v ≠ 0) {k : Int} (hk0 : ∀ w, edge s.g v 0 = some w → k ≤ w)
    {p1 : Fin (n + 1) → Int} (hv1 : VarNF (setEdge s.g v k 0)) (hp1 : (setEdge s.g v k 0).sat p1) :
    ∃ s', vs.foldl (lbPropStep vs v k) (some ⟨setEdge s.g v k 0, p1⟩) = some s' ∧ Good s' ∧
      ∀ x, s'.g.sat x ↔ (setEdge s.g v k 0).sat x := by
  have hk1 : edge (setEdge s.g v k 0) v 0 = some k := by rw [edge_setEdge]; simp
  have eold : ∀ a b, ¬ (a = v ∧ b = 0) → edge (setEdge s.g v k 0) a b = edge s.g a b := by
    intro a b h; rw [edge_setEdge]; simp [h]
  have h00 : edge (setEdge s.g v k 0) 0 0 = none := by
    rw [eold 0 0 (fun h => hv h.1.symm)]; exact hg.1.noLoop 0
  obtain ⟨s', hs', j, post⟩ := prop_fold vs hvs (g1 := setEdge s.g v k 0) (into := true) (k := k) (step := lbPropStep vs v k)
    (p := fun e => e) (q := fun _ => v) (a := fun e => e) (b := fun _ => 0)
    (fun s' e => by
      simp only [lbPropStep]; split
      · rfl
      · cases edge s'.g e v
        · rfl
        · simp only [Option.elim]; cases repairPotential vs _ s'.pot e 0 <;> rfl)
    (fun _ he => he)
    (fun _ => rfl) (fun _ => hv)
    (fun e s' _ j ev hev x hx => by
      obtain ⟨k', hk', _⟩ := j.btw.dec v 0 k hk1
      have := sat_edge hx hev; have := sat_edge hx hk'; omega)
    ⟨setEdge s.g v k 0, p1⟩ ⟨hp1, Btw.refl _, fun _ _ _ => rfl, h00⟩
  have hvr : VarNF s'.g := by
    apply varNF_of_bound_change hv1
    · intro a b _ hb; exact j.frame a b (by simpa using hb)
    · exact j.loop0
  refine ⟨s', hs', ⟨splitNF_of_bounds hg.1 (setEdge_eq_relax hk0) hp1 hvr j.btw
    (fun h => absurd rfl h) (fun _ a ha => ?_), j.pot⟩, j.btw.sat_iff⟩
  -- `a → 0` against `a → v → 0`
  rw [edge_zdiag_self, W.zero_add]
  by_cases hav : a = v
  · subst hav
    rw [edge_zdiag_self, W.add_zero]
    have h1 := j.btw.dec a 0; rwa [hk1] at h1
  rw [edge_zdiag_ne s.g hav]
  rcases hev : edge s.g a v with _ | ev
  · simp
  have := post a ha ev ((eold a v (fun h => hv h.2)).trans hev)
  exact W.LE_trans this (by simp; omega)

/-- the propagation after a new upper bound `0 → v` restores the split normal form -/
theorem ubProp_spec (vs : List (Fin (n + 1))) (hvs : ∀ x, x ∈ vs) {s : SG n} (hg : Good s)
    {v : Fin (n + 1)} (hv : v ≠ 0) {k : Int} (hk0 : ∀ w, edge s.g 0 v = some w → k ≤ w)
    {p1 : Fin (n + 1) → Int} (hv1 : VarNF (setEdge s.g 0 k v)) (hp1 : (setEdge s.g 0 k v).sat p1) :
    ∃ s', vs.foldl (ubPropStep vs v k) (some ⟨setEdge s.g 0 k v, p1⟩) = some s' ∧ Good s' ∧
      ∀ x, s'.g.sat x ↔ (setEdge s.g 0 k v).sat x := by
  have hk1 : edge (setEdge s.g 0 k v) 0 v = some k := by rw [edge_setEdge]; simp
  have eold : ∀ a b, ¬ (a = 0 ∧ b = v) → edge (setEdge s.g 0 k v) a b = edge s.g a b := by
    intro a b h; rw [edge_setEdge]; simp [h]
  have h00 : edge (setEdge s.g 0 k v) 0 0 = none := by
    rw [eold 0 0 (fun h => hv h.2.symm)]; exact hg.1.noLoop 0
  obtain ⟨s', hs', j, post⟩ := prop_fold vs hvs (g1 := setEdge s.g 0 k v) (into := false) (k := k) (step := ubPropStep vs v k)
    (p := fun _ => v) (q := fun e => e) (a := fun _ => 0) (b := fun e => e)
    (fun s' e => by
      simp only [ubPropStep]; split
      · rfl
      · cases edge s'.g v e
        · rfl
        · simp only [Option.elim]; cases repairPotential vs _ s'.pot 0 e <;> rfl)
    (fun _ he => Ne.symm he)
    (fun _ => rfl) (fun _ => hv)
    (fun e s' _ j ev hev x hx => by
      obtain ⟨k', hk', _⟩ := j.btw.dec 0 v k hk1
      have := sat_edge hx hev; have := sat_edge hx hk'; omega)
    ⟨setEdge s.g 0 k v, p1⟩ ⟨hp1, Btw.refl _, fun _ _ _ => rfl, h00⟩
  have hvr : VarNF s'.g := by
    apply varNF_of_bound_change hv1
    · intro a b ha _; exact j.frame a b (by simpa using ha)
    · exact j.loop0
  refine ⟨s', hs', ⟨splitNF_of_bounds hg.1 (setEdge_eq_relax hk0) hp1 hvr j.btw
    (fun _ d hd => ?_) (fun h => absurd rfl h), j.pot⟩, j.btw.sat_iff⟩
  -- `0 → d` against `0 → v → d`
  rw [edge_zdiag_self, W.add_zero]
  by_cases hdv : v = d
  · subst hdv
    rw [edge_zdiag_self, W.zero_add]
    have h1 := j.btw.dec 0 v; rwa [hk1] at h1
  rw [edge_zdiag_ne s.g hdv]
  rcases hev : edge s.g v d with _ | ev
  · simp
  have := post d hd ev ((eold v d (fun h => hv h.1)).trans hev)
  exact W.LE_trans this (by simp)


theorem addLb_spec (inl : Bool) (vs : List (Fin (n + 1))) (hvs : ∀ v, v ∈ vs) (s : SG n)
    (hm : Inside inl s) (v : Fin (n + 1)) (hv : v ≠ 0) (k : Int) :
    StepTo (Inside inl) (fun x => x 0 - x v ≤ k) s (addLb inl vs s v k) := by
  unfold addLb
  by_cases hg : W.le (edge s.g v 0) (some k) = true
  · rw [if_pos hg]
    exact StepTo.skip hm (fun x h => sat_of_le_edge h hg)
  rw [if_neg hg]
  dsimp only
  have hk0 := lt_of_not_le_edge hg
  have sb := setBound_spec vs hvs s hm.mid v 0 hv (Or.inr rfl) k hk0
  rcases hrp : repairPotential vs (setEdge s.g v k 0) s.pot v 0 with _ | p1
  · rw [hrp] at sb; exact sb
  rw [hrp] at sb
  obtain ⟨⟨hv1, hp1⟩, hsat1⟩ := sb
  cases inl
  · exact ⟨⟨hv1, hp1⟩, hsat1⟩
  · obtain ⟨s', hs', hg', he⟩ := lbProp_spec vs hvs hm hv hk0 hv1 hp1
    simp only [if_true, hs']
    exact ⟨hg', fun x => by rw [he, hsat1]⟩

theorem addUb_spec (inl : Bool) (vs : List (Fin (n + 1))) (hvs : ∀ v, v ∈ vs) (s : SG n)
    (hm : Inside inl s) (v : Fin (n + 1)) (hv : v ≠ 0) (k : Int) :
    StepTo (Inside inl) (fun x => x v - x 0 ≤ k) s (addUb inl vs s v k) := by
  unfold addUb
  by_cases hg : W.le (edge s.g 0 v) (some k) = true
  · rw [if_pos hg]
    exact StepTo.skip hm (fun x h => sat_of_le_edge h hg)
  rw [if_neg hg]
  dsimp only
  have hk0 := lt_of_not_le_edge hg
  have sb := setBound_spec vs hvs s hm.mid 0 v (fun e => hv e.symm) (Or.inl rfl) k hk0
  rcases hrp : repairPotential vs (setEdge s.g 0 k v) s.pot 0 v with _ | p1
  · rw [hrp] at sb; exact sb
  rw [hrp] at sb
  obtain ⟨⟨hv1, hp1⟩, hsat1⟩ := sb
  cases inl
  · exact ⟨⟨hv1, hp1⟩, hsat1⟩
  · obtain ⟨s', hs', hg', he⟩ := ubProp_spec vs hvs hm hv hk0 hv1 hp1
    simp only [if_true, hs']
    exact ⟨hg', fun x => by rw [he, hsat1]⟩

theorem addDiffEdge_spec (inl : Bool) (vs : List (Fin (n + 1))) (hvs : ∀ v, v ∈ vs)
    (s : SG n) (hm : Inside inl s) (src dest : Fin (n + 1)) (hs : src ≠ 0) (hd : dest ≠ 0)
    (hsd : src ≠ dest) (k : Int) :
    StepTo (Inside inl) (fun x => x dest - x src ≤ k) s (addDiffEdge inl vs s src dest k) := by
  unfold addDiffEdge
  by_cases hg : W.le (W.add (edge s.g src 0) (edge s.g 0 dest)) (some k) = true
  · rw [if_pos hg]
    refine StepTo.skip hm (fun x h => ?_)
    obtain ⟨w, hw, hwk⟩ := (W.le_iff _ _).1 hg k rfl
    obtain ⟨w1, w2, hw1, hw2, rfl⟩ := W.add_some_iff.1 hw
    have := sat_edge h hw1
    have := sat_edge h hw2
    omega
  rw [if_neg hg]
  dsimp only
  have hsat : ∀ v, (updEdge s.g src k dest).sat v ↔ (s.g.sat v ∧ v dest - v src ≤ k) := by
    intro v; rw [updEdge_eq_relax]; exact relax_sat _ _ _ _ _
  have hpv : PotValidExcept (updEdge s.g src k dest) s.pot src dest := by
    intro s' d' kk hkk hne
    rw [edge_upd_old _ _ _ _ hne] at hkk
    exact (sat_iff_pot _ _).1 hm.mid.2 s' d' kk hkk
  obtain ⟨c, hc, _, _⟩ := edge_upd_new s.g src dest k
  obtain ⟨r1, r2⟩ := repairPotential_spec vs hvs _ s.pot src dest c hc hpv
  rcases hrp : repairPotential vs (updEdge s.g src k dest) s.pot src dest with _ | p1
  · exact fun v hv hP => r2 hrp v ((hsat v).2 ⟨hv, hP⟩)
  have hp1 := r1 p1 hrp
  have hb := not_bottom_of_sat hp1
  -- (`dsimp only` reduces `{ g := _, pot := _ }.g`: left to unification this unfolds the loops)
  cases inl
  · have vr := closeOverEdge_var false vs hvs hm.1 hs hd hsd (w := k) hb
    refine ⟨⟨?_, ?_⟩, fun v => ?_⟩ <;> dsimp only
    · exact vr.varNF
    · exact (vr.btw.sat_iff p1).2 hp1
    · rw [vr.btw.sat_iff, hsat]
  · obtain ⟨h1, h2⟩ := closeOverEdge_full vs hvs hm.1 hs hd hsd (w := k) hb
    refine ⟨⟨?_, ?_⟩, fun v => ?_⟩ <;> dsimp only
    · exact h1
    · exact (h2 p1).2 hp1
    · rw [h2, hsat]

theorem closeBoundsEnd_spec (inl : Bool) (vs : List (Fin (n + 1))) (hvs : ∀ v, v ∈ vs) (s : SG n)
    (hm : Inside inl s) :
    Good (closeBoundsEnd inl vs s) ∧ ∀ v, (closeBoundsEnd inl vs s).g.sat v ↔ s.g.sat v := by
  unfold closeBoundsEnd
  cases inl
  · obtain ⟨h1, h2, _⟩ := closeAfterAssign_exact vs vs vs hvs hvs hvs hm.1 (not_bottom_of_sat hm.2)
    exact ⟨⟨h1, (h2 s.pot).2 hm.2⟩, h2⟩
  · exact ⟨hm, fun _ => Iff.rfl⟩

end DbmIncr
end Crab
