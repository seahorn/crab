import CrabProofs.Lemmas.PatriciaBits

/-! Well-formedness of big-endian patricia trees, `lookup` versus the key list,
    `make_node`, canonicity (two well-formed trees with the same bindings are equal),
    and how two well-formed nodes can lie relative to each other. -/
namespace Crab
namespace Patricia
open Tree

variable {V : Type}

/-- Well-formed trees.  `P` is the invariant of stored values (e.g. "not top").
    A node `(p, m)` has `m = 2^i`, a prefix with ones below `i` and zero at `i`, two
    non-empty well-formed children, every key of the left (right) child agrees with `p`
    above `i` and has bit `i` clear (set).  Keys are 64-bit. -/
def WF (P : V → Prop) : Tree V → Prop
  | .empty => True
  | .leaf k v => k < 2 ^ 64 ∧ P v
  | .node p m l r => ∃ i, i < 64 ∧ m = 2 ^ i ∧ p < 2 ^ 64 ∧ Aligned i p ∧ l ≠ .empty ∧ r ≠ .empty ∧
      WF P l ∧ WF P r ∧ (∀ k ∈ l.keys, InL i p k) ∧ (∀ k ∈ r.keys, InR i p k)

/-- number of low bits in which the keys of a tree may differ from its prefix: `i + 1` for a
    node with branching bit `2^i`, so that `t.bb' = lvlBit (lvl t)` (`bb'_eq`) -/
def lvl : Tree V → Nat
  | .node _ m _ _ => m.log2 + 1
  | _ => 0

@[simp] theorem keys_empty : (Tree.empty : Tree V).keys = [] := rfl
@[simp] theorem keys_leaf (k : Nat) (v : V) : (Tree.leaf k v).keys = [k] := rfl
@[simp] theorem keys_node (p m : Nat) (l r : Tree V) : (Tree.node p m l r).keys = l.keys ++ r.keys := by
  simp [Tree.keys, Tree.toList]
@[simp] theorem toList_empty : (Tree.empty : Tree V).toList = [] := rfl
@[simp] theorem toList_leaf (k : Nat) (v : V) : (Tree.leaf k v).toList = [(k, v)] := rfl
@[simp] theorem toList_node (p m : Nat) (l r : Tree V) : (Tree.node p m l r).toList = l.toList ++ r.toList := rfl
@[simp] theorem lookup_empty (k : Nat) : (Tree.empty : Tree V).lookup k = none := rfl
@[simp] theorem lookup_leaf (k k' : Nat) (v : V) : (Tree.leaf k v).lookup k' = if k = k' then some v else none := rfl
@[simp] theorem lookup_node (p m : Nat) (l r : Tree V) (k : Nat) :
    (Tree.node p m l r).lookup k = if k ≤ p then l.lookup k else r.lookup k := rfl

@[simp] theorem WF_empty (P : V → Prop) : WF P (.empty : Tree V) := trivial
theorem WF_leaf {P : V → Prop} {k : Nat} {v : V} : WF P (.leaf k v) ↔ (k < 2 ^ 64 ∧ P v) := Iff.rfl

theorem WF.mono {P Q : V → Prop} {t : Tree V} (hw : WF P t) (h : ∀ v, P v → Q v) : WF Q t := by
  induction t with
  | empty => trivial
  | leaf k v => exact ⟨hw.1, h v hw.2⟩
  | node p m l r ihl ihr =>
    obtain ⟨i, h1, h2, h3, h4, h5, h6, wl, wr, h7⟩ := hw
    exact ⟨i, h1, h2, h3, h4, h5, h6, ihl wl, ihr wr, h7⟩

theorem mem_keys_iff_toList {t : Tree V} {k : Nat} : k ∈ t.keys ↔ ∃ v, (k, v) ∈ t.toList := by
  simp [Tree.keys]

theorem mem_toList_of_lookup {t : Tree V} {k : Nat} {v : V} (h : t.lookup k = some v) : (k, v) ∈ t.toList := by
  induction t with
  | empty => simp at h
  | leaf k' v' =>
    simp at h; obtain ⟨rfl, rfl⟩ := h; simp
  | node p m l r ihl ihr =>
    simp at h
    split at h
    · simp [ihl h]
    · simp [ihr h]

theorem mem_keys_of_lookup {t : Tree V} {k : Nat} {v : V} (h : t.lookup k = some v) : k ∈ t.keys :=
  mem_keys_iff_toList.mpr ⟨v, mem_toList_of_lookup h⟩

theorem lookup_none_of_not_mem {t : Tree V} {k : Nat} (h : k ∉ t.keys) : t.lookup k = none := by
  cases hl : t.lookup k with
  | none => rfl
  | some v => exact absurd (mem_keys_of_lookup hl) h

section
variable {P : V → Prop}

theorem WF.node_inv {p m : Nat} {l r : Tree V} (h : WF P (.node p m l r)) :
    ∃ i, i < 64 ∧ m = 2 ^ i ∧ p < 2 ^ 64 ∧ Aligned i p ∧ l ≠ .empty ∧ r ≠ .empty ∧
      WF P l ∧ WF P r ∧ (∀ k ∈ l.keys, InL i p k) ∧ (∀ k ∈ r.keys, InR i p k) := h

theorem WF.node_pow {p i : Nat} {l r : Tree V} :
    WF P (.node p (2 ^ i) l r) ↔ i < 64 ∧ p < 2 ^ 64 ∧ Aligned i p ∧ l ≠ .empty ∧ r ≠ .empty ∧
      WF P l ∧ WF P r ∧ (∀ k ∈ l.keys, InL i p k) ∧ (∀ k ∈ r.keys, InR i p k) := by
  constructor
  · rintro ⟨j, hj, he, h⟩
    cases (Nat.pow_right_inj (by decide)).mp he
    exact ⟨hj, h⟩
  · exact fun h => ⟨i, h.1, rfl, h.2⟩

section
variable {p m i : Nat} {l r : Tree V}

theorem WF.bb_pow (h : WF P (.node p m l r)) : ∃ i, m = 2 ^ i := by
  obtain ⟨i, _, he, _⟩ := h; exact ⟨i, he⟩

theorem WF.ne_left (h : WF P (.node p m l r)) : l ≠ .empty := by
  obtain ⟨_, _, _, _, _, hl, _⟩ := h; exact hl

theorem WF.ne_right (h : WF P (.node p m l r)) : r ≠ .empty := by
  obtain ⟨_, _, _, _, _, _, hr, _⟩ := h; exact hr

theorem WF.left (h : WF P (.node p m l r)) : WF P l := by
  obtain ⟨_, _, _, _, _, _, _, hl, _⟩ := h; exact hl

theorem WF.right (h : WF P (.node p m l r)) : WF P r := by
  obtain ⟨_, _, _, _, _, _, _, _, hr, _⟩ := h; exact hr

theorem WF.bit_lt (h : WF P (.node p (2 ^ i) l r)) : i < 64 := (WF.node_pow.mp h).1

theorem WF.aligned (h : WF P (.node p (2 ^ i) l r)) : Aligned i p := (WF.node_pow.mp h).2.2.1

theorem WF.keysL (h : WF P (.node p (2 ^ i) l r)) : ∀ k ∈ l.keys, InL i p k :=
  (WF.node_pow.mp h).2.2.2.2.2.2.2.1

theorem WF.keysR (h : WF P (.node p (2 ^ i) l r)) : ∀ k ∈ r.keys, InR i p k :=
  (WF.node_pow.mp h).2.2.2.2.2.2.2.2

end

@[simp] theorem lvl_node_pow (p i : Nat) (l r : Tree V) : lvl (.node p (2 ^ i) l r) = i + 1 := by
  simp [lvl, Nat.log2_two_pow]

theorem WF.left_le {p m : Nat} {l r : Tree V} (h : WF P (.node p m l r)) : ∀ k ∈ l.keys, k ≤ p := by
  obtain ⟨i, rfl⟩ := h.bb_pow
  exact fun k hk => le_of_InL h.aligned (h.keysL k hk)

theorem WF.right_gt {p m : Nat} {l r : Tree V} (h : WF P (.node p m l r)) : ∀ k ∈ r.keys, p < k := by
  obtain ⟨i, rfl⟩ := h.bb_pow
  exact fun k hk => lt_of_InR h.aligned (h.keysR k hk)

theorem lookup_of_mem_toList {t : Tree V} (h : WF P t) {k : Nat} {v : V} (hm : (k, v) ∈ t.toList) :
    t.lookup k = some v := by
  induction t with
  | empty => simp at hm
  | leaf k' v' => simp at hm; obtain ⟨rfl, rfl⟩ := hm; simp
  | node p m l r ihl ihr =>
    simp at hm
    rcases hm with hm | hm
    · have : k ≤ p := h.left_le k (mem_keys_iff_toList.mpr ⟨v, hm⟩)
      simp [this, ihl h.left hm]
    · have : p < k := h.right_gt k (mem_keys_iff_toList.mpr ⟨v, hm⟩)
      have h' : ¬ k ≤ p := by omega
      simp [h', ihr h.right hm]

theorem mem_toList_iff_lookup {t : Tree V} (h : WF P t) {k : Nat} {v : V} :
    (k, v) ∈ t.toList ↔ t.lookup k = some v :=
  ⟨lookup_of_mem_toList h, mem_toList_of_lookup⟩

theorem mem_keys_iff_lookup {t : Tree V} (h : WF P t) {k : Nat} : k ∈ t.keys ↔ ∃ v, t.lookup k = some v := by
  rw [mem_keys_iff_toList]
  constructor
  · rintro ⟨v, hv⟩; exact ⟨v, lookup_of_mem_toList h hv⟩
  · rintro ⟨v, hv⟩; exact ⟨v, mem_toList_of_lookup hv⟩

theorem WF.binding {t : Tree V} (h : WF P t) {k : Nat} {v : V} (hm : (k, v) ∈ t.toList) : k < 2 ^ 64 ∧ P v := by
  induction t with
  | empty => simp at hm
  | leaf k' v' => simp at hm; obtain ⟨rfl, rfl⟩ := hm; exact h
  | node p m l r ihl ihr =>
    simp at hm
    exact hm.elim (ihl h.left) (ihr h.right)

theorem WF.key_lt {t : Tree V} (h : WF P t) {k : Nat} (hk : k ∈ t.keys) : k < 2 ^ 64 := by
  obtain ⟨v, hv⟩ := mem_keys_iff_toList.mp hk
  exact (h.binding hv).1

theorem WF.val_of_mem {t : Tree V} (h : WF P t) {k : Nat} {v : V} (hm : (k, v) ∈ t.toList) : P v :=
  (h.binding hm).2

theorem WF.val_of_lookup {t : Tree V} (h : WF P t) {k : Nat} {v : V} (hl : t.lookup k = some v) : P v :=
  h.val_of_mem (mem_toList_of_lookup hl)

theorem WF.exists_key {t : Tree V} (h : WF P t) (hne : t ≠ .empty) : ∃ k, k ∈ t.keys := by
  induction t with
  | empty => exact absurd rfl hne
  | leaf k v => exact ⟨k, by simp⟩
  | node p m l r ihl _ =>
    obtain ⟨k, hk⟩ := ihl h.left h.ne_left
    exact ⟨k, by simp [hk]⟩

theorem WF.agree_pfx {t : Tree V} (h : WF P t) {k : Nat} (hk : k ∈ t.keys) :
    ∀ b, lvl t ≤ b → k.testBit b = t.pfx'.testBit b := by
  cases t with
  | empty => simp at hk
  | leaf k' v' => simp at hk; subst hk; intro b _; rfl
  | node p m l r =>
    obtain ⟨i, rfl⟩ := h.bb_pow
    intro b hb
    simp at hb hk
    rcases hk with hk | hk
    · exact (h.keysL k hk).1 b (by omega)
    · exact (h.keysR k hk).1 b (by omega)

theorem WF.pfx_lt {t : Tree V} (h : WF P t) : t.pfx' < 2 ^ 64 := by
  cases t with
  | empty => simp [Tree.pfx']
  | leaf k v => exact h.1
  | node p m l r => obtain ⟨i, _, _, hp, _⟩ := h; exact hp

theorem lvl_le64 {t : Tree V} (h : WF P t) : lvl t ≤ 64 := by
  cases t with
  | empty => simp [lvl]
  | leaf k v => simp [lvl]
  | node p m l r =>
    obtain ⟨i, hi, rfl, _⟩ := h
    simp; omega

theorem mkNode_of_ne {p m : Nat} {l r : Tree V} (hl : l ≠ .empty) (hr : r ≠ .empty) :
    mkNode p m l r = .node p m l r := by
  cases l <;> cases r <;> simp_all [mkNode]

@[simp] theorem mkNode_empty_left (p m : Nat) (r : Tree V) : mkNode p m .empty r = r := by
  cases r <;> rfl
@[simp] theorem mkNode_empty_right (p m : Nat) (l : Tree V) : mkNode p m l .empty = l := by
  cases l <;> rfl

theorem toList_mkNode (p m : Nat) (l r : Tree V) : (mkNode p m l r).toList = l.toList ++ r.toList := by
  cases l <;> cases r <;> simp [mkNode]

theorem keys_mkNode (p m : Nat) (l r : Tree V) : (mkNode p m l r).keys = l.keys ++ r.keys := by
  rw [Tree.keys, toList_mkNode, List.map_append]; rfl

theorem WF_mkNode {i p : Nat} {l r : Tree V} (hi : i < 64) (hp : p < 2 ^ 64) (ha : Aligned i p)
    (hl : WF P l) (hr : WF P r) (hkl : ∀ k ∈ l.keys, InL i p k) (hkr : ∀ k ∈ r.keys, InR i p k) :
    WF P (mkNode p (2 ^ i) l r) := by
  by_cases h1 : l = .empty
  · subst h1; simpa using hr
  · by_cases h2 : r = .empty
    · subst h2; simpa using hl
    · rw [mkNode_of_ne h1 h2]
      exact ⟨i, hi, rfl, hp, ha, h1, h2, hl, hr, hkl, hkr⟩

theorem lookup_mkNode {p m : Nat} {l r : Tree V} (hkl : ∀ k ∈ l.keys, k ≤ p) (hkr : ∀ k ∈ r.keys, p < k)
    (k : Nat) : (mkNode p m l r).lookup k = if k ≤ p then l.lookup k else r.lookup k := by
  by_cases h1 : l = .empty
  · subst h1
    simp
    intro h
    apply lookup_none_of_not_mem
    intro hk; have := hkr k hk; omega
  · by_cases h2 : r = .empty
    · subst h2
      simp
      intro h
      apply lookup_none_of_not_mem
      intro hk; have := hkl k hk; omega
    · rw [mkNode_of_ne h1 h2]; rfl

theorem ne_empty_of_mem_keys {t : Tree V} {k : Nat} (h : k ∈ t.keys) : t ≠ .empty := by
  intro he; subst he; simp at h

theorem WF.exists_binding {t : Tree V} (h : WF P t) (hne : t ≠ .empty) : ∃ k v, t.lookup k = some v := by
  obtain ⟨k, hk⟩ := h.exists_key hne
  obtain ⟨v, hv⟩ := (mem_keys_iff_lookup h).mp hk
  exact ⟨k, v, hv⟩

theorem WF.node_keys {p m : Nat} {l r : Tree V} (h : WF P (.node p m l r)) :
    (∃ k, k ∈ l.keys) ∧ (∃ k, k ∈ r.keys) :=
  ⟨h.left.exists_key h.ne_left, h.right.exists_key h.ne_right⟩

theorem WF.exists_other_key {p m : Nat} {l r : Tree V} (h : WF P (.node p m l r)) (ks : Nat) :
    ∃ k y, k ≠ ks ∧ (Tree.node p m l r).lookup k = some y := by
  obtain ⟨⟨k1, hk1⟩, ⟨k2, hk2⟩⟩ := h.node_keys
  have h1 := h.left_le k1 hk1
  have h2 := h.right_gt k2 hk2
  obtain ⟨v1, hv1⟩ := (mem_keys_iff_lookup h).mp (show k1 ∈ (Tree.node p m l r).keys by simp [hk1])
  obtain ⟨v2, hv2⟩ := (mem_keys_iff_lookup h).mp (show k2 ∈ (Tree.node p m l r).keys by simp [hk2])
  by_cases e : k1 = ks
  · exact ⟨k2, v2, by omega, hv2⟩
  · exact ⟨k1, v1, e, hv1⟩

theorem WF.node_agree {p i : Nat} {l r : Tree V} (h : WF P (.node p (2 ^ i) l r)) :
    ∀ k ∈ (Tree.node p (2 ^ i) l r).keys, AgreeAbove i k p := by
  intro k hk b hb
  exact h.agree_pfx hk b (by simp; omega)

/-- keys that all agree above bit `j` cannot be split by a higher branching bit -/
theorem WF.bit_le_of_agree {p i : Nat} {l r : Tree V} (h : WF P (.node p (2 ^ i) l r)) {j q : Nat}
    (hag : ∀ k ∈ (Tree.node p (2 ^ i) l r).keys, AgreeAbove j k q) : i ≤ j := by
  apply Nat.le_of_not_lt
  intro hlt
  obtain ⟨⟨a1, ha1⟩, ⟨a2, ha2⟩⟩ := h.node_keys
  have f1 := (h.keysL a1 ha1).2
  have f2 := (h.keysR a2 ha2).2
  rw [hag a1 (by simp [ha1]) i hlt] at f1
  rw [hag a2 (by simp [ha2]) i hlt, f1] at f2
  cases f2

/-- **Canonicity**: two well-formed trees with the same bindings are structurally equal. -/
theorem WF.ext {s t : Tree V} (hs : WF P s) (ht : WF P t) (h : ∀ k, s.lookup k = t.lookup k) : s = t := by
  -- an empty tree, a leaf and a node differ in the number of keys they bind
  have empty_ne : ∀ {t : Tree V}, WF P t → t ≠ .empty → ¬ ∀ k, (Tree.empty : Tree V).lookup k = t.lookup k := by
    intro t ht hne h
    obtain ⟨k, v, hv⟩ := ht.exists_binding hne
    have := h k; rw [hv] at this; cases this
  have leaf_ne : ∀ {ks : Nat} {vs : V} {q n : Nat} {tl tr : Tree V}, WF P (.node q n tl tr) →
      ¬ ∀ k, (Tree.leaf ks vs).lookup k = (Tree.node q n tl tr).lookup k := by
    intro ks vs q n tl tr ht h
    obtain ⟨k, y, hk, hy⟩ := ht.exists_other_key ks
    have := h k; rw [hy, lookup_leaf, if_neg (Ne.symm hk)] at this; cases this
  induction s generalizing t with
  | empty =>
    cases t with
    | empty => rfl
    | _ => exact absurd h (empty_ne ht (by simp))
  | leaf ks vs =>
    cases t with
    | empty => exact absurd (fun k => (h k).symm) (empty_ne hs (by simp))
    | leaf kt vt =>
      have := h ks; simp at this
      obtain ⟨rfl, rfl⟩ := this; rfl
    | node q n tl tr => exact absurd h (leaf_ne ht)
  | node p m sl sr ihl ihr =>
    cases t with
    | empty => exact absurd (fun k => (h k).symm) (empty_ne hs (by simp))
    | leaf kt vt => exact absurd (fun k => (h k).symm) (leaf_ne hs)
    | node q n tl tr =>
      have hkeys : ∀ k, k ∈ (Tree.node p m sl sr).keys ↔ k ∈ (Tree.node q n tl tr).keys := by
        intro k
        rw [mem_keys_iff_lookup hs, mem_keys_iff_lookup ht, h k]
      obtain ⟨i, rfl⟩ := hs.bb_pow
      obtain ⟨j, rfl⟩ := ht.bb_pow
      -- same key set: same branching bit, then same prefix
      have hij : i = j := Nat.le_antisymm
        (hs.bit_le_of_agree (fun k hk => ht.node_agree k ((hkeys k).mp hk)))
        (ht.bit_le_of_agree (fun k hk => hs.node_agree k ((hkeys k).mpr hk)))
      subst hij
      obtain ⟨a, ha⟩ := hs.left.exists_key hs.ne_left
      have ma : a ∈ (Tree.node p (2 ^ i) sl sr).keys := by simp [ha]
      have hpq : p = q :=
        aligned_eq hs.aligned ht.aligned ((hs.node_agree a ma).symm.trans (ht.node_agree a ((hkeys a).mp ma)))
      subst hpq
      have hl : sl = tl := by
        apply ihl hs.left ht.left
        intro k
        by_cases hk : k ≤ p
        · have := h k; simpa [hk] using this
        · rw [lookup_none_of_not_mem (fun hm => hk (hs.left_le k hm)),
            lookup_none_of_not_mem (fun hm => hk (ht.left_le k hm))]
      have hr : sr = tr := by
        apply ihr hs.right ht.right
        intro k
        by_cases hk : k ≤ p
        · rw [lookup_none_of_not_mem (fun hm => Nat.not_le.mpr (hs.right_gt k hm) hk),
            lookup_none_of_not_mem (fun hm => Nat.not_le.mpr (ht.right_gt k hm) hk)]
        · have := h k; simpa [hk] using this
      rw [hl, hr]

/-! ### two nodes side by side

`merge` and `compare` walk down two trees at once.  On two nodes they test, in this order: same
branching bit and prefix; `t` below one half of `s`; `s` below one half of `t`; otherwise the
key sets are disjoint.  `Split` is what every case provides: both trees cut at the same node. -/

/-- `t` consists of `a`, whose keys lie in the left half of the node `(p, 2^i)`, and of `b`,
    whose keys lie in its right half -/
structure Split (i p : Nat) (t a b : Tree V) : Prop where
  left : ∀ k ∈ a.keys, InL i p k
  right : ∀ k ∈ b.keys, InR i p k
  lookup : ∀ k, t.lookup k = if k ≤ p then a.lookup k else b.lookup k

theorem Split.node {i p : Nat} {l r : Tree V} (h : WF P (.node p (2 ^ i) l r)) :
    Split i p (.node p (2 ^ i) l r) l r :=
  ⟨h.keysL, h.keysR, fun _ => rfl⟩

theorem Split.inL {i p : Nat} {t : Tree V} (ha : Aligned i p) (h : ∀ k ∈ t.keys, InL i p k) :
    Split i p t t .empty :=
  ⟨h, by simp, fun k => by
    split
    · rfl
    · rename_i hk; exact lookup_none_of_not_mem (fun hm => hk (le_of_InL ha (h k hm)))⟩

theorem Split.inR {i p : Nat} {t : Tree V} (ha : Aligned i p) (h : ∀ k ∈ t.keys, InR i p k) :
    Split i p t .empty t :=
  ⟨by simp, h, fun k => by
    split
    · rename_i hk; exact lookup_none_of_not_mem (fun hm => Nat.not_le.mpr (lt_of_InR ha (h k hm)) hk)
    · rfl⟩

theorem Split.mkNode {i p m : Nat} {a b : Tree V} (ha : Aligned i p) (hl : ∀ k ∈ a.keys, InL i p k)
    (hr : ∀ k ∈ b.keys, InR i p k) : Split i p (mkNode p m a b) a b :=
  ⟨hl, hr, lookup_mkNode (fun k hk => le_of_InL ha (hl k hk)) (fun k hk => lt_of_InR ha (hr k hk))⟩

theorem Split.left_none {i p : Nat} {t a b : Tree V} (h : Split i p t a b) (ha : Aligned i p) {k : Nat}
    (hk : ¬ k ≤ p) : a.lookup k = none :=
  lookup_none_of_not_mem (fun hm => hk (le_of_InL ha (h.left k hm)))

theorem Split.right_none {i p : Nat} {t a b : Tree V} (h : Split i p t a b) (ha : Aligned i p) {k : Nat}
    (hk : k ≤ p) : b.lookup k = none :=
  lookup_none_of_not_mem (fun hm => Nat.not_le.mpr (lt_of_InR ha (h.right k hm)) hk)

theorem Split.lookup_or {i p : Nat} {t a b : Tree V} (h : Split i p t a b) (ha : Aligned i p) (k : Nat) :
    t.lookup k = (a.lookup k).or (b.lookup k) ∧ t.lookup k = (b.lookup k).or (a.lookup k) := by
  rw [h.lookup]
  split
  · rename_i hk; rw [h.right_none ha hk]; simp
  · rename_i hk; rw [h.left_none ha hk]; simp

/-- the test `s->branching_bit() > t->branching_bit() && match_prefix(t->prefix(), s->prefix(),
    s->branching_bit())`: `t` lies in one half of `s`, `zero_bit` tells which -/
theorem WF.node_inside {p m q n : Nat} {sl sr tl tr : Tree V} (hs : WF P (.node p m sl sr))
    (ht : WF P (.node q n tl tr)) (h : m > n ∧ matchPrefix q p m = true) :
    ∃ i, m = 2 ^ i ∧ Aligned i p ∧
      if zeroBit q m = true then Split i p (.node q n tl tr) (.node q n tl tr) .empty
      else Split i p (.node q n tl tr) .empty (.node q n tl tr) := by
  obtain ⟨i, rfl⟩ := hs.bb_pow
  obtain ⟨j, rfl⟩ := ht.bb_pow
  have hi := hs.bit_lt
  have hap := hs.aligned
  have hji : j < i := (Nat.pow_lt_pow_iff_right (by decide)).mp h.1
  have hag := (matchPrefix_iff hi ht.pfx_lt hap).mp h.2
  have hk : ∀ k ∈ (Tree.node q (2 ^ j) tl tr).keys, AgreeAbove i k p ∧ k.testBit i = q.testBit i := fun k hk =>
    have := ht.node_agree k hk
    ⟨(this.mono (Nat.le_of_lt hji)).trans hag, this i hji⟩
  refine ⟨i, rfl, hap, ?_⟩
  rw [zeroBit_two_pow]
  cases hb : q.testBit i
  · exact Split.inL hap (fun k hm => ⟨(hk k hm).1, (hk k hm).2.trans hb⟩)
  · exact Split.inR hap (fun k hm => ⟨(hk k hm).1, (hk k hm).2.trans hb⟩)

theorem WF.node_inside_left {p m q n : Nat} {sl sr tl tr : Tree V} (hs : WF P (.node p m sl sr))
    (ht : WF P (.node q n tl tr)) (h : m > n ∧ matchPrefix q p m = true) (hz : zeroBit q m = true) :
    ∃ i, m = 2 ^ i ∧ Aligned i p ∧ Split i p (.node q n tl tr) (.node q n tl tr) .empty := by
  obtain ⟨i, hm, ha, hsp⟩ := hs.node_inside ht h
  exact ⟨i, hm, ha, by rwa [if_pos hz] at hsp⟩

theorem WF.node_inside_right {p m q n : Nat} {sl sr tl tr : Tree V} (hs : WF P (.node p m sl sr))
    (ht : WF P (.node q n tl tr)) (h : m > n ∧ matchPrefix q p m = true) (hz : ¬ zeroBit q m = true) :
    ∃ i, m = 2 ^ i ∧ Aligned i p ∧ Split i p (.node q n tl tr) .empty (.node q n tl tr) := by
  obtain ⟨i, hm, ha, hsp⟩ := hs.node_inside ht h
  exact ⟨i, hm, ha, by rwa [if_neg hz] at hsp⟩

/-- when the three tests fail the prefixes differ above both branching bits (what `join` needs),
    so no key is bound in both nodes -/
theorem WF.node_apart {p m q n : Nat} {sl sr tl tr : Tree V} (hs : WF P (.node p m sl sr))
    (ht : WF P (.node q n tl tr)) (h1 : ¬ (m = n ∧ p = q)) (h2 : ¬ (m > n ∧ matchPrefix q p m = true))
    (h3 : ¬ (m < n ∧ matchPrefix p q n = true)) :
    (∃ b, max (lvl (Tree.node p m sl sr)) (lvl (Tree.node q n tl tr)) ≤ b ∧ p.testBit b ≠ q.testBit b) ∧
      ∀ k, k ∈ (Tree.node p m sl sr).keys → k ∉ (Tree.node q n tl tr).keys := by
  obtain ⟨i, rfl⟩ := hs.bb_pow
  obtain ⟨j, rfl⟩ := ht.bb_pow
  have hi := hs.bit_lt; have hp := hs.pfx_lt; have hap := hs.aligned
  have hj := ht.bit_lt; have hq := ht.pfx_lt; have haq := ht.aligned
  have pow_lt : ∀ {a b : Nat}, a < b → 2 ^ a < 2 ^ b := fun h => (Nat.pow_lt_pow_iff_right (by decide)).mpr h
  have hbit : ∃ b, max (i + 1) (j + 1) ≤ b ∧ p.testBit b ≠ q.testBit b := by
    rcases Nat.lt_trichotomy i j with hlt | heq | hgt
    · obtain ⟨b, hb, hne⟩ := exists_bit_of_not_agree
        (fun h => h3 ⟨pow_lt hlt, (matchPrefix_iff hj hp haq).mpr h⟩)
      exact ⟨b, by omega, hne⟩
    · subst heq
      obtain ⟨b, hb, hne⟩ := exists_bit_of_not_agree (fun h => h1 ⟨rfl, aligned_eq hap haq h⟩)
      exact ⟨b, by omega, hne⟩
    · obtain ⟨b, hb, hne⟩ := exists_bit_of_not_agree
        (fun h => h2 ⟨pow_lt hgt, (matchPrefix_iff hi hq hap).mpr h⟩)
      exact ⟨b, by omega, fun h => hne h.symm⟩
  refine ⟨by rw [lvl_node_pow, lvl_node_pow]; exact hbit, fun k k1 k2 => ?_⟩
  obtain ⟨b, hb, hne⟩ := hbit
  exact hne ((hs.node_agree k k1 b (by omega)).symm.trans (ht.node_agree k k2 b (by omega)))

theorem WF.keys_sorted {t : Tree V} (h : WF P t) : t.keys.Pairwise (· < ·) := by
  induction t with
  | empty => simp
  | leaf k v => simp
  | node p m l r ihl ihr =>
    rw [keys_node, List.pairwise_append]
    refine ⟨ihl h.left, ihr h.right, ?_⟩
    intro a ha b hb
    have := h.left_le a ha; have := h.right_gt b hb; omega

theorem WF.keys_nodup {t : Tree V} (h : WF P t) : t.keys.Nodup :=
  h.keys_sorted.imp (fun hab => Nat.ne_of_lt hab)

theorem size_eq_length (t : Tree V) : t.size = t.toList.length := by
  induction t with
  | empty => rfl
  | leaf k v => rfl
  | node p m l r ihl ihr => simp [Tree.size, ihl, ihr]

theorem WF.eq_empty_of_size {t : Tree V} (h : WF P t) (hs : t.size = 0) : t = .empty := by
  apply Classical.byContradiction
  intro hne
  obtain ⟨k, hk⟩ := h.exists_key hne
  obtain ⟨v, hv⟩ := mem_keys_iff_toList.mp hk
  have := List.length_pos_of_mem hv
  rw [size_eq_length] at hs
  omega

end

end Patricia
end Crab
