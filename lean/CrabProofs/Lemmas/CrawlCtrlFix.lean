import CrabProofs.Lemmas.CrawlCtrlReach

/-!
  The fixpoint computed by the model of the REPAIRED crawler (`crawl CrawlVariant.fixed`, any
  control-dependence graph, any block order that covers the blocks) satisfies the control
  inequations `isCtrlSol`.
-/
namespace Crab
namespace TIR

theorem xferStmt_has (v : CrawlVariant) (g : Cdg) (preds : List Label) (l : Label) (k : Nat) (s : Stmt)
    (X : XState) (hs : s.isUnreachable = false) (a : AId) (h : X.facts.has a = true) :
    (xferStmt v g preds l k s X).facts.has a = true := by
  rcases xferStmt_cases v g preds l k s X with ⟨c, rfl⟩ | rfl | ⟨_, f, hf, _⟩
  · rw [xferStmt_assert]
    split
    · split
      · simp [Facts.has_set, h]
      · exact h
    · simp [Facts.has_set, h]
  · cases hs
  · rw [hf]
    simpa only [Facts.has_mapVals] using h

theorem noUnreach_cons (s : Stmt) (r : List Stmt) :
    noUnreach (s :: r) = true ↔ s.isUnreachable = false ∧ noUnreach r = true := by
  simp [noUnreach]

theorem xferFrom_has (v : CrawlVariant) (g : Cdg) (preds : List Label) (l : Label) (a : AId) :
    ∀ (ss : List Stmt) (k : Nat) (X : XState), noUnreach ss = true → X.facts.has a = true →
      (xferFrom v g preds l k ss X).facts.has a = true := by
  intro ss
  induction ss with
  | nil => intro k X _ h; simpa [xferFrom] using h
  | cons s r ih =>
    intro k X hn h
    obtain ⟨h1, h2⟩ := (noUnreach_cons s r).mp hn
    simp only [xferFrom]
    exact xferStmt_has v g preds l k s _ h1 a (ih (k + 1) X h2 h)

/-- the repaired `process_assertion` always (re)generates the entry of the assertion -/
theorem xferFrom_gen_has (v : CrawlVariant) (hv : v.stmtFromOut = true) (g : Cdg) (preds : List Label) (l : Label) :
    ∀ (ss : List Stmt) (k : Nat) (X : XState) (j : Nat) (c : Cst), ss[j]? = some (.assert c) →
      noUnreach (ss.take j) = true → (xferFrom v g preds l k ss X).facts.has (l, k + j) = true := by
  intro ss
  induction ss with
  | nil => intro k X j c h; simp at h
  | cons s r ih =>
    intro k X j c hj hn
    simp only [xferFrom]
    cases j with
    | zero =>
      simp only [List.getElem?_cons_zero, Option.some.injEq] at hj
      subst hj
      simp only [xferStmt, hv, if_true, Nat.add_zero]
      split <;> simp [Facts.has_set]
    | succ j' =>
      simp only [List.getElem?_cons_succ] at hj
      simp only [List.take_succ_cons] at hn
      obtain ⟨h1, h2⟩ := (noUnreach_cons s _).mp hn
      have := ih (k + 1) X j' c hj h2
      have he : k + 1 + j' = k + (j' + 1) := by omega
      rw [he] at this
      exact xferStmt_has v g preds l k s _ h1 _ this

/-- the variables of the leading `assume`s of a statement list -/
def guardVarsOf (ss : List Stmt) : VarSet :=
  (ss.takeWhile (fun s => s.assumeCst.isSome)).flatMap (fun s =>
    match s.assumeCst with
    | some c => c.vars
    | none => [])

theorem guardVars_eq (P : Prog) (l : Label) : guardVars P l = guardVarsOf (P.stmtsOf l) := rfl

theorem guardVarsOf_cons (s : Stmt) (r : List Stmt) :
    guardVarsOf (s :: r) = match s.assumeCst with | some c => c.vars ++ guardVarsOf r | none => [] := by
  cases h : s.assumeCst <;> simp [guardVarsOf, h]

theorem assumeCst_some {s : Stmt} {c : Cst} (h : s.assumeCst = some c) : s = .assume c := by
  cases s <;> simp only [Stmt.assumeCst, Option.some.injEq, reduceCtorEq] at h
  rw [h]

theorem foldl_ctrl_add (g : Cdg) (test : List Label → Bool) (us : VarSet) (p0 : Label) (K : List Label)
    (hK : g.lookup p0 = some K) (ht : test K = true) :
    ∀ (preds : List Label), p0 ∈ preds → ∀ (d : VarSet) (y : Var), y ∈ us →
      y ∈ preds.foldl (fun d p =>
        match g.lookup p with
        | some children => if test children then d ++ us else d
        | none => d) d := by
  intro preds
  induction preds with
  | nil => intro h; cases h
  | cons p r ih =>
    intro hp d y hy
    simp only [List.foldl_cons]
    by_cases hpp : p = p0
    · subst hpp
      apply foldl_ctrl_sup
      simp only [hK, ht, if_true]
      exact List.mem_append.mpr (Or.inr hy)
    · exact ih ((List.mem_cons.mp hp).resolve_left (fun e => hpp e.symm)) _ y hy

theorem assumeStep_ctrl (v : CrawlVariant) (hv : v.ownBlock = true) (g : Cdg) (preds : List Label) (l d : Label)
    (c : Cst) (a : AId) (D : VarSet) (hd : d ∈ preds) (hc : ctrlCond g d l a = true) :
    ∀ y, y ∈ c.vars → y ∈ assumeStep v g preds l c a D := by
  intro y hy
  unfold ctrlCond at hc
  cases hK : g.lookup d with
  | none => rw [hK] at hc; cases hc
  | some K =>
    rw [hK] at hc
    simp only at hc
    have hne : g.isEmpty = false := by
      cases g with
      | nil => simp [List.lookup] at hK
      | cons _ _ => rfl
    unfold assumeStep
    simp only [hne, Bool.false_eq_true, if_false]
    exact foldl_ctrl_add g (fun children => (v.ownBlock && children.contains l) || g.reaches children a.1)
      c.vars d K hK (by simpa [hv] using hc) preds hd _ y hy

/-- `analyze` of the repaired code: an assertion that has an entry at the entry of the block
    lists the variables of the leading `assume`s when `add_control_deps` fires -/
theorem xferFrom_ctrl (v : CrawlVariant) (hv : v.ownBlock = true) (g : Cdg) (preds : List Label) (l d : Label)
    (a : AId) (hd : d ∈ preds) (hc' : ctrlCond g d l a = true) :
    ∀ (ss : List Stmt) (k : Nat) (X : XState), (xferFrom v g preds l k ss X).facts.has a = true →
      ∀ y, y ∈ guardVarsOf ss → y ∈ (xferFrom v g preds l k ss X).facts.get a := by
  intro ss
  induction ss with
  | nil => intro k X _ y hy; simp [guardVarsOf] at hy
  | cons s r ih =>
    intro k X hh y hy
    rw [guardVarsOf_cons] at hy
    cases hc : s.assumeCst with
    | none => rw [hc] at hy; cases hy
    | some c =>
      rw [hc] at hy
      obtain rfl := assumeCst_some hc
      simp only [xferFrom, xferStmt, Facts.has_mapVals] at hh ⊢
      rw [Facts.get_mapVals, hh]
      simp only [if_true]
      rcases List.mem_append.mp hy with hy | hy
      · exact assumeStep_ctrl v hv g preds l d c a _ hd hc' y hy
      · apply assumeStep_sup
        exact mem_addDataDeps_of_mem (ih (k + 1) X hh y hy) List.not_mem_nil

/-! ### the fixpoint of the repaired crawler solves the control inequations -/

theorem crawl_isCtrlSol (P : Prog) (g : Cdg) (order : List Label) (M : InMap) (hnd : P.labels.Nodup)
    (hord : ∀ l, l ∈ P.labels → l ∈ order) (h : crawl CrawlVariant.fixed P g order = some M) :
    isCtrlSol P g M.get = true := by
  -- the invariant of the control part, and stability of every block at the end
  obtain ⟨⟨_, hinv⟩, hstab⟩ := crawlIter_fix CrawlVariant.fixed P g
    (fun m _ => ∀ l a d, d ∈ P.predsOf l → (m.get l).has a = true → ctrlCond g d l a = true →
      ∀ y, y ∈ guardVars P l → y ∈ (m.get l).get a)
    (by
      intro m reg n hI l a d hd hh hc y hy
      cases hleq : (blockX CrawlVariant.fixed P g m reg n).facts.leq (m.get n) with
      | true =>
        simp only [stepMap, hleq, if_true] at hh ⊢
        exact hI l a d hd hh hc y hy
      | false =>
        simp only [stepMap, hleq, Bool.false_eq_true, if_false, InMap.get_set] at hh ⊢
        split at hh
        · rename_i hl
          subst hl
          rw [if_pos rfl]
          rw [Facts.mem_get_join]
          exact ((Facts.has_join _ _ a).mp hh).imp
            (fun h1 => xferFrom_ctrl CrawlVariant.fixed rfl g (P.predsOf l) l d a hd hc (P.stmtsOf l) 0 _ h1 y
              (guardVars_eq P l ▸ hy))
            (fun h1 => hI l a d hd h1 hc y hy)
        · rename_i hl
          rw [if_neg hl]
          exact hI l a d hd hh hc y hy)
    order (crawlFuel P) [] [] M (fun l a d _ hh => by simp [InMap.get, Facts.has, List.lookup] at hh) h
  simp only [isCtrlSol, Bool.and_eq_true, List.all_eq_true, Bool.or_eq_true, Bool.not_eq_eq_eq_not, Bool.not_true]
  refine ⟨⟨?_, ?_⟩, ?_⟩
  · intro ac hac
    by_cases hn : noUnreach ((P.stmtsOf ac.1.1).take ac.1.2) = true
    · right
      obtain ⟨reg', _, hleq⟩ := hstab ac.1.1 (hord _ (asserts_label hac))
      have := xferFrom_gen_has CrawlVariant.fixed rfl g (P.predsOf ac.1.1) ac.1.1 (P.stmtsOf ac.1.1) 0
        ⟨outFacts P M ac.1.1, reg'⟩ ac.1.2 ac.2 (asserts_stmt hnd hac) hn
      simp only [Nat.zero_add] at this
      exact Facts.leq_has hleq ac.1 this
    · left; simpa using hn
  · intro l hl
    by_cases hn : noUnreach (P.stmtsOf l) = true
    · right
      intro l' hl' ac _
      by_cases hh : (M.get l').has ac.1 = true
      · right
        obtain ⟨reg', _, hleq⟩ := hstab l (hord l hl)
        exact Facts.leq_has hleq ac.1
          (xferFrom_has CrawlVariant.fixed g (P.predsOf l) l ac.1 (P.stmtsOf l) 0 _ hn ((outFacts_has P M l ac.1).mpr ⟨l', hl', hh⟩))
      · left; simpa using hh
    · left; simpa using hn
  · intro l _ d hd ac _
    by_cases hh : ((M.get l).has ac.1 && ctrlCond g d l ac.1) = true
    · right
      simp only [Bool.and_eq_true] at hh
      exact VarSet.subset_iff.mpr (hinv l ac.1 d hd hh.1 hh.2)
    · left; simpa using hh

end TIR
end Crab
