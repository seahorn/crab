import CrabModel.Scalar.Constant

/-! Helper lemmas about `Crab.Cst` (model of `crab::domains::constant<z_number>`). -/
namespace Crab
namespace Cst

theorem eq_of_mem {k : Int} {c : Cst} (h : mem k c) : c = top ∨ c = val k := by
  cases c with
  | bot => exact h.elim
  | top => exact Or.inl rfl
  | val n => exact Or.inr (congrArg val (Eq.symm h))

/-- the shape shared by the binary operations: top unless both operands are constants -/
theorem mem_lift {op : Cst → Cst → Cst} {x y : Cst} {a b v : Int} (ha : mem a x)
    (hb : mem b y) (h1 : op top y = top) (h2 : op (val a) top = top)
    (h3 : mem v (op (val a) (val b))) : mem v (op x y) := by
  rcases eq_of_mem ha with rfl | rfl
  · rw [h1]; trivial
  · rcases eq_of_mem hb with rfl | rfl
    · rw [h2]; trivial
    · exact h3

end Cst
end Crab
