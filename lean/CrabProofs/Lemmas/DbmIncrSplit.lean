import CrabModel.Dom.DbmIncr
import CrabProofs.Lemmas.DbmIncrClosure

/-!
  The split normal form of `split_dbm_domain` (`SplitNF`), its variable-only part (`VarNF`), and
  the reading `fullOf` of a graph in split normal form:

  * `SplitNF.closed_fullOf`: the reading of a graph in split normal form is a closed matrix;
  * `SplitNF.close_eq`: a graph in split normal form with the solutions of `m` reads as the
    Floyd–Warshall closure of `m`.
-/
namespace Crab
namespace DbmIncr
open Dbm Zones

variable {n : Nat}

/-- invariant of `close_over_edge` alone (`zones.close_bounds_inline = false`: the loop of
    `add_linear_leq` over the difference constraints runs while the bounds are not yet
    re-closed): no self loop, and the edges among the VARIABLES are closed (zero vertex excluded)
    and close no negative cycle -/
structure VarNF (g : Zone n) : Prop where
  noLoop : NoSelfLoop g
  vars : Mat.Closed (varPart g)

/-- THE SPLIT NORMAL FORM that every operation of `split_dbm_domain` restores (`// Always
    maintained in normal form, except for widening`): no self loop, and the stored graph (with the
    trivial zero diagonal) satisfies the triangle inequality THROUGH EVERY VARIABLE vertex `k ≠ 0`:

    * `i, j` variables: the edges among the variables are closed, no negative cycle among them;
    * `j = 0` / `i = 0`: the bounds are closed (`x ≤ u` and `y - x ≤ k` stored ⇒ `y ≤ u + k` stored
      at least as tight; same for lower bounds);
    * `i = j = 0`: `lb(x) ≤ ub(x)`.

    The triangle inequality through the zero vertex is NOT required: the difference constraint
    `x - y ≤ ub(x) - lb(y)` implied by two bounds need not be stored (and is not), it is re-derived
    by every reader (`fullOf`). -/
structure SplitNF (g : Zone n) : Prop where
  noLoop : NoSelfLoop g
  tri : Mat.TriOn (fun k => k ≠ 0) (zdiag g)

@[simp] theorem zdiag_get (g : Zone n) (i j : Fin (n + 1)) :
    (zdiag g).get i j = if i = j then some 0 else g.get i j := by simp [zdiag]

@[simp] theorem varPart_get (g : Zone n) (i j : Fin (n + 1)) :
    (varPart g).get i j = if i = j then some 0 else if i = 0 ∨ j = 0 then none else g.get i j := by
  simp [varPart]

@[simp] theorem fullOf_get (g : Zone n) (i j : Fin (n + 1)) :
    (fullOf g).get i j = if i = j then some 0 else splitW g i j := by simp [fullOf]

theorem edge_fullOf_self (g : Zone n) (a : Fin (n + 1)) : edge (fullOf g) a a = some 0 := by
  simp [edge]

theorem edge_fullOf_out (g : Zone n) {d : Fin (n + 1)} (hd : d ≠ 0) :
    edge (fullOf g) 0 d = edge g 0 d := by
  simp [edge, splitW, hd]

theorem edge_fullOf_in (g : Zone n) {s : Fin (n + 1)} (hs : s ≠ 0) :
    edge (fullOf g) s 0 = edge g s 0 := by
  simp [edge, splitW, Ne.symm hs]

theorem edge_fullOf_var (g : Zone n) {s d : Fin (n + 1)} (hs : s ≠ 0) (hd : d ≠ 0) (hsd : s ≠ d) :
    edge (fullOf g) s d = W.min (edge g s d) (W.add (edge g 0 d) (edge g s 0)) := by
  simp [edge, splitW, hs, hd, Ne.symm hsd]

theorem edge_zdiag_self (g : Zone n) (a : Fin (n + 1)) : edge (zdiag g) a a = some 0 := by
  simp [edge]

theorem edge_zdiag_ne (g : Zone n) {a b : Fin (n + 1)} (h : a ≠ b) : edge (zdiag g) a b = edge g a b := by
  simp [edge, Ne.symm h]

theorem sat_zdiag {g : Zone n} {v : Fin (n + 1) → Int} (h : g.sat v) : (zdiag g).sat v := by
  intro i j k hk
  simp only [zdiag_get] at hk
  split at hk
  · rename_i e; cases hk; subst e; omega
  · exact h i j k hk

/-- the reading of an edge at the zero vertex is the stored edge -/
theorem edge_fullOf_zero_left (g : Zone n) (a : Fin (n + 1)) :
    edge (fullOf g) 0 a = edge (zdiag g) 0 a := by
  by_cases h : a = 0
  · subst h; rw [edge_fullOf_self, edge_zdiag_self]
  · rw [edge_fullOf_out g h, edge_zdiag_ne g (Ne.symm h)]

theorem edge_fullOf_zero_right (g : Zone n) (a : Fin (n + 1)) :
    edge (fullOf g) a 0 = edge (zdiag g) a 0 := by
  by_cases h : a = 0
  · subst h; rw [edge_fullOf_self, edge_zdiag_self]
  · rw [edge_fullOf_in g h, edge_zdiag_ne g h]

/-- in split normal form the reading is one Floyd–Warshall round through the zero vertex -/
theorem SplitNF.fullOf_eq_fwStep {g : Zone n} (h : SplitNF g) (i j : Fin (n + 1)) :
    (fullOf g).get i j = (Mat.fwStep (zdiag g) 0).get i j := by
  simp only [fullOf_get, Mat.fwStep, Mat.get_ofFn, zdiag_get, splitW]
  by_cases hij : i = j
  · subst hij
    simp only [if_true]
    by_cases hi : i = 0
    · subst hi; simp
    · have t := h.tri 0 0 i hi
      simp only [zdiag_get, if_true] at t
      have e1 : (0 : Fin (n + 1)) ≠ i := fun e => hi e.symm
      simp only [e1, hi, if_false] at t ⊢
      rcases hx : g.get i 0 with _ | x <;> rcases hy : g.get 0 i with _ | y <;> simp
      rw [hx, hy] at t; simp at t; omega
  · simp only [hij, if_false]
    by_cases hi : i = 0
    · subst hi
      have : (0 : Fin (n + 1)) ≠ j := hij
      simp [this]
      rcases g.get 0 j with _ | y <;> simp
    · by_cases hj : j = 0
      · subst hj
        simp [hi]
        rcases g.get i 0 with _ | y <;> simp
      · have e1 : (0 : Fin (n + 1)) ≠ j := fun e => hj e.symm
        simp [hi, hj, e1]

theorem SplitNF.closed_fullOf {g : Zone n} (h : SplitNF g) : Mat.Closed (fullOf g) := by
  have hk : ∀ x, (zdiag g).get 0 0 = some x → 0 ≤ x := by
    intro x hx; simp at hx; omega
  have t := Mat.fwStep_TriOn (P := fun k => k ≠ 0) (m := zdiag g) 0 h.tri hk
  constructor
  · intro i; simp
  · intro i j k
    rw [h.fullOf_eq_fwStep, h.fullOf_eq_fwStep, h.fullOf_eq_fwStep]
    apply t i j k
    by_cases hk0 : k = 0
    · exact Or.inr hk0
    · exact Or.inl hk0

theorem fullOf_LE (g : Zone n) (hl : NoSelfLoop g) : Mat.LE (fullOf g) g := by
  intro i j
  simp only [fullOf_get]
  by_cases hij : i = j
  · subst hij; rw [hl i]; exact W.LE_none _
  · simp only [hij, if_false, splitW]
    split
    · exact W.LE_refl _
    · exact W.min_LE_left _ _

theorem fullOf_sat {g : Zone n} (hl : NoSelfLoop g) (v : Fin (n + 1) → Int) :
    (fullOf g).sat v ↔ g.sat v := by
  constructor
  · exact Mat.sat_of_LE (fullOf_LE g hl)
  · intro h i j k hk
    simp only [fullOf_get] at hk
    by_cases hij : i = j
    · subst hij; simp at hk; omega
    · simp only [hij, if_false] at hk
      exact splitW_sound h hk

theorem not_bottom_of_sat {g : Zone n} {v : Fin (n + 1) → Int} (h : g.sat v) : isBottom g = false := by
  cases hb : isBottom g with
  | false => rfl
  | true => exact absurd ((Mat.fw_sat g v).2 h) (Mat.not_sat_of_hasNegDiag hb v)

theorem SplitNF.close_eq {g m : Zone n} (h : SplitNF g) (hs : ∀ v, g.sat v ↔ m.sat v) :
    close m = fullOf g :=
  h.closed_fullOf.fw_eq (fun v => by rw [fullOf_sat h.noLoop, hs])

/-- the bound edges are stored as the closure has them -/
theorem SplitNF.bounds_eq_close {g m : Zone n} (h : SplitNF g) (hs : ∀ v, g.sat v ↔ m.sat v)
    {x : Fin (n + 1)} (hx : x ≠ 0) :
    edge g 0 x = edge (close m) 0 x ∧ edge g x 0 = edge (close m) x 0 := by
  rw [h.close_eq hs, edge_fullOf_out g hx, edge_fullOf_in g hx]
  exact ⟨rfl, rfl⟩

theorem SplitNF.varNF {g : Zone n} (h : SplitNF g) : VarNF g := by
  refine ⟨h.noLoop, ⟨fun i => by simp, ?_⟩⟩
  intro i j k
  simp only [varPart_get]
  by_cases hk : k = 0
  · subst hk
    by_cases hi : i = 0
    · subst hi
      simp only [if_true, true_or]
      rw [W.zero_add]
      exact W.LE_refl _
    · have e : (if i = 0 then some (0 : Int) else if i = 0 ∨ (0 : Fin (n + 1)) = 0 then none else g.get i 0) = none := by
        simp [hi]
      rw [e, W.add_none_left]
      exact W.LE_none _
  · have t := h.tri i j k hk
    simp only [zdiag_get] at t
    by_cases hi : i = 0
    · subst hi
      have e1 : (0 : Fin (n + 1)) ≠ k := fun e => hk e.symm
      by_cases hj : j = 0
      · subst hj; simp [e1, hk]
      · have e2 : (0 : Fin (n + 1)) ≠ j := fun e => hj e.symm
        simp [e1, e2]
    · by_cases hj : j = 0
      · subst hj
        simp [hi, hk]
      · simp only [hi, hj, hk, false_or, if_false]
        exact t

theorem VarNF.tri_edge {g : Zone n} (hv : VarNF g) {a k b : Fin (n + 1)} (ha : a ≠ 0) (hk : k ≠ 0)
    (hb : b ≠ 0) (hab : a ≠ b) : W.LE (edge g a b) (W.add (edge g a k) (edge g k b)) := by
  have t := hv.vars.tri b a k
  have e : ¬ (b = a) := fun e => hab e.symm
  simp only [varPart_get, ha, hk, hb, or_false, if_false, e] at t
  by_cases hak : k = a
  · subst hak; rw [show edge g k k = none from hv.noLoop k]; simp
  by_cases hkb : b = k
  · subst hkb; rw [show edge g b b = none from hv.noLoop b]; simp
  simp only [hak, hkb, if_false] at t
  rw [W.add_comm] at t
  exact t

theorem VarNF.cyc_edge {g : Zone n} (hv : VarNF g) {a b : Fin (n + 1)} (ha : a ≠ 0) (hb : b ≠ 0)
    {x y : Int} (hx : edge g a b = some x) (hy : edge g b a = some y) : 0 ≤ x + y := by
  have t := hv.vars.tri a a b
  by_cases hab : a = b
  · subst hab; rw [show edge g a a = none from hv.noLoop a] at hx; cases hx
  have hba : ¬ (b = a) := fun e => hab e.symm
  simp only [varPart_get, ha, hb, or_false, if_false, hab, hba, if_true] at t
  simp only [edge] at hx hy
  rw [hx, hy] at t
  simp at t; omega

end DbmIncr
end Crab
