import CrabProofs.Lemmas.IDomEnv
import CrabProofs.Lemmas.IntervalWiden

/-!
  The widening of the interval domain satisfies the chain condition: a widening step with an
  argument that is not below the current value strictly decreases a well-founded measure
  (bottom flag, then the number of bindings plus the number of their finite bounds).  Widening
  only keeps keys of its left argument, so no bound on the set of variables is needed.
-/
namespace Crab
namespace IDom
open Lin

theorem widen_measure_le (x y : Itv) : Itv.wmeasure (Itv.widen x y) ≤ Itv.wmeasure x := by
  by_cases h : Itv.leq y x = false
  · exact Nat.le_of_lt (Itv.widen_measure h)
  · -- `y` is below `x`: the widening is `y` (when `x` is bottom) or `x`
    rw [Bool.not_eq_false] at h
    unfold Itv.widen
    by_cases hx : x.isBottom = true
    · rw [if_pos hx]
      have e : Itv.wmeasure x = 3 := by unfold Itv.wmeasure; rw [if_pos hx]
      rw [e]; exact Itv.wmeasure_le_three y
    · rw [if_neg hx]
      by_cases hy : y.isBottom = true
      · rw [if_pos hy]; exact Nat.le_refl _
      · rw [if_neg hy]
        unfold Itv.leq at h
        rw [if_neg hy, if_neg hx, Bool.and_eq_true] at h
        have e1 : ¬ Bound.lt y.lb x.lb = true := by rw [Bound.lt_iff, h.1]; decide
        have e2 : ¬ Bound.lt x.ub y.ub = true := by rw [Bound.lt_iff, h.2]; decide
        rw [if_neg e1, if_neg e2]
        have : Itv.mk' x.lb x.ub = x := by
          unfold Itv.mk'; exact if_neg hx
        rw [this]; exact Nat.le_refl _

namespace Map

/-- one plus the number of finite bounds, summed over the bindings -/
def wsum (m : Map) : Nat := (m.map (fun p => 1 + Itv.wmeasure p.2)).sum

/-- the contribution of a binding of the left argument to the result of the widening -/
def wcontrib (b : Map) (p : Var × Itv) : Nat :=
  match find b p.1 with
  | some w => if (Itv.widen p.2 w).isTop then 0 else 1 + Itv.wmeasure (Itv.widen p.2 w)
  | none => 0

theorem wsum_mergeAbs (a b : Map) : wsum (mergeAbs Itv.widen a b) = (a.map (wcontrib b)).sum := by
  induction a with
  | nil => rfl
  | cons p rest ih =>
    unfold mergeAbs wsum at ih ⊢
    simp only [List.filterMap_cons, List.map_cons, List.sum_cons, wcontrib]
    cases hf : find b p.1 with
    | none => simp only []; rw [ih]; omega
    | some w =>
      simp only []
      by_cases ht : (Itv.widen p.2 w).isTop = true
      · simp only [ht, if_true]; rw [ih]; omega
      · simp only [ht]; simp only [Bool.false_eq_true, if_false, List.map_cons, List.sum_cons]; rw [ih]

theorem wcontrib_le (b : Map) (p : Var × Itv) : wcontrib b p ≤ 1 + Itv.wmeasure p.2 := by
  unfold wcontrib
  split
  · split
    · omega
    · have := widen_measure_le p.2 ‹Itv›; omega
  · omega

theorem _root_.Crab.sum_map_le {α : Type} (f g : α → Nat) : ∀ (l : List α), (∀ p ∈ l, g p ≤ f p) →
    (l.map g).sum ≤ (l.map f).sum := by
  intro l
  induction l with
  | nil => intro _; exact Nat.le_refl _
  | cons q rest ih =>
    intro hle
    simp only [List.map_cons, List.sum_cons]
    exact Nat.add_le_add (hle q List.mem_cons_self) (ih fun p hp => hle p (List.mem_cons_of_mem _ hp))

theorem _root_.Crab.sum_map_lt {α : Type} (f g : α → Nat) : ∀ (l : List α), (∀ p ∈ l, g p ≤ f p) →
    (∃ p ∈ l, g p < f p) → (l.map g).sum < (l.map f).sum := by
  intro l
  induction l with
  | nil => intro _ ⟨p, hp, _⟩; cases hp
  | cons q rest ih =>
    intro hle ⟨p, hp, hlt⟩
    simp only [List.map_cons, List.sum_cons]
    have hq := hle q List.mem_cons_self
    have hrest := Crab.sum_map_le f g rest fun p hp => hle p (List.mem_cons_of_mem _ hp)
    rcases List.mem_cons.1 hp with h | h
    · subst h; omega
    · have := ih (fun p hp => hle p (List.mem_cons_of_mem _ hp)) ⟨p, h, hlt⟩
      omega

theorem wsum_widen_lt {a b : Map} (h : leq b a = false) : wsum (mergeAbs Itv.widen a b) < wsum a := by
  rw [wsum_mergeAbs]
  unfold wsum
  apply Crab.sum_map_lt _ _ a (fun p _ => wcontrib_le b p)
  unfold leq at h
  rw [List.all_eq_false] at h
  obtain ⟨p, hp, hx⟩ := h
  refine ⟨p, hp, ?_⟩
  unfold wcontrib
  cases hf : find b p.1 with
  | none => simp only []; omega
  | some w =>
    simp only [hf, Bool.not_eq_true] at hx
    simp only []
    split
    · omega
    · have := Itv.widen_measure hx; omega

end Map

namespace Env

def wmeas (e : Env) : Nat × Nat := (if e.bottom then 1 else 0, Map.wsum e.m)

theorem widen_wmeas_lt {x y : Env} (h : leq y x = false) :
    Prod.Lex (· < ·) (· < ·) (wmeas (widen x y)) (wmeas x) := by
  unfold leq at h
  cases hy : y.bottom with
  | true => simp [hy] at h
  | false =>
    simp only [hy, Bool.false_eq_true, if_false] at h
    cases hx : x.bottom with
    | true =>
      have : widen x y = y := by simp [widen, upperWith, hx]
      rw [this]
      unfold wmeas
      rw [hx, hy]
      exact Prod.Lex.left _ _ (by decide)
    | false =>
      simp only [hx, Bool.false_eq_true, if_false] at h
      have : widen x y = ⟨false, Map.mergeAbs Itv.widen x.m y.m⟩ := by simp [widen, upperWith, hx, hy]
      rw [this]
      unfold wmeas
      simp only [hx, Bool.false_eq_true, if_false]
      exact Prod.Lex.right _ (Map.wsum_widen_lt h)

/-- **chain condition**: strict widening steps cannot be chained forever -/
theorem widen_wf : WellFounded (fun x' x : Env => ∃ y, leq y x = false ∧ x' = widen x y) := by
  apply Subrelation.wf (r := InvImage (Prod.Lex (· < ·) (· < ·)) wmeas)
  · intro x' x ⟨y, hy, e⟩
    subst e
    exact widen_wmeas_lt hy
  · exact InvImage.wf wmeas (Prod.lex Nat.lt_wfRel Nat.lt_wfRel).wf

end Env
end IDom
end Crab
