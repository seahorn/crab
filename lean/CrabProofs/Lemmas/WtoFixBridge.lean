import CrabProofs.Lemmas.WtoCheck
import CrabProofs.Lemmas.FixSoundStruct

/-!
  Bridge from the C07 specification (`Crab.Wto.WtoWF`, decided by `checkWto`) to the
  well-formedness the fixpoint-iterator theorems assume (`Crab.Fix.WtoWF`, over `Crab.Fix.Comp`).
-/
namespace Crab
namespace Wto

mutual
/-- the same ordering as a term of the iterator model -/
def toComp : WtoC → Fix.Comp
  | .vertex v => .vertex v
  | .cycle h body => .cycle h (toCompL body)
def toCompL : List WtoC → List Fix.Comp
  | [] => []
  | c :: cs => toComp c :: toCompL cs
end

mutual
theorem nodes_toComp : ∀ (c : WtoC), (toComp c).nodes = flattenC c
  | .vertex v => by simp [toComp, Fix.Comp.nodes, flattenC]
  | .cycle h body => by simp [toComp, Fix.Comp.nodes, flattenC, nodesList_toCompL body]
theorem nodesList_toCompL : ∀ (l : List WtoC), Fix.nodesList (toCompL l) = flattenL l
  | [] => by simp [toCompL, Fix.nodesList, flattenL]
  | c :: cs => by simp [toCompL, Fix.nodesList, flattenL, nodes_toComp c, nodesList_toCompL cs]
end

/-- the test that decides whether `headsOf` enters a cycle -/
theorem enters_iff (n h : Nat) (body : List WtoC) :
    (h == n || Fix.memberList n (toCompL body)) = true ↔ n ∈ flattenC (.cycle h body) := by
  rw [← nodes_toComp]
  exact Fix.Sound.Comp.member_iff n (toComp (.cycle h body))

theorem headsOf_nil_of_not_mem (n : Nat) (c : WtoC) (hn : n ∉ flattenC c) : (toComp c).headsOf n = [] :=
  List.eq_nil_iff_forall_not_mem.2 fun x hx =>
    hn (nodes_toComp c ▸ (Fix.Sound.Comp.headsOf_sub n x _ hx).2)

theorem headsOfList_nil_of_not_mem (n : Nat) (l : List WtoC) (hn : n ∉ flattenL l) :
    Fix.headsOfList n (toCompL l) = [] :=
  List.eq_nil_iff_forall_not_mem.2 fun x hx =>
    hn (nodesList_toCompL l ▸ (Fix.Sound.headsOfList_sub n x _ hx).2)

theorem headsOf_sub_headsOfList (n : Nat) {c : WtoC} : ∀ {l : List WtoC}, c ∈ l →
    ∀ x ∈ (toComp c).headsOf n, x ∈ Fix.headsOfList n (toCompL l)
  | [], hm, _, _ => by cases hm
  | d :: ds, hm, x, hx => by
    simp only [toCompL, Fix.headsOfList, List.mem_append]
    rcases List.mem_cons.1 hm with rfl | hm
    · exact Or.inl hx
    · exact Or.inr (headsOf_sub_headsOfList n hm x hx)

theorem head_mem_headsOfList {p h : Nat} {l : List WtoC} (hh : HeadIn l h p) :
    h ∈ Fix.headsOfList p (toCompL l) := by
  obtain ⟨body, hs, hp⟩ := hh
  generalize hc : WtoC.cycle h body = c at hs
  induction hs with
  | here hm =>
    subst hc
    apply headsOf_sub_headsOfList p hm
    simp only [toComp, Fix.Comp.headsOf]
    rw [if_pos ((enters_iff p h body).2 hp)]
    simp
  | @inside h' body' _ hm hsub ih =>
    apply headsOf_sub_headsOfList p hm
    have hp' : p ∈ flattenC (.cycle h' body') :=
      List.mem_cons_of_mem _ (flatten_of_sub hsub p (hc ▸ hp))
    simp only [toComp, Fix.Comp.headsOf]
    rw [if_pos ((enters_iff p h' body').2 hp')]
    exact List.mem_cons_of_mem _ ih

mutual
theorem encl_headsOfC (n : Nat) : ∀ (c : WtoC), (flattenC c).Nodup → n ∈ flattenC c →
    Encl [c] n (((toComp c).headsOf n).filter (· != n))
  | .vertex v, _, hn => by
    have : n = v := by simpa [flattenC] using hn
    subst this
    simp only [toComp, Fix.Comp.headsOf, List.filter_nil]
    exact Encl.vertex (List.mem_singleton.2 rfl)
  | .cycle h body, hnd, hn => by
    simp only [toComp, Fix.Comp.headsOf]
    rw [if_pos ((enters_iff n h body).2 hn)]
    simp only [flattenC, List.nodup_cons] at hnd
    by_cases hh : h = n
    · subst hh
      rw [headsOfList_nil_of_not_mem h body hnd.1]
      simp only [List.filter_cons, bne_self_eq_false, Bool.false_eq_true, if_false, List.filter_nil]
      exact Encl.head (body := body) (List.mem_singleton.2 rfl)
    · have hnb : n ∈ flattenL body := by
        rcases List.mem_cons.1 hn with h1 | h1
        · exact absurd h1.symm hh
        · exact h1
      have hb : (h != n) = true := by simpa using hh
      simp only [List.filter_cons, hb, if_true]
      exact Encl.inner (List.mem_singleton.2 rfl) (encl_headsOfL n body hnd.2 hnb)
theorem encl_headsOfL (n : Nat) : ∀ (l : List WtoC), (flattenL l).Nodup → n ∈ flattenL l →
    Encl l n ((Fix.headsOfList n (toCompL l)).filter (· != n))
  | [], _, hn => by simp [flattenL] at hn
  | c :: cs, hnd, hn => by
    simp only [flattenL, List.nodup_append] at hnd
    simp only [toCompL, Fix.headsOfList]
    by_cases hc : n ∈ flattenC c
    · have hcs : n ∉ flattenL cs := fun h2 => hnd.2.2 n hc n h2 rfl
      rw [headsOfList_nil_of_not_mem n cs hcs, List.append_nil]
      exact (encl_headsOfC n c hnd.1 hc).mono (by intro d hd; simp at hd; simp [hd])
    · have hcs : n ∈ flattenL cs := by
        simp only [flattenL, List.mem_append] at hn
        rcases hn with h1 | h1
        · exact absurd h1 hc
        · exact h1
      rw [headsOf_nil_of_not_mem n c hc, List.nil_append]
      exact (encl_headsOfL n cs hnd.2.1 hcs).mono (fun d hd => List.mem_cons_of_mem _ hd)
end

/-- a well-formed ordering in the sense of C07 is well-formed in the sense the fixpoint iterator
    theorems (C01 / C05 / C06) assume, for every context that reads its predecessor lists, start
    block and nesting table off the same graph -/
theorem fix_wtowf_of_wtowf {A : Type} {g : Graph} {e : Nat} {w : List WtoC}
    {nest : Nat → Option (List Nat)} (h : WtoWF g e w nest) (c : Fix.Ctx A)
    (hpreds : ∀ p n, p ∈ c.preds n → n ∈ g.succ p) (hentry : c.entry = e)
    (hnest : c.nesting = nest) : Fix.WtoWF c (toCompL w) := by
  have hnl := nodesList_toCompL w
  refine ⟨by rw [hnl]; exact h.nodup, ?_, ?_, ?_, ?_, ?_⟩
  · intro p n hp hpm
    rw [hnl] at hpm ⊢
    exact (h.nodes n).2 (Reach.step ((h.nodes p).1 hpm) (hpreds p n hp))
  · intro p n hp hpm _
    rw [hnl] at hpm
    rcases h.edges p n ((h.nodes p).1 hpm) (hpreds p n hp) with hb | hh
    · left
      simp only [Fix.pos, hnl]
      exact idxOf_lt_of_before h.nodup hb
    · exact Or.inr (head_mem_headsOfList hh)
  · rw [hnl, hentry]; exact (h.nodes e).2 Reach.refl
  · intro n hn
    rw [hnl] at hn
    rw [hnest]
    exact h.nest_some n _ (encl_headsOfL n w h.nodup hn)
  · intro n hn
    rw [hnl] at hn
    rw [hnest]
    exact h.nest_none n hn

end Wto
end Crab
