import CrabModel.Inter.TopDownRun
import CrabProofs.Lemmas.InterSolve

/-!
  C09, whole top-down analysis — semantic notions: reachable configurations of the call-stack
  machine, the *true* call relation `TrueCR` (the call records of reachable configurations), what it
  means for a (pre, post) pair to be a valid summary (`FactValid`), and the decomposition invariant
  of `InterSim.lean` for the true call relation (`inv_reach`).
-/
namespace Crab.Inter

variable {p : IProg}

/-- configurations of the executions from `main` -/
inductive Reach (p : IProg) (ch : Choices) : Config → Prop
  | init : Reach p ch (initConfig p ch)
  | step {c : Config} : Reach p ch c → c.status = .running → Reach p ch (step p ch c)

theorem Reach.runFrom {ch : Choices} : ∀ (fuel : Nat) (c : Config), Reach p ch c → Reach p ch (runFrom p ch fuel c)
  | 0, _, h => h
  | fuel + 1, c, h => by
    unfold Crab.Inter.runFrom
    split
    · rename_i hs
      exact Reach.runFrom fuel _ (Reach.step h hs)
    · exact h

theorem reach_run (ch : Choices) (fuel : Nat) : Reach p ch (run p ch fuel) :=
  Reach.runFrom fuel _ Reach.init

/-- the calls that happen: `(callee, inputs, outputs)` is a call record of an execution -/
def TrueCR (p : IProg) : CallRel :=
  fun h iv ov => ∃ ch c, Reach p ch c ∧ (⟨h, iv, ov⟩ : CallRec) ∈ c.tr.calls

/-- every frame of `h` created with the input values `iv` is described by `pre` -/
def EntryIn (D : IDom) (p : IProg) (h : Nat) (pre : D.A) (iv : List Int) : Prop :=
  ∀ env : Env, env.size = p.nv → MatchVals (p.fn h).ins iv (toSt env) → EnvIn D.toAbsDom pre env

/-- every frame with the input values `iv` and the output values `ov` is described by `post` -/
def ExitIn (D : IDom) (p : IProg) (h : Nat) (post : D.A) (iv ov : List Int) : Prop :=
  ∀ env : Env, env.size = p.nv → MatchVals (p.fn h).ins iv (toSt env) →
    MatchVals (p.fn h).outs ov (toSt env) → EnvIn D.toAbsDom post env

def FactValid (D : IDom) (p : IProg) (h : Nat) (pre post : D.A) : Prop :=
  ∀ iv ov, TrueCR p h iv ov → iv.length = (p.fn h).ins.length → ov.length = (p.fn h).outs.length →
    EntryIn D p h pre iv → ExitIn D p h post iv ov

/-- the decomposition for the true call relation: every function, entered with any frame -/
def trueSpec (p : IProg) : SimSpec where
  Cov := fun _ => True
  E := fun _ env => env.size = p.nv
  CR := fun _ => TrueCR p

theorem retRec_mem_step {ch : Choices} {c : Config} {S : SimSpec} (hc : Inv p S c)
    {hfr gfr : Frame} {rest : List Frame} (hst : c.stack = hfr :: gfr :: rest)
    (hpc : ¬ hfr.pc < ((p.fn hfr.fn).blk hfr.blk).stmts.size) (hex : hfr.blk = (p.fn hfr.fn).exit) :
    retRec p hfr ∈ (step p ch c).tr.calls := by
  have hch := hc.chain
  rw [hst] at hch
  obtain ⟨lhs, args, hs, _, _⟩ := hch.1
  rw [step_ret hst hpc hex hs]
  exact Array.mem_push_self

/-- the invariant of the decomposition, along the executions from `main`, for any spec whose call
    relation is the true one and whose entry predicate is established by `hentry` -/
theorem Inv.of_reach (hP : ProgOK p) {S : SimSpec} (hCR : ∀ g, S.CR g = TrueCR p) (hentry : EntryOK p S)
    (ch : Choices) (h0 : Inv p S (initConfig p ch)) : ∀ c, Reach p ch c → Inv p S c := by
  intro c hr
  induction hr with
  | init => exact h0
  | step hr hs ih =>
    apply Inv.step hP hentry ch ih
    intro hfr gfr rest hst hpc hex _
    rw [hCR]
    exact ⟨ch, _, Reach.step hr hs, retRec_mem_step ih hst hpc hex⟩

theorem inv_reach (hP : ProgOK p) (hmain : p.main < p.funs.size) (ch : Choices) :
    ∀ c, Reach p ch c → Inv p (trueSpec p) c :=
  Inv.of_reach hP (fun _ => rfl) (EntryOK.of_size fun _ _ h => h) ch (Inv.init hP hmain ch fun _ => mkFrame_env_size p ch 0 p.main [])

theorem Pref.size {CR : CallRel} {b : IBlock} : ∀ {k : Nat} {s e : Env}, Pref CR b k s e → e.size = s.size := by
  intro k s e h
  induction h with
  | nil s => rfl
  | snoc _ _ hst ih => rw [LStep.size hst, ih]

theorem LPre.size {CR : CallRel} {f : IFun} {s0 : Env} :
    ∀ {n : Nat} {s : Env}, LPre CR f (fun x => x = s0) n s → s.size = s0.size := by
  intro n s h
  induction h with
  | init hs => rw [hs]
  | flow _ hp _ ih => rw [Pref.size hp, ih]

/-- the frames a recorded run was started with -/
def RunEntry (D : IDom) (p : IProg) (ρ : RunRec D) : Env → Prop :=
  fun s => s.size = p.nv ∧ EnvIn D.toAbsDom ρ.entry s

/-- the tables of a recorded run contain the local collecting semantics of its function, entered
    with the frames its entry value describes, the calls being the true ones -/
def RunSound (D : IDom) (p : IProg) (ρ : RunRec D) : Prop :=
  ∀ b k env, LocalAt (TrueCR p) (p.fn ρ.fn) (RunEntry D p ρ) b k env →
    (k = 0 → EnvIn D.toAbsDom (ρ.pre b) env) ∧
    (k = ((p.fn ρ.fn).blk b).stmts.size → EnvIn D.toAbsDom (ρ.post b) env)

/-- the summary read off a sound run is valid -/
theorem run_fact_valid (hP : ProgOK p) (hmain : p.main < p.funs.size) (D : IDom) (ρ : RunRec D)
    (hg : ρ.fn < p.funs.size) (hs : RunSound D p ρ) :
    FactValid D p ρ.fn ρ.entry
      (D.project (ρ.post (p.fn ρ.fn).exit) ((p.fn ρ.fn).ins ++ (p.fn ρ.fn).outs)) := by
  intro iv ov ⟨ch, c, hr, hmem⟩ hli hlo hentry env2 hsz2 hm2i hm2o σ hσ
  have hF := hP ρ.fn hg
  obtain ⟨_, _, hcov⟩ := (inv_reach hP hmain ch c hr).recs _ hmem
  -- `s0`: the frame the call created
  obtain ⟨env, ⟨s0, hs0, hm0, hat0⟩, hout, hmi, hsz⟩ := hcov trivial
  have hs0sz : s0.size = p.nv := hs0
  have he0 : EnvIn D.toAbsDom ρ.entry s0 := hentry s0 hs0sz hm0
  have hat1 : LocalAt (TrueCR p) (p.fn ρ.fn) (RunEntry D p ρ) (p.fn ρ.fn).exit
      ((p.fn ρ.fn).blk (p.fn ρ.fn).exit).stmts.size env :=
    LocalAt.mono (fun x hx => by rw [hx]; exact ⟨hs0sz, he0⟩) hat0
  have hpost := (hs _ _ _ hat1).2 rfl (toSt env) (Ext_toSt env)
  apply D.project_sound _ hpost
  intro v hv
  have hmo : MatchVals (p.fn ρ.fn).outs ov (toSt env) := by
    have : ov = (p.fn ρ.fn).outs.map (toSt env) := hout
    rw [this]; exact MatchVals_map _ _
  rcases List.mem_append.mp hv with hvi | hvo
  · rw [hσ v (by rw [hsz2]; exact hF.ins_lt v hvi)]
    exact MatchVals.agree hli.symm hmi hm2i v hvi
  · rw [hσ v (by rw [hsz2]; exact hF.outs_lt v hvo)]
    exact MatchVals.agree hlo.symm hmo hm2o v hvo

end Crab.Inter
