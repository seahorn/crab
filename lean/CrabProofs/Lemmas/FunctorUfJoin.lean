import CrabProofs.Lemmas.FunctorUf

/-!
`uf_domain`: `generalize` (anti-unification with the memo `g_map`) and `operator|` are upper
bounds.  The proof is done once for an abstract "value of the pair" `sv tx ty` that commutes with
constants and applications; it is instantiated with the value of the left term under the left
valuation and with the value of the right term under the right valuation.
-/
namespace Crab
namespace Dom
namespace Fct
namespace Uf
set_option linter.unusedSectionVars false

variable {V F : Type} [DecidableEq V] [DecidableEq F] (I : F → List Int → Int)

/-- what the generalisation of the pair `(tx, ty)` has to evaluate to -/
structure SV (sv : Term F → Term F → Int) : Prop where
  const : ∀ k, sv (.const k) (.const k) = k
  app : ∀ f xs ys, xs.length = ys.length → sv (.app f xs) (.app f ys) = I f (List.zipWith sv xs ys)

/-- the memo is explained by the valuation `ρ` of the output table -/
def GOK (sv : Term F → Term F → Int) (n : Nat) (memo : List ((Term F × Term F) × Term F)) (ρ : Nat → Int) : Prop :=
  ∀ e ∈ memo, e.2.bounded n = true ∧ e.2.eval I ρ = sv e.1.1 e.1.2

section gen
variable {sv : Term F → Term F → Int}

/-- the invariant of the output table of `generalize` -/
abbrev GJ (sv : Term F → Term F → Int) (st : GSt F) (ρ : Nat → Int) : Prop := GOK I sv st.next st.memo ρ

theorem gen_hit {st : GSt F} {ρ : Nat → Int} (h : GJ I sv st ρ) {k : Term F × Term F} {r : Term F}
    (hl : look st.memo k = some r) : Yields I (GJ I sv) GSt.next st ρ (r, st) (sv k.1 k.2) :=
  .ret st (Nat.le_refl _) h (h _ (look_mem hl)).1 (h _ (look_mem hl)).2

theorem gen_fresh {st : GSt F} {ρ : Nat → Int} (h : GJ I sv st ρ) (k : Term F × Term F) :
    Yields I (GJ I sv) GSt.next st ρ (st.fresh k) (sv k.1 k.2) :=
  .fresh _ _ rfl (MemoOK.fresh (w := fun k : Term F × Term F => sv k.1 k.2) h k)

theorem gen_spec_both (hsv : SV I sv) :
    (∀ (tx ty : Term F) (st : GSt F) (ρ : Nat → Int), GJ I sv st ρ →
      Yields I (GJ I sv) GSt.next st ρ (gen tx ty st) (sv tx ty)) ∧
    (∀ (xs ys : List (Term F)) (st : GSt F) (ρ : Nat → Int), GJ I sv st ρ →
      YieldsL I (GJ I sv) GSt.next st ρ (genL xs ys st) (List.zipWith sv xs ys)) := by
  refine Term.ind ?_ ?_ ?_ ?_ ?_
  · intro a ty st ρ h
    simp only [gen]
    split
    · exact gen_hit I h ‹_›
    · exact gen_fresh I h _
  · intro a ty st ρ h
    simp only [gen]
    split
    · exact gen_hit I h ‹_›
    · split
      · rename_i he
        subst he
        exact .ret _ (Nat.le_refl _) (MemoOK.cons (w := fun k : Term F × Term F => sv k.1 k.2) h rfl (hsv.const a).symm)
          rfl (hsv.const a).symm
      · exact gen_fresh I h _
  · intro f xs ih ty st ρ h
    simp only [gen]
    split
    · exact gen_hit I h ‹_›
    · split
      · rename_i g ys _
        split
        · rename_i hc
          obtain ⟨rfl, hlen⟩ := hc
          rw [hsv.app f xs ys hlen]
          exact (ih ys st ρ h).app f _ rfl fun ρ' h' hb hv =>
            MemoOK.cons (w := fun k : Term F × Term F => sv k.1 k.2) h' hb (hv.trans (hsv.app f xs ys hlen).symm)
        · exact gen_fresh I h _
      · exact gen_fresh I h _
  · intro ys st ρ h
    simp only [genL]; exact .nil h
  · intro x xs ih1 ih2 ys st ρ h
    cases ys with
    | nil => simp only [genL]; exact .nil h
    | cons y ys => simp only [genL]; exact .cons (ih1 y st ρ h) fun ρ1 h1 => ih2 ys _ ρ1 h1

end gen

theorem genL_spec {sv : Term F → Term F → Int} (hsv : SV I sv) :
    (xs ys : List (Term F)) → (st : GSt F) → (ρ : Nat → Int) → GOK I sv st.next st.memo ρ →
    ∃ ρ', Ext st.next ρ ρ' ∧ GOK I sv (genL xs ys st).2.next (genL xs ys st).2.memo ρ' ∧
      Term.boundedL (genL xs ys st).2.next (genL xs ys st).1 = true ∧
      Term.evalL I ρ' (genL xs ys st).1 = List.zipWith sv xs ys ∧ st.next ≤ (genL xs ys st).2.next :=
  (gen_spec_both I hsv).2

/-! ### the loop of `operator|` -/

/-- every pair the loop generalises has the value of its variable -/
def PairsOK (sv : Term F → Term F → Int) (s : St V) : List (V × Term F) → UVal V F → Prop
  | [], _ => True
  | (v, tx) :: rest, right => sv tx (right.termOfVar v).1 = s v ∧ PairsOK sv s rest (right.termOfVar v).2

/-- the results are bounded whatever the pairs mean; they explain the state when every pair has the
    value of its variable -/
theorem joinGo_spec {sv : Term F → Term F → Int} (hsv : SV I sv) (s : St V) :
    (m : List (V × Term F)) → (right : UVal V F) → (st : GSt F) → (ρ : Nat → Int) →
    GOK I sv st.next st.memo ρ →
    ∃ ρ', Ext st.next ρ ρ' ∧ GOK I sv (joinGo m right st).2.next (joinGo m right st).2.memo ρ' ∧
      (PairsOK sv s m right → Mod I ρ' (joinGo m right st).1 s) ∧
      MapB (joinGo m right st).2.next (joinGo m right st).1 ∧ st.next ≤ (joinGo m right st).2.next
  | [], right, st, ρ, h => by
    simp only [joinGo]
    exact ⟨ρ, Ext.refl _ _, h, fun _ p hp => by simp at hp, fun p hp => by simp at hp, Nat.le_refl _⟩
  | (v, tx) :: rest, right, st, ρ, h => by
    simp only [joinGo]
    obtain ⟨ρ1, a1, a2, a3, a4, a5⟩ := (gen_spec_both I hsv).1 tx (right.termOfVar v).1 st ρ h
    obtain ⟨ρ2, b1, b2, b3, b4, b5⟩ := joinGo_spec hsv s rest (right.termOfVar v).2 _ ρ1 a2
    refine ⟨ρ2, Ext.trans a1 b1 a5, b2, fun hp => List.forall_mem_cons.2 ⟨?_, b3 hp.2⟩,
      List.forall_mem_cons.2 ⟨Term.bounded_mono b5 _ a3, b4⟩, Nat.le_trans a5 b5⟩
    show s v = _
    rw [Term.eval_ext I b1 _ a3, a4, hp.1]

/-! ### the two instances -/

theorem zipWith_proj (g : Term F → Int) : (xs ys : List (Term F)) → xs.length = ys.length →
    List.zipWith (fun x _ => g x) xs ys = xs.map g ∧ List.zipWith (fun _ y => g y) xs ys = ys.map g
  | [], [], _ => ⟨rfl, rfl⟩
  | x :: xs, y :: ys, h => by
    have ih := zipWith_proj g xs ys (Nat.succ.inj h)
    simp [ih.1, ih.2]
  | [], _ :: _, h => by simp at h
  | _ :: _, [], h => by simp at h

theorem sv_left (ρ : Nat → Int) : SV I (fun tx _ => Term.eval I ρ tx) where
  const := fun k => by simp [Term.eval]
  app := fun f xs ys h => by simp only [Term.eval]; rw [(zipWith_proj _ xs ys h).1, evalL_eq_map]

theorem sv_right (ρ : Nat → Int) : SV I (fun (_ : Term F) ty => Term.eval I ρ ty) where
  const := fun k => by simp [Term.eval]
  app := fun f xs ys h => by simp only [Term.eval]; rw [(zipWith_proj _ xs ys h).2, evalL_eq_map]

theorem pairsOK_left {ρ : Nat → Int} {s : St V} : (m : List (V × Term F)) → (right : UVal V F) →
    Mod I ρ m s → PairsOK (fun tx _ => Term.eval I ρ tx) s m right
  | [], _, _ => trivial
  | (v, tx) :: rest, right, hm =>
    ⟨(hm (v, tx) List.mem_cons_self).symm,
      pairsOK_left rest _ (fun p hp => hm p (List.mem_cons_of_mem _ hp))⟩

/-- the fresh variables `right.term_of_var` allocates along the loop can all be valued at once -/
theorem pairsOK_right {s : St V} : (m : List (V × Term F)) → (right : UVal V F) → right.WF →
    (ρ : Nat → Int) → Mod I ρ right.map s →
    ∃ ρ', Ext right.next ρ ρ' ∧ PairsOK (fun (_ : Term F) ty => Term.eval I ρ' ty) s m right
  | [], right, _, ρ, _ => ⟨ρ, Ext.refl _ _, trivial⟩
  | (v, tx) :: rest, right, hw, ρ, hm => by
    obtain ⟨ρ1, a1, a2, a3⟩ := termOfVar_spec I v hw hm
    have w1 := termOfVar_wf v hw
    obtain ⟨ρ2, b1, b2⟩ := pairsOK_right rest (right.termOfVar v).2 w1.1 ρ1 a2
    refine ⟨ρ2, Ext.trans a1 b1 (termOfVar_next right v), ?_, b2⟩
    show Term.eval I ρ2 (right.termOfVar v).1 = s v
    rw [Term.eval_ext I b1 _ w1.2, a3]

/-- the early answers of `|`: one operand is bottom or the other one top -/
theorem γ_of_early {a b : UF V F} {s : St V} (h : UF.γ I a s ∨ UF.γ I b s)
    (hc : (UF.isBottom a || UF.isTop b) = true) : UF.γ I b s :=
  (Bool.or_eq_true_iff.1 hc).elim (fun hb => h.resolve_left (not_γ_of_isBottom I hb s))
    (fun ht => γ_of_isTop I ht s)

/-- boundedness of the result needs no semantic premise (`joinGo_spec` at a dummy interpretation) -/
theorem join_wf {a b : UF V F} (ha : a.WF) (hb : b.WF) : (UF.join a b).WF := by
  refine binop_cases UF.WF (fun _ => hb) (fun _ _ => ha) fun _ _ => ?_
  match a, b with
  | .bot, _ => trivial
  | .val ua, .bot => exact ha
  | .val ua, .val ub =>
    obtain ⟨_, _, _, _, h4, _⟩ := joinGo_spec (fun (_ : F) _ => 0) (sv_left _ (fun _ => 0)) (fun _ => 0)
      ua.map ub ⟨[], 0⟩ (fun _ => 0) (fun e he => by simp at he)
    exact h4

end Uf
end Fct
end Dom
end Crab
