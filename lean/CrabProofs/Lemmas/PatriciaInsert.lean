import CrabProofs.Lemmas.PatriciaWF

/-! `join`, `insert`, `remove` of patricia trees: well-formedness is preserved and `lookup`
    changes pointwise, whatever the pointer-equality / value-equality oracles answer. -/
namespace Crab
namespace Patricia
open Tree

variable {V : Type} {P : V → Prop}

/-- the oracles never claim more than structural equality (`valEq` only matters when its
    second argument is a stored value) -/
def Ctx.SoundOn (P : V → Prop) (c : Ctx V) : Prop :=
  (∀ a b, c.ptrEq a b = true → a = b) ∧ (∀ x y, P y → c.valEq x y = true → x = y)

theorem Ctx.Sound.soundOn {c : Ctx V} (h : c.Sound) (P : V → Prop) : c.SoundOn P :=
  ⟨h.1, fun x y _ => h.2 x y⟩

theorem Ctx.never_sound : (Ctx.never : Ctx V).Sound := ⟨by simp [Ctx.never], by simp [Ctx.never]⟩

theorem Ctx.SoundOn.peq {c : Ctx V} (h : c.SoundOn P) {a b : Tree V} (e : c.peq a b = true) : a = b := by
  unfold Ctx.peq at e
  split at e
  · rfl
  · cases e
  · cases e
  · exact h.1 _ _ e

/-- the binary operation applied in the direction given by `combine_left_to_right` -/
def app (op : BinOp V) (l2r : Bool) (k : Nat) (x y : V) : OpRes V :=
  if l2r then op.apply k x y else op.apply k y x

theorem app_not (op : BinOp V) (l2r : Bool) (k : Nat) (x y : V) : app op (!l2r) k x y = app op l2r k y x := by
  cases l2r <;> rfl

def BinOp.Pres (op : BinOp V) (P : V → Prop) : Prop :=
  ∀ k x y z, P x → P y → op.apply k x y = .val z → P z

theorem BinOp.Pres.app {op : BinOp V} (h : op.Pres P) {l2r : Bool} {k : Nat} {x y z : V}
    (hx : P x) (hy : P y) (e : app op l2r k x y = .val z) : P z := by
  cases l2r
  · exact h k y x z hy hx e
  · exact h k x y z hx hy e

theorem bb'_eq {t : Tree V} (h : WF P t) : t.bb' = lvlBit (lvl t) := by
  cases t with
  | empty => rfl
  | leaf k v => rfl
  | node p m l r =>
    obtain ⟨i, _, rfl, _⟩ := h
    simp [Tree.bb', lvlBit]

theorem join_spec {t0 t1 : Tree V} (h0 : WF P t0) (h1 : WF P t1)
    (hd : ∃ b, max (lvl t0) (lvl t1) ≤ b ∧ t0.pfx'.testBit b ≠ t1.pfx'.testBit b) :
    WF P (join t0 t1) ∧ ∀ k, (join t0 t1).lookup k = (t0.lookup k).or (t1.lookup k) := by
  have hp0 := h0.pfx_lt
  have hp1 := h1.pfx_lt
  have hL : max (lvl t0) (lvl t1) < 64 := by
    obtain ⟨b, hb, hne⟩ := hd
    apply Nat.lt_of_not_le
    intro h64
    rw [testBit_false_of_lt64 hp0 (by omega), testBit_false_of_lt64 hp1 (by omega)] at hne
    exact hne rfl
  obtain ⟨h, hLh, hh, hres, hdiff, hag⟩ := highestBit_xor hp0 hp1 hL hd
  have hm : computeBranchingBit t0.pfx' t0.bb' t1.pfx' t1.bb' = 2 ^ h := by
    rw [computeBranchingBit, bb'_eq h0, bb'_eq h1, startBit_two_pow hL]; exact hres
  have hal := aligned_mask hh hp0
  have hagm := agree_mask hh hp0
  have hmlt := mask_lt t0.pfx' (2 ^ h)
  -- the keys of `t0` / `t1` agree with the new prefix above `h` and carry the bit `h` of their own prefix
  have key : ∀ {t : Tree V}, WF P t → lvl t ≤ h → AgreeAbove h t.pfx' t0.pfx' →
      ∀ k ∈ t.keys, AgreeAbove h k (mask t0.pfx' (2 ^ h)) ∧ k.testBit h = t.pfx'.testBit h := by
    intro t ht hl hpf k hk
    have ag := ht.agree_pfx hk
    refine ⟨fun j hj => ?_, ag h hl⟩
    rw [ag j (by omega), hpf j hj]; exact (hagm j hj).symm
  have k0 := key h0 (by omega) (AgreeAbove.refl h _)
  have k1 := key h1 (by omega) hag.symm
  unfold join
  simp only [hm, zeroBit_two_pow]
  cases hb0 : t0.pfx'.testBit h
  · have hb1 : t1.pfx'.testBit h = true := by simpa [hb0] using hdiff
    have kl : ∀ k ∈ t0.keys, InL h (mask t0.pfx' (2 ^ h)) k := fun k hk => ⟨(k0 k hk).1, (k0 k hk).2.trans hb0⟩
    have kr : ∀ k ∈ t1.keys, InR h (mask t0.pfx' (2 ^ h)) k := fun k hk => ⟨(k1 k hk).1, (k1 k hk).2.trans hb1⟩
    exact ⟨WF_mkNode hh hmlt hal h0 h1 kl kr, fun k => ((Split.mkNode hal kl kr).lookup_or hal k).1⟩
  · have hb1 : t1.pfx'.testBit h = false := by simpa [hb0] using hdiff
    have kr : ∀ k ∈ t0.keys, InR h (mask t0.pfx' (2 ^ h)) k := fun k hk => ⟨(k0 k hk).1, (k0 k hk).2.trans hb0⟩
    have kl : ∀ k ∈ t1.keys, InL h (mask t0.pfx' (2 ^ h)) k := fun k hk => ⟨(k1 k hk).1, (k1 k hk).2.trans hb1⟩
    exact ⟨WF_mkNode hh hmlt hal h1 h0 kl kr, fun k => ((Split.mkNode hal kl kr).lookup_or hal k).2⟩

theorem join_leaf_spec {i p : Nat} {l r : Tree V} (hw : WF P (.node p (2 ^ i) l r)) {k : Nat} {v : V}
    (hk : k < 2 ^ 64) (hv : P v) (h : ¬ AgreeAbove i k p) :
    (Tree.node p (2 ^ i) l r).lookup k = none ∧ WF P (join (.leaf k v) (.node p (2 ^ i) l r)) ∧
      ∀ k', (join (.leaf k v) (.node p (2 ^ i) l r)).lookup k' =
        if k = k' then some v else (Tree.node p (2 ^ i) l r).lookup k' := by
  obtain ⟨b, hb, hne⟩ := exists_bit_of_not_agree h
  obtain ⟨hwj, hlj⟩ := join_spec (show WF P (Tree.leaf k v) from ⟨hk, hv⟩) hw ⟨b, by simp [lvl]; omega, hne⟩
  refine ⟨lookup_none_of_not_mem (fun hm => h (hw.node_agree k hm)), hwj, fun k' => ?_⟩
  rw [hlj, lookup_leaf]; split <;> rfl

theorem ite_peq_left {c : Ctx V} (hc : c.SoundOn P) {p m : Nat} {l r n : Tree V} (hl : l ≠ .empty) (hr : r ≠ .empty) :
    (if c.peq n l then Tree.node p m l r else mkNode p m n r) = mkNode p m n r := by
  split
  · rename_i h; rw [hc.peq h, mkNode_of_ne hl hr]
  · rfl

theorem ite_peq_right {c : Ctx V} (hc : c.SoundOn P) {p m : Nat} {l r n : Tree V} (hl : l ≠ .empty) (hr : r ≠ .empty) :
    (if c.peq n r then Tree.node p m l r else mkNode p m l n) = mkNode p m l n := by
  split
  · rename_i h; rw [hc.peq h, mkNode_of_ne hl hr]
  · rfl

theorem isEmpty_false {t : Tree V} (h : t ≠ .empty) : t.isEmpty = false := by
  cases t <;> simp_all [Tree.isEmpty]

/-- `t'` is well formed and is `t` with the key `k` bound to `x` (unbound when `x = none`): what
    `insert` and `remove` do to a tree -/
def PointUpd (P : V → Prop) (k : Nat) (x : Option V) (t t' : Tree V) : Prop :=
  WF P t' ∧ ∀ k', t'.lookup k' = if k' = k then x else t.lookup k'

theorem PointUpd.unique {k : Nat} {x : Option V} {t r1 r2 : Tree V} (h1 : PointUpd P k x t r1)
    (h2 : PointUpd P k x t r2) : r1 = r2 :=
  WF.ext h1.1 h2.1 (fun k' => (h1.2 k').trans (h2.2 k').symm)

theorem PointUpd.of_unbound {k : Nat} {t : Tree V} (hw : WF P t) (h : t.lookup k = none) : PointUpd P k none t t :=
  ⟨hw, fun k' => by split <;> simp_all⟩

theorem PointUpd.keys {k : Nat} {x : Option V} {t t' : Tree V} (h : PointUpd P k x t t') {Q : Nat → Prop} (hk : Q k)
    (ht : ∀ k' ∈ t.keys, Q k') : ∀ k' ∈ t'.keys, Q k' := by
  intro k' hk'
  by_cases e : k' = k
  · exact e ▸ hk
  · obtain ⟨y, hy⟩ := (mem_keys_iff_lookup h.1).mp hk'
    rw [h.2 k', if_neg e] at hy
    exact ht k' (mem_keys_of_lookup hy)

/-- a child replaced below a node, on the side where the key lies -/
theorem PointUpd.node_left {i p k : Nat} {x : Option V} {l r l' : Tree V} (hw : WF P (.node p (2 ^ i) l r))
    (hin : InL i p k) (h : PointUpd P k x l l') : PointUpd P k x (.node p (2 ^ i) l r) (mkNode p (2 ^ i) l' r) := by
  have ha := hw.aligned
  have hkn := h.keys hin hw.keysL
  refine ⟨WF_mkNode hw.bit_lt hw.pfx_lt ha h.1 hw.right hkn hw.keysR, fun k' => ?_⟩
  rw [(Split.mkNode (m := 2 ^ i) ha hkn hw.keysR).lookup, lookup_node, h.2 k']
  by_cases e : k' = k
  · rw [if_pos e, if_pos e, e, if_pos (le_of_InL ha hin)]
  · rw [if_neg e, if_neg e]

theorem PointUpd.node_right {i p k : Nat} {x : Option V} {l r r' : Tree V} (hw : WF P (.node p (2 ^ i) l r))
    (hin : InR i p k) (h : PointUpd P k x r r') : PointUpd P k x (.node p (2 ^ i) l r) (mkNode p (2 ^ i) l r') := by
  have ha := hw.aligned
  have hkn := h.keys hin hw.keysR
  refine ⟨WF_mkNode hw.bit_lt hw.pfx_lt ha hw.left h.1 hw.keysL hkn, fun k' => ?_⟩
  rw [(Split.mkNode (m := 2 ^ i) ha hw.keysL hkn).lookup, lookup_node, h.2 k']
  by_cases e : k' = k
  · rw [if_pos e, if_pos e, e, if_neg (Nat.not_le.mpr (lt_of_InR ha hin))]
  · rw [if_neg e, if_neg e]

/-- pointwise effect of `insert` at the inserted key (outer `none` = bottom is raised) -/
def insSpec (op : BinOp V) (l2r : Bool) (k : Nat) (v : V) : Option V → Option (Option V)
  | some x =>
    match app op l2r k x v with
    | .bottom => none
    | .dflt => some none
    | .val z => some (some z)
  | none => some (if op.absorbing then none else some v)

def InsertOK (P : V → Prop) (op : BinOp V) (l2r : Bool) (k : Nat) (v : V) (t : Tree V)
    (res : Option (Tree V)) : Prop :=
  match res with
  | none => insSpec op l2r k v (t.lookup k) = none
  | some r => WF P r ∧ insSpec op l2r k v (t.lookup k) = some (r.lookup k) ∧
      ∀ k', k' ≠ k → r.lookup k' = t.lookup k'

section
variable {op : BinOp V} {l2r : Bool} {k : Nat} {v : V} {t r : Tree V}

theorem InsertOK.pointUpd (h : InsertOK P op l2r k v t (some r)) : PointUpd P k (r.lookup k) t r :=
  ⟨h.1, fun k' => by
    by_cases e : k' = k
    · rw [if_pos e, e]
    · rw [if_neg e]; exact h.2.2 k' e⟩

theorem PointUpd.insertOK {x : Option V} (h : PointUpd P k x t r) (hs : insSpec op l2r k v (t.lookup k) = some x) :
    InsertOK P op l2r k v t (some r) :=
  ⟨h.1, by rw [h.2 k, if_pos rfl]; exact hs, fun k' e => by rw [h.2 k', if_neg e]⟩

end

theorem InsertOK.unique {op : BinOp V} {l2r : Bool} {k : Nat} {v : V} {t : Tree V} {r1 r2 : Option (Tree V)}
    (h1 : InsertOK P op l2r k v t r1) (h2 : InsertOK P op l2r k v t r2) : r1 = r2 := by
  cases r1 <;> cases r2
  · rfl
  · have := h2.2.1; rw [show insSpec op l2r k v (t.lookup k) = none from h1] at this; cases this
  · have := h1.2.1; rw [show insSpec op l2r k v (t.lookup k) = none from h2] at this; cases this
  · exact congrArg some (h1.pointUpd.unique (Option.some.inj (h1.2.1.symm.trans h2.2.1) ▸ h2.pointUpd))

theorem combineLeaf_spec {c : Ctx V} (hc : c.SoundOn P) {res : OpRes V} {old : V} {k : Nat} (ho : P old) :
    combineLeaf c res old (.leaf k old) k =
      match res with
      | .bottom => none
      | .val nv => some (.leaf k nv)
      | .dflt => some .empty := by
  unfold combineLeaf
  cases res with
  | bottom => rfl
  | dflt => rfl
  | val nv =>
    simp only
    split
    · rename_i h; rw [hc.2 nv old ho h]
    · rfl

theorem insert_spec {c : Ctx V} {op : BinOp V} {l2r : Bool} (hc : c.SoundOn P) (hop : op.Pres P)
    {k : Nat} {v : V} (hk : k < 2 ^ 64) (hv : P v) :
    ∀ {t : Tree V}, WF P t → InsertOK P op l2r k v t (insert c op l2r t k v) := by
  -- a new leaf beside `t`, when `k` is not bound in `t` and the default is neutral
  have fresh : ∀ {t r : Tree V}, op.absorbing = false → t.lookup k = none → WF P r →
      (∀ k', r.lookup k' = if k = k' then some v else t.lookup k') → InsertOK P op l2r k v t (some r) := by
    intro t r hab hn hwr hl
    refine ⟨hwr, by rw [hl, hn]; simp [insSpec, hab], fun k' hk' => by rw [hl, if_neg (Ne.symm hk')]⟩
  -- with an absorbing default an unbound key changes nothing
  have kept : ∀ {t : Tree V}, op.absorbing = true → t.lookup k = none → WF P t →
      InsertOK P op l2r k v t (some t) :=
    fun hab hn hw => ⟨hw, by rw [hn]; simp [insSpec, hab], fun _ _ => rfl⟩
  intro t
  induction t with
  | empty =>
    intro hw
    unfold insert
    cases hab : op.absorbing
    · exact fresh hab rfl ⟨hk, hv⟩ (fun _ => rfl)
    · exact kept hab rfl hw
  | leaf key value =>
    intro hw
    unfold insert
    by_cases hkk : key = k
    · subst hkk
      rw [if_pos rfl, combineLeaf_spec hc hw.2,
        show (if l2r then op.apply key value v else op.apply key v value) = app op l2r key value v from rfl]
      cases hres : app op l2r key value v with
      | bottom => simp [InsertOK, insSpec, hres]
      | dflt => exact ⟨trivial, by simp [insSpec, hres], fun k' h1 => by simp [Ne.symm h1]⟩
      | val nv =>
        exact ⟨⟨hw.1, hop.app hw.2 hv hres⟩, by simp [insSpec, hres], fun k' h1 => by simp [Ne.symm h1]⟩
    · rw [if_neg hkk]
      have hn : (Tree.leaf key value).lookup k = none := by simp [hkk]
      cases hab : op.absorbing
      · obtain ⟨b, hb⟩ := Nat.exists_testBit_ne_of_ne (Ne.symm hkk)
        obtain ⟨hwj, hlj⟩ := join_spec (show WF P (Tree.leaf k v) from ⟨hk, hv⟩) hw ⟨b, by simp [lvl], hb⟩
        exact fresh hab hn hwj (fun k' => by rw [hlj, lookup_leaf]; split <;> rfl)
      · exact kept hab hn hw
  | node p m l r ihl ihr =>
    intro hw
    obtain ⟨i, rfl⟩ := hw.bb_pow
    have ha := hw.aligned
    unfold insert
    rcases node_descend hw.bit_lt ha hk with ⟨hmp, hnag⟩ | ⟨hmp, hz, hin⟩ | ⟨hmp, hz, hin⟩
    · obtain ⟨hn, hwj, hlj⟩ := join_leaf_spec hw hk hv hnag
      simp only [hmp, Bool.false_eq_true, if_false]
      cases hab : op.absorbing
      · exact fresh hab hn hwj hlj
      · exact kept hab hn hw
    · simp only [hmp, hz, if_true, isEmpty_false hw.ne_left, Bool.false_eq_true, if_false]
      have ih := ihl hw.left
      cases hres : insert c op l2r l k v with
      | none =>
        rw [hres] at ih
        simpa [InsertOK, le_of_InL ha hin] using ih
      | some newLb =>
        rw [hres] at ih
        simp only [← apply_ite some, ite_peq_left hc hw.ne_left hw.ne_right]
        exact (ih.pointUpd.node_left hw hin).insertOK (by rw [lookup_node, if_pos (le_of_InL ha hin)]; exact ih.2.1)
    · simp only [hmp, hz, if_true, isEmpty_false hw.ne_right, Bool.false_eq_true, if_false]
      have ih := ihr hw.right
      cases hres : insert c op l2r r k v with
      | none =>
        rw [hres] at ih
        simpa [InsertOK, Nat.not_le.mpr (lt_of_InR ha hin)] using ih
      | some newRb =>
        rw [hres] at ih
        simp only [← apply_ite some, ite_peq_right hc hw.ne_left hw.ne_right]
        exact (ih.pointUpd.node_right hw hin).insertOK
          (by rw [lookup_node, if_neg (Nat.not_le.mpr (lt_of_InR ha hin))]; exact ih.2.1)

theorem insertOp_pres : (insertOp : BinOp V).Pres P := by
  intro k x y z _ hy h
  simp [insertOp] at h; subst h; exact hy

/-- `patricia_tree::insert(key, value)`: the binding is overwritten, nothing else changes -/
theorem insertKV_spec {c : Ctx V} (hc : c.SoundOn P) {t : Tree V} (hw : WF P t) {k : Nat} {v : V}
    (hk : k < 2 ^ 64) (hv : P v) :
    WF P (insertKV c t k v) ∧ ∀ k', (insertKV c t k v).lookup k' = if k' = k then some v else t.lookup k' := by
  have h := insert_spec (l2r := true) hc insertOp_pres hk hv hw
  -- `insert_op` never answers bottom and always the new value
  have hs : insSpec insertOp true k v (t.lookup k) = some (some v) := by cases t.lookup k <;> rfl
  unfold insertKV
  cases hres : insert c insertOp true t k v with
  | none => rw [hres] at h; cases hs.symm.trans h
  | some r => rw [hres] at h; exact Option.some.inj (hs.symm.trans h.2.1) ▸ h.pointUpd

/-- `patricia_tree::remove(key)`: the binding disappears, nothing else changes -/
theorem remove_spec {c : Ctx V} (hc : c.SoundOn P) {k : Nat} (hk : k < 2 ^ 64) :
    ∀ {t : Tree V}, WF P t →
      WF P (remove c t k) ∧ ∀ k', (remove c t k).lookup k' = if k' = k then none else t.lookup k' := by
  intro t
  induction t with
  | empty => intro hw; exact PointUpd.of_unbound hw rfl
  | leaf key value =>
    intro hw
    unfold remove
    by_cases hkk : key = k
    · rw [if_pos hkk]
      exact ⟨trivial, fun k' => by subst hkk; simp; exact fun h e => h e.symm⟩
    · rw [if_neg hkk]; exact PointUpd.of_unbound hw (by simp [hkk])
  | node p m l r ihl ihr =>
    intro hw
    obtain ⟨i, rfl⟩ := hw.bb_pow
    unfold remove
    rcases node_descend hw.bit_lt hw.aligned hk with ⟨hmp, hnag⟩ | ⟨hmp, hz, hin⟩ | ⟨hmp, hz, hin⟩
    · simp only [hmp, Bool.false_eq_true, if_false]
      exact PointUpd.of_unbound hw (lookup_none_of_not_mem (fun hm => hnag (hw.node_agree k hm)))
    · simp only [hmp, hz, if_true, isEmpty_false hw.ne_left, Bool.false_eq_true, if_false,
        ite_peq_left hc hw.ne_left hw.ne_right]
      exact PointUpd.node_left hw hin (ihl hw.left)
    · simp only [hmp, hz, if_true, isEmpty_false hw.ne_right, Bool.false_eq_true, if_false,
        ite_peq_right hc hw.ne_left hw.ne_right]
      exact PointUpd.node_right hw hin (ihr hw.right)

end Patricia
end Crab
