import CrabProofs.Lemmas.InterTD

/-!
  Phase 2 of C10, the semantic part: with the facts of `InterTD.lean` about the entry values,
  the frames of every analysed function stay inside its local collecting semantics entered with
  its entry value (`tdSpec`), jointly with the invariant of phase 1 on the same execution.
-/
namespace Crab.Inter
open Crab.Fix

variable {p : IProg}

/-- `seqOrderOK` as a proposition -/
def SeqFacts (p : IProg) (l : List (Nat × Bool)) : Prop :=
  (l.map (·.1)).Nodup ∧
  ∀ g, g < p.funs.size → ∀ h, h ∈ (p.fn g).callees → h ∈ l.map (·.1) →
    g ∈ l.map (·.1) ∧ ((h, true) ∈ l ∨ (l.map (·.1)).idxOf g < (l.map (·.1)).idxOf h)

theorem SeqFacts.of_bool {l : List (Nat × Bool)} (h : seqOrderOK p l = true) : SeqFacts p l := by
  simp only [seqOrderOK, Bool.and_eq_true, decide_eq_true_eq, List.all_eq_true, List.mem_range,
    Bool.or_eq_true, Bool.not_eq_true', List.contains_eq_mem, decide_eq_false_iff_not] at h
  refine ⟨h.1, ?_⟩
  intro g hg c hc hn
  rcases h.2 g hg c hc with h1 | h1
  · exact absurd hn h1
  · exact h1

theorem callsSeqOK_at (h : p.callsSeqOK = true) {g b k c : Nat} {lhs args : List Var} (hg : g < p.funs.size)
    (hk : k < ((p.fn g).blk b).stmts.size) (hs : ((p.fn g).blk b).stmts.getD k default = .call c lhs args) :
    SeqOK (p.fn c).ins args := by
  unfold IProg.callsSeqOK at h
  have := all_stmts_at h hg hk
  rw [hs] at this
  exact SeqOK.of_bool this

theorem mem_blockCtxs (TD : IDom) {BU : IDom} (call : Nat → List Var → List Var → TD.A → TD.A) (T : SumTable BU)
    {h : Nat} {lhs args : List Var} {sm : Summary BU} (hT : T h = some sm) :
    ∀ (ss : List IStmt) (a : TD.A) (k : Nat), k < ss.length → ss.getD k default = .call h lhs args →
      (h, tdCalleeCtx TD sm args ((ss.take k).foldl (execStmt TD call) a)) ∈ blockCtxs TD call T ss a
  | [], _, _, hk, _ => by simp at hk
  | s :: ss, a, 0, _, hs => by
    have : s = .call h lhs args := by simpa [List.getD] using hs
    subst this
    simp [blockCtxs, hT]
  | s :: ss, a, k + 1, hk, hs => by
    simp only [blockCtxs, List.take_succ_cons, List.foldl_cons]
    apply List.mem_append_right
    exact mem_blockCtxs TD call T hT ss _ k (by simpa using hk) (by simpa [List.getD] using hs)

theorem mem_funCtxs (TD : IDom) {BU : IDom} (call : Nat → List Var → List Var → TD.A → TD.A) (T : SumTable BU)
    {f : IFun} {b k h : Nat} {lhs args : List Var} {sm : Summary BU} (hT : T h = some sm)
    (hk : k < (f.blk b).stmts.size) (hs : (f.blk b).stmts.getD k default = .call h lhs args)
    (pre : Nat → TD.A) :
    (h, tdCalleeCtx TD sm args (execPrefix TD call (f.blk b) k (pre b))) ∈ funCtxs TD call T f pre := by
  unfold funCtxs
  rw [List.mem_flatMap]
  refine ⟨b, List.mem_range.mpr (blk_stmts_lt hk), ?_⟩
  apply mem_blockCtxs TD call T hT _ _ k (by simpa using hk)
  simpa [Array.getD_eq_getD_getElem?, List.getD] using hs

/-- the decomposition used for phase 2: covered = analysed; entered with a frame described by the
    entry value; calls described by the (final) summary table -/
def tdSpec (p : IProg) {BU TD : IDom} (T : SumTable BU) (R : TDState TD) : SimSpec where
  Cov := fun g => ∃ st, R.invs g = some st
  E := fun g env => env.size = p.nv ∧ ∀ e, R.entry g = some e → EnvIn TD.toAbsDom e env
  CR := fun _ => tableCR T

theorem SubG.envIn {D : IDom} {a b : D.A} (h : SubG D a b) {env : Env} (ha : EnvIn D.toAbsDom a env) :
    EnvIn D.toAbsDom b env := fun σ hσ => h σ (ha σ hσ)

theorem envIn_top (D : IDom) (env : Env) : EnvIn D.toAbsDom D.top env := fun σ _ => D.top_sound σ

/-- the entry value of an analysed function: `init` for the root; for any other function it contains
    `top` when its component is flagged recursive or it has no summary -/
theorem TDFacts.entry_cases {BU TD : IDom} {cv : Conv BU TD} {cfg : FixCfg} {T : SumTable BU} {init : TD.A}
    {l : List (Nat × Bool)} {R : TDState TD}
    (hF : TDFacts BU TD cv p cfg T init l R) {h : Nat} {e : TD.A} (hh : h ∈ l.map (·.1)) (he : R.entry h = some e) :
    (∃ gr0 rest, l = gr0 :: rest ∧ h = gr0.1 ∧ e = init) ∨
    (∀ gr, gr ∈ l → gr.1 = h → (gr.2 = true ∨ T h = none) → SubG TD TD.top e) := by
  cases l with
  | nil => nomatch hh
  | cons gr0 l2 =>
    by_cases hroot : h = gr0.1
    · have := hF.root gr0 l2 rfl
      rw [← hroot, he] at this
      exact Or.inl ⟨gr0, l2, rfl, hroot, Option.some.inj this⟩
    · refine Or.inr fun gr hgr hg1 hor => ?_
      subst hg1
      exact hF.top gr hgr (fun gr0' rest he' => by cases he'; exact hroot) e he hor

section
variable (BU TD : IDom) (cv : Conv BU TD) (cfg : FixCfg) (T : SumTable BU) (init : TD.A)

/-- a covered function: its frames at `(b, k)` are described by the prefix transformer applied
    to the stored pre-invariant of the block -/
theorem td_at_sound (hP : ProgOK p) (hren : BU.toAbsDom.RenameSound) (hw : WtoHyp TD p cfg)
    (hT : TableDecl p T) {l : List (Nat × Bool)} {R : TDState TD}
    (hF : TDFacts BU TD cv p cfg T init l R) {g : Nat} (hg : g < p.funs.size) {st : Fix.St TD.A}
    (hst : R.invs g = some st) {b k : Nat} {env : Env} {iv : List Int} (hat : (tdSpec p T R).At p g iv b k env) :
    EnvIn TD.toAbsDom (execPrefix TD (tdCall BU TD cv p.nv T) ((p.fn g).blk b) k (st.pre b)) env ∧
    env.size = p.nv ∧ (k = ((p.fn g).blk b).stmts.size → EnvIn TD.toAbsDom (st.post b) env) := by
  obtain ⟨_, e, he, hsolve⟩ := hF.cov g st hst
  exact solve_sound TD cfg g (hP g hg) (tdCall_sound hP BU TD cv hren T hT) e ((tdSpec p T R).E g)
    (fun s hs => ⟨hs.1, hs.2 e he⟩) (hw g hg _ _) st hsolve b k env hat.local

/-- the entry value of an analysed callee describes every frame a call creates
    (`C10.td_context_sound_partial`) -/
theorem td_entryOK (hP : ProgOK p) (hren : BU.toAbsDom.RenameSound) (hw : WtoHyp TD p cfg)
    (hT : TableDecl p T) (hseqok : p.callsSeqOK = true) {l : List (Nat × Bool)} {R : TDState TD}
    (hF : TDFacts BU TD cv p cfg T init l R) (hseq : SeqFacts p l) (ch : Choices)
    (hinit : ∀ gr rest, l = gr :: rest → InitOK p TD init gr.1 ch) : EntryOK p (tdSpec p T R) := by
  intro g h b k env lhs args env' _ hg hcovh hat hk hs hsz hsz' hm
  refine ⟨hsz', ?_⟩
  intro e he
  obtain ⟨sth, hsth⟩ := hcovh
  have hhn : h ∈ l.map (·.1) := (hF.cov h sth hsth).1
  have hcal : h ∈ (p.fn g).callees := mem_callees hk hs
  obtain ⟨hgn, hor⟩ := hseq.2 g hg h hcal hhn
  have hS := (hP g hg).stmts b k hk
  rw [hs] at hS
  obtain ⟨hhlt, hlnd, hll, hla⟩ := hS.2.2
  rcases hF.entry_cases hhn he with ⟨gr0, rest, hl, hroot, rfl⟩ | htop
  · -- the callee is the root: `init`
    rcases hinit gr0 rest hl with hA | ⟨hm', hnc, _⟩
    · exact hA env' hsz'
    · rw [← hroot] at hm'
      rw [hm'] at hcal
      exact absurd hcal (hnc g hg)
  · cases hTh : T h with
    | none =>
      obtain ⟨gr, hgr, hgr1⟩ := List.mem_map.mp hhn
      exact (htop gr hgr hgr1 (Or.inr hTh)).envIn (envIn_top TD env')
    | some sm =>
      rcases hor with hrec | hidx
      · exact (htop (h, true) hrec rfl (Or.inl rfl)).envIn (envIn_top TD env')
      · -- the caller was analysed before: its stored context is below the entry value
        obtain ⟨stg, hstg⟩ := hF.covAll g hgn
        have hpre := (td_at_sound BU TD cv cfg T init hP hren hw hT hF hg hstg (hat ⟨stg, hstg⟩)).1
        have hmem := mem_funCtxs TD (tdCall BU TD cv p.nv T) T hTh hk hs stg.pre
        apply (hF.before g h hidx hhn stg e hstg he _ hmem).envIn
        obtain ⟨hi, _⟩ := hT h sm hTh
        have hFh := hP h hhlt
        apply tdCalleeCtx_sound TD sm args _ env env' (by rw [hi]; exact hFh.ins_nodup)
          (by rw [hi]; exact callsSeqOK_at hseqok hg hk hs) (by rw [hi, hla]; exact Nat.le_refl _)
          (by rw [hi, hsz']; exact hFh.ins_lt) hpre
        rw [hi]; exact hm

/-- both invariants along an execution: phase 1 describes the returned calls, phase 2 the frames -/
theorem joint_run (hP : ProgOK p) (hren : BU.toAbsDom.RenameSound) (hwBU : WtoHyp BU p cfg)
    {Tg : Nat → SumTable BU} (hJ : Justified BU p cfg T Tg) {R : TDState TD}
    (hentry : EntryOK p (tdSpec p T R)) (ch : Choices) :
    ∀ (fuel : Nat) (c : Config), Inv p (buSpec p T Tg) c → Inv p (tdSpec p T R) c →
      Inv p (buSpec p T Tg) (runFrom p ch fuel c) ∧ Inv p (tdSpec p T R) (runFrom p ch fuel c)
  | 0, c, h1, h2 => ⟨h1, h2⟩
  | fuel + 1, c, h1, h2 => by
    unfold Crab.Inter.runFrom
    split
    · apply joint_run hP hren hwBU hJ hentry ch fuel
      · exact Inv.step hP (bu_entryOK T Tg) ch h1 (bu_retOK hP hren hwBU hJ c h1)
      · exact Inv.step hP hentry ch h2 fun hfr gfr rest hst hpc hex _ =>
          bu_ret_table hP hren hwBU hJ c h1 hfr (gfr :: rest) hst hpc hex
    · exact ⟨h1, h2⟩

theorem td_start (hP : ProgOK p) (hmain : p.main < p.funs.size) (hTm : T p.main = none)
    {l : List (Nat × Bool)} {R : TDState TD}
    (hF : TDFacts BU TD cv p cfg T init l R) (ch : Choices)
    (hinit : ∀ gr rest, l = gr :: rest → InitOK p TD init gr.1 ch) :
    Inv p (tdSpec p T R) (initConfig p ch) := by
  apply Inv.init hP hmain ch
  intro hcov
  refine ⟨mkFrame_env_size p ch 0 p.main [], ?_⟩
  intro e he
  obtain ⟨st, hst⟩ := hcov
  have hmn : p.main ∈ l.map (·.1) := (hF.cov _ st hst).1
  rcases hF.entry_cases hmn he with ⟨gr0, rest, hl, _, rfl⟩ | htop
  · rcases hinit gr0 rest hl with hA | ⟨_, _, hB⟩
    · exact hA _ (mkFrame_env_size p ch 0 p.main [])
    · exact hB
  · obtain ⟨gr, hgr, hgr1⟩ := List.mem_map.mp hmn
    exact (htop gr hgr hgr1 (Or.inr hTm)).envIn (envIn_top TD _)

end

theorem SumHolds.gamma {D : IDom} {s : Summary D} {iv ov : List Int} (h : SumHolds s iv ov)
    (hl : iv.length = s.ins.length) (ρ : St) (hin : MatchVals s.ins iv ρ) (hout : MatchVals s.outs ov ρ) :
    D.γ s.sum ρ := by
  obtain ⟨ρ0, h1, h2, hlo, hρ⟩ := h
  apply hρ
  intro v hv
  rcases List.mem_append.mp hv with hv | hv
  · exact MatchVals.agree hl.symm h1 hin v hv
  · exact MatchVals.agree hlo.symm h2 hout v hv

theorem noEdges_callees (h : p.noEdges = true) {g : Nat} (hg : g < p.funs.size) : (p.fn g).callees = [] := by
  simp only [IProg.noEdges, List.all_eq_true, List.isEmpty_iff] at h
  exact h _ (Array.mem_toList_iff.mpr (getD_mem_of_lt _ _ _ hg))

theorem analyze_cases {BU TD : IDom} {cv : Conv BU TD} {cfg : FixCfg} {comps : List (List Nat)}
    {init : TD.A} {extra : Nat → List (Nat × TD.A)} {res : BUResult BU TD}
    (hrun : analyze BU TD cv p cfg comps init extra = some res) (hord : orderOK p comps = true) :
    ∃ Tg l, Justified BU p cfg res.sums Tg ∧ SeqFacts p l ∧
      tdRun BU TD cv p cfg res.sums init extra l (TDState.empty TD) = some res.td ∧
      (∀ gr rest, l = gr :: rest → gr.1 = rootFn p comps) := by
  unfold analyze at hrun
  by_cases hne : p.noEdges = true
  · simp only [hne, if_true] at hrun
    split at hrun
    · cases hrun
    · next s hr =>
      simp only [Option.some.injEq] at hrun
      subst hrun
      refine ⟨fun _ _ => none, [(p.main, false)], Justified.empty BU p cfg, ⟨by simp, ?_⟩, hr, ?_⟩
      · intro g hg h hh
        rw [noEdges_callees hne hg] at hh
        nomatch hh
      · intro gr rest he
        cases he
        simp [rootFn, hne]
  · have hne' : p.noEdges = false := by simpa using hne
    rw [hne'] at hrun
    simp only [Bool.false_eq_true, if_false] at hrun
    split at hrun
    · cases hrun
    · next T hb =>
      split at hrun
      · cases hrun
      · next s hr =>
        simp only [Option.some.injEq] at hrun
        subst hrun
        obtain ⟨Tg, hJ⟩ := Justified.phase _ _ T _ (Justified.empty BU p cfg) hb
        refine ⟨Tg, tdSeq p comps, hJ, SeqFacts.of_bool hord, hr, ?_⟩
        intro gr rest he
        simp [rootFn, hne', he]

/-- phase 2 on the executions from `main`: the entry values cover the calls and every frame of
    an analysed function stays inside its local collecting semantics -/
theorem td_core {BU TD : IDom} {cv : Conv BU TD} {cfg : FixCfg} {comps : List (List Nat)}
    {init : TD.A} {extra : Nat → List (Nat × TD.A)} {res : BUResult BU TD}
    (hP : ProgOK p) (hmain : p.main < p.funs.size) (hseqok : p.callsSeqOK = true)
    (hren : BU.toAbsDom.RenameSound) (hwBU : WtoHyp BU p cfg) (hwTD : WtoHyp TD p cfg)
    (hrun : analyze BU TD cv p cfg comps init extra = some res) (hord : orderOK p comps = true)
    (ch : Choices) (hinit : InitOK p TD init (rootFn p comps) ch) :
    ∃ l, TDFacts BU TD cv p cfg res.sums init l res.td ∧ TableDecl p res.sums ∧
      EntryOK p (tdSpec p res.sums res.td) ∧
      ∀ fuel, Inv p (tdSpec p res.sums res.td) (run p ch fuel) := by
  obtain ⟨Tg, l, hJ, hseq, hr, hroot⟩ := analyze_cases hrun hord
  have hF := tdRun_facts BU TD cv p cfg res.sums init extra l res.td hr hseq.1
  have hinit' : ∀ gr rest, l = gr :: rest → InitOK p TD init gr.1 ch := by
    intro gr rest he
    rw [hroot gr rest he]; exact hinit
  have hentry := td_entryOK BU TD cv cfg res.sums init hP hren hwTD hJ.decl hseqok hF hseq ch hinit'
  refine ⟨l, hF, hJ.decl, hentry, ?_⟩
  intro fuel
  have h0bu : Inv p (buSpec p res.sums Tg) (initConfig p ch) :=
    Inv.init hP hmain ch (fun _ => mkFrame_env_size p ch 0 p.main [])
  have h0td := td_start BU TD cv cfg res.sums init hP hmain hJ.notMain hF ch hinit'
  exact (joint_run BU TD cfg res.sums hP hren hwBU hJ hentry ch fuel _ h0bu h0td).2

end Crab.Inter
