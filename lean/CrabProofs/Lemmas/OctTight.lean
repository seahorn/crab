import CrabProofs.Lemmas.OctClose
import CrabProofs.Lemmas.DbmPotential

/-!
  Structure of the tight closure of integer octagons (Bagnara–Hill–Zaffanella):
  (a) coherence `m i j = m j̄ ī` is preserved by every operation;
  (b) for a closed coherent matrix whose tightened unary bounds are compatible (`UnaryOK`),
      tightening followed by strengthening is closed again (`strengthen_tighten_closed`), so the
      tight closure of a consistent coherent octagon is closed and coherent (`close_closed`);
  (c) one variable: the emptiness test and the bounds are exact without any coherence hypothesis
      (`bottom_complete_one`, `bounds_exact_one`); for `n` variables see `OctComplete.lean`.
-/
namespace Crab
namespace Octagon
open Dbm

variable {n : Nat}

/-- Miné coherence: every constraint is stored together with its twin -/
def Coherent (m : Oct n) : Prop := ∀ i j, m.get i j = m.get (bar j) (bar i)


theorem W_min_absorb : ∀ (x k : W), W.min (W.min x k) k = W.min x k
  | none, none => rfl
  | none, some k => by simp only [W.min, Int.le_refl, if_true]
  | some x, none => rfl
  | some x, some k => by
    simp only [W.min]
    split <;> simp only [Int.le_refl, if_true, *]

theorem W_tight2_eq_add_half : ∀ a : W, W.tight2 a = W.add (W.half a) (W.half a)
  | none => rfl
  | some a => congrArg some (by omega)

theorem W_half_add_tight2 : ∀ a b : W,
    W.half (W.add (W.tight2 a) (W.tight2 b)) = W.add (W.half a) (W.half b)
  | none, _ => rfl
  | some a, none => rfl
  | some a, some b => congrArg some (by omega)

theorem W_half_LE_of_LE : ∀ {a b c : W}, W.LE a (W.add b (W.add c b)) →
    W.LE (W.half a) (W.add b (W.half c))
  | _, none, _, _ => W.LE_none _
  | _, some b, none, _ => W.LE_none _
  | none, some b, some c, h => by obtain ⟨_, hx, _⟩ := h _ rfl; cases hx
  | some a, some b, some c, h => by
    have := W.LE_some_some.1 h
    exact W.LE_some_some.2 (by omega)


theorem top_coherent : Coherent (top : Oct n) := by
  intro i j; simp [top, Mat.top]

theorem ite_min_comm (P Q : Prop) [Decidable P] [Decidable Q] (x k : W) :
    (if Q then W.min (if P then W.min x k else x) k else (if P then W.min x k else x)) =
    (if P then W.min (if Q then W.min x k else x) k else (if Q then W.min x k else x)) := by
  by_cases p : P <;> by_cases q : Q <;> simp only [if_pos, if_neg, p, q, not_false_eq_true, W_min_absorb]

theorem assumeCst_coherent (o : Oct n) (c : Cst n) (h : Coherent o) : Coherent (assumeCst o c) := by
  intro i j
  simp only [assumeCst, Mat.addEdge, Mat.get_ofFn]
  rw [h i j]
  have e1 : (bar j = bar c.col ∧ bar i = bar c.row) ↔ (i = c.row ∧ j = c.col) :=
    ⟨fun ⟨a, b⟩ => ⟨bar_inj b, bar_inj a⟩, fun ⟨a, b⟩ => ⟨by rw [b], by rw [a]⟩⟩
  have e2 : (bar j = c.row ∧ bar i = c.col) ↔ (i = bar c.col ∧ j = bar c.row) :=
    ⟨fun ⟨a, b⟩ => ⟨by rw [← b, bar_bar], by rw [← a, bar_bar]⟩,
     fun ⟨a, b⟩ => ⟨by rw [b, bar_bar], by rw [a, bar_bar]⟩⟩
  simp only [e1, e2]
  exact ite_min_comm _ _ _ _

theorem assumeAll_coherent (o : Oct n) (cs : List (Cst n)) (h : Coherent o) :
    Coherent (assumeAll o cs) :=
  List.foldlRecOn cs assumeCst h fun o ho c _ => assumeCst_coherent o c ho

theorem tighten_coherent (m : Oct n) (h : Coherent m) : Coherent (tighten m) := by
  intro i j
  simp only [tighten, Mat.get_ofFn]
  rw [h i j]
  have e : (bar i = bar (bar j)) ↔ (j = bar i) := by
    rw [bar_bar]; exact ⟨fun a => a.symm, fun a => a.symm⟩
  by_cases p : j = bar i
  · rw [if_pos p, if_pos (e.2 p)]
  · rw [if_neg p, if_neg (mt e.1 p)]

theorem strengthen_coherent (m : Oct n) (h : Coherent m) : Coherent (strengthen m) := by
  intro i j
  simp only [strengthen, Mat.get_ofFn, bar_bar]
  rw [h i j, W.add_comm]

theorem pmin_coherent (a b : Oct n) (ha : Coherent a) (hb : Coherent b) :
    Coherent (Mat.pmin a b) := by
  intro i j
  simp only [Mat.pmin, Mat.get_ofFn]
  rw [ha i j, hb i j]

theorem pmax_coherent (a b : Oct n) (ha : Coherent a) (hb : Coherent b) :
    Coherent (Mat.pmax a b) := by
  intro i j
  simp only [Mat.pmax, Mat.get_ofFn]
  rw [ha i j, hb i j]

theorem meet_coherent (a b : Oct n) (ha : Coherent a) (hb : Coherent b) : Coherent (meet a b) :=
  pmin_coherent a b ha hb

theorem dropIdx_coherent (m : Oct n) (p : Fin (2 * n) → Bool) (hp : ∀ i, p (bar i) = p i)
    (h : Coherent m) : Coherent (m.dropIdx p) := by
  intro i j
  simp only [Mat.dropIdx, Mat.get_ofFn, hp]
  rw [h i j, Bool.or_comm]

theorem dropVar_coherent (m : Oct n) (x : Fin n) (h : Coherent m) :
    Coherent (m.dropIdx (fun i => decide (varOf i = x))) :=
  dropIdx_coherent m _ (fun i => by simp only [varOf_bar]) h

/-- the shortest-path closure of a coherent matrix is coherent (when consistent) -/
theorem fw_coherent (m : Oct n) (h : Coherent m) (hd : Mat.hasNegDiag (Mat.fw m) = false) :
    Coherent (Mat.fw m) := by
  have hcl := Mat.fw_closed hd
  -- the transposed-barred copy of `fw m` is closed and below `m`
  let c : Oct n := Mat.ofFn fun i j => (Mat.fw m).get (bar j) (bar i)
  have hc : Mat.Closed c := by
    constructor
    · intro i; simp only [c, Mat.get_ofFn]; exact hcl.diag _
    · intro i j k
      simp only [c, Mat.get_ofFn]
      rw [W.add_comm]
      exact hcl.tri _ _ _
  have hle : Mat.LE c m := by
    intro i j
    simp only [c, Mat.get_ofFn]
    rw [h i j]
    exact Mat.fw_LE m _ _
  have key : Mat.LE c (Mat.fw m) :=
    hc.LE_of_sat_imp fun v hv => (Mat.fw_sat m v).2 (Mat.sat_of_LE hle hv)
  intro i j
  apply W.LE.antisymm
  · have := key (bar j) (bar i)
    simp only [c, Mat.get_ofFn, bar_bar] at this
    exact this
  · have := key i j
    simp only [c, Mat.get_ofFn] at this
    exact this

theorem close_coherent (o : Oct n) (h : Coherent o) (hd : Mat.hasNegDiag (Mat.fw o) = false) :
    Coherent (close o) :=
  strengthen_coherent _ (tighten_coherent _ (fw_coherent o h hd))


/-- half of the unary bound of literal `i` -/
def U (m : Oct n) (i : Fin (2 * n)) : W := W.half (m.get i (bar i))

theorem tighten_get_bar (m : Oct n) (i : Fin (2 * n)) :
    (tighten m).get i (bar i) = W.tight2 (m.get i (bar i)) := by
  simp only [tighten, Mat.get_ofFn, if_true]

theorem tighten_get_unary (m : Oct n) (i : Fin (2 * n)) :
    (tighten m).get i (bar i) = W.add (U m i) (U m i) := by
  rw [tighten_get_bar]
  exact W_tight2_eq_add_half _

theorem tighten_get_of_ne (m : Oct n) {i j : Fin (2 * n)} (h : j ≠ bar i) :
    (tighten m).get i j = m.get i j := by
  simp only [tighten, Mat.get_ofFn, if_neg h]

theorem strengthen_tighten_get (m : Oct n) (i j : Fin (2 * n)) :
    (strengthen (tighten m)).get i j =
      W.min ((tighten m).get i j) (W.add (U m i) (U m (bar j))) := by
  simp only [strengthen, Mat.get_ofFn]
  have e2 := tighten_get_bar m (bar j)
  rw [bar_bar] at e2
  rw [tighten_get_bar, e2, W_half_add_tight2]
  simp only [U, bar_bar]

/-- the two tightened unary bounds of every variable are compatible:
    `0 ≤ ⌊m i ī / 2⌋ + ⌊m ī i / 2⌋` (no integer-infeasible pair `2x ≤ a`, `-2x ≤ b`) -/
def UnaryOK (m : Oct n) : Prop := ∀ i, W.LE (some 0) (W.add (U m i) (U m (bar i)))

/-- `U i ≤ t i k + U k` -/
theorem U_LE_left (m : Oct n) (hc : Mat.Closed m) (hco : Coherent m)
    (hu : UnaryOK m) (i k : Fin (2 * n)) : W.LE (U m i) (W.add ((tighten m).get i k) (U m k)) := by
  by_cases hk : k = bar i
  · subst hk
    rw [tighten_get_unary]
    rw [W.add_assoc]
    exact W.LE_add_right (hu i) _
  · rw [tighten_get_of_ne m hk]
    apply W_half_LE_of_LE
    have t1 := hc.tri i (bar i) k
    have t2 := hc.tri k (bar i) (bar k)
    have e : m.get (bar k) (bar i) = m.get i k := (hco i k).symm
    rw [e] at t2
    exact W.LE_trans t1 (W.add_mono (W.LE_refl _) t2)

/-- `U j̄ ≤ U k̄ + t k j` -/
theorem U_LE_right (m : Oct n) (hc : Mat.Closed m) (hco : Coherent m)
    (hu : UnaryOK m) (k j : Fin (2 * n)) : W.LE (U m (bar j)) (W.add (U m (bar k)) ((tighten m).get k j)) := by
  have := U_LE_left m hc hco hu (bar j) (bar k)
  rw [← tighten_coherent m hco k j, W.add_comm] at this
  exact this

theorem strengthen_tighten_closed (m : Oct n) (hc : Mat.Closed m) (hco : Coherent m)
    (hu : UnaryOK m) :
    Mat.Closed (strengthen (tighten m)) := by
  constructor
  · intro i
    rw [strengthen_tighten_get, tighten_get_of_ne m (bar_ne i).symm, hc.diag i]
    exact W.min_eq_left (hu i)
  · intro i j k
    have HL := U_LE_left m hc hco hu
    have HR := U_LE_right m hc hco hu
    rw [strengthen_tighten_get m i j]
    rcases W.min_eq_or ((tighten m).get i k) (W.add (U m i) (U m (bar k))) with e1 | e1 <;>
    rcases W.min_eq_or ((tighten m).get k j) (W.add (U m k) (U m (bar j))) with e2 | e2 <;>
    rw [strengthen_tighten_get m i k, strengthen_tighten_get m k j, e1, e2]
    · -- t i k + t k j
      by_cases hk : k = bar i
      · subst hk
        refine W.LE_trans (W.min_LE_right _ _) ?_
        rw [tighten_get_unary, W.add_assoc]
        refine W.add_mono (W.LE_refl _) ?_
        have := HR (bar i) j
        rwa [bar_bar] at this
      · by_cases hj : j = bar k
        · subst hj
          refine W.LE_trans (W.min_LE_right _ _) ?_
          rw [tighten_get_unary, bar_bar, ← W.add_assoc]
          exact W.add_mono (HL i k) (W.LE_refl _)
        · refine W.LE_trans (W.min_LE_left _ _) ?_
          rw [tighten_get_of_ne m hk, tighten_get_of_ne m hj]
          exact W.LE_trans (tighten_LE m i j) (hc.tri i j k)
    · -- t i k + (U k + U j̄)
      refine W.LE_trans (W.min_LE_right _ _) ?_
      rw [← W.add_assoc]
      exact W.add_mono (HL i k) (W.LE_refl _)
    · -- (U i + U k̄) + t k j
      refine W.LE_trans (W.min_LE_right _ _) ?_
      rw [W.add_assoc]
      exact W.add_mono (W.LE_refl _) (HR k j)
    · -- (U i + U k̄) + (U k + U j̄)
      refine W.LE_trans (W.min_LE_right _ _) ?_
      have h0 := hu k
      have e : W.add (W.add (U m i) (U m (bar k))) (W.add (U m k) (U m (bar j)))
          = W.add (W.add (U m i) (U m (bar j))) (W.add (U m k) (U m (bar k))) := by
        generalize U m i = a
        generalize U m (bar k) = b
        generalize U m k = c
        generalize U m (bar j) = d
        cases a <;> cases b <;> cases c <;> cases d <;> simp [W.add]
        omega
      rw [e]
      exact W.LE_add_right h0 _

/-- the hypothesis of `strengthen_tighten_closed` follows from a non-negative diagonal of the
    result: its diagonal entry at `i` is `min 0 (U i + U ī)` -/
theorem unaryOK_of_diagNonneg (m : Oct n) (hc : Mat.Closed m)
    (hd : Mat.DiagNonneg (strengthen (tighten m))) : UnaryOK m := by
  intro i y hy
  have hs := strengthen_tighten_get m i i
  rw [tighten_get_of_ne m (bar_ne i).symm, hc.diag i, hy] at hs
  have := hd i _ hs
  exact ⟨0, rfl, by split at this <;> omega⟩

/-- the shortest-path closure under a consistent tight closure is consistent, hence closed -/
theorem fw_closed_of_not_bottom {o : Oct n} (hb : isBottom o = false) : Mat.Closed (Mat.fw o) :=
  Mat.fw_closed ((Mat.DiagNonneg_iff _).1 (Mat.DiagNonneg_of_LE
    (Mat.LE_trans (strengthen_LE _) (tighten_LE _)) ((Mat.DiagNonneg_iff _).2 hb)))

theorem close_closed (o : Oct n) (hco : Coherent o) (hb : isBottom o = false) :
    Mat.Closed (close o) ∧ Coherent (close o) := by
  have hcl := fw_closed_of_not_bottom hb
  have hnf : Mat.hasNegDiag (Mat.fw o) = false := (Mat.DiagNonneg_iff _).1 fun i x hx => by
    rw [hcl.diag] at hx; cases hx; exact Int.le_refl 0
  exact ⟨strengthen_tighten_closed _ hcl (fw_coherent o hco hnf)
      (unaryOK_of_diagNonneg _ hcl ((Mat.DiagNonneg_iff _).2 hb)),
    close_coherent o hco hnf⟩

theorem join_coherent (a b : Oct n) (ha : Coherent a) (hb : Coherent b) : Coherent (join a b) := by
  unfold join
  cases hba : isBottom a
  · cases hbb : isBottom b
    · simp only [Bool.false_eq_true, if_false]
      exact pmax_coherent _ _ (close_closed a ha hba).2 (close_closed b hb hbb).2
    · simp only [Bool.false_eq_true, if_false, if_true]; exact ha
  · simp only [if_true]; exact hb

theorem forget_coherent (o : Oct n) (x : Fin n) (h : Coherent o) : Coherent (forget o x) := by
  unfold forget
  cases hb : isBottom o
  · simp only [Bool.false_eq_true, if_false]
    exact dropVar_coherent _ x (close_closed o h hb).2
  · simp only [if_true]; exact h


theorem W_half_add_self (a : W) : W.half (W.add a a) = a := by
  cases a <;> simp [W.half, W.add]
  omega

theorem strengthen_tighten_get_unary (m : Oct n) (i : Fin (2 * n)) :
    (strengthen (tighten m)).get i (bar i) = W.add (U m i) (U m i) := by
  rw [strengthen_tighten_get, tighten_get_unary, bar_bar, W.min_eq_left (W.LE_refl _)]

theorem lit_cases_one (x : Fin 1) (i : Fin (2 * 1)) : i = pos x ∨ i = neg x := by
  have h : varOf i = varOf (pos x) := Fin.ext (by omega)
  rw [← bar_pos]
  exact lit_cases h

theorem bounds_attained_one (o : Oct 1) (hb : isBottom o = false) (x : Fin 1) (t : Int)
    (ht : Itv.mem t (bounds o x)) : γ o (fun _ => t) := by
  have hle : Mat.LE (close o) (Mat.fw o) := Mat.LE_trans (strengthen_LE _) (tighten_LE _)
  have hcl := fw_closed_of_not_bottom hb
  obtain ⟨ht1, ht2⟩ := (mem_bounds_iff hb x t).1 ht
  unfold γ
  rw [← Mat.fw_sat]
  intro i j k hk
  have hpn : ext (fun _ : Fin 1 => t) (pos x) = t := ext_pos _ _
  have hnn : ext (fun _ : Fin 1 => t) (neg x) = -t := ext_neg _ _
  rcases lit_cases_one x i with rfl | rfl <;> rcases lit_cases_one x j with rfl | rfl
  · rw [hcl.diag] at hk; cases hk; omega
  · obtain ⟨k', hk', hle'⟩ := hle (pos x) (neg x) k hk
    have := ht2 k' hk'
    rw [hpn, hnn]; omega
  · obtain ⟨k', hk', hle'⟩ := hle (neg x) (pos x) k hk
    have := ht1 k' hk'
    rw [hpn, hnn]; omega
  · rw [hcl.diag] at hk; cases hk; omega

theorem bounds_nonempty_one (o : Oct 1) (hb : isBottom o = false) (x : Fin 1) :
    ∃ t, Itv.mem t (bounds o x) := by
  have hd : Mat.DiagNonneg (close o) := (Mat.DiagNonneg_iff _).2 hb
  have hcl := fw_closed_of_not_bottom hb
  have hu := unaryOK_of_diagNonneg _ hcl hd (pos x)
  have e1 : (close o).get (pos x) (neg x) = W.add (U (Mat.fw o) (pos x)) (U (Mat.fw o) (pos x)) := by
    have := strengthen_tighten_get_unary (Mat.fw o) (pos x)
    rwa [bar_pos] at this
  have e2 : (close o).get (neg x) (pos x) = W.add (U (Mat.fw o) (neg x)) (U (Mat.fw o) (neg x)) := by
    have := strengthen_tighten_get_unary (Mat.fw o) (neg x)
    rwa [bar_neg] at this
  unfold bounds boundsC
  rw [show isBottomC (close o) = isBottom o from rfl, hb]
  simp only [Bool.false_eq_true, if_false, Itv.mem, e1, e2, W_half_add_self]
  rw [bar_pos] at hu
  revert hu
  generalize U (Mat.fw o) (pos x) = a
  generalize U (Mat.fw o) (neg x) = b
  intro hu
  cases a with
  | none =>
    cases b with
    | none => exact ⟨0, by simp [Zones.toLb, Zones.toUb, Bound.le]⟩
    | some b => exact ⟨-b, by simp [Zones.toLb, Zones.toUb, Bound.le]⟩
  | some a =>
    cases b with
    | none => exact ⟨a, by simp [Zones.toLb, Zones.toUb, Bound.le]⟩
    | some b =>
      have := W.LE_some_some.1 hu
      exact ⟨a, by simp [Zones.toLb, Zones.toUb, Bound.le]; omega⟩

theorem bottom_complete_one (o : Oct 1) (hb : isBottom o = false) : ∃ σ, γ o σ := by
  obtain ⟨t, ht⟩ := bounds_nonempty_one o hb 0
  exact ⟨_, bounds_attained_one o hb 0 t ht⟩

theorem bounds_exact_one (o : Oct 1) (x : Fin 1) (t : Int) :
    Itv.mem t (bounds o x) ↔ ∃ σ, γ o σ ∧ σ x = t := by
  constructor
  · intro ht
    cases hb : isBottom o
    · exact ⟨_, bounds_attained_one o hb x t ht, rfl⟩
    · unfold bounds boundsC at ht
      rw [show isBottomC (close o) = isBottom o from rfl, hb] at ht
      exact absurd ht (Itv.not_mem_bot t)
  · rintro ⟨σ, hσ, rfl⟩
    exact bounds_sound o σ hσ x

end Octagon
end Crab
