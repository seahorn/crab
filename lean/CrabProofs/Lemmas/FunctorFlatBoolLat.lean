import CrabProofs.Lemmas.FunctorFlatBool
import CrabProofs.Lemmas.FunctorProductOps

/-!
Lattice operations of the model of `flat_boolean_numerical_domain`: `|`, `|=`, `||`, `<=`,
`is_bottom`, `is_top`, `make_top`, `make_bottom`, and `&`, `&=`, `&&` (as fixed by repo commit
ef2ddd6), with the order facts needed by C04: reflexivity of `<=`, top above everything, the meet is a
lower bound.
-/
set_option linter.unusedSectionVars false

namespace Crab
namespace Dom
namespace Fct

variable {V : Type} [DecidableEq V] {K : CSig V}

namespace FBN
variable {N : BNDom V K}

/-- the auxiliary components of `a | b`, `a |= b`, `a || b` (all three intersected) keep the
    invariant of either operand -/
theorem γ_join_aux {a b : FBN N} {s : CSt V} (h : γ a s ∨ γ b s) {p : Prod2 (FB V) N.toLDom} (hp : p.γ s) :
    γ (⟨p, a.lin.join b.lin, a.bools.join b.bools, a.unch.join b.unch⟩ : FBN N) s := by
  have Hu := fun v => (DSet.mem_join a.unch b.unch v).1
  have h := h.imp γ_iff.1 γ_iff.1
  refine γ_iff.2 ⟨hp, ?_, .join (h.imp (·.2.2.1.imp (LinP.mono fun v hv => (Hu v hv).1))
    (·.2.2.1.imp (LinP.mono fun v hv => (Hu v hv).2))), .join (h.imp (·.2.2.2) (·.2.2.2))⟩
  show (a.unch.join b.unch).isBot = false
  rw [DSet.isBot_join]; rcases h with h | h <;> simp [h.2.1]

theorem join_sound {a b : FBN N} {s : CSt V} (h : γ a s ∨ γ b s) : γ (join a b) s :=
  γ_join_aux h (Prod2.join_sound (h.imp And.left And.left))

theorem joinEq_sound {a b : FBN N} {s : CSt V} (h : γ a s ∨ γ b s) : γ (joinEq a b) s :=
  γ_join_aux h (Prod2.joinEq_sound (h.imp And.left And.left))

theorem widenWith_sound {w2 : N.B → N.B → N.B} (hw : N.USound w2) {a b : FBN N} {s : CSt V}
    (h : γ a s ∨ γ b s) : γ (widenWith w2 a b) s :=
  γ_join_aux h (Prod2.widenWith_sound (D1 := FB V) (FB V).uSound_join hw (h.imp And.left And.left))

/-! ### `operator<=`, `is_bottom`, `is_top` -/

theorem not_γ_of_isBottom {a : FBN N} (h : a.isBottom = true) (s : CSt V) : ¬ γ a s :=
  fun hg => Prod2.not_γ_of_isBottom h s hg.1

theorem leq_sound {a b : FBN N} {s : CSt V} (h : leq a b = true) (hg : γ a s) : γ b s := by
  obtain ⟨hp, hu, hL, hB⟩ := γ_iff.1 hg
  unfold leq at h
  rw [isBottom_false_of_γ hg, if_neg Bool.false_ne_true] at h
  cases hbb : b.isBottom
  case true => rw [hbb, if_pos rfl] at h; cases h
  case false =>
    simp only [hbb, Bool.false_eq_true, if_false, Bool.and_eq_true] at h
    obtain ⟨⟨⟨h1, h2⟩, h3⟩, h4⟩ := h
    exact γ_iff.2 ⟨Prod2.leq_sound h1 hp, DSet.isBot_of_leq h4 hu,
      (hL.imp (LinP.mono (DSet.mem_of_leq h4))).of_leq h2, hB.of_leq h3⟩

/-- `is_top()`: right on values whose product is well formed and whose `m_unchanged_vars` is not
    the bottom of its lattice (both hold for every value with a non-empty concretisation) -/
theorem γ_of_isTop (t2 : N.TopSound) {a : FBN N} (hw : a.prod.WF) (hu : a.unch.isBot = false)
    (h : a.isTop = true) (s : CSt V) : γ a s := by
  unfold isTop at h
  simp only [Bool.and_eq_true] at h
  obtain ⟨⟨h1, h2⟩, h3⟩ := h
  refine γ_iff.2 ⟨Prod2.γ_of_isTop fb_topSound t2 hw h1 s, hu, ?_, ?_⟩
  · rw [SEnv.eq_top_of_isTop h2]; exact SEnv.holds_top
  · rw [SEnv.eq_top_of_isTop h3]; exact SEnv.holds_top

theorem γ_top (s : CSt V) : γ (top : FBN N) s :=
  γ_iff.2 ⟨Prod2.γ_setTop Prod2.top s, rfl, SEnv.holds_top, SEnv.holds_top⟩

theorem not_γ_bottom (s : CSt V) : ¬ γ (bottom : FBN N) s := fun h => Prod2.not_γ_setBottom Prod2.top s h.1

theorem leq_refl (hr : N.LeqRefl) (a : FBN N) : leq a a = true := by
  unfold leq
  cases hb : a.isBottom
  · simp only [Bool.false_eq_true, if_false, Bool.and_eq_true]
    exact ⟨⟨⟨Prod2.leq_refl fb_leqRefl hr a.prod, SEnv.leq_refl _⟩, SEnv.leq_refl _⟩, DSet.leq_refl _⟩
  · rfl

theorem leq_of_isBottom {a : FBN N} (h : a.isBottom = true) (b : FBN N) : leq a b = true := by
  simp [leq, h]

theorem isBottom_bottom : (bottom : FBN N).isBottom = true := rfl

theorem leq_top (h2 : N.TopNotBot) (l2 : N.LeqTop) (a : FBN N) : leq a top = true := by
  unfold leq
  cases hb : a.isBottom
  · have hp : (top : FBN N).prod = (Prod2.top : Prod2 (FB V) N.toLDom) := by
      rw [Prod2.top_eq fb_topNotBot h2]; rfl
    have ht : (top : FBN N).isBottom = false := by
      have h2' : N.isBot N.top = false := h2
      simp [isBottom, top, Prod2.setTop, Prod2.isBottom, h2']
      rfl
    simp only [Bool.false_eq_true, if_false, ht, Bool.and_eq_true]
    refine ⟨⟨⟨?_, SEnv.leq_top _⟩, SEnv.leq_top _⟩, DSet.leq_top _⟩
    rw [hp]
    exact Prod2.leq_top fb_topNotBot h2 fb_leqTop l2 a.prod
  · rfl

theorem isTop_top (h2 : N.TopIsTop) : (top : FBN N).isTop = true := by
  have h2' : N.isTop N.top = true := h2
  simp [isTop, top, Prod2.setTop, Prod2.isTop, h2', SEnv.isTop, SEnv.top]
  rfl

/-! ### `&`, `&=`, `&&` -/

/-- the auxiliary components of `a & b` (after ef2ddd6: united maps, intersected marks) describe
    every state of both operands: a usable constraint is usable in the operand it comes from -/
theorem γ_meet_aux {a b : FBN N} {s : CSt V} (ha : γ a s) (hb : γ b s) {p : Prod2 (FB V) N.toLDom}
    (hp : p.γ s) : γ (⟨p, a.lin.meet b.lin, a.bools.meet b.bools, a.unch.join b.unch⟩ : FBN N) s := by
  obtain ⟨_, hu, hL, hB⟩ := γ_iff.1 ha
  obtain ⟨_, _, hL', hB'⟩ := γ_iff.1 hb
  have Hu := fun v => (DSet.mem_join a.unch b.unch v).1
  refine γ_iff.2 ⟨hp, ?_, SEnv.holds_meet.2 ⟨hL.imp (LinP.mono fun v hv => (Hu v hv).1),
    hL'.imp (LinP.mono fun v hv => (Hu v hv).2)⟩, SEnv.holds_meet.2 ⟨hB, hB'⟩⟩
  show (a.unch.join b.unch).isBot = false
  rw [DSet.isBot_join, hu]; rfl

theorem meet_sound {a b : FBN N} {s : CSt V} (ha : γ a s) (hb : γ b s) : γ (meet a b) s :=
  γ_meet_aux ha hb (Prod2.meet_sound ha.1 hb.1)
theorem meetEq_sound {a b : FBN N} {s : CSt V} (ha : γ a s) (hb : γ b s) : γ (meetEq a b) s :=
  γ_meet_aux ha hb (Prod2.meetEq_sound ha.1 hb.1)
theorem narrow_sound {a b : FBN N} {s : CSt V} (ha : γ a s) (hb : γ b s) : γ (narrow a b) s :=
  γ_meet_aux ha hb (Prod2.narrow_sound ha.1 hb.1)

/-- when both operands mark the same variables, `a & b` is below both: its product is
    (`Prod2.meet_lower`) and its auxiliary components record more than those of each operand -/
theorem meet_lower (m2 : N.MeetLower) (t2 : N.TopSound) {a b : FBN N} (ha : a.prod.WF) (hb : b.prod.WF)
    (hs : sameUnch a b = true) {s : CSt V} (h : γ (meet a b) s) : γ a s ∧ γ b s := by
  obtain ⟨hp, hu, hL, hB⟩ := γ_iff.1 h
  have hp := Prod2.meet_lower fb_meetLower m2 fb_topSound t2 ha hb hp
  have hL := SEnv.holds_meet.1 hL
  have hB := SEnv.holds_meet.1 hB
  unfold sameUnch at hs
  rw [Bool.and_eq_true] at hs
  have hu : a.unch.isBot = false ∧ b.unch.isBot = false := by
    have : (a.unch.join b.unch).isBot = false := hu
    rw [DSet.isBot_join, Bool.and_eq_false_iff] at this
    rcases this with h3 | h3
    · exact ⟨h3, DSet.isBot_of_leq hs.1 h3⟩
    · exact ⟨DSet.isBot_of_leq hs.2 h3, h3⟩
  exact ⟨γ_iff.2 ⟨hp.1, hu.1,
      hL.1.imp (LinP.mono fun v hv => (DSet.mem_join _ _ v).2 ⟨hv, DSet.mem_of_leq hs.2 v hv⟩), hB.1⟩,
    γ_iff.2 ⟨hp.2, hu.2,
      hL.2.imp (LinP.mono fun v hv => (DSet.mem_join _ _ v).2 ⟨DSet.mem_of_leq hs.1 v hv, hv⟩), hB.2⟩⟩

end FBN

end Fct
end Dom
end Crab
