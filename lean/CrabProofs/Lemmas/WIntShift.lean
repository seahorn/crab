import CrabProofs.Lemmas.WIntTrunc

/-!
  `Crab.WInt`: `LShr`, `AShr`, the shifts by an interval, the half lines.
-/
namespace Crab
namespace WInt
open WrapInt

/-- `LShr(k)` (`k` a shift amount representable in `w` bits) contains `v / 2^k` for every member -/
theorem lshrK_sound {w k : Nat} (h1w : 1 ≤ w) (hw : w ≤ 64) (hk : k < 2 ^ w) {x r : WInt}
    (hx : Good w x) (h : x.lshrK k = some r) {v : Nat} (hv : v < 2 ^ w) (hm : mem w v x) :
    mem w (v / 2 ^ k) r := by
  rcases good_mem_cases hx hm with ⟨s, e, hs, he, rfl, hnt⟩ | hnt
  · unfold lshrK at h
    simp only [hnt, Bool.false_eq_true, if_false, crossU_val hnt, Option.bind_eq_bind,
      Option.bind_some, mk?_raw h1w hw hk, lshr_raw hs, lshr_raw he] at h
    split at h
    · next hc =>
      injection h with h; subst h
      have hc' : ¬ (unsignedLimit w).leq (W w s e false) = true := by simpa using hc
      have hse : s ≤ e := by
        have := mt (crossU_iff h1w hw hs he hnt).mpr hc'
        omega
      have hm' := (mem_ord_iff hw hse he hv).mp hm
      show mem w (v / 2 ^ k) (W w (s / 2 ^ k) (e / 2 ^ k) false)
      have hb : e / 2 ^ k < 2 ^ w := Nat.lt_of_le_of_lt (Nat.div_le_self _ _) he
      rw [mem_ord_iff hw (Nat.div_le_div_right hse) hb
        (Nat.lt_of_le_of_lt (Nat.div_le_self _ _) hv)]
      exact ⟨Nat.div_le_div_right hm'.1, Nat.div_le_div_right hm'.2⟩
    · injection h with h; subst h; exact mem_top _ _
  · exact mem_top_unchanged hnt (by simp [lshrK, hm.1, hnt]) h


def ashrN (w v k : Nat) : Nat := ((BitVec.ofNat w v).sshiftRight k).toNat

theorem ashrN_bv {w : Nat} (a : BitVec w) (k : Nat) : (a.sshiftRight k).toNat = ashrN w a.toNat k := by
  unfold ashrN
  rw [BitVec.ofNat_toNat, BitVec.setWidth_eq]

theorem ashrN_lt (w v k : Nat) : ashrN w v k < 2 ^ w := BitVec.isLt _

theorem sg_ashrN {w v k : Nat} (hv : v < 2 ^ w) :
    sg (2 ^ w) (ashrN w v k) = sg (2 ^ w) v / ((2 ^ k : Nat) : Int) := by
  unfold ashrN
  rw [sg_toInt, BitVec.toInt_sshiftRight, Int.shiftRight_eq_div_pow, ← sg_toInt,
    BitVec.toNat_ofNat, Nat.mod_eq_of_lt hv]

theorem ashr_rawN {w s k : Nat} (h1w : 1 ≤ w) (hw : w ≤ 64) (hs : s < 2 ^ w) (hk : k < 2 ^ w) :
    WrapInt.ashr ⟨w, s⟩ ⟨w, k⟩ = some ⟨w, ashrN w s k⟩ := by
  rw [ashr_raw h1w hw hs hk, BitVec.ofNatLT_eq_ofNat]; rfl

/-- `AShr(k)` contains the arithmetic shift of every member -/
theorem ashrK_sound {w k : Nat} (h1w : 1 ≤ w) (hw : w ≤ 64) (hk : k < 2 ^ w) {x r : WInt}
    (hx : Good w x) (h : x.ashrK k = some r) {v : Nat} (hv : v < 2 ^ w) (hm : mem w v x) :
    mem w (ashrN w v k) r := by
  rcases good_mem_cases hx hm with ⟨s, e, hs, he, rfl, hnt⟩ | hnt
  · unfold ashrK at h
    simp only [hnt, Bool.false_eq_true, if_false, crossS_val hnt, Option.bind_eq_bind,
      Option.bind_some, mk?_raw h1w hw hk, ashr_rawN h1w hw hs hk, ashr_rawN h1w hw he hk] at h
    split at h
    · next hc =>
      injection h with h; subst h
      have hc' : ¬ (signedLimit w).leq (W w s e false) = true := by simpa using hc
      have hse : sg (2 ^ w) s ≤ sg (2 ^ w) e := by
        have := mt (crossS_iff h1w hw hs he hnt).mpr hc'
        omega
      have hm' := (mem_sord_iff h1w hw hs he hv hse).mp hm
      show mem w (ashrN w v k) (W w (ashrN w s k) (ashrN w e k) false)
      have hpos : (0 : Int) < ((2 ^ k : Nat) : Int) := by
        have : 0 < 2 ^ k := Nat.pow_pos (by decide)
        exact Int.natCast_pos.mpr this
      rw [mem_sord_iff h1w hw (ashrN_lt _ _ _) (ashrN_lt _ _ _) (ashrN_lt _ _ _)
        (by rw [sg_ashrN hs, sg_ashrN he]; exact Int.ediv_le_ediv hpos hse)]
      rw [sg_ashrN hs, sg_ashrN he, sg_ashrN hv]
      exact ⟨Int.ediv_le_ediv hpos hm'.1, Int.ediv_le_ediv hpos hm'.2⟩
    · injection h with h; subst h; exact mem_top _ _
  · exact mem_top_unchanged hnt (by simp [ashrK, hm.1, hnt]) h

/-! ### shifts by an interval: only a singleton amount is used -/

/-- the common form of `Shl`, `LShr`, `AShr` by an interval: the operation `opK` by the only
    member of a singleton amount, else `top()` -/
theorem byInterval_sound {w : Nat} (hw : w ≤ 64) {opK : WInt → Nat → Option WInt} {x y r : WInt}
    (hy : Good w y) {a b res : Nat} (hb : b < 2 ^ w) (hma : mem w a x) (hmb : mem w b y)
    (hK : ∀ r, opK x b = some r → mem w res r)
    (h : (if x.isBottom then some x else if y.isSingleton then opK x y.start.n else some top) =
      some r) : mem w res r := by
  rw [hma.1] at h
  simp only [Bool.false_eq_true, if_false] at h
  split at h
  · next hs => rw [singleton_mem hw hy hs hb hmb] at h; exact hK r h
  · injection h with h; subst h; exact mem_top _ _

theorem shl_sound {w : Nat} (h1w : 1 ≤ w) (hw : w ≤ 64) {x y r : WInt} (hx : Good w x) (hy : Good w y)
    (h : x.shl y = some r) {a b : Nat} (ha : a < 2 ^ w) (hb : b < 2 ^ w) (hma : mem w a x)
    (hmb : mem w b y) : mem w ((a * 2 ^ b) % 2 ^ w) r :=
  byInterval_sound hw hy hb hma hmb (fun _ h => shlK_sound h1w hw hx h ha hma) h

theorem lshr_sound {w : Nat} (h1w : 1 ≤ w) (hw : w ≤ 64) {x y r : WInt} (hx : Good w x) (hy : Good w y)
    (h : x.lshr y = some r) {a b : Nat} (ha : a < 2 ^ w) (hb : b < 2 ^ w) (hma : mem w a x)
    (hmb : mem w b y) : mem w (a / 2 ^ b) r :=
  byInterval_sound hw hy hb hma hmb (fun _ h => lshrK_sound h1w hw hb hx h ha hma) h

theorem ashr_sound {w : Nat} (h1w : 1 ≤ w) (hw : w ≤ 64) {x y r : WInt} (hx : Good w x) (hy : Good w y)
    (h : x.ashr y = some r) {a b : Nat} (ha : a < 2 ^ w) (hb : b < 2 ^ w) (hma : mem w a x)
    (hmb : mem w b y) : mem w (ashrN w a b) r :=
  byInterval_sound hw hy hb hma hmb (fun _ h => ashrK_sound h1w hw hb hx h ha hma) h

theorem shl_sound_bv {w : Nat} (h1w : 1 ≤ w) (hw : w ≤ 64) {x y r : WInt} (hx : Good w x) (hy : Good w y)
    (h : x.shl y = some r) {a b : BitVec w} (ha : memBV a x) (hb : memBV b y) : memBV (a <<< b) r := by
  unfold memBV
  rw [BitVec.shiftLeft_eq', BitVec.toNat_shiftLeft, Nat.shiftLeft_eq]
  exact shl_sound h1w hw hx hy h a.isLt b.isLt ha hb

theorem lshr_sound_bv {w : Nat} (h1w : 1 ≤ w) (hw : w ≤ 64) {x y r : WInt} (hx : Good w x) (hy : Good w y)
    (h : x.lshr y = some r) {a b : BitVec w} (ha : memBV a x) (hb : memBV b y) : memBV (a >>> b) r := by
  unfold memBV
  rw [BitVec.ushiftRight_eq', BitVec.toNat_ushiftRight, Nat.shiftRight_eq_div_pow]
  exact lshr_sound h1w hw hx hy h a.isLt b.isLt ha hb

theorem ashr_sound_bv {w : Nat} (h1w : 1 ≤ w) (hw : w ≤ 64) {x y r : WInt} (hx : Good w x) (hy : Good w y)
    (h : x.ashr y = some r) {a b : BitVec w} (ha : memBV a x) (hb : memBV b y) :
    memBV (a.sshiftRight' b) r := by
  unfold memBV
  rw [BitVec.sshiftRight_eq', ashrN_bv]
  exact ashr_sound h1w hw hx hy h a.isLt b.isLt ha hb


theorem not_at_not_mem {w : Nat} (hw : w ≤ 64) {s e p : Nat} (hs : s < 2 ^ w) (he : e < 2 ^ w)
    (hp : p < 2 ^ w) (h : ¬ (W w s e false).at ⟨w, p⟩ = true) :
    ¬ D (2 ^ w) s p ≤ D (2 ^ w) s e :=
  fun hh => h ((at_W hw hs he hp).trans (decide_eq_true hh))

/-- seen from the pole `c'` with predecessor `c`: an interval that does not hold `c` does not
    wrap, so whatever is below a member is below its end -/
theorem lower_core {M c c' s e a v : Nat} (hc : c < M) (hc' : c' < M) (hs : s < M) (he : e < M)
    (ha : a < M) (hd : D M c c' = 1) (hn : ¬ D M s c ≤ D M s e) (hm : D M s a ≤ D M s e)
    (hle : D M c' v ≤ D M c' a) : D M c' v ≤ D M c' e := by
  have := D_swap hc hc' (by omega)
  have := D_lt hc' ha
  rw [arc_iff hc' hs he hc] at hn
  rw [arc_iff hc' hs he ha] at hm
  omega

/-- an interval that does not hold the pole `c'` does not wrap, so whatever is above a member is
    above its start -/
theorem upper_core {M c c' s e a v : Nat} (hc : c < M) (hc' : c' < M) (hs : s < M) (he : e < M)
    (ha : a < M) (hv : v < M) (hd : D M c c' = 1) (hn : ¬ D M s c' ≤ D M s e)
    (hm : D M s a ≤ D M s e) (hle : D M c' a ≤ D M c' v) : D M s v ≤ D M s c := by
  have := D_swap hc hc' (by omega)
  have := D_lt hc' hv
  rw [arc_iff hc' hs he hc', D_self] at hn
  rw [arc_iff hc' hs he ha] at hm
  rw [arc_iff hc' hs hc hv]
  omega

/-- `lower_half_line`: everything below a member, in the order of the distances from the minimum
    `c'` (`0` or `2^(w-1)`) -/
theorem lowerHalfLine_sound {w : Nat} (h1w : 1 ≤ w) (hw : w ≤ 64) {x : WInt} (hx : Shape w x)
    (sgn : Bool) {a v : Nat} (ha : a < 2 ^ w) (hv : v < 2 ^ w) (hm : mem w a x)
    (hle : D (2 ^ w) (if sgn then sminT w else uminT w).n v ≤
      D (2 ^ w) (if sgn then sminT w else uminT w).n a) : mem w v (x.lowerHalfLine sgn) := by
  obtain ⟨s, e, hs, he, rfl⟩ := shape_cases hx hm.1
  have hM := two_le_pow h1w
  have hN := half_lt h1w
  have hm' := (mem_W_le hw hs he ha).mp hm
  unfold lowerHalfLine
  dsimp only
  refine mem_ite (fun ht => mem_of_isTop (by simpa using ht)) fun _ => ?_
  cases sgn
  · refine mem_ite (fun h => by simp at h) fun _ => mem_ite (fun _ => mem_top _ _) fun hat => ?_
    exact (mem_W_le hw (by omega) he hv).mpr (lower_core (by omega) (by omega) hs he ha
      (D_umax_umin h1w) (not_at_not_mem hw hs he (by omega : 2 ^ w - 1 < 2 ^ w) hat) hm' hle)
  · refine mem_ite (fun _ => mem_top _ _) fun hat => mem_ite (fun h => by simp at h) fun _ => ?_
    exact (mem_W_le hw hN he hv).mpr (lower_core (by omega) hN hs he ha
      (D_smax_smin h1w) (not_at_not_mem hw hs he (by omega : 2 ^ (w - 1) - 1 < 2 ^ w) hat) hm' hle)

theorem upperHalfLine_sound {w : Nat} (h1w : 1 ≤ w) (hw : w ≤ 64) {x : WInt} (hx : Shape w x)
    (sgn : Bool) {a v : Nat} (ha : a < 2 ^ w) (hv : v < 2 ^ w) (hm : mem w a x)
    (hle : D (2 ^ w) (if sgn then sminT w else uminT w).n a ≤
      D (2 ^ w) (if sgn then sminT w else uminT w).n v) : mem w v (x.upperHalfLine sgn) := by
  obtain ⟨s, e, hs, he, rfl⟩ := shape_cases hx hm.1
  have hM := two_le_pow h1w
  have hN := half_lt h1w
  have hm' := (mem_W_le hw hs he ha).mp hm
  unfold upperHalfLine
  dsimp only
  refine mem_ite (fun ht => mem_of_isTop (by simpa using ht)) fun _ => ?_
  cases sgn
  · refine mem_ite (fun h => by simp at h) fun _ => mem_ite (fun _ => mem_top _ _) fun hat => ?_
    exact (mem_W_le hw hs (by omega) hv).mpr (upper_core (by omega) (by omega) hs he ha hv
      (D_umax_umin h1w) (not_at_not_mem hw hs he (by omega : 0 < 2 ^ w) hat) hm' hle)
  · refine mem_ite (fun _ => mem_top _ _) fun hat => mem_ite (fun h => by simp at h) fun _ => ?_
    exact (mem_W_le hw hs (by omega) hv).mpr (upper_core (by omega) hN hs he ha hv
      (D_smax_smin h1w) (not_at_not_mem hw hs he hN hat) hm' hle)

theorem lowerHalfLine_signed_sound {w : Nat} (h1w : 1 ≤ w) (hw : w ≤ 64) {x : WInt} (hx : Shape w x)
    {a v : Nat} (ha : a < 2 ^ w) (hv : v < 2 ^ w) (hm : mem w a x)
    (hle : sg (2 ^ w) v ≤ sg (2 ^ w) a) : mem w v (x.lowerHalfLine true) :=
  lowerHalfLine_sound h1w hw hx true ha hv hm ((sg_le_iff h1w v a).mp hle)

theorem lowerHalfLine_unsigned_sound {w : Nat} (h1w : 1 ≤ w) (hw : w ≤ 64) {x : WInt} (hx : Shape w x)
    {a v : Nat} (ha : a < 2 ^ w) (hm : mem w a x) (hle : v ≤ a) :
    mem w v (x.lowerHalfLine false) :=
  lowerHalfLine_sound h1w hw hx false ha (by omega) hm
    (show D (2 ^ w) 0 v ≤ D (2 ^ w) 0 a by rw [D_zero, D_zero]; exact hle)

theorem upperHalfLine_signed_sound {w : Nat} (h1w : 1 ≤ w) (hw : w ≤ 64) {x : WInt} (hx : Shape w x)
    {a v : Nat} (ha : a < 2 ^ w) (hv : v < 2 ^ w) (hm : mem w a x)
    (hle : sg (2 ^ w) a ≤ sg (2 ^ w) v) : mem w v (x.upperHalfLine true) :=
  upperHalfLine_sound h1w hw hx true ha hv hm ((sg_le_iff h1w a v).mp hle)

theorem upperHalfLine_unsigned_sound {w : Nat} (h1w : 1 ≤ w) (hw : w ≤ 64) {x : WInt} (hx : Shape w x)
    {a v : Nat} (ha : a < 2 ^ w) (hv : v < 2 ^ w) (hm : mem w a x) (hle : a ≤ v) :
    mem w v (x.upperHalfLine false) :=
  upperHalfLine_sound h1w hw hx false ha hv hm
    (show D (2 ^ w) 0 a ≤ D (2 ^ w) 0 v by rw [D_zero, D_zero]; exact hle)

end WInt
end Crab
