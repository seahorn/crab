import CrabProofs.Lemmas.PatriciaItv
import CrabProofs.Lemmas.PatriciaSepDomAt

/-! `separate_domain<Key, interval<z_number>>` read through `at(k)`.  On intervals join / widening,
    meet / narrowing and `<=` are exact on the `at` values (`at (a | b) k = at a k | at b k`, bottoms
    included), which needs that top is absorbing / neutral for the value operation; the point
    updates are instances of `PatriciaSepDomAt.lean`. -/
set_option linter.unusedSimpArgs false

namespace Crab
open Patricia Patricia.Tree

abbrev IEnv := SepDom Itv

def EnvInv (e : IEnv) : Prop := SepDom.Inv StoredItv e

/-- the oracles of an interval environment: any pointer-equality oracle, `operator==` of
    intervals as `ValueEqual` -/
def itvCtx (pe : Tree Itv → Tree Itv → Bool) : Ctx Itv := ⟨pe, Itv.beq⟩

def PtrSound (pe : Tree Itv → Tree Itv → Bool) : Prop := ∀ a b, pe a b = true → a = b

theorem itvCtx_sound {pe : Tree Itv → Tree Itv → Bool} (h : PtrSound pe) : (itvCtx pe).SoundOn StoredItv :=
  ⟨h, fun _ _ hy hxy => Itv.beq_sound hy.2.1 hxy⟩

namespace IEnv
open SepDom

local notation "IL" => itvLattice

theorem vals : Vals IL StoredItv :=
  ⟨Itv.isTop_top, Itv.isBottom_top, fun _ => Itv.isTop_false_of_stored, fun _ => Itv.isBottom_false_of_stored⟩

theorem atKey_wf {e : IEnv} (he : EnvInv e) (ne : e.isBot = false) (k : Nat) : (atKey IL e k).WF := by
  rcases atKey_cases (L := IL) he ne k with ⟨x, _, e1, hx⟩ | ⟨_, e1⟩
  · rw [e1]; exact hx.2.2
  · rw [e1]; exact Itv.wf_top

theorem widen_wf {x y : Itv} (hx : StoredItv x) (hy : StoredItv y) : (Itv.widen x y).WF :=
  Itv.widen_WF hx hy

/-- generic "upper" operation on interval environments, at the level of `at` -/
theorem upper_at {pe : Tree Itv → Tree Itv → Bool} (hpe : PtrSound pe) {f : Itv → Itv → Itv}
    (hpres : ∀ x y, StoredItv x → StoredItv y → (f x y).isTop = false → StoredItv (f x y))
    (hwf : ∀ x y, StoredItv x → StoredItv y → (f x y).WF)
    (hidem : ∀ x, StoredItv x → f x x = x)
    (hbl : ∀ y : Itv, f Itv.bot y = y) (hbr : ∀ x : Itv, x.isBottom = false → f x Itv.bot = x)
    (htl : ∀ y : Itv, y.isBottom = false → f Itv.top y = Itv.top)
    (htr : ∀ x : Itv, x.isBottom = false → x.WF → f x Itv.top = Itv.top)
    {a b : IEnv} (ha : EnvInv a) (hb : EnvInv b) :
    EnvInv (upper (itvCtx pe) IL f a b) ∧ ∀ k, atKey IL (upper (itvCtx pe) IL f a b) k = f (atKey IL a k) (atKey IL b k) := by
  cases na : a.isBot
  · cases nb : b.isBot
    · obtain ⟨hi, hnb, hl⟩ := upper_spec (L := IL) (f := f) (itvCtx_sound hpe) hpres hidem
        (fun x hx => hx.1) ha hb na nb
      refine ⟨hi, fun k => ?_⟩
      rw [atKey_eq, hnb, hl]
      simp only [Bool.false_eq_true, if_false]
      rcases atKey_cases ha na k with ⟨x, l1, e1, hx⟩ | ⟨l1, e1⟩ <;>
        rcases atKey_cases hb nb k with ⟨y, l2, e2, hy⟩ | ⟨l2, e2⟩ <;> rw [l1, l2, e1, e2] <;> simp only
      · split
        · rename_i ht
          exact (Itv.eq_top_of_isTop ht (hwf x y hx hy)).symm
        · rfl
      · exact (htr x hx.2.1 hx.2.2).symm
      · exact (htl y hy.2.1).symm
      · exact (htl _ Itv.isBottom_top).symm
    · rw [upper_bot_right na nb]
      exact ⟨ha, fun k => by rw [atKey_bottom nb]; exact (hbr _ (atKey_not_bottom vals ha na k)).symm⟩
  · rw [upper_bot_left na]
    exact ⟨hb, fun k => by rw [atKey_bottom na]; exact (hbl _).symm⟩

theorem join_at {pe : Tree Itv → Tree Itv → Bool} (hpe : PtrSound pe) {a b : IEnv} (ha : EnvInv a) (hb : EnvInv b) :
    EnvInv (SepDom.join (itvCtx pe) IL a b) ∧
      ∀ k, atKey IL (SepDom.join (itvCtx pe) IL a b) k = Itv.join (atKey IL a k) (atKey IL b k) :=
  upper_at hpe (fun _ _ => Itv.join_pres) (fun _ _ hx hy => Itv.join_wf hx.2.1 hy.2.1 hx.2.2 hy.2.2) (fun _ => Itv.join_idem)
    Itv.join_bot_left (fun _ => Itv.join_bot_right) (fun _ => Itv.join_top_left) (fun _ h _ => Itv.join_top_right h) ha hb

theorem widen_at {pe : Tree Itv → Tree Itv → Bool} (hpe : PtrSound pe) {a b : IEnv} (ha : EnvInv a) (hb : EnvInv b) :
    EnvInv (SepDom.widen (itvCtx pe) IL a b) ∧
      ∀ k, atKey IL (SepDom.widen (itvCtx pe) IL a b) k = Itv.widen (atKey IL a k) (atKey IL b k) :=
  upper_at hpe (fun _ _ => Itv.widen_pres) (fun _ _ => widen_wf) (fun _ => Itv.widen_idem)
    Itv.widen_bot_left (fun _ => Itv.widen_bot_right) (fun _ => Itv.widen_top_left) (fun _ => Itv.widen_top_right) ha hb

theorem lower_at {pe : Tree Itv → Tree Itv → Bool} (hpe : PtrSound pe) {g : Itv → Itv → Itv}
    (hpres : ∀ x y, StoredItv x → StoredItv y → (g x y).isBottom = false → StoredItv (g x y))
    (hidem : ∀ x, StoredItv x → g x x = x)
    (hbot : ∀ x y : Itv, (x.isBottom || y.isBottom) = true → (g x y).isBottom = true)
    (htl : ∀ y : Itv, StoredItv y → g Itv.top y = y)
    (htr : ∀ x : Itv, x.isBottom = false → g x Itv.top = x)
    {a b : IEnv} (ha : EnvInv a) (hb : EnvInv b) :
    EnvInv (lower (itvCtx pe) IL g a b) ∧
    ((lower (itvCtx pe) IL g a b).isBot = true ↔ ∃ k, (g (atKey IL a k) (atKey IL b k)).isBottom = true) ∧
    ((lower (itvCtx pe) IL g a b).isBot = false →
      ∀ k, atKey IL (lower (itvCtx pe) IL g a b) k = g (atKey IL a k) (atKey IL b k)) := by
  by_cases nab : a.isBot = false ∧ b.isBot = false
  · obtain ⟨na, nb⟩ := nab
    obtain ⟨hi, hiff, hl⟩ := lower_spec (L := IL) (g := g) (itvCtx_sound hpe) hpres hidem
      (fun x hx => hx.2.1) ha hb na nb
    -- value of g on the two `at`s
    have hval : ∀ k, g (atKey IL a k) (atKey IL b k) =
        match a.tree.lookup k, b.tree.lookup k with
        | some x, some y => g x y
        | some x, none => x
        | none, some y => y
        | none, none => Itv.top := by
      intro k
      rcases atKey_cases ha na k with ⟨x, l1, e1, hx⟩ | ⟨l1, e1⟩ <;>
        rcases atKey_cases hb nb k with ⟨y, l2, e2, hy⟩ | ⟨l2, e2⟩ <;> rw [l1, l2, e1, e2] <;> simp only
      · exact htr x hx.2.1
      · exact htl y hy
      · exact htr _ Itv.isBottom_top
    refine ⟨hi, ?_, ?_⟩
    · rw [hiff]
      constructor
      · rintro ⟨k, x, y, l1, l2, hbq⟩
        refine ⟨k, ?_⟩
        rw [hval, l1, l2]; exact hbq
      · rintro ⟨k, hk⟩
        rw [hval] at hk
        cases l1 : a.tree.lookup k <;> cases l2 : b.tree.lookup k <;> rw [l1, l2] at hk <;> simp only at hk
        · rw [Itv.isBottom_top] at hk; cases hk
        · rename_i y
          have := (hb.1.val_of_lookup l2).2.1
          rw [this] at hk; cases hk
        · rename_i x
          have := (ha.1.val_of_lookup l1).2.1
          rw [this] at hk; cases hk
        · rename_i x y
          exact ⟨k, x, y, l1, l2, hk⟩
    · intro hnb k
      rw [atKey_eq, hnb, hl hnb, hval]
      simp only [Bool.false_eq_true, if_false]
      cases l1 : a.tree.lookup k <;> cases l2 : b.tree.lookup k <;> rfl
  · have hor : (a.isBot || b.isBot) = true := by
      cases na : a.isBot
      · cases nb : b.isBot
        · exact absurd ⟨na, nb⟩ nab
        · rfl
      · rfl
    rw [lower_bot hor]
    refine ⟨inv_bottom, iff_of_true rfl ⟨0, hbot _ _ ?_⟩, fun h => by cases h⟩
    rw [Bool.or_eq_true] at hor ⊢
    exact hor.imp (fun h => by rw [atKey_bottom h]; exact Itv.isBottom_bot)
      (fun h => by rw [atKey_bottom h]; exact Itv.isBottom_bot)

theorem meet_at {pe : Tree Itv → Tree Itv → Bool} (hpe : PtrSound pe) {a b : IEnv} (ha : EnvInv a) (hb : EnvInv b) :
    EnvInv (SepDom.meet (itvCtx pe) IL a b) ∧
    ((SepDom.meet (itvCtx pe) IL a b).isBot = true ↔ ∃ k, (Itv.meet (atKey IL a k) (atKey IL b k)).isBottom = true) ∧
    ((SepDom.meet (itvCtx pe) IL a b).isBot = false →
      ∀ k, atKey IL (SepDom.meet (itvCtx pe) IL a b) k = Itv.meet (atKey IL a k) (atKey IL b k)) :=
  lower_at hpe (fun _ _ => Itv.meet_pres) (fun _ => Itv.meet_idem) Itv.meet_bot
    (fun _ hy => Itv.meet_top_left hy.2.1) (fun _ => Itv.meet_top_right) ha hb

theorem narrow_at {pe : Tree Itv → Tree Itv → Bool} (hpe : PtrSound pe) {a b : IEnv} (ha : EnvInv a) (hb : EnvInv b) :
    EnvInv (SepDom.narrow (itvCtx pe) IL a b) ∧
    ((SepDom.narrow (itvCtx pe) IL a b).isBot = true ↔ ∃ k, (Itv.narrow (atKey IL a k) (atKey IL b k)).isBottom = true) ∧
    ((SepDom.narrow (itvCtx pe) IL a b).isBot = false →
      ∀ k, atKey IL (SepDom.narrow (itvCtx pe) IL a b) k = Itv.narrow (atKey IL a k) (atKey IL b k)) :=
  lower_at hpe (fun _ _ => Itv.narrow_pres) (fun _ => Itv.narrow_idem) Itv.narrow_bot
    (fun _ hy => Itv.narrow_top_left hy) (fun _ => Itv.narrow_top_right) ha hb

theorem pwLe_iff_at {a b : IEnv} (ha : EnvInv a) (hb : EnvInv b) (na : a.isBot = false) (nb : b.isBot = false) :
    PwLe (domainPO IL) true a.tree b.tree ↔ ∀ k, Itv.leq (atKey IL a k) (atKey IL b k) = true := by
  have key : ∀ k, rel (domainPO IL) true (a.tree.lookup k) (b.tree.lookup k) =
      Itv.leq (atKey IL a k) (atKey IL b k) := by
    intro k
    rcases atKey_cases ha na k with ⟨x, l1, e1, hx⟩ | ⟨l1, e1⟩ <;>
      rcases atKey_cases hb nb k with ⟨y, l2, e2, hy⟩ | ⟨l2, e2⟩ <;> rw [l1, l2, e1, e2]
    · rfl
    · simp only [rel, leO, domainPO, if_true]; exact (Itv.leq_top x).symm
    · simp only [rel, leO, domainPO, if_true, Bool.not_true]; exact (Itv.leq_top_left hy).symm
    · simp only [rel, leO, if_true]; exact (Itv.leq_top _).symm
  unfold PwLe
  constructor
  · intro h k; rw [← key]; exact h k
  · intro h k; rw [key]; exact h k

/-- the repaired `operator<=` is the pointwise order of the `at` values, bottoms included -/
theorem leq_fixed_at {pe : Tree Itv → Tree Itv → Bool} (hpe : PtrSound pe) {a b : IEnv}
    (ha : EnvInv a) (hb : EnvInv b) :
    SepDom.leq true (itvCtx pe) IL a b = true ↔ ∀ k, Itv.leq (atKey IL a k) (atKey IL b k) = true := by
  cases na : a.isBot
  · cases nb : b.isBot
    · rw [leq_spec (itvCtx_sound hpe) (fun x _ => Itv.leq_refl x) ha hb na nb, pwLe_iff_at ha hb na nb]
    · rw [leq_bottom_right true na nb]
      simp only [Bool.false_eq_true, false_iff]
      intro h
      have := h 0
      rw [atKey_bottom nb, show itvLattice.bottom = Itv.bot from rfl] at this
      have hn : (atKey IL a 0).isBottom = false := atKey_not_bottom vals ha na 0
      simp [Itv.leq, hn, Itv.isBottom_bot] at this
  · rw [leq_bottom_left true na]
    simp only [true_iff]
    intro k
    rw [atKey_bottom na]; exact Itv.bot_leq _

/-- neither version of `operator<=` misses an inclusion -/
theorem leq_complete_at (fxd : Bool) {pe : Tree Itv → Tree Itv → Bool} (hpe : PtrSound pe) {a b : IEnv}
    (ha : EnvInv a) (hb : EnvInv b) (h : ∀ k, Itv.leq (atKey IL a k) (atKey IL b k) = true) :
    SepDom.leq fxd (itvCtx pe) IL a b = true := by
  cases na : a.isBot
  · cases nb : b.isBot
    · exact leq_complete fxd (itvCtx_sound hpe) (fun x _ => Itv.leq_refl x) ha hb na nb
        ((pwLe_iff_at ha hb na nb).mpr h)
    · exfalso
      have := (leq_fixed_at hpe ha hb).mpr h
      rw [leq_bottom_right true na nb] at this; cases this
  · exact leq_bottom_left fxd na

/-- `set(k, v)`: bottom when the environment or the value is bottom, otherwise the binding
    of `k` becomes `v` (a top `v` removes it) and nothing else changes -/
theorem set_at {pe : Tree Itv → Tree Itv → Bool} (hpe : PtrSound pe) {e : IEnv} (he : EnvInv e)
    {k : Nat} (hk : k < 2 ^ 64) {v : Itv} (hv : v.isBottom = true ∨ v.WF) :
    EnvInv (set (itvCtx pe) IL e k v) ∧
    ((set (itvCtx pe) IL e k v).isBot = (e.isBot || v.isBottom)) ∧
    ((set (itvCtx pe) IL e k v).isBot = false →
      ∀ k', atKey IL (set (itvCtx pe) IL e k v) k' = if k' = k then v else atKey IL e k') := by
  obtain ⟨h1, h2, h3⟩ := SepDom.set_at (L := IL) (itvCtx_sound hpe) he hk (v := v)
    (fun hb ht => ⟨ht, hb, hv.resolve_left (by rw [show v.isBottom = false from hb]; simp)⟩)
  refine ⟨h1, h2, fun hnb k' => (h3 hnb k').trans ?_⟩
  -- a top `v` with proper bounds is `Itv.top` itself
  cases ht : v.isTop
  · rw [show itvLattice.isTop v = false from ht]; rfl
  · have hvb : v.isBottom = false := by rw [h2] at hnb; exact (Bool.or_eq_false_iff.mp hnb).2
    rw [Itv.eq_top_of_isTop ht (hv.resolve_left (by rw [hvb]; simp))]
    exact ite_self _ ▸ rfl

/-- iteration over a non-bottom environment: strictly increasing keys, and `(k, v)` is
    listed exactly when `at(k) = v` and `v` is not top -/
theorem bindings_spec {e : IEnv} (he : EnvInv e) (ne : e.isBot = false) :
    ∃ l, bindings e = some l ∧ (l.map Prod.fst).Pairwise (· < ·) ∧
      ∀ k v, (k, v) ∈ l ↔ (atKey IL e k = v ∧ v.isTop = false) := by
  refine ⟨e.tree.toList, by simp [bindings, ne, iterate_eq_toList he.1.ne], he.1.keys_sorted, fun k v => ?_⟩
  rw [mem_toList_iff_lookup he.1]
  constructor
  · intro hl
    rw [atKey_eq, ne, hl]
    exact ⟨rfl, (he.1.val_of_lookup hl).1⟩
  · intro ⟨h1, h2⟩
    rw [lookup_eq vals he ne k, h1, show itvLattice.isTop v = false from h2]; rfl

end IEnv
end Crab
