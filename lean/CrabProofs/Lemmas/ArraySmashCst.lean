import CrabProofs.Lemmas.ArraySmash
import CrabProofs.Lemmas.CstMap

/-!
  A base domain that satisfies every law of `Smash.Base`: constant propagation over the variables
  of the functor (`CstMap`), precise on constant right-hand sides only.  It is the base of the
  counterexample to the old `array_assign` and of the non-vacuity examples of C14.
-/
open Crab Crab.Dom Crab.Dom.Arr Crab.Dom.Smash

namespace C14cex

abbrev CB := CstMap Var

def evalR (b : CB) : RExpr → Option Int
  | .lin e => if e.ts = [] then some e.c else none
  | .var v => b v

theorem evalR_sound {b : CB} {ρ : Env} (h : CstMap.γ b ρ) {e : RExpr} {k : Int} (hk : evalR b e = some k) :
    e.eval ρ = k := by
  cases e with
  | lin e =>
    simp only [evalR] at hk
    split at hk
    · rename_i hts
      simp only [RExpr.eval, Lin.eval, hts, List.foldl_nil]
      exact Option.some.inj hk
    · cases hk
  | var w => exact h w k hk

def cstBase : Base where
  B := CB
  γ := CstMap.γ
  top := fun _ => none
  assign := fun b x e => fun y => if y = x then evalR b e else b y
  weakAssign := fun b x e => fun y => if y = x then (if b x = evalR b e then b x else none) else b y
  expand := fun b x y => fun z => if z = y then b x else b z
  forget := fun b x => fun z => if z = x then none else b z
  assume := fun b _ => b
  join := fun a b => fun z => if a z = b z then a z else none
  widen := fun a b => fun z => if a z = b z then a z else none
  isBot := fun _ => false
  top_sound := by intro ρ v k h; cases h
  assign_sound := fun b x e ρ h => CstMap.γ_set x _ _ h fun k hk => evalR_sound h hk
  weakAssign_sound := by
    intro b x e ρ h
    refine ⟨?_, CstMap.γ_set x _ _ h fun k hk => ?_⟩
    · have := CstMap.γ_set x (if b x = evalR b e then b x else none) (ρ x) h fun k hk => by
        split at hk
        · exact h x k hk
        · cases hk
      rwa [show (fun y => if y = x then ρ x else ρ y) = ρ from Env.set_self ρ x] at this
    · split at hk
      · rename_i heq; rw [heq] at hk; exact evalR_sound h hk
      · cases hk
  expand_sound := fun b x y ρ₁ ρ₂ h1 h2 _ => CstMap.γ_set y (b x) (ρ₂ x) h1 fun k hk => h2 x k hk
  forget_sound := fun b x ρ w h => CstMap.γ_set x none w h fun k hk => by cases hk
  assume_sound := fun _ _ _ h _ => h
  join_sound_l := fun _ _ _ h => CstMap.γ_join_left h
  join_sound_r := fun _ _ _ h => CstMap.γ_join_right h
  widen_sound_l := fun _ _ _ h => CstMap.γ_join_left h
  widen_sound_r := fun _ _ _ h => CstMap.γ_join_right h
  isBot_sound := by intro b ρ h; cases h

end C14cex
