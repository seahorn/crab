import CrabProofs.Lemmas.Interval

/-! Lattice operations of `Crab.Itv` versus concretisation. -/
namespace Crab
namespace Itv
open Bound

theorem leq_sound {a b : Itv} (h : leq a b = true) {k : Int} (hk : mem k a) : mem k b := by
  unfold leq at h
  have ha := isBottom_false_of_mem hk
  simp [ha] at h
  obtain ⟨_, h1, h2⟩ := h
  exact ⟨Bound.le_trans h1 hk.1, Bound.le_trans hk.2 h2⟩

theorem leq_eq_of_not_bottom {a b : Itv} (ha : a.isBottom = false) (hb : b.isBottom = false) :
    leq a b = (Bound.le b.lb a.lb && Bound.le a.ub b.ub) := by
  simp [leq, ha, hb]

theorem mem_fin_iff {k : Int} {i : Itv} {l u : Int} (hl : i.lb = fin l) (hu : i.ub = fin u) :
    mem k i ↔ l ≤ k ∧ k ≤ u := by
  simp [mem, hl, hu, Bound.le]

theorem leq_single_of_mem {k : Int} {i : Itv} (h : mem k i) : leq (single k) i = true := by
  have hs : (single k).isBottom = false := (isBottom_false_iff _).mpr (Bound.le_refl _)
  rw [leq_eq_of_not_bottom hs (isBottom_false_of_mem h), Bool.and_eq_true]
  exact h

theorem leq_refl (a : Itv) : leq a a = true := by
  unfold leq; split <;> simp_all [Bound.le_refl]

theorem bot_leq (b : Itv) : leq bot b = true := by simp [leq, isBottom_bot]

theorem leq_of_isBottom {a : Itv} (h : a.isBottom = true) (b : Itv) : leq a b = true := by simp [leq, h]

theorem join_bot_left (y : Itv) : join bot y = y := by simp [join, isBottom_bot]
theorem join_bot_right {x : Itv} (h : x.isBottom = false) : join x bot = x := by
  simp [join, h, isBottom_bot]
theorem widen_bot_left (y : Itv) : widen bot y = y := by simp [widen, isBottom_bot]
theorem widen_bot_right {x : Itv} (h : x.isBottom = false) : widen x bot = x := by
  simp [widen, h, isBottom_bot]

theorem meet_bot (x y : Itv) (h : (x.isBottom || y.isBottom) = true) : (meet x y).isBottom = true := by
  unfold meet; rw [if_pos h]; exact isBottom_bot
theorem narrow_bot (x y : Itv) (h : (x.isBottom || y.isBottom) = true) : (narrow x y).isBottom = true := by
  unfold narrow; rw [if_pos h]; exact isBottom_bot

theorem leq_top (a : Itv) : leq a top = true := by
  unfold leq; split <;> simp_all [top, isBottom, Bound.gt]

theorem le_of_not_isBottom {x : Itv} (h : x.isBottom = false) : Bound.le x.lb x.ub = true := by
  simpa [isBottom, Bound.gt] using h

theorem join_eq {x y : Itv} (hx : x.isBottom = false) (hy : y.isBottom = false) :
    join x y = ⟨Bound.min x.lb y.lb, Bound.max x.ub y.ub⟩ := by
  unfold join
  simp only [hx, hy, Bool.false_eq_true, if_false]
  apply mk'_eq_mk
  exact Bound.le_trans (Bound.le_trans (Bound.min_le_left _ _) (le_of_not_isBottom hx)) (Bound.le_max_left _ _)

theorem join_not_bottom {x y : Itv} (hx : x.isBottom = false) (hy : y.isBottom = false) :
    (join x y).isBottom = false := by
  rw [join_eq hx hy]
  simp only [isBottom, Bound.gt, Bool.not_eq_false']
  exact Bound.le_trans (Bound.le_trans (Bound.min_le_left _ _) (le_of_not_isBottom hx)) (Bound.le_max_left _ _)

theorem join_upper_left {a b : Itv} {k : Int} (hk : mem k a) : mem k (join a b) := by
  unfold join
  have ha := isBottom_false_of_mem hk
  simp [ha]
  split
  · exact hk
  · rw [mem_mk']
    exact ⟨Bound.le_trans (Bound.min_le_left _ _) hk.1, Bound.le_trans hk.2 (Bound.le_max_left _ _)⟩

theorem join_upper_right {a b : Itv} {k : Int} (hk : mem k b) : mem k (join a b) := by
  unfold join
  have hb := isBottom_false_of_mem hk
  split
  · exact hk
  · simp [hb]
    rw [mem_mk']
    exact ⟨Bound.le_trans (Bound.min_le_right _ _) hk.1, Bound.le_trans hk.2 (Bound.le_max_right _ _)⟩

theorem join_least {a b c : Itv} (ha : leq a c = true) (hb : leq b c = true) : leq (join a b) c = true := by
  unfold join
  split
  · exact hb
  · split
    · exact ha
    · rename_i h1 h2
      have h1 := eq_false_of_ne_true h1
      have h2 := eq_false_of_ne_true h2
      cases hc : c.isBottom
      · rw [leq_eq_of_not_bottom h1 hc, Bool.and_eq_true] at ha
        rw [leq_eq_of_not_bottom h2 hc, Bool.and_eq_true] at hb
        have hm : Bound.le (Bound.min a.lb b.lb) (Bound.max a.ub b.ub) = true :=
          Bound.le_trans (Bound.min_le_left _ _)
            (Bound.le_trans ((isBottom_false_iff a).mp h1) (Bound.le_max_left _ _))
        rw [mk'_eq_mk hm, leq_eq_of_not_bottom ((isBottom_false_iff _).mpr hm) hc, Bool.and_eq_true]
        exact ⟨Bound.le_min ha.1 hb.1, Bound.max_le ha.2 hb.2⟩
      · simp [leq, h1, hc] at ha

theorem meet_sound {a b : Itv} {k : Int} (ha : mem k a) (hb : mem k b) : mem k (meet a b) := by
  unfold meet
  simp [isBottom_false_of_mem ha, isBottom_false_of_mem hb]
  rw [mem_mk']
  exact ⟨Bound.max_le ha.1 hb.1, Bound.le_min ha.2 hb.2⟩

theorem meet_exact {a b : Itv} {k : Int} (h : mem k (meet a b)) : mem k a ∧ mem k b := by
  unfold meet at h
  split at h
  · exact absurd h (not_mem_bot k)
  · rw [mem_mk'] at h
    exact ⟨⟨Bound.le_trans (Bound.le_max_left _ _) h.1, Bound.le_trans h.2 (Bound.min_le_left _ _)⟩,
           ⟨Bound.le_trans (Bound.le_max_right _ _) h.1, Bound.le_trans h.2 (Bound.min_le_right _ _)⟩⟩

/-! the two bounds `operator||` computes: each stays below (above) both arguments' bounds -/

theorem widen_lb_le_left (xl yl : Bound) :
    Bound.le (if Bound.lt yl xl then ninf else xl) xl = true := by
  split
  · exact Bound.le_ninf _
  · exact Bound.le_refl _

theorem widen_lb_le_right (xl yl : Bound) :
    Bound.le (if Bound.lt yl xl then ninf else xl) yl = true := by
  split
  · exact Bound.le_ninf _
  · rename_i h; exact Bound.le_of_not_lt h

theorem le_widen_ub_left (xu yu : Bound) :
    Bound.le xu (if Bound.lt xu yu then pinf else xu) = true := by
  split
  · exact Bound.le_pinf _
  · exact Bound.le_refl _

theorem le_widen_ub_right (xu yu : Bound) :
    Bound.le yu (if Bound.lt xu yu then pinf else xu) = true := by
  split
  · exact Bound.le_pinf _
  · rename_i h; exact Bound.le_of_not_lt h

theorem widen_upper_left {a b : Itv} {k : Int} (hk : mem k a) : mem k (widen a b) := by
  have ha : ¬ a.isBottom = true := by rw [isBottom_false_of_mem hk]; exact Bool.false_ne_true
  rw [widen, if_neg ha]
  split
  · exact hk
  · rw [mem_mk']
    exact ⟨Bound.le_trans (widen_lb_le_left _ _) hk.1, Bound.le_trans hk.2 (le_widen_ub_left _ _)⟩

theorem widen_upper_right {a b : Itv} {k : Int} (hk : mem k b) : mem k (widen a b) := by
  have hb : ¬ b.isBottom = true := by rw [isBottom_false_of_mem hk]; exact Bool.false_ne_true
  rw [widen, if_neg hb]
  split
  · exact hk
  · rw [mem_mk']
    exact ⟨Bound.le_trans (widen_lb_le_right _ _) hk.1, Bound.le_trans hk.2 (le_widen_ub_right _ _)⟩

theorem narrow_sound {a b : Itv} {k : Int} (ha : mem k a) (hb : mem k b) : mem k (narrow a b) := by
  unfold narrow
  simp [isBottom_false_of_mem ha, isBottom_false_of_mem hb]
  rw [mem_mk']
  constructor
  · split
    · exact hb.1
    · exact ha.1
  · split
    · exact hb.2
    · exact ha.2

/-- narrowing never leaves the left operand (so a descending sequence stays below it) -/
theorem narrow_le_left {a b : Itv} {k : Int} (hw : a.WF) (h : mem k (narrow a b)) : mem k a := by
  unfold narrow at h
  split at h
  · exact absurd h (not_mem_bot k)
  · rw [mem_mk'] at h
    obtain ⟨h1, h2⟩ := h
    -- a refined bound was infinite, so (the interval being well formed) it excluded nothing
    constructor
    · split at h1
      · rename_i hc
        rw [Bound.eq_ninf_of_isInfinite (Bool.and_eq_true_iff.mp hc).1 hw.1]; exact Bound.le_ninf _
      · exact h1
    · split at h2
      · rename_i hc
        rw [Bound.eq_pinf_of_isInfinite (Bool.and_eq_true_iff.mp hc).1 hw.2]; exact Bound.le_pinf _
      · exact h2

end Itv
end Crab
