import CrabModel.Inter.BottomUp
import CrabProofs.Lemmas.InterWire
import CrabProofs.Lemmas.CstMap

/-!
  Concrete instances used by the counterexamples of C09 / C10: a box lattice over two variables (the
  hull gap of joined calling contexts), the collecting domain (exact images, shows that the
  sequential parameter wiring itself is wrong under name sharing, not a domain's imprecision) and
  constant propagation (executable: the run of an analysis over it is evaluated by the kernel).
-/
namespace Crab.Inter

/-- a run of an executable model that ends: its result is named through `getD`, that it ends is
    evaluated -/
theorem eq_some_getD {α : Type} {o : Option α} (d : α) (h : o.isSome = true) : o = some (o.getD d) :=
  match o, h with
  | some _, _ => rfl

/-- does `policyAdd` join the two oldest contexts? (decidable) -/
def policyJoins {L : Lat} (max : Option Nat) (ccs : List (Ctx L)) : Bool :=
  match max with
  | none => false
  | some m => decide (ccs.length ≥ 2) && decide (ccs.length > m)

/-! #### the counterexample: a box lattice over the two variables `0` (input) and `1` (output) -/

/-- `v0 ∈ [a.1.1, a.1.2]` and `v1 ∈ [a.2.1, a.2.2]` -/
def boxLat : Lat where
  A := (Int × Int) × (Int × Int)
  γ := fun a σ => a.1.1 ≤ σ 0 ∧ σ 0 ≤ a.1.2 ∧ a.2.1 ≤ σ 1 ∧ σ 1 ≤ a.2.2
  leq := fun a b => decide (b.1.1 ≤ a.1.1) && decide (a.1.2 ≤ b.1.2) && decide (b.2.1 ≤ a.2.1) && decide (a.2.2 ≤ b.2.2)
  join := fun a b => ((min a.1.1 b.1.1, max a.1.2 b.1.2), (min a.2.1 b.2.1, max a.2.2 b.2.2))
  leq_sound := by
    intro a b σ h hg
    simp only [Bool.and_eq_true, decide_eq_true_eq] at h
    obtain ⟨⟨⟨h1, h2⟩, h3⟩, h4⟩ := h
    obtain ⟨g1, g2, g3, g4⟩ := hg
    exact ⟨by omega, by omega, by omega, by omega⟩
  join_left := by
    intro a b σ hg
    obtain ⟨g1, g2, g3, g4⟩ := hg
    refine ⟨?_, ?_, ?_, ?_⟩ <;> dsimp only <;> omega
  join_right := by
    intro a b σ hg
    obtain ⟨g1, g2, g3, g4⟩ := hg
    refine ⟨?_, ?_, ?_, ?_⟩ <;> dsimp only <;> omega

/-- `f(x) = (x == 1 ? 5 : 0)`: entry state `σ` (input `v0`), exit state `τ` (output `v1`) -/
def gapF : St → St → Prop := fun σ τ => τ 0 = σ 0 ∧ τ 1 = (if σ 0 = 1 then 5 else 0)

def gapC (k : Int) : Ctx boxLat := ⟨((k, k), (0, 0)), ((k, k), (0, 0)), true⟩

theorem gapC_valid (k : Int) (hk : k ≠ 1) : SummaryValid boxLat gapF (gapC k).pre (gapC k).post := by
  intro σ τ hσ hF
  have hσ' : k ≤ σ 0 ∧ σ 0 ≤ k ∧ (0:Int) ≤ σ 1 ∧ σ 1 ≤ (0:Int) := hσ
  obtain ⟨g1, g2, _, _⟩ := hσ'
  obtain ⟨f1, f2⟩ := hF
  have h0 : σ 0 = k := by omega
  have : ¬ (σ 0 = 1) := by omega
  simp only [this, if_false] at f2
  exact ⟨by show k ≤ τ 0; omega, by show τ 0 ≤ k; omega, by show (0:Int) ≤ τ 1; omega, by show τ 1 ≤ (0:Int); omega⟩

/-- the entry `x = 1`: it lies in the hull `[0, 2]` of the entries `0` and `2` -/
def gapσ : St := fun v => if v = 0 then 1 else 0

/-- the post of the join of the contexts for `0` and `2` answers `[0, 0]`; `f(1) = 5`, so it is not a
    valid summary for any pre that contains the entry `x = 1` -/
theorem gapJoin_invalid {pre : boxLat.A} (hpre : boxLat.γ pre gapσ) :
    ¬ SummaryValid boxLat gapF pre ((gapC 0).joinWith (gapC 2)).post := by
  intro hv
  have := hv gapσ (fun v => if v = 0 then 1 else 5) hpre (by simp [gapF, gapσ])
  have h4 : (5 : Int) ≤ max (0:Int) 0 := this.2.2.2
  exact absurd h4 (by decide)

theorem gapσ_hull : boxLat.γ ((gapC 0).joinWith (gapC 2)).pre gapσ := by
  show (min (0:Int) 2 ≤ (1:Int) ∧ (1:Int) ≤ max (0:Int) 2 ∧ min (0:Int) 0 ≤ (0:Int) ∧ (0:Int) ≤ max (0:Int) 0)
  decide

/-- the most precise domain: sets of states, every operation is the exact image -/
def collDom : AbsDom where
  A := St → Prop
  γ := fun a σ => a σ
  leq := fun _ _ => false
  join := fun a b σ => a σ ∨ b σ
  leq_sound := by intro a b σ h; cases h
  join_left := fun h => Or.inl h
  join_right := fun h => Or.inr h
  top := fun _ => True
  isBot := fun _ => false
  meet := fun a b σ => a σ ∧ b σ
  assignVar := fun a x y τ => ∃ σ, a σ ∧ τ = σ.upd x (σ y)
  forget := fun a xs τ => ∃ σ, a σ ∧ ∀ v, v ∉ xs → τ v = σ v
  project := fun a xs τ => ∃ σ, a σ ∧ ∀ v, v ∈ xs → τ v = σ v
  rename := fun _ _ _ _ => True
  top_sound := fun _ => trivial
  isBot_sound := by intro a σ h; cases h
  meet_sound := fun h1 h2 => ⟨h1, h2⟩
  assign_sound := fun {a σ} x y h => ⟨σ, h, rfl⟩
  forget_sound := fun {a σ τ} xs h hτ => ⟨σ, h, hτ⟩
  project_sound := fun {a σ τ} xs h hτ => ⟨σ, h, hτ⟩

theorem StStep.frame {s : IStmt} {σ σ' : St} (h : StStep s σ σ') {v : Var} (hv : v ∉ s.defs) : σ' v = σ v := by
  cases s with
  | assign x e => rw [h]; exact St.upd_other _ _ (by simpa [IStmt.defs] using hv)
  | bin op x y z => rw [h]; exact St.upd_other _ _ (by simpa [IStmt.defs] using hv)
  | havoc x => obtain ⟨k, h⟩ := h; rw [h]; exact St.upd_other _ _ (by simpa [IStmt.defs] using hv)
  | assume c => rw [h.2]
  | assert i c => rw [h.2]
  | call c l a => exact h.elim

/-- constant propagation: `a v = some k` says that `v` has the value `k`.  Every operation is
    computable, so what an analysis over this domain reports is a closed term that `decide` evaluates.
    Only the assignment of a constant is precise; any other statement forgets what it defines,
    `rename`, `widen` answer `top`, `leq` never holds. -/
def cstDom : IDom where
  A := CstMap Var
  γ := CstMap.γ
  leq := fun _ _ => false
  join := CstMap.join
  top := fun _ => none
  isBot := fun _ => false
  meet := fun a b v => (a v).or (b v)
  assignVar := fun a x y => a.set x (a y)
  forget := fun a xs v => if v ∈ xs then none else a v
  project := fun a xs v => if v ∈ xs then a v else none
  rename := fun _ _ _ _ => none
  bot := fun _ => none
  widen := fun _ _ _ => none
  narrow := fun a _ => a
  stmt := fun a s v => match s with
    | .assign x ⟨c, []⟩ => a.set x (some c) v
    | s => if v ∈ s.defs then none else a v
  leq_sound := fun h => nomatch h
  join_left := CstMap.γ_join_left
  join_right := CstMap.γ_join_right
  top_sound := fun _ _ _ h => nomatch h
  isBot_sound := fun h => nomatch h
  meet_sound := fun {a b σ} h1 h2 v k hk => by
    dsimp only at hk
    cases ha : a v with
    | none => rw [ha] at hk; exact h2 v k hk
    | some j => rw [ha] at hk; cases hk; exact h1 v k ha
  assign_sound := fun {a σ} x y h => CstMap.γ_set x (a y) (σ y) h (fun k' hk => h y k' hk)
  forget_sound := fun {a σ τ} xs h hτ v k hk => by
    dsimp only at hk; split at hk
    · cases hk
    · next e => rw [hτ v e]; exact h v k hk
  project_sound := fun {a σ τ} xs h hτ v k hk => by
    dsimp only at hk; split at hk
    · next e => rw [hτ v e]; exact h v k hk
    · cases hk
  widen_left := fun _ _ _ h => nomatch h
  widen_right := fun _ _ _ h => nomatch h
  narrow_sound := fun h _ => h
  stmt_sound := fun {a σ σ'} s h hs v k hk => by
    dsimp only at hk; split at hk
    · next x c =>
      rw [show σ' = σ.upd x c from hs]
      exact CstMap.γ_set x (some c) c h (fun _ hk' => Option.some.inj hk') v k hk
    · split at hk
      · cases hk
      · next e => rw [hs.frame e]; exact h v k hk

theorem cstDom_rename : cstDom.toAbsDom.RenameSound := fun _ _ _ _ _ _ _ _ _ _ h => nomatch h

theorem cstDom_envIn {a : cstDom.A} {env : Env} (h : EnvIn cstDom.toAbsDom a env) {v : Var} {k : Int}
    (ha : a v = some k) : env.getD v 0 = k :=
  h (fun v => env.getD v 0) (fun _ _ => rfl) v k ha

end Crab.Inter
