import CrabProofs.Lemmas.IDomEnv
import CrabProofs.Lemmas.IDomSolverLoops
import CrabProofs.Lemmas.IntervalDiv
import CrabProofs.Lemmas.IntervalBits
import CrabProofs.Lemmas.LinSys

/-!
  Soundness of the model of `linear_interval_solver`: a state of `γ env` that satisfies every
  constraint of the system stays in `γ` after every `refine` / trim step, hence after `run`
  (`solverRun_ind`).
-/
namespace Crab
namespace IDom
open Lin

theorem addT_sound {x y : Itv} {a b : Int} (ha : Itv.mem a x) (hb : Itv.mem b y) : Itv.mem (a + b) (addT x y) := by
  unfold addT
  cases h : Itv.add x y with
  | none => exact Itv.mem_top _
  | some r => exact Itv.add_sound ha hb h

theorem subT_sound {x y : Itv} {a b : Int} (ha : Itv.mem a x) (hb : Itv.mem b y) : Itv.mem (a - b) (subT x y) := by
  unfold subT
  cases h : Itv.sub x y with
  | none => exact Itv.mem_top _
  | some r => exact Itv.sub_sound ha hb h

theorem divT_sound {x y : Itv} {a b : Int} (ha : Itv.mem a x) (hb : Itv.mem b y) (hb0 : b ≠ 0) :
    Itv.mem (Int.tdiv a b) (divT x y) := by
  unfold divT
  cases h : Itv.div x y with
  | none => exact Itv.mem_top _
  | some r => exact Itv.div_sound ha hb hb0 h

def restSum (σ : State) (pivot : Var) : List (Var × Int) → Int
  | [] => 0
  | (v, c) :: rest => if v = pivot then restSum σ pivot rest else c * σ v + restSum σ pivot rest

theorem restSum_of_not_key (σ : State) (pivot : Var) (ts : List (Var × Int)) (h : ∀ p ∈ ts, p.1 ≠ pivot) :
    restSum σ pivot ts = Expr.evalTerms σ ts := by
  induction ts with
  | nil => rfl
  | cons p rest ih =>
    obtain ⟨v, c⟩ := p
    have h1 : v ≠ pivot := h (v, c) List.mem_cons_self
    simp only [restSum, h1, if_false, Expr.evalTerms]
    rw [ih (fun q hq => h q (List.mem_cons_of_mem _ hq))]

theorem evalTerms_split (σ : State) {ts : List (Var × Int)} (hs : Expr.SortedKeys ts) {pivot : Var} {coef : Int}
    (hm : (pivot, coef) ∈ ts) : Expr.evalTerms σ ts = coef * σ pivot + restSum σ pivot ts := by
  induction ts with
  | nil => simp at hm
  | cons p rest ih =>
    obtain ⟨v, c⟩ := p
    have hs' := List.pairwise_cons.1 hs
    rcases List.mem_cons.1 hm with h | h
    · simp only [Prod.mk.injEq] at h
      obtain ⟨h1, h2⟩ := h
      subst h1; subst h2
      have : restSum σ pivot rest = Expr.evalTerms σ rest :=
        restSum_of_not_key σ pivot rest (fun q hq => Nat.ne_of_gt (hs'.1 q hq))
      simp only [restSum, if_true, Expr.evalTerms, this]
    · have hv : v ≠ pivot := Nat.ne_of_lt (hs'.1 _ h)
      simp only [restSum, hv, if_false, Expr.evalTerms, ih hs'.2 h]
      omega

/-- the loop of `compute_residual`: unless it stops on top, the result contains the constant
    minus the other terms -/
theorem residualLoop_sound {env : Env} {σ : State} (hg : Env.γ env σ) (pivot : Var) :
    ∀ (ts : List (Var × Int)) (r : Itv) (n : Nat) (a : Int), Itv.mem a r →
      (residualLoop env pivot ts r n).1.isTop = false →
      Itv.mem (a - restSum σ pivot ts) (residualLoop env pivot ts r n).1 := by
  intro ts
  induction ts with
  | nil => intro r n a ha _; simpa [residualLoop, restSum] using ha
  | cons p rest ih =>
    obtain ⟨v, c⟩ := p
    intro r n a ha hnt
    unfold residualLoop at hnt ⊢
    by_cases hv : v = pivot
    · simp only [hv, if_true] at hnt ⊢
      simp only [restSum, if_true]
      exact ih r n a ha hnt
    · simp only [hv, if_false] at hnt ⊢
      have hm : Itv.mem (a - c * σ v) (subT r (Itv.mul (Itv.single c) (env.get v))) :=
        subT_sound ha (Itv.mul_sound ((Itv.mem_single c c).2 rfl) (hg.2 v))
      by_cases ht : (subT r (Itv.mul (Itv.single c) (env.get v))).isTop = true
      · simp only [ht, if_true] at hnt
        exact absurd hnt (by decide)
      · simp only [ht] at hnt ⊢
        simp only [restSum, hv, if_false]
        have := ih _ (n + 1) _ hm hnt
        have e : a - (c * σ v + restSum σ pivot rest) = a - c * σ v - restSum σ pivot rest := by omega
        rw [e]; exact this

theorem mem_lowerHalfLine {i : Itv} {k m : Int} (hm : Itv.mem m i) (h : k ≤ m) : Itv.mem k i.lowerHalfLine := by
  unfold Itv.lowerHalfLine
  rw [Itv.mem_mk']
  exact ⟨by simp, Bound.le_trans (by simpa using h) hm.2⟩

theorem mem_upperHalfLine {i : Itv} {k m : Int} (hm : Itv.mem m i) (h : m ≤ k) : Itv.mem k i.upperHalfLine := by
  unfold Itv.upperHalfLine
  rw [Itv.mem_mk']
  exact ⟨Bound.le_trans hm.1 (by simpa using h), by simp⟩

theorem single_of_singleton? {a : Itv} {q : Int} (h : a.singleton? = some q) : a = Itv.single q := by
  obtain ⟨h1, h2⟩ := Itv.singleton?_some h
  obtain ⟨l, u⟩ := a
  simp only at h1 h2
  subst h1; subst h2; rfl

theorem mul_single_single (q c : Int) : Itv.mul (Itv.single q) (Itv.single c) = Itv.single (q * c) := by
  simp [Itv.mul, Itv.single, Itv.isBottom, Bound.gt, Itv.mk', Bound.mul, Bound.n, Bound.min4, Bound.max4,
    Bound.min, Bound.max, Bound.mkRaw, Bound.isInfinite]
  by_cases hc : c = 0
  · subst hc; simp
  · by_cases hq : q = 0
    · subst hq; simp [hc]
    · simp [hc, hq]

theorem eq_single_of_beq {res : Itv} {k : Int} (h : Itv.beq (Itv.single k) res = true) : res = Itv.single k := by
  unfold Itv.beq at h
  have : (Itv.single k).isBottom = false := by simp [Itv.isBottom, Itv.single, Bound.gt]
  simp only [this, Bool.false_eq_true, if_false, Bool.and_eq_true, beq_iff_eq] at h
  obtain ⟨l, u⟩ := res
  simp only [Itv.single] at h ⊢
  obtain ⟨h1, h2⟩ := h
  subst h1; subst h2; rfl

/-- the value `propagate` gives the pivot contains the value the pivot has in a state that
    satisfies the constraint -/
theorem pivotVal_sound {c : Cst} {st : SolverSt} {σ : State} (hg : Env.γ st.env σ)
    (hsat : c.sat σ) (hc : c.expr.Canonical) {pivot : Var} {coef : Int}
    (hm : (pivot, coef) ∈ c.expr.terms) {v : Itv} (hv : PivotVal c st pivot coef v) : Itv.mem (σ pivot) v := by
  have hcoef : coef ≠ 0 := hc.2 (pivot, coef) hm
  -- the value of the expression in terms of the pivot and the residual value
  have heval : c.expr.eval σ = coef * σ pivot - (c.constant - restSum σ pivot c.expr.terms) := by
    unfold Expr.eval Cst.constant Expr.constant
    rw [evalTerms_split σ hc.1 hm]; omega
  generalize hρ : c.constant - restSum σ pivot c.expr.terms = ρ at heval
  have hres : (computeResidual c pivot st.env st.ops).1.isTop = false →
      Itv.mem ρ (computeResidual c pivot st.env st.ops).1 := by
    intro hnt
    have := residualLoop_sound hg pivot c.expr.terms (Itv.single c.constant) st.ops c.constant
      ((Itv.mem_single _ _).2 rfl) hnt
    rw [hρ] at this; exact this
  -- the quotient contains `ρ / coef`; it is top when the residual is
  have htop : (computeResidual c pivot st.env st.ops).1.isTop = true → pivotRhs c st pivot coef = Itv.top :=
    fun ht => by unfold pivotRhs; rw [ht]; rfl
  have hq : Itv.mem (Int.tdiv ρ coef) (pivotRhs c st pivot coef) := by
    unfold pivotRhs
    cases ht : (computeResidual c pivot st.env st.ops).1.isTop with
    | true => exact Itv.mem_top _
    | false => exact divT_sound (hres ht) ((Itv.mem_single coef coef).2 rfl) hcoef
  cases hv with
  | eq hk =>
    have h0 : c.expr.eval σ = 0 := by rw [Cst.sat, hk] at hsat; exact hsat
    have hs : coef * σ pivot = ρ := by omega
    rw [← hs, Int.mul_tdiv_cancel_left _ hcoef] at hq
    exact Itv.meet_sound (hg.2 pivot) hq
  | leqPos hk hpos =>
    have h0 : c.expr.eval σ ≤ 0 := by rw [Cst.sat, hk] at hsat; exact hsat
    have h1 := Crab.TDiv.mono_pos (show coef * σ pivot ≤ ρ by omega) hpos
    rw [Int.mul_tdiv_cancel_left _ hcoef] at h1
    exact Itv.meet_sound (hg.2 pivot) (mem_lowerHalfLine hq h1)
  | leqNeg hk hpos =>
    have h0 : c.expr.eval σ ≤ 0 := by rw [Cst.sat, hk] at hsat; exact hsat
    have h1 := Crab.TDiv.anti_neg (show coef * σ pivot ≤ ρ by omega) (show coef < 0 by omega)
    rw [Int.mul_tdiv_cancel_left _ hcoef] at h1
    exact Itv.meet_sound (hg.2 pivot) (mem_upperHalfLine hq h1)
  | neq hk hbeq =>
    have h0 : c.expr.eval σ ≠ 0 := by rw [Cst.sat, hk] at hsat; exact hsat
    -- if the quotient is the singleton `q` and the division is exact, the residual is the
    -- singleton `q * coef`
    refine Itv.trim_sound (hg.2 pivot) fun hsing => ?_
    have hrhs_eq := single_of_singleton? hsing
    cases ht : (computeResidual c pivot st.env st.ops).1.isTop with
    | true => rw [htop ht] at hrhs_eq; cases hrhs_eq
    | false =>
      rw [hrhs_eq, mul_single_single] at hbeq
      have := hres ht
      rw [eq_single_of_beq hbeq, Itv.mem_single] at this
      exact (show coef * σ pivot ≠ ρ by omega) (by rw [this]; exact Int.mul_comm _ _)

theorem propagateTerm_sound {c : Cst} {st : SolverSt} {σ : State} (hg : Env.γ st.env σ)
    (hsat : c.sat σ) (hc : c.expr.Canonical) {pivot : Var} {coef : Int}
    (hm : (pivot, coef) ∈ c.expr.terms) :
    Env.γ (passEnv (propagateTerm c st pivot coef)) σ :=
  propagateTerm_ind (M := fun r => Env.γ (passEnv r) σ) c st pivot coef (fun _ _ => hg)
    (fun _ _ _ hv hb => absurd hb (ne_true_of_eq_false (Itv.isBottom_false_of_mem (pivotVal_sound hg hsat hc hm hv))))
    (fun _ _ _ hv => Env.set_sound_same hg (pivotVal_sound hg hsat hc hm hv))

theorem solverRun_sound {csts : Sys} {σ : State} (hc : ∀ c ∈ csts, c.expr.Canonical) (hsat : Sys.sat csts σ)
    (maxCycles : Nat) {env : Env} (hg : Env.γ env σ) : Env.γ (solverRun csts maxCycles env) σ :=
  solverRun_ind (P := fun e => Env.γ e σ) (T := fun c => c.sat σ ∧ c.expr.Canonical)
    (fun _ h hcon => absurd h.1 (Cst.not_sat_of_isContradiction hcon σ))
    (fun c h hk => by
      have hs : c.expr.eval σ < 0 := by simpa [Cst.sat, hk] using h.1
      exact ⟨⟨Int.le_of_lt hs, h.2⟩, ⟨Int.ne_of_lt hs, h.2⟩⟩)
    (fun _ h _ hp _ hg => propagateTerm_sound hg h.1 h.2 hp)
    (fun c h => ⟨hsat c h, hc c h⟩) maxCycles hg

end IDom
end Crab
