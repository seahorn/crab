import CrabProofs.Lemmas.IDomRename
import CrabProofs.Lemmas.IDomSorted
import CrabProofs.Lemmas.IDomWiden
import CrabModel.Dom.History
import CrabModel.Fix.Semantics

/-!
  The interval domain as an instance of the generic contracts:
   * `SEnv`: the environments that satisfy the map invariant of `separate_domain` (one binding
     per variable), with the operations of the domain (they preserve the invariant);
   * the statements of IDomSem.lean (abstract execution = one call of the domain, concrete meaning
     = a relation on states) are sound and keep the map invariant: each is a `Dom.Trans`;
   * the `Crab.Fix.Sem` contract of the fixpoint engine for block transformers made of these
     statements.
-/
namespace Crab
namespace IDom
open Lin

/-- environments with at most one binding per variable (what the Patricia tree guarantees) -/
def SEnv := { e : Env // e.Sorted }

namespace SEnv

def γ (a : SEnv) (σ : State) : Prop := Env.γ a.1 σ

def bot : SEnv := ⟨Env.bot, Env.sorted_bot⟩
def top : SEnv := ⟨Env.top, Env.sorted_top⟩
def leq (a b : SEnv) : Bool := Env.leq a.1 b.1
def join (a b : SEnv) : SEnv := ⟨Env.join a.1 b.1, Env.upperWith_sorted _ a.2 b.2⟩
def widen (a b : SEnv) : SEnv := ⟨Env.widen a.1 b.1, Env.upperWith_sorted _ a.2 b.2⟩
def widenTh (ts : Thresholds) (a b : SEnv) : SEnv := ⟨Env.widenTh ts a.1 b.1, Env.upperWith_sorted _ a.2 b.2⟩
def meet (a b : SEnv) : SEnv := ⟨Env.meet a.1 b.1, Env.lowerWith_sorted _ a.2 b.1⟩
def narrow (a b : SEnv) : SEnv := ⟨Env.narrow a.1 b.1, Env.lowerWith_sorted _ a.2 b.1⟩

def ops : Fix.Ops SEnv := ⟨bot, top, leq, join, meet, widen, narrow⟩

end SEnv

namespace Stmt

theorem exec_sorted (st : Stmt) (a : Env) (h : a.Sorted) : (st.exec a).Sorted := by
  cases st <;> simp only [exec]
  · exact Env.assign_inv Env.sortedInv _ _ _ h
  · exact Env.applyVar_inv Env.sortedInv _ _ _ _ _ h
  · exact Env.applyCst_inv Env.sortedInv _ _ _ _ _ h
  · exact Env.applyBitVar_inv Env.sortedInv _ _ _ _ _ h
  · exact Env.applyBitCst_inv Env.sortedInv _ _ _ _ _ h
  · exact Env.add_inv Env.sortedInv _ _ h
  · exact Env.select_inv Env.sortedInv _ _ _ _ _ h
  · exact Env.forgetAll_inv Env.sortedInv _ _ h
  · exact Env.project_inv Env.sortedInv _ _ h
  · exact Env.expand_inv Env.sortedInv _ _ _ h
  · exact Env.intCast_inv Env.sortedInv _ _ _ _ _ h

theorem conc64_some {op : BitOp} {a b c : Int} (h : op.conc64 a b = some c) :
    op.conc a b = some c ∧ (op = .lshr → b < 2 ^ 64) := by
  unfold BitOp.conc64 at h
  split at h
  · simp at h
  · rename_i hn
    refine ⟨h, fun ho => ?_⟩
    apply Classical.byContradiction
    intro hb; exact hn ⟨ho, hb⟩

theorem exec_sound (st : Stmt) (hok : st.Ok) {a : Env} {s s' : State} (hg : Env.γ a s) (hr : st.rel s s') :
    Env.γ (st.exec a) s' := by
  cases st with
  | assign x e => simp only [rel] at hr; subst hr; exact Env.assign_sound hg x e
  | arithVar op x y z =>
    obtain ⟨c, hc, hs⟩ := hr; subst hs
    exact Env.set_sound hg (op.eval_sound (hg.2 y) (hg.2 z) hc) x
  | arithCst op x y k =>
    obtain ⟨c, hc, hs⟩ := hr; subst hs
    exact Env.set_sound hg (op.eval_sound (hg.2 y) ((Itv.mem_single k k).2 rfl) hc) x
  | bitVar op x y z =>
    obtain ⟨c, hc, hs⟩ := hr; subst hs
    obtain ⟨h1, h2⟩ := conc64_some hc
    exact Env.set_sound hg (op.eval_sound (hg.2 y) (hg.2 z) h1 h2) x
  | bitCst op x y k =>
    obtain ⟨c, hc, hs⟩ := hr; subst hs
    obtain ⟨h1, h2⟩ := conc64_some hc
    exact Env.set_sound hg (op.eval_sound (hg.2 y) ((Itv.mem_single k k).2 rfl) h1 h2) x
  | assume csts =>
    obtain ⟨hsat, hs⟩ := hr; subst hs
    exact Env.add_sound hg hok hsat
  | select lhs c e1 e2 => simp only [rel] at hr; subst hr; exact Env.select_sound hg lhs hok e1 e2
  | havoc vs => exact Env.forgetAll_sound hg vs hr
  | project vs => exact Env.project_sound hg vs hr
  | expand x nx => simp only [rel] at hr; subst hr; exact Env.expand_sound hg x nx (hg.2 x)
  | cast z bw d src => obtain ⟨hz, hs⟩ := hr; subst hs; exact Env.intCast_sound hg z bw d src hz

def execS (st : Stmt) (a : SEnv) : SEnv := ⟨st.exec a.1, st.exec_sorted a.1 a.2⟩

end Stmt

def execBlock (b : List Stmt) (a : SEnv) : SEnv := b.foldl (fun a st => st.execS a) a

theorem execBlock_sound : ∀ (b : List Stmt), (∀ st ∈ b, st.Ok) → ∀ (a : SEnv) (s s' : State),
    a.γ s → BlockRel b s s' → (execBlock b a).γ s' := by
  intro b
  induction b with
  | nil => intro _ a s s' hg hr; simp only [BlockRel] at hr; subst hr; exact hg
  | cons st rest ih =>
    intro hok a s s' hg hr
    obtain ⟨t, h1, h2⟩ := hr
    simp only [execBlock, List.foldl_cons]
    exact ih (fun q hq => hok q (List.mem_cons_of_mem _ hq)) (st.execS a) t s'
      (st.exec_sound (hok st List.mem_cons_self) hg h1) h2

def mkCtx (prog : Nat → List Stmt) (preds : Nat → List Nat) (nesting : Nat → Option (List Nat))
    (entry : Nat) (init : SEnv) (assumptions : Option (List (Nat × SEnv))) (delay descending : Nat) :
    Fix.Ctx SEnv :=
  { ops := SEnv.ops, analyze := fun n a => execBlock (prog n) a, preds := preds, nesting := nesting,
    entry := entry, init := init, assumptions := assumptions, delay := delay, descending := descending }

def sem (prog : Nat → List Stmt) (hok : ∀ n, ∀ st ∈ prog n, st.Ok) (preds : Nat → List Nat)
    (nesting : Nat → Option (List Nat)) (entry : Nat) (init : SEnv)
    (assumptions : Option (List (Nat × SEnv))) (delay descending : Nat) :
    Fix.Sem (mkCtx prog preds nesting entry init assumptions delay descending) State where
  γ := SEnv.γ
  step := fun n s s' => BlockRel (prog n) s s'
  analyze_sound := fun n a s s' hg hr => execBlock_sound (prog n) (hok n) a s s' hg hr
  join_left := fun a b _ h => Env.join_upper_left a.2 b.1 h
  join_right := fun a _ _ h => Env.join_upper_right a.2 h
  widen_left := fun a b _ h => Env.widen_upper_left a.2 b.1 h
  widen_right := fun a _ _ h => Env.widen_upper_right a.2 h
  meet_sound := fun a _ _ h1 h2 => Env.meet_sound a.2 h1 h2
  narrow_sound := fun a _ _ h1 h2 => Env.narrow_sound a.2 h1 h2
  leq_sound := fun _ _ _ h hg => Env.leq_sound h hg

/-- the chain condition of the engine (`Fix.WidenStep`) for these contexts -/
theorem widenStep_wf (c : Fix.Ctx SEnv) (hops : c.ops = SEnv.ops) : WellFounded (Fix.WidenStep c) := by
  apply Subrelation.wf (r := InvImage (fun x' x : Env => ∃ y, Env.leq y x = false ∧ x' = Env.widen x y) Subtype.val)
  · intro x' x ⟨y, hy, e⟩
    rw [hops] at hy e
    exact ⟨y.1, hy, by rw [e]; rfl⟩
  · exact InvImage.wf _ Env.widen_wf

end IDom
end Crab
