import CrabProofs.Lemmas.DbmWiden
import CrabProofs.Lemmas.DbmPotential

/-!
  The two-counter chains of `CrabModel/Dom/DbmWiden.lean` in closed form.  With the left operand
  closed before each widening, the bounds of `x` and `y` are dropped and re-derived in turn for
  ever (`bad_forms`, `bad_strict`); the widening of the code reaches the relational part at step 2
  (`good_forms`).
  No closure is computed: each is identified as the closed matrix with the same solutions
  (`Mat.Closed.fw_eq`), and the three closures needed are all of the one shape `closedF`.
-/
namespace Crab
namespace Zones
namespace TwoCounter
open Dbm

theorem fin3_cases {P : Fin 3 → Prop} (h0 : P 0) (h1 : P 1) (h2 : P 2) : ∀ i, P i := by
  intro i
  match i with
  | 0 => exact h0
  | 1 => exact h1
  | 2 => exact h2

theorem fin3_forall {P : Fin 3 → Prop} : (∀ i, P i) ↔ P 0 ∧ P 1 ∧ P 2 :=
  ⟨fun h => ⟨h 0, h 1, h 2⟩, fun h => fin3_cases h.1 h.2.1 h.2.2⟩

theorem ext3 {a b : Mat 3}
    (h00 : a.get 0 0 = b.get 0 0) (h01 : a.get 0 1 = b.get 0 1) (h02 : a.get 0 2 = b.get 0 2)
    (h10 : a.get 1 0 = b.get 1 0) (h11 : a.get 1 1 = b.get 1 1) (h12 : a.get 1 2 = b.get 1 2)
    (h20 : a.get 2 0 = b.get 2 0) (h21 : a.get 2 1 = b.get 2 1) (h22 : a.get 2 2 = b.get 2 2) :
    a = b :=
  Mat.ext_get (fin3_cases (fin3_cases h00 h01 h02) (fin3_cases h10 h11 h12) (fin3_cases h20 h21 h22))

section m3
variable (a00 a01 a02 a10 a11 a12 a20 a21 a22 : W)

@[simp] theorem get_m3_00 : (m3 a00 a01 a02 a10 a11 a12 a20 a21 a22).get 0 0 = a00 := rfl
@[simp] theorem get_m3_01 : (m3 a00 a01 a02 a10 a11 a12 a20 a21 a22).get 0 1 = a01 := rfl
@[simp] theorem get_m3_02 : (m3 a00 a01 a02 a10 a11 a12 a20 a21 a22).get 0 2 = a02 := rfl
@[simp] theorem get_m3_10 : (m3 a00 a01 a02 a10 a11 a12 a20 a21 a22).get 1 0 = a10 := rfl
@[simp] theorem get_m3_11 : (m3 a00 a01 a02 a10 a11 a12 a20 a21 a22).get 1 1 = a11 := rfl
@[simp] theorem get_m3_12 : (m3 a00 a01 a02 a10 a11 a12 a20 a21 a22).get 1 2 = a12 := rfl
@[simp] theorem get_m3_20 : (m3 a00 a01 a02 a10 a11 a12 a20 a21 a22).get 2 0 = a20 := rfl
@[simp] theorem get_m3_21 : (m3 a00 a01 a02 a10 a11 a12 a20 a21 a22).get 2 1 = a21 := rfl
@[simp] theorem get_m3_22 : (m3 a00 a01 a02 a10 a11 a12 a20 a21 a22).get 2 2 = a22 := rfl

theorem sat_m3 (v : Fin 3 → Int) :
    (m3 a00 a01 a02 a10 a11 a12 a20 a21 a22).sat v ↔
      W.LE (some (v 0 - v 0)) a00 ∧ W.LE (some (v 0 - v 1)) a01 ∧ W.LE (some (v 0 - v 2)) a02 ∧
      W.LE (some (v 1 - v 0)) a10 ∧ W.LE (some (v 1 - v 1)) a11 ∧ W.LE (some (v 1 - v 2)) a12 ∧
      W.LE (some (v 2 - v 0)) a20 ∧ W.LE (some (v 2 - v 1)) a21 ∧ W.LE (some (v 2 - v 2)) a22 := by
  simp only [Mat.sat_iff, fin3_forall, get_m3_00, get_m3_01, get_m3_02, get_m3_10, get_m3_11,
    get_m3_12, get_m3_20, get_m3_21, get_m3_22, and_assoc]

theorem γ_m3_st (p q : Int) :
    γ (m3 a00 a01 a02 a10 a11 a12 a20 a21 a22) (st p q) ↔
      W.LE (some (0 - 0)) a00 ∧ W.LE (some (0 - p)) a01 ∧ W.LE (some (0 - q)) a02 ∧
      W.LE (some (p - 0)) a10 ∧ W.LE (some (p - p)) a11 ∧ W.LE (some (p - q)) a12 ∧
      W.LE (some (q - 0)) a20 ∧ W.LE (some (q - p)) a21 ∧ W.LE (some (q - q)) a22 :=
  sat_m3 a00 a01 a02 a10 a11 a12 a20 a21 a22 (ext (st p q))

end m3


/-- the closure of `{0 ≤ y ≤ x ≤ y+1, x ≤ a, y ≤ b}` when `1 ≤ a`, `b ≤ a ≤ b+1` -/
def closedF (a b : Int) : Zone 2 :=
  m3 (some 0) (some 0) (some 0)
     (some a) (some 0) (some 1)
     (some b) (some 0) (some 0)

/-- closed relational part + `x ≤ a`, as a widening leaves it (no diagonal) -/
def formX (a : Int) : Zone 2 :=
  m3 none (some 0) (some 0)
     (some a) none (some 1)
     none (some 0) none

/-- closed relational part + `y ≤ b` -/
def formY (b : Int) : Zone 2 :=
  m3 none (some 0) (some 0)
     none none (some 1)
     (some b) (some 0) none

/-- `{0 ≤ y ≤ x ≤ y+1, y ≤ b}`, nothing derived -/
def rawY (b : Int) : Zone 2 :=
  m3 none none (some 0)
     none none (some 1)
     (some b) (some 0) none

/-- `{0 ≤ y ≤ x ≤ y+1}`, nothing derived -/
def rel : Zone 2 :=
  m3 none none (some 0)
     none none (some 1)
     none (some 0) none

/-- the bounds `a` of `x` and `b` of `y` that are consistent with `0 ≤ y ≤ x ≤ y+1`: for these
    `closedF a b` is closed and is the closure of `raw a b` -/
abbrev Shape (a b : Int) : Prop := 1 ≤ a ∧ b ≤ a ∧ a ≤ b + 1

theorem closedF_closed {a b : Int} (h : Shape a b) : Mat.Closed (closedF a b) := by
  constructor
  · apply fin3_cases <;> rfl
  · apply fin3_cases <;> apply fin3_cases <;> apply fin3_cases <;>
      simp only [closedF, get_m3_00, get_m3_01, get_m3_02, get_m3_10, get_m3_11, get_m3_12,
        get_m3_20, get_m3_21, get_m3_22, W.add, W.LE_some_some] <;> omega

theorem close_raw (a b : Int) (h : Shape a b) : close (raw a b) = closedF a b :=
  (closedF_closed h).fw_eq fun v => by
    simp only [closedF, raw, sat_m3, W.LE_some_some, W.LE_none, true_and, and_true]
    omega

theorem close_formX (a : Int) (h1 : 1 ≤ a) : close (formX a) = closedF a a :=
  (closedF_closed (by omega)).fw_eq fun v => by
    simp only [closedF, formX, sat_m3, W.LE_some_some, W.LE_none, true_and, and_true]
    omega

theorem close_formY (b : Int) (h1 : 0 ≤ b) : close (formY b) = closedF (b + 1) b :=
  (closedF_closed (by omega)).fw_eq fun v => by
    simp only [closedF, formY, sat_m3, W.LE_some_some, W.LE_none, true_and, and_true]
    omega


theorem γv_raw (a b p q : Int) :
    γv (some (raw a b)) (st p q) ↔ 0 ≤ q ∧ q ≤ p ∧ p ≤ q + 1 ∧ p ≤ a ∧ q ≤ b := by
  simp only [γv, raw, γ_m3_st, W.LE_none, W.LE_some_some, true_and, and_true]
  constructor <;> intro h <;> omega

theorem γv_formX (a p q : Int) : γv (some (formX a)) (st p q) ↔ 0 ≤ q ∧ q ≤ p ∧ p ≤ q + 1 ∧ p ≤ a := by
  simp only [γv, formX, γ_m3_st, W.LE_none, W.LE_some_some, true_and, and_true]
  constructor <;> intro h <;> omega

theorem γv_formY (b p q : Int) : γv (some (formY b)) (st p q) ↔ 0 ≤ q ∧ q ≤ p ∧ p ≤ q + 1 ∧ q ≤ b := by
  simp only [γv, formY, γ_m3_st, W.LE_none, W.LE_some_some, true_and, and_true]
  constructor <;> intro h <;> omega


/-- closed left operand, the bound of `x` grew: `x ≤ A` is dropped, `y ≤ B` is kept -/
theorem widenBy_closedF_dropX {a b A B : Int} (h1 : A < a) (h2 : b ≤ B) :
    widenBy (closedF a b).get (closedF A B) = formY B := by
  apply ext3 <;> simp [closedF, formY, W.le] <;> omega

/-- closed left operand, the bound of `y` grew: `y ≤ B` is dropped, `x ≤ A` is kept -/
theorem widenBy_closedF_dropY {a b A B : Int} (h1 : a ≤ A) (h2 : B < b) :
    widenBy (closedF a b).get (closedF A B) = formX A := by
  apply ext3 <;> simp [closedF, formX, W.le] <;> omega

/-- left operand as it is, the bound of `x` grew: only `x ≤ A` is dropped -/
theorem widenBy_raw_dropX {a b A B : Int} (h1 : A < a) (h2 : b ≤ B) :
    widenBy (closedF a b).get (raw A B) = rawY B := by
  apply ext3 <;> simp [closedF, raw, rawY, W.le] <;> omega

/-- left operand as it is, the bound of `y` grew: `y ≤ B` is dropped and nothing is left to grow -/
theorem widenBy_rawY_dropY {a b B : Int} (h2 : B < b) :
    widenBy (closedF a b).get (rawY B) = rel := by
  apply ext3 <;> simp [closedF, rel, rawY, W.le] <;> omega

/-- the relational part covers every further value -/
theorem leqBy_rel (a b : Int) : leqBy (closedF a b).get rel = true := by
  rw [leqBy_iff]
  apply fin3_cases <;> apply fin3_cases <;> intro _ <;> rfl

theorem noSelfLoop_rel : NoSelfLoop rel := by
  apply fin3_cases <;> rfl


/-- the only property of a reading `ew` that the example uses: on the right operands `raw a b` it
    returns the entries of their closure `closedF a b` off the diagonal.  Both `splitEw` and
    `sparseEw` have it, and so has any other way of normalising the right operand -/
def ReadsClosed (ew : Zone 2 → Fin 3 → Fin 3 → W) : Prop :=
  ∀ a b : Int, Shape a b → ∀ i j, i ≠ j → ew (raw a b) i j = (closedF a b).get i j

theorem sparseEw_readsClosed : ReadsClosed sparseEw := by
  intro a b h i j _
  unfold sparseEw
  rw [close_raw a b h]

theorem splitEw_readsClosed : ReadsClosed splitEw := by
  intro a b h i j _
  unfold splitEw
  rw [close_raw a b h, splitW_of_closed (closedF_closed h)]

variable {ew : Zone 2 → Fin 3 → Fin 3 → W}

theorem ys_even (m : Nat) : ys (2 * m) = some (raw ((m : Int) + 2) ((m : Int) + 1)) := by
  unfold ys
  congr 2 <;> omega

theorem ys_odd (m : Nat) : ys (2 * m + 1) = some (raw ((m : Int) + 2) ((m : Int) + 2)) := by
  unfold ys
  congr 2 <;> omega

/-- a step of the defective chain: the closed left operand against the closed right operand -/
theorem bad_step (hr : ReadsClosed ew) {k : Nat} {z : Zone 2} {a b A B : Int}
    (hz : badChain ew k = some z) (hc : close z = closedF A B) (hy : ys k = some (raw a b))
    (h : Shape a b) :
    badChain ew (k + 1) = some (widenBy (closedF a b).get (closedF A B)) := by
  show widenClosedLeft ew (badChain ew k) (ys k) = _
  rw [hz, hy]
  show some (widenBy (ew (raw a b)) (close z)) = _
  rw [hc, widenBy_congr (hr a b h)]

theorem bad_step_even (hr : ReadsClosed ew) (m : Nat) (z : Zone 2)
    (hz : badChain ew (2 * m) = some z) (hc : close z = closedF ((m : Int) + 1) ((m : Int) + 1)) :
    badChain ew (2 * m + 1) = some (formY ((m : Int) + 1)) := by
  rw [bad_step hr hz hc (ys_even m) (by omega),
    widenBy_closedF_dropX (by omega) (by omega)]

theorem bad_step_odd (hr : ReadsClosed ew) (m : Nat)
    (h : badChain ew (2 * m + 1) = some (formY ((m : Int) + 1))) :
    badChain ew (2 * m + 2) = some (formX ((m : Int) + 2)) := by
  have e : (m : Int) + 2 = (m : Int) + 1 + 1 := by omega
  rw [bad_step hr h (close_formY _ (by omega)) (ys_odd m) (by omega),
    widenBy_closedF_dropY (by omega) (by omega), e]

theorem bad_forms (hr : ReadsClosed ew) (m : Nat) :
    badChain ew (2 * m + 1) = some (formY ((m : Int) + 1)) ∧
    badChain ew (2 * m + 2) = some (formX ((m : Int) + 2)) := by
  induction m with
  | zero =>
    have h1 : badChain ew (2 * 0 + 1) = some (formY (((0 : Nat) : Int) + 1)) :=
      bad_step_even hr 0 (raw 1 1) rfl (close_raw 1 1 (by omega))
    exact ⟨h1, bad_step_odd hr 0 h1⟩
  | succ m ih =>
    have e : (((m + 1 : Nat) : Int) + 1) = (m : Int) + 2 := by omega
    have h1 : badChain ew (2 * (m + 1) + 1) = some (formY (((m + 1 : Nat) : Int) + 1)) :=
      bad_step_even hr (m + 1) (formX ((m : Int) + 2)) ih.2 (by
        rw [e]; exact close_formX _ (by omega))
    exact ⟨h1, bad_step_odd hr (m + 1) h1⟩

/-- the defective widening is still an upper bound of its left operand -/
theorem bad_incl (hew : SoundEw ew) (k : Nat) (σ : State 2) (h : γv (badChain ew k) σ) :
    γv (badChain ew (k + 1)) σ := by
  show γv (widenE ew ((badChain ew k).map close) (ys k)) σ
  exact (widenE_upper hew _ _ σ).1 ((γv_map_close _ σ).2 h)

/-- a right operand whose bound of `x` (`i = 1`) or `y` (`i = 2`) exceeds the one stored on the left
    is not covered -/
theorem leqE_raw_false (hr : ReadsClosed ew) {a b A c : Int} (h : Shape a b)
    {x : Zone 2} {i : Fin 3} (hi : i ≠ 0) (hx : x.get i 0 = some A)
    (hc : (closedF a b).get i 0 = some c) (hlt : A < c) :
    leqE ew (some (raw a b)) (some x) = false := by
  show leqBy (ew (raw a b)) x = false
  rw [leqBy_congr (hr a b h)]
  exact leqBy_eq_false_iff.2 ⟨i, 0, A, hi, hx, by rw [hc]; exact decide_eq_false (by omega)⟩

/-- each step adds a state, and its right operand is not covered by the left one -/
theorem bad_strict (hr : ReadsClosed ew) (k : Nat) :
    (∃ σ, γv (badChain ew (k + 1)) σ ∧ ¬ γv (badChain ew k) σ) ∧
    leqE ew (ys k) (badChain ew k) = false := by
  obtain ⟨m, rfl | rfl⟩ : ∃ m, k = 2 * m ∨ k = 2 * m + 1 := ⟨k / 2, by omega⟩
  · rw [ys_even]
    cases m with
    | zero =>
      rw [(bad_forms hr 0).1, show badChain ew (2 * 0) = some (raw 1 1) from rfl]
      refine ⟨⟨st 2 1, ?_, ?_⟩, leqE_raw_false hr (by omega) (i := 1) (by decide) rfl rfl (by omega)⟩
      · rw [γv_formY]; omega
      · rw [γv_raw]; omega
    | succ m =>
      rw [(bad_forms hr (m + 1)).1, show badChain ew (2 * (m + 1)) = _ from (bad_forms hr m).2]
      refine ⟨⟨st ((m : Int) + 3) ((m : Int) + 2), ?_, ?_⟩,
        leqE_raw_false hr (by omega) (i := 1) (by decide) rfl rfl (by omega)⟩
      · rw [γv_formY]; omega
      · rw [γv_formX]; omega
  · rw [ys_odd, show badChain ew (2 * m + 1 + 1) = _ from (bad_forms hr m).2, (bad_forms hr m).1]
    refine ⟨⟨st ((m : Int) + 2) ((m : Int) + 2), ?_, ?_⟩,
      leqE_raw_false hr (by omega) (i := 2) (by decide) rfl rfl (by omega)⟩
    · rw [γv_formX]; omega
    · rw [γv_formY]; omega

/-- the right operands are all of the shape the reading is known on -/
theorem ys_raw (k : Nat) : ∃ a b : Int, ys k = some (raw a b) ∧ Shape a b :=
  ⟨_, _, rfl, by omega⟩

/-- a step of the chain of the code: the left operand as it is -/
theorem good_step (hr : ReadsClosed ew) {k : Nat} {l : Zone 2} {a b : Int}
    (hl : goodChain ew k = some l) (hy : ys k = some (raw a b)) (h : Shape a b) :
    goodChain ew (k + 1) = some (widenBy (closedF a b).get l) := by
  show widenE ew (goodChain ew k) (ys k) = _
  rw [hl, hy]
  show some (widenBy (ew (raw a b)) l) = _
  rw [widenBy_congr (hr a b h)]

/-- the first step drops `x ≤ 1` -/
theorem good_one (hr : ReadsClosed ew) : goodChain ew 1 = some (rawY 1) := by
  rw [good_step hr (k := 0) rfl (ys_even 0) (by omega),
    widenBy_raw_dropX (by omega) (by omega)]

theorem good_forms (hr : ReadsClosed ew) (k : Nat) (hk : 2 ≤ k) :
    goodChain ew k = some rel ∧ leqE ew (ys k) (goodChain ew k) = true := by
  have h2 : goodChain ew 2 = some rel := by
    rw [good_step hr (k := 1) (good_one hr) (ys_odd 0) (by omega),
      widenBy_rawY_dropY (by omega)]
  have hall : ∀ j, goodChain ew (2 + j) = some rel := by
    intro j
    induction j with
    | zero => exact h2
    | succ j ih =>
      obtain ⟨a, b, hy, h⟩ := ys_raw (2 + j)
      rw [show 2 + (j + 1) = 2 + j + 1 from rfl, good_step hr ih hy h,
        widenBy_eq_self noSelfLoop_rel (leqBy_rel a b)]
  obtain ⟨j, rfl⟩ : ∃ j, k = 2 + j := ⟨k - 2, by omega⟩
  obtain ⟨a, b, hy, h⟩ := ys_raw (2 + j)
  rw [hall j, hy]
  refine ⟨rfl, ?_⟩
  show leqBy (ew (raw a b)) rel = true
  rw [leqBy_congr (hr a b h), leqBy_rel]

end TwoCounter
end Zones
end Crab
