import CrabProofs.Lemmas.DisIntervalBasic

/-! `normalize` of `dis_interval` and the private list constructor (`Crab.Dis.absorb`, `normLoop`,
    `normalizeList`, `mkList` = `normalize` + the merge at 50 disjuncts): the normalised vector
    is a coarsening (`Coarsens`) of the argument and satisfies `WFList`; the constructor describes
    at least the union, exactly the union below 50 disjuncts, and establishes `Dis.WF`. -/
namespace Crab
namespace Dis
open Bound

/-- the vector that the callers of `absorb` go on with: the interval to push, if any, on top -/
def pushed (p : List Itv × Option Itv) : List Itv := p.2.toList ++ p.1

theorem absorb_coarsens (intv : Itv) (res : List Itv) :
    Coarsens (intv :: res) (pushed (absorb intv res)) := by
  fun_induction absorb intv res with
  | case1 => exact .refl _
  | case2 intv prev rest hm ih =>
    exact ((Coarsens.of_perm (.swap prev intv rest)).trans (.merge (by simpa using hm) rest)).trans ih
  | case3 intv prev rest _ hle => exact .drop fun k hk => memL_cons.mpr (Or.inl (Itv.leq_sound hle hk))
  | case4 => exact .refl _

/-- the vector under construction, last element first: proper intervals, each one separated
    from the older ones by a gap -/
def Stack (res : List Itv) : Prop :=
  (∀ r ∈ res, proper r = true) ∧ res.Pairwise (fun newer older => gapOk older newer = true)

theorem Stack.tail {a : Itv} {l : List Itv} (h : Stack (a :: l)) : Stack l :=
  ⟨fun r hr => h.1 r (List.mem_cons_of_mem _ hr), (List.pairwise_cons.mp h.2).2⟩

theorem Stack.of_suffix {l l' : List Itv} (h : Stack l) (hs : l' <:+ l) : Stack l' :=
  ⟨fun r hr => h.1 r (hs.subset hr), List.Pairwise.sublist hs.sublist h.2⟩

theorem Stack.lb_le {a : Itv} {l : List Itv} (h : Stack (a :: l)) {r : Itv} (hr : r ∈ l) :
    Bound.le r.lb a.lb = true :=
  gapOk_lb_le ((proper_iff r).mp (h.1 r (List.mem_cons_of_mem _ hr))).1 ((List.pairwise_cons.mp h.2).1 r hr)

theorem absorb_struct (intv : Itv) (res : List Itv) (hs : Stack res)
    (hb : intv.isBottom = false) (hw : intv.WF) (hlb : ∀ r ∈ res, Bound.le r.lb intv.lb = true) :
    (absorb intv res).1 <:+ res ∧
    (∀ v, (absorb intv res).2 = some v →
      v.isBottom = false ∧ v.WF ∧ Bound.le v.lb intv.lb = true ∧
      ∀ r ∈ (absorb intv res).1, gapOk r v = true) ∧
    ((absorb intv res).2 = none → (absorb intv res).1 ≠ []) := by
  fun_induction absorb intv res with
  | case1 intv =>
    exact ⟨List.suffix_refl _, fun v hv => Option.some.inj hv ▸ ⟨hb, hw, Bound.le_refl _, by simp⟩, by simp⟩
  | case2 intv prev rest _ ih =>
    have hp := (proper_iff prev).mp (hs.1 prev (by simp))
    have hjl : (Itv.join prev intv).lb = Bound.min prev.lb intv.lb := by rw [Itv.join_eq hp.1 hb]
    obtain ⟨h1, h2, h3⟩ := ih hs.tail (Itv.join_not_bottom hp.1 hb) (Itv.wf_join hp.2.2 hw) (fun r hr =>
      hjl ▸ Bound.le_min (hs.lb_le hr) (hlb r (List.mem_cons_of_mem _ hr)))
    refine ⟨h1.trans (List.suffix_cons _ _), fun v hv => ?_, h3⟩
    obtain ⟨a, b, c, d⟩ := h2 v hv
    exact ⟨a, b, Bound.le_trans (hjl ▸ c) (Bound.min_le_right _ _), d⟩
  | case3 => exact ⟨List.suffix_refl _, by simp, by simp⟩
  | case4 intv prev rest hm =>
    have hp := (proper_iff prev).mp (hs.1 prev (by simp))
    have hm : overlap prev intv = false ∧ areConsecutive prev intv = false := by simpa using hm
    have hg : gapOk prev intv = true :=
      sep_of_not_merge hp.1 hb hp.2.2 hw (hlb prev (by simp)) hm.1 hm.2
    refine ⟨List.suffix_refl _, fun v hv => Option.some.inj hv ▸ ⟨hb, hw, Bound.le_refl _, ?_⟩, by simp⟩
    exact List.forall_mem_cons.mpr
      ⟨hg, fun r hr => gapOk_trans hp.1 ((List.pairwise_cons.mp hs.2).1 r hr) hg⟩

structure NInv (l res : List Itv) (prev : Itv) : Prop where
  hl : ∀ i ∈ l, i.WF
  hsorted : LbSorted l
  hres : Stack res
  hrl : ∀ r ∈ res, ∀ i ∈ l, Bound.le r.lb i.lb = true
  hprev : (prev = Itv.top ∧ res = []) ∨ (∃ rest, res = prev :: rest)

def NPost (l res : List Itv) (b : Nat) : Option (List Itv × Nat) → Prop
  | none => ∀ k, memL k (l ++ res)
  | some (res', b') => Stack res' ∧ Coarsens (l ++ res) res' ∧ b' = b + l.countP (·.isBottom)

theorem NPost.cons {intv : Itv} {more res res2 : List Itv} {b b2 : Nat} {r : Option (List Itv × Nat)}
    (h : NPost more res2 b2 r) (hc : Coarsens (intv :: res) res2)
    (hb : b2 = b + if intv.isBottom then 1 else 0) : NPost (intv :: more) res b r := by
  have hstep : Coarsens (intv :: more ++ res) (more ++ res2) :=
    (Coarsens.of_perm List.perm_middle.symm).trans (hc.append_left more)
  cases r with
  | none => exact fun k => (hstep.mem k).mp (h k)
  | some p => exact ⟨h.1, hstep.trans h.2.1, by rw [h.2.2, List.countP_cons]; omega⟩

theorem eq_of_beq {a b : Itv} (ha : a.isBottom = false) (h : Itv.beq a b = true) : a = b := by
  obtain ⟨al, au⟩ := a
  obtain ⟨bl, bu⟩ := b
  simpa [Itv.beq, ha] using h

theorem NInv.tail {i : Itv} {l res : List Itv} {prev : Itv} (inv : NInv (i :: l) res prev) :
    NInv l res prev :=
  ⟨fun j hj => inv.hl j (List.mem_cons_of_mem _ hj), (List.pairwise_cons.mp inv.hsorted).2, inv.hres,
   fun r hr j hj => inv.hrl r hr j (List.mem_cons_of_mem _ hj), inv.hprev⟩

theorem NInv.prev_isBottom {l res : List Itv} {prev : Itv} (inv : NInv l res prev) :
    prev.isBottom = false := by
  rcases inv.hprev with ⟨rfl, _⟩ | ⟨rest, hres⟩
  · rfl
  · exact ((proper_iff prev).mp (inv.hres.1 prev (by simp [hres]))).1

/-- the `if` on `prev.is_top()` is the call of `absorb` in every reachable state -/
theorem NInv.absorb_if {l res : List Itv} {prev : Itv} (inv : NInv l res prev) (intv : Itv) :
    (if (!prev.isTop) = true then absorb intv res else (res, some intv)) = absorb intv res := by
  split
  · rfl
  · rename_i hpt
    rcases inv.hprev with ⟨_, hres⟩ | ⟨rest, hres⟩
    · rw [hres]; rfl
    · simp [((proper_iff prev).mp (inv.hres.1 prev (by simp [hres]))).2.1] at hpt

theorem NInv.absorb_spec {intv : Itv} {more res : List Itv} {prev : Itv} (inv : NInv (intv :: more) res prev)
    (hnb : ¬ intv.isBottom = true) {res' : List Itv} {o : Option Itv}
    (ha : (if (!prev.isTop) = true then absorb intv res else (res, some intv)) = (res', o)) :
    res' <:+ res ∧ Coarsens (intv :: res) (o.toList ++ res') ∧ (o = none → res' ≠ []) ∧
    ∀ v, o = some v → v.isBottom = false ∧ v.WF ∧ Bound.le v.lb intv.lb = true ∧ ∀ r ∈ res', gapOk r v = true := by
  obtain ⟨h1, h2, h3⟩ := absorb_struct intv res inv.hres (by simpa using hnb) (inv.hl intv (by simp))
    (fun r hr => inv.hrl r hr intv (by simp))
  have hc := absorb_coarsens intv res
  rw [inv.absorb_if] at ha
  rw [ha] at h1 h2 h3 hc
  exact ⟨h1, hc, h3, h2⟩

theorem normLoop_spec (l res : List Itv) (prev : Itv) (b : Nat) (inv : NInv l res prev) :
    NPost l res b (normLoop l res prev b) := by
  fun_induction normLoop l res prev b with
  | case1 res => exact ⟨inv.hres, .refl _, rfl⟩
  | case2 intv more res prev b ht =>
    exact fun k => memL_cons.mpr (Or.inl (Itv.mem_of_isTop ht (inv.hl intv (by simp)) k))
  | case3 intv more res prev b hnt hdup ih =>
    -- a copy of `prev`, which is on the stack
    have hpb := inv.prev_isBottom
    have heq := eq_of_beq hpb hdup
    subst heq
    rcases inv.hprev with ⟨rfl, _⟩ | ⟨rest, hres⟩
    · exact absurd rfl hnt
    · exact (ih inv.tail).cons (.drop fun k hk => hres ▸ memL_cons.mpr (Or.inl hk)) (by simp [hpb])
  | case4 intv more res prev b _ _ hbot ih =>
    exact (ih inv.tail).cons (.drop fun k hk => absurd hk (Itv.not_mem_of_isBottom hbot)) (by simp [hbot])
  | case5 intv more res prev b _ _ hnb res' ha ih =>
    obtain ⟨hs1, hc, hs3, _⟩ := inv.absorb_spec hnb ha
    obtain ⟨hd, tl, rfl⟩ := List.exists_cons_of_ne_nil (hs3 rfl)
    exact (ih ⟨inv.tail.hl, inv.tail.hsorted, inv.hres.of_suffix hs1,
      fun r hr => inv.tail.hrl r (hs1.subset hr), Or.inr ⟨tl, rfl⟩⟩).cons hc (by simp [hnb])
  | case6 intv more res prev b _ _ hnb res' v ha hvt =>
    obtain ⟨_, hc, _, hs2⟩ := inv.absorb_spec hnb ha
    intro k
    obtain ⟨i, hi, hk⟩ := (hc.mem k).mp (memL_cons.mpr (Or.inl (Itv.mem_of_isTop hvt (hs2 v rfl).2.1 k)))
    exact ⟨i, List.cons_subset_cons _ (List.subset_append_right _ _) hi, hk⟩
  | case7 intv more res prev b _ _ hnb res' v ha hvt ih =>
    obtain ⟨hs1, hc, _, hs2⟩ := inv.absorb_spec hnb ha
    obtain ⟨hvb, hvw, hvl, hvg⟩ := hs2 v rfl
    have hst' := inv.hres.of_suffix hs1
    have hstv : Stack (v :: res') :=
      ⟨List.forall_mem_cons.mpr ⟨(proper_iff _).mpr ⟨hvb, by simpa using hvt, hvw⟩, hst'.1⟩,
       List.pairwise_cons.mpr ⟨hvg, hst'.2⟩⟩
    have hrl' : ∀ r ∈ v :: res', ∀ i ∈ more, Bound.le r.lb i.lb = true := by
      intro r hr i hi
      rcases List.mem_cons.mp hr with rfl | hr
      · exact Bound.le_trans hvl ((List.pairwise_cons.mp inv.hsorted).1 i hi)
      · exact inv.tail.hrl r (hs1.subset hr) i hi
    exact (ih ⟨inv.tail.hl, inv.tail.hsorted, hstv, hrl', Or.inr ⟨res', rfl⟩⟩).cons hc (by simp [hnb])

theorem wfList_wf {l : List Itv} (h : WFList l) : ∀ a ∈ l, a.WF :=
  fun a ha => ((proper_iff a).mp (h.1 a ha)).2.2

theorem ewf_of_wf {x : Dis} (hx : WF x) : EWF x := by
  obtain ⟨s, l⟩ := x
  cases s
  · exact fun a ha => by rw [show l = [] from hx] at ha; cases ha
  · exact wfList_wf hx.2.2
  · exact fun a ha => by rw [show l = [] from hx] at ha; cases ha

structure NormSpec (l r : List Itv) (isBot : Bool) : Prop where
  short : l.length ≤ 1 → r = l
  wfList : 2 ≤ l.length → WFList r
  bot : isBot = true → ∀ i ∈ l, i.isBottom = true
  top : isBot = false → r = [] → l ≠ [] → ∀ k, memL k l
  coarsens : r ≠ [] → Coarsens l r

theorem normalizeList_spec {l : List Itv} (hl : ∀ i ∈ l, i.WF) :
    NormSpec l (normalizeList l).1 (normalizeList l).2 := by
  unfold normalizeList
  split
  · rename_i h1
    exact ⟨fun _ => rfl, fun h2 => absurd h2 (by omega), by simp, fun _ h => absurd h, fun _ => .refl _⟩
  have hp := perm_sortByLb l
  have hspec := normLoop_spec (sortByLb l) [] Itv.top 0
    ⟨fun i hi => hl i (hp.mem_iff.mp hi), lbSorted_sortByLb l, ⟨by simp, .nil⟩, by simp, Or.inl ⟨rfl, rfl⟩⟩
  generalize normLoop (sortByLb l) [] Itv.top 0 = o at hspec
  cases o with
  | none =>
    refine ⟨fun h => absurd h ‹_›, fun _ => ⟨by simp, List.Pairwise.nil⟩, by simp, fun _ _ _ k => ?_, by simp⟩
    exact ((Coarsens.of_perm hp).mem k).mpr (by simpa using hspec k)
  | some p =>
    obtain ⟨res, b⟩ := p
    obtain ⟨h1, h2, h4⟩ := hspec
    rw [List.append_nil] at h2
    have hc : Coarsens l res.reverse :=
      ((Coarsens.of_perm hp.symm).trans h2).trans (.of_perm (List.reverse_perm res).symm)
    have hw : WFList res.reverse :=
      ⟨fun a ha => h1.1 a (List.mem_reverse.mp ha), List.pairwise_reverse.mpr h1.2⟩
    rw [hp.countP_eq, Nat.zero_add] at h4
    refine ⟨fun h => absurd h ‹_›, fun _ => hw, fun hb => ?_, fun hb hr hne k => ?_, fun _ => hc⟩
    · exact List.countP_eq_length.mp (h4 ▸ (by simpa using hb))
    · -- no interval is left although some interval of `l` is not bottom
      have hnall : ¬ ∀ i ∈ l, i.isBottom = true := fun hall => by
        simp [h4, List.countP_eq_length.mpr hall] at hb
      obtain ⟨i, hi, hib⟩ : ∃ i ∈ l, i.isBottom = false := by simpa using hnall
      obtain ⟨j, hj⟩ := Itv.exists_mem (hl i hi) hib
      have hr : res.reverse = [] := hr
      exact absurd (hr ▸ (hc.mem j).mpr ⟨i, hi, hj⟩) (memL_nil j)

theorem first_lb_le {a : Itv} {as : List Itv} (h : WFList (a :: as)) {i : Itv} (hi : i ∈ a :: as) :
    Bound.le a.lb i.lb = true := by
  rcases List.mem_cons.mp hi with rfl | hi'
  · exact Bound.le_refl _
  · exact gapOk_lb_le ((proper_iff a).mp (h.1 a (by simp))).1 ((List.pairwise_cons.mp h.2).1 i hi')

theorem le_last_ub {l : List Itv} (h : WFList l) (hne : l ≠ []) {i : Itv} (hi : i ∈ l) :
    Bound.le i.ub (l.getLast hne).ub = true := by
  have hpw := h.2
  rw [← List.dropLast_concat_getLast hne, List.pairwise_append] at hpw
  rw [← List.dropLast_concat_getLast hne] at hi
  rcases List.mem_append.mp hi with hi | hi
  · exact gapOk_ub_le ((proper_iff _).mp (h.1 _ (List.getLast_mem hne))).1 (hpw.2.2 i hi _ (by simp))
  · rw [List.mem_singleton.mp hi]; exact Bound.le_refl _

theorem approxNE_mem {x : Itv} {xs : List Itv} (h : WFList (x :: xs)) {k : Int}
    (hk : memL k (x :: xs)) : Itv.mem k (approxNE x xs) := by
  cases xs with
  | nil => simpa [approxNE, memL] using hk
  | cons y ys =>
    obtain ⟨i, hi, hki⟩ := hk
    have hne : x :: y :: ys ≠ [] := by simp
    have hlast : (y :: ys).getLast (by simp) = (x :: y :: ys).getLast hne := (List.getLast_cons _).symm
    simp only [approxNE, hlast]
    rw [Itv.join_eq ((proper_iff x).mp (h.1 x (by simp))).1 ((proper_iff _).mp (h.1 _ (List.getLast_mem hne))).1]
    exact ⟨Bound.le_trans (Bound.le_trans (Bound.min_le_left _ _) (first_lb_le h hi)) hki.1,
           Bound.le_trans hki.2 (Bound.le_trans (le_last_ub h hne hi) (Bound.le_max_right _ _))⟩

theorem approxNE_wf {a : Itv} {as : List Itv} (h : ∀ i ∈ a :: as, i.WF) : (approxNE a as).WF := by
  cases as with
  | nil => exact h a (by simp)
  | cons a' as =>
    exact Itv.wf_join (h a (by simp)) (h _ (List.mem_cons_of_mem _ (List.getLast_mem _)))

theorem mkList_cases {motive : Dis → Prop} {l : List Itv} (hl : ∀ i ∈ l, i.WF)
    (bot : (∀ i ∈ l, i.isBottom = true) → motive ⟨.bot, []⟩)
    (top : (l ≠ [] → ∀ k, memL k l) → motive ⟨.top, []⟩)
    (hull : ∀ x xs, Coarsens l (x :: xs) → WFList (x :: xs) → maxDisjunctions ≤ (x :: xs).length →
      motive ⟨.fin, [approxNE x xs]⟩)
    (fin : ∀ r, r ≠ [] → Coarsens l r → NormSpec l r false → r.length < maxDisjunctions → motive ⟨.fin, r⟩) :
    motive (mkList l) := by
  have hs := normalizeList_spec hl
  unfold mkList
  generalize normalizeList l = p at hs
  obtain ⟨r, isBot⟩ := p
  cases isBot with
  | true => exact bot (hs.bot rfl)
  | false =>
    cases r with
    | nil => exact top (hs.top rfl rfl)
    | cons x xs =>
      have hc := hs.coarsens (List.cons_ne_nil x xs)
      dsimp only
      split
      · rename_i h50
        exact hull x xs hc (hs.wfList (Nat.le_trans (Nat.le_trans (by decide) h50) hc.length_le)) h50
      · rename_i h50; exact fin _ (by simp) hc hs (Nat.not_le.mp h50)

theorem mkList_mem_upper {l : List Itv} (hl : ∀ i ∈ l, i.WF) {k : Int} (hk : memL k l) :
    mem k (mkList l) := by
  refine mkList_cases hl (fun hb => ?_) (fun _ => mem_top k)
    (fun x xs hc hw _ => ⟨_, by simp, approxNE_mem hw ((hc.mem k).mpr hk)⟩) (fun r _ hc _ _ => (hc.mem k).mpr hk)
  obtain ⟨i, hi, hki⟩ := hk
  exact absurd hki (Itv.not_mem_of_isBottom (hb i hi))

theorem mkList_mem_exact {l : List Itv} (hl : ∀ i ∈ l, i.WF) (hne : l ≠ [])
    (hlen : l.length < maxDisjunctions) {k : Int} (hk : mem k (mkList l)) : memL k l :=
  mkList_cases (motive := fun S => mem k S → memL k l) hl (fun _ h => absurd h (not_mem_bot k))
    (fun ht _ => ht hne k)
    (fun _ _ hc _ h50 => absurd (Nat.lt_of_le_of_lt hc.length_le hlen) (Nat.not_lt.mpr h50))
    (fun _ _ hc _ _ h => (hc.mem k).mp h) hk

/-- the constructor establishes the invariant (below 50 disjuncts; a vector of one interval is
    taken as it is) -/
theorem mkList_wf {l : List Itv} (hl : ∀ i ∈ l, i.WF) (h1 : ∀ a, l = [a] → proper a = true)
    (hlen : l.length < maxDisjunctions) : WF (mkList l) := by
  refine mkList_cases hl (fun _ => rfl) (fun _ => rfl)
    (fun _ _ hc _ h50 => absurd (Nat.lt_of_le_of_lt hc.length_le hlen) (Nat.not_lt.mpr h50))
    (fun r hne _ hs hr => ⟨hne, hr, ?_⟩)
  match l, h1, hs with
  | [], _, hs => exact absurd (hs.short (by simp)) hne
  | [a], h1, hs => exact hs.short (by simp) ▸ ⟨by simpa using h1 a rfl, by simp⟩
  | _ :: _ :: _, _, hs => exact hs.wfList (by simp)

theorem mkList_ewf {l : List Itv} (hl : ∀ i ∈ l, i.WF) : EWF (mkList l) :=
  have wf : ∀ {r}, Coarsens l r → ∀ i ∈ r, i.WF := fun hc => hc.all _ (fun _ _ => Itv.wf_join) hl
  mkList_cases hl (fun _ a ha => absurd ha (by simp)) (fun _ a ha => absurd ha (by simp))
    (fun _ _ hc _ _ i hi => List.mem_singleton.mp hi ▸ approxNE_wf (wf hc)) (fun _ _ hc _ _ => wf hc)

theorem wf_of_mkList_eq {x : Dis}
    (h : EWF x ∧ 2 ≤ x.l.length ∧ x.l.length < maxDisjunctions ∧ mkList x.l = x) : WF x := by
  have := mkList_wf h.1 (fun a e => by simp [e] at h) h.2.2.1
  rwa [h.2.2.2] at this

end Dis
end Crab
