import CrabProofs.Lemmas.WIntUDiv

/-!
  `Crab.WInt`: `SDiv`.  `signed_div` on pieces that lie in one hemisphere, the loop nest of `SDiv`.
-/
namespace Crab
namespace WInt
open WrapInt

/-- signed division of two points of the circle of `2^w` points (`MIN / -1` wraps to `MIN`) -/
def sdivN (w p q : Nat) : Nat := ((BitVec.ofNat w p).sdiv (BitVec.ofNat w q)).toNat

theorem sdivN_bv {w : Nat} (a b : BitVec w) : (a.sdiv b).toNat = sdivN w a.toNat b.toNat := by
  unfold sdivN
  rw [BitVec.ofNat_toNat, BitVec.setWidth_eq, BitVec.ofNat_toNat, BitVec.setWidth_eq]

theorem sdivN_lt (w p q : Nat) : sdivN w p q < 2 ^ w := BitVec.isLt _

theorem sdiv_raw {w p q : Nat} (h1w : 1 ≤ w) (hw : w ≤ 64) (hp : p < 2 ^ w) (hq : q < 2 ^ w)
    (hq0 : q ≠ 0) : WrapInt.sdiv ⟨w, p⟩ ⟨w, q⟩ = some ⟨w, sdivN w p q⟩ := by
  have hne : BitVec.ofNatLT q hq ≠ 0 := by
    intro h
    have := congrArg BitVec.toNat h
    simp at this; exact hq0 this
  have := sdiv_ofBV h1w hw (BitVec.ofNatLT p hp) (BitVec.ofNatLT q hq) hne
  simp only [ofBV, BitVec.toNat_ofNatLT] at this
  rw [this, BitVec.ofNatLT_eq_ofNat, BitVec.ofNatLT_eq_ofNat]; rfl

/-- away from `MIN / -1` the signed reading of the quotient is the truncated quotient -/
theorem sg_sdivN {w p q : Nat} (h1w : 1 ≤ w) (hp : p < 2 ^ w) (hq : q < 2 ^ w)
    (hno : ¬ (p = 2 ^ (w - 1) ∧ q = 2 ^ w - 1)) :
    sg (2 ^ w) (sdivN w p q) = (sg (2 ^ w) p).tdiv (sg (2 ^ w) q) := by
  have hM := pow_succ_pred h1w
  have hH : 0 < 2 ^ (w - 1) := Nat.pow_pos (by decide)
  unfold sdivN
  rw [sg_toInt, BitVec.toInt_sdiv_of_ne_or_ne, ← sg_toInt, ← sg_toInt, BitVec.toNat_ofNat,
    BitVec.toNat_ofNat, Nat.mod_eq_of_lt hp, Nat.mod_eq_of_lt hq]
  by_cases h1 : p = 2 ^ (w - 1)
  · right
    intro h
    have := congrArg BitVec.toNat h
    rw [BitVec.neg_one_eq_allOnes, BitVec.toNat_allOnes, BitVec.toNat_ofNat, Nat.mod_eq_of_lt hq] at this
    exact hno ⟨h1, this⟩
  · left
    intro h
    have := congrArg BitVec.toNat h
    rw [BitVec.toNat_intMin, BitVec.toNat_ofNat, Nat.mod_eq_of_lt hp,
      Nat.mod_eq_of_lt (by omega : 2 ^ (w - 1) < 2 ^ w)] at this
    exact h1 this

/-! ### truncated quotients of the members of two boxes of signed numbers, the divisors without zero -/

theorem quot_pp {A B C D U V : Int} (h0 : 0 ≤ A) (h1 : A ≤ U) (h2 : U ≤ B) (hc : 1 ≤ C) (h3 : C ≤ V)
    (h4 : V ≤ D) : A.tdiv D ≤ U.tdiv V ∧ U.tdiv V ≤ B.tdiv C := by
  obtain ⟨a, rfl⟩ := Int.eq_ofNat_of_zero_le h0
  obtain ⟨u, rfl⟩ := Int.eq_ofNat_of_zero_le (Int.le_trans h0 h1)
  obtain ⟨b, rfl⟩ := Int.eq_ofNat_of_zero_le (by omega : 0 ≤ B)
  obtain ⟨c, rfl⟩ := Int.eq_ofNat_of_zero_le (by omega : 0 ≤ C)
  obtain ⟨v, rfl⟩ := Int.eq_ofNat_of_zero_le (by omega : 0 ≤ V)
  obtain ⟨d, rfl⟩ := Int.eq_ofNat_of_zero_le (by omega : 0 ≤ D)
  simp only [← Int.ofNat_tdiv, Int.ofNat_le]
  exact ⟨Nat.div_le_div (by omega) (by omega) (by omega), Nat.div_le_div (by omega) (by omega) (by omega)⟩

/-- dividends negative -/
theorem quot_np {A B C D U V : Int} (h1 : A ≤ U) (h2 : U ≤ B) (h0 : B ≤ -1) (hc : 1 ≤ C) (h3 : C ≤ V)
    (h4 : V ≤ D) : A.tdiv C ≤ U.tdiv V ∧ U.tdiv V ≤ B.tdiv D := by
  have := quot_pp (A := -B) (U := -U) (B := -A) (by omega) (by omega) (by omega) hc h3 h4
  simp only [Int.neg_tdiv] at this
  omega

/-- divisors negative -/
theorem quot_pn {A B C D U V : Int} (h0 : 0 ≤ A) (h1 : A ≤ U) (h2 : U ≤ B) (h3 : C ≤ V) (h4 : V ≤ D)
    (hd : D ≤ -1) : B.tdiv D ≤ U.tdiv V ∧ U.tdiv V ≤ A.tdiv C := by
  have := quot_pp (C := -D) (V := -V) (D := -C) h0 h1 h2 (by omega) (by omega) (by omega)
  simp only [Int.tdiv_neg] at this
  omega

theorem quot_nn {A B C D U V : Int} (h1 : A ≤ U) (h2 : U ≤ B) (h0 : B ≤ -1) (h3 : C ≤ V) (h4 : V ≤ D)
    (hd : D ≤ -1) : B.tdiv C ≤ U.tdiv V ∧ U.tdiv V ≤ A.tdiv D := by
  have := quot_np (C := -D) (V := -V) (D := -C) h1 h2 h0 (by omega) (by omega) (by omega)
  simp only [Int.tdiv_neg] at this
  omega


/-- the test of `signed_div` for the corner `MIN / -1` -/
def ovf (b : Nat) (p q : WrapInt) : Bool := p.n == (sminT b).n && q.n == (ofNatT (2 ^ 64 - 1) b).n

/-- the answer of `signed_div` from the corners `p1 / q1` and `p2 / q2` -/
def divCorners (b : Nat) (p1 q1 p2 q2 : WrapInt) : Option WInt :=
  if !(ovf b p1 q1 || ovf b p2 q2) then
    match WrapInt.sdiv p1 q1, WrapInt.sdiv p2 q2 with
    | some a, some c => some (mk2 a c)
    | _, _ => none
  else some top


theorem signedDiv_pp (x y : WInt) (h1 : x.start.msb = false) (h2 : y.start.msb = false) :
    signedDiv? x y = divCorners x.start.width x.start y.stop x.stop y.start := by
  unfold signedDiv?; rw [h1, h2]; rfl

theorem signedDiv_nn (x y : WInt) (h1 : x.start.msb = true) (h2 : y.start.msb = true) :
    signedDiv? x y = divCorners x.start.width x.stop y.start x.start y.stop := by
  unfold signedDiv?; rw [h1, h2]; rfl

theorem signedDiv_np (x y : WInt) (h1 : x.start.msb = true) (h2 : y.start.msb = false) :
    signedDiv? x y = divCorners x.start.width x.start y.start x.stop y.stop := by
  unfold signedDiv?; rw [h1, h2]; rfl

theorem signedDiv_pn (x y : WInt) (h1 : x.start.msb = false) (h2 : y.start.msb = true) :
    signedDiv? x y = divCorners x.start.width x.stop y.stop x.start y.start := by
  unfold signedDiv?; rw [h1, h2]; rfl

theorem m1_val {w : Nat} (h1w : 1 ≤ w) (hw : w ≤ 64) : (ofNatT (2 ^ 64 - 1) w).n = 2 ^ w - 1 := by
  unfold ofNatT
  simp only
  split
  · next h =>
    have h1 : 2 ^ 64 = 2 ^ w * 2 ^ (64 - w) := pow64_split hw
    have hpos : 0 < 2 ^ (64 - w) := Nat.pow_pos (by decide)
    have hM : 0 < 2 ^ w := Nat.pow_pos (by decide)
    obtain ⟨K, hK⟩ : ∃ K, 2 ^ (64 - w) = K + 1 := ⟨2 ^ (64 - w) - 1, by omega⟩
    have : 2 ^ 64 - 1 = (2 ^ w - 1) + 2 ^ w * K := by
      rw [h1, hK, Nat.mul_succ]; omega
    rw [this, Nat.add_mul_mod_self_left]
    exact Nat.mod_eq_of_lt (by omega)
  · next h =>
    have : w = 64 := by omega
    subst this; rfl

theorem ovf_iff {w p q : Nat} (h1w : 1 ≤ w) (hw : w ≤ 64) :
    ovf w ⟨w, p⟩ ⟨w, q⟩ = true ↔ p = 2 ^ (w - 1) ∧ q = 2 ^ w - 1 := by
  simp only [ovf, sminT, m1_val h1w hw, Bool.and_eq_true, beq_iff_eq]

/-- the corner quotients bound the quotient `u / v` of a pair of members: either a corner is
    `MIN / -1` and the answer is `top()`, or the answer is the interval between the corners -/
theorem divCorners_sound {w : Nat} (h1w : 1 ≤ w) (hw : w ≤ 64) {p1 q1 p2 q2 u v : Nat}
    (hp1 : p1 < 2 ^ w) (hq1 : q1 < 2 ^ w) (hp2 : p2 < 2 ^ w) (hq2 : q2 < 2 ^ w) (hu : u < 2 ^ w) (hv : v < 2 ^ w)
    (z1 : q1 ≠ 0) (z2 : q2 ≠ 0)
    (huv : ¬ (p1 = 2 ^ (w - 1) ∧ q1 = 2 ^ w - 1) → ¬ (p2 = 2 ^ (w - 1) ∧ q2 = 2 ^ w - 1) →
      ¬ (u = 2 ^ (w - 1) ∧ v = 2 ^ w - 1))
    (hb : (sg (2 ^ w) p1).tdiv (sg (2 ^ w) q1) ≤ (sg (2 ^ w) u).tdiv (sg (2 ^ w) v) ∧
      (sg (2 ^ w) u).tdiv (sg (2 ^ w) v) ≤ (sg (2 ^ w) p2).tdiv (sg (2 ^ w) q2)) :
    ∃ q, divCorners w ⟨w, p1⟩ ⟨w, q1⟩ ⟨w, p2⟩ ⟨w, q2⟩ = some q ∧ mem w (sdivN w u v) q := by
  unfold divCorners
  cases ho : (ovf w ⟨w, p1⟩ ⟨w, q1⟩ || ovf w ⟨w, p2⟩ ⟨w, q2⟩)
  · rw [if_pos Bool.not_false, sdiv_raw h1w hw hp1 hq1 z1, sdiv_raw h1w hw hp2 hq2 z2]
    refine ⟨_, rfl, ?_⟩
    rw [Bool.or_eq_false_iff, ← Bool.not_eq_true, ← Bool.not_eq_true, ovf_iff h1w hw, ovf_iff h1w hw] at ho
    have e1 := sg_sdivN h1w hp1 hq1 ho.1
    have e2 := sg_sdivN h1w hp2 hq2 ho.2
    have e3 := sg_sdivN h1w hu hv (huv ho.1 ho.2)
    show mem w (sdivN w u v) (W w (sdivN w p1 q1) (sdivN w p2 q2) false)
    rw [mem_sord_iff h1w hw (sdivN_lt _ _ _) (sdivN_lt _ _ _) (sdivN_lt _ _ _) (by rw [e1, e2]; omega),
      e1, e2, e3]
    exact hb
  · exact ⟨top, rfl, mem_top _ _⟩

theorem signedDiv_sound {w : Nat} (h1w : 1 ≤ w) (hw : w ≤ 64) {a b c d u v : Nat}
    (h1 : Hemi w a b) (h2 : Hemi w c d) (hc1 : 1 ≤ c)
    (hau : a ≤ u) (hub : u ≤ b) (hcv : c ≤ v) (hvd : v ≤ d) :
    ∃ q, signedDiv? (W w a b false) (W w c d false) = some q ∧ mem w (sdivN w u v) q := by
  have hc0 : c ≠ 0 := Nat.ne_of_gt hc1
  have hd0 : d ≠ 0 := Nat.ne_of_gt (Nat.lt_of_lt_of_le hc1 h2.1)
  have hb : b < 2 ^ w := h1.2.1
  have hd : d < 2 ^ w := h2.2.1
  have ha : a < 2 ^ w := Nat.lt_of_le_of_lt h1.1 hb
  have hc : c < 2 ^ w := Nat.lt_of_le_of_lt h2.1 hd
  have hu : u < 2 ^ w := Nat.lt_of_le_of_lt hub hb
  have hv : v < 2 ^ w := Nat.lt_of_le_of_lt hvd hd
  -- `u / v` is `MIN / -1` only if a corner is
  have key : b < 2 ^ (w - 1) ∨ d < 2 ^ (w - 1) ∨ ¬ (a = 2 ^ (w - 1) ∧ d = 2 ^ w - 1) →
      ¬ (u = 2 ^ (w - 1) ∧ v = 2 ^ w - 1) := by
    have hM := pow_succ_pred h1w
    have hH : 0 < 2 ^ (w - 1) := Nat.pow_pos (by decide)
    have hh1 := h1.2.2
    omega
  obtain ⟨x1, x2, ⟨ma, -, px, pb⟩ | ⟨ma, -, nx, -⟩⟩ := hemi_sg h1w hw h1 hau hub <;>
  obtain ⟨y1, y2, ⟨mc, -, py, pd⟩ | ⟨mc, -, ny, -⟩⟩ := hemi_sg h1w hw h2 hcv hvd
  · rw [signedDiv_pp (W w a b false) (W w c d false) ma mc]
    exact divCorners_sound h1w hw ha hd hb hc hu hv hd0 hc0 (fun _ _ => key (Or.inl pb))
      (quot_pp (px ▸ Int.natCast_nonneg a) x1 x2 (by rw [py]; exact_mod_cast hc1) y1 y2)
  · rw [signedDiv_pn (W w a b false) (W w c d false) ma mc]
    exact divCorners_sound h1w hw hb hd ha hc hu hv hd0 hc0 (fun _ _ => key (Or.inl pb))
      (quot_pn (px ▸ Int.natCast_nonneg a) x1 x2 y1 y2 ny)
  · rw [signedDiv_np (W w a b false) (W w c d false) ma mc]
    exact divCorners_sound h1w hw ha hc hb hd hu hv hc0 hd0 (fun _ _ => key (Or.inr (Or.inl pd)))
      (quot_np x1 x2 nx (by rw [py]; exact_mod_cast hc1) y1 y2)
  · rw [signedDiv_nn (W w a b false) (W w c d false) ma mc]
    exact divCorners_sound h1w hw hb hc ha hd hu hv hc0 hd0 (fun _ n2 => key (Or.inr (Or.inr n2)))
      (quot_nn x1 x2 nx y1 y2 ny)

theorem divCorners_good {w : Nat} (hw : w ≤ 64) {p1 p2 : Nat} {q1 q2 : WrapInt} {q : WInt}
    (h : divCorners w ⟨w, p1⟩ q1 ⟨w, p2⟩ q2 = some q) : Good w q := by
  unfold divCorners at h
  split at h
  · split at h
    · next r1 r2 e1 e2 =>
      obtain rfl := Option.some.inj h
      have t1 := sdiv_reduced (a := ⟨w, p1⟩) hw e1
      have t2 := sdiv_reduced (a := ⟨w, p2⟩) hw e2
      rw [Reduced, sdiv_width e1] at t1
      rw [Reduced, sdiv_width e2] at t2
      exact Or.inr (shape_mk2 (sdiv_width e1) (sdiv_width e2) t1 t2)
    · cases h
  · exact Option.some.inj h ▸ good_top w

theorem signedDiv_good {w : Nat} (hw : w ≤ 64) {a b : Nat} {y q : WInt}
    (h : signedDiv? (W w a b false) y = some q) : Good w q := by
  cases h1 : (W w a b false).start.msb <;> cases h2 : y.start.msb
  · rw [signedDiv_pp _ _ h1 h2] at h; exact divCorners_good hw h
  · rw [signedDiv_pn _ _ h1 h2] at h; exact divCorners_good hw h
  · rw [signedDiv_np _ _ h1 h2] at h; exact divCorners_good hw h
  · rw [signedDiv_nn _ _ h1 h2] at h; exact divCorners_good hw h


theorem sdiv_eq (x y : WInt) :
    x.sdiv y = if (x.isBottom || y.isBottom) = true then some bottom
      else if (x.isTop || y.isTop) = true then some top
      else (x.cut?).bind fun cuts => (y.cut?).bind fun ycuts =>
        cutLoop (divMid signedDiv?) cuts ycuts := by
  unfold sdiv
  refine ite_congr rfl (fun _ => rfl) fun _ => ite_congr rfl (fun _ => rfl) fun _ => ?_
  cases x.cut? with
  | none => rfl
  | some cuts =>
    cases y.cut? with
    | none => rfl
    | some ycuts =>
      simp only [Option.bind_eq_bind, Option.bind_some, bind_pure]
      rfl

/-- `SDiv` answers `top()` or an interval of width `w` that contains the signed quotient of every
    member by every non-zero member -/
theorem sdiv_spec {w : Nat} (h1w : 1 ≤ w) (hw : w ≤ 64) {x y r : WInt} (hx : Good w x) (hy : Good w y)
    (h : x.sdiv y = some r) :
    Good w r ∧ ∀ u v, u < 2 ^ w → v < 2 ^ w → 1 ≤ v → mem w u x → mem w v y → mem w (sdivN w u v) r := by
  rw [sdiv_eq] at h
  obtain ⟨g, hm⟩ := divOp_spec hw (splits_cut h1w hw) (fun _ _ _ _ _ _ hq => signedDiv_good hw hq) hx hy h
  refine ⟨g, fun u v hu hv hv1 hmu hmv => ?_⟩
  rcases hm u v hu hv hmu hmv with rfl | ⟨a, b, c, d, hemi1, hemi2, ⟨hau, hub⟩, ⟨hcv, hvd⟩, ds, hds, hq⟩
  · exact mem_top _ _
  · obtain ⟨c', d', hdmem, hc1', hcc', hc'v, hvd', hd'd⟩ :=
      trimZero_cover h1w hw hemi2.1 hemi2.2.1 hds hv1 ⟨hcv, hvd⟩
    have hemi2' : Hemi w c' d' :=
      ⟨Nat.le_trans hc'v hvd', Nat.lt_of_le_of_lt hd'd hemi2.2.1,
        hemi2.2.2.imp (Nat.lt_of_le_of_lt hd'd) (fun h => Nat.le_trans h hcc')⟩
    obtain ⟨q, hq', hmq⟩ := signedDiv_sound h1w hw hemi1 hemi2' hc1' hau hub hc'v hvd'
    obtain ⟨q', hq'', hle⟩ := hq _ hdmem
    obtain rfl := Option.some.inj (hq'.symm.trans hq'')
    exact hle _ (sdivN_lt _ _ _) hmq

theorem sdiv_sound_bv {w : Nat} (h1w : 1 ≤ w) (hw : w ≤ 64) {x y r : WInt} (hx : Good w x) (hy : Good w y)
    (h : x.sdiv y = some r) {a b : BitVec w} (ha : memBV a x) (hb : memBV b y) (hb0 : b ≠ 0) :
    memBV (a.sdiv b) r := by
  unfold memBV
  rw [sdivN_bv]
  exact (sdiv_spec h1w hw hx hy h).2 _ _ a.isLt b.isLt (bv_pos hb0) ha hb

end WInt
end Crab
