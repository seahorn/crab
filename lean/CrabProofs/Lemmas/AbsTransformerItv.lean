import CrabProofs.Lemmas.AbsTransformerBlock
import CrabProofs.Lemmas.IDomInst
import CrabProofs.Lemmas.LinExpr

/-!
  `ikos::interval_domain<z_number, VariableName>` (exact model `Crab.IDom`, values with the map
  invariant `IDom.SEnv`) as an `NDom` over the states of CrabIR programs.

  * variables: the integer variable `x` of the IR is the domain variable `2x`, the boolean
    variable `b` is `2b+1` (any injection would do: the domain only sees `variable_t::index()`);
    a state is read as the valuation `view σ` (booleans as `0` / `1`);
  * every method is ONE call of the model (`IDom.Stmt.execS` of the corresponding statement,
    `Env.forget` for `operator-=`); the boolean methods are the ones of the macro
    `BOOL_OPERATIONS_NOT_IMPLEMENTED` (include/crab/domains/abstract_domain_macros.def):
    `operator-=(lhs)` for the four assignments, nothing for `assume_bool`;
  * this file: the encoding (`enc`, `view`, `linExpr`, `cstLin`, the operator tables) and what
    it preserves; the method laws `ItvN.laws` and the lattice laws `ItvN.latLaws` are in
    AbsTransformerItvLaws.lean.
-/
namespace Crab
namespace Analysis
namespace ItvN
open Crab.IDom

/-- `variable_t::index()` -/
def enc : AVar → Lin.Var
  | .int x => 2 * x
  | .bool b => 2 * b + 1

/-- the valuation of the domain variables a program state stands for -/
def view (σ : IR.State) : IDom.State :=
  fun v => if v % 2 = 0 then σ.geti (v / 2) else (if σ.getb (v / 2) then 1 else 0)

/-- the `linear_expression_t` of an IR expression, built as the harness builds it:
    `e = c; e = e + k * v` for every term in order -/
def linExpr (e : IR.Lin) : Lin.Expr :=
  e.ts.foldl (fun acc t => Lin.Expr.add acc (Lin.Expr.term t.1 (2 * t.2))) (Lin.Expr.const e.c)

def cstKind : IR.CKind → Lin.Kind
  | .le => .leq | .lt => .lt | .eq => .eq | .ne => .neq

def cstLin (c : IR.Cst) : Lin.Cst := ⟨linExpr c.e, cstKind c.k⟩

def arithOp : ArithOp → IDom.ArithOp
  | .add => .add | .sub => .sub | .mul => .mul | .sdiv => .sdiv
  | .udiv => .udiv | .srem => .srem | .urem => .urem

def bitOp : BitwiseOp → IDom.BitOp
  | .and => .and | .or => .or | .xor => .xor | .shl => .shl | .lshr => .lshr | .ashr => .ashr

/-- `operator-=(v)` -/
def forget (a : SEnv) (v : Lin.Var) : SEnv := ⟨a.1.forget v, Env.forget_sorted _ _ a.2⟩

def dom : NDom SEnv where
  γ := fun a σ => a.γ (view σ)
  isBottom := fun a => a.1.isBottom
  isTop := fun a => a.1.isTop
  setToBottom := fun _ => SEnv.bot
  applyArithVar := fun a op x y z => (IDom.Stmt.arithVar (arithOp op) (2 * x) (2 * y) (2 * z)).execS a
  applyArithCst := fun a op x y k => (IDom.Stmt.arithCst (arithOp op) (2 * x) (2 * y) k).execS a
  applyBitVar := fun a op x y z => (IDom.Stmt.bitVar (bitOp op) (2 * x) (2 * y) (2 * z)).execS a
  applyBitCst := fun a op x y k => (IDom.Stmt.bitCst (bitOp op) (2 * x) (2 * y) k).execS a
  assign := fun a x e => (IDom.Stmt.assign (2 * x) (linExpr e)).execS a
  addCst := fun a c => (IDom.Stmt.assume [cstLin c]).execS a
  select := fun a x c e1 e2 => (IDom.Stmt.select (2 * x) (cstLin c) (linExpr e1) (linExpr e2)).execS a
  forget := fun a v => forget a (enc v)
  forgetAll := fun a vs => (IDom.Stmt.havoc (vs.map enc)).execS a
  intCast := fun a op dst src bw =>
    (IDom.Stmt.cast (decide (op = .zext)) bw (2 * dst) (2 * src)).execS a
  assignBoolCst := fun a b _ => forget a (enc (.bool b))
  assignBoolVar := fun a b _ _ => forget a (enc (.bool b))
  applyBinaryBool := fun a _ b _ _ => forget a (enc (.bool b))
  assumeBool := fun a _ _ => a
  selectBool := fun a b _ _ _ => forget a (enc (.bool b))

theorem geti_seti (σ : IR.State) (x y : Nat) (v : Int) (hx : x < σ.iv.size) :
    (σ.seti x v).geti y = if y = x then v else σ.geti y := by
  simp only [IR.State.geti, IR.State.seti, Array.getD_eq_getD_getElem?, Array.getElem?_setIfInBounds]
  by_cases h : y = x
  · subst h; simp [hx]
  · have : ¬ x = y := fun e => h e.symm
    simp [h, this]

theorem getb_setb (σ : IR.State) (b c : Nat) (v : Bool) (hb : b < σ.bv.size) :
    (σ.setb b v).getb c = if c = b then v else σ.getb c := by
  simp only [IR.State.getb, IR.State.setb, Array.getD_eq_getD_getElem?, Array.getElem?_setIfInBounds]
  by_cases h : c = b
  · subst h; simp [hb]
  · have : ¬ b = c := fun e => h e.symm
    simp [h, this]

theorem view_even (σ : IR.State) (w : Nat) (h : w % 2 = 0) : view σ w = σ.geti (w / 2) := if_pos h
theorem view_odd (σ : IR.State) (w : Nat) (h : ¬ w % 2 = 0) : view σ w = if σ.getb (w / 2) then 1 else 0 := if_neg h

theorem view_int (σ : IR.State) (x : Nat) : view σ (2 * x) = σ.geti x := by
  rw [view_even σ (2 * x) (Nat.mul_mod_right 2 x), Nat.mul_div_cancel_left x (by decide)]

theorem view_bool (σ : IR.State) (b : Nat) : view σ (2 * b + 1) = if σ.getb b then 1 else 0 := by
  have h2 : (2 * b + 1) / 2 = b := by omega
  simp [view, h2]

theorem view_seti (σ : IR.State) (x : Nat) (v : Int) (hx : x < σ.iv.size) :
    view (σ.seti x v) = upd (view σ) (2 * x) v := by
  refine funext fun (w : Nat) => ?_
  unfold upd
  by_cases hw : w % 2 = 0
  · rw [view_even _ _ hw, view_even _ _ hw, geti_seti σ x (w / 2) v hx]
    exact ite_congr (propext (show w / 2 = x ↔ w = 2 * x by omega)) (fun _ => rfl) (fun _ => rfl)
  · rw [view_odd _ _ hw, view_odd _ _ hw, if_neg (show ¬ w = 2 * x by omega)]; rfl

theorem view_setb (σ : IR.State) (b : Nat) (v : Bool) (hb : b < σ.bv.size) :
    view (σ.setb b v) = upd (view σ) (2 * b + 1) (if v then 1 else 0) := by
  refine funext fun (w : Nat) => ?_
  unfold upd
  by_cases hw : w % 2 = 0
  · rw [view_even _ _ hw, view_even _ _ hw, if_neg (show ¬ w = 2 * b + 1 by omega)]; rfl
  · rw [view_odd _ _ hw, view_odd _ _ hw, getb_setb σ b (w / 2) v hb]
    have hiff : w / 2 = b ↔ w = 2 * b + 1 := by omega
    by_cases h : w / 2 = b
    · rw [if_pos h, if_pos (hiff.1 h)]
    · rw [if_neg h, if_neg (mt hiff.2 h)]

theorem linExpr_eval (e : IR.Lin) (σ : IR.State) : (linExpr e).eval (view σ) = e.eval σ :=
  List.foldl_rel (r := fun (acc : Lin.Expr) (n : Int) => acc.eval (view σ) = n)
    (by simp [Lin.Expr.eval, Lin.Expr.const, Lin.Expr.evalTerms])
    fun t _ acc n h => by rw [Lin.Expr.eval_add, Lin.Expr.eval_term, view_int, h]

theorem linExpr_canonical (e : IR.Lin) : (linExpr e).Canonical :=
  List.foldlRecOn e.ts _ (Lin.Expr.canonical_const _) fun _ h _ _ => Lin.Expr.canonical_add _ h

theorem cstLin_sat (c : IR.Cst) (σ : IR.State) : (cstLin c).sat (view σ) ↔ c.holds σ = true := by
  unfold cstLin Lin.Cst.sat IR.Cst.holds
  cases hk : c.k <;> simp [cstKind, linExpr_eval]

theorem cstLin_canonical (c : IR.Cst) : (cstLin c).expr.Canonical := linExpr_canonical c.e

/-- the two tests of the IR on a division: the model's test on the divisor (`sdiv`, `srem`) … -/
theorem signed_test {b v r : Int} (h : (if b = 0 then IR.BinRes.nosucc else .val r) = .val v) :
    b ≠ 0 ∧ r = v := by
  by_cases hb : b = 0
  · rw [if_pos hb] at h; cases h
  · rw [if_neg hb] at h; exact ⟨hb, IR.BinRes.val.inj h⟩

/-- … and the model's test `0 <= a ∧ 0 < b` (`udiv`, `urem`) -/
theorem unsigned_test {a b v r : Int}
    (h : (if a < 0 ∨ b < 0 then IR.BinRes.undef else if b = 0 then .nosucc else .val r) = .val v) :
    (0 ≤ a ∧ 0 < b) ∧ r = v := by
  by_cases hn : a < 0 ∨ b < 0
  · rw [if_pos hn] at h; cases h
  · rw [if_neg hn] at h
    obtain ⟨hb, hr⟩ := signed_test h
    exact ⟨⟨Int.not_lt.1 fun h => hn (Or.inl h),
      Int.lt_iff_le_and_ne.2 ⟨Int.not_lt.1 fun h => hn (Or.inr h), Ne.symm hb⟩⟩, hr⟩

theorem arith_conc {op : ArithOp} {a b v : Int} (h : IR.evalBin op.toBin a b = .val v) :
    (arithOp op).conc a b = some v := by
  cases op <;> dsimp only [ArithOp.toBin, IR.evalBin] at h <;> dsimp only [arithOp, IDom.ArithOp.conc]
  · cases IR.BinRes.val.inj h; rfl
  · cases IR.BinRes.val.inj h; rfl
  · cases IR.BinRes.val.inj h; rfl
  · obtain ⟨hb, rfl⟩ := signed_test h; exact if_neg hb
  · obtain ⟨hp, rfl⟩ := unsigned_test h; exact if_pos hp
  · obtain ⟨hb, rfl⟩ := signed_test h; exact if_neg hb
  · obtain ⟨hp, rfl⟩ := unsigned_test h; exact if_pos hp

theorem conc64_of_ne {o : IDom.BitOp} (h : o ≠ .lshr) (a b : Int) : o.conc64 a b = o.conc a b :=
  if_neg fun hh => h hh.1

theorem bit_conc {op : BitwiseOp} {a b v : Int} (h : IR.evalBin op.toBin a b = .val v) :
    (bitOp op).conc64 a b = some v := by
  cases op <;> dsimp only [BitwiseOp.toBin, IR.evalBin] at h
  · cases IR.BinRes.val.inj h; exact conc64_of_ne (by decide) a b
  · cases IR.BinRes.val.inj h; exact conc64_of_ne (by decide) a b
  · cases IR.BinRes.val.inj h; exact conc64_of_ne (by decide) a b
  · by_cases hc : b < 0 ∨ b > IR.shiftMax
    · rw [if_pos hc] at h; cases h
    · rw [if_neg hc] at h; cases IR.BinRes.val.inj h
      exact (conc64_of_ne (by decide) a b).trans (if_pos (Int.not_lt.1 fun h => hc (Or.inl h)))
  · by_cases hc : a < 0 ∨ b < 0 ∨ b > IR.shiftMax
    · rw [if_pos hc] at h; cases h
    · rw [if_neg hc] at h; cases IR.BinRes.val.inj h
      -- the shift amount is at most 64: the test of `conc64` passes
      have h1 : b ≤ 64 := Int.not_lt.1 fun h => hc (Or.inr (Or.inr h))
      exact (if_neg fun hh => hh.2 (Int.lt_of_le_of_lt h1 (by decide))).trans
        (if_pos (Int.not_lt.1 fun h => hc (Or.inr (Or.inl h))))
  · by_cases hc : b < 0 ∨ b > IR.shiftMax
    · rw [if_pos hc] at h; cases h
    · rw [if_neg hc] at h; cases IR.BinRes.val.inj h
      exact (conc64_of_ne (by decide) a b).trans (if_pos (Int.not_lt.1 fun h => hc (Or.inl h)))
end ItvN
end Analysis
end Crab
