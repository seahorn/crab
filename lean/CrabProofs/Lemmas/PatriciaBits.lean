import CrabModel.Container.Patricia

/-! Bit-level facts behind the patricia trees: `mask`, `zero_bit`, `match_prefix`,
    `highest_bit`, `compute_branching_bit` on 64-bit indices, stated through `Nat.testBit`. -/
namespace Crab
namespace Patricia

def AgreeAbove (i a b : Nat) : Prop := ∀ j, i < j → a.testBit j = b.testBit j
/-- the shape of a node prefix for branching bit `2^i`: ones below `i`, zero at `i` -/
def Aligned (i p : Nat) : Prop := (∀ j, j < i → p.testBit j = true) ∧ p.testBit i = false
/-- `k` belongs to the left half of the node `(p, 2^i)` -/
def InL (i p k : Nat) : Prop := AgreeAbove i k p ∧ k.testBit i = false
/-- `k` belongs to the right half of the node `(p, 2^i)` -/
def InR (i p k : Nat) : Prop := AgreeAbove i k p ∧ k.testBit i = true

theorem AgreeAbove.refl (i a : Nat) : AgreeAbove i a a := fun _ _ => rfl
theorem AgreeAbove.symm {i a b : Nat} (h : AgreeAbove i a b) : AgreeAbove i b a := fun j hj => (h j hj).symm
theorem AgreeAbove.trans {i a b c : Nat} (h1 : AgreeAbove i a b) (h2 : AgreeAbove i b c) : AgreeAbove i a c :=
  fun j hj => (h1 j hj).trans (h2 j hj)
theorem AgreeAbove.mono {i i' a b : Nat} (h : AgreeAbove i a b) (hi : i ≤ i') : AgreeAbove i' a b :=
  fun j hj => h j (by omega)

theorem testBit_false_of_lt64 {k j : Nat} (hk : k < 2 ^ 64) (hj : 64 ≤ j) : k.testBit j = false :=
  Nat.testBit_lt_two_pow (Nat.lt_of_lt_of_le hk (Nat.pow_le_pow_right (by decide) hj))

theorem lt_of_testBit {x y : Nat} (i : Nat) (hx : x.testBit i = false) (hy : y.testBit i = true)
    (h : AgreeAbove i x y) : x < y := by
  have e : x / 2 ^ (i + 1) = y / 2 ^ (i + 1) := by
    apply Nat.eq_of_testBit_eq
    intro j
    rw [Nat.testBit_div_two_pow, Nat.testBit_div_two_pow]
    exact h _ (by omega)
  have hx' : x / 2 ^ i % 2 = 0 := by
    have := @Nat.testBit_eq_decide_div_mod_eq i x
    rw [hx] at this; simp at this; omega
  have hy' : y / 2 ^ i % 2 = 1 := by
    have := @Nat.testBit_eq_decide_div_mod_eq i y
    rw [hy] at this; simpa using this.symm
  have e2 : ∀ z, z / 2 ^ (i + 1) = z / 2 ^ i / 2 := by
    intro z; rw [Nat.pow_succ, Nat.div_div_eq_div_mul]
  rw [e2 x, e2 y] at e
  have : x / 2 ^ i < y / 2 ^ i := by omega
  exact Nat.lt_of_div_lt_div this

theorem le_of_InL {i p k : Nat} (hp : Aligned i p) (hk : InL i p k) : k ≤ p := by
  apply Nat.le_of_testBit
  intro j hj
  rcases Nat.lt_trichotomy j i with h | h | h
  · exact hp.1 j h
  · subst h; rw [hk.2] at hj; cases hj
  · rw [← hk.1 j h]; exact hj

theorem lt_of_InR {i p k : Nat} (hp : Aligned i p) (hk : InR i p k) : p < k :=
  lt_of_testBit i hp.2 hk.2 hk.1.symm

theorem two_pow_lt64 {i : Nat} (hi : i < 64) : 2 ^ i < 2 ^ 64 := Nat.pow_lt_pow_right (by decide) hi

theorem sub1_two_pow {i : Nat} (hi : i < 64) : sub1 (2 ^ i) = 2 ^ i - 1 := by
  have h1 := two_pow_lt64 hi
  have h2 : 0 < 2 ^ i := Nat.pow_pos (by decide)
  rw [sub1, Nat.mod_eq_of_lt h1, if_neg (by omega)]

theorem not64_lt (x : Nat) : not64 x < 2 ^ 64 := by
  unfold not64; omega

theorem testBit_and_not64 {x y : Nat} (hx : x < 2 ^ 64) (hy : y < 2 ^ 64) (j : Nat) :
    (x &&& not64 y).testBit j = (x.testBit j && !y.testBit j) := by
  rw [Nat.testBit_and, not64, Nat.mod_eq_of_lt hy, Nat.sub_sub, Nat.add_comm 1 y, Nat.testBit_two_pow_sub_succ hy]
  by_cases h : j < 64
  · simp [h]
  · simp [testBit_false_of_lt64 hx (Nat.le_of_not_lt h)]

theorem mask_lt (k m : Nat) : mask k m < 2 ^ 64 :=
  Nat.lt_of_le_of_lt Nat.and_le_right (not64_lt m)

theorem testBit_mask {i k : Nat} (hi : i < 64) (hk : k < 2 ^ 64) (j : Nat) :
    (mask k (2 ^ i)).testBit j = ((k.testBit j || decide (j < i)) && !decide (i = j)) := by
  have h1 := two_pow_lt64 hi
  rw [mask, sub1_two_pow hi, testBit_and_not64 (Nat.or_lt_two_pow hk (by omega)) h1, Nat.testBit_or,
    Nat.testBit_two_pow_sub_one, Nat.testBit_two_pow]

theorem zeroBit_two_pow (k i : Nat) : zeroBit k (2 ^ i) = !k.testBit i := by
  have e : ∀ j, (k &&& 2 ^ i).testBit j = (k.testBit i && decide (i = j)) := by
    intro j
    rw [Nat.testBit_and, Nat.testBit_two_pow]
    by_cases hj : i = j
    · subst hj; rfl
    · simp [hj]
  unfold zeroBit
  cases h : k.testBit i
  · have : k &&& 2 ^ i = 0 := Nat.eq_of_testBit_eq (fun j => by rw [e, h]; simp)
    simp [this]
  · have : k &&& 2 ^ i ≠ 0 := fun h0 => by have := e i; rw [h0, h] at this; simp at this
    simp [this]

theorem aligned_mask {i k : Nat} (hi : i < 64) (hk : k < 2 ^ 64) : Aligned i (mask k (2 ^ i)) := by
  constructor
  · intro j hj; rw [testBit_mask hi hk]; simp [hj, show i ≠ j by omega]
  · rw [testBit_mask hi hk]; simp

theorem agree_mask {i k : Nat} (hi : i < 64) (hk : k < 2 ^ 64) : AgreeAbove i (mask k (2 ^ i)) k := by
  intro j hj
  rw [testBit_mask hi hk]
  simp [show ¬ j < i by omega, show i ≠ j by omega]

theorem aligned_eq {i p q : Nat} (hp : Aligned i p) (hq : Aligned i q) (h : AgreeAbove i p q) : p = q := by
  apply Nat.eq_of_testBit_eq
  intro j
  rcases Nat.lt_trichotomy j i with hj | hj | hj
  · rw [hp.1 j hj, hq.1 j hj]
  · subst hj; rw [hp.2, hq.2]
  · exact h j hj

theorem matchPrefix_iff {i k p : Nat} (hi : i < 64) (hk : k < 2 ^ 64) (hp : Aligned i p) :
    matchPrefix k p (2 ^ i) = true ↔ AgreeAbove i k p := by
  unfold matchPrefix
  rw [beq_iff_eq]
  constructor
  · intro h; rw [← h]; exact (agree_mask hi hk).symm
  · intro h
    exact aligned_eq (aligned_mask hi hk) hp ((agree_mask hi hk).trans h)

theorem exists_bit_of_not_agree {i k p : Nat} (h : ¬ AgreeAbove i k p) :
    ∃ b, i + 1 ≤ b ∧ k.testBit b ≠ p.testBit b :=
  Classical.byContradiction fun hn =>
    h fun j hj => Classical.byContradiction fun hne => hn ⟨j, hj, hne⟩

/-- the descent of `insert` / `remove` at a node `(p, 2^i)`: the prefix test and the bit test of
    the code tell whether the key lies outside the node, in its left or in its right half -/
theorem node_descend {i p k : Nat} (hi : i < 64) (ha : Aligned i p) (hk : k < 2 ^ 64) :
    (matchPrefix k p (2 ^ i) = false ∧ ¬ AgreeAbove i k p) ∨
    (matchPrefix k p (2 ^ i) = true ∧ zeroBit k (2 ^ i) = true ∧ InL i p k) ∨
    (matchPrefix k p (2 ^ i) = true ∧ zeroBit k (2 ^ i) = false ∧ InR i p k) := by
  rw [zeroBit_two_pow]
  cases hm : matchPrefix k p (2 ^ i)
  · exact Or.inl ⟨rfl, fun h => by rw [(matchPrefix_iff hi hk ha).mpr h] at hm; cases hm⟩
  · have hag := (matchPrefix_iff hi hk ha).mp hm
    cases hb : k.testBit i
    · exact Or.inr (Or.inl ⟨rfl, rfl, hag, hb⟩)
    · exact Or.inr (Or.inr ⟨rfl, rfl, hag, hb⟩)

theorem agreeAbove_63 {k p : Nat} (hk : k < 2 ^ 64) (hp : p < 2 ^ 64) : AgreeAbove 63 k p := by
  intro j hj
  rw [testBit_false_of_lt64 hk (by omega), testBit_false_of_lt64 hp (by omega)]

theorem dbl_two_pow {t : Nat} (ht : t < 63) : dbl (2 ^ t) = 2 ^ (t + 1) := by
  have := two_pow_lt64 (show t + 1 < 64 by omega)
  rw [dbl, Nat.mul_comm, ← Nat.pow_succ, Nat.mod_eq_of_lt this]

/-- the loop: `xt` is `x` without its bits below `t`; `h` is the most significant bit of `x` -/
theorem highestBitLoop_spec (x h : Nat) (hh : h < 64) (hbit : x.testBit h = true)
    (htop : ∀ j, h < j → x.testBit j = false) :
    ∀ (fuel t xt : Nat), t ≤ h → h - t < fuel → xt < 2 ^ 64 →
      (∀ j, xt.testBit j = (x.testBit j && decide (t ≤ j))) →
      highestBitLoop fuel xt (2 ^ t) = 2 ^ h := by
  intro fuel
  induction fuel with
  | zero => intro t xt _ h2; omega
  | succ f ih =>
    intro t xt ht hf hlt hxt
    unfold highestBitLoop
    by_cases hth : t = h
    · subst hth
      have : xt = 2 ^ t := by
        apply Nat.eq_of_testBit_eq
        intro j
        rw [hxt, Nat.testBit_two_pow]
        rcases Nat.lt_trichotomy j t with hj | hj | hj
        · rw [decide_eq_false (Nat.not_le.mpr hj), Bool.and_false, decide_eq_false (Nat.ne_of_gt hj)]
        · subst hj; rw [hbit, decide_eq_true (Nat.le_refl _), decide_eq_true rfl]; rfl
        · rw [htop j hj, Bool.false_and, decide_eq_false (Nat.ne_of_lt hj)]
      rw [if_pos this]
    · have hne : xt ≠ 2 ^ t := by
        intro he
        have h1 := hxt h
        rw [he, Nat.testBit_two_pow, hbit] at h1
        simp [hth, ht] at h1
      rw [if_neg hne, dbl_two_pow (by omega)]
      refine ih (t + 1) _ (by omega) (by omega) (Nat.lt_of_le_of_lt Nat.and_le_left hlt) (fun j => ?_)
      rw [testBit_and_not64 hlt (two_pow_lt64 (by omega)), hxt, Nat.testBit_two_pow]
      by_cases h1 : t = j
      · subst h1; simp
      · simp [h1, show (t + 1 ≤ j) ↔ t ≤ j by omega]

/-- `highest_bit(a ^ b, 2^s)`: when `a` and `b` differ at some bit `≥ s`, the result is `2^h`
    for the most significant differing bit `h` -/
theorem highestBit_xor {a b s : Nat} (ha : a < 2 ^ 64) (hb : b < 2 ^ 64) (hs : s < 64)
    (hd : ∃ j, s ≤ j ∧ a.testBit j ≠ b.testBit j) :
    ∃ h, s ≤ h ∧ h < 64 ∧ highestBit (a ^^^ b) (2 ^ s) = 2 ^ h ∧
      a.testBit h ≠ b.testBit h ∧ AgreeAbove h a b := by
  have hx : a ^^^ b < 2 ^ 64 := Nat.xor_lt_two_pow ha hb
  have hxor : ∀ j, (a ^^^ b).testBit j = true ↔ a.testBit j ≠ b.testBit j := fun j => by
    rw [Nat.testBit_xor]; simp
  obtain ⟨j0, hj0s, hj0⟩ := hd
  have hne : a ^^^ b ≠ 0 := fun h0 => by have := (hxor j0).mpr hj0; rw [h0] at this; simp at this
  -- the most significant bit of `a ^^^ b`
  have hbit := Nat.testBit_log2 hne
  have htop : ∀ j, (a ^^^ b).log2 < j → (a ^^^ b).testBit j = false := fun j hj =>
    Nat.testBit_lt_two_pow (Nat.lt_of_lt_of_le Nat.lt_log2_self (Nat.pow_le_pow_right (by decide) hj))
  have hh : (a ^^^ b).log2 < 64 := by
    apply Nat.lt_of_not_le; intro h
    rw [testBit_false_of_lt64 hx h] at hbit; cases hbit
  have hsh : s ≤ (a ^^^ b).log2 := by
    apply Nat.le_of_not_lt; intro h
    have := htop j0 (by omega); rw [(hxor j0).mpr hj0] at this; cases this
  refine ⟨_, hsh, hh, ?_, (hxor _).mp hbit, fun j hj => ?_⟩
  · have h1 : 2 ^ s - 1 < 2 ^ 64 := by have := two_pow_lt64 hs; omega
    unfold highestBit
    rw [sub1_two_pow hs]
    refine highestBitLoop_spec _ _ hh hbit htop 65 s _ hsh (by omega)
      (Nat.lt_of_le_of_lt Nat.and_le_left hx) (fun j => ?_)
    rw [testBit_and_not64 hx h1, Nat.testBit_two_pow_sub_one]
    by_cases h : j < s
    · simp [h, Nat.not_le.mpr h]
    · simp [h, Nat.le_of_not_lt h]
  · have := htop j hj
    rw [← Bool.not_eq_true, hxor] at this
    exact Classical.not_not.mp this

/-- the branching bit stored in a tree whose keys may differ in their `L` low bits (`0`: a leaf);
    `L` is `lvl t` of `PatriciaWF` -/
def lvlBit (L : Nat) : Nat := if L = 0 then 0 else 2 ^ (L - 1)

theorem lvlBit_mono {a b : Nat} (h : a ≤ b) : lvlBit a ≤ lvlBit b := by
  unfold lvlBit
  by_cases ha : a = 0
  · simp [ha]
  · rw [if_neg ha, if_neg (by omega)]
    exact Nat.pow_le_pow_right (by decide) (by omega)

/-- `compute_branching_bit` starts its search just above both subtrees -/
theorem startBit_two_pow {a b : Nat} (h : max a b < 64) :
    Nat.max 1 (dbl (Nat.max (lvlBit a) (lvlBit b))) = 2 ^ max a b := by
  have key : ∀ L, L < 64 → Nat.max 1 (dbl (lvlBit L)) = 2 ^ L := by
    intro L hL
    unfold lvlBit
    by_cases h0 : L = 0
    · subst h0; rfl
    · rw [if_neg h0, dbl_two_pow (by omega), show L - 1 + 1 = L by omega]
      exact Nat.max_eq_right (Nat.pow_pos (by decide))
  rcases Nat.le_total a b with hab | hab
  · have e : Nat.max (lvlBit a) (lvlBit b) = lvlBit b := Nat.max_eq_right (lvlBit_mono hab)
    rw [Nat.max_eq_right hab] at h ⊢
    rw [e, key b h]
  · have e : Nat.max (lvlBit a) (lvlBit b) = lvlBit a := Nat.max_eq_left (lvlBit_mono hab)
    rw [Nat.max_eq_left hab] at h ⊢
    rw [e, key a h]
end Patricia
end Crab
