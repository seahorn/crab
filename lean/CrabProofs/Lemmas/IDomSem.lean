import CrabProofs.Lemmas.IDomEnv

/-!
  What the soundness statements about the interval domain (`Props/C03Itv.lean`) are about: the
  concrete meaning of the arithmetic and bitwise operations on mathematical integers, the small
  statement language whose abstract execution is one call of the domain and whose concrete meaning
  is a relation on states (`IDom.State`, IDomEnv.lean), the relation of a block and the relation
  of `rename`.
-/
namespace Crab
namespace IDom
open Lin

/-! ### the arithmetic and bitwise operations on mathematical integers

`LShr` and `AShr` have the same meaning here: on mathematical integers (no bit width) both are the
floor division by `2^k`. -/

/-- `none`: the operation has no successor state (division by zero) or crab gives it no meaning on
    mathematical integers (unsigned operations on negative operands) -/
def ArithOp.conc : ArithOp → Int → Int → Option Int
  | .add, a, b => some (a + b)
  | .sub, a, b => some (a - b)
  | .mul, a, b => some (a * b)
  | .sdiv, a, b => if b = 0 then none else some (Int.tdiv a b)
  | .udiv, a, b => if 0 ≤ a ∧ 0 < b then some (a / b) else none
  | .srem, a, b => if b = 0 then none else some (Int.tmod a b)
  | .urem, a, b => if 0 ≤ a ∧ 0 < b then some (a % b) else none

def BitOp.conc : BitOp → Int → Int → Option Int
  | .and, a, b => some (ZNum.land a b)
  | .or, a, b => some (ZNum.lor a b)
  | .xor, a, b => some (ZNum.lxor a b)
  | .shl, a, k => if 0 ≤ k then some (a * 2 ^ k.toNat) else none
  | .lshr, a, k => if 0 ≤ k then some (a / 2 ^ k.toNat) else none
  | .ashr, a, k => if 0 ≤ k then some (a / 2 ^ k.toNat) else none

/-- the shift amount of `LShr` must fit a machine word (the scalar operation reduces it modulo
    `2^64`, see `Itv.lshr_big_shift`): outside of that the statement has no concrete successor here -/
def BitOp.conc64 (op : BitOp) (a b : Int) : Option Int :=
  if op = .lshr ∧ ¬ b < 2 ^ 64 then none else op.conc a b

inductive Stmt where
  | assign (x : Var) (e : Expr)
  | arithVar (op : ArithOp) (x y z : Var)
  | arithCst (op : ArithOp) (x y : Var) (k : Int)
  | bitVar (op : BitOp) (x y z : Var)
  | bitCst (op : BitOp) (x y : Var) (k : Int)
  | assume (csts : Sys)
  | select (lhs : Var) (cond : Cst) (e1 e2 : Expr)
  | havoc (vs : List Var)
  | project (vs : List Var)
  | expand (x nx : Var)
  | cast (zext : Bool) (bw : Nat) (dst src : Var)

namespace Stmt

def exec : Stmt → Env → Env
  | assign x e, a => a.assign x e
  | arithVar op x y z, a => a.applyVar op x y z
  | arithCst op x y k, a => a.applyCst op x y k
  | bitVar op x y z, a => a.applyBitVar op x y z
  | bitCst op x y k, a => a.applyBitCst op x y k
  | assume csts, a => a.add csts
  | select lhs c e1 e2, a => a.select lhs c e1 e2
  | havoc vs, a => a.forgetAll vs
  | project vs, a => a.project vs
  | expand x nx, a => a.expand x nx
  | cast z bw d s, a => a.intCast z bw d s

def rel : Stmt → State → State → Prop
  | assign x e, s, s' => s' = upd s x (e.eval s)
  | arithVar op x y z, s, s' => ∃ c, op.conc (s y) (s z) = some c ∧ s' = upd s x c
  | arithCst op x y k, s, s' => ∃ c, op.conc (s y) k = some c ∧ s' = upd s x c
  | bitVar op x y z, s, s' => ∃ c, op.conc64 (s y) (s z) = some c ∧ s' = upd s x c
  | bitCst op x y k, s, s' => ∃ c, op.conc64 (s y) k = some c ∧ s' = upd s x c
  | assume csts, s, s' => Sys.sat csts s ∧ s' = s
  | select lhs c e1 e2, s, s' => s' = upd s lhs (if c.sat s then e1.eval s else e2.eval s)
  | havoc vs, s, s' => ∀ y, y ∉ vs → s' y = s y
  | project vs, s, s' => ∀ y, y ∈ vs → s' y = s y
  | expand x nx, s, s' => s' = upd s nx (s x)
  | cast z bw d src, s, s' => (z = true → s src ≤ 2 ^ bw - 1) ∧ s' = upd s d (s src)

/-- the constraints of the statement are in the form the class `linear_expression` maintains
    (sorted variables, no zero coefficient) -/
def Ok : Stmt → Prop
  | assume csts => ∀ c ∈ csts, c.expr.Canonical
  | select _ c _ _ => c.expr.Canonical
  | _ => True

end Stmt

def BlockRel : List Stmt → State → State → Prop
  | [], s, s' => s' = s
  | st :: rest, s, s' => ∃ t, st.rel s t ∧ BlockRel rest t s'

namespace Env

/-- the concrete relation of `rename(from, to)`: `to[i]` receives the value of `from[i]`, the
    variables outside both vectors keep their value (the `from[i]` become unconstrained) -/
def RenameRel : List Var → List Var → State → State → Prop
  | k :: from', nk :: to', τ, σ' => σ' nk = τ k ∧ RenameRel from' to' τ σ'
  | _, _, _, _ => True

end Env

end IDom
end Crab
