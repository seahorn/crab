import CrabProofs.Lemmas.IntervalMul
import CrabProofs.Lemmas.ZNumBits
import CrabProofs.Lemmas.ZSpecOps

/-! Soundness of the bitwise operations (`And`, `Or`, `Xor`), the shifts (`Shl`, `AShr`,
    `LShr`) and `trim_interval` of `Crab.Itv`. -/
namespace Crab
namespace Itv
open Bound

theorem land_nonneg_bounds {a b : Int} (ha : 0 ≤ a) (hb : 0 ≤ b) :
    0 ≤ ZNum.land a b ∧ ZNum.land a b ≤ a ∧ ZNum.land a b ≤ b := by
  have e1 : a = (a.toNat : Int) := (Int.toNat_of_nonneg ha).symm
  have e2 : b = (b.toNat : Int) := (Int.toNat_of_nonneg hb).symm
  rw [e1, e2, ZNum.Spec.land_natCast]
  have h1 := @Nat.and_le_left a.toNat b.toNat
  have h2 := @Nat.and_le_right a.toNat b.toNat
  omega

theorem toNat_lt_two_pow {a : Int} {j : Nat} (ha : 0 ≤ a) (h : a < 2 ^ j) : a.toNat < 2 ^ j :=
  (Int.toNat_lt ha).mpr (by rw [Int.natCast_pow]; exact h)

/-- `Or` and `Xor` of two numbers in `[0, 2^j)` stay there: they are the operations of the
    naturals, which do -/
theorem natop_nonneg_bounds {f : Int → Int → Int} {g : Nat → Nat → Nat}
    (hfg : ∀ m n : Nat, f m n = (g m n : Nat))
    (hg : ∀ {x y n : Nat}, x < 2 ^ n → y < 2 ^ n → g x y < 2 ^ n)
    (a b : Int) (j : Nat) (ha : 0 ≤ a) (hb : 0 ≤ b) (ha2 : a < 2 ^ j) (hb2 : b < 2 ^ j) :
    0 ≤ f a b ∧ f a b < 2 ^ j := by
  have h := hg (toNat_lt_two_pow ha ha2) (toNat_lt_two_pow hb hb2)
  rw [← Int.toNat_of_nonneg ha, ← Int.toNat_of_nonneg hb, hfg]
  refine ⟨Int.natCast_nonneg _, ?_⟩
  have : ((g a.toNat b.toNat : Nat) : Int) < ((2 ^ j : Nat) : Int) := by exact_mod_cast h
  rw [Int.natCast_pow] at this; exact this

theorem exists_two_pow_gt {a : Int} (ha : 0 ≤ a) : ∃ j : Nat, a < 2 ^ j := by
  refine ⟨a.toNat, ?_⟩
  have : a.toNat < 2 ^ a.toNat := Nat.lt_two_pow_self
  have h2 : ((a.toNat : Nat) : Int) < ((2 ^ a.toNat : Nat) : Int) := by exact_mod_cast this
  rw [Int.natCast_pow, Int.toNat_of_nonneg ha] at h2; exact h2

theorem and_sound {x y : Itv} {a b : Int} (ha : mem a x) (hb : mem b y) :
    mem (ZNum.land a b) (Itv.and x y) := by
  unfold Itv.and
  rw [if_neg (not_bottom_or ha hb)]
  split
  · rename_i l r h1 h2; exact mem_single_of_singleton? _ h1 h2 ha hb
  · split
    · rename_i hc
      simp [Bound.ge] at hc
      have ha0 : 0 ≤ a := by simpa using Bound.le_trans hc.1 ha.1
      have hb0 : 0 ≤ b := by simpa using Bound.le_trans hc.2 hb.1
      obtain ⟨h0, h1, h2⟩ := land_nonneg_bounds ha0 hb0
      rw [mem_mk']
      refine ⟨by simpa using h0, Bound.le_min ?_ ?_⟩
      · exact Bound.le_trans (by simpa using h1) ha.2
      · exact Bound.le_trans (by simpa using h2) hb.2
    · exact mem_top _

/-- the non-singleton branch of `Or` as a function -/
def orBody (a x : Itv) : Itv :=
  if Bound.ge a.lb (fin 0) && Bound.ge x.lb (fin 0) then
    match a.ub, x.ub with
    | fin lu, fin ru =>
      let m := if lu > ru then lu else ru
      mk' (fin 0) (fin (ZNum.fillOnes m))
    | _, _ => mk' (fin 0) pinf
  else top

theorem orBody_sound (f : Int → Int → Int)
    (hf : ∀ (a b : Int) (j : Nat), 0 ≤ a → 0 ≤ b → a < 2 ^ j → b < 2 ^ j →
      0 ≤ f a b ∧ f a b < 2 ^ j)
    {x y : Itv} {a b : Int} (ha : mem a x) (hb : mem b y) : mem (f a b) (orBody x y) := by
  unfold orBody
  by_cases hc : (Bound.ge x.lb (fin 0) && Bound.ge y.lb (fin 0)) = true
  · rw [if_pos hc]
    obtain ⟨h1, h2⟩ := Bool.and_eq_true_iff.mp hc
    have ha0 : 0 ≤ a := by simpa using Bound.le_trans h1 ha.1
    have hb0 : 0 ≤ b := by simpa using Bound.le_trans h2 hb.1
    split
    · rename_i lu ru hlu hru
      have ha2 : a ≤ lu := by simpa [hlu] using ha.2
      have hb2 : b ≤ ru := by simpa [hru] using hb.2
      generalize hm : (if lu > ru then lu else ru) = m
      have hm' : lu ≤ m ∧ ru ≤ m := by subst hm; split <;> omega
      obtain ⟨j, hj, hge, _⟩ := ZNum.Spec.fillOnes_spec m (by omega)
      have := hf a b j ha0 hb0 (by omega) (by omega)
      rw [mem_mk']; simp only [Bound.le_fin_fin, decide_eq_true_eq]; omega
    · obtain ⟨j1, hj1⟩ := exists_two_pow_gt ha0
      obtain ⟨j2, hj2⟩ := exists_two_pow_gt hb0
      have h1 := ZNum.Spec.two_pow_le (Nat.le_max_left j1 j2)
      have h2 := ZNum.Spec.two_pow_le (Nat.le_max_right j1 j2)
      have := hf a b (max j1 j2) ha0 hb0 (by omega) (by omega)
      rw [mem_mk']; exact ⟨by simpa using this.1, rfl⟩
  · rw [if_neg hc]; exact mem_top _

theorem or_nonsing {x y : Itv} (hx : x.isBottom = false) (hy : y.isBottom = false)
    (hns : ∀ l r : Int, x.singleton? = some l → ¬ y.singleton? = some r) :
    Itv.or x y = orBody x y := by
  unfold Itv.or orBody
  simp only [hx, hy, Bool.or_self, Bool.false_eq_true, if_false]
  cases h1 : x.singleton? with
  | none => rfl
  | some l =>
    cases h2 : y.singleton? with
    | none => rfl
    | some r => exact absurd h2 (hns l r h1)

theorem or_sound {x y : Itv} {a b : Int} (ha : mem a x) (hb : mem b y) :
    mem (ZNum.lor a b) (Itv.or x y) := by
  unfold Itv.or
  rw [if_neg (not_bottom_or ha hb)]
  split
  · rename_i l r h1 h2; exact mem_single_of_singleton? _ h1 h2 ha hb
  · exact orBody_sound ZNum.lor (natop_nonneg_bounds ZNum.Spec.lor_natCast Nat.or_lt_two_pow) ha hb

theorem xor_sound {x y : Itv} {a b : Int} (ha : mem a x) (hb : mem b y) :
    mem (ZNum.lxor a b) (Itv.xor x y) := by
  unfold Itv.xor
  rw [if_neg (not_bottom_or ha hb)]
  split
  · rename_i l r h1 h2; exact mem_single_of_singleton? _ h1 h2 ha hb
  · rename_i hns
    rw [or_nonsing (isBottom_false_of_mem ha) (isBottom_false_of_mem hb) hns]
    exact orBody_sound ZNum.lxor (natop_nonneg_bounds ZNum.Spec.lxor_natCast Nat.xor_lt_two_pow) ha hb

/-- (`0 ≤ k` is not needed: for a negative amount the answer is top) -/
theorem shl_sound {x y : Itv} {a k : Int} (ha : mem a x) (hk : mem k y) (_h0 : 0 ≤ k) :
    mem (a * 2 ^ k.toNat) (shl x y) := by
  unfold shl
  rw [if_neg (not_bottom_or ha hk)]
  split
  · rename_i c hc
    have e := mem_of_singleton? hc hk
    subst e
    split
    · exact mem_top _
    · split
      · exact mul_sound ha ((mem_single _ _).mpr rfl)
      · exact mem_top _
  · exact mem_top _

theorem shrBound_mono {l : Bound} {a k : Int} (h0 : 0 ≤ k) (h1 : k < 2 ^ 64)
    (h : Bound.le l (fin a) = true) : Bound.le (shrBound l k) (fin (a / 2 ^ k.toNat)) = true := by
  cases l with
  | ninf => simp [shrBound]
  | pinf => simp at h
  | fin v =>
    simp at h
    simp [shrBound, ZNum.shr_eq h0 h1]
    exact Int.ediv_le_ediv (ZNum.two_pow_pos _) h

theorem shrBound_mono' {u : Bound} {a k : Int} (h0 : 0 ≤ k) (h1 : k < 2 ^ 64)
    (h : Bound.le (fin a) u = true) : Bound.le (fin (a / 2 ^ k.toNat)) (shrBound u k) = true := by
  cases u with
  | pinf => simp [shrBound]
  | ninf => simp at h
  | fin v =>
    simp at h
    simp [shrBound, ZNum.shr_eq h0 h1]
    exact Int.ediv_le_ediv (ZNum.two_pow_pos _) h

/-- (`0 ≤ k` is not needed: for a negative amount the answer is top) -/
theorem ashr_sound {x y : Itv} {a k : Int} (ha : mem a x) (hk : mem k y) (_h0 : 0 ≤ k) :
    mem (a / 2 ^ k.toNat) (ashr x y) := by
  unfold ashr
  rw [if_neg (not_bottom_or ha hk)]
  split
  · rename_i c hc
    have e := mem_of_singleton? hc hk
    subst e
    split
    · exact mem_top _
    · split
      · rename_i h1 h2
        have hlt : k < 2 ^ 64 := by
          have : (128 : Int) < 2 ^ 64 := by decide
          omega
        rw [mem_mk']
        exact ⟨shrBound_mono (by omega) hlt ha.1, shrBound_mono' (by omega) hlt ha.2⟩
      · exact mem_top _
  · exact mem_top _

/-- `LShr` for shift amounts that fit a machine word (see `lshr_big_shift` for the rest; `0 ≤ k` is
    not needed: for a negative amount the answer is top) -/
theorem lshr_sound {x y : Itv} {a k : Int} (ha : mem a x) (hk : mem k y) (_h0 : 0 ≤ k)
    (h64 : k < 2 ^ 64) : mem (a / 2 ^ k.toNat) (lshr x y) := by
  unfold lshr
  rw [if_neg (not_bottom_or ha hk)]
  split
  · rename_i c hc
    have e := mem_of_singleton? hc hk
    subst e
    split
    · exact mem_top _
    · split
      · split
        · rename_i l u hl hu
          have h1 := shrBound_mono (k := k) (by omega) h64 ha.1
          have h2 := shrBound_mono' (k := k) (by omega) h64 ha.2
          rw [hl] at h1; rw [hu] at h2
          rw [mem_mk']; exact ⟨h1, h2⟩
        · exact mem_top _
      · exact mem_top _
  · exact mem_top _

/-- shift amounts `≥ 2^64` are reduced modulo `2^64` by `mpz_get_ui`: `[1,1] LShr [2^64,2^64]`
    is `[1,1]`, which excludes `1 / 2^(2^64) = 0` -/
theorem lshr_big_shift :
    mem 1 (single 1) ∧ mem (2 ^ 64) (single (2 ^ 64)) ∧
    ¬ mem ((1 : Int) / 2 ^ ((2 : Int) ^ 64).toNat) (lshr (single 1) (single (2 ^ 64))) := by
  refine ⟨by decide, by decide, ?_⟩
  have e : lshr (single 1) (single (2 ^ 64)) = single 1 := by decide
  rw [e, ZNum.Spec.one_div_two_pow _ (by decide), mem_single]
  decide

theorem trim_sound {i j : Itv} {k : Int} (hk : mem k i) (hne : j.singleton? ≠ some k) :
    mem k (trim i j) := by
  unfold trim
  split
  · rename_i c hc
    have hkc : k ≠ c := by intro e; subst e; exact hne hc
    split
    · rename_i h1
      simp at h1
      rw [mem_mk']
      have := hk.1; rw [h1] at this; simp at this
      exact ⟨by simp; omega, hk.2⟩
    · split
      · rename_i _ h2
        simp at h2
        rw [mem_mk']
        have := hk.2; rw [h2] at this; simp at this
        exact ⟨hk.1, by simp; omega⟩
      · exact hk
  · exact hk

theorem trim_below {i j : Itv} {k : Int} (hk : mem k (trim i j)) : mem k i := by
  unfold trim at hk
  split at hk
  · rename_i c hc
    split at hk
    · rename_i h1
      simp at h1
      rw [mem_mk'] at hk
      refine ⟨?_, hk.2⟩
      rw [h1]; have := hk.1; simp at this ⊢; omega
    · split at hk
      · rename_i _ h2
        simp at h2
        rw [mem_mk'] at hk
        refine ⟨hk.1, ?_⟩
        rw [h2]; have := hk.2; simp at this ⊢; omega
      · exact hk
  · exact hk

end Itv
end Crab
