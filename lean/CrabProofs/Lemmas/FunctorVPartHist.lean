import CrabProofs.Lemmas.FunctorVPartOps
import CrabProofs.Lemmas.FunctorBase
import CrabProofs.Lemmas.Interval

/-!
`value_partitioning_domain` over an arbitrary base:
 * `&`, `&&` are lower bounds when they do not take the element-wise branch on more than one
   partition (`zipLower_of_not_eltwise`: what `VP.histOk` asks of the run), and on that branch under
   the semantic condition the comment of the class promises (intervals cover the partitions and do
   not overlap);
 * reflexivity of `operator<=` on separated intervals.
-/
namespace Crab
namespace Dom
namespace Fct
namespace VP
set_option linter.unusedSectionVars false

variable {V S : Type} [DecidableEq V] {D : VDom V S}

/-! ### when `&`, `&&` are lower bounds -/

theorem zipLower_of_not_eltwise {g : D.B → D.B → D.B} (hg : D.LSound g) {a b : VP D} (ha : Inv a)
    (c1 : (isBottom a || isTop b) = false) (c2 : (isTop a || isBottom b) = false)
    (he : eltwise a b = false) : ZipLower g a b := by
  by_cases hlen : a.parts.length ≤ 1
  · exact zipLower_of_short hg hlen
  · intro hv hs
    exfalso
    have hn : (a.var.isNone && b.var.isNone) = false := by
      cases hva : a.var with
      | none => exact absurd (Nat.le_of_eq (ha.2 hva)) hlen
      | some x => rfl
    have : eltwise a b = true := by
      unfold eltwise
      rw [c1, c2, hn, hs]
      simp only [Bool.not_false, Bool.true_and, Bool.and_true, Bool.and_eq_true, decide_eq_true_eq]
      exact ⟨hv, by omega⟩
    rw [he] at this; cases this

/-- the interval of every partition covers the values of the partitioning variable in it -/
def KeySound (ev : S → V → Int) (a : VP D) : Prop :=
  ∀ x, a.var = some x → ∀ p ∈ a.parts, ∀ s, D.γ p.val s → Itv.mem (ev s x) p.key

/-- no two intervals of the vector share a value -/
def KeysDisjoint (l : List (Part D)) : Prop :=
  l.Pairwise (fun p q => ∀ k, ¬ (Itv.mem k p.key ∧ Itv.mem k q.key))

theorem _root_.Crab.Itv.mem_of_beq {i j : Itv} (h : Itv.beq i j = true) (k : Int) : Itv.mem k i ↔ Itv.mem k j := by
  unfold Itv.beq at h
  split at h
  · rename_i hb
    constructor
    · intro hm; exact absurd hm (Itv.not_mem_of_isBottom hb)
    · intro hm; exact absurd hm (Itv.not_mem_of_isBottom h)
  · simp only [Bool.and_eq_true, beq_iff_eq] at h
    have : i = j := by
      obtain ⟨l1, u1⟩ := i; obtain ⟨l2, u2⟩ := j
      simp only at h; rw [h.1, h.2]
    rw [this]

theorem sameKeys_mem {l1 l2 : List (Part D)} (hs : sameKeys l1 l2 = true) {q : Part D} :
    q ∈ l2 → ∃ p ∈ l1, Itv.beq p.key q.key = true := by
  refine sameKeys_ind (P := fun l1 l2 => q ∈ l2 → ∃ p ∈ l1, Itv.beq p.key q.key = true) ?_ ?_ l1 l2 hs
  · exact fun hq => absurd hq List.not_mem_nil
  · intro p q' ps qs hb _ ih hq
    rcases List.mem_cons.1 hq with rfl | hq
    · exact ⟨p, List.mem_cons_self, hb⟩
    · exact (ih hq).imp fun p' h => ⟨List.mem_cons_of_mem _ h.1, h.2⟩

theorem zipOp_lower_of_keys {g : D.B → D.B → D.B} (hg : D.LSound g) (l1 l2 : List (Part D)) (s : S) (k : Int)
    (hs : sameKeys l1 l2 = true) : KeysDisjoint l1 →
    (∀ p ∈ l1, D.γ p.val s → Itv.mem k p.key) → (∀ q ∈ l2, D.γ q.val s → Itv.mem k q.key) →
    γl l1 s → γl l2 s → γl (zipOp g l1 l2) s := by
  refine sameKeys_ind (P := fun l1 l2 => KeysDisjoint l1 →
    (∀ p ∈ l1, D.γ p.val s → Itv.mem k p.key) → (∀ q ∈ l2, D.γ q.val s → Itv.mem k q.key) →
    γl l1 s → γl l2 s → γl (zipOp g l1 l2) s) ?_ ?_ l1 l2 hs
  · exact fun _ _ _ g1 _ => g1
  · intro p q ps qs hb hs ih hd h1 h2 g1 g2
    have hd' := List.pairwise_cons.1 hd
    obtain ⟨h1p, h1⟩ := List.forall_mem_cons.1 h1
    obtain ⟨h2q, h2⟩ := List.forall_mem_cons.1 h2
    -- a state of the head on one side and of the tail on the other puts `k` into two intervals of `l1`
    rcases γl_cons.1 g1 with a1 | ⟨p', hp', hx⟩ <;> rcases γl_cons.1 g2 with b1 | ⟨q', hq', hy⟩
    · exact γl_head (hg _ _ _ a1 b1)
    · obtain ⟨p', hp', hb'⟩ := sameKeys_mem hs hq'
      exact absurd ⟨h1p a1, (Itv.mem_of_beq hb' k).2 (h2 q' hq' hy)⟩ (hd'.1 p' hp' k)
    · exact absurd ⟨(Itv.mem_of_beq hb k).2 (h2q b1), h1 p' hp' hx⟩ (hd'.1 p' hp' k)
    · exact γl_tail (ih hd'.2 h1 h2 ⟨p', hp', hx⟩ ⟨q', hq', hy⟩)

theorem zipLower_of_keys (ev : S → V → Int) {g : D.B → D.B → D.B} (hg : D.LSound g) {a b : VP D}
    (ha : Inv a) (ka : KeySound ev a) (kb : KeySound ev b) (hd : KeysDisjoint a.parts) :
    ZipLower g a b := by
  intro hv hs s g1 g2
  cases hva : a.var with
  | none => exact zipLower_of_short hg (Nat.le_of_eq (ha.2 hva)) hv hs s g1 g2
  | some x =>
    simp only [hasSame, Bool.and_eq_true] at hs
    exact zipOp_lower_of_keys hg _ _ s (ev s x) hs.2 hd (fun p hp => ka x hva p hp s)
      (fun q hq => kb x (hv ▸ hva) q hq s) g1 g2

/-- disjoint intervals: a value is in at most one of them (a decidable consequence) -/
theorem keysDisjoint_count {l : List (Part D)} (h : KeysDisjoint l) (k : Int) :
    (l.filter (fun p => decide (Itv.mem k p.key))).length ≤ 1 := by
  induction l with
  | nil => simp
  | cons p ps ih =>
    have hd := List.pairwise_cons.1 h
    by_cases hm : Itv.mem k p.key
    · have : ps.filter (fun p => decide (Itv.mem k p.key)) = [] := by
        apply List.filter_eq_nil_iff.2
        intro q hq hq'
        exact hd.1 q hq k ⟨hm, of_decide_eq_true hq'⟩
      simp [List.filter_cons, hm, this]
    · simp only [List.filter_cons, hm, decide_false, Bool.false_eq_true, if_false]
      exact ih hd.2

/-! ### the pinned-tree `update_partitions()` separates the intervals on at most two partitions only -/

theorem length_insertPart (p : Part D) (l : List (Part D)) : (insertPart p l).length = l.length + 1 := by
  induction l with
  | nil => rfl
  | cons q qs ih => simp only [insertPart]; split <;> simp [ih]

theorem length_sortParts (l : List (Part D)) : (sortParts l).length = l.length := by
  induction l with
  | nil => rfl
  | cons q qs ih => simp [sortParts, length_insertPart, ih]

theorem mergeAdjOld_short_disjoint (l : List (Part D)) (h : l.length ≤ 2) : KeysDisjoint (mergeAdjOld l) := by
  cases l with
  | nil => exact List.Pairwise.nil
  | cons a l =>
    cases l with
    | nil => exact List.pairwise_singleton _ _
    | cons b l =>
      cases l with
      | cons c l => simp only [List.length_cons] at h; omega
      | nil =>
        simp only [mergeAdjOld]
        split
        · exact List.pairwise_singleton _ _
        · rename_i hge
          refine List.pairwise_pair.2 ?_
          rintro k ⟨⟨_, h2⟩, ⟨h3, _⟩⟩
          exact hge (Bound.le_trans h3 h2)

theorem refreshGo_flag_pos (x : V) (n : Nat) (l : List (Part D)) (hn : 0 < n) : (refreshGo x n l).2 = false := by
  induction l generalizing n with
  | nil => rfl
  | cons q qs ih =>
    simp only [refreshGo]
    split
    · split
      · exact ih (n + 1) (Nat.succ_pos _)
      · rename_i hc; exfalso; apply hc; omega
    · exact ih (n + 1) (Nat.succ_pos _)

/-- the early `return` leaves exactly one partition -/
theorem refreshGo_stop (x : V) (l : List (Part D)) (h : (refreshGo x 0 l).2 = true) :
    ∃ p, (refreshGo x 0 l).1 = [p] := by
  match l with
  | [] => simp [refreshGo] at h
  | p0 :: ps =>
    simp only [refreshGo] at h ⊢
    split
    · split
      · rename_i h1 h2
        simp only [h1, h2, if_true] at h
        rw [refreshGo_flag_pos x 1 ps (Nat.succ_pos _)] at h; cases h
      · exact ⟨_, rfl⟩
    · rename_i h1
      simp only [h1, Bool.false_eq_true, if_false] at h
      rw [refreshGo_flag_pos x 1 ps (Nat.succ_pos _)] at h; cases h

theorem updatePartsOld_some {a : VP D} {x : V} (hv : a.var = some x) :
    updatePartsOld a = if (refreshGo x 0 a.parts).2 then ⟨a.var, (refreshGo x 0 a.parts).1⟩
      else ⟨a.var, mergeAdjOld (sortParts (refreshGo x 0 a.parts).1)⟩ := by
  unfold updatePartsOld; rw [hv]

/-! ### reflexivity of `operator<=` on separated intervals -/

/-- non-empty intervals, each strictly before the next -/
def keysSep : List (Part D) → Bool
  | [] => true
  | [p] => Bound.le p.key.lb p.key.ub
  | p :: q :: r => Bound.le p.key.lb p.key.ub && Bound.lt p.key.ub q.key.lb && keysSep (q :: r)

theorem leqOne_self (hr : D.LeqRefl) (p : Part D) (k : List (Part D) → Bool) (r : List (Part D))
    (hp : Bound.le p.key.lb p.key.ub = true) : leqOne p k (p :: r) = k (p :: r) := by
  have h1 : Bound.lt p.key.ub p.key.lb = false := by simp [Bound.lt, Bound.ge, hp]
  simp [leqOne, h1, Bound.le_refl, hr p.val]

theorem leqSame_refl (hr : D.LeqRefl) (l : List (Part D)) (h : keysSep l = true) : leqSame l l = true := by
  induction l with
  | nil => rfl
  | cons p ps ih =>
    match ps with
    | [] =>
      simp only [keysSep] at h
      simp only [leqSame]
      rw [leqOne_self hr p _ [] h]
    | q :: r =>
      simp only [keysSep, Bool.and_eq_true] at h
      obtain ⟨⟨hp, hlt⟩, hrest⟩ := h
      have hq : Bound.le q.key.lb q.key.ub = true := by
        cases r with
        | nil => simpa [keysSep] using hrest
        | cons _ _ => simp only [keysSep, Bool.and_eq_true] at hrest; exact hrest.1.1
      have hle : Bound.le p.key.ub q.key.lb = true :=
        Bound.not_le ((Bound.lt_iff _ _).1 hlt)
      have h1 : Bound.lt q.key.ub p.key.lb = false := by
        have : Bound.le p.key.lb q.key.ub = true := Bound.le_trans hp (Bound.le_trans hle hq)
        simp [Bound.lt, Bound.ge, this]
      have := ih hrest
      simp only [leqSame] at this ⊢
      rw [leqOne_self hr p _ _ hp]
      rw [show leqOne q (leqSame r) (p :: q :: r) = leqOne q (leqSame r) (q :: r) by
        simp [leqOne, h1, hlt]]
      exact this

end VP
end Fct
end Dom
end Crab
