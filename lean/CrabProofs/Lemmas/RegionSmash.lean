import CrabModel.Dom.RegionSmash
import CrabProofs.Lemmas.SmallRange
import CrabProofs.Lemmas.IntervalLattice

/-!
  Soundness of the `RegionSmash` functor w.r.t. the concrete region semantics
  (`CrabModel/Dom/RegionSem.lean`).  `Gamma` splits into a part per region (`RegOk`: counter,
  init flag and site set of the region against its memory), a part about the reference variables
  and the base value; a reference value, held by a variable or by a cell, is described by a site
  set in one way (`RefOk`).  An operation on region `g` re-establishes `RegOk` for `g` only
  (`regOk_setMem`), and a selection of the new state is a selection of the old one outside `g`
  (`sel_frame`).
-/
namespace Crab
namespace Rgn
open Classical


@[simp] theorem upd_same {α} (f : Nat → α) (i : Nat) (v : α) : upd f i v i = v := by simp [upd]
theorem upd_other {α} (f : Nat → α) {i j : Nat} (v : α) (h : j ≠ i) : upd f i v j = f j := by simp [upd, h]
/-- `updN` (abstract side) is the function `upd` (concrete side) -/
@[simp] theorem updN_same {α} (f : Nat → α) (i : Nat) (v : α) : updN f i v i = v := upd_same f i v
theorem updN_other {α} (f : Nat → α) {i j : Nat} (v : α) (h : j ≠ i) : updN f i v j = f j := upd_other f v h
theorem updN_self {α} (f : Nat → α) (i : Nat) : updN f i (f i) = f := by
  funext j; simp only [updN]; split
  · rename_i h; rw [h]
  · rfl
theorem updN_updN_self {α} (f : Nat → α) (i : Nat) (v : α) : updN (updN f i v) i (f i) = f := by
  funext j; simp only [updN]; split
  · rename_i h; rw [h]
  · rfl

theorem Mem.read_write (m : Mem) (a a' : Int) (v : CellVal) (t : List Nat) :
    (m.write a v t).read a' = if a' = a then some v else m.read a' := by
  unfold Mem.read Mem.cell Mem.write
  simp only [List.lookup_cons]
  by_cases h : a' = a
  · subst h; simp
  · have : (a' == a) = false := by simpa using h
    simp [this, h]

@[simp] theorem Mem.write_members (m : Mem) (a : Int) (v : CellVal) (t : List Nat) :
    (m.write a v t).members = m.members := rfl

@[simp] theorem Mem.addMember_read (m : Mem) (a a' : Int) : (m.addMember a).read a' = m.read a' := by
  unfold Mem.addMember; split <;> rfl

theorem Mem.mem_addMember (m : Mem) (a a' : Int) : a' ∈ (m.addMember a).members ↔ a' = a ∨ a' ∈ m.members := by
  unfold Mem.addMember
  split
  · rename_i h; constructor
    · intro h'; exact Or.inr h'
    · rintro (h' | h')
      · subst h'; exact h
      · exact h'
  · simp

theorem Mem.nodup_addMember (m : Mem) (a : Int) (h : m.members.Nodup) : (m.addMember a).members.Nodup := by
  unfold Mem.addMember
  split
  · exact h
  · rename_i hn; exact List.nodup_cons.2 ⟨hn, h⟩

theorem Mem.length_addMember (m : Mem) (a : Int) :
    (a ∈ m.members ∧ (m.addMember a).members.length = m.members.length) ∨
    (a ∉ m.members ∧ (m.addMember a).members.length = m.members.length + 1) := by
  unfold Mem.addMember
  split
  · rename_i h; exact Or.inl ⟨h, rfl⟩
  · rename_i h; exact Or.inr ⟨h, by simp⟩

theorem eq_of_length_le_one {l : List Int} (h : l.length ≤ 1) {a b : Int} (ha : a ∈ l) (hb : b ∈ l) : a = b := by
  match l, h with
  | [], _ => cases ha
  | [x], _ =>
    simp at ha hb; rw [ha, hb]
  | _ :: _ :: _, h => simp at h

theorem useRef_some {σ : State} {r g : Nat} {p : Ptr} (h : σ.useRef r g = some p) :
    σ.refs r = .ptr p ∧ p.addr ∈ (σ.mems g).members := by
  unfold State.useRef at h
  split at h
  · cases h
  · rename_i q hq
    split at h
    · rename_i hm; cases h; exact ⟨hq, hm⟩
    · cases h

theorem deref_some {σ : State} {r g : Nat} {p : Ptr} (h : σ.deref r g = some p) :
    σ.refs r = .ptr p ∧ p.addr ∈ (σ.mems g).members := by
  unfold State.deref at h
  split at h
  · cases h
  · rename_i q hq
    split at h
    · cases h; exact useRef_some hq
    · cases h


theorem Val.set_set (ρ : Val) (x : GVar) (k k' : Int) : (ρ.set x k).set x k' = ρ.set x k' := by
  funext y; simp only [Val.set]; split <;> rfl

theorem Val.set_self (ρ : Val) (x : GVar) : ρ.set x (ρ x) = ρ := by
  funext y; simp only [Val.set]; split
  · rename_i h; rw [h]
  · rfl

theorem valOf_setInt (σ : State) (x : Nat) (v : Int) (t : List Nat) (c : Nat → Int) (d : Int) :
    valOf (σ.setInt x v t) c d = (valOf σ c d).set (.int x) v := by
  funext y; cases y <;> simp [valOf, State.setInt, Val.set, upd]

theorem valOf_setRef (σ : State) (r : Nat) (v : RefVal) (t : List Nat) (c : Nat → Int) (d : Int) :
    valOf (σ.setRef r v t) c d = (valOf σ c d).set (.ref r) v.toInt := by
  funext y; cases y <;> simp [valOf, State.setRef, Val.set, upd, apply_ite RefVal.toInt]

theorem valOf_sel_rgn (σ : State) (g : Nat) (v : Int) (c : Nat → Int) (d : Int) :
    valOf σ (updN c g v) d = (valOf σ c d).set (.rgn g) v := by
  funext y; cases y <;> simp [valOf, Val.set, updN]

theorem valOf_dup (σ : State) (c : Nat → Int) (d d' : Int) :
    (valOf σ c d).set .dup d' = valOf σ c d' := by
  funext y; cases y <;> simp [valOf, Val.set]

theorem sel_exists (σ : State) : ∃ c, Sel σ c := by
  refine ⟨fun g => if h : ∃ v, Vis σ g v then choose h else 0, ?_⟩
  intro g
  constructor
  · intro h; simp only [dif_pos h]; exact choose_spec h
  · intro h; simp only [dif_neg h]

theorem sel_updN {σ : State} {c : Nat → Int} (hc : Sel σ c) {g : Nat} {v : Int} (hv : Vis σ g v) :
    Sel σ (updN c g v) := by
  intro g'
  by_cases h : g' = g
  · subst h
    simp only [updN_same]
    exact ⟨fun _ => hv, fun hn => absurd ⟨v, hv⟩ hn⟩
  · simp only [updN_other c v h]; exact hc g'

/-- with at most one member every selection of a region with a written cell picks that cell -/
theorem sel_unique {B : Type} {D : Base B} {A : RS B} {σ : State} (hG : Gamma D A σ) {g : Nat}
    (hone : (σ.mems g).members.length ≤ 1) {c : Nat → Int} (hc : Sel σ c)
    {a : Int} {cv : CellVal} (hr : (σ.mems g).read a = some cv) : c g = cv.toInt := by
  have hv : Vis σ g cv.toInt := ⟨a, cv, hr, rfl⟩
  obtain ⟨a', cv', hr', he⟩ := (hc g).1 ⟨_, hv⟩
  have h1 := hG.member g a cv hr
  have h2 := hG.member g a' cv' hr'
  have : a' = a := eq_of_length_le_one hone h2 h1
  subst this
  rw [hr] at hr'; cases hr'; exact he.symm

theorem length_le_one_of_cnt {c : SmallRange} {n : Nat} (h : SmallRange.γ c n)
    (hz : (c.isZero || c.isOne) = true) : n ≤ 1 := by
  -- the test leaves `0` (γ: `n = 0`) and `1(V)` (γ: `n = 1`)
  cases c with
  | zero => exact Nat.le_trans (Nat.le_of_eq h) (Nat.zero_le 1)
  | one v => exact Nat.le_of_eq h
  | _ => cases hz


theorem isNullRef_sound {B : Type} {D : Base B} {A : RS B} {σ : State} (hG : Gamma D A σ) (r : Nat) :
    (A.isNullRef D r = some true → σ.refs r = .null) ∧
    (A.isNullRef D r = some false → σ.refs r ≠ .null) := by
  obtain ⟨c, hc⟩ := sel_exists σ
  have hm := D.toItv_sound (.ref r) (hG.base c 0 hc)
  simp only [valOf] at hm
  unfold RS.isNullRef
  constructor
  · intro h
    simp only at h
    split at h
    · cases h
    · split at h
      · rename_i hlb hub
        -- the interval is [0,0]
        cases hr : σ.refs r with
        | null => rfl
        | ptr p =>
          rw [hr, Itv.mem_fin_iff hlb hub] at hm
          exact absurd (Int.le_antisymm hm.2 hm.1) (hG.nonnull r p hr)
      · cases h
  · intro h hn
    simp only at h
    split at h
    · rename_i hle
      rw [hn] at hm
      rw [Itv.leq_single_of_mem (k := 0) hm] at hle
      cases hle
    · split at h <;> cases h

/-! ### the part of `Gamma` about one region -/

variable {B : Type}

theorem setMem_mems_same (σ : State) (g : Nat) (m : Mem) : (σ.setMem g m).mems g = m := by
  simp [State.setMem]
theorem setMem_mems_other (σ : State) {g g' : Nat} (m : Mem) (h : g' ≠ g) : (σ.setMem g m).mems g' = σ.mems g' := by
  simp [State.setMem, upd_other _ _ h]

theorem valOf_setMem (σ : State) (g : Nat) (m : Mem) (c : Nat → Int) (d : Int) :
    valOf (σ.setMem g m) c d = valOf σ c d := by
  funext y; cases y <;> rfl

/-- a reference value is described by a site set: if it is a pointer, its allocation site is in
    the set (when the set is known) and its address is not 0 -/
def RefOk (S : Option (List Nat)) (v : RefVal) : Prop :=
  ∀ p, v = .ptr p → (∀ S', S = some S' → p.site ∈ S') ∧ p.addr ≠ 0

theorem RefOk.mono {S S' : Option (List Nat)} {v : RefVal} (h : RefOk S v)
    (hs : ∀ T', S' = some T' → ∃ T, S = some T ∧ ∀ x ∈ T, x ∈ T') : RefOk S' v := fun p e =>
  ⟨fun T' hT' => let ⟨T, hT, hsub⟩ := hs T' hT'; hsub _ ((h p e).1 T hT), (h p e).2⟩

/-- counter, init flag and site set of a region describe its memory -/
structure RegOk (cnt : SmallRange) (init : Bool) (rs : Option (List Nat)) (m : Mem) : Prop where
  member : ∀ a cv, m.read a = some cv → a ∈ m.members
  nodup : m.members.Nodup
  count : SmallRange.γ cnt m.members.length
  init : init = false → ∀ a, m.read a = none
  refs : ∀ a v, m.read a = some (.ref v) → RefOk rs v

theorem RegOk.of_unwritten {cnt : SmallRange} {init : Bool} {rs : Option (List Nat)} {m : Mem}
    (hr : ∀ a, m.read a = none) (hn : m.members.Nodup) (hc : SmallRange.γ cnt m.members.length) :
    RegOk cnt init rs m := by
  have hno : ∀ {a : Int} {cv : CellVal}, m.read a = some cv → False := fun h => by rw [hr] at h; cases h
  exact ⟨fun _ _ h => (hno h).elim, hn, hc, fun _ => hr, fun _ _ h => (hno h).elim⟩

theorem Gamma.reg {D : Base B} {A : RS B} {σ : State} (hG : Gamma D A σ) (g : Nat) :
    RegOk (A.cnt g) (A.init g) (A.rsites g) (σ.mems g) :=
  ⟨hG.member g, hG.nodup g, hG.count g, hG.init g,
   fun a _ h p e => ⟨fun S => hG.rsites g a p S (e ▸ h), hG.nonnullc g a p (e ▸ h)⟩⟩

theorem Gamma.ref {D : Base B} {A : RS B} {σ : State} (hG : Gamma D A σ) (r : Nat) : RefOk (A.sites r) (σ.refs r) :=
  fun p e => ⟨fun S => hG.sites r p S e, hG.nonnull r p e⟩

theorem Gamma.of_regs {D : Base B} {A : RS B} {σ : State}
    (hr : ∀ g, RegOk (A.cnt g) (A.init g) (A.rsites g) (σ.mems g))
    (hs : ∀ r, RefOk (A.sites r) (σ.refs r))
    (hb : ∀ c d, Sel σ c → D.γ A.base (valOf σ c d)) : Gamma D A σ :=
  ⟨fun g => (hr g).member, fun g => (hr g).nodup, fun g => (hr g).count, fun g => (hr g).init,
   fun r p S hp => (hs r p hp).1 S, fun g a p S h => ((hr g).refs a _ h p rfl).1 S, fun r p hp => (hs r p hp).2,
   fun g a p h => ((hr g).refs a _ h p rfl).2, hb⟩

theorem regOk_setMem {σ : State} {g : Nat} {m : Mem} {A A' : RS B}
    (h : ∀ g', RegOk (A.cnt g') (A.init g') (A.rsites g') (σ.mems g'))
    (hg : RegOk (A'.cnt g) (A'.init g) (A'.rsites g) m)
    (ho : ∀ g', g' ≠ g → A'.cnt g' = A.cnt g' ∧ A'.init g' = A.init g' ∧ A'.rsites g' = A.rsites g')
    (g' : Nat) : RegOk (A'.cnt g') (A'.init g') (A'.rsites g') ((σ.setMem g m).mems g') := by
  by_cases hg' : g' = g
  · subst hg'; rw [setMem_mems_same]; exact hg
  · obtain ⟨h1, h2, h3⟩ := ho g' hg'
    rw [setMem_mems_other _ _ hg', h1, h2, h3]; exact h g'

theorem sel_frame {σ σ' : State} {g : Nat} (ho : ∀ g', g' ≠ g → σ'.mems g' = σ.mems g') {c : Nat → Int}
    (hc : Sel σ' c) : ∃ c0, Sel σ c0 ∧ c = updN c0 g (c g) := by
  obtain ⟨c1, hc1⟩ := sel_exists σ
  refine ⟨updN c g (c1 g), fun g' => ?_, (updN_updN_self c g _).symm⟩
  by_cases hg : g' = g
  · subst hg; simp only [updN_same]; exact hc1 _
  · simp only [updN_other _ _ hg]
    have := hc g'
    simp only [Vis, ho g' hg] at this
    exact this

theorem Gamma.mono {D : Base B} {A A' : RS B} {σ : State} (h : Gamma D A σ)
    (hc : ∀ g, SmallRange.γ (A'.cnt g) (σ.mems g).members.length)
    (hi : ∀ g, A'.init g = false → A.init g = false)
    (hs : ∀ r S, A'.sites r = some S → ∃ S0, A.sites r = some S0 ∧ ∀ x ∈ S0, x ∈ S)
    (hrs : ∀ g S, A'.rsites g = some S → ∃ S0, A.rsites g = some S0 ∧ ∀ x ∈ S0, x ∈ S)
    (hb : ∀ ρ, D.γ A.base ρ → D.γ A'.base ρ) : Gamma D A' σ :=
  Gamma.of_regs (fun g => ⟨h.member g, h.nodup g, hc g, fun hg => h.init g (hi g hg),
      fun a v hv => ((h.reg g).refs a v hv).mono (hrs g)⟩)
    (fun r => (h.ref r).mono (hs r)) fun c d hc => hb _ (h.base c d hc)

/-! ### ref_load -/

/-- the base value computed by `ref_load` for the destination variable `y` -/
def loadBase (D : Base B) (A : RS B) (r g : Nat) (y : GVar) : B :=
  if A.isNullRef D r = some true then D.forget y A.base
  else if (A.cnt g).isZero || (A.cnt g).isOne then D.assign y (.rgn g) A.base
  else D.forget .dup (D.assign y .dup (D.expand (.rgn g) .dup A.base))

theorem refLoad_eq (D : Base B) (A : RS B) (r g : Nat) (dst : LDst) :
    A.refLoad D r g dst =
      { A with sites := if A.isNullRef D r = some true then A.sites else A.loadSites g dst,
               base := loadBase D A r g dst.gvar } := by
  unfold RS.refLoad loadBase
  split
  · rfl
  · split <;> rfl

/-- reading the summary of region `g` as `v`, a value a selection may pick for `g`: the base value
    accepts `v` for the summary, and `v` is what the selection at hand picks when the region has at
    most one member (the test of a strong read) -/
theorem summary_read {D : Base B} {A : RS B} {σ : State} (hG : Gamma D A σ) {g : Nat} {c : Nat → Int} (d : Int)
    (hc : Sel σ c) {v : Int} (hv : ((∃ w, Vis σ g w) → Vis σ g v) ∧ ((¬ ∃ w, Vis σ g w) → v = 0)) :
    D.γ A.base ((valOf σ c d).set (.rgn g) v) ∧ (((A.cnt g).isZero || (A.cnt g).isOne) = true → v = c g) := by
  by_cases hex : ∃ w, Vis σ g w
  · obtain ⟨a, cv, hr, rfl⟩ := hv.1 hex
    refine ⟨?_, fun hz => (sel_unique hG (length_le_one_of_cnt (hG.count g) hz) hc hr).symm⟩
    rw [← valOf_sel_rgn]; exact hG.base _ d (sel_updN hc ⟨a, cv, hr, rfl⟩)
  · have h0 : (valOf σ c d) (.rgn g) = v := ((hc g).2 hex).trans (hv.2 hex).symm
    exact ⟨by rw [← h0, Val.set_self]; exact hG.base c d hc, fun _ => h0.symm⟩

theorem loadBase_sound {D : Base B} {A : RS B} {σ : State} (hG : Gamma D A σ) {r g : Nat} {a : Int} {cv : CellVal}
    (hr : (σ.mems g).read a = some cv) (y : GVar) (hy : y ≠ .dup)
    {c : Nat → Int} (d : Int) (hc : Sel σ c) :
    D.γ (loadBase D A r g y) ((valOf σ c d).set y cv.toInt) := by
  have hb := hG.base c d hc
  have hv : Vis σ g cv.toInt := ⟨a, cv, hr, rfl⟩
  obtain ⟨hb2, hone⟩ := summary_read hG d hc ⟨fun _ => hv, fun hn => absurd ⟨_, hv⟩ hn⟩
  unfold loadBase
  split
  · exact D.forget_sound y _ hb
  · split
    · rename_i hz
      rw [hone hz]
      exact D.assign_sound y (.rgn g) hb
    · have h1 := D.expand_sound (.rgn g) .dup cv.toInt hb hb2
      have h2 := D.assign_sound y .dup h1
      have h3 := D.forget_sound .dup d h2
      have e : ((((valOf σ c d).set .dup cv.toInt).set y (((valOf σ c d).set .dup cv.toInt) .dup)).set .dup d)
             = (valOf σ c d).set y cv.toInt := by
        funext z
        simp only [Val.set]
        by_cases hz : z = .dup
        · subst hz
          have : (GVar.dup = y) = False := by simp [Ne.symm hy]
          simp [this, valOf]
        · simp [hz]
      rw [e] at h3
      exact h3

theorem loadInt_sound {D : Base B} {A : RS B} {σ σ' : State} {r g x : Nat} (hG : Gamma D A σ)
    (hs : σ.refLoadInt r g x = some σ') : Gamma D (A.refLoad D r g (.ivar x)) σ' := by
  unfold State.refLoadInt at hs
  split at hs
  · cases hs
  · split at hs
    · rename_i v hv
      cases hs
      rw [refLoad_eq]
      refine ⟨hG.member, hG.nodup, hG.count, hG.init, ?_, hG.rsites, hG.nonnull, hG.nonnullc, ?_⟩
      · simp only [RS.loadSites, ite_self]; exact hG.sites
      · intro c d hc
        rw [valOf_setInt]
        exact loadBase_sound hG hv (.int x) (by simp) d hc
    · cases hs

theorem loadRef_sound {D : Base B} {A : RS B} {σ σ' : State} {r g r' : Nat} (hG : Gamma D A σ)
    (hs : σ.refLoadRef r g r' = some σ') : Gamma D (A.refLoad D r g (.rvar r')) σ' := by
  unfold State.refLoadRef at hs
  split at hs
  · cases hs
  · rename_i p hp
    have hnn : A.isNullRef D r ≠ some true := by
      intro h
      have := (isNullRef_sound hG r).1 h
      rw [(deref_some hp).1] at this; cases this
    split at hs
    · rename_i v hv
      cases hs
      rw [refLoad_eq, if_neg hnn]
      refine Gamma.of_regs hG.reg (fun r0 => ?_) fun c d hc => ?_
      · -- the loaded reference is described as the cells of the region are
        by_cases h : r0 = r'
        · subst h; simp only [RS.loadSites, updN_same, State.setRef, upd_same]; exact (hG.reg g).refs p.addr v hv
        · simp only [RS.loadSites, updN_other _ _ h, State.setRef, upd_other _ _ h]; exact hG.ref r0
      · rw [valOf_setRef]
        exact loadBase_sound hG hv (.ref r') (by simp) d hc
    · cases hs

/-! ### ref_store -/

def svOf (ρ : Val) : SVal → Int
  | .cst k => k
  | .ivar x => ρ (.int x)
  | .rvar r => ρ (.ref r)
  | .null => 0

theorem svOf_valOf (σ : State) (c : Nat → Int) (d : Int) (v : SVal) : svOf (valOf σ c d) v = (v.eval σ).toInt := by
  cases v <;> simp [svOf, valOf, SVal.eval, CellVal.toInt, RefVal.toInt]

/-- a write, strong or weak, accepts the valuation in which the summary holds the written value -/
theorem memWrite_set {D : Base B} {b : B} {ρ : Val} (g : Nat) (v : SVal) (weak : Bool) (h : D.γ b ρ) :
    D.γ (RS.memWrite D b g v weak) (ρ.set (.rgn g) (svOf ρ v)) := by
  cases v <;> cases weak
  · exact D.assignC_sound _ _ h
  · exact D.weakAssignC_sound _ _ h
  · exact D.assign_sound _ _ h
  · exact D.weakAssign_sound _ _ h
  · exact D.assign_sound _ _ h
  · exact D.weakAssign_sound _ _ h
  · exact D.assignC_sound _ _ h
  · exact D.weakAssignC_sound _ _ h

theorem memWrite_keep {D : Base B} {b : B} {ρ : Val} (g : Nat) (v : SVal) (h : D.γ b ρ) :
    D.γ (RS.memWrite D b g v true) ρ := by
  cases v
  · exact D.weakAssignC_keep _ _ h
  · exact D.weakAssign_keep _ _ h
  · exact D.weakAssign_keep _ _ h
  · exact D.weakAssignC_keep _ _ h

theorem unionSites_some {a b : Option (List Nat)} {S : List Nat} (h : unionSites a b = some S) :
    ∃ Sa Sb, a = some Sa ∧ b = some Sb ∧ S = Sa ++ Sb := by
  cases a <;> cases b <;> simp [unionSites] at h
  exact ⟨_, _, rfl, rfl, h.symm⟩

def strongAt (A : RS B) (g : Nat) : Bool := A.init g = false || (A.cnt g).isZero || (A.cnt g).isOne

def storeSites (A : RS B) (g : Nat) (v : SVal) (strong : Bool) : Option (List Nat) :=
  match v, strong with
  | .null, true => some []
  | .rvar r0, true => A.sites r0
  | .rvar r0, false => unionSites (A.rsites g) (A.sites r0)
  | _, _ => A.rsites g

theorem refStore_eq (D : Base B) (A : RS B) {r : Nat} (g : Nat) (v : SVal) (hnn : A.isNullRef D r ≠ some true) :
    A.refStore D r g v =
      { A with base := RS.memWrite D A.base g v (!strongAt A g), init := updN A.init g true,
               rsites := updN A.rsites g (storeSites A g v (strongAt A g)) } := by
  unfold RS.refStore
  rw [if_neg hnn]
  show (if strongAt A g = true then _ else _) = _
  cases strongAt A g
  · rw [if_neg Bool.false_ne_true]; cases v <;> simp [storeSites, updN_self]
  · rw [if_pos rfl]; cases v <;> simp [storeSites, updN_self]

theorem storeSites_new {A : RS B} {g r0 : Nat} {st : Bool} {S : List Nat} (h : storeSites A g (.rvar r0) st = some S) :
    ∃ S0, A.sites r0 = some S0 ∧ ∀ x ∈ S0, x ∈ S := by
  cases st
  · obtain ⟨Sa, Sb, _, hb, hS⟩ := unionSites_some h
    exact ⟨Sb, hb, fun x hx => hS ▸ List.mem_append_right _ hx⟩
  · exact ⟨S, h, fun _ hx => hx⟩

theorem storeSites_old {A : RS B} {g : Nat} {v : SVal} {S : List Nat} (h : storeSites A g v false = some S) :
    ∃ S0, A.rsites g = some S0 ∧ ∀ x ∈ S0, x ∈ S := by
  cases v
  case rvar r0 =>
    obtain ⟨Sa, Sb, ha, _, hS⟩ := unionSites_some h
    exact ⟨Sa, ha, fun x hx => hS ▸ List.mem_append_left _ hx⟩
  all_goals exact ⟨S, h, fun _ hx => hx⟩

/-- in the strong case the region has at most one written cell, at its only member address -/
theorem strongAt_only {D : Base B} {A : RS B} {σ : State} (hG : Gamma D A σ) {g : Nat} (hs : strongAt A g = true)
    {a a' : Int} {cv : CellVal} (ha : a ∈ (σ.mems g).members) (h' : (σ.mems g).read a' = some cv) : a' = a := by
  by_cases hi : A.init g = false
  · rw [hG.init g hi a'] at h'; cases h'
  · have : ((A.cnt g).isZero || (A.cnt g).isOne) = true := by
      simp only [strongAt, Bool.or_eq_true, decide_eq_true_eq] at hs ⊢
      rcases hs with (h | h) | h
      · exact absurd h hi
      · exact Or.inl h
      · exact Or.inr h
    exact eq_of_length_le_one (length_le_one_of_cnt (hG.count g) this) (hG.member g a' cv h') ha

theorem store_sound {D : Base B} {A : RS B} {σ σ' : State} {r g : Nat} {v : SVal} {tags : List Nat}
    (hG : Gamma D A σ) (hs : σ.refStore r g (v.eval σ) tags = some σ') : Gamma D (A.refStore D r g v) σ' := by
  unfold State.refStore at hs
  split at hs
  · cases hs
  · rename_i p hp
    split at hs
    rotate_left
    · cases hs
    cases hs
    obtain ⟨hrp, hmem⟩ := deref_some hp
    have hnn : A.isNullRef D r ≠ some true := by
      intro h
      have := (isNullRef_sound hG r).1 h
      rw [hrp] at this; cases this
    rw [refStore_eq D A g v hnn]
    have hread := fun a' => Mem.read_write (σ.mems g) p.addr a' (v.eval σ) tags
    -- only a reference variable stores a pointer
    have hrefv : ∀ w, v.eval σ = .ref w → RefOk (storeSites A g v (strongAt A g)) w := by
      intro w h
      cases v <;> simp only [SVal.eval, CellVal.ref.injEq, reduceCtorEq] at h
      · subst h; exact (hG.ref _).mono fun S hS => storeSites_new hS
      · subst h; exact fun _ e => nomatch e
    refine Gamma.of_regs (regOk_setMem (A := A) hG.reg ⟨?_, hG.nodup g, hG.count g, ?_, ?_⟩ ?_) hG.ref ?_
    · intro a' cv' h'
      rw [hread] at h'
      split at h'
      · rename_i ha; rw [ha]; exact hmem
      · exact hG.member g a' cv' h'
    · intro hi; simp only [updN_same] at hi; cases hi
    · intro a' w h'
      simp only [updN_same]
      rw [hread] at h'
      split at h'
      · exact hrefv w (Option.some.inj h')
      · rename_i hne
        cases hst : strongAt A g
        · exact ((hG.reg g).refs a' w h').mono fun S hS => storeSites_old hS
        · exact absurd (strongAt_only hG hst hmem h') hne
    · intro g' hg'
      exact ⟨rfl, updN_other _ _ hg', updN_other _ _ hg'⟩
    · intro c d hc
      rw [valOf_setMem]
      obtain ⟨c0, hc0, hcc⟩ := sel_frame (fun g' h => setMem_mems_other σ _ h) hc
      have hval : valOf σ c d = (valOf σ c0 d).set (.rgn g) (c g) := by rw [← valOf_sel_rgn, ← hcc]
      have hw := memWrite_set (D := D) g v (!strongAt A g) (hG.base c0 d hc0)
      rw [svOf_valOf] at hw
      -- the cell `c` selects in the written region
      obtain ⟨a', cv', hr', he'⟩ := (hc g).1 ⟨_, p.addr, v.eval σ, by rw [setMem_mems_same, hread]; simp, rfl⟩
      rw [setMem_mems_same, hread] at hr'
      show D.γ (RS.memWrite D A.base g v (!strongAt A g)) _
      split at hr'
      · cases hr'
        rw [hval, ← he']; exact hw
      · rename_i hne
        cases hst : strongAt A g
        · -- weak, an old cell: `c` is a selection of the old state
          have hsel : Sel σ c := by rw [hcc]; exact sel_updN hc0 ⟨a', cv', hr', he'⟩
          exact memWrite_keep g v (hG.base c d hsel)
        · exact absurd (strongAt_only hG hst hmem hr') hne

/-! ### ref_make, ref_gep, ref_free -/

theorem vis_congr {σ σ' : State} (h : ∀ g a, (σ'.mems g).read a = (σ.mems g).read a) (g : Nat) (v : Int) :
    Vis σ' g v ↔ Vis σ g v := by
  simp only [Vis, h]

theorem sel_congr {σ σ' : State} (h : ∀ g a, (σ'.mems g).read a = (σ.mems g).read a) (c : Nat → Int) :
    Sel σ' c ↔ Sel σ c := by
  simp only [Sel, vis_congr h]

theorem RegOk.addMember {cnt cnt' : SmallRange} {init : Bool} {rs : Option (List Nat)} {m : Mem}
    (h : RegOk cnt init rs m) (a : Int) (hc : SmallRange.γ cnt' (m.addMember a).members.length) :
    RegOk cnt' init rs (m.addMember a) := by
  refine ⟨fun a' cv h' => ?_, Mem.nodup_addMember _ _ h.nodup, hc, fun hi a' => ?_, fun a' v h' => ?_⟩
  · rw [Mem.addMember_read] at h'; exact (Mem.mem_addMember _ _ _).2 (Or.inr (h.member a' cv h'))
  · rw [Mem.addMember_read]; exact h.init hi a'
  · rw [Mem.addMember_read] at h'; exact h.refs a' v h'

/-- a new reference to a region increments its counter -/
theorem count_addMember {c : SmallRange} {m : Mem} (h : SmallRange.γ c m.members.length) (a : Int) (v : Nat) :
    SmallRange.γ (c.increment v) (m.addMember a).members.length := by
  rcases Mem.length_addMember m a with ⟨hin, hl⟩ | ⟨_, hl⟩
  · rw [hl]
    refine SmallRange.increment_same h ?_
    cases hm : m.members with
    | nil => rw [hm] at hin; cases hin
    | cons _ _ => simp
  · rw [hl]; exact SmallRange.increment_sound h

/-- adding a member address to region `g` and assigning reference `r`: the common part of
    `ref_make` and `ref_gep` -/
theorem addRef_sound {D : Base B} {A A' : RS B} {σ : State} {r g : Nat} {q : Ptr} {tg : List Nat} {σ1 : State}
    (hG : Gamma D A σ)
    (h1 : σ1.mems = σ.mems ∧ σ1.refs = σ.refs ∧ σ1.ints = σ.ints)
    (hq0 : q.addr ≠ 0)
    (hcnt : SmallRange.γ (A'.cnt g) ((σ.mems g).addMember q.addr).members.length)
    (hcnto : ∀ g', g' ≠ g → A'.cnt g' = A.cnt g')
    (hinit : A'.init = A.init) (hrs : A'.rsites = A.rsites)
    (hsite : ∀ S, A'.sites r = some S → q.site ∈ S)
    (hsites : ∀ r', r' ≠ r → A'.sites r' = A.sites r')
    (hbase : ∀ c d, Sel σ c → D.γ A'.base ((valOf σ c d).set (.ref r) q.addr)) :
    Gamma D A' ((σ1.setRef r (.ptr q) tg).setMem g ((σ.mems g).addMember q.addr)) := by
  obtain ⟨hm, hr, hi⟩ := h1
  have hread : ∀ g' a, ((((σ1.setRef r (.ptr q) tg).setMem g ((σ.mems g).addMember q.addr)).mems g').read a)
      = (σ.mems g').read a := by
    intro g' a
    by_cases hg : g' = g
    · subst hg; rw [setMem_mems_same, Mem.addMember_read]
    · rw [setMem_mems_other _ _ hg]; simp only [State.setRef, hm]
  have hregs : ∀ g', RegOk (A.cnt g') (A.init g') (A.rsites g') ((σ1.setRef r (.ptr q) tg).mems g') := by
    intro g'; simp only [State.setRef, hm]; exact hG.reg g'
  refine Gamma.of_regs (regOk_setMem hregs ?_ ?_) (fun r' => ?_) ?_
  · rw [hinit, hrs]; exact (hG.reg g).addMember _ hcnt
  · intro g' hg'; exact ⟨hcnto g' hg', by rw [hinit], by rw [hrs]⟩
  · simp only [State.setMem, State.setRef, hr]
    by_cases h : r' = r
    · subst h; rw [upd_same]; intro p e; cases e; exact ⟨hsite, hq0⟩
    · rw [upd_other _ _ h, hsites r' h]; exact hG.ref r'
  · intro c d hc
    have hc' : Sel σ c := (sel_congr hread c).1 hc
    have : valOf ((σ1.setRef r (.ptr q) tg).setMem g ((σ.mems g).addMember q.addr)) c d
        = (valOf σ c d).set (.ref r) q.addr := by
      rw [valOf_setMem, valOf_setRef]
      congr 1
      funext y; cases y <;> simp [valOf, hr, hi]
    rw [this]; exact hbase c d hc'

theorem make_sound {D : Base B} {A : RS B} {σ σ' : State} {r g site : Nat} {size : Int}
    (hG : Gamma D A σ) (hs : σ.refMake r g size site = some σ') :
    Gamma D (A.refMake D r g site) σ' := by
  unfold State.refMake at hs
  split at hs
  · cases hs
  · simp only [Option.some.injEq] at hs
    subst hs
    refine addRef_sound (q := ⟨g, site, 1000 * ((site : Int) + 1)⟩) hG ⟨rfl, rfl, rfl⟩ (by simp; omega)
      ?_ ?_ rfl rfl ?_ ?_ ?_
    · simp only [RS.refMake, updN_same]; exact count_addMember (hG.count g) _ _
    · intro g' hg; simp only [RS.refMake, updN_other _ _ hg]
    · intro S hS; simp only [RS.refMake, updN_same, Option.some.injEq] at hS; subst hS; simp
    · intro r' h; simp only [RS.refMake, updN_other _ _ h]
    · intro c d hc; exact D.forget_sound _ _ (hG.base c d hc)

theorem gep_sound {D : Base B} {A : RS B} {σ σ' : State} {r1 g1 r2 g2 : Nat} {k : Int}
    (hG : Gamma D A σ) (hs : σ.refGep r1 g1 r2 g2 k = some σ') :
    Gamma D (A.refGep D r1 g1 r2 g2 k) σ' := by
  unfold State.refGep at hs
  split at hs
  · cases hs
  · rename_i p hp
    obtain ⟨hrp, hmem⟩ := useRef_some hp
    dsimp only at hs
    split at hs
    rotate_left
    · cases hs
    simp only [Option.some.injEq] at hs
    subst hs
    refine addRef_sound (q := ⟨g2, p.site, p.addr + k⟩) hG ⟨rfl, rfl, rfl⟩ (by simp; omega) ?_ ?_ rfl rfl ?_ ?_ ?_
    · by_cases hz : g1 = g2 ∧ k = 0
      · -- the same address of the same region: no new member
        obtain ⟨rfl, rfl⟩ := hz
        simp only [RS.refGep, and_self, if_true]
        rcases Mem.length_addMember (σ.mems g1) (p.addr + 0) with ⟨_, hl⟩ | ⟨hn, _⟩
        · rw [hl]; exact hG.count g1
        · simp at hn; exact absurd hmem hn
      · simp only [RS.refGep, if_neg hz, updN_same]; exact count_addMember (hG.count g2) _ _
    · intro g' hg
      simp only [RS.refGep]; split
      · rfl
      · exact updN_other _ _ hg
    · intro S hS
      simp only [RS.refGep, updN_same] at hS
      exact hG.sites r1 p S hrp hS
    · intro r' h; simp only [RS.refGep, updN_other _ _ h]
    · intro c d hc
      have := D.assignAdd_sound (.ref r2) (.ref r1) k (hG.base c d hc)
      simp only [valOf, hrp, RefVal.toInt] at this
      exact this

/-- `ref_free` only forgets the allocation sites of the freed reference -/
theorem free_sound {D : Base B} {A : RS B} {σ σ' : State} {r g : Nat}
    (hG : Gamma D A σ) (hs : σ.refFree g r = some σ') : Gamma D (A.refFree r) σ' := by
  have key : ∀ fr, Gamma D (A.refFree r) { σ with freed := fr } := by
    intro fr
    refine ⟨hG.member, hG.nodup, hG.count, hG.init, ?_, hG.rsites, hG.nonnull, hG.nonnullc, hG.base⟩
    intro r' p S hp hS
    by_cases h : r' = r
    · subst h; simp [RS.refFree] at hS
    · simp only [RS.refFree, updN_other _ _ h] at hS; exact hG.sites r' p S hp hS
  unfold State.refFree at hs
  split at hs
  · cases hs; exact key σ.freed
  · split at hs
    · cases hs
    · split at hs
      · cases hs
      · cases hs; exact key _

/-! ### join, widening -/

/-- join and widening differ in the base component only -/
theorem upper_sound {D : Base B} {A1 A2 : RS B} {σ : State} (op : B → B → B)
    (hl : ∀ {a b ρ}, D.γ a ρ → D.γ (op a b) ρ) (hr : ∀ {a b ρ}, D.γ b ρ → D.γ (op a b) ρ)
    (h : Gamma D A1 σ ∨ Gamma D A2 σ) : Gamma D { RS.join D A1 A2 with base := op A1.base A2.base } σ := by
  have hcnt : ∀ g, SmallRange.γ (((A1.cnt g).join (A2.cnt g)).getD .zeroOrMore) (σ.mems g).members.length := by
    intro g
    have hs := SmallRange.join_isSome (A1.cnt g) (A2.cnt g)
    cases hj : (A1.cnt g).join (A2.cnt g) with
    | none => rw [hj] at hs; cases hs
    | some x => exact SmallRange.join_sound (h.elim (fun h => Or.inl (h.count g)) (fun h => Or.inr (h.count g))) hj
  rcases h with h | h
  · refine h.mono hcnt (fun g hi => ?_) (fun r S hS => ?_) (fun g S hS => ?_) (fun _ => hl)
    · simp only [RS.join, Bool.or_eq_false_iff] at hi; exact hi.1
    · obtain ⟨Sa, Sb, ha, _, rfl⟩ := unionSites_some hS
      exact ⟨Sa, ha, fun _ hx => List.mem_append_left _ hx⟩
    · obtain ⟨Sa, Sb, ha, _, rfl⟩ := unionSites_some hS
      exact ⟨Sa, ha, fun _ hx => List.mem_append_left _ hx⟩
  · refine h.mono hcnt (fun g hi => ?_) (fun r S hS => ?_) (fun g S hS => ?_) (fun _ => hr)
    · simp only [RS.join, Bool.or_eq_false_iff] at hi; exact hi.2
    · obtain ⟨Sa, Sb, _, hb, rfl⟩ := unionSites_some hS
      exact ⟨Sb, hb, fun _ hx => List.mem_append_right _ hx⟩
    · obtain ⟨Sa, Sb, _, hb, rfl⟩ := unionSites_some hS
      exact ⟨Sb, hb, fun _ hx => List.mem_append_right _ hx⟩

theorem join_sound {D : Base B} {A1 A2 : RS B} {σ : State} (h : Gamma D A1 σ ∨ Gamma D A2 σ) :
    Gamma D (RS.join D A1 A2) σ :=
  upper_sound D.join D.join_left D.join_right h

theorem widen_sound {D : Base B} {A1 A2 : RS B} {σ : State} (h : Gamma D A1 σ ∨ Gamma D A2 σ) :
    Gamma D (RS.widen D A1 A2) σ :=
  upper_sound D.widen D.widen_left D.widen_right h

/-! ### region_copy -/

-- `l ≠ r` is part of the statement; the proof does not need it
set_option linter.unusedVariables false in
theorem copy_sound {D : Base B} {A : RS B} {σ σ' : State} {l r : Nat} (hlr : l ≠ r)
    (hG : Gamma D A σ) (hs : σ.regionCopy l r = some σ') : Gamma D (A.regionCopy D l r) σ' := by
  simp only [State.regionCopy, Option.some.injEq] at hs
  subst hs
  refine Gamma.of_regs (regOk_setMem (A := A) hG.reg ?_ ?_) hG.ref ?_
  · simp only [RS.regionCopy, updN_same]; exact hG.reg r
  · intro g' hg'; simp only [RS.regionCopy, updN_other _ _ hg', and_self]
  · intro c d hc
    rw [valOf_setMem]
    obtain ⟨c0, hc0, hcc⟩ := sel_frame (fun g' h => setMem_mems_other σ _ h) hc
    have hval : valOf σ c d = (valOf σ c0 d).set (.rgn l) (c l) := by rw [← valOf_sel_rgn, ← hcc]
    have hρ0 := hG.base c0 d hc0
    -- the destination now shows the cells of the source: what `c` selects for it is a value a
    -- selection may pick for the source
    have hkey := summary_read hG (g := r) d hc0 (v := c l) (by
      have := hc l; simp only [Vis, setMem_mems_same] at this; exact this)
    show D.γ (if _ then _ else _) _
    split
    · rename_i hz
      have := D.assign_sound (.rgn l) (.rgn r) hρ0
      rw [hval, hkey.2 hz]; exact this
    · -- weak: forget the destination, then expand the source into it
      have hf : ∀ {ρ : Val}, D.γ A.base ρ → D.γ (D.forget (.rgn l) A.base) ρ := by
        intro ρ h
        have := D.forget_sound (.rgn l) (ρ (.rgn l)) h
        rw [Val.set_self] at this; exact this
      rw [hval]
      exact D.expand_sound (.rgn r) (.rgn l) (c l) (hf hρ0) (hf hkey.1)

end Rgn
end Crab
