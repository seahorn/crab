import CrabProofs.Lemmas.WIntMul
import CrabModel.Dom.WIntDomain

/-!
  Value-level lemmas for the wrapped interval *domain* (`Crab.WDom`,
  CrabModel/Dom/WIntDomain.lean): what `separate_domain::at` returns for a variable of declared
  width `w` is either the object `top()` (width 3) or an interval of width `w` (`Good w`); the
  results of the operations the domain chains (`mk_winterval`, `default_implementation`; `+`, `-`, `*`, `SDiv`,
  `UDiv`: see `add_spec`, `sub_spec`, `mul_spec`, `sdiv_spec`, `udiv_spec`) are shown to be `Good w` again.
-/
namespace Crab
namespace WInt
open WrapInt

theorem memBV_of_isTop {w : Nat} {v : BitVec w} {x : WInt} (h : x.isTop = true) : memBV v x :=
  mem_of_isTop h

theorem defaultImpl_good (w : Nat) (x y : WInt) : Good w (x.defaultImpl y) :=
  ite_elim _ (fun _ => good_bottom w) fun _ => good_top w

theorem ofZ_good {w : Nat} (h1w : 1 ≤ w) (hw : w ≤ 64) {z : Int} {r : WInt}
    (h : WInt.ofZ z w = some r) : Good w r := by
  rcases ofZ_cases h1w hw h with rfl | rfl
  · exact good_top w
  · exact good_of_shape (shape_W (resN_lt _ _) (resN_lt _ _))

theorem emod_step (M a c : Int) (n : Nat) :
    ((a % M) + ((c % M) * n) % M) % M = (a + c * n) % M := by
  rw [Int.add_emod_emod, Int.emod_add_emod]
  have h2 : (c % M * n) % M = (c * n) % M := by
    rw [Int.mul_emod, Int.emod_emod_of_dvd _ (Int.dvd_refl M), ← Int.mul_emod]
  rw [Int.add_emod a, h2, ← Int.add_emod]

/-- the step of `eval_expr` on residues modulo `2^w` -/
theorem resN_step (w : Nat) (a c : Int) (n : Nat) :
    (resN w a + (resN w c * n) % 2 ^ w) % 2 ^ w = resN w (a + c * n) := by
  apply Int.ofNat_inj.mp
  rw [resN_cast]
  push_cast
  rw [resN_cast, resN_cast]
  exact emod_step _ a c n

end WInt

namespace WDom
open WInt Lin

/-- the loop of `eval_expr`: the answer is `top()` or of width `w` whatever the state, and for a state
    whose values are members the accumulator contains the residue of the partial sum -/
theorem evalLoop_spec {w : Nat} (h1w : 1 ≤ w) (hw : w ≤ 64) (e : Env) :
    ∀ (ts : List (Var × Int)) (r0 r : WInt), (∀ p ∈ ts, Good w (e.get p.1)) → Good w r0 →
      Env.evalLoop e w ts r0 = some r →
      Good w r ∧ ∀ (σ : Var → Nat) (acc : Int), (∀ p ∈ ts, σ p.1 < 2 ^ w ∧ mem w (σ p.1) (e.get p.1)) →
        mem w (resN w acc) r0 → mem w (resN w (acc + Expr.evalTerms (fun v => (σ v : Int)) ts)) r := by
  intro ts
  induction ts with
  | nil =>
    intro r0 r _ hg h
    obtain rfl := Option.some.inj h
    exact ⟨hg, fun σ acc _ hm => by simpa [Expr.evalTerms] using hm⟩
  | cons p rest ih =>
    intro r0 r hts hg h
    obtain ⟨v, c⟩ := p
    simp only [Env.evalLoop] at h
    cases hc : WInt.ofZ c w with
    | none => rw [hc] at h; cases h
    | some ci =>
      rw [hc] at h; simp only at h
      cases hp : WInt.mul ci (e.get v) with
      | none => rw [hp] at h; cases h
      | some pr =>
        rw [hp] at h; simp only at h
        obtain ⟨gpr, mpr⟩ := mul_spec h1w hw (ofZ_good h1w hw hc) (hts (v, c) (List.mem_cons_self ..)) hp
        obtain ⟨gr', mr'⟩ := add_spec h1w hw hg gpr
        obtain ⟨g, m⟩ := ih (r0.add pr) r (fun q hq => hts q (List.mem_cons_of_mem _ hq)) gr' h
        refine ⟨g, fun σ acc hσ hm => ?_⟩
        obtain ⟨hv, hmv⟩ := hσ (v, c) (List.mem_cons_self ..)
        have := m σ (acc + c * (σ v : Int)) (fun q hq => hσ q (List.mem_cons_of_mem _ hq)) (by
          have := mr' _ _ (resN_lt _ _) (Nat.mod_lt _ (Nat.pow_pos (by decide))) hm
            (mpr _ _ (resN_lt _ _) hv (ofZ_sound h1w hw hc) hmv)
          rwa [resN_step] at this)
        simpa [Expr.evalTerms, Int.add_assoc] using this

end WDom
end Crab
