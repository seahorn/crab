import CrabModel.Dom.Octagon
import CrabProofs.Lemmas.CanonDbm
import CrabProofs.Lemmas.Interval

/-!
  The canonical integer octagon model (`CrabModel.Dom.Octagon`) on ALL matrices, no coherence
  hypothesis: the literals (`lit_ind`: every literal is `pos x` or `neg x`); the tight closure
  `close = strengthen ∘ tighten ∘ fw` keeps the integer solutions and only lowers entries.  Hence
  `assume` and `meet` are exact, and octagons are a sound matrix domain with a normal form
  (`Octagon.sound`, `Lemmas/CanonDbm.lean`): `is_bottom`, `entails`, `join`, `forget`, `leq` are
  sound, and so is `bounds`.  (Their exactness on coherent matrices is in `OctComplete.lean`.)
-/
namespace Crab
namespace Octagon
open Dbm

variable {n : Nat}

def updS (σ : State n) (x : Fin n) (t : Int) : State n := fun y => if y = x then t else σ y

/-! ### literals

Every literal is `pos x` or `neg x` (`lit_ind`); `bar` exchanges the two.  The facts about `bar`,
`varOf` and `ext` follow by this case distinction, without arithmetic on the indices. -/

theorem bar_val (i : Fin (2 * n)) :
    (bar i).val = if i.val % 2 = 0 then i.val + 1 else i.val - 1 := rfl

theorem pos_even (x : Fin n) : (pos x).val % 2 = 0 := Nat.mul_mod_right 2 x.val

theorem neg_odd (x : Fin n) : ¬ (neg x).val % 2 = 0 := by simp only [neg]; omega

theorem bar_pos (x : Fin n) : bar (pos x) = neg x :=
  Fin.ext (by rw [bar_val, if_pos (pos_even x)]; rfl)

theorem bar_neg (x : Fin n) : bar (neg x) = pos x :=
  Fin.ext (by rw [bar_val, if_neg (neg_odd x)]; rfl)

theorem varOf_pos (x : Fin n) : varOf (pos x) = x :=
  Fin.ext (Nat.mul_div_cancel_left x.val (by decide))

theorem varOf_neg (x : Fin n) : varOf (neg x) = x := by
  apply Fin.ext
  simp only [varOf, neg]
  omega

theorem pos_ne_neg (x : Fin n) : pos x ≠ neg x := by
  intro h; have := congrArg Fin.val h; simp only [pos, neg] at this; omega

theorem lit_ind {P : Fin (2 * n) → Prop} (hp : ∀ x, P (pos x)) (hn : ∀ x, P (neg x))
    (i : Fin (2 * n)) : P i := by
  by_cases h : i.val % 2 = 0
  · have : i = pos (varOf i) := Fin.ext (by simp only [pos, varOf]; omega)
    rw [this]; exact hp _
  · have : i = neg (varOf i) := Fin.ext (by simp only [neg, varOf]; omega)
    rw [this]; exact hn _

theorem varOf_bar (i : Fin (2 * n)) : varOf (bar i) = varOf i := by
  induction i using lit_ind with
  | hp x => rw [bar_pos, varOf_pos, varOf_neg]
  | hn x => rw [bar_neg, varOf_pos, varOf_neg]

theorem bar_bar (i : Fin (2 * n)) : bar (bar i) = i := by
  induction i using lit_ind with
  | hp x => rw [bar_pos, bar_neg]
  | hn x => rw [bar_neg, bar_pos]

theorem bar_ne (i : Fin (2 * n)) : bar i ≠ i := by
  induction i using lit_ind with
  | hp x => rw [bar_pos]; exact (pos_ne_neg x).symm
  | hn x => rw [bar_neg]; exact pos_ne_neg x

theorem bar_inj {i j : Fin (2 * n)} (h : bar i = bar j) : i = j := by
  have := congrArg bar h
  rwa [bar_bar, bar_bar] at this

theorem lit_cases {i a : Fin (2 * n)} (h : varOf i = varOf a) : i = a ∨ i = bar a := by
  induction i using lit_ind with
  | hp x =>
    induction a using lit_ind with
    | hp y => rw [varOf_pos, varOf_pos] at h; exact Or.inl (by rw [h])
    | hn y => rw [varOf_pos, varOf_neg] at h; exact Or.inr (by rw [h, bar_neg])
  | hn x =>
    induction a using lit_ind with
    | hp y => rw [varOf_neg, varOf_pos] at h; exact Or.inr (by rw [h, bar_pos])
    | hn y => rw [varOf_neg, varOf_neg] at h; exact Or.inl (by rw [h])

theorem ext_pos (σ : State n) (x : Fin n) : ext σ (pos x) = σ x := by
  unfold ext
  rw [if_pos (pos_even x), varOf_pos]

theorem ext_neg (σ : State n) (x : Fin n) : ext σ (neg x) = - σ x := by
  unfold ext
  rw [if_neg (neg_odd x), varOf_neg]

theorem ext_bar (σ : State n) (i : Fin (2 * n)) : ext σ (bar i) = - ext σ i := by
  induction i using lit_ind with
  | hp x => rw [bar_pos, ext_pos, ext_neg]
  | hn x => rw [bar_neg, ext_pos, ext_neg, Int.neg_neg]

theorem ext_updS_of_ne (σ : State n) (x : Fin n) (t : Int) (i : Fin (2 * n)) (h : varOf i ≠ x) :
    ext (updS σ x t) i = ext σ i := by
  unfold ext updS
  rw [if_neg h]


theorem tight2_LE (a : W) : W.LE (W.tight2 a) a := by
  cases a with
  | none => exact W.LE_none _
  | some a => exact W.LE_some_some.2 (by omega)

/-- integrality: an even quantity below `a` is below `2 * ⌊a / 2⌋` -/
theorem LE_tight2 {t : Int} {a : W} (h : W.LE (some (2 * t)) a) : W.LE (some (2 * t)) (W.tight2 a) := by
  cases a with
  | none => exact W.LE_none _
  | some a =>
    have := W.LE_some_some.1 h
    exact W.LE_some_some.2 (by omega)

theorem LE_half_add {t : Int} {a b : W} {p q : Int} (ha : W.LE (some p) a) (hb : W.LE (some q) b)
    (e : 2 * t = p + q) : W.LE (some t) (W.half (W.add a b)) := by
  cases a with
  | none => exact W.LE_none _
  | some a =>
    cases b with
    | none => exact W.LE_none _
    | some b =>
      have := W.LE_some_some.1 ha
      have := W.LE_some_some.1 hb
      exact W.LE_some_some.2 (by omega)


theorem tighten_LE (m : Oct n) : Mat.LE (tighten m) m := by
  intro i j
  simp only [tighten, Mat.get_ofFn]
  split
  · exact tight2_LE _
  · exact W.LE_refl _

theorem tighten_sat (m : Oct n) (σ : State n) : (tighten m).sat (ext σ) ↔ m.sat (ext σ) := by
  constructor
  · exact Mat.sat_of_LE (tighten_LE m)
  · intro h
    rw [Mat.sat_iff]
    intro i j
    simp only [tighten, Mat.get_ofFn]
    split
    · rename_i hj
      subst hj
      have h1 := Mat.sat_get h i (bar i)
      rw [ext_bar] at h1 ⊢
      have e : ext σ i - -ext σ i = 2 * ext σ i := by omega
      rw [e] at h1 ⊢
      exact LE_tight2 h1
    · exact Mat.sat_get h i j

theorem strengthen_LE (m : Oct n) : Mat.LE (strengthen m) m := by
  intro i j
  simp only [strengthen, Mat.get_ofFn]
  exact W.min_LE_left _ _

theorem strengthen_sat (m : Oct n) (σ : State n) : (strengthen m).sat (ext σ) ↔ m.sat (ext σ) := by
  constructor
  · exact Mat.sat_of_LE (strengthen_LE m)
  · intro h
    rw [Mat.sat_iff]
    intro i j
    simp only [strengthen, Mat.get_ofFn]
    refine W.LE_min (Mat.sat_get h i j) ?_
    refine LE_half_add (Mat.sat_get h i (bar i)) (Mat.sat_get h (bar j) j) ?_
    rw [ext_bar, ext_bar]
    omega

theorem close_LE (o : Oct n) : Mat.LE (close o) o :=
  Mat.LE_trans (strengthen_LE _) (Mat.LE_trans (tighten_LE _) (Mat.fw_LE o))

theorem close_preserves_γ (o : Oct n) (σ : State n) : γ (close o) σ ↔ γ o σ := by
  unfold γ close
  rw [strengthen_sat, tighten_sat, Mat.fw_sat]

theorem top_γ (σ : State n) : γ (top : Oct n) σ := Mat.top_sat _


theorem Cst.sat_iff_entry (c : Cst n) (σ : State n) :
    c.sat σ ↔ ext σ c.row - ext σ c.col ≤ c.bound := by
  cases c <;> simp only [Cst.sat, Cst.row, Cst.col, Cst.bound, ext_pos, ext_neg] <;> omega

theorem assumeCst_exact (o : Oct n) (c : Cst n) (σ : State n) :
    γ (assumeCst o c) σ ↔ (γ o σ ∧ c.sat σ) := by
  unfold γ assumeCst
  rw [Mat.addEdge_sat, Mat.addEdge_sat, ext_bar, ext_bar, Cst.sat_iff_entry]
  constructor
  · rintro ⟨⟨h1, h2⟩, _⟩
    exact ⟨h1, h2⟩
  · rintro ⟨h1, h2⟩
    exact ⟨⟨h1, h2⟩, by omega⟩

theorem assumeAll_exact (o : Oct n) (cs : List (Cst n)) (σ : State n) :
    γ (assumeAll o cs) σ ↔ (γ o σ ∧ ∀ c ∈ cs, c.sat σ) :=
  RelDom.foldl_assume_exact assumeCst_exact cs o σ


/-- octagons are a matrix domain whose normal form is the tight closure -/
theorem sound (n : Nat) : Canon.Sound (@ext n) close (fun x i => decide (varOf i = x)) where
  close_LE := close_LE
  close_γ := close_preserves_γ
  ext_upd := fun σ x t i h => ext_updS_of_ne σ x t i (of_decide_eq_false h)

theorem bottom_sound (o : Oct n) (h : isBottom o = true) : ¬ ∃ σ, γ o σ :=
  fun ⟨σ, hσ⟩ => (sound n).bottom_sound h σ hσ

theorem isBottom_false_of_γ {o : Oct n} {σ : State n} (h : γ o σ) : isBottom o = false :=
  (sound n).isBottom_false_of_γ h

theorem bounds_of_not_bottom {o : Oct n} (hb : isBottom o = false) (x : Fin n) :
    bounds o x = ⟨Zones.toLb (W.half ((close o).get (neg x) (pos x))),
      Zones.toUb (W.half ((close o).get (pos x) (neg x)))⟩ := by
  unfold bounds boundsC
  rw [show isBottomC (close o) = isBottom o from rfl, hb]
  rfl

/-- `t ≤ ⌊k / 2⌋` without the division -/
theorem le_toUb_half {t : Int} {w : W} :
    Bound.le (.fin t) (Zones.toUb (W.half w)) = true ↔ ∀ k, w = some k → 2 * t ≤ k := by
  cases w with
  | none => exact ⟨fun _ _ h => (nomatch h), fun _ => rfl⟩
  | some k =>
    simp only [W.half, Zones.toUb, Bound.le, decide_eq_true_eq, Option.some.injEq, forall_eq']
    omega

theorem toLb_half_le {t : Int} {w : W} :
    Bound.le (Zones.toLb (W.half w)) (.fin t) = true ↔ ∀ k, w = some k → -(2 * t) ≤ k := by
  cases w with
  | none => exact ⟨fun _ _ h => (nomatch h), fun _ => rfl⟩
  | some k =>
    simp only [W.half, Zones.toLb, Bound.le, decide_eq_true_eq, Option.some.injEq, forall_eq']
    omega

/-- the interval of `x`, read as the two unary entries of the closure -/
theorem mem_bounds_iff {o : Oct n} (hb : isBottom o = false) (x : Fin n) (t : Int) :
    Itv.mem t (bounds o x) ↔
      (∀ k, (close o).get (neg x) (pos x) = some k → -(2 * t) ≤ k) ∧
      (∀ k, (close o).get (pos x) (neg x) = some k → 2 * t ≤ k) := by
  rw [bounds_of_not_bottom hb]
  exact and_congr toLb_half_le le_toUb_half

theorem bounds_sound (o : Oct n) (σ : State n) (h : γ o σ) (x : Fin n) :
    Itv.mem (σ x) (bounds o x) := by
  have hc : (close o).sat (ext σ) := (close_preserves_γ o σ).2 h
  rw [mem_bounds_iff (isBottom_false_of_γ h)]
  constructor
  · intro k hk
    have := hc _ _ k hk
    rw [ext_pos, ext_neg] at this
    omega
  · intro k hk
    have := hc _ _ k hk
    rw [ext_pos, ext_neg] at this
    omega

theorem entails_sound (o : Oct n) (c : Cst n) (h : entails o c = true) (σ : State n)
    (hσ : γ o σ) : c.sat σ :=
  (Cst.sat_iff_entry c σ).2 ((sound n).entailsAt_sound h hσ)

theorem join_upper (a b : Oct n) (σ : State n) (h : γ a σ ∨ γ b σ) : γ (join a b) σ :=
  (sound n).join_upper a b σ h

theorem meet_exact (a b : Oct n) (σ : State n) : γ (meet a b) σ ↔ (γ a σ ∧ γ b σ) :=
  Mat.pmin_sat a b (ext σ)

/-- a yes answer of the inclusion test is an inclusion, on every matrix -/
theorem leq_sound (a b : Oct n) (h : leq a b = true) (σ : State n) (hσ : γ a σ) : γ b σ :=
  (sound n).leq_sound h hσ

end Octagon
end Crab
