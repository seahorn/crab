import CrabModel.Scalar.Sign
import CrabProofs.Lemmas.ZSpecBits
import CrabProofs.Lemmas.IntervalLattice

/-! The partition lemma behind the table proofs for `sign`: the class-level operation
    `SOp.clsOp` covers the concrete operation on all integers (the sign rules of each operation,
    `SOp.rules`, are proved of the integers; that `clsOp` allows what they allow is evaluated), the
    lookups in the generated table, and the lifting of the per-entry side condition `Sign.entryOk`
    to a statement about integers; `sign::to_interval` / `from_interval`; the same lifting for the
    table of `boolean_value`. -/
namespace Crab

namespace Cls
theorem of_neg {k : Int} (h : k < 0) : of k = neg := by simp [of, h]
theorem of_zero : of 0 = zero := by decide
theorem of_pos {k : Int} (h : 0 < k) : of k = pos := by
  unfold of; rw [if_neg (by omega), if_neg (by omega)]
theorem mem_all (c : Cls) : c ∈ all := by cases c <;> decide

theorem forall_of_all {p : Cls → Bool} (h : all.all p = true) (c : Cls) : p c = true :=
  List.all_eq_true.mp h c (mem_all c)

theorem of_cases (k : Int) : (k < 0 ∧ of k = neg) ∨ (k = 0 ∧ of k = zero) ∨ (0 < k ∧ of k = pos) := by
  by_cases h1 : k < 0
  · exact Or.inl ⟨h1, of_neg h1⟩
  · by_cases h2 : k = 0
    · exact Or.inr (Or.inl ⟨h2, by rw [h2]; exact of_zero⟩)
    · exact Or.inr (Or.inr ⟨by omega, of_pos (by omega)⟩)
end Cls

namespace SOp
open Cls

theorem tdiv_sign (a b : Int) :
    (0 ≤ a → 0 < b → 0 ≤ Int.tdiv a b) ∧ (a ≤ 0 → b < 0 → 0 ≤ Int.tdiv a b) ∧
    (a ≤ 0 → 0 < b → Int.tdiv a b ≤ 0) ∧ (0 ≤ a → b < 0 → Int.tdiv a b ≤ 0) := by
  refine ⟨fun h1 h2 => Int.tdiv_nonneg h1 (by omega), ?_, ?_, fun h1 h2 => Int.tdiv_nonpos_of_nonneg_of_nonpos h1 (by omega)⟩
  · intro h1 h2
    have := Int.tdiv_nonneg (a := -a) (b := -b) (by omega) (by omega)
    rw [Int.tdiv_neg, Int.neg_tdiv] at this; omega
  · intro h1 h2
    have := Int.tdiv_nonneg (a := -a) (b := b) (by omega) (by omega)
    rw [Int.neg_tdiv] at this; omega

theorem tmod_sign (a b : Int) : (0 ≤ a → 0 ≤ Int.tmod a b) ∧ (a ≤ 0 → Int.tmod a b ≤ 0) := by
  refine ⟨fun h => Int.tmod_nonneg b h, ?_⟩
  intro h
  have := Int.tmod_nonneg (a := -a) b (by omega)
  rw [Int.neg_tmod] at this; omega

end SOp

namespace Sign

theorem mem_iff (k : Int) (s : Sign) : mem k s ↔ s.has (Cls.of k) = true := Iff.rfl
theorem mem_all (s : Sign) : s ∈ all := by cases s <;> decide
theorem all_idx (s : Sign) : all[s.idx]? = some s := by cases s <;> rfl
theorem idx_lt (s : Sign) : s.idx < 8 := by cases s <;> decide

theorem forall_of_all {p : Sign → Bool} (h : all.all p = true) (s : Sign) : p s = true :=
  List.all_eq_true.mp h s (mem_all s)

theorem mem_bot_iff {k : Int} : mem k .bot ↔ False := by simp [mem, has]
theorem mem_top_iff {k : Int} : mem k .top ↔ True := by simp [mem, has]
theorem mem_ltz {k : Int} : mem k .ltz ↔ k < 0 := by
  rcases Cls.of_cases k with ⟨h, e⟩ | ⟨h, e⟩ | ⟨h, e⟩ <;> simp [mem, has, e] <;> omega
theorem mem_gtz {k : Int} : mem k .gtz ↔ 0 < k := by
  rcases Cls.of_cases k with ⟨h, e⟩ | ⟨h, e⟩ | ⟨h, e⟩ <;> simp [mem, has, e] <;> omega
theorem mem_eqz {k : Int} : mem k .eqz ↔ k = 0 := by
  rcases Cls.of_cases k with ⟨h, e⟩ | ⟨h, e⟩ | ⟨h, e⟩ <;> simp [mem, has, e] <;> omega
theorem mem_nez {k : Int} : mem k .nez ↔ k ≠ 0 := by
  rcases Cls.of_cases k with ⟨h, e⟩ | ⟨h, e⟩ | ⟨h, e⟩ <;> simp [mem, has, e] <;> omega
theorem mem_gez {k : Int} : mem k .gez ↔ 0 ≤ k := by
  rcases Cls.of_cases k with ⟨h, e⟩ | ⟨h, e⟩ | ⟨h, e⟩ <;> simp [mem, has, e] <;> omega
theorem mem_lez {k : Int} : mem k .lez ↔ k ≤ 0 := by
  rcases Cls.of_cases k with ⟨h, e⟩ | ⟨h, e⟩ | ⟨h, e⟩ <;> simp [mem, has, e] <;> omega

/-- the value with given classes: `has` is a bijection between the 8 values and the sets of classes -/
def ofHas : Bool → Bool → Bool → Sign
  | false, false, false => bot | true, false, false => ltz | false, false, true => gtz
  | false, true, false => eqz | true, false, true => nez | false, true, true => gez
  | true, true, false => lez | true, true, true => top

theorem ofHas_has (s : Sign) : ofHas (s.has .neg) (s.has .zero) (s.has .pos) = s := by cases s <;> rfl

theorem has_ext {x y : Sign} (h : ∀ c, x.has c = y.has c) : x = y := by
  rw [← ofHas_has x, ← ofHas_has y, h, h, h]

end Sign

namespace SOp
open Sign

theorem mem_all (op : SOp) : op ∈ all := by cases op <;> decide
theorem all_idx (op : SOp) : all[op.idx]? = some op := by cases op <;> rfl

/-- the sign rules of the concrete operations: operands in the first two values give a result in the
    third (`bot`: no result) -/
def rules : SOp → List (Sign × Sign × Sign)
  | add => [(ltz, lez, ltz), (lez, ltz, ltz), (eqz, eqz, eqz), (gtz, gez, gtz), (gez, gtz, gtz)]
  | sub => [(ltz, gez, ltz), (lez, gtz, ltz), (eqz, eqz, eqz), (gtz, lez, gtz), (gez, ltz, gtz)]
  | mul => [(eqz, top, eqz), (top, eqz, eqz), (gtz, gtz, gtz), (ltz, ltz, gtz), (gtz, ltz, ltz), (ltz, gtz, ltz)]
  | div => [(top, eqz, bot), (eqz, top, eqz), (gez, gtz, gez), (lez, ltz, gez), (lez, gtz, lez), (gez, ltz, lez)]
  | srem => [(top, eqz, bot), (eqz, top, eqz), (gez, top, gez), (lez, top, lez)]
  | udiv | urem => [(ltz, top, bot), (top, lez, bot), (eqz, top, eqz), (top, top, gez)]
  | and => [(eqz, top, eqz), (top, eqz, eqz)]
  | or | xor => [(eqz, ltz, ltz), (eqz, eqz, eqz), (eqz, gtz, gtz), (ltz, eqz, ltz), (gtz, eqz, gtz)]
  | shl => [(top, ltz, bot), (ltz, gez, ltz), (eqz, gez, eqz), (gtz, gez, gtz)]
  | ashr => [(top, ltz, bot), (ltz, gez, ltz), (eqz, gez, eqz), (gez, gez, gez), (gtz, eqz, gtz)]
  | lshr => [(top, ltz, bot), (ltz, top, bot), (eqz, gez, eqz), (gez, gez, gez), (gtz, eqz, gtz)]
  | join | meet => [(top, top, bot)]

/-- `clsOp` allows every class the rules do not exclude -/
theorem rules_cover : (SOp.all.all fun op => Cls.all.all fun ca => Cls.all.all fun cb => Cls.all.all fun cr =>
    !((rules op).all fun t => !(t.1.has ca && t.2.1.has cb) || t.2.2.has cr) ||
      decide (cr ∈ op.clsOp ca cb)) = true := by decide +kernel

def Rule (a b r : Int) (t : Sign × Sign × Sign) : Prop := mem a t.1 → mem b t.2.1 → mem r t.2.2

theorem rules_sound (op : SOp) (a b r : Int) (h : op.conc a b = some r) : ∀ t ∈ rules op, Rule a b r t := by
  cases op <;> simp only [conc] at h <;>
    simp only [rules, Rule, List.forall_mem_cons, List.not_mem_nil, false_imp_iff, implies_true, and_true,
      mem_bot_iff, mem_top_iff, mem_ltz, mem_gtz, mem_eqz, mem_gez, mem_lez, true_imp_iff]
  case add => simp only [Option.some.injEq] at h; omega
  case sub => simp only [Option.some.injEq] at h; omega
  case mul =>
    cases h
    exact ⟨fun h0 => by rw [h0, Int.zero_mul], fun h0 => by rw [h0, Int.mul_zero], Int.mul_pos,
      Int.mul_pos_of_neg_of_neg, Int.mul_neg_of_pos_of_neg, Int.mul_neg_of_neg_of_pos⟩
  case div =>
    split at h
    · cases h
    · rename_i hb
      cases h
      obtain ⟨d1, d2, d3, d4⟩ := tdiv_sign a b
      exact ⟨hb, fun h0 => by rw [h0, Int.zero_tdiv], d1, d2, d3, d4⟩
  case srem =>
    split at h
    · cases h
    · rename_i hb
      cases h
      exact ⟨hb, fun h0 => by rw [h0, Int.zero_tmod], (tmod_sign a b).1, (tmod_sign a b).2⟩
  case udiv =>
    split at h
    · rename_i hc
      cases h
      exact ⟨by omega, by omega, fun h0 => by rw [h0, Int.zero_ediv], Int.ediv_nonneg hc.1 (by omega)⟩
    · cases h
  case urem =>
    split at h
    · rename_i hc
      cases h
      exact ⟨by omega, by omega, fun h0 => by rw [h0, Int.zero_emod], Int.emod_nonneg a (by omega)⟩
    · cases h
  case and =>
    cases h
    exact ⟨fun h0 => by rw [h0]; exact ZNum.land_zero_left b, fun h0 => by rw [h0]; exact ZNum.land_zero_right a⟩
  case or =>
    cases h
    have z1 : a = 0 → ZNum.lor a b = b := fun h0 => by rw [h0]; exact ZNum.lor_zero_left b
    have z2 : b = 0 → ZNum.lor a b = a := fun h0 => by rw [h0]; exact ZNum.lor_zero_right a
    omega
  case xor =>
    cases h
    have z1 : a = 0 → ZNum.lxor a b = b := fun h0 => by rw [h0]; exact ZNum.lxor_zero_left b
    have z2 : b = 0 → ZNum.lxor a b = a := fun h0 => by rw [h0]; exact ZNum.lxor_zero_right a
    omega
  case shl =>
    split at h
    · cases h
      have hp := ZNum.two_pow_pos b.toNat
      exact ⟨by omega, fun ha _ => Int.mul_neg_of_neg_of_pos ha hp, fun h0 _ => by rw [h0, Int.zero_mul],
        fun ha _ => Int.mul_pos ha hp⟩
    · cases h
  case ashr =>
    split at h
    · cases h
      have hp := ZNum.two_pow_pos b.toNat
      exact ⟨by omega, fun ha _ => Int.ediv_neg_of_neg_of_pos ha hp, fun h0 _ => by rw [h0, Int.zero_ediv],
        fun ha _ => Int.ediv_nonneg ha (by omega), fun ha h0 => by rw [h0]; simpa using ha⟩
    · cases h
  case lshr =>
    split at h
    · cases h
      have hp := ZNum.two_pow_pos b.toNat
      exact ⟨by omega, by omega, fun h0 _ => by rw [h0, Int.zero_ediv],
        fun ha _ => Int.ediv_nonneg ha (by omega), fun ha h0 => by rw [h0]; simpa using ha⟩
    · cases h
  case join => cases h
  case meet => cases h

/-- **partition lemma**: the class of a concrete result is among those predicted from the
    classes of the operands -/
theorem clsOp_sound (op : SOp) (a b r : Int) (h : op.conc a b = some r) :
    Cls.of r ∈ op.clsOp (Cls.of a) (Cls.of b) := by
  have hc := Cls.forall_of_all (Cls.forall_of_all (Cls.forall_of_all
    (List.all_eq_true.mp rules_cover op (SOp.mem_all op)) (Cls.of a)) (Cls.of b)) (Cls.of r)
  rw [Bool.or_eq_true, Bool.not_eq_true', decide_eq_true_eq] at hc
  refine hc.resolve_left fun hn => ?_
  obtain ⟨t, ht, hf⟩ := List.all_eq_false.mp hn
  have hr := rules_sound op a b r h t ht
  apply hf
  cases h1 : t.1.has (Cls.of a)
  · rfl
  · cases h2 : t.2.1.has (Cls.of b)
    · rfl
    · exact hr h1 h2
end SOp

namespace Sign

theorem getElem?_flatMap_block {α β : Type} (f : α → List β) (n : Nat) (hf : ∀ a, (f a).length = n) :
    ∀ (l : List α) (i j : Nat), j < n → (l.flatMap f)[i * n + j]? = l[i]?.bind (fun a => (f a)[j]?)
  | [], i, j, _ => by simp
  | a :: l, 0, j, hj => by
    simp only [List.flatMap_cons, Nat.zero_mul, Nat.zero_add, List.getElem?_cons_zero, Option.bind_some]
    exact List.getElem?_append_left (by rw [hf]; exact hj)
  | a :: l, i + 1, j, hj => by
    rw [List.flatMap_cons, List.getElem?_append_right (by rw [hf, Nat.succ_mul]; omega), hf,
      show (i + 1) * n + j - n = i * n + j by rw [Nat.succ_mul]; omega, List.getElem?_cons_succ]
    exact getElem?_flatMap_block f n hf l i j hj

/-- the position `binop` computes is the position of the case in the canonical order -/
theorem keys_idx (op : SOp) (x y : Sign) : keys[op.idx * 64 + x.idx * 8 + y.idx]? = some (op, x, y) := by
  have hx := idx_lt x
  have hy := idx_lt y
  unfold keys
  rw [Nat.add_assoc, getElem?_flatMap_block _ 64 (fun _ => rfl) _ _ _ (by omega), SOp.all_idx,
    Option.bind_some, getElem?_flatMap_block _ 8 (fun _ => rfl) _ _ _ hy, all_idx, Option.bind_some,
    List.getElem?_map, all_idx]
  rfl

/-- the table has exactly one entry for each of the 15 × 8 × 8 cases, in canonical order -/
theorem keysCheck_ok : keysCheck = true := by decide +kernel

/-- every entry (none is a CRAB_ERROR) passes the side condition -/
theorem tableCheck_ok : tableCheck = true := by decide +kernel

/-- every lookup succeeds: the entry at the computed position carries the key asked for
    (`keysCheck`) and an answer (`tableCheck`) -/
theorem binop_total (op : SOp) (x y : Sign) : ∃ r, binop op x y = some r := by
  have hk := keys_idx op x y
  rw [← eq_of_beq keysCheck_ok, List.getElem?_map] at hk
  cases hget : Gen.signTable[op.idx * 64 + x.idx * 8 + y.idx]? with
  | none => rw [hget] at hk; cases hk
  | some e =>
    obtain ⟨o', x', y', r⟩ := e
    rw [hget] at hk
    simp only [Option.map_some, Option.some.injEq, Prod.mk.injEq] at hk
    have hrow := List.all_eq_true.mp tableCheck_ok _ (List.mem_of_getElem? hget)
    cases r with
    | none => cases hrow
    | some r => exact ⟨r, by unfold binop; rw [hget]; simp only [hk, and_self, if_true]⟩

theorem binop_mem {op : SOp} {x y res : Sign} (h : binop op x y = some res) :
    (op, x, y, some res) ∈ Gen.signTable := by
  unfold binop at h
  split at h
  · rename_i o' x' y' r hget
    split at h
    · rename_i hk
      obtain ⟨h1, h2, h3⟩ := hk
      subst h1; subst h2; subst h3; subst h
      exact List.mem_of_getElem? hget
    · cases h
  · cases h

/-- on the classes, the join of the table is the union and its meet the intersection -/
theorem lattice_rows_exact : Gen.signTable.all (fun e => match e with
    | (.join, x, y, some r) => Cls.all.all fun c => r.has c == (x.has c || y.has c)
    | (.meet, x, y, some r) => Cls.all.all fun c => r.has c == (x.has c && y.has c)
    | _ => true) = true := by decide +kernel

theorem join_has {x y r : Sign} (h : binop .join x y = some r) (c : Cls) :
    r.has c = (x.has c || y.has c) :=
  eq_of_beq (Cls.forall_of_all (List.all_eq_true.mp lattice_rows_exact _ (binop_mem h)) c)

theorem join_eq {x y r : Sign} (h : binop .join x y = some r) :
    r = ofHas (x.has .neg || y.has .neg) (x.has .zero || y.has .zero) (x.has .pos || y.has .pos) := by
  rw [← join_has h, ← join_has h, ← join_has h, ofHas_has]

theorem meet_has {x y r : Sign} (h : binop .meet x y = some r) (c : Cls) :
    r.has c = (x.has c && y.has c) :=
  eq_of_beq (Cls.forall_of_all (List.all_eq_true.mp lattice_rows_exact _ (binop_mem h)) c)
/-- **lifting**: an entry that passes the class-level side condition is sound on all integers -/
theorem entryOk_sound {op : SOp} {x y res : Sign} (hok : entryOk op x y res = true)
    {a b r : Int} (hx : mem a x) (hy : mem b y) (hc : op.conc a b = some r) : mem r res := by
  have hcls := SOp.clsOp_sound op a b r hc
  -- `entryOk` has its own arms for join and meet (no concrete operation); the 13 others share the last arm
  have key : ∀ (hne : op ≠ .join ∧ op ≠ .meet), mem r res := by
    intro hne
    have hok' : Cls.all.all (fun ca => Cls.all.all (fun cb =>
        !(x.has ca && y.has cb) || (op.clsOp ca cb).all res.has)) = true := by
      cases op <;> first | exact hok | exact absurd rfl hne.1 | exact absurd rfl hne.2
    have h2 := Cls.forall_of_all (Cls.forall_of_all hok' (Cls.of a)) (Cls.of b)
    rw [(mem_iff a x).mp hx, (mem_iff b y).mp hy] at h2
    simp only [Bool.and_self, Bool.not_true, Bool.false_or] at h2
    exact List.all_eq_true.mp h2 _ hcls
  by_cases h1 : op = .join
  · subst h1; cases hc
  · by_cases h2 : op = .meet
    · subst h2; cases hc
    · exact key ⟨h1, h2⟩

end Sign

/-! `sign::to_interval` / `sign::from_interval` against the interval model. -/
namespace Sign
open Bound

theorem clsInItv_sound {k : Int} {i : Itv} (h : clsInItv (Cls.of k) i = true) : Itv.mem k i := by
  rcases Cls.of_cases k with ⟨hk, e⟩ | ⟨hk, e⟩ | ⟨hk, e⟩ <;> rw [e] at h <;>
    simp only [clsInItv, Bool.and_eq_true, beq_iff_eq] at h
  · refine ⟨by rw [h.1]; rfl, Bound.le_trans (b := fin (-1)) (by simp [Bound.le]; omega) h.2⟩
  · subst hk; exact ⟨h.1, h.2⟩
  · refine ⟨Bound.le_trans (b := fin 1) h.2 (by simp [Bound.le]; omega), by rw [h.1]; cases i.lb <;> rfl⟩

theorem fromInterval_sound {k : Int} {i : Itv} (hk : Itv.mem k i) : mem k (fromInterval i) := by
  have cls : ∀ {l u : Bound}, Itv.leq i (Itv.mk' l u) = true →
      Bound.le l (fin k) = true ∧ Bound.le (fin k) u = true :=
    fun hle => (Itv.mem_mk' k _ _).mp (Itv.leq_sound hle hk)
  unfold fromInterval
  rw [Itv.isBottom_false_of_mem hk]
  simp only [Bool.false_eq_true, if_false]
  split
  · exact mem_top_iff.mpr trivial
  · split
    · rename_i h; have := cls h; simp [Bound.le] at this; exact mem_eqz.mpr (by omega)
    · split
      · rename_i h; have := cls h; simp [Bound.le] at this; exact mem_ltz.mpr (by omega)
      · split
        · rename_i h; have := cls h; simp [Bound.le] at this; exact mem_lez.mpr (by omega)
        · split
          · rename_i h; have := cls h; simp [Bound.le] at this; exact mem_gtz.mpr (by omega)
          · split
            · rename_i h; have := cls h; simp [Bound.le] at this; exact mem_gez.mpr (by omega)
            · exact mem_top_iff.mpr trivial

end Sign

/-! Lifting of the per-entry side condition of the `boolean_value` table. -/
namespace BoolV

theorem mem_iff (b : Bool) (v : BoolV) : mem b v ↔ v.has b = true := Iff.rfl
theorem mem_bools (b : Bool) : b ∈ bools := by cases b <;> decide
theorem mem_all (v : BoolV) : v ∈ all := by cases v <;> decide

theorem forall_of_all {p : BoolV → Bool} (h : all.all p = true) (v : BoolV) : p v = true :=
  List.all_eq_true.mp h v (mem_all v)
theorem forall_of_bools {p : Bool → Bool} (h : bools.all p = true) (b : Bool) : p b = true :=
  List.all_eq_true.mp h b (mem_bools b)

theorem binop_mem {op : BOp} {x y res : BoolV} (h : binop op x y = some res) :
    (op, x, y, some res) ∈ Gen.boolTable := by
  unfold binop at h
  split at h
  · rename_i o' x' y' r hget
    split at h
    · rename_i hk
      obtain ⟨h1, h2, h3⟩ := hk
      subst h1; subst h2; subst h3; subst h
      exact List.mem_of_getElem? hget
    · cases h
  · cases h

theorem entryOk_sound {op : BOp} {x y res : BoolV} (hok : entryOk op x y res = true)
    {a b r : Bool} (hx : mem a x) (hy : mem b y) (hc : op.conc a b = some r) : mem r res := by
  have hok' : bools.all (fun a => bools.all (fun b =>
      !(x.has a && y.has b) || (match op.conc a b with | some c => res.has c | none => true))) = true := by
    cases op <;> first | exact hok | cases hc
  have h2 := forall_of_bools (forall_of_bools hok' a) b
  rw [(mem_iff a x).mp hx, (mem_iff b y).mp hy, hc] at h2
  exact (mem_iff r res).mpr (by simpa using h2)

theorem entryOk_upper {op : BOp} (hop : op = .join ∨ op = .widen) {x y res : BoolV}
    (hok : entryOk op x y res = true) {k : Bool} (hk : mem k x ∨ mem k y) : mem k res := by
  have hok' : bools.all (fun c => !(x.has c || y.has c) || res.has c) = true := by
    rcases hop with h | h <;> subst h <;> exact hok
  have h1 := forall_of_bools hok' k
  rcases hk with hk | hk
  · rw [(mem_iff k x).mp hk] at h1; exact (mem_iff k res).mpr (by simpa using h1)
  · rw [(mem_iff k y).mp hk] at h1; exact (mem_iff k res).mpr (by simpa using h1)

theorem entryOk_lower {op : BOp} (hop : op = .meet ∨ op = .narrow) {x y res : BoolV}
    (hok : entryOk op x y res = true) {k : Bool} (hx : mem k x) (hy : mem k y) : mem k res := by
  have hok' : bools.all (fun c => !(x.has c && y.has c) || res.has c) = true := by
    rcases hop with h | h <;> subst h <;> exact hok
  have h1 := forall_of_bools hok' k
  rw [(mem_iff k x).mp hx, (mem_iff k y).mp hy] at h1
  exact (mem_iff k res).mpr (by simpa using h1)

end BoolV
end Crab
