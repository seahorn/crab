import CrabModel.Dom.IntervalDomain

/-!
  Induction over the loops of `linear_interval_solver`.  Every property of the solver in this
  development is established for one call of `propagateTerm` and carried through the nest of loops
  around it (`propagate`, the table, `solve_small_system` / `solve_large_system`, `run`); the
  carrying is done here, once: for a predicate on results of a pass (`propagateLoop_ind`,
  `propagateAll_ind`), and for a predicate on environments up to `run` (`solverRun_ind`).
  What one call does to the solver state is `propagateTerm_ind`: it stores for the pivot one of the
  values `PivotVal`, or nothing.
-/
namespace Crab
namespace IDom
open Lin

theorem propagateLoop_ind {M : Bool × SolverSt → Prop} (c : Cst) : ∀ (ts : List (Var × Int)),
    (∀ p ∈ ts, ∀ st, M (false, st) → M (propagateTerm c st p.1 p.2)) →
    ∀ st, M (false, st) → M (propagateLoop c ts st) := by
  intro ts
  induction ts with
  | nil => intro _ st h; exact h
  | cons p rest ih =>
    intro hstep st h
    have h1 := hstep p List.mem_cons_self st h
    unfold propagateLoop
    generalize propagateTerm c st p.1 p.2 = r at h1
    obtain ⟨b, st'⟩ := r
    cases b
    · exact ih (fun q hq => hstep q (List.mem_cons_of_mem _ hq)) st' h1
    · exact h1

theorem propagateAll_ind {M : Bool × SolverSt → Prop} : ∀ (tbl : List Cst),
    (∀ c ∈ tbl, ∀ p ∈ c.expr.terms, ∀ st, M (false, st) → M (propagateTerm c st p.1 p.2)) →
    ∀ st, M (false, st) → M (propagateAll tbl st) := by
  intro tbl
  induction tbl with
  | nil => intro _ st h; exact h
  | cons c rest ih =>
    intro hstep st h
    have h1 := propagateLoop_ind c c.expr.terms (hstep c List.mem_cons_self) st h
    unfold propagateAll propagate
    generalize propagateLoop c c.expr.terms st = r at h1
    obtain ⟨b, st'⟩ := r
    cases b
    · exact ih (fun q hq => hstep q (List.mem_cons_of_mem _ hq)) st' h1
    · exact h1

/-- what `run` makes of the result of a pass: bottom when a contradiction was found -/
def passEnv : Bool × SolverSt → Env
  | (true, _) => Env.bot
  | (false, st) => st.env

theorem passEnv_of {P : Env → Prop} (hb : P Env.bot) {r : Bool × SolverSt} (h : P r.2.env) : P (passEnv r) := by
  obtain ⟨b, st⟩ := r
  cases b
  · exact h
  · exact hb

theorem residualLoop_ops (env : Env) (pivot : Var) : ∀ (ts : List (Var × Int)) (r : Itv) (n : Nat),
    n ≤ (residualLoop env pivot ts r n).2 := by
  intro ts
  induction ts with
  | nil => intro r n; exact Nat.le_refl n
  | cons p rest ih =>
    obtain ⟨v, c⟩ := p
    intro r n
    unfold residualLoop
    split
    · exact ih r n
    · simp only []
      split
      · exact Nat.le_succ n
      · exact Nat.le_trans (Nat.le_succ n) (ih _ _)

theorem refine_ind {M : Bool × SolverSt → Prop} (st : SolverSt) (v : Var) (i : Itv) (hkeep : M (false, st))
    (hbot : (Itv.meet (st.env.get v) i).isBottom = true → M (true, st))
    (hset : M (false, ⟨st.env.set v (Itv.meet (st.env.get v) i), insertSet st.refined v, st.ops + 1⟩)) :
    M (refine st v i) := by
  unfold refine
  simp only []
  split
  · exact hbot ‹_›
  · split
    · exact hset
    · exact hkeep

/-- the interval `propagate` computes for the pivot: residual divided by the coefficient -/
def pivotRhs (c : Cst) (st : SolverSt) (pivot : Var) (coef : Int) : Itv :=
  if (!(computeResidual c pivot st.env st.ops).1.isTop) = true
  then divT (computeResidual c pivot st.env st.ops).1 (Itv.single coef) else Itv.top

/-- the values one call of `propagate` may give the pivot `x` of coefficient `k`, by kind of
    constraint (`e != 0` only when the division of the residual is exact) -/
inductive PivotVal (c : Cst) (st : SolverSt) (x : Var) (k : Int) : Itv → Prop
  | eq : c.kind = .eq → PivotVal c st x k (Itv.meet (st.env.get x) (pivotRhs c st x k))
  | leqPos : c.kind = .leq → k > 0 →
      PivotVal c st x k (Itv.meet (st.env.get x) (pivotRhs c st x k).lowerHalfLine)
  | leqNeg : c.kind = .leq → ¬ k > 0 →
      PivotVal c st x k (Itv.meet (st.env.get x) (pivotRhs c st x k).upperHalfLine)
  | neq : c.kind = .neq →
      Itv.beq (Itv.mul (pivotRhs c st x k) (Itv.single k)) (computeResidual c x st.env st.ops).1 = true →
      PivotVal c st x k (Itv.trim (st.env.get x) (pivotRhs c st x k))

/-- **one call of `propagate`**: the operation count grows; otherwise the state is kept, or a value
    of `PivotVal` is stored for the pivot, or bottom is reported because such a value is bottom -/
theorem propagateTerm_ind {M : Bool × SolverSt → Prop} (c : Cst) (st : SolverSt) (x : Var) (k : Int)
    (hkeep : ∀ ops, st.ops ≤ ops → M (false, ⟨st.env, st.refined, ops⟩))
    (hbot : ∀ v ops, st.ops ≤ ops → PivotVal c st x k v → v.isBottom = true → M (true, ⟨st.env, st.refined, ops⟩))
    (hset : ∀ v ops, st.ops ≤ ops → PivotVal c st x k v →
      M (false, ⟨st.env.set x v, insertSet st.refined x, ops + 1⟩)) :
    M (propagateTerm c st x k) := by
  have hro : st.ops ≤ (computeResidual c x st.env st.ops).2 := residualLoop_ops _ _ _ _ _
  have href : ∀ i, PivotVal c st x k (Itv.meet (st.env.get x) i) →
      M (refine ⟨st.env, st.refined, (computeResidual c x st.env st.ops).2⟩ x i) := fun i hv =>
    refine_ind _ x i (hkeep _ hro) (hbot _ _ hro hv) (hset _ _ hro hv)
  unfold propagateTerm
  simp only [← pivotRhs.eq_1]
  cases hk : c.kind with
  | eq => exact href _ (.eq hk)
  | leq =>
    dsimp only
    split
    · exact href _ (.leqPos hk ‹_›)
    · exact href _ (.leqNeg hk ‹_›)
  | lt => exact hkeep _ hro
  | neq =>
    dsimp only
    split
    · exact hkeep _ hro
    · rename_i h1
      have hv : PivotVal c st x k _ := .neq hk (by simpa using h1)
      split
      · exact hbot _ _ hro hv ‹_›
      · split
        · exact hset _ _ hro hv
        · exact hkeep _ (Nat.le_succ_of_le hro)

theorem trigger_subset (tbl : List Cst) (vars : List Var) : ∀ c ∈ vars.flatMap (trigger tbl), c ∈ tbl := by
  intro c hc
  obtain ⟨v, _, hv⟩ := List.mem_flatMap.1 hc
  exact (List.mem_filter.1 hv).1

section env
variable {P : Env → Prop} {tbl : List Cst}
  (hstep : ∀ c ∈ tbl, ∀ p ∈ c.expr.terms, ∀ st, P st.env → P (passEnv (propagateTerm c st p.1 p.2)))
include hstep

theorem pass_ind {sub : List Cst} (hsub : ∀ c ∈ sub, c ∈ tbl) (st : SolverSt) (n : Nat) (h : P st.env) :
    P (passEnv (propagateAll sub ⟨st.env, [], n⟩)) :=
  propagateAll_ind (M := fun r => P (passEnv r)) sub (fun c hc => hstep c (hsub c hc)) ⟨st.env, [], n⟩ h

omit hstep in
/-- the loops go on from the result of a pass unless it found a contradiction -/
theorem pass_cont {r : Bool × SolverSt} (h : P (passEnv r)) {k : SolverSt → Bool × SolverSt}
    (hk : ∀ st', P st'.env → P (passEnv (k st'))) :
    P (passEnv (match r with | (true, st') => (true, st') | (false, st') => k st')) := by
  obtain ⟨b, st'⟩ := r
  cases b
  · exact hk st' h
  · exact h

theorem solveSmallLoop_ind : ∀ (fuel : Nat) (st : SolverSt), P st.env →
    P (passEnv (solveSmallLoop tbl fuel st)) := by
  intro fuel
  induction fuel with
  | zero =>
    intro st h; unfold solveSmallLoop
    exact pass_cont (pass_ind hstep (fun _ hc => hc) st st.ops h) fun _ h' => h'
  | succ n ih =>
    intro st h; unfold solveSmallLoop
    refine pass_cont (pass_ind hstep (fun _ hc => hc) st st.ops h) fun st' h' => ?_
    dsimp only; split
    · exact ih st' h'
    · exact h'

theorem solveLargeLoop_ind (maxOp : Nat) : ∀ (fuel : Nat) (st : SolverSt), P st.env →
    P (passEnv (solveLargeLoop tbl maxOp fuel st)) := by
  intro fuel
  induction fuel with
  | zero =>
    intro st h; unfold solveLargeLoop
    exact pass_cont (pass_ind hstep (trigger_subset tbl st.refined) st st.ops h) fun _ h' => h'
  | succ n ih =>
    intro st h; unfold solveLargeLoop
    refine pass_cont (pass_ind hstep (trigger_subset tbl st.refined) st st.ops h) fun st' h' => ?_
    dsimp only; split
    · exact ih st' h'
    · exact h'

theorem solveLarge_ind (maxOp : Nat) (st : SolverSt) (h : P st.env) :
    P (passEnv (solveLarge tbl maxOp st)) := by
  unfold solveLarge
  exact pass_cont (pass_ind hstep (fun _ hc => hc) st 0 h) (solveLargeLoop_ind hstep maxOp _)

end env

/-- the constructor keeps a property `T` of the constraints that survives the splitting of `e < 0`
    into `e <= 0` and `e != 0`; `B` is what a contradiction among them gives -/
theorem prepLoop_ind {T : Cst → Prop} {B : Prop} (hcon : ∀ c, T c → c.isContradiction = true → B)
    (hlt : ∀ c, T c → c.kind = .lt → T ⟨c.expr, .leq⟩ ∧ T ⟨c.expr, .neq⟩) :
    ∀ (csts tbl : List Cst) (opc : Nat), (∀ c ∈ csts, T c) → (∀ c ∈ tbl, T c) →
      ((prepLoop csts tbl opc).contradiction = true → B) ∧ ∀ c ∈ (prepLoop csts tbl opc).tbl, T c := by
  intro csts
  induction csts with
  | nil => intro tbl opc _ ht; exact ⟨fun h => Bool.noConfusion h, ht⟩
  | cons c rest ih =>
    intro tbl opc hc ht
    have hc0 := hc c List.mem_cons_self
    have hrest : ∀ c' ∈ rest, T c' := fun q hq => hc q (List.mem_cons_of_mem _ hq)
    have hsnoc : ∀ {l : List Cst}, (∀ q ∈ l, T q) → ∀ q ∈ tbl ++ l, T q := fun hl q hq =>
      (List.mem_append.1 hq).elim (ht q) (hl q)
    unfold prepLoop
    by_cases h1 : c.isContradiction = true
    · rw [if_pos h1]; exact ⟨fun _ => hcon c hc0 h1, ht⟩
    · rw [if_neg h1]
      by_cases h2 : c.isTautology = true
      · rw [if_pos h2]; exact ih tbl opc hrest ht
      · rw [if_neg h2]
        by_cases hk : c.kind = .lt
        · rw [if_pos hk]
          refine ih _ _ hrest (hsnoc fun q hq => ?_)
          simp only [List.mem_cons, List.not_mem_nil, or_false] at hq
          rcases hq with hq | hq <;> subst hq
          · exact (hlt c hc0 hk).1
          · exact (hlt c hc0 hk).2
        · rw [if_neg hk]
          refine ih _ _ hrest (hsnoc fun q hq => ?_)
          rw [List.mem_singleton.1 hq]; exact hc0

/-- **the solver, for a predicate on environments**: what holds of the environment `run` starts
    from holds of its result, if one step of `propagate` for a term of a constraint of the system
    keeps it and bottom has it (or no constraint is a contradiction) -/
theorem solverRun_ind {P : Env → Prop} {T : Cst → Prop}
    (hcon : ∀ c, T c → c.isContradiction = true → P Env.bot)
    (hlt : ∀ c, T c → c.kind = .lt → T ⟨c.expr, .leq⟩ ∧ T ⟨c.expr, .neq⟩)
    (hstep : ∀ c, T c → ∀ p ∈ c.expr.terms, ∀ st, P st.env → P (passEnv (propagateTerm c st p.1 p.2)))
    {csts : Sys} (hT : ∀ c ∈ csts, T c) (maxCycles : Nat) {env : Env} (h : P env) :
    P (solverRun csts maxCycles env) := by
  obtain ⟨hp1, hp2⟩ := prepLoop_ind hcon hlt csts [] 0 hT (fun _ hc => by cases hc)
  unfold solverRun
  simp only []
  generalize prepLoop csts [] 0 = p at hp1 hp2
  have hstep' := fun c hc => hstep c (hp2 c hc)
  by_cases hc : p.contradiction = true
  · rw [if_pos hc]; exact hp1 hc
  · rw [if_neg hc]
    have hr : ∀ r, P (passEnv r) → P (if r.1 = true then Env.bot else r.2.env) := by
      rintro ⟨b, st'⟩ hr; cases b <;> exact hr
    apply hr
    by_cases hl : (decide (p.tbl.length > largeCstThreshold) || decide (p.opc > largeOpThreshold)) = true
    · rw [if_pos hl]; exact solveLarge_ind hstep' _ ⟨env, [], 0⟩ h
    · rw [if_neg hl]; exact solveSmallLoop_ind hstep' _ ⟨env, [], 0⟩ h

end IDom
end Crab
