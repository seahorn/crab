import CrabProofs.Lemmas.Dbm
import CrabProofs.Lemmas.StateUpd

/-!
  What the canonical zone and octagon models share: a matrix domain with a normal form.  Every query
  and lattice operation of either model is the same function of the closure, and its soundness and
  exactness follow from a few facts about the closure (`Canon.Sound`, `Canon.Laws`), proved here once.

  Such a domain over `n` variables is given by three functions: `ext` reads a program state as a
  valuation of the `N` matrix indices, `close` is the normal form on which the queries are answered,
  and `about x i` says that the value of index `i` depends on the variable `x`.
  Zones: `N = n + 1`, index 0 is valued 0 and index `x + 1` is `x`; `close` is Floyd–Warshall;
  `about x i` is `i = x + 1`.  Octagons: `N = 2n`, the indices are the literals `+x`, `-x`; `close` is
  the tight closure; `about x i` is `varOf i = x`.
  The operations below are written as `Zones.*` and `Octagon.*` are, which therefore unfold to them.
  The three functions are arguments, not fields of a structure: against a projection the unifier
  first unfolds the model's side to the end, and every use of a lemma becomes several times dearer.
-/
namespace Crab
namespace Dbm
namespace Canon
open RelDom

variable {n N : Nat} (ext : (Fin n → Int) → Fin N → Int) (close : Mat N → Mat N)
  (about : Fin n → Fin N → Bool)

def γ (m : Mat N) (σ : Fin n → Int) : Prop := m.sat (ext σ)

def isBottom (m : Mat N) : Bool := (close m).hasNegDiag

/-- does every state of `m` satisfy `v i - v j ≤ k`? -/
def entailsAt (m : Mat N) (i j : Fin N) (k : Int) : Bool :=
  isBottom close m || W.le ((close m).get i j) (some k)

def join (a b : Mat N) : Mat N :=
  if isBottom close a then b else if isBottom close b then a else Mat.pmax (close a) (close b)

def leq (a b : Mat N) : Bool :=
  isBottom close a ||
    (List.finRange N).all fun i => (List.finRange N).all fun j => W.le ((close a).get i j) (b.get i j)

def forget (m : Mat N) (x : Fin n) : Mat N :=
  if isBottom close m then m else (close m).dropIdx (about x)

def forgetAll (m : Mat N) (xs : List (Fin n)) : Mat N := xs.foldl (forget close about) m

def project (m : Mat N) (keep : List (Fin n)) : Mat N :=
  forgetAll close about m ((List.finRange n).filter fun x => !keep.contains x)

theorem leq_top (a : Mat N) : leq close a Mat.top = true := by
  simp [leq, Mat.top, W.le_none]

/-- What makes every operation sound, on all matrices: the closure only lowers entries (`close_LE`:
    reflexivity of `leq`), keeps the states (`close_γ`: everything else), and an index that is not
    about `x` does not see an update of `x` (`ext_upd`: `forget`). -/
structure Sound : Prop where
  close_LE : ∀ m, Mat.LE (close m) m
  close_γ : ∀ m σ, γ ext (close m) σ ↔ γ ext m σ
  ext_upd : ∀ σ x t i, about x i = false → ext (upd σ x t) i = ext σ i

/-- What makes every operation exact, on the matrices of an invariant `Inv` that `forget` keeps
    (`inv_forget`: several variables): a consistent closure has a state (`point`: the emptiness test),
    its entries are below every bound valid on the states (`tight`: entailment, inclusion test, least
    join), and a state of the entries that are not about `x` extends to `x` (`extend`: projection). -/
structure Laws (Inv : Mat N → Prop) : Prop extends Sound ext close about where
  point : ∀ m, Inv m → isBottom close m = false → ∃ σ, γ ext m σ
  tight : ∀ m, Inv m → isBottom close m = false → ∀ i j k,
    (∀ σ, γ ext m σ → ext σ i - ext σ j ≤ k) → W.LE ((close m).get i j) (some k)
  extend : ∀ m, Inv m → isBottom close m = false → ∀ x σ,
    (∀ i j k, about x i = false → about x j = false → (close m).get i j = some k →
      ext σ i - ext σ j ≤ k) → ∃ t, γ ext m (upd σ x t)
  inv_forget : ∀ m x, Inv m → Inv (forget close about m x)

variable {ext close about}

namespace Sound
variable (L : Sound ext close about)
include L

theorem bottom_sound {m : Mat N} (h : isBottom close m = true) (σ : Fin n → Int) : ¬ γ ext m σ :=
  fun hσ => Mat.not_sat_of_hasNegDiag h _ ((L.close_γ m σ).2 hσ)

theorem isBottom_false_of_γ {m : Mat N} {σ : Fin n → Int} (h : γ ext m σ) : isBottom close m = false := by
  cases hb : isBottom close m
  · rfl
  · exact absurd h (L.bottom_sound hb σ)

/-- a bound the closure lists holds of every state -/
theorem entry_implied {m : Mat N} {i j : Fin N} {k : Int} (h : W.LE ((close m).get i j) (some k))
    {σ : Fin n → Int} (hσ : γ ext m σ) : ext σ i - ext σ j ≤ k :=
  W.LE_some_some.1 (W.LE_trans (Mat.sat_get ((L.close_γ m σ).2 hσ) i j) h)

theorem entailsAt_sound {m : Mat N} {i j : Fin N} {k : Int} (h : entailsAt close m i j k = true)
    {σ : Fin n → Int} (hσ : γ ext m σ) : ext σ i - ext σ j ≤ k := by
  unfold entailsAt at h
  rw [L.isBottom_false_of_γ hσ, Bool.false_or, W.le_iff] at h
  exact L.entry_implied h hσ

theorem join_upper (a b : Mat N) (σ : Fin n → Int) (h : γ ext a σ ∨ γ ext b σ) :
    γ ext (join close a b) σ := by
  unfold join
  rcases h with h | h
  · rw [L.isBottom_false_of_γ h, if_neg Bool.false_ne_true]
    split
    · exact h
    · exact Mat.pmax_sat_left _ _ _ ((L.close_γ a σ).2 h)
  · split
    · exact h
    · rw [L.isBottom_false_of_γ h, if_neg Bool.false_ne_true]
      exact Mat.pmax_sat_right _ _ _ ((L.close_γ b σ).2 h)

theorem leq_sound {a b : Mat N} (h : leq close a b = true) {σ : Fin n → Int} (hσ : γ ext a σ) :
    γ ext b σ := by
  unfold leq at h
  rw [L.isBottom_false_of_γ hσ, Bool.false_or] at h
  simp only [List.all_eq_true, List.mem_finRange, forall_const, W.le_iff] at h
  exact fun i j k hk => L.entry_implied (hk ▸ h i j) hσ

theorem leq_refl (a : Mat N) : leq close a a = true := by
  unfold leq
  simp only [Bool.or_eq_true, List.all_eq_true, List.mem_finRange, forall_const, W.le_iff]
  exact Or.inr (L.close_LE a)

/-- `forget` contains every state that differs from a state of `m` on `x` only -/
theorem forget_sound (m : Mat N) (x : Fin n) (σ σ' : Fin n → Int) (h : γ ext m σ)
    (hσ : ∀ y, y ≠ x → σ' y = σ y) : γ ext (forget close about m x) σ' := by
  unfold forget
  rw [L.isBottom_false_of_γ h, if_neg Bool.false_ne_true]
  intro i j k hk
  simp only [Mat.dropIdx, Mat.get_ofFn] at hk
  split at hk
  · cases hk
  · rename_i hp
    simp only [Bool.or_eq_true, not_or, Bool.not_eq_true] at hp
    rw [← upd_of_agree hσ, L.ext_upd _ _ _ _ hp.1, L.ext_upd _ _ _ _ hp.2]
    exact (L.close_γ m σ).2 h i j k hk

theorem forgetAll_sound (xs : List (Fin n)) (m : Mat N) (σ σ' : Fin n → Int) (h : γ ext m σ)
    (hσ : ∀ y, y ∉ xs → σ' y = σ y) : γ ext (forgetAll close about m xs) σ' :=
  foldl_forget_sound (γ := γ ext) L.forget_sound xs m σ σ' h hσ

theorem project_sound (keep : List (Fin n)) (m : Mat N) (σ σ' : Fin n → Int) (h : γ ext m σ)
    (hσ : ∀ y, y ∈ keep → σ' y = σ y) : γ ext (project close about m keep) σ' :=
  L.forgetAll_sound _ m σ σ' h fun y hy => hσ y ((not_mem_projList keep y).1 hy)

end Sound

namespace Laws
variable {Inv : Mat N → Prop} (L : Laws ext close about Inv)
include L

theorem bottom_iff_unsat {m : Mat N} (hm : Inv m) : isBottom close m = true ↔ ¬ ∃ σ, γ ext m σ := by
  refine ⟨fun h ⟨σ, hσ⟩ => L.bottom_sound h σ hσ, fun h => ?_⟩
  cases hb : isBottom close m
  · exact absurd (L.point m hm hb) h
  · rfl

theorem isBottom_iff {m : Mat N} (hm : Inv m) : isBottom close m = true ↔ ∀ σ, ¬ γ ext m σ :=
  (L.bottom_iff_unsat hm).trans not_exists

theorem entailsAt_iff {m : Mat N} (hm : Inv m) (i j : Fin N) (k : Int) :
    entailsAt close m i j k = true ↔ ∀ σ, γ ext m σ → ext σ i - ext σ j ≤ k := by
  refine ⟨fun h σ hσ => L.entailsAt_sound h hσ, fun h => ?_⟩
  unfold entailsAt
  cases hb : isBottom close m
  · rw [Bool.false_or, W.le_iff]; exact L.tight m hm hb i j k h
  · rfl

/-- the closure of `a` is below every entry of a matrix that holds the states of `a` -/
theorem entry_LE_of_subset {a b : Mat N} (ha : Inv a) (hb : isBottom close a = false)
    (h : ∀ σ, γ ext a σ → γ ext b σ) {i j : Fin N} {k : Int} (hk : b.get i j = some k) :
    W.LE ((close a).get i j) (some k) :=
  L.tight a ha hb i j k fun σ hσ => h σ hσ i j k hk

theorem leq_iff {a : Mat N} (ha : Inv a) (b : Mat N) :
    leq close a b = true ↔ ∀ σ, γ ext a σ → γ ext b σ := by
  refine ⟨fun h σ hσ => L.leq_sound h hσ, fun h => ?_⟩
  unfold leq
  cases hb : isBottom close a
  · simp only [Bool.false_or, List.all_eq_true, List.mem_finRange, forall_const, W.le_iff]
    exact fun i j k hk => L.entry_LE_of_subset ha hb h hk k rfl
  · rfl

theorem top_leq_iff (ht : Inv Mat.top) (m : Mat N) : leq close Mat.top m = true ↔ ∀ σ, γ ext m σ :=
  (L.leq_iff ht m).trans ⟨fun h σ => h σ (Mat.top_sat _), fun h σ _ => h σ⟩

theorem join_least {a b : Mat N} (ha : Inv a) (hb : Inv b) (c : Mat N)
    (hac : ∀ σ, γ ext a σ → γ ext c σ) (hbc : ∀ σ, γ ext b σ → γ ext c σ) (σ : Fin n → Int)
    (h : γ ext (join close a b) σ) : γ ext c σ := by
  unfold join at h
  cases hba : isBottom close a
  · cases hbb : isBottom close b
    · rw [hba, hbb, if_neg Bool.false_ne_true, if_neg Bool.false_ne_true] at h
      refine Mat.sat_of_LE (fun i j => ?_) h
      simp only [Mat.pmax, Mat.get_ofFn]
      intro k hk
      exact W.max_LE_iff.2 ⟨L.entry_LE_of_subset ha hba hac hk, L.entry_LE_of_subset hb hbb hbc hk⟩ k rfl
    · rw [hba, hbb, if_neg Bool.false_ne_true, if_pos rfl] at h
      exact hac σ h
  · rw [hba, if_pos rfl] at h
    exact hbc σ h

/-- `forget` is existential quantification of `x` -/
theorem forget_exact {m : Mat N} (hm : Inv m) (x : Fin n) (σ : Fin n → Int) :
    γ ext (forget close about m x) σ ↔ ∃ t, γ ext m (upd σ x t) := by
  refine ⟨fun h => ?_, fun ⟨t, h⟩ => L.forget_sound m x _ σ h fun y hy => (upd_ne σ t hy).symm⟩
  unfold forget at h
  cases hb : isBottom close m
  · rw [hb, if_neg Bool.false_ne_true] at h
    refine L.extend m hm hb x σ fun i j k hi hj hk => h i j k ?_
    simp only [Mat.dropIdx, Mat.get_ofFn, hi, hj, Bool.or_self, Bool.false_eq_true, if_false, hk]
  · rw [hb, if_pos rfl] at h
    exact absurd h (L.bottom_sound hb σ)

/-- .. that is, the post-image of the havoc of `x` -/
theorem forget_post {m : Mat N} (hm : Inv m) (x : Fin n) (σ' : Fin n → Int) :
    γ ext (forget close about m x) σ' ↔ ∃ σ, γ ext m σ ∧ ∀ y, y ≠ x → σ' y = σ y :=
  (L.forget_exact hm x σ').trans (havoc_post (P := γ ext m) σ')

theorem inv_forgetAll (xs : List (Fin n)) {m : Mat N} (hm : Inv m) : Inv (forgetAll close about m xs) :=
  List.foldlRecOn xs _ hm fun m hm x _ => L.inv_forget m x hm

theorem forgetAll_post (xs : List (Fin n)) {m : Mat N} (hm : Inv m) (σ' : Fin n → Int) :
    γ ext (forgetAll close about m xs) σ' ↔ ∃ σ, γ ext m σ ∧ ∀ y, y ∉ xs → σ' y = σ y :=
  ⟨foldl_forget_complete (γ := γ ext) (Inv := Inv) L.inv_forget
      (fun _ x σ' hm => (L.forget_post hm x σ').1) xs m hm σ',
    fun ⟨σ, h, hσ⟩ => L.forgetAll_sound xs m σ σ' h hσ⟩

theorem project_post (keep : List (Fin n)) {m : Mat N} (hm : Inv m) (σ' : Fin n → Int) :
    γ ext (project close about m keep) σ' ↔ ∃ σ, γ ext m σ ∧ ∀ y, y ∈ keep → σ' y = σ y := by
  unfold project
  simp only [L.forgetAll_post _ hm, not_mem_projList]

/-- forget `x`, then assume `x = e` for an `e` that does not read `x`: the post-image of `x := e` -/
theorem assign_post {m : Mat N} (hm : Inv m) (x : Fin n) (e : (Fin n → Int) → Int)
    (he : ∀ σ t, e (upd σ x t) = e σ) (σ' : Fin n → Int) :
    (γ ext (forget close about m x) σ' ∧ σ' x = e σ') ↔ ∃ σ, γ ext m σ ∧ σ' = upd σ x (e σ) := by
  rw [L.forget_exact hm]
  exact RelDom.assign_post (P := γ ext m) he σ'

end Laws
end Canon
end Dbm
end Crab
