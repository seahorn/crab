import CrabProofs.Lemmas.DbmIncrSplit

/-!
  Every write of `close_over_edge` / `close_after_assign` is a RELAXATION of one edge
  (`relax g s w d`: the edge `s → d` becomes `min(old, w)`): `update_edge(.., min_op)` by
  definition, `set_edge` because it is guarded by `w.get() <= wt → continue`, `add_edge` /
  `delta.push_back` because the edge is absent.

  `Btw G g` is the one notion of soundness of all loops: `g` is below the start graph `G` and every
  solution of `G` is a solution of `g`.  `Snd G g` asks this of the graph and of its edges among
  variables (`varPart`), and that no self loop is written.
-/
namespace Crab
namespace DbmIncr
open Dbm Zones

variable {n : Nat}

/-- the edge `s → d` becomes `min(old, w)` -/
def relax (g : Zone n) (s : Fin (n + 1)) (w : Int) (d : Fin (n + 1)) : Zone n := g.addEdge d s w

theorem edge_relax (g : Zone n) (s d a b : Fin (n + 1)) (w : Int) :
    edge (relax g s w d) a b = if a = s ∧ b = d then W.min (edge g s d) (some w) else edge g a b := by
  simp only [edge, relax, Mat.addEdge, Mat.get_ofFn]
  by_cases h : b = d ∧ a = s
  · obtain ⟨rfl, rfl⟩ := h; simp
  · have : ¬ (a = s ∧ b = d) := fun h' => h ⟨h'.2, h'.1⟩
    simp [h, this]

theorem edge_relax_self (g : Zone n) (s d : Fin (n + 1)) (w : Int) :
    edge (relax g s w d) s d = W.min (edge g s d) (some w) := by simp [edge_relax]

theorem edge_relax_ne (g : Zone n) {s d a b : Fin (n + 1)} (w : Int) (h : ¬ (a = s ∧ b = d)) :
    edge (relax g s w d) a b = edge g a b := by simp [edge_relax, h]

theorem edge_setEdge (g : Zone n) (s d a b : Fin (n + 1)) (w : Int) :
    edge (setEdge g s w d) a b = if a = s ∧ b = d then some w else edge g a b := by
  simp only [edge, setEdge, Mat.get_ofFn]
  by_cases h : b = d ∧ a = s
  · obtain ⟨rfl, rfl⟩ := h; simp
  · have : ¬ (a = s ∧ b = d) := fun h' => h ⟨h'.2, h'.1⟩
    simp [h, this]

theorem ext_edge {g h : Zone n} (e : ∀ a b, edge g a b = edge h a b) : g = h :=
  Mat.ext_get fun i j => e j i

/-- a guarded `set_edge` / an `add_edge` of an absent edge is a relaxation -/
theorem setEdge_eq_relax {g : Zone n} {s d : Fin (n + 1)} {w : Int}
    (h : ∀ k, edge g s d = some k → w ≤ k) : setEdge g s w d = relax g s w d := by
  apply ext_edge
  intro a b
  rw [edge_setEdge, edge_relax]
  by_cases hab : a = s ∧ b = d
  · simp only [hab, and_self, if_true]
    rcases hk : edge g s d with _ | k
    · simp
    · have := h k hk
      simp only [W.min_some_some]; congr 1; omega
  · simp [hab]

theorem updEdge_eq_relax (g : Zone n) (s d : Fin (n + 1)) (w : Int) : updEdge g s w d = relax g s w d := by
  unfold updEdge
  rcases hk : edge g s d with _ | k
  · exact setEdge_eq_relax (fun k h => by rw [hk] at h; cases h)
  · simp only
    apply ext_edge
    intro a b
    rw [edge_setEdge, edge_relax]
    by_cases hab : a = s ∧ b = d
    · simp only [hab, and_self, if_true, hk, W.min_some_some, Int.min_def]
    · simp [hab]

theorem closeBounds_eq (g : Zone n) (a b : Fin (n + 1)) (wt : Int) :
    closeBounds g a b wt =
      (let g1 := match edge g 0 a with
        | some w => relax g 0 (w + wt) b
        | none => g
       match edge g1 b 0 with
       | some w => relax g1 a (w + wt) 0
       | none => g1) := by
  simp only [closeBounds, updEdge_eq_relax]
  rfl

theorem relax_sat (g : Zone n) (a b : Fin (n + 1)) (k : Int) (v : Fin (n + 1) → Int) :
    (relax g a k b).sat v ↔ (g.sat v ∧ v b - v a ≤ k) := Mat.addEdge_sat g b a k v


theorem edge_applyDelta (δ : List (Fin (n + 1) × Fin (n + 1) × Int)) (g : Zone n)
    (a b : Fin (n + 1)) (k : Int)
    (hk : ∀ e ∈ δ, e.1 = a → e.2.1 = b → e.2.2 = k) :
    edge (applyDelta g δ) a b =
      if (∃ e ∈ δ, e.1 = a ∧ e.2.1 = b) then some k else edge g a b := by
  induction δ generalizing g with
  | nil => simp [applyDelta]
  | cons e δ ih =>
    have ih' := ih (setEdge g e.1 e.2.2 e.2.1) (fun e' he' => hk e' (List.mem_cons_of_mem _ he'))
    simp only [applyDelta, List.foldl_cons] at ih' ⊢
    rw [ih']
    by_cases hm : e.1 = a ∧ e.2.1 = b
    · have h1 : ∃ e' ∈ e :: δ, e'.1 = a ∧ e'.2.1 = b := ⟨e, List.mem_cons_self .., hm⟩
      have hw : e.2.2 = k := hk e (List.mem_cons_self ..) hm.1 hm.2
      simp only [h1, if_true]
      split
      · rfl
      · rw [edge_setEdge]; simp [hm, hw]
    · have hiff : (∃ e' ∈ e :: δ, e'.1 = a ∧ e'.2.1 = b) ↔ (∃ e' ∈ δ, e'.1 = a ∧ e'.2.1 = b) := by
        constructor
        · rintro ⟨e', he', h'⟩
          rcases List.mem_cons.1 he' with rfl | he'
          · exact absurd h' hm
          · exact ⟨e', he', h'⟩
        · rintro ⟨e', he', h'⟩; exact ⟨e', List.mem_cons_of_mem _ he', h'⟩
      simp only [hiff]
      split
      · rfl
      · rw [edge_setEdge]
        have : ¬ (a = e.1 ∧ b = e.2.1) := fun h => hm ⟨h.1.symm, h.2.symm⟩
        simp [this]

theorem edge_applyDelta_none (δ : List (Fin (n + 1) × Fin (n + 1) × Int)) (g : Zone n)
    (a b : Fin (n + 1)) (h : ∀ e ∈ δ, ¬ (e.1 = a ∧ e.2.1 = b)) :
    edge (applyDelta g δ) a b = edge g a b := by
  rw [edge_applyDelta δ g a b 0 (fun e he h1 h2 => absurd ⟨h1, h2⟩ (h e he))]
  have : ¬ ∃ e ∈ δ, e.1 = a ∧ e.2.1 = b := fun ⟨e, he, hh⟩ => h e he hh
  simp only [this, if_false]


def Dec (g' g : Zone n) : Prop := ∀ a b, W.LE (edge g' a b) (edge g a b)

theorem Dec.refl (g : Zone n) : Dec g g := fun _ _ => W.LE_refl _
theorem Dec.trans {a b c : Zone n} (h1 : Dec a b) (h2 : Dec b c) : Dec a c :=
  fun x y => W.LE_trans (h1 x y) (h2 x y)

theorem relax_dec (g : Zone n) (s d : Fin (n + 1)) (w : Int) : Dec (relax g s w d) g := by
  intro a b
  rw [edge_relax]
  split
  · rename_i h; obtain ⟨rfl, rfl⟩ := h; exact W.min_LE_left _ _
  · exact W.LE_refl _

theorem relax_le_val (g : Zone n) (s d : Fin (n + 1)) (w : Int) :
    W.LE (edge (relax g s w d) s d) (some w) := by
  rw [edge_relax_self]; exact W.min_LE_right _ _

theorem closeBounds_dec (g : Zone n) (a b : Fin (n + 1)) (wt : Int) : Dec (closeBounds g a b wt) g := by
  rw [closeBounds_eq]
  rcases h1 : edge g 0 a with _ | x <;> simp only
  · rcases h2 : edge g b 0 with _ | y <;> simp only
    · exact Dec.refl g
    · exact relax_dec _ _ _ _
  · rcases h2 : edge (relax g 0 (x + wt) b) b 0 with _ | y <;> simp only
    · exact relax_dec _ _ _ _
    · exact Dec.trans (relax_dec _ _ _ _) (relax_dec _ _ _ _)

theorem closeBounds_frame (g : Zone n) (a b : Fin (n + 1)) (wt : Int) {x y : Fin (n + 1)}
    (h1 : ¬ (x = 0 ∧ y = b)) (h2 : ¬ (x = a ∧ y = 0)) :
    edge (closeBounds g a b wt) x y = edge g x y := by
  rw [closeBounds_eq]
  rcases e1 : edge g 0 a with _ | u <;> simp only
  · rcases e2 : edge g b 0 with _ | v <;> simp only
    rw [edge_relax_ne _ _ h2]
  · rcases e2 : edge (relax g 0 (u + wt) b) b 0 with _ | v <;> simp only
    · rw [edge_relax_ne _ _ h1]
    · rw [edge_relax_ne _ _ h2, edge_relax_ne _ _ h1]

/-- first update of `closeBounds`: `0 → b` is at most `(0 → a) + wt` -/
theorem closeBounds_ub0 (g : Zone n) {a b : Fin (n + 1)} (wt : Int) {x : Int}
    (hx : edge g 0 a = some x) : W.LE (edge (closeBounds g a b wt) 0 b) (some (x + wt)) := by
  rw [closeBounds_eq]
  simp only [hx]
  have h0 : W.LE (edge (relax g 0 (x + wt) b) 0 b) (some (x + wt)) := relax_le_val _ _ _ _
  rcases e2 : edge (relax g 0 (x + wt) b) b 0 with _ | v <;> simp only
  · exact h0
  · exact W.LE_trans (relax_dec _ _ _ _ 0 b) h0

/-- second update of `closeBounds`: `a → 0` is at most `(b → 0) + wt` -/
theorem closeBounds_ub1 (g : Zone n) {a b : Fin (n + 1)} (wt : Int) (hb : b ≠ 0) {y : Int}
    (hy : edge g b 0 = some y) : W.LE (edge (closeBounds g a b wt) a 0) (some (y + wt)) := by
  rw [closeBounds_eq]
  have hne : ¬ (b = (0 : Fin (n + 1)) ∧ (0 : Fin (n + 1)) = b) := fun h => hb h.1
  rcases e1 : edge g 0 a with _ | u <;> simp only
  · simp only [hy]; exact relax_le_val _ _ _ _
  · have : edge (relax g 0 (u + wt) b) b 0 = some y := by rw [edge_relax_ne _ _ hne, hy]
    simp only [this]; exact relax_le_val _ _ _ _


theorem sat_edge {G : Zone n} {v : Fin (n + 1) → Int} (h : G.sat v) {a b : Fin (n + 1)} {k : Int}
    (hk : edge G a b = some k) : v b - v a ≤ k := h b a k hk

/-- `Btw G g` = between: `g` came from `G` by lowering edges to values that every solution of `G`
    respects, so it lies between `G` and the closure of `G` and has the solutions of `G`.  A write
    is sound when a solution of `G`, which respects the edges just read, respects the sum written. -/
structure Btw (G g : Zone n) : Prop where
  dec : Dec g G
  sol : ∀ v, G.sat v → g.sat v

variable {G g : Zone n}

theorem Btw.refl (G : Zone n) : Btw G G := ⟨Dec.refl _, fun _ h => h⟩

theorem Btw.sat_iff (h : Btw G g) (v : Fin (n + 1) → Int) : g.sat v ↔ G.sat v :=
  ⟨Mat.sat_of_LE (fun a b => h.dec b a), h.sol v⟩

theorem Btw.relax (h : Btw G g) {s d : Fin (n + 1)} {w : Int}
    (hw : ∀ v, G.sat v → v d - v s ≤ w) : Btw G (relax g s w d) :=
  ⟨Dec.trans (relax_dec _ _ _ _) h.dec, fun v hv => (relax_sat _ _ _ _ _).2 ⟨h.sol v hv, hw v hv⟩⟩

theorem Btw.le (h : Btw G g) {a b : Fin (n + 1)} {x : Int} (hx : edge g a b = some x)
    {v : Fin (n + 1) → Int} (hv : G.sat v) : v b - v a ≤ x := sat_edge (h.sol v hv) hx

theorem sat_varPart {v : Fin (n + 1) → Int} (h : G.sat v) : (varPart G).sat v := by
  intro i j k hk
  simp only [varPart_get] at hk
  split at hk
  · rename_i e; cases hk; subst e; omega
  · split at hk
    · cases hk
    · exact h i j k hk

theorem edge_varPart (g : Zone n) {a b : Fin (n + 1)} (ha : a ≠ 0) (hb : b ≠ 0) (hab : a ≠ b) :
    edge (varPart g) a b = edge g a b := by
  have e : ¬ (b = a) := fun e => hab e.symm
  simp [edge, varPart_get, ha, hb, e]

theorem varPart_relax_var (g : Zone n) {s d : Fin (n + 1)} (hs : s ≠ 0) (hd : d ≠ 0) (hsd : s ≠ d)
    (w : Int) : varPart (relax g s w d) = relax (varPart g) s w d := by
  apply Mat.ext_get
  intro a b
  simp only [varPart_get, relax, Mat.addEdge, Mat.get_ofFn]
  by_cases hab : a = d ∧ b = s
  · obtain ⟨rfl, rfl⟩ := hab
    have : ¬ (a = b) := fun e => hsd e.symm
    simp [this, hs, hd]
  · simp only [hab, if_false]

theorem varPart_relax_bnd (g : Zone n) {s d : Fin (n + 1)} (h0 : s = 0 ∨ d = 0) (w : Int) :
    varPart (relax g s w d) = varPart g := by
  apply Mat.ext_get
  intro i j
  simp only [varPart_get]
  by_cases hij : i = j
  · simp [hij]
  by_cases hz : i = 0 ∨ j = 0
  · simp [hij, hz]
  simp only [hij, hz, if_false]
  exact edge_relax_ne g w (fun e => by
    rcases h0 with h0 | h0
    · exact hz (Or.inr (e.1.trans h0))
    · exact hz (Or.inl (e.2.trans h0)))

/-- `Snd` = sound, the invariant shared by all loops of `close_over_edge`: the current graph `g` came
    from the start graph `G` by sound relaxations, its edges among variables from those of `G`
    alone (so they stay above the closure of the variable subgraph); no self loop is written -/
structure Snd (G g : Zone n) : Prop where
  full : Btw G g
  var : Btw (varPart G) (varPart g)
  noLoop : NoSelfLoop g

theorem Snd.refl (hl : NoSelfLoop G) : Snd G G := ⟨Btw.refl _, Btw.refl _, hl⟩

theorem Snd.dec (h : Snd G g) : Dec g G := h.full.dec

/-- a solution of the variable subgraph of `G` respects the edges among variables of `g` -/
theorem Snd.var_le (h : Snd G g) {a b : Fin (n + 1)} {x : Int} (ha : a ≠ 0) (hb : b ≠ 0)
    (hx : edge g a b = some x) {v : Fin (n + 1) → Int} (hv : (varPart G).sat v) : v b - v a ≤ x := by
  have hab : a ≠ b := fun e => by subst e; rw [show edge g a a = none from h.noLoop a] at hx; cases hx
  exact h.var.le ((edge_varPart g ha hb hab).trans hx) hv

theorem noLoop_relax (hl : NoSelfLoop g) {s d : Fin (n + 1)} (hsd : s ≠ d) (w : Int) :
    NoSelfLoop (relax g s w d) := fun a =>
  (edge_relax_ne g w (fun hh => hsd (hh.1.symm.trans hh.2))).trans (hl a)

/-- an edge among variables is relaxed to a value implied by the edges among variables -/
theorem Snd.relax_var (h : Snd G g) {s d : Fin (n + 1)} {w : Int} (hs : s ≠ 0) (hd : d ≠ 0)
    (hsd : s ≠ d) (hw : ∀ v, (varPart G).sat v → v d - v s ≤ w) : Snd G (relax g s w d) := by
  refine ⟨h.full.relax (fun v hv => hw v (sat_varPart hv)), ?_, noLoop_relax h.noLoop hsd w⟩
  rw [varPart_relax_var g hs hd hsd w]
  exact h.var.relax hw

/-- a bound edge is relaxed to an implied value -/
theorem Snd.relax_bnd (h : Snd G g) {s d : Fin (n + 1)} {w : Int} (h0 : s = 0 ∨ d = 0) (hsd : s ≠ d)
    (hw : ∀ v, G.sat v → v d - v s ≤ w) : Snd G (relax g s w d) := by
  refine ⟨h.full.relax hw, ?_, noLoop_relax h.noLoop hsd w⟩
  rw [varPart_relax_bnd g h0 w]
  exact h.var

theorem Snd.closeBounds (h : Snd G g) {a b : Fin (n + 1)} {wt : Int} (ha : a ≠ 0) (hb : b ≠ 0)
    (hw : ∀ v, G.sat v → v b - v a ≤ wt) : Snd G (closeBounds g a b wt) := by
  rw [closeBounds_eq]
  have step1 : ∀ u, edge g 0 a = some u → Snd G (DbmIncr.relax g 0 (u + wt) b) := fun u hu =>
    h.relax_bnd (Or.inl rfl) (Ne.symm hb) (fun v hv => by
      have := h.full.le hu hv; have := hw v hv; omega)
  have step2 : ∀ g1 : Zone n, Snd G g1 → ∀ y, edge g1 b 0 = some y →
      Snd G (DbmIncr.relax g1 a (y + wt) 0) := fun g1 h1 y hy =>
    h1.relax_bnd (Or.inr rfl) ha (fun v hv => by
      have := h1.full.le hy hv; have := hw v hv; omega)
  rcases e1 : edge g 0 a with _ | u <;> simp only
  · rcases e2 : edge g b 0 with _ | y <;> simp only
    · exact h
    · exact step2 g h y e2
  · rcases e2 : edge (DbmIncr.relax g 0 (u + wt) b) b 0 with _ | y <;> simp only
    · exact step1 u e1
    · exact step2 _ (step1 u e1) y e2


/-- relax `s → d` to `wt`, then (under `close_bounds_inline`) the two bounds through it -/
def improve (inl : Bool) (g : Zone n) (s : Fin (n + 1)) (wt : Int) (d : Fin (n + 1)) : Zone n :=
  if inl then closeBounds (relax g s wt d) s d wt else relax g s wt d

theorem improve_false (g : Zone n) (s d : Fin (n + 1)) (wt : Int) :
    improve false g s wt d = relax g s wt d := if_neg Bool.false_ne_true
theorem improve_true (g : Zone n) (s d : Fin (n + 1)) (wt : Int) :
    improve true g s wt d = closeBounds (relax g s wt d) s d wt := if_pos rfl

section
variable (inl : Bool) (g : Zone n) (s d : Fin (n + 1)) (wt : Int)

theorem improve_dec : Dec (improve inl g s wt d) g := by
  cases inl
  · rw [improve_false]; exact relax_dec _ _ _ _
  · rw [improve_true]; exact Dec.trans (closeBounds_dec _ _ _ _) (relax_dec _ _ _ _)

theorem improve_le_val : W.LE (edge (improve inl g s wt d) s d) (some wt) := by
  cases inl
  · rw [improve_false]; exact relax_le_val _ _ _ _
  · rw [improve_true]; exact W.LE_trans (closeBounds_dec _ _ _ _ _ _) (relax_le_val _ _ _ _)

/-- written: `s → d`, and under `close_bounds_inline` also `0 → d` and `s → 0` -/
theorem improve_frame {x y : Fin (n + 1)} (h : ¬ (x = s ∧ y = d))
    (h1 : inl = true → ¬ (x = 0 ∧ y = d)) (h2 : inl = true → ¬ (x = s ∧ y = 0)) :
    edge (improve inl g s wt d) x y = edge g x y := by
  cases inl
  · rw [improve_false]; exact edge_relax_ne _ _ h
  · rw [improve_true, closeBounds_frame _ _ _ _ (h1 rfl) (h2 rfl)]; exact edge_relax_ne _ _ h

variable {g s d}

theorem improve_ub0 (hs : s ≠ 0) {x : Int} (hx : edge g 0 s = some x) :
    W.LE (edge (improve true g s wt d) 0 d) (some (x + wt)) := by
  rw [improve_true]
  exact closeBounds_ub0 _ _ ((edge_relax_ne _ _ (fun h => hs h.1.symm)).trans hx)

theorem improve_ub1 (hd : d ≠ 0) {y : Int} (hy : edge g d 0 = some y) :
    W.LE (edge (improve true g s wt d) s 0) (some (y + wt)) := by
  rw [improve_true]
  exact closeBounds_ub1 _ _ hd ((edge_relax_ne _ _ (fun h => hd h.2.symm)).trans hy)

end

theorem Snd.improve (h : Snd G g) (inl : Bool) {s d : Fin (n + 1)} {wt : Int}
    (hs : s ≠ 0) (hd : d ≠ 0) (hsd : s ≠ d) (hw : ∀ v, (varPart G).sat v → v d - v s ≤ wt) :
    Snd G (improve inl g s wt d) := by
  have s1 := h.relax_var hs hd hsd hw
  cases inl
  · rw [improve_false]; exact s1
  · rw [improve_true]; exact s1.closeBounds hs hd (fun v hv => hw v (sat_varPart hv))

/-! ### the two directions

  The loop over the predecessors of `ii` and the loop over the successors of `jj` are mirror
  images: `rd fwd g a b` is the edge between `a` and `b` as the loop reads it, `a → b` in the
  first (`fwd`), `b → a` in the second; likewise `improveD`. -/

/-- `rd` = read in the direction `fwd` -/
def rd (fwd : Bool) (g : Zone n) (a b : Fin (n + 1)) : W := if fwd then edge g a b else edge g b a

/-- `improve` in the direction `fwd` -/
def improveD (fwd inl : Bool) (g : Zone n) (a : Fin (n + 1)) (wt : Int) (b : Fin (n + 1)) : Zone n :=
  if fwd then improve inl g a wt b else improve inl g b wt a

@[simp] theorem rd_true (g : Zone n) (a b : Fin (n + 1)) : rd true g a b = edge g a b := rfl
@[simp] theorem rd_false (g : Zone n) (a b : Fin (n + 1)) : rd false g a b = edge g b a := rfl
theorem improveD_true (inl : Bool) (g : Zone n) (a b : Fin (n + 1)) (wt : Int) :
    improveD true inl g a wt b = improve inl g a wt b := if_pos rfl
theorem improveD_false (inl : Bool) (g : Zone n) (a b : Fin (n + 1)) (wt : Int) :
    improveD false inl g a wt b = improve inl g b wt a := if_neg Bool.false_ne_true

theorem Dec.rd {g' g : Zone n} (h : Dec g' g) (fwd : Bool) (a b : Fin (n + 1)) :
    W.LE (rd fwd g' a b) (rd fwd g a b) := by
  cases fwd
  · exact h b a
  · exact h a b

section
variable (fwd inl : Bool) (g : Zone n) (a b : Fin (n + 1)) (wt : Int)

theorem improveD_dec : Dec (improveD fwd inl g a wt b) g := by
  cases fwd
  · rw [improveD_false]; exact improve_dec _ _ _ _ _
  · rw [improveD_true]; exact improve_dec _ _ _ _ _

theorem rd_improveD_le : W.LE (rd fwd (improveD fwd inl g a wt b) a b) (some wt) := by
  cases fwd
  · rw [improveD_false, rd_false]; exact improve_le_val _ _ _ _ _
  · rw [improveD_true, rd_true]; exact improve_le_val _ _ _ _ _

theorem rd_improveD_frame {x y : Fin (n + 1)} (h : ¬ (x = a ∧ y = b))
    (h1 : inl = true → ¬ (x = 0 ∧ y = b)) (h2 : inl = true → ¬ (x = a ∧ y = 0)) :
    rd fwd (improveD fwd inl g a wt b) x y = rd fwd g x y := by
  cases fwd
  · rw [improveD_false, rd_false, rd_false]
    exact improve_frame _ _ _ _ _ (fun e => h ⟨e.2, e.1⟩) (fun t e => h2 t ⟨e.2, e.1⟩)
      (fun t e => h1 t ⟨e.2, e.1⟩)
  · rw [improveD_true, rd_true, rd_true]
    exact improve_frame _ _ _ _ _ h h1 h2

variable {g a b}

/-- under `close_bounds_inline` the bound of `a` is updated through the bound of `b` -/
theorem rd_improveD_ub (hb : b ≠ 0) {y : Int} (hy : rd fwd g b 0 = some y) :
    W.LE (rd fwd (improveD fwd true g a wt b) a 0) (some (y + wt)) := by
  cases fwd
  · rw [improveD_false, rd_false]; exact improve_ub0 _ hb hy
  · rw [improveD_true, rd_true]; exact improve_ub1 _ hb hy

end

/-- `BndEq g G`: the bound edges of `g` are those of `G` (without `close_bounds_inline` the loops do
    not write them) -/
def BndEq (g G : Zone n) : Prop := ∀ x, edge g 0 x = edge G 0 x ∧ edge g x 0 = edge G x 0

theorem BndEq.improve (h : BndEq g G) {s d : Fin (n + 1)} (hs : s ≠ 0) (hd : d ≠ 0) (wt : Int) :
    BndEq (improve false g s wt d) G := fun x => by
  rw [improve_false, edge_relax_ne _ _ (fun e => hs e.1.symm),
    edge_relax_ne _ _ (fun e => hd e.2.symm)]
  exact h x

theorem BndEq.improveD (h : BndEq g G) (fwd : Bool) {a b : Fin (n + 1)} (ha : a ≠ 0) (hb : b ≠ 0)
    (wt : Int) : BndEq (improveD fwd false g a wt b) G := by
  cases fwd
  · rw [improveD_false]; exact h.improve hb ha wt
  · rw [improveD_true]; exact h.improve ha hb wt

/-- the difference that an edge read as `rd fwd _ a b` bounds -/
def dv (fwd : Bool) (v : Fin (n + 1) → Int) (a b : Fin (n + 1)) : Int :=
  if fwd then v b - v a else v a - v b

theorem Snd.improveD (h : Snd G g) (fwd inl : Bool) {a b : Fin (n + 1)} {wt : Int} (ha : a ≠ 0)
    (hb : b ≠ 0) (hab : a ≠ b) (hw : ∀ v, (varPart G).sat v → dv fwd v a b ≤ wt) :
    Snd G (improveD fwd inl g a wt b) := by
  cases fwd
  · rw [improveD_false]; exact h.improve inl hb ha (Ne.symm hab) hw
  · rw [improveD_true]; exact h.improve inl ha hb hab hw

/-- a solution of the variable subgraph of `G` respects the two-edge path read in `g` -/
theorem Snd.path2D (h : Snd G g) (fwd : Bool) {a k b : Fin (n + 1)} {x y : Int} (ha : a ≠ 0)
    (hk : k ≠ 0) (hb : b ≠ 0) (hx : rd fwd g a k = some x) (hy : rd fwd g k b = some y)
    {v : Fin (n + 1) → Int} (hv : (varPart G).sat v) : dv fwd v a b ≤ x + y := by
  cases fwd
  · have := h.var_le hk ha hx hv; have := h.var_le hb hk hy hv
    show v a - v b ≤ x + y; omega
  · have := h.var_le ha hk hx hv; have := h.var_le hk hb hy hv
    show v b - v a ≤ x + y; omega

end DbmIncr
end Crab
