import CrabProofs.Lemmas.WtoSpec

/-!
  Term-level facts about orderings: flattening, sub-components, positions, and how the edge
  condition of a weak topological ordering composes when orderings are concatenated or wrapped in
  a cycle (used by the proof of `C07.build_wf` and by the checker proofs).
-/
namespace Crab
namespace Wto

/-- `y` is the head of a cycle of `W` that contains `x` -/
def HeadIn (W : List WtoC) (y x : Nat) : Prop :=
  ∃ body, Sub (.cycle y body) W ∧ x ∈ flattenC (.cycle y body)

/-- the edge `x → y` is allowed inside `W` -/
def EdgeOK (W : List WtoC) (x y : Nat) : Prop := Before x y (flattenL W) ∨ HeadIn W y x

theorem flattenL_append : ∀ (a b : List WtoC), flattenL (a ++ b) = flattenL a ++ flattenL b
  | [], b => by simp [flattenL]
  | c :: cs, b => by simp [flattenL, flattenL_append cs b]

theorem flattenL_singleton (c : WtoC) : flattenL [c] = flattenC c := by simp [flattenL]

theorem mem_flattenL {v : Nat} : ∀ {l : List WtoC}, v ∈ flattenL l ↔ ∃ c ∈ l, v ∈ flattenC c
  | [] => by simp [flattenL]
  | c :: cs => by simp [flattenL, mem_flattenL (l := cs)]

theorem nodup_flattenC_of_mem {c : WtoC} : ∀ {l : List WtoC}, (flattenL l).Nodup → c ∈ l → (flattenC c).Nodup
  | [], _, h => by cases h
  | d :: ds, hn, h => by
    simp only [flattenL, List.nodup_append] at hn
    rcases List.mem_cons.1 h with rfl | h
    · exact hn.1
    · exact nodup_flattenC_of_mem hn.2.1 h

theorem Sub.mono {c : WtoC} {l l' : List WtoC} (h : Sub c l) (hsub : ∀ d ∈ l, d ∈ l') : Sub c l' := by
  cases h with
  | here hm => exact Sub.here (hsub _ hm)
  | inside hm hs => exact Sub.inside (hsub _ hm) hs

theorem Encl.mono {l l' : List WtoC} {v : Nat} {hs : List Nat} (h : Encl l v hs)
    (hsub : ∀ c ∈ l, c ∈ l') : Encl l' v hs := by
  cases h with
  | vertex hm => exact Encl.vertex (hsub _ hm)
  | head hm => exact Encl.head (hsub _ hm)
  | inner hm hb => exact Encl.inner (hsub _ hm) hb

theorem flatten_of_sub {c : WtoC} {l : List WtoC} (h : Sub c l) : ∀ x ∈ flattenC c, x ∈ flattenL l := by
  induction h with
  | here hm => exact fun x hx => mem_flattenL.2 ⟨_, hm, hx⟩
  | inside hm _ ih => exact fun x hx => mem_flattenL.2 ⟨_, hm, by simp [flattenC, ih x hx]⟩

theorem mem_flattenL_of_encl {l : List WtoC} {v : Nat} {hs : List Nat} (h : Encl l v hs) : v ∈ flattenL l := by
  induction h with
  | vertex hm => exact mem_flattenL.2 ⟨_, hm, by simp [flattenC]⟩
  | head hm => exact mem_flattenL.2 ⟨_, hm, by simp [flattenC]⟩
  | inner hm _ ih => exact mem_flattenL.2 ⟨_, hm, by simp [flattenC, ih]⟩

theorem Before.append_left {x y : Nat} {l : List Nat} (l' : List Nat) (h : Before x y l) : Before x y (l' ++ l) := by
  obtain ⟨l1, l2, l3, rfl⟩ := h
  exact ⟨l' ++ l1, l2, l3, by simp⟩

theorem Before.append_right {x y : Nat} {l : List Nat} (l' : List Nat) (h : Before x y l) : Before x y (l ++ l') := by
  obtain ⟨l1, l2, l3, rfl⟩ := h
  exact ⟨l1, l2, l3 ++ l', by simp⟩

theorem Before.of_mem_append {x y : Nat} {a b : List Nat} (hx : x ∈ a) (hy : y ∈ b) : Before x y (a ++ b) := by
  obtain ⟨a1, a2, rfl⟩ := List.append_of_mem hx
  obtain ⟨b1, b2, rfl⟩ := List.append_of_mem hy
  exact ⟨a1, a2 ++ b1, b2, by simp⟩

theorem EdgeOK.mem_right {W : List WtoC} {x y : Nat} (h : EdgeOK W x y) : y ∈ flattenL W := by
  rcases h with ⟨l1, l2, l3, he⟩ | ⟨body, hs, _⟩
  · rw [he]; simp
  · exact flatten_of_sub hs y (by simp [flattenC])

theorem EdgeOK.append_left {W1 : List WtoC} {x y : Nat} (W2 : List WtoC) (h : EdgeOK W1 x y) :
    EdgeOK (W2 ++ W1) x y := by
  rcases h with h | ⟨body, hs, hx⟩
  · exact Or.inl (by rw [flattenL_append]; exact h.append_left _)
  · exact Or.inr ⟨body, hs.mono fun _ => List.mem_append_right _, hx⟩

theorem EdgeOK.append_right {W2 : List WtoC} {x y : Nat} (W1 : List WtoC) (h : EdgeOK W2 x y) :
    EdgeOK (W2 ++ W1) x y := by
  rcases h with h | ⟨body, hs, hx⟩
  · exact Or.inl (by rw [flattenL_append]; exact h.append_right _)
  · exact Or.inr ⟨body, hs.mono fun _ => List.mem_append_left _, hx⟩

theorem EdgeOK.cross {W1 W2 : List WtoC} {x y : Nat} (hx : x ∈ flattenL W2) (hy : y ∈ flattenL W1) :
    EdgeOK (W2 ++ W1) x y :=
  Or.inl (by rw [flattenL_append]; exact Before.of_mem_append hx hy)

theorem EdgeOK.in_cycle {body : List WtoC} {x y : Nat} (r : Nat) (h : EdgeOK body x y) :
    EdgeOK [.cycle r body] x y := by
  rcases h with h | ⟨b, hs, hx⟩
  · left
    rw [flattenL_singleton, flattenC]
    exact h.append_left [r]
  · exact Or.inr ⟨b, Sub.inside (List.mem_singleton.2 rfl) hs, hx⟩

theorem EdgeOK.to_head {body : List WtoC} {x r : Nat} (hx : x ∈ r :: flattenL body) :
    EdgeOK [.cycle r body] x r :=
  Or.inr ⟨body, Sub.here (List.mem_singleton.2 rfl), by simpa [flattenC] using hx⟩

theorem EdgeOK.from_head {body : List WtoC} {y r : Nat} (hy : y ∈ flattenL body) :
    EdgeOK [.cycle r body] r y := by
  left
  rw [flattenL_singleton, flattenC]
  exact Before.of_mem_append (a := [r]) (List.mem_singleton.2 rfl) hy

end Wto
end Crab
