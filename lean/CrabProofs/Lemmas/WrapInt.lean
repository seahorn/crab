import CrabModel.Num.WrapInt

/-!
  Lemmas relating the model `Crab.WrapInt` of `crab::wrapint` to `BitVec w`.
  `ofBV x` is the wrapint of width `w` whose `_n` is `x.toNat`: these are exactly the
  well-formed *reduced* objects.
-/
namespace Crab
namespace WrapInt

abbrev ofBV {w : Nat} (x : BitVec w) : WrapInt := ⟨w, x.toNat⟩

@[simp] theorem ofBV_width {w} (x : BitVec w) : (ofBV x).width = w := rfl
@[simp] theorem ofBV_n {w} (x : BitVec w) : (ofBV x).n = x.toNat := rfl

/-- case analysis on an `if` under a predicate.  The operations of the model are chains of `if`s;
    going down them with this lemma is checked much faster than `split` does it. -/
theorem ite_elim {α : Sort _} (P : α → Prop) {c : Prop} [Decidable c] {a b : α}
    (ha : c → P a) (hb : ¬ c → P b) : P (if c then a else b) := by
  split
  · exact ha ‹_›
  · exact hb ‹_›

theorem pow_dvd_64 {w : Nat} (hw : w ≤ 64) : 2 ^ w ∣ 2 ^ 64 := Nat.pow_dvd_pow 2 hw

theorem pow_le_64 {w : Nat} (hw : w ≤ 64) : 2 ^ w ≤ 2 ^ 64 := Nat.pow_le_pow_right (by decide) hw

theorem bv_lt_64 {w : Nat} (hw : w ≤ 64) (x : BitVec w) : x.toNat < 2 ^ 64 :=
  Nat.lt_of_lt_of_le x.isLt (pow_le_64 hw)

theorem ofBV_reduced {w} (x : BitVec w) : (ofBV x).Reduced := x.isLt

theorem ofBV_wf {w} (h1 : 1 ≤ w) (hw : w ≤ 64) (x : BitVec w) : (ofBV x).WF :=
  ⟨h1, hw, bv_lt_64 hw x⟩

theorem reduced_iff_ofBV (a : WrapInt) : a.Reduced ↔ ∃ x : BitVec a.width, a = ofBV x := by
  constructor
  · intro h
    refine ⟨BitVec.ofNatLT a.n h, ?_⟩
    cases a; rfl
  · rintro ⟨x, hx⟩
    rw [hx]; exact x.isLt

/-- the post-reduction of a uint64 result -/
theorem red_mod {w : Nat} (hw : w ≤ 64) (m : Nat) : red w (m % 2 ^ 64) = m % 2 ^ w := by
  unfold red
  split
  · next h => subst h; rfl
  · exact Nat.mod_mod_of_dvd m (pow_dvd_64 hw)

theorem red_small {w r : Nat} (h : r < 2 ^ w) : red w r = r := by
  unfold red
  split
  · rfl
  · exact Nat.mod_eq_of_lt h

theorem sub_mod_lemma (M K x y : Nat) (hK : 0 < K) (hy : y ≤ M) :
    (x + M * K - y) % M = (M - y + x) % M := by
  obtain ⟨K', rfl⟩ : ∃ K', K = K' + 1 := ⟨K - 1, by omega⟩
  have h : x + M * (K' + 1) - y = (M - y + x) + M * K' := by
    rw [Nat.mul_succ]; omega
  rw [h, Nat.add_mul_mod_self_left]

theorem pow_split {w k : Nat} (hk : k ≤ w) : (2:Nat) ^ w = 2 ^ k * 2 ^ (w - k) := by
  rw [← Nat.pow_add]; congr 1; omega

theorem pow64_split {w : Nat} (hw : w ≤ 64) : (2:Nat) ^ 64 = 2 ^ w * 2 ^ (64 - w) := pow_split hw

theorem widthOk_of {w : Nat} (h1 : 1 ≤ w) (hw : w ≤ 64) : widthOk w = true := by
  unfold widthOk
  have : ¬ (w > 64) := by omega
  have : (w == 0) = false := by simp; omega
  simp [*]

theorem mk?_eq {w : Nat} (h1 : 1 ≤ w) (hw : w ≤ 64) (n : Nat) (hn : n < 2 ^ 64) :
    mk? n w = some (ofBV (BitVec.ofNat w n)) := by
  unfold mk?
  rw [widthOk_of h1 hw]
  simp only [if_true, ofBV, BitVec.toNat_ofNat]
  split
  · rfl
  · have : w = 64 := by omega
    subst this
    rw [Nat.mod_eq_of_lt hn]


theorem mk?_ofBV {w n : Nat} (h1 : 1 ≤ w) (hw : w ≤ 64) (hn : n < 2 ^ 64) (x : BitVec w)
    (h : n % 2 ^ w = x.toNat) : mk? n w = some (ofBV x) := by
  rw [mk?_eq h1 hw n hn, ← BitVec.toNat_ofNat, BitVec.toNat_inj] at *
  rw [h]


theorem add_ofBV {w : Nat} (hw : w ≤ 64) (x y : BitVec w) :
    add (ofBV x) (ofBV y) = some (ofBV (x + y)) := by
  simp only [add, ofBV, if_true, red_mod hw, BitVec.toNat_add]

theorem mul_ofBV {w : Nat} (hw : w ≤ 64) (x y : BitVec w) :
    mul (ofBV x) (ofBV y) = some (ofBV (x * y)) := by
  simp only [mul, ofBV, if_true, red_mod hw, BitVec.toNat_mul]

theorem sub_ofBV {w : Nat} (hw : w ≤ 64) (x y : BitVec w) :
    sub (ofBV x) (ofBV y) = some (ofBV (x - y)) := by
  simp only [sub, ofBV, if_true, red_mod hw, BitVec.toNat_sub]
  rw [Nat.mod_eq_of_lt (bv_lt_64 hw y), pow64_split hw,
    sub_mod_lemma _ _ _ _ (Nat.pow_pos (by decide)) (Nat.le_of_lt y.isLt)]

theorem neg_ofBV {w : Nat} (hw : w ≤ 64) (x : BitVec w) :
    neg (ofBV x) = ofBV (-x) := by
  have : sub (ofBV 0#w) (ofBV x) = some (neg (ofBV x)) := by
    simp only [sub, neg, if_true, BitVec.toNat_ofNat, Nat.zero_mod, Nat.zero_add]
  rw [sub_ofBV hw, BitVec.zero_sub] at this
  exact (Option.some.inj this).symm

theorem isZero_ofBV {w : Nat} (x : BitVec w) : isZero (ofBV x) = (x == 0) := by
  simp only [isZero]
  rw [Bool.eq_iff_iff]
  simp [← BitVec.toNat_inj]

theorem isZero_ofBV_false {w : Nat} {y : BitVec w} (hy : y ≠ 0) : isZero ⟨w, y.toNat⟩ = false := by
  rw [isZero_ofBV]; simpa using hy

theorem udiv_ofBV {w : Nat} (x y : BitVec w) (hy : y ≠ 0) :
    udiv (ofBV x) (ofBV y) = some (ofBV (x / y)) := by
  simp only [udiv, isZero_ofBV_false hy, ofBV, if_true, BitVec.toNat_udiv]
  rw [red_small (Nat.lt_of_le_of_lt (Nat.div_le_self _ _) x.isLt)]
  rfl

theorem urem_ofBV {w : Nat} (x y : BitVec w) (hy : y ≠ 0) :
    urem (ofBV x) (ofBV y) = some (ofBV (x % y)) := by
  simp only [urem, isZero_ofBV_false hy, ofBV, if_true, BitVec.toNat_umod]
  rw [red_small (Nat.lt_of_le_of_lt (Nat.mod_le _ _) x.isLt)]
  rfl

theorem xor_ofBV {w : Nat} (x y : BitVec w) : WrapInt.xor (ofBV x) (ofBV y) = some (ofBV (x ^^^ y)) := by
  simp [WrapInt.xor, ofBV]


theorem one_shl_mod {k : Nat} (hk : k < 64) : (1 <<< k) % 2 ^ 64 = 2 ^ k := by
  rw [Nat.one_shiftLeft]
  exact Nat.mod_eq_of_lt (Nat.pow_lt_pow_right (by decide) hk)

theorem and_two_pow' (n k : Nat) : n &&& 2 ^ k = if n.testBit k then 2 ^ k else 0 := by
  apply Nat.eq_of_testBit_eq; intro i
  rw [Nat.testBit_and, Nat.testBit_two_pow]
  by_cases h : k = i
  · subst h; cases hb : n.testBit k <;> simp
  · simp [h]; split <;> simp [h]

theorem msb_ofBV {w : Nat} (h1 : 1 ≤ w) (hw : w ≤ 64) (x : BitVec w) : msb (ofBV x) = x.msb := by
  have hk : w - 1 < 64 := by omega
  simp only [msb, one_shl_mod hk, and_two_pow', BitVec.testBit_toNat, BitVec.msb_eq_getLsbD_last]
  by_cases hb : x.getLsbD (w - 1) = true
  · simp [hb]
  · simp [hb]

theorem ones_mask {k : Nat} (hk : k < 64) : ((1 <<< k) % 2 ^ 64 + 2 ^ 64 - 1) % 2 ^ 64 = 2 ^ k - 1 := by
  rw [one_shl_mod hk]
  have h1 : 0 < 2 ^ k := Nat.pow_pos (by decide)
  have h2 : 2 ^ k < 2 ^ 64 := Nat.pow_lt_pow_right (by decide) hk
  have : 2 ^ k + 2 ^ 64 - 1 = (2 ^ k - 1) + 2 ^ 64 := by omega
  rw [this, Nat.add_mod_right]
  exact Nat.mod_eq_of_lt (by omega)

/-- the `all_ones` of `ashr` and `sext` -/
theorem allOnes_eq {n : Nat} (hn : n ≤ 64) :
    (if n < 64 then ((1 <<< n) % 2 ^ 64 + 2 ^ 64 - 1) % 2 ^ 64 else 2 ^ 64 - 1) = 2 ^ n - 1 := by
  split
  · next h => exact ones_mask h
  · have : n = 64 := by omega
    rw [this]

theorem unsignedMax?_eq {w : Nat} (h1 : 1 ≤ w) (hw : w ≤ 64) :
    unsignedMax? w = some (ofBV (BitVec.allOnes w)) := by
  have hlt : 2 ^ w - 1 < 2 ^ 64 := by
    have := pow_le_64 hw; have : 0 < 2 ^ w := Nat.pow_pos (by decide); omega
  have key : mk? (2 ^ w - 1) w = some (ofBV (BitVec.allOnes w)) :=
    mk?_ofBV h1 hw hlt _ (by
      rw [BitVec.toNat_allOnes, Nat.mod_eq_of_lt (Nat.sub_lt (Nat.pow_pos (by decide)) Nat.one_pos)])
  have E := @ite_elim _ (fun o => o = some (ofBV (BitVec.allOnes w)))
  unfold unsignedMax?
  refine E (fun h => by subst h; exact key) fun _ => E (fun h => by subst h; exact key) fun _ =>
    E (fun h => by subst h; exact key) fun _ => E (fun h => by subst h; exact key) fun _ => ?_
  rw [if_pos (by omega), ones_mask (by omega)]; exact key

theorem toUnsigned_ofBV {w} (x : BitVec w) : toUnsigned (ofBV x) = (x.toNat : Int) := rfl

theorem toSigned_ofBV {w : Nat} (h1 : 1 ≤ w) (hw : w ≤ 64) (x : BitVec w) :
    toSigned (ofBV x) = some x.toInt := by
  unfold toSigned
  rw [msb_ofBV h1 hw, ofBV_width, unsignedMax?_eq h1 hw]
  simp only [xor_ofBV, toUnsigned_ofBV, BitVec.toInt_eq_msb_cond]
  split
  · congr 1
    have : x ^^^ BitVec.allOnes w = ~~~x := by simp
    rw [this, BitVec.toNat_not]
    have := x.isLt
    omega
  · rfl


theorem fitsInt64_iff (z : Int) : ZNum.fitsInt64 z = true ↔ (-(2:Int)^63 ≤ z ∧ z ≤ 2^63 - 1) := by
  unfold ZNum.fitsInt64 ZNum.int64Min ZNum.int64Max
  simp

theorem toInt64?_of_fits {z : Int} (h : ZNum.fitsInt64 z = true) : ZNum.toInt64? z = some z := by
  unfold ZNum.toInt64?
  rw [h]
  rw [fitsInt64_iff] at h
  split
  · rfl
  · simp only [if_true, ZNum.int64Max]
    congr 1
    omega

theorem ofZ?_eq {w : Nat} (h1 : 1 ≤ w) (hw : w ≤ 64) (z : Int) (hz : ZNum.fitsInt64 z = true) :
    ofZ? z w = some (ofBV (BitVec.ofInt w z)) := by
  unfold ofZ?
  rw [widthOk_of h1 hw, hz, toInt64?_of_fits hz]
  simp only [if_true, ofBV, BitVec.toNat_ofInt]
  congr 2
  have h64 : (0:Int) ≤ z % 2 ^ 64 := Int.emod_nonneg _ (by decide)
  split
  · next h => subst h; rfl
  · have hpos : (0:Int) ≤ ((2 ^ w : Nat) : Int) := Int.natCast_nonneg _
    have e : (2 ^ w : Nat) = (((2 ^ w : Nat) : Int)).toNat := (Int.toNat_natCast _).symm
    rw [e, ← Int.toNat_emod h64 hpos]
    congr 1
    apply Int.emod_emod_of_dvd
    have := Int.natCast_dvd_natCast.mpr (pow_dvd_64 hw)
    simpa using this

theorem ofInt_bmod (w : Nat) (z : Int) : BitVec.ofInt w (z.bmod (2 ^ w)) = BitVec.ofInt w z := by
  apply BitVec.eq_of_toNat_eq
  rw [BitVec.toNat_ofInt, BitVec.toNat_ofInt, Int.bmod_emod]

theorem ofInt_tdiv_eq_sdiv {w : Nat} (x y : BitVec w) :
    BitVec.ofInt w (x.toInt.tdiv y.toInt) = x.sdiv y := by
  rw [← ofInt_bmod, ← BitVec.toInt_sdiv, BitVec.ofInt_toInt]

theorem ofInt_tmod_eq_srem {w : Nat} (x y : BitVec w) :
    BitVec.ofInt w (x.toInt.tmod y.toInt) = x.srem y := by
  rw [← BitVec.toInt_srem, BitVec.ofInt_toInt]

theorem int_pow_le {a b : Nat} (h : a ≤ b) : (2:Int) ^ a ≤ 2 ^ b := by
  have := Int.ofNat_le.mpr (Nat.pow_le_pow_right (by decide : 0 < 2) h)
  simpa using this

theorem toInt_bounds64 {w : Nat} (h1 : 1 ≤ w) (hw : w ≤ 64) (x : BitVec w) :
    -(2:Int)^63 ≤ x.toInt ∧ x.toInt ≤ 2^63 - 1 := by
  have a := BitVec.le_toInt x
  have b := @BitVec.toInt_lt w x
  have c : (2:Int) ^ (w - 1) ≤ 2 ^ 63 := int_pow_le (by omega)
  omega

theorem tdiv_fits {w : Nat} (h1 : 1 ≤ w) (hw : w ≤ 64) (x y : BitVec w)
    (hno : ¬ (w = 64 ∧ x = BitVec.intMin w ∧ y = BitVec.allOnes w)) :
    ZNum.fitsInt64 (x.toInt.tdiv y.toInt) = true := by
  by_cases h64 : w = 64
  · have hne : x ≠ BitVec.intMin w ∨ y ≠ -1#w := by
      rw [BitVec.neg_one_eq_allOnes]
      by_cases hx : x = BitVec.intMin w
      · right; intro hy; exact hno ⟨h64, hx, hy⟩
      · left; exact hx
    rw [← BitVec.toInt_sdiv_of_ne_or_ne x y hne, fitsInt64_iff]
    exact toInt_bounds64 h1 hw _
  · rw [fitsInt64_iff]
    have a := BitVec.le_toInt x
    have b := @BitVec.toInt_lt w x
    have c : (2:Int) ^ (w - 1) ≤ 2 ^ 62 := int_pow_le (by omega)
    have hq : (x.toInt.tdiv y.toInt).natAbs ≤ x.toInt.natAbs := by
      rw [Int.natAbs_tdiv]; exact Nat.div_le_self _ _
    omega

theorem tmod_fits {w : Nat} (h1 : 1 ≤ w) (hw : w ≤ 64) (x y : BitVec w) :
    ZNum.fitsInt64 (x.toInt.tmod y.toInt) = true := by
  rw [← BitVec.toInt_srem, fitsInt64_iff]
  exact toInt_bounds64 h1 hw _

theorem toInt_ne_zero {w : Nat} {y : BitVec w} (hy : y ≠ 0) : y.toInt ≠ 0 := by
  intro h; apply hy; apply BitVec.eq_of_toInt_eq; rw [h]; exact BitVec.toInt_zero.symm

theorem toInt_eq_neg_one_iff {w : Nat} (h1 : 1 ≤ w) (y : BitVec w) :
    y.toInt = -1 ↔ y = BitVec.allOnes w := by
  have hpos : 0 < w := by omega
  constructor
  · intro h; apply BitVec.eq_of_toInt_eq; rw [h, BitVec.toInt_allOnes, if_pos hpos]
  · intro h; rw [h, BitVec.toInt_allOnes, if_pos hpos]

theorem sdiv_ofBV {w : Nat} (h1 : 1 ≤ w) (hw : w ≤ 64) (x y : BitVec w) (hy : y ≠ 0) :
    sdiv (ofBV x) (ofBV y) = some (ofBV (x.sdiv y)) := by
  unfold sdiv
  rw [isZero_ofBV_false hy, toSigned_ofBV h1 hw, toSigned_ofBV h1 hw]
  simp only [if_true, Bool.false_eq_true, if_false]
  by_cases hm : y.toInt = -1
  · simp only [hm, if_true]
    rw [neg_ofBV hw, ← ofInt_tdiv_eq_sdiv, hm, Int.tdiv_neg, Int.tdiv_one, BitVec.ofInt_neg,
      BitVec.ofInt_toInt]
  · have hno : ¬ (w = 64 ∧ x = BitVec.intMin w ∧ y = BitVec.allOnes w) :=
      fun h => hm ((toInt_eq_neg_one_iff h1 y).mpr h.2.2)
    simp only [hm, if_false, ZNum.div?, toInt_ne_zero hy]
    rw [ofZ?_eq h1 hw _ (tdiv_fits h1 hw x y hno), ofInt_tdiv_eq_sdiv]

theorem srem_ofBV {w : Nat} (h1 : 1 ≤ w) (hw : w ≤ 64) (x y : BitVec w) (hy : y ≠ 0) :
    srem (ofBV x) (ofBV y) = some (ofBV (x.srem y)) := by
  unfold srem
  rw [isZero_ofBV_false hy, toSigned_ofBV h1 hw, toSigned_ofBV h1 hw]
  simp only [if_true, ZNum.rem?, toInt_ne_zero hy, if_false, Bool.false_eq_true]
  rw [ofZ?_eq h1 hw _ (tmod_fits h1 hw x y), ofInt_tmod_eq_srem]


theorem toNat_beq {w} (x y : BitVec w) : (x.toNat == y.toNat) = (x == y) := by
  rw [Bool.eq_iff_iff]; simp [← BitVec.toNat_inj]

theorem bv_ashr_ge {w : Nat} (x : BitVec w) {n : Nat} (h : w ≤ n) :
    x.sshiftRight n = if x.msb then BitVec.allOnes w else 0 := by
  apply BitVec.eq_of_getLsbD_eq
  intro i hi
  rw [BitVec.getLsbD_sshiftRight]
  have a : ¬ (w ≤ i) := by omega
  have b : ¬ (n + i < w) := by omega
  cases hm : x.msb <;> simp [a, b, hi]

theorem shl_ofBV {w : Nat} (hw : w ≤ 64) (x y : BitVec w) :
    shl (ofBV x) (ofBV y) = some (ofBV (x <<< y)) := by
  rw [BitVec.shiftLeft_eq']
  by_cases h : y.toNat ≥ w
  · simp only [shl, if_true, h, BitVec.shiftLeft_eq_zero h]
    rfl
  · simp only [shl, h, if_true, if_false, red_mod hw]
    rfl

theorem lshr_ofBV {w : Nat} (x y : BitVec w) :
    lshr (ofBV x) (ofBV y) = some (ofBV (x >>> y)) := by
  rw [BitVec.ushiftRight_eq']
  by_cases h : y.toNat ≥ w
  · simp only [lshr, if_true, h, BitVec.ushiftRight_eq_zero h]
    rfl
  · simp only [lshr, h, if_true, if_false]
    rfl

/-- the value built on the msb branch of `ashr` -/
def ashrRaw (w n s : Nat) : Nat := ((2 ^ w - 1) <<< (w - s)) % 2 ^ 64 ||| (n >>> s)

theorem ashrRaw_low {w : Nat} (hw : w ≤ 64) (x : BitVec w) (s : Nat) (hs : s ≤ w) (hm : x.msb = true)
    (hnu : w - s < 64) :
    ashrRaw w x.toNat s % 2 ^ w = (x.sshiftRight s).toNat := by
  apply Nat.eq_of_testBit_eq; intro i
  simp only [ashrRaw, Nat.testBit_mod_two_pow, Nat.testBit_or, Nat.testBit_shiftLeft,
    Nat.testBit_two_pow_sub_one, Nat.testBit_shiftRight, BitVec.testBit_toNat,
    BitVec.getLsbD_sshiftRight, hm]
  by_cases h1 : i < w
  · by_cases h2 : s + i < w
    · simp [h1, h2, show ¬ w ≤ i by omega, show ¬ w - s ≤ i by omega]
    · simp [h1, h2, show ¬ w ≤ i by omega, show w - s ≤ i by omega]
      omega
  · simp [h1, show w ≤ i by omega]

theorem ashr_ofBV {w : Nat} (h1 : 1 ≤ w) (hw : w ≤ 64) (x y : BitVec w) :
    ashr (ofBV x) (ofBV y) = some (ofBV (x.sshiftRight' y)) := by
  rw [BitVec.sshiftRight_eq']
  by_cases h0 : y.toNat = 0
  · unfold ashr
    simp only [if_true, h0, BEq.rfl, BitVec.sshiftRight_zero]
  · have hne : (y.toNat == 0) = false := by simpa using h0
    unfold ashr
    rw [msb_ofBV h1 hw]
    simp only [if_true, hne, Bool.false_eq_true, if_false]
    by_cases hge : y.toNat ≥ w
    · simp only [hge, if_true, bv_ashr_ge x hge, unsignedMax?_eq h1 hw]
      cases hm : x.msb <;> simp
    · simp only [hge, if_false]
      have hs : y.toNat ≤ w := by omega
      cases hm : x.msb
      · simp only [Bool.not_false, if_true]
        congr 2
        simp [BitVec.toNat_sshiftRight, hm]
      · simp only [Bool.not_true, Bool.false_eq_true, if_false]
        congr 2
        have h3 : w - y.toNat < 64 := by omega
        rw [← ashrRaw_low hw x y.toNat hs hm h3, allOnes_eq hw, Nat.and_two_pow_sub_one_eq_mod]
        rfl

theorem zext_ofBV {w : Nat} (h1 : 1 ≤ w) (x : BitVec w) (k : Nat) (hk : w + k ≤ 64) :
    zext (ofBV x) k = some (ofBV (x.setWidth (w + k))) := by
  have hn : ¬ (w + k > 64) := by omega
  simp only [zext, hn, if_false]
  exact mk?_ofBV (by omega) hk (bv_lt_64 (by omega) x) _ (BitVec.toNat_setWidth ..).symm

theorem sext_ofBV {w : Nat} (h1 : 1 ≤ w) (x : BitVec w) (k : Nat) (hk : w + k ≤ 64) :
    sext (ofBV x) k = some (ofBV (x.signExtend (w + k))) := by
  have hw : w ≤ 64 := by omega
  have hn : ¬ (w + k > 64) := by omega
  unfold sext
  simp only [hn, if_false, msb_ofBV h1 hw]
  by_cases hk0 : k = 0
  · subst hk0
    simp only [if_true, Nat.add_zero, BitVec.signExtend_eq]
  simp only [hk0, if_false]
  cases hm : x.msb
  · simp only [Bool.false_eq_true, if_false]
    refine mk?_ofBV (by omega) hk (bv_lt_64 hw x) _ ?_
    rw [BitVec.toNat_signExtend]
    simp [hm]
  · have hw' : w < 64 := by omega
    simp only [if_true]
    rw [allOnes_eq hk]
    have hlt : (x.toNat ||| ((2 ^ (w + k) - 1) <<< w) % 2 ^ 64) < 2 ^ 64 :=
      Nat.or_lt_two_pow (bv_lt_64 hw x) (Nat.mod_lt _ (by decide))
    refine mk?_ofBV (by omega) hk hlt _ ?_
    apply Nat.eq_of_testBit_eq; intro i
    rw [BitVec.testBit_toNat, BitVec.getLsbD_signExtend]
    simp only [Nat.testBit_mod_two_pow, Nat.testBit_or, Nat.testBit_shiftLeft,
      Nat.testBit_two_pow_sub_one, BitVec.testBit_toNat, hm]
    by_cases b : i < w
    · simp [b, show i < w + k by omega, show ¬ w ≤ i by omega]
    · simp [b, show w ≤ i by omega]
      omega

theorem keepLower_ofBV {w : Nat} (hw : w ≤ 64) (x : BitVec w) (k : Nat) (h1 : 1 ≤ k) (hk : k < w) :
    keepLower (ofBV x) k = some (ofBV (x.setWidth k)) := by
  have a : ¬ (k ≥ w) := by omega
  have hk64 : k < 64 := by omega
  simp only [keepLower, a, if_false, ones_mask hk64, Nat.and_two_pow_sub_one_eq_mod]
  have hlt : x.toNat % 2 ^ k < 2 ^ 64 :=
    Nat.lt_of_le_of_lt (Nat.mod_le _ _) (bv_lt_64 hw x)
  exact mk?_ofBV h1 (by omega) hlt _ (by rw [BitVec.toNat_setWidth, Nat.mod_mod])

theorem unsignedMin?_eq {w : Nat} (h1 : 1 ≤ w) (hw : w ≤ 64) :
    unsignedMin? w = some (ofBV (0 : BitVec w)) := by
  rw [unsignedMin?, mk?_eq h1 hw _ (by decide)]; rfl

theorem signedMin?_eq {w : Nat} (h1 : 1 ≤ w) (hw : w ≤ 64) :
    signedMin? w = some (ofBV (BitVec.intMin w)) := by
  have hk : w - 1 < 64 := by omega
  rw [signedMin?, one_shl_mod hk]
  exact mk?_ofBV h1 hw (Nat.pow_lt_pow_right (by decide) hk) _ BitVec.toNat_intMin.symm

theorem signedMax?_eq {w : Nat} (h1 : 1 ≤ w) (hw : w ≤ 64) :
    signedMax? w = some (ofBV (BitVec.intMax w)) := by
  have hk : w - 1 < 64 := by omega
  have hlt : 2 ^ (w - 1) - 1 < 2 ^ 64 := by
    have := Nat.pow_lt_pow_right (by decide : 1 < 2) hk; omega
  rw [signedMax?, ones_mask hk]
  refine mk?_ofBV h1 hw hlt _ ?_
  rw [BitVec.toNat_intMax]
  apply Nat.mod_eq_of_lt
  have : 2 ^ (w - 1) ≤ 2 ^ w := Nat.pow_le_pow_right (by decide) (by omega)
  have : 0 < 2 ^ (w - 1) := Nat.pow_pos (by decide)
  omega

theorem red_lt_form {w : Nat} (hw : w ≤ 64) (r : Nat) :
    (if w < 64 then r % 2 ^ w else r) = red w r := by
  unfold red
  by_cases h : w = 64
  · subst h; simp
  · have : w < 64 := by omega
    simp [h, this]

/-- the compound assignments test `_width < 64` where the operators test `_width == 64` -/
theorem addAssign_eq {a b : WrapInt} (hw : a.width ≤ 64) : addAssign a b = add a b := by
  simp only [addAssign, add, red_lt_form hw]
theorem subAssign_eq {a b : WrapInt} (hw : a.width ≤ 64) : subAssign a b = sub a b := by
  simp only [subAssign, sub, red_lt_form hw]
theorem mulAssign_eq {a b : WrapInt} (hw : a.width ≤ 64) : mulAssign a b = mul a b := by
  simp only [mulAssign, mul, red_lt_form hw]

theorem addAssign_ofBV {w : Nat} (hw : w ≤ 64) (x y : BitVec w) :
    addAssign (ofBV x) (ofBV y) = some (ofBV (x + y)) := by
  rw [addAssign_eq hw, add_ofBV hw]
theorem subAssign_ofBV {w : Nat} (hw : w ≤ 64) (x y : BitVec w) :
    subAssign (ofBV x) (ofBV y) = some (ofBV (x - y)) := by
  rw [subAssign_eq hw, sub_ofBV hw]
theorem mulAssign_ofBV {w : Nat} (hw : w ≤ 64) (x y : BitVec w) :
    mulAssign (ofBV x) (ofBV y) = some (ofBV (x * y)) := by
  rw [mulAssign_eq hw, mul_ofBV hw]

theorem inc_ofBV {w : Nat} (hw : w ≤ 64) (x : BitVec w) : inc (ofBV x) = ofBV (x + 1) := by
  simp only [inc]
  rw [red_lt_form hw, red_mod hw]
  show (⟨w, _⟩ : WrapInt) = ⟨w, (x + 1).toNat⟩
  congr 1
  rw [BitVec.toNat_add]
  simp

theorem dec_ofBV {w : Nat} (h1 : 1 ≤ w) (hw : w ≤ 64) (x : BitVec w) : dec (ofBV x) = ofBV (x - 1) := by
  have e1 : (1 : BitVec w).toNat = 1 := BitVec.toNat_one h1
  have : sub (ofBV x) (ofBV (1 : BitVec w)) = some (dec (ofBV x)) := by
    simp only [sub, dec, if_true, e1, red_lt_form hw]
  rw [sub_ofBV hw] at this
  exact (Option.some.inj this).symm

/-! ### `Reduced` is preserved (direct from the definitions, operands need not come from `ofBV`) -/

theorem red_mod_lt {w : Nat} (hw : w ≤ 64) (m : Nat) : red w (m % 2 ^ 64) < 2 ^ w := by
  rw [red_mod hw]; exact Nat.mod_lt _ (Nat.pow_pos (by decide))

theorem red_le_reduced {w n m : Nat} (hn : n < 2 ^ w) (hm : m ≤ n) : red w m < 2 ^ w := by
  rw [red_small (Nat.lt_of_le_of_lt hm hn)]; exact Nat.lt_of_le_of_lt hm hn

/-- `P` holds of `r` if `r` is the answer `o`.  The operations are `if`s whose branches are `none`
    (CRAB_ERROR) or `some` explicit value: `Ans.ite`, `.none`, `.some` go down them. -/
abbrev Ans (P : WrapInt → Prop) (r : WrapInt) (o : Option WrapInt) : Prop := o = some r → P r

theorem Ans.some {P : WrapInt → Prop} {r x : WrapInt} (hx : P x) : Ans P r (some x) :=
  fun h => Option.some.inj h ▸ hx
theorem Ans.none {P : WrapInt → Prop} {r : WrapInt} : Ans P r none := fun h => nomatch h
theorem Ans.ite {P : WrapInt → Prop} {r : WrapInt} {c : Prop} [Decidable c] {a b : Option WrapInt}
    (ha : c → Ans P r a) (hb : ¬ c → Ans P r b) : Ans P r (if c then a else b) :=
  ite_elim (Ans P r) ha hb

theorem mk?_reduced {n w : Nat} {r : WrapInt} (hn : n < 2 ^ 64) : mk? n w = some r → r.Reduced :=
  Ans.ite (fun hok => .some (ite_elim (· < 2 ^ w) (fun _ => Nat.mod_lt _ (Nat.pow_pos (by decide)))
    (fun h64 => by
      have : w = 64 := by simp [widthOk] at hok; omega
      subst this; exact hn))) (fun _ => .none)

theorem ofZ?_ans {z : Int} {w : Nat} {r : WrapInt} (h : ofZ? z w = some r) :
    r.width = w ∧ r.Reduced := by
  revert h
  refine Ans.ite (P := fun r => r.width = w ∧ r.Reduced) (fun _ => .ite (fun _ h => ?_) fun _ => .none)
    (fun _ => .none)
  split at h
  · cases h
  · next x _ =>
    refine Ans.some (P := fun r => r.width = w ∧ r.Reduced) ⟨rfl, ite_elim (· < 2 ^ w) (fun h64 => ?_)
      (fun _ => Nat.mod_lt _ (Nat.pow_pos (by decide)))⟩ h
    subst h64
    have h1 : (x % (2 ^ 64 : Int)) < 2 ^ 64 := Int.emod_lt_of_pos _ (by decide)
    have h0 : 0 ≤ (x % (2 ^ 64 : Int)) := Int.emod_nonneg _ (by decide)
    omega

theorem ofZ?_reduced {z : Int} {w : Nat} {r : WrapInt} (h : ofZ? z w = some r) : r.Reduced :=
  (ofZ?_ans h).2

theorem neg_reduced {a : WrapInt} (hw : a.width ≤ 64) : (neg a).Reduced := red_mod_lt hw _

theorem add_reduced {a b r : WrapInt} (hw : a.width ≤ 64) : add a b = some r → r.Reduced :=
  Ans.ite (fun _ => .some (red_mod_lt hw _)) (fun _ => .none)
theorem sub_reduced {a b r : WrapInt} (hw : a.width ≤ 64) : sub a b = some r → r.Reduced :=
  Ans.ite (fun _ => .some (red_mod_lt hw _)) (fun _ => .none)
theorem mul_reduced {a b r : WrapInt} (hw : a.width ≤ 64) : mul a b = some r → r.Reduced :=
  Ans.ite (fun _ => .some (red_mod_lt hw _)) (fun _ => .none)
theorem addAssign_reduced {a b r : WrapInt} (hw : a.width ≤ 64) : addAssign a b = some r → r.Reduced :=
  addAssign_eq hw ▸ add_reduced hw
theorem shl_reduced {a b r : WrapInt} (hw : a.width ≤ 64) : shl a b = some r → r.Reduced :=
  Ans.ite (fun _ => .ite (fun _ => .some (Nat.pow_pos (by decide)))
    fun _ => .some (red_mod_lt hw _)) (fun _ => .none)

theorem udiv_reduced {a b r : WrapInt} (ha : a.Reduced) : udiv a b = some r → r.Reduced :=
  Ans.ite (fun _ => .ite (fun _ => .none) fun _ => .some (red_le_reduced ha (Nat.div_le_self _ _)))
    (fun _ => .none)
theorem urem_reduced {a b r : WrapInt} (ha : a.Reduced) : urem a b = some r → r.Reduced :=
  Ans.ite (fun _ => .ite (fun _ => .none) fun _ => .some (red_le_reduced ha (Nat.mod_le _ _)))
    (fun _ => .none)

theorem shr_lt {a : WrapInt} (ha : a.Reduced) (k : Nat) : a.n >>> k < 2 ^ a.width := by
  rw [Nat.shiftRight_eq_div_pow]
  exact Nat.lt_of_le_of_lt (Nat.div_le_self _ _) ha

theorem lshr_reduced {a b r : WrapInt} (ha : a.Reduced) : lshr a b = some r → r.Reduced :=
  Ans.ite (fun _ => .ite (fun _ => .some (Nat.pow_pos (by decide))) fun _ => .some (shr_lt ha _))
    (fun _ => .none)
theorem and_reduced {a b r : WrapInt} (ha : a.Reduced) : WrapInt.and a b = some r → r.Reduced :=
  Ans.ite (fun _ => .some (Nat.lt_of_le_of_lt Nat.and_le_left ha)) (fun _ => .none)
theorem or_reduced {a b r : WrapInt} (ha : a.Reduced) (hb : b.Reduced) : WrapInt.or a b = some r → r.Reduced :=
  Ans.ite (fun hw => .some (Nat.or_lt_two_pow ha (hw ▸ hb))) (fun _ => .none)
theorem xor_reduced {a b r : WrapInt} (ha : a.Reduced) (hb : b.Reduced) : WrapInt.xor a b = some r → r.Reduced :=
  Ans.ite (fun hw => .some (Nat.xor_lt_two_pow ha (hw ▸ hb))) (fun _ => .none)

theorem sdiv_ans {a b r : WrapInt} (h : sdiv a b = some r) :
    r.width = a.width ∧ (a.width ≤ 64 → r.Reduced) := by
  revert h
  refine Ans.ite (P := fun r => r.width = a.width ∧ (a.width ≤ 64 → r.Reduced))
    (fun _ => .ite (fun _ => .none) fun _ h => ?_) (fun _ => .none)
  split at h
  · revert h
    refine Ans.ite (P := fun r => r.width = a.width ∧ (a.width ≤ 64 → r.Reduced))
      (fun _ => .some ⟨rfl, neg_reduced⟩) (fun _ h => ?_)
    split at h
    · exact ⟨(ofZ?_ans h).1, fun _ => (ofZ?_ans h).2⟩
    · cases h
  · cases h

theorem sdiv_width {a b r : WrapInt} (h : sdiv a b = some r) : r.width = a.width := (sdiv_ans h).1

theorem sdiv_reduced {a b r : WrapInt} (hw : a.width ≤ 64) (h : sdiv a b = some r) : r.Reduced :=
  (sdiv_ans h).2 hw

theorem srem_reduced {a b r : WrapInt} (h : srem a b = some r) : r.Reduced := by
  revert h
  refine Ans.ite (fun _ => .ite (fun _ => .none) fun _ h => ?_) (fun _ => .none)
  split at h
  · split at h
    · exact ofZ?_reduced h
    · cases h
  · cases h

theorem zext_reduced {a r : WrapInt} {k : Nat} (ha : a.n < 2 ^ 64) : zext a k = some r → r.Reduced :=
  Ans.ite (fun _ => .none) (fun _ => mk?_reduced ha)
theorem sext_reduced {a r : WrapInt} {k : Nat} (ha : a.Reduced) (hw : a.width ≤ 64)
    (h : sext a k = some r) : r.Reduced := by
  have h64 : a.n < 2 ^ 64 := Nat.lt_of_lt_of_le ha (pow_le_64 hw)
  revert h
  exact Ans.ite (fun _ => .none) (fun _ => .ite (fun _ => .some ha) fun _ =>
    .ite (fun _ => mk?_reduced (Nat.or_lt_two_pow h64 (Nat.mod_lt _ (by decide))))
      (fun _ => mk?_reduced h64))
theorem keepLower_reduced {a r : WrapInt} {k : Nat} (ha : a.Reduced) (hw : a.width ≤ 64) :
    keepLower a k = some r → r.Reduced :=
  Ans.ite (fun _ => .some ha) (fun _ => mk?_reduced
    (Nat.lt_of_le_of_lt Nat.and_le_left (Nat.lt_of_lt_of_le ha (pow_le_64 hw))))
theorem ashr_reduced {a b r : WrapInt} (ha : a.Reduced) (h1 : 1 ≤ a.width) (hw : a.width ≤ 64)
    (h : ashr a b = some r) : r.Reduced := by
  have hpos : 0 < 2 ^ a.width := Nat.pow_pos (by decide)
  revert h
  refine Ans.ite (fun _ => .ite (fun _ => .some ha) fun _ => .ite (fun _ => .ite (fun _ h => ?_)
    fun _ => .some hpos) fun _ => .ite (fun _ => .some (shr_lt ha _)) fun _ => .some ?_)
    (fun _ => .none)
  · rw [unsignedMax?_eq h1 hw] at h
    exact Ans.some (ofBV_reduced _) h
  · show _ &&& _ < 2 ^ a.width
    refine Nat.lt_of_le_of_lt Nat.and_le_right ?_
    rw [allOnes_eq hw]; omega

/-! ### the operations on raw reduced operands

  The intervals hold their end points as `⟨w, a⟩` with `a < 2^w`; each operation on such operands
  is read off its `_ofBV` form at `BitVec.ofNatLT a _`. -/

theorem mk?_raw {w k : Nat} (h1w : 1 ≤ w) (hw : w ≤ 64) (hk : k < 2 ^ w) : mk? k w = some ⟨w, k⟩ := by
  unfold mk?
  rw [widthOk_of h1w hw]
  simp only [if_true]
  split
  · rw [Nat.mod_eq_of_lt hk]
  · rfl

theorem ashr_raw {w s k : Nat} (h1w : 1 ≤ w) (hw : w ≤ 64) (hs : s < 2 ^ w) (hk : k < 2 ^ w) :
    ashr ⟨w, s⟩ ⟨w, k⟩ = some ⟨w, ((BitVec.ofNatLT s hs).sshiftRight k).toNat⟩ := by
  have := ashr_ofBV h1w hw (BitVec.ofNatLT s hs) (BitVec.ofNatLT k hk)
  simp only [ofBV, BitVec.toNat_ofNatLT, BitVec.sshiftRight_eq'] at this
  exact this

theorem inc_raw {w n : Nat} (hw : w ≤ 64) : (inc ⟨w, n⟩).n = (n + 1) % 2 ^ w := by
  simp only [inc]
  rw [red_lt_form hw, red_mod hw]

theorem keepLower_raw {w s k : Nat} (hw : w ≤ 64) (hs : s < 2 ^ w) (h1 : 1 ≤ k) (hk : k < w) :
    keepLower ⟨w, s⟩ k = some ⟨k, s % 2 ^ k⟩ := by
  have := keepLower_ofBV hw (BitVec.ofNatLT s hs) k h1 hk
  simp only [ofBV, BitVec.toNat_ofNatLT, BitVec.toNat_setWidth] at this
  exact this

theorem keepLower_raw_zero {w s : Nat} (h1w : 1 ≤ w) : keepLower ⟨w, s⟩ 0 = none := by
  have : ¬ (0 ≥ w) := by omega
  simp [keepLower, this, mk?, widthOk]

theorem shl_raw {w s k : Nat} (hw : w ≤ 64) (hk : k < w) :
    shl ⟨w, s⟩ ⟨w, k⟩ = some ⟨w, (s * 2 ^ k) % 2 ^ w⟩ := by
  have : ¬ (k ≥ w) := by omega
  simp only [shl, if_true, this, if_false, red_mod hw, Nat.shiftLeft_eq]

theorem lshr_raw {w s k : Nat} (hs : s < 2 ^ w) :
    lshr ⟨w, s⟩ ⟨w, k⟩ = some ⟨w, s / 2 ^ k⟩ := by
  by_cases hk : k ≥ w
  · simp only [lshr, if_true, hk]
    have : s / 2 ^ k = 0 :=
      Nat.div_eq_of_lt (Nat.lt_of_lt_of_le hs (Nat.pow_le_pow_right (by decide) hk))
    rw [this]
  · simp only [lshr, if_true, hk, if_false, Nat.shiftRight_eq_div_pow]

theorem zext_raw {w k c : Nat} (h1w : 1 ≤ w) (hk : w + k ≤ 64) (hc : c < 2 ^ w) :
    zext ⟨w, c⟩ k = some ⟨w + k, c⟩ := by
  have := zext_ofBV h1w (BitVec.ofNatLT c hc) k hk
  simp only [ofBV, BitVec.toNat_ofNatLT, BitVec.toNat_setWidth] at this
  rw [this]
  congr 2
  exact Nat.mod_eq_of_lt (Nat.lt_of_lt_of_le hc (Nat.pow_le_pow_right (by decide) (by omega)))

theorem zext_raw_none {w k c : Nat} (hk : 64 < w + k) : zext ⟨w, c⟩ k = none := by
  simp [zext, hk]

theorem sext_raw_none {w k c : Nat} (hk : 64 < w + k) : sext ⟨w, c⟩ k = none := by
  simp [sext, hk]

theorem udiv_raw {w : Nat} {a b : Nat} (hb : b ≠ 0) (ha : a < 2 ^ w) :
    udiv ⟨w, a⟩ ⟨w, b⟩ = some ⟨w, a / b⟩ := by
  have hz : (⟨w, b⟩ : WrapInt).isZero = false := by simp [isZero, hb]
  simp only [udiv, if_true, hz, Bool.false_eq_true, if_false]
  rw [red_small (Nat.lt_of_le_of_lt (Nat.div_le_self _ _) ha)]

theorem msb_raw {w a : Nat} (h1w : 1 ≤ w) (hw : w ≤ 64) (ha : a < 2 ^ w) :
    msb ⟨w, a⟩ = decide (2 ^ (w - 1) ≤ a) := by
  have := msb_ofBV h1w hw (BitVec.ofNatLT a ha)
  simp only [ofBV, BitVec.toNat_ofNatLT] at this
  rw [this, BitVec.msb_eq_decide, BitVec.toNat_ofNatLT]

end WrapInt
end Crab
