import CrabModel.Scalar.DisInterval
import CrabProofs.Lemmas.IDomWFScalar

/-! Basic facts for the model of `dis_interval<z_number>` (`Crab.Dis`): the predicates on pairs of
    intervals used by `normalize` and `operator|`, membership in a vector, the insertion sort, and
    the relation `Coarsens` between a vector and what a merge loop makes of it.

    The pair predicates are all read off the bounds: for non-empty `a`, `b` the test
    `overlap || are_consecutive` implies `a.lb ≤ b.ub + 1 ∧ b.lb ≤ a.ub + 1` (no integer strictly
    between the two), and `gapOk a b` is `a.ub + 1 < b.lb` with both bounds finite. -/
namespace Crab
namespace Dis
open Bound

theorem proper_iff (a : Itv) :
    proper a = true ↔ a.isBottom = false ∧ a.isTop = false ∧ a.WF := by
  simp [proper, Itv.WF, and_assoc]

theorem le_succB (b : Bound) : Bound.le b (succB b) = true := by
  cases b <;> simp [succB]; omega

theorem le_of_lt_succB {x y z : Bound} (h1 : Bound.le x (succB y) = true)
    (h2 : Bound.le x z = false) : Bound.le z y = true := by
  cases x <;> cases y <;> cases z <;> simp_all [succB] <;> omega

theorem eq_succB {x y : Bound} (h1 : Bound.le x (succB y) = true) (h2 : Bound.le x y = false) :
    succB y = x := by
  cases x <;> cases y <;> simp_all [succB] <;> omega

end Dis

namespace Itv

theorem mem_of_isTop {i : Itv} (ht : i.isTop = true) (hw : i.WF) (k : Int) : mem k i :=
  eq_top_of_isTop ht hw ▸ mem_top k

theorem mem_convex {a : Itv} {j k m : Int} (hj : mem j a) (hk : mem k a) (h1 : j ≤ m) (h2 : m ≤ k) :
    mem m a :=
  ⟨Bound.le_trans hj.1 (by simpa using h1), Bound.le_trans (by simpa using h2) hk.2⟩

end Itv

namespace Dis

theorem overlap_iff {a b : Itv} (ha : a.isBottom = false) (hb : b.isBottom = false) :
    overlap a b = true ↔ Bound.le a.lb b.ub = true ∧ Bound.le b.lb a.ub = true := by
  have ha' := (Itv.isBottom_false_iff a).mp ha
  have hb' := (Itv.isBottom_false_iff b).mp hb
  -- the meet is not bottom iff `max a.lb b.lb ≤ min a.ub b.ub`
  have hm : overlap a b = Bound.le (Bound.max a.lb b.lb) (Bound.min a.ub b.ub) := by
    simp only [overlap, Itv.meet, ha, hb, Bool.or_self, Bool.false_eq_true, if_false]
    cases h : Bound.le (Bound.max a.lb b.lb) (Bound.min a.ub b.ub)
    · simp [Itv.mk', Bound.gt, h, Itv.isBottom_bot]
    · simp [Itv.mk'_eq_mk h, Itv.isBottom, Bound.gt, h]
  rw [hm]
  exact ⟨fun h => ⟨Bound.le_trans (Bound.le_max_left _ _) (Bound.le_trans h (Bound.min_le_right _ _)),
      Bound.le_trans (Bound.le_max_right _ _) (Bound.le_trans h (Bound.min_le_left _ _))⟩,
    fun h => Bound.le_min (Bound.max_le ha' h.2) (Bound.max_le h.1 hb')⟩

theorem touch_of_merge {a b : Itv} (ha : a.isBottom = false) (hb : b.isBottom = false)
    (h : overlap a b = true ∨ areConsecutive a b = true) :
    Bound.le a.lb (succB b.ub) = true ∧ Bound.le b.lb (succB a.ub) = true := by
  have ha' := (Itv.isBottom_false_iff a).mp ha
  have hb' := (Itv.isBottom_false_iff b).mp hb
  rcases h with h | h
  · obtain ⟨h1, h2⟩ := (overlap_iff ha hb).mp h
    exact ⟨Bound.le_trans h1 (le_succB _), Bound.le_trans h2 (le_succB _)⟩
  · simp only [areConsecutive, Bool.or_eq_true, Bool.and_eq_true, beq_iff_eq] at h
    rcases h with ⟨⟨h1, _⟩, h3⟩ | ⟨⟨h1, _⟩, h3⟩
    · exact ⟨Bound.le_trans h1 (Bound.le_trans hb' (le_succB _)), h3 ▸ Bound.le_refl _⟩
    · exact ⟨h3 ▸ Bound.le_refl _, Bound.le_trans h1 (Bound.le_trans ha' (le_succB _))⟩

theorem join_exact_of_merge {a b : Itv}
    (h : overlap a b = true ∨ areConsecutive a b = true) {k : Int} (hk : Itv.mem k (Itv.join a b)) :
    Itv.mem k a ∨ Itv.mem k b := by
  cases ha : a.isBottom
  · cases hb : b.isBottom
    · obtain ⟨t1, t2⟩ := touch_of_merge ha hb h
      rw [Itv.join_eq ha hb] at hk
      obtain ⟨hl, hu⟩ := hk
      simp only at hl hu
      cases hau : Bound.le (.fin k) a.ub
      · -- `k` is above `a`: it is under `b.ub`, and `b` starts at `a.ub + 1` at the latest
        have hbu : Bound.le (.fin k) b.ub = true := by
          rcases Bound.max_eq_or a.ub b.ub with e | e <;> rw [e] at hu
          · rw [hu] at hau; cases hau
          · exact hu
        cases hbl : Bound.le b.lb (.fin k)
        · rw [le_of_lt_succB t2 hbl] at hau; cases hau
        · exact Or.inr ⟨hbl, hbu⟩
      · cases hal : Bound.le a.lb (.fin k)
        · have hbl : Bound.le b.lb (.fin k) = true := by
            rcases Bound.min_eq_or a.lb b.lb with e | e <;> rw [e] at hl
            · rw [hl] at hal; cases hal
            · exact hl
          exact Or.inr ⟨hbl, le_of_lt_succB t1 hal⟩
        · exact Or.inl ⟨hal, hau⟩
    · left; simpa [Itv.join, ha, hb] using hk
  · right; simpa [Itv.join, ha] using hk

theorem gapOk_iff (a b : Itv) : gapOk a b = true ↔
    a.ub ≠ .ninf ∧ b.lb ≠ .pinf ∧ Bound.le b.lb (succB a.ub) = false := by
  obtain ⟨al, au⟩ := a
  obtain ⟨bl, bu⟩ := b
  cases au <;> cases bl <;> simp [gapOk, succB]

theorem gapOk_fin {a b : Itv} (h : gapOk a b = true) :
    ∃ u l, a.ub = .fin u ∧ b.lb = .fin l ∧ u + 1 < l := by
  obtain ⟨al, au⟩ := a
  obtain ⟨bl, bu⟩ := b
  cases au <;> cases bl <;> simp_all [gapOk]

theorem sep_of_not_merge {a b : Itv} (ha : a.isBottom = false) (hb : b.isBottom = false)
    (hwa : a.WF) (hwb : b.WF) (hs : Bound.le a.lb b.lb = true)
    (ho : overlap a b = false) (hc : areConsecutive a b = false) : gapOk a b = true := by
  have hb' := (Itv.isBottom_false_iff b).mp hb
  refine (gapOk_iff a b).mpr ⟨hwa.2, hwb.1, ?_⟩
  have hlt : Bound.le b.lb a.ub = false := by
    cases h : Bound.le b.lb a.ub
    · rfl
    · rw [(overlap_iff ha hb).mpr ⟨Bound.le_trans hs hb', h⟩] at ho; cases ho
  cases h : Bound.le b.lb (succB a.ub)
  · rfl
  · -- `b` starts at `a.ub + 1`: the two are consecutive
    have hub : Bound.le a.ub b.ub = true := Bound.le_trans (Bound.not_le hlt) hb'
    simp [areConsecutive, hs, hub, eq_succB h hlt] at hc

theorem gapOk_lt {a b : Itv} (h : gapOk a b = true) : Bound.le b.lb a.ub = false := by
  cases h' : Bound.le b.lb a.ub
  · rfl
  · have := Bound.le_trans h' (le_succB a.ub)
    rw [((gapOk_iff a b).mp h).2.2] at this; cases this

theorem gapOk_lb_le {a b : Itv} (ha : a.isBottom = false) (h : gapOk a b = true) :
    Bound.le a.lb b.lb = true :=
  Bound.le_trans ((Itv.isBottom_false_iff a).mp ha) (Bound.not_le (gapOk_lt h))

theorem gapOk_ub_le {a b : Itv} (hb : b.isBottom = false) (h : gapOk a b = true) :
    Bound.le a.ub b.ub = true :=
  Bound.le_trans (Bound.not_le (gapOk_lt h)) ((Itv.isBottom_false_iff b).mp hb)

theorem gapOk_trans {a b c : Itv} (hb : b.isBottom = false) (h1 : gapOk a b = true)
    (h2 : gapOk b c = true) : gapOk a c = true := by
  obtain ⟨u, l, hu, hl, h⟩ := gapOk_fin h1
  obtain ⟨u', l', hu', hl', h'⟩ := gapOk_fin h2
  have := (Itv.isBottom_false_iff b).mp hb
  rw [hl, hu'] at this
  simp only [gapOk, hu, hl']
  simp at this ⊢; omega

theorem gapOk_asymm {a b : Itv} (ha : a.isBottom = false) (hb : b.isBottom = false)
    (h1 : gapOk a b = true) (h2 : gapOk b a = true) : False := by
  have := Bound.le_trans (gapOk_lb_le ha h1) ((Itv.isBottom_false_iff b).mp hb)
  rw [gapOk_lt h2] at this; cases this

theorem gapOk_mem {a b : Itv} (h : gapOk a b = true) {j k : Int} (hj : Itv.mem j a) (hk : Itv.mem k b) :
    j + 1 < k := by
  obtain ⟨al, au⟩ := a
  obtain ⟨bl, bu⟩ := b
  cases au <;> cases bl <;> simp [gapOk, Itv.mem] at * <;> omega

def memL (k : Int) (l : List Itv) : Prop := ∃ i ∈ l, Itv.mem k i

theorem memL_nil (k : Int) : ¬ memL k [] := by simp [memL]

theorem memL_cons {k : Int} {a : Itv} {l : List Itv} : memL k (a :: l) ↔ Itv.mem k a ∨ memL k l := by
  simp [memL]

theorem memL_append {k : Int} {l m : List Itv} : memL k (l ++ m) ↔ memL k l ∨ memL k m := by
  simp [memL, or_and_right, exists_or]

theorem mem_fin {k : Int} {l : List Itv} : mem k ⟨.fin, l⟩ ↔ memL k l := Iff.rfl
theorem mem_top (k : Int) : mem k top := trivial
theorem not_mem_bot (k : Int) : ¬ mem k bot := fun h => h

theorem mem_of_isTop {x : Dis} (h : x.isTop = true) (k : Int) : mem k x := by
  obtain ⟨s, l⟩ := x
  cases s <;> simp_all [isTop, mem]

theorem not_mem_of_isBottom {x : Dis} (h : x.isBottom = true) (k : Int) : ¬ mem k x := by
  obtain ⟨s, l⟩ := x
  cases s <;> simp_all [isBottom, mem]

/-- the same for one interval of the vector -/
theorem not_mem_of_isBottom' {i : Itv} (hb : i.isBottom = true) (k : Int) : ¬ Itv.mem k i :=
  Itv.not_mem_of_isBottom hb

theorem contains_iff (x : Dis) (k : Int) : x.contains k = true ↔ mem k x := by
  obtain ⟨st, l⟩ := x
  cases st <;> simp [contains, mem, Itv.contains_iff]

/-- a FINITE value fails the tests `is_bottom()` and `is_top()` (to unfold an operation on FINITE values) -/
theorem isBottom_fin (l : List Itv) : (⟨.fin, l⟩ : Dis).isBottom = false := rfl
theorem isTop_fin (l : List Itv) : (⟨.fin, l⟩ : Dis).isTop = false := rfl

theorem eq_fin {x : Dis} (hb : ¬ x.isBottom = true) (ht : ¬ x.isTop = true) : x = ⟨.fin, x.l⟩ := by
  obtain ⟨s, l⟩ := x
  cases s
  · exact absurd rfl hb
  · rfl
  · exact absurd rfl ht

/-- `operator|` and the widenings open with the same four tests (`hop` is their definition,
    whatever comes after the tests): outside FINITE × FINITE the answer is one of the arguments,
    and it covers both -/
theorem upper_cases {op G : Dis → Dis → Dis}
    (hop : ∀ x y, op x y = if x.isBottom then y else if y.isBottom then x else if x.isTop then x
      else if y.isTop then y else G x y)
    {motive : Dis → Prop} (x y : Dis)
    (arg : ∀ r, r = x ∨ r = y → (∀ k, mem k x ∨ mem k y → mem k r) → motive r)
    (fin : ∀ lx ly, x = ⟨.fin, lx⟩ → y = ⟨.fin, ly⟩ → motive (op x y)) :
    motive (op x y) := by
  by_cases h1 : x.isBottom = true
  · rw [hop, if_pos h1]; exact arg y (Or.inr rfl) fun k h => h.resolve_left (not_mem_of_isBottom h1 k)
  by_cases h2 : y.isBottom = true
  · rw [hop, if_neg h1, if_pos h2]
    exact arg x (Or.inl rfl) fun k h => h.resolve_right (not_mem_of_isBottom h2 k)
  by_cases h3 : x.isTop = true
  · rw [hop, if_neg h1, if_neg h2, if_pos h3]; exact arg x (Or.inl rfl) fun k _ => mem_of_isTop h3 k
  by_cases h4 : y.isTop = true
  · rw [hop, if_neg h1, if_neg h2, if_neg h3, if_pos h4]
    exact arg y (Or.inr rfl) fun k _ => mem_of_isTop h4 k
  exact fin _ _ (eq_fin h1 h3) (eq_fin h2 h4)

theorem perm_insertByLb (x : Itv) (l : List Itv) : (insertByLb x l).Perm (x :: l) := by
  induction l with
  | nil => exact .refl _
  | cons y ys ih =>
    unfold insertByLb
    split
    · exact .refl _
    · exact (List.Perm.cons y ih).trans (.swap x y ys)

theorem perm_sortByLb (l : List Itv) : (sortByLb l).Perm l := by
  induction l with
  | nil => exact .refl _
  | cons y ys ih => exact (perm_insertByLb y _).trans (ih.cons y)

def LbSorted (l : List Itv) : Prop := l.Pairwise (fun a b => Bound.le a.lb b.lb = true)

theorem lbSorted_insertByLb {x : Itv} {l : List Itv} (h : LbSorted l) : LbSorted (insertByLb x l) := by
  induction l with
  | nil => simp [insertByLb, LbSorted]
  | cons y ys ih =>
    have h' := List.pairwise_cons.mp h
    unfold insertByLb
    split
    · rename_i hxy
      refine List.pairwise_cons.mpr ⟨fun z hz => ?_, h⟩
      rcases List.mem_cons.mp hz with rfl | hz
      · exact hxy
      · exact Bound.le_trans hxy (h'.1 z hz)
    · rename_i hxy
      refine List.pairwise_cons.mpr ⟨fun z hz => ?_, ih h'.2⟩
      rcases List.mem_cons.mp ((perm_insertByLb x ys).mem_iff.mp hz) with rfl | hz
      · exact Bound.not_le (by simpa using hxy)
      · exact h'.1 z hz

theorem lbSorted_sortByLb (l : List Itv) : LbSorted (sortByLb l) := by
  induction l with
  | nil => exact List.Pairwise.nil
  | cons y ys ih => exact lbSorted_insertByLb ih

/-- `l'` is a coarsening of `l`: the same union, no more intervals, and every interval of `l'` is
    made from intervals of `l` by joins (so it has every property of single intervals that joins
    keep).  This is all that the merge loops of `normalize` and `operator|` do to a vector. -/
structure Coarsens (l l' : List Itv) : Prop where
  mem : ∀ k, memL k l' ↔ memL k l
  length_le : l'.length ≤ l.length
  all : ∀ P : Itv → Prop, (∀ a b, P a → P b → P (Itv.join a b)) → (∀ i ∈ l, P i) → ∀ i ∈ l', P i

namespace Coarsens

theorem refl (l : List Itv) : Coarsens l l := ⟨fun _ => Iff.rfl, Nat.le_refl _, fun _ _ h => h⟩

theorem trans {l m n : List Itv} (h1 : Coarsens l m) (h2 : Coarsens m n) : Coarsens l n :=
  ⟨fun k => (h2.mem k).trans (h1.mem k), Nat.le_trans h2.length_le h1.length_le,
   fun P hj h => h2.all P hj (h1.all P hj h)⟩

theorem of_perm {l l' : List Itv} (h : l.Perm l') : Coarsens l l' :=
  ⟨fun k => by simp [memL, h.mem_iff], Nat.le_of_eq h.length_eq.symm, fun _ _ hl i hi => hl i (h.mem_iff.mpr hi)⟩

theorem append_left (p : List Itv) {l l' : List Itv} (h : Coarsens l l') : Coarsens (p ++ l) (p ++ l') :=
  ⟨fun k => by rw [memL_append, memL_append, h.mem k],
   by simp only [List.length_append]; exact Nat.add_le_add_left h.length_le _,
   fun P hj hl i hi => (List.mem_append.mp hi).elim (fun hi => hl i (List.mem_append_left _ hi))
     (h.all P hj (fun j hj' => hl j (List.mem_append_right _ hj')) i)⟩

theorem append_right {l l' : List Itv} (h : Coarsens l l') (s : List Itv) : Coarsens (l ++ s) (l' ++ s) :=
  ((of_perm List.perm_append_comm).trans (h.append_left s)).trans (of_perm List.perm_append_comm)

/-- an interval covered by the rest goes: a bottom interval, a copy, an interval below another one -/
theorem drop {a : Itv} {l : List Itv} (h : ∀ k, Itv.mem k a → memL k l) : Coarsens (a :: l) l :=
  ⟨fun k => by rw [memL_cons]; exact ⟨Or.inr, fun hk => hk.elim (h k) id⟩, Nat.le_succ _,
   fun _ _ hl i hi => hl i (List.mem_cons_of_mem _ hi)⟩

/-- two intervals that overlap or touch are replaced by their join -/
theorem merge {a b : Itv} (h : overlap a b = true ∨ areConsecutive a b = true) (l : List Itv) :
    Coarsens (a :: b :: l) (Itv.join a b :: l) := by
  refine ⟨fun k => ?_, Nat.le_succ _, fun P hj hl i hi => ?_⟩
  · rw [memL_cons, memL_cons, memL_cons, ← or_assoc]
    exact or_congr_left ⟨join_exact_of_merge h, fun hk => hk.elim Itv.join_upper_left Itv.join_upper_right⟩
  · rcases List.mem_cons.mp hi with rfl | hi
    · exact hj _ _ (hl a (by simp)) (hl b (by simp))
    · exact hl i (by simp [hi])

end Coarsens

end Dis
end Crab
