import CrabModel.Analysis.RChecker
import CrabProofs.Lemmas.CheckerSound

/-!
  Soundness of the model of the assertion checker on programs with references
  (`CrabModel/Analysis/RChecker.lean`) w.r.t. the executable semantics
  (`CrabModel/IR/RSemantics.lean`): `reference_constraint::negate` is the logical negation, the
  decision rule of `assert_ref` (those of `assert` and `bool_assert` are the ones of
  CheckerSound.lean, through `RCheckDom.toCheckDom`), then the statement loop of a block.
-/
namespace Crab

theorem decide_eq_not_decide {p q : Prop} [ip : Decidable p] [iq : Decidable q] (h : p ↔ ¬q) :
    @decide p ip = !(@decide q iq) := by
  by_cases hq : q <;> simp [hq, h]

namespace Analysis
open Crab.RIR

variable {A : Type}

/-- `reference_constraint::negate` returns a constraint that holds exactly when the original
    does not -/
theorem RefCst.negate_holds (c nc : RefCst) (σ : RState) (h : c.negate = some nc) :
    nc.holds σ = !c.holds σ := by
  obtain ⟨k, lhs, rhs, off⟩ := c
  cases lhs with
  | none =>
    cases rhs with
    | none => cases k <;> cases h <;> rfl
    | some q => cases h
  | some p =>
    -- unary and binary constraints: the result is `some` of a `match` on the kind, which gives the
    -- complementary comparison (`=`/`≠`, `≤`/`>`, `<`/`≥`); the ordered binary ones are written with
    -- the sides swapped and the offset negated (`p ≤ q + k` becomes `q < p - k`)
    cases rhs with
    | none =>
      cases h
      cases k <;> simp only [RefCst.holds, RefCst.mk', RKind.cmp, refAddr] <;>
        (apply decide_eq_not_decide; omega)
    | some q =>
      cases h
      cases k <;> simp only [RefCst.holds, RefCst.mk', RKind.cmp, refAddr] <;>
        (apply decide_eq_not_decide; omega)

theorem checkAssertRef_safe (D : RCheckDom A) (inv : A) (c : RefCst) (σ : RState)
    (h : checkAssertRef D inv c = some .safe) (hγ : D.γ inv σ) : c.holds σ = true := by
  unfold checkAssertRef at h
  rw [if_neg fun hb => D.isBottom_sound inv σ hb hγ] at h
  cases hn : c.negate with
  | none => rw [hn] at h; cases h
  | some nc =>
    rw [hn] at h
    dsimp only at h
    by_cases hb : D.isBottom (D.refAssume inv nc) = true
    · -- the negation is refuted: were `c` false, the state would be in `γ` of a bottom value
      cases hc : c.holds σ with
      | true => rfl
      | false =>
        have hneg : nc.holds σ = true := by rw [RefCst.negate_holds c nc σ hn, hc]; rfl
        exact absurd (D.refAssume_sound inv nc σ hγ hneg) (D.isBottom_sound _ σ hb)
    · rw [if_neg hb] at h; cases h

theorem checkAssertRef_unreachable (D : RCheckDom A) (inv : A) (c : RefCst) (σ : RState)
    (h : checkAssertRef D inv c = some .unreachable) : ¬ D.γ inv σ := by
  intro hγ
  unfold checkAssertRef at h
  rw [if_neg fun hb => D.isBottom_sound inv σ hb hγ] at h
  cases hn : c.negate with
  | none => rw [hn] at h; cases h
  | some nc =>
    rw [hn] at h
    dsimp only at h
    by_cases hb : D.isBottom (D.refAssume inv nc) = true
    · rw [if_pos hb] at h; cases h
    · rw [if_neg hb] at h; cases h

/-- the integer and Boolean part of the domain, over the states of programs without references:
    `rcheckAssert`, `rcheckBoolAssert` are `checkAssert`, `checkBoolAssert` of it -/
def RCheckDom.toCheckDom (D : RCheckDom A) : CheckDom A where
  γ := fun a σ => ∃ ρ, D.γ a ρ ∧ toIR D.nI ρ = σ
  isBottom := D.isBottom
  entails := D.entails
  assumeBool := D.assumeBool
  isBottom_sound := fun a _ h ⟨ρ, hg, _⟩ => D.isBottom_sound a ρ h hg
  entails_sound := fun a c _ h ⟨ρ, hg, e⟩ => e ▸ D.entails_sound a c ρ h hg
  assumeBool_sound := fun a b neg _ ⟨ρ, hg, e⟩ h => ⟨ρ, D.assumeBool_sound a b neg ρ hg (e ▸ h), e⟩

theorem RCheckDom.γ_toCheckDom (D : RCheckDom A) {a : A} {σ : RState} (h : D.γ a σ) :
    D.toCheckDom.γ a (toIR D.nI σ) := ⟨σ, h, rfl⟩

theorem rheadVerdict_none_iff (D : RCheckDom A) (s : Stmt) (a : A) :
    rheadVerdict D s a = none ↔ s.isAssert = false := by
  cases s with
  | base s0 => cases s0 <;> simp [rheadVerdict, Stmt.isAssert, IR.Stmt.isAssert]
  | _ => simp [rheadVerdict, Stmt.isAssert]

/-- a verdict at the head of the loop is right about the state the statement is executed in -/
theorem rheadVerdict_sound (D : RCheckDom A) (s : Stmt) (a : A) (v : CheckKind) (σ : RState) (ch : Int)
    (hγ : D.γ a σ) (h : rheadVerdict D s a = some (some v)) :
    v ≠ .unreachable ∧ (v = .safe → stepStmt D.nI s σ ch ≠ .fail) := by
  have hγ' := D.γ_toCheckDom hγ
  cases s with
  | base s0 =>
    cases s0 <;> simp [rheadVerdict] at h
    case assert c =>
      refine ⟨?_, ?_⟩
      · intro hu; exact checkAssert_unreachable D.toCheckDom a c _ (h.trans hu) hγ'
      · intro hs
        have := checkAssert_safe D.toCheckDom a c _ (h.trans hs) hγ'
        simp [stepStmt, IR.stepStmt, this]
    case bassert b =>
      refine ⟨?_, ?_⟩
      · intro hu; exact checkBoolAssert_unreachable D.toCheckDom a b _ (h.trans hu) hγ'
      · intro hs
        have := checkBoolAssert_safe D.toCheckDom a b _ (h.trans hs) hγ'
        simp [stepStmt, IR.stepStmt, this]
  | assertRef c =>
    simp [rheadVerdict] at h
    refine ⟨?_, ?_⟩
    · intro hu; exact checkAssertRef_unreachable D a c σ (by rw [h, hu]) hγ
    · intro hs
      have := checkAssertRef_safe D a c σ (by rw [h, hs]) hγ
      simp [stepStmt, this]
  | _ => simp [rheadVerdict] at h

/-- choice consumed by statement `s` and the rest of the stream -/
def stmtChoice (s : Stmt) (ch : List Int) : Int × List Int :=
  if s.usesChoice then IR.popChoice ch else (0, ch)

/-- the events of a non-empty statement list: the check event of the head (assertions only),
    then the events of the tail when the head has a successor state -/
theorem runStmts_cons_events (nI b i : Nat) (s : Stmt) (ss : List Stmt) (σ : RState) (ch : List Int) :
    (runStmts nI b i (s :: ss) σ ch).events =
      (if s.isAssert then
        [Event.check b i σ (match stepStmt nI s σ (stmtChoice s ch).1 with | .fail => false | _ => true)]
       else []) ++
      (match stepStmt nI s σ (stmtChoice s ch).1 with
       | .next σ' => (runStmts nI b (i + 1) ss σ' (stmtChoice s ch).2).events
       | _ => []) := by
  rw [runStmts]
  simp only [stmtChoice]
  cases stepStmt nI s σ (if s.usesChoice = true then IR.popChoice ch else (0, ch)).1 with
  | next σ' => rfl
  | _ => exact (List.append_nil _).symm

theorem runStmts_check (nI b : Nat) :
    ∀ (ss : List Stmt) (i : Nat) (σ : RState) (ch : List Int) (b' j : Nat) (σ' : RState) (ok : Bool),
      Event.check b' j σ' ok ∈ (runStmts nI b i ss σ ch).events → b' = b ∧ i ≤ j := by
  intro ss
  induction ss with
  | nil => intro i σ ch b' j σ' ok h; simp [runStmts] at h
  | cons s ss ih =>
    intro i σ ch b' j σ' ok h
    rw [runStmts_cons_events] at h
    simp only [List.mem_append] at h
    rcases h with h | h
    · split at h
      · simp only [List.mem_singleton] at h
        injection h with hb hj _ _
        exact ⟨hb, Nat.le_of_eq hj.symm⟩
      · simp at h
    · split at h
      · have := ih _ _ _ _ _ _ _ h; exact ⟨this.1, by omega⟩
      · simp at h

theorem rcheckStmts_index_ge (D : RCheckDom A) (tr : Stmt → A → A) :
    ∀ (ss : List Stmt) (i : Nat) (a : A) (res : List (Nat × CheckKind)) (j : Nat) (v : CheckKind),
      rcheckStmts D tr i ss a = some res → (j, v) ∈ res → i ≤ j := by
  intro ss
  induction ss with
  | nil => intro i a res j v h hm; simp [rcheckStmts] at h; subst h; simp at hm
  | cons s ss ih =>
    intro i a res j v h hm
    unfold rcheckStmts at h
    split at h
    · have := ih _ _ _ _ _ h hm; omega
    · cases h
    · split at h
      · cases h
      · rename_i rest hr
        injection h with h
        subst h
        simp only [List.mem_cons] at hm
        rcases hm with hm | hm
        · injection hm with hj _; omega
        · have := ih _ _ _ _ _ hr hm; omega

/-- the statement loop: in any execution of the statements started in a state of the invariant
    the loop starts from, an assertion classified `unreachable` is not executed and one
    classified `safe` does not fail -/
theorem rcheckStmts_sound (D : RCheckDom A) (tr : Stmt → A → A) (htr : RTrSound D tr) (b : Nat) :
    ∀ (ss : List Stmt) (i : Nat) (a : A) (σ : RState) (ch : List Int) (res : List (Nat × CheckKind)),
      D.γ a σ → rcheckStmts D tr i ss a = some res →
      ∀ (j : Nat) (σ' : RState) (ok : Bool) (v : CheckKind),
        Event.check b j σ' ok ∈ (runStmts D.nI b i ss σ ch).events → (j, v) ∈ res →
        v ≠ .unreachable ∧ (v = .safe → ok = true) := by
  intro ss
  induction ss with
  | nil => intro i a σ ch res _ _ j σ' ok v hev; simp [runStmts] at hev
  | cons s ss ih =>
    intro i a σ ch res hγ hres j σ' ok v hev hv
    rw [runStmts_cons_events] at hev
    simp only [List.mem_append] at hev
    unfold rcheckStmts at hres
    split at hres
    · -- not an assertion
      rename_i hnone
      have hna : s.isAssert = false := (rheadVerdict_none_iff D s a).1 hnone
      rcases hev with hev | hev
      · simp [hna] at hev
      · split at hev
        · rename_i σ1 hs
          exact ih _ _ _ _ _ (htr s a σ _ σ1 hγ hs) hres j σ' ok v hev hv
        · simp at hev
    · cases hres
    · rename_i v0 hsome
      have hia : s.isAssert = true := by
        cases hq : s.isAssert with
        | true => rfl
        | false => rw [(rheadVerdict_none_iff D s a).2 hq] at hsome; cases hsome
      have hhead := rheadVerdict_sound D s a v0 σ (stmtChoice s ch).1 hγ hsome
      split at hres
      · cases hres
      · rename_i rest hr
        injection hres with hres
        subst hres
        simp only [List.mem_cons] at hv
        rcases hev with hev | hev
        · -- the head event
          simp only [hia, if_true, List.mem_singleton] at hev
          injection hev with _ hj _ hok
          rcases hv with hv | hv
          · injection hv with _ hvv
            subst hvv
            refine ⟨hhead.1, fun hs => ?_⟩
            have hnf := hhead.2 hs
            rw [hok]
            split
            · rename_i hf; exact absurd hf hnf
            · rfl
          · have := rcheckStmts_index_ge D tr _ _ _ _ _ _ hr hv; omega
        · -- an event of the tail
          split at hev
          · rename_i σ1 hs
            rcases hv with hv | hv
            · have := (runStmts_check D.nI b _ _ _ _ _ _ _ _ hev).2
              injection hv with hj _; omega
            · have hγ1 : D.γ (if v0 == .unreachable then a else tr s a) σ1 := by
                split
                · rename_i hu
                  exact absurd (by simpa using hu) hhead.1
                · exact htr s a σ _ σ1 hγ hs
              exact ih _ _ _ _ _ hγ1 hr j σ' ok v hev hv
          · simp at hev

/-- every `check` event of a trace lies in the run of a block the trace enters, started in the
    state of the `enter` event -/
theorem rexec_check_of_enter (p : Program) :
    ∀ (fuel b0 : Nat) (σ0 : RState) (ch : List Int) (b j : Nat) (σ' : RState) (ok : Bool),
      Event.check b j σ' ok ∈ exec p fuel b0 σ0 ch →
      ∃ σ ch', Event.enter b σ ∈ exec p fuel b0 σ0 ch ∧
               Event.check b j σ' ok ∈ (runBlock p b σ ch').events := by
  intro fuel
  induction fuel with
  | zero => intro b0 σ0 ch b j σ' ok h; simp [exec] at h
  | succ fuel ih =>
    intro b0 σ0 ch b j σ' ok h
    unfold exec at h ⊢
    simp only [List.mem_cons, List.mem_append] at h ⊢
    rcases h with h | h | h
    · cases h
    · have hb := (runStmts_check p.nI b0 _ 0 σ0 ch _ _ _ _ h).1
      subst hb
      exact ⟨σ0, ch, Or.inl rfl, h⟩
    · split at h
      · rename_i σ1 hres
        simp only [List.mem_cons] at h
        rcases h with h | h
        · cases h
        · split at h
          · simp at h
          · rename_i s ch1 hp
            obtain ⟨σ, ch', he, hc⟩ := ih s σ1 ch1 b j σ' ok h
            refine ⟨σ, ch', Or.inr (Or.inr ?_), hc⟩
            simp only [List.mem_cons]
            exact Or.inr he
      · simp at h

end Analysis
end Crab
