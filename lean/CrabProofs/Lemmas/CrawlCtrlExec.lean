import CrabProofs.Lemmas.CrawlCtrlFix
import CrabProofs.Lemmas.TIRCrawlerExec

/-!
  Executions, control part (block level): a block that was executed to its end contains no
  `unreachable`, what the scheduler answers at a deterministic branch (`sched_det`), and the guard
  of a block only looks at `guardVars` (`guardOk_congr`).
-/
namespace Crab
namespace TIR

theorem runStmts_nil (hv : Nat → Var → Int) (l : Label) (i : Nat) (σ : State) (nh : Nat) :
    runStmts hv l i [] σ nh = ([], .fall σ nh) := rfl

theorem runStmts_fall_noUnreach (hv : Nat → Var → Int) (l : Label) :
    ∀ (ss : List Stmt) (i : Nat) (σ : State) (nh : Nat) (t : List TEv) (σ' : State) (n' : Nat),
      runStmts hv l i ss σ nh = (t, .fall σ' n') → noUnreach ss = true := by
  intro ss
  induction ss with
  | nil => intro _ _ _ _ _ _ _; rfl
  | cons s r ih =>
    intro i σ nh t σ' n' h
    cases hs : stepStmt s σ (hvVal hv nh s) with
    | cont σ1 ev =>
      rw [runStmts_cons_cont hs] at h
      simp only [Prod.mk.injEq] at h
      have hr : runStmts hv l (i + 1) r σ1 (hvNext nh s) =
          ((runStmts hv l (i + 1) r σ1 (hvNext nh s)).1, .fall σ' n') := by rw [← h.2]
      exact (noUnreach_cons s r).mpr ⟨not_unreachable_of_cont hs, ih _ _ _ _ _ _ hr⟩
    | stop ev o =>
      rw [runStmts_cons_stop hs] at h
      simp at h

theorem sched_det (P : Prog) (prio : Label → Nat → Label → Nat) (step n : Nat) (l : Label) (σ : State)
    (h1 : (feasibleSuccs P l σ).length = 1) :
    guardOk P (schedChooser P prio step n l σ (P.succsOf l)) σ = true ∧
    ∀ t, t ∈ P.succsOf l → t ≠ schedChooser P prio step n l σ (P.succsOf l) → guardOk P t σ = false := by
  obtain ⟨z, hz⟩ : ∃ z, feasibleSuccs P l σ = [z] := by
    cases hf : feasibleSuccs P l σ with
    | nil => rw [hf] at h1; cases h1
    | cons z r =>
      cases r with
      | nil => exact ⟨z, rfl⟩
      | cons _ _ => rw [hf] at h1; simp at h1
  have hz' : (P.succsOf l).filter (fun l' => guardOk P l' σ) = [z] := hz
  have hch : schedChooser P prio step n l σ (P.succsOf l) = z := by
    simp [schedChooser, hz', bestBy]
  rw [hch]
  have hzm : z ∈ (P.succsOf l).filter (fun l' => guardOk P l' σ) := by rw [hz']; exact List.mem_cons_self
  refine ⟨(List.mem_filter.mp hzm).2, ?_⟩
  intro t ht htz
  cases hg : guardOk P t σ with
  | false => rfl
  | true =>
    have : t ∈ (P.succsOf l).filter (fun l' => guardOk P l' σ) := List.mem_filter.mpr ⟨ht, hg⟩
    rw [hz'] at this
    exact absurd (by simpa using this) htz

theorem guardOk_congr (P : Prog) (s : Label) (σ σ' : State) (h : agreeOn (guardVars P s) σ σ') :
    guardOk P s σ = guardOk P s σ' := by
  unfold guardOk
  unfold guardVars at h
  generalize (P.stmtsOf s).takeWhile (fun s => s.assumeCst.isSome) = L at h ⊢
  induction L with
  | nil => rfl
  | cons st r ih =>
    simp only [List.all_cons]
    have hr : agreeOn (r.flatMap (fun s => match s.assumeCst with | some c => c.vars | none => [])) σ σ' := by
      intro y hy
      apply h
      simp only [List.flatMap_cons]
      exact List.mem_append.mpr (Or.inr hy)
    rw [ih hr]
    cases hc : st.assumeCst with
    | none => rfl
    | some c =>
      simp only
      have : c.holds σ = c.holds σ' := by
        apply Cst.holds_congr
        intro y hy
        apply h
        simp only [List.flatMap_cons, hc]
        exact List.mem_append.mpr (Or.inl hy)
      rw [this]

end TIR
end Crab
