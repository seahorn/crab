import CrabProofs.Lemmas.BwdSound

/-!
  `BackwardAssignOps::assign` / `apply` (the shared implementation of `backward_assign` and
  `backward_apply`) derived from the forward operations of a domain: soundness of every
  branch (the division `x := y / k` is inverted by `y := x * k + r`, `|r| <= |k| - 1`), and the
  exact set domain on which the inversion by `y := x * k` alone (before commit ac800bc) loses a
  state.
-/
namespace Crab
namespace Bwd

theorem evalTerms_upd_not_mem (ts : List (Int × Var)) (σ : State) (x : Var) (v : Int)
    (h : x ∉ ts.map (·.2)) : evalTerms ts (upd σ x v) = evalTerms ts σ := by
  induction ts with
  | nil => rfl
  | cons t ts ih =>
    obtain ⟨k, y⟩ := t
    simp only [List.map, List.mem_cons, not_or] at h
    simp only [evalTerms]
    rw [ih h.2, upd_other σ x y v (fun e => h.1 e.symm)]

theorem Lin.eval_upd_not_mem (e : Lin) (σ : State) (x : Var) (v : Int) (h : x ∉ e.vars) :
    e.eval (upd σ x v) = e.eval σ := by
  simp only [Lin.eval, evalTerms_upd_not_mem e.ts σ x v h]

theorem Cst.eqVar_holds (e : Lin) (x : Var) (σ : State) :
    (Cst.eqVar e x).holds σ ↔ e.eval σ = σ x := by
  simp only [Cst.eqVar, Cst.holds, Lin.subVar, Lin.eval, evalTerms]
  omega

/-- reading the renamed expression in a state where `f` holds the old value of `x` -/
theorem evalTerms_rename (ts : List (Int × Var)) (σ : State) (x f : Var) (a : Int)
    (hf : f ∉ ts.map (·.2)) (hfx : f ≠ x) :
    evalTerms (ts.map (fun t => (t.1, if t.2 = x then f else t.2))) (upd (upd σ x a) f (σ x)) =
      evalTerms ts σ := by
  induction ts with
  | nil => rfl
  | cons t ts ih =>
    obtain ⟨k, y⟩ := t
    simp only [List.map, List.mem_cons, not_or] at hf
    simp only [List.map, evalTerms]
    rw [ih hf.2]
    by_cases hy : y = x
    · subst hy; simp [upd]
    · have hyf : y ≠ f := fun e => hf.1 e.symm
      simp [upd, hy, hyf]

theorem Lin.rename_eval (e : Lin) (σ : State) (x f : Var) (a : Int) (hf : f ∉ e.vars) (hfx : f ≠ x) :
    (e.rename x f).eval (upd (upd σ x a) f (σ x)) = e.eval σ := by
  simp only [Lin.rename, Lin.eval]
  rw [evalTerms_rename e.ts σ x f a hf hfx]

variable {A : Type} {D : BDom A} {γ : A → State → Prop}

/-- contract of `rename({y}, {x})`: afterwards `x` holds what `y` held, `y` is unconstrained -/
def RenameSound (γ : A → State → Prop) (rename : Var → Var → A → A) : Prop :=
  ∀ y x a τ w, γ a τ → γ (rename y x a) (upd (upd τ x (τ y)) y w)

/-- what `BackwardAssignOps::assign` needs of `rename({y}, {x})`: it is called right after
    `dom -= x` (the real `separate_domain::rename` is NOT a renaming when the target is bound and
    the source is not: the binding of the target survives) -/
def RenameAfterForget (D : BDom A) (γ : A → State → Prop) (rename : Var → Var → A → A) : Prop :=
  ∀ y x a τ w, y ≠ x → γ a τ → γ (rename y x (D.forget x a)) (upd (upd τ x (τ y)) y w)

theorem RenameSound.afterForget {rename : Var → Var → A → A} (hren : RenameSound γ rename)
    (hD : BDomSound D γ) : RenameAfterForget D γ rename := by
  intro y x a τ w _ hg
  have h := hD.forget_sound x a τ (τ x) hg
  rw [upd_self] at h
  exact hren y x _ τ w h

/-- `BackwardAssignOps::assign` is sound when the fresh variable is really fresh -/
theorem genBwdAssign_sound (hD : BDomSound D γ) (rename : Var → Var → A → A)
    (hren : RenameAfterForget D γ rename) (fresh x : Var) (e : Lin) (post inv : A) (σ : State)
    (hfx : fresh ≠ x) (hfe : fresh ∉ e.vars)
    (hfp : ∀ τ v, γ post τ → γ post (upd τ fresh v))
    (hinv : γ inv σ) (hpost : γ post (upd σ x (e.eval σ))) :
    γ (genBwdAssign D rename fresh x e post inv) σ := by
  unfold genBwdAssign
  rw [if_neg (fun hb => hD.isBottom_sound _ _ hb hpost)]
  by_cases hx : x ∈ e.vars
  · rw [if_pos hx]
    let τ := upd (upd σ x (e.eval σ)) fresh (σ x)
    have h1 : γ post τ := hfp _ _ hpost
    have hc : (Cst.eqVar (e.rename x fresh) x).holds τ := by
      rw [Cst.eqVar_holds, Lin.rename_eval e σ x fresh (e.eval σ) hfe hfx]
      show e.eval σ = upd (upd σ x (e.eval σ)) fresh (σ x) x
      rw [upd_other _ fresh x _ (fun h => hfx h.symm), upd_same]
    have h2 := hD.assume_sound _ post τ h1 hc
    have h4 := hren fresh x _ τ (σ fresh) hfx h2
    -- `x` gets back the value kept in `fresh`, then `fresh` its own: the state is restored
    have hρ : upd (upd τ x (τ fresh)) fresh (σ fresh) = σ := by
      show upd (upd (upd (upd σ x (e.eval σ)) fresh (σ x)) x
        (upd (upd σ x (e.eval σ)) fresh (σ x) fresh)) fresh (σ fresh) = σ
      rw [upd_same, upd_comm _ fresh x _ _ hfx, upd_upd, upd_upd, upd_self, upd_self]
    rw [hρ] at h4
    exact hD.meet_sound _ _ σ h4 hinv
  · rw [if_neg hx]
    have hc : (Cst.eqVar e x).holds (upd σ x (e.eval σ)) := by
      rw [Cst.eqVar_holds, Lin.eval_upd_not_mem e σ x _ hx, upd_same]
    exact hD.meet_sound _ _ σ (hD.forget_back (hD.assume_sound _ post _ hpost hc)) hinv

/-- giving `y`, then `x`, their old values back undoes an update of `x` -/
theorem upd_restore {σ : State} {x y : Var} (hxy : x ≠ y) (v : Int) :
    upd (upd (upd σ x v) y (σ y)) x (σ x) = σ := by
  rw [upd_comm _ y x _ _ (Ne.symm hxy), upd_upd, upd_self, upd_self]

/-- the end of both inverse operations: once `y` has its old value back, forgetting `x` (unless
    it is `y`) gives the pre-state -/
theorem BDomSound.restore (hD : BDomSound D γ) {x y : Var} {v : Int} {a : A} {σ : State}
    (h : γ a (upd (upd σ x v) y (σ y))) : γ (if x = y then a else D.forget x a) σ := by
  by_cases hxy : x = y
  · subst hxy
    rw [if_pos rfl]
    rwa [upd_upd, upd_self] at h
  · rw [if_neg hxy]
    have h2 := hD.forget_sound x _ _ (σ x) h
    rwa [upd_restore hxy] at h2

/-- the inverse operation recovers the pre-state when it recovers the value of `y` -/
theorem genInverse_sound (hD : BDomSound D γ) (iop : BinOp) (x y : Var) (k v : Int) (post : A)
    (σ : State) (hrec : binSem iop v k = some (σ y)) (hpost : γ post (upd σ x v)) :
    γ (genInverse D iop x y k post) σ :=
  hD.restore (hD.apply_sound iop y x (.const k) post (upd σ x v) (σ y) hpost
    (by simpa [Operand.eval] using hrec))

theorem tmod_bounds (a k : Int) (hk : k ≠ 0) :
    -(maxRem k) ≤ a.tmod k ∧ a.tmod k ≤ maxRem k := by
  unfold maxRem
  by_cases hneg : k < 0
  · have hpos : 0 < -k := by omega
    have h1 := Int.tmod_lt_of_pos a hpos
    have h2 := Int.lt_tmod_of_pos a hpos
    rw [Int.tmod_neg] at h1 h2
    simp only [hneg, if_true]
    omega
  · have hpos : 0 < k := by omega
    have h1 := Int.tmod_lt_of_pos a hpos
    have h2 := Int.lt_tmod_of_pos a hpos
    simp only [hneg, if_false]
    omega

/-- the `OP_SDIV` case: `y := x * k + r` with `|r| <= |k| - 1` recovers every pre-state -/
theorem genInverseDiv_sound (hD : BDomSound D γ) (fresh x y : Var) (k : Int) (post : A)
    (σ : State) (hfx : fresh ≠ x) (hfy : fresh ≠ y)
    (hfp : ∀ τ u, γ post τ → γ post (upd τ fresh u)) (hk : k ≠ 0)
    (hpost : γ post (upd σ x ((σ y).tdiv k))) :
    γ (genInverseDiv D fresh x y k post) σ := by
  by_cases hk1 : k = 1 ∨ k = -1
  · have heq : genInverseDiv D fresh x y k post = genInverse D .mul x y k post := by
      simp [genInverseDiv, genInverse, hk1]
    rw [heq]
    refine genInverse_sound hD .mul x y k _ post σ ?_ hpost
    simp only [binSem]
    rcases hk1 with rfl | rfl
    · rw [Int.tdiv_one, Int.mul_one]
    · rw [Int.tdiv_neg, Int.tdiv_one]; congr 1; omega
  · let v := (σ y).tdiv k
    let q := (σ y).tmod k
    have hvq : v * k + q = σ y := by
      have := Int.mul_tdiv_add_tmod (σ y) k
      rw [Int.mul_comm] at this; exact this
    obtain ⟨hq1, hq2⟩ := tmod_bounds (σ y) k hk
    let τ0 := upd (upd σ x v) fresh q
    have h0 : γ post τ0 := hfp _ _ hpost
    have hτ0x : τ0 x = v := by
      show upd (upd σ x v) fresh q x = v
      rw [upd_other _ fresh x _ (fun h => hfx h.symm), upd_same]
    have h1 := hD.apply_sound .mul y x (.const k) post τ0 (v * k) h0
      (by simp only [binSem, Operand.eval, hτ0x])
    let τ1 := upd τ0 y (v * k)
    have hτ1f : τ1 fresh = q := by
      show upd (upd (upd σ x v) fresh q) y (v * k) fresh = q
      rw [upd_other _ y fresh _ hfy, upd_same]
    have hτ1y : τ1 y = v * k := upd_same _ _ _
    have hc1 : (⟨.le, ⟨-(maxRem k), [(1, fresh)]⟩⟩ : Cst).holds τ1 := by
      simp only [Cst.holds, Lin.eval, evalTerms, hτ1f]; omega
    have hc2 : (⟨.le, ⟨-(maxRem k), [(-1, fresh)]⟩⟩ : Cst).holds τ1 := by
      simp only [Cst.holds, Lin.eval, evalTerms, hτ1f]; omega
    have h2 := hD.assume_sound _ _ τ1 (hD.assume_sound _ _ τ1 h1 hc1) hc2
    have h3 := hD.apply_sound .add y y (.var fresh) _ τ1 (σ y) h2
      (by simp only [binSem, Operand.eval, hτ1f, hτ1y, hvq])
    have h4 := hD.forget_sound fresh _ _ (σ fresh) h3
    -- `y` and `fresh` get their old values back
    have hρ : upd (upd τ1 y (σ y)) fresh (σ fresh) = upd (upd σ x v) y (σ y) := by
      show upd (upd (upd (upd (upd σ x v) fresh q) y (v * k)) y (σ y)) fresh (σ fresh) = _
      rw [upd_upd, upd_comm _ fresh y _ _ hfy, upd_upd, upd_comm _ y fresh _ _ (Ne.symm hfy),
        upd_comm _ x fresh _ _ (Ne.symm hfx), upd_self]
    rw [hρ] at h4
    simp only [genInverseDiv, hk1, if_false]
    exact hD.restore h4

/-- the expressions `y ± w`, `y ± k` that `apply` hands to `assign` -/
theorem Lin.eval_add_var (y w : Var) (σ : State) :
    (⟨0, [(1, y), (1, w)]⟩ : Lin).eval σ = σ y + σ w := by
  simp only [Lin.eval, evalTerms]; omega
theorem Lin.eval_sub_var (y w : Var) (σ : State) :
    (⟨0, [(1, y), (-1, w)]⟩ : Lin).eval σ = σ y - σ w := by
  simp only [Lin.eval, evalTerms]; omega
theorem Lin.eval_add_const (y : Var) (k : Int) (σ : State) :
    (⟨k, [(1, y)]⟩ : Lin).eval σ = σ y + k := by
  simp only [Lin.eval, evalTerms]; omega
theorem Lin.eval_sub_const (y : Var) (k : Int) (σ : State) :
    (⟨-k, [(1, y)]⟩ : Lin).eval σ = σ y - k := by
  simp only [Lin.eval, evalTerms]; omega

theorem genBwdApply_sound (hD : BDomSound D γ) (rename : Var → Var → A → A)
    (hren : RenameAfterForget D γ rename) (fresh : Var) (op : BinOp) (x y : Var) (z : Operand)
    (post inv : A) (σ : State) (v : Int)
    (hfx : fresh ≠ x) (hfy : fresh ≠ y) (hfz : ∀ w, z = .var w → fresh ≠ w)
    (hfp : ∀ τ u, γ post τ → γ post (upd τ fresh u))
    (hinv : γ inv σ) (hv : binSem op (σ y) (z.eval σ) = some v) (hpost : γ post (upd σ x v)) :
    γ (genBwdApply D rename fresh op x y z post inv) σ := by
  unfold genBwdApply
  rw [if_neg (fun hb => hD.isBottom_sound _ _ hb hpost)]
  cases z with
  | const k =>
    refine hD.meet_sound _ _ σ ?_ hinv
    cases op with
    | add =>
      have hv' : σ y + k = v := Option.some.inj hv
      exact genInverse_sound hD .sub x y k v post σ (congrArg some (by omega)) hpost
    | sub =>
      have hv' : σ y - k = v := Option.some.inj hv
      exact genInverse_sound hD .add x y k v post σ (congrArg some (by omega)) hpost
    | mul =>
      have hv' : σ y * k = v := Option.some.inj hv
      show γ (if k ≠ 0 then genInverse D .sdiv x y k post else D.forget x post) σ
      by_cases hk : k = 0
      · rw [if_neg (fun h : k ≠ 0 => h hk)]
        exact hD.forget_back hpost
      · rw [if_pos hk]
        refine genInverse_sound hD .sdiv x y k v post σ ?_ hpost
        show (if k = 0 then none else some (v.tdiv k)) = some (σ y)
        rw [if_neg hk, ← hv', Int.mul_tdiv_cancel _ hk]
    | sdiv =>
      show γ (if k ≠ 0 then genInverseDiv D fresh x y k post else D.forget x post) σ
      by_cases hk : k = 0
      · rw [show binSem .sdiv (σ y) ((Operand.const k).eval σ) = none from if_pos hk] at hv
        cases hv
      · rw [show binSem .sdiv (σ y) ((Operand.const k).eval σ) = some ((σ y).tdiv k) from
          if_neg hk] at hv
        rw [if_pos hk]
        exact genInverseDiv_sound hD fresh x y k post σ hfx hfy hfp hk (Option.some.inj hv ▸ hpost)
  | var w =>
    have hfw : fresh ∉ [y, w] := by
      simp only [List.mem_cons, List.not_mem_nil, or_false, not_or]
      exact ⟨hfy, hfz w rfl⟩
    cases op with
    | add =>
      have hv' : σ y + σ w = v := Option.some.inj hv
      exact genBwdAssign_sound hD rename hren fresh x ⟨0, [(1, y), (1, w)]⟩ post inv σ hfx hfw hfp
        hinv (by rw [Lin.eval_add_var, hv']; exact hpost)
    | sub =>
      have hv' : σ y - σ w = v := Option.some.inj hv
      exact genBwdAssign_sound hD rename hren fresh x ⟨0, [(1, y), (-1, w)]⟩ post inv σ hfx hfw hfp
        hinv (by rw [Lin.eval_sub_var, hv']; exact hpost)
    | mul => exact hD.meet_sound _ _ σ (hD.forget_back hpost) hinv
    | sdiv => exact hD.meet_sound _ _ σ (hD.forget_back hpost) hinv

/-- sets of states; `bwdAssign` / `bwdApply` fields are the trivially sound "top" (the
    statements below are about `genBwdAssign` / `genBwdApply`, which do not read them).  `isBottom`
    and `leq` answer `false` on purpose: emptiness and inclusion of sets are not decidable, and
    "don't know" is always a sound answer of the two tests. -/
def setDom : BDom (State → Prop) where
  top := fun _ => True
  bot := fun _ => False
  isBottom := fun _ => false
  leq := fun _ _ => false
  join := fun a b σ => a σ ∨ b σ
  meet := fun a b σ => a σ ∧ b σ
  widen := fun a b σ => a σ ∨ b σ
  narrow := fun a b σ => a σ ∧ b σ
  assume := fun c a σ => a σ ∧ c.holds σ
  forget := fun x a σ => ∃ v, a (upd σ x v)
  assign := fun x e a σ' => ∃ σ, a σ ∧ σ' = upd σ x (e.eval σ)
  apply := fun op x y z a σ' => ∃ σ v, a σ ∧ binSem op (σ y) (z.eval σ) = some v ∧ σ' = upd σ x v
  select := fun x c e1 e2 a σ' => ∃ σ, a σ ∧ σ' = upd σ x (if c.sat σ then e1.eval σ else e2.eval σ)
  bwdAssign := fun _ _ _ _ _ => True
  bwdApply := fun _ _ _ _ _ _ _ => True

theorem setDom_sound : BDomSound setDom (fun a σ => a σ) where
  top_sound := fun _ => trivial
  isBottom_sound := fun _ _ h => Bool.noConfusion h
  join_left := fun _ _ _ h => Or.inl h
  join_right := fun _ _ _ h => Or.inr h
  widen_left := fun _ _ _ h => Or.inl h
  widen_right := fun _ _ _ h => Or.inr h
  meet_sound := fun _ _ _ h1 h2 => ⟨h1, h2⟩
  narrow_sound := fun _ _ _ h1 h2 => ⟨h1, h2⟩
  leq_sound := fun _ _ _ h => Bool.noConfusion h
  assume_sound := fun _ _ _ h hc => ⟨h, hc⟩
  forget_sound := fun x _ σ _ h => ⟨σ x, by rw [upd_upd, upd_self]; exact h⟩
  assign_sound := fun _ _ _ σ h => ⟨σ, h, rfl⟩
  apply_sound := fun _ _ _ _ _ σ v h hv => ⟨σ, v, h, hv, rfl⟩
  select_sound := fun _ _ _ _ _ σ h => ⟨σ, h, rfl⟩
  bwdAssign_sound := fun _ _ _ _ _ _ _ => trivial
  bwdApply_sound := fun _ _ _ _ _ _ _ _ _ _ _ => trivial

def setRename : Var → Var → (State → Prop) → (State → Prop) :=
  fun y x a σ' => ∃ τ w, a τ ∧ σ' = upd (upd τ x (τ y)) y w

theorem setRename_sound : RenameSound (fun (a : State → Prop) σ => a σ) setRename :=
  fun _ _ _ τ w h => ⟨τ, w, h, rfl⟩

end Bwd
end Crab
