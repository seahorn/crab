import CrabProofs.Lemmas.FwdBwdDom
import CrabProofs.Lemmas.IRTrace
import CrabProofs.Lemmas.CheckerSound

/-!
  Semantic lemmas for the forward+backward discharge rule: executions as `Arrives` derivations
  (with the list of visited blocks), traces of the executable semantics are such derivations, an
  execution that visits `d` and later fails yields an error-reaching state at `d`, so nothing fails
  after a block dominated by one where no such state arrives (`dominated_safe`).  (The statement
  loop of the checker with a set of discharged assertions is in `CheckerSound.lean`.)
-/
namespace Crab
namespace Analysis
open Crab.IR

variable {A : Type}

theorem runStmts_fail_stmtsFail (b : Nat) : ∀ (ss : List Stmt) (i : Nat) (σ : State) (ch : List Int)
    (j : Nat) (σ' : State), Event.check b j σ' false ∈ (runStmts b i ss σ ch).events → StmtsFail ss σ
  | [], _, _, _, _, _, h => nomatch h
  | s :: ss, i, σ, ch, j, σ', h => by
    rcases runStmts_cons_mem b i s ss σ ch _ h with he | ⟨σ1, hs, ht⟩
    · left
      refine ⟨(if s.usesChoice then popChoice ch else (0, ch)).1, ?_⟩
      cases hs : stepStmt s σ (if s.usesChoice then popChoice ch else (0, ch)).1 with
      | fail => rfl
      | next _ => rw [hs] at he; cases he
      | stop => rw [hs] at he; cases he
      | undef => rw [hs] at he; cases he
    · exact Or.inr ⟨_, σ1, hs, runStmts_fail_stmtsFail b ss _ σ1 _ j σ' ht⟩

theorem BlockFails.stmts {p : Program} {b : Nat} {σ : State} (h : BlockFails p b σ) :
    StmtsFail (p.block b).stmts σ :=
  let ⟨ch, j, σ', he⟩ := h
  runStmts_fail_stmtsFail b _ 0 σ ch j σ' he

/-- the blocks visited by an execution form a path of the CFG from the entry block -/
theorem arrives_path (p : Program) (Init : State → Prop) (b : Nat) (σ : State) (l : List Nat)
    (h : Arrives p Init b σ l) : PathTo (progGraph p) b l := by
  induction h with
  | init σ _ => exact PathTo.entry
  | step b m σ σ' l _ _ hm ih => exact PathTo.step b m l ih hm

/-- an execution that visited block `d` and can still fail was, at `d`, in a state from which a
    failure is reachable -/
theorem arrives_through (p : Program) (Init : State → Prop) (m : Nat) (σ : State) (l : List Nat)
    (h : Arrives p Init m σ l) (d : Nat) (hd : d ∈ l) (hf : FailsFrom p m σ) :
    ∃ σd, ErrArr p Init d σd := by
  induction h with
  | init σ hi =>
    simp only [List.mem_singleton] at hd
    subst hd
    exact ⟨σ, ⟨_, Arrives.init σ hi⟩, hf⟩
  | step b m σ σ' l ha hs hm ih =>
    simp only [List.mem_cons] at hd
    rcases hd with hd | hd
    · subst hd
      exact ⟨σ', ⟨_, Arrives.step b d σ σ' l ha hs hm⟩, hf⟩
    · exact ih hd (FailsFrom.step b m σ σ' hs hm hf)

/-- no execution from `Init` that arrives at block `m` violates an assertion afterwards
    (in `m` or later) -/
def SafeBlock (p : Program) (Init : State → Prop) (m : Nat) : Prop :=
  ∀ σ l, Arrives p Init m σ l → ¬ FailsFrom p m σ

/-- no error-reaching state at `d`, and `d` on every path to `m`: nothing fails from `m` on -/
theorem dominated_safe {p : Program} {Init : State → Prop} {d m : Nat}
    (h : ∀ σ, ¬ ErrArr p Init d σ) (hd : Dominates (progGraph p) d m) : SafeBlock p Init m :=
  fun σ l ha hf =>
    let ⟨σd, he⟩ := arrives_through p Init m σ l ha d (hd l (arrives_path p Init m σ l ha)) hf
    h σd he

theorem Visits.arrives {p : Program} {Init : State → Prop} {b0 : Nat} {σ0 : State} {ch0 : List Int}
    {b : Nat} {σ : State} {ch : List Int} (h : Visits p b0 σ0 ch0 b σ ch) :
    ∀ l0, Arrives p Init b0 σ0 l0 → ∃ l, Arrives p Init b σ l := by
  induction h with
  | here => exact fun l0 h0 => ⟨l0, h0⟩
  | step hres hp _ ih =>
    exact fun l0 h0 => ih _ (Arrives.step _ _ _ _ l0 h0 ⟨_, hres⟩ (pickSucc_mem _ _ _ _ hp))

/-- every `enter` event of a trace started from an arrival is an arrival -/
theorem trace_arrives (p : Program) (Init : State → Prop) (fuel b0 : Nat) (σ0 : State)
    (ch : List Int) (l0 : List Nat) (h0 : Arrives p Init b0 σ0 l0) (b : Nat) (σ : State)
    (h : Event.enter b σ ∈ exec p fuel b0 σ0 ch) : ∃ l, Arrives p Init b σ l :=
  let ⟨_, hv⟩ := enter_mem_exec h
  Visits.arrives hv l0 h0

/-- a failed `check` event of a run: the run arrives at the block in a state from which the
    block fails -/
theorem run_fail_arrives (p : Program) (Init : State → Prop) (n : Nat) (σ0 : State) (ch : List Int)
    (h0 : Init σ0) (b j : Nat) (σ' : State)
    (hev : Event.check b j σ' false ∈ IR.run p n σ0 ch) :
    ∃ σ l, Arrives p Init b σ l ∧ BlockFails p b σ := by
  obtain ⟨σ, ch', hen, hc⟩ := exec_check_of_enter p n p.entry σ0 ch b j σ' false hev
  obtain ⟨l, hl⟩ := trace_arrives p Init n p.entry σ0 ch [p.entry] (Arrives.init σ0 h0) b σ hen
  exact ⟨σ, l, hl, ⟨ch', j, σ', hc⟩⟩

/-- with forward invariants that describe the error-reaching states, every error-reaching state
    is co-reachable from the error states along an execution consistent with the invariants -/
theorem errArr_coFail (p : Program) (Init : State → Prop) (γ : A → State → Prop) (F : Nat → A)
    (hF : ErrCover p Init γ F) (b : Nat) (σ : State) (h : ErrArr p Init b σ) :
    CoFail p (fun n s => γ (F n) s) b σ := by
  obtain ⟨⟨l, ha⟩, hf⟩ := h
  induction hf generalizing l with
  | here b σ hb => exact CoFail.fail b σ (hF b σ ⟨⟨l, ha⟩, FailsFrom.here b σ hb⟩) hb
  | step b m σ σ' hs hm hf ih =>
    exact CoFail.flow b m σ σ' (hF b σ ⟨⟨l, ha⟩, FailsFrom.step b m σ σ' hs hm hf⟩) hs hm
      (ih (m :: l) (Arrives.step b m σ σ' l ha hs hm))

theorem Visits.failsFrom {p : Program} {b0 : Nat} {σ0 : State} {ch0 : List Int}
    {b : Nat} {σ : State} {ch : List Int} (h : Visits p b0 σ0 ch0 b σ ch) (hf : FailsFrom p b σ) :
    FailsFrom p b0 σ0 := by
  induction h with
  | here => exact hf
  | step hres hp _ ih => exact FailsFrom.step _ _ _ _ ⟨_, hres⟩ (pickSucc_mem _ _ _ _ hp) (ih hf)

/-- a failed `check` event in a trace started at `(b0, σ0)`: a failure is reachable from there -/
theorem exec_fail_failsFrom (p : Program) (fuel b0 : Nat) (σ0 : State) (ch : List Int) (b j : Nat)
    (σ' : State) (h : Event.check b j σ' false ∈ exec p fuel b0 σ0 ch) : FailsFrom p b0 σ0 :=
  let ⟨σ, ch', hv, _, hc⟩ := check_mem_exec h
  Visits.failsFrom hv (FailsFrom.here b σ ⟨ch', j, σ', hc⟩)

end Analysis
end Crab
