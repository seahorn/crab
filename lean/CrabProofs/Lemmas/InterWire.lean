import CrabModel.Inter.TopDown

/-!
  The parameter wiring of the inter-procedural transformers on total states: positional pairing
  (`AllPairs`, read by index), the sequential loops `unifySeq`, `assignSeq`, `seqAssign`, `wireInputs`,
  `extend` = `get_caller_continuation`, and the bottom-up summary instantiation (`instantiate` =
  `reuse_summary`) with its association between formal parameters and internal (fresh) names.
-/
namespace Crab.Inter

theorem St.upd_same (σ : St) (x : Var) (v : Int) : (σ.upd x v) x = v := by
  simp [St.upd]

theorem St.upd_other (σ : St) {x y : Var} (v : Int) (h : y ≠ x) : (σ.upd x v) y = σ y := by
  simp [St.upd, h]

theorem St.upd_self (σ : St) (x : Var) : σ.upd x (σ x) = σ := by
  funext y
  by_cases h : y = x
  · subst h; simp [St.upd]
  · simp [St.upd, h]

theorem mem_getD_index {l : List Var} {x : Var} (h : x ∈ l) : ∃ k, k < l.length ∧ l.getD k 0 = x := by
  obtain ⟨k, hk, he⟩ := List.mem_iff_getElem.mp h
  exact ⟨k, hk, by simp [List.getD, List.getElem?_eq_getElem hk, he]⟩

theorem getD_mem_list {l : List Var} {k : Nat} (hk : k < l.length) : l.getD k 0 ∈ l := by
  simp [List.getD, List.getElem?_eq_getElem hk]

/-- a predicate on two lists defined by recursion on both (true when either is empty) says `R` of the
    elements at every common position; `a`, `b` are the defaults of `getD` -/
theorem pairs_iff {α β : Type} {R : α → β → Prop} (Q : List α → List β → Prop) (a : α) (b : β)
    (hl : ∀ ys, Q [] ys) (hr : ∀ xs, Q xs []) (hc : ∀ x xs y ys, Q (x :: xs) (y :: ys) ↔ R x y ∧ Q xs ys) :
    ∀ xs ys, Q xs ys ↔ ∀ i, i < xs.length → i < ys.length → R (xs.getD i a) (ys.getD i b)
  | [], ys => ⟨fun _ i h => absurd h (Nat.not_lt_zero i), fun _ => hl ys⟩
  | xs, [] => ⟨fun _ i _ h => absurd h (Nat.not_lt_zero i), fun _ => hr xs⟩
  | x :: xs, y :: ys => by
    rw [hc, pairs_iff Q a b hl hr hc xs ys]
    exact ⟨fun h i h1 h2 => match i with
        | 0 => h.1
        | i + 1 => h.2 i (Nat.lt_of_succ_lt_succ h1) (Nat.lt_of_succ_lt_succ h2),
      fun h => ⟨h 0 (Nat.zero_lt_succ _) (Nat.zero_lt_succ _),
        fun i h1 h2 => h (i + 1) (Nat.succ_lt_succ h1) (Nat.succ_lt_succ h2)⟩⟩

theorem allPairs_iff {P : Var → Var → Prop} {xs ys : List Var} :
    AllPairs P xs ys ↔ ∀ i, i < xs.length → i < ys.length → P (xs.getD i 0) (ys.getD i 0) :=
  pairs_iff (AllPairs P) 0 0 (fun ys => by cases ys <;> trivial) (fun xs => by cases xs <;> trivial)
    (fun _ _ _ _ => Iff.rfl) xs ys

theorem AllPairs.imp_mem {P Q : Var → Var → Prop} {xs ys : List Var} (h : AllPairs P xs ys)
    (himp : ∀ x y, x ∈ xs → y ∈ ys → P x y → Q x y) : AllPairs Q xs ys :=
  allPairs_iff.mpr fun i h1 h2 => himp _ _ (getD_mem_list h1) (getD_mem_list h2) (allPairs_iff.mp h i h1 h2)

theorem AllPairs.exists_of_mem {P : Var → Var → Prop} {xs ys : List Var} (h : AllPairs P xs ys)
    (hl : xs.length ≤ ys.length) (x : Var) (hx : x ∈ xs) : ∃ y, y ∈ ys ∧ P x y := by
  obtain ⟨i, hi, rfl⟩ := mem_getD_index hx
  exact ⟨_, getD_mem_list (Nat.lt_of_lt_of_le hi hl), allPairs_iff.mp h i hi (Nat.lt_of_lt_of_le hi hl)⟩

theorem AllPairs.exists_of_mem_right {P : Var → Var → Prop} :
    ∀ {xs ys : List Var}, AllPairs P xs ys → ys.length ≤ xs.length → ∀ y, y ∈ ys → ∃ x, x ∈ xs ∧ P x y := by
  intro xs ys h hl y hy
  obtain ⟨i, hi, rfl⟩ := mem_getD_index hy
  exact ⟨_, getD_mem_list (Nat.lt_of_lt_of_le hi hl), allPairs_iff.mp h i (Nat.lt_of_lt_of_le hi hl) hi⟩

theorem AllPairs.and {P Q : Var → Var → Prop} {xs ys : List Var} (h1 : AllPairs P xs ys) (h2 : AllPairs Q xs ys) :
    AllPairs (fun x y => P x y ∧ Q x y) xs ys :=
  allPairs_iff.mpr fun i a b => ⟨allPairs_iff.mp h1 i a b, allPairs_iff.mp h2 i a b⟩

theorem AllPairs.append {P : Var → Var → Prop} :
    ∀ {a c b d : List Var}, a.length = c.length → AllPairs P a c → AllPairs P b d → AllPairs P (a ++ b) (c ++ d)
  | [], [], _, _, _, _, h => by simpa using h
  | [], _ :: _, _, _, hl, _, _ => by simp at hl
  | _ :: _, [], _, _, hl, _, _ => by simp at hl
  | x :: a, y :: c, b, d, hl, h1, h2 => by
    have hl' : a.length = c.length := by simpa using hl
    exact ⟨h1.1, AllPairs.append hl' h1.2 h2⟩

theorem AllPairs.of_append_left {P : Var → Var → Prop} :
    ∀ {a c b d : List Var}, a.length = c.length → AllPairs P (a ++ b) (c ++ d) → AllPairs P a c
  | [], [], _, _, _, _ => trivial
  | [], _ :: _, _, _, hl, _ => by simp at hl
  | _ :: _, [], _, _, hl, _ => by simp at hl
  | x :: a, y :: c, b, d, hl, h => by
    have hl' : a.length = c.length := by simpa using hl
    exact ⟨h.1, AllPairs.of_append_left hl' h.2⟩

theorem AllPairs.of_append_right {P : Var → Var → Prop} :
    ∀ {a c b d : List Var}, a.length = c.length → AllPairs P (a ++ b) (c ++ d) → AllPairs P b d
  | [], [], _, _, _, h => by simpa using h
  | [], _ :: _, _, _, hl, _ => by simp at hl
  | _ :: _, [], _, _, hl, _ => by simp at hl
  | x :: a, y :: c, b, d, hl, h => by
    have hl' : a.length = c.length := by simpa using hl
    exact AllPairs.of_append_right hl' h.2

theorem unifySeq_sound (D : AbsDom) :
    ∀ (xs ys : List Var) (d : D.A) (σ : St), D.γ d σ → D.γ (unifySeq D d xs ys) (seqAssign σ xs ys)
  | [], _, d, σ, h => by cases ‹List Var› <;> simpa [unifySeq, seqAssign] using h
  | _ :: _, [], d, σ, h => by simpa [unifySeq, seqAssign] using h
  | x :: xs, y :: ys, d, σ, h => by
    simp only [unifySeq, seqAssign]
    apply unifySeq_sound D xs ys
    by_cases hxy : x = y
    · subst hxy; simpa [St.upd_self] using h
    · simpa [hxy] using D.assign_sound x y h

theorem assignSeq_sound (D : AbsDom) :
    ∀ (xs ys : List Var) (d : D.A) (σ : St), D.γ d σ → D.γ (assignSeq D d xs ys) (seqAssign σ xs ys)
  | [], _, d, σ, h => by cases ‹List Var› <;> simpa [assignSeq, seqAssign] using h
  | _ :: _, [], d, σ, h => by simpa [assignSeq, seqAssign] using h
  | x :: xs, y :: ys, d, σ, h => by
    simp only [assignSeq, seqAssign]
    exact assignSeq_sound D xs ys _ _ (D.assign_sound x y h)

theorem seqAssign_other : ∀ (xs ys : List Var) (σ : St) (v : Var), v ∉ xs → seqAssign σ xs ys v = σ v
  | [], _, σ, v, _ => by cases ‹List Var› <;> rfl
  | _ :: _, [], σ, v, _ => rfl
  | x :: xs, y :: ys, σ, v, h => by
    simp only [seqAssign]
    have hv : v ≠ x := fun e => h (e ▸ List.mem_cons_self ..)
    have hv' : v ∉ xs := fun e => h (List.mem_cons_of_mem _ e)
    rw [seqAssign_other xs ys _ v hv', St.upd_other _ _ hv]

theorem seqAssign_pairs :
    ∀ (xs ys : List Var) (σ : St), xs.Nodup → SeqOK xs ys →
      AllPairs (fun x y => seqAssign σ xs ys x = σ y) xs ys
  | [], _, σ, _, _ => by cases ‹List Var› <;> trivial
  | _ :: _, [], σ, _, _ => trivial
  | x :: xs, y :: ys, σ, hnd, hok => by
    have hx : x ∉ xs := (List.nodup_cons.mp hnd).1
    have hnd' : xs.Nodup := (List.nodup_cons.mp hnd).2
    refine ⟨?_, ?_⟩
    · simp only [seqAssign]
      rw [seqAssign_other xs ys _ x hx, St.upd_same]
    · simp only [seqAssign]
      have ih := seqAssign_pairs xs ys (σ.upd x (σ y)) hnd' hok.2
      refine AllPairs.imp_mem ih ?_
      intro x' y' _ hy' hp
      rw [hp]
      rcases hok.1 with rfl | hnot
      · rw [St.upd_self]
      · exact St.upd_other _ _ (fun e => hnot (e ▸ hy'))

/-- under `SeqOK` the sequential wiring `ins := args` gives the formals the values of the actuals -/
theorem seqAssign_of_pairs {ins args : List Var} {σ τ : St} (hnd : ins.Nodup) (hok : SeqOK ins args)
    (hlen : ins.length ≤ args.length) (hτ : AllPairs (fun f a => τ f = σ a) ins args) (v : Var) (hv : v ∈ ins) :
    τ v = seqAssign σ ins args v := by
  obtain ⟨a, _, h1, h2⟩ := AllPairs.exists_of_mem ((seqAssign_pairs ins args σ hnd hok).and hτ) hlen v hv
  rw [h1, h2]

/-- `get_callee_entry`: `callee` is the value the callee's entry is met with (`top` in the code); it must
    not exclude the caller's state after the wiring -/
theorem restrict_sound (D : AbsDom) (ins args : List Var) (caller callee : D.A) (σ τ : St)
    (hσ : D.γ caller σ) (hc : D.γ callee (seqAssign σ ins args))
    (hnd : ins.Nodup) (hok : SeqOK ins args) (hlen : ins.length ≤ args.length)
    (hτ : AllPairs (fun f a => τ f = σ a) ins args) :
    D.γ (restrict D ins args caller callee) τ := by
  unfold restrict
  by_cases hb : D.isBot caller = true
  · exact absurd hσ (D.isBot_sound hb)
  · simp only [hb]
    exact D.project_sound ins (D.meet_sound hc (unifySeq_sound D ins args caller σ hσ))
      (seqAssign_of_pairs hnd hok hlen hτ)

theorem SeqOK.of_disjoint : ∀ (xs ys : List Var), (∀ x, x ∈ xs → x ∉ ys) → SeqOK xs ys
  | [], _, _ => by cases ‹List Var› <;> trivial
  | _ :: _, [], _ => trivial
  | x :: xs, y :: ys, h =>
    ⟨Or.inr (fun hy => h x (List.mem_cons_self ..) (List.mem_cons_of_mem _ hy)),
     SeqOK.of_disjoint xs ys (fun x' hx' hy' => h x' (List.mem_cons_of_mem _ hx') (List.mem_cons_of_mem _ hy'))⟩

/-- targets of `wireInputsSt` are arguments that are not lhs; sources are formals that are not
    arguments, so no write is read by a later step: a changed variable is the actual at some position `i`
    and holds the old value of the formal at `i` -/
theorem wireInputsSt_spec (allArgs lhs : List Var) :
    ∀ (fs as : List Var) (ρ : St), (∀ a, a ∈ as → a ∈ allArgs) →
      ∀ v, wireInputsSt allArgs lhs ρ fs as v = ρ v ∨
           ∃ i, i < fs.length ∧ i < as.length ∧ v = as.getD i 0 ∧ fs.getD i 0 ∉ allArgs ∧ v ∉ lhs ∧
                  wireInputsSt allArgs lhs ρ fs as v = ρ (fs.getD i 0)
  | [], _, ρ, _, v => by cases ‹List Var› <;> exact Or.inl rfl
  | _ :: _, [], ρ, _, v => Or.inl rfl
  | f0 :: fs, a0 :: as, ρ, hsub, v => by
    have hsub' : ∀ a, a ∈ as → a ∈ allArgs := fun a ha => hsub a (List.mem_cons_of_mem _ ha)
    -- a position of the tails is the next position of the lists
    have shift : ∀ {ρ' : St} {x : Int}, (∃ i, i < fs.length ∧ i < as.length ∧ v = as.getD i 0 ∧
        fs.getD i 0 ∉ allArgs ∧ v ∉ lhs ∧ x = ρ' (fs.getD i 0)) →
        ∃ i, i < (f0 :: fs).length ∧ i < (a0 :: as).length ∧ v = (a0 :: as).getD i 0 ∧
          (f0 :: fs).getD i 0 ∉ allArgs ∧ v ∉ lhs ∧ x = ρ' ((f0 :: fs).getD i 0) :=
      fun ⟨i, h1, h2, h3⟩ => ⟨i + 1, Nat.succ_lt_succ h1, Nat.succ_lt_succ h2, h3⟩
    simp only [wireInputsSt]
    by_cases hf : f0 ∈ allArgs
    · simp only [hf, if_true]
      exact (wireInputsSt_spec allArgs lhs fs as ρ hsub' v).imp id shift
    · simp only [hf, if_false]
      by_cases ha : a0 ∈ lhs
      · simp only [ha, if_true]
        exact (wireInputsSt_spec allArgs lhs fs as ρ hsub' v).imp id shift
      · simp only [ha, if_false]
        have ha0 : a0 ∈ allArgs := hsub a0 (List.mem_cons_self ..)
        rcases wireInputsSt_spec allArgs lhs fs as (ρ.upd a0 (ρ f0)) hsub' v with h | ⟨i, h1, h2, hv, hfi, hvl, h3⟩
        · by_cases hva : v = a0
          · refine Or.inr ⟨0, Nat.zero_lt_succ _, Nat.zero_lt_succ _, hva, hf, hva ▸ ha, ?_⟩
            rw [h, hva, St.upd_same]; rfl
          · exact Or.inl (by rw [h, St.upd_other _ _ hva])
        · refine Or.inr (shift ⟨i, h1, h2, hv, hfi, hvl, ?_⟩)
          rw [h3]
          exact St.upd_other _ _ (fun e => hfi (e ▸ ha0))

theorem wireInputs_sound (D : AbsDom) (allArgs lhs : List Var) :
    ∀ (fs as : List Var) (s : D.A) (ρ : St), D.γ s ρ →
      D.γ (wireInputs D allArgs lhs s fs as) (wireInputsSt allArgs lhs ρ fs as)
  | [], _, s, ρ, h => by cases ‹List Var› <;> simpa [wireInputs, wireInputsSt] using h
  | _ :: _, [], s, ρ, h => by simpa [wireInputs, wireInputsSt] using h
  | f :: fs, a :: as, s, ρ, h => by
    simp only [wireInputs, wireInputsSt]
    apply wireInputs_sound D allArgs lhs fs as
    by_cases hf : f ∈ allArgs
    · simpa [hf] using h
    · by_cases ha : a ∈ lhs
      · simpa [hf, ha] using h
      · simpa [hf, ha] using D.assign_sound a f h

/-- `get_caller_continuation` on total states: `σ` caller state at the call, `ρ` gives the formals the
    values at the callee's exit, `σ'` = `σ` with `lhs := outputs`; the summary describes the state that
    agrees with `ρ` on the formals and with `σ'` elsewhere (a stored post summary, or the projection of
    the callee's exit value: `C09.call_sound`) -/
theorem extend_sound (D : AbsDom) (ins outs lhs args : List Var) (caller sumOut : D.A) (σ ρ σ' : St)
    (hok : CallOK ins outs lhs args) (hσ : D.γ caller σ)
    (hρ' : D.γ sumOut (fun v => if v ∈ ins ++ outs then ρ v else σ' v))
    (hin : AllPairs (fun f a => ρ f = σ a) ins args)
    (hout : AllPairs (fun l o => σ' l = ρ o) lhs outs)
    (hfr : ∀ v, v ∉ lhs → σ' v = σ v) :
    D.γ (extend D ins outs lhs args caller sumOut) σ' := by
  obtain ⟨hl1, hl2, hnd, hseq, hpos, hlhs⟩ := hok
  let ρ' : St := fun v => if v ∈ ins ++ outs then ρ v else σ' v
  unfold extend
  by_cases hb1 : D.isBot caller = true
  · exact absurd hσ (D.isBot_sound hb1)
  by_cases hb2 : D.isBot sumOut = true
  · exact absurd hρ' (D.isBot_sound hb2)
  simp only [hb1, hb2]
  apply D.meet_sound
  · exact D.forget_sound lhs hσ (fun v hv => hfr v hv)
  · have h2 := wireInputs_sound D args lhs ins args _ _ (unifySeq_sound D lhs outs _ _ hρ')
    apply D.forget_sound _ h2
    intro v hv
    rcases wireInputsSt_spec args lhs ins args (seqAssign ρ' lhs outs) (fun a ha => ha) v with
      h | ⟨i, hi1, hi2, hva, hfa, hal, h⟩
    · rw [h]
      by_cases hvl : v ∈ lhs
      · refine seqAssign_of_pairs hnd hseq (Nat.le_of_eq hl2) (hout.imp_mem fun l o _ ho h => ?_) v hvl
        simp only [ρ', List.mem_append, ho, or_true, if_true]; exact h
      · rw [seqAssign_other lhs outs ρ' v hvl]
        by_cases hio : v ∈ ins ++ outs
        · have hk : v ∈ ins ∧ v ∈ args := by
            have hc : (List.filter (fun f => decide (f ∈ args)) ins ++ lhs).contains v = true := by
              cases hcv : (List.filter (fun f => decide (f ∈ args)) ins ++ lhs).contains v with
              | true => rfl
              | false =>
                exfalso; apply hv
                simp only [calleeLocals, List.mem_filter, hcv, Bool.not_false, and_true]
                exact hio
            rcases List.mem_append.mp (List.contains_iff_mem.mp hc) with h | h
            · have := List.mem_filter.mp h
              exact ⟨this.1, of_decide_eq_true this.2⟩
            · exact absurd h hvl
          obtain ⟨a, _, hq1, hq2⟩ := AllPairs.exists_of_mem (hpos.and hin) (Nat.le_of_eq hl1) v hk.1
          have hav : a = v := hq1 hk.2
          have : ρ' v = ρ v := by simp only [ρ', hio, if_true]
          rw [this, hq2, hav, hfr v hvl]
        · simp only [ρ', hio, if_false]
    · rw [h]
      have hfi : ins.getD i 0 ∈ ins := getD_mem_list hi1
      have hfl : ins.getD i 0 ∉ lhs := fun e => hfa (hlhs _ hfi e)
      rw [seqAssign_other lhs outs ρ' _ hfl]
      have hmem : ins.getD i 0 ∈ ins ++ outs := List.mem_append.mpr (Or.inl hfi)
      have : ρ' (ins.getD i 0) = ρ (ins.getD i 0) := by simp only [ρ', hmem, if_true]
      rw [this, allPairs_iff.mp hin i hi1 hi2, ← hva, hfr v hal]

/-- the old name of the new name `v` (`ks` new names, `xs` old names); identity elsewhere -/
def assocLookup : List Var → List Var → Var → Var
  | k :: ks, x :: xs, v => if v = k then x else assocLookup ks xs v
  | _, _, v => v

theorem assocLookup_pairs : ∀ (xs ks : List Var), ks.Nodup →
    AllPairs (fun x k => assocLookup ks xs k = x) xs ks
  | [], _, _ => by cases ‹List Var› <;> trivial
  | _ :: _, [], _ => trivial
  | x :: xs, k :: ks, hnd => by
    have hk : k ∉ ks := (List.nodup_cons.mp hnd).1
    refine ⟨by simp [assocLookup], ?_⟩
    refine AllPairs.imp_mem (assocLookup_pairs xs ks (List.nodup_cons.mp hnd).2) ?_
    intro x' k' _ hk' hp
    have : k' ≠ k := fun e => hk (e ▸ hk')
    simp [assocLookup, this, hp]

/-- Renaming lemma of the bottom-up instantiation (`C10.summary_instantiate_sound`), in the form the
    frame concretisation gives its hypotheses: *every* state that agrees with `σ` outside the internal
    names is in the caller's value, every state that agrees with `ρ` on the formals is in the summary. -/
theorem instantiate_sound_univ (D : AbsDom) (hren : D.RenameSound)
    (ins outs rin rout lhs args : List Var) (caller sum : D.A) (σ ρ σ' : St)
    (hl_in : ins.length = rin.length) (hl_out : outs.length = rout.length)
    (hl_args : rin.length = args.length) (hl_lhs : lhs.length = rout.length)
    (hnd : (rin ++ rout).Nodup) (hlhs : lhs.Nodup)
    (hfresh : ∀ v, v ∈ rin ++ rout → v ∉ args ∧ v ∉ lhs ∧ v ∉ ins ++ outs)
    (hσ : ∀ σ2, (∀ v, v ∉ rin ++ rout → σ2 v = σ v) → D.γ caller σ2)
    (hρ : ∀ ρ2, (∀ v, v ∈ ins ++ outs → ρ2 v = ρ v) → D.γ sum ρ2)
    (hin : AllPairs (fun f a => ρ f = σ a) ins args)
    (hout : AllPairs (fun l o => σ' l = ρ o) lhs outs)
    (hfr : ∀ v, v ∉ lhs → σ' v = σ v) :
    D.γ (instantiate D ins outs rin rout lhs args caller sum) σ' := by
  let old : Var → Var := assocLookup (rin ++ rout) (ins ++ outs)
  let σ2 : St := fun v => if v ∈ rin ++ rout then ρ (old v) else σ v
  have hpairs : AllPairs (fun x k => old k = x) (ins ++ outs) (rin ++ rout) := assocLookup_pairs _ _ hnd
  have hp_in : AllPairs (fun x k => old k = x) ins rin := AllPairs.of_append_left hl_in hpairs
  have hp_out : AllPairs (fun x k => old k = x) outs rout := AllPairs.of_append_right hl_in hpairs
  have hrin_nd : rin.Nodup := (List.nodup_append.mp hnd).1
  let σh : St := fun v => if v ∈ rout then σ2 v else σ v
  have hσh : D.γ caller σh := hσ σh (by
    intro v hv
    have : v ∉ rout := fun e => hv (List.mem_append.mpr (Or.inr e))
    simp only [σh, this, if_false])
  have hseq : SeqOK rin args :=
    SeqOK.of_disjoint rin args (fun x hx => (hfresh x (List.mem_append.mpr (Or.inl hx))).1)
  have heq : seqAssign σh rin args = σ2 := by
    funext v
    by_cases hv : v ∈ rin
    · refine (seqAssign_of_pairs hrin_nd hseq (Nat.le_of_eq hl_args) (allPairs_iff.mpr fun i h1 h2 => ?_) v hv).symm
      have hi : i < ins.length := hl_in ▸ h1
      have hr' : args.getD i 0 ∉ rout := fun e =>
        (hfresh _ (List.mem_append.mpr (Or.inr e))).1 (getD_mem_list h2)
      show σ2 (rin.getD i 0) = σh (args.getD i 0)
      simp only [σh, hr', if_false, σ2, List.mem_append, getD_mem_list h1, true_or, if_true]
      rw [allPairs_iff.mp hp_in i hi h1, allPairs_iff.mp hin i hi h2]
    · rw [seqAssign_other rin args σh v hv]
      by_cases hvo : v ∈ rout
      · simp only [σh, hvo, if_true]
      · have : v ∉ rin ++ rout := fun e => (List.mem_append.mp e).elim hv hvo
        simp only [σh, hvo, if_false, σ2, this]
  have h1 : D.γ (unifySeq D caller rin args) σ2 := by
    have := unifySeq_sound D rin args caller σh hσh
    rwa [heq] at this
  let ρ2 : St := fun v => if v ∈ ins ++ outs then ρ v else σ2 v
  have hρ2 : D.γ sum ρ2 := hρ ρ2 (by intro v hv; simp only [ρ2, hv, if_true])
  have hrs : D.γ (D.rename sum (ins ++ outs) (rin ++ rout)) σ2 := by
    apply hren sum ρ2 σ2 _ _ hρ2
    · refine AllPairs.imp_mem hpairs ?_
      intro x y hx hy hp
      show σ2 y = ρ2 x
      simp only [σ2, ρ2, hx, hy, if_true]
      rw [hp]
    · intro v hv1 _
      show σ2 v = ρ2 v
      simp only [ρ2, hv1, if_false]
  have hseq2 : SeqOK lhs rout :=
    SeqOK.of_disjoint lhs rout (fun x hx hr => (hfresh x (List.mem_append.mpr (Or.inr hr))).2.1 hx)
  have h3 := assignSeq_sound D lhs rout _ σ2 (D.meet_sound h1 hrs)
  unfold instantiate
  apply D.forget_sound _ h3
  intro v hv
  have hvf : v ∉ rin ++ rout := by
    intro hm
    apply hv
    have hfr' := hfresh v hm
    have hc : (args ++ lhs).contains v = false := by
      cases hcv : (args ++ lhs).contains v with
      | false => rfl
      | true =>
        exfalso
        rcases List.mem_append.mp (List.contains_iff_mem.mp hcv) with h | h
        · exact hfr'.1 h
        · exact hfr'.2.1 h
    simp only [List.mem_filter, hm, hc, Bool.not_false, and_self]
  by_cases hvl : v ∈ lhs
  · refine seqAssign_of_pairs hlhs hseq2 (Nat.le_of_eq hl_lhs) (allPairs_iff.mpr fun i h1 h2 => ?_) v hvl
    have ho : i < outs.length := hl_out ▸ h2
    show σ' (lhs.getD i 0) = σ2 (rout.getD i 0)
    simp only [σ2, List.mem_append, getD_mem_list h2, or_true, if_true]
    rw [allPairs_iff.mp hp_out i ho h2, allPairs_iff.mp hout i h1 ho]
  · rw [seqAssign_other lhs rout σ2 v hvl]
    simp only [σ2, hvf, if_false]
    exact hfr v hvl

end Crab.Inter
